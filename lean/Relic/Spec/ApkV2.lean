/-
  Relic.Spec.ApkV2 — APK Signature Scheme v2, "Integrity-protected contents", written from the specification:
  section 1 (contents of ZIP entries), section 3 (central directory) and section 4 (end of central directory) are
  each split into consecutive 1 MiB chunks (the last chunk of a section may be shorter; an empty section has no
  chunk); chunk digest = H(0xa5 ‖ uint32le(len) ‖ chunk); top-level digest =
  H(0x5a ‖ uint32le(number of chunks) ‖ chunk digests in order of sections 1, 3, 4).
-/
import Relic.Base.Bytes
namespace Relic.Spec.ApkV2
open Relic

/-- split into consecutive chunks of `n` (the fuel `l.length` always suffices: at most that many chunks) -/
def split (n : Nat) : Nat → Bytes → List Bytes
  | 0, _ => []
  | fuel + 1, l => if n = 0 ∨ l = [] then [] else l.take n :: split n fuel (l.drop n)

def chunkList (n : Nat) (contents cdir eocd : Bytes) : List Bytes :=
  split n contents.length contents ++ split n cdir.length cdir ++ split n eocd.length eocd

def digest (H : Bytes → Bytes) (n : Nat) (contents cdir eocd : Bytes) : Bytes :=
  let cs := chunkList n contents cdir eocd
  H (0x5a :: leBytes 4 cs.length ++ (cs.map fun c => H (0xa5 :: leBytes 4 c.length ++ c)).flatten)

end Relic.Spec.ApkV2
