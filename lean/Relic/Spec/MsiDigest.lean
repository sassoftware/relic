/-
  Relic.Spec.MsiDigest — the MSI Authenticode digest input written from the public descriptions,
  independently of relic's code.  Microsoft does not publish the algorithm of msisip.dll; the
  reference everybody (wine's test-suite, relic, jsign) follows is **osslsigncode** (`msi.c`), whose
  signatures Windows accepts.  Source followed here: osslsigncode 2.x `msi.c`

    static int dirent_cmp_hash(const MSI_ENTRY *const *a, const MSI_ENTRY *const *b) {
        int diff = memcmp(dirent_a->name, dirent_b->name, MIN(dirent_a->nameLen, dirent_b->nameLen));
        /* apparently the longer wins */
        if (diff == 0) return dirent_a->nameLen > dirent_b->nameLen ? -1 : 1;
        return diff; }

  (`name` = the raw 64-byte UTF-16LE field, `nameLen` = its byte count *including* the terminator),
  `msi_hash_dir(msi, dirent, hash, is_root)` (children sorted with it; the entries named
  "\005DigitalSignature" and "\005MsiDigitalSignatureEx" are skipped `if (is_root && …)`, i.e. in the
  root storage only – transcribed from memory of the 2.x source, the sandbox is offline; a stream's
  whole content is hashed; a sub-storage is hashed recursively; after the children the storage's
  16-byte CLSID) and `msi_prehash_dir` (MsiDigitalSignatureEx: per entry, the
  name bytes without terminator (not for the root), the CLSID for storages / the 4-byte size for
  streams, the 4 state-bits bytes, creation and modification time (not for the root); the storage's own
  metadata first, then the children in the same sorted order).
  For well-formed names (terminated, no embedded NUL, pairwise distinct) `dirent_cmp_hash` is the
  order of osslsigncode 1.x `msi_cmp` / libgsf: compare the UTF-16LE *bytes* of the names without
  terminator up to the shorter length, a proper prefix first (`specBefore_eq_key` in
  `Relic.Proofs.MsiDigest`): the memcmp reaches the shorter name's terminator before the tie-break.

  Shares with `Relic.Model.MsiDigest` only the data types `Meta` / `Node` and the two name constants.
-/
import Relic.Model.MsiDigest
namespace Relic.Spec.MsiDigest
open Relic Relic.MsiDigest

/-- the raw name field as bytes (UTF-16LE) -/
def nameField (m : Meta) : List Nat := m.slots.flatMap (fun u => [u % 256, u / 256])

/-- `memcmp(a, b, n)` -/
def memcmp : List Nat → List Nat → Nat → Ordering
  | _, _, 0 => .eq
  | x :: xs, y :: ys, n + 1 => if x < y then .lt else if y < x then .gt else memcmp xs ys n
  | _, _, _ + 1 => .eq

/-- `dirent_cmp_hash(a, b) < 0` -/
def specBefore (a b : Meta) : Bool :=
  match memcmp (nameField a) (nameField b) (min a.nameLen b.nameLen) with
  | .lt => true
  | .gt => false
  | .eq => decide (a.nameLen > b.nameLen)

/-- the name as the specification reads it: the code units before the terminator -/
def specName (m : Meta) : List Nat := m.slots.take (m.nameLen / 2 - 1)

def isSignatureStream (m : Meta) : Bool := specName m = sigName || specName m = sigExName

/-- sorted insertion / the digest order of a list of entries, each carrying its contribution -/
def insertSorted {β : Type} (x : Meta × β) : List (Meta × β) → List (Meta × β)
  | [] => [x]
  | y :: r => if specBefore x.1 y.1 then x :: y :: r else y :: insertSorted x r

def digestOrder {β : Type} (l : List (Meta × β)) : List (Meta × β) := l.foldr insertSorted []

/-- hash input of a storage, given the hash inputs of its children -/
def dirInput (isRoot : Bool) (clsid : Bytes) (kids : List (Meta × Bytes)) : Bytes :=
  ((digestOrder kids).filter (fun k => !(isRoot && isSignatureStream k.1))).flatMap (·.2) ++ clsid

mutual
def entryInput : Node → Meta × Bytes
  | .mk m content kids =>
    (m, if m.typ = 2 then content else if m.typ = 1 then dirInput false m.clsid (entriesInput kids) else [])
def entriesInput : List Node → List (Meta × Bytes)
  | [] => []
  | n :: r => entryInput n :: entriesInput r
end

/-- the byte stream whose hash is the MSI Authenticode imprint (without the extended pre-hash) -/
def hashInput (root : Node) : Bytes := dirInput true root.meta.clsid (entriesInput root.kids)

/-- metadata of one entry as hashed for MsiDigitalSignatureEx -/
def metaInput (m : Meta) (isRoot : Bool) : Bytes :=
  (if isRoot then [] else ((nameField m).take (m.nameLen - 2)).map UInt8.ofNat) ++
  (if m.typ = 2 then leBytes 4 m.size else m.clsid) ++
  leBytes 4 m.state ++
  (if isRoot then [] else leBytes 8 m.ctime ++ leBytes 8 m.mtime)

def dirMetaInput (m : Meta) (isRoot : Bool) (kids : List (Meta × Bytes)) : Bytes :=
  metaInput m isRoot ++ ((digestOrder kids).filter (fun k => !(isRoot && isSignatureStream k.1))).flatMap (·.2)

mutual
def entryMeta : Node → Meta × Bytes
  | .mk m _ kids =>
    (m, if m.typ = 2 then metaInput m false else if m.typ = 1 then dirMetaInput m false (entriesMeta kids) else [])
def entriesMeta : List Node → List (Meta × Bytes)
  | [] => []
  | n :: r => entryMeta n :: entriesMeta r
end

/-- the byte stream whose hash is the MsiDigitalSignatureEx blob -/
def prehashInput (root : Node) : Bytes := dirMetaInput root.meta true (entriesMeta root.kids)

/-- the complete hash input: for the extended form the pre-hash *digest* comes first -/
def digestInput (H : Bytes → Bytes) (root : Node) (extended : Bool) : Bytes :=
  (if extended then H (prehashInput root) else []) ++ hashInput root

end Relic.Spec.MsiDigest
