/-
  Relic.Spec.ExcC14N — Exclusive XML Canonicalization 1.0 (W3C REC 2002-07-18), without comments, empty
  InclusiveNamespaces PrefixList, applied to the complete subtree below an apex element; transcribed from the
  W3C text onto the tree type of `Relic.Model.Xml` with namespace prefixes resolved against the
  declarations in scope (`ctx` = attribute lists of the apex's ancestors, nearest first).

  * a namespace declaration is rendered on an element iff its prefix is *visibly utilised* there (by the
    element's own name, or by one of its attributes; an unprefixed attribute utilises nothing) and the nearest
    output ancestor that rendered this prefix did not render the same URI (exc-c14n section 3, rules 1-4);
    `xmlns=""` is rendered only to undo a non-empty default namespace of an output ancestor;
    the `xml` prefix is never declared;
  * namespace declarations come first (default first, then by prefix), then the attributes sorted by
    (namespace URI, local name), unqualified attributes first (Canonical XML 1.0 section 4.3 "document order");
  * text: `& < > #xD` escaped; attribute values: `& < " #x9 #xA #xD` escaped; CDATA sections are replaced by
    their character content; comments are dropped; processing instructions are *kept* (Canonical XML 2.3).

  Also: the executable classifier `devs` naming the trigger conditions under which relic's canonicaliser
  is known (or suspected) to deviate; `devs = []` is the class `agree` below, which `Props.C19` speaks of.
  Core Lean only (linked into the native driver).
-/
import Relic.Model.Xml
namespace Relic.ExcC14N
open Relic Relic.Xml

/-- prefix ↦ URI, most recent binding first -/
abbrev NsMap := List (Bytes × Bytes)

def lookup (m : NsMap) (p : Bytes) : Option Bytes :=
  match m with
  | [] => none
  | (k, v) :: r => if k = p then some v else lookup r p

/-- "xml" -/
def sXml : Bytes := [0x78, 0x6d, 0x6c]
/-- "http://www.w3.org/XML/1998/namespace" -/
def xmlUri : Bytes :=
  [104,116,116,112,58,47,47,119,119,119,46,119,51,46,111,114,103,47,88,77,76,47,49,57,57,56,47,110,97,109,101,115,112,97,99,101]

def bindDecls (m : NsMap) (attrs : List Attr) : NsMap :=
  attrs.foldl (fun m a => match getDecl a with | some p => (p, a.value) :: m | none => m) m

/-- the namespace context the apex inherits (farthest ancestor bound first, nearest last) -/
def ctxMap (ctx : List (List Attr)) : NsMap := ctx.foldr (fun attrs m => bindDecls m attrs) []

def insBy {α} (lt : α → α → Bool) (a : α) : List α → List α
  | [] => [a]
  | b :: bs => if lt a b then a :: b :: bs else b :: insBy lt a bs

def sortBy {α} (lt : α → α → Bool) : List α → List α
  | [] => []
  | a :: as => insBy lt a (sortBy lt as)

def dedup : List Bytes → List Bytes
  | [] => []
  | a :: as => if as.contains a then dedup as else a :: dedup as

def attrUri (m : NsMap) (a : Attr) : Bytes :=
  if a.space = [] then [] else if a.space = sXml then xmlUri else (lookup m a.space).getD []

/-- order of attribute nodes: namespace URI first, local name second -/
def attrLt (m : NsMap) (x y : Attr) : Bool :=
  if attrUri m x ≠ attrUri m y then bytesLt (attrUri m x) (attrUri m y) else bytesLt x.key y.key

def plainAttrs (attrs : List Attr) : List Attr := attrs.filter fun a => !isDecl a

/-- prefixes visibly utilised by an element, sorted, without `xml` -/
def utilised (esp : Bytes) (attrs : List Attr) : List Bytes :=
  sortBy bytesLt (dedup ((esp :: ((plainAttrs attrs).filter (·.space ≠ [])).map (·.space)).filter (· ≠ sXml)))

/-- namespace declarations to render for the utilised prefixes: (rendered-context', output attributes) -/
def renderNs (inScope : NsMap) : NsMap → List Bytes → NsMap × List Attr
  | rendered, [] => (rendered, [])
  | rendered, p :: ps =>
    let uri := (lookup inScope p).getD []
    let emit : Bool := if p = [] then uri ≠ (lookup rendered p).getD [] else lookup rendered p ≠ some uri
    if emit then
      let r := renderNs inScope ((p, uri) :: rendered) ps
      (r.1, ⟨(declName p).1, (declName p).2, uri⟩ :: r.2)
    else renderNs inScope rendered ps

mutual
def render (inScope rendered : NsMap) : Node → Bytes
  | .elem sp tag attrs kids =>
    let inScope' := bindDecls inScope attrs
    let ns := renderNs inScope' rendered (utilised sp attrs)
    0x3c :: fullName sp tag ++ serAttrs ns.2 ++ serAttrs (sortBy (attrLt inScope') (plainAttrs attrs)) ++
      0x3e :: renderKids inScope' ns.1 kids ++ [0x3c, 0x2f] ++ fullName sp tag ++ [0x3e]
  | .text d _ => escText d
  | .comment _ => []
  | .procinst t i => [0x3c, 0x3f] ++ t ++ (if i = [] then [] else 0x20 :: i) ++ [0x3f, 0x3e]
  | .directive _ => []
def renderKids (inScope rendered : NsMap) : List Node → Bytes
  | [] => []
  | n :: ns => render inScope rendered n ++ renderKids inScope rendered ns
end

/-- Exclusive C14N (without comments) of the subtree `root` whose ancestors carry the attribute lists `ctx` -/
def excC14N (ctx : List (List Attr)) (root : Node) : Bytes := render (ctxMap ctx) [] root

/-! ### trigger conditions of the known deviations (the complement of class `agree`) -/

def sortedBy {α} [DecidableEq α] (lt : α → α → Bool) (l : List α) : Bool := sortBy lt l == l

/-- per-element triggers, given the namespace context in scope (own declarations bound) and the context
    rendered by the output ancestors -/
def elemDevs (inScope' rendered : NsMap) (sp : Bytes) (attrs : List Attr) : List String :=
  let used := (sp :: ((plainAttrs attrs).filter (·.space ≠ [])).map (·.space)).filter (fun p => p ≠ sXml ∧ p ≠ [])
  (if used.any (fun p => (lookup inScope' p).isNone) then ["undeclared"] else []) ++
  (if sortBy (attrLt inScope') (plainAttrs attrs) ≠ sortAttrs (plainAttrs attrs) then ["attr-order"] else []) ++
  (if attrs.any (fun a => match getDecl a with
      | some p => a.value ≠ [] ∧ lookup rendered p = some a.value
      | none => false) then ["redundant-decl"] else []) ++
  (if attrs.any (fun a => getDecl a = some [] ∧ a.value = []) then ["empty-default"] else []) ++
  (if attrs.any (fun a => (a.space = sXmlns ∧ a.key = sXmlns) ∨ (a.space ≠ [] ∧ a.key = sXmlns)) then ["xmlns-name"] else [])

mutual
def nodeDevs (inScope rendered : NsMap) : Node → List String
  | .elem sp _ attrs kids =>
    let inScope' := bindDecls inScope attrs
    let ns := renderNs inScope' rendered (utilised sp attrs)
    elemDevs inScope' rendered sp attrs ++ kidsDevs inScope' ns.1 kids
  | .text _ c => if c then ["cdata"] else []
  | .comment _ => []
  | .procinst _ _ => ["pi"]
  | .directive _ => ["directive"]
def kidsDevs (inScope rendered : NsMap) : List Node → List String
  | [] => []
  | n :: ns => nodeDevs inScope rendered n ++ kidsDevs inScope rendered ns
end

def dedupS : List String → List String
  | [] => []
  | a :: as => if as.contains a then dedupS as else a :: dedupS as

/-- the deviation triggers present in (`ctx`, `root`) -/
def devs (ctx : List (List Attr)) (root : Node) : List String :=
  dedupS ((if ctx.any (fun attrs => attrs.any fun a => getDecl a = some [] ∧ a.value = [])
           then ["ctx-empty-default"] else []) ++
          (if ctx.any (fun attrs => attrs.any fun a => (a.space = sXmlns ∧ a.key = sXmlns) ∨ (a.space ≠ [] ∧ a.key = sXmlns))
           then ["xmlns-name"] else []) ++ nodeDevs (ctxMap ctx) [] root)

/-- the class on which relic's canonical form is claimed to equal Exclusive C14N -/
def agree (ctx : List (List Attr)) (root : Node) : Bool := (devs ctx root).isEmpty

end Relic.ExcC14N
