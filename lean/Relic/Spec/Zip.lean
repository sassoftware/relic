/-
  Relic.Spec.Zip — a declarative (but executable) reading of APPNOTE 6.3, restricted to what
  Go's `archive/zip` reader implements.  Independent of `Relic.Model.Zip`: only the byte codecs
  of `Relic.Base.Bytes` are shared.

  `parse z = some a` means "z is a valid single-disk archive" and `a` is what a standard reader
  sees: archive comment, member table (central entry fields with ZIP64 values resolved), for
  each member the data extent and the encodings in which a data descriptor is present.
  Strictness (documented, on purpose): the end records are contiguous
  (`cd ++ [end64 ++ loc64] ++ eocd ++ comment` ends the file), entry count and directory size
  are exact, local name equals central name, descriptor flag agrees between local and central
  header, descriptor values equal the directory values, members lie one after the other in
  directory order (`ordered`).  Not required: local sizes/CRC (Go does not look at them), ZIP64
  extra in the local header.
-/
import Relic.Base.Bytes
namespace Relic.SpecZip
open Relic

/-- little-endian number in `z[off, off+w)`; `none` when out of range -/
def num (z : Bytes) (off w : Nat) : Option Nat :=
  if off + w ≤ z.length then some (leVal ((z.drop off).take w)) else none

def bytesAt (z : Bytes) (off n : Nat) : Option Bytes :=
  if off + n ≤ z.length then some ((z.drop off).take n) else none

def hasSig (z : Bytes) (off : Nat) (a b c d : UInt8) : Bool :=
  (z.drop off).take 4 == [a, b, c, d]

/-- position of the last end-of-central-directory signature at or before `i` -/
def lastEocd (z : Bytes) : Nat → Option Nat
  | 0 => if hasSig z 0 0x50 0x4b 0x05 0x06 then some 0 else none
  | i + 1 => if hasSig z (i + 1) 0x50 0x4b 0x05 0x06 then some (i + 1) else lastEocd z i

structure Ends where
  eocd : Nat            -- offset of the end record
  first : Nat           -- offset of the first end record (zip64 end record if present)
  zip64 : Bool
  count : Nat
  cdSize : Nat
  cdOff : Nat
  comment : Bytes
  deriving Repr, DecidableEq

def ends (z : Bytes) : Option Ends := do
  if z.length < 22 then none
  let p ← lastEocd z (z.length - 22)
  let disk ← num z (p + 4) 2
  let diskCD ← num z (p + 6) 2
  let nThis ← num z (p + 8) 2
  let total ← num z (p + 10) 2
  let size ← num z (p + 12) 4
  let off ← num z (p + 16) 4
  let cl ← num z (p + 20) 2
  if p + 22 + cl ≠ z.length then none
  let comment ← bytesAt z (p + 22) cl
  if total = 0xffff ∨ size = 0xffffffff ∨ off = 0xffffffff then
    if p < 76 then none
    if !hasSig z (p - 20) 0x50 0x4b 0x06 0x07 then none
    let ldisk ← num z (p - 16) 4
    let q ← num z (p - 12) 8
    let ndisks ← num z (p - 4) 4
    if ldisk ≠ 0 ∨ ndisks ≠ 1 ∨ q + 56 ≠ p - 20 then none
    if !hasSig z q 0x50 0x4b 0x06 0x06 then none
    let rs ← num z (q + 4) 8
    let d1 ← num z (q + 16) 4
    let d2 ← num z (q + 20) 4
    let n1 ← num z (q + 24) 8
    let n ← num z (q + 32) 8
    let size64 ← num z (q + 40) 8
    let off64 ← num z (q + 48) 8
    if rs ≠ 44 ∨ d1 ≠ 0 ∨ d2 ≠ 0 ∨ n1 ≠ n then none
    some ⟨p, q, true, n, size64, off64, comment⟩
  else
    if disk ≠ 0 ∨ diskCD ≠ 0 ∨ nThis ≠ total then none
    some ⟨p, p, false, total, size, off, comment⟩

structure Entry where
  verMade : Nat
  verNeeded : Nat
  flags : Nat
  method : Nat
  mtime : Nat
  mdate : Nat
  crc : Nat
  csize : Nat
  usize : Nat
  name : Bytes
  extra : Bytes
  comment : Bytes
  iattrs : Nat
  eattrs : Nat
  hoff : Nat
  len : Nat           -- length of the whole central record
  /-- which of (usize, csize, offset) carried the 0xffffffff marker -/
  need : Bool × Bool × Bool
  deriving Repr, DecidableEq

/-- payload of the first extra field with tag 1; `fuel` = remaining length -/
def zip64Field : Nat → Bytes → Option Bytes
  | 0, _ => none
  | fuel + 1, x =>
    if x.length < 4 then none else
    let tag := leVal (x.take 2)
    let sz := leVal ((x.drop 2).take 2)
    if x.length - 4 < sz then none
    else if tag = 1 then some ((x.drop 4).take sz)
    else zip64Field fuel (x.drop (4 + sz))

/-- APPNOTE 4.5.3: the ZIP64 field holds, in this order, exactly those of
    (uncompressed size, compressed size, header offset) whose 32-bit field is 0xffffffff. -/
def resolve64 (us cs off : Nat) (extra : Bytes) : Option (Nat × Nat × Nat) :=
  let nu := us = 0xffffffff
  let nc := cs = 0xffffffff
  let no := off = 0xffffffff
  if ¬ nu ∧ ¬ nc ∧ ¬ no then some (us, cs, off) else
  match zip64Field extra.length extra with
  | none => none
  | some p => do
    let (us', p) ← if nu then (if p.length ≥ 8 then some (leVal (p.take 8), p.drop 8) else none) else some (us, p)
    let (cs', p) ← if nc then (if p.length ≥ 8 then some (leVal (p.take 8), p.drop 8) else none) else some (cs, p)
    let (off', _) ← if no then (if p.length ≥ 8 then some (leVal (p.take 8), p.drop 8) else none) else some (off, p)
    some (us', cs', off')

/-- one central directory record at `z[at ..]`, not reaching beyond `lim` -/
def entryAt (z : Bytes) (at_ lim : Nat) : Option Entry := do
  if at_ + 46 > lim ∨ lim > z.length then none
  if !hasSig z at_ 0x50 0x4b 0x01 0x02 then none
  let n ← num z (at_ + 28) 2
  let e ← num z (at_ + 30) 2
  let c ← num z (at_ + 32) 2
  if at_ + 46 + n + e + c > lim then none
  let us ← num z (at_ + 24) 4
  let cs ← num z (at_ + 20) 4
  let off ← num z (at_ + 42) 4
  let extra ← bytesAt z (at_ + 46 + n) e
  let (us', cs', off') ← resolve64 us cs off extra
  some { verMade := ← num z (at_ + 4) 2, verNeeded := ← num z (at_ + 6) 2, flags := ← num z (at_ + 8) 2,
         method := ← num z (at_ + 10) 2, mtime := ← num z (at_ + 12) 2, mdate := ← num z (at_ + 14) 2,
         crc := ← num z (at_ + 16) 4, csize := cs', usize := us', name := ← bytesAt z (at_ + 46) n,
         extra := extra, comment := ← bytesAt z (at_ + 46 + n + e) c, iattrs := ← num z (at_ + 36) 2,
         eattrs := ← num z (at_ + 38) 4, hoff := off', len := 46 + n + e + c,
         need := (us = 0xffffffff, cs = 0xffffffff, off = 0xffffffff) }

/-- exactly `count` records filling `[at, lim)` -/
def entries (z : Bytes) : Nat → Nat → Nat → Option (List Entry)
  | 0, at_, lim => if at_ = lim then some [] else none
  | count + 1, at_, lim => do
    let e ← entryAt z at_ lim
    let es ← entries z count (at_ + e.len) lim
    some (e :: es)

/-- the four descriptor encodings: (has signature, 64-bit sizes) ↦ total width -/
def descEnc (sig wide : Bool) (crc cs us : Nat) : Bytes :=
  (if sig then [0x50, 0x4b, 0x07, 0x08] else []) ++ leBytes 4 crc ++
  (if wide then leBytes 8 cs ++ leBytes 8 us else leBytes 4 cs ++ leBytes 4 us)

/-- extra blocks are a sequence of (tag, size, data) records (a tail shorter than a record header is tolerated) -/
def extraWellFormed : Nat → Bytes → Bool
  | 0, _ => true
  | fuel + 1, x =>
    if x.length < 4 then true else
    let sz := leVal ((x.drop 2).take 2)
    if x.length - 4 < sz then false else extraWellFormed fuel (x.drop (4 + sz))

structure Member where
  entry : Entry
  dataOff : Nat
  /-- widths (12, 16, 20, 24) of the encodings of (crc, csize, usize) found right after the data;
      empty when the member has no descriptor -/
  descWidths : List Nat
  lflags : Nat
  deriving Repr, DecidableEq

def descWidthsAt (z : Bytes) (at_ lim : Nat) (e : Entry) : List Nat :=
  [(false, false), (true, false), (false, true), (true, true)].filterMap fun (s, w) =>
    let enc := descEnc s w e.crc e.csize e.usize
    if (w ∨ (e.csize < 2 ^ 32 ∧ e.usize < 2 ^ 32)) ∧ at_ + enc.length ≤ lim ∧ bytesAt z at_ enc.length = some enc
    then some enc.length else none

def memberOf (z : Bytes) (cdOff : Nat) (e : Entry) : Option Member := do
  if e.hoff + 30 > cdOff then none
  if !hasSig z e.hoff 0x50 0x4b 0x03 0x04 then none
  let lflags ← num z (e.hoff + 6) 2
  let ln ← num z (e.hoff + 26) 2
  let le ← num z (e.hoff + 28) 2
  let lname ← bytesAt z (e.hoff + 30) ln
  if lname ≠ e.name then none
  if lflags % 16 / 8 ≠ e.flags % 16 / 8 then none
  if e.flags % 2 = 1 then none                 -- encrypted: out of scope
  if e.flags % 128 / 32 ≠ 0 then none          -- patched data / strong encryption: out of scope
  if e.verNeeded > 63 then none                -- a reader of this specification level cannot extract it
  if !extraWellFormed e.extra.length e.extra then none
  if e.method ≠ 0 ∧ e.method ≠ 8 then none
  if e.name.getLast? = some 0x2f ∧ e.usize ≠ 0 then none   -- a directory entry holds no data
  if e.method = 0 ∧ e.csize ≠ e.usize then none            -- stored: both sizes are the data length
  let dataOff := e.hoff + 30 + ln + le
  if dataOff + e.csize > cdOff then none
  if e.flags % 16 / 8 = 1 then
    let ws := descWidthsAt z (dataOff + e.csize) cdOff e
    if ws = [] then none else some ⟨e, dataOff, ws, lflags⟩
  else some ⟨e, dataOff, [], lflags⟩

/-- members lie one after the other in directory order (APPNOTE 4.3.6: `[local header, data, descriptor]*`);
    this is also what makes a single forward pass possible -/
def ordered : Nat → List Member → Bool
  | _, [] => true
  | pos, m :: ms =>
    decide (pos ≤ m.entry.hoff) &&
    ordered (m.dataOff + m.entry.csize + (m.descWidths.foldl min (m.descWidths.headD 0))) ms

structure Archive where
  ends : Ends
  members : List Member
  deriving Repr, DecidableEq

def parse (z : Bytes) : Option Archive := do
  let en ← ends z
  if en.cdOff + en.cdSize ≠ en.first then none
  let es ← entries z en.count en.cdOff en.first
  let ms ← es.mapM (memberOf z en.cdOff)
  if !ordered 0 ms then none
  some ⟨en, ms⟩

def valid (z : Bytes) : Prop := (parse z).isSome = true

instance (z : Bytes) : Decidable (valid z) := by unfold valid; infer_instance

/-! ### the clauses under which relic reads what the standard readers read -/

/-- F7c: no archive comment, and the 42-byte tail window exists -/
def noComment (a : Archive) (z : Bytes) : Bool := a.ends.comment.isEmpty && decide (z.length ≥ 42)

/-- F7d: every descriptor carries the optional signature -/
def descSigned (a : Archive) : Bool :=
  a.members.all fun m => m.descWidths.isEmpty || m.descWidths.contains 16 || m.descWidths.contains 24

/-- F7e: ZIP64 fields are laid out at fixed positions (usize, csize, offset all present up to
    the last one needed), which is what writers that mark all three fields produce -/
def zip64Fixed (a : Archive) : Bool :=
  a.members.all fun m =>
    let (nu, nc, no) := m.entry.need
    (!nc || nu) && (!no || (nu && nc))

/-- the member extent under the "members are contiguous" reading: the descriptor width `w` for
    which the next structure (next local header or central directory) starts right after it -/
def trueWidth (a : Archive) (m : Member) : Option Nat :=
  let e := m.entry
  let stop := m.dataOff + e.csize
  let nexts := a.members.map (·.entry.hoff) ++ [a.ends.cdOff]
  m.descWidths.find? fun w => nexts.contains (stop + w)

end Relic.SpecZip
