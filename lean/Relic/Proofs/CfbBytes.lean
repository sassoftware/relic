/-
  The byte level of the comdoc writer (`Relic.Model.CfbBytes`): the file as sectors, what a write leaves of it, where
  `addStream` puts the contents, and the refinement of the table model: the table component of a byte-level function
  `fB` is the table-level function `f` (`fB_proj`), so the table-level theorems apply here.
-/
import Relic.Model.CfbBytes
import Relic.Proofs.CfbWriter
import Relic.Props.C18_Writer
import Relic.Proofs.Splice
namespace Relic.CfbB
open Relic.CfbW Relic.Props.C18

theorem zeros_length (n : Nat) : (zeros n).length = n := by simp [zeros]

theorem pad_length (n : Nat) (c : Bytes) : (pad n c).length = n := by
  simp only [pad, List.length_append, List.length_take, zeros_length]
  omega

theorem pad_of_length {n : Nat} {c : Bytes} (h : c.length = n) : pad n c = c := by
  simp [pad, zeros, ← h]

theorem take_pad {n : Nat} {c : Bytes} (h : c.length ≤ n) : (pad n c).take c.length = c := by
  rw [pad, List.take_of_length_le h, List.take_left']
  rfl

/-- every sector has the sector size, and so has everything before sector 0 (`FirstSector = SectorSize ≥ 512`) -/
structure WF (f : File) : Prop where
  pos : 0 < f.ss
  pre : f.pre.length = f.ss
  secs : ∀ s ∈ f.secs, s.length = f.ss

theorem getSec_length {f : File} (h : WF f) (s : Nat) : (getSec f s).length = f.ss := by
  unfold getSec
  cases hs : f.secs[s]? with
  | none => simp [zeros]
  | some x => simpa using h.secs x (List.mem_of_getElem? hs)

@[simp] theorem setSec_ss (f : File) (s : Nat) (c : Bytes) : (setSec f s c).ss = f.ss := by
  unfold setSec; split <;> rfl

@[simp] theorem setSec_pre (f : File) (s : Nat) (c : Bytes) : (setSec f s c).pre = f.pre := by
  unfold setSec; split <;> rfl

theorem getSec_setSec (f : File) (s t : Nat) (c : Bytes) :
    getSec (setSec f s c) t = if t = s then c else getSec f t := by
  unfold setSec getSec
  by_cases hs : s < f.secs.length
  · simp only [hs, if_true]
    by_cases hts : t = s
    · subst hts; simp [hs]
    · simp [hts, List.getElem?_set_ne (Ne.symm hts)]
  · simp only [hs, if_false]
    by_cases hts : t = s
    · subst hts
      simp only [if_true]
      rw [List.getElem?_append_right (by simp; omega)]
      simp
      have : t - (f.secs.length + (t - f.secs.length)) = 0 := by omega
      simp [this]
    · simp only [hts, if_false]
      by_cases h1 : t < f.secs.length
      · rw [List.append_assoc, List.getElem?_append_left h1]
      · have hn : f.secs[t]? = none := by simp; omega
        rw [hn]
        by_cases h2 : t < s
        · rw [List.getElem?_append_left (by simp; omega), List.getElem?_append_right (by omega)]
          simp only [List.getElem?_replicate]
          split <;> rfl
        · have : (f.secs ++ List.replicate (s - f.secs.length) (zeros f.ss) ++ [c])[t]? = none := by
            simp; omega
          rw [this]

theorem setSec_WF {f : File} (h : WF f) (s : Nat) (c : Bytes) (hc : c.length = f.ss) : WF (setSec f s c) := by
  refine ⟨by simpa using h.pos, by simpa using h.pre, ?_⟩
  intro x hx
  simp only [setSec_ss]
  unfold setSec at hx
  split at hx
  · simp only at hx
    rcases List.mem_or_eq_of_mem_set hx with h1 | h1
    · exact h.secs x h1
    · rw [h1]; exact hc
  · simp only [List.mem_append, List.mem_replicate, List.mem_singleton] at hx
    rcases hx with (h1 | h1) | h1
    · exact h.secs x h1
    · rw [h1.2]; simp [zeros]
    · rw [h1]; exact hc

theorem wSec_ok {f : File} {s : Nat} {c : Bytes} {f' : File} (h : wSec f s c = .ok f') :
    f' = setSec f s (pad f.ss c) ∧ c.length ≤ f.ss := by
  unfold wSec at h
  split at h
  · cases h
  · cases h; exact ⟨rfl, by omega⟩

theorem wSec_total {f : File} {s : Nat} {c : Bytes} (h : c.length ≤ f.ss) : wSec f s c = .ok (setSec f s (pad f.ss c)) := by
  unfold wSec
  simp [show ¬ c.length > f.ss by omega]

def readChain (f : File) (l : List Nat) : Bytes := l.flatMap (getSec f)

theorem readChain_congr {f f' : File} {l : List Nat} (h : ∀ x ∈ l, getSec f' x = getSec f x) :
    readChain f' l = readChain f l := flatMap_congr h

theorem readChain_length {f : File} (h : WF f) (l : List Nat) : (readChain f l).length = l.length * f.ss := by
  unfold readChain
  rw [List.flatMap_def, length_flatten_blocks f.ss _ (by simp [getSec_length h]), List.length_map]

theorem readChain_append (f : File) (a b : List Nat) : readChain f (a ++ b) = readChain f a ++ readChain f b := by
  simp [readChain]

theorem sector_window {f : File} (hwf : WF f) {s : Nat} (hs : s < f.secs.length) :
    ((bytes f).drop ((s + 1) * f.ss)).take f.ss = getSec f s := by
  have e : (s + 1) * f.ss = f.pre.length + s * f.ss := by rw [hwf.pre, Nat.add_mul]; omega
  have := take_drop_flatten_blocks f.ss f.secs s [] hwf.secs hs
  rw [List.append_nil] at this
  rw [bytes, e, List.drop_append, List.drop_of_length_le (Nat.le_add_right _ _), Nat.add_sub_cancel_left, List.nil_append,
    this, getSec, List.getElem?_eq_getElem hs]
  rfl

theorem bytes_getElem? {f : File} (hwf : WF f) {s k : Nat} (hs : s < f.secs.length) (hk : k < f.ss) :
    (bytes f)[(s + 1) * f.ss + k]? = (getSec f s)[k]? := by
  rw [← sector_window hwf hs, List.getElem?_take_of_lt hk, List.getElem?_drop]

/-- `f'` is `f` except perhaps in the sectors of `W`: all that the `WriteAt` calls of an operation whose footprint is `W`
    do to the rest of the file -/
structure SameOff (W : List Nat) (f f' : File) : Prop where
  ss : f'.ss = f.ss
  pre : f'.pre = f.pre
  wf : WF f → WF f'
  sec : ∀ t, t ∉ W → getSec f' t = getSec f t

theorem SameOff.refl (W : List Nat) (f : File) : SameOff W f f := ⟨rfl, rfl, id, fun _ _ => rfl⟩

theorem SameOff.trans {W : List Nat} {f f1 f2 : File} (h1 : SameOff W f f1) (h2 : SameOff W f1 f2) : SameOff W f f2 :=
  ⟨h2.ss.trans h1.ss, h2.pre.trans h1.pre, fun h => h2.wf (h1.wf h), fun t ht => (h2.sec t ht).trans (h1.sec t ht)⟩

theorem SameOff.mono {W W' : List Nat} {f f' : File} (h : SameOff W f f') (hs : ∀ x ∈ W, x ∈ W') : SameOff W' f f' :=
  ⟨h.ss, h.pre, h.wf, fun t ht => h.sec t (fun hx => ht (hs t hx))⟩

theorem SameOff.setSec (f : File) {s : Nat} {c : Bytes} (hc : c.length = f.ss) : SameOff [s] f (setSec f s c) :=
  ⟨setSec_ss .., setSec_pre .., fun h => setSec_WF h s c hc, fun t ht => by
    rw [getSec_setSec, if_neg (by simpa using ht)]⟩

theorem SameOff.readChain {W : List Nat} {f f' : File} (h : SameOff W f f') {l : List Nat} (hd : ∀ x ∈ l, x ∉ W) :
    readChain f' l = readChain f l :=
  readChain_congr fun x hx => h.sec x (hd x hx)

theorem SameOff.cons {i : Nat} {rest : List Nat} {f f1 f' : File} (h1 : SameOff [i] f f1) (h2 : SameOff rest f1 f') :
    SameOff (i :: rest) f f' :=
  (h1.mono (by simp)).trans (h2.mono fun _ hx => List.mem_cons_of_mem _ hx)

theorem wSec_same {f f' : File} {s : Nat} {c : Bytes} (h : wSec f s c = .ok f') :
    SameOff [s] f f' ∧ getSec f' s = pad f.ss c := by
  obtain ⟨rfl, _⟩ := wSec_ok h
  exact ⟨.setSec f (pad_length ..), by rw [getSec_setSec, if_pos rfl]⟩

theorem linkLoop_proj {σ : Type} (w : Nat → σ → Res σ) (l : List Nat) (tbl : List Int) (s : σ)
    (hb : ∀ x ∈ l, x < tbl.length) {r : Int × Int × List Int × σ} (h : linkLoop w l EOC EOC tbl s = .ok r) :
    linkLoop noWrite l EOC EOC tbl () = .ok (r.1, r.2.1, r.2.2.1, ()) := by
  rw [linkLoop_fresh w l tbl s hb] at h
  rw [linkLoop_fresh noWrite l tbl () hb, foldW_noWrite]
  cases hw : foldW w l s with
  | ok s' => simp only [hw] at h; cases h; rfl
  | err e => simp [hw] at h
  | panic p => simp [hw] at h
  | diverge => simp [hw] at h

theorem growContainerB_proj {spb : Nat} {sat : List Int} {bigIdx : Nat} {rs : Int} {sat' : List Int} {big : Nat}
    (h : growContainerB spb sat bigIdx rs = .ok (sat', big)) : growContainer spb sat bigIdx rs = .ok sat' := by
  revert h
  fun_cases growContainerB spb sat bigIdx rs
  case case1 big0 hw =>
    rintro ⟨⟩
    simp [growContainer, hw]
  case case2 big0 k hw hk fl sat1 hm big' sat2 he sat3 hs =>
    rintro ⟨⟩
    simp only [growContainer, hw, hk, hm, he, hs, if_false]
  all_goals nofun

theorem writeShortB_proj {ss sss i : Nat} {c : Bytes} {t t' : List Int × Int × Nat} {f f' : File}
    (h : writeShortB ss sss i c t f = .ok (t', f')) : writeShort ss sss i t = .ok t' := by
  revert h
  fun_cases writeShortB ss sss i c t f
  case case3 _ hss sat rs he sat' big hg off sl =>
    rintro ⟨⟩
    simp only [writeShort, hss, he, growContainerB_proj hg, if_false]
    rfl
  all_goals nofun

theorem wShort_ok {ss sss i : Nat} {p p' : (List Int × Int × Nat) × Bytes × File} (h : wShort ss sss i p = .ok p') :
    ∃ t f', writeShortB ss sss i (p.2.1.take sss) p.1 p.2.2 = .ok (t, f') ∧ p' = (t, p.2.1.drop sss, f') := by
  revert h
  fun_cases wShort ss sss i p
  case case1 t f' hw =>
    rintro ⟨⟩
    exact ⟨t, f', hw, rfl⟩
  all_goals nofun

theorem wBig_ok {ss i : Nat} {p p' : Bytes × File} (h : wBig ss i p = .ok p') :
    ∃ f', wSec p.2 i (p.1.take ss) = .ok f' ∧ p' = (p.1.drop ss, f') := by
  revert h
  fun_cases wBig ss i p
  case case1 f' hw =>
    rintro ⟨⟩
    exact ⟨f', hw, rfl⟩
  all_goals nofun

theorem wChunk_ok {chunk : Nat → Bytes} {i : Nat} {p p' : Nat × File} (h : wChunk chunk i p = .ok p') :
    ∃ f', wSec p.2 i (chunk p.1) = .ok f' ∧ p' = (p.1 + 1, f') := by
  revert h
  fun_cases wChunk chunk i p
  case case1 f' hw =>
    rintro ⟨⟩
    exact ⟨f', hw, rfl⟩
  all_goals nofun

theorem foldW_wShort_proj (ss sss : Nat) (fl : List Nat) (s s' : (List Int × Int × Nat) × Bytes × File)
    (h : foldW (wShort ss sss) fl s = .ok s') :
    foldW (writeShort ss sss) fl s.1 = .ok s'.1 ∧ s'.2.1.length = s.2.1.length - fl.length * sss := by
  revert h
  fun_induction foldW (wShort ss sss) fl s
  case case1 s =>
    rintro ⟨⟩
    simp [foldW]
  case case2 i tl s s1 hw ih =>
    intro h
    obtain ⟨t, f', hwb, rfl⟩ := wShort_ok hw
    obtain ⟨p2, hl⟩ := ih h
    refine ⟨by simp only [foldW, writeShortB_proj hwb, p2], ?_⟩
    rw [hl]
    simp only [List.length_drop, List.length_cons, Nat.add_mul]
    omega
  all_goals nofun

theorem foldW_wBig_len (ss : Nat) (fl : List Nat) (s s' : Bytes × File) (h : foldW (wBig ss) fl s = .ok s') :
    s'.1.length = s.1.length - fl.length * ss := by
  revert h
  fun_induction foldW (wBig ss) fl s
  case case1 s =>
    rintro ⟨⟩
    simp
  case case2 i tl s s1 hw ih =>
    intro h
    obtain ⟨f', _, rfl⟩ := wBig_ok hw
    rw [ih h]
    simp only [List.length_drop, List.length_cons, Nat.add_mul]
    omega
  all_goals nofun

theorem addStreamB_big_ok {a : Alloc} {c : Bytes} {f : File} {first : Int} {a' : Alloc} {f' : File}
    (h : addStreamB a c false f = .ok (first, a', f')) :
    a.ss ≠ 0 ∧ ∃ fl sat1 rest, makeFree (a.ss / 4) a.sat ((c.length + a.ss - 1) / a.ss) = .ok (fl, sat1) ∧
      foldW (wBig a.ss) fl (c, f) = .ok (rest, f') ∧ ¬ rest.length > 0 ∧ first = headInt fl ∧
      a' = { a with sat := linkFin EOC fl sat1 } := by
  revert h
  fun_cases addStreamB a c false f
  case case3 =>
    exact absurd ‹false = true› Bool.false_ne_true
  case case15 _ hss fl sat1 hm frst prev sat2 rest f1 hl sat3 ht hrest =>
    rintro ⟨⟩
    obtain ⟨hw, rfl, ht'⟩ := linked hm hl
    cases ht'.symm.trans ht
    exact ⟨hss, fl, sat1, rest, hm, hw, hrest, rfl, rfl⟩
  all_goals nofun

theorem addStreamB_short_ok {a : Alloc} {c : Bytes} {f : File} {first : Int} {a' : Alloc} {f' : File}
    (h : addStreamB a c true f = .ok (first, a', f')) :
    a.sss ≠ 0 ∧ ∃ fl ssat1 sat' rs rz rest, makeFree (a.ss / 4) a.ssat ((c.length + a.sss - 1) / a.sss) = .ok (fl, ssat1) ∧
      foldW (wShort a.ss a.sss) fl ((a.sat, a.rootStart, a.rootSize), c, f) = .ok ((sat', rs, rz), rest, f') ∧
      ¬ rest.length > 0 ∧ first = headInt fl ∧
      a' = { a with sat := sat', ssat := linkFin EOC fl ssat1, rootStart := rs, rootSize := rz } := by
  revert h
  fun_cases addStreamB a c true f
  case case3 _ hsss fl ssat1 hm frst prev ssat2 sat' rs rz rest f1 hl ssat3 ht hrest =>
    rintro ⟨⟩
    obtain ⟨hw, rfl, ht'⟩ := linked hm hl
    cases ht'.symm.trans ht
    exact ⟨hsss, fl, ssat1, sat', rs, rz, rest, hm, hw, hrest, rfl, rfl⟩
  case case15 =>
    exact absurd rfl ‹¬true = true›
  all_goals nofun

theorem addStreamB_proj {a : Alloc} {c : Bytes} {short : Bool} {f : File} {first : Int} {a' : Alloc} {f' : File}
    (h : addStreamB a c short f = .ok (first, a', f')) : addStream a c.length short = .ok (first, a') := by
  cases short with
  | true =>
    obtain ⟨hsss, fl, ssat1, sat', rs, rz, rest, hm, hw, hrest, rfl, rfl⟩ := addStreamB_short_ok h
    obtain ⟨p, hlen⟩ := foldW_wShort_proj _ _ _ _ _ hw
    have hb := (makeFree_spec hm).lt
    simp only [addStream, hsss, hm, if_true, if_false, linkLoop_fresh _ _ _ _ hb, p,
      terminate_linkPure fl EOC ssat1 hb (Or.inl rfl)]
    rw [if_neg (by simp only at hlen; omega)]
  | false =>
    obtain ⟨hss, fl, sat1, rest, hm, hw, hrest, rfl, rfl⟩ := addStreamB_big_ok h
    have hlen : rest.length = c.length - fl.length * a.ss := foldW_wBig_len _ _ _ _ hw
    simp only [addStream, Bool.false_eq_true, addStreamBig_eq hss hm, if_false]
    rw [if_neg (show ¬ fl.length * a.ss < c.length by omega)]

theorem addFileB_proj {b b' : BSt} {units : List Nat} {c : Bytes} (h : addFileB b units c = .ok b') :
    addFile b.st (nameKey units) units.length c.length = .ok b'.st := by
  revert h
  fun_cases addFileB b units c
  case case2 key st1 hd frst a' f1 ha hn slot index files ents hfe hi =>
    rintro ⟨⟩
    simp only [key] at hd
    simp only [addFile, hd, addStreamB_proj ha, hn, if_false]
    cases hfe' : firstEmpty st1.files 0 with
    | some i =>
      simp only [hfe', Prod.mk.injEq] at hfe ⊢
      obtain ⟨rfl, rfl, rfl⟩ := hfe
      rw [if_pos hi]
    | none =>
      simp only [hfe', Prod.mk.injEq] at hfe ⊢
      obtain ⟨rfl, rfl, rfl⟩ := hfe
      rw [if_pos hi]
  all_goals nofun

theorem deleteFileB_proj {b b' : BSt} {key : Nat} (h : deleteFileB b key = .ok b') :
    deleteFile b.st key = .ok b'.st ∧ b'.ents = b.ents ∧ b'.file = b.file := by
  revert h
  fun_cases deleteFileB b key
  case case1 st' hd =>
    rintro ⟨⟩
    exact ⟨hd, rfl, rfl⟩
  all_goals nofun

theorem pad_split (ss m : Nat) (c : Bytes) : pad ss (c.take ss) ++ pad m (c.drop ss) = pad (ss + m) c := by
  unfold pad zeros
  by_cases h : ss ≤ c.length
  · have e1 : ss - (c.take ss).length = 0 := by simp; omega
    have e2 : m - (c.drop ss).length = ss + m - c.length := by simp; omega
    rw [e1, e2, List.take_take, Nat.min_self]
    simp only [List.replicate_zero, List.append_nil]
    rw [← List.append_assoc]
    congr 1
    rw [List.take_add]
  · have e0 : c.take ss = c := List.take_of_length_le (by omega)
    have e3 : c.drop ss = [] := List.drop_of_length_le (by omega)
    have e4 : c.take (ss + m) = c := List.take_of_length_le (by omega)
    rw [e0, e3, e4, e0]
    simp only [List.take_nil, List.length_nil, List.nil_append, Nat.sub_zero]
    rw [List.append_assoc, List.replicate_append_replicate]
    congr 2
    omega

theorem foldW_wBig (ss : Nat) : ∀ (fl : List Nat) (c : Bytes) (f : File), f.ss = ss → fl.Nodup →
    ∃ f', foldW (wBig ss) fl (c, f) = .ok (c.drop (fl.length * ss), f') ∧ SameOff fl f f' ∧
      readChain f' fl = pad (fl.length * ss) c := by
  intro fl
  induction fl with
  | nil =>
    intro c f _ _
    exact ⟨f, by simp [foldW], .refl .., by simp [readChain, pad, zeros]⟩
  | cons i rest ih =>
    intro c f hss hn
    obtain ⟨hni, hnr⟩ := List.nodup_cons.mp hn
    have w1 : SameOff [i] f (setSec f i (pad ss (c.take ss))) := .setSec f (by rw [pad_length, hss])
    have hw : wBig ss i (c, f) = .ok (c.drop ss, setSec f i (pad ss (c.take ss))) := by
      unfold wBig
      simp only
      rw [wSec_total (by rw [hss, List.length_take]; omega), hss]
    obtain ⟨f', e1, e2, e5⟩ := ih (c.drop ss) _ (w1.ss.trans hss) hnr
    refine ⟨f', ?_, w1.cons e2, ?_⟩
    · simp only [foldW, hw, e1, List.length_cons, List.drop_drop, Nat.succ_mul, Nat.add_comm ss]
    · have : readChain f' (i :: rest) = getSec f' i ++ readChain f' rest := by simp [readChain]
      rw [this, e2.sec i hni, getSec_setSec, e5]
      rw [if_pos rfl, pad_split, List.length_cons, Nat.succ_mul, Nat.add_comm]

theorem addStreamB_big {a : Alloc} {c : Bytes} {f : File} {first : Int} {a' : Alloc} {f' : File}
    (hss : f.ss = a.ss) (h : addStreamB a c false f = .ok (first, a', f')) :
    addStream a c.length false = .ok (first, a') ∧
    ∃ fl sat1, makeFree (a.ss / 4) a.sat ((c.length + a.ss - 1) / a.ss) = .ok (fl, sat1) ∧
      chain a'.sat first = some fl ∧ readChain f' fl = pad (fl.length * a.ss) c ∧ c.length ≤ fl.length * a.ss ∧
      SameOff fl f f' := by
  obtain ⟨_, fl, sat1, rest, hm, hw, hrest, rfl, rfl⟩ := addStreamB_big_ok h
  obtain ⟨f2, e1, e2, e5⟩ := foldW_wBig a.ss fl c f hss (makeFree_spec hm).nodup
  cases e1.symm.trans hw
  have hlen : c.length ≤ fl.length * a.ss := by
    simp only [List.length_drop] at hrest; omega
  exact ⟨addStreamB_proj h, fl, sat1, hm, (link_fresh hm).1, e5, hlen, e2⟩

def patch (b : Bytes) (o : Nat) (x : Bytes) : Bytes := splice b o x.length x

theorem writeRel_one {f : File} {n s o : Nat} {c : Bytes} (hc : c ≠ []) (h : o + c.length ≤ f.ss) :
    writeRel f (n + 1) s o c = setSec f s (patch (getSec f s) o c) := by
  have e1 : c.take (f.ss - o) = c := List.take_of_length_le (by omega)
  have e2 : c.drop (f.ss - o) = [] := List.drop_of_length_le (by omega)
  have hne : c.isEmpty = false := by cases c <;> simp_all
  unfold writeRel
  simp only [hne, Bool.false_eq_true, if_false, e1, e2]
  cases n with
  | zero => simp [writeRel, patch, splice]
  | succ n => simp [writeRel, patch, splice]

theorem readChain_patch {f : File} (hwf : WF f) {big o : Nat} {x : Bytes} (hx : o + x.length ≤ f.ss) :
    ∀ (L : List Nat) (idx : Nat), L.Nodup → L[idx]? = some big →
      readChain (setSec f big (patch (getSec f big) o x)) L = patch (readChain f L) (idx * f.ss + o) x := by
  intro L
  induction L with
  | nil => intro idx _ h; simp at h
  | cons y L ih =>
    intro idx hn hidx
    obtain ⟨hny, hnL⟩ := List.nodup_cons.mp hn
    have hcons : ∀ g, readChain g (y :: L) = getSec g y ++ readChain g L := fun g => by simp [readChain]
    rw [hcons, hcons]
    cases idx with
    | zero =>
      simp only [List.getElem?_cons_zero, Option.some.injEq] at hidx
      subst hidx
      rw [getSec_setSec]
      simp only [if_true, Nat.zero_mul, Nat.zero_add]
      rw [patch, patch, splice_append_left _ _ (by rw [getSec_length hwf]; exact hx)]
      congr 1
      apply readChain_congr
      intro t ht
      rw [getSec_setSec]
      have : t ≠ y := fun e => hny (e ▸ ht)
      simp [this]
    | succ idx =>
      simp only [List.getElem?_cons_succ] at hidx
      have hby : y ≠ big := fun e => hny (e ▸ List.mem_of_getElem? hidx)
      rw [getSec_setSec]
      simp only [hby, if_false]
      rw [ih idx hnL hidx]
      have := splice_append_right (getSec f y) (readChain f L) (idx * f.ss + o) x.length x
      rw [getSec_length hwf] at this
      rw [patch, patch, ← this]
      congr 1
      rw [Nat.add_mul]; omega

theorem growContainerB_spec {spb : Nat} {sat : List Int} {rs : Int} {C : List Nat} {bigIdx : Nat}
    {sat' : List Int} {big : Nat} (hrs : 0 ≤ rs) (hC : IsChain sat rs C)
    (h : growContainerB spb sat bigIdx rs = .ok (sat', big)) :
    ∃ E, Grown sat C sat' rs E ∧ (C ++ E)[bigIdx]? = some big := by
  cases C with
  | nil => simp [IsChain] at hC; omega
  | cons b C0 =>
    have hb : rs = (b : Int) := hC.1
    subst hb
    revert h
    fun_cases growContainerB spb sat bigIdx (b : Int)
    case case1 big1 hw1 =>
      rintro ⟨⟩
      rw [Int.toNat_natCast] at hw1
      exact ⟨[], Grown.refl (Or.inr ⟨hrs, hC⟩), by simpa using (walkBig_end hC hw1).2.1⟩
    case case2 big1 k1 hw1 hk0 fl sat1 hm big' sat2 he sat3 hs =>
      rintro ⟨⟩
      rw [Int.toNat_natCast] at hw1
      obtain ⟨hk1, _, hend⟩ := walkBig_end hC hw1
      obtain ⟨hidx, init, hinit⟩ := hend hk0
      rw [hinit] at hC ⊢
      obtain ⟨g, hlen, hlast⟩ := Grown.extend hrs hC hk0 hm he hs
      refine ⟨fl, g, ?_⟩
      rw [getElem?_append_last (by rw [← hinit, hlen, List.length_cons]; omega) (fun e => hk0 (by rw [← hlen, e]; rfl))]
      exact hlast
    all_goals nofun

/-- mini sector `m` of the mini stream `cd` -/
def miniSec (sss : Nat) (cd : Bytes) (m : Nat) : Bytes := (cd.drop (m * sss)).take sss

def miniData (sss : Nat) (cd : Bytes) (l : List Nat) : Bytes := l.flatMap (miniSec sss cd)

theorem miniData_congr {sss : Nat} {x y : Bytes} {l : List Nat} (h : ∀ m ∈ l, miniSec sss x m = miniSec sss y m) :
    miniData sss x l = miniData sss y l := flatMap_congr h

theorem miniSec_append_left {sss : Nat} {x y : Bytes} {m : Nat} (h : (m + 1) * sss ≤ x.length) :
    miniSec sss (x ++ y) m = miniSec sss x m := by
  unfold miniSec
  rw [Nat.add_mul] at h
  exact take_drop_append_left x y _ _ (by omega)

theorem miniSec_patch_same {b x : Bytes} {i sss : Nat} (hx : x.length = sss) (h : (i + 1) * sss ≤ b.length) :
    miniSec sss (patch b (i * sss) x) i = x := by
  subst hx
  rw [Nat.add_mul] at h
  exact take_drop_splice_at b _ x (by omega)

theorem miniSec_patch_other {b x : Bytes} {i m sss : Nat} (hx : x.length = sss) (h : (i + 1) * sss ≤ b.length)
    (hm : m ≠ i) : miniSec sss (patch b (i * sss) x) m = miniSec sss b m := by
  rw [Nat.add_mul] at h
  unfold miniSec patch
  rcases Nat.lt_or_gt_of_ne hm with hlt | hgt
  · have : (m + 1) * sss ≤ i * sss := Nat.mul_le_mul_right _ hlt
    rw [Nat.add_mul] at this
    exact take_drop_splice_same_other b x (by omega) (Or.inl (by omega))
  · have : (i + 1) * sss ≤ m * sss := Nat.mul_le_mul_right _ hgt
    rw [Nat.add_mul] at this
    exact take_drop_splice_same_other b x (by omega) (Or.inr (by omega))

/-- where mini sector `i` lies when a sector holds `q` of them: in big sector `i / q` of the container, at offset
    `(i % q) * sss`, and it fits -/
theorem miniPos {ss sss q : Nat} (i : Nat) (hq : ss = q * sss) (hs : 0 < sss) (hss : ss ≠ 0) :
    i * sss / ss = i / q ∧ i * sss = (i / q) * ss + (i % q) * sss ∧ i * sss - i / q * ss = (i % q) * sss ∧
    (i % q) * sss + sss ≤ ss := by
  have hqpos : 0 < q := by
    rcases Nat.eq_zero_or_pos q with h0 | h0
    · subst h0; simp at hq; exact absurd hq hss
    · exact h0
  have hdm := Nat.div_add_mod i q
  have hr := Nat.mod_lt i hqpos
  have hpos : i * sss = (i / q) * ss + (i % q) * sss := by
    rw [hq]
    conv => lhs; rw [← hdm]
    rw [Nat.add_mul, Nat.mul_comm q (i / q), Nat.mul_assoc]
  refine ⟨by rw [hq, Nat.mul_div_mul_right _ _ hs], hpos, by omega, ?_⟩
  have : (i % q + 1) * sss ≤ q * sss := Nat.mul_le_mul_right _ hr
  rw [Nat.add_mul] at this
  rw [hq]
  omega

theorem writeShortB_spec {ss sss q i : Nat} {c : Bytes} {sat : List Int} {rs : Int} {rz : Nat} {f : File}
    {sat' : List Int} {rs' : Int} {rz' : Nat} {f' : File} {C : List Nat}
    (hq : ss = q * sss) (hs : 0 < sss) (hC : Cont sat rs C) (hwf : WF f) (hfs : f.ss = ss)
    (h : writeShortB ss sss i c (sat, rs, rz) f = .ok ((sat', rs', rz'), f')) :
    ∃ E, Grown sat C sat' rs' E ∧ SameOff (C ++ E) f f' ∧
      (i + 1) * sss ≤ (C ++ E).length * ss ∧
      readChain f' (C ++ E) = patch (readChain f (C ++ E)) (i * sss) (pad sss c) := by
  revert h
  fun_cases writeShortB ss sss i c (sat, rs, rz) f
  case case3 _ hss0 sat0 rs0 he sat1 big hg off sl =>
    rintro ⟨⟩
    obtain ⟨E0, g0, hrs0⟩ := ensureContainer_spec hC he
    have hc0 : IsChain sat0 rs' (C ++ E0) := by
      rcases g0.cont with ⟨h, _⟩ | ⟨_, h⟩
      · omega
      · exact h
    obtain ⟨E1, g1, hidx⟩ := growContainerB_spec hrs0 hc0 hg
    simp only [off]
    have g := Grown.trans g0 g1
    obtain ⟨hbi, hpos, hoff, hfit⟩ := miniPos i hq hs hss0
    have hpadl : (pad sss c).length = sss := pad_length sss c
    have hpadne : pad sss c ≠ [] := by
      intro e; rw [e] at hpadl; simp at hpadl; omega
    simp only [hbi] at hidx ⊢
    rw [hoff]
    have hL : (C ++ (E0 ++ E1))[i / q]? = some big := by simpa [List.append_assoc] using hidx
    have hbigmem : big ∈ C ++ (E0 ++ E1) := List.mem_of_getElem? hL
    have hlt : i / q < (C ++ (E0 ++ E1)).length := (List.getElem?_eq_some_iff.mp hL).1
    have hnd : (C ++ (E0 ++ E1)).Nodup := by
      rcases g.cont with ⟨h, _⟩ | ⟨_, h⟩
      · omega
      · exact h.nodup
    rw [writeRel_one hpadne (by rw [hpadl, hfs]; exact hfit)]
    refine ⟨E0 ++ E1, g, (SameOff.setSec f ?_).mono (by simpa using hbigmem), ?_, ?_⟩
    · rw [patch, splice_length _ _ (by rw [getSec_length hwf, hpadl, hfs]; exact hfit), getSec_length hwf]; omega
    · have : (i / q + 1) * ss ≤ (C ++ (E0 ++ E1)).length * ss := Nat.mul_le_mul_right _ hlt
      rw [Nat.add_mul] at this
      rw [Nat.add_mul]; omega
    · rw [readChain_patch hwf (by rw [hpadl, hfs]; exact hfit) _ (i / q) hnd hL, hfs]
      congr 1; omega
  all_goals nofun

/-- the `writeShortSector` loop of a short `addStream`.  Every intermediate file is read through the FINAL container
    `C ++ E`, not through the container as it was at that step: sectors the container gains later are outside every
    earlier write (`Grown.disjoint`), so seen through `C ++ E` each `writeShortSector` is one `patch` of one mini sector
    (`K` below), and a patch leaves every other mini sector as it was. -/
theorem foldW_wShort {ss sss q : Nat} (hq : ss = q * sss) (hs : 0 < sss) : ∀ (fl : List Nat) (c : Bytes)
    (sat : List Int) (rs : Int) (rz : Nat) (f : File) (C : List Nat) (sat' : List Int) (rs' : Int) (rz' : Nat)
    (rest : Bytes) (f' : File),
    Cont sat rs C → WF f → f.ss = ss → fl.Nodup →
    foldW (wShort ss sss) fl ((sat, rs, rz), c, f) = .ok ((sat', rs', rz'), rest, f') →
    rest = c.drop (fl.length * sss) ∧
    ∃ E, Grown sat C sat' rs' E ∧ SameOff (C ++ E) f f' ∧
      (∀ m ∈ fl, (m + 1) * sss ≤ (C ++ E).length * ss) ∧
      (∀ m, m ∉ fl → miniSec sss (readChain f' (C ++ E)) m = miniSec sss (readChain f (C ++ E)) m) ∧
      miniData sss (readChain f' (C ++ E)) fl = pad (fl.length * sss) c := by
  intro fl
  induction fl with
  | nil =>
    intro c sat rs rz f C sat' rs' rz' rest f' hC _ _ _ h
    simp only [foldW, Res.ok.injEq, Prod.mk.injEq] at h
    obtain ⟨⟨rfl, rfl, rfl⟩, rfl, rfl⟩ := h
    refine ⟨by simp, [], Grown.refl hC, .refl .., by simp, fun _ _ => rfl, ?_⟩
    simp [miniData, pad, zeros]
  | cons i tl ih =>
    intro c sat rs rz f C sat' rs' rz' rest f' hC hwf hfs hn h
    obtain ⟨hni, hnt⟩ := List.nodup_cons.mp hn
    simp only [foldW] at h
    split at h
    · rename_i s1 hw
      obtain ⟨⟨sat1, rs1, rz1⟩, c1, f1⟩ := s1
      obtain ⟨t, fx, hwb, e⟩ := wShort_ok hw
      cases e
      obtain ⟨E1, g1, s1, bd1, rc1⟩ := writeShortB_spec hq hs hC hwf hfs hwb
      obtain ⟨rfl, E2, g2, s2, bd2, ms2, md2⟩ :=
        ih (c.drop sss) sat1 rs1 rz1 f1 (C ++ E1) sat' rs' rz' rest f' g1.cont (s1.wf hwf) (s1.ss.trans hfs) hnt h
      have hdisj : ∀ x ∈ E2, x ∉ C ++ E1 := g2.disjoint g1.cont
      have hx : (pad sss (c.take sss)).length = sss := pad_length _ _
      have hlen1 : (readChain f (C ++ E1)).length = (C ++ E1).length * ss := by rw [readChain_length hwf, hfs]
      -- the bytes of the final container after the first write
      have K : readChain f1 (C ++ E1 ++ E2) = patch (readChain f (C ++ E1 ++ E2)) (i * sss) (pad sss (c.take sss)) := by
        rw [readChain_append, readChain_append f, rc1, s1.readChain hdisj]
        rw [patch, patch, splice_append_left _ _ (by rw [hx, hlen1]; rw [Nat.add_mul] at bd1; omega)]
      have hbig : (C ++ E1).length * ss ≤ (C ++ E1 ++ E2).length * ss := by
        apply Nat.mul_le_mul_right; simp
      have hfitL : (i + 1) * sss ≤ (readChain f (C ++ E1 ++ E2)).length := by
        rw [readChain_length hwf, hfs]; omega
      refine ⟨?_, E1 ++ E2, Grown.trans g1 g2, ?_, ?_, ?_, ?_⟩
      · rw [List.drop_drop, List.length_cons, Nat.succ_mul, Nat.add_comm]
      · rw [← List.append_assoc]
        exact (s1.mono fun _ hx => List.mem_append_left _ hx).trans s2
      · intro m hm
        rw [← List.append_assoc]
        rcases List.mem_cons.mp hm with rfl | hm
        · omega
        · exact bd2 m hm
      · intro m hm
        rw [← List.append_assoc]
        have hm1 : m ∉ tl := fun h => hm (List.mem_cons_of_mem _ h)
        have hm2 : m ≠ i := fun e => hm (e ▸ List.mem_cons_self)
        rw [ms2 m hm1, K, miniSec_patch_other hx hfitL hm2]
      · rw [← List.append_assoc]
        have : miniData sss (readChain f' (C ++ E1 ++ E2)) (i :: tl) =
            miniSec sss (readChain f' (C ++ E1 ++ E2)) i ++ miniData sss (readChain f' (C ++ E1 ++ E2)) tl := by
          simp [miniData]
        rw [this, md2, ms2 i hni, K, miniSec_patch_same hx hfitL]
        rw [pad_split, List.length_cons, Nat.succ_mul, Nat.add_comm]
    all_goals cases h

theorem addStreamB_short {a : Alloc} {c : Bytes} {f : File} {first : Int} {a' : Alloc} {f' : File} {C : List Nat} {q : Nat}
    (hq : a.ss = q * a.sss) (hs : 0 < a.sss) (hfs : f.ss = a.ss) (hwf : WF f) (hC : Cont a.sat a.rootStart C)
    (h : addStreamB a c true f = .ok (first, a', f')) :
    addStream a c.length true = .ok (first, a') ∧
    ∃ fl E, chain a'.ssat first = some fl ∧ Grown a.sat C a'.sat a'.rootStart E ∧ SameOff (C ++ E) f f' ∧
      (∀ m ∈ fl, (m + 1) * a.sss ≤ (C ++ E).length * a.ss) ∧
      (∀ m ∈ fl, a.ssat[m]? = some FREE ∨ a.ssat.length ≤ m) ∧
      (∀ m, m ∉ fl → miniSec a.sss (readChain f' (C ++ E)) m = miniSec a.sss (readChain f (C ++ E)) m) ∧
      miniData a.sss (readChain f' (C ++ E)) fl = pad (fl.length * a.sss) c ∧ c.length ≤ fl.length * a.sss := by
  obtain ⟨_, fl, ssat1, sat', rs, rz, rest, hm, hw, hrest, rfl, rfl⟩ := addStreamB_short_ok h
  have fr := makeFree_spec hm
  obtain ⟨rfl, E, g, s1, bd1, ms1, md1⟩ :=
    foldW_wShort hq hs fl c a.sat a.rootStart a.rootSize f C sat' rs rz rest f' hC hwf hfs fr.nodup hw
  have hlen : c.length ≤ fl.length * a.sss := by
    simp only [List.length_drop] at hrest; omega
  exact ⟨addStreamB_proj h, fl, E, (link_fresh hm).1, g, s1, bd1, fr.wasFree, ms1, md1, hlen⟩

theorem foldW_wChunk (chunk : Nat → Bytes) (fl : List Nat) (s r : Nat × File) (hn : fl.Nodup)
    (h : foldW (wChunk chunk) fl s = .ok r) :
    SameOff fl s.2 r.2 ∧
    ∀ j (h : j < fl.length), getSec r.2 fl[j] = pad s.2.ss (chunk (s.1 + j)) := by
  revert hn h
  fun_induction foldW (wChunk chunk) fl s
  case case1 s =>
    rintro _ ⟨⟩
    exact ⟨.refl .., fun j h => absurd h (by simp)⟩
  case case2 i tl s s1 hw ih =>
    intro hn h
    obtain ⟨hni, hnt⟩ := List.nodup_cons.mp hn
    obtain ⟨f1, hws, rfl⟩ := wChunk_ok hw
    obtain ⟨w1, w2⟩ := wSec_same hws
    obtain ⟨e2, e3⟩ := ih hnt h
    refine ⟨w1.cons e2, fun j hj => ?_⟩
    cases j with
    | zero => simpa [e2.sec i hni] using w2
    | succ j =>
      have := e3 j (by simpa using hj)
      rw [w1.ss] at this
      simpa [Nat.add_assoc, Nat.add_comm 1 j] using this
  all_goals nofun

theorem writeShortSATB_proj {b b' : BSt} (h : writeShortSATB b = .ok b') :
    writeShortSAT b.st = .ok b'.st := by
  revert h
  fun_cases writeShortSATB b
  case case2 st spb hspb sat0 hf fl sat1 hm frst prev sat2 k f' hl sat3 ht =>
    rintro ⟨⟩
    have p := linkLoop_proj _ fl sat1 _ (makeFree_spec hm).lt hl
    simp only [spb, st] at hspb hf hm
    simp only [writeShortSAT, reallocChain, hspb, hf, hm, p, ht, if_false]
    rfl
  all_goals nofun

theorem writeDirStreamB_proj {b b' : BSt} (h : writeDirStreamB b = .ok b') :
    writeDirStream b.st = .ok b'.st := by
  revert h
  fun_cases writeDirStreamB b
  case case4 st per ents b1 sat0 hf hper hmod fl sat1 hm frst prev sat2 k f' hl hprev sat3 ht =>
    rintro ⟨⟩
    have p := linkLoop_proj _ fl sat1 _ (makeFree_spec hm).lt hl
    simp only [per, st] at hf hper hmod hm
    simp only [writeDirStream, reallocChain, hf, hm, p, ht, hper, hmod, hprev, if_false]
    rfl
  all_goals nofun

theorem closeB_proj {b b' : BSt} (h : closeB b = .ok b') : close b.st = .ok b'.st := by
  revert h
  fun_cases closeB b
  case case1 hch =>
    rintro ⟨⟩
    simp only [close, hch, if_true]
  case case3 hch b1 h1 b2 h2 sat msat ml hat hlen _ _ f4 _ =>
    rintro ⟨⟩
    simp only [close, hch, writeShortSATB_proj h1, writeDirStreamB_proj h2, hat, hlen, if_false]
    rfl
  all_goals nofun

end Relic.CfbB
