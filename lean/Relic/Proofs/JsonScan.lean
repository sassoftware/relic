/- every string and key of a value `scan` returns is a list of Unicode scalar values (`SW`): what `unquoteBytes` yields is
   one, whatever the bytes, and one invariant of the fold (`StOK`), which `step` keeps, carries that to the result.
   The statements are about every input; nothing here says what `step` or `scan` compute on a given one.  `St`, `Mode`,
   `Frame`, `JVal` have no `DecidableEq`: a closed evaluation of `step` or `scan` is by `rfl`, not by `decide`. -/
import Relic.Model.Json
namespace Relic.Json

def AllScalar (l : List Nat) : Prop := ∀ c ∈ l, isScalar c = true

theorem allScalar_nil : AllScalar [] := by intro c h; cases h

theorem allScalar_cons {c : Nat} {l : List Nat} (hc : isScalar c = true) (hl : AllScalar l) : AllScalar (c :: l) := by
  intro x hx
  rcases List.mem_cons.mp hx with rfl | hx
  · exact hc
  · exact hl x hx

theorem allScalar_append {a b : List Nat} (ha : AllScalar a) (hb : AllScalar b) : AllScalar (a ++ b) := by
  intro x hx
  rcases List.mem_append.mp hx with hx | hx
  · exact ha x hx
  · exact hb x hx

theorem allScalar_fffd (n : Nat) : AllScalar (fffd n) := by
  intro c hc
  simp only [fffd, List.mem_replicate] at hc
  rw [hc.2]; decide

/-- whichever way a test goes; each side may use how it went -/
theorem allScalar_ite {p : Prop} [Decidable p] {a b : List Nat} (ha : p → AllScalar a) (hb : ¬ p → AllScalar b) :
    AllScalar (if p then a else b) := by
  split
  · exact ha ‹_›
  · exact hb ‹_›

theorem scalarOr_scalar (r : Nat) : isScalar (scalarOr r) = true := by
  unfold scalarOr
  split
  · assumption
  · decide

theorem isScalar_lt (n : Nat) (h : n < 0xD800) : isScalar n = true := by
  simp [isScalar]; omega

theorem startByte_scalar (b : UInt8) : AllScalar (startByte b).1 := by
  unfold startByte
  split
  · exact allScalar_cons (isScalar_lt _ (by omega)) allScalar_nil
  · split
    · exact allScalar_nil
    · exact allScalar_cons (by decide) allScalar_nil

/-- the items `itemize` produces: one-character escapes are bytes -/
def ItemsOK (items : List Item) : Prop := ∀ it ∈ items, ∀ c, it = Item.chr c → c < 256

theorem escChar_lt (e : UInt8) : escChar e < 256 := by
  have ite_lt : ∀ {p : Prop} [Decidable p] {a b : Nat}, a < 256 → b < 256 → (if p then a else b) < 256 := by
    intro p _ a b ha hb
    split <;> assumption
  exact ite_lt (by decide) (ite_lt (by decide) (ite_lt (by decide) (ite_lt (by decide) (ite_lt (by decide) e.toNat_lt))))

theorem itemsOK_cons (it : Item) (tl : List Item) (hit : ∀ c, it = Item.chr c → c < 256) (htl : ItemsOK tl) : ItemsOK (it :: tl) := by
  intro x hx c e
  rcases List.mem_cons.mp hx with rfl | hx
  · exact hit c e
  · exact htl x hx c e

theorem itemize_ok (bs : Bytes) : ItemsOK (itemize bs) := by
  fun_induction itemize bs
  · intro it h; cases h
  · rename_i ih; exact itemsOK_cons _ _ (by intro c e; cases e) ih
  · rename_i ih; exact itemsOK_cons _ _ (by intro c e; cases e; exact escChar_lt _) ih
  · rename_i ih; exact itemsOK_cons _ _ (by intro c e; cases e) ih

theorem itemsOK_tail {it : Item} {tl : List Item} (h : ItemsOK (it :: tl)) : ItemsOK tl :=
  fun x hx => h x (by simp [hx])

/-- a high surrogate waiting for its partner is in the range the invariant asks for -/
theorem surr_lo {r : Nat} (h : (decide (0xD800 ≤ r) && decide (r < 0xDC00)) = true) :
    ∀ x, some r = some x → 0xD800 ≤ x ∧ x < 0xDC00 := by
  rintro x ⟨⟩
  simpa using h

theorem decodeItems_scalar : ∀ (items : List Item) (hi : Option Nat) (u : List UInt8), ItemsOK items →
    (∀ h, hi = some h → 0xD800 ≤ h ∧ h < 0xDC00) → AllScalar (decodeItems hi u items)
  | [], hi, u, _, _ => allScalar_append (allScalar_fffd _) (allScalar_fffd _)
  | .chr c :: tl, hi, u, ok, _ =>
    allScalar_append (allScalar_append (allScalar_fffd _) (allScalar_fffd _))
      (allScalar_cons (isScalar_lt _ (by have := ok (.chr c) (by simp) c rfl; omega))
        (decodeItems_scalar tl none [] (itemsOK_tail ok) nofun))
  | .u16 r :: tl, hi, u, ok, hh => by
    have rec0 := decodeItems_scalar tl none [] (itemsOK_tail ok) nofun
    have recS := fun h => decodeItems_scalar tl (some r) [] (itemsOK_tail ok) (surr_lo h)
    have ffd : isScalar 0xFFFD = true := by decide
    refine allScalar_append (allScalar_fffd _) ?_
    cases hi with
    | none =>
      exact allScalar_ite recS fun _ => allScalar_ite (fun _ => allScalar_cons ffd rec0) fun _ => allScalar_cons (scalarOr_scalar _) rec0
    | some h =>
      refine allScalar_ite (fun hr => allScalar_cons ?_ rec0) fun _ =>
        allScalar_ite (fun hr => allScalar_cons ffd (recS hr)) fun _ => allScalar_cons ffd (allScalar_cons (scalarOr_scalar _) rec0)
      -- a surrogate pair: both halves are in range
      have hb := hh h rfl
      simp only [Bool.and_eq_true, decide_eq_true_eq] at hr
      simp only [isScalar, Bool.or_eq_true, Bool.and_eq_true, decide_eq_true_eq]
      omega
  | .raw b :: tl, hi, u, ok, _ => by
    have rec0 := decodeItems_scalar tl none [] (itemsOK_tail ok) nofun
    have recU := fun u' => decodeItems_scalar tl none u' (itemsOK_tail ok) nofun
    have start : AllScalar ((startByte b).1 ++ decodeItems none (startByte b).2 tl) :=
      allScalar_append (startByte_scalar b) (recU _)
    have ffd : isScalar 0xFFFD = true := by decide
    have so := fun n => allScalar_cons (scalarOr_scalar n) rec0
    have bad := fun n => allScalar_append (allScalar_fffd n) start
    refine allScalar_append (allScalar_fffd _) ?_
    split
    · exact start
    · exact allScalar_ite
        (fun h0 => allScalar_ite (fun _ => allScalar_cons (isScalar_lt _ (by have := b.toNat_lt; omega)) rec0)
          fun _ => allScalar_cons ffd start)
        fun _ => allScalar_ite (fun _ => recU _) fun _ => allScalar_cons ffd start
    · exact allScalar_ite (fun _ => allScalar_ite (fun _ => so _) fun _ => recU _) fun _ => bad 2
    · exact allScalar_ite (fun _ => so _) fun _ => bad 3
    · exact bad _

theorem unquote_scalar (bs : Bytes) : ∀ c ∈ unquote bs, isScalar c = true :=
  decodeItems_scalar (itemize bs) none [] (itemize_ok bs) (by intro h e; cases e)

mutual
/-- strings and keys are scalar values (numbers unconstrained) -/
def SW : JVal → Prop
  | .null => True
  | .bool _ => True
  | .num _ => True
  | .str s => ∀ c ∈ s, isScalar c = true
  | .arr es => SWL es
  | .obj ms => SWM ms
def SWL : List JVal → Prop
  | [] => True
  | v :: tl => SW v ∧ SWL tl
def SWM : List Member → Prop
  | [] => True
  | (k, v) :: tl => (∀ c ∈ k, isScalar c = true) ∧ SW v ∧ SWM tl
end

theorem SWL_iff (l : List JVal) : SWL l ↔ ∀ v ∈ l, SW v := by
  induction l with
  | nil => simp [SWL]
  | cons v tl ih => simp [SWL, ih]

theorem SWM_iff (l : List Member) : SWM l ↔ ∀ p ∈ l, (∀ c ∈ p.1, isScalar c = true) ∧ SW p.2 := by
  induction l with
  | nil => simp [SWM]
  | cons p tl ih =>
    obtain ⟨k, v⟩ := p
    simp only [SWM, ih, List.mem_cons, forall_eq_or_imp]
    exact and_assoc.symm

def FrameOK : Frame → Prop
  | .arr done => SWL done
  | .objKey done key => SWM done ∧ ∀ k, key = some k → ∀ c ∈ k, isScalar c = true
  | .objVal done key => SWM done ∧ ∀ c ∈ key, isScalar c = true
  | .objEnd done => SWM done

def StOK (s : St) : Prop := (∀ f ∈ s.stack, FrameOK f) ∧ (∀ v, s.top = some v → SW v) ∧
  (∀ rest v, s.mode = .word rest v → SW v)

theorem stOK_mode (s : St) (m : Mode) (h : StOK s) (hm : ∀ rest v, m = .word rest v → SW v) : StOK { s with mode := m } :=
  ⟨h.1, h.2.1, hm⟩

theorem stOK_fail (s : St) (h : StOK s) : StOK s.fail :=
  stOK_mode s .error h (by intro r v e; cases e)

theorem notWord_of {m : Mode} (h : ∀ rest v, m ≠ .word rest v) : ∀ rest v, m = .word rest v → SW v :=
  fun r v e => absurd e (h r v)

/-- the invariant does not depend on which way a test goes -/
theorem stOK_ite {p : Prop} [Decidable p] {a b : St} (ha : StOK a) (hb : StOK b) : StOK (if p then a else b) := by
  split
  · exact ha
  · exact hb

theorem frames_replace {s : St} (h : StOK s) {f f' : Frame} {rest : List Frame} (hs : s.stack = f :: rest)
    (hf : FrameOK f') : ∀ g ∈ f' :: rest, FrameOK g := by
  intro g hg
  rcases List.mem_cons.mp hg with rfl | hg
  · exact hf
  · exact h.1 g (by rw [hs]; exact List.mem_cons_of_mem _ hg)

theorem deliver_ok (v : JVal) (s : St) (hv : SW v) (h : StOK s) : StOK (deliver v s) := by
  unfold deliver
  split
  · exact ⟨h.1, by intro w e; simp only [Option.some.injEq] at e; subst e; exact hv, h.2.2⟩
  · rename_i done rest hs
    exact ⟨frames_replace h hs ⟨hv, h.1 (.arr done) (by rw [hs]; simp)⟩, h.2.1, h.2.2⟩
  · rename_i done key rest hs
    split
    · rename_i k
      refine ⟨frames_replace h hs ⟨(h.1 (.objKey done key) (by rw [hs]; simp)).1, ?_⟩, h.2.1, h.2.2⟩
      intro k' e
      cases e
      exact hv
    · exact stOK_fail s h
  · rename_i done k rest hs
    have := h.1 (.objVal done k) (by rw [hs]; simp)
    exact ⟨frames_replace h hs ⟨this.2, hv, this.1⟩, h.2.1, h.2.2⟩
  · exact stOK_fail s h

theorem pop_ok (v : JVal) (s : St) (hv : SW v) (h : StOK s) : StOK (pop v s) := by
  unfold pop
  split
  · exact stOK_fail s h
  · rename_i f rest hs
    have h' : StOK { s with stack := rest } :=
      ⟨fun g hg => h.1 g (by rw [hs]; simp [hg]), h.2.1, h.2.2⟩
    have hd := deliver_ok v _ hv h'
    exact stOK_ite (stOK_mode _ _ hd nofun) (stOK_mode _ _ hd nofun)

theorem endTopStep_ok (s : St) (c : UInt8) (h : StOK s) : StOK (endTopStep s c) := by
  unfold endTopStep
  split
  · exact h
  · exact stOK_fail s h

theorem SWL_reverse (l : List JVal) (h : SWL l) : SWL l.reverse := by
  rw [SWL_iff] at h ⊢
  intro v hv; exact h v (List.mem_reverse.mp hv)

theorem SWM_reverse (l : List Member) (h : SWM l) : SWM l.reverse := by
  rw [SWM_iff] at h ⊢
  intro v hv; exact h v (List.mem_reverse.mp hv)

theorem endValue_ok (s : St) (c : UInt8) (h : StOK s) : StOK (endValue s c) := by
  have fail := stOK_fail s h
  unfold endValue
  split
  · exact endTopStep_ok _ c ⟨h.1, h.2.1, nofun⟩
  · rename_i f rest hs
    have hf := h.1 f (by rw [hs]; simp)
    refine stOK_ite ⟨h.1, h.2.1, nofun⟩ ?_
    split
    · rename_i done k
      exact stOK_ite ⟨frames_replace h hs ⟨hf.1, hf.2 k rfl⟩, h.2.1, nofun⟩ fail
    · exact fail
    · exact fail
    · rename_i done
      exact stOK_ite ⟨frames_replace h hs ⟨hf, nofun⟩, h.2.1, nofun⟩ (stOK_ite (pop_ok _ s (SWM_reverse _ hf) h) fail)
    · rename_i done
      exact stOK_ite ⟨h.1, h.2.1, nofun⟩ (stOK_ite (pop_ok _ s (SWL_reverse _ hf) h) fail)

theorem push_ok (f : Frame) (m : Mode) (s : St) (hf : FrameOK f) (hm : ∀ rest v, m ≠ .word rest v) (h : StOK s) :
    StOK (push f m s) := by
  unfold push
  split
  · refine ⟨?_, h.2.1, notWord_of hm⟩
    intro g hg
    simp only [List.mem_cons] at hg
    rcases hg with rfl | hg
    · exact hf
    · exact h.1 g hg
  · exact stOK_fail s h

theorem beginValue_ok (s : St) (c : UInt8) (h : StOK s) : StOK (beginValue s c) := by
  have plain : ∀ (m : Mode) (l : Bytes), (∀ rest v, m ≠ .word rest v) → StOK { s with mode := m, lit := l } :=
    fun m l hm => ⟨h.1, h.2.1, notWord_of hm⟩
  have word : ∀ (w : Bytes) (v : JVal), SW v → StOK { s with mode := .word w v } := by
    intro w v hv
    refine ⟨h.1, h.2.1, ?_⟩
    intro r v' e
    cases e
    exact hv
  unfold beginValue
  refine stOK_ite h (stOK_ite (push_ok _ _ s ⟨trivial, nofun⟩ nofun h) (stOK_ite (push_ok _ _ s trivial nofun h) ?_))
  refine stOK_ite (plain _ _ nofun) (stOK_ite (plain _ _ nofun) (stOK_ite (plain _ _ nofun) ?_))
  refine stOK_ite (word _ _ trivial) (stOK_ite (word _ _ trivial) (stOK_ite (word _ _ trivial) ?_))
  exact stOK_ite (plain _ _ nofun) (stOK_fail s h)

theorem beginString_ok (s : St) (c : UInt8) (h : StOK s) : StOK (beginString s c) :=
  stOK_ite h (stOK_ite ⟨h.1, h.2.1, nofun⟩ (stOK_fail s h))

theorem more_ok (m : Mode) (c : UInt8) (s : St) (hm : ∀ rest v, m ≠ .word rest v) (h : StOK s) : StOK (more m c s) :=
  ⟨h.1, h.2.1, notWord_of hm⟩

theorem endNumber_ok (s : St) (c : UInt8) (h : StOK s) : StOK (endNumber s c) :=
  endValue_ok _ c (deliver_ok _ _ trivial ⟨h.1, h.2.1, h.2.2⟩)

theorem step_ok (s : St) (c : UInt8) (h : StOK s) : StOK (step s c) := by
  have more : ∀ m, (∀ rest v, m ≠ .word rest v) → StOK (more m c s) := fun m hm => more_ok m c s hm h
  have fail := stOK_fail s h
  have num := endNumber_ok s c h
  unfold step
  -- one bullet per constructor of `Mode`, in declaration order
  split
  · exact h
  · exact stOK_ite h (stOK_ite (endValue_ok s c h) (beginValue_ok _ c ⟨h.1, h.2.1, nofun⟩))
  · exact beginValue_ok s c h
  · refine stOK_ite h (stOK_ite ?_ (beginString_ok _ c ⟨h.1, h.2.1, nofun⟩))
    split
    · rename_i done rest hs
      exact endValue_ok _ c ⟨frames_replace h hs (h.1 (.objKey done none) (by rw [hs]; simp)).1, h.2.1, h.2.2⟩
    · exact fail
  · exact beginString_ok s c h
  · exact endValue_ok s c h
  · exact endTopStep_ok s c h
  · exact stOK_ite (deliver_ok _ _ (unquote_scalar _) ⟨h.1, h.2.1, nofun⟩)
      (stOK_ite (more _ nofun) (stOK_ite fail (more _ nofun)))
  · exact stOK_ite (more _ nofun) (stOK_ite (more _ nofun) fail)
  · exact stOK_ite (stOK_ite (more _ nofun) (more _ nofun)) fail
  · exact stOK_ite (more _ nofun) (stOK_ite (more _ nofun) fail)
  · exact stOK_ite (more _ nofun) (stOK_ite (more _ nofun) (stOK_ite (more _ nofun) num))
  · exact stOK_ite (more _ nofun) (stOK_ite (more _ nofun) num)
  · exact stOK_ite (more _ nofun) fail
  · exact stOK_ite (more _ nofun) (stOK_ite (more _ nofun) num)
  · exact stOK_ite (more _ nofun) (stOK_ite (more _ nofun) fail)
  · exact stOK_ite (more _ nofun) fail
  · exact stOK_ite (more _ nofun) num
  · rename_i rest v hm
    have hv : SW v := h.2.2 rest v hm
    split
    · exact fail
    · exact stOK_ite (deliver_ok v _ hv ⟨h.1, h.2.1, nofun⟩) fail
    · refine stOK_ite ⟨h.1, h.2.1, ?_⟩ fail
      intro r w e
      cases e
      exact hv

theorem foldl_step_ok (bs : Bytes) (s : St) (h : StOK s) : StOK (bs.foldl step s) := by
  induction bs generalizing s with
  | nil => exact h
  | cons b _ ih => exact ih _ (step_ok s b h)

theorem scan_scalar (bs : Bytes) (v : JVal) (h : scan bs = .ok v) : SW v := by
  unfold scan at h
  simp only at h
  have h0 : StOK St.init := ⟨(by intro f hf; cases hf), (by intro v e; cases e), (by intro r v e; cases e)⟩
  have h1 := foldl_step_ok bs _ h0
  have h2 : StOK (if (bs.foldl step St.init).mode.isError || (bs.foldl step St.init).endTop then bs.foldl step St.init
      else step (bs.foldl step St.init) 0x20) := by
    split
    · exact h1
    · exact step_ok _ _ h1
  generalize (if (bs.foldl step St.init).mode.isError || (bs.foldl step St.init).endTop then bs.foldl step St.init
      else step (bs.foldl step St.init) 0x20) = s at h h2
  unfold finish at h
  split at h
  · cases h
  · split at h
    · split at h
      · rename_i w hw
        simp only [Res.ok.injEq] at h; subst h
        exact h2.2.1 _ hw
      · cases h
    · cases h

end Relic.Json
