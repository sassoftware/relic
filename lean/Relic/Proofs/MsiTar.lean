/-
  Relic.Proofs.MsiTar — the tar path (`MsiToTar` then `DigestMsiTar`) feeds the hash what `DigestMSI` feeds it.
-/
import Relic.Proofs.MsiTree
namespace Relic.MsiDigest

variable (H : Bytes → Bytes) (ext : Bool)

theorem digestMsiTar_append (a b : List Member) :
    digestMsiTar H ext (a ++ b) = digestMsiTar H ext a ++ digestMsiTar H ext b := by
  simp [digestMsiTar]

/-- how a child's contribution on the tar path relates to its contribution on the direct path: in the root storage a
    signature entry contributes nothing on either side -/
def PayRel (isRoot : Bool) (m : Meta) (rh : Res Bytes) (rt : Res (List Member)) : Prop :=
  if (isRoot && isSig m) = true then ∃ ms, rt = .ok ms ∧ digestMsiTar H ext ms = []
  else RelRes (fun b ms => digestMsiTar H ext ms = b) rh rt

def ItemRel (isRoot : Bool) (a : Item Bytes) (b : Item (List Member)) : Prop :=
  a.1 = b.1 ∧ PayRel H ext isRoot a.1 a.2 b.2

theorem digestMsiTar_single {name : List Nat} (c : Bytes) (h : name ≠ exmetaName) :
    digestMsiTar H ext [(name, c)] = if name = sigName ∨ name = sigExName then [] else c := by
  simp [digestMsiTar, tarContribution, h]

theorem digestMsiTar_plain {name : List Nat} (c : Bytes)
    (h : name ≠ exmetaName ∧ name ≠ sigName ∧ name ≠ sigExName) : digestMsiTar H ext [(name, c)] = c := by
  rw [digestMsiTar_single H ext c h.1, if_neg (not_or.mpr h.2)]

theorem catRes_rel (isRoot : Bool) : ∀ (s1 : List (Item Bytes)) (s2 : List (Item (List Member))),
    All2 (ItemRel H ext isRoot) s1 s2 →
    RelRes (fun b ms => digestMsiTar H ext ms = b)
      (catRes ((s1.filter (fun it => !(isRoot && isSig it.1))).map (·.2))) (catRes (s2.map (·.2))) := by
  intro s1 s2 h
  induction h with
  | nil => exact (rfl : digestMsiTar H ext [] = [])
  | @cons a b l1 l2 hab _ ih =>
    obtain ⟨-, hp⟩ := hab
    unfold PayRel at hp
    rw [List.filter_cons, List.map_cons, catRes]
    by_cases hs : (isRoot && isSig a.1) = true
    · rw [if_pos hs] at hp
      obtain ⟨ms, hms, hd⟩ := hp
      rw [hs, hms, Bool.not_true, if_neg Bool.false_ne_true, Res.bind_ok']
      refine RelRes.bind_right ih (fun x y hxy => ?_)
      show digestMsiTar H ext (ms ++ y) = x
      rw [digestMsiTar_append, hd, hxy]
      rfl
    · rw [if_neg hs] at hp
      rw [Bool.not_eq_true] at hs
      rw [hs, Bool.not_false, if_pos rfl, List.map_cons, catRes]
      refine RelRes.bind hp (fun x y hxy => RelRes.bind ih (fun x' y' hxy' => ?_))
      show digestMsiTar H ext (y ++ y') = x ++ x'
      rw [digestMsiTar_append, hxy, hxy']

theorem plain_of (P : List Nat → Prop) {name : List Nat} (hn : P name)
    (h : ¬ P exmetaName ∧ ¬ P sigName ∧ ¬ P sigExName) : name ≠ exmetaName ∧ name ≠ sigName ∧ name ≠ sigExName :=
  ⟨fun e => h.1 (e ▸ hn), fun e => h.2.1 (e ▸ hn), fun e => h.2.2 (e ▸ hn)⟩

/-- the name of a storage's CLSID member ends in 'd' -/
theorem uid_name_plain (path : List Nat) :
    path ++ storageUidName ≠ exmetaName ∧ path ++ storageUidName ≠ sigName ∧ path ++ storageUidName ≠ sigExName :=
  plain_of (fun X => X.reverse.head? = some 100) (by simp [storageUidName]) (by decide)

theorem tarDirOf_rel (isRoot : Bool) (path : List Nat) (clsid : Bytes) (l1 : List (Item Bytes))
    (l2 : List (Item (List Member))) (h : All2 (ItemRel H ext isRoot) l1 l2) :
    RelRes (fun b ms => digestMsiTar H ext ms = b) (hashDirOf isRoot clsid l1) (tarDirOf path clsid l2) := by
  have hs := sortRes_rel (ItemRel H ext isRoot) (fun a b : Item Bytes => less a.1 b.1)
    (fun a b : Item (List Member) => less a.1 b.1)
    (fun a1 a2 b1 b2 ha hb => by rw [ha.1, hb.1]) l1 l2 h
  refine RelRes.bind hs (fun s1 s2 hs => RelRes.bind (catRes_rel H ext isRoot s1 s2 hs) (fun b ms hb => ?_))
  show digestMsiTar H ext (ms ++ [(path ++ storageUidName, clsid)]) = b ++ clsid
  rw [digestMsiTar_append, hb, digestMsiTar_plain H ext clsid (uid_name_plain path)]

/-- a tar name below the root holds a '/' and so is none of the three names `DigestMsiTar` treats specially -/
theorem slash_name_plain (path x : List Nat) (hp : 47 ∈ path) :
    path ++ x ≠ exmetaName ∧ path ++ x ≠ sigName ∧ path ++ x ≠ sigExName :=
  plain_of (47 ∈ ·) (List.mem_append_left _ hp) (by decide)

mutual
/-- below the root the two paths agree on every entry, whatever its name -/
theorem tarItem_rel_nested : ∀ (path : List Nat) (n : Node), 47 ∈ path →
    ItemRel H ext false (hashItem n) (tarItem path n)
  | path, .mk m c kids, hp => by
    rw [hashItem, tarItem]
    refine ⟨rfl, ?_⟩
    unfold PayRel
    simp only [Bool.false_and, Bool.false_eq_true, if_false]
    by_cases h2 : m.typ = typStream
    · simp only [h2, if_true, RelRes]
      exact digestMsiTar_plain H ext c (slash_name_plain path (msiDecodeName (goName m)) hp)
    · by_cases h1 : m.typ = typStorage
      · simp only [h1, if_true]
        exact tarDirOf_rel H ext false _ m.clsid _ _
          (tarItems_rel_nested _ kids (List.mem_append_right _ (List.mem_singleton.mpr rfl)))
      · simp only [h2, h1, if_false, RelRes]
        rfl
theorem tarItems_rel_nested : ∀ (path : List Nat) (ks : List Node), 47 ∈ path →
    All2 (ItemRel H ext false) (hashItems ks) (tarItems path ks)
  | path, [], _ => by rw [hashItems, tarItems]; exact All2.nil
  | path, n :: r, hp => by
    rw [hashItems, tarItems]
    exact All2.cons (tarItem_rel_nested path n hp) (tarItems_rel_nested path r hp)
end

/-- the test `checkMsiTarNames` makes on one entry of the root storage -/
def rootOkB (n : Node) : Bool :=
  if n.meta.typ = typStream then
    !(decide (msiDecodeName (goName n.meta) = exmetaName) ||
      (decide (msiDecodeName (goName n.meta) = sigName ∨ msiDecodeName (goName n.meta) = sigExName) &&
        decide (msiDecodeName (goName n.meta) ≠ goName n.meta)))
  else if n.meta.typ = typStorage then !isSig n.meta
  else true

theorem tarRootOkB_all (ks : List Node) : tarRootOkB ks = ks.all rootOkB := rfl

theorem msiDecodeName_sig : msiDecodeName sigName = sigName := by decide
theorem msiDecodeName_sigEx : msiDecodeName sigExName = sigExName := by decide

theorem rootOkB_stream {m : Meta} {c : Bytes} {kids : List Node} (ht : m.typ = typStream)
    (h : rootOkB (.mk m c kids) = true) :
    msiDecodeName (goName m) ≠ exmetaName ∧
    ((msiDecodeName (goName m) = sigName ∨ msiDecodeName (goName m) = sigExName) ↔ isSig m = true) := by
  unfold rootOkB at h
  simp only [Node.meta, ht, if_true, Bool.not_eq_true', Bool.or_eq_false_iff, Bool.and_eq_false_iff] at h
  refine ⟨of_decide_eq_false h.1, fun hh => ?_, fun hs => ?_⟩
  · rcases h.2 with h' | h'
    · exact absurd hh (of_decide_eq_false h')
    · rw [Classical.not_not.mp (of_decide_eq_false h')] at hh
      unfold isSig
      simpa using hh
  · unfold isSig at hs
    simp only [Bool.or_eq_true, decide_eq_true_eq] at hs
    rcases hs with e | e
    · left; rw [e]; exact msiDecodeName_sig
    · right; rw [e]; exact msiDecodeName_sigEx

/-- in the root storage the two paths agree on every entry that `checkMsiTarNames` lets through -/
theorem tarItem_rel_root : ∀ (n : Node), rootOkB n = true → ItemRel H ext true (hashItem n) (tarItem [] n)
  | .mk m c kids, h => by
    rw [hashItem, tarItem]
    refine ⟨rfl, ?_⟩
    unfold PayRel
    simp only [Bool.true_and, List.nil_append]
    by_cases h2 : m.typ = typStream
    · obtain ⟨g1, g2⟩ := rootOkB_stream h2 h
      simp only [h2, if_true]
      by_cases hs : isSig m = true
      · rw [if_pos hs]
        exact ⟨_, rfl, by rw [digestMsiTar_single H ext c g1, if_pos (g2.mpr hs)]⟩
      · rw [if_neg hs]
        show digestMsiTar H ext [(msiDecodeName (goName m), c)] = c
        rw [digestMsiTar_single H ext c g1, if_neg (fun hh => hs (g2.mp hh))]
    · unfold rootOkB at h
      simp only [Node.meta] at h
      by_cases h1 : m.typ = typStorage
      · have hne : ¬ (typStorage = typStream) := by decide
        simp only [h1, hne, if_true, if_false, Bool.not_eq_true'] at h ⊢
        simp only [h, Bool.false_eq_true, if_false]
        exact tarDirOf_rel H ext false _ m.clsid _ _
          (tarItems_rel_nested H ext _ kids (List.mem_append_right _ (List.mem_singleton.mpr rfl)))
      · simp only [h2, h1, if_false]
        by_cases hs : isSig m = true
        · simp only [hs, if_true]
          exact ⟨[], rfl, rfl⟩
        · have hs' : isSig m = false := by simpa using hs
          simp only [hs', Bool.false_eq_true, if_false, RelRes]
          rfl

theorem tarItems_rel_root : ∀ (ks : List Node), ks.all rootOkB = true →
    All2 (ItemRel H ext true) (hashItems ks) (tarItems [] ks)
  | [], _ => by rw [hashItems, tarItems]; exact All2.nil
  | n :: r, h => by
    simp only [List.all_cons, Bool.and_eq_true] at h
    rw [hashItems, tarItems]
    exact All2.cons (tarItem_rel_root H ext n h.1) (tarItems_rel_root r h.2)

theorem msiToTar_ok_rootOk (root : Node) (ms : List Member) (ht : msiToTar root = .ok ms) :
    tarRootOkB root.kids = true := by
  unfold msiToTar at ht
  cases h : tarRootOkB root.kids with
  | true => rfl
  | false => rw [h] at ht; simp at ht

theorem msiToTar_digest (root : Node) (ms : List Member)
    (ht : msiToTar root = .ok ms) : digestMSI H root ext = .ok (digestMsiTar H ext ms) := by
  have hsafe := msiToTar_ok_rootOk root ms ht
  unfold msiToTar at ht
  rw [hsafe, Bool.not_true, if_neg Bool.false_ne_true] at ht
  obtain ⟨pre, hp, ht⟩ := Res.bind_eq_ok.mp ht
  obtain ⟨body, hb, ht⟩ := Res.bind_eq_ok.mp ht
  cases ht
  have hr := tarDirOf_rel H ext true [] root.meta.clsid _ _ (tarItems_rel_root H ext root.kids hsafe)
  rw [hb] at hr
  obtain ⟨main, hm, hr⟩ := hr.ok_right
  unfold digestMSI hashMsiDir
  rw [hm, hp, ← hr]
  cases ext <;> simp [digestMsiTar, tarContribution]

theorem msiToTar_total (d : Node) (hok : Node.okAt true d) (hr : d.meta.typ = typRoot)
    (hsafe : tarRootOkB d.kids = true) :
    ∃ ms, msiToTar d = .ok ms ∧
      ∀ (H : Bytes → Bytes) (ext : Bool), digestMsiTar H ext ms = Spec.MsiDigest.digestInput H d ext := by
  have hp := prehashMsiDir_eq d hok hr
  have hh := hashMsiDir_eq d hok
  -- only that `tarDirOf` succeeds is needed here: the relation is used with an arbitrary hash (the identity) and flag
  have hrel := tarDirOf_rel (fun x => x) false true [] d.meta.clsid _ _
    (tarItems_rel_root (fun x => x) false d.kids (by rw [← tarRootOkB_all]; exact hsafe))
  unfold hashMsiDir at hh
  rw [hh] at hrel
  obtain ⟨body, hb, -⟩ := hrel.ok_left
  have ht : msiToTar d = .ok ((exmetaName, Spec.MsiDigest.prehashInput d) :: body) := by
    unfold msiToTar; simp only [hsafe, Bool.not_true, Bool.false_eq_true, if_false]; rw [hp, hb]; rfl
  refine ⟨_, ht, ?_⟩
  intro H ext
  have h1 := msiToTar_digest H ext d _ ht
  have h2 : digestMSI H d ext = .ok (Spec.MsiDigest.digestInput H d ext) := by
    unfold digestMSI Spec.MsiDigest.digestInput
    rw [hashMsiDir_eq d hok, hp]
    cases ext <;> rfl
  rw [h2] at h1
  injection h1 with h1
  exact h1.symm

end Relic.MsiDigest
