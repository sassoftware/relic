/-
  The result type `Relic.Res` and conditionals, as every format's proofs meet them.

  The modelled parsers are chains of checks `if c then .err e else …` (few of them panic sites) threaded by `Res.bind`.
  The guard lemmas say that a guard has an outcome other than its own exactly when the check passes and the rest has that
  outcome: rewriting with them turns "`parser f` = outcome" into the conjunction of the checks passed and what remains of
  the parser.  `Crash` names the two abnormal outcomes, so that one statement `f x = Res.crash c ↔ …` says when `f` panics,
  where, and that it does not diverge.  `Res.Errs E r`: `r` is a value or an error of class `E`; one walk through a function
  with its closure lemmas gives panic-freedom, termination and the error classes at once.  Last: two devices for closed
  test vectors and a fold lemma for histories of re-signing.

  For a model written as a `do` block the `>>=` / `pure` spellings of `bind_ok` stand in `Proofs/MsiSort`
  (`Relic.MsiDigest.Res.bind_ok'`, `bind_err'`, `bind_panic'`, `bind_diverge'`, `Res.pure_eq`; simp lemmas where
  `Relic.MsiDigest` is open); a pass-on `match r with | .ok a => … | .err e => .err e | …` is walked by `Errs.cases r hr`,
  then `dsimp only` (the goal is now that `match` on `.ok a`, which a `split` would take apart), then `split` on the rest.
-/
import Relic.Base.Bytes
namespace Relic

theorem ite_eq_iff {α} {c : Prop} [Decidable c] {x y z : α} :
    (if c then x else y) = z ↔ (c ∧ x = z) ∨ (¬ c ∧ y = z) := by
  split <;> simp [*]

/-- The two outcomes that are neither a value nor an error.  One statement `f x = Res.crash c ↔ …` says when `f`
    panics, at which site, and that it never diverges: the theorems about panics (of the guarded and of the
    unguarded code) and about divergence are its instances `c = .panic s` and `c = .diverge`. -/
inductive Crash where
  | panic (site : String)
  | diverge
  deriving DecidableEq

namespace Res

theorem bind_ok {α β} (a : α) (f : α → Res β) : (Res.ok a).bind f = f a := rfl

theorem bind_eq_ok {α β} {r : Res α} {f : α → Res β} {b : β} : r.bind f = .ok b ↔ ∃ a, r = .ok a ∧ f a = .ok b := by
  cases r <;> simp [Res.bind]

theorem bind_eq_panic {α β} {r : Res α} {f : α → Res β} {s : String} :
    r.bind f = .panic s ↔ r = .panic s ∨ ∃ a, r = .ok a ∧ f a = .panic s := by
  cases r <;> simp [Res.bind]

theorem bind_eq_diverge {α β} {r : Res α} {f : α → Res β} :
    r.bind f = .diverge ↔ r = .diverge ∨ ∃ a, r = .ok a ∧ f a = .diverge := by
  cases r <;> simp [Res.bind]

theorem bind_congr {α β} {r : Res α} {f g : α → Res β} (h : ∀ a, r = .ok a → f a = g a) : r.bind f = r.bind g := by
  cases r <;> first | rfl | exact h _ rfl

def crash {α} : Crash → Res α
  | .panic s => .panic s
  | .diverge => .diverge

@[simp] theorem crash_panic {α} (s : String) : (crash (.panic s) : Res α) = .panic s := rfl
@[simp] theorem crash_diverge {α} : (crash .diverge : Res α) = .diverge := rfl
@[simp] theorem ok_eq_crash {α} (a : α) (c : Crash) : Res.ok a = crash c ↔ False := by cases c <;> simp [crash]
@[simp] theorem err_eq_crash {α} (e : String) (c : Crash) : (Res.err e : Res α) = crash c ↔ False := by
  cases c <;> simp [crash]
@[simp] theorem crash_eq_ok {α} (a : α) (c : Crash) : crash c = Res.ok a ↔ False := by cases c <;> simp [crash]
@[simp] theorem crash_eq_err {α} (e : String) (c : Crash) : crash c = (Res.err e : Res α) ↔ False := by
  cases c <;> simp [crash]
@[simp] theorem panic_eq_crash {α} (s : String) (c : Crash) : (Res.panic s : Res α) = crash c ↔ c = .panic s := by
  cases c <;> simp [crash, eq_comm]
@[simp] theorem diverge_eq_crash {α} (c : Crash) : (Res.diverge : Res α) = crash c ↔ c = .diverge := by
  cases c <;> simp [crash]

theorem bind_eq_crash {α β} {r : Res α} {f : α → Res β} {c : Crash} :
    r.bind f = crash c ↔ r = crash c ∨ ∃ a, r = .ok a ∧ f a = crash c := by
  cases c with
  | panic s => exact bind_eq_panic
  | diverge => exact bind_eq_diverge

/-- `ite_eq_iff` at `crash c`: as a `simp` lemma it fires on goals `… = crash c` only -/
theorem ite_eq_crash {α} {p : Prop} [Decidable p] {x y : Res α} {c : Crash} :
    (if p then x else y) = crash c ↔ (p ∧ x = crash c) ∨ (¬ p ∧ y = crash c) := ite_eq_iff

/-! A guard `if c then <own outcome> else x` has another outcome `r` iff the check passes and `x = r`.  Per guard: `_eq_ok`,
`_eq_crash` (whose instances `k = .panic p`, `k = .diverge` are the statements about panics and about divergence);
`errGuard_eq_panic` is that instance stated on its own, because a literal `.panic p` in a goal does not unify with
`crash ?k`. -/

theorem errGuard_eq_ok {α} {c : Prop} [Decidable c] {e : String} {x : Res α} {a : α} :
    (if c then Res.err e else x) = .ok a ↔ ¬ c ∧ x = .ok a := by
  by_cases h : c <;> simp [h]

theorem errGuard_eq_panic {α} {c : Prop} [Decidable c] {e p : String} {x : Res α} :
    (if c then Res.err e else x) = .panic p ↔ ¬ c ∧ x = .panic p := by
  by_cases h : c <;> simp [h]

theorem errGuard_eq_crash {α} {c : Prop} [Decidable c] {e : String} {x : Res α} {k : Crash} :
    (if c then Res.err e else x) = crash k ↔ ¬ c ∧ x = crash k := by
  by_cases h : c <;> simp [h]

theorem panicGuard_eq_ok {α} {c : Prop} [Decidable c] {q : String} {x : Res α} {a : α} :
    (if c then Res.panic q else x) = .ok a ↔ ¬ c ∧ x = .ok a := by
  by_cases h : c <;> simp [h]

/-- a guard that panics crashes also at its own site -/
theorem panicGuard_eq_crash {α} {c : Prop} [Decidable c] {q : String} {x : Res α} {k : Crash} :
    (if c then Res.panic q else x) = crash k ↔ c ∧ k = .panic q ∨ ¬ c ∧ x = crash k := by
  by_cases h : c <;> simp [h]

theorem okGuard_eq_crash {α} {c : Prop} [Decidable c] {a : α} {x : Res α} {k : Crash} :
    (if c then Res.ok a else x) = crash k ↔ ¬ c ∧ x = crash k := by
  by_cases h : c <;> simp [h]

/-- `r` is a value, or an error whose text satisfies `E`: no panic, no divergence.  One walk through a function
    that shows this says both that it cannot crash and which errors it can answer. -/
def Errs {α} (E : String → Prop) : Res α → Prop
  | .ok _ => True
  | .err e => E e
  | _ => False

namespace Errs
variable {α β : Type} {E E' : String → Prop}

theorem mono {r : Res α} (h : Errs E r) (hE : ∀ e, E e → E' e) : Errs E' r := by
  cases r with
  | ok a => trivial
  | err e => exact hE e h
  | panic s => exact h
  | diverge => exact h

@[elab_as_elim] theorem cases {motive : Res α → Prop} (r : Res α) (h : Errs E r)
    (ok : ∀ a, motive (.ok a)) (err : ∀ e, E e → motive (.err e)) : motive r := by
  cases r with
  | ok a => exact ok a
  | err e => exact err e h
  | panic s => exact h.elim
  | diverge => exact h.elim

theorem bind {r : Res α} {f : α → Res β} (hr : Errs E r) (hf : ∀ a, r = .ok a → Errs E (f a)) : Errs E (r.bind f) := by
  cases r with
  | ok a => exact hf a rfl
  | err e => exact hr
  | panic s => exact hr
  | diverge => exact hr

theorem ite {p : Prop} [Decidable p] {a b : Res α} (ha : Errs E a) (hb : Errs E b) : Errs E (if p then a else b) := by
  split
  · exact ha
  · exact hb

theorem ok_or_err {r : Res α} (h : Errs E r) : (∃ a, r = .ok a) ∨ ∃ e, r = .err e ∧ E e :=
  cases r h (fun a => Or.inl ⟨a, rfl⟩) (fun e he => Or.inr ⟨e, rfl, he⟩)

theorem value_or_err {r : Res α} (h : Errs E r) : (∃ a, r = .ok a) ∨ ∃ e, r = .err e :=
  h.ok_or_err.imp_right fun ⟨e, he, _⟩ => ⟨e, he⟩

theorem ne_panic {r : Res α} (h : Errs E r) (s : String) : r ≠ .panic s := by
  rintro rfl
  exact h

theorem ne_diverge {r : Res α} (h : Errs E r) : r ≠ .diverge := by
  rintro rfl
  exact h

end Errs

/-- the result is `ok` or `err` (no panic site, no divergence), as a Boolean: the form in which the statements about
    `FormatPkixName` say it; the proofs use `Res.Errs` and cross over by `Errs.safe` -/
def _root_.Relic.Ident.safe {α} : Res α → Bool
  | .ok _ => true
  | .err _ => true
  | _ => false

namespace Errs
open Relic.Ident

theorem safe_iff {α} {r : Res α} : safe r = true ↔ Errs (fun _ => True) r := by
  cases r <;> simp [Ident.safe, Errs]

theorem safe {α} {E : String → Prop} {r : Res α} (h : Errs E r) : Ident.safe r = true :=
  safe_iff.mpr (h.mono fun _ _ => trivial)

end Errs

/-- A statement about the value of a run, `∃ o, r = .ok o ∧ P o`, is decided by running `r`.  With this as a (local)
    instance a closed test vector of that form is one evaluation; the witness is what the run returns.  Needs `P` decidable;
    where it is not, or the value is wanted for a further lemma, `eq_ok_of_isOk` hands it out after evaluating `isOk` alone. -/
@[instance_reducible] def decExistsOk {α} (r : Res α) (P : α → Prop) [DecidablePred P] : Decidable (∃ o, r = .ok o ∧ P o) :=
  match r with
  | .ok o => decidable_of_iff (P o) ⟨fun h => ⟨o, rfl, h⟩, fun ⟨_, e, h⟩ => by cases e; exact h⟩
  | .err _ => isFalse fun ⟨_, e, _⟩ => by cases e
  | .panic _ => isFalse fun ⟨_, e, _⟩ => by cases e
  | .diverge => isFalse fun ⟨_, e, _⟩ => by cases e

/-- a result known to be `ok` is `ok` of its value (`d` stands in on the other, impossible, constructors) -/
theorem eq_ok_of_isOk {α} (d : α) : ∀ r : Res α, r.isOk = true → r = .ok (match r with | .ok a => a | _ => d)
  | .ok _, _ => rfl

theorem isOk_ok {α} (a : α) : (Res.ok a).isOk = true := rfl
theorem isOk_err {α} (e : String) : (Res.err e : Res α).isOk = false := rfl
theorem isOk_panic {α} (e : String) : (Res.panic e : Res α).isOk = false := rfl
theorem isOk_diverge {α} : (Res.diverge : Res α).isOk = false := rfl

theorem ok_of_isOk {α} {r : Res α} (h : r.isOk = true) : ∃ a, r = .ok a := by
  cases r with
  | ok a => exact ⟨a, rfl⟩
  | err e => cases h
  | panic e => cases h
  | diverge => cases h

/-- a step that turns the artifact made from `a` into the artifact made from `s`, whatever `a` was: a whole history of
    steps succeeds and ends in the artifact of its last element (re-signing replaces the signature) -/
theorem foldlM_replace {σ β : Type} (step : β → σ → Res β) (out : σ → β) (P : σ → Prop)
    (h : ∀ a s, P a → step (out a) s = .ok (out s)) :
    ∀ (sigs : List σ) (last : σ), P last → (∀ s ∈ sigs, P s) →
      sigs.foldlM step (out last) = .ok (out ((last :: sigs).getLast (by simp)))
  | [], _, _, _ => rfl
  | s :: rest, last, hl, hs => by
    rw [List.foldlM_cons, h last s hl, List.getLast_cons (by simp)]
    exact foldlM_replace step out P h rest s (hs s (by simp)) fun x hx => hs x (by simp [hx])

end Res
end Relic
