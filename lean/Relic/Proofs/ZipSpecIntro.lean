/-
  Relic.Proofs.ZipSpecIntro — introduction rules for `Relic.Spec.Zip`: when does the specification accept end records and
  central records that were *written* (by `WriteDirectory`, `GetDirectoryHeader`) or *moved* (a record re-emitted at another
  place)?  The rule for a member is `memberOf_intro` in Relic.Proofs.ZipMembers; the elimination direction (what a successful
  parse says) is Relic.Proofs.ZipSpecRead.
-/
import Relic.Proofs.ZipFields
import Relic.Proofs.ZipSpecRead
namespace Relic.Zip
open Relic.SpecZip

theorem lastEocd_self (z : Bytes) (i : Nat) (h : hasSig z i 0x50 0x4b 0x05 0x06 = true) : lastEocd z i = some i := by
  cases i <;> simp [lastEocd, h]

theorem hasSig_at (P rest : Bytes) (a b c d : UInt8) : hasSig (P ++ ([a, b, c, d] ++ rest)) P.length a b c d = true := by
  unfold hasSig
  rw [List.drop_left]
  simp

theorem bytesAt_zero {z : Bytes} {off : Nat} (h : off ≤ z.length) : bytesAt z off 0 = some [] :=
  bytesAt_eq (n := 0) (by omega)

theorem hasSig_of_fld {z : Bytes} {off : Nat} {a b c d : UInt8} (hl : off + 4 ≤ z.length)
    (h : fld (z.drop off) 0 4 = leVal [a, b, c, d]) : hasSig z off a b c d = true := by
  unfold hasSig
  unfold fld at h
  rw [List.drop_zero] at h
  have hl4 : ((z.drop off).take 4).length = 4 := by rw [List.length_take, List.length_drop]; omega
  have e1 := leBytes_leVal ((z.drop off).take 4)
  rw [hl4, h] at e1
  rw [← e1]
  exact beq_iff_eq.mpr (leBytes_leVal [a, b, c, d])

/-- `ends` on an archive that stops right after a plain (non-ZIP64) end record `E` at `p` -/
theorem ends_plain_at {z : Bytes} {p : Nat} {E : EndRec} (hp : p + 22 = z.length) (hE : parseEnd (z.drop p) = E)
    (hsig : E.sig = sigEnd) (hd : E.disk = 0) (hdc : E.diskCD = 0) (hn : E.diskCount = E.total) (hcl : E.commentLen = 0)
    (hnb : ¬ (E.total = 0xffff ∨ E.cdSize = 0xffffffff ∨ E.cdOff = 0xffffffff)) :
    ends z = some ⟨p, p, false, E.total, E.cdSize, E.cdOff, []⟩ := by
  subst hE
  have hsig := hasSig_of_fld (a := 0x50) (b := 0x4b) (c := 0x05) (d := 0x06) (by omega) hsig
  simp only [parseEnd] at hd hdc hn hcl hnb ⊢
  unfold ends
  simp only [Option.bind_eq_bind, Option.bind_none]
  rw [if_neg (by omega), show z.length - 22 = p by omega, lastEocd_self z p hsig]
  have hnum : ∀ k w, k + w ≤ 22 → num z (p + k) w = some (fld (z.drop p) k w) := fun k w hk => num_fld (by omega)
  simp only [Option.bind_some, hnum 4 2 (by omega), hnum 6 2 (by omega), hnum 8 2 (by omega), hnum 10 2 (by omega),
    hnum 12 4 (by omega), hnum 16 4 (by omega), hnum 20 2 (by omega), hcl, hd, hdc, hn]
  rw [if_neg (by omega), bytesAt_zero (by omega)]
  simp only [Option.bind_some]
  rw [if_neg hnb, if_neg (by simp)]

/-- `ends` on an archive that stops after a ZIP64 end record `A` (at `q`), a locator `L`, an end record `E` (at `p = q + 76`) -/
theorem ends_zip64_at {z : Bytes} {p q : Nat} {E : EndRec} {L : Loc64} {A : End64} (hp : p + 22 = z.length) (hq : q + 76 = p)
    (hE : parseEnd (z.drop p) = E) (hL : parseLoc64 (z.drop (q + 56)) = L) (hA : parseEnd64 (z.drop q) = A)
    (hsig : E.sig = sigEnd) (hcl : E.commentLen = 0)
    (hb : E.total = 0xffff ∨ E.cdSize = 0xffffffff ∨ E.cdOff = 0xffffffff)
    (hloc : L.sig = sigLoc64) (hld : L.disk = 0) (hlq : L.off = q) (hln : L.diskCount = 1)
    (h64 : A.sig = sigEnd64) (hrs : A.recSize = 44) (hd1 : A.disk = 0) (hd2 : A.firstDisk = 0) (hnn : A.diskCount = A.total) :
    ends z = some ⟨p, q, true, A.total, A.cdSize, A.cdOff, []⟩ := by
  subst hE hL hA
  have hsig := hasSig_of_fld (a := 0x50) (b := 0x4b) (c := 0x05) (d := 0x06) (by omega) hsig
  have hloc := hasSig_of_fld (a := 0x50) (b := 0x4b) (c := 0x06) (d := 0x07) (by omega) hloc
  have h64 := hasSig_of_fld (a := 0x50) (b := 0x4b) (c := 0x06) (d := 0x06) (by omega) h64
  simp only [parseEnd, parseLoc64, parseEnd64] at hcl hb hld hlq hln hrs hd1 hd2 hnn ⊢
  unfold ends
  simp only [Option.bind_eq_bind, Option.bind_none]
  rw [if_neg (by omega), show z.length - 22 = p by omega, lastEocd_self z p hsig]
  have hnum : ∀ k w, k + w ≤ 22 → num z (p + k) w = some (fld (z.drop p) k w) := fun k w hk => num_fld (by omega)
  simp only [Option.bind_some, hnum 4 2 (by omega), hnum 6 2 (by omega), hnum 8 2 (by omega), hnum 10 2 (by omega),
    hnum 12 4 (by omega), hnum 16 4 (by omega), hnum 20 2 (by omega), hcl]
  rw [if_neg (by omega), bytesAt_zero (by omega)]
  simp only [Option.bind_some]
  rw [if_pos hb, if_neg (by omega)]
  have e20 : p - 20 = q + 56 := by omega
  have e16 : p - 16 = (q + 56) + 4 := by omega
  have e12 : p - 12 = (q + 56) + 8 := by omega
  have e4 : p - 4 = (q + 56) + 16 := by omega
  rw [e20, e16, e12, e4, hloc]
  have hnl : ∀ k w, k + w ≤ 20 → num z (q + 56 + k) w = some (fld (z.drop (q + 56)) k w) := fun k w hk => num_fld (by omega)
  have hnq : ∀ k w, k + w ≤ 56 → num z (q + k) w = some (fld (z.drop q) k w) := fun k w hk => num_fld (by omega)
  simp only [Bool.not_true, Bool.false_eq_true, if_false, hnl 4 4 (by omega), hnl 8 8 (by omega), hnl 16 4 (by omega),
    Option.bind_some, hld, hlq, hln]
  rw [if_neg (by omega), h64]
  simp only [Bool.not_true, Bool.false_eq_true, if_false, hnq 4 8 (by omega), hnq 16 4 (by omega), hnq 20 4 (by omega),
    hnq 24 8 (by omega), hnq 32 8 (by omega), hnq 40 8 (by omega), hnq 48 8 (by omega), Option.bind_some, hrs, hd1, hd2, hnn]
  rw [if_neg (by simp)]

theorem ends_endRecords (P : Bytes) (count size cdoff : Nat) (force : Bool) (minV : Nat)
    (hP : P.length = cdoff + size) (hc : count < 2 ^ 64) (hl : P.length < 2 ^ 64) :
    ends (P ++ endRecords count size cdoff force minV) =
      some ⟨P.length + (if needZip64 count size cdoff force minV then 76 else 0), P.length,
            needZip64 count size cdoff force minV, count, size, cdoff, []⟩ := by
  unfold endRecords
  cases hz : needZip64 count size cdoff force minV
  · -- plain: one record, read back at `P.length`
    have hns : ¬ (count ≥ 0xffff ∨ size ≥ 0xffffffff ∨ cdoff ≥ 0xffffffff ∨ force = true ∨ minV = 45) := by
      intro h; apply Bool.eq_false_iff.mp hz; simpa [needZip64, u16Max, u32Max, or_assoc] using h
    simp only [Bool.false_eq_true, if_false, Nat.add_zero]
    rw [ends_plain_at (p := P.length) (E := ⟨sigEnd, 0, 0, count % 2 ^ 16, count % 2 ^ 16, size % 2 ^ 32, cdoff % 2 ^ 32, 0⟩)
      (by simp [encEnd_length]) (by rw [List.drop_left]; exact (List.append_nil (encEnd _) ▸ parseEnd_encEnd _ [])) rfl rfl rfl rfl rfl
      (by simp only; omega)]
    simp only
    rw [Nat.mod_eq_of_lt (by omega), Nat.mod_eq_of_lt (by omega), Nat.mod_eq_of_lt (by omega)]
  · -- ZIP64: three records, read back at `P.length`, `+ 56`, `+ 76`
    simp only [if_true]
    have d0 : ∀ a b c, (P ++ (encEnd64 a ++ encLoc64 b ++ encEnd c)).drop P.length = encEnd64 a ++ (encLoc64 b ++ encEnd c) :=
      fun a b c => by rw [List.drop_left, List.append_assoc]
    have d56 : ∀ a b c, (P ++ (encEnd64 a ++ encLoc64 b ++ encEnd c)).drop (P.length + 56) = encLoc64 b ++ encEnd c :=
      fun a b c => by rw [← List.drop_drop, d0, ← encEnd64_length a, List.drop_left]
    have d76 : ∀ a b c, (P ++ (encEnd64 a ++ encLoc64 b ++ encEnd c)).drop (P.length + 76) = encEnd c ++ [] :=
      fun a b c => by
        rw [show P.length + 76 = P.length + 56 + 20 by omega, ← List.drop_drop, d56, ← encLoc64_length b, List.drop_left,
          List.append_nil]
    rw [ends_zip64_at (p := P.length + 76) (q := P.length) (E := ⟨sigEnd, 0, 0, u16Max, u16Max, u32Max, u32Max, 0⟩)
      (L := ⟨sigLoc64, 0, (cdoff + size) % 2 ^ 64, 1⟩)
      (A := ⟨sigEnd64, 44, 45, 45, 0, 0, count % 2 ^ 64, count % 2 ^ 64, size % 2 ^ 64, cdoff % 2 ^ 64⟩)
      (by simp [encEnd64_length, encLoc64_length, encEnd_length]) rfl
      (by rw [d76]; exact parseEnd_encEnd _ []) (by rw [d56]; exact parseLoc64_encLoc64 _ _) (by rw [d0]; exact parseEnd64_encEnd64 _ _)
      rfl rfl (Or.inl rfl) rfl rfl (by simp only; rw [← hP]; exact Nat.mod_eq_of_lt hl) rfl rfl rfl rfl rfl rfl]
    simp only
    rw [Nat.mod_eq_of_lt hc, Nat.mod_eq_of_lt (by omega), Nat.mod_eq_of_lt (by omega)]

theorem entryAt_congr {z z' : Bytes} {at_ at' lim lim' : Nat} {en : Entry} (h : entryAt z at_ lim = some en)
    (hb : (z'.drop at').take en.len = (z.drop at_).take en.len) (h1 : at' + en.len ≤ lim') (h2 : lim' ≤ z'.length) :
    entryAt z' at' lim' = some en := by
  obtain ⟨-, -, hsig, -, r, hr, rfl⟩ := entryAt_some h
  simp only [specEntry] at hb h1
  generalize hL : 46 + fld (z.drop at_) 28 2 + fld (z.drop at_) 30 2 + fld (z.drop at_) 32 2 = L at hb h1
  have F : ∀ k w, k + w ≤ 46 → fld (z'.drop at') k w = fld (z.drop at_) k w := fun k w hk => fld_eq_of_take hb k w (by omega)
  have S : ∀ a b, a + b ≤ L → (z'.drop (at' + a)).take b = (z.drop (at_ + a)).take b := by
    intro a b hk
    rw [← List.drop_drop, ← List.drop_drop]
    exact seg_eq_of_take hb a b hk
  have hsig' : hasSig z' at' 0x50 0x4b 0x01 0x02 = true := by
    unfold hasSig at hsig ⊢
    have := S 0 4 (by omega)
    simp only [Nat.add_zero] at this
    rw [this]; exact hsig
  have hn := S 46 (fld (z.drop at_) 28 2) (by omega)
  have hx := S (46 + fld (z.drop at_) 28 2) (fld (z.drop at_) 30 2) (by omega)
  have hc := S (46 + fld (z.drop at_) 28 2 + fld (z.drop at_) 30 2) (fld (z.drop at_) 32 2) (by omega)
  simp only [← Nat.add_assoc] at hn hx hc
  rw [entryAt_eq]
  simp only [specEntry, F 4 2 (by omega), F 6 2 (by omega), F 8 2 (by omega), F 10 2 (by omega), F 12 2 (by omega),
    F 14 2 (by omega), F 16 4 (by omega), F 20 4 (by omega), F 24 4 (by omega), F 28 2 (by omega), F 30 2 (by omega),
    F 32 2 (by omega), F 36 2 (by omega), F 38 4 (by omega), F 42 4 (by omega), hn, hx, hc, hr, Option.map_some]
  rw [if_pos ⟨by omega, h2, hsig', by omega⟩]

/-- the central record a standard reader decodes from what `GetDirectoryHeader` synthesises for `f` -/
def synthEntry (f : File) : Entry :=
  { verMade := f.creator, verNeeded := if synthBig f then 45 else f.reader, flags := f.flags, method := f.method,
    mtime := f.mtime, mdate := f.mdate, crc := f.crc, csize := f.csize, usize := f.usize, name := f.name,
    extra := synthExtra f, comment := f.comment, iattrs := f.iattrs, eattrs := f.eattrs, hoff := f.offset,
    len := 46 + f.name.length + (synthExtra f).length + f.comment.length,
    need := (decide (synthBig f), decide (synthBig f), decide (synthBig f)) }

/-- every field fits the width it is written with (Go's conversions would truncate silently otherwise) -/
structure FileFits (f : File) : Prop where
  creator : f.creator < 2 ^ 16
  reader : f.reader < 2 ^ 16
  flags : f.flags < 2 ^ 16
  method : f.method < 2 ^ 16
  mtime : f.mtime < 2 ^ 16
  mdate : f.mdate < 2 ^ 16
  crc : f.crc < 2 ^ 32
  name : f.name.length < 2 ^ 16
  extra : (synthExtra f).length < 2 ^ 16
  comment : f.comment.length < 2 ^ 16
  iattrs : f.iattrs < 2 ^ 16
  eattrs : f.eattrs < 2 ^ 32
  csize : f.csize < 2 ^ 64
  usize : f.usize < 2 ^ 64
  offset : f.offset < 2 ^ 64

theorem resolve64_synth (us cs off : Nat) (rest : Bytes) (hu : us < 2 ^ 64) (hc : cs < 2 ^ 64) (ho : off < 2 ^ 64) :
    resolve64 0xffffffff 0xffffffff 0xffffffff (z64Extra us cs off ++ rest) = some (us, cs, off) := by
  unfold resolve64
  simp only [not_true_eq_false, and_self, if_false, if_true]
  rw [zip64Field_z64Extra us cs off rest _ (by simp [z64Extra_length])]
  have l8 : ∀ n, (leBytes 8 n).length = 8 := fun n => leBytes_length 8 n
  have t8 : ∀ n, (leBytes 8 n).take 8 = leBytes 8 n := fun n => List.take_of_length_le (by simp)
  simp [l8, t8, leVal_leBytes_of_lt 8 us (by omega),
    leVal_leBytes_of_lt 8 cs (by omega), leVal_leBytes_of_lt 8 off (by omega)]

theorem resolve64_plain (us cs off : Nat) (extra : Bytes) (hu : us ≠ 0xffffffff) (hc : cs ≠ 0xffffffff) (ho : off ≠ 0xffffffff) :
    resolve64 us cs off extra = some (us, cs, off) := by
  unfold resolve64
  simp [hu, hc, ho]

/-- the ZIP64 triple a standard reader resolves from the record `GetDirectoryHeader` synthesises: always the true
    values, whether they stand in the 32-bit fields or in the extra field -/
theorem resolve64_synthBig (f : File) (hfit : FileFits f) :
    resolve64 ((if synthBig f then u32Max else f.usize) % 2 ^ 32) ((if synthBig f then u32Max else f.csize) % 2 ^ 32)
      ((if synthBig f then u32Max else f.offset) % 2 ^ 32) (synthExtra f) = some (f.usize, f.csize, f.offset) ∧
    (decide ((if synthBig f then u32Max else f.usize) % 2 ^ 32 = 0xffffffff) = decide (synthBig f) ∧
     decide ((if synthBig f then u32Max else f.csize) % 2 ^ 32 = 0xffffffff) = decide (synthBig f) ∧
     decide ((if synthBig f then u32Max else f.offset) % 2 ^ 32 = 0xffffffff) = decide (synthBig f)) := by
  by_cases hb : synthBig f
  · simp only [hb, if_true, synthExtra, decide_true]
    exact ⟨resolve64_synth _ _ _ _ hfit.usize hfit.csize hfit.offset, by decide, by decide, by decide⟩
  · have hb' := hb
    unfold synthBig at hb'
    simp only [u32Max, not_or, Nat.not_le] at hb'
    simp only [hb, if_false, synthExtra, decide_false]
    rw [Nat.mod_eq_of_lt (show f.usize < 2 ^ 32 by omega), Nat.mod_eq_of_lt (show f.csize < 2 ^ 32 by omega),
      Nat.mod_eq_of_lt (show f.offset < 2 ^ 32 by omega)]
    exact ⟨resolve64_plain _ _ _ _ (by omega) (by omega) (by omega), by simp; omega, by simp; omega, by simp; omega⟩

/-- the record `GetDirectoryHeader f` emits is decoded as `en`, wherever it is placed -/
def Emits (f : File) (en : Entry) : Prop :=
  entryAt (getDirectoryHeader f).1 0 (getDirectoryHeader f).1.length = some en ∧ en.len = (getDirectoryHeader f).1.length

/-- Read the sixteen fields off `fld_cdh`, cut name / extra / comment by `cdh_length`, then `entryAt_eq` with
    `resolve64_synthBig`. -/
theorem emits_synth {f : File} (hraw : f.raw = []) (hfit : FileFits f) : Emits f (synthEntry f) := by
  unfold Emits
  rw [getDirectoryHeader_synth f hraw]
  obtain ⟨hres, n1, n2, n3⟩ := resolve64_synthBig f hfit
  have hrv : (if synthBig f then 45 else f.reader) % 2 ^ 16 = if synthBig f then 45 else f.reader := by
    split
    · rfl
    · exact Nat.mod_eq_of_lt hfit.reader
  generalize hrvE : (if synthBig f then 45 else f.reader) = rv at *
  generalize (if synthBig f then u32Max else f.csize) = cs at *
  generalize (if synthBig f then u32Max else f.usize) = us at *
  generalize (if synthBig f then u32Max else f.offset) = off at *
  have hlen : (encFields (cdhFields f rv cs us off f.name.length (synthExtra f).length f.comment.length) ++
      (f.name ++ (synthExtra f ++ f.comment))).length = 46 + f.name.length + (synthExtra f).length + f.comment.length := by
    simp only [List.length_append, cdh_length]; omega
  refine ⟨?_, by rw [hlen]; rfl⟩
  have F := fld_cdh f rv cs us off f.name.length (synthExtra f).length f.comment.length (f.name ++ (synthExtra f ++ f.comment))
  simp only [Nat.mod_eq_of_lt hfit.name, Nat.mod_eq_of_lt hfit.extra, Nat.mod_eq_of_lt hfit.comment,
    Nat.mod_eq_of_lt hfit.creator, Nat.mod_eq_of_lt hfit.flags, Nat.mod_eq_of_lt hfit.method, Nat.mod_eq_of_lt hfit.mtime,
    Nat.mod_eq_of_lt hfit.mdate, Nat.mod_eq_of_lt hfit.crc, Nat.mod_eq_of_lt hfit.iattrs, Nat.mod_eq_of_lt hfit.eattrs, hrv] at F
  obtain ⟨F0, F4, F6, F8, F10, F12, F14, F16, F20, F24, F28, F30, F32, F36, F38, F42⟩ := F
  generalize hrec : encFields (cdhFields f rv cs us off f.name.length (synthExtra f).length f.comment.length) ++
      (f.name ++ (synthExtra f ++ f.comment)) = rec at *
  have hsig : hasSig rec 0 0x50 0x4b 0x01 0x02 = true :=
    hasSig_of_fld (by rw [hlen]; omega) (by rw [List.drop_zero, F0]; decide)
  have hname : (rec.drop (0 + 46)).take f.name.length = f.name := by
    rw [← hrec, Nat.zero_add, List.drop_left' (cdh_length ..), List.take_left]
  have hextra : (rec.drop (0 + 46 + f.name.length)).take (synthExtra f).length = synthExtra f := by
    rw [← hrec, Nat.zero_add, ← List.drop_drop, List.drop_left' (cdh_length ..), List.drop_left, List.take_left]
  have hcomm : (rec.drop (0 + 46 + f.name.length + (synthExtra f).length)).take f.comment.length = f.comment := by
    rw [← hrec, Nat.zero_add, ← List.drop_drop, ← List.drop_drop, List.drop_left' (cdh_length ..), List.drop_left,
      List.drop_left, List.take_length]
  rw [entryAt_eq]
  simp only [List.drop_zero, F28, F30, F32, F24, F20, F42]
  rw [if_pos ⟨by omega, Nat.le_refl _, hsig, by omega⟩, hextra, hres]
  simp only [Option.map_some, specEntry, synthEntry, List.drop_zero, F4, F6, F8, F10, F12, F14, F16,
    F28, F30, F32, F36, F38, F24, F20, F42, hname, hextra, hcomm, n1, n2, n3, hrvE]

theorem headersOf_length_files : ∀ fs : List File, (headersOf fs).2.length = fs.length
  | [] => rfl
  | f :: fs => by simp [headersOf, headersOf_length_files fs]

/-- the directory `WriteDirectory` serialises is read back record by record, whatever stands around it -/
theorem entries_headersOf : ∀ (ps : List (File × Entry)) (pre post : Bytes), (∀ p ∈ ps, Emits p.1 p.2) →
    entries (pre ++ (headersOf (ps.map (·.1))).1 ++ post) ps.length pre.length
      (pre.length + (headersOf (ps.map (·.1))).1.length) = some (ps.map (·.2)) := by
  intro ps
  induction ps with
  | nil => intro pre post _; simp [headersOf, entries]
  | cons p ps ih =>
    intro pre post h
    obtain ⟨f, en⟩ := p
    obtain ⟨he, hl⟩ := h (f, en) (List.mem_cons_self ..)
    simp only [List.map_cons]
    rw [headersOf_cons]
    simp only at he hl
    generalize (getDirectoryHeader f).1 = b at *
    generalize (headersOf (ps.map (·.1))).1 = bs at *
    have hz : pre ++ (b ++ bs) ++ post = (pre ++ b) ++ bs ++ post := by simp [List.append_assoc]
    have h1 : entryAt (pre ++ (b ++ bs) ++ post) pre.length (pre.length + (b ++ bs).length) = some en := by
      apply entryAt_congr he
      · rw [List.drop_zero, List.append_assoc, List.drop_left, hl, List.append_assoc, List.take_left,
          List.take_length]
      · simp only [List.length_append]; omega
      · simp only [List.length_append]; omega
    simp only [entries, List.length_cons, Option.bind_eq_bind]
    rw [h1]
    simp only [Option.bind_some]
    have := ih (pre ++ b) post (fun q hq => h q (List.mem_cons_of_mem _ hq))
    rw [← hz, List.length_append, ← hl] at this
    rw [show pre.length + (b ++ bs).length = pre.length + en.len + bs.length by simp [hl]; omega, this]
    rfl

theorem emits_raw {z : Bytes} {at_ lim : Nat} {en : Entry} {f : File} (h : entryAt z at_ lim = some en)
    (hraw : f.raw = (z.drop at_).take en.len) : Emits f en := by
  obtain ⟨-, b2, -, b4, r, -, he⟩ := entryAt_some h
  have hlen : en.len = 46 + fld (z.drop at_) 28 2 + fld (z.drop at_) 30 2 + fld (z.drop at_) 32 2 := by rw [he]; rfl
  have hrl : f.raw.length = en.len := by rw [hraw, List.length_take, List.length_drop]; omega
  have hg : (getDirectoryHeader f).1 = f.raw := by
    unfold getDirectoryHeader
    rw [if_pos (by intro c; rw [c] at hrl; simp at hrl; omega)]
  unfold Emits
  rw [hg]
  refine ⟨?_, hrl.symm⟩
  apply entryAt_congr h
  · rw [List.drop_zero, ← hrl, List.take_length, hrl, hraw]
  · omega
  · omega

end Relic.Zip
