/-
  Relic.Model.Authz (C04): GetKey resolution (and what fix F2 changed in it), candidates, refusal by the views, the
  transport view of an untrusted peer, the five ways `handleWith` answers (`handleWith_mem`), sorting, start-up check ⇒
  token.  The views' positive half is in Relic.Proofs.AuthzPolicy, generic in `Allowed`.  The lemmas stand in
  `namespace Relic.Proofs.Authz`, not in the model's `Relic.Authz` (Relic.Proofs.AuthzPolicy likewise has its own):
  `open Relic.Proofs.Authz` to use them.
-/
import Relic.Model.Authz
import Relic.Proofs.InsertSort
namespace Relic.Proofs.Authz
open Relic.Authz Relic.RealIP

theorem lookupKey_mem {cfg : Config} {n : String} {k : Key} (h : lookupKey cfg n = some k) :
    k ∈ cfg.keys ∧ k.name = n := by
  unfold lookupKey at h
  have h1 := List.mem_of_find?_eq_some h
  have h2 := List.find?_some h
  exact ⟨h1, by simpa using h2⟩

theorem getKeyWith_ok {fixed : Bool} {cfg : Config} {n : String} {kc : Key}
    (h : getKeyWith fixed cfg n = .ok kc) : resolve cfg n = some kc ∧ kc.token ≠ "" := by
  unfold getKeyWith at h
  unfold resolve
  cases hl : lookupKey cfg n with
  | none => simp [hl] at h
  | some k =>
    simp only [hl] at h ⊢
    by_cases ha : k.alias = ""
    · simp only [ha, ne_eq, not_true_eq_false, ↓reduceIte] at h ⊢
      by_cases ht : k.token = ""
      · simp [ht] at h
      · simp only [ht, ↓reduceIte, Res.ok.injEq] at h
        subst h; exact ⟨rfl, ht⟩
    · simp only [ne_eq, ha, not_false_eq_true, ↓reduceIte] at h ⊢
      cases hl2 : lookupKey cfg k.alias with
      | none => cases fixed <;> simp [hl2] at h
      | some t =>
        simp only [hl2] at h
        by_cases ht : t.token = ""
        · simp [ht] at h
        · simp only [ht, ↓reduceIte, Res.ok.injEq] at h
          subst h; exact ⟨rfl, ht⟩

theorem getKey_no_panic (cfg : Config) (n : String) : ∀ s, getKey cfg n ≠ .panic s := by
  intro s
  unfold getKey getKeyWith
  cases lookupKey cfg n with
  | none => simp
  | some k =>
    simp only
    split
    · cases lookupKey cfg k.alias with
      | none => simp
      | some t => simp only; split <;> simp
    · split <;> simp

/-- The tree as found differs from the fixed tree only where `GetKey` meets a dangling alias: there it panics where the
    fixed tree returns an error. -/
theorem getKeyWith_false (cfg : Config) (n : String) :
    getKeyWith false cfg n = getKey cfg n ∨
    (getKeyWith false cfg n = .panic "config.GetKey:nil-alias" ∧ getKey cfg n = .err "alias-undefined") := by
  unfold getKey getKeyWith
  cases lookupKey cfg n with
  | none => exact .inl rfl
  | some k =>
    by_cases ha : k.alias ≠ ""
    · cases hl : lookupKey cfg k.alias with
      | none => exact .inr (by simp [ha, hl])
      | some t => exact .inl (by simp only [hl])
    · exact .inl (by simp only [ha, if_false])

theorem view_false (cfg : Config) (c : Client) (user ip : String) (ep : Endpoint) :
    view false cfg c user ip ep = view true cfg c user ip ep ∨ ∃ s, view false cfg c user ip ep = .panic s ip := by
  cases ep
  case getKey n =>
    rcases getKeyWith_false cfg n with h | ⟨h, _⟩
    · exact .inl (by simp only [view, h, getKey])
    · exact .inr ⟨"config.GetKey:nil-alias", by simp only [view, h]⟩
  case sign n f s =>
    rcases getKeyWith_false cfg n with h | ⟨h, _⟩
    · exact .inl (by simp only [view, h, getKey])
    · by_cases hn : n = ""
      · exact .inl (by simp only [view, hn, if_true])
      cases f
      · exact .inl (by simp only [view, hn, if_false, Bool.not_false, if_true])
      · exact .inr ⟨"config.GetKey:nil-alias", by simp only [view, h, hn, if_false, Bool.not_true, Bool.false_eq_true]⟩
  all_goals exact .inl rfl

theorem candidates_mem {cfg : Config} {ch : Chain} {c : Client} (h : c ∈ candidates cfg ch) :
    c ∈ cfg.clients ∧ recognises c ch = true := by
  unfold candidates at h
  cases hf : cfg.clients.find? (·.key == ch.fp) with
  | some c' =>
    simp only [hf, List.mem_singleton] at h
    subst h
    refine ⟨List.mem_of_find?_eq_some hf, ?_⟩
    have := List.find?_some hf
    simp [recognises, this]
  | none =>
    simp only [hf, List.mem_filter] at h
    exact ⟨h.1, by simp [recognises, h.2]⟩

theorem allowed_iff (c : Client) (k : Key) : allowed c k = true ↔ ∃ r, r ∈ c.roles ∧ r ∈ k.roles := by
  simp only [allowed, List.any_eq_true, List.contains_iff_mem]
  constructor
  · rintro ⟨r, h1, h2⟩; exact ⟨r, h2, h1⟩
  · rintro ⟨r, h1, h2⟩; exact ⟨r, h2, h1⟩

theorem sharesRole_iff (c : Client) (k : Key) : sharesRole c k = true ↔ ∃ r, r ∈ c.roles ∧ r ∈ k.roles := by
  simp [sharesRole, List.any_eq_true]

theorem keyName_cases {ep : Endpoint} {n : String} (hn : ep.keyName = some n) :
    ep = .getKey n ∨ ∃ f s, ep = .sign n f s := by
  cases ep <;> simp_all [Endpoint.keyName]

theorem view_refused {cfg : Config} {c : Client} {user ip : String} {req : Req} {n : String}
    (hn : req.ep.keyName = some n) (hne : ∀ kc, getKey cfg n = .ok kc → allowed c kc = false) :
    Refused req (view true cfg c user ip req.ep) := by
  rcases keyName_cases hn with hep | ⟨hasFile, sigOK, hep⟩ <;> rw [hep]
  · unfold view
    cases hg : getKeyWith true cfg n with
    | ok kc =>
      have := hne kc hg
      simp [hg, this, forbidden, Refused]
    | err e => simp [hg, forbidden, Refused]
    | panic s => exact absurd hg (getKey_no_panic cfg n s)
    | diverge => simp [hg, forbidden, Refused]
  · unfold view
    by_cases hm : n = ""
    · simp [hm, Refused]
    · by_cases hf : hasFile = true
      · simp only [hm, ↓reduceIte, hf, Bool.not_true, Bool.false_eq_true]
        cases hg : getKeyWith true cfg n with
        | ok kc =>
          have := hne kc hg
          simp [this, forbidden, Refused]
        | err e => simp [forbidden, Refused]
        | panic s => exact absurd hg (getKey_no_panic cfg n s)
        | diverge => simp [forbidden, Refused]
      · simp [hm, hf, Refused]

theorem peerCerts_cases (proxied : Bool) (req : Req) :
    (∃ oc, peerCerts proxied req = .ok oc) ∨ (peerCerts proxied req = .err "ssl-client-cert" ∧ req.sslCert = .bad) := by
  unfold peerCerts
  cases proxied
  · simp
  · cases hs : req.sslCert <;> simp

theorem trustedClient_untrusted (inNets : String → Bool) (remote : String) (xff : List String)
    (hu : hopTrusted inNets (stripPort remote) = false) : trustedClient inNets remote xff = (stripPort remote, false) := by
  simp [trustedClient, trustedClientHops, hu]

theorem transportView_untrusted (cfg : Config) (req : Req) (hu : hopTrusted cfg.inNets (stripPort req.remoteAddr) = false) :
    transportView cfg req = (stripPort (stripPort req.remoteAddr), .ok req.tls) := by
  simp [transportView, trustedClient_untrusted _ _ _ hu, peerCerts]

theorem keyName_not_public {ep : Endpoint} {n : String} (hn : ep.keyName = some n) : ep.isPublic = false := by
  cases ep <;> simp_all [Endpoint.keyName, Endpoint.isPublic]

theorem handleWith_mem {fixed : Bool} {cfg : Config} {req : Req} {o : Outcome} (ho : o ∈ handleWith fixed cfg req) :
    (∃ e, o = .startErr e) ∨
    (req.ep.isPublic = true ∧ ∃ ip, o = .resp { status := 200, ip }) ∨
    (∃ p, o = .resp { status := 401, problem := p, ip := (transportView cfg req).1 }) ∨
    (o = .resp { status := 500, problem := "unhandled", ip := (transportView cfg req).1 } ∧ req.sslCert = .bad) ∨
    ∃ ch c, (transportView cfg req).2 = .ok (some ch) ∧ c ∈ candidates cfg ch ∧
      o = view fixed cfg c (userName c ch) (transportView cfg req).1 req.ep := by
  unfold handleWith at ho
  split at ho
  · exact .inl ⟨_, List.mem_singleton.mp ho⟩
  simp only at ho
  split at ho
  · exact .inr (.inl ⟨‹_›, _, List.mem_singleton.mp ho⟩)
  rcases peerCerts_cases (trustedClient cfg.inNets req.remoteAddr req.xff).2 req with ⟨oc, hpc⟩ | ⟨hpc, hbad⟩
  all_goals replace hpc : (transportView cfg req).2 = _ := hpc
  · cases oc with
    | none => exact .inr (.inr (.inl ⟨_, by simpa only [hpc, List.mem_singleton] using ho⟩))
    | some ch =>
      simp only [hpc] at ho
      split at ho
      · exact .inr (.inr (.inl ⟨_, List.mem_singleton.mp ho⟩))
      · obtain ⟨c, hc, rfl⟩ := List.mem_map.mp ho
        exact .inr (.inr (.inr (.inr ⟨ch, c, hpc, hc, rfl⟩)))
  · exact .inr (.inr (.inr (.inl ⟨by simpa only [hpc, List.mem_singleton] using ho, hbad⟩)))

theorem handle_refused (cfg : Config) (req : Req) (n : String) (o : Outcome)
    (ho : o ∈ handle cfg req) (hn : req.ep.keyName = some n)
    (hne : ∀ ch c, presented cfg req = some ch → c ∈ candidates cfg ch →
      ∀ kc, getKey cfg n = .ok kc → allowed c kc = false) :
    Refused req o := by
  rcases handleWith_mem ho with ⟨e, rfl⟩ | ⟨hp, _⟩ | ⟨p, rfl⟩ | ⟨rfl, hbad⟩ | ⟨ch, c, hpc, hc, rfl⟩
  · trivial
  · rw [keyName_not_public hn] at hp
    cases hp
  · simp [Refused]
  · simp [Refused, hbad]
  · exact view_refused hn (hne ch c (by simp [presented, hpc]) hc)

theorem malformed_getKey_err {cfg : Config} {n : String} (h : malformed cfg n = true) :
    ∃ e, getKey cfg n = .err e := by
  unfold malformed at h
  unfold getKey getKeyWith
  cases hl : lookupKey cfg n with
  | none => simp [hl] at h
  | some k =>
    simp only [hl] at h ⊢
    by_cases ha : k.alias = ""
    · simp only [ha, ne_eq, not_true_eq_false, ↓reduceIte, beq_iff_eq] at h ⊢
      simp [h]
    · simp only [ne_eq, ha, not_false_eq_true, ↓reduceIte] at h ⊢
      cases hl2 : lookupKey cfg k.alias with
      | none => simp
      | some t =>
        simp only [hl2, beq_iff_eq] at h ⊢
        simp [h]

/-- `sort.Strings` as modelled is the insertion sort of `Relic.InsertSort`: `insertSorted a` walks past the strings
    that `a` is not below -/
theorem sortStrings_insertSort : InsertSort (fun a b : String => !decide (a ≤ b)) insertSorted sortStrings where
  ins_nil _ := rfl
  ins_cons a b bs := by by_cases h : a ≤ b <;> simp [insertSorted, h]
  sort_nil := rfl
  sort_cons _ _ := rfl

theorem mem_sortStrings (x : String) (l : List String) : x ∈ sortStrings l ↔ x ∈ l :=
  (sortStrings_insertSort.sort_perm l).mem_iff

theorem sorted_sortStrings (l : List String) : (sortStrings l).Pairwise (· ≤ ·) :=
  sortStrings_insertSort.sort_pairwise (R := (· ≤ ·)) (C := fun _ _ => True) (fun _ _ _ => String.le_trans)
    (fun a b _ => by
      by_cases h : a ≤ b
      · simp [h]
      · simp [h, (String.le_total a b).resolve_left h])
    l (List.pairwise_of_forall (fun _ _ => trivial))

theorem served_has_token {cfg : Config} {t : Key} {r : String} (hst : startCheck cfg = none)
    (hnt : "" ∉ cfg.tokens) (ht : t ∈ cfg.keys) (hr : r ∈ t.roles) : t.token ≠ "" := by
  intro htok
  unfold startCheck at hst
  split at hst
  · cases hst
  · split at hst
    · cases hst
    · split at hst
      · cases hst
      · rename_i hs
        simp only [List.any_eq_true, Bool.not_eq_eq_eq_not, Bool.not_true, not_exists, not_and,
          Bool.not_eq_false] at hs
        have hmem : t.token ∈ servedTokens cfg := by
          unfold servedTokens
          simp only [List.mem_map, List.mem_filter]
          refine ⟨t, ⟨ht, ?_⟩, rfl⟩
          cases hroles : t.roles with
          | nil => simp [hroles] at hr
          | cons a as => simp
        have := hs _ hmem
        simp only [List.contains_iff_mem] at this
        rw [htok] at this
        exact hnt this

theorem allowed_has_token {cfg : Config} {c : Client} {t : Key} (hst : startCheck cfg = none)
    (hnt : "" ∉ cfg.tokens) (ht : t ∈ cfg.keys) (ha : allowed c t = true) : t.token ≠ "" :=
  let ⟨_, _, hr⟩ := (allowed_iff c t).1 ha
  served_has_token hst hnt ht hr

end Relic.Proofs.Authz
