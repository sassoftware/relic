/-
  The retry loop `Relic.Retry.go` (token/worker/retry.go): one iteration unfolded, a run of temporary failures, and from
  these when the loop succeeds, which attempts it makes, and how it ends on a permanent failure, on cancellation during an
  attempt or during the wait, and on exhaustion.
-/
import Relic.Model.Retry
namespace Relic.Retry

/-- attempt `j` failed with an error that `httperror.Temporary` accepts -/
def TempFail (c : Cancel) (outs : List Outcome) (j : Nat) : Prop :=
  ∃ e, attemptResult c outs j = .error e ∧ temporary e = true

theorem doneAtStart_succ_of_cancelledBy (c : Cancel) {i : Nat} (h : cancelledBy c i = true) :
    doneAtStart c (i + 1) = true := by
  unfold cancelledBy doneAtStart at *
  cases hc : c.at_ <;> simp [hc] at h ⊢ <;> omega

theorem attemptResult_of_cancelled (c : Cancel) (outs : List Outcome) {i : Nat}
    (h : cancelledBy c i = true) : attemptResult c outs i = .error (.ctx c.kind) := by
  simp [attemptResult, h]

theorem attemptResult_of_live (c : Cancel) (outs : List Outcome) {i : Nat}
    (h : cancelledBy c i = false) : attemptResult c outs i = doOnce (outcomeAt outs i) := by
  simp [attemptResult, h]

theorem live_of_not_ctx (c : Cancel) (outs : List Outcome) {i : Nat}
    (h : attemptResult c outs i ≠ .error (.ctx c.kind)) : cancelledBy c i = false := by
  cases hc : cancelledBy c i
  · rfl
  · exact absurd (attemptResult_of_cancelled c outs hc) h

theorem not_done_of_live (c : Cancel) {i : Nat} (h : cancelledBy c i = false) :
    doneAtStart c i = false := by
  cases hd : doneAtStart c i
  · rfl
  · simp [cancelledBy, hd] at h

theorem not_done_of_ok (c : Cancel) (outs : List Outcome) {i v : Nat}
    (h : attemptResult c outs i = .ok v) : doneAtStart c i = false :=
  not_done_of_live c (live_of_not_ctx c outs (by rw [h]; intro x; cases x))

theorem not_done_of_permanent (c : Cancel) (outs : List Outcome) {i : Nat} {e : AErr}
    (h : attemptResult c outs i = .error e) (ht : temporary e = false) : doneAtStart c i = false := by
  apply not_done_of_live c
  apply live_of_not_ctx c outs
  rw [h]
  intro x
  injection x with x
  subst x
  simp [temporary] at ht

theorem not_done_before {c : Cancel} {i k : Nat} (h : i ≤ k) (d : doneAtStart c k = false) :
    doneAtStart c i = false := by
  unfold doneAtStart at *
  cases hc : c.at_ <;> simp [hc] at d ⊢ <;> omega

/-- `go`'s local `pre`: the back-off wait in front of every attempt but the first -/
def pre (i : Nat) : List Event := if i = 0 then [] else [Event.wait (delaySeq (i - 1))]

/-- attempt `i` is started: the first unconditionally, a later one when the caller's context is not yet done -/
abbrev Started (c : Cancel) (i : Nat) : Prop := i = 0 ∨ doneAtStart c i = false

theorem Started.not_cut {c : Cancel} {i : Nat} (h : Started c i) : ¬ (i ≠ 0 ∧ doneAtStart c i = true) := by
  rcases h with h | h <;> simp [h]

theorem go_zero (c : Cancel) (outs : List Outcome) (i : Nat) (last : Option AErr) :
    go c outs 0 i last = (lastResult last, []) := rfl

theorem go_cut (c : Cancel) (outs : List Outcome) (fuel i : Nat) (last : Option AErr)
    (hi : i ≠ 0) (hd : doneAtStart c i = true) :
    go c outs (fuel + 1) i last = (.errCtx c.kind, [.cut]) := by
  simp [go, hi, hd]

theorem go_ok (c : Cancel) (outs : List Outcome) (fuel i v : Nat) (last : Option AErr)
    (hd : Started c i) (ha : attemptResult c outs i = .ok v) :
    go c outs (fuel + 1) i last = (.ok v, pre i ++ [.attempt i]) := by
  have := hd.not_cut
  simp only [go, this, if_false, ha, pre]

theorem go_perm (c : Cancel) (outs : List Outcome) (fuel i : Nat) (e : AErr) (last : Option AErr)
    (hd : Started c i) (ha : attemptResult c outs i = .error e)
    (ht : temporary e = false) :
    go c outs (fuel + 1) i last = (.errAttempt e, pre i ++ [.attempt i]) := by
  have := hd.not_cut
  simp [go, this, ha, ht, pre]

theorem go_temp (c : Cancel) (outs : List Outcome) (fuel i : Nat) (e : AErr) (last : Option AErr)
    (hd : Started c i) (ha : attemptResult c outs i = .error e)
    (ht : temporary e = true) :
    go c outs (fuel + 1) i last =
      ((go c outs fuel (i + 1) (some e)).1, pre i ++ .attempt i :: (go c outs fuel (i + 1) (some e)).2) := by
  have := hd.not_cut
  simp [go, this, ha, ht, pre]

theorem attemptsOf_append (a b : List Event) : attemptsOf (a ++ b) = attemptsOf a ++ attemptsOf b := by
  induction a with
  | nil => rfl
  | cons x xs ih => cases x <;> simp [attemptsOf, ih]

theorem attemptsOf_pre (i : Nat) : attemptsOf (pre i) = [] := by
  unfold pre; split <;> rfl

theorem go_cases (c : Cancel) (outs : List Outcome) (fuel i : Nat) (last : Option AErr) :
    (i ≠ 0 ∧ doneAtStart c i = true ∧ go c outs (fuel + 1) i last = (.errCtx c.kind, [.cut])) ∨
    (Started c i ∧
      ((∃ v, attemptResult c outs i = .ok v ∧
          go c outs (fuel + 1) i last = (.ok v, pre i ++ [.attempt i])) ∨
       (∃ e, attemptResult c outs i = .error e ∧ temporary e = false ∧
          go c outs (fuel + 1) i last = (.errAttempt e, pre i ++ [.attempt i])) ∨
       (∃ e, attemptResult c outs i = .error e ∧ temporary e = true ∧
          go c outs (fuel + 1) i last =
            ((go c outs fuel (i + 1) (some e)).1,
             pre i ++ .attempt i :: (go c outs fuel (i + 1) (some e)).2)))) := by
  by_cases hs : Started c i
  · right
    refine ⟨hs, ?_⟩
    cases ha : attemptResult c outs i with
    | ok v => exact Or.inl ⟨v, rfl, go_ok c outs fuel i v last hs ha⟩
    | error e =>
      cases ht : temporary e
      · exact Or.inr (Or.inl ⟨e, rfl, ht, go_perm c outs fuel i e last hs ha ht⟩)
      · exact Or.inr (Or.inr ⟨e, rfl, ht, go_temp c outs fuel i e last hs ha ht⟩)
  · left
    have hi : i ≠ 0 := fun h => hs (.inl h)
    have hd : doneAtStart c i = true := by
      cases hd : doneAtStart c i
      · exact absurd (.inr hd) hs
      · rfl
    exact ⟨hi, hd, go_cut c outs fuel i last hi hd⟩

theorem go_attempts (c : Cancel) (outs : List Outcome) :
    ∀ (fuel i : Nat) (last : Option AErr),
      ∃ m, m ≤ fuel ∧ attemptsOf (go c outs fuel i last).2 = List.range' i m := by
  intro fuel
  induction fuel with
  | zero => intro i last; exact ⟨0, Nat.le_refl _, rfl⟩
  | succ fuel ih =>
    intro i last
    rcases go_cases c outs fuel i last with ⟨_, _, hg⟩ | ⟨_, hrest⟩
    · rw [hg]; exact ⟨0, Nat.zero_le _, rfl⟩
    · rcases hrest with ⟨v', _, hg⟩ | ⟨e, _, _, hg⟩ | ⟨e, _, _, hg⟩
      · rw [hg]; exact ⟨1, by omega, by simp [attemptsOf_append, attemptsOf_pre, attemptsOf, List.range']⟩
      · rw [hg]; exact ⟨1, by omega, by simp [attemptsOf_append, attemptsOf_pre, attemptsOf, List.range']⟩
      · rw [hg]
        obtain ⟨m, hm, hr⟩ := ih (i + 1) (some e)
        refine ⟨m + 1, by omega, ?_⟩
        simp only [attemptsOf_append, attemptsOf_pre, attemptsOf, List.nil_append, hr]
        simp [List.range']

/-- a run of `n` live temporary failures advances the loop by `n`; `last'` is then the error of the last of them -/
theorem go_temps (c : Cancel) (outs : List Outcome) (f : Nat) :
    ∀ (n i : Nat) (last : Option AErr),
      (∀ j, i ≤ j → j < i + n → TempFail c outs j ∧ Started c j) →
      ∃ last', (go c outs (f + n) i last).1 = (go c outs f (i + n) last').1 ∧
        attemptsOf (go c outs (f + n) i last).2 = List.range' i n ++ attemptsOf (go c outs f (i + n) last').2 ∧
        (n = 0 → last' = last) ∧ (0 < n → ∃ e, last' = some e ∧ attemptResult c outs (i + n - 1) = .error e)
  | 0, i, last, _ => ⟨last, rfl, rfl, fun _ => rfl, fun h => absurd h (Nat.lt_irrefl 0)⟩
  | n + 1, i, last, h => by
    obtain ⟨⟨e, he, ht⟩, hd⟩ := h i (Nat.le_refl _) (by omega)
    obtain ⟨last', h1, h2, h0, h3⟩ := go_temps c outs f n (i + 1) (some e) fun j a b => h j (by omega) (by omega)
    have hi : i + 1 + n = i + (n + 1) := by omega
    rw [hi] at h1 h2
    refine ⟨last', ?_, ?_, nofun, fun _ => ?_⟩
    · rw [show f + (n + 1) = f + n + 1 from rfl, go_temp c outs (f + n) i e last hd he ht]
      exact h1
    · rw [show f + (n + 1) = f + n + 1 from rfl, go_temp c outs (f + n) i e last hd he ht]
      simp only [attemptsOf_append, attemptsOf_pre, attemptsOf, List.nil_append, h2]
      rfl
    · cases n with
      | zero => exact ⟨e, h0 rfl, he⟩
      | succ m =>
        obtain ⟨e', r1, r2⟩ := h3 (Nat.succ_pos m)
        exact ⟨e', r1, by rw [show i + (m + 1 + 1) - 1 = i + 1 + (m + 1) - 1 by omega]; exact r2⟩

/-- `go_temps` in the coordinates of the endings: temporary failures from `i` up to `k` bring the loop to iteration `k` -/
theorem go_upto (c : Cancel) (outs : List Outcome) {fuel i k : Nat} (last : Option AErr) (h1 : i ≤ k) (h2 : k < i + fuel)
    (hall : ∀ j, i ≤ j → j < k → TempFail c outs j ∧ Started c j) :
    ∃ f last', fuel = f + 1 + (k - i) ∧ (go c outs fuel i last).1 = (go c outs (f + 1) k last').1 ∧
      attemptsOf (go c outs fuel i last).2 = List.range' i (k - i) ++ attemptsOf (go c outs (f + 1) k last').2 := by
  obtain ⟨n, rfl⟩ := Nat.exists_eq_add_of_le h1
  obtain ⟨f, rfl⟩ : ∃ f, fuel = f + 1 + n := ⟨fuel - 1 - n, by omega⟩
  obtain ⟨last', r1, r2, -⟩ := go_temps c outs (f + 1) n i last hall
  exact ⟨f, last', by omega, r1, by rw [r2, Nat.add_sub_cancel_left]⟩

theorem go_ok_iff (c : Cancel) (outs : List Outcome) (v : Nat) :
    ∀ (fuel i : Nat) (last : Option AErr),
      (go c outs fuel i last).1 = .ok v ↔
        ∃ k, i ≤ k ∧ k < i + fuel ∧ attemptResult c outs k = .ok v ∧
          ∀ j, i ≤ j → j < k → TempFail c outs j := by
  intro fuel i last
  constructor
  · -- the first attempt that does not fail temporarily is where the loop stops
    induction fuel generalizing i last with
    | zero => intro h; cases last <;> simp [go_zero, lastResult] at h
    | succ fuel ih =>
      intro h
      rcases go_cases c outs fuel i last with ⟨_, _, hg⟩ | ⟨_, ⟨v', ha, hg⟩ | ⟨e, _, _, hg⟩ | ⟨e, ha, ht, hg⟩⟩
      · rw [hg] at h; cases h
      · rw [hg] at h; cases h
        exact ⟨i, Nat.le_refl _, by omega, ha, fun j h1 h2 => by omega⟩
      · rw [hg] at h; cases h
      · rw [hg] at h
        obtain ⟨k, h1, h2, hk, hall⟩ := ih (i + 1) (some e) h
        refine ⟨k, by omega, by omega, hk, fun j hj1 hj2 => ?_⟩
        by_cases hji : j = i
        · subst hji; exact ⟨e, ha, ht⟩
        · exact hall j (by omega) hj2
  · rintro ⟨k, h1, h2, hk, hall⟩
    have hdk := not_done_of_ok c outs hk
    obtain ⟨f, last', -, r1, -⟩ := go_upto c outs last h1 h2 fun j a b =>
      ⟨hall j a b, .inr (not_done_before (Nat.le_of_lt b) hdk)⟩
    rw [r1, go_ok c outs f k v last' (.inr hdk) hk]

theorem go_permanent (c : Cancel) (outs : List Outcome) (k : Nat) (e : AErr)
    (hk : attemptResult c outs k = .error e) (ht : temporary e = false) :
    ∀ (fuel i : Nat) (last : Option AErr), i ≤ k → k < i + fuel →
      (∀ j, i ≤ j → j < k → TempFail c outs j) →
      (go c outs fuel i last).1 = .errAttempt e ∧
      attemptsOf (go c outs fuel i last).2 = List.range' i (k + 1 - i) := by
  intro fuel i last h1 h2 hall
  have hdk := not_done_of_permanent c outs hk ht
  obtain ⟨f, last', -, r1, r2⟩ := go_upto c outs last h1 h2 fun j a b =>
    ⟨hall j a b, .inr (not_done_before (Nat.le_of_lt b) hdk)⟩
  rw [go_perm c outs f k e last' (.inr hdk) hk ht] at r1 r2
  refine ⟨r1, ?_⟩
  rw [r2, show k + 1 - i = k - i + 1 by omega, List.range'_1_concat, show i + (k - i) = k by omega]
  simp [attemptsOf_append, attemptsOf_pre, attemptsOf]

theorem go_cancel (c : Cancel) (outs : List Outcome) :
    ∀ (fuel i : Nat) (last : Option AErr), ∀ a ∈ attemptsOf (go c outs fuel i last).2,
      (a ≠ 0 → doneAtStart c a = false) ∧
      (cancelledBy c a = true → ∀ b ∈ attemptsOf (go c outs fuel i last).2, b ≤ a) := by
  intro fuel
  induction fuel with
  | zero => intro i last a ha; simp [go_zero, attemptsOf] at ha
  | succ fuel ih =>
    intro i last a ha
    rcases go_cases c outs fuel i last with ⟨_, _, hg⟩ | ⟨hd, hrest⟩
    · rw [hg] at ha; simp [attemptsOf] at ha
    · have hstart : i ≠ 0 → doneAtStart c i = false := by
        intro h; rcases hd with h' | h'
        · exact absurd h' h
        · exact h'
      rcases hrest with ⟨v', _, hg⟩ | ⟨e, _, _, hg⟩ | ⟨e, hae, _, hg⟩
      · rw [hg] at ha ⊢
        simp [attemptsOf_append, attemptsOf_pre, attemptsOf] at ha ⊢
        subst ha; exact ⟨hstart, fun _ => Nat.le_refl _⟩
      · rw [hg] at ha ⊢
        simp [attemptsOf_append, attemptsOf_pre, attemptsOf] at ha ⊢
        subst ha; exact ⟨hstart, fun _ => Nat.le_refl _⟩
      · rw [hg] at ha ⊢
        simp only [attemptsOf_append, attemptsOf_pre, attemptsOf, List.nil_append, List.mem_cons] at ha ⊢
        obtain ⟨m, hm, hr⟩ := go_attempts c outs fuel (i + 1) (some e)
        rcases ha with rfl | ha
        · refine ⟨hstart, ?_⟩
          intro hc b hb
          rcases hb with rfl | hb
          · exact Nat.le_refl _
          · -- the next iteration sees the finished context and makes no attempt
            have hd1 := doneAtStart_succ_of_cancelledBy c hc
            cases fuel with
            | zero => simp [go_zero, attemptsOf] at hb
            | succ f =>
              rw [go_cut c outs f (a + 1) (some e) (by omega) hd1] at hb
              simp [attemptsOf] at hb
        · obtain ⟨p1, p2⟩ := ih (i + 1) (some e) a ha
          refine ⟨p1, ?_⟩
          intro hc b hb
          rcases hb with rfl | hb
          · rw [hr] at ha
            have := (List.mem_range'_1.mp ha).1
            omega
          · exact p2 hc b hb

/-- the loop from iteration `i` when the context ends during attempt `k ≥ i`, or before the call (`k = 0`) -/
theorem go_cancel_at (c : Cancel) (outs : List Outcome) (k : Nat)
    (hc : cancelledBy c k = true) (hl : Started c k) :
    ∀ (fuel i : Nat) (last : Option AErr), i ≤ k → k < i + fuel →
      (∀ j, i ≤ j → j < k → TempFail c outs j) →
      (go c outs fuel i last).1 =
        (if k + 1 < i + fuel then .errCtx c.kind else .errAttempt (.ctx c.kind)) ∧
      attemptsOf (go c outs fuel i last).2 = List.range' i (k + 1 - i) := by
  intro fuel i last h1 h2 hall
  obtain ⟨f, last', hf, r1, r2⟩ := go_upto c outs last h1 h2 fun j a b =>
    ⟨hall j a b, hl.imp (by omega) (not_done_before (Nat.le_of_lt b))⟩
  rw [go_temp c outs f k (.ctx c.kind) last' hl (attemptResult_of_cancelled c outs hc) rfl] at r1 r2
  have hd1 := doneAtStart_succ_of_cancelledBy c hc
  rw [r1, r2, show k + 1 - i = k - i + 1 by omega, List.range'_1_concat, show i + (k - i) = k by omega]
  cases f with
  | zero =>
    rw [if_neg (by omega)]
    simp [go_zero, lastResult, attemptsOf_append, attemptsOf_pre, attemptsOf]
  | succ f =>
    rw [if_pos (by omega), go_cut c outs f (k + 1) _ (by omega) hd1]
    simp [attemptsOf_append, attemptsOf_pre, attemptsOf]

/-- the context ends during the back-off wait before attempt `k ≥ 1` -/
theorem go_cancel_before (c : Cancel) (outs : List Outcome) (k : Nat) (hk : 0 < k)
    (hc : doneAtStart c k = true) (hl : ∀ j, j < k → cancelledBy c j = false) :
    ∀ (fuel i : Nat) (last : Option AErr), i ≤ k → k < i + fuel →
      (∀ j, i ≤ j → j < k → TempFail c outs j) →
      (go c outs fuel i last).1 = .errCtx c.kind ∧
      attemptsOf (go c outs fuel i last).2 = List.range' i (k - i) := by
  intro fuel i last h1 h2 hall
  obtain ⟨f, last', -, r1, r2⟩ := go_upto c outs last h1 h2 fun j a b =>
    ⟨hall j a b, .inr (not_done_of_live c (hl j b))⟩
  rw [go_cut c outs f k last' (by omega) hc] at r1 r2
  exact ⟨r1, by simpa [attemptsOf] using r2⟩

theorem go_exhausted (c : Cancel) (outs : List Outcome) :
    ∀ (fuel i : Nat) (last : Option AErr),
      (∀ j, i ≤ j → j < i + fuel → j ≠ 0 → doneAtStart c j = false) →
      (∀ j, i ≤ j → j < i + fuel → TempFail c outs j) → 0 < fuel →
      ∃ e, attemptResult c outs (i + fuel - 1) = .error e ∧
        (go c outs fuel i last).1 = .errAttempt e ∧
        attemptsOf (go c outs fuel i last).2 = List.range' i fuel := by
  intro fuel i last hlive hall hpos
  obtain ⟨last', r1, r2, _, r3⟩ := go_temps c outs 0 fuel i last fun j a b =>
    ⟨hall j a b, (Nat.eq_zero_or_pos j).imp id fun h => hlive j a b (by omega)⟩
  obtain ⟨e, rfl, he⟩ := r3 hpos
  rw [Nat.zero_add] at r1 r2
  exact ⟨e, he, r1, by simpa [go_zero, attemptsOf] using r2⟩

end Relic.Retry
