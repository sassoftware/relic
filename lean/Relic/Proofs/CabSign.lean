/- the signed cabinet as bytes, what `Digest` returns for it (C01/C03/C05/C08), injectivity of the hashed stream (C02) -/
import Relic.Proofs.Cab
import Relic.Proofs.Binpatch
namespace Relic.Cab
open Relic.PE (seg u16 seg_length)

/-- the layout every real cabinet has and `Digest` does not check: the CFFILE entries start where the folder headers
    end, before the end of the cabinet -/
def Regular (d : Digest) : Prop := d.offFiles = d.foldersStart + 8 * d.nFolders ∧ d.offFiles ≤ d.total

/-- inserting the 24 bytes of reserve + signature header does not overflow the 32-bit `TotalSize` -/
def NoWrap (d : Digest) : Prop := d.delta = 24 → d.total + 24 < 2 ^ 32

/-- the header `MakePatch` writes: `Patched` with the final `SignatureSize` -/
def sigHdr (d : Digest) (sig : Bytes) : Hdr60 := { d.hdr with ss := leBytes 4 (padded sig).length }

def signedBytes (d : Digest) (sig : Bytes) : Bytes := (sigHdr d sig).enc ++ d.folders ++ d.data ++ padded sig

theorem hdr_lens (f : Bytes) (d : Digest) (H : DigestOk f d) : d.hdr.Lens := by
  rw [H.hdr]; exact outHdr_lens f _ _ _ _ _ _ H.len H.l1 H.l2 H.l3

theorem sigHdr_lens (f : Bytes) (d : Digest) (sig : Bytes) (H : DigestOk f d) : (sigHdr d sig).Lens := by
  have L := hdr_lens f d H
  exact ⟨L.magic, L.r1, L.total, L.r2, L.off, L.r3ver, L.nf, L.nfiles, L.flags, L.setid, L.cabnum, L.hs, L.fsz, L.dsz, L.u1,
    L.cs, leBytes_length 4 _, L.u2, L.u3⟩

theorem folders_length (f : Bytes) (d : Digest) (H : DigestOk f d) : d.folders.length = 8 * d.nFolders := by
  rw [H.folders, rebaseFolders_length f _ _ _ (by have := H.dataEnd; have := H.stop; omega)]

/-- what the rebasing amounts to: an offset at or behind the folder headers moves with them to byte 60
    (`hs`, `hk`, `hd` are `DigestOk.shift`, `kind`, `deltaLe`; `hw` is `NoWrap` for `x`) -/
theorem rebase_shift (fs delta x : Nat) (hs : (fs + delta) % 2 ^ 32 = 60) (hk : (fs = 36 ∧ delta = 24) ∨ 60 ≤ fs)
    (hd : delta ≤ 2 ^ 32) (hfx : fs ≤ x) (hx : x < 2 ^ 32) (hw : delta = 24 → x + 24 < 2 ^ 32) :
    rebase delta x = x - fs + 60 := by
  unfold rebase; omega

/-- the rebased offsets are the physical ones in the new file -/
theorem regular_arith (f : Bytes) (d : Digest) (H : DigestOk f d) (R : Regular d) (W : NoWrap d) :
    d.dataEnd = d.total ∧ rebase d.delta d.offFiles = 60 + 8 * d.nFolders ∧
    rebase d.delta d.total = 60 + 8 * d.nFolders + (d.total - d.offFiles) ∧
    d.data.length = d.total - d.offFiles ∧ d.folders.length = 8 * d.nFolders := by
  have ht : d.total < 2 ^ 32 := by rw [H.total]; exact u32_lt f 8
  obtain ⟨r1, r2⟩ := R
  -- the 32-bit subtraction of `Digest` (`H.dataEnd`) is used for `e1` only: in the context it would slow every `omega` below
  have e1 : d.dataEnd = d.total := by have := H.dataEnd; omega
  have eO := rebase_shift _ _ d.offFiles H.shift H.kind H.deltaLe (by omega) (by omega) (by intro h; have := W h; omega)
  have eT := rebase_shift _ _ d.total H.shift H.kind H.deltaLe (by omega) ht W
  refine ⟨e1, by omega, by omega, ?_, folders_length f d H⟩
  have := H.stop
  rw [H.data, seg_length f _ _ (by omega)]; omega

theorem signedBytes_length (f : Bytes) (d : Digest) (sig : Bytes) (H : DigestOk f d) (R : Regular d) (W : NoWrap d) :
    (signedBytes d sig).length = 60 + 8 * d.nFolders + (d.total - d.offFiles) + (padded sig).length := by
  obtain ⟨_, _, _, e4, e5⟩ := regular_arith f d H R W
  simp only [signedBytes, List.length_append, Hdr60.enc_length _ (sigHdr_lens f d sig H), e4, e5]

theorem makePatch_constructible (f : Bytes) (d : Digest) (sig : Bytes) (H : DigestOk f d) (R : Regular d) (W : NoWrap d) :
    Binpatch.wfFrom f.length 0 (makePatch d sig) = true := by
  obtain ⟨e1, _⟩ := regular_arith f d H R W
  have h7 := H.stop
  obtain ⟨r1, r2⟩ := R
  simp [makePatch, Binpatch.wfFrom]
  omega

theorem sem_makePatch (f : Bytes) (d : Digest) (sig : Bytes) (H : DigestOk f d) (R : Regular d) (W : NoWrap d) :
    Binpatch.sem f (makePatch d sig) = signedBytes d sig := by
  have w := makePatch_constructible f d sig H R W
  obtain ⟨e1, _⟩ := regular_arith f d H R W
  have hd := H.data
  rw [← R.1] at hd
  -- the two patches are constructible, so what they write is `copy`: the signed cabinet, piece by piece
  rw [Binpatch.sem_copy f 0 _ w]
  simp only [Binpatch.copy, makePatch, Digest.patched, List.take_zero, List.nil_append, Nat.zero_add, PE.seg_self, ← hd,
    setSigSize_enc d.hdr (hdr_lens f d H), ← e1, ← H.stop, List.drop_length, List.append_nil, signedBytes, sigHdr,
    List.append_assoc]

/-- what `Digest` returns for the signed cabinet -/
def resigned (d : Digest) (sig : Bytes) : Digest :=
  { hdr := d.hdr, folders := d.folders, data := d.data,
    total := rebase d.delta d.total, offFiles := rebase d.delta d.offFiles, nFolders := d.nFolders, delta := 0,
    hasSig := true, oldSigSize := (padded sig).length, signature := padded sig, foldersStart := 60,
    dataEnd := 60 + 8 * d.nFolders + (rebase d.delta d.total + 2 ^ 32 - rebase d.delta d.offFiles) % 2 ^ 32 }

theorem DigestCab_signed (f : Bytes) (d : Digest) (sig : Bytes) (H : DigestOk f d) (R : Regular d) (W : NoWrap d)
    (hs : (padded sig).length < 2 ^ 32) : DigestCab (signedBytes d sig) = .ok (resigned d sig) := by
  obtain ⟨_, eO, eT, eD, eF⟩ := regular_arith f d H R W
  have hlen := signedBytes_length f d sig H R W
  have L := sigHdr_lens f d sig H
  have l60 := Hdr60.enc_length _ L
  have hn : (rebase d.delta d.total + 2 ^ 32 - rebase d.delta d.offFiles) % 2 ^ 32 = d.total - d.offFiles := by
    have := R.2; have := rebase_lt d.delta d.total; omega
  have hr : Hdr60.read (signedBytes d sig) = { outHdr f (rebase d.delta d.total) (rebase d.delta d.offFiles) 4 d.hdr.u1
      d.hdr.u2 d.hdr.u3 with ss := leBytes 4 (padded sig).length } := by
    have := Hdr60.read_enc (sigHdr d sig) L (d.folders ++ (d.data ++ padded sig))
    rw [← List.append_assoc, ← List.append_assoc] at this
    exact this.trans (congrArg (fun h : Hdr60 => { h with ss := leBytes 4 (padded sig).length }) H.hdr)
  have gfold : seg (signedBytes d sig) 60 (60 + 8 * d.nFolders) = d.folders := by
    unfold signedBytes
    rw [List.append_assoc, List.append_assoc]
    exact seg_at _ _ _ _ _ l60.symm (by rw [eF])
  have gdata : seg (signedBytes d sig) (60 + 8 * d.nFolders) (60 + 8 * d.nFolders + (d.total - d.offFiles)) = d.data := by
    unfold signedBytes
    rw [List.append_assoc]
    exact seg_at _ _ _ _ _ (by rw [List.length_append, l60, eF]) (by rw [eD])
  have gsig : seg (signedBytes d sig) (60 + 8 * d.nFolders + (d.total - d.offFiles))
      (60 + 8 * d.nFolders + (d.total - d.offFiles) + (padded sig).length) = padded sig := by
    have := seg_at ((sigHdr d sig).enc ++ d.folders ++ d.data) (padded sig) [] _ _
      (by rw [List.length_append, List.length_append, l60, eF, eD]) rfl
    rwa [List.append_nil] at this
  -- from here on the file is a variable `g`: the reads below are fields of `Hdr60.read g`, whatever `g` was built from
  generalize signedBytes d sig = g at hlen hr gfold gdata gsig ⊢
  have g1 : seg g 40 44 = d.hdr.u1 := congrArg Hdr60.u1 hr
  have g2 : seg g 52 56 = d.hdr.u2 := congrArg Hdr60.u2 hr
  have g3 : seg g 56 60 = d.hdr.u3 := congrArg Hdr60.u3 hr
  have hH : outHdr g (rebase d.delta d.total) (rebase d.delta d.offFiles) 4 d.hdr.u1 d.hdr.u2 d.hdr.u3 = d.hdr := by
    rw [outHdr_read, hr]
    exact H.hdr.symm
  rw [DigestCab_signedLayout g (rebase d.delta d.total) (rebase d.delta d.offFiles) d.nFolders (d.total - d.offFiles)
    (padded sig).length (by omega)
    ((congrArg (fun h : Hdr60 => leVal h.magic) hr).trans H.magic)
    ((congrArg (fun h : Hdr60 => leVal h.total) hr).trans (leVal_leBytes_of_lt 4 _ (rebase_lt _ _)))
    ((congrArg (fun h : Hdr60 => leVal h.off) hr).trans (leVal_leBytes_of_lt 4 _ (rebase_lt _ _)))
    ((congrArg (fun h : Hdr60 => leVal h.nf) hr).trans H.nf.symm)
    (congrArg (fun h : Hdr60 => leVal h.flags) hr) (congrArg (fun h : Hdr60 => leVal h.hs) hr)
    (congrArg (fun h : Hdr60 => leVal h.fsz) hr) (congrArg (fun h : Hdr60 => leVal h.dsz) hr)
    ((congrArg (fun h : Hdr60 => leVal h.cs) hr).trans (leVal_leBytes_of_lt 4 _ (rebase_lt _ _)))
    ((congrArg (fun h : Hdr60 => leVal h.ss) hr).trans (leVal_leBytes_of_lt 4 _ hs))
    hn hlen,
    g1, g2, g3, hH, gfold, gdata, gsig, resigned, hn]

theorem resigned_regular (f : Bytes) (d : Digest) (sig : Bytes) (H : DigestOk f d) (R : Regular d) (W : NoWrap d) :
    Regular (resigned d sig) ∧ NoWrap (resigned d sig) := by
  obtain ⟨_, eO, eT, _, _⟩ := regular_arith f d H R W
  refine ⟨⟨?_, ?_⟩, ?_⟩
  · show rebase d.delta d.offFiles = 60 + 8 * d.nFolders
    exact eO
  · show rebase d.delta d.offFiles ≤ rebase d.delta d.total
    rw [eO, eT]; omega
  · intro h
    have : (0 : Nat) = 24 := h
    omega

theorem signedBytes_resigned (d : Digest) (s1 s2 : Bytes) : signedBytes (resigned d s1) s2 = signedBytes d s2 := rfl

theorem sigBlob_inj (x y : Hdr60) (Lx : x.Lens) (Ly : y.Lens) (h : x.sigBlob = y.sigBlob) :
    x.magic = y.magic ∧ x.total = y.total ∧ x.r2 = y.r2 ∧ x.off = y.off ∧ x.r3ver = y.r3ver ∧ x.nf = y.nf ∧
    x.nfiles = y.nfiles ∧ x.flags = y.flags ∧ x.setid = y.setid ∧ x.u3 = y.u3 := by
  simp only [Hdr60.sigBlob, List.append_assoc] at h
  obtain ⟨h1, h⟩ := List.append_inj h (by rw [Lx.magic, Ly.magic])
  obtain ⟨h2, h⟩ := List.append_inj h (by rw [Lx.total, Ly.total])
  obtain ⟨h3, h⟩ := List.append_inj h (by rw [Lx.r2, Ly.r2])
  obtain ⟨h4, h⟩ := List.append_inj h (by rw [Lx.off, Ly.off])
  obtain ⟨h5, h⟩ := List.append_inj h (by rw [Lx.r3ver, Ly.r3ver])
  obtain ⟨h6, h⟩ := List.append_inj h (by rw [Lx.nf, Ly.nf])
  obtain ⟨h7, h⟩ := List.append_inj h (by rw [Lx.nfiles, Ly.nfiles])
  obtain ⟨h8, h⟩ := List.append_inj h (by rw [Lx.flags, Ly.flags])
  obtain ⟨h9, h⟩ := List.append_inj h (by rw [Lx.setid, Ly.setid])
  exact ⟨h1, h2, h3, h4, h5, h6, h7, h8, h9, h⟩

theorem hashed_inj (a b : Bytes) (da db : Digest) (A : DigestOk a da) (B : DigestOk b db) (hs : da.hashed = db.hashed) :
    da.hdr.sigBlob = db.hdr.sigBlob ∧ da.folders = db.folders ∧ da.data = db.data ∧ da.nFolders = db.nFolders ∧
    rebase da.delta da.total = rebase db.delta db.total ∧ rebase da.delta da.offFiles = rebase db.delta db.offFiles := by
  have La := hdr_lens a da A
  have Lb := hdr_lens b db B
  simp only [Digest.hashed, List.append_assoc] at hs
  obtain ⟨h1, h2⟩ := List.append_inj hs (by rw [Hdr60.sigBlob_length _ La, Hdr60.sigBlob_length _ Lb])
  obtain ⟨_, f2, _, f4, _, f6, _, _, _, _⟩ := sigBlob_inj _ _ La Lb h1
  have ha := A.hdr; have hb := B.hdr
  have nfa : da.hdr.nf = seg a 26 28 := congrArg Hdr60.nf ha
  have nfb : db.hdr.nf = seg b 26 28 := congrArg Hdr60.nf hb
  have ta : da.hdr.total = leBytes 4 (rebase da.delta da.total) := congrArg Hdr60.total ha
  have tb : db.hdr.total = leBytes 4 (rebase db.delta db.total) := congrArg Hdr60.total hb
  have oa : da.hdr.off = leBytes 4 (rebase da.delta da.offFiles) := congrArg Hdr60.off ha
  have ob : db.hdr.off = leBytes 4 (rebase db.delta db.offFiles) := congrArg Hdr60.off hb
  have hnf : da.nFolders = db.nFolders := by
    rw [A.nf, B.nf]; unfold u16; rw [← nfa, ← nfb, f6]
  have hT : rebase da.delta da.total = rebase db.delta db.total := by
    have := congrArg leVal f2
    rw [ta, tb, leVal_leBytes_of_lt 4 _ (rebase_lt _ _), leVal_leBytes_of_lt 4 _ (rebase_lt _ _)] at this
    exact this
  have hO : rebase da.delta da.offFiles = rebase db.delta db.offFiles := by
    have := congrArg leVal f4
    rw [oa, ob, leVal_leBytes_of_lt 4 _ (rebase_lt _ _), leVal_leBytes_of_lt 4 _ (rebase_lt _ _)] at this
    exact this
  obtain ⟨h3, h4⟩ := List.append_inj h2 (by rw [folders_length a da A, folders_length b db B, hnf])
  exact ⟨h1, h3, h4, hnf, hT, hO⟩

end Relic.Cab
