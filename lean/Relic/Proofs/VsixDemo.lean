/-
  A toy environment and small packages for the non-vacuity examples and the witnesses of the VSIX fragments.
-/
import Relic.Proofs.VsixSign
namespace Relic.Vsix
open Relic.Xml

def noNode : Node := .text [] false

/-- a toy environment: the digest text of a stream is the stream, relationship parts are recognised by comparison with
    what `marshalRels` writes for the lists in `cands`, the signature part is the byte `S` and opens to `obj` under the key
    `[7]`, which the certificate `[1]` carries -/
def demoEnv (cands : List (List Rel)) (obj : Node) : Env where
  dtext := fun _ s => s
  digestCmp := fun _ s v => if v = s then .ok else .mismatch
  relId := fun _ _ _ => [0x52]
  parseRels := fun b => cands.find? fun rs => marshalRels rs = b
  parseCT := fun _ => some ([], [])
  marshalCT := fun _ _ => []
  parseCerts := fun b => if b = [1] then some [[7]] else none
  xsign := fun _ _ _ => [0x53]
  xopen := fun b _ => if b = [0x53] then .ok ⟨obj, .sha256, [7], [[7]], none⟩ else .err "x-xml"

/-- the relationship lists a signing with `c` writes -/
def demoCands (c : Cfg) : List (List Rel) :=
  [appendRel (demoEnv [] noNode) [] sOrigin sigOriginType, appendRel (demoEnv [] noNode) [] (sigName c) sigType,
   certRels (demoEnv [] noNode) c.chain []]

/-- stem "ab", one certificate -/
def demoCfg (detach : Bool) : Cfg := { hash := .sha256, detach := detach, stem := [0x61, 0x62], chain := [([0x61, 0x62], [1])], time := [] }

/-- the Object a signing of `pkg` builds (the signer does not use `xopen`; where the repaired signer succeeds it builds the
    same Object as the one before the repairs) -/
def demoObj (c : Cfg) (pkg : Pkg) : Node :=
  match Vsix.sign false (demoEnv [] noNode) c pkg with
  | .ok s => s.obj
  | _ => noNode

def demoE (c : Cfg) (pkg : Pkg) : Env := demoEnv (demoCands c) (demoObj c pkg)

def noSigned : Vsix.Signed := ⟨[], [], [], noNode, {}⟩

def demoSigned (fx : Bool) (c : Cfg) (pkg : Pkg) : Vsix.Signed :=
  match Vsix.sign fx (demoE c pkg) c pkg with
  | .ok s => s
  | _ => noSigned

/-- "a.txt", a foreign relationship part "x.rels", a content types part, a stale origin part -/
def demoPkg : Pkg := [⟨[0x61, 0x2e, 0x74, 0x78, 0x74], [1, 2]⟩, ⟨sContentTypes, [9]⟩, ⟨[0x78, 0x2e, 0x72, 0x65, 0x6c, 0x73], [3]⟩, ⟨sOrigin, [4]⟩]

/-- "a?b.txt": the name does not survive the Reference URI -/
def queryPkg : Pkg := [⟨[0x61, 0x3f, 0x62, 0x2e, 0x74, 0x78, 0x74], [1, 2]⟩]

/-! A toy `[Content_Types].xml` codec with a proved round trip, and the package and environment of the non-vacuity example of
    `Relic.Props.C08.vsix_resign_total`. -/

/-- a byte string as `1 x 1 y … 0` -/
def toyEncB (b : Bytes) : Bytes := b.flatMap (fun x => [1, x]) ++ [0]

def toyEncLL (l : List Bytes) : Bytes := l.flatMap toyEncB

def toyDecLL : Bytes → Bytes → List Bytes
  | [], _ => []
  | 0 :: r, cur => cur.reverse :: toyDecLL r []
  | 1 :: x :: r, cur => toyDecLL r (x :: cur)
  | _, _ => []

theorem toyDecLL_encB : ∀ (b rest cur : Bytes), toyDecLL (toyEncB b ++ rest) cur = (cur.reverse ++ b) :: toyDecLL rest []
  | [], rest, cur => by simp [toyEncB, toyDecLL]
  | x :: b, rest, cur => by
    have ih := toyDecLL_encB b rest (x :: cur)
    simp only [toyEncB, List.flatMap_cons, List.append_assoc, List.cons_append, List.nil_append, toyDecLL] at ih ⊢
    rw [ih]
    simp

theorem toyDecLL_encLL : ∀ (l : List Bytes), toyDecLL (toyEncLL l) [] = l
  | [] => by simp [toyEncLL, toyDecLL]
  | b :: l => by
    have ih := toyDecLL_encLL l
    simp only [toyEncLL, List.flatMap_cons] at ih ⊢
    rw [toyDecLL_encB, ih]
    simp

/-- a list of pairs as `[1] k v [1] k v … [0]` -/
def toyFlat (l : List (Bytes × Bytes)) : List Bytes := l.flatMap (fun e => [[1], e.1, e.2]) ++ [[0]]

def toyUnflat : List Bytes → Option (List (Bytes × Bytes) × List Bytes)
  | [0] :: r => some ([], r)
  | [1] :: k :: v :: r =>
    match toyUnflat r with
    | some (l, r') => some ((k, v) :: l, r')
    | none => none
  | _ => none

theorem toyUnflat_flat : ∀ (l : List (Bytes × Bytes)) (rest : List Bytes), toyUnflat (toyFlat l ++ rest) = some (l, rest)
  | [], rest => by simp [toyFlat, toyUnflat]
  | e :: l, rest => by
    have ih := toyUnflat_flat l rest
    simp only [toyFlat, List.flatMap_cons, List.append_assoc, List.cons_append, List.nil_append, toyUnflat] at ih ⊢
    rw [ih]

def toyMarshalCT (a b : List (Bytes × Bytes)) : Bytes := toyEncLL (toyFlat a ++ toyFlat b)

def toyParseCT (x : Bytes) : Option (List (Bytes × Bytes) × List (Bytes × Bytes)) :=
  match toyUnflat (toyDecLL x []) with
  | some (a, r) =>
    match toyUnflat r with
    | some (b, []) => some (a, b)
    | _ => none
  | none => none

theorem toy_roundtrip (a b : List (Bytes × Bytes)) : toyParseCT (toyMarshalCT a b) = some (a, b) := by
  unfold toyParseCT toyMarshalCT
  rw [toyDecLL_encLL, toyUnflat_flat]
  simp only
  have := toyUnflat_flat b []
  rw [List.append_nil] at this
  rw [this]

/-- `demoE` with a content types codec that has the round trip -/
def toyE (c : Cfg) (pkg : Pkg) : Env := { demoE c pkg with parseCT := toyParseCT, marshalCT := toyMarshalCT }

/-- "a.cer" (kept), and a `[Content_Types].xml` that declares `Default cer = "x/y"` and `Default rels = "r"`: in the second
    round both extensions read back as the builtin types -/
def toyPkg : Pkg :=
  [⟨[0x61, 0x2e, 0x63, 0x65, 0x72], [1, 2]⟩,
   ⟨sContentTypes, toyMarshalCT [(xCer, [0x78, 0x2f, 0x79]), (xRels, [0x72])] []⟩]

end Relic.Vsix
