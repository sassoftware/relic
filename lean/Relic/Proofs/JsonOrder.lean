/- the order in which encoding/json emits the members of Go maps: `sortMembers` is an insertion sort by the key order and
   gives one listing for all permutations of a map's members; hence, at all depths, `json.Marshal` does not depend on
   the iteration order of any Go map inside the value -/
import Relic.Model.Json
import Relic.Proofs.InsertSort
namespace Relic.Json

theorem natLt_strictTotal : StrictTotal (fun x y : Nat => decide (x < y)) where
  irrefl a := by simp
  trans a b c h1 h2 := by
    simp only [decide_eq_true_eq] at h1 h2 ⊢
    omega
  tri a b h1 h2 := by
    simp only [decide_eq_false_iff_not] at h1 h2
    omega

theorem keyLt_eq_lex : ∀ a b : Key, keyLt a b = lexBy (fun x y => decide (x < y)) a b
  | [], [] => rfl
  | [], _ :: _ => rfl
  | _ :: _, [] => rfl
  | x :: xs, y :: ys => by simp only [keyLt, lexBy, decide_eq_true_eq, keyLt_eq_lex xs ys]

theorem keyLt_strictTotal : StrictTotal keyLt := by
  rw [show keyLt = lexBy (fun x y => decide (x < y)) from funext fun a => funext (keyLt_eq_lex a)]
  exact natLt_strictTotal.lex

theorem keyLt_irrefl (a : Key) : keyLt a a = false := keyLt_strictTotal.irrefl a

def keysOf (l : List Member) : List Key := l.map (·.1)

def SortedM (l : List Member) : Prop := l.Pairwise (fun a b => keyLt a.1 b.1 = true)

theorem sortMembers_insertSort : InsertSort (fun x y : Member => keyLt y.1 x.1) insertMember sortMembers :=
  ⟨⟨fun _ => rfl, fun _ _ _ => rfl⟩, rfl, fun _ _ => rfl⟩

theorem sortMembers_perm (l : List Member) : (sortMembers l).Perm l := sortMembers_insertSort.sort_perm l

theorem sortMembers_sorted (l : List Member) (hn : (keysOf l).Nodup) : SortedM (sortMembers l) := by
  refine sortMembers_insertSort.sort_pairwise (C := fun a b => a.1 ≠ b.1) (fun a b c => keyLt_strictTotal.trans a.1 b.1 c.1) ?_ l
    (List.pairwise_map.mp hn)
  intro a b hab
  split
  · assumption
  · rename_i hba
    cases h : keyLt a.1 b.1
    · exact absurd (keyLt_strictTotal.tri _ _ h (by simpa using hba)) hab
    · rfl

theorem sorted_unique (s t : List Member) (hs : SortedM s) (ht : SortedM t) (hp : s.Perm t) : s = t :=
  Relic.sorted_unique_of_asymm (fun a b hab hba => by rw [keyLt_strictTotal.asymm hab] at hba; cases hba) hs ht hp

theorem sortMembers_perm_eq (l l' : List Member) (hp : l.Perm l') (hn : (keysOf l).Nodup) :
    sortMembers l = sortMembers l' := by
  have hn' : (keysOf l').Nodup := (List.Perm.nodup_iff (hp.map (fun (p : Member) => p.1))).mp hn
  exact sorted_unique _ _ (sortMembers_sorted l hn) (sortMembers_sorted l' hn')
    ((sortMembers_perm l).trans (hp.trans (sortMembers_perm l').symm))

mutual
/-- the same value with every map listed in the order an arbitrary iteration `σ` delivers it (at every depth) -/
def shuffle (σ : List Member → List Member) : JVal → JVal
  | .null => .null
  | .bool b => .bool b
  | .num t => .num t
  | .str s => .str s
  | .arr es => .arr (shuffleL σ es)
  | .obj ms => .obj (σ (shuffleM σ ms))
def shuffleL (σ : List Member → List Member) : List JVal → List JVal
  | [] => []
  | v :: tl => shuffle σ v :: shuffleL σ tl
def shuffleM (σ : List Member → List Member) : List Member → List Member
  | [] => []
  | (k, v) :: tl => (k, shuffle σ v) :: shuffleM σ tl
end

mutual
/-- every map inside has distinct keys (true of every Go map) -/
def KeysDistinct : JVal → Prop
  | .null => True
  | .bool _ => True
  | .num _ => True
  | .str _ => True
  | .arr es => KeysDistinctL es
  | .obj ms => (keysOf ms).Nodup ∧ KeysDistinctM ms
def KeysDistinctL : List JVal → Prop
  | [] => True
  | v :: tl => KeysDistinct v ∧ KeysDistinctL tl
def KeysDistinctM : List Member → Prop
  | [] => True
  | (_, v) :: tl => KeysDistinct v ∧ KeysDistinctM tl
end

theorem KeysDistinctM_iff (l : List Member) : KeysDistinctM l ↔ ∀ p ∈ l, KeysDistinct p.2 := by
  induction l with
  | nil => simp [KeysDistinctM]
  | cons p tl ih => obtain ⟨k, v⟩ := p; simp [KeysDistinctM, ih]

theorem canonM_eq_map (l : List Member) : canonM l = l.map (fun p => (p.1, canon p.2)) := by
  induction l with
  | nil => rfl
  | cons p tl ih => cases p; simp [canonM, ih]

theorem keysOf_canonM (l : List Member) : keysOf (canonM l) = keysOf l := by
  simp [canonM_eq_map, keysOf]

theorem keysOf_shuffleM (σ) (l : List Member) : keysOf (shuffleM σ l) = keysOf l := by
  induction l with
  | nil => rfl
  | cons p tl ih => cases p; simp_all [shuffleM, keysOf]

mutual
theorem canon_shuffle (σ : List Member → List Member) (hσ : ∀ l, (σ l).Perm l) :
    ∀ v : JVal, KeysDistinct v → canon (shuffle σ v) = canon v
  | .null, _ => rfl
  | .bool _, _ => rfl
  | .num _, _ => rfl
  | .str _, _ => rfl
  | .arr es, h => by
    simp only [shuffle, canon]
    rw [canonL_shuffle σ hσ es (by simpa [KeysDistinct] using h)]
  | .obj ms, h => by
    simp only [KeysDistinct] at h
    simp only [shuffle, canon]
    congr 1
    have h1 : (canonM (σ (shuffleM σ ms))).Perm (canonM (shuffleM σ ms)) := by
      rw [canonM_eq_map, canonM_eq_map]
      exact (hσ _).map _
    rw [canonM_shuffle σ hσ ms h.2] at h1
    refine sortMembers_perm_eq _ _ h1 ?_
    have : keysOf (canonM (σ (shuffleM σ ms))) = keysOf (σ (shuffleM σ ms)) := keysOf_canonM _
    rw [this]
    have hp : (keysOf (σ (shuffleM σ ms))).Perm (keysOf (shuffleM σ ms)) := (hσ _).map _
    rw [keysOf_shuffleM] at hp
    exact (List.Perm.nodup_iff hp).mpr h.1
theorem canonL_shuffle (σ : List Member → List Member) (hσ : ∀ l, (σ l).Perm l) :
    ∀ l : List JVal, KeysDistinctL l → canonL (shuffleL σ l) = canonL l
  | [], _ => rfl
  | v :: tl, h => by
    simp only [KeysDistinctL] at h
    simp only [shuffleL, canonL]
    rw [canon_shuffle σ hσ v h.1, canonL_shuffle σ hσ tl h.2]
theorem canonM_shuffle (σ : List Member → List Member) (hσ : ∀ l, (σ l).Perm l) :
    ∀ l : List Member, KeysDistinctM l → canonM (shuffleM σ l) = canonM l
  | [], _ => rfl
  | (k, v) :: tl, h => by
    simp only [KeysDistinctM] at h
    simp only [shuffleM, canonM]
    rw [canon_shuffle σ hσ v h.1, canonM_shuffle σ hσ tl h.2]
end

theorem marshal_shuffle (σ : List Member → List Member) (hσ : ∀ l, (σ l).Perm l) (v : JVal) (h : KeysDistinct v) :
    marshal (shuffle σ v) = marshal v := by
  simp only [marshal, canon_shuffle σ hσ v h]

end Relic.Json
