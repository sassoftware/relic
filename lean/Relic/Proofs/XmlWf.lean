/-
  Well-formedness of the walked tree from well-formedness of the input (C19 `canon_sensitive_of_input`):
  if the parsed document has proper names (`wfIn`), no two character-data nodes that become neighbours once
  comments / PIs / directives are removed (`adjOK`), then
  `walk (pullDown ctx t)` satisfies `Inj.wfNode` – for every ancestor context: a pending declaration becomes an
  attribute only where its prefix is used, and a used prefix is a proper one.
  Also `GenPair`: two elements whose walked forms are well formed and differ under every pending list.
-/
import Relic.Proofs.XmlInj
namespace Relic.Xml.Inj
open Relic.Xml.Sens

/-- a declared prefix (`[]` = the default namespace) -/
def declOK (s : Bytes) : Bool := nameOK s && !s.contains 0x3a

mutual
/-- the input: like `wfNode`, but comments, processing instructions and directives may occur anywhere (they are
    removed by `walk`) and nothing is said about neighbouring character data -/
def wfIn : Node → Bool
  | .elem sp tag attrs kids => qnameOK sp tag && attrs.all attrOK && wfInKids kids
  | .text d c => !c && !d.isEmpty
  | _ => true
def wfInKids : List Node → Bool
  | [] => true
  | n :: ns => wfIn n && wfInKids ns
end

mutual
/-- no two character-data nodes become neighbours when the removable tokens between them are dropped
    (`prev` = the last surviving token so far was character data) -/
def adjOK : Node → Bool
  | .elem _ _ _ kids => adjKids false kids
  | _ => true
def adjKids : Bool → List Node → Bool
  | _, [] => true
  | _, .elem _ _ _ kids :: rest => adjKids false kids && adjKids false rest
  | prev, .text _ _ :: rest => !prev && adjKids true rest
  | prev, .comment _ :: rest => adjKids prev rest
  | prev, .procinst _ _ :: rest => adjKids prev rest
  | prev, .directive _ :: rest => adjKids prev rest
end

theorem QName.declOK {sp tag : Bytes} (q : QName sp tag) : declOK sp = true := by
  simp only [Inj.declOK, Bool.and_eq_true, Bool.not_eq_true', List.contains_eq_mem, decide_eq_false_iff_not]
  exact ⟨q.okS, q.spc⟩

theorem declOK_mkDecl (s v : Bytes) (h : declOK s = true) : attrOK (mkDecl s v) = true := by
  unfold mkDecl declName attrOK
  by_cases hs : s = []
  · subst hs
    show qnameOK [] sXmlns = true
    decide
  · simp only [hs, if_false]
    simp only [declOK, Bool.and_eq_true, Bool.not_eq_true'] at h
    have he : s.isEmpty = false := by cases s <;> simp_all
    have h1 : nameOK sXmlns = true := by decide
    have h2 : sXmlns.contains 0x3a = false := by decide
    have h3 : sXmlns.isEmpty = false := by decide
    simp only [qnameOK, h.1, h.2, he, h1, h2, h3, Bool.and_self, Bool.not_false, Bool.false_eq_true, if_false]

theorem usesSpace_declOK (sp : Bytes) (attrs : List Attr) (s : Bytes) (hsp : declOK sp = true)
    (ha : ∀ a ∈ attrs, attrOK a = true) (h : usesSpace sp attrs s = true) : declOK s = true := by
  unfold usesSpace at h
  split at h
  · rename_i e; rw [← e]; exact hsp
  · split at h
    · cases h
    · obtain ⟨a, hm, he⟩ := List.any_eq_true.mp h
      have e : a.space = s := by simpa using he
      rw [← e]
      exact (qname_of (ha a hm)).declOK

theorem localStep_ok (sp : Bytes) (hsp : declOK sp = true) : ∀ (ds : Env) (attrs : List Attr),
    (∀ a ∈ attrs, attrOK a = true) → ∀ a ∈ (localStep sp attrs ds).1, attrOK a = true
  | [], _, ha => ha
  | (s, v) :: ds, attrs, ha => by
    simp only [localStep]
    split
    · exact localStep_ok sp hsp ds attrs ha
    · split
      · rename_i hu
        apply localStep_ok sp hsp ds _
        intro a hm
        rcases List.mem_append.mp hm with hm | hm
        · exact ha a hm
        · simp only [List.mem_singleton] at hm; subst hm
          exact declOK_mkDecl s v (usesSpace_declOK sp attrs s hsp ha hu)
      · exact localStep_ok sp hsp ds attrs ha

theorem kept_sorted_ok (sp : Bytes) (attrs : List Attr) (ha : ∀ a ∈ attrs, attrOK a = true) :
    (sortAttrs (keepAttrs sp attrs)).all attrOK = true := by
  rw [List.all_eq_true]
  intro a hm
  have h1 : a ∈ keepAttrs sp attrs := (sortAttrs_perm_self _).subset hm
  exact ha a (List.mem_filter.mp h1).1

theorem wfIn_elem {sp tag : Bytes} {as : List Attr} {ks : List Node} (h : wfIn (.elem sp tag as ks) = true) :
    qnameOK sp tag = true ∧ (∀ a ∈ as, attrOK a = true) ∧ wfInKids ks = true := by
  rw [wfIn] at h
  simp only [Bool.and_eq_true] at h
  exact ⟨h.1.1, List.all_eq_true.mp h.1.2, h.2⟩

theorem wfKids_walkKidsE : ∀ (ns : List Node) (ds : Env) (prev : Bool), wfInKids ns = true → adjKids prev ns = true →
    wfKids (walkKidsE ds ns) = true ∧ (prev = true → startsPlainText (walkKidsE ds ns) = false) := by
  intro ns
  induction ns using kids_induction with
  | nil => intro ds prev _ _; simp [walkKidsE, wfKids, startsPlainText]
  | elem sp tag attrs kids rest ihk ihr =>
    intro ds prev hw ha
    rw [wfInKids, Bool.and_eq_true] at hw
    rw [adjKids, Bool.and_eq_true] at ha
    obtain ⟨hq, hat, hk⟩ := wfIn_elem hw.1
    have hsp : declOK sp = true := (qname_of hq).declOK
    have h1 : wfNode (walkE ds (.elem sp tag attrs kids)) = true := by
      rw [walkE, wfNode]
      simp only [Bool.and_eq_true]
      exact ⟨⟨hq, kept_sorted_ok sp _ (localStep_ok sp hsp ds attrs hat)⟩, (ihk _ false hk ha.1).1⟩
    rw [walkKidsE_elem, wfKids]
    refine ⟨?_, fun _ => rfl⟩
    simp only [Bool.and_eq_true, Bool.not_eq_true', Bool.and_eq_false_iff]
    exact ⟨⟨h1, (ihr ds false hw.2 ha.2).1⟩, Or.inl rfl⟩
  | text d c rest ihr =>
    intro ds prev hw ha
    rw [wfInKids, Bool.and_eq_true] at hw
    rw [adjKids] at ha
    simp only [Bool.and_eq_true, Bool.not_eq_true'] at ha
    obtain ⟨h2, h3⟩ := ihr ds true hw.2 ha.2
    rw [walkKidsE_text, wfKids]
    refine ⟨?_, fun hp => ?_⟩
    · simp only [Bool.and_eq_true, Bool.not_eq_true', Bool.and_eq_false_iff]
      exact ⟨⟨by rw [wfNode, ← wfIn]; exact hw.1, h2⟩, Or.inr (h3 rfl)⟩
    · rw [hp] at ha; cases ha.1
  | drop n rest hn ihr =>
    intro ds prev hw ha
    rw [wfInKids, Bool.and_eq_true] at hw
    rw [walkKidsE_drop _ _ hn]
    refine ihr ds prev hw.2 ?_
    cases n <;> simp only [keeps, Bool.true_eq_false] at hn <;> rw [adjKids] at ha <;> exact ha

theorem wfNode_walkE (n : Node) (ds : Env) (hw : wfIn n = true) (ha : adjOK n = true) (hk : keeps n = true) :
    wfNode (walkE ds n) = true := by
  have ha' : adjKids false [n] = true := by
    cases n with
    | elem sp tag as ks => rw [adjOK] at ha; rw [adjKids, ha, adjKids]; rfl
    | text d c => rw [adjKids, adjKids]; rfl
    | _ => simp [keeps] at hk
  have h := (wfKids_walkKidsE [n] ds false (by rw [wfInKids, hw]; rfl) ha').1
  rw [walkE_of_kids _ _ hk, wfKids, Bool.and_eq_true, Bool.and_eq_true] at h
  exact h.1.1

theorem wfNode_walk_pullDown (ctx : List (List Attr)) (t : Node)
    (hw : wfIn t = true) (ha : adjOK t = true) (he : ∃ sp tag as ks, t = .elem sp tag as ks) :
    wfNode (walk (pullDown ctx t)) = true := by
  obtain ⟨sp, tag, as, ks, rfl⟩ := he
  rw [walk_pullDown_eq]
  exact wfNode_walkE _ _ hw ha rfl

theorem isElem_walkE (ds : Env) (n : Node) (h : IsElem n) : IsElem (walkE ds n) := by
  cases n <;> first | exact h.elim | (rw [walkE]; trivial)

/-- two elements whose canonical forms are well-formed and differ under every list of pending declarations -/
def GenPair (a b : Node) : Prop :=
  IsElem a ∧ IsElem b ∧ ∀ ds : Env, wfNode (walkE ds a) = true ∧ wfNode (walkE ds b) = true ∧ walkE ds a ≠ walkE ds b

theorem genPair_of_wfIn (a b : Node) (ea : IsElem a) (eb : IsElem b) (wa : wfIn a = true) (wb : wfIn b = true)
    (aa : adjOK a = true) (ab : adjOK b = true) (hne : ∀ ds : Env, walkE ds a ≠ walkE ds b) : GenPair a b :=
  ⟨ea, eb, fun ds => ⟨wfNode_walkE a ds wa aa ea.keeps, wfNode_walkE b ds wb ab eb.keeps, hne ds⟩⟩

end Relic.Xml.Inj
