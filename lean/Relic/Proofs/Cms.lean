/-
  Relic.Proofs.Cms — what a successful run of the stages `mdStage`, `ctypeStage`, `resolveContent` of relic's PKCS#7
  verifier (`Relic.Model.Cms`) went through.
-/
import Relic.Model.Cms
namespace Relic.Cms

theorem mdStage_ok {C : Crypto} (H : Alg → Bytes → Bytes) (alg : Alg) (content : Bytes) (skip : Bool) (si : SignerInfo C)
    (dg : Option Bytes) (h : mdStage H alg content skip si = .ok dg) :
    (∀ a l, si.attrs = some (a :: l) → ∃ md, getMessageDigest (a :: l) = .ok md ∧
      (skip = false → md = H alg content) ∧ dg = some (H alg si.attrsBytes)) ∧
    (si.attrs.getD [] = [] → dg = if skip then none else some (H alg content)) := by
  revert h
  fun_cases mdStage H alg content skip si
  case case1 hnil =>
    intro h
    cases h
    exact ⟨fun a l hal => by simp [hal] at hnil, fun _ => rfl⟩
  case case3 a l hal md hg hcmp =>
    intro h
    cases h
    refine ⟨fun a' l' hal' => ?_, fun hnil => by simp [hnil] at hal⟩
    simp only [hal', Option.getD_some, List.cons.injEq] at hal
    obtain ⟨rfl, rfl⟩ := hal
    exact ⟨md, hg, fun hs => Decidable.not_not.mp fun hne => hcmp ⟨hs, hne⟩, rfl⟩
  all_goals nofun

theorem ctypeStage_ok {C : Crypto} (t : Bytes) (si : SignerInfo C) (u : Unit) (h : ctypeStage t si = .ok u) :
    ∀ a l, si.attrs = some (a :: l) → getContentType (a :: l) = .ok t := by
  revert h
  fun_cases ctypeStage t si
  case case1 hnil =>
    intro _ a l hal
    simp [hal] at hnil
  case case2 a l hal ho =>
    intro _ a' l' hal'
    simp only [hal', Option.getD_some, List.cons.injEq] at hal
    obtain ⟨rfl, rfl⟩ := hal
    exact ho
  all_goals nofun

theorem resolveContent_ok (emb ext : Option Bytes) (c : Bytes) (h : resolveContent emb ext = .ok c) :
    (emb = some c ∧ ∀ e, ext = some e → e = c) ∨ (emb = none ∧ ext = some c) := by
  revert h
  fun_cases resolveContent emb ext
  case case2 e =>
    intro h
    cases h
    exact .inr ⟨rfl, rfl⟩
  case case3 c0 =>
    intro h
    cases h
    exact .inl ⟨rfl, nofun⟩
  case case4 e =>
    intro h
    cases h
    exact .inl ⟨rfl, fun e' he => by cases he; rfl⟩
  all_goals nofun

end Relic.Cms
