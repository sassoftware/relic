/- the schema-directed readers of `Relic.Model.Der` as one relation `Parses dr ds` (raw-captured vs re-synthesised
   nodes), with the round trip, monotonicity in the length readers and the raw slices proved on it; then the sibling
   lists of a forest (`Forest.sibs`) under the structural edits `Detach` makes -/
import Relic.Proofs.Der
namespace Relic.Der

theorem untlv_def : untlvWith decLen = untlv := rfl

theorem strip_tlv (t : UInt8) (c : Bytes) (ht : highTag t = false) (hc : c.length < 2 ^ 31) :
    stripTagAndLength (tlv t c) = c := by
  simp [stripTagAndLength, tlv, ht, decLen_encLen _ _ hc]

/-- what Go re-emits for a struct with `RawContent` is the element it read: the stripped header was minimal -/
theorem untlv_strip_take (bs : Bytes) (t : UInt8) (c rest : Bytes) (h : untlv bs = .ok (t, c, rest)) :
    stripTagAndLength (bs.take (bs.length - rest.length)) = c := by
  obtain ⟨_, ht, hc⟩ := untlv_inv _ _ _ _ h
  rw [untlv_take _ _ _ _ h, strip_tlv t c ht hc]

theorem laxLoop_of_loop (k acc : Nat) (bs : Bytes) (p : Nat × Bytes) (h : decLenLoop k acc bs = .ok p) :
    decLenLaxLoop k acc bs = .ok p := by
  revert h
  fun_induction decLenLoop k acc bs
  case case1 => exact id
  case case5 ih => exact ih
  all_goals nofun

theorem decLenLax_of_decLen (bs : Bytes) (n : Nat) (r : Bytes) (h : decLen bs = .ok (n, r)) : decLenLax bs = .ok (n, r) := by
  cases bs with
  | nil => simp [decLen] at h
  | cons b bs =>
    by_cases hb : b.toNat < 128
    · simpa [decLen, decLenLax, hb] using h
    · obtain ⟨hk, hl, _⟩ := decLen_long b bs n r hb h
      simp only [decLenLax, hb, hk, if_false]
      exact laxLoop_of_loop _ _ _ _ hl

theorem untlvWith_mono {dl dl' : Bytes → Res (Nat × Bytes)} (hm : ∀ b p, dl b = .ok p → dl' b = .ok p)
    {bs : Bytes} {p : UInt8 × Bytes × Bytes} (h : untlvWith dl bs = .ok p) : untlvWith dl' bs = .ok p := by
  obtain ⟨tl, n, r, hb, ht, hd, hn⟩ := untlvWith_ok.mp h
  exact untlvWith_ok.mpr ⟨tl, n, r, hb, ht, hm _ _ hd, hn⟩

theorem untlvLax_of_untlv (bs : Bytes) (p : UInt8 × Bytes × Bytes) (h : untlv bs = .ok p) : untlvLax bs = .ok p :=
  untlvWith_mono (fun _ ⟨_, _⟩ => decLenLax_of_decLen _ _ _) h

theorem laxLoop_suffix (k acc : Nat) (bs : Bytes) (n : Nat) (r : Bytes) (h : decLenLaxLoop k acc bs = .ok (n, r)) :
    ∃ hd, bs = hd ++ r := by
  revert h
  fun_induction decLenLaxLoop k acc bs
  case case1 acc bs =>
    intro h
    cases h
    exact ⟨[], rfl⟩
  case case3 k acc b bs ih =>
    intro h
    obtain ⟨hd, e⟩ := ih h
    exact ⟨b :: hd, by rw [e]; rfl⟩
  all_goals nofun

theorem decLenLax_consumes : Consumes decLenLax := by
  intro bs n r h
  revert h
  fun_cases decLenLax bs
  case case2 b bs _ =>
    intro h
    cases h
    exact ⟨[b], rfl⟩
  case case4 b bs _ _ =>
    intro h
    obtain ⟨hd, e⟩ := laxLoop_suffix _ _ _ _ _ h
    exact ⟨b :: hd, by rw [e]; rfl⟩
  all_goals nofun

abbrev dlOf (lax : Bool) : Bytes → Res (Nat × Bytes) := if lax then decLenLax else decLen

theorem dlOf_consumes (lax : Bool) : Consumes (dlOf lax) := by
  cases lax
  · exact decLen_consumes
  · exact decLenLax_consumes

theorem untlvWith_parts (dl) (hdl : Consumes dl)
    (bs : Bytes) (t : UInt8) (c rest : Bytes) (h : untlvWith dl bs = .ok (t, c, rest)) :
    ∃ hd, bs = t :: hd ++ c ++ rest ∧ bs.take (bs.length - rest.length) = t :: hd ++ c := by
  obtain ⟨tl, n, r, rfl, _, hd, hn, rfl, rfl⟩ := untlvWith_ok.mp h
  obtain ⟨h0, rfl⟩ := hdl _ _ _ hd
  have e : t :: (h0 ++ r) = t :: h0 ++ r.take n ++ r.drop n := by simp
  refine ⟨h0, e, ?_⟩
  rw [e]
  refine List.take_left' ?_
  simp only [List.length_append, List.length_cons, List.length_take, List.length_drop]
  omega

/-- A successful reading of `bs` under the schema `sh` into the forest `f`, as a relation, with the two length readers
    as parameters: `dr` reads the length octets of raw-captured elements (emitted verbatim), `ds` those of the elements
    whose header is written anew (`rawc`, `prim`, `node`).  `parse lax` is the case `dr = ds` (`parse_ok`), `parseMix`
    of `Relic.Proofs.DerResynth` the case BER / Go's.  What holds of readings is proved once, by induction on the
    derivation, with the premises of every step in hand. -/
inductive Parses (dr ds : Bytes → Res (Nat × Bytes)) : Shape → Bytes → Forest → Prop
  | done : Parses dr ds .done [] .nil
  | tail (bs : Bytes) : Parses dr ds .tail bs .nil
  | raw {next bs t c rest f} : untlvWith dr bs = .ok (t, c, rest) → Parses dr ds next rest f →
      Parses dr ds (.raw next) bs (.raw (bs.take (bs.length - rest.length)) f)
  | rawc {next bs t c rest f} : untlvWith ds bs = .ok (t, c, rest) → Parses dr ds next rest f →
      Parses dr ds (.rawc next) bs (.rawc t (bs.take (bs.length - rest.length)) f)
  | prim {next bs t c rest f} : untlvWith ds bs = .ok (t, c, rest) → Parses dr ds next rest f →
      Parses dr ds (.prim next) bs (.prim t c f)
  | node {kids next bs t c rest k f} : untlvWith ds bs = .ok (t, c, rest) → Parses dr ds kids c k →
      Parses dr ds next rest f → Parses dr ds (.node kids next) bs (.node t k f)

theorem parse_ok {lax : Bool} {sh : Shape} {bs : Bytes} {f : Forest} :
    parse lax sh bs = .ok f ↔ Parses (dlOf lax) (dlOf lax) sh bs f := by
  constructor
  · revert f
    fun_induction parse lax sh bs
    case case1 bs he => intro f h; cases h; cases List.isEmpty_iff.mp he; exact .done
    case case3 => intro f h; cases h; exact .tail _
    case case4 hu f' hp ih => intro f h; cases h; exact .raw hu (ih hp)
    case case9 hu f' hp ih => intro f h; cases h; exact .rawc hu (ih hp)
    case case14 hu f' hp ih => intro f h; cases h; exact .prim hu (ih hp)
    case case19 hu k hk f' hp ihk ihn => intro f h; cases h; exact .node hu (ihk hk) (ihn hp)
    -- a failure of the rest of the reading is passed on
    case case5 hne _ => exact fun h => absurd h (hne _)
    case case10 hne _ => exact fun h => absurd h (hne _)
    case case15 hne _ => exact fun h => absurd h (hne _)
    case case20 hne _ _ => exact fun h => absurd h (hne _)
    case case21 hne _ => exact fun h => absurd h (hne _)
    all_goals nofun
  · intro h
    induction h with
    | done => rfl
    | tail => rfl
    | raw hu _ ih => simp only [parse, dlOf] at *; simp only [hu, ih]
    | rawc hu _ ih => simp only [parse, dlOf] at *; simp only [hu, ih]
    | prim hu _ ih => simp only [parse, dlOf] at *; simp only [hu, ih]
    | node hu _ _ ihk ihn => simp only [parse, dlOf] at *; simp only [hu, ihk, ihn]

/-- no `tail` anywhere: Go's tolerance for extra trailing elements in a struct is not used -/
def Shape.noTail : Shape → Bool
  | .done => true
  | .tail => false
  | .raw n => n.noTail
  | .rawc n => n.noTail
  | .prim n => n.noTail
  | .node k n => k.noTail && n.noTail

def Forest.rawSlices : Forest → List Bytes
  | .nil => []
  | .raw full next => full :: next.rawSlices
  | .rawc _ _ next => next.rawSlices
  | .prim _ _ next => next.rawSlices
  | .node _ kids next => kids.rawSlices ++ next.rawSlices

theorem infix_right {s x : Bytes} (a : Bytes) (h : s <:+: x) : s <:+: a ++ x :=
  h.trans (List.suffix_append a x).isInfix

namespace Parses
variable {dr ds dr' ds' : Bytes → Res (Nat × Bytes)} {sh : Shape} {bs : Bytes} {f : Forest}

/-- a reading that is strict wherever a header is written anew re-encodes to its input (no `tail`), whatever reader
    took the raw-captured elements: it only has to consume a prefix -/
theorem emit (hdr : Consumes dr) (h : Parses dr decLen sh bs f)
    (hs : sh.noTail = true) : Der.emit f = bs := by
  induction h with
  | done => rfl
  | tail => cases hs
  | @raw _ bs t c rest _ hu _ ih =>
    obtain ⟨hd, e, etake⟩ := untlvWith_parts _ hdr _ _ _ _ hu
    rw [Der.emit, ih hs, etake]
    exact e.symm
  | @rawc _ bs t c rest _ hu _ ih =>
    rw [Der.emit, ih hs, untlv_strip_take bs t c rest hu]
    exact (untlv_inv _ _ _ _ hu).1.symm
  | prim hu _ ih =>
    rw [Der.emit, ih hs]
    exact (untlv_inv _ _ _ _ hu).1.symm
  | node hu _ _ ihk ihn =>
    simp only [Shape.noTail, Bool.and_eq_true] at hs
    rw [Der.emit, ihk hs.1, ihn hs.2]
    exact (untlv_inv _ _ _ _ hu).1.symm

theorem mono (hr : ∀ b p, dr b = .ok p → dr' b = .ok p) (hs : ∀ b p, ds b = .ok p → ds' b = .ok p)
    (h : Parses dr ds sh bs f) : Parses dr' ds' sh bs f := by
  induction h with
  | done => exact .done
  | tail => exact .tail _
  | raw hu _ ih => exact .raw (untlvWith_mono hr hu) ih
  | rawc hu _ ih => exact .rawc (untlvWith_mono hs hu) ih
  | prim hu _ ih => exact .prim (untlvWith_mono hs hu) ih
  | node hu _ _ ihk ihn => exact .node (untlvWith_mono hs hu) ihk ihn

/-- every raw-captured node occurs verbatim both in the input and in the re-encoding, whatever surrounds it and
    whatever is inside it -/
theorem rawSlices (hdr : Consumes dr) (hds : Consumes ds) (h : Parses dr ds sh bs f) :
    ∀ s ∈ f.rawSlices, s <:+: bs ∧ s <:+: Der.emit f := by
  induction h with
  | done => simp [Forest.rawSlices]
  | tail => simp [Forest.rawSlices]
  | @raw _ bs t c rest f' hu _ ih =>
    obtain ⟨hd, e, etake⟩ := untlvWith_parts _ hdr _ _ _ _ hu
    intro s hs
    simp only [Forest.rawSlices, List.mem_cons, etake] at hs
    simp only [Der.emit, etake]
    rcases hs with rfl | hs
    · exact ⟨⟨[], rest, by simp [e]⟩, ⟨[], Der.emit f', by simp⟩⟩
    · obtain ⟨i1, i2⟩ := ih s hs
      exact ⟨by rw [e]; exact infix_right _ i1, infix_right _ i2⟩
  | rawc hu _ ih =>
    obtain ⟨hd, e, _⟩ := untlvWith_parts _ hds _ _ _ _ hu
    intro s hs
    obtain ⟨i1, i2⟩ := ih s hs
    exact ⟨by rw [e]; exact infix_right _ i1, infix_right _ i2⟩
  | prim hu _ ih =>
    obtain ⟨hd, e, _⟩ := untlvWith_parts _ hds _ _ _ _ hu
    intro s hs
    obtain ⟨i1, i2⟩ := ih s hs
    exact ⟨by rw [e]; exact infix_right _ i1, infix_right _ i2⟩
  | @node _ _ _ t _ _ _ _ hu _ _ ihk ihn =>
    obtain ⟨hd, e, _⟩ := untlvWith_parts _ hds _ _ _ _ hu
    intro s hs
    rcases List.mem_append.mp hs with hs | hs
    · obtain ⟨i1, i2⟩ := ihk s hs
      exact ⟨by rw [e]; exact i1.trans (List.infix_append _ _ _),
        (infix_right (t :: encLen _) i2).trans (List.prefix_append _ _).isInfix⟩
    · obtain ⟨i1, i2⟩ := ihn s hs
      exact ⟨by rw [e]; exact infix_right _ i1, infix_right _ i2⟩

end Parses

theorem parse_lax_of_strict (sh : Shape) (bs : Bytes) (f : Forest) (h : parse false sh bs = .ok f) :
    parse true sh bs = .ok f :=
  parse_ok.mpr ((parse_ok.mp h).mono (fun _ ⟨_, _⟩ => decLenLax_of_decLen _ _ _) (fun _ ⟨_, _⟩ => decLenLax_of_decLen _ _ _))

namespace Forest

theorem emit_eq_sibs (f : Forest) : emit f = (sibs f).flatten := by
  induction f <;> simp [emit, sibs, *]

theorem sibs_append (a b : Forest) : sibs (append a b) = sibs a ++ sibs b := by
  induction a <;> simp [append, sibs, *]

theorem sibs_takeSibs (i : Nat) (f : Forest) : sibs (takeSibs i f) = (sibs f).take i := by
  induction f generalizing i <;> cases i <;> simp [takeSibs, sibs, *]

theorem sibs_dropSibs (i : Nat) (f : Forest) : sibs (dropSibs i f) = (sibs f).drop i := by
  induction f generalizing i <;> cases i <;> simp [dropSibs, sibs, *]

theorem lt_sibs_of_dropSibs {i : Nat} {f : Forest} (h : (sibs (dropSibs i f)).length ≠ 0) : i < (sibs f).length := by
  rw [sibs_dropSibs, List.length_drop] at h
  omega

theorem sibs_editField (i : Nat) (new f : Forest) :
    sibs (editField i new f) = (sibs f).take i ++ (sibs new ++ (sibs f).drop (i + 1)) := by
  simp [editField, sibs_append, sibs_takeSibs, sibs_dropSibs]

end Forest

theorem emit_detachSD_wrapSD (oid : Bytes) (kids : Forest) :
    emit (detachSD (wrapSD oid kids)) =
      tlv 0x30 (tlv 0x06 oid ++ tlv 0xA0 (tlv 0x30 (Forest.sibs (detachKids kids)).flatten)) := by
  simp only [detachSD, wrapSD, Forest.inKids, emit, List.append_nil]
  rw [Forest.emit_eq_sibs]

end Relic.Der
