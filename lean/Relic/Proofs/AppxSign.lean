/-
  `Relic.Model.Appx.digest` / `assemble` characterised: what `DigestAppxTar` hands to `Sign` (AXPC so far = the
  payload prefix of the file), and the exact layout `Sign` + the binary patch produce, in terms of the entries and
  bytes of consecutive `NewFile` calls (`Relic.Zip.newEntries`) and of `WriteDirectory`.
-/
import Relic.Proofs.Appx
import Relic.Proofs.ZipOwn
namespace Relic.Appx
open Relic.Zip Relic.ZipOwn

/-- an entry `ReadWithDirectory` made carries no cached local header or descriptor -/
theorem fresh_of_seen {f : File} (h : RawOk f) (hs : seen f = f) : Fresh f := by
  rw [seen_raw f h.1] at hs
  exact ⟨(congrArg File.lfh hs).symm, (congrArg File.ddb hs).symm⟩

/-- When `DigestAppxTar` succeeds: AXPC so far is exactly the first `patchStart` bytes of the input, the
    running directory offset of `outz` is `patchStart`, the members are laid out back to back from offset 0 to
    `patchStart`, and `outz` lists the input's own entries (offsets and raw bytes untouched). -/
theorem digest_spec {c : Codec} {z : Bytes} {g : Digested} (h : digest c z = .ok g) :
    g.p.axpc = z.take g.patchStart ∧ g.p.outz.dirLoc = g.patchStart ∧ g.patchStart ≤ z.length ∧
    g.p.outz.files = g.p.members.map (·.file) ∧ contigMs 0 g.p.members g.patchStart ∧
    (∀ f ∈ g.p.outz.files, f.raw ≠ []) := by
  obtain ⟨d, r1, t, D⟩ := digest_inv h
  obtain ⟨loc, hread⟩ := D.read
  have hraw := readWithDirectory_rawOk hread
  obtain ⟨i1, ms, i5, i6, i7⟩ := payloadPass_spec (payloadOf d.files) ⟨z, true, 0⟩ r1 {} g.p rfl
    (fun f hf => fresh_of_seen (hraw f (mem_payloadOf hf)).1 (hraw f (mem_payloadOf hf)).2) (.init _) D.pass
  have hms : g.p.members = ms := i5
  rw [D.patch]
  refine ⟨i1.axpc, i1.loc, i1.le, i1.files, by rw [hms]; exact i6, ?_⟩
  -- every member's entry is the input's entry with crc / lfh / ddb filled in: raw untouched
  intro f hf
  rw [i1.files, hms] at hf
  obtain ⟨m, hm, rfl⟩ := List.mem_map.1 hf
  obtain ⟨f1, hf1, e⟩ := i7 m hm
  rw [e]
  exact (hraw f1 (mem_payloadOf hf1)).1.1

theorem newFile_eq' (mt md : Nat) (d : Directory) (name extra compd : Bytes) (usize crc : Nat) (dfl ud : Bool) :
    newFile d name extra compd usize crc mt md dfl ud =
      (newBytes mt md ⟨name, extra, compd, usize, crc, dfl, ud⟩,
       { d with dirLoc := d.dirLoc + (newBytes mt md ⟨name, extra, compd, usize, crc, dfl, ud⟩).length,
                files := d.files ++ [newEntryAt mt md ⟨name, extra, compd, usize, crc, dfl, ud⟩ d.dirLoc] }) :=
  newFile_eq mt md d ⟨name, extra, compd, usize, crc, dfl, ud⟩

/-- the parts `Sign` regenerates before the signature, as `NewFile` requests -/
def partMembers (hasPE : Bool) (ps : Parts) : List NewMember :=
  [⟨sManifest, [], ps.manifest.plain, ps.manifest.plain.length, ps.manifest.crc, false, true⟩,
   ⟨sBlockMap, [], ps.blockmap.compd, ps.blockmap.plain.length, ps.blockmap.crc, true, true⟩,
   ⟨sCTypes, [], ps.ctypes.compd, ps.ctypes.plain.length, ps.ctypes.crc, true, false⟩] ++
  (if hasPE then [⟨sCatalog, [], ps.catalog.compd, ps.catalog.plain.length, ps.catalog.crc, true, false⟩] else [])

def sigMember (ps : Parts) : NewMember :=
  ⟨sSignature, [], ps.signature.compd, ps.signature.plain.length, ps.signature.crc, true, false⟩

/-- local file records of the regenerated parts -/
def partsBytes (g : Digested) (ps : Parts) : Bytes :=
  (newEntries ps.mt ps.md (partMembers g.p.hasPE ps) g.p.outz.dirLoc).2

/-- the directory when AXCD is taken: payload entries, then the regenerated parts -/
def d4Of (g : Digested) (ps : Parts) : Directory :=
  { g.p.outz with dirLoc := g.p.outz.dirLoc + (partsBytes g ps).length,
                  files := g.p.outz.files ++ (newEntries ps.mt ps.md (partMembers g.p.hasPE ps) g.p.outz.dirLoc).1 }

def sigBytes (ps : Parts) : Bytes := newBytes ps.mt ps.md (sigMember ps)

/-- the final directory: the same entries (as `WriteDirectory` left them) plus the signature part's -/
def d5Of (g : Digested) (ps : Parts) : Directory :=
  { d4Of g ps with dirLoc := (d4Of g ps).dirLoc + (sigBytes ps).length,
                   files := (headersOf (d4Of g ps).files).2 ++ [newEntryAt ps.mt ps.md (sigMember ps) (d4Of g ps).dirLoc] }

/-- the block map entry `Sign` appends for the new manifest -/
def manifestBm (ps : Parts) : BmFile :=
  { name := zipToDos sManifest, size := ps.manifest.plain.length, lfh := 30 + sManifest.length, blocks := blocksOf ps.manifest.plain }

theorem assemble_eq {z : Bytes} {g : Digested} {ps : Parts} {r : Signed} (h : assemble z g ps = .ok r) :
    g.unverified = false ∧
    r.out = z.take g.patchStart ++ (partsBytes g ps ++ sigBytes ps ++
              ((writeDirectory (d5Of g ps) true).1 ++ (writeDirectory (d5Of g ps) true).2.1)) ∧
    r.streams = ⟨g.p.axpc ++ partsBytes g ps,
                 (writeDirectory (d4Of g ps) true).1 ++ (writeDirectory (d4Of g ps) true).2.1,
                 ps.ctypes.plain, ps.blockmap.plain, if g.p.hasPE then some ps.catalog.plain else none⟩ ∧
    r.sigOff = (d4Of g ps).dirLoc ∧ r.cdOff = (d5Of g ps).dirLoc ∧ r.bm = g.bm ++ [manifestBm ps] := by
  unfold assemble at h
  simp only [addDeflated, newFile_eq'] at h
  split at h
  · cases h
  next hu =>
    have hu' : g.unverified = false := by
      cases hx : g.unverified
      · rfl
      · exact absurd hx hu
    refine ⟨hu', ?_⟩
    injection h with h
    subst h
    cases hpe : g.p.hasPE <;>
      simp [hpe, partsBytes, d4Of, d5Of, sigBytes, sigMember, partMembers, newEntries, writeDirectory, manifestBm,
            List.append_assoc, Nat.add_assoc]

theorem assemble_total (z : Bytes) (g : Digested) (ps : Parts) (hu : g.unverified = false) : ∃ r, assemble z g ps = .ok r := by
  unfold assemble
  simp only [hu]
  exact ⟨_, rfl⟩

theorem sign_ok {c : Codec} {z : Bytes} {ps : Parts} {r : Signed} :
    sign c z ps = .ok r ↔ ∃ g, digest c z = .ok g ∧ assemble z g ps = .ok r := by
  unfold sign
  cases digest c z with
  | ok g => exact ⟨fun h => ⟨g, rfl, h⟩, fun ⟨_, e, h⟩ => by cases e; exact h⟩
  | err x => exact ⟨nofun, fun ⟨_, e, _⟩ => nomatch e⟩
  | panic x => exact ⟨nofun, fun ⟨_, e, _⟩ => nomatch e⟩
  | diverge => exact ⟨nofun, fun ⟨_, e, _⟩ => nomatch e⟩

/-- `Sign` fails for a codec that accepts no manifest (`info.manifest == nil` after the loops) -/
theorem sign_needs_manifestOk {c : Codec} (hc : ∀ x, c.manifestOk x = false) (z : Bytes) (ps : Parts) (r : Signed) :
    sign c z ps ≠ .ok r := by
  intro h
  obtain ⟨g, hg, _⟩ := sign_ok.1 h
  obtain ⟨_, _, t, D⟩ := digest_inv hg
  have := tailPass_no_manifest hc _ _ _ _ D.pass2
  rw [D.manifest] at this
  cases this

end Relic.Appx
