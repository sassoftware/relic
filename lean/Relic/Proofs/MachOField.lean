/- fields of a Mach-O header buffer: what `rd32`/`rd64` read depends only on the bytes they cover; the in-place write `put`
   byte by byte; the laws of reading after writing (the field written, a field inside what was written, any other field) -/
import Relic.Model.MachO
import Relic.Proofs.Codec
import Relic.Proofs.Splice
namespace Relic.MachO

theorem rd32_congr (be : Bool) (f g : Bytes) (off : Nat) (h : ∀ i, off ≤ i → i < off + 4 → g[i]? = f[i]?) :
    rd32 be g off = rd32 be f off := by
  unfold rd32; rw [take_drop_congr f g off 4 h]

theorem rd64_congr (be : Bool) (f g : Bytes) (off : Nat) (h : ∀ i, off ≤ i → i < off + 8 → g[i]? = f[i]?) :
    rd64 be g off = rd64 be f off := by
  unfold rd64; rw [take_drop_congr f g off 8 h]

theorem rd32_lt (be : Bool) (f : Bytes) (off : Nat) : rd32 be f off < 2 ^ 32 := by
  unfold rd32
  split
  · exact beVal_take_lt _ 4
  · exact leVal_take_lt _ 4

@[simp] theorem wr32_length (be : Bool) (v : Nat) : (wr32 be v).length = 4 := by
  unfold wr32; split <;> simp
@[simp] theorem wr64_length (be : Bool) (v : Nat) : (wr64 be v).length = 8 := by
  unfold wr64; split <;> simp

theorem put_length (h : Bytes) (off : Nat) (b : Bytes) (hb : off + b.length ≤ h.length) : (put h off b).length = h.length :=
  splice_same_length h b hb

theorem put_getElem? (h : Bytes) (off : Nat) (b : Bytes) (hb : off + b.length ≤ h.length) (i : Nat) :
    (put h off b)[i]? = if off ≤ i ∧ i < off + b.length then b[i - off]? else h[i]? :=
  getElem?_splice_same h off b (by omega) i

/- Reading after writing.  `rd32`/`rd64` read the window `sliceOf h off 4` / `sliceOf h off 8`; a write `put h off b` sets the
   window `[off, off + |b|)` and leaves every window beside it alone.  A patched header buffer is described through these laws by
   what is READ from it. -/

theorem rd32_slice (be : Bool) (h : Bytes) (off : Nat) :
    rd32 be h off = if be then beVal (sliceOf h off 4) else leVal (sliceOf h off 4) := rfl

theorem rd64_slice (be : Bool) (h : Bytes) (off : Nat) :
    rd64 be h off = if be then beVal (sliceOf h off 8) else leVal (sliceOf h off 8) := rfl

theorem sliceOf_put_same (h : Bytes) (off : Nat) (b : Bytes) (hb : off + b.length ≤ h.length) :
    sliceOf (put h off b) off b.length = b :=
  take_drop_splice_at h b.length b (by omega)

theorem sliceOf_put_other (h : Bytes) (off : Nat) (b : Bytes) (off' n : Nat) (hb : off + b.length ≤ h.length)
    (hd : off' + n ≤ off ∨ off + b.length ≤ off') : sliceOf (put h off b) off' n = sliceOf h off' n :=
  take_drop_splice_same_other h b (by omega) hd

theorem sliceOf_put_sub (h : Bytes) (off : Nat) (pre c post : Bytes) (hb : off + (pre ++ c ++ post).length ≤ h.length) :
    sliceOf (put h off (pre ++ c ++ post)) (off + pre.length) c.length = c := by
  unfold sliceOf put
  rw [take_drop_splice_in h _ _ (by omega) (by simp only [List.length_append]; omega), List.append_assoc,
    List.drop_left' rfl, List.take_left' rfl]

theorem wr32_val (be : Bool) (v : Nat) :
    (if be then beVal (wr32 be v) else leVal (wr32 be v)) = v % 2 ^ 32 := by
  unfold wr32
  cases be
  · exact leVal_leBytes 4 v
  · exact beVal_beBytes 4 v

theorem wr64_val (be : Bool) (v : Nat) :
    (if be then beVal (wr64 be v) else leVal (wr64 be v)) = v % 2 ^ 64 := by
  unfold wr64
  cases be
  · exact leVal_leBytes 8 v
  · exact beVal_beBytes 8 v

theorem rd32_put_same (be : Bool) (h : Bytes) (off v : Nat) (hb : off + 4 ≤ h.length) :
    rd32 be (put h off (wr32 be v)) off = v % 2 ^ 32 := by
  have := sliceOf_put_same h off (wr32 be v) (by rw [wr32_length]; exact hb)
  rw [wr32_length] at this
  rw [rd32_slice, this, wr32_val]

theorem rd64_put_same (be : Bool) (h : Bytes) (off v : Nat) (hb : off + 8 ≤ h.length) :
    rd64 be (put h off (wr64 be v)) off = v % 2 ^ 64 := by
  have := sliceOf_put_same h off (wr64 be v) (by rw [wr64_length]; exact hb)
  rw [wr64_length] at this
  rw [rd64_slice, this, wr64_val]

theorem rd32_put_sub (be : Bool) (h : Bytes) (off : Nat) (pre : Bytes) (v : Nat) (post : Bytes)
    (hb : off + (pre ++ wr32 be v ++ post).length ≤ h.length) :
    rd32 be (put h off (pre ++ wr32 be v ++ post)) (off + pre.length) = v % 2 ^ 32 := by
  have := sliceOf_put_sub h off pre (wr32 be v) post hb
  rw [wr32_length] at this
  rw [rd32_slice, this, wr32_val]

theorem rd32_put_other (be : Bool) (h : Bytes) (off : Nat) (b : Bytes) (off' : Nat) (hb : off + b.length ≤ h.length)
    (hd : off' + 4 ≤ off ∨ off + b.length ≤ off') : rd32 be (put h off b) off' = rd32 be h off' := by
  rw [rd32_slice, rd32_slice, sliceOf_put_other h off b off' 4 hb hd]

theorem rd64_put_other (be : Bool) (h : Bytes) (off : Nat) (b : Bytes) (off' : Nat) (hb : off + b.length ≤ h.length)
    (hd : off' + 8 ≤ off ∨ off + b.length ≤ off') : rd64 be (put h off b) off' = rd64 be h off' := by
  rw [rd64_slice, rd64_slice, sliceOf_put_other h off b off' 8 hb hd]

end Relic.MachO
