/-
  Relic.Proofs.ZipMangle — the loop of `Directory.Mangle` on a measured input, what `dropRanges` leaves of a contiguous
  input, and with them the C17 rewrite (`rewriteWith`) of a readable, contiguous archive.
-/
import Relic.Proofs.ZipKept
import Relic.Proofs.ZipRoundtrip
namespace Relic.Zip
open Relic.SpecZip

theorem rewriteKeep_eq (z : Bytes) (mask : List Bool) (force : Bool) : rewriteKeep z mask force = rewriteWith z mask force 0 0 [] := by
  unfold rewriteKeep rewriteWith
  dsimp only
  cases h : read ⟨z, false, 0⟩ with
  | ok d =>
    dsimp only
    cases h2 : mangle ⟨z, false, 0⟩ d.files mask { files := [], size := 0, dirLoc := 0 } [] with
    | ok x => obtain ⟨nd, dels⟩ := x; simp [addNews]
    | err e => rfl
    | panic s => rfl
    | diverge => rfl
  | err e => rfl
  | panic s => rfl
  | diverge => rfl

def delRangesK : List KM → List (Nat × Nat)
  | [] => []
  | (k, _, m) :: r => if k then delRangesK r else (m.file.offset, m.total) :: delRangesK r

theorem mangle_measured {z : Bytes} {a : Archive} (h63 : z.length < 2 ^ 63) (hcdz : a.ends.cdOff ≤ z.length) :
    ∀ (kms : List KM) (mask : List Bool) (at_ : Nat) (nd : Directory) (dels : List (Nat × Nat)), MeasuredL z a at_ kms →
      mangle (RA z) (filesOf z at_ (kms.map (·.2.1.entry))) mask nd dels =
        .ok ({ nd with files := nd.files ++ (keptPMs z (setMask mask kms) nd.dirLoc).map (·.1),
                       dirLoc := nd.dirLoc + keptLenK (setMask mask kms) }, dels ++ delRangesK (setMask mask kms)) := by
  intro kms
  induction kms with
  | nil => intro mask at_ nd dels _; simp [filesOf, mangle, setMask, keptPMs, keptLenK, delRangesK]
  | cons q r ih =>
    intro mask at_ nd dels hM
    obtain ⟨k, sm, m⟩ := q
    obtain ⟨M, hrest⟩ := MeasuredL_cons.mp hM
    have hoff := M.offset
    have hTle := M.le
    simp only [List.map_cons, filesOf]
    unfold mangle
    have hg' : getTotalSize ⟨z, false, 0⟩ (fileOf z at_ sm.entry) = .ok (m, RA z) := M.size
    rw [hg']
    simp only
    have hfo : (fileOf z at_ sm.entry).offset = sm.entry.hoff := rfl
    rw [if_neg (by rw [hfo, Nat.mod_eq_of_lt (by omega)]; omega)]
    cases hk : mask.headD false
    · -- kept
      simp only [Bool.false_eq_true, if_false]
      rw [ih (mask.drop 1) _ _ _ hrest]
      simp only [setMask, hk, Bool.not_false, keptPMs, if_true, keptLenK, delRangesK, addFile, List.map_cons,
        List.append_assoc, List.cons_append, List.nil_append]
      congr 1
      simp only [placed, Nat.add_assoc]
    · simp only [if_true]
      rw [ih (mask.drop 1) _ _ _ hrest]
      simp only [setMask, hk, Bool.not_true, keptPMs, Bool.false_eq_true, if_false, keptLenK, delRangesK, Nat.zero_add,
        List.append_assoc, List.cons_append, List.nil_append, hfo, hoff]

def inDel (dels : List (Nat × Nat)) (i : Nat) : Bool := dels.any fun (o, n) => o ≤ i && i < o + n

def filt (l : Bytes) (base : Nat) (dels : List (Nat × Nat)) : Bytes :=
  ((l.zipIdx base).filter fun (_, i) => !inDel dels i).map (·.1)

theorem dropRanges_filt (z : Bytes) (upto : Nat) (dels : List (Nat × Nat)) : dropRanges z upto dels = filt (z.take upto) 0 dels := rfl

theorem filt_append (a b : Bytes) (base : Nat) (dels : List (Nat × Nat)) :
    filt (a ++ b) base dels = filt a base dels ++ filt b (base + a.length) dels := by
  simp [filt, List.zipIdx_append, List.filter_append, List.map_append]

theorem filt_all (dels : List (Nat × Nat)) : ∀ (a : Bytes) (base : Nat), (∀ i, base ≤ i → i < base + a.length → inDel dels i = true) →
    filt a base dels = [] := by
  intro a
  induction a with
  | nil => intro _ _; rfl
  | cons x xs ih =>
    intro base h
    have h0 := h base (Nat.le_refl _) (by simp)
    have := ih (base + 1) (fun i h1 h2 => h i (by omega) (by simp at h2 ⊢; omega))
    simp only [filt, List.zipIdx_cons, List.filter_cons, h0, Bool.not_true, Bool.false_eq_true, if_false] at this ⊢
    exact this

theorem filt_none (dels : List (Nat × Nat)) : ∀ (a : Bytes) (base : Nat), (∀ i, base ≤ i → i < base + a.length → inDel dels i = false) →
    filt a base dels = a := by
  intro a
  induction a with
  | nil => intro _ _; rfl
  | cons x xs ih =>
    intro base h
    have h0 := h base (Nat.le_refl _) (by simp)
    have := ih (base + 1) (fun i h1 h2 => h i (by omega) (by simp at h2 ⊢; omega))
    simp only [filt, List.zipIdx_cons, List.filter_cons, h0, Bool.not_false, if_true, List.map_cons] at this ⊢
    rw [this]

theorem contigK_offsets : ∀ (kms : List KM) (pos stop : Nat), contigK pos kms stop → ∀ q ∈ kms, pos ≤ q.2.2.file.offset := by
  intro kms
  induction kms with
  | nil => intro _ _ _ q hq; cases hq
  | cons p r ih =>
    intro pos stop h q hq
    obtain ⟨k, sm, m⟩ := p
    rcases List.mem_cons.mp hq with rfl | hq
    · exact Nat.le_of_eq h.1.symm
    · have := ih _ _ h.2 q hq; omega

/-- Split the window at the first member.  A deleted member's extent lies wholly in its own range (`filt_all`); a kept
    member's extent meets no range, because every range is the extent of another member, which lies before `pos` or
    behind this one (`contigK_offsets`). -/
theorem filt_contig (z : Bytes) (D : List (Nat × Nat)) : ∀ (kms : List KM) (pos stop : Nat), contigK pos kms stop →
    stop ≤ z.length →
    (∀ q ∈ kms, q.1 = false → (q.2.2.file.offset, q.2.2.total) ∈ D) →
    (∀ d ∈ D, d.1 + d.2 ≤ pos ∨ ∃ q ∈ kms, q.1 = false ∧ d.1 = q.2.2.file.offset ∧ d.2 = q.2.2.total) →
    filt ((z.drop pos).take (stop - pos)) pos D = keptBytesK z kms := by
  intro kms
  induction kms with
  | nil =>
    intro pos stop h _ _ _
    simp only [contigK] at h
    subst h
    simp [filt, keptBytesK]
  | cons p r ih =>
    intro pos stop h hs hD1 hD2
    obtain ⟨k, sm, m⟩ := p
    obtain ⟨hoff, hrest⟩ := h
    have hle := contigK_le r _ _ hrest
    have hsplit : (z.drop pos).take (stop - pos) = extent z m ++ (z.drop (pos + m.total)).take (stop - (pos + m.total)) := by
      unfold extent
      rw [hoff, show stop - pos = m.total + (stop - (pos + m.total)) by omega, List.take_add, List.drop_drop]
    have hel : (extent z m).length = m.total := by
      unfold extent; rw [hoff, List.length_take, List.length_drop]; omega
    rw [hsplit, filt_append, hel]
    have htail := ih (pos + m.total) stop hrest hs (fun q hq => hD1 q (List.mem_cons_of_mem _ hq)) (by
      intro d hd
      rcases hD2 d hd with h1 | ⟨q, hq, hk, h1, h2⟩
      · left; omega
      · rcases List.mem_cons.mp hq with rfl | hq
        · left; simp only at h1 h2; omega
        · right; exact ⟨q, hq, hk, h1, h2⟩)
    rw [htail]
    cases k with
    | false =>
      have hin := hD1 _ (List.mem_cons_self ..) rfl
      simp only at hin
      rw [filt_all D _ _ (by
        intro i h1 h2
        simp only [inDel, List.any_eq_true]
        exact ⟨_, hin, by simp only [Bool.and_eq_true, decide_eq_true_eq]; omega⟩)]
      simp [keptBytesK]
    | true =>
      rw [filt_none D _ _ (by
        intro i h1 h2
        cases hc : inDel D i with
        | false => rfl
        | true =>
          exfalso
          simp only [inDel, List.any_eq_true] at hc
          obtain ⟨d, hd, hdi⟩ := hc
          simp only [Bool.and_eq_true, decide_eq_true_eq] at hdi
          rcases hD2 d hd with h3 | ⟨q, hq, hk, h3, h4⟩
          · omega
          · rcases List.mem_cons.mp hq with rfl | hq
            · simp at hk
            · have := contigK_offsets r _ _ hrest q hq
              omega)]
      simp [keptBytesK]

theorem delRangesK_spec : ∀ (kms : List KM), (∀ q ∈ kms, q.1 = false → (q.2.2.file.offset, q.2.2.total) ∈ delRangesK kms) ∧
    (∀ d ∈ delRangesK kms, ∃ q ∈ kms, q.1 = false ∧ d.1 = q.2.2.file.offset ∧ d.2 = q.2.2.total) := by
  intro kms
  induction kms with
  | nil => exact ⟨fun _ h _ => (by cases h), fun _ h => (by cases h)⟩
  | cons p r ih =>
    obtain ⟨k, sm, m⟩ := p
    cases k with
    | true =>
      simp only [delRangesK, if_true]
      refine ⟨?_, ?_⟩
      · intro q hq hk
        rcases List.mem_cons.mp hq with rfl | hq
        · simp at hk
        · exact ih.1 q hq hk
      · intro d hd
        obtain ⟨q, hq, h⟩ := ih.2 d hd
        exact ⟨q, List.mem_cons_of_mem _ hq, h⟩
    | false =>
      simp only [delRangesK, Bool.false_eq_true, if_false]
      refine ⟨?_, ?_⟩
      · intro q hq hk
        rcases List.mem_cons.mp hq with rfl | hq
        · exact List.mem_cons_self ..
        · exact List.mem_cons_of_mem _ (ih.1 q hq hk)
      · intro d hd
        rcases List.mem_cons.mp hd with rfl | hd
        · exact ⟨_, List.mem_cons_self .., rfl, rfl, rfl⟩
        · obtain ⟨q, hq, h⟩ := ih.2 d hd
          exact ⟨q, List.mem_cons_of_mem _ hq, h⟩

theorem dropRanges_contig (z : Bytes) (kms : List KM) (stop : Nat) (hc : contigK 0 kms stop) (hs : stop ≤ z.length) :
    dropRanges z stop (delRangesK kms) = keptBytesK z kms := by
  rw [dropRanges_filt]
  have := filt_contig z (delRangesK kms) kms 0 stop hc hs (delRangesK_spec kms).1
    (fun d hd => Or.inr ((delRangesK_spec kms).2 d hd))
  simpa using this

theorem keptLenK_le : ∀ (kms : List KM) (pos stop : Nat), contigK pos kms stop → pos + keptLenK kms ≤ stop := by
  intro kms
  induction kms with
  | nil => intro pos stop h; simp [contigK] at h; simp [keptLenK]; omega
  | cons q r ih =>
    intro pos stop h
    obtain ⟨k, sm, m⟩ := q
    have := ih _ _ h.2
    simp only [keptLenK]
    split <;> omega

theorem newFiles_ok (mt md : Nat) : ∀ (news : List NewMember) (o : Nat), (∀ n ∈ news, NewOK n) →
    headersOK (newEntries mt md news o).1 = true := by
  intro news
  induction news with
  | nil => intro _ _; rfl
  | cons n ns ih =>
    intro o hok
    have hn := (hok n (List.mem_cons_self ..)).extra
    simp only [newEntries, headersOK, List.all_cons, Bool.and_eq_true]
    refine ⟨?_, ih _ (fun x hx => hok x (List.mem_cons_of_mem _ hx))⟩
    have hd : decide ((newEntryAt mt md n o).extra.length + 28 ≤ 65535) = true := by
      have : (newEntryAt mt md n o).extra = n.extra := rfl
      rw [this]; simp; omega
    unfold dirHeaderOK
    rw [hd, Bool.or_true]

/-- the directory entries of the rewrite: kept members (running offset from 0), then the added ones -/
def rewriteFiles (z : Bytes) (kms : List KM) (mt md : Nat) (news : List NewMember) : List File :=
  (keptPMs z kms 0).map (·.1) ++ (newEntries mt md news (keptLenK kms)).1

/-- **the C17 rewrite of a readable contiguous archive, in closed form** (code with fix-F7g): it fails with the error
    of `GetDirectoryHeader` exactly when some directory entry it has to synthesise has no room for the ZIP64 field,
    and otherwise produces kept bytes ++ added bytes ++ directory ++ end records. -/
theorem rewriteWith_eq {z : Bytes} {a : Archive} (hr : Readable z a)
    (hcontig : contigSpec a 0 a.members = true)
    (mask : List Bool) (force : Bool) (mt md : Nat) (news : List NewMember) :
    ∃ kms0, MeasuredL z a a.ends.cdOff kms0 ∧ kms0.map (·.2.1) = a.members ∧ a.ends.cdOff ≤ z.length ∧
      contigK 0 (setMask mask kms0) a.ends.cdOff ∧
      rewriteWith z mask force mt md news =
        if headersOK (rewriteFiles z (setMask mask kms0) mt md news) then
          .ok (keptBytesK z (setMask mask kms0) ++ (newEntries mt md news (keptLenK (setMask mask kms0))).2 ++
            (headersOf (rewriteFiles z (setMask mask kms0) mt md news)).1 ++
            endRecords (rewriteFiles z (setMask mask kms0) mt md news).length
              (headersOf (rewriteFiles z (setMask mask kms0) mt md news)).1.length
              (keptLenK (setMask mask kms0) + (newEntries mt md news (keptLenK (setMask mask kms0))).2.length) force
              (maxReader (rewriteFiles z (setMask mask kms0) mt md news)))
        else .err "extratoolong" := by
  obtain ⟨d, kms0, hd, hloc, hcdz, hM0, hsm0, hfs⟩ := hr.read_measured
  have h63 := hr.len63
  have hck : contigK 0 (setMask mask kms0) a.ends.cdOff := by
    apply contigK_setMask
    apply contigK_of_spec kms0 _ 0 hM0
    rw [hsm0]; exact hcontig
  refine ⟨kms0, hM0, hsm0, hcdz, hck, ?_⟩
  unfold rewriteWith
  have hd' : read ⟨z, false, 0⟩ = .ok d := hd
  simp only [hd']
  have hmg := mangle_measured h63 hcdz kms0 mask a.ends.cdOff { files := [], size := 0, dirLoc := 0 } [] hM0
  rw [← hfs] at hmg
  have hmg' : mangle ⟨z, false, 0⟩ d.files mask { files := [], size := 0, dirLoc := 0 } [] = _ := hmg
  rw [hmg']
  simp only [List.nil_append, Nat.zero_add]
  generalize setMask mask kms0 = kms at *
  rw [hloc, dropRanges_contig z kms _ hck hcdz]
  have hA := addNews_spec mt md news []
    { files := (keptPMs z kms 0).map (·.1), size := 0, dirLoc := keptLenK kms }
  simp only [List.nil_append] at hA
  obtain ⟨a1, a2, a3, -⟩ := hA
  generalize addNews mt md news ([], { files := (keptPMs z kms 0).map (·.1), size := 0, dirLoc := keptLenK kms }) = P at *
  have hF : P.2.files = rewriteFiles z kms mt md news := by rw [a2]; rfl
  have hwd : writeDirectory P.2 force = ((headersOf P.2.files).1,
      endRecords P.2.files.length (headersOf P.2.files).1.length P.2.dirLoc force (maxReader P.2.files),
      { P.2 with files := (headersOf P.2.files).2 }) := rfl
  rw [hwd]
  simp only
  rw [hF, a1, a3]
  cases headersOK (rewriteFiles z kms mt md news) <;> simp

/-- **the C17 rewrite of a readable, contiguous archive parses**: kept members (those the mask does not
    delete) first, then the added ones, each with the view it had / was requested with. -/
theorem rewriteWith_parses {z : Bytes} {a : Archive} (hr : Readable z a)
    (hcontig : contigSpec a 0 a.members = true)
    (mask : List Bool) (force : Bool) (mt md : Nat) (hmt : mt < 2 ^ 16) (hmd : md < 2 ^ 16) (news : List NewMember)
    (hnews : ∀ n ∈ news, NewOK n) (out : Bytes) (h : rewriteWith z mask force mt md news = .ok out)
    (hbound : news = [] ∨ out.length < 2 ^ 64) :
    ∃ kms a', MeasuredL z a a.ends.cdOff kms ∧ kms.map (·.2.1) = a.members ∧
      Assembled out a' (keptLenK (setMask mask kms) + (newEntries mt md news (keptLenK (setMask mask kms))).2.length)
        (keptPMs z (setMask mask kms) 0 ++ newPMs mt md news (keptLenK (setMask mask kms)))
        (keptViews z (setMask mask kms) 0 ++ newViews mt md news (keptLenK (setMask mask kms)))
        (∀ n ∈ news, NewReadable n) := by
  obtain ⟨kms0, hM0, hsm0, hcdz, hck, heq⟩ := rewriteWith_eq hr hcontig mask force mt md news
  have h63 := hr.len63
  have hM := MeasuredL_setMask kms0 mask _ hM0
  have hsm : (setMask mask kms0).map (·.2.1) = a.members := by rw [setMask_members, hsm0]
  have hmem : ∀ q ∈ setMask mask kms0, q.2.1 ∈ a.members := by
    intro q hq
    rw [← hsm]
    exact List.mem_map.mpr ⟨q, hq, rfl⟩
  generalize hkms : setMask mask kms0 = kms at *
  rw [heq] at h
  have hH : headersOK (rewriteFiles z kms mt md news) = true := by
    cases hh : headersOK (rewriteFiles z kms mt md news) with
    | true => rfl
    | false => rw [hh] at h; simp at h
  rw [if_pos hH] at h
  simp only [Res.ok.injEq] at h
  have hx : ∀ q ∈ keptPMs z kms 0, dirHeaderOK q.1 = true := fun q hq =>
    headersOK_mem hH (List.mem_append_left _ (List.mem_map.mpr ⟨q, hq, rfl⟩))
  have hkl := keptBytesK_length hcdz kms _ hM
  generalize hF : rewriteFiles z kms mt md news = F at *
  generalize hNB : (newEntries mt md news (keptLenK kms)).2 = NB at *
  have hb2 : keptLenK kms + NB.length + (headersOf F).1.length < 2 ^ 64 := by
    rcases hbound with hn | hbound
    · -- nothing added: the new directory is at most 28 bytes per entry longer than the old one
      subst hn
      have hP1 : NB = [] := by rw [← hNB]; rfl
      have hP2 : F = (keptPMs z kms 0).map (·.1) := by rw [← hF]; simp [rewriteFiles, newEntries]
      have hkle := keptLenK_le kms 0 _ hck
      have hl1 := measured_lens kms _ hM
      obtain ⟨-, hsum', -, -, -⟩ := parse_some hr.parsed
      have hfl : a.ends.first + 22 ≤ z.length := by have := parse_dir_le hr.parsed; omega
      have hl2 := keptHeaders_length hcdz kms _ 0 hM hmem (by omega) hx
      rw [hP1, hP2]
      have : max a.ends.cdOff a.ends.first = a.ends.first := by omega
      simp only [List.length_nil]
      omega
    · have := congrArg List.length h
      simp only [List.length_append, hkl] at this
      omega
  obtain ⟨a', hA⟩ := kept_news_parses hcdz kms _ hM hmem hr.fixed hr.widths mt md hmt hmd news hnews hx force out NB F _ hNB.symm
    (by rw [← hF]; rfl) rfl h.symm hb2
  subst hkms hNB
  exact ⟨kms0, a', hM0, hsm0, hA⟩

end Relic.Zip
