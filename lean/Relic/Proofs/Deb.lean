/-
  Relic.Proofs.Deb — the `ar` reader of `Relic.Model.Deb` step by step, archives whose members are all complete ("tight") as
  the view `Arch`, and the list facts about name prefixes, the Go map and the two name filters.
-/
import Relic.Model.Deb
import Relic.Proofs.Splice
namespace Relic.Deb

theorem adv_ge (s : Int) : 60 ≤ adv s := by
  unfold adv; split <;> omega

theorem adv_of_nonneg (s : Int) (h : 0 ≤ s) : adv s = 60 + s.toNat + s.toNat % 2 := by
  unfold adv; simp [h]

theorem fld_append (A B : Bytes) (lo n : Nat) (h : lo + n ≤ A.length) : fld (A ++ B) lo n = fld A lo n :=
  take_drop_append_left A B lo n h

/-- the entry the reader makes of the first 60 bytes -/
def entryAt (A : Bytes) : Entry := ⟨A.take 60, hdrName A, hdrSize A, (A.drop 60).take (hdrSize A).toNat⟩

theorem parse_succ (n : Nat) (A : Bytes) (h60 : 60 ≤ A.length) (ho : octalPanics A = false) :
    parse (n + 1) A = (entryAt A :: (parse n (A.drop (adv (hdrSize A)))).1, (parse n (A.drop (adv (hdrSize A)))).2) := by
  rw [parse]
  have h0 : ¬ A.length = 0 := by omega
  have h1 : ¬ A.length < 60 := by omega
  simp only [h0, h1, ho, if_false, Bool.false_eq_true, entryAt]

theorem parse_uncons (n : Nat) (A : Bytes) (e : Entry) (es : List Entry) (s : Stop) (hp : parse n A = (e :: es, s)) :
    ∃ n', n = n' + 1 ∧ 60 ≤ A.length ∧ octalPanics A = false ∧ e = entryAt A ∧
      parse n' (A.drop (adv (hdrSize A))) = (es, s) := by
  cases n with
  | zero => simp [parse] at hp
  | succ n' =>
    refine ⟨n', rfl, ?_⟩
    rw [parse] at hp
    by_cases h0 : A.length = 0
    · simp [h0] at hp
    by_cases h1 : A.length < 60
    · simp [h0, h1] at hp
    by_cases h2 : octalPanics A = true
    · simp [h0, h1, h2] at hp
    have h2' : octalPanics A = false := by simpa using h2
    rw [h2'] at hp
    simp only [h0, h1, if_false, Bool.false_eq_true] at hp
    refine ⟨by omega, h2', ?_, ?_⟩
    · have := congrArg Prod.fst hp
      simp only [List.cons.injEq] at this
      exact this.1.symm
    · have a := congrArg Prod.fst hp
      have b := congrArg Prod.snd hp
      simp only [List.cons.injEq] at a
      exact Prod.ext a.2 b

theorem parse_eq_nil (n : Nat) (A : Bytes) (hp : parse n A = ([], .eof)) : A = [] := by
  cases n with
  | zero => simp [parse] at hp
  | succ n' =>
    rw [parse] at hp
    by_cases h0 : A.length = 0
    · exact List.eq_nil_of_length_eq_zero h0
    by_cases h1 : A.length < 60
    · simp [h0, h1] at hp
    by_cases h2 : octalPanics A = true
    · simp [h0, h1, h2] at hp
    simp [h0, h1, h2] at hp

theorem parse_empty (n : Nat) : parse (n + 1) [] = ([], .eof) := by
  rw [parse]; simp

theorem parse_no_fuel : ∀ (n : Nat) (rest : Bytes), rest.length < n → (parse n rest).2 ≠ .fuel := by
  intro n
  induction n with
  | zero => intro rest h; omega
  | succ n ih =>
    intro rest hn
    rw [parse]
    by_cases h0 : rest.length = 0
    · simp [h0]
    by_cases h1 : rest.length < 60
    · simp [h0, h1]
    by_cases h2 : octalPanics rest = true
    · simp [h0, h1, h2]
    simp only [h0, h1, h2, if_false]
    have hk := adv_ge (hdrSize rest)
    exact ih _ (by simp [List.length_drop]; omega)

/-- sizes non-negative and the advances add up to the length: every member is complete, padding included -/
def Tight (rest : Bytes) (es : List Entry) : Prop := (∀ e ∈ es, 0 ≤ e.size) ∧ advSum es = rest.length

theorem tight_cons {A : Bytes} {e : Entry} {es : List Entry} (h : Tight A (e :: es)) :
    0 ≤ e.size ∧ adv e.size ≤ A.length ∧ Tight (A.drop (adv e.size)) es := by
  obtain ⟨h1, h2⟩ := h
  simp only [advSum] at h2
  refine ⟨h1 e (by simp), by omega, fun x hx => h1 x (by simp [hx]), ?_⟩
  simp [List.length_drop]; omega

theorem advSum_append (l1 l2 : List Entry) : advSum (l1 ++ l2) = advSum l1 + advSum l2 := by
  induction l1 with
  | nil => simp [advSum]
  | cons a l ih => simp [advSum, ih]; omega

/-- one complete member: a header the reader accepts, then exactly the data and the padding byte it announces -/
structure Member (m : Bytes) : Prop where
  octal : octalPanics m = false
  size : 0 ≤ hdrSize m
  len : m.length = adv (hdrSize m)

/-- `Arch A es`: the bytes `A` are exactly the members `es`, one complete member after the other.  It is a relation and not an
    encoder, because the reader ignores bytes that `Entry` does not keep apart (the padding byte).  Everything about tight
    archives is said with `++` on this view, and fuel is counted exactly: one unit per member. -/
inductive Arch : Bytes → List Entry → Prop
  | nil : Arch [] []
  | cons {m A es} : Member m → Arch A es → Arch (m ++ A) (entryAt m :: es)

theorem hdr_append (m X : Bytes) (h : 60 ≤ m.length) :
    hdrName (m ++ X) = hdrName m ∧ hdrSize (m ++ X) = hdrSize m ∧ octalPanics (m ++ X) = octalPanics m ∧
      (m ++ X).take 60 = m.take 60 := by
  simp only [hdrName, hdrSize, octalPanics, fld_append m X _ _ (show 0 + 16 ≤ m.length by omega),
    fld_append m X _ _ (show 48 + 10 ≤ m.length by omega), fld_append m X _ _ (show 40 + 8 ≤ m.length by omega),
    List.take_append_of_le_length h, and_self]

theorem entryAt_append (m X : Bytes) (h : 60 + (hdrSize m).toNat ≤ m.length) : entryAt (m ++ X) = entryAt m := by
  obtain ⟨e1, e2, _, e4⟩ := hdr_append m X (by omega)
  unfold entryAt
  rw [e1, e2, e4, take_drop_append_left m X 60 _ h]

theorem Member.ge {m : Bytes} (h : Member m) : 60 + (hdrSize m).toNat ≤ m.length := by
  rw [h.len, adv_of_nonneg _ h.size]; omega

theorem parse_member_cons (n : Nat) {m : Bytes} (X : Bytes) (h : Member m) :
    parse (n + 1) (m ++ X) = (entryAt m :: (parse n X).1, (parse n X).2) := by
  have hg := h.ge
  obtain ⟨_, e2, e3, _⟩ := hdr_append m X (by omega)
  rw [parse_succ n _ (by rw [List.length_append]; omega) (e3.trans h.octal), e2, entryAt_append m X hg, ← h.len,
    List.drop_left]

namespace Arch

theorem parse_append {A : Bytes} {es : List Entry} (h : Arch A es) (n : Nat) (B : Bytes) :
    Deb.parse (es.length + n) (A ++ B) = (es ++ (Deb.parse n B).1, (Deb.parse n B).2) := by
  induction h with
  | nil => rw [List.length_nil, Nat.zero_add]; rfl
  | cons hm _ ih =>
    rw [List.length_cons, Nat.add_right_comm, List.append_assoc, parse_member_cons _ _ hm, ih]; rfl

theorem parse_eq {A : Bytes} {es : List Entry} (h : Arch A es) (n : Nat) (hn : es.length < n) : Deb.parse n A = (es, .eof) := by
  obtain ⟨k, rfl⟩ := Nat.exists_eq_add_of_lt hn
  have := h.parse_append (k + 1) []
  rwa [List.append_nil, parse_empty, List.append_nil, ← Nat.add_assoc] at this

theorem count_le {A : Bytes} {es : List Entry} (h : Arch A es) : es.length ≤ A.length := by
  induction h with
  | nil => exact Nat.le_refl _
  | cons hm _ ih => have := hm.ge; simp only [List.length_cons, List.length_append]; omega

theorem tight {A : Bytes} {es : List Entry} (h : Arch A es) : Tight A es := by
  induction h with
  | nil => exact ⟨fun _ h => (nomatch h), rfl⟩
  | cons hm _ ih =>
    refine ⟨fun e he => ?_, ?_⟩
    · rcases List.mem_cons.mp he with rfl | he
      · exact hm.size
      · exact ih.1 e he
    · simp only [advSum, ih.2, List.length_append, entryAt, hm.len]

theorem length {A : Bytes} {es : List Entry} (h : Arch A es) : A.length = advSum es := h.tight.2.symm

theorem append {A B : Bytes} {es es' : List Entry} (h : Arch A es) (h' : Arch B es') : Arch (A ++ B) (es ++ es') := by
  induction h with
  | nil => exact h'
  | cons hm _ ih => rw [List.append_assoc]; exact .cons hm ih

theorem split {es2 : List Entry} : ∀ (es1 : List Entry) {A : Bytes}, Arch A (es1 ++ es2) →
    ∃ A1 A2, A = A1 ++ A2 ∧ Arch A1 es1 ∧ Arch A2 es2
  | [], A, h => ⟨[], A, rfl, .nil, h⟩
  | _ :: es1, _, .cons hm hr =>
    let ⟨A1, A2, e, h1, h2⟩ := split es1 hr
    ⟨_, A2, by rw [e, List.append_assoc], .cons hm h1, h2⟩

theorem of_parse : ∀ (es : List Entry) (n : Nat) (A : Bytes), Deb.parse n A = (es, .eof) → Tight A es → Arch A es
  | [], n, A, hp, _ => by rw [parse_eq_nil n A hp]; exact .nil
  | e :: es, n, A, hp, ht => by
    obtain ⟨n', rfl, -, ho, rfl, hp'⟩ := parse_uncons n A e es .eof hp
    obtain ⟨hs, hA, ht'⟩ := tight_cons ht
    have hk := adv_ge (hdrSize A)
    have hl : (A.take (adv (hdrSize A))).length = adv (hdrSize A) := by rw [List.length_take]; exact Nat.min_eq_left hA
    -- `A` is its first member followed by the rest; header and data are read from the member alone
    have hA' := List.take_append_drop (adv (hdrSize A)) A
    obtain ⟨_, e2, e3, _⟩ := hdr_append (A.take (adv (hdrSize A))) (A.drop (adv (hdrSize A))) (by omega)
    rw [hA'] at e2 e3
    have hm : Member (A.take (adv (hdrSize A))) := ⟨e3 ▸ ho, e2 ▸ hs, by rw [hl, ← e2]⟩
    have he := entryAt_append _ (A.drop (adv (hdrSize A))) hm.ge
    have key := Arch.cons hm (of_parse es n' _ hp' ht')
    rwa [hA', ← he, hA'] at key

/-- behind the 8 bytes of the global header -/
theorem entries {hd A : Bytes} {es : List Entry} (hl : hd.length = 8) (h : Arch A es) :
    Deb.entries (hd ++ A) = (es, .eof) ∧ Tight ((hd ++ A).drop 8) es := by
  have hd8 : (hd ++ A).drop 8 = A := hl ▸ List.drop_left
  unfold Deb.entries
  rw [hd8]
  exact ⟨h.parse_eq _ (by have := h.count_le; rw [List.length_append]; omega), h.tight⟩

theorem of_entries {f : Bytes} {es : List Entry} (he : Deb.entries f = (es, .eof)) (ht : Tight (f.drop 8) es) :
    Arch (f.drop 8) es := of_parse es _ _ he ht

end Arch

/-- `rtrim` keeps the first byte -/
theorem entryAt_name_ne (A : Bytes) (h : 60 ≤ A.length) : (entryAt A).name ≠ [] := by
  cases A with
  | nil => simp at h
  | cons x t => simp [entryAt, hdrName, fld, rtrim]

theorem parse_names_ne : ∀ (n : Nat) (A : Bytes) (es : List Entry) (s : Stop), parse n A = (es, s) → ∀ e ∈ es, e.name ≠ [] := by
  intro n
  induction n with
  | zero =>
    intro A es s hp e he
    simp only [parse, Prod.mk.injEq] at hp
    rw [← hp.1] at he
    simp at he
  | succ n ih =>
    intro A es s hp e he
    cases es with
    | nil => simp at he
    | cons e0 es' =>
      obtain ⟨n', hn, h60, _, he0, hrest⟩ := parse_uncons (n + 1) A e0 es' s hp
      have hn' : n' = n := by omega
      subst hn'
      simp only [List.mem_cons] at he
      rcases he with rfl | he
      · rw [he0]; exact entryAt_name_ne A h60
      · exact ih _ es' s hrest e he

theorem isPrefix_append (a b : Bytes) : isPrefix a (a ++ b) = true := by
  induction a with
  | nil => simp [isPrefix]
  | cons x a ih => simp [isPrefix, ih]

theorem isPrefix_eq (a n : Bytes) (h : isPrefix a n = true) : n = a ++ n.drop a.length := by
  induction a generalizing n with
  | nil => simp
  | cons x a ih =>
    cases n with
    | nil => simp [isPrefix] at h
    | cons y n =>
      simp only [isPrefix, Bool.and_eq_true, beq_iff_eq] at h
      obtain ⟨rfl, h2⟩ := h
      simp only [List.length_cons, List.drop_succ_cons, List.cons_append, List.cons.injEq, true_and]
      exact ih n h2

theorem lookup_absent (k : Bytes) (l : List (Bytes × Bytes)) (h : ∀ p ∈ l, p.1 ≠ k) : lookup k l = none := by
  induction l with
  | nil => rfl
  | cons p l ih =>
    obtain ⟨k', v⟩ := p
    simp only [lookup, ih (fun q hq => h q (by simp [hq]))]
    have : k' ≠ k := h (k', v) (by simp)
    simp [this]

theorem lookup_distinct (l : List (Bytes × Bytes)) (hd : (l.map (·.1)).Pairwise (· ≠ ·)) :
    ∀ p ∈ l, lookup p.1 l = some p.2 := by
  induction l with
  | nil => intro p hp; simp at hp
  | cons q l ih =>
    obtain ⟨k, v⟩ := q
    simp only [List.map_cons, List.pairwise_cons] at hd
    intro p hp
    simp only [List.mem_cons] at hp
    rcases hp with rfl | hp
    · have : lookup k l = none := by
        apply lookup_absent
        intro q hq
        exact fun e => hd.1 q.1 (List.mem_map_of_mem hq) e.symm
      simp [lookup, this]
    · simp [lookup, ih hd.2 p hp]

/-- `Sign` filters on the cleaned name, `Verify` on the raw one: the same members when the two classify alike -/
theorem filter_gpg_clean (es : List Entry) (hp : ∀ x ∈ es, isGpgName x.name = isGpgName (pathClean x.name)) :
    es.filter (fun e => !isGpgName e.name) = es.filter (fun e => !isGpgName (pathClean e.name)) :=
  List.filter_congr fun x hx => by rw [hp x hx]

end Relic.Deb
