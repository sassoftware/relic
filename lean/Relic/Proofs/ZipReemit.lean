/-
  Relic.Proofs.ZipReemit — re-serialising an unmodified directory (C17, re-emission half): encoding ∘ decoding of the
  end records gives back a buffer of the right length, `Read` with the end records it keeps, `GetOriginalDirectory` as
  repaired reproduces the original bytes, and the exact class (`canonEnds`) on which `WriteDirectory` re-emits the
  original end records.
-/
import Relic.Proofs.ZipAgree
import Relic.Proofs.ZipFields
import Relic.Model.ZipWrite
namespace Relic.Zip
open Relic.SpecZip

/-- the fields of a buffer read at consecutive offsets -/
def fieldsOf (b : Bytes) : List Nat → Nat → List (Nat × Nat)
  | [], _ => []
  | w :: ws, off => (w, fld b off w) :: fieldsOf b ws (off + w)

theorem encFields_fieldsOf (b : Bytes) : ∀ (ws : List Nat) (off : Nat), off + ws.sum ≤ b.length →
    encFields (fieldsOf b ws off) = (b.drop off).take ws.sum := by
  intro ws
  induction ws with
  | nil => intro off _; simp [fieldsOf, encFields]
  | cons w ws ih =>
    intro off h
    simp only [List.sum_cons] at h
    simp only [fieldsOf, encFields, List.sum_cons]
    rw [ih (off + w) (by omega), List.take_add, List.drop_drop]
    congr 1
    exact fld_enc b off w (by omega)

theorem encEnd_parseEnd (b : Bytes) (h : b.length = 22) : encEnd (parseEnd b) = b := by
  have := encFields_fieldsOf b [4, 2, 2, 2, 2, 4, 4, 2] 0 (by simp; omega)
  rw [List.drop_zero, List.take_of_length_le (by simp; omega)] at this
  exact (show encEnd (parseEnd b) = encFields (fieldsOf b [4, 2, 2, 2, 2, 4, 4, 2] 0)
    by simp [encEnd, parseEnd, encFields, fieldsOf]).trans this

theorem encEnd64_parseEnd64 (b : Bytes) (h : b.length = 56) : encEnd64 (parseEnd64 b) = b := by
  have := encFields_fieldsOf b [4, 8, 2, 2, 4, 4, 8, 8, 8, 8] 0 (by simp; omega)
  rw [List.drop_zero, List.take_of_length_le (by simp; omega)] at this
  exact (show encEnd64 (parseEnd64 b) = encFields (fieldsOf b [4, 8, 2, 2, 4, 4, 8, 8, 8, 8] 0)
    by simp [encEnd64, parseEnd64, encFields, fieldsOf]).trans this

theorem encLoc64_parseLoc64 (b : Bytes) (h : b.length = 20) : encLoc64 (parseLoc64 b) = b := by
  have := encFields_fieldsOf b [4, 4, 8, 4] 0 (by simp; omega)
  rw [List.drop_zero, List.take_of_length_le (by simp; omega)] at this
  exact (show encLoc64 (parseLoc64 b) = encFields (fieldsOf b [4, 4, 8, 4] 0)
    by simp [encLoc64, parseLoc64, encFields, fieldsOf]).trans this

theorem enc_parse_tail98 (z : Bytes) (p : Nat) (h : p + 98 = z.length) :
    encEnd64 (parseEnd64 ((z.drop p).take 56)) ++ encLoc64 (parseLoc64 ((z.drop (p + 56)).take 20)) ++
      encEnd (parseEnd ((z.drop (p + 76)).take 22)) = z.drop p := by
  rw [encEnd64_parseEnd64 _ (by rw [List.length_take, List.length_drop]; omega),
    encLoc64_parseLoc64 _ (by rw [List.length_take, List.length_drop]; omega),
    encEnd_parseEnd _ (by rw [List.length_take, List.length_drop]; omega),
    List.take_of_length_le (l := z.drop (p + 76)) (by rw [List.length_drop]; omega), List.append_assoc]
  have j2 := List.take_append_drop 20 (z.drop (p + 56))
  rw [List.drop_drop] at j2
  rw [j2]
  have j1 := List.take_append_drop 56 (z.drop p)
  rw [List.drop_drop] at j1
  exact j1

theorem enc_parse_tail22 (z : Bytes) (p : Nat) (h : p + 22 = z.length) :
    encEnd (parseEnd ((z.drop p).take 22)) = z.drop p := by
  rw [encEnd_parseEnd _ (by rw [List.length_take, List.length_drop]; omega)]
  exact List.take_of_length_le (by rw [List.length_drop]; omega)

/-- the central records `WriteDirectory` re-emits for an unmodified directory are the original bytes -/
theorem headersOf_filesOf {z : Bytes} {lim : Nat} (hl : lim ≤ z.length) : ∀ (count at_ : Nat) (es : List Entry),
    entries z count at_ lim = some es →
    (headersOf (filesOf z at_ es)).1 = (z.drop at_).take (lim - at_) ∧ at_ ≤ lim := by
  intro count
  induction count with
  | zero =>
    intro at_ es h
    unfold entries at h
    split at h
    · next heq => cases h; subst heq; simp [filesOf, headersOf]
    · cases h
  | succ count ih =>
    intro at_ es h
    unfold entries at h
    simp only [Option.bind_eq_bind, Option.bind_eq_some_iff] at h
    obtain ⟨e, he, es', hes, h⟩ := h
    cases h
    obtain ⟨b1, -, -, b4, r, -, hr⟩ := entryAt_some he
    have hlen : e.len = 46 + fld (z.drop at_) 28 2 + fld (z.drop at_) 30 2 + fld (z.drop at_) 32 2 := by rw [hr]; rfl
    obtain ⟨i1, -⟩ := ih _ _ hes
    simp only [filesOf, headersOf_cons]
    have hraw : (getDirectoryHeader (fileOf z at_ e)).1 = (z.drop at_).take e.len := by
      unfold getDirectoryHeader
      have : (fileOf z at_ e).raw = (z.drop at_).take e.len := rfl
      rw [if_pos (by
        rw [this]; intro c
        have := congrArg List.length c
        rw [List.length_take, List.length_drop] at this
        simp at this; omega)]
      exact this
    rw [hraw, i1]
    refine ⟨?_, by omega⟩
    rw [show lim - at_ = e.len + (lim - (at_ + e.len)) by omega, List.take_add, List.drop_drop]

/-- `Read` on a readable archive, with the end records it keeps and the central records `WriteDirectory` would re-emit -/
theorem read_ends {z : Bytes} {a : Archive} (h : parse z = some a) (hc : a.ends.comment = [])
    (h42 : 42 ≤ z.length) (h63 : z.length < 2 ^ 63)
    (hfix : (a.members.all fun m => fixedNeed m.entry.need) = true) :
    ∃ d, read ⟨z, false, 0⟩ = .ok d ∧ d.files = filesOf z a.ends.cdOff (a.members.map (·.entry)) ∧
      d.dirLoc = a.ends.cdOff ∧
      (headersOf d.files).1 = (z.drop a.ends.cdOff).take (a.ends.first - a.ends.cdOff) ∧ a.ends.cdOff ≤ a.ends.first ∧
      (if a.ends.zip64 = true then
        d.end64 = parseEnd64 ((z.drop a.ends.first).take 56) ∧ d.loc64 = parseLoc64 ((z.drop (a.ends.first + 56)).take 20) ∧
        d.endr = parseEnd ((z.drop (a.ends.first + 76)).take 22) ∧ a.ends.first + 98 = z.length
       else d.end64 = {} ∧ d.loc64 = {} ∧ d.endr = parseEnd ((z.drop a.ends.first).take 22) ∧ a.ends.first + 22 = z.length) := by
  obtain ⟨d, hd, hfiles, hloc, -, hends⟩ := read_parsed h hc h42 h63 hfix
  obtain ⟨-, hsum, hes, -, -⟩ := parse_some h
  obtain ⟨hcd1, hcd2⟩ := headersOf_filesOf (z := z) (lim := a.ends.first) (by have := parse_dir_le h; omega) _ _ _ hes
  exact ⟨d, hd, hfiles, hloc, by rw [hfiles]; exact hcd1, hcd2, hends⟩

/-- **`GetOriginalDirectory(false)` as repaired (fix-F7b; `originalDirectorySpec`) reproduces the original
    directory and end records byte for byte**, for every readable archive. -/
theorem originalDirectory_reproduces {z : Bytes} {a : Archive} (h : parse z = some a) (hc : a.ends.comment = [])
    (h42 : 42 ≤ z.length) (h63 : z.length < 2 ^ 63)
    (hfix : (a.members.all fun m => fixedNeed m.entry.need) = true) :
    ∃ d cd eod, read ⟨z, false, 0⟩ = .ok d ∧ originalDirectorySpec d = .ok (cd, eod) ∧
      cd = (z.drop a.ends.cdOff).take (a.ends.first - a.ends.cdOff) ∧ eod = z.drop a.ends.first ∧
      cd ++ eod = z.drop d.dirLoc := by
  obtain ⟨d, hd, -, hloc, hcd, hle, hends⟩ := read_ends h hc h42 h63 hfix
  obtain ⟨hen, -, -, -, -⟩ := parse_some h
  obtain ⟨p', hp22, hsig, -, hcl, -, hrest⟩ := ends_some hen
  have hjoin := take_drop_append_tail z hle
  unfold originalDirectorySpec
  by_cases hz : a.ends.zip64 = true
  · rw [if_pos hz] at hends
    obtain ⟨e64, el64, eend, hl98⟩ := hends
    split at hrest
    · obtain ⟨h76, -, hf76, hlocs, -, -, -, h64s, -⟩ := hrest
      have s1 : d.endr.sig = sigEnd := by
        rw [eend, parseEnd_take, show a.ends.first + 76 = p' by omega]; exact hasSig_fld hsig
      have s2 : d.end64.sig = sigEnd64 := by
        rw [e64, parseEnd64_take]; exact hasSig_fld h64s
      have s3 : d.loc64.sig = sigLoc64 := by
        rw [el64, parseLoc64_take, show a.ends.first + 56 = p' - 20 by omega]; exact hasSig_fld hlocs
      have hspec : (if d.endr.sig = 0 then Res.err "newzip" else
          Res.ok ((headersOf d.files).1, ((if d.end64.sig ≠ 0 then encEnd64 d.end64 else []) ++
            if d.loc64.sig ≠ 0 then encLoc64 d.loc64 else []) ++ encEnd d.endr)) =
          Res.ok ((headersOf d.files).1, encEnd64 d.end64 ++ encLoc64 d.loc64 ++ encEnd d.endr) := by
        rw [if_neg (by rw [s1]; decide), if_pos (by rw [s2]; decide), if_pos (by rw [s3]; decide)]
      have heod : encEnd64 d.end64 ++ encLoc64 d.loc64 ++ encEnd d.endr = z.drop a.ends.first := by
        rw [e64, el64, eend]
        exact enc_parse_tail98 z _ hl98
      refine ⟨d, _, _, hd, hspec, hcd, heod, ?_⟩
      rw [hcd, heod, hloc]; exact hjoin
    · obtain ⟨hzf, -⟩ := hrest
      rw [hzf] at hz; cases hz
  · rw [if_neg hz] at hends
    obtain ⟨e64, el64, eend, hl22⟩ := hends
    have hfp : a.ends.first = p' := by
      split at hrest
      · obtain ⟨-, hzt, -⟩ := hrest; exact absurd hzt hz
      · exact hrest.2.1
    have s1 : d.endr.sig = sigEnd := by
      rw [eend, parseEnd_take, hfp]; exact hasSig_fld hsig
    have hspec : (if d.endr.sig = 0 then Res.err "newzip" else
        Res.ok ((headersOf d.files).1, ((if d.end64.sig ≠ 0 then encEnd64 d.end64 else []) ++
          if d.loc64.sig ≠ 0 then encLoc64 d.loc64 else []) ++ encEnd d.endr)) =
        Res.ok ((headersOf d.files).1, ([] : Bytes) ++ [] ++ encEnd d.endr) := by
      rw [if_neg (by rw [s1]; decide), if_neg (by rw [e64]; simp), if_neg (by rw [el64]; simp)]
    have heod : ([] : Bytes) ++ [] ++ encEnd d.endr = z.drop a.ends.first := by
      rw [eend]
      exact enc_parse_tail22 z _ hl22
    refine ⟨d, _, _, hd, hspec, hcd, heod, ?_⟩
    rw [hcd, heod, hloc]; exact hjoin

/-- **when does `WriteDirectory` re-emit the original end records?**  Exactly for `canonEnds`. -/
theorem endRecords_eq_iff {z : Bytes} {a : Archive} (h : parse z = some a) (hc : a.ends.comment = []) (minV : Nat) :
    endRecords a.ends.count a.ends.cdSize a.ends.cdOff false minV = z.drop a.ends.first ↔ canonEnds z a minV := by
  obtain ⟨hen, hsum, -, -, -⟩ := parse_some h
  obtain ⟨p', hp22, hsig, -, hcl, hcom, hrest⟩ := ends_some hen
  have hcl0 : fld (z.drop p') 20 2 = 0 := by
    have := congrArg List.length (hc ▸ hcom)
    rw [List.length_take, List.length_drop] at this
    simp only [List.length_nil] at this
    omega
  have hTl : (z.drop a.ends.first).length = if a.ends.zip64 = true then 98 else 22 := by
    rw [List.length_drop]
    split at hrest
    · obtain ⟨-, hz, hf, -⟩ := hrest; rw [if_pos hz]; omega
    · obtain ⟨hz, hf, -⟩ := hrest; rw [if_neg (by rw [hz]; simp), hf]; omega
  constructor
  · -- the bytes agree ⇒ canonical: read the two records back out of what was written
    intro heq
    have hl := congrArg List.length heq
    rw [endRecords_length, hTl] at hl
    have hzn : a.ends.zip64 = needZip64 a.ends.count a.ends.cdSize a.ends.cdOff false minV := by
      cases hz : a.ends.zip64 <;> cases hn : needZip64 a.ends.count a.ends.cdSize a.ends.cdOff false minV <;>
        simp [hz, hn] at hl ⊢
    refine ⟨hzn, fun hz => ?_⟩
    rw [hzn] at hz
    unfold endRecords at heq
    rw [if_pos hz] at heq
    have rA := parseEnd64_encEnd64 { sig := sigEnd64, recSize := 44, creator := 45, reader := 45, diskCount := a.ends.count, total := a.ends.count, cdSize := a.ends.cdSize, cdOff := a.ends.cdOff }
      (encLoc64 { sig := sigLoc64, off := a.ends.cdOff + a.ends.cdSize, diskCount := 1 } ++
        encEnd { sig := sigEnd, diskCount := u16Max, total := u16Max, cdSize := u32Max, cdOff := u32Max })
    have rC := parseEnd_encEnd { sig := sigEnd, diskCount := u16Max, total := u16Max, cdSize := u32Max, cdOff := u32Max } []
    rw [← List.append_assoc, heq] at rA
    rw [List.append_nil, ← List.drop_left' (l₁ := encEnd64 _ ++ encLoc64 _) (l₂ := encEnd _) (i := 76)
      (by simp [encEnd64_length, encLoc64_length]), heq, List.drop_drop] at rC
    exact ⟨congrArg (·.creator) rA, congrArg (·.reader) rA, congrArg (·.disk) rC, congrArg (·.diskCD) rC,
      congrArg (·.diskCount) rC, congrArg (·.total) rC, congrArg (·.cdSize) rC, congrArg (·.cdOff) rC⟩
  · -- canonical ⇒ the bytes agree: the records relic would write are the records that stand there
    intro ⟨hzn, hcan⟩
    unfold endRecords
    rw [← hzn]
    split at hrest
    · obtain ⟨h76, hz, hf76, hlocs, l4, l8, l16, h64s, q4, q16, q20, q24, hcount, hsize, hoff⟩ := hrest
      rw [if_pos hz]
      obtain ⟨c12, c14, e4, e6, e8, e10, e12, e16⟩ := hcan hz
      have hp20 : p' - 20 = a.ends.first + 56 := by omega
      have hp76 : a.ends.first + 76 = p' := by omega
      have hl98 : a.ends.first + 98 = z.length := by omega
      rw [hp20] at l4 l8 l16 hlocs
      rw [← hp76] at hsig hcl0
      rw [← enc_parse_tail98 z a.ends.first hl98, parseEnd64_take, parseLoc64_take, parseEnd_take]
      simp only [parseEnd64, parseLoc64, parseEnd, hasSig_fld h64s, q4, c12, c14, q16, q20, q24, ← hcount, ← hsize, ← hoff,
        hasSig_fld hlocs, l4, l8, l16, hsum, hasSig_fld hsig, e4, e6, e8, e10, e12, e16, hcl0]
      rfl
    · obtain ⟨hz, hf, d4, d6, d8, hcount, hsize, hoff⟩ := hrest
      rw [if_neg (by rw [hz]; simp), ← enc_parse_tail22 z a.ends.first (by omega), parseEnd_take, hf]
      simp only [parseEnd, hasSig_fld hsig, d4, d6, d8, hcl0, ← hcount, ← hsize, ← hoff]
      rfl

end Relic.Zip
