/-
  What surrounds the time-stamping client (Relic.Model.TsaPool; C10, C14, C16; Proofs/Tsa says how the two layers
  divide): a decimal number has no dash and the two key prefixes tell style and pool name apart (for
  `C10.cache_key_injective`); what the site verifiers report; one `_ok` lemma per stage of a signature that comes out
  (the client's own is `C10.clientTs_ok_accepted`); the cache as hit-or-put; what `Limiter.WaitN` can do
  (`Lim.WaitCase`; the bounds on the bucket's level, `Capped`, `advance_le_cap`, …, stand in Props/C10_Rate).
-/
import Relic.Model.TsaPool
import Relic.Proofs.Tsa
namespace Relic.TsaX
open Relic.Tsa

theorem dash_not_digit (n : Nat) : '-' ∉ Nat.toDigits 10 n := by
  intro h
  have := Nat.isDigit_of_mem_toDigits (by decide) (by decide) h
  exact absurd this (by decide)

theorem prefix_inj {l l' : Bool} {n n' : Name}
    (h : (if l then pfxMs else pfxRfc) ++ n = (if l' then pfxMs else pfxRfc) ++ n') : l = l' ∧ n = n' := by
  cases l <;> cases l' <;> simp [pfxMs, pfxRfc] at h ⊢ <;> exact h

theorem lookupX_cons_ne (st : StoreX) (k k' : List Char) (v : CacheVal) (h : k' ≠ k) :
    lookupX ((k', v) :: st) k = lookupX st k := by
  simp [lookupX, h]

theorem lookupX_cons_eq (st : StoreX) (k : List Char) (v : CacheVal) : lookupX ((k, v) :: st) k = some v := by
  simp [lookupX]

theorem lookupX_mem {st : StoreX} {k : List Char} {v : CacheVal} (h : lookupX st k = some v) : (k, v) ∈ st := by
  induction st with
  | nil => simp [lookupX] at h
  | cons p rest ih =>
    obtain ⟨k', v'⟩ := p
    by_cases hk : k' = k
    · subst hk
      simp only [lookupX, if_true] at h
      have : v' = v := by simpa using h
      subst this
      simp
    · simp only [lookupX, hk, if_false] at h
      exact List.mem_cons_of_mem _ (ih h)

theorem liftCs_ok {r : Res CounterSig} {cs : CounterSig} : liftCs r = .ok (some cs) ↔ r = .ok cs := by
  cases r <;> simp [liftCs]

theorem liftCs_ne_none (r : Res CounterSig) : liftCs r ≠ .ok none := by
  cases r <;> simp [liftCs]

/-- a reported countersignature comes from `pkcs9.Verify` on the embedded token, or, for a manifest whose token
    is not of content type TSTInfo, from `VerifyMicrosoftToken` -/
theorem verifyX_some {H : Nat → Nat} {g : Bool} {a : ArtX} {cs : CounterSig} (h : verifyX H g a = .ok (some cs)) :
    ∃ t, a.token = some t ∧ (verifyRfcToken H g t a.sigValue = .ok cs ∨
      (a.site = .manifest ∧ t.ctypeTst = false ∧ verifyMsToken t a.sigValue = .ok cs)) := by
  unfold verifyX at h
  cases ht : a.token with
  | none => rw [ht] at h; cases h
  | some t =>
    refine ⟨t, rfl, ?_⟩
    cases hsite : a.site <;> simp only [ht, hsite, liftCs_ok] at h
    case manifest =>
      unfold verifyManifestTs at h
      cases hct : t.ctypeTst with
      | true => rw [hct, if_pos rfl] at h; exact .inl h
      | false => rw [hct, if_neg (by decide)] at h; exact .inr ⟨rfl, rfl, h⟩
    all_goals exact .inl h

theorem globalise_ok {us : List Url} {o : Outcome} {s : Src} {t : Token} (h : (globalise us o).res = .ok (s, t)) :
    ∃ s', o.res = .ok (s', t) := by
  unfold globalise at h
  dsimp only at h
  split at h
  · next i t' ho => exact ⟨_, by rw [ho]; cases h; rfl⟩
  · exact ⟨s, h⟩

theorem attachX_ok {H : Nat → Nat} {g : Bool} {site : Site} {ed leaf : Nat} {t : Token} {a : ArtX}
    (h : attachX H g site ed leaf t = .ok a) : a = ⟨site, ed, leaf, some t⟩ ∧ ∃ cs, verifyX H g a = .ok cs := by
  unfold attachX at h
  dsimp only at h
  split at h <;> try cases h
  next cs hv => exact ⟨rfl, cs, hv⟩

/-- the twin of `Tsa.signWith_ok` at the sites -/
theorem signSite_ok {H : Nat → Nat} {g : Bool} {site : Site} {ed leaf : Nat} {o : Outcome} {a : ArtX}
    (hs : site ≠ .unsupported) (h : (signSite H g site ed leaf (some o)).1 = .ok a) :
    ∃ s t cs, o.res = .ok (s, t) ∧ a = ⟨site, ed, leaf, some t⟩ ∧ verifyX H g a = .ok cs := by
  have key : (match o.res with
      | .ok (_, t) => (attachX H g site ed leaf t, true)
      | .err e => (.err e, true) | .panic s => (.panic s, true) | .diverge => (.diverge, true)).1 = .ok a := by
    cases site with
    | unsupported => exact absurd rfl hs
    | _ => exact h
  cases ho : o.res with
  | ok p =>
    obtain ⟨s, t⟩ := p
    rw [ho] at key
    obtain ⟨ha, cs, hv⟩ := attachX_ok key
    exact ⟨s, t, cs, rfl, ha, hv⟩
  | err e => rw [ho] at key; cases key
  | panic e => rw [ho] at key; cases key
  | diverge => rw [ho] at key; cases key

/-! `timestampCache.Timestamp` is "a hit, or the inner answer and what the miss puts into the store": `hitX` and `putX`
  with `cachedX_eq` (and `stamperCall_eq`, which repeats the lookup in front of the limiter).  The statements about the
  cache (C10, C14, C16) are read off this form. -/

/-- the token a usable cache holds, parsed, under the request's key -/
def hitX (D : Nat → List Char) (up : Bool) (st : StoreX) (r : XReq) : Option Token :=
  match (if up && legalKey (cacheKey D r) then lookupX st (cacheKey D r) else none) with
  | some (.tok t) => some t
  | _ => none

/-- what a miss adds to the store -/
def putX (D : Nat → List Char) (up : Bool) (r : XReq) (inner : Outcome) : StoreX :=
  match inner.res with
  | .ok (_, t) => if up && legalKey (cacheKey D r) then [(cacheKey D r, .tok t)] else []
  | _ => []

theorem cachedX_eq (D : Nat → List Char) (up : Bool) (st : StoreX) (r : XReq) (inner : Outcome) :
    cachedX D up st r inner =
      match hitX D up st r with
      | some t => (⟨.ok (.cache, t), [], []⟩, st)
      | none => (inner, putX D up r inner ++ st) := by
  unfold cachedX hitX putX
  dsimp only
  cases (if (up && legalKey (cacheKey D r)) = true then lookupX st (cacheKey D r) else none) with
  | none => cases inner.res with
    | ok p => dsimp only; split <;> rfl
    | _ => rfl
  | some v => cases v with
    | tok t => rfl
    | junk => cases inner.res with
      | ok p => dsimp only; split <;> rfl
      | _ => rfl

theorem hitX_some {D : Nat → List Char} {up : Bool} {st : StoreX} {r : XReq} {t : Token} :
    hitX D up st r = some t ↔ up = true ∧ legalKey (cacheKey D r) = true ∧ lookupX st (cacheKey D r) = some (.tok t) := by
  unfold hitX
  cases hu : (up && legalKey (cacheKey D r)) with
  | false =>
    have : ¬ (up = true ∧ legalKey (cacheKey D r) = true) := by simpa using hu
    simp only [Bool.false_eq_true, if_false]
    exact ⟨nofun, fun h => absurd ⟨h.1, h.2.1⟩ this⟩
  | true =>
    have hup : up = true ∧ legalKey (cacheKey D r) = true := by simpa using hu
    simp only [if_true, hup, true_and]
    cases lookupX st (cacheKey D r) with
    | none => simp
    | some v => cases v <;> simp

theorem mem_putX {D : Nat → List Char} {up : Bool} {r : XReq} {inner : Outcome} {x : List Char × CacheVal}
    (h : x ∈ putX D up r inner) : ∃ s t, inner.res = .ok (s, t) ∧ x = (cacheKey D r, .tok t) := by
  unfold putX at h
  split at h
  · next s t hi =>
    split at h
    · exact ⟨s, t, hi, by simpa using h⟩
    · cases h
  · cases h

theorem putX_cases (D : Nat → List Char) (up : Bool) (r : XReq) (inner : Outcome) :
    putX D up r inner = [] ∨ ∃ v, putX D up r inner = [(cacheKey D r, v)] := by
  unfold putX
  split
  · split
    · exact .inr ⟨_, rfl⟩
    · exact .inl rfl
  · exact .inl rfl

theorem hitX_unusable {D : Nat → List Char} {up : Bool} {st : StoreX} {r : XReq}
    (h : (up && legalKey (cacheKey D r)) = false) : hitX D up st r = none := by
  unfold hitX
  rw [h]
  rfl

theorem putX_unusable {D : Nat → List Char} {up : Bool} {r : XReq} {inner : Outcome}
    (h : (up && legalKey (cacheKey D r)) = false) : putX D up r inner = [] := by
  unfold putX
  rw [h]
  split <;> rfl

theorem putX_ok {D : Nat → List Char} {r : XReq} {inner : Outcome} {s : Src} {t : Token}
    (hk : legalKey (cacheKey D r) = true) (hi : inner.res = .ok (s, t)) :
    putX D true r inner = [(cacheKey D r, .tok t)] := by
  unfold putX
  rw [hi]
  simp [hk]

theorem stamperCall_nocache (D : Nat → List Char) (H : Nat → Nat) (c : Cfg) (conf : TsConf) (name : Name) (up : Bool)
    (sh : Shared) (now : Nat) (ctx : Ctx) (world : Url → Wire) (legacy : Bool) (hash nonce ed : Nat) :
    stamperCall D H c conf name false up sh now ctx world legacy hash nonce ed =
      let lr := limitedOpt sh.lim now ctx fun t =>
        clientTs c conf name ⟨legacy, nonce, if legacy then ed else H ed⟩ (ctx.errAt t).isSome world
      (lr.1, ⟨sh.store, lr.2⟩) := by
  simp [stamperCall]

theorem stamperCall_eq (D : Nat → List Char) (H : Nat → Nat) (c : Cfg) (conf : TsConf) (name : Name) (up : Bool)
    (sh : Shared) (now : Nat) (ctx : Ctx) (world : Url → Wire) (legacy : Bool) (hash nonce ed : Nat) :
    stamperCall D H c conf name true up sh now ctx world legacy hash nonce ed =
      match hitX D up sh.store ⟨legacy, name, hash, ed⟩ with
      | some t => (⟨⟨.ok (.cache, t), [], []⟩, now⟩, sh)
      | none =>
        let lr := limitedOpt sh.lim now ctx fun t =>
          clientTs c conf name ⟨legacy, nonce, if legacy then ed else H ed⟩ (ctx.errAt t).isSome world
        (⟨lr.1.outcome, lr.1.time⟩, ⟨putX D up ⟨legacy, name, hash, ed⟩ lr.1.outcome ++ sh.store, lr.2⟩) := by
  have hc := fun inner => cachedX_eq D up sh.store ⟨legacy, name, hash, ed⟩ inner
  unfold stamperCall
  simp only [if_true]
  cases hh : hitX D up sh.store ⟨legacy, name, hash, ed⟩ with
  | some t =>
    obtain ⟨h1, h2, h3⟩ := hitX_some.mp hh
    simp [h1, h2, h3]
  | none =>
    simp only [hh] at hc
    unfold hitX at hh
    split at hh
    · cases hh
    · next hne =>
      split
      · next t heq => exact absurd heq (hne t)
      · simp only [hc]

/-- What `Limiter.WaitN` does, as answer and limiter state: the code has eight leaves but only these five outcomes, each
    with the one fact it rests on.  The properties of the limiter (C10) are read off this relation. -/
inductive Lim.WaitCase (l : Lim) (now : Nat) (ctx : Ctx) : Wait × Lim → Prop
  | ctxErr (e : String) : ctx.errAt now = some e → Lim.WaitCase l now ctx (.refused e now, l)
  | tooLate : ctx.deadline ≠ none → Lim.WaitCase l now ctx (.refused "rate-deadline" now, l)
  | go (k : Nat) : l.waitDur now = some k → Lim.WaitCase l now ctx (.proceed (now + k), l.reserved now)
  | cancelled (c : Nat) : ctx.cancelAt = some c → Lim.WaitCase l now ctx (.refused "canceled" c, l.cancelled now c)
  | forever : l.waitDur now = none → ctx.cancelAt = none → Lim.WaitCase l now ctx (.forever, l.reserved now)

theorem Lim.wait_case (l : Lim) (now : Nat) (ctx : Ctx) : Lim.WaitCase l now ctx (l.wait now ctx) := by
  unfold Lim.wait
  cases he : ctx.errAt now with
  | some e => exact .ctxErr e he
  | none =>
    dsimp only
    by_cases hw : withinDeadline ctx.deadline now (l.waitDur now) = false
    · rw [if_pos hw]
      refine .tooLate fun hd => ?_
      simp [withinDeadline, hd] at hw
    · rw [if_neg hw]
      cases hk : l.waitDur now with
      | none =>
        simp only
        cases hc : ctx.cancelAt with
        | some c => exact .cancelled c hc
        | none => exact .forever hk hc
      | some k =>
        cases k with
        | zero => exact .go 0 hk
        | succ k =>
          simp only
          cases hc : ctx.cancelAt with
          | none => exact .go _ hk
          | some c =>
            simp only
            split
            · exact .cancelled c hc
            · exact .go _ hk

theorem Lim.waitDur_none {l : Lim} {now : Nat} (h : l.waitDur now = none) : l.period = none := by
  unfold Lim.waitDur at h
  cases hp : l.period with
  | none => rfl
  | some p => simp only [hp, Option.isSome_some, if_true] at h; split at h <;> simp at h

end Relic.TsaX
