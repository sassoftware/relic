/-
  Block hashers (`Relic.Model.Merkle`): `chunks` of full blocks plus a short tail; the invariant of `Write`, hence every
  flushed section appends the chunks of what was written in it (`flush_run`, `sections_spec`); the same in lengths only
  (`sectionsL_spec`, `chunks_lens`), the form the driver runs at the real block size (C09 `merkle_lengths_form`);
  `chunks_length`; `chunks_of_fuel`: the fuelled chunkers of the other models are `chunks`.
-/
import Relic.Model.Merkle
namespace Relic.Merkle

theorem chunks_nil {α} (B : Nat) : chunks B ([] : List α) = [] := by
  rw [chunks]; simp

theorem chunks_cons_of {α} (B : Nat) (l : List α) (hB : 0 < B) (hl : l ≠ []) :
    chunks B l = l.take B :: chunks B (l.drop B) := by
  rw [chunks]; simp [hB, hl]

theorem chunks_block_append {α} (B : Nat) (b l : List α) (hB : 0 < B) (hb : b.length = B) :
    chunks B (b ++ l) = b :: chunks B l := by
  have hne : b ++ l ≠ [] := by
    intro h
    have := congrArg List.length h
    simp only [List.length_append, List.length_nil] at this; omega
  rw [chunks_cons_of B _ hB hne]
  have h1 : (b ++ l).take B = b := by
    rw [← hb]; simp
  have h2 : (b ++ l).drop B = l := by
    rw [← hb]; simp
  rw [h1, h2]

theorem chunks_short {α} (B : Nat) (t : List α) (ht : t.length < B) (hne : t ≠ []) :
    chunks B t = [t] := by
  have hB : 0 < B := by omega
  rw [chunks_cons_of B _ hB hne]
  have h1 : t.take B = t := List.take_of_length_le (by omega)
  have h2 : t.drop B = [] := List.drop_of_length_le (by omega)
  rw [h1, h2, chunks_nil]

theorem chunks_full_tail {α} (B : Nat) (bs : List (List α)) (t : List α) (hB : 0 < B)
    (hbs : ∀ b ∈ bs, b.length = B) (ht : t.length < B) :
    chunks B (bs.flatten ++ t) = bs ++ (if t = [] then [] else [t]) := by
  induction bs with
  | nil =>
    by_cases h : t = []
    · simp [h, chunks_nil]
    · simp [h, chunks_short B t ht h]
  | cons b bs ih =>
    have hb : b.length = B := hbs b (by simp)
    have := ih (fun x hx => hbs x (by simp [hx]))
    simp only [List.flatten_cons, List.append_assoc, List.cons_append]
    rw [chunks_block_append B b _ hB hb, this]

theorem chunks_flatten {α} (B : Nat) (l : List α) (hB : 0 < B) : (chunks B l).flatten = l := by
  fun_induction chunks B l with
  | case1 l _ ih => simp [ih]
  | case2 l h =>
    have : l = [] := by
      by_cases hl : l = []
      · exact hl
      · exact absurd ⟨hB, hl⟩ h
    simp [this]

theorem direct_spec (B : Nat) (d : Bytes) (hB : 0 < B) :
    (direct B d).1.flatten ++ (direct B d).2 = d ∧ (∀ b ∈ (direct B d).1, b.length = B) ∧
      (direct B d).2.length < B := by
  fun_induction direct B d with
  | case1 d h r ih =>
    obtain ⟨i1, i2, i3⟩ := ih
    refine ⟨?_, ?_, i3⟩
    · simp only [List.flatten_cons, List.append_assoc]
      rw [i1]; simp
    · intro b hb
      simp only [List.mem_cons] at hb
      rcases hb with rfl | hb
      · simp; omega
      · exact i2 b hb
  | case2 d h =>
    refine ⟨by simp, by simp, ?_⟩
    simp only
    by_cases hd : B ≤ d.length
    · exact absurd ⟨hB, hd⟩ h
    · omega

theorem direct_short (B : Nat) (d : Bytes) (h : d.length < B) : direct B d = ([], d) := by
  rw [direct]; simp; omega

/-- relative to an already-emitted prefix `p`: the blocks emitted since are full, the buffer is
    short, and together they are exactly what was written -/
def Inv (B : Nat) (p : List Bytes) (s : St) (w : Bytes) : Prop :=
  ∃ bs, s.out = p ++ bs ∧ (∀ b ∈ bs, b.length = B) ∧ s.buf.length < B ∧ bs.flatten ++ s.buf = w

/-- three cases, as in `Write`: a buffered block is completed and the rest goes through `direct`; nothing is buffered and all of
    `d` goes through `direct`; buffer and `d` together are still short of a block, where `direct` emits nothing (`direct_short`) -/
theorem write_inv (B : Nat) (p : List Bytes) (s : St) (w d : Bytes) (hB : 0 < B)
    (h : Inv B p s w) : Inv B p (write B s d) (w ++ d) := by
  obtain ⟨bs, ho, hf, hl, hw⟩ := h
  unfold write
  split
  · next hc =>
    obtain ⟨-, hge⟩ := hc
    obtain ⟨d1, d2, d3⟩ := direct_spec B (d.drop (B - s.buf.length)) hB
    refine ⟨bs ++ (s.buf ++ d.take (B - s.buf.length)) :: (direct B (d.drop (B - s.buf.length))).1, ?_, ?_, d3, ?_⟩
    · simp [ho]
    · intro b hb
      simp only [List.mem_append, List.mem_cons] at hb
      rcases hb with hb | rfl | hb
      · exact hf b hb
      · simp; omega
      · exact d2 b hb
    · simp only [List.flatten_append, List.flatten_cons, List.append_assoc]
      rw [d1, List.take_append_drop, ← hw]; simp
  · next hc =>
    obtain ⟨d1, d2, d3⟩ := direct_spec B d hB
    by_cases hn : s.buf.length = 0
    · have hb : s.buf = [] := List.eq_nil_of_length_eq_zero hn
      refine ⟨bs ++ (direct B d).1, by simp [ho], ?_, by simp [hb]; exact d3, ?_⟩
      · intro b hb'
        simp only [List.mem_append] at hb'
        rcases hb' with hb' | hb'
        · exact hf b hb'
        · exact d2 b hb'
      · simp only [List.flatten_append, List.append_assoc, hb, List.nil_append]
        rw [d1, ← hw, hb]; simp
    · have hlt : s.buf.length + d.length < B := by
        by_cases hx : B ≤ s.buf.length + d.length
        · exact absurd ⟨hn, hx⟩ hc
        · omega
      have hd : direct B d = ([], d) := direct_short B d (by omega)
      rw [hd]
      refine ⟨bs, by simp [ho], hf, by simp; omega, ?_⟩
      simp [← hw]

theorem run_inv (B : Nat) (p : List Bytes) (ws : List Bytes) (s : St) (w : Bytes) (hB : 0 < B)
    (h : Inv B p s w) : Inv B p (run B s ws) (w ++ ws.flatten) := by
  induction ws generalizing s w with
  | nil => simpa [run] using h
  | cons d ws ih =>
    have := ih (write B s d) (w ++ d) (write_inv B p s w d hB h)
    simpa [run, List.append_assoc] using this

theorem flush_run (B : Nat) (s : St) (ws : List Bytes) (hB : 0 < B) (hs : s.buf = []) :
    flush (run B s ws) = ⟨[], s.out ++ chunks B ws.flatten⟩ := by
  have h0 : Inv B s.out s [] := ⟨[], by simp, by simp, by simp [hs]; exact hB, by simp [hs]⟩
  obtain ⟨bs, ho, hf, hl, hw⟩ := run_inv B s.out ws s [] hB h0
  simp only [List.nil_append] at hw
  rw [← hw, chunks_full_tail B bs _ hB hf hl]
  unfold flush
  by_cases hb : (run B s ws).buf = []
  · simp [hb]
    cases h : run B s ws
    simp_all
  · have : (run B s ws).buf.length ≠ 0 := by
      intro h; exact hb (List.eq_nil_of_length_eq_zero h)
    simp [hb, this, ho]

theorem sections_spec (B : Nat) (secs : List (List Bytes)) (s : St) (hB : 0 < B) (hs : s.buf = []) :
    sections B s secs = ⟨[], s.out ++ (secs.map fun ws => chunks B ws.flatten).flatten⟩ := by
  induction secs generalizing s with
  | nil => cases s; simp_all [sections]
  | cons ws secs ih =>
    have h1 := flush_run B s ws hB hs
    have := ih (flush (run B s ws)) (by rw [h1])
    simp only [sections, List.foldl_cons] at this ⊢
    rw [this, h1]; simp

theorem directL_spec (B : Nat) (d : Bytes) :
    directL B d.length = ((direct B d).1.map List.length, (direct B d).2.length) := by
  fun_induction direct B d with
  | case1 d h r ih =>
    rw [directL]
    simp only [h, and_self, ↓reduceDIte]
    rw [List.length_drop] at ih
    rw [ih]
    obtain ⟨-, h2⟩ := h
    simp; exact ⟨⟨by omega, rfl⟩, rfl⟩
  | case2 d h =>
    rw [directL]
    simp [h]

theorem writeL_spec (B : Nat) (s : St) (d : Bytes) :
    lens (write B s d) = writeL B (lens s) d.length := by
  unfold write writeL lens
  simp only
  split
  · next hc =>
    have e : d.length - (B - s.buf.length) = (d.drop (B - s.buf.length)).length := by simp
    rw [e, directL_spec]
    simp
  · next hc =>
    rw [directL_spec]
    simp

theorem flushL_spec (s : St) : lens (flush s) = flushL (lens s) := by
  unfold flush flushL lens
  split <;> simp_all

theorem runL_spec (B : Nat) (ws : List Bytes) (s : St) :
    lens (run B s ws) = runL B (lens s) (ws.map List.length) := by
  induction ws generalizing s with
  | nil => rfl
  | cons d ws ih =>
    simp only [run, runL, List.foldl_cons, List.map_cons] at ih ⊢
    rw [ih, writeL_spec]

theorem sectionsL_spec (B : Nat) (secs : List (List Bytes)) (s : St) :
    lens (sections B s secs) = sectionsL B (lens s) (secs.map (·.map List.length)) := by
  induction secs generalizing s with
  | nil => rfl
  | cons ws secs ih =>
    simp only [sections, sectionsL, List.foldl_cons, List.map_cons] at ih ⊢
    rw [ih, flushL_spec, runL_spec]

theorem chunks_lens {α} (B : Nat) (l : List α) (hB : 0 < B) :
    (chunks B l).map List.length = chunkLens B l.length := by
  fun_induction chunks B l with
  | case1 l h ih =>
    obtain ⟨_, hl⟩ := h
    have hpos := List.length_pos_iff.mpr hl
    simp only [List.map_cons, ih, List.length_take, List.length_drop]
    unfold chunkLens
    by_cases hlt : l.length < B
    · have e1 : l.length / B = 0 := Nat.div_eq_of_lt hlt
      have e2 : l.length % B = l.length := Nat.mod_eq_of_lt hlt
      have e3 : l.length - B = 0 := by omega
      have e4 : min B l.length = l.length := by omega
      rw [e1, e2, e3, e4]
      have : l.length ≠ 0 := by omega
      simp [this]
    · have hge : B ≤ l.length := by omega
      have e1 : l.length / B = (l.length - B) / B + 1 := by
        rw [Nat.div_eq_sub_div hB hge]
      have e2 : l.length % B = (l.length - B) % B := Nat.mod_eq_sub_mod hge
      have e4 : min B l.length = B := by omega
      rw [e1, e2, e4, List.replicate_succ]
      simp
  | case2 l h =>
    have : l = [] := by
      by_cases hl : l = []
      · exact hl
      · exact absurd ⟨hB, hl⟩ h
    subst this
    simp [chunkLens]

theorem ceil_div (B q r : Nat) (hB : 0 < B) (hr : r < B) : (B * q + r + B - 1) / B = q + (if r = 0 then 0 else 1) := by
  by_cases h0 : r = 0
  · subst h0
    rw [if_pos rfl, Nat.add_zero, Nat.add_zero, Nat.add_sub_assoc hB, Nat.mul_add_div hB, Nat.div_eq_of_lt (by omega), Nat.add_zero]
  · rw [if_neg h0, show B * q + r + B - 1 = B * (q + 1) + (r - 1) by rw [Nat.mul_add, Nat.mul_one]; omega,
      Nat.mul_add_div hB, Nat.div_eq_of_lt (by omega), Nat.add_zero]

theorem chunks_length {α} (B : Nat) (l : List α) (hB : 0 < B) : (chunks B l).length = (l.length + B - 1) / B := by
  have h := congrArg List.length (chunks_lens B l hB)
  rw [List.length_map] at h
  rw [h, chunkLens, List.length_append, List.length_replicate]
  conv => rhs; rw [← Nat.div_add_mod l.length B]
  rw [ceil_div B _ _ hB (Nat.mod_lt _ hB)]
  split <;> rfl

/-- the fuelled loops of the models (`Appx.chunks`, the line framing of `AddTimestamp`) are `chunks`: `F` is any loop that cuts
    `B` elements off its argument until nothing is left -/
theorem chunks_of_fuel {α} (B : Nat) (hB : 0 < B) (F : Nat → List α → List (List α)) (h0 : ∀ b, F 0 b = [])
    (hs : ∀ k b, F (k + 1) b = if b = [] then [] else b.take B :: F k (b.drop B)) :
    ∀ (fuel : Nat) (b : List α), b.length ≤ fuel → F fuel b = chunks B b
  | 0, b, h => by
    have : b = [] := List.eq_nil_of_length_eq_zero (by omega)
    rw [h0, this, chunks_nil]
  | fuel + 1, b, h => by
    rw [hs]
    split
    next hb => rw [hb, chunks_nil]
    next hb =>
      have := List.length_pos_iff.mpr hb
      rw [chunks_cons_of B b hB hb, chunks_of_fuel B hB F h0 hs fuel (b.drop B) (by rw [List.length_drop]; omega)]

end Relic.Merkle
