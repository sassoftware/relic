/- canonical listing keeps well-formedness; `m[k] = v` keeps keys distinct and members well-formed, so a Go map built by
   successive assignments (`dedupe`) has distinct keys; `normalize` turns what `scan` returns into a value of the class on
   which `json.Marshal` is injective and deterministic -/
import Relic.Proofs.JsonOrder
import Relic.Proofs.JsonInj
import Relic.Proofs.JsonScan
namespace Relic.Json

theorem WFEM_perm (dom : Nat → Bool) (l l' : List Member) (hp : l.Perm l') (h : WFEM dom l) : WFEM dom l' := by
  rw [WFEM_iff] at h ⊢
  intro p hp'
  exact h p (hp.symm.subset hp')

mutual
theorem WFE_canon (dom : Nat → Bool) : ∀ v : JVal, WFE dom v → WFE dom (canon v)
  | .null, _ => by simp [canon, WFE]
  | .bool _, _ => by simp [canon, WFE]
  | .num _, h => by simpa [canon, WFE] using h
  | .str _, h => by simpa [canon, WFE] using h
  | .arr es, h => by
    simp only [canon, WFE] at h ⊢
    exact WFEL_canon dom es h
  | .obj ms, h => by
    simp only [canon, WFE] at h ⊢
    exact WFEM_perm dom _ _ (sortMembers_perm _).symm (WFEM_canon dom ms h)
theorem WFEL_canon (dom : Nat → Bool) : ∀ l : List JVal, WFEL dom l → WFEL dom (canonL l)
  | [], _ => by simp [canonL, WFEL]
  | v :: tl, h => by
    simp only [canonL, WFEL] at h ⊢
    exact ⟨WFE_canon dom v h.1, WFEL_canon dom tl h.2⟩
theorem WFEM_canon (dom : Nat → Bool) : ∀ l : List Member, WFEM dom l → WFEM dom (canonM l)
  | [], _ => by simp [canonM, WFEM]
  | (k, v) :: tl, h => by
    simp only [canonM, WFEM] at h ⊢
    exact ⟨h.1, WFE_canon dom v h.2.1, WFEM_canon dom tl h.2.2⟩
end

theorem mem_setKey {k : Key} {v : JVal} {m : List Member} {p : Member} (h : p ∈ setKey k v m) : p ∈ m ∨ p = (k, v) := by
  simp only [setKey, List.mem_append, List.mem_filter, List.mem_singleton] at h
  exact h.imp_left And.left

theorem keysOf_setKey (k : Key) (v : JVal) (m : List Member) : keysOf (setKey k v m) = (keysOf m).filter (· ≠ k) ++ [k] := by
  simp only [setKey, keysOf, List.map_append, List.map_cons, List.map_nil, List.filter_map]
  rfl

theorem setKey_nodup (k : Key) (v : JVal) (m : List Member) (h : (keysOf m).Nodup) : (keysOf (setKey k v m)).Nodup := by
  rw [keysOf_setKey]
  refine List.nodup_append.mpr ⟨h.filter _, by simp, ?_⟩
  intro a ha b hb
  simp only [List.mem_singleton] at hb
  subst hb
  simp only [List.mem_filter, decide_eq_true_eq] at ha
  exact ha.2

theorem WFEM_setKey (dom : Nat → Bool) (k : Key) (v : JVal) (m : List Member) (hk : ∀ c ∈ k, dom c = true) (hv : WFE dom v)
    (h : WFEM dom m) : WFEM dom (setKey k v m) := by
  rw [WFEM_iff] at h ⊢
  intro p hp
  rcases mem_setKey hp with hp | rfl
  · exact h p hp
  · exact ⟨hk, hv⟩

theorem KeysDistinctM_setKey (k : Key) (v : JVal) (m : List Member) (hv : KeysDistinct v) (h : KeysDistinctM m) :
    KeysDistinctM (setKey k v m) := by
  rw [KeysDistinctM_iff] at h ⊢
  intro p hp
  rcases mem_setKey hp with hp | rfl
  · exact h p hp
  · exact hv

theorem dedupe_nodup (ms : List Member) : (keysOf (dedupe ms)).Nodup := by
  unfold dedupe
  suffices ∀ (acc : List Member), (keysOf acc).Nodup → (keysOf (ms.foldl (fun m p => setKey p.1 p.2 m) acc)).Nodup from
    this [] (by simp [keysOf])
  induction ms with
  | nil => intro acc h; exact h
  | cons p _ ih => intro acc h; exact ih _ (setKey_nodup _ _ _ h)

theorem foldl_setKey_mem (ms : List Member) (p : Member) :
    ∀ (acc : List Member), p ∈ ms.foldl (fun m q => setKey q.1 q.2 m) acc → p ∈ acc ∨ p ∈ ms := by
  induction ms with
  | nil => intro acc h; exact Or.inl h
  | cons q tl ih =>
    intro acc h
    simp only [List.foldl_cons] at h
    rcases ih _ h with h | h
    · rcases mem_setKey h with h | rfl
      · exact Or.inl h
      · exact Or.inr (by simp)
    · exact Or.inr (by simp [h])

theorem dedupe_mem (ms : List Member) (p : Member) (h : p ∈ dedupe ms) : p ∈ ms := by
  rcases foldl_setKey_mem ms p [] h with h | h
  · cases h
  · exact h

/-- what the number table may answer: tokens of the float encoder -/
def CvtOK (cvt : Cvt) : Prop := ∀ t o, cvt t = some o → NumTok o

mutual
theorem normalize_wf (cvt : Cvt) (hc : CvtOK cvt) :
    ∀ (v v' : JVal), SW v → normalize cvt v = some v' → WFE isScalar v' ∧ KeysDistinct v'
  | .null, v', _, h => by simp only [normalize, Option.some.injEq] at h; subst h; simp [WFE, KeysDistinct]
  | .bool b, v', _, h => by simp only [normalize, Option.some.injEq] at h; subst h; simp [WFE, KeysDistinct]
  | .num t, v', _, h => by
    simp only [normalize, Option.map_eq_some_iff] at h
    obtain ⟨o, ho, rfl⟩ := h
    exact ⟨by simpa [WFE] using hc t o ho, by simp [KeysDistinct]⟩
  | .str s, v', hs, h => by
    simp only [normalize, Option.some.injEq] at h; subst h
    exact ⟨by simpa [WFE, SW] using hs, by simp [KeysDistinct]⟩
  | .arr es, v', hs, h => by
    simp only [normalize, Option.map_eq_some_iff] at h
    obtain ⟨l, hl, rfl⟩ := h
    have := normalizeL_wf cvt hc es l (by simpa [SW] using hs) hl
    exact ⟨by simpa [WFE] using this.1, by simpa [KeysDistinct] using this.2⟩
  | .obj ms, v', hs, h => by
    simp only [normalize, Option.map_eq_some_iff] at h
    obtain ⟨l, hl, rfl⟩ := h
    have := normalizeM_wf cvt hc ms l (by simpa [SW] using hs) hl
    have w := (WFEM_iff isScalar l).mp this.1
    have k := (KeysDistinctM_iff l).mp this.2
    refine ⟨?_, dedupe_nodup l, ?_⟩
    · simp only [WFE]
      exact (WFEM_iff isScalar _).mpr (fun p hp => w p (dedupe_mem l p hp))
    · exact (KeysDistinctM_iff _).mpr (fun p hp => k p (dedupe_mem l p hp))
theorem normalizeL_wf (cvt : Cvt) (hc : CvtOK cvt) : ∀ (l l' : List JVal), SWL l → normalizeL cvt l = some l' → WFEL isScalar l' ∧ KeysDistinctL l'
  | [], l', _, h => by simp only [normalizeL, Option.some.injEq] at h; subst h; simp [WFEL, KeysDistinctL]
  | v :: tl, l', hs, h => by
    simp only [normalizeL, bind, Option.bind_eq_some_iff, pure, Option.some.injEq] at h
    obtain ⟨v', hv, tl', ht, rfl⟩ := h
    have a := normalize_wf cvt hc v v' hs.1 hv
    have b := normalizeL_wf cvt hc tl tl' hs.2 ht
    exact ⟨⟨a.1, b.1⟩, a.2, b.2⟩
theorem normalizeM_wf (cvt : Cvt) (hc : CvtOK cvt) : ∀ (l l' : List Member), SWM l → normalizeM cvt l = some l' → WFEM isScalar l' ∧ KeysDistinctM l'
  | [], l', _, h => by simp only [normalizeM, Option.some.injEq] at h; subst h; simp [WFEM, KeysDistinctM]
  | (k, v) :: tl, l', hs, h => by
    simp only [normalizeM, bind, Option.bind_eq_some_iff, pure, Option.some.injEq] at h
    obtain ⟨v', hv, tl', ht, rfl⟩ := h
    have a := normalize_wf cvt hc v v' hs.2.1 hv
    have b := normalizeM_wf cvt hc tl tl' hs.2.2 ht
    exact ⟨⟨hs.1, a.1, b.1⟩, a.2, b.2⟩
end

/-- every map `json.Unmarshal` hands to `newPayload` is in the class on which the payload is
    injective and deterministic: scalar strings, float-encoder numbers, distinct keys at every depth -/
theorem unmarshalMap_wf (cvt : Cvt) (hc : CvtOK cvt) (text : Bytes) (m : Option (List Member)) (h : unmarshalMap cvt text = .ok m) :
    WFEM isScalar (m.getD []) ∧ KeysDistinct (.obj (m.getD [])) := by
  unfold unmarshalMap at h
  split at h
  · simp only [Res.ok.injEq] at h; subst h
    simp [WFEM, KeysDistinct, KeysDistinctM, keysOf]
  · rename_i ms hs
    split at h
    · rename_i l hn
      simp only [Res.ok.injEq] at h; subst h
      have := normalize_wf cvt hc (.obj ms) (.obj l) (scan_scalar text _ hs) hn
      simpa [WFE] using this
    · cases h
  all_goals cases h

end Relic.Json
