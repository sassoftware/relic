/-
  Lemmas for the sign-then-verify theorem of `Relic.Model.AppxPkg`: 64 KiB blocks, `CopySizes`, the Publisher attribute,
  `files[name]` on the written package (`written_view`), the signature part read back (`readSig_written`).  `core` here and `Appx.bmView` at the ZIP level are the same triple.
-/
import Relic.Proofs.AppxPkg
import Relic.Proofs.Appx
namespace Relic.AppxPkg
open Relic.Appx

theorem chunks_nil (n : Nat) : chunks n [] = [] := by cases n <;> rfl

theorem blockSteps_chunks (H : Nat → Bytes → Bytes) (alg : Nat) : ∀ (n : Nat) (p : Bytes), p.length ≤ n →
    run H (blockSteps alg p p.length ((chunks n p).map fun c => some (H alg c))) = .ok ()
  | 0, p, h => by
    have : p = [] := List.eq_nil_of_length_eq_zero (by omega)
    subst this; simp [chunks, blockSteps, run]
  | n + 1, [], _ => by simp [chunks, blockSteps, run]
  | n + 1, x :: xs, h => by
    unfold chunks
    simp only [List.map_cons]
    rw [blockSteps_ok]
    refine ⟨Nat.min_le_left _ _, ?_, ?_⟩
    · rw [Nat.min_comm, ← List.take_eq_take_min]
    · rw [Nat.min_comm, ← List.drop_eq_drop_min]
      have hl : (x :: xs).length - min blockSize (x :: xs).length = ((x :: xs).drop blockSize).length := by
        rw [List.length_drop]; omega
      rw [hl]
      exact blockSteps_chunks H alg n _ (by simp only [List.length_drop, List.length_cons] at h ⊢; unfold blockSize; omega)

/-- the `File` element the verifier parses from what the signer marshalled: hashes of the block streams -/
def hashBm (H : Nat → Bytes → Bytes) (alg : Nat) (f : Appx.BmFile) : AppxPkg.BmFile :=
  ⟨f.name, f.size, f.blocks.map fun b => some (H alg b.1)⟩

/-- what of a `File` element verification depends on: the triple `Appx.bmView` of the ZIP-level proofs -/
def core (f : Appx.BmFile) : Bytes × Nat × List Bytes := (f.name, f.size, f.blocks.map (·.1))

theorem hashBm_of_core {H : Nat → Bytes → Bytes} {alg : Nat} {f g : Appx.BmFile} (h : core f = core g) : hashBm H alg f = hashBm H alg g := by
  unfold core at h
  simp only [Prod.mk.injEq] at h
  obtain ⟨h1, h2, h3⟩ := h
  unfold hashBm
  have : (f.blocks.map fun b => some (H alg b.1)) = (f.blocks.map (·.1)).map fun c => some (H alg c) := by simp
  rw [this, h3, h1, h2]; simp

theorem tailParse_core (S : SignEnv) (tl : List InMember) (t0 t : Parsed) (h : tailParse S tl t0 = .ok t) :
    t.bm.map core = t0.bm.map core := by
  revert h
  fun_induction tailParse S tl t0
  case case1 =>
    intro h
    cases h
    rfl
  case case7 hcs ih =>
    intro h
    rw [ih h]
    exact copySizes_view _ 0 _ _ hcs
  case case2 ih => exact ih
  case case4 ih => exact ih
  case case11 ih => exact ih
  case case13 ih => exact ih
  all_goals nofun

theorem eolNorm_id : ∀ (s : Bytes), (13 : UInt8) ∉ s → eolNorm s = s
  | [], _ => rfl
  | b :: r, h => by
    have hb : b ≠ 13 := fun e => h (by simp [e])
    have hr : (13 : UInt8) ∉ r := fun e => h (by simp [e])
    have ih := eolNorm_id r hr
    rw [eolNorm.eq_4 b r (fun _ h _ => hb h) (fun h => hb h), ih]

theorem eolNorm_nil : eolNorm [] = [] := rfl

theorem readAttr_inner_map (key : Bytes) : ∀ (a : List Xml.Attr) (acc : Bytes),
    (a.map fun x => { x with value := eolNorm x.value }).foldl (fun a x => if x.key = key then x.value else a) (eolNorm acc) =
      eolNorm (a.foldl (fun a x => if x.key = key then x.value else a) acc)
  | [], acc => rfl
  | x :: a, acc => by
    simp only [List.map_cons, List.foldl_cons]
    by_cases h : x.key = key
    · simp only [h, if_true]; exact readAttr_inner_map key a x.value
    · simp only [h, if_false]; exact readAttr_inner_map key a acc

theorem readAttr_reread_aux (key : Bytes) : ∀ (ids : List (List Xml.Attr)) (acc : Bytes),
    (ids.map fun a => a.map fun x => { x with value := eolNorm x.value }).foldl
        (fun acc attrs => attrs.foldl (fun a x => if x.key = key then x.value else a) acc) (eolNorm acc) =
      eolNorm (ids.foldl (fun acc attrs => attrs.foldl (fun a x => if x.key = key then x.value else a) acc) acc)
  | [], acc => rfl
  | a :: ids, acc => by
    simp only [List.map_cons, List.foldl_cons]
    rw [readAttr_inner_map]
    exact readAttr_reread_aux key ids _

theorem readAttr_reread (key : Bytes) (d : MDoc) : readAttr key (reread d).ids = eolNorm (readAttr key d.ids) := by
  unfold readAttr reread
  exact readAttr_reread_aux key d.ids []

theorem find_createAttr (v : Bytes) : ∀ (a : List Xml.Attr),
    ((Xml.createAttr ([], sPublisher) v a).find? fun x => x.space = [] ∧ x.key = sPublisher).map (·.value) = some v
  | [] => by simp [Xml.createAttr]
  | x :: a => by
    unfold Xml.createAttr
    by_cases h : ([] : Bytes) = x.space ∧ sPublisher = x.key
    · simp only [h, and_self, if_true]
      simp [List.find?, h.1.symm, h.2.symm]
    · simp only [h, if_false]
      have : ¬ (x.space = [] ∧ x.key = sPublisher) := fun e => h ⟨e.1.symm, e.2.symm⟩
      simp only [List.find?, this, decide_false]
      exact find_createAttr v a

theorem visiblePublisher_set (p : Bytes) (d : MDoc) (hr : d.rootNamed = true) (hi : d.ids ≠ []) :
    visiblePublisher (setPublisher p d) = some p := by
  unfold setPublisher visiblePublisher
  simp only [hr, if_true]
  cases h : d.ids with
  | nil => exact absurd h hi
  | cons a r => simp only; exact find_createAttr p a

theorem visiblePublisher_reread (d : MDoc) : visiblePublisher (reread d) = (visiblePublisher d).map eolNorm := by
  unfold visiblePublisher reread
  cases d.ids with
  | nil => rfl
  | cons a r =>
    simp only [List.map_cons]
    induction a with
    | nil => rfl
    | cons x a ih =>
      simp only [List.map_cons, List.find?]
      by_cases h : x.space = [] ∧ x.key = sPublisher
      · simp [h]
      · simp only [h, decide_false]; exact ih

/-- the manifest is such that the attribute `SetPublisher` writes is the one `encoding/xml` reads (unrepaired verifier) -/
def NoShadow (d : MDoc) : Prop := ∀ p, readAttr sPublisher (setPublisher p d).ids = p

/-- `createAttr` overwrites the first unprefixed `Publisher`; by `h2` no later attribute has that key, so the last assignment of
    the reader's left fold is `p`, and what the fold held before that attribute does not matter -/
theorem noShadow_of_single (a : List Xml.Attr) (h1 : ∀ x ∈ a, x.key = sPublisher → x.space = [])
    (h2 : (a.filter fun x => x.key = sPublisher).length ≤ 1) : NoShadow ⟨true, [a]⟩ := by
  intro p
  simp only [setPublisher, if_true, readAttr, List.foldl_cons, List.foldl_nil]
  suffices h : ∀ (a : List Xml.Attr) (acc : Bytes), (∀ x ∈ a, x.key = sPublisher → x.space = []) →
      (a.filter fun x => x.key = sPublisher).length ≤ 1 →
      (Xml.createAttr ([], sPublisher) p a).foldl (fun a x => if x.key = sPublisher then x.value else a) acc = p from h a [] h1 h2
  intro a
  induction a with
  | nil => intro acc _ _; simp [Xml.createAttr]
  | cons x a ih =>
    intro acc h1 h2
    unfold Xml.createAttr
    by_cases hk : x.key = sPublisher
    · have hs : x.space = [] := h1 x (by simp) hk
      simp only [hs, hk, and_self, if_true, List.foldl_cons]
      have hnone : ∀ y ∈ a, y.key ≠ sPublisher := by
        intro y hy hyk
        have : 2 ≤ ((x :: a).filter fun x => x.key = sPublisher).length := by
          simp only [List.filter_cons, hk, decide_true, if_true, List.length_cons]
          have : y ∈ a.filter fun x => x.key = sPublisher := List.mem_filter.2 ⟨hy, by simpa using hyk⟩
          have := List.length_pos_of_mem this
          omega
        omega
      clear ih h1 h2
      induction a generalizing p with
      | nil => rfl
      | cons y a ih2 =>
        simp only [List.foldl_cons, hnone y (by simp), if_false]
        exact ih2 p (fun z hz => hnone z (by simp [hz]))
    · have : ¬ (([] : Bytes) = x.space ∧ sPublisher = x.key) := fun e => hk e.2.symm
      simp only [this, if_false, List.foldl_cons, hk]
      exact ih _ (fun y hy => h1 y (by simp [hy])) (by
        simp only [List.filter_cons, hk, decide_false] at h2; exact h2)

theorem publisher_readable (fx : Fx) (p : Bytes) (d : MDoc) (hr : d.rootNamed = true) (hi : d.ids ≠ [])
    (hs : fx.pub = true ∨ NoShadow d) (hcr : (13 : UInt8) ∉ p) :
    readPublisher fx.pub (reread (setPublisher p d)) = p := by
  unfold readPublisher
  have hr' : (reread (setPublisher p d)).rootNamed = true := by
    unfold reread setPublisher
    simp only [hr, if_true]
    cases d.ids <;> simp [hr]
  cases hp : fx.pub with
  | true =>
    simp only [if_true, hr']
    rw [visiblePublisher_reread, visiblePublisher_set p d hr hi]
    simp [eolNorm_id p hcr]
  | false =>
    simp only [Bool.false_eq_true, if_false]
    rw [readAttr_reread]
    rcases hs with h | h
    · rw [hp] at h; cases h
    · rw [h p, eolNorm_id p hcr]

/-- a written member as `archive/zip` presents it (contents readable, size = length) -/
def toEntry (m : OutMember) : Entry := ⟨m.name, m.stored, m.content.length, 0, .ok m.content, m.content⟩

/-- the view of the signed package, given the two streams `verifyMeta` recomputes from the written file -/
def outView (r : SignedPkg) (sigm : OutMember) (axpc axcd : Bytes) : View :=
  ⟨(r.members ++ [sigm]).map toEntry, .ok (axpc, axcd)⟩

theorem find_append_left (z z' : Res (Bytes × Bytes)) (a b : List Entry) (n : Bytes) (h : ∀ e ∈ a, (e.name == n) = false) :
    View.find ⟨a ++ b, z⟩ n = View.find ⟨b, z'⟩ n := by
  unfold View.find
  simp only [List.filter_append]
  have : a.filter (fun e => e.name == n) = [] := by
    rw [List.filter_eq_nil_iff]; intro e he; simp [h e he]
  rw [this, List.nil_append]

theorem payload_not_special (ms : List InMember) : ∀ m ∈ payloadOf ms, special m.name = false := by
  intro m hm
  have := List.all_eq_true.1 List.all_takeWhile _ hm
  simpa using this

/-- the parts `Sign` appends, as entries -/
def newsOf (c : Bool) (man bmm ctm cat sg : Bytes) : List Entry :=
  (([⟨Appx.sManifest, true, man⟩, ⟨sBlockMap, false, bmm⟩, ⟨sCTypes, false, ctm⟩] : List OutMember) ++
    (if c then [(⟨sCatalog, false, cat⟩ : OutMember)] else []) ++ [(⟨sSignature, false, sg⟩ : OutMember)]).map toEntry

theorem noHash_of_not_special {n : Bytes} (h : special n = false) : noHash n = false := by
  obtain ⟨_, a, b, c, d, _⟩ := special_false h
  simp [noHash, a, b, c, d]

/-- what the verifier sees of a written package (payload, then the regenerated parts, then the signature part):
    `files[name]` for the six names it asks for, and the members it looks up in the block map: the payload and the manifest -/
theorem written_view (r : SignedPkg) (payload : List InMember) (hp : ∀ m ∈ payload, special m.name = false)
    (man cat sg axpc axcd : Bytes)
    (hm : r.members = payload.map (fun m => (⟨m.name, m.stored, m.content⟩ : OutMember)) ++
      [⟨Appx.sManifest, true, man⟩, ⟨sBlockMap, false, r.axbm⟩, ⟨sCTypes, false, r.axct⟩] ++
      (if r.hasPE then [⟨sCatalog, false, cat⟩] else [])) :
    let v := outView r ⟨sSignature, false, sg⟩ axpc axcd
    v.find sSignature = some (toEntry ⟨sSignature, false, sg⟩) ∧ v.find sBlockMap = some (toEntry ⟨sBlockMap, false, r.axbm⟩) ∧
    v.find sCTypes = some (toEntry ⟨sCTypes, false, r.axct⟩) ∧
    v.find sCatalog = (if r.hasPE then some (toEntry ⟨sCatalog, false, cat⟩) else none) ∧
    v.find Appx.sManifest = some (toEntry ⟨Appx.sManifest, true, man⟩) ∧ v.isBundle = false ∧
    v.entries.filter (fun f => covered false f.name) =
      payload.map (fun m => toEntry ⟨m.name, m.stored, m.content⟩) ++ [toEntry ⟨Appx.sManifest, true, man⟩] := by
  intro v
  have hv : v = ⟨payload.map (fun m => toEntry ⟨m.name, m.stored, m.content⟩) ++ newsOf r.hasPE man r.axbm r.axct cat sg,
      .ok (axpc, axcd)⟩ := by
    simp only [v, outView, hm, newsOf, List.map_append, List.map_map, List.append_assoc, Function.comp_def]
  -- no payload member has one of the six names, and each is looked up in the block map
  have gs : ∀ news nm, special nm = true →
      View.find ⟨payload.map (fun m => toEntry ⟨m.name, m.stored, m.content⟩) ++ news, .ok (axpc, axcd)⟩ nm =
        View.find ⟨news, .ok (axpc, axcd)⟩ nm := fun news nm h =>
    find_append_left _ _ _ _ nm fun e he => by
      obtain ⟨m, hm, rfl⟩ := List.mem_map.1 he
      cases hx : (m.name == nm) with
      | false => exact hx
      | true => rw [← eq_of_beq hx, hp m hm] at h; cases h
  have h1 : (payload.map fun m => toEntry ⟨m.name, m.stored, m.content⟩).filter (fun f => covered false f.name) = _ :=
    List.filter_eq_self.2 fun e he => by
      obtain ⟨m, hm, rfl⟩ := List.mem_map.1 he
      simp [covered, toEntry, noHash_of_not_special (hp m hm)]
  rw [hv]
  -- what is left concerns the four or five parts `Sign` appends
  cases r.hasPE <;>
    exact ⟨(gs _ _ (by decide)).trans rfl, (gs _ _ (by decide)).trans rfl, (gs _ _ (by decide)).trans rfl,
      (gs _ _ (by decide)).trans rfl, (gs _ _ (by decide)).trans rfl,
      by unfold View.isBundle; rw [gs _ _ (by decide)]; rfl,
      by show List.filter _ (_ ++ _) = _; rw [List.filter_append, h1]; rfl⟩

/-- `HashValues` after `readSignature` has walked the list `writeSignature` wrote -/
def digestVals (a b c d : Bytes) (ci : Option Bytes) : SMap :=
  ([(tAXPC, a), (tAXCD, b), (tAXCT, c), (tAXBM, d)] ++ (match ci with | some e => [(tAXCI, e)] | none => [])).foldl
    (fun m x => Vsix.mset m x.1 x.2) ([] : SMap)

theorem tagValue_digests (a b c d : Bytes) (ci : Option Bytes) :
    tagValue (digestVals a b c d ci) tAXPC = some a ∧ tagValue (digestVals a b c d ci) tAXCD = some b ∧
    tagValue (digestVals a b c d ci) tAXCT = some c ∧ tagValue (digestVals a b c d ci) tAXBM = some d ∧
    tagValue (digestVals a b c d ci) tAXCI = ci := by
  have d1 : tAXPC ≠ tAXCD := by decide
  have d2 : tAXPC ≠ tAXCT := by decide
  have d3 : tAXPC ≠ tAXBM := by decide
  have d4 : tAXPC ≠ tAXCI := by decide
  have d5 : tAXCD ≠ tAXCT := by decide
  have d6 : tAXCD ≠ tAXBM := by decide
  have d7 : tAXCD ≠ tAXCI := by decide
  have d8 : tAXCT ≠ tAXBM := by decide
  have d9 : tAXCT ≠ tAXCI := by decide
  have d10 : tAXBM ≠ tAXCI := by decide
  cases ci <;>
    simp [digestVals, Vsix.mset, tagValue, List.filter, List.find?, d1, d2, d3, d4, d5, d6, d7, d8, d9, d10]

/-- the signature part read back: when PKCS#7 returns the signed digest list (`hsig`) and digests have `hs` bytes,
    `readSignature` finds the signer, the algorithm and the digests `writeSignature` wrote, tag by tag -/
theorem readSig_written {H : Nat → Bytes → Bytes} {S : SignEnv} {E : Env} {cert : CertId} {alg hs : Nat} {r : SignedPkg}
    {axpc axcd : Bytes} (hsig : E.openSig (S.p7 (digestBlob H alg axpc axcd r)) = .ok ⟨cert, alg, hs, digestBlob H alg axpc axcd r⟩)
    (hlen : ∀ s, (H alg s).length = hs) {v : View}
    (hf : v.find sSignature = some (toEntry (sigMemberOf S (digestBlob H alg axpc axcd r)))) :
    ∃ vals, readSig E v = .ok ⟨cert, alg, vals⟩ ∧
      tagValue vals tAXPC = some (H alg axpc) ∧ tagValue vals tAXCD = some (H alg axcd) ∧
      tagValue vals tAXCT = some (H alg r.axct) ∧ tagValue vals tAXBM = some (H alg r.axbm) ∧
      tagValue vals tAXCI = r.axci.map (H alg) := by
  refine ⟨digestVals (H alg axpc) (H alg axcd) (H alg r.axct) (H alg r.axbm) (r.axci.map (H alg)), ?_, tagValue_digests _ _ _ _ _⟩
  have hpd : parseDigests hs (digestBlob H alg axpc axcd r) =
      some (digestVals (H alg axpc) (H alg axcd) (H alg r.axct) (H alg r.axbm) (r.axci.map (H alg))) := by
    unfold digestBlob
    rw [parseDigests_enc]
    · simp only [digestVals]; cases r.axci <;> rfl
    · -- every tag has four bytes, every digest `hs`
      intro x hx
      have l4 : tAXPC.length = 4 ∧ tAXCD.length = 4 ∧ tAXCT.length = 4 ∧ tAXBM.length = 4 ∧ tAXCI.length = 4 := by decide
      cases hci : r.axci with
      | none =>
        simp only [hci, List.append_nil, List.mem_cons, List.not_mem_nil, or_false] at hx
        rcases hx with rfl | rfl | rfl | rfl <;> simp [hlen, l4]
      | some e =>
        simp only [hci, List.mem_append, List.mem_cons, List.not_mem_nil, or_false] at hx
        rcases hx with (rfl | rfl | rfl | rfl) | rfl <;> simp [hlen, l4]
  unfold readSig
  rw [hf]
  simp only [toEntry, sigMemberOf]
  rw [List.take_left' (by decide : tPKCX.length = 4), List.drop_left' (by decide : tPKCX.length = 4), hsig]
  simp only [ne_eq, not_true_eq_false, if_false, hpd]

end Relic.AppxPkg
