/-
  Relic.Proofs.ReaderCab — the reader programs `digestCab` and `digestCabOrig`, run on a whole file, are the whole-buffer model
  `Relic.Cab.DigestCab` (result, bytes hashed, `patched`).
-/
import Relic.Proofs.ReaderFlat
import Relic.Proofs.Cab
namespace Relic.Rd
open Relic.PE (seg seg_seg u16 u32 u32_seg u16_seg)
open Relic.Cab (u8 rebase rebaseFolders Reserve noReserve readReserve outHdr DigestCab)

def toObs (r : Res Cab.Digest) : Obs Cab.Digest :=
  match r with
  | .ok d => .ok (d, d.hashed, d.patched)
  | .err e => .err e
  | .panic p => .panic p
  | .diverge => .diverge

/-- what the model returns, as an observation: the digest record, the hashed stream, `Patched` -/
def cabObs (f : Bytes) : Obs Cab.Digest := toObs (DigestCab f)

theorem u8_seg (f : Bytes) (a b off : Nat) (h : off + 1 ≤ b - a) :
    u8 (seg f a b) off = u8 f (a + off) := by
  unfold u8
  rw [seg_seg f a b off (off + 1) (by omega)]
  rfl

theorem obs_cabFolders {α} (f : Bytes) (delta n c : Nat) (acc : Bytes) (k : Bytes → Prog α) (hc : c ≤ f.length) :
    obs (runFlat (cabFolders delta n acc k) (at_ f c)) =
      if f.length < c + 8 * n then .err "eof"
      else pre12 (rebaseFolders f delta c n) (obs (runFlat (k (acc ++ rebaseFolders f delta c n)) (at_ f (c + 8 * n)))) := by
  induction n generalizing c acc with
  | zero =>
    rw [cabFolders, rebaseFolders, Nat.mul_zero, Nat.add_zero, if_neg (by omega), List.append_nil, pre12, pre_nil, pre_nil]
  | succ n ih =>
    rw [cabFolders, obs_readFullE f c 8 _ hc]
    by_cases h8 : f.length < c + 8
    · rw [if_pos h8, if_pos (by omega)]
    · have h8' : c + 8 ≤ f.length := by omega
      rw [if_neg h8, obs_emit, obs_emit, ih (c + 8) _ h8', show c + 8 + 8 * n = c + 8 * (n + 1) by omega]
      have e1 : u32 (seg f c (c + 8)) 0 = u32 f c := u32_seg f c (c + 8) 0 (by omega)
      have e2 : seg (seg f c (c + 8)) 4 8 = seg f (c + 4) (c + 8) := seg_seg f c (c + 8) 4 8 (by omega)
      rw [e1, e2]
      by_cases hn : f.length < c + 8 * (n + 1)
      · rw [if_pos hn, if_pos hn]
        rfl
      · rw [if_neg hn, if_neg hn, rebaseFolders]
        show pre12 _ (pre12 _ _) = _
        rw [pre12_pre12]
        simp only [List.append_assoc]

theorem obs_cabReserve {α} (f : Bytes) (total : Nat) (k : Reserve → Prog α) (h36 : 36 ≤ f.length) :
    obs (runFlat (cabReserve total k) (at_ f 36)) =
      (readReserve f total).bind fun rv => obs (runFlat (k rv) (at_ f rv.cur)) := by
  unfold cabReserve readReserve
  rw [obs_readFullE f 36 4 _ h36]
  refine bind_step fun h40 => ?_
  have h40 : 40 ≤ f.length := by omega
  have e0 : u16 (seg f 36 (36 + 4)) 0 = u16 f 36 := u16_seg f 36 40 0 (by omega)
  have e2 : u8 (seg f 36 (36 + 4)) 2 = u8 f 38 := u8_seg f 36 40 2 (by omega)
  have e3 : u8 (seg f 36 (36 + 4)) 3 = u8 f 39 := u8_seg f 36 40 3 (by omega)
  rw [e0, e2, e3, obs_guard]
  refine bind_step fun _ => ?_
  rw [obs_readFullE f (36 + 4) 20 _ h40]
  refine bind_step fun h60 => ?_
  have h60 : 60 ≤ f.length := by omega
  have s4 : u32 (seg f (36 + 4) (36 + 4 + 20)) 4 = u32 f 44 := u32_seg f 40 60 4 (by omega)
  have s8 : u32 (seg f (36 + 4) (36 + 4 + 20)) 8 = u32 f 48 := u32_seg f 40 60 8 (by omega)
  have g0 : seg (seg f (36 + 4) (36 + 4 + 20)) 0 4 = seg f 40 44 := seg_seg f 40 60 0 4 (by omega)
  have g12 : seg (seg f (36 + 4) (36 + 4 + 20)) 12 16 = seg f 52 56 := seg_seg f 40 60 12 16 (by omega)
  have g16 : seg (seg f (36 + 4) (36 + 4 + 20)) 16 20 = seg f 56 60 := seg_seg f 40 60 16 20 (by omega)
  rw [s4, s8, g0, g12, g16]
  by_cases hpad : 0 < u16 f 36 - 20
  · rw [if_pos hpad, if_pos hpad, obs_guard]
    refine bind_step fun _ => ?_
    rw [obs_readFullE f (36 + 4 + 20) _ _ h60]
    refine bind_step fun _ => ?_
    rw [obs_guard]
    exact bind_step fun _ => rfl
  · rw [if_neg hpad, if_neg hpad, obs_guard]
    exact bind_step fun _ => rfl

/-- the model after the reserve area, as an observation: a copy of the second half of `Cab.DigestCab` (Model/Cab, from
    `if flags % 4 ≠ 0` on) that has to follow it, so that `cabObs_eq` holds by unfolding -/
def cabAfter (f : Bytes) (rv : Reserve) : Obs Cab.Digest :=
  let total := u32 f 8
  let offFiles := u32 f 16
  let nFolders := u16 f 26
  let flags := u16 f 30
  if flags % 4 ≠ 0 then .err "multipart" else
  if 8 ≤ flags then .err "flags" else
  let outFlags := if flags / 4 % 2 = 1 then flags else flags + 4
  let fe := rv.cur + 8 * nFolders
  if f.length < fe then .err "eof" else
  let n := (total + 2 ^ 32 - offFiles) % 2 ^ 32
  if f.length < fe + n then .err "eof" else
  let de := fe + n
  if rv.hasSig ∧ f.length < de + rv.sigSize then .err "eof" else
  let stop := if rv.hasSig then de + rv.sigSize else de
  if stop < f.length then .err "trailing" else
  let d : Cab.Digest :=
    { hdr := outHdr f (rebase rv.delta total) (rebase rv.delta offFiles) outFlags rv.u1 rv.u2 rv.u3,
      folders := rebaseFolders f rv.delta rv.cur nFolders,
      data := seg f fe de,
      total, offFiles, nFolders, delta := rv.delta, hasSig := rv.hasSig,
      oldSigSize := if rv.hasSig then rv.sigSize else 0,
      signature := if rv.hasSig then seg f de (de + rv.sigSize) else [],
      foldersStart := rv.cur, dataEnd := de }
  .ok (d, d.hashed, d.patched)

theorem cabObs_eq (f : Bytes) :
    cabObs f =
      if f.length < 36 then .err "eof" else
      if u32 f 0 ≠ 0x4643534d then .err "notcab" else
      match (if u16 f 30 / 4 % 2 = 1 then readReserve f (u32 f 8) else .ok noReserve) with
      | .ok rv => cabAfter f rv
      | .err e => .err e
      | .panic p => .panic p
      | .diverge => .diverge := by
  unfold cabObs DigestCab
  simp only [apply_ite toObs]
  cases hr : (if u16 f 30 / 4 % 2 = 1 then readReserve f (u32 f 8) else Res.ok noReserve) with
  | err e => rfl
  | panic p => rfl
  | diverge => rfl
  | ok rv =>
    simp only [apply_ite toObs, cabAfter]
    rfl

theorem outHdr_seg (f : Bytes) (a b c : Nat) (u1 u2 u3 : Bytes) :
    outHdr (seg f 0 36) a b c u1 u2 u3 = outHdr f a b c u1 u2 u3 := by
  unfold outHdr
  have s := fun x y (hy : y ≤ 36) => seg_seg f 0 36 x y (by omega)
  simp only [Nat.zero_add] at s
  rw [s 0 4 (by omega), s 4 8 (by omega), s 12 16 (by omega), s 20 26 (by omega), s 26 28 (by omega),
    s 28 30 (by omega), s 32 34 (by omega), s 34 36 (by omega)]

theorem obs_cabTailOrig (f : Bytes) (c : Nat) (d : Cab.Digest) (hc : c ≤ f.length) :
    obs (runFlat (cabTailOrig d) (at_ f c)) = if c < f.length then .err "trailing" else .ok (d, [], []) := by
  simp only [cabTailOrig, runFlat, at_]
  by_cases h : c < f.length
  · have : (List.drop c f).isEmpty = false := by
      cases hd : List.drop c f with
      | nil =>
        have := congrArg List.length hd
        simp at this; omega
      | cons _ _ => rfl
    simp only [h, this, ↓reduceIte, Bool.false_eq_true]
    rfl
  · have : List.drop c f = [] := List.drop_eq_nil_of_le (by omega)
    simp only [h, this, List.isEmpty_nil, ↓reduceIte]
    rfl

theorem pre_chain {α} (q1 q2 : Prop) [Decidable q1] [Decidable q2] (d : α) (a b c e : Bytes) :
    pre hashSink a (pre patchedSink b (pre12 c (pre hashSink e
      (if q1 then (.err "eof" : Obs α) else if q2 then .err "trailing" else .ok (d, [], []))))) =
    if q1 then .err "eof" else if q2 then .err "trailing" else .ok (d, a ++ (c ++ e), b ++ c) := by
  by_cases h1 : q1 <;> by_cases h2 : q2 <;> simp [h1, h2, pre12, pre, hashSink, patchedSink]

theorem obs_cabSigTail (f : Bytes) (tail : Cab.Digest → Prog Cab.Digest)
    (htail : ∀ c d, c ≤ f.length → obs (runFlat (tail d) (at_ f c)) = if c < f.length then .err "trailing" else .ok (d, [], []))
    (c : Nat) (hasSig : Bool) (sigSize : Nat) (mk : Bytes → Cab.Digest)
    (hc : c ≤ f.length) :
    obs (runFlat ((if hasSig then readFullE sigSize else fun k => k []) fun sig => tail (mk sig)) (at_ f c)) =
      if hasSig ∧ f.length < c + sigSize then .err "eof" else
      if (if hasSig then c + sigSize else c) < f.length then .err "trailing" else
      .ok (mk (if hasSig then seg f c (c + sigSize) else []), [], []) := by
  cases hasSig with
  | true =>
    simp only [↓reduceIte, true_and]
    rw [obs_readFullE f _ _ _ hc]
    exact ite_else_congr fun c5 => htail _ _ (by omega)
  | false =>
    simp only [Bool.false_eq_true, ↓reduceIte, false_and]
    exact htail _ _ hc

theorem obs_cabRest (f : Bytes) (tail : Cab.Digest → Prog Cab.Digest)
    (htail : ∀ c d, c ≤ f.length → obs (runFlat (tail d) (at_ f c)) = if c < f.length then .err "trailing" else .ok (d, [], []))
    (rv : Reserve) (hcur : rv.cur ≤ f.length) :
    obs (runFlat (cabRest (seg f 0 36) rv tail) (at_ f rv.cur)) = cabAfter f rv := by
  unfold cabRest cabAfter
  have e8 : u32 (seg f 0 36) 8 = u32 f 8 := by simpa using u32_seg f 0 36 8 (by omega)
  have e16 : u32 (seg f 0 36) 16 = u32 f 16 := by simpa using u32_seg f 0 36 16 (by omega)
  have e26 : u16 (seg f 0 36) 26 = u16 f 26 := by simpa using u16_seg f 0 36 26 (by omega)
  have e30 : u16 (seg f 0 36) 30 = u16 f 30 := by simpa using u16_seg f 0 36 30 (by omega)
  simp only [e8, e16, e26, e30, outHdr_seg f]
  rw [obs_guard]
  refine ite_else_congr fun _ => ?_
  rw [obs_guard]
  refine ite_else_congr fun _ => ?_
  rw [obs_emit, obs_emit, obs_cabFolders f _ _ _ _ _ hcur]
  generalize (u32 f 8 + 2 ^ 32 - u32 f 16) % 2 ^ 32 = n
  generalize rv.cur + 8 * u16 f 26 = fe
  by_cases c3 : f.length < fe
  · rw [if_pos c3, if_pos c3]
    rfl
  rw [if_neg c3, if_neg c3, List.nil_append, obs_copyNTo f _ _ _ _ _ (by omega)]
  by_cases c4 : f.length < fe + n
  · rw [if_pos c4, if_pos c4]
    rfl
  rw [if_neg c4, if_neg c4, obs_cabSigTail f tail htail (fe + n) rv.hasSig rv.sigSize _ (by omega), pre_chain]
  simp [Cab.Digest.hashed, Cab.Digest.patched]

theorem obs_cabTail (f : Bytes) (c : Nat) (d : Cab.Digest) (hc : c ≤ f.length) :
    obs (runFlat (cabTail d) (at_ f c)) = if c < f.length then .err "trailing" else .ok (d, [], []) := by
  simp only [cabTail, runFlat, at_, flatCopy, List.length_drop]
  by_cases h : c < f.length
  · have h' : 0 < f.length - c := by omega
    rw [if_pos h', if_pos h]; rfl
  · have h' : ¬ 0 < f.length - c := by omega
    rw [if_neg h', if_neg h]; rfl

/-- the body with any tail that reports "trailing" exactly when bytes are left -/
theorem cab_flat_tail (f : Bytes) (tail : Cab.Digest → Prog Cab.Digest)
    (htail : ∀ c d, c ≤ f.length → obs (runFlat (tail d) (at_ f c)) = if c < f.length then .err "trailing" else .ok (d, [], [])) :
    obs (runFlat (cabBody tail) (Flat.raw f .eof)) = cabObs f := by
  rw [cabObs_eq, ← at_zero]
  unfold cabBody
  rw [obs_readFullE f 0 36 _ (Nat.zero_le _)]
  refine ite_else_congr fun h36 => ?_
  have h36 : 36 ≤ f.length := by omega
  simp (disch := omega) only [Nat.zero_add, u32_seg, u16_seg]
  rw [obs_guard]
  refine ite_else_congr fun _ => ?_
  by_cases hr : u16 f 30 / 4 % 2 = 1
  · rw [if_pos hr, if_pos hr, obs_cabReserve f _ _ h36]
    cases hrr : readReserve f (u32 f 8) with
    | ok rv => exact obs_cabRest f tail htail rv (Cab.readReserve_cur hrr)
    | err e => rfl
    | panic p => rfl
    | diverge => rfl
  · rw [if_neg hr, if_neg hr]
    exact obs_cabRest f tail htail noReserve (by simp only [noReserve]; omega)

/-- the code before fix F-rd-cab-tail, on a whole file, is the model `DigestCab` -/
theorem cab_orig_flat (f : Bytes) : obs (runFlat digestCabOrig (Flat.raw f .eof)) = cabObs f :=
  cab_flat_tail f cabTailOrig (fun c d hc => obs_cabTailOrig f c d hc)

theorem cab_flat (f : Bytes) : obs (runFlat digestCab (Flat.raw f .eof)) = cabObs f :=
  cab_flat_tail f cabTail (fun c d hc => obs_cabTail f c d hc)

end Relic.Rd
