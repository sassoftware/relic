/-
  Relic.Proofs.DebSign — `Sign` and `Verify` of the DEB model by their outcomes (a value; a panic or divergence), the header
  `Sign` writes as the reader reads it, and what `Sign` + patch application do to a tight archive: the member for the role
  is replaced, or the new member is appended.
-/
import Relic.Proofs.Deb
import Relic.Proofs.Splice
import Relic.Proofs.Res
namespace Relic.Deb

theorem sigSlot_none (role : Bytes) : ∀ (es : List Entry) (pos : Nat),
    sigSlot role pos es = none ↔ ∀ e ∈ es, pathClean e.name ≠ gpg ++ role := by
  intro es
  induction es with
  | nil => intro pos; simp [sigSlot]
  | cons e es ih =>
    intro pos
    rw [sigSlot]
    cases h : sigSlot role (pos + adv e.size) es with
    | some s =>
      simp only [reduceCtorEq, false_iff]
      intro hall
      have := (ih (pos + adv e.size)).mpr (fun x hx => hall x (by simp [hx]))
      rw [h] at this; cases this
    | none =>
      have hn := (ih (pos + adv e.size)).mp h
      by_cases c : pathClean e.name = gpg ++ role
      · simp only [c, if_true, reduceCtorEq, false_iff]
        intro hall; exact hall e (by simp) c
      · simp only [c, if_false, true_iff]
        intro x hx
        rcases List.mem_cons.mp hx with rfl | hx
        · exact c
        · exact hn x hx

theorem sigSlot_some (role : Bytes) : ∀ (es : List Entry) (pos off : Nat) (len : Int),
    sigSlot role pos es = some (off, len) →
    ∃ es1 e es2, es = es1 ++ e :: es2 ∧ pathClean e.name = gpg ++ role ∧ (∀ x ∈ es2, pathClean x.name ≠ gpg ++ role) ∧
      off = pos + advSum es1 ∧ len = slotLen e.size := by
  intro es
  induction es with
  | nil => intro pos off len h; simp [sigSlot] at h
  | cons e es ih =>
    intro pos off len h
    rw [sigSlot] at h
    cases hr : sigSlot role (pos + adv e.size) es with
    | some s =>
      rw [hr] at h
      simp only [Option.some.injEq] at h
      subst h
      obtain ⟨es1, e', es2, h1, h2, h3, h4, h5⟩ := ih (pos + adv e.size) off len hr
      refine ⟨e :: es1, e', es2, by simp [h1], h2, h3, ?_, h5⟩
      simp [advSum]; omega
    | none =>
      rw [hr] at h
      by_cases c : pathClean e.name = gpg ++ role
      · simp only [c, if_true, Option.some.injEq, Prod.mk.injEq] at h
        refine ⟨[], e, es, rfl, c, (sigSlot_none role es _).mp hr, ?_, h.2.symm⟩
        simp [advSum]; omega
      · simp [c] at h

theorem sigSlot_at (role : Bytes) (e : Entry) (es2 : List Entry) (hm : pathClean e.name = gpg ++ role)
    (hn : ∀ x ∈ es2, pathClean x.name ≠ gpg ++ role) : ∀ (es1 : List Entry) (pos : Nat),
    sigSlot role pos (es1 ++ e :: es2) = some (pos + advSum es1, slotLen e.size) := by
  intro es1
  induction es1 with
  | nil =>
    intro pos
    simp only [List.nil_append, sigSlot, advSum, Nat.add_zero]
    rw [(sigSlot_none role es2 _).mpr hn]
    simp [hm]
  | cons a es1 ih =>
    intro pos
    simp only [List.cons_append, sigSlot, advSum]
    rw [ih (pos + adv a.size)]
    simp only [Option.some.injEq, Prod.mk.injEq, and_true]
    omega

theorem slotLen_of_nonneg (s : Int) (h : 0 ≤ s) : slotLen s = (adv s : Int) := by
  unfold slotLen
  rw [adv_of_nonneg s h, Int.tdiv_eq_ediv_of_nonneg (by omega)]
  omega

theorem padTo_length (w : Nat) (s : Bytes) : (padTo w s).length = w := by
  unfold padTo
  simp [List.length_take, List.length_append, List.length_replicate]
  omega

theorem arHeader_length (name mt : Bytes) (n : Nat) : (arHeader name mt n).length = 60 := by
  unfold arHeader
  simp [List.length_append, padTo_length]

theorem padByte_length (n : Nat) : (padByte n).length = n % 2 := by
  unfold padByte
  have : n % 2 = 0 ∨ n % 2 = 1 := by omega
  rcases this with h | h <;> simp [h]

/-- the header `Sign` writes is read back by the reader with the name and size that were written.  Only `rsize` is left as
    an assumption (the decimal round trip `ParseInt ∘ FormatInt` of the size field is not proved here); `rname` holds for
    every name that `rtrim ∘ padTo 16` leaves alone (at most 16 bytes, not empty, no space at its end), `roctal` always:
    see `ReadsBack.of_rsize`. -/
structure ReadsBack (name mt S : Bytes) : Prop where
  rname : hdrName (arHeader name mt S.length) = name
  rsize : hdrSize (arHeader name mt S.length) = (S.length : Int)
  roctal : octalPanics (arHeader name mt S.length) = false

def newEntry (name mt S : Bytes) : Entry := ⟨arHeader name mt S.length, name, S.length, S⟩

theorem hdrName_arHeader (name mt : Bytes) (n : Nat) : hdrName (arHeader name mt n) = rtrim (padTo 16 name) := by
  unfold hdrName fld arHeader
  rw [List.drop_zero]
  simp only [List.append_assoc]
  exact congrArg rtrim (List.take_left' (padTo_length 16 name))

/-- the mode field `Sign` writes has its three significant bytes -/
theorem octalPanics_arHeader (name mt : Bytes) (n : Nat) : octalPanics (arHeader name mt n) = false := by
  have h : fld (arHeader name mt n) 40 8 = [49, 48, 48, 49, 48, 48, 54, 52] := by
    unfold fld arHeader
    have e : padTo 16 name ++ padTo 12 mt ++ padTo 6 [48] ++ padTo 6 [48] ++ [49, 48, 48, 49, 48, 48, 54, 52] ++
        padTo 10 (decNat n) ++ [96, 10] =
        (padTo 16 name ++ padTo 12 mt ++ padTo 6 [48] ++ padTo 6 [48]) ++
          ([49, 48, 48, 49, 48, 48, 54, 52] ++ (padTo 10 (decNat n) ++ [96, 10])) := by simp only [List.append_assoc]
    rw [e, List.drop_left' (by simp [padTo_length])]
    exact List.take_left' rfl
  rw [octalPanics, h]
  rfl

theorem ReadsBack.of_rsize {name mt S : Bytes} (hn : rtrim (padTo 16 name) = name)
    (hs : hdrSize (arHeader name mt S.length) = (S.length : Int)) : ReadsBack name mt S :=
  ⟨(hdrName_arHeader name mt S.length).trans hn, hs, octalPanics_arHeader name mt S.length⟩

/-- `if patchOffset == 0 { patchOffset = counter.N }`, `binpatch.Add(patchOffset, patchLength, blob)` -/
def slotOf (role : Bytes) (flen : Nat) (es : List Entry) : Nat × Nat :=
  let slot := match sigSlot role 8 es with
    | some (o, l) => (if o = 0 then flen else o, l)
    | none => (flen, (0 : Int))
  (slot.1, if 0 ≤ slot.2 then slot.2.toNat else (slot.2 % 4294967296).toNat)

theorem signOf_slot (H1 H2 cs mt signer date role flen es) :
    ((signOf H1 H2 cs mt signer date role flen es).off, (signOf H1 H2 cs mt signer date role flen es).old) = slotOf role flen es :=
  rfl

theorem slotOf_at (role : Bytes) (flen : Nat) (es1 : List Entry) (e : Entry) (es2 : List Entry) (hes : 0 ≤ e.size)
    (hm : pathClean e.name = gpg ++ role) (hn : ∀ x ∈ es2, pathClean x.name ≠ gpg ++ role) :
    slotOf role flen (es1 ++ e :: es2) = (8 + advSum es1, adv e.size) := by
  unfold slotOf
  rw [sigSlot_at role e es2 hm hn es1 8, slotLen_of_nonneg _ hes]
  have : ¬ 8 + advSum es1 = 0 := by omega
  simp

theorem slotOf_cases (role : Bytes) (flen : Nat) (es : List Entry) (hsz : ∀ e ∈ es, 0 ≤ e.size) :
    (sigSlot role 8 es = none ∧ slotOf role flen es = (flen, 0)) ∨
    (∃ es1 e es2, es = es1 ++ e :: es2 ∧ pathClean e.name = gpg ++ role ∧ (∀ x ∈ es2, pathClean x.name ≠ gpg ++ role) ∧
      slotOf role flen es = (8 + advSum es1, adv e.size)) := by
  cases hs : sigSlot role 8 es with
  | none => exact .inl ⟨rfl, by unfold slotOf; rw [hs]; rfl⟩
  | some s =>
    obtain ⟨es1, e, es2, rfl, h2, h3, -, -⟩ := sigSlot_some role es 8 s.1 s.2 hs
    exact .inr ⟨es1, e, es2, rfl, h2, h3, slotOf_at role flen es1 e es2 (hsz e (by simp)) h2 h3⟩

theorem sign_ok_iff (H1 H2 cs ctl) (mt signer date role f : Bytes) (o : SignOut) :
    sign H1 H2 cs ctl mt signer date role f = .ok o ↔
      signFail ctl (entries f).1 = none ∧ (entries f).2 = .eof ∧ hasCtl (entries f).1 = true ∧
        o = signOf H1 H2 cs mt signer date role f.length (entries f).1 := by
  unfold sign
  simp only []
  generalize signFail ctl (entries f).1 = sf
  generalize (entries f).2 = st
  cases sf with
  | some x => cases x <;> simp
  | none =>
    cases st <;> simp
    by_cases hc : hasCtl (entries f).1 = true
    · simp only [hc, if_true, Res.ok.injEq, true_and]; exact eq_comm
    · simp [hc]

theorem sign_ok (H1 H2 cs ctl) (mt signer date role f : Bytes) (o : SignOut) (es : List Entry)
    (he : entries f = (es, .eof)) (hs : sign H1 H2 cs ctl mt signer date role f = .ok o) :
    o = signOf H1 H2 cs mt signer date role f.length es ∧ signFail ctl es = none ∧ hasCtl es = true := by
  obtain ⟨h1, -, h3, rfl⟩ := (sign_ok_iff ..).mp hs
  rw [he] at h1 h3 ⊢
  exact ⟨rfl, h1, h3⟩

theorem verify_ok_iff (H1 H2 : Bytes → Bytes) (pgp : Bytes → Option Bytes) (f : Bytes) (rs : List (Bytes × Res Unit)) :
    verify H1 H2 pgp f = .ok rs ↔
      verifyFail (entries f).1 = false ∧ (entries f).2 = .eof ∧ distinctNames (entries f).1 = true ∧
        rs = (rolesOf (sigsOf (entries f).1)).map fun r =>
          (r, checkRole pgp (digestsOf H1 H2 (entries f).1) (sigsOf (entries f).1) r) := by
  unfold verify
  simp only []
  generalize verifyFail (entries f).1 = vf
  generalize (entries f).2 = st
  cases vf
  · cases st <;> simp
    by_cases hd : distinctNames (entries f).1 = true
    · simp only [hd, Bool.true_eq_false, if_false, Res.ok.injEq, true_and]; exact eq_comm
    · simp [hd]
  · simp

theorem sign_crash_iff (H1 H2 cs ctl) (mt signer date role f : Bytes) (c : Crash) :
    sign H1 H2 cs ctl mt signer date role f = Res.crash c ↔
      (signFail ctl (entries f).1 = some .read ∧ c = .panic "ar.Read") ∨
      (signFail ctl (entries f).1 = none ∧
        ((entries f).2 = .octal ∧ c = .panic "ar.octal" ∨ (entries f).2 = .fuel ∧ c = .diverge)) := by
  unfold sign
  simp only []
  generalize signFail ctl (entries f).1 = sf
  generalize (entries f).2 = st
  cases sf with
  | some x => cases x <;> cases c <;> simp [Res.crash, @eq_comm _ "ar.Read"]
  | none =>
    cases st with
    | eof => cases c <;> simp [Res.crash] <;> split <;> simp
    | _ => cases c <;> simp [Res.crash, @eq_comm _ "ar.octal"]

theorem verify_crash_iff (H1 H2 : Bytes → Bytes) (pgp : Bytes → Option Bytes) (f : Bytes) (c : Crash) :
    verify H1 H2 pgp f = Res.crash c ↔
      (verifyFail (entries f).1 = true ∧ c = .panic "ar.Read") ∨
      (verifyFail (entries f).1 = false ∧
        ((entries f).2 = .octal ∧ c = .panic "ar.octal" ∨ (entries f).2 = .fuel ∧ c = .diverge)) := by
  unfold verify
  simp only []
  generalize verifyFail (entries f).1 = vf
  generalize (entries f).2 = st
  cases vf
  · cases st with
    | eof => cases c <;> simp [Res.crash] <;> split <;> simp
    | _ => cases c <;> simp [Res.crash, @eq_comm _ "ar.octal"]
  · cases c <;> simp [Res.crash, @eq_comm _ "ar.Read"]

theorem member_arch (name mt S : Bytes) (h : ReadsBack name mt S) : Arch (member name mt S) [newEntry name mt S] := by
  have hl := arHeader_length name mt S.length
  have hm : member name mt S = arHeader name mt S.length ++ (S ++ padByte S.length) := by
    unfold member; rw [List.append_assoc]
  obtain ⟨e1, e2, e3, e4⟩ := hdr_append (arHeader name mt S.length) (S ++ padByte S.length) (by omega)
  rw [← hm, h.rname] at e1
  rw [← hm, List.take_of_length_le (Nat.le_of_eq hl)] at e4
  rw [← hm, h.rsize] at e2
  rw [← hm, h.roctal] at e3
  have hM : Member (member name mt S) := by
    refine ⟨e3, by rw [e2]; omega, ?_⟩
    rw [e2, adv_of_nonneg _ (by omega), hm]
    simp only [List.length_append, hl, padByte_length, Int.toNat_natCast]; omega
  have hE : entryAt (member name mt S) = newEntry name mt S := by
    unfold entryAt newEntry
    rw [e1, e2, e4, hm, ← hl, List.drop_left, Int.toNat_natCast, List.take_left]
  have := Arch.cons hM .nil
  rwa [List.append_nil, hE] at this

section
variable (H1 H2 cs : Bytes → Bytes) (ctl : Bytes → Bytes → Bool) (mt signer date role : Bytes)

/-- An archive (behind its 8-byte global header `hd`) whose last member for the role is `M`: the patch
    covers exactly `M`, and what is written is the same archive with the new member in its place. -/
theorem Arch.sign_replaces (o : SignOut) {hd A1 M A2 : Bytes} {es1 es2 : List Entry} {e : Entry} (hl : hd.length = 8)
    (a1 : Arch A1 es1) (aM : Arch M [e]) (a2 : Arch A2 es2)
    (hm : pathClean e.name = gpg ++ role) (hn : ∀ x ∈ es2, pathClean x.name ≠ gpg ++ role)
    (hs : sign H1 H2 cs ctl mt signer date role (hd ++ (A1 ++ (M ++ A2))) = .ok o)
    (hrb : ReadsBack (gpg ++ role) mt (cs (message H1 H2 signer date role (linesOf (es1 ++ e :: es2))))) :
    o.off = 8 + advSum es1 ∧ o.old = adv e.size ∧
    splice (hd ++ (A1 ++ (M ++ A2))) o.off o.old o.blob = hd ++ (A1 ++ (o.blob ++ A2)) ∧
    Arch (A1 ++ (o.blob ++ A2))
      (es1 ++ newEntry (gpg ++ role) mt (cs (message H1 H2 signer date role (linesOf (es1 ++ e :: es2)))) :: es2) := by
  have hA : Arch (A1 ++ (M ++ A2)) (es1 ++ e :: es2) := a1.append (aM.append a2)
  obtain ⟨rfl, -⟩ := sign_ok H1 H2 cs ctl mt signer date role _ o _ (Arch.entries hl hA).1 hs
  obtain ⟨h1, h2⟩ := Prod.mk.inj ((signOf_slot ..).trans
    (slotOf_at role _ es1 e es2 (hA.tight.1 e (by simp)) hm hn))
  refine ⟨h1, h2, ?_, a1.append ((member_arch _ _ _ hrb).append a2)⟩
  have hsp := splice_mid (hd ++ A1) M A2 (member (gpg ++ role) mt (cs (message H1 H2 signer date role (linesOf (es1 ++ e :: es2)))))
  rw [List.length_append, hl, a1.length, aM.length] at hsp
  simp only [advSum, Nat.add_zero, List.append_assoc] at hsp
  rw [h1, h2]
  exact hsp

/-- An archive without a member for the role: the new member goes behind everything. -/
theorem Arch.sign_appends (o : SignOut) {hd A : Bytes} {es : List Entry} (hl : hd.length = 8) (a : Arch A es)
    (hn : sigSlot role 8 es = none)
    (hs : sign H1 H2 cs ctl mt signer date role (hd ++ A) = .ok o)
    (hrb : ReadsBack (gpg ++ role) mt (cs (message H1 H2 signer date role (linesOf es)))) :
    o.off = (hd ++ A).length ∧ o.old = 0 ∧ splice (hd ++ A) o.off o.old o.blob = hd ++ (A ++ o.blob) ∧
    Arch (A ++ o.blob) (es ++ [newEntry (gpg ++ role) mt (cs (message H1 H2 signer date role (linesOf es)))]) := by
  obtain ⟨rfl, -⟩ := sign_ok H1 H2 cs ctl mt signer date role _ o _ (Arch.entries hl a).1 hs
  obtain ⟨h1, h2⟩ := Prod.mk.inj ((signOf_slot ..).trans
    (show slotOf role (hd ++ A).length es = ((hd ++ A).length, 0) by unfold slotOf; rw [hn]; rfl))
  refine ⟨h1, h2, ?_, a.append (member_arch _ _ _ hrb)⟩
  rw [h1, h2]
  simp [splice, List.take_of_length_le, List.drop_of_length_le]

/-! The same two facts in the terms of the property statements (`entries f = (es, .eof)`, `Tight (f.drop 8) es`): the
    one place where these are turned into the view `Arch` and back. -/

variable (f : Bytes) (o : SignOut)

theorem sign_replaces (es1 : List Entry) (e : Entry) (es2 : List Entry)
    (h8 : 8 ≤ f.length) (he : entries f = (es1 ++ e :: es2, .eof)) (ht : Tight (f.drop 8) (es1 ++ e :: es2))
    (hm : pathClean e.name = gpg ++ role) (hn : ∀ x ∈ es2, pathClean x.name ≠ gpg ++ role)
    (hs : sign H1 H2 cs ctl mt signer date role f = .ok o)
    (hrb : ReadsBack (gpg ++ role) mt (cs (message H1 H2 signer date role (linesOf (es1 ++ e :: es2))))) :
    let ne := newEntry (gpg ++ role) mt (cs (message H1 H2 signer date role (linesOf (es1 ++ e :: es2))))
    o.off = 8 + advSum es1 ∧ o.old = adv e.size ∧
    entries (splice f o.off o.old o.blob) = (es1 ++ ne :: es2, .eof) ∧
    Tight ((splice f o.off o.old o.blob).drop 8) (es1 ++ ne :: es2) := by
  obtain ⟨A1, A', hA, a1, a'⟩ := Arch.split es1 (Arch.of_entries he ht)
  obtain ⟨M, A2, hA', aM, a2⟩ := Arch.split [e] a'
  have hf : f = f.take 8 ++ (A1 ++ (M ++ A2)) := by rw [← hA', ← hA, List.take_append_drop]
  have hl8 : (f.take 8).length = 8 := by rw [List.length_take]; omega
  rw [hf] at hs
  obtain ⟨h1, h2, h3, h4⟩ := Arch.sign_replaces H1 H2 cs ctl mt signer date role o hl8 a1 aM a2 hm hn hs hrb
  rw [← hf] at h3
  rw [h3]
  exact ⟨h1, h2, Arch.entries hl8 h4⟩

theorem sign_appends (es : List Entry)
    (h8 : 8 ≤ f.length) (he : entries f = (es, .eof)) (ht : Tight (f.drop 8) es)
    (hn : sigSlot role 8 es = none)
    (hs : sign H1 H2 cs ctl mt signer date role f = .ok o)
    (hrb : ReadsBack (gpg ++ role) mt (cs (message H1 H2 signer date role (linesOf es)))) :
    let ne := newEntry (gpg ++ role) mt (cs (message H1 H2 signer date role (linesOf es)))
    o.off = f.length ∧ o.old = 0 ∧ splice f o.off o.old o.blob = f ++ o.blob ∧
    entries (f ++ o.blob) = (es ++ [ne], .eof) ∧ Tight ((f ++ o.blob).drop 8) (es ++ [ne]) := by
  have hf : f = f.take 8 ++ f.drop 8 := (List.take_append_drop 8 f).symm
  have hl8 : (f.take 8).length = 8 := by rw [List.length_take]; omega
  rw [hf] at hs
  obtain ⟨h1, h2, h3, h4⟩ := Arch.sign_appends H1 H2 cs ctl mt signer date role o hl8 (Arch.of_entries he ht) hn hs hrb
  have hg : f ++ o.blob = f.take 8 ++ (f.drop 8 ++ o.blob) := by rw [← List.append_assoc, ← hf]
  rw [← hf] at h1 h3
  rw [hg]
  exact ⟨h1, h2, h3, Arch.entries hl8 h4⟩

end

end Relic.Deb
