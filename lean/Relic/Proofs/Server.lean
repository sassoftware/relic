/-
  Relic.Model.Server under arbitrary interleavings (C14): every step keeps `Inv`, a step that does not depend on the
  shared state sees the same thing in every state with `Inv`, and `run_merges`: after any merge of the threads' step
  lists each thread's record is what its own program computes and the audit log grew by the threads' own records.
-/
import Relic.Model.Server
namespace Relic.Server

/-- Only `getKey`, `getTs`, `tick` and `healthCheck` write a field that `Inv` reads.  The cache clause survives a miss
    because the entry stored is `w.tokenKey r.key` itself. -/
theorem inv_stepShared (w : World) (r : Req) (l : Local) (st : Step) (s : State) (h : Inv w s) :
    Inv w (stepShared w r l st s) := by
  obtain ⟨hc, ht, hs, hp⟩ := h
  cases st <;> simp only [stepShared] <;> try exact ⟨hc, ht, hs, hp⟩
  case getKey =>
    split
    · exact ⟨hc, ht, hs, hp⟩
    · refine ⟨?_, ht, hs, hp⟩
      intro n e he
      simp only [cacheMiss] at he
      by_cases hx : w.expiry > 0
      · simp only [hx, if_true] at he
        cases hk : w.tokenKey r.key with
        | none => rw [hk] at he; exact hc n e he
        | some k =>
          rw [hk] at he
          by_cases hn : n = r.key
          · subst hn
            simp [upd] at he
            subst he
            exact hk
          · simp only [upd_other _ _ _ _ hn] at he
            exact hc n e he
      · simp only [hx, if_false] at he
        exact hc n e he
  case getTs =>
    split
    · refine ⟨hc, ?_, hs, hp⟩
      intro t h
      simp only at h
      split at h
      · rename_i t' ht'
        cases h
        exact ht _ ht'
      · exact h
    · exact ⟨hc, ht, hs, hp⟩
  case tick => exact ⟨hc, ht, hs, by simp only; omega⟩
  case healthCheck ok =>
    refine ⟨hc, ht, ?_, by simp⟩
    simp only
    split <;> omega

theorem view_canon (w : World) (r : Req) (st : Step) (s : State) (h : Inv w s) (hd : stateDep st = false) :
    view w r st s = canon w r st := by
  obtain ⟨hc, ht, _, _⟩ := h
  cases st <;> simp [stateDep] at hd <;> simp only [view, canon]
  case getKey =>
    congr 1
    split
    · rename_i k hk
      simp only [cachedKey] at hk
      split at hk
      · rename_i e he
        split at hk
        · cases hk
          exact (hc _ _ he).symm
        · cases hk
      · cases hk
    · rfl
  case getTs =>
    congr 1
    split
    · rename_i t h
      exact (ht _ h).symm
    · rfl

theorem view_dep (w : World) (r : Req) (st : Step) (s : State) (hd : stateDep st = true) :
    view w r st s = .flag (observe w st s) := by
  cases st <;> simp [stateDep] at hd <;> simp [view, observe]

theorem stepShared_audit (w : World) (r : Req) (l : Local) (st : Step) (s : State) :
    (stepShared w r l st s).audit = s.audit ++ (if st = .audit then l.info.toList else []) := by
  cases st <;> simp [stepShared]
  case getKey => split <;> rfl
  case getTs => split <;> rfl

theorem exec_audit (w : World) (r : Req) (st : Step) (s : State) (l : Local) :
    (exec w r st s l).1.audit = s.audit ++ emit st l := by
  simp only [exec, emit]
  cases hs : skip st l
  · by_cases ha : st = .audit <;> simp [ha, stepShared_audit]
  · simp

theorem stepShared_shutdown (w : World) (r : Req) (l : Local) (st : Step) (s : State) :
    (stepShared w r l st s).shutdown = (s.shutdown || decide (st = .shutdown)) := by
  cases st <;> simp [stepShared]
  case getKey => split <;> rfl
  case getTs => split <;> rfl

theorem inv_exec (w : World) (r : Req) (st : Step) (s : State) (l : Local) (h : Inv w s) :
    Inv w (exec w r st s l).1 := by
  simp only [exec]
  split
  · exact h
  · exact inv_stepShared w r l st s h

theorem exec_shutdown (w : World) (r : Req) (st : Step) (s : State) (l : Local) (hne : st ≠ .shutdown) :
    (exec w r st s l).1.shutdown = s.shutdown := by
  simp only [exec]
  split
  · rfl
  · simp [stepShared_shutdown, hne]

theorem exec_shutdown_mono (w : World) (r : Req) (st : Step) (s : State) (l : Local) (h : s.shutdown = true) :
    (exec w r st s l).1.shutdown = true := by
  simp only [exec]
  split
  · exact h
  · simp [stepShared_shutdown, h]

theorem sumTo_congr (n : Nat) (f g : Nat → Nat) (h : ∀ i, i < n → f i = g i) : sumTo n f = sumTo n g := by
  induction n with
  | zero => rfl
  | succ n ih => simp only [sumTo]; rw [ih (fun i hi => h i (by omega)), h n (by omega)]

theorem sumTo_change (n : Nat) (f g : Nat → Nat) (j a : Nat) (hj : j < n)
    (hne : ∀ i, i ≠ j → f i = g i) (hj' : f j = a + g j) : sumTo n f = a + sumTo n g := by
  induction n with
  | zero => omega
  | succ n ih =>
    simp only [sumTo]
    by_cases h : j = n
    · subst h
      have := sumTo_congr j f g (fun i hi => hne i (by omega))
      omega
    · have := ih (by omega)
      rw [this, hne n (fun h' => h h'.symm)]
      omega

theorem sumTo_zero (n : Nat) (f : Nat → Nat) (h : ∀ i, i < n → f i = 0) : sumTo n f = 0 := by
  induction n with
  | zero => rfl
  | succ n ih => simp only [sumTo]; rw [ih (fun i hi => h i (by omega)), h n (by omega)]

theorem count_flatMap_range {α : Type} [BEq α] [LawfulBEq α] (n : Nat) (f : Nat → List α) (x : α) :
    ((List.range n).flatMap f).count x = sumTo n (fun i => (f i).count x) := by
  induction n with
  | zero => simp [sumTo]
  | succ n ih => simp [List.range_succ, List.flatMap_append, List.count_append, sumTo, ih]

/-- `obs` lists one observation per state-dependent step of `rest`, each made in some state
    satisfying `P` -/
def Justified (P : State → Prop) (w : World) : List Step → List Bool → Prop
  | [], obs => obs = []
  | st :: rest, obs =>
    if stateDep st then ∃ b obs', obs = b :: obs' ∧ (∃ s', P s' ∧ observe w st s' = b) ∧ Justified P w rest obs'
    else Justified P w rest obs

theorem Justified.mono {P R : State → Prop} {w : World} (h : ∀ s, P s → R s) :
    ∀ (steps : List Step) (obs : List Bool), Justified P w steps obs → Justified R w steps obs
  | [], _, hJ => hJ
  | st :: rest, obs, hJ => by
    simp only [Justified] at hJ ⊢
    split
    · rename_i hd
      rw [if_pos hd] at hJ
      obtain ⟨b, obs', e, ⟨s', hs', hb⟩, hr⟩ := hJ
      exact ⟨b, obs', e, ⟨s', h _ hs', hb⟩, Justified.mono h rest obs' hr⟩
    · rename_i hd
      rw [if_neg hd] at hJ
      exact Justified.mono h rest obs hJ

theorem Justified.append {P : State → Prop} {w : World} {b : List Step} {o2 : List Bool} (hb : Justified P w b o2) :
    ∀ (a : List Step) (o1 : List Bool), Justified P w a o1 → Justified P w (a ++ b) (o1 ++ o2)
  | [], o1, h1 => by
    simp only [Justified] at h1
    subst h1
    exact hb
  | st :: a, o1, h1 => by
    simp only [Justified, List.cons_append] at h1 ⊢
    split
    · rename_i hd
      rw [if_pos hd] at h1
      obtain ⟨x, o', rfl, hs, hr⟩ := h1
      exact ⟨x, o' ++ o2, rfl, hs, Justified.append hb a o' hr⟩
    · rename_i hd
      rw [if_neg hd] at h1
      exact Justified.append hb a o1 h1

/-- what a thread's own run has to be told about the state a step ran in: one observation if the step is
    state-dependent, nothing otherwise -/
def obsAt (w : World) (st : Step) (s : State) : List Bool := if stateDep st then [observe w st s] else []

theorem nextView_obsAt (w : World) (r : Req) (st : Step) (s : State) (hinv : Inv w s) (obs : List Bool) :
    nextView w r st (obsAt w st s ++ obs) = (view w r st s, obs) := by
  cases hd : stateDep st
  · simp [nextView, obsAt, hd, view_canon w r st s hinv hd]
  · simp [nextView, obsAt, hd, view_dep w r st s hd]

theorem localRun_step (w : World) (r : Req) (st : Step) (rest : List Step) (s : State) (hinv : Inv w s) (obs : List Bool)
    (l : Local) : localRun w r (obsAt w st s ++ obs) (st :: rest) l = localRun w r obs rest (exec w r st s l).2 := by
  simp only [localRun, nextView_obsAt w r st s hinv, exec]

theorem auditOf_step (w : World) (r : Req) (st : Step) (rest : List Step) (s : State) (hinv : Inv w s) (obs : List Bool)
    (l : Local) :
    auditOf w r (obsAt w st s ++ obs) (st :: rest) l = emit st l ++ auditOf w r obs rest (exec w r st s l).2 := by
  simp only [auditOf, nextView_obsAt w r st s hinv, exec]

theorem justified_step (P : State → Prop) (w : World) (st : Step) (rest : List Step) (s : State) (hP : P s) (obs : List Bool)
    (h : Justified P w rest obs) : Justified P w (st :: rest) (obsAt w st s ++ obs) := by
  simp only [Justified, obsAt]
  cases stateDep st
  · exact h
  · exact ⟨_, _, rfl, ⟨s, hP, rfl⟩, h⟩

theorem run_nil (w : World) (reqs : Nat → Req) (c : Cfg) : run w reqs c [] = c := rfl

theorem run_cons (w : World) (reqs : Nat → Req) (c : Cfg) (e : Event) (σ : List Event) :
    run w reqs c (e :: σ) = run w reqs (execEv w reqs c e) σ := rfl

theorem run_append (w : World) (reqs : Nat → Req) (c : Cfg) (σ₁ σ₂ : List Event) :
    run w reqs c (σ₁ ++ σ₂) = run w reqs (run w reqs c σ₁) σ₂ := by
  simp [run, List.foldl_append]

/-- `P ⊆ Inv` is a predicate on the shared state closed under the steps of class `A`, the steps the threads may contain
    (isolation and the first phase of `shutdown_drains`: `≠ .shutdown` with `P` = "`Inv`, not shutting down"; the second phase:
    every step, with `P` = "`Inv`, shutting down"); `N` bounds the thread ids (the audit count is a sum over the threads
    below `N`). -/
theorem run_merges (w : World) (reqs : Nat → Req) (P : State → Prop) (A : Step → Prop) (N : Nat)
    (hPI : ∀ s, P s → Inv w s)
    (hP : ∀ s r st l, A st → P s → P (exec w r st s l).1)
    {ls : Nat → List Step} {σ : List Event} (hm : Merges ls σ) :
    ∀ c : Cfg, P c.shared → (∀ i st, st ∈ ls i → A st) → (∀ i, N ≤ i → ls i = []) →
      P (run w reqs c σ).shared ∧
      ∃ obs : Nat → List Bool,
        (∀ i, Justified P w (ls i) (obs i) ∧
              (run w reqs c σ).locals i = localRun w (reqs i) (obs i) (ls i) (c.locals i)) ∧
        ∀ x, (run w reqs c σ).shared.audit.count x =
             c.shared.audit.count x + sumTo N (fun i => (auditOf w (reqs i) (obs i) (ls i) (c.locals i)).count x) := by
  induction hm with
  | @done ls hnil =>
    intro c hPc _ _
    refine ⟨hPc, fun _ => [], fun i => by rw [hnil i]; exact ⟨rfl, rfl⟩, fun x => ?_⟩
    rw [run_nil, sumTo_zero _ _ fun i _ => by rw [hnil i]; rfl]
    rfl
  | @pick ls σ j st rest hj hm' ih =>
    intro c hPc hA hN
    have hjN : j < N := Nat.lt_of_not_le fun h => by have := hN j h; rw [hj] at this; cases this
    -- the configuration after the step: thread `j`'s record moved, the others' did not
    obtain ⟨hPfin, obs1, hloc, haud⟩ := ih (execEv w reqs c (j, st))
      (hP _ _ _ _ (hA j st (by rw [hj]; exact List.mem_cons_self)) hPc)
      (fun i st' hmem => hA i st' (by
        by_cases hi : i = j
        · subst hi; rw [upd_same] at hmem; rw [hj]; exact List.mem_cons_of_mem _ hmem
        · rwa [upd_other _ _ _ _ hi] at hmem))
      (fun i hi => by rw [upd_other _ _ _ _ (show i ≠ j by omega)]; exact hN i hi)
    have hinv := hPI _ hPc
    have hcj : (execEv w reqs c (j, st)).locals j = (exec w (reqs j) st c.shared (c.locals j)).2 := upd_same ..
    have hco : ∀ i, i ≠ j → (execEv w reqs c (j, st)).locals i = c.locals i := fun i hi => upd_other _ _ _ _ hi
    refine ⟨hPfin, upd obs1 j (obsAt w st c.shared ++ obs1 j), fun i => ?_, fun x => ?_⟩
    · obtain ⟨hJ, hL⟩ := hloc i
      by_cases hi : i = j
      · subst hi
        rw [upd_same] at hJ hL
        rw [upd_same, hj, localRun_step w _ st rest _ hinv, ← hcj]
        exact ⟨justified_step P w st rest _ hPc _ hJ, hL⟩
      · rw [upd_other _ _ _ _ hi] at hJ hL
        rw [upd_other _ _ _ _ hi, ← hco i hi]
        exact ⟨hJ, hL⟩
    · rw [run_cons, haud x, show (execEv w reqs c (j, st)).shared.audit = c.shared.audit ++ emit st (c.locals j) from
        exec_audit .., List.count_append,
        sumTo_change N (fun i => (auditOf w (reqs i) (upd obs1 j (obsAt w st c.shared ++ obs1 j) i) (ls i) (c.locals i)).count x)
          (fun i => (auditOf w (reqs i) (obs1 i) (upd ls j rest i) ((execEv w reqs c (j, st)).locals i)).count x)
          j ((emit st (c.locals j)).count x) hjN
          (fun i hi => by simp only [upd_other _ _ _ _ hi, hco i hi])
          (by simp only [upd_same, hj, auditOf_step w _ st rest _ hinv, List.count_append, hcj])]
      omega

end Relic.Server
