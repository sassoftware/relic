/-
  Part names and content types on which the Reference URI round trip of `checkManifest` is the identity.  `CleanName`:
  every element before the last is one `path.Clean` leaves alone, no element has a `?`; the syntactic class `SimpleName`
  (slash-separated segments that are non-empty, not `.` or `..`, without `?`) is a special case.  Content types: no `..`
  segment after the first slash (`CtOk`).  The converse: a name the mapping gives back behind one content type is a
  `CleanName`, hence comes back behind every `CtOk` one.
-/
import Relic.Proofs.Vsix
import Relic.Proofs.Delim
namespace Relic.Vsix

/-- a path segment `path.Clean` keeps, and that cannot be mistaken for the start of the query -/
def normalSeg (s : Bytes) : Prop := s ≠ [] ∧ s ≠ [46] ∧ s ≠ [46, 46] ∧ 47 ∉ s ∧ 63 ∉ s

instance (s : Bytes) : Decidable (normalSeg s) := by unfold normalSeg; infer_instance

theorem splitOnSlash_ne_nil (b : Bytes) : Jar.splitOnSlash b ≠ [] := by
  fun_induction Jar.splitOnSlash b <;> simp_all

/-- a slash-free prefix joins the first segment of what follows -/
theorem splitOnSlash_append_noslash : ∀ (a b : Bytes), 47 ∉ a →
    Jar.splitOnSlash (a ++ b) = (a ++ (Jar.splitOnSlash b).headD []) :: (Jar.splitOnSlash b).tail
  | [], b, _ => by
    simp only [List.nil_append]
    cases h : Jar.splitOnSlash b with
    | nil => exact absurd h (splitOnSlash_ne_nil b)
    | cons x xs => simp
  | c :: a, b, hn => by
    have hc : c ≠ 47 := fun e => hn (by simp [e])
    have ha : 47 ∉ a := fun h => hn (List.mem_cons_of_mem _ h)
    have ih := splitOnSlash_append_noslash a b ha
    simp only [List.cons_append, Jar.splitOnSlash]
    have : (c == 47) = false := by simp [hc]
    rw [this, ih]
    simp

theorem splitOnSlash_slash (a b : Bytes) (hn : 47 ∉ a) : Jar.splitOnSlash (a ++ 47 :: b) = a :: Jar.splitOnSlash b := by
  rw [splitOnSlash_append_noslash a _ hn]
  simp [Jar.splitOnSlash]

theorem joinSlash_cons_ne (p : Bytes) : ∀ (l : List Bytes), l ≠ [] → Jar.joinSlash (p :: l) = p ++ 47 :: Jar.joinSlash l
  | [], h => absurd rfl h
  | _ :: _, _ => by simp [Jar.joinSlash]

/-- all segments but the last are separate; the last one joins what follows -/
theorem splitOnSlash_join : ∀ (pre : List Bytes) (last b : Bytes), (∀ s ∈ pre, 47 ∉ s) → 47 ∉ last →
    Jar.splitOnSlash (Jar.joinSlash (pre ++ [last]) ++ b) =
      pre ++ (last ++ (Jar.splitOnSlash b).headD []) :: (Jar.splitOnSlash b).tail
  | [], last, b, _, hl => by simp [Jar.joinSlash, splitOnSlash_append_noslash last b hl]
  | p :: pre, last, b, hp, hl => by
    have hp0 : 47 ∉ p := hp p List.mem_cons_self
    have ih := splitOnSlash_join pre last b (fun s hs => hp s (List.mem_cons_of_mem _ hs)) hl
    have hj : Jar.joinSlash (p :: (pre ++ [last])) = p ++ 47 :: Jar.joinSlash (pre ++ [last]) :=
      joinSlash_cons_ne p _ (by simp)
    simp only [List.cons_append] at hj ⊢
    rw [hj, List.append_assoc, List.cons_append, splitOnSlash_slash p _ hp0, ih]

theorem joinSlash_snoc_append (pre : List Bytes) (a b : Bytes) :
    Jar.joinSlash (pre ++ [a ++ b]) = Jar.joinSlash (pre ++ [a]) ++ b := by
  induction pre with
  | nil => simp [Jar.joinSlash]
  | cons p pre ih =>
    rw [List.cons_append, List.cons_append, joinSlash_cons_ne p _ (by simp), joinSlash_cons_ne p _ (by simp), ih]
    simp

theorem joinSlash_append_cons : ∀ (xs : List Bytes) (y : Bytes) (ys : List Bytes), xs ≠ [] →
    Jar.joinSlash (xs ++ y :: ys) = Jar.joinSlash xs ++ 47 :: Jar.joinSlash (y :: ys)
  | [], _, _, h => absurd rfl h
  | [x], y, ys, _ => by simp [Jar.joinSlash]
  | x :: x' :: xs, y, ys, _ => by
    have ih := joinSlash_append_cons (x' :: xs) y ys (by simp)
    simp only [List.cons_append] at ih ⊢
    simp only [Jar.joinSlash]
    rw [ih]
    simp

theorem no63_joinSlash (l : List Bytes) (h : ∀ s ∈ l, 63 ∉ s) : 63 ∉ Jar.joinSlash l := by
  fun_induction Jar.joinSlash l <;> simp_all

theorem skipSeg_false {s : Bytes} (h1 : s ≠ []) (h2 : s ≠ [46]) : (s.isEmpty || s == [46]) = false := by
  cases s with
  | nil => exact absurd rfl h1
  | cons a r =>
    simp only [List.isEmpty_cons, Bool.false_or, beq_eq_false_iff_ne, ne_eq]
    exact h2

theorem cleanStack_normal (segs rest st : List Bytes) (h : ∀ s ∈ segs, s ≠ [] ∧ s ≠ [46] ∧ s ≠ [46, 46]) :
    Jar.cleanStack false (segs ++ rest) st = Jar.cleanStack false rest (segs.reverse ++ st) := by
  induction segs generalizing st with
  | nil => rfl
  | cons s segs ih =>
    obtain ⟨h1, h2, h3⟩ := h s List.mem_cons_self
    have e2 : (s == Jar.dotdot) = false := by simp [Jar.dotdot, h3]
    simp [Jar.cleanStack, skipSeg_false h1 h2, e2, ih (s :: st) fun x hx => h x (List.mem_cons_of_mem _ hx)]

/-- segments that survive among the tail of a content type -/
def keptSegs (cs : List Bytes) : List Bytes := cs.filter fun c => !(c.isEmpty || c == [46])

theorem cleanStack_nodotdot : ∀ (cs st : List Bytes), [46, 46] ∉ cs →
    Jar.cleanStack false cs st = (keptSegs cs).reverse ++ st
  | [], st, _ => by simp [Jar.cleanStack, keptSegs]
  | c :: cs, st, h => by
    have hc : c ≠ [46, 46] := fun e => h (by simp [e])
    have hcs : [46, 46] ∉ cs := fun x => h (List.mem_cons_of_mem _ x)
    simp only [Jar.cleanStack]
    by_cases he : (c.isEmpty || c == [46]) = true
    · simp only [he, if_true, cleanStack_nodotdot cs st hcs, keptSegs, List.filter_cons, Bool.not_true, Bool.false_eq_true, if_false]
    · have he' : (c.isEmpty || c == [46]) = false := by simpa using he
      have e2 : (c == Jar.dotdot) = false := by simp [Jar.dotdot, hc]
      simp only [he', e2, Bool.false_eq_true, if_false, cleanStack_nodotdot cs (c :: st) hcs, keptSegs, List.filter_cons,
        Bool.not_false, if_true, List.reverse_cons, List.append_assoc, List.singleton_append]

theorem takeWhile_append_of_not_mem (x y : Bytes) (h : 63 ∉ x) : (x ++ y).takeWhile (· ≠ 63) = x ++ y.takeWhile (· ≠ 63) :=
  List.takeWhile_append_of_pos fun _ ha => decide_eq_true fun e => h (e ▸ ha)

/-- a name made of normal segments; `pre` may be empty -/
def SimpleName (n : Bytes) : Prop := ∃ pre last, (∀ s ∈ pre, normalSeg s) ∧ normalSeg last ∧ n = Jar.joinSlash (pre ++ [last])

/-- no `..` segment after the first slash of the content type -/
def CtOk (ct : Bytes) : Prop := [46, 46] ∉ (Jar.splitOnSlash ct).tail

instance (ct : Bytes) : Decidable (CtOk ct) := by unfold CtOk; infer_instance

/-- `uriPath` without the wrappers: `path.Clean` of the relative string `"./" ++ uri`, cut at the first `?` -/
theorem uriPath_eq (u : Bytes) : uriPath u =
    (if (Jar.joinSlash (Jar.cleanStack false (Jar.splitOnSlash (46 :: 47 :: u)) []).reverse).isEmpty then [46]
     else Jar.joinSlash (Jar.cleanStack false (Jar.splitOnSlash (46 :: 47 :: u)) []).reverse).takeWhile (· ≠ 63) := by
  unfold uriPath pathJoin
  simp only [List.all_cons, List.all_nil, Bool.and_true, joinBuf]
  simp only [ne_eq, not_true_eq_false, if_false, reduceCtorEq, not_false_eq_true, if_true, decide_false, Bool.false_eq_true]
  unfold pathClean Jar.pathClean
  have h47 : ((some (46 : UInt8)) == some 47) = false := by decide
  simp only [List.isEmpty_cons, Bool.false_eq_true, if_false, List.head?_cons, h47]

theorem cleanStack_append (r : Bool) (a b st : List Bytes) :
    Jar.cleanStack r (a ++ b) st = Jar.cleanStack r b (Jar.cleanStack r a st) := by
  fun_induction Jar.cleanStack r a st <;> simp_all [Jar.cleanStack]

/-- a name whose elements before the last are what `path.Clean` leaves alone (ordinary elements, or `..` at the very
    beginning), without `?`; the last element is arbitrary (it may be empty, `.` or `..`) but has no `?` either -/
def CleanName (n : Bytes) : Prop :=
  ∃ pre last, Jar.cleanStack false pre [] = pre.reverse ∧ (∀ s ∈ pre, 47 ∉ s ∧ 63 ∉ s) ∧ 47 ∉ last ∧ 63 ∉ last ∧
    n = Jar.joinSlash (pre ++ [last])

/-- The string `./` ++ URI splits at its slashes into `.`, the empty element, `pre`, the element
    `last ++ "?ContentType=" ++ c0` (`c0` = the content type up to its first slash) and the rest of the content type.
    `Clean` drops the first two, leaves `pre` alone by hypothesis, keeps the glued element because it has at least 13 bytes (so it is never empty, `.` or `..`: this is why `last` may be anything), and
    keeps of the rest what is not empty or `.`; the cut at the first `?` then removes exactly what was glued on. -/
theorem uriPath_clean (n ct : Bytes) (hn : CleanName n) (hc : CtOk ct) : uriPath (47 :: n ++ sQueryCT ++ ct) = n := by
  obtain ⟨pre, last, hpre, hpre2, hl47, hl63, rfl⟩ := hn
  have hq : 47 ∉ sQueryCT := by decide
  have hsq : Jar.splitOnSlash (sQueryCT ++ ct) = (sQueryCT ++ (Jar.splitOnSlash ct).headD []) :: (Jar.splitOnSlash ct).tail :=
    splitOnSlash_append_noslash _ _ hq
  unfold CtOk at hc
  generalize (Jar.splitOnSlash ct).headD [] = c0 at hsq
  generalize (Jar.splitOnSlash ct).tail = ctail at hsq hc
  have hx : (46 :: 47 :: (47 :: Jar.joinSlash (pre ++ [last]) ++ sQueryCT ++ ct)) =
      [46] ++ 47 :: ([] ++ 47 :: (Jar.joinSlash (pre ++ [last]) ++ (sQueryCT ++ ct))) := by simp
  have hsplit : Jar.splitOnSlash (46 :: 47 :: (47 :: Jar.joinSlash (pre ++ [last]) ++ sQueryCT ++ ct)) =
      [46] :: [] :: (pre ++ (last ++ (sQueryCT ++ c0)) :: ctail) := by
    rw [hx, splitOnSlash_slash [46] _ (by decide), splitOnSlash_slash [] _ (by simp),
      splitOnSlash_join pre last _ (fun s hs => (hpre2 s hs).1) hl47, hsq]
    simp
  have hbig : ∀ s ∈ [last ++ (sQueryCT ++ c0)], s ≠ [] ∧ s ≠ [46] ∧ s ≠ [46, 46] := by
    intro s h
    simp only [List.mem_singleton] at h
    subst h
    have hlen : 13 ≤ (last ++ (sQueryCT ++ c0)).length := by simp [sQueryCT]; omega
    refine ⟨?_, ?_, ?_⟩ <;> intro e <;> rw [e] at hlen <;> simp at hlen
  have hstack : Jar.cleanStack false ([46] :: [] :: (pre ++ (last ++ (sQueryCT ++ c0)) :: ctail)) [] =
      (keptSegs ctail).reverse ++ ((pre ++ [last ++ (sQueryCT ++ c0)]).reverse) := by
    have e0 : Jar.cleanStack false ([46] :: [] :: (pre ++ (last ++ (sQueryCT ++ c0)) :: ctail)) [] =
        Jar.cleanStack false (pre ++ ([last ++ (sQueryCT ++ c0)] ++ ctail)) [] := by
      simp [Jar.cleanStack]
    rw [e0, cleanStack_append, hpre, cleanStack_normal _ _ _ hbig, cleanStack_nodotdot _ _ hc]
    simp
  rw [uriPath_eq, hsplit, hstack]
  simp only [List.reverse_append, List.reverse_reverse]
  have hbody : ∃ y, Jar.joinSlash ((pre ++ [last ++ (sQueryCT ++ c0)]) ++ keptSegs ctail) = Jar.joinSlash (pre ++ [last]) ++ 63 :: y := by
    have hsq0 : sQueryCT ++ c0 = 63 :: (sQueryCT.drop 1 ++ c0) := by simp [sQueryCT]
    cases hk : keptSegs ctail with
    | nil =>
      rw [List.append_nil, joinSlash_snoc_append, hsq0]
      exact ⟨_, rfl⟩
    | cons y ys =>
      rw [joinSlash_append_cons _ _ _ (by simp), joinSlash_snoc_append, hsq0]
      exact ⟨(List.drop 1 sQueryCT ++ c0) ++ 47 :: Jar.joinSlash (y :: ys), by simp⟩
  obtain ⟨y, hy⟩ := hbody
  rw [hy]
  have hno : 63 ∉ Jar.joinSlash (pre ++ [last]) := by
    apply no63_joinSlash
    intro s hs
    rcases List.mem_append.mp hs with h | h
    · exact (hpre2 s h).2
    · simp only [List.mem_singleton] at h; subst h; exact hl63
  have hnonempty : (Jar.joinSlash (pre ++ [last]) ++ 63 :: y).isEmpty = false := by simp
  simp only [hnonempty, Bool.false_eq_true, if_false]
  rw [takeWhile_append_of_not_mem _ _ hno]
  simp

theorem uriPath_simple (n ct : Bytes) (hn : SimpleName n) (hc : CtOk ct) : uriPath (47 :: n ++ sQueryCT ++ ct) = n := by
  obtain ⟨pre, last, hpre, hlast, rfl⟩ := hn
  refine uriPath_clean _ ct ⟨pre, last, ?_, fun s hs => ⟨(hpre s hs).2.2.2.1, (hpre s hs).2.2.2.2⟩, hlast.2.2.2.1,
    hlast.2.2.2.2, rfl⟩ hc
  have := cleanStack_normal pre [] [] fun s hs => ⟨(hpre s hs).1, (hpre s hs).2.1, (hpre s hs).2.2.1⟩
  simpa [Jar.cleanStack] using this

/-- a (reversed) element stack `path.Clean` can end with: no empty or `.` element, `..` only at the bottom -/
def okStack : List Bytes → Prop
  | [] => True
  | s :: st => s ≠ [] ∧ s ≠ [46] ∧ (s = Jar.dotdot → ∀ t ∈ st.head?, t = Jar.dotdot) ∧ okStack st

theorem okStack_cleanStack (es st : List Bytes) : okStack st → okStack (Jar.cleanStack false es st) := by
  fun_induction Jar.cleanStack false es st <;> simp_all [okStack, Jar.dotdot]

theorem okStack_suffix : ∀ (a b : List Bytes), okStack (a ++ b) → okStack b
  | [], _, h => h
  | _ :: a, b, h => okStack_suffix a b h.2.2.2

theorem okStack_ne_nil : ∀ (st : List Bytes), okStack st → ∀ s ∈ st, s ≠ []
  | [], _, s, hs => by cases hs
  | x :: st, h, s, hs => by
    rcases List.mem_cons.mp hs with rfl | h'
    · exact h.1
    · exact okStack_ne_nil st h.2.2.2 s h'

theorem cleanStack_okStack (st : List Bytes) (h : okStack st) : Jar.cleanStack false st.reverse [] = st := by
  induction st with
  | nil => rfl
  | cons s st ih =>
    obtain ⟨h1, h2, h3, h4⟩ := h
    rw [List.reverse_cons, cleanStack_append, ih h4]
    by_cases hd : s = Jar.dotdot
    · cases st <;> simp_all [Jar.cleanStack, Jar.dotdot]
    · simp [Jar.cleanStack, skipSeg_false h1 h2, hd]

theorem mem_cleanStack (r : Bool) (es st : List Bytes) (s : Bytes) : s ∈ Jar.cleanStack r es st →
    s ∈ es ∨ s ∈ st ∨ s = Jar.dotdot := by
  fun_induction Jar.cleanStack r es st <;> grind

theorem splitOnSlash_noslash (b : Bytes) : ∀ s ∈ Jar.splitOnSlash b, 47 ∉ s := by
  fun_induction Jar.splitOnSlash b <;> grind

theorem takeWhile_no63 (x : Bytes) : 63 ∉ x.takeWhile (· ≠ 63) :=
  fun h => by simpa using List.all_eq_true.1 List.all_takeWhile _ h

/-- cutting a joined path at its first `?`: a prefix `p` of the elements stays whole, then comes a part `x` of one element (or of
    nothing), and what is kept is `p` and `x` joined -/
theorem cut_joinSlash : ∀ (R : List Bytes), R ≠ [] → ∃ p x q, R = p ++ q ∧ (∀ s ∈ p, 63 ∉ s) ∧ 63 ∉ x ∧
    ((∀ s ∈ R, 47 ∉ s) → 47 ∉ x) ∧ (Jar.joinSlash R).takeWhile (· ≠ 63) = Jar.joinSlash (p ++ [x])
  | [], h => absurd rfl h
  | [a], _ => ⟨[], a.takeWhile (· ≠ 63), [a], rfl, by simp, takeWhile_no63 a,
      fun h hh => h a (by simp) ((List.takeWhile_sublist _).subset hh), by simp [Jar.joinSlash]⟩
  | a :: b :: r, _ => by
    by_cases ha : 63 ∈ a
    · refine ⟨[], a.takeWhile (· ≠ 63), a :: b :: r, rfl, by simp, takeWhile_no63 a,
        fun h hh => h a (by simp) ((List.takeWhile_sublist _).subset hh), ?_⟩
      simp only [Jar.joinSlash, List.nil_append]
      exact takeWhile_append_of_neg ha (by simp) _
    · obtain ⟨p, x, q, h1, h2, h3, h4, h5⟩ := cut_joinSlash (b :: r) (by simp)
      refine ⟨a :: p, x, q, by rw [h1]; rfl, ?_, h3, fun h => h4 (fun s hs => h s (List.mem_cons_of_mem _ hs)), ?_⟩
      · intro s hs
        rcases List.mem_cons.mp hs with rfl | h'
        · exact ha
        · exact h2 s h'
      · have hj : Jar.joinSlash (a :: b :: r) = a ++ 47 :: Jar.joinSlash (b :: r) := by simp [Jar.joinSlash]
        rw [hj, takeWhile_append_of_not_mem _ _ ha]
        have : (47 :: Jar.joinSlash (b :: r)).takeWhile (· ≠ 63) = 47 :: (Jar.joinSlash (b :: r)).takeWhile (· ≠ 63) := by
          simp
        rw [this, h5, List.cons_append, joinSlash_cons_ne a _ (by simp)]

theorem joinSlash_ne_nil : ∀ (a : Bytes) (r : List Bytes), a ≠ [] → Jar.joinSlash (a :: r) ≠ []
  | a, [], h => by simpa [Jar.joinSlash] using h
  | a, b :: r, _ => by simp [Jar.joinSlash]

/-- a name that came back once, behind whatever content type, is a clean name: what `Clean` returns is an `okStack`; the cut at
    the first `?` keeps a prefix of its elements plus part of one (`cut_joinSlash`); a prefix of an `okStack` is one, and `Clean`
    leaves an `okStack` alone (`cleanStack_okStack`) -/
theorem cleanName_of_uriPath (n ct : Bytes) (h : uriPath (47 :: n ++ sQueryCT ++ ct) = n) : CleanName n := by
  rw [uriPath_eq] at h
  have hsegs := splitOnSlash_noslash (46 :: 47 :: (47 :: n ++ sQueryCT ++ ct))
  generalize Jar.splitOnSlash (46 :: 47 :: (47 :: n ++ sQueryCT ++ ct)) = segs at h hsegs
  have hok : okStack (Jar.cleanStack false segs []) := okStack_cleanStack segs [] trivial
  have hns : ∀ s ∈ Jar.cleanStack false segs [], 47 ∉ s := by
    intro s hs
    rcases mem_cleanStack false segs [] s hs with h1 | h1 | h1
    · exact hsegs s h1
    · cases h1
    · rw [h1]; decide
  generalize Jar.cleanStack false segs [] = st at h hok hns
  cases hR : st.reverse with
  | nil =>
    rw [hR] at h
    refine ⟨[], [46], by simp [Jar.cleanStack], by simp, by decide, by decide, ?_⟩
    rw [← h]
    decide
  | cons a r =>
    rw [hR] at h
    have hmem : ∀ s ∈ a :: r, s ∈ st := by intro s hs; rw [← hR] at hs; exact List.mem_reverse.mp hs
    have ha : a ≠ [] := okStack_ne_nil st hok a (hmem a List.mem_cons_self)
    have hne : (Jar.joinSlash (a :: r)).isEmpty = false := List.isEmpty_eq_false_iff.mpr (joinSlash_ne_nil a r ha)
    simp only [hne, Bool.false_eq_true, if_false] at h
    obtain ⟨p, x, q, h1, h2, h3, h4, h5⟩ := cut_joinSlash (a :: r) (by simp)
    have hst : st = q.reverse ++ p.reverse := by
      have : st = (a :: r).reverse := by rw [← hR, List.reverse_reverse]
      rw [this, h1, List.reverse_append]
    have hp : okStack p.reverse := okStack_suffix q.reverse p.reverse (by rw [← hst]; exact hok)
    refine ⟨p, x, ?_, ?_, h4 (fun s hs => hns s (hmem s hs)), h3, ?_⟩
    · have := cleanStack_okStack p.reverse hp
      rwa [List.reverse_reverse] at this
    · intro s hs
      exact ⟨hns s (hmem s (by rw [h1]; exact List.mem_append_left _ hs)), h2 s hs⟩
    · rw [← h, h5]

/-- the repair check does not depend on the content type, as long as the new one has no `..` element -/
theorem uriPath_change_ct (n ct1 ct2 : Bytes) (h : uriPath (47 :: n ++ sQueryCT ++ ct1) = n) (hc : CtOk ct2) :
    uriPath (47 :: n ++ sQueryCT ++ ct2) = n :=
  uriPath_clean n ct2 (cleanName_of_uriPath n ct1 h) hc

end Relic.Vsix
