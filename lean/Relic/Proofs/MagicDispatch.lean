/-
  Relic.Proofs.MagicDispatch — lemmas about the look-ups over the signer table: the two path tests exclude one another;
  the evaluated disjointness facts of `registered`; what a successful look-up or dispatch returns is a member that
  satisfies the test; a path test that one module owns finds it.
-/
import Relic.Model.Magic
import Relic.Proofs.Lists
namespace Relic.Magic

theorem ext_of_dmg (p : Bytes) (h : isSuffix extDmg p = true) : ext p = extDmg := by
  obtain ⟨t, ht⟩ := List.isPrefixOf_iff_prefix.mp h
  rw [ext, ← ht]
  rfl

theorem pathTests_disjoint (p : Bytes) : ¬ (PathTest.dmg.eval p = true ∧ PathTest.ps.eval p = true) := by
  rintro ⟨h1, h2⟩
  simp only [PathTest.eval] at h1 h2
  rw [ext_of_dmg p h1] at h2
  revert h2
  decide

theorem pathTest_unique {p : Bytes} {t t' : PathTest} (h : t.eval p = true) (h' : t'.eval p = true) : t = t' := by
  cases t <;> cases t'
  · rfl
  · exact absurd ⟨h, h'⟩ (pathTests_disjoint p)
  · exact absurd ⟨h', h⟩ (pathTests_disjoint p)
  · rfl

def Signer.keys (s : Signer) : List Bytes := s.name :: s.aliases

theorem answers_iff (s : Signer) (n : Bytes) : s.answers n = true ↔ n ∈ s.keys := by
  simp only [Signer.answers, Signer.keys, Bool.or_eq_true, beq_iff_eq, List.mem_cons, List.contains_eq_mem, decide_eq_true_eq]
  rw [eq_comm]

theorem keys_disjoint : ∀ a ∈ registered, ∀ b ∈ registered, a ≠ b → ∀ k ∈ a.keys, k ∉ b.keys := by decide +kernel

theorem magics_distinct : ∀ a ∈ registered, ∀ b ∈ registered, a.magic = b.magic → a.magic ≠ .unknown → a = b := by
  decide +kernel

theorem testPaths_distinct : ∀ a ∈ registered, ∀ b ∈ registered, a.testPath.isSome → b.testPath.isSome →
    a.testPath = b.testPath → a = b := by
  decide +kernel

theorem byName_self : ∀ m ∈ registered, byName m.name = some m := by decide +kernel

theorem byMagicIn_some {l : List Signer} {t : FileType} {m : Signer} (h : byMagicIn l t = some m) :
    m ∈ l ∧ m.magic = t ∧ t ≠ .unknown := by
  unfold byMagicIn at h
  by_cases ht : t = .unknown
  · rw [if_pos ht] at h
    cases h
  · rw [if_neg ht] at h
    exact ⟨List.mem_of_find?_eq_some h, by simpa using List.find?_some h, ht⟩

theorem byFileNameIn_some {l : List Signer} {p : Bytes} {m : Signer} (h : byFileNameIn l p = some m) :
    m ∈ l ∧ m.testPath.isSome := by
  refine ⟨List.mem_of_find?_eq_some h, ?_⟩
  have hp := List.find?_some h
  cases htp : m.testPath with
  | none => simp [htp] at hp
  | some _ => rfl

/-- the module `verifyOne` settles on: found by its magic, or else by the file name -/
theorem verifyMod_some {l : List Signer} {t : FileType} {name : Bytes} {m : Signer}
    (h : (match byMagicIn l t with | some m => some m | none => byFileNameIn l name) = some m) :
    m ∈ l ∧ ((m.magic = t ∧ t ≠ .unknown) ∨ (byMagicIn l t = none ∧ m.testPath.isSome)) := by
  cases hb : byMagicIn l t with
  | some y =>
    rw [hb] at h
    cases h
    exact ⟨(byMagicIn_some hb).1, Or.inl (byMagicIn_some hb).2⟩
  | none =>
    rw [hb] at h
    exact ⟨(byFileNameIn_some h).1, Or.inr ⟨rfl, (byFileNameIn_some h).2⟩⟩

theorem byFileIn_mem {l : List Signer} {name sigtype bs : Bytes} {zn : Option (List Bytes)} {m : Signer}
    (h : byFileIn l name sigtype bs zn = .ok m) : m ∈ l := by
  revert h
  fun_cases byFileIn l name sigtype bs zn
  case case2 x | case6 x =>
    intro h
    cases h
    exact List.mem_of_find?_eq_some x
  case case5 x =>
    intro h
    cases h
    exact (byMagicIn_some x).1
  all_goals nofun

theorem signDispatchIn_ok {l : List Signer} {name sigtype bs : Bytes} {zn : Option (List Bytes)} {m : Signer}
    (h : signDispatchIn l name sigtype bs zn = .ok m) : byFileIn l name sigtype bs zn = .ok m ∧ m.hasSign = true := by
  revert h
  fun_cases signDispatchIn l name sigtype bs zn
  case case2 x hs =>
    intro h
    cases h
    exact ⟨x, hs⟩
  all_goals nofun

theorem byFileName_of_test {name : Bytes} {t : PathTest} {s : Signer} (hs : s ∈ registered) (hst : s.testPath = some t)
    (hu : ∀ a ∈ registered, a.testPath = some t → a = s) (h : t.eval name = true) :
    byFileNameIn registered name = some s := by
  unfold byFileNameIn
  apply find?_eq_some_of_unique _ hs (by simp [hst, h])
  intro a ha pa
  cases hta : a.testPath with
  | none => simp [hta] at pa
  | some t' =>
    simp only [hta] at pa
    exact hu a ha (by rw [hta, pathTest_unique pa h])

end Relic.Magic
