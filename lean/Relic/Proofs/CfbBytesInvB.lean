/-
  Soundness of the executable invariant: `invB b = true → Inv b`.
-/
import Relic.Proofs.CfbBytesInv
namespace Relic.CfbB
open Relic.CfbW

/-- The first conjunct says more than validity: a listed chain is away from `used`.  Since the chain of the head is
    appended to `used` before the rest is checked, this is what gives the second conjunct for the head and any later
    entry. -/
theorem checkFam_sound (tbl : List Int) (hs : List (Option Int)) (used : List Nat) (hc : checkFam tbl hs used = true) :
    (∀ (i : Nat) (h : Int), hs[i]? = some (some h) → ∃ l, chain tbl h = some l ∧ ∀ x ∈ l, x ∉ used) ∧
    (∀ (i j : Nat) (h1 h2 : Int) (l1 l2 : List Nat), i < j → hs[i]? = some (some h1) → hs[j]? = some (some h2) →
      chain tbl h1 = some l1 → chain tbl h2 = some l2 → ∀ x ∈ l1, x ∉ l2) := by
  revert hc
  fun_induction checkFam tbl hs used
  case case1 =>
    intro _
    exact ⟨fun i h hi => by simp at hi, fun i j _ _ _ _ _ hi => by simp at hi⟩
  case case2 rest used ih =>
    intro hc
    obtain ⟨r1, r2⟩ := ih hc
    refine ⟨?_, ?_⟩
    · intro i h hi
      cases i with
      | zero => simp at hi
      | succ i => exact r1 i h (by simpa using hi)
    · intro i j h1 h2 l1 l2 hlt hi hj c1 c2
      cases i with
      | zero => simp at hi
      | succ i =>
        obtain ⟨j, rfl⟩ := Nat.exists_eq_add_of_lt hlt
        rw [show i + 1 + j + 1 = (i + j + 1) + 1 by omega, List.getElem?_cons_succ] at hj
        exact r2 i (i + j + 1) h1 h2 l1 l2 (by omega) (by simpa using hi) hj c1 c2
  case case3 h0 rest used _ =>
    intro hc
    cases hc
  case case4 h0 rest used l0 hl0 ih =>
    intro hc
    simp only [Bool.and_eq_true, Bool.not_eq_true', List.any_eq_false, List.contains_eq_mem, decide_eq_true_eq] at hc
    obtain ⟨hfresh, hrest⟩ := hc
    obtain ⟨r1, r2⟩ := ih hrest
    refine ⟨?_, ?_⟩
    · intro i h hi
      cases i with
      | zero =>
        simp only [List.getElem?_cons_zero, Option.some.injEq] at hi
        subst hi
        exact ⟨l0, hl0, fun x hx => by simpa using hfresh x hx⟩
      | succ i =>
        obtain ⟨l, hl, hd⟩ := r1 i h (by simpa using hi)
        exact ⟨l, hl, fun x hx hu => hd x hx (List.mem_append_left _ hu)⟩
    · intro i j h1 h2 l1 l2 hlt hi hj c1 c2
      obtain ⟨j, rfl⟩ := Nat.exists_eq_add_of_lt hlt
      cases i with
      | zero =>
        simp only [List.getElem?_cons_zero, Option.some.injEq] at hi
        subst hi
        rw [hl0] at c1; cases c1
        obtain ⟨l, hl, hd⟩ := r1 j h2 (by simpa [Nat.add_assoc] using hj)
        rw [c2] at hl; cases hl
        intro x hx hx2
        exact hd x hx2 (List.mem_append_right _ hx)
      | succ i =>
        rw [show i + 1 + j + 1 = (i + j + 1) + 1 by omega, List.getElem?_cons_succ] at hj
        exact r2 i (i + j + 1) h1 h2 l1 l2 (by omega) (by simpa using hi) hj c1 c2

/-- position of an owner in `satHeadList` -/
def tagIdx : Tag → Nat
  | .cont => 0 | .dir => 1 | .ssat => 2 | .slot i => 3 + i

theorem tagIdx_inj {t1 t2 : Tag} (h : tagIdx t1 = tagIdx t2) : t1 = t2 := by
  cases t1 <;> cases t2 <;> simp [tagIdx] at h <;> first | rfl | omega | (subst h; rfl)

theorem satHeads_eq_list (st : St) (t : Tag) :
    satHeads st.a.rootStart st.dirStart st.ssatStart st.cutoff st.files t = ((satHeadList st)[tagIdx t]?).join := by
  cases t with
  | cont => simp [satHeads, satHeadList, tagIdx]
  | dir => simp [satHeads, satHeadList, tagIdx]
  | ssat => simp [satHeads, satHeadList, tagIdx]
  | slot i =>
    simp only [satHeads, satHeadList, tagIdx]
    rw [List.getElem?_append_right (by simp)]
    simp only [List.length_cons, List.length_nil, Nat.zero_add, Nat.add_sub_cancel_left, List.getElem?_map]
    cases st.files[i]? <;> simp

theorem miniHeads_eq_list (st : St) (i : Nat) :
    miniHeads st.cutoff st.files i = ((miniHeadList st)[i]?).join := by
  simp only [miniHeads, miniHeadList, List.getElem?_map]
  cases st.files[i]? <;> simp

theorem famOK_of_check {τ : Type} {tbl : List Int} {hs : List (Option Int)} (idx : τ → Nat)
    (hinj : ∀ t1 t2, idx t1 = idx t2 → t1 = t2) (H : τ → Option Int) (hH : ∀ t, H t = ((hs[idx t]?).join))
    (hc : checkFam tbl hs [] = true) : FamOK tbl H := by
  obtain ⟨r1, r2⟩ := checkFam_sound tbl hs [] hc
  have conv : ∀ t h, H t = some h → hs[idx t]? = some (some h) := by
    intro t h ht
    rw [hH] at ht
    cases hx : hs[idx t]? with
    | none => rw [hx] at ht; simp at ht
    | some o => rw [hx] at ht; simp at ht; rw [ht]
  refine ⟨?_, ?_⟩
  · intro t h ht
    obtain ⟨l, hl, _⟩ := r1 _ h (conv t h ht)
    exact ⟨l, hl⟩
  · intro t1 t2 h1 h2 l1 l2 hne e1 e2 c1 c2
    rcases Nat.lt_or_gt_of_ne (fun e => hne (hinj _ _ e)) with hlt | hgt
    · exact r2 _ _ h1 h2 l1 l2 hlt (conv _ _ e1) (conv _ _ e2) c1 c2
    · exact fun x hx1 hx2 => r2 _ _ h2 h1 l2 l1 hgt (conv _ _ e2) (conv _ _ e1) c2 c1 x hx2 hx1

theorem invB_sound (b : BSt) (h : invB b = true) : Inv b := by
  unfold invB at h
  simp only [Bool.and_eq_true, decide_eq_true_eq, List.all_eq_true] at h
  obtain ⟨⟨⟨⟨⟨⟨⟨⟨⟨⟨⟨⟨c1, c2⟩, c3⟩, c4⟩, c5⟩, c6⟩, c7⟩, c8⟩, c9⟩, c10⟩, c11⟩, c12⟩, c13⟩ := h
  have big := famOK_of_check tagIdx (fun _ _ => tagIdx_inj)
    (satHeads b.st.a.rootStart b.st.dirStart b.st.ssatStart b.st.cutoff b.st.files) (satHeads_eq_list b.st) c1
  have mini := famOK_of_check (fun (i : Nat) => i) (fun _ _ e => e) (miniHeads b.st.cutoff b.st.files)
    (miniHeads_eq_list b.st) c2
  refine ⟨⟨big, mini, ?_, ?_⟩, ⟨c6, c7, fun s hs => by simpa using c8 s hs⟩, c9,
    ⟨b.st.a.ss / b.st.a.sss, ?_⟩, c10, c12, c4, c13⟩
  · intro s hs
    obtain ⟨p, q⟩ := c3 s hs
    split at q
    · rename_i v hv
      exact ⟨p, v, hv, by simpa using q⟩
    · cases q
  · intro i hh l hi hl
    split at c5
    · cases c5
    · rename_i C hC
      simp only [List.all_eq_true] at c5
      refine ⟨C, contChain_iff.mp hC, ?_⟩
      simp only [miniHeads] at hi
      cases hs : b.st.files[i]? with
      | none => rw [hs] at hi; simp at hi
      | some sl =>
        rw [hs] at hi
        simp only [Option.bind_some] at hi
        have := c5 sl (List.mem_of_getElem? hs)
        rw [hi] at this
        simp only [hl, List.all_eq_true, decide_eq_true_eq] at this
        exact this
  · have := Nat.div_add_mod b.st.a.ss b.st.a.sss
    rw [c11] at this
    rw [Nat.mul_comm]; omega

end Relic.CfbB
