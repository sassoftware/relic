/-
  Relic.Proofs.ReaderPE — the reader program `digestPE pg`, run on a whole file, is the whole-buffer model
  `Relic.PE.DigestPE` (sizes, markers, bytes hashed) and, with page hashes, `Relic.PE.pageHashInputs`.
-/
import Relic.Proofs.ReaderFlat
import Relic.Proofs.PEPages
namespace Relic.Rd
open Relic.PE (seg seg_append seg_self seg_seg u16 u32 u32_seg u16_seg seg_take seg_drop Section rawSections fixSections gapOf pageChunks
  pageChunks_zero pageChunks_pos readSectionData readHeaders Headers mChunks mPage mLast
  readSectionData_bounds readSectionData_ne_crash optVariant_eq_some DigestPE pageHashInputs)

/-- `h.lastPage` after the chunks `cs` (unchanged when there are none) -/
def lastOf (cs : List (Nat × Nat × Nat)) (dflt : Nat) : Nat :=
  match cs.getLast? with
  | some (pos, _, n) => (pos + n) % 2 ^ 32
  | none => dflt

theorem lastOf_nil (d : Nat) : lastOf [] d = d := rfl

theorem lastOf_append (a b : List (Nat × Nat × Nat)) (d : Nat) : lastOf (a ++ b) d = lastOf b (lastOf a d) := by
  unfold lastOf
  cases hb : b.getLast? with
  | some x =>
    have : (a ++ b).getLast? = some x := by
      rw [List.getLast?_append, hb]; rfl
    rw [this]
  | none =>
    have hbn : b = [] := List.getLast?_eq_none_iff.mp hb
    subst hbn
    simp

theorem lastOf_cons (c : Nat × Nat × Nat) (r : List (Nat × Nat × Nat)) (d : Nat) :
    lastOf (c :: r) d = lastOf r ((c.1 + c.2.2) % 2 ^ 32) :=
  lastOf_append [c] r d

theorem obs_pageLoop {α} (f : Bytes) (ps fuel pos phys rem : Nat) (acc : List (Nat × Bytes)) (last : Nat)
    (k : List (Nat × Bytes) → Nat → Prog α) (hps : 0 < ps) (hfuel : rem ≤ fuel) (hphys : phys ≤ f.length) :
    obs (runFlat (pageLoop ps fuel pos rem acc last k) (at_ f phys)) =
      if f.length < phys + rem then .err "eof"
      else
        pre hashSink (seg f phys (phys + rem))
          (obs (runFlat (k (acc ++ (pageChunks ps pos phys rem).map (mPage ps f)) (lastOf (pageChunks ps pos phys rem) last))
            (at_ f (phys + rem)))) := by
  induction fuel generalizing pos phys rem acc last with
  | zero =>
    have : rem = 0 := by omega
    subst this
    rw [pageLoop, Nat.add_zero, if_neg (by omega), pageChunks_zero, List.map_nil, List.append_nil, lastOf_nil, seg_self,
      pre_nil]
  | succ fuel ih =>
    rw [pageLoop]
    by_cases hr : 0 < rem
    · rw [if_pos ⟨hps, hr⟩]
      generalize hn : (if rem > ps then ps else rem) = n
      have hn1 : 0 < n ∧ n ≤ rem := by
        rw [← hn]
        split <;> omega
      rw [obs_readFullE f phys n _ hphys]
      by_cases h1 : f.length < phys + n
      · rw [if_pos h1, if_pos (by omega)]
      rw [if_neg h1, obs_emit, ih (pos + n) (phys + n) (rem - n) _ _ (by omega) (by omega),
        show phys + n + (rem - n) = phys + rem by omega]
      by_cases h2 : f.length < phys + rem
      · rw [if_pos h2, if_pos h2]
        rfl
      rw [if_neg h2, if_neg h2, pre_pre_same, seg_append f phys (phys + n) (phys + rem) (by omega) (by omega),
        pageChunks_pos ps pos phys rem hps hr, hn]
      simp only [List.map_cons, lastOf_cons, List.append_assoc, List.singleton_append]
      rw [Nat.mod_add_mod]
      rfl
    · have hr0 : rem = 0 := by omega
      subst hr0
      rw [if_neg (by omega), Nat.add_zero, if_neg (by omega), pageChunks_zero, List.map_nil, List.append_nil, lastOf_nil,
        seg_self, pre_nil]

theorem obs_peSections {α} (f : Bytes) (pg : Bool) (ps : Nat) (ss : List Section) (i cur next : Nat)
    (acc : List (Nat × Bytes)) (last : Nat) (k : Nat → List (Nat × Bytes) → Nat → Prog α)
    (hps : 0 < ps) (hcur : cur ≤ f.length) :
    obs (runFlat (peSections pg ps ss next acc last k) (at_ f cur)) =
      match readSectionData f.length ss i cur next with
      | .ok (c, n, ex) =>
        pre hashSink (seg f cur c)
          (obs (runFlat (k n (if pg then acc ++ (mChunks ps ex).map (mPage ps f) else acc)
              (if pg then lastOf (mChunks ps ex) last else last)) (at_ f c)))
      | .err e => .err e
      | .panic p => .panic p
      | .diverge => .diverge := by
  induction ss generalizing i cur next acc last with
  | nil =>
    simp only [peSections, readSectionData, mChunks, List.flatMap_nil, List.map_nil, List.append_nil, lastOf_nil,
      seg_self, pre_nil, ite_self]
  | cons s rest ih =>
    simp only [peSections, readSectionData]
    by_cases h0 : s.size = 0
    · rw [if_pos h0, if_pos h0]
      exact ih (i + 1) cur next acc last hcur
    · rw [if_neg h0, if_neg h0]
      by_cases h1 : s.ptr ≠ next
      · rw [if_pos h1, if_pos h1]; rfl
      · rw [if_neg h1, if_neg h1]
        -- with or without page hashes the bytes of the section go to the hash; only the page table differs
        have step : obs (runFlat (if pg = true then
                pageLoop ps s.size s.ptr s.size acc last fun acc' last' => peSections pg ps rest (next + s.size) acc' last' k
              else copyNTo hashSink (s.size : Int) schedCopy fun _ => peSections pg ps rest (next + s.size) acc last k)
              (at_ f cur)) =
            if f.length < cur + s.size then .err "eof"
            else
              pre hashSink (seg f cur (cur + s.size))
                (obs (runFlat (peSections pg ps rest (next + s.size)
                  (if pg then acc ++ (pageChunks ps s.ptr cur s.size).map (mPage ps f) else acc)
                  (if pg then lastOf (pageChunks ps s.ptr cur s.size) last else last) k) (at_ f (cur + s.size)))) := by
          cases pg with
          | true => exact obs_pageLoop f ps s.size s.ptr cur s.size acc last _ hps (Nat.le_refl _) hcur
          | false => exact obs_copyNTo f cur s.size _ _ _ hcur
        rw [step]
        by_cases h2 : f.length < cur + s.size
        · rw [if_pos h2, if_pos h2]
        · rw [if_neg h2, if_neg h2, ih (i + 1) (cur + s.size) (next + s.size) _ _ (by omega)]
          cases hr : readSectionData f.length rest (i + 1) (cur + s.size) (next + s.size) with
          | ok v =>
            obtain ⟨c, n, ex⟩ := v
            have hm := (readSectionData_bounds _ _ _ _ _ _ _ _ (by omega) hr).1
            simp only
            rw [pre_pre_same, seg_append f cur (cur + s.size) c (by omega) hm]
            cases pg with
            | false => rfl
            | true =>
              simp only [↓reduceIte, mChunks, List.flatMap_cons, List.map_append, List.append_assoc, lastOf_append]
          | err e => rfl
          | panic p => rfl
          | diverge => rfl

theorem rawSections_seg (f : Bytes) (a b t n : Nat) (h : t + 40 * n ≤ b - a) :
    rawSections (seg f a b) t n = rawSections f (a + t) n := by
  induction n generalizing t with
  | zero => rfl
  | succ n ih =>
    simp only [rawSections]
    rw [u32_seg f a b (t + 20) (by omega), u32_seg f a b (t + 16) (by omega), ih (t + 40) (by omega)]
    simp only [Nat.add_assoc]

theorem fixSections_panic (secTblEnd fa : Nat) (ss : List Section) (soh : Nat) (p : String)
    (h : fixSections secTblEnd fa ss soh = .panic p) : p = "align32:divide-by-zero" := by
  fun_induction fixSections secTblEnd fa ss soh
  case case4 | case11 =>
    rename_i x ih
    cases h
    exact ih x
  case case8 =>
    cases h
    rfl
  all_goals cases h

/-- the repaired code returns these errors where the model of the original code records a panic.  The catch-all is sound
    because the only other panic the model can record before the trailer is `align32`'s division by zero
    (`fixSections_panic`; `readSectionData` records none: `PE.readSectionData_ne_crash`). -/
def guardP (p : String) : String := if p = "readOptHeader:buf[:2]" then "eof" else "filealign-zero"

theorem optVariant_bounds {m need nrva dd4 : Nat}
    (h : (if m = 0x10b then some ((224 : Nat), (92 : Nat), (128 : Nat)) else if m = 0x20b then some (240, 108, 144) else none) =
      some (need, nrva, dd4)) : nrva + 4 ≤ need ∧ dd4 + 8 ≤ need ∧ 64 ≤ need ∧ 68 ≤ dd4 := by
  rcases optVariant_eq_some.1 h with ⟨_, rfl, rfl, rfl⟩ | ⟨_, rfl, rfl, rfl⟩ <;> decide

/-- the header bytes that go to the image hash, read piece by piece (`t` = end of the section table, `e` = end of the
    headers), are the file's up to `e` without the checksum and the certificate-table entry -/
theorem hashed_eq (f : Bytes) (c0 S dd4 t e : Nat) (h0 : 64 ≤ c0) (hd : 68 ≤ dd4) (hdS : dd4 + 8 ≤ S)
    (hS : c0 + 24 + S ≤ t) (ht : t ≤ e) :
    seg f 0 64 ++ seg f 64 c0 ++ seg f c0 (c0 + 4) ++ seg f (c0 + 4) (c0 + 24) ++
        ((seg f (c0 + 24) (c0 + 24 + S)).take 64 ++ seg (seg f (c0 + 24) (c0 + 24 + S)) 68 dd4 ++
          (seg f (c0 + 24) (c0 + 24 + S)).drop (dd4 + 8)) ++ seg f (c0 + 24 + S) t ++ seg f t e =
      seg f 0 (c0 + 24 + 64) ++ seg f (c0 + 24 + 68) (c0 + 24 + dd4) ++ seg f (c0 + 24 + dd4 + 8) e := by
  have t2 : seg (seg f (c0 + 24) (c0 + 24 + S)) 68 dd4 = seg f (c0 + 24 + 68) (c0 + 24 + dd4) :=
    seg_seg f (c0 + 24) (c0 + 24 + S) 68 dd4 (by omega)
  rw [seg_take f _ _ 64 (by omega), t2, seg_drop, seg_append f 0 64 c0 (by omega) h0, seg_append f 0 c0 (c0 + 4) (by omega) (by omega),
    seg_append f 0 (c0 + 4) (c0 + 24) (by omega) (by omega)]
  simp only [← List.append_assoc]
  rw [seg_append f 0 (c0 + 24) (c0 + 24 + 64) (by omega) (by omega)]
  simp only [List.append_assoc]
  rw [seg_append f (c0 + 24 + S) t e hS ht, seg_append f (c0 + 24 + (dd4 + 8)) (c0 + 24 + S) e (by omega) (by omega),
    Nat.add_assoc (c0 + 24) dd4 8]

/-- what a program that goes on with `g` makes of a result of the model (the headers, the section data): a panic of the
    model of the original code is an error of the repaired code -/
def onHeaders {α β} (g : β → Obs α) : Res β → Obs α
  | .ok h => g h
  | .err e => .err e
  | .panic p => .err (guardP p)
  | .diverge => .diverge

theorem onHeaders_step {α β} {c : Prop} [Decidable c] {e : String} {a : Obs α} {y : Res β} {g : β → Obs α}
    (h : ¬ c → a = onHeaders g y) : (if c then .err e else a) = onHeaders g (if c then .err e else y) := by
  by_cases hc : c
  · rw [if_pos hc, if_pos hc]
    rfl
  · rw [if_neg hc, if_neg hc, h hc]

theorem obs_peHeaders {α} (f : Bytes) (k : PEHdr → Prog α) :
    obs (runFlat (peHeaders k) (at_ f 0)) =
      onHeaders (fun h => obs (runFlat (k ⟨h.m, h.sections, h.hashed⟩) (at_ f h.cur))) (readHeaders f) := by
  unfold peHeaders readHeaders
  rw [obs_readAndHash f 0 64 _ (Nat.zero_le _), Nat.zero_add]
  refine onHeaders_step fun h64 => ?_
  have h64 : 64 ≤ f.length := by omega
  have eMZ : seg (seg f 0 64) 0 2 = seg f 0 2 := seg_seg f 0 64 0 2 (by omega)
  have ePE : u32 (seg f 0 64) 0x3c = u32 f 0x3c := u32_seg f 0 64 0x3c (by omega)
  rw [eMZ, ePE, obs_guard]
  refine onHeaders_step fun _ => ?_
  dsimp only
  generalize u32 f 0x3c = P
  rw [show ((P : Nat) : Int) - 64 = (P : Int) - ((64 : Nat) : Int) from rfl, obs_copyN_sub f 64 P 64 _ _ h64,
    show 64 + (P - 64) = if 64 ≤ P then P else 64 by split <;> omega]
  generalize hc0 : (if 64 ≤ P then P else 64) = c0
  have hc0 : 64 ≤ c0 := by
    rw [← hc0]
    split <;> omega
  refine onHeaders_step fun hl0 => ?_
  rw [obs_readAndHash f c0 4 _ (by omega)]
  refine onHeaders_step fun hl4 => ?_
  rw [obs_guard]
  refine onHeaders_step fun _ => ?_
  rw [obs_readAndHash f (c0 + 4) 20 _ (by omega), show c0 + 4 + 20 = c0 + 24 from rfl]
  refine onHeaders_step fun hl24 => ?_
  have hl24 : c0 + 24 ≤ f.length := by omega
  have eM : u16 (seg f (c0 + 4) (c0 + 24)) 0 = u16 f (c0 + 4) := u16_seg f (c0 + 4) (c0 + 24) 0 (by omega)
  have eN : u16 (seg f (c0 + 4) (c0 + 24)) 2 = u16 f (c0 + 6) := u16_seg f (c0 + 4) (c0 + 24) 2 (by omega)
  have eS : u16 (seg f (c0 + 4) (c0 + 24)) 16 = u16 f (c0 + 20) := u16_seg f (c0 + 4) (c0 + 24) 16 (by omega)
  simp only [eM, eN, eS]
  generalize u16 f (c0 + 20) = S
  generalize u16 f (c0 + 6) = N
  generalize u16 f (c0 + 4) = Mach
  rw [obs_readFullE f (c0 + 24) S _ hl24]
  refine onHeaders_step fun hlS => ?_
  have hlS : c0 + 24 + S ≤ f.length := by omega
  -- a short optional header: an error of the repaired code, a panic of the model of the original
  rw [obs_guard]
  by_cases hS2 : S < 2
  · rw [if_pos hS2, if_pos hS2]
    rfl
  rw [if_neg hS2, if_neg hS2]
  have eOpt : ∀ off, off + 4 ≤ S → u32 (seg f (c0 + 24) (c0 + 24 + S)) off = u32 f (c0 + 24 + off) :=
    fun off ho => u32_seg f (c0 + 24) (c0 + 24 + S) off (by omega)
  have eMag : u16 (seg f (c0 + 24) (c0 + 24 + S)) 0 = u16 f (c0 + 24) := u16_seg f (c0 + 24) (c0 + 24 + S) 0 (by omega)
  rw [eMag]
  generalize hvar : (if u16 f (c0 + 24) = 0x10b then some ((224 : Nat), (92 : Nat), (128 : Nat))
    else if u16 f (c0 + 24) = 0x20b then some (240, 108, 144) else none) = variant
  cases variant with
  | none => rfl
  | some v =>
    obtain ⟨need, nrva, dd4⟩ := v
    obtain ⟨hv1, hv2, hv3, hv4⟩ := optVariant_bounds hvar
    simp only
    rw [obs_guard]
    refine onHeaders_step fun hneed => ?_
    rw [eOpt nrva (by omega), eOpt dd4 (by omega), eOpt (dd4 + 4) (by omega), eOpt 60 (by omega), eOpt 36 (by omega),
      obs_guard]
    refine onHeaders_step fun _ => ?_
    rw [obs_guard]
    refine onHeaders_step fun _ => ?_
    rw [obs_readAndHash f (c0 + 24 + S) (N * 40) _ hlS]
    refine onHeaders_step fun hlT => ?_
    have hlT : c0 + 24 + S + N * 40 ≤ f.length := by omega
    have eRaw : rawSections (seg f (c0 + 24 + S) (c0 + 24 + S + N * 40)) 0 N = rawSections f (c0 + 24 + S) N := by
      simpa using rawSections_seg f (c0 + 24 + S) (c0 + 24 + S + N * 40) 0 N (by omega)
    rw [eRaw]
    cases hfix : fixSections (P + 24 + S + N * 40) (u32 f (c0 + 24 + 36)) (rawSections f (c0 + 24 + S) N)
        (u32 f (c0 + 24 + 60)) with
    | err e => rfl
    | panic p =>
      -- the only panic of fixSections is align32's
      have := fixSections_panic _ _ _ _ _ hfix
      subst this
      rfl
    | diverge => rfl
    | ok v =>
      obtain ⟨sections, sizeOfHdr⟩ := v
      simp only
      rw [obs_copyN_sub f _ _ _ _ _ hlT]
      refine onHeaders_step fun _ => ?_
      rw [hashed_eq f c0 S dd4 _ _ hc0 hv4 (by omega) (by omega) (by omega)]
      rfl

theorem readHeaders_ok_facts (f : Bytes) (h : Headers) (e : readHeaders f = .ok h) :
    h.cur ≤ f.length ∧ 0 < h.m.pageSize := by
  revert e
  fun_cases readHeaders f
  -- the last of the eighteen leaves is the only `.ok`
  case case18 =>
    intro e
    cases e
    rename_i h
    refine ⟨Nat.le_of_not_lt h, ?_⟩
    show 0 < (if _ then 8192 else 4096)
    split <;> decide
  all_goals nofun

theorem at_len (f : Bytes) : at_ f f.length = ⟨[], .eof, none⟩ := by simp [at_]

theorem obs_peTrailer {α} (f : Bytes) (cur2 next2 cs cz : Nat) (k : Nat → Prog α) (hc : cur2 ≤ f.length) :
    obs (runFlat (peTrailer next2 cs cz k) (at_ f cur2)) =
      if cz = 0 then
        pre hashSink (seg f cur2 f.length) (obs (runFlat (k (next2 + (f.length - cur2))) ⟨[], .eof, none⟩))
      else if cs < next2 then .err "sigoverlap"
      else if f.length < cur2 + (cs - next2) then .err "eof"
      else if f.length < cur2 + (cs - next2) + cz then .err "eof"
      else if cur2 + (cs - next2) + cz < f.length then .err "trailing"
      else pre hashSink (seg f cur2 (cur2 + (cs - next2))) (obs (runFlat (k cs) ⟨[], .eof, none⟩)) := by
  unfold peTrailer
  by_cases hz : cz = 0
  · rw [if_pos hz, if_pos hz]
    simp only [runFlat, at_, flatCopy]
    have e1 : List.drop cur2 f = seg f cur2 f.length := by
      unfold seg
      rw [List.take_of_length_le (by simp)]
    have e2 : (List.drop cur2 f).length = f.length - cur2 := by simp
    rw [e2, e1]
    exact obs_emit _ _ _ _
  · rw [if_neg hz, if_neg hz, obs_guard]
    refine ite_else_congr fun ho => ?_
    have e : (cs : Int) - (next2 : Int) = ((cs - next2 : Nat) : Int) := by omega
    rw [e, obs_copyNTo f cur2 (cs - next2) _ _ _ hc]
    refine ite_else_congr fun h1 => ?_
    rw [obs_copyN f _ cz _ _ (by omega), pre_ite_err]
    refine ite_else_congr fun h2 => ?_
    simp only [runFlat, at_, flatCopy, List.length_drop]
    by_cases h3 : cur2 + (cs - next2) + cz < f.length
    · rw [if_pos (by omega), if_pos h3]
      rfl
    · rw [if_neg (by omega), if_neg h3]

/-- the model's result as the program reports it: the digest record as `PEOut` (page-hash inputs only when asked for),
    the hashed stream as what went to sink 1; a panic of the model of the original code as the repaired code's error -/
def toObsPE (pg : Bool) (f : Bytes) (r : Res PE.Digest) : Obs PEOut :=
  match r with
  | .ok d => .ok (⟨d.origSize, d.certStart, d.m, d.hdrLen, if pg then pageHashInputs f d else none⟩, d.hashed, [])
  | .err e => .err e
  | .panic p => .err (guardP p)
  | .diverge => .diverge

/-- what the whole-buffer model says `DigestPE(r, hash, pg)` returns: sizes, markers, the page-hash table inputs, the bytes
    fed to the image hash; where the model of the original code panics the repaired code returns `guardP`'s error; and
    the repaired code refuses page hashes when the headers exceed a page (before reading on) -/
def peObs (pg : Bool) (f : Bytes) : Obs PEOut :=
  match readHeaders f with
  | .ok h => if pg ∧ h.m.pageSize < h.m.sizeOfHdr then .err "pagehash-headers" else toObsPE pg f (DigestPE f)
  | _ => toObsPE pg f (DigestPE f)

/-- what `DigestPE` returns once sections and trailer are read (`cur3` = physical end of what was hashed): header bytes,
    the file from the end of the headers to `cur3`, the padding to a multiple of 8 -/
def finishObs (pg : Bool) (f : Bytes) (h : Headers) (extents : List (Nat × Nat × Nat)) (origSize cur3 : Nat) : Obs PEOut :=
  toObsPE pg f (.ok { hashed := h.hashed ++ seg f h.cur cur3 ++ List.replicate (if origSize % 8 = 0 then 0 else 8 - origSize % 8) 0,
                      origSize, certStart := origSize + (if origSize % 8 = 0 then 0 else 8 - origSize % 8), m := h.m,
                      extents, hdrLen := h.hashed.length })

/-- the model after the headers, as an observation -/
def peAfter (pg : Bool) (f : Bytes) (h : Headers) : Obs PEOut :=
  if f.length < h.cur + gapOf h.sections h.m.sizeOfHdr then .err "eof" else
  onHeaders (fun (cur2, next2, extents) =>
      if h.m.certSize = 0 then finishObs pg f h extents (next2 + (f.length - cur2)) f.length
      else if h.m.certStart < next2 then .err "sigoverlap"
      else if f.length < cur2 + (h.m.certStart - next2) then .err "eof"
      else if f.length < cur2 + (h.m.certStart - next2) + h.m.certSize then .err "eof"
      else if cur2 + (h.m.certStart - next2) + h.m.certSize < f.length then .err "trailing"
      else finishObs pg f h extents h.m.certStart (cur2 + (h.m.certStart - next2)))
    (readSectionData f.length h.sections 0 (h.cur + gapOf h.sections h.m.sizeOfHdr)
      (if gapOf h.sections h.m.sizeOfHdr = 0 then h.m.sizeOfHdr else h.m.sizeOfHdr + gapOf h.sections h.m.sizeOfHdr))

theorem model_after (pg : Bool) (f : Bytes) (h : Headers) (hr : readHeaders f = .ok h) :
    toObsPE pg f (DigestPE f) = peAfter pg f h := by
  unfold DigestPE peAfter
  rw [hr]
  simp only
  by_cases g1 : f.length < h.cur + gapOf h.sections h.m.sizeOfHdr
  · rw [if_pos g1, if_pos g1]; rfl
  rw [if_neg g1, if_neg g1]
  cases hs : readSectionData f.length h.sections 0 (h.cur + gapOf h.sections h.m.sizeOfHdr)
      (if gapOf h.sections h.m.sizeOfHdr = 0 then h.m.sizeOfHdr else h.m.sizeOfHdr + gapOf h.sections h.m.sizeOfHdr) with
  | err e => rfl
  | panic p => rfl
  | diverge => rfl
  | ok v =>
    obtain ⟨cur2, next2, extents⟩ := v
    simp only [apply_ite (toObsPE pg f), finishObs]
    rfl

/-- the five writes of `peBody` (headers, gap, sections, trailer, padding) concatenate to the model's `hashed`, and the page
    list built on the way is `pageHashInputs`; stated in the form `simp` leaves at the two ends of `prog_after` -/
theorem finish_eq (pg : Bool) (f : Bytes) (h : Headers) (ex : List (Nat × Nat × Nat)) (origSize cur1 cur2 cur3 : Nat)
    (hps : ¬ (pg = true ∧ h.m.pageSize < h.m.sizeOfHdr)) (h1 : h.cur ≤ cur1) (h2 : cur1 ≤ cur2) (h3 : cur2 ≤ cur3) :
    pre hashSink h.hashed (pre hashSink (seg f h.cur cur1) (pre hashSink (seg f cur1 cur2) (pre hashSink (seg f cur2 cur3)
      (pre hashSink (List.replicate (if origSize % 8 = 0 then 0 else 8 - origSize % 8) 0)
        (.ok (⟨origSize, origSize + (if origSize % 8 = 0 then 0 else 8 - origSize % 8), h.m, h.hashed.length,
              if pg then some ((if pg then ([(0, h.hashed ++ List.replicate (h.m.pageSize - h.m.sizeOfHdr) 0)] ++
                  (mChunks h.m.pageSize ex).map (mPage h.m.pageSize f)) else []) ++ [(if pg then lastOf (mChunks h.m.pageSize ex) 0 else 0, [])])
              else none⟩, [], [])))))) =
    finishObs pg f h ex origSize cur3 := by
  unfold finishObs toObsPE
  simp only [pre, hashSink, patchedSink, ↓reduceIte, List.append_nil, Nat.reduceEqDiff]
  have hh : h.hashed ++ (seg f h.cur cur1 ++ (seg f cur1 cur2 ++ (seg f cur2 cur3 ++
      List.replicate (if origSize % 8 = 0 then 0 else 8 - origSize % 8) 0))) =
      h.hashed ++ seg f h.cur cur3 ++ List.replicate (if origSize % 8 = 0 then 0 else 8 - origSize % 8) 0 := by
    rw [← seg_append f h.cur cur2 cur3 (by omega) h3, ← seg_append f h.cur cur1 cur2 h1 h2]
    simp only [List.append_assoc]
  cases pg with
  | false => simp [hh]
  | true =>
    have hsz : ¬ h.m.pageSize < h.m.sizeOfHdr := fun x => hps ⟨rfl, x⟩
    simp only [↓reduceIte]
    have hl : mLast (mChunks h.m.pageSize ex) = lastOf (mChunks h.m.pageSize ex) 0 := rfl
    rw [PE.pageHashInputs_eq, if_neg hsz, hl]
    simp [hh]

theorem prog_after (pg : Bool) (f : Bytes) (h : Headers) (hcur : h.cur ≤ f.length) (hpos : 0 < h.m.pageSize)
    (hps : ¬ (pg = true ∧ h.m.pageSize < h.m.sizeOfHdr)) :
    obs (runFlat (peBody pg ⟨h.m, h.sections, h.hashed⟩) (at_ f h.cur)) = peAfter pg f h := by
  unfold peBody peAfter
  simp only
  rw [if_neg hps, obs_emit]
  generalize hg : gapOf h.sections h.m.sizeOfHdr = gap
  rw [obs_copyNToE f h.cur gap _ _ _ "eof" rfl _ hcur]
  by_cases g1 : f.length < h.cur + gap
  · rw [if_pos g1, if_pos g1]
    rfl
  · have g1' : h.cur + gap ≤ f.length := by omega
    rw [if_neg g1, if_neg g1]
    have enext : (if gap = 0 then h.m.sizeOfHdr else h.m.sizeOfHdr + gap) = h.m.sizeOfHdr + gap := by
      split <;> omega
    rw [enext, obs_peSections f pg h.m.pageSize h.sections 0 (h.cur + gap) (h.m.sizeOfHdr + gap) _ _ _ hpos g1']
    cases hs : readSectionData f.length h.sections 0 (h.cur + gap) (h.m.sizeOfHdr + gap) with
    | err e => rfl
    | panic p => exact absurd hs (readSectionData_ne_crash _ _ _ _ _ (.panic p))
    | diverge => rfl
    | ok v =>
      obtain ⟨cur2, next2, ex⟩ := v
      obtain ⟨b1, b2, _⟩ := readSectionData_bounds _ _ _ _ _ _ _ _ g1' hs
      simp only [onHeaders]
      rw [obs_peTrailer f cur2 next2 _ _ _ b2]
      by_cases t0 : h.m.certSize = 0
      · rw [if_pos t0, if_pos t0]
        simp only [obs_emit, obs_ret]
        have := finish_eq pg f h ex (next2 + (f.length - cur2)) (h.cur + gap) cur2 f.length hps (by omega) b1 b2
        cases pg <;> simpa using this
      · rw [if_neg t0, if_neg t0]
        simp only [pre_ite_err]
        refine ite_else_congr fun _ => ite_else_congr fun _ => ite_else_congr fun _ => ite_else_congr fun _ => ?_
        simp only [obs_emit, obs_ret]
        have := finish_eq pg f h ex h.m.certStart (h.cur + gap) cur2 (cur2 + (h.m.certStart - next2)) hps (by omega) b1 (by omega)
        cases pg <;> simpa using this

theorem pe_flat (pg : Bool) (f : Bytes) : obs (runFlat (digestPE pg) (Flat.raw f .eof)) = peObs pg f := by
  unfold digestPE peObs
  rw [← at_zero, obs_peHeaders]
  cases hr : readHeaders f with
  | ok h =>
    obtain ⟨hcur, hpos⟩ := readHeaders_ok_facts f h hr
    simp only [onHeaders]
    by_cases hps : pg = true ∧ h.m.pageSize < h.m.sizeOfHdr
    · rw [if_pos hps]
      unfold peBody
      rw [if_pos hps]
      rfl
    · rw [if_neg hps, model_after pg f h hr]
      exact prog_after pg f h hcur hpos hps
  | _ =>
    simp only [onHeaders]
    unfold DigestPE
    rw [hr]
    rfl

end Relic.Rd
