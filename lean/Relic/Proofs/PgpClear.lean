/-
  Relic.Proofs.PgpClear — the dash escaper that ClearSign drives, characterised line by line: what is written and what is
  hashed from any state of the escaper, as functions of the lines of the rest of the input.  Then the line functions
  against the RFC's reader (`dashUnescape` undoes `escLine`, `stripTrailing` leaves a stripped line alone, `hashLines true` is
  `joinCRLF`).  At the end the two line scanners: `tailClearSign`'s stops at a long line, and both answer a value or an error.
-/
import Relic.Model.Pgp
import Relic.Spec.OpenPgp
import Relic.Proofs.Res
namespace Relic.Pgp

/-- a line without its trailing blanks, tabs and carriage returns -/
def stripWs : Bytes → Bytes
  | [] => []
  | b :: r =>
    match stripWs r with
    | [] => if isWs b then [] else [b]
    | t => b :: t

/-- §7.1 dash-escaping of one line -/
def escLine : Bytes → Bytes
  | 45 :: l => 45 :: 32 :: 45 :: l
  | l => l

/-- the octets hashed for a list of lines: CR LF in front of every line but the very first -/
def hashLines (first : Bool) : List Bytes → Bytes
  | [] => []
  | t :: ts => (if first then [] else crlf) ++ stripWs t ++ hashLines false ts

/-- what the escaper holds back: blanks, tabs and carriage returns only -/
def AllWs (w : Bytes) : Prop := ∀ b ∈ w, isWs b = true

theorem stripWs_allWs (w : Bytes) (h : AllWs w) : stripWs w = [] := by
  induction w with
  | nil => rfl
  | cons b r ih =>
    have hr : AllWs r := fun x hx => h x (List.mem_cons_of_mem _ hx)
    have hb : isWs b = true := h b (List.mem_cons_self ..)
    simp only [stripWs, ih hr, hb, if_true]

theorem stripWs_append_nonws (p : Bytes) (b : UInt8) (r : Bytes) (hb : isWs b = false) :
    stripWs (p ++ b :: r) = p ++ b :: stripWs r := by
  induction p with
  | nil =>
    simp only [List.nil_append, stripWs]
    cases h : stripWs r with
    | nil => simp [hb]
    | cons x xs => rfl
  | cons a p ih =>
    simp only [List.cons_append, stripWs, ih]
    cases p <;> rfl

theorem isWs_10 : isWs 10 = false := by decide
theorem isWs_45 : isWs 45 = false := by decide

theorem escLine_of_head (l : Bytes) (h : l.head? ≠ some 45) : escLine l = l := by
  cases l with
  | nil => rfl
  | cons a l =>
    unfold escLine
    split
    · rename_i heq; injection heq with h1 _; subst h1; simp at h
    · rfl

theorem stripWs_head (b : UInt8) (r : Bytes) : stripWs (b :: r) = [] ∨ (stripWs (b :: r)).head? = some b := by
  simp only [stripWs]
  cases stripWs r with
  | nil => by_cases h : isWs b = true <;> simp [h]
  | cons x xs => simp

theorem rawTokens_lf (bs : Bytes) : rawTokens (10 :: bs) = [] :: rawTokens bs := by simp [rawTokens]

theorem rawTokens_ne (b : UInt8) (bs : Bytes) (h : b ≠ 10) :
    rawTokens (b :: bs) = (b :: (rawTokens bs).headD []) :: (rawTokens bs).tail := by
  simp only [rawTokens, h, if_false]
  cases rawTokens bs <;> rfl

/-- The escaper from any state.  At a line start it writes and hashes the lines of the rest of the input; in the middle
    of a line, holding back the whitespace `s.ws`, it first finishes that line.  One induction along `esc` itself; each
    leaf follows from its hypothesis by the tokens of a cons and one fact about `stripWs` / `escLine`. -/
theorem esc_run (s : EscSt) (bs : Bytes) (hw : AllWs s.ws) (hb : s.bol = true → s.ws = []) :
    esc s bs = if s.bol then ((rawTokens bs).flatMap (fun l => escLine (stripWs l) ++ [10]), hashLines s.first (rawTokens bs))
      else (stripWs (s.ws ++ (rawTokens bs).headD []) ++ 10 :: (rawTokens bs).tail.flatMap (fun l => escLine (stripWs l) ++ [10]),
            stripWs (s.ws ++ (rawTokens bs).headD []) ++ hashLines s.first (rawTokens bs).tail) := by
  fun_induction esc s bs
  case case1 s =>
    cases hbol : s.bol <;> simp [rawTokens, hashLines, stripWs_allWs _ hw]
  case case2 s b bs pre first hws o h hx ih =>
    have h10 : b ≠ 10 := by rintro rfl; simp [isWs_10] at hws
    have hw' : AllWs (s.ws ++ [b]) := by
      intro x hx
      rcases List.mem_append.mp hx with h | h
      · exact hw x h
      · rw [List.mem_singleton.mp h]; exact hws
    have := ih hw' (by simp)
    rw [hx] at this
    simp only [Bool.false_eq_true, if_false, List.append_assoc, List.cons_append, List.nil_append] at this
    obtain ⟨rfl, rfl⟩ := Prod.mk.inj this
    rw [rawTokens_ne b bs h10]
    generalize (rawTokens bs).headD [] = l
    generalize (rawTokens bs).tail = ls
    cases hbol : s.bol
    · simp [first, hbol, pre]
    · -- a line that begins with whitespace is not dash-escaped
      have he : escLine (stripWs (b :: l)) = stripWs (b :: l) := by
        apply escLine_of_head
        rcases stripWs_head b l with h | h <;> rw [h]
        · simp
        · intro e; injection e with e; subst e; simp [isWs_45] at hws
      simp [first, hbol, pre, hb hbol, hashLines, he]
      cases s.first <;> simp
  case case3 s bs pre first hbol o h hx _ ih =>
    have := ih hw (by simp)
    rw [hx] at this
    simp only [Bool.false_eq_true, if_false, hb hbol, List.nil_append] at this
    obtain ⟨rfl, rfl⟩ := Prod.mk.inj this
    rw [rawTokens_ne 45 bs (by decide), if_pos hbol]
    generalize (rawTokens bs).headD [] = l
    generalize (rawTokens bs).tail = ls
    have hs : stripWs (45 :: l) = 45 :: stripWs l := stripWs_append_nonws [] 45 _ isWs_45
    simp [first, hbol, pre, hashLines, escLine, hs]
    cases s.first <;> simp
  case case4 s bs pre first hbol o h hx _ _ ih =>
    have := ih hw (fun _ => hb hbol)
    rw [hx] at this
    simp only [if_true] at this
    obtain ⟨rfl, rfl⟩ := Prod.mk.inj this
    rw [rawTokens_lf, if_pos hbol]
    simp [first, hbol, pre, hashLines, escLine, stripWs]
    cases s.first <;> simp
  case case5 s b bs pre first hws hbol h45 h10 o h hx ih =>
    have := ih hw (by simp)
    rw [hx] at this
    simp only [Bool.false_eq_true, if_false, hb hbol, List.nil_append] at this
    obtain ⟨rfl, rfl⟩ := Prod.mk.inj this
    rw [rawTokens_ne b bs h10, if_pos hbol]
    generalize (rawTokens bs).headD [] = l
    generalize (rawTokens bs).tail = ls
    have hs : stripWs (b :: l) = b :: stripWs l := stripWs_append_nonws [] b _ (by simpa using hws)
    have he : escLine (b :: stripWs l) = b :: stripWs l := escLine_of_head _ (by simp; exact h45)
    simp [first, hbol, pre, hashLines, hs, he]
    cases s.first <;> simp
  case case6 s bs first hbol o h hx _ ih =>
    have := ih (fun _ h => nomatch h) (fun _ => rfl)
    rw [hx] at this
    simp only [if_true] at this
    obtain ⟨rfl, rfl⟩ := Prod.mk.inj this
    rw [rawTokens_lf, if_neg hbol]
    simp [first, hbol, stripWs_allWs _ hw]
  case case7 s b bs first hws hbol h10 o h hx ih =>
    have := ih (fun _ h => nomatch h) (by simp)
    rw [hx] at this
    simp only [Bool.false_eq_true, if_false, List.nil_append] at this
    obtain ⟨rfl, rfl⟩ := Prod.mk.inj this
    rw [rawTokens_ne b bs h10, if_neg hbol, List.headD_cons, List.tail_cons,
      stripWs_append_nonws s.ws b _ (by simpa using hws)]
    simp [first, hbol]

/-- what the dash escaper writes and hashes, line by line (lines = the pieces between line feeds, a final
    unterminated piece counting when it is not empty) -/
theorem esc_spec (text : Bytes) (f : Bool) :
    esc ⟨true, f, []⟩ text =
      ((rawTokens text).flatMap (fun l => escLine (stripWs l) ++ [10]), hashLines f (rawTokens text)) :=
  esc_run ⟨true, f, []⟩ text (fun _ h => nomatch h) (fun _ => rfl)

theorem dashUnescape_escLine (l : Bytes) : Spec.OpenPgp.dashUnescape (escLine l) = l := by
  cases l with
  | nil => rfl
  | cons a l =>
    by_cases h : a = 45
    · subst h; rfl
    · have : escLine (a :: l) = a :: l := escLine_of_head _ (by simp; exact h)
      rw [this]
      unfold Spec.OpenPgp.dashUnescape
      split
      · rename_i heq; injection heq with h1 _; exact absurd h1 h
      · rfl

theorem stripWs_snoc (l : Bytes) (h : stripWs l ≠ []) : ∃ p x, stripWs l = p ++ [x] ∧ isWs x = false := by
  induction l with
  | nil => exact absurd rfl h
  | cons b r ih =>
    simp only [stripWs] at h ⊢
    cases hr : stripWs r with
    | nil =>
      rw [hr] at h
      by_cases hb : isWs b = true
      · simp [hb] at h
      · simp only [hb]
        exact ⟨[], b, rfl, by simpa using hb⟩
    | cons x xs =>
      obtain ⟨p, y, hp, hy⟩ := ih (by rw [hr]; simp)
      rw [hr] at hp
      exact ⟨b :: p, y, by simp [hp], hy⟩

theorem isBlank_isWs (x : UInt8) (h : isWs x = false) : Spec.OpenPgp.isBlank x = false := by
  unfold isWs at h
  unfold Spec.OpenPgp.isBlank
  simp only [Bool.or_eq_false_iff, decide_eq_false_iff_not] at h ⊢
  exact ⟨h.1.1, h.1.2⟩

theorem stripTrailing_stripWs (l : Bytes) : Spec.OpenPgp.stripTrailing (stripWs l) = stripWs l := by
  unfold Spec.OpenPgp.stripTrailing
  by_cases h : stripWs l = []
  · rw [h]; rfl
  · obtain ⟨p, x, hp, hx⟩ := stripWs_snoc l h
    rw [hp]
    simp [isBlank_isWs x hx]

theorem joinCRLF_hashLines (t : Bytes) (ts : List Bytes) :
    Spec.OpenPgp.joinCRLF (stripWs t :: ts.map stripWs) = stripWs t ++ hashLines false ts := by
  induction ts generalizing t with
  | nil => simp [Spec.OpenPgp.joinCRLF, hashLines]
  | cons u us ih =>
    simp only [List.map_cons, Spec.OpenPgp.joinCRLF, ih u, hashLines]
    simp [Spec.OpenPgp.crlf, crlf]

theorem hashLines_true (ts : List Bytes) : hashLines true ts = Spec.OpenPgp.joinCRLF (ts.map stripWs) := by
  cases ts with
  | nil => rfl
  | cons t ts =>
    rw [List.map_cons, joinCRLF_hashLines]
    simp [hashLines]

theorem tailToks_long (c : Bool) (pre : List Bytes) (t : Bytes) (post : List Bytes)
    (hp : ∀ p ∈ pre, p.length < maxTok) (ht : t.length ≥ maxTok) :
    tailToks c (pre ++ t :: post) = .err "toolong" := by
  induction pre generalizing c with
  | nil => simp [tailToks, ht]
  | cons p ps ih =>
    have h1 : ¬ (p.length ≥ maxTok) := by have := hp p (List.mem_cons_self ..); omega
    have hps : ∀ q ∈ ps, q.length < maxTok := fun q hq => hp q (List.mem_cons_of_mem _ hq)
    simp only [List.cons_append, tailToks, h1, if_false]
    split
    · rw [ih true hps]
    · exact ih false hps

theorem headToks_errs (ts : List Bytes) : Res.Errs (fun _ => True) (headToks ts) := by
  induction ts with
  | nil => trivial
  | cons t ts ih =>
    unfold headToks
    refine Res.Errs.ite trivial (Res.Errs.ite trivial ?_)
    -- a line is put in front of a value; anything else the rest answered is handed on
    exact Res.Errs.cases (headToks ts) ih (fun _ => trivial) (fun _ _ => trivial)

theorem tailToks_errs (ts : List Bytes) : ∀ c, Res.Errs (fun _ => True) (tailToks c ts) := by
  induction ts with
  | nil => intro _; trivial
  | cons t ts ih =>
    intro c
    unfold tailToks
    refine Res.Errs.ite trivial (Res.Errs.ite ?_ (ih false))
    exact Res.Errs.cases (tailToks true ts) (ih true) (fun _ => trivial) (fun _ _ => trivial)

end Relic.Pgp
