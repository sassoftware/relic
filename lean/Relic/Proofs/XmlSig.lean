/-
  Lemmas about `Relic.Model.XmlSig`:
  * `removeElements` (nothing of the tag is left, idempotent, over `++`); `findIn`/`findElems` on a child list that ends in
    the appended Signature,
  * the canonical tree of a *plain* subtree (no prefixes, at most one non-declaration attribute per element, only elements
    and text) is the subtree itself, whatever the ancestors declare (except a default namespace, which the Signature
    element re-declares),
  * hence the Signature element `Sign` builds is its own canonical tree (`canonTree_signature`); `decKeyInfoKids_eq`:
    `<KeyInfo>` sets only the key value and the certificates.
-/
import Relic.Model.XmlSig
import Relic.Proofs.XmlEnv
namespace Relic.XmlSig
open Relic.Xml

theorem removeElements_none (tag : Bytes) (ks : List Node) : ∀ k ∈ removeElements tag ks, isElemTag tag k = false := by
  intro k hk
  simp only [removeElements, List.mem_filter] at hk
  simpa using hk.2

theorem removeElements_idem (tag : Bytes) (ks : List Node) : removeElements tag (removeElements tag ks) = removeElements tag ks := by
  simp [removeElements, List.filter_filter]

theorem removeElements_append (tag : Bytes) (a b : List Node) :
    removeElements tag (a ++ b) = removeElements tag a ++ removeElements tag b := by
  simp [removeElements]

theorem findIn_none (tag : Bytes) (f : Node → List (List Nat)) : ∀ (ks : List Node) (i : Nat),
    (∀ k ∈ ks, isElemTag tag k = false) → findIn tag f i ks = []
  | [], _, _ => rfl
  | k :: ks, i, h => by
    simp only [findIn, h k List.mem_cons_self, Bool.false_eq_true, if_false, List.nil_append]
    exact findIn_none tag f ks (i + 1) fun k' hk' => h k' (List.mem_cons_of_mem _ hk')

theorem findIn_append (tag : Bytes) (f : Node → List (List Nat)) : ∀ (a b : List Node) (i : Nat),
    findIn tag f i (a ++ b) = findIn tag f i a ++ findIn tag f (i + a.length) b
  | [], b, i => by simp [findIn]
  | k :: a, b, i => by
    simp only [List.cons_append, findIn, List.length_cons, List.append_assoc]
    rw [findIn_append tag f a b (i + 1)]
    have : i + 1 + a.length = i + (a.length + 1) := by omega
    rw [this]

theorem findElems_last (tag sp t : Bytes) (as : List Attr) (clean : List Node) (s : Node)
    (hc : ∀ k ∈ clean, isElemTag tag k = false) (hs : isElemTag tag s = true) :
    findElems [tag] (.elem sp t as (clean ++ [s])) = [[clean.length]] := by
  simp only [findElems, kidsOf]
  rw [findIn_append, findIn_none tag _ clean 0 hc]
  simp [findIn, hs]

def plainAttrs (as : List Attr) : Bool := decide (as.length ≤ 1) && as.all fun a => decide (a.space = []) && decide (a.key ≠ sXmlns)

mutual
def plain : Node → Bool
  | .elem sp _ as ks => decide (sp = []) && plainAttrs as && plainL ks
  | .text _ _ => true
  | _ => false
def plainL : List Node → Bool
  | [] => true
  | n :: ns => plain n && plainL ns
end

def NoDef (ds : Env) : Prop := ∀ e ∈ ds, e.1 ≠ []

theorem getDecl_plain (a : Attr) (h1 : a.space = []) (h2 : a.key ≠ sXmlns) : getDecl a = none := by
  unfold getDecl
  have hy : ¬ (([] : Bytes) = sXmlns) := by decide
  simp [h1, h2, hy]

theorem plainAttrs_spec {as : List Attr} (h : plainAttrs as = true) :
    as.length ≤ 1 ∧ ∀ a ∈ as, a.space = [] ∧ a.key ≠ sXmlns := by
  simp only [plainAttrs, Bool.and_eq_true, decide_eq_true_eq, List.all_eq_true] at h
  exact ⟨h.1, fun a ha => by simpa using h.2 a ha⟩

theorem selectAttr_unprefixed (s : Bytes) (hs : s ≠ []) (as : List Attr) (h : ∀ a ∈ as, a.space = []) :
    selectAttr (declName s) as = false := by
  simp only [selectAttr, declName, hs, if_false, List.any_eq_false]
  intro a ha
  have hx : ¬ (sXmlns = ([] : Bytes)) := by decide
  have hy : ¬ (sXmlns = a.space) := by rw [h a ha]; decide
  simp [hx, hy]

theorem usesSpace_unprefixed (s : Bytes) (hs : s ≠ []) (as : List Attr) (h : ∀ a ∈ as, a.space = []) :
    usesSpace [] as s = false := by
  unfold usesSpace
  have h1 : ¬ (([] : Bytes) = s) := fun e => hs e.symm
  simp only [h1, if_false, hs, List.any_eq_false]
  intro a ha
  simp [h a ha, h1]

theorem localStep_plain (as : List Attr) (h : ∀ a ∈ as, a.space = []) : ∀ (ds : Env), NoDef ds →
    localStep [] as ds = (as, ds)
  | [], _ => rfl
  | (s, v) :: ds, hd => by
    have hs : s ≠ [] := hd (s, v) List.mem_cons_self
    have ih := localStep_plain as h ds fun e he => hd e (List.mem_cons_of_mem _ he)
    simp only [localStep, selectAttr_unprefixed s hs as h, usesSpace_unprefixed s hs as h, Bool.false_eq_true, if_false, ih]

theorem sortAttrs_short : ∀ (as : List Attr), as.length ≤ 1 → sortAttrs as = as
  | [], _ => rfl
  | [a], _ => rfl
  | _ :: _ :: _, h => by simp at h

theorem walkKidsE_plain : ∀ (ns : List Node) (ds : Env), NoDef ds → plainL ns = true → walkKidsE ds ns = ns := by
  intro ns
  induction ns using kids_induction with
  | nil => intros; rw [walkKidsE]
  | elem sp tag as ks rest ihk ihr =>
    intro ds hd hp
    simp only [plainL, plain, Bool.and_eq_true, decide_eq_true_eq] at hp
    obtain ⟨⟨⟨rfl, ha⟩, hk⟩, hr⟩ := hp
    have hs := plainAttrs_spec ha
    have hg : ∀ a ∈ as, getDecl a = none := fun a h => getDecl_plain a (hs.2 a h).1 (hs.2 a h).2
    rw [walkKidsE_elem, ihr ds hd hr]
    simp only [walkE, localStep_plain as (fun a h => (hs.2 a h).1) ds hd, keepAttrs_of_no_decl [] as hg,
      dropped_of_no_decl [] as hg, List.append_nil, sortAttrs_short as hs.1, ihk ds hd hk]
  | text d c rest ihr =>
    intro ds hd hp
    simp only [plainL, Bool.and_eq_true] at hp
    rw [walkKidsE_text, ihr ds hd hp.2]
  | drop n rest hn _ =>
    intro ds _ hp
    cases n <;> simp only [keeps, Bool.true_eq_false] at hn <;> simp [plainL, plain] at hp

theorem walkE_plain : ∀ (n : Node) (ds : Env), NoDef ds → plain n = true → walkE ds n = n := by
  intro n ds hd hp
  have hk : keeps n = true := by cases n <;> first | rfl | simp [plain] at hp
  have := walkKidsE_plain [n] ds hd (by rw [plainL, hp]; rfl)
  rw [walkE_of_kids _ _ hk] at this
  exact List.head_eq_of_cons_eq this

theorem localStep_xmlns (v : Bytes) : ∀ (ds : Env),
    localStep [] [⟨[], sXmlns, v⟩] ds = ([⟨[], sXmlns, v⟩], ds.filter fun e => decide (e.1 ≠ []))
  | [] => rfl
  | (s, w) :: ds => by
    have ih := localStep_xmlns v ds
    by_cases hs : s = []
    · subst hs
      have : selectAttr (declName []) [⟨[], sXmlns, v⟩] = true := by simp [selectAttr, declName]
      simp only [localStep, this, if_true, ih]
      simp
    · have hu : ∀ a ∈ [(⟨[], sXmlns, v⟩ : Attr)], a.space = [] := by simp
      simp only [localStep, selectAttr_unprefixed s hs _ hu, usesSpace_unprefixed s hs _ hu, Bool.false_eq_true, if_false, ih]
      simp [hs]

/-- the Signature element over plain children is its own canonical tree under any ancestors; the hypothesis holds of the
    KeyInfo children `Sign` builds for RSA (KeyValue, X509Data); the ECDSA KeyValue carries `xmlns:xsi` -/
theorem canonTree_signature (ctx : List (List Attr)) (kids : List Node) (hk : plainL kids = true) :
    canonTree ctx (el sSignature [xmlnsAttr] kids) = el sSignature [xmlnsAttr] kids := by
  rw [canonTree, walk_pullDown_eq]
  simp only [el, xmlnsAttr, walkE, localStep_xmlns]
  have hkeep : keepAttrs [] [⟨[], sXmlns, nsXMLDsig⟩] = [⟨[], sXmlns, nsXMLDsig⟩] := by
    simp [keepAttrs, keepP, getDecl, usesSpace]
  have hdrop : dropped [] [⟨[], sXmlns, nsXMLDsig⟩] = [] := by
    simp [dropped, dropF, getDecl, usesSpace]
  rw [hkeep, hdrop, List.append_nil, walkKidsE_plain kids _ (fun e he => by simpa using (List.mem_filter.mp he).2) hk]
  rfl

/-- `<KeyInfo>` sets the key value and the certificates and leaves the other fields of the decoded signature alone -/
theorem decKeyInfoKids_eq (ks : List Node) : ∀ (s : SigInfo), decKeyInfoKids s ks =
    { s with keyValue := (decKeyInfoKids { keyValue := s.keyValue, certs := s.certs } ks).keyValue,
             certs := (decKeyInfoKids { keyValue := s.keyValue, certs := s.certs } ks).certs } := by
  induction ks with
  | nil => intro s; rfl
  | cons k ks ih =>
    intro s
    cases k with
    | elem sp tag as kk =>
      simp only [decKeyInfoKids]
      split
      · rw [ih, ih { keyValue := _, certs := _ }]
      · split
        · rw [ih, ih { keyValue := _, certs := _ }]
        · exact ih s
    | text d c => simpa [decKeyInfoKids] using ih s
    | comment d => simpa [decKeyInfoKids] using ih s
    | procinst a b => simpa [decKeyInfoKids] using ih s
    | directive d => simpa [decKeyInfoKids] using ih s

end Relic.XmlSig
