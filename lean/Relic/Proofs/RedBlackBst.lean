/-
  Relic.Proofs.RedBlackBst — ordering half of `rb_insert_valid` (the in-order key sequence stays
  strictly sorted and is a permutation of the inserted keys, for either colour policy), the link
  between the indexed predicate `RB` and the executable checks, the degenerate shape produced by
  the unchanged code, and `utf16Decode_id` for the directory order.
-/
import Relic.Proofs.RedBlack
namespace Relic.RedBlack
open Tree
variable {α : Type}

theorem toList_blacken (t : Tree α) : toList (blacken t) = toList t := by
  cases t <;> simp [blacken, toList]

theorem toList_rotL (t : Tree α) : toList (rotL t) = toList t := by
  cases t with
  | nil => rfl
  | node c l k r =>
    cases r with
    | nil => rfl
    | node c2 rl rk rr => simp [rotL, toList, List.append_assoc]

theorem toList_rotR (t : Tree α) : toList (rotR t) = toList t := by
  cases t with
  | nil => rfl
  | node c l k r =>
    cases l with
    | nil => rfl
    | node c2 ll lk lr => simp [rotR, toList, List.append_assoc]

theorem toList_fixR (c : Bool) (l : Tree α) (k : α) (r' : Tree α) :
    toList (fixR c l k r') = toList l ++ k :: toList r' := by
  fun_cases fixR c l k r'
  · rfl
  · rw [toList, toList_blacken, toList_blacken]
  · rw [toList_rotL, toList]
  · rw [toList_rotL, toList, toList_rotR]
  · rfl

theorem toList_fixL (c : Bool) (l' : Tree α) (k : α) (r : Tree α) :
    toList (fixL c l' k r) = toList l' ++ k :: toList r := by
  fun_cases fixL c l' k r
  · rfl
  · rw [toList, toList_blacken, toList_blacken]
  · rw [toList_rotR, toList]
  · rw [toList_rotR, toList, toList_rotL]
  · rfl

theorem toList_ins_node (less : α → α → Bool) (nr c) (l : Tree α) (k r x) :
    toList (ins less nr (node c l k r) x) =
      if less k x then toList l ++ k :: toList (ins less nr r x)
      else toList (ins less nr l x) ++ k :: toList r := by
  rw [ins_node]
  split
  · exact toList_fixR ..
  · exact toList_fixL ..

theorem toList_ins_perm (less : α → α → Bool) (nr : Bool) (t : Tree α) (x : α) :
    (toList (ins less nr t x)).Perm (x :: toList t) := by
  induction t with
  | nil => simp [ins, toList]
  | node c l k r ihl ihr =>
    rw [toList_ins_node]
    split
    · -- l ++ k :: R' ~ x :: (l ++ k :: R)
      have h1 : (toList l ++ k :: toList (ins less nr r x)).Perm (toList l ++ k :: x :: toList r) :=
        List.Perm.append_left _ (List.Perm.cons _ ihr)
      refine h1.trans ?_
      have h2 : (toList l ++ k :: x :: toList r).Perm (toList l ++ x :: k :: toList r) :=
        List.Perm.append_left _ (List.Perm.swap _ _ _)
      refine h2.trans ?_
      simp [toList]
    · have h1 : (toList (ins less nr l x) ++ k :: toList r).Perm ((x :: toList l) ++ k :: toList r) :=
        List.Perm.append_right _ ihl
      simpa [toList] using h1

/-- strictly sorted in-order sequence -/
def Sorted (less : α → α → Bool) (t : Tree α) : Prop :=
  (toList t).Pairwise (fun a b => less a b = true)

theorem ins_sorted (less : α → α → Bool)
    (trans : ∀ a b c, less a b = true → less b c = true → less a c = true)
    (nr : Bool) (t : Tree α) (x : α)
    (cmp : ∀ y ∈ toList t, less x y = true ∨ less y x = true)
    (h : Sorted less t) : Sorted less (ins less nr t x) := by
  -- `toList_ins_node` splits the in-order list at the root; the half that `x` went into is sorted by induction, and its
  -- elements are `x` or old ones (`toList_ins_perm`): the old ones stand to the root and the other half as before, `x`
  -- by the comparison that sent it there and transitivity
  induction t with
  | nil => simp [Sorted, ins, toList]
  | node c l k r ihl ihr =>
    unfold Sorted at h ⊢
    rw [toList_ins_node]
    simp only [toList, List.pairwise_append, List.pairwise_cons, List.mem_cons] at h
    obtain ⟨hl, ⟨hkr, hr⟩, hlr⟩ := h
    have cmpl : ∀ y ∈ toList l, less x y = true ∨ less y x = true :=
      fun y hy => cmp y (by simp [toList, hy])
    have cmpr : ∀ y ∈ toList r, less x y = true ∨ less y x = true :=
      fun y hy => cmp y (by simp [toList, hy])
    split
    · rename_i hk
      have ih := ihr cmpr hr
      have mem : ∀ b ∈ toList (ins less nr r x), b = x ∨ b ∈ toList r := by
        intro b hb
        have := (toList_ins_perm less nr r x).mem_iff.mp hb
        simpa using this
      simp only [List.pairwise_append, List.pairwise_cons, List.mem_cons]
      refine ⟨hl, ⟨?_, ih⟩, ?_⟩
      · intro b hb
        rcases mem b hb with rfl | hb
        · exact hk
        · exact hkr b hb
      · intro a ha b hb
        rcases hb with rfl | hb
        · exact hlr a ha b (Or.inl rfl)
        · rcases mem b hb with rfl | hb
          · exact trans _ _ _ (hlr a ha k (Or.inl rfl)) hk
          · exact hlr a ha b (Or.inr hb)
    · rename_i hk
      have hxk : less x k = true := by
        rcases cmp k (by simp [toList]) with h | h
        · exact h
        · exact absurd h hk
      have ih := ihl cmpl hl
      have mem : ∀ b ∈ toList (ins less nr l x), b = x ∨ b ∈ toList l := by
        intro b hb
        have := (toList_ins_perm less nr l x).mem_iff.mp hb
        simpa using this
      simp only [List.pairwise_append, List.pairwise_cons, List.mem_cons]
      refine ⟨ih, ⟨hkr, hr⟩, ?_⟩
      intro a ha b hb
      rcases mem a ha with rfl | ha
      · rcases hb with rfl | hb
        · exact hxk
        · exact trans _ _ _ hxk (hkr b hb)
      · exact hlr a ha b hb

theorem insertWith_toList_perm (less : α → α → Bool) (nr rb : Bool) (t : Tree α) (x : α) :
    (toList (insertWith less nr rb t x)).Perm (x :: toList t) := by
  unfold insertWith
  split
  · rw [toList_blacken]; exact toList_ins_perm ..
  · exact toList_ins_perm ..

theorem insertWith_sorted (less : α → α → Bool)
    (trans : ∀ a b c, less a b = true → less b c = true → less a c = true)
    (nr rb : Bool) (t : Tree α) (x : α)
    (cmp : ∀ y ∈ toList t, less x y = true ∨ less y x = true)
    (h : Sorted less t) : Sorted less (insertWith less nr rb t x) := by
  unfold insertWith
  split
  · unfold Sorted; rw [toList_blacken]; exact ins_sorted less trans nr t x cmp h
  · exact ins_sorted less trans nr t x cmp h

theorem insertAll_sorted (less : α → α → Bool)
    (trans : ∀ a b c, less a b = true → less b c = true → less a c = true)
    (nr rb : Bool) : ∀ (xs : List α) (t : Tree α),
    (∀ x ∈ xs, ∀ y ∈ toList t, less x y = true ∨ less y x = true) →
    xs.Pairwise (fun a b => less a b = true ∨ less b a = true) →
    Sorted less t →
    Sorted less (insertAll less nr rb t xs) ∧ (toList (insertAll less nr rb t xs)).Perm (xs ++ toList t) := by
  intro xs
  induction xs with
  | nil => intro t _ _ h; exact ⟨h, List.Perm.refl _⟩
  | cons x xs ih =>
    intro t cmp pw h
    simp only [List.pairwise_cons] at pw
    have hp := insertWith_toList_perm less nr rb t x
    have h1 := insertWith_sorted less trans nr rb t x (cmp x (by simp)) h
    have cmp' : ∀ x' ∈ xs, ∀ y ∈ toList (insertWith less nr rb t x), less x' y = true ∨ less y x' = true := by
      intro x' hx' y hy
      have := hp.mem_iff.mp hy
      rcases List.mem_cons.mp this with rfl | hy
      · exact (pw.1 x' hx').symm
      · exact cmp x' (by simp [hx']) y hy
    obtain ⟨s, p⟩ := ih (insertWith less nr rb t x) cmp' pw.2 h1
    refine ⟨s, ?_⟩
    show (toList (insertAll less nr rb (insertWith less nr rb t x) xs)).Perm _
    refine p.trans ?_
    have : (xs ++ toList (insertWith less nr rb t x)).Perm (xs ++ x :: toList t) := List.Perm.append_left _ hp
    refine this.trans ?_
    simp

theorem RB_checks {t : Tree α} {c n} (h : RB t c n) :
    noRedRed t = true ∧ blackHeight? t = some n := by
  induction h with
  | nil => exact ⟨rfl, rfl⟩
  | red hl hr ihl ihr =>
    simp [noRedRed, blackHeight?, ihl.1, ihl.2, ihr.1, ihr.2, isRed_of_RB hl, isRed_of_RB hr]
  | black _ _ ihl ihr =>
    simp [noRedRed, blackHeight?, ihl.1, ihl.2, ihr.1, ihr.2]

theorem sortedB_of_pairwise (less : α → α → Bool) : ∀ (l : List α),
    l.Pairwise (fun a b => less a b = true) → sortedB less l = true := by
  intro l
  induction l with
  | nil => intro _; rfl
  | cons a rest ih =>
    intro h
    cases rest with
    | nil => rfl
    | cons b rest =>
      simp only [List.pairwise_cons] at h
      simp only [sortedB, Bool.and_eq_true]
      exact ⟨h.1 b (by simp), ih (List.pairwise_cons.mpr h.2)⟩

theorem validB_of (less : α → α → Bool) {t : Tree α} {n} (h : RB t false n) (s : Sorted less t) :
    validB less t = true := by
  have := RB_checks h
  simp [validB, isRed_of_RB h, this.1, this.2, sortedB_of_pairwise less _ s]

theorem blackHeight_none_of_not {t : Tree α} (h : blackHeight? t = none) : ∀ c n, ¬ RB t c n :=
  fun _ _ hr => by have := (RB_checks hr).2; rw [h] at this; cases this

/-- plain (unbalanced) binary-search-tree insertion of a black node: what the unchanged code does, since it creates
    nodes black and so no fix-up fires -/
def insPlain (less : α → α → Bool) : Tree α → α → Tree α
  | nil, x => node false nil x nil
  | node c l k r, x => if less k x then node c l k (insPlain less r x) else node c (insPlain less l x) k r

def allBlack : Tree α → Bool
  | nil => true
  | node c l _ r => !c && allBlack l && allBlack r

theorem isRed_of_allBlack {t : Tree α} (h : allBlack t = true) : isRed t = false := by
  cases t with
  | nil => rfl
  | node c l k r => cases c <;> simp_all [allBlack, isRed]

theorem ins_black_plain (less : α → α → Bool) (t : Tree α) (x : α) (h : allBlack t = true) :
    ins less false t x = insPlain less t x ∧ allBlack (ins less false t x) = true := by
  induction t with
  | nil => simp [ins, insPlain, allBlack]
  | node c l k r ihl ihr =>
    simp only [allBlack, Bool.and_eq_true, Bool.not_eq_true'] at h
    obtain ⟨⟨hc, hl⟩, hr⟩ := h
    subst hc
    rw [ins_node]
    simp only [insPlain]
    split
    · obtain ⟨e, b⟩ := ihr hr
      simp [fixR, isRed_of_allBlack b, e.symm, allBlack, hl, b]
    · obtain ⟨e, b⟩ := ihl hl
      simp [fixL, isRed_of_allBlack b, e.symm, allBlack, hr, b]

theorem insertAll_unfixed_plain (less : α → α → Bool) : ∀ (xs : List α) (t : Tree α), allBlack t = true →
    insertAll less false false t xs = xs.foldl (insPlain less) t ∧
    allBlack (insertAll less false false t xs) = true := by
  intro xs
  induction xs with
  | nil => intro t h; exact ⟨rfl, h⟩
  | cons x xs ih =>
    intro t h
    obtain ⟨e, b⟩ := ins_black_plain less t x h
    have := ih (ins less false t x) b
    simp only [insertAll, List.foldl_cons, insertWith, Bool.false_eq_true, ↓reduceIte] at this ⊢
    rw [← e]
    exact this

/-- right spine of `k` black nodes with keys `i, i+1, …` -/
def spine : Nat → Nat → Tree Nat
  | _, 0 => nil
  | i, k + 1 => node false nil i (spine (i + 1) k)

def natLt (a b : Nat) : Bool := decide (a < b)

theorem insPlain_spine : ∀ (k i : Nat), insPlain natLt (spine i k) (i + k) = spine i (k + 1) := by
  intro k
  induction k with
  | zero => intro i; rfl
  | succ k ih =>
    intro i
    have h : natLt i (i + (k + 1)) = true := by simp [natLt]
    have e : i + (k + 1) = (i + 1) + k := by omega
    simp only [spine, insPlain, h, ↓reduceIte]
    rw [e, ih (i + 1)]
    rfl

theorem allBlack_spine : ∀ (k i : Nat), allBlack (spine i k) = true := by
  intro k
  induction k with
  | zero => intro i; rfl
  | succ k ih => intro i; simp [spine, allBlack, ih]

theorem foldl_plain_range (k : Nat) :
    (List.range k).foldl (insPlain natLt) nil = spine 0 k := by
  induction k with
  | zero => rfl
  | succ k ih =>
    rw [List.range_succ, List.foldl_append, ih]
    simp only [List.foldl_cons, List.foldl_nil]
    simpa using insPlain_spine k 0

theorem blackHeight_spine (i k : Nat) : blackHeight? (spine i (k + 2)) = none := by
  have inner : blackHeight? (spine (i + 1) (k + 1)) = some 1 ∨ blackHeight? (spine (i + 1) (k + 1)) = none := by
    simp only [spine, blackHeight?]
    cases blackHeight? (spine (i + 1 + 1) k) with
    | none => exact Or.inr rfl
    | some b =>
      by_cases hb : 0 = b
      · left; simp [hb]
      · right; simp [hb]
  show blackHeight? (node false nil i (spine (i + 1) (k + 1))) = none
  simp only [blackHeight?]
  rcases inner with h | h <;> rw [h] <;> simp

theorem spine_not_RB (i k : Nat) : ∀ c n, ¬ RB (spine i (k + 2)) c n :=
  blackHeight_none_of_not (blackHeight_spine i k)

theorem isHigh_false_of_isSurr_false {u : Nat} (h : isSurr u = false) : isHighSurr u = false := by
  simp only [isSurr, isHighSurr, Bool.and_eq_false_iff, decide_eq_false_iff_not] at h ⊢
  omega

theorem utf16Decode_id : ∀ (a : Name), (∀ u ∈ a, isSurr u = false) → utf16Decode a = a
  | [], _ => rfl
  | [u], h => by simp [utf16Decode, h u (by simp)]
  | u :: v :: rest, h => by
    have hu := h u (by simp)
    have ih := utf16Decode_id (v :: rest) (fun w hw => h w (by simp [hw]))
    simp [utf16Decode, isHigh_false_of_isSurr_false hu, hu, ih]

end Relic.RedBlack
