/-
  Relic.Proofs.ReaderProgs — which primitives the digester programs use (`Prog.Free`): the side conditions of
  `run_flat` for every program of Model/ReaderProgs.
-/
import Relic.Proofs.ReaderCalc
import Relic.Model.ReaderProgs
namespace Relic.Rd

/-- `Free r p b`: no raw `Read` when `r`, no probe when `p`, no `bufio.Reader` when `b` (a flag that is `true` FORBIDS).
    One predicate beside the model's `rawFree`/`probeFree`/`bufFree` so that each program is walked once, not three
    times; the projections below give the three.  Instances in use: `Free true true true` (io only: PE, CAB, the tar and
    ar programs), `Free true false true` (`digestCabOrig`: the probe), `Free true true false` (`digestPS`: bufio). -/
def Prog.Free {α} (r p b : Bool) : Prog α → Prop
  | .ret _ => True
  | .fail _ => True
  | .emit _ _ k => k.Free r p b
  | .readFull _ k => ∀ x, (k x).Free r p b
  | .copy _ _ k => ∀ x e, (k x e).Free r p b
  | .rawRead _ k => r = false ∧ ∀ x e, (k x e).Free r p b
  | .probe k => p = false ∧ ∀ e, (k e).Free r p b
  | .wrapBufio _ k => b = false ∧ k.Free r p b
  | .peek _ k => b = false ∧ ∀ x e, (k x e).Free r p b
  | .readByte k => b = false ∧ ∀ x, (k x).Free r p b
  | .readString _ k => b = false ∧ ∀ x e, (k x e).Free r p b
  | .bufDrain _ k => b = false ∧ ∀ x e, (k x e).Free r p b

theorem Prog.Free.rawFree {α} {p b : Bool} {pr : Prog α} (h : pr.Free true p b) : pr.rawFree := by
  induction pr with
  | ret _ => trivial
  | fail _ => trivial
  | emit _ _ k ih => exact ih h
  | readFull _ k ih => exact fun x => ih x (h x)
  | copy _ _ k ih => exact fun x e => ih x e (h x e)
  | rawRead _ k _ => exact absurd h.1 (by simp)
  | probe k ih => exact fun e => ih e (h.2 e)
  | wrapBufio _ k ih => exact ih h.2
  | peek _ k ih => exact fun x e => ih x e (h.2 x e)
  | readByte k ih => exact fun x => ih x (h.2 x)
  | readString _ k ih => exact fun x e => ih x e (h.2 x e)
  | bufDrain _ k ih => exact fun x e => ih x e (h.2 x e)

theorem Prog.Free.probeFree {α} {r b : Bool} {pr : Prog α} (h : pr.Free r true b) : pr.probeFree := by
  induction pr with
  | ret _ => trivial
  | fail _ => trivial
  | emit _ _ k ih => exact ih h
  | readFull _ k ih => exact fun x => ih x (h x)
  | copy _ _ k ih => exact fun x e => ih x e (h x e)
  | rawRead _ k ih => exact fun x e => ih x e (h.2 x e)
  | probe k _ => exact absurd h.1 (by simp)
  | wrapBufio _ k ih => exact ih h.2
  | peek _ k ih => exact fun x e => ih x e (h.2 x e)
  | readByte k ih => exact fun x => ih x (h.2 x)
  | readString _ k ih => exact fun x e => ih x e (h.2 x e)
  | bufDrain _ k ih => exact fun x e => ih x e (h.2 x e)

theorem Prog.Free.bufFree {α} {r p : Bool} {pr : Prog α} (h : pr.Free r p true) : pr.bufFree := by
  induction pr with
  | ret _ => trivial
  | fail _ => trivial
  | emit _ _ k ih => exact ih h
  | readFull _ k ih => exact fun x => ih x (h x)
  | copy _ _ k ih => exact fun x e => ih x e (h x e)
  | rawRead _ k ih => exact fun x e => ih x e (h.2 x e)
  | probe k ih => exact fun e => ih e (h.2 e)
  | wrapBufio _ k _ => exact absurd h.1 (by simp)
  | peek _ k _ => exact absurd h.1 (by simp)
  | readByte k _ => exact absurd h.1 (by simp)
  | readString _ k _ => exact absurd h.1 (by simp)
  | bufDrain _ k _ => exact absurd h.1 (by simp)

/- The continuation `k` of each combinator lemma below is implicit and is read off the goal: they are meant to be used
   against a stated goal (`exact`, `refine`, as in the walks further down); in a `have` without a type `fun _ => trivial`
   cannot be checked, since `(k x).Free …` is not yet known to be `True`. -/
section combinators
variable {α : Type} {r p b : Bool}

theorem failE_free (e : String) : (failE e : Prog α).Free r p b := trivial

theorem ite_free {c : Prop} [Decidable c] {x y : Prog α} (hx : x.Free r p b) (hy : y.Free r p b) :
    (if c then x else y).Free r p b := by
  by_cases h : c
  · rwa [if_pos h]
  · rwa [if_neg h]

theorem readFullE_free {n : Nat} {k : Bytes → Prog α} (h : ∀ x, (k x).Free r p b) : (readFullE n k).Free r p b := by
  intro x
  cases x with
  | ok x => exact h x
  | short _ _ => trivial

theorem readAndHash_free {n : Nat} {k : Bytes → Prog α} (h : ∀ x, (k x).Free r p b) : (readAndHash n k).Free r p b := by
  exact ite_free (h []) (readFullE_free h)

theorem copyN_free {n : Int} {sc : Sched} {k : Bytes → Prog α} (h : ∀ x, (k x).Free r p b) : (copyN n sc k).Free r p b := by
  refine ite_free (h []) fun x e => ?_
  cases e with
  | limit => exact h x
  | src _ => trivial

theorem copyNToE_free {s : Nat} {n : Int} {sc : Sched} {f : Term → Fail} {k : Bytes → Prog α}
    (h : ∀ x, (k x).Free r p b) : (copyNToE s n sc f k).Free r p b := by
  refine ite_free (h []) fun x e => ?_
  cases e with
  | limit => exact h x
  | src _ => trivial

theorem copyNTo_free {s : Nat} {n : Int} {sc : Sched} {k : Bytes → Prog α} (h : ∀ x, (k x).Free r p b) :
    (copyNTo s n sc k).Free r p b := copyNToE_free h

end combinators

theorem peHeaders_free {α} {r p b : Bool} {k : PEHdr → Prog α} (h : ∀ x, (k x).Free r p b) : (peHeaders k).Free r p b := by
  refine readAndHash_free fun dos => ite_free trivial ?_
  refine copyN_free fun pad => readAndHash_free fun magic => ite_free trivial ?_
  refine readAndHash_free fun fh => readFullE_free fun opt => ite_free trivial ?_
  dsimp only
  split
  · trivial
  · refine ite_free trivial (ite_free trivial (ite_free trivial (readAndHash_free fun tbl => ?_)))
    cases PE.fixSections _ _ _ _ with
    | ok v => exact copyN_free fun _ => h _
    | err _ => trivial
    | panic _ => trivial
    | diverge => trivial

theorem pageLoop_free {α} {r p b : Bool} (ps fuel pos rem : Nat) (acc : List (Nat × Bytes)) (last : Nat)
    {k : List (Nat × Bytes) → Nat → Prog α} (h : ∀ x y, (k x y).Free r p b) :
    (pageLoop ps fuel pos rem acc last k).Free r p b := by
  induction fuel generalizing pos rem acc last with
  | zero => exact h _ _
  | succ fuel ih => exact ite_free (readFullE_free fun buf => ih _ _ _ _) (h _ _)

theorem peSections_free {α} {r p b : Bool} (pg : Bool) (ps : Nat) (ss : List PE.Section) (next : Nat)
    (acc : List (Nat × Bytes)) (last : Nat) {k : Nat → List (Nat × Bytes) → Nat → Prog α}
    (h : ∀ x y z, (k x y z).Free r p b) : (peSections pg ps ss next acc last k).Free r p b := by
  induction ss generalizing next acc last with
  | nil => exact h _ _ _
  | cons s rest ih =>
    exact ite_free (ih _ _ _) (ite_free trivial (ite_free (pageLoop_free _ _ _ _ _ _ fun _ _ => ih _ _ _)
      (copyNTo_free fun _ => ih _ _ _)))

theorem peTrailer_free {α} {r p b : Bool} (next cs cz : Nat) {k : Nat → Prog α} (h : ∀ x, (k x).Free r p b) :
    (peTrailer next cs cz k).Free r p b := by
  refine ite_free (fun x e => ?_) (ite_free trivial (copyNTo_free fun _ => copyN_free fun _ x _ => ite_free trivial (h _)))
  cases e with
  | limit => trivial
  | src t => cases t with
    | eof => exact h _
    | fail _ => trivial

theorem peBody_free (pg : Bool) (h : PEHdr) : (peBody pg h).Free true true true :=
  ite_free trivial (copyNToE_free fun _ => peSections_free _ _ _ _ _ _ fun _ _ _ => peTrailer_free _ _ _ fun _ => trivial)

theorem digestPE_free (pg : Bool) : (digestPE pg).Free true true true :=
  peHeaders_free (peBody_free pg)

theorem cabReserve_free {α} {r p b : Bool} (total : Nat) {k : Cab.Reserve → Prog α} (h : ∀ x, (k x).Free r p b) :
    (cabReserve total k).Free r p b := by
  refine readFullE_free fun rh => ite_free trivial (readFullE_free fun sh => ite_free (ite_free trivial ?_) (ite_free trivial (h _)))
  exact readFullE_free fun pbuf => ite_free trivial (h _)

theorem cabFolders_free {α} {r p b : Bool} (delta n : Nat) (acc : Bytes) {k : Bytes → Prog α}
    (h : ∀ x, (k x).Free r p b) : (cabFolders delta n acc k).Free r p b := by
  induction n generalizing acc with
  | zero => exact h _
  | succ n ih => exact readFullE_free fun fh => ih _

theorem cabRest_free {α} {r p b : Bool} (hd : Bytes) (rv : Cab.Reserve) {k : Cab.Digest → Prog α}
    (h : ∀ x, (k x).Free r p b) : (cabRest hd rv k).Free r p b := by
  refine ite_free trivial (ite_free trivial (cabFolders_free _ _ _ fun folders => copyNTo_free fun data => ?_))
  by_cases hs : rv.hasSig = true
  · rw [if_pos hs]
    exact readFullE_free fun _ => h _
  · rw [if_neg hs]
    exact h _

theorem cabBody_free {α} {r p b : Bool} {k : Cab.Digest → Prog α} (h : ∀ x, (k x).Free r p b) :
    (cabBody k).Free r p b :=
  readFullE_free fun _ => ite_free trivial (ite_free (cabReserve_free _ fun _ => cabRest_free _ _ h) (cabRest_free _ _ h))

/-- before fix F-rd-cab-tail `cabfile.Digest` used `binary.Read`, `io.ReadFull`, `io.CopyN` and the one-byte probe -/
theorem digestCabOrig_free : digestCabOrig.Free true false true := by
  unfold digestCabOrig
  refine cabBody_free fun d => ?_
  refine ⟨rfl, fun e => ?_⟩
  cases e with
  | none => trivial
  | some t => cases t <;> trivial

theorem digestCab_free : digestCab.Free true true true := by
  unfold digestCab
  refine cabBody_free fun d => ?_
  intro b e
  unfold cabTail.match_1
  cases e with
  | limit => exact ite_free trivial trivial
  | src t => cases t with
    | eof => exact ite_free trivial trivial
    | fail _ => trivial

theorem readLine16_free {α} {r p : Bool} (fuel : Nat) (line : Bytes) {k : Bytes → Option BErr → Prog α}
    (h : ∀ x e, (k x e).Free r p false) : (readLine16 fuel line k).Free r p false := by
  induction fuel generalizing line with
  | zero => trivial
  | succ fuel ih =>
    simp only [readLine16]
    refine ⟨rfl, fun x => ?_⟩
    cases x with
    | error e => exact h _ _
    | ok lo =>
      refine ⟨rfl, fun y => ?_⟩
      cases y with
      | error e => exact h _ _
      | ok hi => exact ite_free (h _ _) (ih _)

theorem readLine_free {α} {r p : Bool} (u16 : Bool) (fuel : Nat) {k : Bytes → Option BErr → Prog α}
    (h : ∀ x e, (k x e).Free r p false) : (readLine u16 fuel k).Free r p false :=
  ite_free (readLine16_free _ _ h) ⟨rfl, h⟩

theorem psMarker_free (u16 : Bool) (eol : Nat) (saved : Bytes) (ts : Nat) (line : Bytes) :
    (psMarker u16 eol saved ts line).Free true true false := by
  refine ite_free trivial (ite_free trivial ⟨rfl, fun b en => ?_⟩)
  cases en with
  | limit => trivial
  | src t => cases t <;> trivial

theorem psStep_free (u16 : Bool) (first saved : Bytes) (ts : Nat) (line : Bytes) (e : Option BErr)
    {again : Bytes → Nat → Prog PSOut} (h : ∀ x y, (again x y).Free true true false) :
    (psStep u16 first saved ts line e again).Free true true false := by
  have rest : Prog.Free true true false
      (if line = first then psMarker u16 (if u16 then 4 else 2) saved ts line
       else Prog.emit hashSink (PS.conv u16 saved)
        (if e = some (.term .eof) then
          Prog.emit hashSink (PS.conv u16 line) (Prog.ret ⟨ts + saved.length + line.length, 0, u16⟩)
         else again line (ts + saved.length))) :=
    ite_free (psMarker_free _ _ _ _ _) (ite_free trivial (h _ _))
  unfold psStep
  cases e with
  | none => exact rest
  | some e =>
    cases e with
    | term t => cases t with
      | eof => exact rest
      | fail _ => trivial
    | noProgress => trivial
    | bufferFull => trivial

theorem psLoop_free (u16 : Bool) (first : Bytes) (lfuel fuel : Nat) (saved : Bytes) (ts : Nat) :
    (psLoop u16 first lfuel fuel saved ts).Free true true false := by
  induction fuel generalizing saved ts with
  | zero => trivial
  | succ fuel ih =>
    simp only [psLoop]
    exact readLine_free _ _ fun line e => psStep_free _ _ _ _ _ _ ih

theorem digestPS_free (style fuel : Nat) : (digestPS style fuel).Free true true false := by
  unfold digestPS
  cases PS.styleOf style with
  | none => trivial
  | some v => exact ⟨rfl, rfl, fun bom e => psLoop_free _ _ _ _ _ _⟩

theorem raProg_free {α} (c : RAClient α) (pos : Nat) : (raProg c pos).Free true true true := by
  induction c generalizing pos with
  | done _ => trivial
  | fail _ => trivial
  | readAt len off k ih =>
    simp only [raProg]
    refine ite_free (ih _ _) fun skipped e => ?_
    cases e with
    | src t => exact ih _ _
    | limit =>
      intro r
      cases r with
      | ok b => exact ih _ _
      | short got t => exact ih _ _

theorem tarNextE_free {α} {r p b : Bool} (st : TarSt) {k : TarNextE → Prog α} (h : ∀ x, (k x).Free r p b) :
    (tarNextE st k).Free r p b := by
  unfold tarNextE
  intro _ e0
  cases e0 with
  | src t => exact h _
  | limit =>
    intro rp
    cases rp with
    | short g t => cases t <;> exact h _
    | ok _ =>
      intro rb
      cases rb with
      | short g t =>
        cases g with
        | nil => cases t <;> exact h _
        | cons _ _ => exact h _
      | ok blk =>
        refine ite_free (fun rb2 => ?_) (h _)
        cases rb2 with
        | short g t =>
          cases g with
          | nil => cases t <;> exact h _
          | cons _ _ => exact h _
        | ok blk2 => exact ite_free (h _) (h _)

theorem tarNext_free {α} {r p b : Bool} (st : TarSt) {k : TarNext → Prog α} (h : ∀ x, (k x).Free r p b) :
    (tarNext st k).Free r p b := by
  unfold tarNext
  refine tarNextE_free _ fun x => ?_
  cases x with
  | hdr _ _ => exact h _
  | eof => exact h _
  | err _ => trivial

theorem tarCopy_free {α} {r p b : Bool} (st : TarSt) (lim : Option Nat) (sc : Sched) {k : Bytes → Bool → TarSt → Prog α}
    (h : ∀ x y z, (k x y z).Free r p b) : (tarCopy st lim sc k).Free r p b := by
  unfold tarCopy
  intro x e
  cases e with
  | limit => exact h _ _ _
  | src t => cases t <;> trivial

theorem xapLoop_free (rs : Bytes → Bytes) (fuel : Nat) (st : TarSt) (cd : Bytes) : (xapLoop rs fuel st cd).Free true true true := by
  induction fuel generalizing st cd with
  | zero => trivial
  | succ fuel ih =>
    simp only [xapLoop]
    refine tarNext_free _ fun nx => ?_
    cases nx with
    | eof => trivial
    | hdr h st1 =>
      exact ite_free (tarCopy_free _ _ _ fun _ _ _ => ih _ _)
        (ite_free (tarCopy_free _ _ _ fun _ short _ => ite_free trivial trivial) (ih _ _))

theorem msiLoop_free (ext : Bool) (isSig : Bytes → Bool) (ex : Bytes) (fuel : Nat) (st : TarSt) :
    (msiLoop ext isSig ex fuel st).Free true true true := by
  induction fuel generalizing st with
  | zero => trivial
  | succ fuel ih =>
    simp only [msiLoop]
    refine tarNext_free _ fun nx => ?_
    cases nx with
    | eof => trivial
    | hdr h st1 =>
      exact ite_free (ite_free (ih _) (tarCopy_free _ _ _ fun _ _ _ => ih _))
        (ite_free (ih _) (tarCopy_free _ _ _ fun _ _ _ => ih _))

theorem zEnd_free {α} {r p b : Bool} (st : ZSt) {k : String → Prog α} (h : ∀ x, (k x).Free r p b) :
    (zEnd st k).Free r p b := by
  unfold zEnd
  refine tarNextE_free _ fun x => ?_
  cases x <;> exact h _

theorem zSkip_free {α} {r p b : Bool} (n : Nat) (st : ZSt) {k : Option String → ZSt → Prog α}
    (h : ∀ x y, (k x y).Free r p b) : (zSkip n st k).Free r p b := by
  refine ite_free (h _ _) (ite_free (h _ _) (ite_free (zEnd_free _ fun _ => h _ _) fun x e => ?_))
  cases e with
  | src t => exact h _ _
  | limit => exact ite_free (h _ _) (zEnd_free _ fun e => ite_free (h _ _) (h _ _))

theorem zRead_free {α} {r p b : Bool} (len : Nat) (st : ZSt) {k : ZAns → ZSt → Prog α}
    (h : ∀ x y, (k x y).Free r p b) : (zRead len st k).Free r p b := by
  refine ite_free (h _ _) (ite_free (h _ _) (ite_free (zEnd_free _ fun _ => h _ _) fun x => ?_))
  cases x with
  | short got t => exact h _ _
  | ok bb => exact ite_free (h _ _) (zEnd_free _ fun e => ite_free (h _ _) (h _ _))

theorem zipTarClient_free {α} (c : ZClient α) (st : ZSt) : (zipTarClient c st).Free true true true := by
  induction c generalizing st with
  | done _ => trivial
  | fail _ => trivial
  | readAt len off k ih =>
    simp only [zipTarClient]
    refine ite_free (ih _ _) (zSkip_free _ _ fun se st1 => ?_)
    cases se with
    | some e => exact ih _ _
    | none => exact zRead_free _ _ fun ans st2 => ih _ _

theorem readZipTar_free {α} (mk : Bytes → Nat → ZClient α) : (readZipTar mk).Free true true true := by
  unfold readZipTar
  refine tarNextE_free _ fun r1 => ?_
  cases r1 with
  | eof => trivial
  | err e => trivial
  | hdr h1 st1 =>
    refine ite_free trivial (tarCopy_free _ _ _ fun cd _ st2 => tarNextE_free _ fun r2 => ?_)
    cases r2 with
    | eof => trivial
    | err e => trivial
    | hdr h2 st3 => exact ite_free trivial (zipTarClient_free _ _)

theorem hashPagesLoop_free (ps fuel : Nat) (acc : List Bytes) (lim : Nat) :
    (hashPagesLoop ps fuel acc lim).Free true true true := by
  induction fuel generalizing acc lim with
  | zero => trivial
  | succ fuel ih =>
    simp only [hashPagesLoop]
    intro r
    cases r with
    | ok b => exact ih _ _
    | short g t =>
      cases g with
      | nil => cases t <;> trivial
      | cons _ _ => exact ih _ _

theorem debLoop_free (clean : Bytes → Bytes) (role : Bytes) (fuel : Nat) (st : ArSt) (out : DebOut) :
    (debLoop clean role fuel st out).Free true true true := by
  induction fuel generalizing st out with
  | zero => trivial
  | succ fuel ih =>
    simp only [debLoop]
    intro sk e
    cases e with
    | src t => cases t <;> trivial
    | limit =>
      intro rh
      cases rh with
      | short g t =>
        cases g with
        | nil => cases t <;> trivial
        | cons _ _ => cases t <;> trivial
      | ok hb =>
        refine ite_free (ih _ _) fun b e2 => ?_
        cases e2 with
        | limit => exact ih _ _
        | src t => cases t with
          | eof => exact ih _ _
          | fail _ => trivial

theorem digestDeb_free (clean : Bytes → Bytes) (role : Bytes) (fuel : Nat) : (digestDeb clean role fuel).Free true true true :=
  fun _ _ => debLoop_free _ _ _ _ _

end Relic.Rd
