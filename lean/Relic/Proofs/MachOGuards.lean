/- Mach-O: the two guards added by the fixes F-MACHO-4 (`scanFile`: load commands must fill `sizeofcmds` when a command is
   going to be added) and F-MACHO-3 (`Sign`: a fresh signature region must not exceed what `readSigBlob` reads).
   `scan` / `plan` / `sign` (current tree) against `scanOrig` / `planOrig` / `signOrig` (tree before the fixes): the current
   functions accept a subset of what the old ones accepted, with the same result; what the guards guarantee. -/
import Relic.Proofs.MachOSigned
namespace Relic.MachO
open Relic.CodeDir

/-- does the guard `len(dat) != 0 && f.loadCsStart == 0` fire on `f` (all earlier tests passed)? -/
def slackOf (f : Bytes) : Bool :=
  if f.length < 4 then false else
  match readMagic f with
  | none => false
  | some (be, magic) =>
    if f.length < 28 then false else
    let ncmd := rd32 be f 16
    let cmdsz := rd32 be f 20
    let hdrEnd := if magic = 0xfeedfacf then 32 else 28
    if f.length - hdrEnd < cmdsz then false else
    let stop := hdrEnd + cmdsz
    match cmdLoop be f stop ncmd hdrEnd {} with
    | .ok st => decide (stop - cmdEnd be f ncmd hdrEnd ≠ 0 ∧ st.loadCsStart = 0)
    | _ => false

theorem scan_eq (f : Bytes) : scan f = if slackOf f then .err "slack" else scanOrig f := by
  unfold scan scanOrig slackOf
  by_cases h4 : f.length < 4
  · simp [h4]
  · simp only [h4, if_false]
    cases hm : readMagic f with
    | none => simp
    | some bm =>
      obtain ⟨be, magic⟩ := bm
      simp only []
      by_cases h28 : f.length < 28
      · simp [h28]
      · simp only [h28, if_false]
        generalize (if magic = 4277009103 then 32 else 28) = hdrEnd
        by_cases hl : f.length - hdrEnd < rd32 be f 20
        · simp [hl]
        · simp only [hl, if_false]
          cases hc : cmdLoop be f (hdrEnd + rd32 be f 20) (rd32 be f 16) hdrEnd {} with
          | err e => simp
          | panic e => simp
          | diverge => simp
          | ok st =>
            simp only []
            by_cases hg : hdrEnd + rd32 be f 20 - cmdEnd be f (rd32 be f 16) hdrEnd ≠ 0 ∧ st.loadCsStart = 0
            · simp [hg]
            · simp [hg]

theorem slackOf_eq (f : Bytes) (m : Markers) (st : ScanSt) (S : ScanInv f m st) :
    slackOf f = decide (m.nextLc - cmdEnd m.be f (rd32 m.be f 16) (hdrEndOf m.magic) ≠ 0 ∧ m.loadCsStart = 0) := by
  have h28 := S.len28
  have hstop := S.stopLe
  have hnext := S.nextLc
  unfold slackOf
  rw [if_neg (by omega), S.magic]
  simp only []
  rw [if_neg (by omega), hdrEndOf_eq, if_neg (by omega), ← hnext, S.loop, S.loadCsStart]

/-- the second conjunct in relic's terms: no unused bytes behind the last load command unless an LC_CODE_SIGNATURE command exists -/
theorem scan_ok_iff (f : Bytes) (m : Markers) :
    scan f = .ok m ↔ scanOrig f = .ok m ∧
      ¬ (m.nextLc - cmdEnd m.be f (rd32 m.be f 16) (hdrEndOf m.magic) ≠ 0 ∧ m.loadCsStart = 0) := by
  rw [scan_eq]
  constructor
  · intro h
    split at h
    · cases h
    · rename_i hs
      obtain ⟨st, S⟩ := scanOrig_inv f m h
      rw [slackOf_eq f m st S] at hs
      exact ⟨h, by simpa using hs⟩
  · rintro ⟨h, hn⟩
    obtain ⟨st, S⟩ := scanOrig_inv f m h
    rw [slackOf_eq f m st S, if_neg (by simpa using hn)]
    exact h

theorem scan_orig_of_scan (f : Bytes) (m : Markers) (h : scan f = .ok m) : scanOrig f = .ok m :=
  ((scan_ok_iff f m).mp h).1

theorem scan_of_orig_signed (f : Bytes) (m : Markers) (h : scanOrig f = .ok m) (hcs : m.loadCsStart ≠ 0) : scan f = .ok m :=
  (scan_ok_iff f m).mpr ⟨h, fun c => hcs c.2⟩

theorem scan_slack_refused (f : Bytes) (m : Markers) (h : scanOrig f = .ok m) (hcs : m.loadCsStart = 0)
    (hsl : m.nextLc - cmdEnd m.be f (rd32 m.be f 16) (hdrEndOf m.magic) ≠ 0) : scan f = .err "slack" := by
  obtain ⟨st, S⟩ := scanOrig_inv f m h
  rw [scan_eq, slackOf_eq f m st S, if_pos (by simpa using ⟨hsl, hcs⟩)]

theorem chainEnd_eq_cmdEnd (be : Bool) (f : Bytes) (stop : Nat) : ∀ (n pos : Nat) (l : List Load),
    loadLoop be f stop n pos = .ok l → chainEnd pos l = cmdEnd be f n pos := by
  intro n
  induction n with
  | zero =>
    intro pos l h
    simp only [loadLoop] at h
    injection h with h; subst h; rfl
  | succ n ih =>
    intro pos l h
    obtain ⟨_, rest, hr, rfl⟩ := loadLoop_succ_ok be f stop n pos l h
    exact ih _ _ hr

/-- the `noSlack` condition of the end-to-end theorems: when a command is going to be added, the commands fill `sizeofcmds` -/
theorem scan_noSlack (f : Bytes) (m : Markers) (loads : List Load) (h : scan f = .ok m)
    (accepts : newFile f = .ok (m.be, loads)) (hcs : m.loadCsStart = 0) :
    hdrEndOf m.magic + (loads.map (fun e => e.2.2)).sum = m.nextLc := by
  obtain ⟨ho, hn⟩ := (scan_ok_iff f m).mp h
  obtain ⟨st, S⟩ := scanOrig_inv f m ho
  obtain ⟨magic, hm, hlen, hl⟩ := newFile_inv f m.be loads accepts
  rw [S.magic] at hm
  injection hm with hm; injection hm with _ hm
  subst hm
  rw [← S.nextLc] at hl hlen
  have he := chainEnd_eq_cmdEnd _ _ _ _ _ _ hl
  obtain ⟨_, hch, hok⟩ := loadLoop_sound _ _ _ _ _ _ hl
  have hnext := S.nextLc
  have hle := chainEnd_le m.nextLc loads _ hch (fun e he => (hok e he).2.2.2.1) (by omega)
  rw [← chainEnd_eq_sum, he]
  rw [he] at hle
  have : ¬ (m.nextLc - cmdEnd m.be f (rd32 m.be f 16) (hdrEndOf m.magic) ≠ 0) := fun c => hn ⟨c, hcs⟩
  omega

/-- `regionSize` of `Sign`: the size of the region `PatchSignature` is going to use — the old region when it is at least as
    large as the estimate, the 8-aligned estimate otherwise -/
def regionOf (m : Markers) (est : Int) : Nat := if (m.sigLen : Int) < est then align est.toNat 8 else m.sigLen
/-- the size guard of `Sign` (fixes F-MACHO-3 and F-MACHO-3b): `regionSize > 10e6` -/
def sizeGuard (m : Markers) (est : Int) : Prop := regionOf m est > 10000000
/-- the guard as it was between the two fixes (/repo 5805b39 .. e678460): only a FRESH region was tested -/
def sizeGuardMid (m : Markers) (est : Int) : Prop := (m.sigLen : Int) < est ∧ align est.toNat 8 > 10000000
/-- where the int64 product of the estimate would wrap -/
def estRange (m : Markers) (hashSize : Nat) : Prop :=
  m.codeSize * (20 + hashSize : Nat) ≥ 2 ^ 63 ∨ m.codeSize * (20 + hashSize : Nat) < -(2 ^ 63)

instance (m : Markers) (est : Int) : Decidable (sizeGuard m est) := by unfold sizeGuard; exact inferInstance
instance (m : Markers) (est : Int) : Decidable (sizeGuardMid m est) := by unfold sizeGuardMid; exact inferInstance
instance (m : Markers) (hs : Nat) : Decidable (estRange m hs) := by unfold estRange; exact inferInstance

theorem plan_of_scan (f : Bytes) (m : Markers) (hashSize entLen reqLen : Nat) (h : scan f = .ok m) :
    plan f hashSize entLen reqLen =
      if estRange m hashSize then .err "range" else
      if sizeGuard m (estI m hashSize entLen reqLen) then .err "signtoolarge" else planFrom f m hashSize entLen reqLen := by
  unfold plan planFrom estRange sizeGuard regionOf estI; rw [h]; rfl

theorem plan_inv (f : Bytes) (hashSize entLen reqLen : Nat) (pl : Plan) (h : plan f hashSize entLen reqLen = .ok pl) :
    scan f = .ok pl.m ∧ ¬ estRange pl.m hashSize ∧ ¬ sizeGuard pl.m (estI pl.m hashSize entLen reqLen) ∧
    planOrig f hashSize entLen reqLen = .ok pl := by
  cases hs : scan f with
  | ok m =>
    rw [plan_of_scan f m _ _ _ hs, Res.errGuard_eq_ok, Res.errGuard_eq_ok] at h
    obtain ⟨hr, hg, h⟩ := h
    have ho : planOrig f hashSize entLen reqLen = .ok pl := by
      rw [planOrig_of_scan f m _ _ _ (scan_orig_of_scan f m hs)]; exact h
    have hm : pl.m = m := by
      have := (planOrig_inv f _ _ _ pl ho).1
      rw [scan_orig_of_scan f m hs] at this
      exact (Res.ok.inj this).symm
    rw [hm]
    exact ⟨rfl, hr, hg, ho⟩
  | _ => unfold plan at h; rw [hs] at h; cases h

theorem plan_of_orig (f : Bytes) (hashSize entLen reqLen : Nat) (pl : Plan) (h : planOrig f hashSize entLen reqLen = .ok pl)
    (hs : scan f = .ok pl.m) (hr : ¬ estRange pl.m hashSize) (hg : ¬ sizeGuard pl.m (estI pl.m hashSize entLen reqLen)) :
    plan f hashSize entLen reqLen = .ok pl := by
  rw [plan_of_scan f pl.m _ _ _ hs, if_neg hr, if_neg hg, ← planOrig_of_scan f pl.m _ _ _ (scan_orig_of_scan f _ hs)]
  exact h

theorem sign_eq_signFrom (f : Bytes) (p : SignParams) :
    sign f p = signFrom p (plan f (hashSizeOf p.hash) ((p.entitlement.map (·.length)).getD 0)
      ((p.requirements.map (·.length)).getD 0)) := rfl

theorem signOrig_eq_signFrom (f : Bytes) (p : SignParams) :
    signOrig f p = signFrom p (planOrig f (hashSizeOf p.hash) ((p.entitlement.map (·.length)).getD 0)
      ((p.requirements.map (·.length)).getD 0)) := rfl

theorem sign_inv' (f : Bytes) (p : SignParams) (so : SignOut) (h : sign f p = .ok so) :
    signOrig f p = .ok so ∧ scan f = .ok so.plan.m ∧
    ¬ sizeGuard so.plan.m (estI so.plan.m (hashSizeOf p.hash) ((p.entitlement.map (·.length)).getD 0)
      ((p.requirements.map (·.length)).getD 0)) := by
  rw [sign_eq_signFrom] at h
  have hp := (signFrom_inv _ _ _ h).1
  obtain ⟨hs, _, hg, ho⟩ := plan_inv f _ _ _ so.plan hp
  refine ⟨?_, hs, hg⟩
  rw [signOrig_eq_signFrom, ho, ← hp]
  exact h

theorem sign_orig_of_sign (f : Bytes) (p : SignParams) (so : SignOut) (h : sign f p = .ok so) : signOrig f p = .ok so :=
  (sign_inv' f p so h).1

theorem sign_of_orig (f : Bytes) (p : SignParams) (so : SignOut) (h : signOrig f p = .ok so) (hs : scan f = .ok so.plan.m)
    (hr : ¬ estRange so.plan.m (hashSizeOf p.hash))
    (hg : ¬ sizeGuard so.plan.m (estI so.plan.m (hashSizeOf p.hash) ((p.entitlement.map (·.length)).getD 0)
      ((p.requirements.map (·.length)).getD 0))) : sign f p = .ok so := by
  rw [signOrig_eq_signFrom] at h
  have hp := (signFrom_inv _ _ _ h).1
  rw [sign_eq_signFrom, plan_of_orig f _ _ _ so.plan hp hs hr hg, ← hp]
  exact h

theorem sign_of_scan_err (f : Bytes) (p : SignParams) (e : String) (h : scan f = .err e) : sign f p = .err e := by
  rw [sign_eq_signFrom]
  unfold plan
  rw [h]
  rfl

theorem sign_refuses_oversize (f : Bytes) (p : SignParams) (m : Markers) (hs : scan f = .ok m)
    (hr : ¬ estRange m (hashSizeOf p.hash))
    (hg : sizeGuard m (estI m (hashSizeOf p.hash) ((p.entitlement.map (·.length)).getD 0) ((p.requirements.map (·.length)).getD 0))) :
    sign f p = .err "signtoolarge" := by
  rw [sign_eq_signFrom, plan_of_scan f m _ _ _ hs, if_neg hr, if_pos hg]
  rfl

theorem sign_small (f : Bytes) (p : SignParams) (so : SignOut) (h : sign f p = .ok so) :
    so.plan.po.sigBufLen ≤ 10000000 := by
  obtain ⟨ho, _, hg⟩ := sign_inv' f p so h
  obtain ⟨_, hpo⟩ := signOrig_patch f p so ho
  unfold sizeGuard regionOf at hg
  rcases patchSignature_sigBufLen _ _ _ _ hpo with ⟨h1, h2⟩ | ⟨h1, h2⟩
  · rw [h2]
    rw [if_neg (by omega)] at hg
    omega
  · rw [h2]
    rw [if_pos (by omega)] at hg
    omega

/-- the guard of the intermediate tree implies the current one; the difference is exactly the reuse of an old region of
    more than 10^7 bytes -/
theorem sizeGuard_iff (m : Markers) (est : Int) :
    sizeGuard m est ↔ sizeGuardMid m est ∨ (¬ (m.sigLen : Int) < est ∧ 10000000 < m.sigLen) := by
  unfold sizeGuard sizeGuardMid regionOf
  by_cases c : (m.sigLen : Int) < est
  · rw [if_pos c]; constructor
    · intro h; exact Or.inl ⟨c, h⟩
    · rintro (⟨_, h⟩ | ⟨h, _⟩)
      · exact h
      · exact absurd c h
  · rw [if_neg c]; constructor
    · intro h; exact Or.inr ⟨c, h⟩
    · rintro (⟨h, _⟩ | ⟨_, h⟩)
      · exact absurd h c
      · exact h

end Relic.MachO
