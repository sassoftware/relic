/-
  What `verify` looks at.  `lookups E files` lists every name the verifier may pass to the name → member map on this run
  (a superset: the loops are not cut at their first error); two maps that agree on these names get the same verdict, whatever
  it is.  Then: what an accepting run implies, and that the layer below `E.xopen` returns a value or an error.
-/
import Relic.Proofs.VsixSign
namespace Relic.Vsix
open Relic.XmlSig

/-- targets of the certificate relationships -/
def certLookups : List Rel → List Bytes
  | [] => []
  | r :: rs => if r.type ≠ certType then certLookups rs else cleanRel r.target :: certLookups rs

/-- the relationships `parseRelsAt` reads at `p`, none when it fails (the lookups are a superset: the chain is not cut at an error) -/
def relsOrNil (E : Env) (files : Files) (p : Bytes) : List Rel :=
  match parseRelsAt E files p with
  | .ok rs => rs
  | _ => []

/-- names consulted by `readSignature` -/
def sigLookups (E : Env) (files : Files) : List Bytes :=
  relPath [] ::
    match relsFind (relsOrNil E files (relPath [])) sigOriginType with
    | none => []
    | some origin =>
      relPath origin ::
        match relsFind (relsOrNil E files (relPath origin)) sigType with
        | none => []
        | some sp => sp :: relPath sp :: certLookups (relsOrNil E files (relPath sp))

/-- the names the Reference loop looks up, for a given list -/
def refLookups (refs : List RefInfo) : List Bytes := refs.map fun r => uriPath r.uri

/-- names consulted by `checkManifest` on this run -/
def manifestLookups (E : Env) (files : Files) : List Bytes :=
  match readSignature E files with
  | .ok sc =>
    match E.xopen sc.1 sc.2 with
    | .ok o => refLookups (decodeManifest o.reference)
    | _ => []
  | _ => []

/-- every name `verify` may look up on this run -/
def lookups (E : Env) (files : Files) : List Bytes := sigLookups E files ++ manifestLookups E files

theorem readZip_congr {files files' : Files} {p : Bytes} (h : files' p = files p) : readZip files' p = readZip files p := by
  simp [readZip, h]

theorem parseRelsAt_congr (E : Env) {files files' : Files} {p : Bytes} (h : files' p = files p) :
    parseRelsAt E files' p = parseRelsAt E files p := by
  simp [parseRelsAt, readZip_congr h]

theorem readCerts_congr (E : Env) {files files' : Files} : ∀ (rs : List Rel),
    (∀ n ∈ certLookups rs, files' n = files n) → readCerts E files' rs = readCerts E files rs := by
  intro rs
  induction rs with
  | nil => intro _; rfl
  | cons r rs ih =>
    intro h
    simp only [readCerts]
    by_cases ht : r.type = certType
    · have h1 : files' (cleanRel r.target) = files (cleanRel r.target) := h _ (by simp [certLookups, ht])
      have h2 := ih (fun n hn => h n (by simp [certLookups, ht, hn]))
      simp only [ht, ne_eq, not_true_eq_false, if_false, readZip_congr h1, h2]
    · have h2 := ih (fun n hn => h n (by simp [certLookups, ht, hn]))
      simp only [ne_eq, ht, not_false_eq_true, if_true, h2]

theorem checkRefs_congr (E : Env) {files files' : Files} : ∀ (refs : List RefInfo),
    (∀ n ∈ refLookups refs, files' n = files n) → checkRefs E files' refs = checkRefs E files refs := by
  intro refs
  induction refs with
  | nil => intro _; rfl
  | cons r rs ih =>
    intro h
    have h1 : files' (uriPath r.uri) = files (uriPath r.uri) := h _ (by simp [refLookups])
    have h2 := ih (fun n hn => h n (by simp only [refLookups, List.map_cons] at hn ⊢; exact List.mem_cons_of_mem _ hn))
    simp only [checkRefs, h1, h2]

theorem readSignature_congr (E : Env) {files files' : Files} (h : ∀ n ∈ sigLookups E files, files' n = files n) :
    readSignature E files' = readSignature E files := by
  have h0 : files' (relPath []) = files (relPath []) := h _ (by simp [sigLookups])
  simp only [readSignature, bindBytes, bindRels, bindKeys, h0, parseRelsAt_congr E h0]
  split
  · rfl
  refine Res.bind_congr fun r hp1 => ?_
  have hr : relsOrNil E files (relPath []) = r := by simp [relsOrNil, hp1]
  split
  · rfl
  rename_i origin ho
  have h1 : files' (relPath origin) = files (relPath origin) := h _ (by simp [sigLookups, hr, ho])
  rw [parseRelsAt_congr E h1]
  refine Res.bind_congr fun r2 hp2 => ?_
  have hr2 : relsOrNil E files (relPath origin) = r2 := by simp [relsOrNil, hp2]
  split
  · rfl
  rename_i sp hs
  have h2 : files' sp = files sp := h _ (by simp [sigLookups, hr, ho, hr2, hs])
  have h3 : files' (relPath sp) = files (relPath sp) := h _ (by simp [sigLookups, hr, ho, hr2, hs])
  rw [readZip_congr h2, h3, parseRelsAt_congr E h3]
  refine Res.bind_congr fun blob _ => ?_
  split
  · rfl
  refine Res.bind_congr fun r3 hp3 => ?_
  have hr3 : relsOrNil E files (relPath sp) = r3 := by simp [relsOrNil, hp3]
  rw [readCerts_congr E r3 (fun n hn => h n (by simp [sigLookups, hr, ho, hr2, hs, hr3, hn]))]

theorem verifyCore_congr (E : Env) {files files' : Files} (h : ∀ n ∈ lookups E files, files' n = files n) :
    verifyCore E files' = verifyCore E files := by
  simp only [verifyCore, bindSig, bindOpened, bindChecked,
    readSignature_congr E (files := files) (files' := files') fun n hn => h n (by simp [lookups, hn])]
  refine Res.bind_congr fun sc hr => Res.bind_congr fun o ho => ?_
  rw [checkRefs_congr E _ fun n hn => h n (by simp [lookups, manifestLookups, hr, ho, hn])]

theorem uncovered_congr {names names' : List Bytes} (h : ∀ n, keepFile n = true → (n ∈ names' ↔ n ∈ names)) (checked : List (Bytes × Bytes)) :
    uncovered names' checked = uncovered names checked := by
  rw [Bool.eq_iff_iff, uncovered_iff, uncovered_iff]
  exact ⟨fun ⟨n, hn, hk, hc⟩ => ⟨n, (h n hk).mp hn, hk, hc⟩, fun ⟨n, hn, hk, hc⟩ => ⟨n, (h n hk).mpr hn, hk, hc⟩⟩

/-- the verdict depends on the package only through the members under the names in `lookups` and, for the repaired verifier,
    through which payload names (`keepFile`) occur at all -/
theorem verifyF_congr (fx : Bool) (E : Env) {files files' : Files} {names names' : List Bytes}
    (h : ∀ n ∈ lookups E files, files' n = files n)
    (hn : fx = true → ∀ n, keepFile n = true → (n ∈ names' ↔ n ∈ names)) :
    verifyF fx E files' names' = verifyF fx E files names := by
  unfold verifyF
  rw [verifyCore_congr E h]
  cases fx with
  | false => rfl
  | true =>
    cases hc : verifyCore E files with
    | ok r => simp only [Bool.true_and, uncovered_congr (hn rfl) r.2.2]
    | _ => rfl

theorem checkRefs_cons_ok {E : Env} {files : Files} {r : RefInfo} {rs : List RefInfo} {l : List (Bytes × Bytes)}
    (hl : checkRefs E files (r :: rs) = .ok l) :
    ∃ f h rest, files (uriPath r.uri) = some f ∧ hashOfName (stripNs r.digestAlg) = some h ∧
      E.digestCmp h f.data r.digestValue = .ok ∧ checkRefs E files rs = .ok rest ∧ l = (uriPath r.uri, f.data) :: rest := by
  simp only [checkRefs, bindChecked] at hl
  split at hl
  · cases hl
  split at hl
  · cases hl
  split at hl
  · cases hl
  · cases hl
  · obtain ⟨rest, hr, h⟩ := Res.bind_eq_ok.mp hl
    cases h
    exact ⟨_, _, rest, ‹_›, ‹_›, ‹_›, hr, rfl⟩

theorem checkRefs_ok_inv (E : Env) (files : Files) : ∀ (refs : List RefInfo) (l : List (Bytes × Bytes)), checkRefs E files refs = .ok l →
    ∀ r ∈ refs, ∃ f h, files (uriPath r.uri) = some f ∧ hashOfName (stripNs r.digestAlg) = some h ∧
      E.digestCmp h f.data r.digestValue = .ok ∧ (uriPath r.uri, f.data) ∈ l
  | [], _, _, r, hr => nomatch hr
  | r0 :: rs, l, hl, r, hr => by
    obtain ⟨f, h, rest, hf, hh, hd, hrest, rfl⟩ := checkRefs_cons_ok hl
    rcases List.mem_cons.mp hr with rfl | hr'
    · exact ⟨f, h, hf, hh, hd, List.mem_cons_self⟩
    · obtain ⟨f', h', a, b, c, d⟩ := checkRefs_ok_inv E files rs rest hrest r hr'
      exact ⟨f', h', a, b, c, List.mem_cons_of_mem _ d⟩

theorem checkRefs_names (E : Env) (files : Files) : ∀ (refs : List RefInfo) (l : List (Bytes × Bytes)), checkRefs E files refs = .ok l →
    l.map (·.1) = refLookups refs
  | [], l, h => by simp only [checkRefs, Res.ok.injEq] at h; subst h; rfl
  | r0 :: rs, l, hl => by
    obtain ⟨f, h, rest, -, -, -, hrest, rfl⟩ := checkRefs_cons_ok hl
    rw [List.map_cons, checkRefs_names E files rs rest hrest]
    rfl

theorem verifyF_ok_inv (fx : Bool) (E : Env) (files : Files) (names : List Bytes) (v : Verdict) (hv : verifyF fx E files names = .ok v) :
    ∃ sc o, readSignature E files = .ok sc ∧ E.xopen sc.1 sc.2 = .ok o ∧
      checkRefs E files (decodeManifest o.reference) = .ok v.checked ∧ o.ts = none ∧ v.hash = o.hash ∧ v.key = o.key ∧
      v.key ∈ sc.2 ++ o.embedded ∧ (fx = true → uncovered names v.checked = false) := by
  simp only [verifyF, bindCore, verifyCore, bindSig, bindOpened, bindChecked, Res.bind_eq_ok, Res.errGuard_eq_ok, Res.ok.injEq] at hv
  obtain ⟨r, ⟨sc, h1, o, h2, ck, h3, rfl⟩, hu, hv⟩ := hv
  split at hv
  · cases hv
  rename_i ht
  split at hv
  · rename_i hl
    cases hv
    refine ⟨sc, o, h1, h2, h3, ht, rfl, rfl, ?_, fun hfx => by simpa [hfx] using hu⟩
    simpa using hl
  · cases hv

theorem verify_inv (fx : Bool) (E : Env) (q : Pkg) (v : Verdict) (hv : verify fx E q = .ok v) :
    (fx = true → (q.map (·.name)).Nodup) ∧
    ∃ sc o, readSignature E (findLast q) = .ok sc ∧ E.xopen sc.1 sc.2 = .ok o ∧
      checkRefs E (findLast q) (decodeManifest o.reference) = .ok v.checked ∧ o.ts = none ∧ v.hash = o.hash ∧ v.key = o.key ∧
      v.key ∈ sc.2 ++ o.embedded ∧ (fx = true → uncovered (q.map (·.name)) v.checked = false) := by
  unfold verify at hv
  by_cases hd : (fx && hasDup q) = true
  · simp [hd] at hv
  · simp only [hd, Bool.false_eq_true, if_false] at hv
    refine ⟨?_, verifyF_ok_inv fx E _ _ v hv⟩
    intro hfx
    subst hfx
    simpa [hasDup_false_iff] using hd

/-! The VSIX layer of the verifier has no panic site and no loop of its own: everything but the XML layer (`E.xopen`) returns a
    value or an error. -/
section
variable (E : Env) (files : Files)

theorem readZip_errs (p : Bytes) : Res.Errs (fun _ => True) (readZip files p) := by
  unfold readZip; split <;> trivial

theorem parseRelsAt_errs (p : Bytes) : Res.Errs (fun _ => True) (parseRelsAt E files p) := by
  simp only [parseRelsAt, bindBytes]
  exact (readZip_errs files p).bind fun b _ => by split <;> trivial

theorem readCerts_errs : ∀ rs, Res.Errs (fun _ => True) (readCerts E files rs)
  | [] => trivial
  | r :: rs => by
    simp only [readCerts, bindBytes, bindKeys]
    refine .ite (readCerts_errs rs) ((readZip_errs files _).bind fun blob _ => ?_)
    split
    · trivial
    · exact (readCerts_errs rs).bind fun _ _ => trivial

theorem readSignature_errs : Res.Errs (fun _ => True) (readSignature E files) := by
  simp only [readSignature, bindBytes, bindRels, bindKeys]
  refine .ite trivial ((parseRelsAt_errs E files _).bind fun r _ => ?_)
  split
  · trivial
  refine (parseRelsAt_errs E files _).bind fun r2 _ => ?_
  split
  · trivial
  exact (readZip_errs files _).bind fun blob _ => .ite trivial
    ((parseRelsAt_errs E files _).bind fun r3 _ => (readCerts_errs E files r3).bind fun _ _ => trivial)

theorem checkRefs_errs : ∀ refs, Res.Errs (fun _ => True) (checkRefs E files refs)
  | [] => trivial
  | r :: rs => by
    simp only [checkRefs, bindChecked]
    split
    · trivial
    split
    · trivial
    split
    · trivial
    · trivial
    · exact (checkRefs_errs rs).bind fun _ _ => trivial

end

end Relic.Vsix
