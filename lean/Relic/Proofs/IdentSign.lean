/-
  Relic.Proofs.IdentSign — the identity part of appmanifest.Sign / Verify on the manifest abstraction.
-/
import Relic.Model.Ident
import Relic.Proofs.Res
namespace Relic.Ident

/-- no namespace-prefixed attribute with local name `k` comes before the first unprefixed one
    (etree's `SelectAttrValue(k)` returns the first attribute with that *local* name) -/
def NoPrefixedBefore (k : String) : List XAttr → Prop
  | [] => True
  | a :: rest => if a.key = k then a.space = "" else NoPrefixedBefore k rest

instance NoPrefixedBefore.dec (k : String) : (l : List XAttr) → Decidable (NoPrefixedBefore k l)
  | [] => isTrue trivial
  | a :: rest =>
    if h : a.key = k then
      if h2 : a.space = "" then isTrue (by simp [NoPrefixedBefore, h, h2])
      else isFalse (by simp [NoPrefixedBefore, h, h2])
    else
      match NoPrefixedBefore.dec k rest with
      | isTrue p => isTrue (by simp [NoPrefixedBefore, h, p])
      | isFalse p => isFalse (by simp [NoPrefixedBefore, h, p])

theorem attrValueOrig_createAttr (k v : String) (l : List XAttr) (h : NoPrefixedBefore k l) :
    attrValueOrig k (createAttr k v l) = v := by
  induction l with
  | nil => simp [createAttr, attrValueOrig]
  | cons a rest ih =>
    simp only [createAttr]
    split
    · simp [attrValueOrig]
    · rename_i hc
      simp only [attrValueOrig]
      simp only [NoPrefixedBefore] at h
      split
      · rename_i hk
        simp only [hk, ↓reduceIte] at h
        exact absurd ⟨h, hk⟩ hc
      · rename_i hk
        simp only [hk, ↓reduceIte] at h
        exact ih h

theorem attrValue_createAttr (k v : String) (l : List XAttr) : attrValue k (createAttr k v l) = v := by
  induction l with
  | nil => simp [createAttr, attrValue]
  | cons a rest ih =>
    simp only [createAttr]
    split
    · simp [attrValue]
    · rename_i hc
      simp only [attrValue, hc, ↓reduceIte, ih]

theorem attrValue_createAttr_other (k k' v : String) (l : List XAttr) (hk : k' ≠ k) :
    attrValue k' (createAttr k v l) = attrValue k' l := by
  induction l with
  | nil => simp [createAttr, attrValue, hk.symm]
  | cons a rest ih =>
    simp only [createAttr]
    split
    · rename_i hc
      have h1 : ¬ (a.space = "" ∧ a.key = k') := by rw [hc.2]; exact fun h => hk h.2.symm
      simp [attrValue, hk.symm, h1]
    · simp only [attrValue, ih]

theorem createAttr_createAttr (k v1 v2 : String) (l : List XAttr) :
    createAttr k v2 (createAttr k v1 l) = createAttr k v2 l := by
  induction l with
  | nil => simp [createAttr]
  | cons a rest ih =>
    simp only [createAttr]
    split
    · simp [createAttr]
    · rename_i hc
      simp only [createAttr, hc, ↓reduceIte, ih]

theorem publicKeyToken_ok (sha1 : Bytes → Bytes) (k : PubKey) (t : String) :
    publicKeyToken sha1 k = .ok t ↔ ∃ snk b, publicKeyToSnk k = .ok snk ∧ tokenSel (sha1 snk) = .ok b ∧ t = hexStr b := by
  unfold publicKeyToken
  cases publicKeyToSnk k with
  | ok snk =>
    cases hb : tokenSel (sha1 snk) with
    | ok b => simp [hb, eq_comm]
    | _ => simp [hb]
  | _ => simp

theorem issuerHashMatches_iff (sha1 : Bytes → Bytes) (ikh : String) (c : LCert) :
    issuerHashMatches sha1 ikh c = true ↔ ∃ s, skidStream c.key = .ok s ∧ hexStr (sha1 s) = ikh := by
  unfold issuerHashMatches
  cases skidStream c.key <;> simp

/-- what `Sign` derives from the certificate -/
def identOf (sha1 : Bytes → Bytes) (c : Loaded) : Res Ident :=
  match publicKeyToken sha1 c.leaf.key with
  | .ok token =>
    match publisherIdentity sha1 c with
    | .ok (name, ikh) => .ok ⟨token, name, ikh⟩
    | .err e => .err e
    | .panic p => .panic p
    | .diverge => .diverge
  | .err e => .err e
  | .panic p => .panic p
  | .diverge => .diverge

/-- `signIdent` with its two outer matches merged into one -/
theorem signIdent_eq {α} (sha1 : Bytes → Bytes) (m : Manifest α) (c : Loaded) :
    signIdent sha1 m c =
      match publicKeyToken sha1 c.leaf.key, m.asi with
      | .ok token, some attrs =>
        match publisherIdentity sha1 c with
        | .ok (name, ikh) => .ok ⟨some (createAttr "publicKeyToken" token attrs), [(name, ikh)], some name, m.others⟩
        | .err e => .err e
        | .panic p => .panic p
        | .diverge => .diverge
      | .ok _, none => .err "no-assemblyIdentity"
      | .err e, _ => .err e
      | .panic p, _ => .panic p
      | .diverge, _ => .diverge := by
  unfold signIdent
  cases publicKeyToken sha1 c.leaf.key <;> cases m.asi <;> simp
  cases publisherIdentity sha1 c with
  | ok p => obtain ⟨n, i⟩ := p; rfl
  | err e => rfl
  | panic p => rfl
  | diverge => rfl

theorem signIdent_inv {α} (sha1 : Bytes → Bytes) (m m' : Manifest α) (c : Loaded) (h : signIdent sha1 m c = .ok m') :
    ∃ id attrs, identOf sha1 c = .ok id ∧ m.asi = some attrs ∧
      m' = ⟨some (createAttr "publicKeyToken" id.token attrs), [(id.name, id.issuerKeyHash)], some id.name, m.others⟩ := by
  rw [signIdent_eq] at h
  unfold identOf
  cases ht : publicKeyToken sha1 c.leaf.key with
  | ok token =>
    cases ha : m.asi with
    | none => simp [ht, ha] at h
    | some attrs =>
      cases hp : publisherIdentity sha1 c with
      | ok p =>
        obtain ⟨name, ikh⟩ := p
        simp only [ht, ha, hp] at h
        cases h
        exact ⟨⟨token, name, ikh⟩, attrs, rfl, rfl, rfl⟩
      | err e => simp [ht, ha, hp] at h
      | panic p => simp [ht, ha, hp] at h
      | diverge => simp [ht, ha, hp] at h
  | err e => simp [ht] at h
  | panic p => simp [ht] at h
  | diverge => simp [ht] at h

theorem signIdent_resign {α} (sha1 : Bytes → Bytes) (m m1 : Manifest α) (c1 c2 : Loaded)
    (h : signIdent sha1 m c1 = .ok m1) : signIdent sha1 m1 c2 = signIdent sha1 m c2 := by
  obtain ⟨id, attrs, _, ha, hm⟩ := signIdent_inv sha1 m m1 c1 h
  rw [signIdent_eq, signIdent_eq, hm, ha]
  cases publicKeyToken sha1 c2.leaf.key with
  | ok t =>
    cases publisherIdentity sha1 c2 with
    | ok p => simp only [createAttr_createAttr]
    | err e => rfl
    | panic p => rfl
    | diverge => rfl
  | err e => rfl
  | panic p => rfl
  | diverge => rfl

theorem identOf_inv (sha1 : Bytes → Bytes) (c : Loaded) (id : Ident) (h : identOf sha1 c = .ok id) :
    publicKeyToken sha1 c.leaf.key = .ok id.token ∧
    ∃ iss s n, issuerCert c = some iss ∧ skidStream iss.key = .ok s ∧ id.issuerKeyHash = hexStr (sha1 s) ∧
      formatPkixName .msosco c.leaf.subject = .ok n ∧ id.name = bytesToString n := by
  unfold identOf publisherIdentity issuerOf at h
  cases h1 : publicKeyToken sha1 c.leaf.key with
  | ok t =>
    cases h3 : issuerCert c with
    | none => simp [h1, h3] at h
    | some iss =>
      cases h4 : skidStream iss.key with
      | ok s =>
        cases h5 : formatPkixName .msosco c.leaf.subject with
        | ok n =>
          simp only [h1, h3, h4, h5, Option.map_some] at h
          cases h
          exact ⟨rfl, iss, s, n, rfl, h4, rfl, rfl, rfl⟩
        | err e => simp [h1, h3, h4, h5] at h
        | panic p => simp [h1, h3, h4, h5] at h
        | diverge => simp [h1, h3, h4, h5] at h
      | err e => simp [h1, h3, h4] at h
      | panic p => simp [h1, h3, h4] at h
      | diverge => simp [h1, h3, h4] at h
  | err e => simp [h1] at h
  | panic p => simp [h1] at h
  | diverge => simp [h1] at h

theorem chainOf_find_leaf (c : Loaded) :
    (chainOf c).find? (fun x => x.key = c.leaf.key) = some ⟨c.leaf.subject, c.leaf.issuer, c.leaf.key, true⟩ := by
  simp [chainOf]

/-- `Issuer()` and `Chain()` agree: the certificate whose key hash `Sign` writes is carried (by subject and key), or no
    certificate named like the issuer is carried at all -/
def IssuerAgrees (c : Loaded) : Prop :=
  ∀ iss, issuerCert c = some iss →
    (∃ y ∈ chainOf c, y.subject = c.leaf.issuer ∧ y.key = iss.key) ∨ (∀ y ∈ chainOf c, y.subject ≠ c.leaf.issuer)

theorem checkPublisher_ok {α} (sha1 : Bytes → Bytes) (m : Manifest α) (leaf : LCert) (carried : List LCert) :
    checkPublisher sha1 m leaf carried = .ok () ↔
      ∃ n ikh, formatPkixName .msosco leaf.subject = .ok n ∧ m.publishers = [(bytesToString n, ikh)] ∧
        m.licSubject = some (bytesToString n) ∧
        ((carried.filter (fun c => c.subject = leaf.issuer)).isEmpty = true ∨
          (carried.filter (fun c => c.subject = leaf.issuer)).any (issuerHashMatches sha1 ikh) = true) := by
  have last : ∀ (p q : Prop) [Decidable p] [Decidable q],
      (if p then Res.ok () else if q then .ok () else .err "publisher-ikh-mismatch") = .ok () ↔ p ∨ q := by
    intro p q _ _
    by_cases p <;> by_cases q <;> simp [*]
  unfold checkPublisher
  split
  · rename_i hp; exact ⟨nofun, fun ⟨_, _, _, h, _⟩ => nomatch hp.symm.trans h⟩
  · rename_i hp; exact ⟨nofun, fun ⟨_, _, _, h, _⟩ => nomatch hp.symm.trans h⟩
  · rename_i name ikh hp
    split
    · rename_i n hf
      cases hl : m.licSubject with
      | none => simp [Res.errGuard_eq_ok]
      | some s =>
        simp only [Res.errGuard_eq_ok, Decidable.not_not, last, hp, hf, List.cons.injEq, Prod.mk.injEq, and_true, Option.some.injEq,
          Res.ok.injEq]
        constructor
        · rintro ⟨rfl, rfl, h⟩
          exact ⟨n, ikh, rfl, ⟨rfl, rfl⟩, rfl, h⟩
        · rintro ⟨n', ikh', rfl, ⟨rfl, rfl⟩, rfl, h⟩
          exact ⟨rfl, rfl, h⟩
    all_goals (rename_i hf; exact ⟨nofun, fun ⟨_, _, h, _⟩ => nomatch hf.symm.trans h⟩)

theorem verifyIdent_ok {α} (sha1 : Bytes → Bytes) (m : Manifest α) (k : PubKey) (carried : List LCert) :
    verifyIdent sha1 m k carried = .ok () ↔
      ∃ attrs leaf, m.asi = some attrs ∧ publicKeyToken sha1 k = .ok (attrValue "publicKeyToken" attrs) ∧
        carried.find? (fun c => c.key = k) = some leaf ∧ checkPublisher sha1 m leaf carried = .ok () := by
  unfold verifyIdent
  cases m.asi with
  | none => simp
  | some attrs =>
    cases publicKeyToken sha1 k with
    | ok token =>
      simp only [Res.errGuard_eq_ok, ne_eq, Decidable.not_not, Option.some.injEq, Res.ok.injEq, exists_and_left, exists_eq_left']
      cases carried.find? (fun c => c.key = k) with
      | none => simp
      | some leaf => simp [eq_comm]
    | _ => simp

theorem verifyIdent_signed {α} (sha1 : Bytes → Bytes) (m m' : Manifest α) (c : Loaded)
    (h : signIdent sha1 m c = .ok m') (hc : IssuerAgrees c) : verifyIdent sha1 m' c.leaf.key (chainOf c) = .ok () := by
  obtain ⟨id, attrs, hid, _, hm⟩ := signIdent_inv sha1 m m' c h
  obtain ⟨ht, iss, s, n, hiss, hs, hikh, hf, hname⟩ := identOf_inv sha1 c id hid
  subst hm
  refine (verifyIdent_ok sha1 _ _ _).mpr ⟨_, _, rfl, by rw [attrValue_createAttr]; exact ht, chainOf_find_leaf c, ?_⟩
  refine (checkPublisher_ok sha1 _ _ _).mpr ⟨n, id.issuerKeyHash, hf, by rw [hname], by rw [hname], ?_⟩
  rcases hc iss hiss with ⟨x, hx, hxs, hxk⟩ | hnone
  · refine Or.inr (List.any_eq_true.mpr ⟨x, List.mem_filter.mpr ⟨hx, by simpa using hxs⟩, ?_⟩)
    exact (issuerHashMatches_iff _ _ _).mpr ⟨s, hxk ▸ hs, hikh.symm⟩
  · refine Or.inl ?_
    rw [List.isEmpty_iff, List.filter_eq_nil_iff]
    intro y hy; simpa using hnone y hy

theorem xmlKeyValueOk_of_rsaUsable (k : PubKey) (h : rsaUsable k = true) : xmlKeyValueOk k = true := by
  cases k with
  | rsa n e => simp only [rsaUsable, Bool.decide_and, Bool.and_eq_true, decide_eq_true_eq] at h; simp [xmlKeyValueOk, h.2]
  | ec b x y => rfl
  | other => rfl

end Relic.Ident
