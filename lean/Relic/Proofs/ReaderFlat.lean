/-
  Relic.Proofs.ReaderFlat — executing reader programs on a whole file: the cursor view.
  `at_ f c` is the flat reader positioned at offset `c` of the file `f` (ending in io.EOF); every combinator of
  Relic.Model.ReaderProgs moves the cursor and hands `seg f c (c+n)` to its continuation.
  `obs` keeps of a run what the refinement theorems compare: the value and the bytes written to sinks 1 and 2.
-/
import Relic.Model.ReaderProgs
import Relic.Proofs.Seg
namespace Relic.Rd
open Relic.PE (seg seg_self)

/-- the flat reader at offset `c` of file `f`.  `at_ f 0` is the model's `Flat.raw f .eof` (`at_zero`), the state the statements
    of Props/C09_Readers start from; the lemmas of Proofs/ReaderCalc write the same state as `⟨d, t, none⟩`. -/
def at_ (f : Bytes) (c : Nat) : Flat := ⟨f.drop c, .eof, none⟩

theorem at_zero (f : Bytes) : at_ f 0 = Flat.raw f .eof := by simp [at_, Flat.raw]

/-- observation of a run: value, bytes to the hash (sink 1), bytes to `patched` (sink 2) -/
abbrev Obs (α : Type) := Res (α × Bytes × Bytes)

def obs {α σ} (x : Res α × Log × σ) : Obs α :=
  match x.1 with
  | .ok a => .ok (a, sinkBytes x.2.1 hashSink, sinkBytes x.2.1 patchedSink)
  | .err e => .err e
  | .panic p => .panic p
  | .diverge => .diverge

/-- a sink write in front of an observation -/
def pre {α} (sink : Nat) (b : Bytes) (o : Obs α) : Obs α :=
  match o with
  | .ok (a, h, p) => .ok (a, (if sink = hashSink then b ++ h else h), (if sink = patchedSink then b ++ p else p))
  | .err e => .err e
  | .panic q => .panic q
  | .diverge => .diverge

theorem sinkBytes_cons (s : Nat) (b : Bytes) (l : Log) (i : Nat) :
    sinkBytes ((s, b) :: l) i = (if s = i then b else []) ++ sinkBytes l i := by
  unfold sinkBytes
  by_cases h : s = i
  · simp [h]
  · simp [h]

theorem obs_emit {α} (s : Nat) (b : Bytes) (k : Prog α) (st : Flat) :
    obs (runFlat (.emit s b k) st) = pre s b (obs (runFlat k st)) := by
  simp only [runFlat, obs, pre]
  generalize runFlat k st = r
  obtain ⟨r1, l, st'⟩ := r
  cases r1 with
  | ok a =>
    simp only [sinkBytes_cons]
    by_cases h1 : s = hashSink <;> by_cases h2 : s = patchedSink <;> simp [h1, h2] <;> split <;> simp_all
  | err e => rfl
  | panic p => rfl
  | diverge => rfl

theorem obs_fail {α} (e : String) (st : Flat) : obs (runFlat (failE e : Prog α) st) = .err e := rfl

theorem obs_ret {α} (a : α) (st : Flat) : obs (runFlat (.ret a) st) = .ok (a, [], []) := rfl

theorem pre_err {α} (s : Nat) (b : Bytes) (e : String) : pre s b (.err e : Obs α) = .err e := rfl

theorem pre_pre_same {α} (s : Nat) (a b : Bytes) (o : Obs α) : pre s a (pre s b o) = pre s (a ++ b) o := by
  cases o with
  | ok x =>
    obtain ⟨v, h, p⟩ := x
    simp only [pre, hashSink, patchedSink]
    by_cases h1 : s = 1 <;> by_cases h2 : s = 2 <;> simp_all
  | err _ => rfl
  | panic _ => rfl
  | diverge => rfl

theorem pre_comm {α} (a b : Bytes) (o : Obs α) :
    pre hashSink a (pre patchedSink b o) = pre patchedSink b (pre hashSink a o) := by
  cases o with
  | ok x =>
    obtain ⟨v, h, p⟩ := x
    simp [pre, hashSink, patchedSink]
  | err _ => rfl
  | panic _ => rfl
  | diverge => rfl

theorem pre_nil {α} (s : Nat) (o : Obs α) : pre s [] o = o := by
  cases o with
  | ok x =>
    obtain ⟨v, h, p⟩ := x
    simp [pre]
  | err _ => rfl
  | panic _ => rfl
  | diverge => rfl

theorem pre_ite_err {α} (s : Nat) (b : Bytes) (c : Prop) [Decidable c] (e : String) (o : Obs α) :
    pre s b (if c then .err e else o) = if c then .err e else pre s b o := by
  by_cases hc : c
  · rw [if_pos hc, if_pos hc]
    rfl
  · rw [if_neg hc, if_neg hc]

/-- both sinks (`io.MultiWriter(dw, patched)`) -/
def pre12 {α} (b : Bytes) (o : Obs α) : Obs α := pre hashSink b (pre patchedSink b o)

theorem pre12_pre12 {α} (a b : Bytes) (o : Obs α) : pre12 a (pre12 b o) = pre12 (a ++ b) o := by
  unfold pre12
  rw [← pre_comm b a, pre_pre_same, pre_pre_same]

theorem drop_take_seg (f : Bytes) (c n : Nat) : (f.drop c).take n = seg f c (c + n) := by
  simp [seg]

/- Each cursor lemma below is written the way the whole-buffer models write the same step,
   `if f.length < c + n then .err "eof" else …`, so that a program and its model can be walked together: both sides make
   the same test, and agree where it fails. -/

/- `ite_else_congr`, `bind_step`, `pre_ite_err` (above) and `onHeaders_step` (ReaderPE) are one fact in four shapes: a
   function that keeps `.err e` (the identity, `·.bind g`, `pre s b`, `onHeaders g`) passes through
   `if c then .err e else _`.  They are kept apart because each call site would otherwise have to name its function and
   say why it keeps errors. -/
theorem ite_else_congr {α : Type} {c : Prop} [Decidable c] {e a b : α} (h : ¬ c → a = b) :
    (if c then e else a) = if c then e else b := by
  by_cases hc : c
  · rw [if_pos hc, if_pos hc]
  · rw [if_neg hc, if_neg hc, h hc]

theorem bind_step {α β : Type} {c : Prop} [Decidable c] {e : String} {a : Obs α} {y : Res β} {g : β → Obs α}
    (h : ¬ c → a = y.bind g) : (if c then .err e else a) = (if c then .err e else y).bind g := by
  by_cases hc : c
  · rw [if_pos hc, if_pos hc]
    rfl
  · rw [if_neg hc, if_neg hc, h hc]

theorem obs_guard {α} (c : Prop) [Decidable c] (e : String) (p : Prog α) (st : Flat) :
    obs (runFlat (if c then failE e else p) st) = if c then .err e else obs (runFlat p st) := by
  by_cases hc : c
  · rw [if_pos hc, if_pos hc]
    rfl
  · rw [if_neg hc, if_neg hc]

theorem obs_readFullE {α} (f : Bytes) (c n : Nat) (k : Bytes → Prog α) (hc : c ≤ f.length) :
    obs (runFlat (readFullE n k) (at_ f c)) =
      if f.length < c + n then .err "eof" else obs (runFlat (k (seg f c (c + n))) (at_ f (c + n))) := by
  simp only [readFullE, runFlat, at_, flatReadFull, List.length_drop]
  by_cases h : f.length < c + n
  · have h' : ¬ n ≤ f.length - c := by omega
    simp only [h, h', ↓reduceIte]
    rfl
  · have h' : n ≤ f.length - c := by omega
    simp only [h, h', ↓reduceIte, drop_take_seg, List.drop_drop]

theorem obs_readAndHash {α} (f : Bytes) (c n : Nat) (k : Bytes → Prog α) (hc : c ≤ f.length) :
    obs (runFlat (readAndHash n k) (at_ f c)) =
      if f.length < c + n then .err "eof" else obs (runFlat (k (seg f c (c + n))) (at_ f (c + n))) := by
  unfold readAndHash
  by_cases h0 : n = 0
  · subst h0
    rw [if_pos rfl, if_neg (by omega), Nat.add_zero, seg_self]
  · rw [if_neg h0]
    exact obs_readFullE f c n k hc

theorem obs_copyN {α} (f : Bytes) (c n : Nat) (sc : Sched) (k : Bytes → Prog α) (hc : c ≤ f.length) :
    obs (runFlat (copyN (n : Int) sc k) (at_ f c)) =
      if f.length < c + n then .err "eof" else obs (runFlat (k (seg f c (c + n))) (at_ f (c + n))) := by
  unfold copyN
  by_cases h0 : n = 0
  · subst h0
    rw [if_pos (by decide : ((0 : Nat) : Int) ≤ 0), if_neg (by omega), Nat.add_zero, seg_self]
  · have hn : ¬ ((n : Int) ≤ 0) := by omega
    simp only [hn, ↓reduceIte, runFlat, at_, flatCopy, Int.toNat_natCast, List.length_drop]
    by_cases h : f.length < c + n
    · have h' : ¬ n ≤ f.length - c := by omega
      simp only [h, h', ↓reduceIte]
      rfl
    · have h' : n ≤ f.length - c := by omega
      simp only [h, h', ↓reduceIte, drop_take_seg, List.drop_drop]

/-- `io.CopyN(…, a - b)` with the count computed in `int64`: a negative count copies nothing and reports no error -/
theorem obs_copyN_sub {α} (f : Bytes) (c a b : Nat) (sc : Sched) (k : Bytes → Prog α) (hc : c ≤ f.length) :
    obs (runFlat (copyN ((a : Int) - (b : Int)) sc k) (at_ f c)) =
      if f.length < c + (a - b) then .err "eof"
      else obs (runFlat (k (seg f c (c + (a - b)))) (at_ f (c + (a - b)))) := by
  by_cases h : b ≤ a
  · rw [show (a : Int) - (b : Int) = ((a - b : Nat) : Int) by omega]
    exact obs_copyN f c (a - b) sc k hc
  · rw [copyN, if_pos (by omega), show a - b = 0 by omega, Nat.add_zero, if_neg (by omega), seg_self]

theorem obs_copyNToE {α} (f : Bytes) (c n : Nat) (s : Nat) (sc : Sched) (fe : Term → Fail) (e : String)
    (hfe : fe .eof = .err e) (k : Bytes → Prog α) (hc : c ≤ f.length) :
    obs (runFlat (copyNToE s (n : Int) sc fe k) (at_ f c)) =
      if f.length < c + n then .err e
      else pre s (seg f c (c + n)) (obs (runFlat (k (seg f c (c + n))) (at_ f (c + n)))) := by
  unfold copyNToE
  by_cases h0 : n = 0
  · subst h0
    rw [if_pos (by decide : ((0 : Nat) : Int) ≤ 0), if_neg (by omega), Nat.add_zero, seg_self, pre_nil]
  · have hn : ¬ ((n : Int) ≤ 0) := by omega
    simp only [hn, ↓reduceIte, runFlat, at_, flatCopy, Int.toNat_natCast, List.length_drop]
    by_cases h : f.length < c + n
    · have h' : ¬ n ≤ f.length - c := by omega
      simp only [h, h', ↓reduceIte]
      rw [hfe]
      rfl
    · have h' : n ≤ f.length - c := by omega
      simp only [h, h', ↓reduceIte, drop_take_seg, List.drop_drop]
      exact obs_emit s _ _ _

theorem obs_copyNTo {α} (f : Bytes) (c n : Nat) (s : Nat) (sc : Sched) (k : Bytes → Prog α) (hc : c ≤ f.length) :
    obs (runFlat (copyNTo s (n : Int) sc k) (at_ f c)) =
      if f.length < c + n then .err "eof"
      else pre s (seg f c (c + n)) (obs (runFlat (k (seg f c (c + n))) (at_ f (c + n)))) :=
  obs_copyNToE f c n s sc shortErr "eof" rfl k hc

end Relic.Rd
