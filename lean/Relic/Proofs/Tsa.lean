/-
  The timestamp client of Relic.Model.Tsa (C10): with the guards an attempt returns a value or an error, what the
  fail-over loop returns and whom it contacts, one equivalence `<f>_eq_ok` per token check saying what it accepts and
  reports, and what an accepted token establishes about the signature it is attached to (`Covers`).

  Two layers model attaching and caching.  This one (`verifyAttach`, `attachAndCheck`, `signWith`, `cachedTimestamp`
  over `Key`) has the CMS flows and the PKCS#9 counterSignature attribute; Relic.Model.TsaPool (`verifyX`, `attachX`,
  `signSite`, `cachedX` over the memcache key text; Proofs/TsaPool) has every attach site, the pools, the limiter and
  the real cache key.  Both call the token checks of this file;
  `C10.cms_site_agrees_with_flow` says the CMS sites are the flows `p7` / `p7ac`.
-/
import Relic.Model.Tsa
import Relic.Proofs.Res
namespace Relic.Tsa

/-- an attempt ends the loop: success, panic, divergence, or failure with the caller's context cancelled -/
def stops (c : Cfg) (r : Req) (w : Wire) : Bool :=
  match doOne c r w with
  | .err _ => decide (w = .cancel)
  | _ => true

/-- number of authorities that receive a request (`tryFrom_contacted`); its bounds are the property theorems
    `C10.attempts_le`, `attempts_stop`, `attempts_ge` of Props/C10 -/
def attempts (c : Cfg) (r : Req) : List Wire → Nat
  | [] => 0
  | w :: ws => if stops c r w then 1 else 1 + attempts c r ws

theorem tryFrom_contacted (c : Cfg) (r : Req) (ws : List Wire) :
    ∀ i last, (tryFrom c r i ws last).contacted = List.range' i (attempts c r ws) := by
  induction ws with
  | nil => intro i _; simp [tryFrom, attempts]
  | cons w ws ih =>
    intro i last
    cases hd : doOne c r w with
    | ok t => simp [tryFrom, attempts, stops, hd]
    | panic s => simp [tryFrom, attempts, stops, hd]
    | diverge => simp [tryFrom, attempts, stops, hd]
    | err e =>
      by_cases hcw : w = .cancel
      · subst hcw
        simp [tryFrom, attempts, stops, doOne]
      · simp only [tryFrom, attempts, stops, hd, hcw, if_false, decide_false]
        rw [ih (i + 1) e, show 1 + attempts c r ws = attempts c r ws + 1 from by omega]
        rfl

theorem p7Verify_errs (t : Token) : Res.Errs (fun _ => True) (p7Verify t) := by
  fun_cases p7Verify t <;> trivial

theorem verifyMsToken_errs (t : Token) (ed : Nat) : Res.Errs (fun _ => True) (verifyMsToken t ed) := by
  have hp := p7Verify_errs t
  fun_cases verifyMsToken t ed
  case case2 s h => exact (hp.ne_panic s h).elim
  case case3 h => exact (hp.ne_diverge h).elim
  all_goals trivial

theorem unpack_errs (t : Token) : Res.Errs (fun _ => True) (unpack true t) := by
  unfold unpack
  split <;> trivial

theorem sanityCheck_errs (c : Cfg) (r : Req) (t : Token) (hg : c.guards = true) :
    Res.Errs (fun _ => True) (sanityCheck c r t) := by
  have hp := p7Verify_errs t
  have hu := unpack_errs t
  rw [← hg] at hu
  fun_cases sanityCheck c r t
  case case2 s h => exact (hp.ne_panic s h).elim
  case case3 h => exact (hp.ne_diverge h).elim
  case case5 _ _ s h => exact (hu.ne_panic s h).elim
  case case6 _ _ h => exact (hu.ne_diverge h).elim
  case case8 h => exact absurd hg h
  all_goals trivial

theorem doOne_errs (c : Cfg) (r : Req) (w : Wire) (hg : c.guards = true) (ht : c.timeout = true) :
    Res.Errs (fun _ => True) (doOne c r w) := by
  cases w with
  | reset => trivial
  | hang => simp [doOne, ht, Res.Errs]
  | cancel => trivial
  | http code b =>
    simp only [doOne]
    refine Res.Errs.ite trivial ?_
    cases b with
    | garbage => trivial
    | b64 o =>
      cases o with
      | none => trivial
      | some t =>
        simp only [parseBody]
        refine Res.Errs.ite (Res.Errs.ite ?_ trivial) trivial
        rcases (verifyMsToken_errs t r.imprint).ok_or_err with ⟨a, h⟩ | ⟨e, h, _⟩ <;> rw [h] <;> trivial
    | der st t tr =>
      simp only [parseBody]
      exact Res.Errs.ite trivial (Res.Errs.ite trivial (Res.Errs.ite trivial (sanityCheck_errs c r t hg)))

theorem stops_iff (c : Cfg) (r : Req) (w : Wire) (hg : c.guards = true) (ht : c.timeout = true) :
    stops c r w = true ↔ (∃ t, doOne c r w = .ok t) ∨ w = .cancel := by
  unfold stops
  rcases (doOne_errs c r w hg ht).ok_or_err with ⟨a, h⟩ | ⟨e, h, _⟩ <;> simp [h]

/-- a success comes from the first authority whose reply is accepted: it is the last one asked, and every earlier one
    failed without the caller's context being cancelled -/
theorem tryFrom_ok (c : Cfg) (r : Req) (ws : List Wire) :
    ∀ i last s t, (tryFrom c r i ws last).res = .ok (s, t) →
      ∃ k w, s = .url (i + k) ∧ ws[k]? = some w ∧ doOne c r w = .ok t ∧ attempts c r ws = k + 1 ∧
        ∀ j w', j < k → ws[j]? = some w' → w' ≠ .cancel ∧ ∃ e, doOne c r w' = .err e := by
  induction ws with
  | nil => intro i last s t h; simp [tryFrom] at h
  | cons w ws ih =>
    intro i last s t h
    simp only [tryFrom] at h
    cases hd : doOne c r w with
    | ok t' =>
      simp only [hd] at h
      have h' : Src.url i = s ∧ t' = t := by simpa using h
      obtain ⟨hs, ht⟩ := h'
      subst hs ht
      exact ⟨0, w, by simp, by simp, hd, by simp [attempts, stops, hd], by intro j w' hj; omega⟩
    | panic s' => simp [hd] at h
    | diverge => simp [hd] at h
    | err e =>
      simp only [hd] at h
      by_cases hcw : w = .cancel
      · simp [hcw] at h
      · simp only [hcw, if_false] at h
        obtain ⟨k, w1, hs, hk, hok, hat, hbefore⟩ := ih (i + 1) e s t h
        refine ⟨k + 1, w1, by rw [hs]; congr 1; omega, by simpa using hk, hok,
          by simp [attempts, stops, hd, hcw, hat]; omega, ?_⟩
        intro j w' hj hw'
        cases j with
        | zero =>
          have : w = w' := by simpa using hw'
          subst this
          exact ⟨hcw, e, hd⟩
        | succ j => exact hbefore j w' (by omega) (by simpa using hw')

theorem tryFrom_all_fail (c : Cfg) (r : Req) (ws : List Wire) :
    ∀ i last, (∀ w, w ∈ ws → ∃ e, doOne c r w = .err e) → ∃ e, (tryFrom c r i ws last).res = .err e := by
  induction ws with
  | nil => intro i last _; exact ⟨_, rfl⟩
  | cons w ws ih =>
    intro i last hall
    obtain ⟨e, he⟩ := hall w (by simp)
    simp only [tryFrom, he]
    by_cases hcw : w = .cancel
    · simp [hcw]
    · simp only [hcw, if_false]
      exact ih (i + 1) e (fun w' hw' => hall w' (by simp [hw']))

theorem timestamp_ok {c : Cfg} {r : Req} {pre : Bool} {ws : List Wire} {s : Src} {t : Token}
    (h : (timestamp c r pre ws).res = .ok (s, t)) :
    ∃ k w, s = .url k ∧ ws[k]? = some w ∧ doOne c r w = .ok t ∧
      ∀ j w', j < k → ws[j]? = some w' → ∃ e, doOne c r w' = .err e := by
  cases ws with
  | nil => cases h
  | cons w0 ws0 =>
    cases pre with
    | true => cases h
    | false =>
      obtain ⟨k, w, hs, hk, hok, _, hb⟩ := tryFrom_ok c r (w0 :: ws0) 0 "" s t h
      exact ⟨k, w, by simpa using hs, hk, hok, fun j w' hj hw => (hb j w' hj hw).2⟩

def reqOf (H : Nat → Nat) (legacy : Bool) (nonce ed : Nat) : Req := ⟨legacy, nonce, if legacy then ed else H ed⟩

/-- what the post-attachment self-check establishes: the token covers this very signature value, its own
messageDigest attribute matches that content (`mdOK`) and its signature verifies (`sigOK`) -/
def Covers (H : Nat → Nat) (t : Token) (ed : Nat) : Prop :=
  t.sigOK = true ∧ t.mdOK = true ∧ ((∃ i, t.content = .tst i ∧ i.imprint = H ed ∧ i.algOK = true) ∨ t.content = .data ed)

theorem p7Verify_eq_ok (t : Token) :
    p7Verify t = .ok () ↔ t.content ≠ .absent ∧ t.nSigners ≠ 0 ∧ t.mdOK = true ∧ t.sigOK = true := by
  simp [p7Verify, ite_eq_iff]

theorem unpack_eq_ok (g : Bool) (t : Token) (i : TstInfo) : unpack g t = .ok i ↔ t.content = .tst i := by
  fun_cases unpack g t
  case case7 j hc => rw [hc]; exact ⟨fun h => by cases h; rfl, fun h => by cases h; rfl⟩
  all_goals exact ⟨nofun, fun h => by simp_all⟩

theorem sanityCheck_eq_ok (c : Cfg) (r : Req) (t t' : Token) :
    sanityCheck c r t = .ok t' ↔ p7Verify t = .ok () ∧ ∃ i, t.content = .tst i ∧ i.nonce = some r.nonce ∧
      i.imprint = r.imprint ∧ (c.algChecked = true → i.algOK = true) ∧ t = t' := by
  unfold sanityCheck
  cases p7Verify t <;> simp
  cases hc : t.content <;> cases c.guards <;> simp [unpack, hc]
  all_goals
    rename_i i
    cases hn : i.nonce <;> simp [ite_eq_iff]

theorem verifyMsToken_eq_ok (t : Token) (ed : Nat) (cs : CounterSig) :
    verifyMsToken t ed = .ok cs ↔
      p7Verify t = .ok () ∧ t.content = .data ed ∧ ∃ tm, t.sigTime = some tm ∧ cs = ⟨tm, t.tsa, t.serial⟩ := by
  fun_cases verifyMsToken t ed
  case case6 _ hp hd tm hst =>
    refine ⟨fun h => ⟨hp, by simpa using hd, tm, hst, by cases h; rfl⟩, fun ⟨_, _, tm', h1, h2⟩ => ?_⟩
    rw [hst] at h1; cases h1; rw [h2]
  case case4 _ _ hd => exact ⟨nofun, fun ⟨_, h, _⟩ => absurd h hd⟩
  case case5 _ _ _ hst => exact ⟨nofun, fun ⟨_, _, tm, h, _⟩ => by rw [hst] at h; cases h⟩
  all_goals rename_i hp; exact ⟨nofun, fun ⟨h, _⟩ => by rw [hp] at h; cases h⟩

theorem verifyMsToken_ok_iff (t : Token) (ed : Nat) :
    (∃ cs, verifyMsToken t ed = .ok cs) ↔
      t.content = .data ed ∧ t.nSigners ≠ 0 ∧ t.mdOK = true ∧ t.sigOK = true ∧ t.sigTime ≠ none := by
  simp only [verifyMsToken_eq_ok, p7Verify_eq_ok]
  constructor
  · rintro ⟨cs, ⟨_, h2, h3, h4⟩, hd, tm, hst, _⟩
    exact ⟨hd, h2, h3, h4, by simp [hst]⟩
  · rintro ⟨hd, h2, h3, h4, hst⟩
    obtain ⟨tm, htm⟩ := Option.ne_none_iff_exists'.mp hst
    exact ⟨_, ⟨by simp [hd], h2, h3, h4⟩, hd, tm, htm, rfl⟩

theorem verifyRfcToken_eq_ok (H : Nat → Nat) (g : Bool) (t : Token) (ed : Nat) (cs : CounterSig) :
    verifyRfcToken H g t ed = .ok cs ↔ t.nSigners = 1 ∧ ∃ i, t.content = .tst i ∧ i.algOK = true ∧ i.imprint = H ed ∧
      t.mdOK = true ∧ t.sigOK = true ∧ cs = ⟨i.time, t.tsa, t.serial⟩ := by
  fun_cases verifyRfcToken H g t ed
  case case8 hn i hu himp hmd hsig =>
    have hc := (unpack_eq_ok _ _ _).mp hu
    have hi : i.algOK = true ∧ i.imprint = H ed := by simpa using himp
    refine ⟨fun h => ⟨Decidable.of_not_not hn, i, hc, hi.1, hi.2, by simpa using hmd, by simpa using hsig, by cases h; rfl⟩,
      fun ⟨_, i', hc', _, _, _, _, e⟩ => ?_⟩
    rw [hc] at hc'; cases hc'; rw [e]
  case case1 hn => exact ⟨nofun, fun ⟨h, _⟩ => absurd h hn⟩
  case case2 | case3 | case4 =>
    rename_i hu
    exact ⟨nofun, fun ⟨_, i, hc, _⟩ => by rw [(unpack_eq_ok _ _ _).mpr hc] at hu; cases hu⟩
  -- a check on the TSTInfo or on the token's own signature failed
  case case5 _ i hu himp =>
    refine ⟨nofun, fun ⟨_, i', hc', h1, h2, _⟩ => ?_⟩
    rw [(unpack_eq_ok _ _ _).mp hu] at hc'; cases hc'
    exact (himp.elim (fun h => by rw [h1] at h; cases h) (fun h => h h2)).elim
  case case6 _ _ _ _ hmd =>
    exact ⟨nofun, fun ⟨_, _, _, _, _, h3, _⟩ => by rw [h3] at hmd; cases hmd⟩
  case case7 _ _ _ _ _ hsig =>
    exact ⟨nofun, fun ⟨_, _, _, _, _, _, h4, _⟩ => by rw [h4] at hsig; cases hsig⟩

theorem verifyCounterSign_eq_ok (t : Token) (ed : Nat) (cs : CounterSig) :
    verifyCounterSign t ed = .ok cs ↔ t.content = .data ed ∧ t.mdOK = true ∧ t.sigOK = true ∧
      ∃ tm, t.sigTime = some tm ∧ cs = ⟨tm, t.tsa, t.serial⟩ := by
  fun_cases verifyCounterSign t ed
  case case4 hd hs tm hst =>
    have hd' : t.content = .data ed ∧ t.mdOK = true := by simpa using hd
    refine ⟨fun h => ⟨hd'.1, hd'.2, by simpa using hs, tm, hst, by cases h; rfl⟩, fun ⟨_, _, _, tm', h1, e⟩ => ?_⟩
    rw [hst] at h1; cases h1; rw [e]
  case case1 hd => exact ⟨nofun, fun ⟨h1, h2, _⟩ => (hd.elim (fun h => h h1) (fun h => by rw [h2] at h; cases h)).elim⟩
  case case2 _ hs => exact ⟨nofun, fun ⟨_, _, h, _⟩ => by rw [h] at hs; cases hs⟩
  case case3 _ _ hst => exact ⟨nofun, fun ⟨_, _, _, tm, h, _⟩ => by rw [hst] at h; cases h⟩

theorem verifyRfc_covers {H g t ed cs} (h : verifyRfcToken H g t ed = .ok cs) :
    Covers H t ed ∧ cs.cert = t.tsa ∧ t.nSigners = 1 ∧ ∃ i, t.content = .tst i ∧ cs.time = i.time := by
  obtain ⟨hn, i, hc, ha, hi, hmd, hsig, rfl⟩ := (verifyRfcToken_eq_ok H g t ed cs).mp h
  exact ⟨⟨hsig, hmd, .inl ⟨i, hc, hi, ha⟩⟩, rfl, hn, i, hc, rfl⟩

theorem verifyMs_covers {H : Nat → Nat} {t ed cs} (h : verifyMsToken t ed = .ok cs) : Covers H t ed ∧ cs.cert = t.tsa := by
  obtain ⟨hp, hd, tm, _, rfl⟩ := (verifyMsToken_eq_ok t ed cs).mp h
  obtain ⟨_, _, hmd, hsig⟩ := (p7Verify_eq_ok t).mp hp
  exact ⟨⟨hsig, hmd, .inr hd⟩, rfl⟩

theorem verifyCs_covers {H : Nat → Nat} {t ed cs} (h : verifyCounterSign t ed = .ok cs) : Covers H t ed ∧ cs.cert = t.tsa := by
  obtain ⟨hd, hmd, hsig, tm, _, rfl⟩ := (verifyCounterSign_eq_ok t ed cs).mp h
  exact ⟨⟨hsig, hmd, .inr hd⟩, rfl⟩

theorem signWith_ok {H g flow ed leaf o a} (h : (signWith H g flow ed leaf o).res = .ok a) :
    ∃ s t cs, o.res = .ok (s, t) ∧ a = ⟨ed, leaf, mkAttach flow t⟩ ∧ verifyAttach H g a = .ok cs := by
  unfold signWith at h
  cases ho : o.res with
  | ok p =>
    obtain ⟨s, t⟩ := p
    simp only [ho, attachAndCheck] at h
    split at h <;> try (simp at h; done)
    rename_i cs hv
    have ha : a = ⟨ed, leaf, mkAttach flow t⟩ := by simpa using h.symm
    exact ⟨s, t, cs, rfl, ha, by rw [ha]; exact hv⟩
  | err e => simp [ho] at h
  | panic s => simp [ho] at h
  | diverge => simp [ho] at h

theorem mkAttach_token (flow : Flow) (t : Token) : (mkAttach flow t).token? = some t := by
  cases flow <;> rfl

theorem verifyAttach_ne_none {H g ed leaf flow t cs} (h : verifyAttach H g ⟨ed, leaf, mkAttach flow t⟩ = .ok cs) :
    ∃ c, cs = some c := by
  cases flow <;> simp only [verifyAttach, mkAttach] at h
  all_goals (split at h <;> simp at h; exact ⟨_, h.symm⟩)

theorem verifyAttach_eq_some {H : Nat → Nat} {g : Bool} {a : Artefact} {cs : CounterSig}
    (h : verifyAttach H g a = .ok (some cs)) :
    ∃ t, a.attach.token? = some t ∧ (verifyRfcToken H g t a.encDigest = .ok cs ∨ verifyCounterSign t a.encDigest = .ok cs ∨
      verifyMsToken t a.encDigest = .ok cs) := by
  have lift : ∀ r : Res CounterSig, (match r with
      | .ok cs => Res.ok (some cs) | .err e => .err e | .panic s => .panic s | .diverge => .diverge) = .ok (some cs) →
      r = .ok cs := by
    intro r hr
    cases r <;> cases hr
    rfl
  unfold verifyAttach at h
  cases hat : a.attach with
  | none => rw [hat] at h; cases h
  | tsToken t => rw [hat] at h; exact ⟨t, rfl, .inl (lift _ h)⟩
  | spcToken t => rw [hat] at h; exact ⟨t, rfl, .inl (lift _ h)⟩
  | counterSign t => rw [hat] at h; exact ⟨t, rfl, .inr (.inl (lift _ h))⟩
  | manifestTs t =>
    rw [hat] at h
    have h' := lift _ h
    unfold verifyManifestTs at h'
    split at h'
    · exact ⟨t, rfl, .inl h'⟩
    · exact ⟨t, rfl, .inr (.inr h')⟩

end Relic.Tsa
