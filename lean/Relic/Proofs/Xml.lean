/- the escapers of the canonical writer are prefix codes; `strip`: a tree without comments, processing instructions
   and directives; `serKids` / `serAttrs` of an append -/
import Relic.Model.Xml
import Relic.Proofs.Delim
namespace Relic.Xml

/-- `escapeCanonicalText`: `&`, `<`, `>` and CR become `&…;` -/
theorem escTextByte_escaper : Escaper escTextByte 0x26 [0x26, 0x3c, 0x3e, 0x0d] where
  marker := by decide
  plain b hb := by
    simp only [List.mem_cons, List.not_mem_nil, or_false, not_or] at hb
    simp [escTextByte, hb]
  head := by decide
  free := by decide

/-- `escapeCanonicalAttr`: `&`, `<`, `"`, TAB, LF and CR become `&…;` -/
theorem escAttrByte_escaper : Escaper escAttrByte 0x26 [0x26, 0x3c, 0x22, 0x09, 0x0a, 0x0d] where
  marker := by decide
  plain b hb := by
    simp only [List.mem_cons, List.not_mem_nil, or_false, not_or] at hb
    simp [escAttrByte, hb]
  head := by decide
  free := by decide

theorem escText_append_inj : ∀ (s t x y : Bytes), escText s ++ x = escText t ++ y → x.length = y.length → s = t ∧ x = y :=
  escTextByte_escaper.flatMap_append_inj

theorem escAttr_append_inj : ∀ (s t x y : Bytes), escAttr s ++ x = escAttr t ++ y → x.length = y.length → s = t ∧ x = y :=
  escAttrByte_escaper.flatMap_append_inj

theorem serKids_append (l r : List Node) : serKids (l ++ r) = serKids l ++ serKids r := by
  induction l with
  | nil => simp [serKids]
  | cons n l ih => simp [serKids, ih]

theorem serAttrs_append (a b : List Attr) : serAttrs (a ++ b) = serAttrs a ++ serAttrs b := by
  unfold serAttrs; rw [List.flatMap_append]

mutual
/-- remove every comment, processing instruction and directive below a node -/
def strip : Node → Node
  | .elem sp tag attrs kids => .elem sp tag attrs (stripKids kids)
  | n => n
def stripKids : List Node → List Node
  | [] => []
  | .elem sp tag attrs kids :: rest => .elem sp tag attrs (stripKids kids) :: stripKids rest
  | .text d c :: rest => .text d c :: stripKids rest
  | .comment _ :: rest => stripKids rest
  | .procinst _ _ :: rest => stripKids rest
  | .directive _ :: rest => stripKids rest
end

end Relic.Xml
