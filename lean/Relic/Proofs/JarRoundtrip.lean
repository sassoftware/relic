/-
  `parseSection (writeSection h first)` gives the attribute map back (C05, `jar_fold_unfold_section`):
  unfolding of a sequence of folded logical lines, the line split, the per-line parse with what is needed of `TrimSpace`
  (`trimWith`, `trimSpace`: a trimmed string does not start with white space, a header token is left alone), and the map
  reasoning.
-/
import Relic.Proofs.Jar
import Relic.Proofs.Codec
import Relic.Proofs.InsertSort
namespace Relic.Jar

/-- a logical line as `writeAttribute` gets it: non-empty, no CR / LF, not starting with a space -/
def LogicalLine (l : Bytes) : Prop := noEol l ∧ ∃ x r, l = x :: r ∧ x ≠ 32

theorem foldLine_head (x : UInt8) (r : Bytes) : ∃ t, foldLine (x :: r) = x :: t := by
  unfold foldLine
  simp [maxLineLength]

theorem unfold_lines : ∀ (ls : List Bytes), (∀ l ∈ ls, LogicalLine l) →
    unfoldLines (ls.flatMap foldLine ++ [13, 10]) = ls.flatMap (· ++ [10]) ++ [10]
  | [], _ => by decide
  | l :: ls, h => by
    obtain ⟨hn, x, r, rfl, -⟩ := h l (by simp)
    have ih := unfold_lines ls (fun l' hl' => h l' (by simp [hl']))
    rw [List.flatMap_cons, List.append_assoc, unfold_foldLine_tail _ _ (by simp) hn]
    -- what follows starts with a byte that is neither SP nor CR (next key) or is the final CRLF
    have key : dropCont (10 :: replCRLF (ls.flatMap foldLine ++ [13, 10])) = 10 :: unfoldLines (ls.flatMap foldLine ++ [13, 10]) := by
      cases ls with
      | nil => decide
      | cons l2 ls2 =>
        obtain ⟨hn2, x2, r2, rfl, hx2⟩ := h l2 (by simp)
        obtain ⟨t, ht⟩ := foldLine_head x2 r2
        have h13 : x2 ≠ 13 := (hn2 x2 (by simp)).1
        rw [List.flatMap_cons, ht, List.cons_append, List.cons_append, replCRLF_cons_ne _ _ h13,
          dropCont_lf_ne _ _ hx2, unfoldLines, replCRLF_cons_ne _ _ h13]
    rw [key, ih]
    simp

theorem splitLF_line : ∀ (l r : Bytes), (∀ b ∈ l, b ≠ 10) → splitLF (l ++ 10 :: r) = l :: splitLF r
  | [], r, _ => by simp [splitLF]
  | a :: l, r, h => by
    have ha : a ≠ 10 := h a (by simp)
    have ih := splitLF_line l r (fun b hb => h b (by simp [hb]))
    rw [List.cons_append, splitLF]
    simp only [beq_iff_eq, ha, if_false, ih]

theorem splitLF_lines : ∀ (ls : List Bytes), (∀ l ∈ ls, ∀ b ∈ l, b ≠ 10) →
    splitLF (ls.flatMap (· ++ [10]) ++ [10]) = ls ++ [[], []]
  | [], _ => by decide
  | l :: ls, h => by
    have ih := splitLF_lines ls (fun l' hl' => h l' (by simp [hl']))
    rw [List.flatMap_cons, List.append_assoc, List.append_assoc, List.singleton_append,
      splitLF_line l _ (h l (by simp)), ih]
    rfl

/-- what the writer and the reader need of one line `name: value`: trimmed name and value, a non-empty name without `:`, no
    CR / LF in either -/
structure LineKV (kv : Bytes × Bytes) : Prop where
  tk : trimSpace kv.1 = kv.1
  tv : trimSpace kv.2 = kv.2
  nek : kv.1 ≠ []
  eolk : noEol kv.1
  eolv : noEol kv.2
  colon : (58 : UInt8) ∉ kv.1

/-- an attribute of a parsed section, as the hypotheses of the round trip describe it: such a line with a canonical name and a
    non-empty value -/
structure EntryOK (kv : Bytes × Bytes) : Prop extends LineKV kv where
  canon : canonKey kv.1 = kv.1
  nev : kv.2 ≠ []

def mkLine (kv : Bytes × Bytes) : Bytes := kv.1 ++ [58, 32] ++ kv.2

theorem findIdx_colon : ∀ (k r : Bytes), (58 : UInt8) ∉ k → (k ++ 58 :: r).findIdx? (· == 58) = some k.length
  | [], r, _ => by simp [List.findIdx?_cons]
  | a :: k, r, h => by
    have ha : a ≠ 58 := fun e => h (by simp [e])
    have ih := findIdx_colon k r (fun hm => h (by simp [hm]))
    rw [List.cons_append, List.findIdx?_cons]
    simp [ha, ih]

theorem trimSpace_sp (v : Bytes) : trimSpace (32 :: v) = trimSpace v := by
  unfold trimSpace trimLeft
  have : wsLen (32 :: v) = 1 := by simp [wsLen, asciiWs]
  simp [trimWith, this]

theorem parseLines_lines : ∀ (kvs : List (Bytes × Bytes)), (∀ kv ∈ kvs, LineKV kv) → ∀ (h0 : Hdr) (rest : List Bytes),
    parseLines (kvs.map mkLine ++ rest) h0 = parseLines rest (kvs.foldl (fun h kv => hset h kv.1 kv.2) h0)
  | [], _, h0, rest => rfl
  | kv :: kvs, hk, h0, rest => by
    obtain ⟨t1, t2, -, -, -, hc⟩ := hk kv (by simp)
    have ih := parseLines_lines kvs (fun kv' hkv' => hk kv' (by simp [hkv']))
    rw [List.map_cons, List.cons_append, parseLines]
    have hne : (mkLine kv).isEmpty = false := by simp [mkLine]
    have hidx : (mkLine kv).findIdx? (· == 58) = some kv.1.length := by
      simp only [mkLine, List.append_assoc, List.cons_append, List.nil_append]
      exact findIdx_colon kv.1 _ hc
    have e1 : (mkLine kv).take kv.1.length = kv.1 := by simp [mkLine]
    have e2 : (mkLine kv).drop (kv.1.length + 1) = 32 :: kv.2 := by
      simp only [mkLine, List.append_assoc, List.cons_append, List.nil_append]
      rw [← List.drop_drop, List.drop_left]
      rfl
    simp only [hne, Bool.false_eq_true, if_false, hidx, e1, e2, trimSpace_sp, t1, t2, List.foldl_cons]
    exact ih _ _

/-- the header-token bytes against the white-space classes and the separators: a table of 256 entries -/
theorem valid_byte : ∀ b : UInt8, validHdrByte b = true →
    b.toNat < 128 ∧ asciiWs b = false ∧ e280ws b = false ∧ b ≠ 58 ∧ b ≠ 13 ∧ b ≠ 10 ∧ b ≠ 32 :=
  Relic.forall_u8 _ (by decide +kernel)

theorem trimWith_length_le (w : Bytes → Nat) : ∀ (n : Nat) (s : Bytes), (trimWith w n s).length ≤ s.length
  | 0, s => by simp [trimWith]
  | n + 1, s => by
    unfold trimWith
    split
    · exact Nat.le_refl _
    · have := trimWith_length_le w n (s.drop (w s))
      simp only [List.length_drop] at this
      omega

theorem trimWith_lt (w : Bytes → Nat) (n : Nat) (s : Bytes) (hw : w s ≠ 0) (hs : s ≠ []) :
    (trimWith w (n + 1) s).length < s.length := by
  unfold trimWith
  simp only [hw, if_false]
  have := trimWith_length_le w n (s.drop (w s))
  simp only [List.length_drop] at this
  have : 0 < s.length := List.length_pos_iff.mpr hs
  omega

theorem trimRight_length_le (s : Bytes) : (trimRight s).length ≤ s.length := by
  unfold trimRight
  have := trimWith_length_le wsLenRev s.length s.reverse
  simpa using this

theorem trimmed_head (x : UInt8) (r : Bytes) (h : trimSpace (x :: r) = x :: r) : wsLen (x :: r) = 0 := by
  rcases Nat.eq_zero_or_pos (wsLen (x :: r)) with h0 | hpos
  · exact h0
  · exfalso
    have h1 : (trimLeft (x :: r)).length < (x :: r).length := by
      unfold trimLeft
      exact trimWith_lt wsLen r.length (x :: r) (by omega) (by simp)
    have h2 := trimRight_length_le (trimLeft (x :: r))
    have : (trimSpace (x :: r)).length < (x :: r).length := by unfold trimSpace; omega
    rw [h] at this
    omega

theorem trimmed_head_ne_sp (x : UInt8) (r : Bytes) (h : trimSpace (x :: r) = x :: r) : x ≠ 32 := by
  intro e
  have := trimmed_head x r h
  subst e
  simp [wsLen, asciiWs] at this

theorem wsLen_valid (b : UInt8) (r : Bytes) (hb : validHdrByte b = true) : wsLen (b :: r) = 0 := by
  obtain ⟨h1, h2, _⟩ := valid_byte b hb
  unfold wsLen
  simp only [h2, Bool.false_eq_true, if_false]
  split <;> first | rfl | (exfalso; revert h1; decide)

theorem wsLenRev_valid (b : UInt8) (r : Bytes) (hb : validHdrByte b = true) : wsLenRev (b :: r) = 0 := by
  obtain ⟨h1, h2, h3, _⟩ := valid_byte b hb
  unfold wsLenRev
  simp only [h2, Bool.false_eq_true, if_false]
  split <;> first | rfl | (exfalso; revert h1; decide) | simp [h3]

theorem trimWith_zero (w : Bytes → Nat) (n : Nat) (s : Bytes) (h : w s = 0) : trimWith w n s = s := by
  cases n <;> simp [trimWith, h]

theorem trimSpace_valid (s : Bytes) (h : s.all validHdrByte = true) : trimSpace s = s := by
  have hl : trimLeft s = s := by
    unfold trimLeft
    cases s with
    | nil => simp [trimWith]
    | cons b r => exact trimWith_zero _ _ _ (wsLen_valid b r (by simp at h; exact h.1))
  unfold trimSpace
  rw [hl]
  unfold trimRight
  cases hr : s.reverse with
  | nil =>
    have : s = [] := by simpa using hr
    subst this
    rw [trimWith_zero _ _ _ (by rfl)]; rfl
  | cons b r =>
    have hb : validHdrByte b = true := by
      have : b ∈ s := by rw [← List.mem_reverse, hr]; simp
      exact List.all_eq_true.mp h b this
    rw [trimWith_zero _ _ _ (wsLenRev_valid b r hb), ← hr, List.reverse_reverse]

theorem lookup_setRaw {β} (h : List (Bytes × β)) (k q : Bytes) (v : β) :
    (setRaw h k v).lookup q = if k = q then some v else h.lookup q := by
  induction h with
  | nil =>
    by_cases e : k = q
    · subst e; simp [setRaw]
    · have : (q == k) = false := by simpa using fun e' => e e'.symm
      simp [setRaw, List.lookup, e, this]
  | cons x rest ih =>
    obtain ⟨k', v'⟩ := x
    simp only [setRaw]
    by_cases e0 : k' = k
    · subst e0
      by_cases e : k' = q
      · subst e; simp
      · have : (q == k') = false := by simpa using fun e' => e e'.symm
        simp [List.lookup, e, this]
    · have e0' : (k' == k) = false := by simpa using e0
      simp only [e0', Bool.false_eq_true, if_false, List.lookup]
      by_cases e : q = k'
      · subst e
        have : ¬ k = q := fun e' => e0 e'.symm
        simp [this]
      · have : (q == k') = false := by simpa using e
        simp only [this, ih]

/-- assignments in sequence: if all the assignments to (the canonical form of) `q` carry the same value `w`,
    the result holds `w` under `q` when there was one, and what it held before otherwise -/
theorem foldl_hset_lookup (q w : Bytes) : ∀ (L : List (Bytes × Bytes)) (h0 : Hdr),
    (∀ kv ∈ L, canonKey kv.1 = q → kv.2 = w) →
    (L.foldl (fun h kv => hset h kv.1 kv.2) h0).lookup q =
      if L.any (fun kv => canonKey kv.1 == q) then some w else h0.lookup q
  | [], h0, _ => by simp
  | kv :: L, h0, hw => by
    rw [List.foldl_cons, foldl_hset_lookup q w L _ (fun kv' hkv' => hw kv' (by simp [hkv']))]
    by_cases hL : L.any (fun kv => canonKey kv.1 == q) = true
    · simp [hL]
    · simp only [hL, Bool.false_eq_true, if_false, List.any_cons, Bool.or_false, hset, lookup_setRaw]
      by_cases e : canonKey kv.1 = q
      · simp [e, hw kv (by simp) e]
      · simp [e]

/-- `sort.Strings` over the attribute names, as the insertion sort it is modelled by -/
theorem sortByKey_insertSort {β} : InsertSort (fun x y : Bytes × β => bytesLt y.1 x.1) insertSorted sortByKey where
  ins_nil _ := rfl
  ins_cons _ _ _ := rfl
  sort_nil := rfl
  sort_cons _ _ := rfl

theorem mem_sortByKey {β} (y : Bytes × β) (l : List (Bytes × β)) : y ∈ sortByKey l ↔ y ∈ l :=
  (sortByKey_insertSort.sort_perm l).mem_iff

theorem lookup_mem {β} (q : Bytes) (w : β) (h : List (Bytes × β)) (e : h.lookup q = some w) : (q, w) ∈ h := by
  obtain ⟨l₁, l₂, rfl, -⟩ := List.lookup_eq_some_iff.mp e
  simp

theorem lookup_of_mem {β} (q : Bytes) (w : β) : ∀ (h : List (Bytes × β)), (h.map (·.1)).Nodup → (q, w) ∈ h →
    h.lookup q = some w
  | [], _, e => by simp at e
  | (k, v) :: h, hn, e => by
    simp only [List.map_cons, List.nodup_cons] at hn
    simp only [List.lookup]
    rcases List.mem_cons.mp e with e2 | e2
    · simp only [Prod.mk.injEq] at e2
      obtain ⟨rfl, rfl⟩ := e2
      simp
    · have hk : q ≠ k := by
        intro hqk
        exact hn.1 (List.mem_map.mpr ⟨(q, w), e2, hqk⟩)
      have : (q == k) = false := by simpa using hk
      simp only [this]
      exact lookup_of_mem q w h hn.2 e2

theorem not_mem_of_lookup_none {β} (q : Bytes) (h : List (Bytes × β)) (e : h.lookup q = none) (w : β) : (q, w) ∉ h :=
  fun hm => by simpa using List.lookup_eq_none_iff.mp e _ hm

theorem LineKV.logical {kv : Bytes × Bytes} (h : LineKV kv) : LogicalLine (mkLine kv) := by
  refine ⟨?_, ?_⟩
  · intro b hb
    simp only [mkLine, List.mem_append, List.mem_cons, List.not_mem_nil, or_false] at hb
    rcases hb with (hb | hb | hb) | hb
    · exact h.eolk b hb
    · subst hb; decide
    · subst hb; decide
    · exact h.eolv b hb
  · cases hk : kv.1 with
    | nil => exact absurd hk h.nek
    | cons x r =>
      refine ⟨x, r ++ [58, 32] ++ kv.2, by simp [mkLine, hk], ?_⟩
      have := h.tk
      rw [hk] at this
      exact trimmed_head_ne_sp x r this

/-- the lines `writeSection` writes: `first` (if the section has it) and then the other attributes sorted -/
def sectionLines (h : Hdr) (first : Bytes) : List (Bytes × Bytes) :=
  (if (hget h first).isEmpty then [] else [(first, hget h first)]) ++ sortByKey (h.filter (fun kv => kv.1 != first))

theorem writeSection_eq (h : Hdr) (first : Bytes) :
    writeSection h first = ((sectionLines h first).map mkLine).flatMap foldLine ++ [13, 10] := by
  unfold writeSection sectionLines writeAttribute
  split <;> simp [List.flatMap_map, mkLine]

theorem parse_written (L : List (Bytes × Bytes)) (hL : ∀ kv ∈ L, LineKV kv) :
    parseSection ((L.map mkLine).flatMap foldLine ++ [13, 10]) = .ok (L.foldl (fun h kv => hset h kv.1 kv.2) []) := by
  unfold parseSection
  have h1 := unfold_lines (L.map mkLine) (by
    intro l hl
    obtain ⟨kv, hkv, rfl⟩ := List.mem_map.mp hl
    exact (hL kv hkv).logical)
  unfold unfoldLines at h1
  rw [h1, splitLF_lines (L.map mkLine) (by
    intro l hl b hb
    obtain ⟨kv, hkv, rfl⟩ := List.mem_map.mp hl
    exact ((hL kv hkv).logical.1 b hb).2)]
  rw [parseLines_lines L hL]
  simp [parseLines]

/-- the `first` attribute, when it is written, is a proper line: its spelling is either the stored (canonical)
    key or a header token that canonicalises to it -/
theorem first_line (h : Hdr) (first : Bytes) (hh : ∀ kv ∈ h, EntryOK kv) (hne : (hget h first).isEmpty = false) :
    LineKV (first, hget h first) ∧ (canonKey first, hget h first) ∈ h := by
  unfold hget at hne ⊢
  cases hl : h.lookup (canonKey first) with
  | none => simp [hl] at hne
  | some v =>
    have hm := lookup_mem _ _ h hl
    have ok := hh _ hm
    simp only [Option.getD_some]
    refine ⟨?_, hm⟩
    by_cases hc : canonKey first = first
    · rw [hc] at ok
      exact ⟨ok.tk, ok.tv, ok.nek, ok.eolk, ok.eolv, ok.colon⟩
    · have hv : first.all validHdrByte = true := by
        cases hv : first.all validHdrByte with
        | true => rfl
        | false => exact absurd (by simp [canonKey, hv]) hc
      have hb : ∀ b ∈ first, validHdrByte b = true := List.all_eq_true.mp hv
      refine ⟨trimSpace_valid first hv, ok.tv, ?_, ?_, ok.eolv, ?_⟩
      · rintro rfl; exact hc (by simp [canonKey, recase])
      · intro b hb'
        obtain ⟨_, _, _, _, h13, h10, _⟩ := valid_byte b (hb b hb')
        exact ⟨h13, h10⟩
      · intro hm'
        exact (valid_byte 58 (hb 58 hm')).2.2.2.1 rfl

/-- What is parsed is the sequence of assignments of the written lines (`parse_written`).  Under a key `q` that `h` holds, some
    written line assigns to `q` and all that do carry `h`'s value; under any other key no written line assigns
    (`foldl_hset_lookup` in both cases). -/
theorem parse_writeSection (h : Hdr) (first : Bytes) (hh : ∀ kv ∈ h, EntryOK kv) (hn : (h.map (·.1)).Nodup) :
    ∃ h', parseSection (writeSection h first) = .ok h' ∧ ∀ q, h'.lookup q = h.lookup q := by
  have hmemS : ∀ kv, kv ∈ sectionLines h first →
      (kv ∈ h ∧ kv.1 ≠ first) ∨ ((hget h first).isEmpty = false ∧ kv = (first, hget h first)) := by
    intro kv hkv
    unfold sectionLines at hkv
    rcases List.mem_append.mp hkv with hkv | hkv
    · split at hkv
      · simp at hkv
      · rename_i hne
        simp only [List.mem_singleton] at hkv
        exact Or.inr ⟨by simpa using hne, hkv⟩
    · rw [mem_sortByKey] at hkv
      obtain ⟨h1, h2⟩ := List.mem_filter.mp hkv
      exact Or.inl ⟨h1, by simpa using h2⟩
  have hL : ∀ kv ∈ sectionLines h first, LineKV kv := by
    intro kv hkv
    rcases hmemS kv hkv with ⟨h1, _⟩ | ⟨hne, rfl⟩
    · exact (hh kv h1).toLineKV
    · exact (first_line h first hh hne).1
  refine ⟨_, by rw [writeSection_eq]; exact parse_written _ hL, ?_⟩
  intro q
  cases hq : h.lookup q with
  | some w =>
    have hmq := lookup_mem _ _ h hq
    have okq := hh _ hmq
    rw [foldl_hset_lookup q w]
    · have : (sectionLines h first).any (fun kv => canonKey kv.1 == q) = true := by
        rw [List.any_eq_true]
        by_cases hf : q = first
        · subst hf
          have hg : hget h q = w := by simp [hget, okq.canon, hq]
          have hne : (hget h q).isEmpty = false := List.isEmpty_eq_false_iff.mpr (hg ▸ okq.nev)
          refine ⟨(q, hget h q), ?_, by simp [okq.canon]⟩
          unfold sectionLines
          simp [hne]
        · refine ⟨(q, w), ?_, by simp [okq.canon]⟩
          unfold sectionLines
          apply List.mem_append_right
          rw [mem_sortByKey]
          exact List.mem_filter.mpr ⟨hmq, by simpa using hf⟩
      simp [this]
    · intro kv hkv hc
      rcases hmemS kv hkv with ⟨h1, _⟩ | ⟨-, rfl⟩
      · have := (hh kv h1).canon
        rw [this] at hc
        have h2 : h.lookup q = some kv.2 := lookup_of_mem q kv.2 h hn (by rw [← hc]; exact h1)
        rw [hq] at h2
        exact (Option.some.inj h2).symm
      · simp only at hc ⊢
        simp [hget, hc, hq]
  | none =>
    have hno : ∀ kv ∈ sectionLines h first, canonKey kv.1 ≠ q := by
      intro kv hkv hc
      rcases hmemS kv hkv with ⟨h1, _⟩ | ⟨hne, rfl⟩
      · rw [(hh kv h1).canon] at hc
        exact not_mem_of_lookup_none q h hq kv.2 (by rw [← hc]; exact h1)
      · have := (first_line h first hh hne).2
        rw [hc] at this
        exact not_mem_of_lookup_none q h hq _ this
    rw [foldl_hset_lookup q [] _ _ fun kv hkv hc => absurd hc (hno kv hkv)]
    have : (sectionLines h first).any (fun kv => canonKey kv.1 == q) = false :=
      List.any_eq_false.mpr fun kv hkv => by simpa using hno kv hkv
    simp [this]

end Relic.Jar
