/-
  Relic.Proofs.ZipStream — the single-pass reader against the random-access reader (C17).

  Every `ReadAt` the streaming pass issues is one the random-access pass issues too, with the same
  arguments; the stream answers it in the same way as long as it does not lie before the position
  already consumed, and refuses it ("attempted to seek backwards") otherwise.  After `Dump` of a member
  the stream stands exactly at `offset + reported size`.
-/
import Relic.Model.ZipStream
import Relic.Proofs.ZipReader
namespace Relic.Zip

theorem readAt_st_back (z : Bytes) (p off n : Nat) (hp : off < p) : (ST z p).readAt off n = .err "io" := by
  unfold Rd.readAt
  split
  · rfl
  · simp only [if_true]
    try rw [if_pos hp]

theorem readLocalHeader_sim {z : Bytes} {f : File} {p : Nat} {l : Lfh} {r : Rd} (hl : f.lfh = none) (h63 : z.length < 2 ^ 63)
    (h : readLocalHeader (RA z) f = .ok (l, r)) (hp : p ≤ f.offset) :
    readLocalHeader (ST z p) f = .ok (l, ST z (f.offset + 30 + l.nameLen + l.extraLen)) ∧
    r = RA z ∧ l.name.length = l.nameLen ∧ l.extra.length = l.extraLen := by
  obtain ⟨hh, -, rfl⟩ := (readLocalHeader_iff hl h63).mp h
  exact ⟨(readLocalHeader_iff (r := ST z p) hl h63).mpr ⟨hh, fun _ => hp, rfl⟩, rfl, hh.lens.2.2.1, hh.lens.2.2.2.1⟩

theorem readDataDesc_sim {z : Bytes} {f : File} {l : Lfh} {p : Nat} {d : Bytes} {c : Nat} {r : Rd} (hd : f.ddb = [])
    (h63 : z.length < 2 ^ 63) (h : readDataDesc (RA z) f l = .ok (d, c, r))
    (hp : p ≤ f.offset + (30 + l.name.length + l.extra.length) + f.csize) :
    ∃ q, readDataDesc (ST z p) f l = .ok (d, c, ST z q) ∧ r = RA z ∧
      (d = [] → q = p) ∧ (d ≠ [] → q = f.offset + (30 + l.name.length + l.extra.length) + f.csize + d.length) := by
  obtain ⟨hh, -, rfl⟩ := (readDataDesc_iff hd h63).mp h
  have h2 := (readDataDesc_iff (r := ST z p) (r' := if l.flags % 16 / 8 = 0 then ST z p else ST z (descPos f l + d.length)) hd h63).mpr
    ⟨hh, fun _ _ => hp, by split <;> rfl⟩
  have hlen := hh.length
  by_cases hf : l.flags % 16 / 8 = 0
  · rw [if_pos hf] at hlen h2 ⊢
    exact ⟨p, h2, rfl, fun _ => rfl, fun c => absurd hlen c⟩
  · rw [if_neg hf] at hlen h2 ⊢
    have hne : d ≠ [] := by intro e; rw [e] at hlen; simp at hlen
    exact ⟨_, h2, rfl, fun c => absurd c hne, fun _ => rfl⟩

theorem readLocalHeader_st_ra {z : Bytes} {f : File} {p : Nat} {l : Lfh} {r : Rd} (hl : f.lfh = none) (h63 : z.length < 2 ^ 63)
    (h : readLocalHeader (ST z p) f = .ok (l, r)) : readLocalHeader (RA z) f = .ok (l, RA z) ∧ ∃ q, r = ST z q := by
  obtain ⟨hh, -, rfl⟩ := (readLocalHeader_iff hl h63).mp h
  exact ⟨(readLocalHeader_iff (r := RA z) hl h63).mpr ⟨hh, fun c => (by cases c), rfl⟩, _, rfl⟩

theorem readDataDesc_st_ra {z : Bytes} {f : File} {l : Lfh} {p : Nat} {d : Bytes} {c : Nat} {r : Rd} (hd : f.ddb = [])
    (h63 : z.length < 2 ^ 63) (h : readDataDesc (ST z p) f l = .ok (d, c, r)) :
    readDataDesc (RA z) f l = .ok (d, c, RA z) ∧ ∃ q, r = ST z q := by
  obtain ⟨hh, -, rfl⟩ := (readDataDesc_iff hd h63).mp h
  exact ⟨(readDataDesc_iff (r := RA z) hd h63).mpr ⟨hh, fun _ c => (by cases c), by split <;> rfl⟩, by split <;> exact ⟨_, rfl⟩⟩

/-- **one member.** `Dump` of a fresh `File` whose reported extent lies inside the archive: the stream,
    standing at or before the member, writes the same bytes, reports the same size, leaves the same
    `File`, and stands exactly at `offset + size`. -/
theorem dump_sim {z : Bytes} {f : File} {p n : Nat} {b : Bytes} {f' : File} {r : Rd} (hf : f.fresh)
    (h63 : z.length < 2 ^ 63)
    (h : dump (RA z) f = .ok (b, n, f', r)) (hin : f.offset + n ≤ z.length) (hp : p ≤ f.offset) :
    dump (ST z p) f = .ok (b, n, f', ST z (f.offset + n)) ∧ r = RA z := by
  obtain ⟨hl, hd, hc⟩ := hf
  unfold dump at h ⊢
  cases h1 : readLocalHeader (RA z) f with
  | ok x =>
    obtain ⟨l, r1⟩ := x
    rw [h1] at h
    simp only at h
    obtain ⟨e1, hr1, hnl, hel⟩ := readLocalHeader_sim hl h63 h1 hp
    subst hr1
    rw [e1]
    simp only
    rw [hc] at h ⊢
    simp only at h ⊢
    generalize hdoff : f.offset + 30 + l.nameLen + l.extraLen = doff at *
    by_cases hz : f.csize = 0 ∨ f.csize ≥ 2 ^ 63
    · rw [if_pos hz] at h ⊢
      simp only at h ⊢
      cases h2 : readDataDesc (RA z) f l with
      | ok x2 =>
        obtain ⟨ddb, crc, r2⟩ := x2
        rw [h2] at h
        simp only [Res.ok.injEq, Prod.mk.injEq] at h
        obtain ⟨rfl, rfl, rfl, hr⟩ := h
        obtain ⟨q, e2, hr2, hq0, hq1⟩ := readDataDesc_sim (p := doff) hd h63 h2 (by omega)
        rw [e2]
        simp only [Res.ok.injEq, Prod.mk.injEq, true_and]
        refine ⟨?_, by rw [← hr, hr2]⟩
        congr 1
        by_cases c : ddb = []
        · rw [hq0 c, c]; simp; omega
        · rw [hq1 c]; omega
      | err | panic | diverge => rw [h2] at h; cases h
    · rw [if_neg hz] at h ⊢
      simp only [Bool.false_eq_true, if_false, if_true] at h ⊢
      by_cases c63 : doff ≥ 2 ^ 63
      · rw [if_pos c63] at h; cases h
      · rw [if_neg c63] at h
        simp only at h
        cases h2 : readDataDesc (RA z) f l with
        | ok x2 =>
          obtain ⟨ddb, crc, r2⟩ := x2
          rw [h2] at h
          simp only [Res.ok.injEq, Prod.mk.injEq] at h
          obtain ⟨rfl, rfl, rfl, hr⟩ := h
          have hdr : doff + f.csize ≤ z.length := by omega
          rw [(Rd.readAt_iff (r := ST z doff) h63 (by omega)).mpr ⟨hdr, rfl, fun _ => Nat.le_refl _, rfl⟩, Rd.to_st]
          simp only
          obtain ⟨q, e2, hr2, hq0, hq1⟩ := readDataDesc_sim (p := doff + f.csize) hd h63 h2 (by omega)
          rw [e2]
          simp only [Res.ok.injEq, Prod.mk.injEq, true_and]
          refine ⟨?_, by rw [← hr, hr2]⟩
          congr 1
          by_cases c : ddb = []
          · rw [hq0 c, c]; simp; omega
          · rw [hq1 c]; omega
        | err | panic | diverge => rw [h2] at h; cases h
  | err | panic | diverge => rw [h1] at h; cases h

theorem dump_back {z : Bytes} {f : File} {p : Nat} (hl : f.lfh = none) (hp : f.offset < p) :
    dump (ST z p) f = .err "io" := by
  unfold dump readLocalHeader
  rw [hl]
  simp only
  unfold Rd.readFullAt
  rw [if_neg (by omega), readAt_st_back z p f.offset 30 hp]

/-- **the whole pass, exactly.** For fresh directory entries whose random-access pass succeeds with every
    reported extent inside the archive: the single pass from position `p` returns the same list of
    results if the members lie forward of one another (`forward`), and fails with the I/O error of
    `streamReaderAt` ("attempted to seek backwards") if they do not. -/
theorem dumpAll_stream {z : Bytes} : ∀ (fs : List File) (outs : List Dumped) (p : Nat),
    z.length < 2 ^ 63 → (∀ f ∈ fs, f.fresh) → dumpAll (RA z) fs = .ok outs → inRange z.length fs outs = true →
    dumpAll (ST z p) fs = if forward p fs outs then .ok outs else .err "io" := by
  intro fs
  induction fs with
  | nil =>
    intro outs p _ _ h _
    simp only [dumpAll, Res.ok.injEq] at h
    subst h
    simp [dumpAll, forward]
  | cons f fs ih =>
    intro outs p h63 hfresh h hin
    unfold dumpAll at h
    cases h1 : dump (RA z) f with
    | ok x =>
      obtain ⟨b, n, f', r1⟩ := x
      rw [h1] at h
      simp only at h
      cases h2 : dumpAll r1 fs with
      | ok l =>
        rw [h2] at h
        simp only [Res.ok.injEq] at h
        subst h
        simp only [inRange, Bool.and_eq_true, decide_eq_true_eq] at hin
        simp only [forward]
        have hr1 := (dump_sim (p := f.offset) (hfresh f (List.mem_cons_self ..)) h63 h1 hin.1 (Nat.le_refl _)).2
        subst hr1
        by_cases hp : p ≤ f.offset
        · unfold dumpAll
          rw [(dump_sim (hfresh f (List.mem_cons_self ..)) h63 h1 hin.1 hp).1]
          simp only
          rw [ih l (f.offset + n) h63 (fun g hg => hfresh g (List.mem_cons_of_mem _ hg)) h2 hin.2]
          by_cases hfw : forward (f.offset + n) fs l = true
          · simp [hp, hfw]
          · simp [hp, hfw]
        · unfold dumpAll
          rw [dump_back (hfresh f (List.mem_cons_self ..)).1 (by omega)]
          simp [hp]
      | err | panic | diverge => rw [h2] at h; cases h
    | err | panic | diverge => rw [h1] at h; cases h

theorem getTotalSize_ra {z : Bytes} {f : File} {m : Member} {r : Rd} (hf : f.fresh) (h63 : z.length < 2 ^ 63)
    (h : getTotalSize (RA z) f = .ok (m, r)) :
    ∃ l ddb c, readLocalHeader (RA z) f = .ok (l, RA z) ∧ readDataDesc (RA z) f l = .ok (ddb, c, RA z) ∧
      m.file = { f with crc := c, lfh := some l, ddb := ddb } ∧ m.dataOff = f.offset + 30 + l.nameLen + l.extraLen ∧
      m.total = 30 + (l.name.length + l.extra.length + ddb.length) + f.csize ∧
      l.name.length = l.nameLen ∧ l.extra.length = l.extraLen ∧ r = RA z := by
  obtain ⟨hl, hd, -⟩ := hf
  obtain ⟨l, r1, ddb, crc, h1, h2, rfl⟩ := getTotalSize_ok_iff.mp h
  obtain ⟨hh, -, rfl⟩ := (readLocalHeader_iff hl h63).mp h1
  obtain ⟨-, -, hr⟩ := (readDataDesc_iff (r := RA z) hd h63).mp h2
  have hr' : r = RA z := by rw [hr]; split <;> rfl
  subst hr'
  exact ⟨l, ddb, crc, h1, h2, rfl, rfl, rfl, hh.lens.2.2.1, hh.lens.2.2.2.1, rfl⟩

theorem dump_of_getTotalSize {z : Bytes} {f : File} {m : Member} {r : Rd} (hf : f.fresh) (h63 : z.length < 2 ^ 63)
    (h : getTotalSize (RA z) f = .ok (m, r)) (hin : f.offset + m.total ≤ z.length) :
    ∃ b, dump (RA z) f = .ok (b, m.total, m.file, RA z) := by
  obtain ⟨l, ddb, crc, h1, h2, hfile, -, htot, hnl, hel, -⟩ := getTotalSize_ra hf h63 h
  obtain ⟨hl, hd, hc⟩ := hf
  rw [htot] at hin
  rw [hc] at hfile
  unfold dump
  rw [h1]
  simp only
  rw [hc]
  simp only
  by_cases hz : f.csize = 0 ∨ f.csize ≥ 2 ^ 63
  · rw [if_pos hz]
    simp only
    rw [h2]
    exact ⟨_, by rw [htot, hfile]⟩
  · rw [if_neg hz]
    simp only [Bool.false_eq_true, if_false]
    rw [if_neg (by omega)]
    simp only
    rw [h2]
    exact ⟨_, by rw [htot, hfile]⟩

theorem readStream_of_read {z : Bytes} {d : Directory} (h : read (RA z) = .ok d) : readStream z = .ok d := by
  unfold read at h
  unfold readStream
  cases hf : findDirectory (RA z) with
  | ok loc =>
    rw [hf] at h
    simp only at h ⊢
    split at h
    · split at h <;> cases h
    · split at h
      · cases h
      · next h63 hle =>
        cases h1 : (RA z).readAt loc (z.length - loc) with
        | ok x =>
          obtain ⟨cd, r⟩ := x
          rw [h1] at h
          simp only at h
          obtain ⟨_, _, hb, _, -⟩ := Rd.readAt_ok h1
          have hb : cd = (z.drop loc).take (z.length - loc) := hb
          rw [if_neg (by omega), if_neg (by omega)]
          have : cd = z.drop loc := by
            rw [hb]; exact List.take_of_length_le (by rw [List.length_drop]; omega)
          rw [← this]; exact h
        | err | panic | diverge => rw [h1] at h; cases h
  | err | panic | diverge => rw [hf] at h; cases h

/-- what a successful `Read` went through (`ZipToTar` + `ReadZipTar`, which `DigestAppxTar` reads a package with, go the
    same way) -/
theorem read_inv {z : Bytes} {d : Directory} (h : read ⟨z, false, 0⟩ = .ok d) :
    ∃ loc, findDirectory ⟨z, false, 0⟩ = .ok loc ∧ loc ≤ z.length ∧ readWithDirectory z.length (z.drop loc) = .ok d := by
  have h2 := readStream_of_read h
  unfold readStream at h2
  cases hl : findDirectory ⟨z, false, 0⟩ with
  | ok loc =>
    rw [hl] at h2
    simp only [] at h2
    split at h2
    · cases h2
    · split at h2
      · cases h2
      · exact ⟨loc, rfl, by omega, h2⟩
  | err | panic | diverge => rw [hl] at h2; cases h2

end Relic.Zip
