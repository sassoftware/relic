/-
  The APK verifier model accepts exactly the signers that are `SignerOK`.  Each loop of the verifier gets one equivalence
  (it succeeds ⇔ a proposition about the records it walks over), proved by one walk through it.
-/
import Relic.Model.ApkVerify
import Relic.Proofs.Res
namespace Relic.ApkVerify

/-- the signers of all v2 pairs of the bytes between the last member and the central directory -/
def gapSigners (gap : Bytes) : Res (List Signer) :=
  (getSigBlock gap).bind fun area =>
    match area with
    | none => .ok []
    | some a => v2Signers a.length a

/-- a signature record names a known algorithm of the key's type and verifies -/
def SigOK (C : Crypto) (pub : Bytes) (kind : KeyKind) (data : Bytes) (sig : Attr) : Prop :=
  ∃ st, sigTypeByID sig.id = some st ∧ kindOfAlg st.alg = some kind ∧ C.sigValid pub sig.id data sig.value = true

/-- a digest record names a known algorithm and equals the recomputed content digest for that algorithm's hash -/
def DigestOK (cd : HashAlg → Bytes) (d : Attr) : Prop :=
  ∃ st, sigTypeByID d.id = some st ∧ d.value = cd st.hash

/-- what `apkSigner.Verify` accepts: at least one signature record; the public key parses and every
    signature record is `SigOK` under it; the signed data parse, list at least one digest, every digest is `DigestOK` against the
    recomputed content digest; every certificate parses and one of them carries the signer's public key -/
def SignerOK (C : Crypto) (s : Signer) : Prop :=
  s.signatures ≠ [] ∧
  (∃ kind, C.parseKey s.publicKey = some kind ∧ ∀ sig ∈ s.signatures, SigOK C s.publicKey kind s.sdBytes sig) ∧
  ∃ sd, unmarshalSignedData s.signedData = .ok sd ∧ sd.digests ≠ [] ∧
    (∃ cd, C.content = some cd ∧ ∀ d ∈ sd.digests, DigestOK cd d) ∧
    (∀ c ∈ sd.certs, (C.certSpki c).isSome) ∧
    ∃ c ∈ sd.certs, C.certSpki c = some s.publicKey

theorem verifySignature_ok_iff (C : Crypto) (pub : Bytes) (kind : KeyKind) (data : Bytes) (sig : Attr) (h : HashAlg) :
    verifySignature C pub kind data sig = .ok h ↔
      ∃ st, sigTypeByID sig.id = some st ∧ kindOfAlg st.alg = some kind ∧ C.sigValid pub sig.id data sig.value = true ∧
        h = st.hash := by
  unfold verifySignature
  cases hs : sigTypeByID sig.id with
  | none => simp
  | some st =>
    cases hk : kindOfAlg st.alg with
    | none => simp [hk]
    | some k =>
      by_cases hkk : kind = k
      · subst hkk
        by_cases hv : C.sigValid pub sig.id data sig.value = true
        · simp [hk, hv, eq_comm]
        · simp [hk, hv]
      · simp [hk, hkk]
        intro h'; exact absurd h'.symm hkk

theorem verifySignature_iff (C : Crypto) (pub : Bytes) (kind : KeyKind) (data : Bytes) (sig : Attr) :
    (∃ h, verifySignature C pub kind data sig = .ok h) ↔ SigOK C pub kind data sig := by
  simp only [verifySignature_ok_iff, SigOK]
  exact ⟨fun ⟨_, st, a1, a2, a3, _⟩ => ⟨st, a1, a2, a3⟩, fun ⟨st, a1, a2, a3⟩ => ⟨_, st, a1, a2, a3, rfl⟩⟩

theorem verifySigs_iff (C : Crypto) (pub : Bytes) (kind : KeyKind) (data : Bytes) : ∀ l : List Attr,
    (∃ hs, verifySigs C pub kind data l = .ok hs) ↔ ∀ sig ∈ l, SigOK C pub kind data sig
  | [] => by simp [verifySigs]
  | a :: l => by
    simp only [verifySigs, Res.bind_eq_ok, Res.ok.injEq, List.mem_cons, forall_eq_or_imp]
    rw [← verifySigs_iff C pub kind data l, ← verifySignature_iff]
    exact ⟨fun ⟨_, h, e1, hs, e2, _⟩ => ⟨⟨h, e1⟩, hs, e2⟩, fun ⟨⟨h, e1⟩, hs, e2⟩ => ⟨_, h, e1, hs, e2, rfl⟩⟩

theorem digests_iff (cd : HashAlg → Bytes) : ∀ ds : List Attr,
    (∃ algs, digestAlgs ds = .ok algs ∧ digestsMatch cd ds algs = true) ↔ ∀ d ∈ ds, DigestOK cd d
  | [] => by simp [digestAlgs, digestsMatch]
  | a :: ds => by
    simp only [digestAlgs, List.mem_cons, forall_eq_or_imp]
    rw [← digests_iff cd ds, DigestOK]
    cases hs : sigTypeByID a.id with
    | none => simp
    | some st =>
      simp only [Res.bind_eq_ok, Res.ok.injEq, Option.some.injEq, exists_eq_left']
      constructor
      · rintro ⟨_, ⟨algs, e, rfl⟩, hm⟩
        simp only [digestsMatch, Bool.and_eq_true, beq_iff_eq] at hm
        exact ⟨hm.1, algs, e, hm.2⟩
      · rintro ⟨hv, algs, e, hm⟩
        exact ⟨_, ⟨algs, e, rfl⟩, by simp [digestsMatch, hv, hm]⟩

theorem parseCerts_isSome (C : Crypto) : ∀ cs : List Bytes,
    (∃ ks, parseCerts C cs = some ks) ↔ ∀ c ∈ cs, (C.certSpki c).isSome
  | [] => by simp [parseCerts]
  | c :: cs => by
    simp only [parseCerts, List.mem_cons, forall_eq_or_imp]
    rw [← parseCerts_isSome C cs]
    cases hc : C.certSpki c with
    | none => simp
    | some k =>
      simp only [Option.map_eq_some_iff, Option.isSome_some, true_and]
      exact ⟨fun ⟨_, a, e, _⟩ => ⟨a, e⟩, fun ⟨a, e⟩ => ⟨_, a, e, rfl⟩⟩

theorem mem_parseCerts (C : Crypto) (k : Bytes) : ∀ (cs ks : List Bytes), parseCerts C cs = some ks →
    (k ∈ ks ↔ ∃ c ∈ cs, C.certSpki c = some k)
  | [], ks, h => by simp [parseCerts] at h; subst h; simp
  | c :: cs, ks, h => by
    simp only [parseCerts] at h
    cases hc : C.certSpki c with
    | none => simp [hc] at h
    | some k0 =>
      simp only [hc, Option.map_eq_some_iff] at h
      obtain ⟨ks', e, rfl⟩ := h
      rw [List.mem_cons, mem_parseCerts C k cs ks' e]
      constructor
      · rintro (rfl | ⟨c', m, e'⟩)
        · exact ⟨c, List.mem_cons_self .., hc⟩
        · exact ⟨c', List.mem_cons_of_mem _ m, e'⟩
      · rintro ⟨c', m, e'⟩
        rcases List.mem_cons.mp m with rfl | m
        · exact Or.inl (Option.some.inj (e'.symm.trans hc))
        · exact Or.inr ⟨c', m, e'⟩

theorem lastMatch_isSome (pub : Bytes) :
    ∀ (ks : List Bytes) (i : Nat) (acc : Option Nat), (lastMatch pub ks i acc).isSome ↔ (acc.isSome ∨ pub ∈ ks) := by
  intro ks
  induction ks with
  | nil => intro _ acc; simp [lastMatch]
  | cons k ks ih =>
    intro i acc
    simp only [lastMatch]
    rw [ih]
    by_cases hk : k = pub
    · subst hk; simp
    · have : ¬ pub = k := fun e => hk e.symm
      simp [hk, this]

theorem certs_iff (C : Crypto) (pub : Bytes) (cs : List Bytes) :
    (∃ ks, parseCerts C cs = some ks ∧ (lastMatch pub ks 0 none).isSome) ↔
      (∀ c ∈ cs, (C.certSpki c).isSome) ∧ ∃ c ∈ cs, C.certSpki c = some pub := by
  rw [← parseCerts_isSome]
  simp only [lastMatch_isSome, Option.isSome_none, Bool.false_eq_true, false_or]
  exact ⟨fun ⟨ks, e, h⟩ => ⟨⟨ks, e⟩, (mem_parseCerts C pub cs ks e).mp h⟩,
    fun ⟨⟨ks, e⟩, h⟩ => ⟨ks, e, (mem_parseCerts C pub cs ks e).mpr h⟩⟩

theorem signerVerify_ok_iff (C : Crypto) (s : Signer) : (∃ r, signerVerify C s = .ok r) ↔ SignerOK C s := by
  constructor
  · rintro ⟨r, h⟩
    unfold signerVerify at h
    split at h
    · cases h
    rename_i hne
    split at h
    · cases h
    rename_i kind hk
    obtain ⟨hs, e1, h⟩ := Res.bind_eq_ok.mp h
    split at h
    · cases h
    · cases h
    · cases h
    rename_i sd hsd
    split at h
    · cases h
    rename_i hdne
    obtain ⟨algs, e2, h⟩ := Res.bind_eq_ok.mp h
    split at h
    · cases h
    rename_i cd hcd
    split at h
    · cases h
    rename_i hdm
    split at h
    · cases h
    rename_i spkis hpc
    split at h
    · cases h
    rename_i leaf hlm
    obtain ⟨c1, c2⟩ := (certs_iff C s.publicKey sd.certs).mp ⟨spkis, hpc, by rw [hlm]; rfl⟩
    refine ⟨?_, ⟨kind, hk, (verifySigs_iff ..).mp ⟨hs, e1⟩⟩, sd, hsd, ?_, ⟨cd, hcd, ?_⟩, c1, c2⟩
    · intro e; simp [e] at hne
    · intro e; simp [e] at hdne
    · exact (digests_iff cd _).mp ⟨algs, e2, by simpa using hdm⟩
  · rintro ⟨h1, ⟨kind, hk, hsig⟩, sd, hsd, hdne, ⟨cd, hcd, hdig⟩, hall, hc⟩
    obtain ⟨hs, e1⟩ := (verifySigs_iff C s.publicKey kind s.sdBytes s.signatures).mpr hsig
    obtain ⟨algs, e2, e3⟩ := (digests_iff cd sd.digests).mpr hdig
    obtain ⟨ks, e4, hl⟩ := (certs_iff C s.publicKey sd.certs).mpr ⟨hall, hc⟩
    obtain ⟨leaf, hleaf⟩ := Option.isSome_iff_exists.mp hl
    have n1 : s.signatures.isEmpty = false := List.isEmpty_eq_false_iff.mpr h1
    have n2 : sd.digests.isEmpty = false := List.isEmpty_eq_false_iff.mpr hdne
    refine ⟨⟨bestHash hs, leaf, (ks.filter (· ≠ s.publicKey)).length⟩, ?_⟩
    unfold signerVerify
    simp [n1, hk, e1, Res.bind, hsd, n2, e2, hcd, e3, e4, hleaf]

theorem verifySigners_iff (C : Crypto) : ∀ (l : List Signer) (i n : Nat),
    (∃ rs, verifySigners C i l = .ok rs ∧ rs.length = n) ↔ (∀ s ∈ l, SignerOK C s) ∧ l.length = n
  | [], i, n => by simp [verifySigners, eq_comm]
  | s :: l, i, n => by
    simp only [verifySigners, List.mem_cons, forall_eq_or_imp, List.length_cons]
    rw [← signerVerify_ok_iff C s]
    cases hs : signerVerify C s with
    | ok r =>
      simp only [Res.bind_eq_ok, Res.ok.injEq]
      constructor
      · rintro ⟨_, ⟨rs, h, rfl⟩, hl⟩
        obtain ⟨q1, q2⟩ := (verifySigners_iff C l (i + 1) rs.length).mp ⟨rs, h, rfl⟩
        exact ⟨⟨⟨r, rfl⟩, q1⟩, by rw [← hl, q2]; rfl⟩
      · rintro ⟨⟨-, hall⟩, hl⟩
        obtain ⟨rs, h, q2⟩ := (verifySigners_iff C l (i + 1) l.length).mpr ⟨hall, rfl⟩
        exact ⟨_, ⟨rs, h, rfl⟩, by rw [← hl, ← q2]; rfl⟩
    | _ => simp

theorem walkParts_iff (C : Crypto) : ∀ (fuel : Nat) (b : Bytes) (n : Nat),
    (∃ reps, walkParts C fuel b = .ok reps ∧ reps.length = n) ↔
      ∃ ss, v2Signers fuel b = .ok ss ∧ (∀ s ∈ ss, SignerOK C s) ∧ ss.length = n
  | 0, b, n => by
    simp only [walkParts, v2Signers]
    split <;> simp [eq_comm]
  | fuel + 1, b, n => by
    have ih := walkParts_iff C fuel
    simp only [walkParts, v2Signers]
    by_cases he : b.isEmpty = true
    · rw [if_pos he, if_pos he]; simp [eq_comm]
    by_cases h12 : b.length < 12
    · rw [if_neg he, if_neg he, if_pos h12, if_pos h12]; simp
    by_cases hsz : leVal (b.take 8) < 4 ∨ leVal (b.take 8) > (b.drop 8).length
    · rw [if_neg he, if_neg he, if_neg h12, if_neg h12, if_pos hsz, if_pos hsz]; simp
    rw [if_neg he, if_neg he, if_neg h12, if_neg h12, if_neg hsz, if_neg hsz]
    by_cases hty : leVal ((b.drop 8).take 4) ≠ sigApkV2
    · rw [if_pos hty, if_pos hty]; exact ih _ _
    rw [if_neg hty, if_neg hty]
    cases hun : unmarshalSigners (((b.drop 8).take (leVal (b.take 8))).drop 4) with
    | ok signers =>
      simp only
      by_cases hemp : signers.isEmpty = true
      · rw [if_pos hemp, if_pos hemp]; simp
      rw [if_neg hemp, if_neg hemp]
      simp only [Res.bind_eq_ok, Res.ok.injEq]
      constructor
      · rintro ⟨_, ⟨rs, h1, more, h2, rfl⟩, hl⟩
        obtain ⟨q1, q2⟩ := (verifySigners_iff C signers 1 rs.length).mp ⟨rs, h1, rfl⟩
        obtain ⟨ss, e, p1, p2⟩ := (ih _ more.length).mp ⟨more, h2, rfl⟩
        refine ⟨_, ⟨ss, e, rfl⟩, fun s hm => (List.mem_append.mp hm).elim (q1 s) (p1 s), ?_⟩
        rw [← hl, List.length_append, List.length_append, q2, p2]
      · rintro ⟨_, ⟨ss, e, rfl⟩, hall, hl⟩
        obtain ⟨rs, h1, q2⟩ := (verifySigners_iff C signers 1 signers.length).mpr
          ⟨fun s hm => hall s (List.mem_append_left _ hm), rfl⟩
        obtain ⟨more, h2, p2⟩ := (ih _ ss.length).mpr ⟨ss, e, fun s hm => hall s (List.mem_append_right _ hm), rfl⟩
        exact ⟨_, ⟨rs, h1, more, h2, rfl⟩, by rw [← hl, List.length_append, List.length_append, q2, p2]⟩
    | _ => simp

end Relic.ApkVerify
