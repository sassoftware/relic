/-
  Signing relic's own VSIX output a second time (`Relic.Props.C08.vsix_resign_total`): the second pass over `kept ++ new parts`
  reads the content types back from the part the first signing wrote; that table answers like the first one except that some
  extensions now have a builtin type (`CtLater`); the reference loop still succeeds, because the check "the URI mapping gives the
  name back" does not depend on the content type.
-/
import Relic.Proofs.VsixSign
import Relic.Proofs.VsixPath
namespace Relic.Vsix
open Relic.Xml

/-- of the parts `kept ++ new parts` only the last is called `[Content_Types].xml` -/
theorem ctPass_signed {E : Env} {c : Cfg} (F : CfgFacts c) (hrt : ∀ a b, E.parseCT (E.marshalCT a b) = some (a, b))
    (pkg : Pkg) (obj : Node) (ct : CT) :
    ctPass E (keptOf pkg ++ newsOf E c obj ct) {} = some (ctParse {} (sortMap ct.byExt) (sortMap ct.byOvr)) := by
  have hnews : newsOf E c obj ct = (fixedNews E c ++ certNews E c ++ [⟨sigName c, E.xsign c.hash c.detach obj⟩]) ++
      [⟨sContentTypes, E.marshalCT (sortMap ct.byExt) (sortMap ct.byOvr)⟩] := by simp [newsOf]
  have hndn := F.nodup
  rw [← newsOf_names E c obj ct, hnews, List.map_append, List.nodup_append] at hndn
  rw [hnews, ← List.append_assoc, ctPass_append E _ _ _ _ (ctPass_skip E _ _ ?_)]
  · simp [ctPass, hrt]
  · intro p hp e
    rcases List.mem_append.mp hp with h | h
    · have := keptOf_keep h
      rw [e, keepFile_ctypes] at this
      cases this
    · exact hndn.2.2 _ (List.mem_map_of_mem h) sContentTypes (by simp) e

/-- the values of the package-level table `contentTypes` -/
def builtinCTs : List Bytes := [ctCer, ctPsdor, ctPsdsxs, ctRels]

theorem builtinCTs_ok : ∀ ct ∈ builtinCTs, ct ≠ [] ∧ CtOk ct := by decide

/-- `c2` answers like `c1`, except that some extensions now have one of the builtin types -/
structure CtLater (c1 c2 : CT) : Prop where
  ovr : ∀ k, mget c2.byOvr k = mget c1.byOvr k
  ext : ∀ k, mget c2.byExt k = mget c1.byExt k ∨ mget c2.byExt k ∈ builtinCTs

theorem ctFind_later {c1 c2 : CT} (H : CtLater c1 c2) (n : Bytes) : ctFind c2 n = ctFind c1 n ∨ ctFind c2 n ∈ builtinCTs := by
  unfold ctFind
  simp only [H.ovr]
  by_cases hov : mget c1.byOvr (47 :: n) = []
  · simp only [hov, ne_eq, not_true_eq_false, if_false]
    by_cases hext : pathExt (pathBase n) ≠ [] ∧ (pathExt (pathBase n)).head? = some 46
    · simp only [hext]
      exact H.ext _
    · simp only [hext, if_false]
      exact Or.inl trivial
  · simp only [ne_eq, hov, not_false_eq_true, if_true]
    exact Or.inl trivial

theorem refCType_later {c1 c2 : CT} (H : CtLater c1 c2) {n ct1 : Bytes} (h : refCType true c1 n = .ok ct1) :
    ∃ ct2, refCType true c2 n = .ok ct2 ∧ (ct2 = ct1 ∨ CtOk ct2) := by
  rcases ctFind_later H n with he | hb
  · refine ⟨ct1, ?_, Or.inl rfl⟩
    unfold refCType at h ⊢
    rw [he]
    exact h
  · obtain ⟨h1, h2⟩ := builtinCTs_ok _ hb
    refine ⟨ctFind c2 n, ?_, Or.inr h2⟩
    unfold refCType
    simp only [ne_eq, h1, not_false_eq_true, if_true]

theorem ctPass_nodup (E : Env) : ∀ (pkg : Pkg) (ct ct' : CT), ctPass E pkg ct = some ct' → (keys ct.byExt).Nodup →
    (keys ct.byOvr).Nodup → (keys ct'.byExt).Nodup ∧ (keys ct'.byOvr).Nodup
  | [], _, _, h, a, b => by cases h; exact ⟨a, b⟩
  | p :: ps, ct, ct', h, a, b => by
    rw [ctPass] at h
    split at h
    · cases ht : E.parseCT p.data with
      | none => simp [ht] at h
      | some t =>
        rw [ht] at h
        exact ctPass_nodup E ps _ _ h (keys_foldl _ _ _ _ a) (keys_foldl _ _ _ _ b)
    · exact ctPass_nodup E ps _ _ h a b

theorem later_mset {m0 m : SMap} (h : ∀ k, mget m k = mget m0 k ∨ mget m k ∈ builtinCTs) (x : Bytes) {v : Bytes}
    (hv : v ∈ builtinCTs) (k : Bytes) : mget (mset m x v) k = mget m0 k ∨ mget (mset m x v) k ∈ builtinCTs := by
  rw [mget_mset]
  by_cases hk : k = x
  · rw [if_pos hk]; exact .inr hv
  · rw [if_neg hk]; exact h k

theorem ctLater_resign {c : CT} (hE : (keys c.byExt).Nodup) (hO : (keys c.byOvr).Nodup) (d : Bool) :
    CtLater c (ctParse {} (sortMap (newCtypes c d).byExt) (sortMap (newCtypes c d).byOvr)) := by
  have m1 : ctCer ∈ builtinCTs := by simp [builtinCTs]
  have m2 : ctPsdor ∈ builtinCTs := by simp [builtinCTs]
  have m3 : ctPsdsxs ∈ builtinCTs := by simp [builtinCTs]
  have m4 : ctRels ∈ builtinCTs := by simp [builtinCTs]
  have h0 : ∀ k, mget c.byExt k = mget c.byExt k ∨ mget c.byExt k ∈ builtinCTs := fun _ => .inl rfl
  constructor
  · intro k
    exact mget_parse_sorted hO k
  · intro k
    have hfn : (keys (newCtypes c d).byExt).Nodup := by
      cases d
      · exact keys_mset _ _ _ (keys_mset _ _ _ (keys_mset _ _ _ hE))
      · exact keys_mset _ _ _ (keys_mset _ _ _ (keys_mset _ _ _ (keys_mset _ _ _ hE)))
    simp only [ctParse]
    rw [mget_parse_sorted hfn k]
    cases d
    · exact later_mset (later_mset (later_mset h0 _ m2) _ m3) _ m4 k
    · exact later_mset (later_mset (later_mset (later_mset h0 _ m1) _ m2) _ m3) _ m4 k

/-- the reference loop of the second signing succeeds where the one of the first did: the names are the same, every name
    still has a content type, and a changed content type is a builtin one -/
theorem mkRefs_resign {E : Env} {c1 c2 : Cfg} {d : SMap} {M1 M2 : CT} (H : CtLater M1 M2) {refs : List Ref}
    (h : mkRefs true M1 (sortMap (addDigests d (fixedNews E c1))) = .ok refs) :
    ∃ refs2, mkRefs true M2 (sortMap (addDigests d (fixedNews E c2))) = .ok refs2 := by
  have hinv := (mkRefs_true_ok_iff _ _).mp ⟨_, h⟩
  apply (mkRefs_true_ok_iff _ _).mpr
  intro e he
  have hk : e.1 ∈ keys (sortMap (addDigests d (fixedNews E c1))) := by
    have : e.1 ∈ keys (sortMap (addDigests d (fixedNews E c2))) := List.mem_map_of_mem he
    rw [mem_keys_sortMap, mem_keys_addDigests, fixedNews_names] at this
    rw [mem_keys_sortMap, mem_keys_addDigests, fixedNews_names]
    exact this
  obtain ⟨e1, he1, he1n⟩ := List.mem_map.mp hk
  obtain ⟨ct1, hct1, hu1⟩ := hinv e1 he1
  rw [he1n] at hct1 hu1
  obtain ⟨ct2, hct2, hor⟩ := refCType_later H hct1
  refine ⟨ct2, hct2, ?_⟩
  rcases hor with rfl | hok
  · exact hu1
  · exact uriPath_change_ct _ _ _ hu1 hok

/-- a second signing (any configuration) of what the repaired signer wrote succeeds, provided `[Content_Types].xml` reads
    back as written -/
theorem sign_resign {E : Env} {c1 : Cfg} (c2 : Cfg) {pkg : Pkg} {s1 : Signed} (h1 : sign true E c1 pkg = .ok s1)
    (hc1 : cfgOk c1 = true) (hrt : ∀ a b, E.parseCT (E.marshalCT a b) = some (a, b)) :
    ∃ s2, sign true E c2 s1.parts = .ok s2 := by
  have F1 := cfgFacts_of_cfgOk hc1
  obtain ⟨ct1, hcp1, hfr1, hrefs1, -, -, hct, hparts⟩ := sign_eq_ok.mp h1
  obtain ⟨hE, hO⟩ := ctPass_nodup E pkg {} ct1 hcp1 List.nodup_nil List.nodup_nil
  -- the same payload, hence the same digested names; the table read back answers like the one of the first round
  have hk : keptOf s1.parts = keptOf pkg := by rw [hparts]; exact keptOf_signed F1 E pkg _ _
  obtain ⟨refs2, hr2⟩ := mkRefs_resign (c2 := c2) (ctLater_resign hE hO c1.detach) hrefs1
  let ct2 := ctParse {} (sortMap (newCtypes ct1 c1.detach).byExt) (sortMap (newCtypes ct1 c1.detach).byOvr)
  let obj2 := objectNode E c2.hash c2.time refs2
  refine ⟨⟨keptOf s1.parts ++ newsOf E c2 obj2 (newCtypes ct2 c2.detach), keptOf s1.parts, refs2, obj2, newCtypes ct2 c2.detach⟩,
    sign_eq_ok.mpr ⟨ct2, ?_, ?_, ?_, rfl, rfl, rfl, rfl⟩⟩
  · rw [hparts, hct]; exact ctPass_signed F1 hrt pkg _ _
  · rw [hk]; exact hfr1
  · rw [digested_congr E c2 hk]; exact hr2

end Relic.Vsix
