/-
  Relic.Proofs.ZipRewriteFull — the two rewriters of Relic.Model.ZipRewrite on a readable archive, all the
  way to the independent reader: `manglerRewrite_parses` (VSIX / AppX), `jarRewrite_parses` (JAR / APK v1); the kept views
  below 4 GiB (`keptViews_small`, `filter_views`).
-/
import Relic.Proofs.ZipRoundtrip
import Relic.Proofs.ZipStreamSpec
namespace Relic.Zip
open Relic.SpecZip

theorem readStream_of_found {z : Bytes} {loc : Nat} (h63 : z.length < 2 ^ 63)
    (hf : findDirectory ⟨z, false, 0⟩ = .ok loc) (hle : loc ≤ z.length) :
    readStream z = readWithDirectory z.length (z.drop loc) := by
  unfold readStream
  rw [hf]
  simp only
  rw [if_neg (by omega), if_neg (by omega)]

/-- what `jarRead` returned is the directory of the streaming reader and its forward pass over that directory
    (`jarRead_ok` says the same in terms of `findDirectory`) -/
theorem jarRead_stream {z : Bytes} {d : Directory} {ms : List Member} (h63 : z.length < 2 ^ 63) (h : jarRead z = .ok (d, ms)) :
    readStream z = .ok d ∧ passMembers jarReads (ST z 0) d.files = .ok ms := by
  obtain ⟨loc, hf, hle, hr, hp, -⟩ := jarRead_ok h
  exact ⟨by rw [readStream_of_found h63 hf hle, hr], hp⟩

theorem manglerRead_stream {z : Bytes} {d : Directory} {ms : List Member} (h63 : z.length < 2 ^ 63) (h : manglerRead z = .ok (d, ms)) :
    readStream z = .ok d ∧ passMembers vsixReads (ST z 0) d.files = .ok ms := by
  obtain ⟨loc, hf, hle, hr, hp⟩ := manglerRead_ok h
  exact ⟨by rw [readStream_of_found h63 hf hle, hr], hp⟩

/-- **what the forward pass of a rewriter read**, for a readable archive: the directory `Read` returns, and
    the members as measured (one per directory entry, in order) -/
theorem pass_measured {z : Bytes} {a : Archive} (hR : Readable z a)
    (rd : File → Bool) {d : Directory} {ms : List Member} (hrs : readStream z = .ok d)
    (hpm : passMembers rd (ST z 0) d.files = .ok ms) :
    ∃ kms, MeasuredL z a a.ends.cdOff kms ∧ kms.map (·.2.1) = a.members ∧ kms.map (·.2.2) = ms ∧
      d.dirLoc = a.ends.cdOff ∧ a.ends.cdOff ≤ z.length := by
  obtain ⟨d0, kms, hd0, hloc, hcdz, hM, hsm, hfs⟩ := hR.read_measured
  have := readStream_of_read hd0
  rw [hrs] at this
  simp only [Res.ok.injEq] at this
  subst this
  rw [hfs] at hpm
  exact ⟨kms, hM, hsm, (passMembers_measured hR.len63 rd kms _ 0 ms hM hpm).symm, hloc, hcdz⟩

/-- **`Mangle` + `Mangler.NewFile` + `MakePatch` on a readable archive** (the VSIX / AppX way of
    rewriting; code with the layout check of fix-F9): the output parses, kept members first, then the
    added ones. -/
theorem manglerRewrite_parses {z : Bytes} {a : Archive} (hR : Readable z a)
    (mt md : Nat) (hmt : mt < 2 ^ 16) (hmd : md < 2 ^ 16) (news : List NewMember) (hnews : ∀ n ∈ news, NewOK n)
    (force : Bool) (out : Bytes) (h : manglerRewrite z news mt md force = .ok out) (hbound : out.length < 2 ^ 64) :
    ∃ kms0 a', MeasuredL z a a.ends.cdOff kms0 ∧ kms0.map (·.2.1) = a.members ∧ contigK 0 kms0 a.ends.cdOff ∧
      Assembled out a'
        (keptLenK (setKeep vsixKeep kms0) + (newEntries mt md news (keptLenK (setKeep vsixKeep kms0))).2.length)
        (keptPMs z (setKeep vsixKeep kms0) 0 ++ newPMs mt md news (keptLenK (setKeep vsixKeep kms0)))
        (keptViews z (setKeep vsixKeep kms0) 0 ++ newViews mt md news (keptLenK (setKeep vsixKeep kms0)))
        (∀ n ∈ news, NewReadable n) := by
  obtain ⟨d, ms, hr, h⟩ := manglerRewriteWith_ok h
  obtain ⟨hrs, hpm⟩ := manglerRead_stream hR.len63 hr
  obtain ⟨kms0, hM0, hsm0, hms, hloc, hcdz⟩ := pass_measured hR vsixReads hrs hpm
  obtain ⟨nd1, dels, pos, hwk, hpos, hH, hout⟩ := manglerAssemble_ok h
  obtain ⟨w1, w2, w3, -, w5⟩ := walk_spec true false vsixKeep ms 0 _ [] nd1 dels pos hwk
  have hpos : pos = d.dirLoc := hpos rfl
  have hcm : contigMs 0 ms d.dirLoc := by rw [← hpos]; exact w5 rfl
  generalize hkms : setKeep vsixKeep kms0 = kms at *
  have hM : MeasuredL z a a.ends.cdOff kms := by rw [← hkms]; exact MeasuredL_flags _ kms0 _ hM0
  have hmem : ∀ q ∈ kms, q.2.1 ∈ a.members := by
    intro q hq
    rw [← hsm0, ← setKeep_members vsixKeep, hkms]
    exact List.mem_map.mpr ⟨q, hq, rfl⟩
  have hck0 : contigK 0 kms0 a.ends.cdOff := by
    apply contigMs_K; rw [hms, ← hloc]; exact hcm
  have e_files : nd1.files = (keptPMs z kms 0).map (·.1) := by
    rw [w1, ← hms]
    simp only [List.nil_append]
    rw [assign_keptPMs z vsixKeep kms0 0, hkms]
  have e_loc : nd1.dirLoc = keptLenK kms := by
    rw [w2, ← hms, keptLen_K vsixKeep kms0, hkms]; simp
  have e_kb : applyDels z 0 dels d.dirLoc = keptBytesK z kms := by
    rw [w3, List.nil_append, applyDels_contig z vsixKeep ms 0 _ hcm, ← hms, keptBytes_K z vsixKeep kms0, hkms]
  have hA := addNews_spec mt md news [] nd1
  simp only [List.nil_append] at hA
  obtain ⟨a1, a2, a3, -⟩ := hA
  generalize addNews mt md news ([], nd1) = P at *
  have hx : ∀ q ∈ keptPMs z kms 0, dirHeaderOK q.1 = true := by
    rw [a2, e_files] at hH
    exact fun q hq => headersOK_mem hH (List.mem_append_left _ (List.mem_map.mpr ⟨q, hq, rfl⟩))
  rw [e_loc] at a1 a2 a3
  have hout : out = keptBytesK z kms ++ P.1 ++ (headersOf P.2.files).1 ++
      endRecords P.2.files.length (headersOf P.2.files).1.length P.2.dirLoc force (maxReader P.2.files) := by
    rw [hout, e_kb]; rfl
  have hb2 : P.2.dirLoc + (headersOf P.2.files).1.length < 2 ^ 64 := by
    have := congrArg List.length hout
    simp only [List.length_append, keptBytesK_length hcdz kms _ hM, a1] at this
    rw [a3]
    omega
  obtain ⟨a', hA⟩ :=
    kept_news_parses hcdz kms _ hM hmem hR.fixed hR.widths mt md hmt hmd news hnews hx force out P.1 P.2.files P.2.dirLoc
    a1 (by rw [a2, e_files]) (by rw [a3, a1]) hout hb2
  rw [a3] at hA
  subst hkms
  exact ⟨kms0, a', hM0, hsm0, hck0, hA⟩

/-- **`insertSignature` of lib/signjar on a readable archive** (JAR, APK v1; code with the layout check of
    fix-F9): the output parses, added members first, then the kept ones. -/
theorem jarRewrite_parses {z : Bytes} {a : Archive} (hR : Readable z a)
    (mt md : Nat) (hmt : mt < 2 ^ 16) (hmd : md < 2 ^ 16) (news : List NewMember) (hnews : ∀ n ∈ news, NewOK n)
    (out : Bytes) (h : jarRewrite z news mt md = .ok out) (hbound : out.length < 2 ^ 64) :
    ∃ kms0 a', MeasuredL z a a.ends.cdOff kms0 ∧ kms0.map (·.2.1) = a.members ∧ contigK 0 kms0 a.ends.cdOff ∧
      Assembled out a' ((newEntries mt md news 0).2.length + keptLenK (setKeep jarKeep kms0))
        (newPMs mt md news 0 ++ keptPMs z (setKeep jarKeep kms0) (newEntries mt md news 0).2.length)
        (newViews mt md news 0 ++ keptViews z (setKeep jarKeep kms0) (newEntries mt md news 0).2.length)
        (∀ n ∈ news, NewReadable n) := by
  obtain ⟨d, ms, hr, h⟩ := jarRewriteWith_ok h
  obtain ⟨hrs, hpm⟩ := jarRead_stream hR.len63 hr
  obtain ⟨kms0, hM0, hsm0, hms, hloc, hcdz⟩ := pass_measured hR jarReads hrs hpm
  obtain ⟨nd, dels, pos, hwk, hpos, hH, hout⟩ := jarAssemble_ok h
  have hA := addNews_spec mt md news [] { files := [], size := 0, dirLoc := 0 }
  simp only [List.nil_append, Nat.zero_add] at hA
  obtain ⟨a1, a2, a3, -⟩ := hA
  generalize hP : addNews mt md news ([], { files := [], size := 0, dirLoc := 0 }) = P at *
  obtain ⟨body, nd0⟩ := P
  simp only at hwk hout a1 a2 a3
  obtain ⟨w1, w2, w3, -, w5⟩ := walk_spec true true jarKeep ms 0 _ [] nd dels pos hwk
  have hpos : pos = d.dirLoc := hpos rfl
  have hcm : contigMs 0 ms d.dirLoc := by rw [← hpos]; exact w5 rfl
  generalize hkms : setKeep jarKeep kms0 = kms at *
  have hM : MeasuredL z a a.ends.cdOff kms := by rw [← hkms]; exact MeasuredL_flags _ kms0 _ hM0
  have hmem : ∀ q ∈ kms, q.2.1 ∈ a.members := by
    intro q hq
    rw [← hsm0, ← setKeep_members jarKeep, hkms]
    exact List.mem_map.mpr ⟨q, hq, rfl⟩
  have hck0 : contigK 0 kms0 a.ends.cdOff := by
    apply contigMs_K; rw [hms, ← hloc]; exact hcm
  generalize hL : (newEntries mt md news 0).2.length = L at *
  have e_files : nd.files = (newEntries mt md news 0).1 ++ (keptPMs z kms L).map (·.1) := by
    rw [w1, a2, a3, ← hms, assign_keptPMs z jarKeep kms0 L, hkms]
  have e_loc : nd.dirLoc = L + keptLenK kms := by
    rw [w2, a3, ← hms, keptLen_K jarKeep kms0, hkms]
  have e_kb : applyDels z 0 dels d.dirLoc = keptBytesK z kms := by
    rw [w3, List.nil_append, applyDels_contig z jarKeep ms 0 _ hcm, ← hms, keptBytes_K z jarKeep kms0, hkms]
  have hx : ∀ q ∈ keptPMs z kms L, dirHeaderOK q.1 = true := by
    rw [e_files] at hH
    exact fun q hq => headersOK_mem hH (List.mem_append_right _ (List.mem_map.mpr ⟨q, hq, rfl⟩))
  have hout : out = body ++ keptBytesK z kms ++ (headersOf nd.files).1 ++
      endRecords nd.files.length (headersOf nd.files).1.length nd.dirLoc false (maxReader nd.files) := by
    rw [hout, e_kb]; rfl
  have hb2 : nd.dirLoc + (headersOf nd.files).1.length < 2 ^ 64 := by
    have := congrArg List.length hout
    simp only [List.length_append, keptBytesK_length hcdz kms _ hM] at this
    have hbl : body.length = L := by rw [a1, hL]
    omega
  obtain ⟨a', hA⟩ :=
    news_kept_parses hcdz kms _ hM hmem hR.fixed hR.widths mt md hmt hmd news hnews L hL.symm hx false out body nd.files
    nd.dirLoc a1 e_files e_loc hout hb2
  rw [e_loc] at hA
  subst hkms
  subst hL
  exact ⟨kms0, a', hM0, hsm0, hck0, hA⟩

/-- a member of the input as a standard reader sees it (`specView`) -/
def viewOf (z : Bytes) (m : SpecZip.Member) : View :=
  ⟨m.entry.name, m.entry.method, m.entry.flags, m.entry.crc, m.entry.csize, m.entry.usize, m.entry.extra, m.entry.comment,
   (z.drop m.dataOff).take m.entry.csize⟩

theorem specView_eq {z : Bytes} {a : Archive} (hp : parse z = some a) : specView z = some (a.members.map (viewOf z)) := by
  unfold specView; rw [hp]; rfl

/-- below 4 GiB nothing is re-synthesised with a ZIP64 extra: the kept members keep their views -/
theorem keptViews_small (z : Bytes) : ∀ (kms : List KM) (L : Nat),
    (∀ q ∈ kms, q.1 = true → q.2.1.entry.csize < u32Max ∧ q.2.1.entry.usize < u32Max) → L + keptLenK kms < u32Max →
    keptViews z kms L = (kms.filter (·.1)).map (fun q => viewOf z q.2.1) := by
  intro kms
  induction kms with
  | nil => intro _ _ _; rfl
  | cons q r ih =>
    intro L hs hb
    obtain ⟨k, sm, m⟩ := q
    cases k with
    | false =>
      simp only [keptViews, keptLenK, Bool.false_eq_true, if_false, Nat.zero_add, List.filter_cons] at hb ⊢
      exact ih L (fun q hq => hs q (List.mem_cons_of_mem _ hq)) hb
    | true =>
      simp only [keptViews, keptLenK, if_true, List.filter_cons, List.map_cons] at hb ⊢
      rw [ih (L + m.total) (fun q hq => hs q (List.mem_cons_of_mem _ hq)) (by omega)]
      congr 1
      have := hs _ (List.mem_cons_self ..) rfl
      simp only at this
      have hn : ¬ (sm.entry.hoff ≠ L ∧ (sm.entry.csize ≥ u32Max ∨ sm.entry.usize ≥ u32Max ∨ L ≥ u32Max)) := by omega
      simp only [viewOf, movedExtra, hn, if_false]

/-- the kept members' views are the input's views filtered by the keep predicate on the name -/
theorem filter_views {z : Bytes} {a : Archive} (keep : File → Bool) (keepName : Bytes → Bool) (hk : ∀ f, keep f = keepName f.name) :
    ∀ (kms : List KM) (at_ : Nat), MeasuredL z a at_ kms →
    ((setKeep keep kms).filter (·.1)).map (fun q => viewOf z q.2.1) =
      ((kms.map (·.2.1)).map (viewOf z)).filter (fun v => keepName v.name) := by
  intro kms
  induction kms with
  | nil => intro _ _; rfl
  | cons q r ih =>
    intro at_ hM
    obtain ⟨k, sm, m⟩ := q
    obtain ⟨M, hrest⟩ := MeasuredL_cons.mp hM
    obtain ⟨l, ddb, hfile⟩ := M.file
    have hname : m.file.name = sm.entry.name := by rw [hfile]; rfl
    have ih' := ih _ hrest
    simp only [setKeep] at ih' ⊢
    simp only [List.map_cons, List.filter_cons]
    have : (viewOf z sm).name = sm.entry.name := rfl
    rw [this, hk m.file, hname]
    cases keepName sm.entry.name
    · simp only [Bool.false_eq_true, if_false]; exact ih'
    · simp only [if_true, List.map_cons, ih']

end Relic.Zip
