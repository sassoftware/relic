/-
  Relic.Proofs.ZipMemberRec — a member given as a byte string (`MemberRec`) is measured by `GetTotalSize` as that string
  (`getTotalSize_bytes`): its local header and its descriptor are where `HdrAt` / `DescAt` want them, and `inferWide` takes
  the width the descriptor was written with.
-/
import Relic.Proofs.ZipReader
namespace Relic.Zip

theorem inferWide_wide_iff (crc cs us : Nat) :
    inferWide cs us (leBytes 4 sigDesc ++ (leBytes 4 crc ++ leBytes 8 cs)) = true ↔
      (us ≥ u32Max ∨ cs / 2 ^ 32 % 2 ^ 32 ≠ us % 2 ^ 32) := by
  have e8 : leBytes 8 cs = leBytes 4 cs ++ leBytes 4 (cs / 256 ^ 4) := leBytes_add 4 4 cs
  have f12 : fld (leBytes 4 sigDesc ++ (leBytes 4 crc ++ leBytes 8 cs)) 12 4 = cs / 256 ^ 4 % 256 ^ 4 := by
    rw [e8]
    simp only [fld_lb_skip, fld_lb_last, Nat.reduceLeDiff, Nat.reduceSub]
  have f8 : fld (leBytes 4 sigDesc ++ (leBytes 4 crc ++ leBytes 8 cs)) 8 4 = cs % 256 ^ 4 := by
    rw [e8]
    simp only [fld_lb_skip, fld_lb_head, Nat.reduceLeDiff, Nat.reduceSub]
  have e4 : (256 : Nat) ^ 4 = 2 ^ 32 := by decide
  rw [e4] at f12 f8
  unfold inferWide
  rw [f12, f8]
  simp

theorem descEnc_lb (wd : Bool) (crc cs us : Nat) :
    SpecZip.descEnc true wd crc cs us = leBytes 4 sigDesc ++ (leBytes 4 crc ++
      (if wd then leBytes 8 cs ++ leBytes 8 us else leBytes 4 cs ++ leBytes 4 us)) := by
  have hs : leBytes 4 sigDesc = [0x50, 0x4b, 0x07, 0x08] := by decide
  simp [SpecZip.descEnc, hs]

theorem hdrAt_of_bytes {z x : Bytes} {f : File} (hsig : x.take 4 = [0x50, 0x4b, 0x03, 0x04])
    (hl : 30 + fld x 26 2 + fld x 28 2 ≤ x.length)
    (hx : (z.drop f.offset).take x.length = x) (hlen : f.offset + x.length ≤ z.length) :
    HdrAt z f (lfhOf (x.take 30) ((x.drop 30).take (fld x 26 2)) ((x.drop (30 + fld x 26 2)).take (fld x 28 2))) := by
  have hx' : (z.drop f.offset).take x.length = x.take x.length := by rw [List.take_length]; exact hx
  have F : ∀ k w, k + w ≤ x.length → fld (z.drop f.offset) k w = fld x k w := fun k w hk => fld_eq_of_take hx' k w hk
  have S := fun a b h => seg_of_seg (z := z) (o := f.offset) hx a b h
  refine ⟨by rw [F 26 2 (by omega), F 28 2 (by omega)]; omega, ?_, ?_⟩
  · rw [F 0 4 (by omega)]
    show leVal ((x.drop 0).take 4) = _
    rw [List.drop_zero, hsig]; decide
  · have s0 := S 0 30 (by omega)
    rw [Nat.add_zero, List.drop_zero] at s0
    rw [F 26 2 (by omega), F 28 2 (by omega), s0, S 30 _ (by omega), Nat.add_assoc, S (30 + fld x 26 2) _ (by omega)]

/-- the descriptor part of a member as a byte string (`MemberRec.nodesc` / `MemberRec.desc` with the local flags) is what
    `readDataDesc` takes, provided the width inference is right for it -/
theorem descAt_of_bytes {z x : Bytes} {f : File} {l : Lfh} {crc : Nat}
    (hx : (z.drop f.offset).take x.length = x) (hlen : f.offset + x.length ≤ z.length)
    (hlt : f.csize < 2 ^ 64 ∧ f.usize < 2 ^ 64)
    (h0 : l.flags % 16 / 8 = 0 → x.length = 30 + l.name.length + l.extra.length + f.csize)
    (h1 : l.flags % 16 / 8 ≠ 0 → ∃ wd, (wd = true ∨ (f.csize < 2 ^ 32 ∧ f.usize < 2 ^ 32)) ∧
      x.drop (30 + l.name.length + l.extra.length + f.csize) = SpecZip.descEnc true wd crc f.csize f.usize ∧
      (wd = false → f.usize ≠ 0xffffffff) ∧ (wd = true → f.usize ≥ u32Max ∨ f.csize / 2 ^ 32 % 2 ^ 32 ≠ f.usize % 2 ^ 32)) :
    DescAt z f l (x.drop (30 + l.name.length + l.extra.length + f.csize)) (if l.flags % 16 / 8 = 0 then f.crc else crc % 2 ^ 32) := by
  unfold DescAt
  by_cases hf : l.flags % 16 / 8 = 0
  · rw [if_pos hf, if_pos hf]
    exact ⟨List.drop_of_length_le (by rw [h0 hf]; exact Nat.le_refl _), rfl⟩
  · rw [if_neg hf, if_neg hf]
    obtain ⟨wd, hr, hD, hw16, hw24⟩ := h1 hf
    have hp : descPos f l = f.offset + (30 + l.name.length + l.extra.length + f.csize) := by unfold descPos; omega
    rw [hp]
    generalize hKK : 30 + l.name.length + l.extra.length + f.csize = K at *
    have hDl : (SpecZip.descEnc true wd crc f.csize f.usize).length = if wd then 24 else 16 := by
      rw [descEnc_length]; cases wd <;> rfl
    have hxl : x.length = K + (if wd then 24 else 16) := by
      have := congrArg List.length hD
      rw [List.length_drop, hDl] at this
      split at this <;> split <;> simp_all <;> omega
    have S := fun a b h => seg_of_seg (z := z) (o := f.offset) hx a b h
    have e8 : (256 : Nat) ^ 8 = 2 ^ 64 := by decide
    have e4 : (256 : Nat) ^ 4 = 2 ^ 32 := by decide
    cases wd
    · -- 16 bytes
      simp only [Bool.false_eq_true, if_false] at hxl hDl
      have hr : f.csize < 2 ^ 32 ∧ f.usize < 2 ^ 32 := by simpa using hr
      have hs16 : (z.drop (f.offset + K)).take 16 = SpecZip.descEnc true false crc f.csize f.usize := by
        rw [S K 16 (by omega), hD]; exact List.take_of_length_le (by rw [hDl]; exact Nat.le_refl _)
      have hs16' : (z.drop (f.offset + K)).take 16 = (SpecZip.descEnc true false crc f.csize f.usize).take 16 := by
        rw [hs16]; exact (List.take_of_length_le (by rw [hDl]; exact Nat.le_refl _)).symm
      have F : ∀ k w, k + w ≤ 16 → fld (z.drop (f.offset + K)) k w = fld (SpecZip.descEnc true false crc f.csize f.usize) k w :=
        fun k w hk => fld_eq_of_take hs16' k w hk
      have hnw : inferWide f.csize f.usize ((z.drop (f.offset + K)).take 16) = false := by
        rw [hs16, descEnc_lb]
        unfold inferWide
        simp only [Bool.false_eq_true, if_false, fld_lb_skip, fld_lb_head, fld_lb_last, Nat.reduceLeDiff, Nat.reduceSub, e4]
        have := hw16 rfl
        simp [u32Max]; omega
      rw [if_neg (by rw [hnw]; simp), F 0 4 (by omega), F 4 4 (by omega), descEnc_lb]
      simp only [Bool.false_eq_true, if_false, fld_lb_skip, fld_lb_head, Nat.reduceLeDiff, Nat.reduceSub, e4]
      refine ⟨by omega, by decide, trivial, ?_⟩
      rw [hs16, hD]
    · -- 24 bytes
      simp only [if_true] at hxl hDl
      have hs24 : (z.drop (f.offset + K)).take 24 = SpecZip.descEnc true true crc f.csize f.usize := by
        rw [S K 24 (by omega), hD]; exact List.take_of_length_le (by rw [hDl]; exact Nat.le_refl _)
      have hs24' : (z.drop (f.offset + K)).take 24 = (SpecZip.descEnc true true crc f.csize f.usize).take 24 := by
        rw [hs24]; exact (List.take_of_length_le (by rw [hDl]; exact Nat.le_refl _)).symm
      have F : ∀ k w, k + w ≤ 24 → fld (z.drop (f.offset + K)) k w = fld (SpecZip.descEnc true true crc f.csize f.usize) k w :=
        fun k w hk => fld_eq_of_take hs24' k w hk
      have hs16 : (z.drop (f.offset + K)).take 16 = leBytes 4 sigDesc ++ (leBytes 4 crc ++ leBytes 8 f.csize) := by
        have : (z.drop (f.offset + K)).take 16 = ((z.drop (f.offset + K)).take 24).take 16 := by
          rw [List.take_take]; rfl
        rw [this, hs24, descEnc_lb]
        simp only [if_true]
        rw [← List.append_assoc, ← List.append_assoc, List.take_left' (by simp)]
        simp
      rw [hs16, if_pos ((inferWide_wide_iff _ _ _).mpr (hw24 rfl)), F 0 4 (by omega), F 4 4 (by omega), F 8 8 (by omega),
        F 16 8 (by omega), descEnc_lb]
      simp only [if_true, fld_lb_skip, fld_lb_head, fld_lb_last, Nat.reduceLeDiff, Nat.reduceSub, e4, e8,
        Nat.mod_eq_of_lt hlt.1, Nat.mod_eq_of_lt hlt.2]
      refine ⟨by omega, by decide, trivial, by omega, trivial, trivial, ?_⟩
      rw [hs24, hD]

/-- **relic's member reader on a member given as a byte string, any reader**: `x` — local header, name, extra, data, and a
    signed descriptor with the directory's sizes when the local flags announce one — lies at `f.offset`; the width
    inference is right for it.  Then `GetTotalSize` measures exactly `x`. -/
theorem getTotalSize_bytes {r : Rd} {f : File} {x : Bytes} {name : Bytes} {flags crc : Nat} (hl : f.lfh = none) (hd : f.ddb = [])
    (hm : MemberRec x name flags crc f.csize f.usize)
    (hx : (r.z.drop f.offset).take x.length = x) (hlen : f.offset + x.length ≤ r.z.length) (h63 : r.z.length < 2 ^ 63)
    (hb : r.before f.offset) (hlt : f.csize < 2 ^ 64 ∧ f.usize < 2 ^ 64)
    (hw : ∀ wd, x.drop (30 + fld x 26 2 + fld x 28 2 + f.csize) = SpecZip.descEnc true wd crc f.csize f.usize →
      (wd = false → f.usize ≠ 0xffffffff) ∧ (wd = true → f.usize ≥ u32Max ∨ f.csize / 2 ^ 32 % 2 ^ 32 ≠ f.usize % 2 ^ 32)) :
    ∃ l q, getTotalSize r f = .ok (⟨{ f with crc := (if flags % 16 / 8 = 1 then crc % 2 ^ 32 else f.crc), lfh := some l, ddb := x.drop (30 + fld x 26 2 + fld x 28 2 + f.csize) }, l, f.offset + 30 + fld x 26 2 + fld x 28 2, x.length⟩, r.to q) ∧
      l.name = (x.drop 30).take (fld x 26 2) ∧ l.extra = (x.drop (30 + fld x 26 2)).take (fld x 28 2) ∧
      l.nameLen = fld x 26 2 ∧ l.extraLen = fld x 28 2 ∧ l.flags = fld x 6 2 ∧ q ≤ f.offset + x.length := by
  have hh := hdrAt_of_bytes (f := f) hm.sig (by have := hm.len; omega) hx hlen
  have f26 := fld_take x 30 26 2 (by omega)
  have f28 := fld_take x 30 28 2 (by omega)
  have f6 := fld_take x 30 6 2 (by omega)
  generalize hL : lfhOf (x.take 30) ((x.drop 30).take (fld x 26 2)) ((x.drop (30 + fld x 26 2)).take (fld x 28 2)) = l at hh
  have hlen' := hm.len
  have ln : l.name.length = fld x 26 2 := by
    rw [← hL]; show ((x.drop 30).take _).length = _; rw [List.length_take, List.length_drop]; omega
  have le : l.extra.length = fld x 28 2 := by
    rw [← hL]; show ((x.drop (30 + _)).take _).length = _; rw [List.length_take, List.length_drop]; omega
  have lf : l.flags = fld x 6 2 := by rw [← hL]; exact f6
  have lnl : l.nameLen = fld x 26 2 := by rw [← hL]; exact f26
  have lel : l.extraLen = fld x 28 2 := by rw [← hL]; exact f28
  have hflag := hm.flag
  have hdd := descAt_of_bytes (z := r.z) (x := x) (f := f) (l := l) (crc := crc) hx hlen hlt
    (by rw [ln, le, lf, hflag]; intro h0; exact hm.nodesc (by omega))
    (by
      rw [ln, le, lf, hflag]
      intro h1
      obtain ⟨wd, hr, -, hD⟩ := hm.desc (by omega)
      exact ⟨wd, hr, hD, hw wd hD⟩)
  rw [ln, le] at hdd
  refine ⟨l, (if l.flags % 16 / 8 = 0 then f.offset + 30 + l.nameLen + l.extraLen
      else descPos f l + (x.drop (30 + fld x 26 2 + fld x 28 2 + f.csize)).length),
    getTotalSize_ok_iff.mpr ⟨l, _, _, _, (readLocalHeader_iff hl h63).mpr ⟨hh, hb, rfl⟩,
    (readDataDesc_iff hd (by simpa using h63)).mpr ⟨by rw [Rd.to_z]; exact hdd, fun _ hs => ?_, by split <;> simp⟩, ?_⟩,
    by rw [← hL], by rw [← hL], lnl, lel, lf, ?_⟩
  · rw [Rd.to_pos _ _ (by simpa using hs), lnl, lel]; unfold descPos; rw [ln, le]; omega
  · have hc : (if l.flags % 16 / 8 = 0 then f.crc else crc % 2 ^ 32) = if flags % 16 / 8 = 1 then crc % 2 ^ 32 else f.crc := by
      rw [lf, hflag]; split <;> split <;> first | rfl | omega
    have ht : 30 + (l.name.length + l.extra.length + (x.drop (30 + fld x 26 2 + fld x 28 2 + f.csize)).length) + f.csize = x.length := by
      rw [ln, le, List.length_drop]; omega
    rw [hc, ht, lnl, lel]
  · unfold descPos; rw [ln, le, lnl, lel, List.length_drop]; split <;> omega

end Relic.Zip
