/- pointwise semantics of the patch set `PatchSignature` builds: header patches cut from the final header buffer plus
   the signature patch (`written_getElem?`); its length, its header, the hashed stream as its prefix -/
import Relic.Model.MachO
import Relic.Proofs.Splice
import Relic.Proofs.Binpatch
namespace Relic.MachO
open Relic.Binpatch

def inRanges (rs : List (Nat × Nat)) (i : Nat) : Bool := rs.any (fun r => decide (r.1 ≤ i ∧ i < r.1 + r.2))

/-- the patches `PatchSignature` records for the header: `(offset, size, newHeader[offset:offset+size])` -/
def hdrPatches (h3 : Bytes) (rs : List (Nat × Nat)) : List Patch := rs.map (fun r => ⟨r.1, r.2, (h3.drop r.1).take r.2⟩)

theorem sem_hdrPatches_length (h3 x : Bytes) : ∀ (rs : List (Nat × Nat)), (∀ r ∈ rs, r.1 + r.2 ≤ h3.length) → h3.length ≤ x.length →
    (sem x (hdrPatches h3 rs)).length = x.length := by
  intro rs
  induction rs with
  | nil => intro _ _; rfl
  | cons r t ih =>
    intro hr hx
    have := ih (fun q hq => hr q (List.mem_cons_of_mem _ hq)) hx
    have hr0 := hr r List.mem_cons_self
    simp only [hdrPatches, List.map_cons, sem, List.foldr_cons] at *
    rw [splice_length _ _ (by omega)]
    simp only [List.length_take, List.length_drop]
    omega

theorem sem_hdrPatches_getElem? (h3 x : Bytes) : ∀ (rs : List (Nat × Nat)), (∀ r ∈ rs, r.1 + r.2 ≤ h3.length) → h3.length ≤ x.length →
    ∀ i, (sem x (hdrPatches h3 rs))[i]? = if inRanges rs i then h3[i]? else x[i]? := by
  intro rs
  induction rs with
  | nil => intro _ _ i; simp [hdrPatches, sem, inRanges]
  | cons r t ih =>
    intro hr hx i
    have hr0 := hr r List.mem_cons_self
    have hrt := fun q hq => hr q (List.mem_cons_of_mem _ hq)
    have hlen := sem_hdrPatches_length h3 x t hrt hx
    have hi := ih hrt hx i
    have hb : ((h3.drop r.1).take r.2).length = r.2 := by simp only [List.length_take, List.length_drop]; omega
    show (splice (sem x (hdrPatches h3 t)) r.1 r.2 ((h3.drop r.1).take r.2))[i]? = _
    rw [getElem?_splice _ _ _ _ (by omega), hb]
    by_cases c1 : i < r.1
    · have : inRanges (r :: t) i = inRanges t i := by simp [inRanges]; omega
      simp only [c1, ↓reduceIte, this, hi]
    · by_cases c2 : i < r.1 + r.2
      · have : inRanges (r :: t) i = true := by simp [inRanges]; omega
        simp only [c1, c2, ↓reduceIte, this]
        rw [List.getElem?_take_of_lt (by omega), List.getElem?_drop]
        congr 1; omega
      · have : inRanges (r :: t) i = inRanges t i := by simp [inRanges]; omega
        simp only [c1, c2, ↓reduceIte, this]
        have e : i - r.2 + r.2 = i := by omega
        rw [e, hi]

/-- the file `PatchSignature`'s patch set produces (reference semantics of the patch set) from the input `f`: `h3` is the patched
    header buffer (the model's `newHeader`), of which the ranges `rs` are written back; `cs` is the END OF CODE, where the old
    signature region of `sigLen` bytes began and where `padding` zeros and the signature buffer go -/
def written (f h3 : Bytes) (rs : List (Nat × Nat)) (cs sigLen padding : Nat) (sigBuf : Bytes) : Bytes :=
  sem f (hdrPatches h3 rs ++ [⟨cs, sigLen, zeros padding ++ sigBuf⟩])

/-- the patched buffer against the input: what `written` needs to be computed pointwise (`written_getElem?`), and what
    `spec_layout` (Proofs/MachOSigned) delivers for both branches of `PatchSignature` -/
structure Layout (f h3 : Bytes) (rs : List (Nat × Nat)) (cs sigLen : Nat) : Prop where
  ranges : ∀ r ∈ rs, r.1 + r.2 ≤ h3.length
  agree : ∀ i, i < h3.length → inRanges rs i = false → h3[i]? = f[i]?
  hdrBelow : h3.length ≤ cs
  oldInside : cs + sigLen ≤ f.length

theorem Layout.not_inRanges {f h3 : Bytes} {rs : List (Nat × Nat)} {cs sigLen : Nat} (L : Layout f h3 rs cs sigLen)
    (i : Nat) (hi : h3.length ≤ i) : inRanges rs i = false := by
  cases h : inRanges rs i with
  | false => rfl
  | true =>
    simp only [inRanges, List.any_eq_true, decide_eq_true_eq] at h
    obtain ⟨r, hr, _, h2⟩ := h
    have := L.ranges r hr
    omega

theorem written_getElem? (f h3 : Bytes) (rs : List (Nat × Nat)) (cs sigLen padding : Nat) (sigBuf : Bytes)
    (L : Layout f h3 rs cs sigLen) (i : Nat) :
    (written f h3 rs cs sigLen padding sigBuf)[i]? =
      if inRanges rs i then h3[i]?
      else if i < cs then f[i]?
      else if i < cs + padding then some 0
      else if i < cs + padding + sigBuf.length then sigBuf[i - (cs + padding)]?
      else f[i - (padding + sigBuf.length) + sigLen]? := by
  unfold written
  rw [sem_append]
  have hcs : cs ≤ f.length := by have := L.oldInside; omega
  have hsp : sem f [⟨cs, sigLen, zeros padding ++ sigBuf⟩] = splice f cs sigLen (zeros padding ++ sigBuf) := rfl
  have hl1 : (splice f cs sigLen (zeros padding ++ sigBuf)).length = f.length + (padding + sigBuf.length) - sigLen := by
    rw [splice_length _ _ L.oldInside]; simp only [List.length_append, zeros, List.length_replicate]
  rw [hsp, sem_hdrPatches_getElem? h3 _ rs L.ranges (by rw [hl1]; have := L.hdrBelow; have := L.oldInside; omega)]
  by_cases c0 : inRanges rs i
  · simp [c0]
  · simp only [c0, Bool.false_eq_true, ↓reduceIte]
    rw [getElem?_splice _ _ _ _ hcs]
    have hzl : (zeros padding ++ sigBuf).length = padding + sigBuf.length := by simp [zeros]
    rw [hzl]
    by_cases c1 : i < cs
    · simp [c1]
    · simp only [c1, ↓reduceIte]
      by_cases c2 : i < cs + padding
      · have c2' : i < cs + (padding + sigBuf.length) := by omega
        simp only [c2, c2', ↓reduceIte]
        rw [List.getElem?_append_left (by simp [zeros]; omega)]
        simp only [zeros, List.getElem?_replicate]
        have : i - cs < padding := by omega
        simp [this]
      · simp only [c2, ↓reduceIte]
        by_cases c3 : i < cs + padding + sigBuf.length
        · have c3' : i < cs + (padding + sigBuf.length) := by omega
          simp only [c3, c3', ↓reduceIte]
          rw [List.getElem?_append_right (by simp [zeros]; omega)]
          congr 1; simp [zeros]; omega
        · have c3' : ¬ i < cs + (padding + sigBuf.length) := by omega
          simp only [c3, c3', ↓reduceIte]

theorem written_behind (f h3 : Bytes) (rs : List (Nat × Nat)) (cs sigLen padding : Nat) (sigBuf : Bytes)
    (L : Layout f h3 rs cs sigLen) (k : Nat) :
    (written f h3 rs cs sigLen padding sigBuf)[cs + k]? =
      if k < padding then some 0 else if k < padding + sigBuf.length then sigBuf[k - padding]?
      else f[cs + sigLen + (k - (padding + sigBuf.length))]? := by
  rw [written_getElem? f h3 rs cs sigLen padding sigBuf L, L.not_inRanges _ (Nat.le_trans L.hdrBelow (Nat.le_add_right _ _))]
  simp only [Bool.false_eq_true, ↓reduceIte]
  rw [if_neg (by omega)]
  by_cases c1 : k < padding
  · rw [if_pos (by omega), if_pos c1]
  rw [if_neg (by omega), if_neg c1]
  by_cases c2 : k < padding + sigBuf.length
  · rw [if_pos (by omega), if_pos c2]; congr 1; omega
  · rw [if_neg (by omega), if_neg c2]; congr 1; omega

theorem written_below (f h3 : Bytes) (rs : List (Nat × Nat)) (cs sigLen padding : Nat) (sigBuf : Bytes)
    (L : Layout f h3 rs cs sigLen) (i : Nat) (hi : i < cs) :
    (written f h3 rs cs sigLen padding sigBuf)[i]? = if inRanges rs i then h3[i]? else f[i]? := by
  rw [written_getElem? f h3 rs cs sigLen padding sigBuf L, if_pos hi]

theorem written_length (f h3 : Bytes) (rs : List (Nat × Nat)) (cs sigLen padding : Nat) (sigBuf : Bytes)
    (L : Layout f h3 rs cs sigLen) :
    (written f h3 rs cs sigLen padding sigBuf).length = f.length + (padding + sigBuf.length) - sigLen := by
  unfold written
  rw [sem_append]
  have h1 : (sem f [⟨cs, sigLen, zeros padding ++ sigBuf⟩]).length = f.length + (padding + sigBuf.length) - sigLen := by
    show (splice f cs sigLen (zeros padding ++ sigBuf)).length = _
    rw [splice_length _ _ L.oldInside]; simp only [List.length_append, zeros, List.length_replicate]
  rw [sem_hdrPatches_length h3 _ rs L.ranges (by rw [h1]; have := L.hdrBelow; have := L.oldInside; omega), h1]

theorem written_header (f h3 : Bytes) (rs : List (Nat × Nat)) (cs sigLen padding : Nat) (sigBuf : Bytes)
    (L : Layout f h3 rs cs sigLen) (i : Nat) (hi : i < h3.length) :
    (written f h3 rs cs sigLen padding sigBuf)[i]? = h3[i]? := by
  rw [written_getElem? f h3 rs cs sigLen padding sigBuf L i]
  cases c : inRanges rs i
  · simp only [Bool.false_eq_true, ↓reduceIte]
    rw [if_pos (by have := L.hdrBelow; omega)]
    exact (L.agree i hi c).symm
  · simp only [↓reduceIte]

/-- the image that is hashed (`plan.stream`: rest of the file cut at the end of code) is the prefix of the written file, without
    any assumption on what lies behind the end of code -/
theorem written_take_stream (f h3 : Bytes) (rs : List (Nat × Nat)) (cs sigLen padding : Nat) (sigBuf : Bytes)
    (L : Layout f h3 rs cs sigLen) :
    (written f h3 rs cs sigLen padding sigBuf).take (cs + padding) =
      (h3 ++ (f.drop h3.length).take (cs - h3.length) ++ zeros padding).take (cs + padding) := by
  apply List.ext_getElem?
  intro i
  have hcs : cs ≤ f.length := by have := L.oldInside; omega
  have hh := L.hdrBelow
  have hrl : ((f.drop h3.length).take (cs - h3.length)).length = cs - h3.length := by
    simp only [List.length_take, List.length_drop]; omega
  by_cases ci : i < cs + padding
  · rw [List.getElem?_take_of_lt ci, List.getElem?_take_of_lt ci]
    by_cases c2 : i < h3.length
    · rw [written_header f h3 rs cs sigLen padding sigBuf L i c2, List.append_assoc, List.getElem?_append_left c2]
    · have c0 := L.not_inRanges i (by omega)
      rw [written_getElem? f h3 rs cs sigLen padding sigBuf L i, c0]
      simp only [Bool.false_eq_true, ↓reduceIte]
      by_cases c1 : i < cs
      · rw [if_pos c1, List.append_assoc, List.getElem?_append_right (by omega),
          List.getElem?_append_left (by rw [hrl]; omega), List.getElem?_take_of_lt (by omega), List.getElem?_drop]
        congr 1; omega
      · rw [if_neg c1, if_pos ci, List.getElem?_append_right (by rw [List.length_append, hrl]; omega)]
        simp only [zeros, List.getElem?_replicate, List.length_append, hrl]
        rw [if_pos (by omega)]
  · rw [List.getElem?_eq_none_iff.mpr (by simp only [List.length_take]; omega),
        List.getElem?_eq_none_iff.mpr (by simp only [List.length_take]; omega)]

/-- the image `machos.Sign` fed to the page hasher BEFORE fix F45: patched header, the whole rest of the file, padding; cut at
    `sigStart`.  It is the model's `plan.stream` only when `padding = 0 ∨ f.length = cs` (`hashed_eq_written_prefix`); the subject of
    `C01.macho_sign_then_verify_partial`, `C01.macho_trailing_bytes_break` and C08.  `written_take_stream` is about the stream of
    the modelled tree. -/
def hashedImage (f h3 : Bytes) (cs padding : Nat) : Bytes := (h3 ++ f.drop h3.length ++ zeros padding).take (cs + padding)

/-- the hashed image IS the prefix of the written file, because the header that goes into the
    hash is the already-patched buffer and the patches are cut from that same buffer.  Needs: nothing behind the end
    of code except the old signature when padding is inserted (`padding = 0 ∨ f.length = cs`). -/
theorem hashed_eq_written_prefix (f h3 : Bytes) (rs : List (Nat × Nat)) (cs sigLen padding : Nat) (sigBuf : Bytes)
    (L : Layout f h3 rs cs sigLen) (hreg : padding = 0 ∨ f.length = cs) :
    (written f h3 rs cs sigLen padding sigBuf).take (cs + padding) = hashedImage f h3 cs padding := by
  rw [written_take_stream f h3 rs cs sigLen padding sigBuf L]
  unfold hashedImage
  have hh := L.hdrBelow
  rcases hreg with h0 | hfl
  · subst h0
    simp only [zeros, List.replicate_zero, List.append_nil, Nat.add_zero]
    rw [List.take_append, List.take_append, List.take_take, Nat.min_self]
  · rw [show (f.drop h3.length).take (cs - h3.length) = f.drop h3.length from
      List.take_of_length_le (by rw [List.length_drop]; omega)]

end Relic.MachO
