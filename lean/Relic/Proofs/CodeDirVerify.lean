/- the page decomposition (`pages`): page `i`, their number, injectivity, locality; the verifier's page loop against it -/
import Relic.Model.CodeDir
import Relic.Proofs.Splice
namespace Relic.CodeDir

theorem pagesF_getElem? (ps : Nat) (hps : 0 < ps) : ∀ (fuel : Nat) (b : Bytes) (i : Nat), b.length ≤ fuel →
    (pagesF ps fuel b)[i]? = if i * ps < b.length then some ((b.drop (i * ps)).take ps) else none := by
  intro fuel
  induction fuel with
  | zero =>
    intro b i h
    have : b = [] := List.eq_nil_of_length_eq_zero (by omega)
    subst this
    simp [pagesF]
  | succ n ih =>
    intro b i h
    cases b with
    | nil => simp [pagesF]
    | cons x xs =>
      have hne : (x :: xs).isEmpty = false := rfl
      simp only [pagesF, hne]
      cases i with
      | zero => simp
      | succ j =>
        have hl : ((x :: xs).drop ps).length ≤ n := by
          simp only [List.length_drop, List.length_cons] at *
          omega
        have := ih ((x :: xs).drop ps) j hl
        simp only [List.getElem?_cons_succ, Bool.false_eq_true, ↓reduceIte] at *
        rw [this]
        have e1 : (j + 1) * ps = ps + j * ps := by rw [Nat.add_mul]; omega
        simp only [List.length_drop, List.drop_drop, e1]
        have : (j * ps < (x :: xs).length - ps) ↔ (ps + j * ps < (x :: xs).length) := by omega
        simp only [this]

theorem pages_getElem? (ps : Nat) (hps : 0 < ps) (b : Bytes) (i : Nat) :
    (pages ps b)[i]? = if i * ps < b.length then some ((b.drop (i * ps)).take ps) else none :=
  pagesF_getElem? ps hps b.length b i (Nat.le_refl _)

theorem pages_length (ps : Nat) (hps : 0 < ps) (b : Bytes) : (pages ps b).length = (b.length + ps - 1) / ps := by
  have key : ∀ i, i < (pages ps b).length ↔ i * ps < b.length := by
    intro i
    have := pages_getElem? ps hps b i
    constructor
    · intro h
      rw [List.getElem?_eq_getElem h] at this
      by_cases c : i * ps < b.length
      · exact c
      · simp [c] at this
    · intro h
      simp only [h, ↓reduceIte] at this
      exact (List.getElem?_eq_some_iff.mp this).1
  have h1 : ¬ ((pages ps b).length * ps < b.length) := fun h => Nat.lt_irrefl _ ((key _).mpr h)
  have h1' : b.length ≤ (pages ps b).length * ps := by omega
  rcases Nat.eq_zero_or_pos (pages ps b).length with z | pos
  · rw [z] at h1' ⊢
    have : b.length = 0 := by simpa using h1'
    rw [this]; symm; apply Nat.div_eq_of_lt; omega
  · obtain ⟨m, hm⟩ : ∃ m, (pages ps b).length = m + 1 := ⟨(pages ps b).length - 1, by omega⟩
    have h3 : m * ps < b.length := (key m).mp (by omega)
    rw [hm] at h1' ⊢
    rw [Nat.add_mul, Nat.one_mul] at h1'
    apply Nat.le_antisymm
    · exact (Nat.le_div_iff_mul_le hps).mpr (by rw [Nat.add_mul, Nat.one_mul]; omega)
    · have : b.length + ps - 1 < (m + 1 + 1) * ps := by rw [Nat.add_mul, Nat.add_mul, Nat.one_mul]; omega
      have := (Nat.div_lt_iff_lt_mul hps).mpr this
      omega

theorem pagesF_flatten (ps : Nat) (hps : 0 < ps) : ∀ (fuel : Nat) (b : Bytes), b.length ≤ fuel →
    (pagesF ps fuel b).flatten = b := by
  intro fuel
  induction fuel with
  | zero =>
    intro b h
    have : b = [] := List.eq_nil_of_length_eq_zero (by omega)
    subst this; rfl
  | succ n ih =>
    intro b h
    cases b with
    | nil => rfl
    | cons x xs =>
      have hne : (x :: xs).isEmpty = false := rfl
      have hl : ((x :: xs).drop ps).length ≤ n := by
        simp only [List.length_drop, List.length_cons] at *
        omega
      simp only [pagesF, hne, Bool.false_eq_true, ↓reduceIte, List.flatten_cons, ih _ hl, List.take_append_drop]

theorem pages_flatten (ps : Nat) (hps : 0 < ps) (b : Bytes) : (pages ps b).flatten = b :=
  pagesF_flatten ps hps b.length b (Nat.le_refl _)

theorem pages_inj (ps : Nat) (hps : 0 < ps) (a b : Bytes) (h : pages ps a = pages ps b) : a = b := by
  rw [← pages_flatten ps hps a, ← pages_flatten ps hps b, h]

theorem pagesF_eq_pages (ps : Nat) (hps : 0 < ps) (fuel : Nat) (b : Bytes) (h : b.length ≤ fuel) :
    pagesF ps fuel b = pages ps b := by
  apply List.ext_getElem?
  intro i
  rw [pagesF_getElem? ps hps fuel b i h, pages_getElem? ps hps b i]

theorem pages_cons (ps : Nat) (hps : 0 < ps) (b : Bytes) (hne : b ≠ []) :
    pages ps b = b.take ps :: pages ps (b.drop ps) := by
  cases b with
  | nil => exact absurd rfl hne
  | cons x xs =>
    show pagesF ps (xs.length + 1) (x :: xs) = _
    have hne' : (x :: xs).isEmpty = false := rfl
    simp only [pagesF, hne', Bool.false_eq_true, ↓reduceIte]
    rw [pagesF_eq_pages ps hps _ _ (by simp only [List.length_drop, List.length_cons]; omega)]

theorem pages_nil (ps : Nat) : pages ps [] = [] := rfl

theorem page_byte (ps : Nat) (hps : 0 < ps) (b : Bytes) (p : Nat) :
    ((b.drop (p / ps * ps)).take ps)[p % ps]? = b[p]? := by
  have hm := Nat.mod_lt p hps
  have hd := Nat.div_add_mod p ps
  rw [List.getElem?_take_of_lt hm, List.getElem?_drop]
  congr 1
  rw [Nat.mul_comm]; exact hd

theorem pages_differ_at (ps : Nat) (hps : 0 < ps) (a b : Bytes) (hl : a.length = b.length) (p : Nat)
    (hp : a[p]? ≠ b[p]?) : (pages ps a)[p / ps]? ≠ (pages ps b)[p / ps]? := by
  intro h
  rw [pages_getElem? ps hps a, pages_getElem? ps hps b, hl] at h
  by_cases c : p / ps * ps < b.length
  · simp only [c, ↓reduceIte, Option.some.injEq] at h
    apply hp
    rw [← page_byte ps hps a p, ← page_byte ps hps b p, h]
  · -- then p is behind the end of both
    have : b.length ≤ p := by
      have : p / ps * ps ≤ p := Nat.div_mul_le_self p ps
      omega
    apply hp
    rw [List.getElem?_eq_none_iff.mpr (by omega), List.getElem?_eq_none_iff.mpr this]

theorem pages_index_lt (ps : Nat) (hps : 0 < ps) (a : Bytes) (p : Nat) (hp : p < a.length) : p / ps < (pages ps a).length := by
  have := pages_getElem? ps hps a (p / ps)
  rw [if_pos (Nat.lt_of_le_of_lt (Nat.div_mul_le_self p ps) hp)] at this
  exact (List.getElem?_eq_some_iff.mp this).1

theorem pages_differ_within (ps : Nat) (hps : 0 < ps) (a b : Bytes) (hl : a.length = b.length) (p : Nat) (hp : p < a.length)
    (hd : a[p]? ≠ b[p]?) :
    ∃ x y, (pages ps a)[p / ps]? = some x ∧ (pages ps b)[p / ps]? = some y ∧ x ≠ y := by
  have hq := pages_index_lt ps hps a p hp
  have hq' := pages_index_lt ps hps b p (hl ▸ hp)
  refine ⟨_, _, List.getElem?_eq_getElem hq, List.getElem?_eq_getElem hq', fun h => ?_⟩
  apply pages_differ_at ps hps a b hl p hd
  rw [List.getElem?_eq_getElem hq, List.getElem?_eq_getElem hq', h]

theorem pages_same_elsewhere (ps : Nat) (hps : 0 < ps) (a b : Bytes) (hl : a.length = b.length) (q : Nat)
    (hq : ∀ i, q * ps ≤ i → i < q * ps + ps → a[i]? = b[i]?) : (pages ps a)[q]? = (pages ps b)[q]? := by
  rw [pages_getElem? ps hps a, pages_getElem? ps hps b, hl]
  by_cases c : q * ps < b.length
  · simp only [c, ↓reduceIte, Option.some.injEq]
    exact take_drop_congr b a (q * ps) ps hq
  · simp [c]

def zipChecks (ss es : List Bytes) : List Check := (ss.zip es).map (fun x => ⟨x.1, x.2⟩)

theorem zipChecks_map (H : Bytes → Bytes) : ∀ (l : List Bytes) (c : Check), c ∈ zipChecks l (l.map H) → H c.stream = c.expected := by
  intro l
  induction l with
  | nil => intro c hc; simp [zipChecks] at hc
  | cons a l ih =>
    intro c hc
    simp only [zipChecks, List.map_cons, List.zip_cons_cons, List.mem_cons] at hc
    rcases hc with rfl | hc
    · rfl
    · exact ih c hc

theorem verifyLoop_pages (ps : Nat) (hps : 0 < ps) : ∀ (es : List Bytes) (r : Bytes), es.length = (pages ps r).length →
    verifyLoop ps es r r.length ps = (zipChecks (pages ps r) es, .ok ()) := by
  intro es
  induction es with
  | nil => intro r _; simp [verifyLoop, zipChecks]
  | cons e es ih =>
    intro r hlen
    have hne : r ≠ [] := by
      intro h; subst h; simp [pages_nil] at hlen
    have hpos : 0 < r.length := List.length_pos_iff.mpr hne
    rw [pages_cons ps hps r hne] at hlen ⊢
    simp only [List.length_cons, Nat.add_right_cancel_iff] at hlen
    unfold verifyLoop
    have h0 : ¬ ((r.length : Int) ≤ 0) := by omega
    simp only [h0, ↓reduceIte]
    by_cases hshort : r.length < ps
    · -- the last, short page
      have h1 : ((r.length : Int) < (ps : Int)) := by omega
      simp only [h1, ↓reduceIte, Int.toNat_natCast, Nat.lt_irrefl]
      have hd : r.drop ps = [] := List.drop_eq_nil_of_le (by omega)
      rw [hd, pages_nil] at hlen
      have hes : es = [] := List.eq_nil_of_length_eq_zero hlen
      subst hes
      have ht : r.take ps = r.take r.length := by rw [List.take_of_length_le (by omega), List.take_length]
      simp [verifyLoop, zipChecks, hd, pages_nil, ht]
    · have h1 : ¬ ((r.length : Int) < (ps : Int)) := by omega
      have h2 : ¬ r.length < ps := hshort
      simp only [h1, ↓reduceIte, h2]
      have hcast : (r.length : Int) - (ps : Int) = ((r.drop ps).length : Nat) := by
        simp only [List.length_drop]; omega
      rw [hcast, ih (r.drop ps) hlen]
      simp [zipChecks]

end Relic.CodeDir
