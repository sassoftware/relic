/-
  The health counter: one closed form of the state after any history of checks.  The loop skeleton: each syntactic
  predicate of Model/HealthLoop read as a fact about `exec`, and the run by its step.
-/
import Relic.Model.Health
import Relic.Model.HealthLoop
namespace Relic.Health

theorem trailingFailures_nil : trailingFailures [] = 0 := rfl

theorem trailingFailures_snoc_true (h : List Bool) : trailingFailures (h ++ [true]) = 0 := by
  simp [trailingFailures]

theorem trailingFailures_snoc_false (h : List Bool) :
    trailingFailures (h ++ [false]) = trailingFailures h + 1 := by
  simp [trailingFailures]

theorem runFrom_snoc (N : Int) (st : State) (h : History) (e : Bool × Int) :
    runFrom N st (h ++ [e]) = check N (runFrom N st h) e.1 e.2 := by
  simp [runFrom]

/-- the state after any history: the counter is `N` less the trailing failures (at most `N`), or `N` unmoved when `N ≤ 0`; the time is
    that of the last completed check.  Induction over the reversed history, since a check is appended at the end. -/
theorem run_eq (N t0 : Int) (h : History) :
    run N t0 h = ⟨if 1 ≤ N then N - min N (trailingFailures (h.map (·.1)) : Int) else N, lastCompleted t0 h⟩ := by
  rw [← h.reverse_reverse]
  induction h.reverse with
  | nil => simp [run, runFrom, start, trailingFailures, lastCompleted]; omega
  | cons e r ih =>
    obtain ⟨b, t⟩ := e
    rw [run] at ih ⊢
    rw [List.reverse_cons, runFrom_snoc, ih, List.map_append]
    cases b with
    | true => simp only [check, List.map_cons, List.map_nil, trailingFailures_snoc_true, lastCompleted]; simp; omega
    | false =>
      simp only [check, List.map_cons, List.map_nil, trailingFailures_snoc_false, lastCompleted]
      simp
      split <;> omega

end Relic.Health

namespace Relic.HealthLoop

theorem exec_quiet (hc : String) (l : List Stmt) (h : l.all (Stmt.quiet hc) = true) :
    (exec l).2 = .fall ∧ hc ∉ (exec l).1 := by
  induction l with
  | nil => simp [exec]
  | cons s r ih =>
    simp only [List.all_cons, Bool.and_eq_true] at h
    have ih := ih h.2
    have h1 := h.1
    cases s with
    | call n =>
      simp only [Stmt.quiet, bne_iff_ne, ne_eq] at h1
      simp only [exec, List.mem_cons, not_or]
      exact ⟨ih.1, fun e => h1 e.symm, ih.2⟩
    | other => simpa [exec] using ih
    | break_ lb => simp [Stmt.quiet] at h1
    | continue_ lb => simp [Stmt.quiet] at h1
    | return_ => simp [Stmt.quiet] at h1
    | unsupported w => simp [Stmt.quiet] at h1

theorem exec_passive (l : List Stmt) (h : l.all Stmt.passive = true) : (exec l).2 = .fall := by
  induction l with
  | nil => simp [exec]
  | cons s r ih =>
    simp only [List.all_cons, Bool.and_eq_true] at h
    have ih := ih h.2
    cases s <;> simp_all [exec, Stmt.passive]

theorem exec_quietEnd (hc : String) (l : List Stmt) (h : quietEnd hc l = true) :
    ((exec l).2 = .fall ∨ (exec l).2 = .ret) ∧ hc ∉ (exec l).1 := by
  induction l with
  | nil => simp [exec]
  | cons s r ih =>
    cases s with
    | call n =>
      simp only [quietEnd, Stmt.quiet, Bool.and_eq_true, bne_iff_ne, ne_eq] at h
      have ih := ih h.2
      simp only [exec, List.mem_cons, not_or]
      exact ⟨ih.1, fun e => h.1 e.symm, ih.2⟩
    | other =>
      simp only [quietEnd, Stmt.quiet, Bool.true_and] at h
      simpa [exec] using ih h
    | break_ lb => simp [quietEnd, Stmt.quiet] at h
    | continue_ lb => simp [quietEnd, Stmt.quiet] at h
    | return_ => simp [exec]
    | unsupported w => simp [quietEnd, Stmt.quiet] at h

theorem exec_endsInExit (hc : String) (ll sl : Option String) (ao : Bool) (l : List Stmt)
    (h : endsInExit hc ll sl ao l = true) :
    hc ∉ (exec l).1 ∧ ((exec l).2 = .ret ∨
      ∃ x, (exec l).2 = .brk (some x) ∧ ll = some x ∧ sl ≠ some x ∧ ao = true) := by
  induction l with
  | nil => simp [endsInExit] at h
  | cons s r ih =>
    cases s with
    | call n =>
      simp only [endsInExit, Stmt.quiet, Bool.and_eq_true] at h
      have ih := ih h.2
      simp only [exec]
      refine ⟨?_, ih.2⟩
      simp only [List.mem_cons, not_or]
      refine ⟨fun e => ?_, ih.1⟩
      have := h.1
      simp [e] at this
    | other =>
      simp only [endsInExit, Stmt.quiet, Bool.true_and] at h
      simpa [exec] using ih h
    | break_ lb =>
      cases lb with
      | none => simp [endsInExit, Stmt.quiet] at h
      | some x =>
        simp only [endsInExit, Bool.and_eq_true, beq_iff_eq, bne_iff_ne] at h
        simp only [exec]
        exact ⟨by simp, .inr ⟨x, rfl, h.1.1, h.1.2, h.2⟩⟩
    | continue_ lb => simp [endsInExit, Stmt.quiet] at h
    | return_ => simp [exec]
    | unsupported w => simp [endsInExit, Stmt.quiet] at h

/-- the body of a case that cannot end the loop -/
theorem exec_noExit (l : List Stmt)
    (h : l.all (fun s => s.passive || s == .break_ none || s == .continue_ none) = true) :
    (exec l).2 = .fall ∨ (exec l).2 = .brk none ∨ (exec l).2 = .cont none := by
  induction l with
  | nil => simp [exec]
  | cons s r ih =>
    simp only [List.all_cons, Bool.and_eq_true] at h
    have ih := ih h.2
    have h1 := h.1
    cases s with
    | call n => simpa [exec] using ih
    | other => simpa [exec] using ih
    | break_ lb =>
      cases lb with
      | none => simp [exec]
      | some x => simp [Stmt.passive] at h1
    | continue_ lb =>
      cases lb with
      | none => simp [exec]
      | some x => simp [Stmt.passive] at h1
    | return_ => simp [Stmt.passive] at h1
    | unsupported w => simp [Stmt.passive] at h1

theorem run_cons (t : Loop) (c : Nat) (cs : List Nat) :
    run t (c :: cs) = if (iter t c).1 = .running then ((run t cs).1, (iter t c).2 ++ (run t cs).2) else iter t c := by
  rcases hi : iter t c with ⟨o, cl⟩
  cases o <;> simp [run, hi]

theorem run_append (t : Loop) (s1 s2 : List Nat) (calls : List String)
    (h : run t s1 = (.running, calls)) :
    run t (s1 ++ s2) = ((run t s2).1, calls ++ (run t s2).2) := by
  induction s1 generalizing calls with
  | nil =>
    cases h
    simp
  | cons c cs ih =>
    rw [List.cons_append, run_cons]
    rw [run_cons] at h
    by_cases hr : (iter t c).1 = .running
    · rw [if_pos hr] at h ⊢
      obtain ⟨h1, rfl⟩ := Prod.mk.inj h
      rw [ih _ (Prod.ext h1 rfl), List.append_assoc]
    · rw [if_neg hr] at h
      exact absurd (congrArg Prod.fst h) hr

end Relic.HealthLoop
