/-
  Relic.Proofs.ZipRoundtrip — what a standard reader sees of a rewritten archive: the views of the kept and of the added
  members; a stretch of placed members as one object (`Run`: built member by member, two runs joined, closed by the
  directory into `Assembled`); and the two assembly orders relic uses (Mangle/MakePatch: kept members, then added ones;
  signjar.insertSignature: added members, then kept ones).
-/
import Relic.Proofs.ZipWrite
namespace Relic.Zip
open Relic.SpecZip

/-- what a standard reader sees of a placed member -/
def pmView (p : PM) : View :=
  ⟨p.e.name, p.e.method, p.e.flags, p.e.crc, p.e.csize, p.e.usize, p.e.extra, p.e.comment,
   (p.x.drop (30 + fld p.x 26 2 + fld p.x 28 2)).take p.e.csize⟩

theorem MsFor_views {out : Bytes} {cd : Nat} : ∀ (ps : List PM) (ms : List SpecZip.Member), MsFor out cd ps ms →
    ms.map (fun m => (⟨m.entry.name, m.entry.method, m.entry.flags, m.entry.crc, m.entry.csize, m.entry.usize, m.entry.extra,
      m.entry.comment, (out.drop m.dataOff).take m.entry.csize⟩ : View)) = ps.map pmView := by
  intro ps
  induction ps with
  | nil => intro ms h; cases ms <;> simp_all [MsFor]
  | cons p r ih =>
    intro ms h
    cases ms with
    | nil => simp [MsFor] at h
    | cons m ms =>
      simp only [MsFor] at h
      obtain ⟨⟨-, he, -, hdata, -, -⟩, hr⟩ := h
      simp only [List.map_cons, ih ms hr, pmView, he, hdata]

theorem specView_of_parse {out : Bytes} {a : Archive} {cd : Nat} {ps : List PM} (hp : parse out = some a)
    (hm : MsFor out cd ps a.members) : specView out = some (ps.map pmView) := by
  unfold specView
  rw [hp]
  simp only [Option.map_some, Option.some.injEq]
  exact MsFor_views ps a.members hm

/-- the extra field of an added member's central record when written at offset `o` -/
def newExtra (n : NewMember) (o : Nat) : Bytes :=
  if n.compd.length ≥ u32Max ∨ n.usize ≥ u32Max ∨ o ≥ u32Max then z64Extra n.usize n.compd.length o ++ n.extra else n.extra

/-- the requested members as a standard reader must see them, written from offset `o` -/
def newViews (mt md : Nat) : List NewMember → Nat → List View
  | [], _ => []
  | n :: ns, o =>
    ⟨n.name, if n.deflate then 8 else 0, if n.useDesc then 8 else 0, n.crc, n.compd.length, n.usize, newExtra n o, [], n.compd⟩ ::
      newViews mt md ns (o + (newBytes mt md n).length)

theorem newViews_small (mt md : Nat) : ∀ (news : List NewMember) (o : Nat),
    (∀ n ∈ news, n.compd.length < u32Max ∧ n.usize < u32Max) → o + (newEntries mt md news o).2.length < u32Max →
    newViews mt md news o = news.map newView := by
  intro news
  induction news with
  | nil => intro _ _ _; rfl
  | cons n ns ih =>
    intro o hs hb
    simp only [newEntries, List.length_append] at hb
    have hn := hs n (List.mem_cons_self ..)
    have hi := ih (o + (newBytes mt md n).length) (fun x hx => hs x (List.mem_cons_of_mem _ hx)) (by omega)
    simp only [newViews, List.map_cons, hi]
    congr 1
    have : ¬ (n.compd.length ≥ u32Max ∨ n.usize ≥ u32Max ∨ o ≥ u32Max) := by omega
    simp only [newView, newExtra, this, if_false]

theorem keptBytesK_length {z : Bytes} {a : Archive} (hcdz : a.ends.cdOff ≤ z.length) :
    ∀ (kms : List KM) (at_ : Nat), MeasuredL z a at_ kms → (keptBytesK z kms).length = keptLenK kms := by
  intro kms
  induction kms with
  | nil => intro _ _; rfl
  | cons q r ih =>
    intro at_ hM
    obtain ⟨k, sm, m⟩ := q
    obtain ⟨M, hrest⟩ := MeasuredL_cons.mp hM
    simp only [keptBytesK, keptLenK, List.length_append, ih _ hrest]
    cases k
    · simp
    · simp only [if_true, M.extent_length hcdz]

/-- what the class `relicReadable` asks of a requested member: a descriptor (`useDesc`) that `readDataDesc` will
    recognise as 24 bytes wide — false exactly for the empty member (F7a) -/
def NewReadable (n : NewMember) : Prop :=
  n.useDesc = true → (n.usize ≥ 0xffffffff ∨ n.compd.length / 2 ^ 32 % 2 ^ 32 ≠ n.usize % 2 ^ 32)

/-- the stretch `[pos, stop)` of `B` holds the members `pms` back to back, each a well-formed member for the record its
    directory entry emits; a standard reader will see them as `vs`.  What a rewrite lays down is two runs (kept members,
    added members, in either order) and the directory for their entries. -/
structure Run (B : Bytes) (pos stop : Nat) (pms : List (File × PM)) (vs : List View) : Prop where
  emits : ∀ q ∈ pms, Emits q.1 q.2.e
  seg : PMsSeg B pos (pms.map (·.2)) stop
  views : pms.map (fun q => pmView q.2) = vs

theorem Run.nil (B : Bytes) (pos : Nat) : Run B pos pos [] [] := ⟨fun _ h => (nomatch h), rfl, rfl⟩

/-- a member at the head of a run: `x` sits behind `pre`, the rest of the run behind it -/
theorem Run.cons {B pre x rest : Bytes} {o stop : Nat} {f : File} {e : Entry} {pms : List (File × PM)} {vs : List View}
    (hB : B = pre ++ x ++ rest) (hpre : pre.length = o) (hem : Emits f e) (hoff : e.hoff = o)
    (hrec : MemberRec x e.name e.flags e.crc e.csize e.usize) (hok : EntryOK e) (h : Run B (o + x.length) stop pms vs) :
    Run B o stop ((f, ⟨e, x⟩) :: pms) (pmView ⟨e, x⟩ :: vs) := by
  refine ⟨List.forall_mem_cons.mpr ⟨hem, h.emits⟩, ⟨hoff, ?_, hrec, hok, h.seg⟩, by rw [List.map_cons, h.views]⟩
  have := drop_take_mid pre x rest
  rwa [hpre, ← hB] at this

theorem Run.append {B : Bytes} {p q r : Nat} {ps qs : List (File × PM)} {vp vq : List View}
    (h1 : Run B p q ps vp) (h2 : Run B q r qs vq) : Run B p r (ps ++ qs) (vp ++ vq) :=
  ⟨List.forall_mem_append.mpr ⟨h1.emits, h2.emits⟩, by rw [List.map_append]; exact PMsSeg_append _ _ _ _ _ h1.seg h2.seg,
    by rw [List.map_append, h1.views, h2.views]⟩

/-- **a kept member, re-emitted at offset `o`** with the record `en`: the directory entry `AddFile` makes emits `en`,
    which stands for the member's bytes; a standard reader sees the input's view with the moved extra field; the record
    is at most 28 bytes longer than the input's; and the member is readable again when the input was -/
structure Kept (z : Bytes) (a : Archive) (sm : SpecZip.Member) (m : Member) (o : Nat) (en : Entry) : Prop where
  emits : Emits (placed o m) en
  hoff : en.hoff = o
  mrec : MemberRec (extent z m) en.name en.flags en.crc en.csize en.usize
  ok : EntryOK en
  len : (extent z m).length = m.total
  view : pmView ⟨en, extent z m⟩ =
    ⟨sm.entry.name, sm.entry.method, sm.entry.flags, sm.entry.crc, sm.entry.csize, sm.entry.usize, movedExtra sm.entry o,
      sm.entry.comment, (z.drop sm.dataOff).take sm.entry.csize⟩
  dirLen : en.len ≤ sm.entry.len + 28
  readable : (a.members.all fun m => fixedNeed m.entry.need) = true → (a.members.all (widthOK a)) = true →
    fixedNeed en.need = true ∧ PMWidthOK ⟨en, extent z m⟩

theorem Measured.kept {z : Bytes} {a : Archive} {at_ o : Nat} {sm : SpecZip.Member} {m : Member} (M : Measured z a at_ sm m)
    (hcdz : a.ends.cdOff ≤ z.length) (hsm : sm ∈ a.members) (ho : o < 2 ^ 64) (hx : dirHeaderOK (placed o m) = true) :
    Kept z a sm m o (keptE sm m o) := by
  obtain ⟨l, ddb, hfile⟩ := M.file
  have hok := memberOf_entryOK M.mo
  obtain ⟨b1, b2, b3, b4, b5, b6, b7, b8, b9, b10, b11, b12, b13, b14, b15⟩ := entryAt_bounds M.ent
  obtain ⟨h30, -, -, -, -, -, -, hdo', -, -⟩ := memberOf_some M.mo
  have hlen := M.extent_length hcdz
  have hTge := M.data_le
  have hext := M.extent_eq
  -- the local header's two lengths are those of the input, so the data are the input's
  have f26 : fld (extent z m) 26 2 = fld (z.drop sm.entry.hoff) 26 2 := by rw [hext]; exact fld_take _ _ 26 2 (by omega)
  have f28 : fld (extent z m) 28 2 = fld (z.drop sm.entry.hoff) 28 2 := by rw [hext]; exact fld_take _ _ 28 2 (by omega)
  have hdata : ((extent z m).drop (30 + fld (extent z m) 26 2 + fld (extent z m) 28 2)).take sm.entry.csize =
      (z.drop sm.dataOff).take sm.entry.csize := by
    rw [f26, f28, hext, take_drop_take _ _ _ _ (by omega), List.drop_drop, hdo']
    congr 2; omega
  -- the extent ends with the descriptor of the true width, which the input's width clause speaks of
  have hwidth : ∀ en : Entry, en.flags = sm.entry.flags → en.csize = sm.entry.csize → en.usize = sm.entry.usize →
      (a.members.all (widthOK a)) = true → PMWidthOK ⟨en, extent z m⟩ := by
    intro en e1 e2 e3 hw
    simp only [PMWidthOK, e1, e2, e3]
    intro hd
    obtain ⟨w, hwm, hw2, hT, htw⟩ := M.desc hd
    have hwok := List.all_eq_true.mp hw sm hsm
    unfold widthOK at hwok
    have hemp : sm.descWidths.isEmpty = false := by
      cases hh : sm.descWidths with
      | nil => rw [hh] at hwm; cases hwm
      | cons _ _ => rfl
    rw [hemp, Bool.false_or, htw] at hwok
    simp only [Bool.and_eq_true, Bool.or_eq_true, bne_iff_ne, ne_eq, decide_eq_true_eq] at hwok
    have hxw : (extent z m).length = 30 + fld (extent z m) 26 2 + fld (extent z m) 28 2 + sm.entry.csize + w := by
      rw [hlen, f26, f28]; omega
    obtain ⟨c1, c2⟩ := hwok
    refine ⟨?_, ?_⟩
    · rcases c1 with h | h
      · left; rw [hxw]; omega
      · right; exact h
    · rcases c2 with (h | h) | h
      · left; rw [hxw]; omega
      · right; left; exact h
      · right; right; exact h
  generalize hen' : keptE sm m o = en'
  by_cases hsame : sm.entry.hoff = o
  · -- raw re-emission: the record is the input's
    obtain rfl : sm.entry = en' := by rw [← hen']; exact (if_pos hsame).symm
    have hraw : (placed o m).raw = (z.drop at_).take sm.entry.len := by
      have : (fileOf z at_ sm.entry).offset = o := hsame
      simp only [placed, hfile, this, ne_eq, not_true_eq_false, if_false]
      rfl
    refine ⟨emits_raw M.ent hraw, hsame, M.memberRec hcdz, hok, hlen, ?_, by omega,
      fun hfix hw => ⟨List.all_eq_true.mp hfix sm hsm, hwidth _ rfl rfl rfl hw⟩⟩
    simp only [pmView, hdata, movedExtra, hsame, ne_eq, not_true_eq_false, false_and, if_false]
  · -- the record is synthesised from the directory entry, whose fields are the input's
    obtain rfl : synthEntry (placed o m) = en' := by rw [← hen']; exact (if_neg hsame).symm
    have hraw : (placed o m).raw = [] := by
      simp only [placed, M.offset, ne_eq, hsame, not_false_eq_true, if_true]
    have hpf : (placed o m).creator = sm.entry.verMade ∧ (placed o m).reader = sm.entry.verNeeded ∧
        (placed o m).flags = sm.entry.flags ∧ (placed o m).method = sm.entry.method ∧ (placed o m).mtime = sm.entry.mtime ∧
        (placed o m).mdate = sm.entry.mdate ∧ (placed o m).crc = sm.entry.crc ∧ (placed o m).csize = sm.entry.csize ∧
        (placed o m).usize = sm.entry.usize ∧ (placed o m).name = sm.entry.name ∧ (placed o m).extra = sm.entry.extra ∧
        (placed o m).comment = sm.entry.comment ∧ (placed o m).iattrs = sm.entry.iattrs ∧
        (placed o m).eattrs = sm.entry.eattrs ∧ (placed o m).offset = o := by
      simp only [placed, hfile, fileOf, and_self]
    obtain ⟨p1, p2, p3, p4, p5, p6, p7, p8, p9, p10, p11, p12, p13, p14, p15⟩ := hpf
    have hsx : synthExtra (placed o m) = movedExtra sm.entry o := by
      simp only [synthExtra, synthBig, movedExtra, p8, p9, p11, p15, ne_eq, hsame, not_false_eq_true, true_and]
    have hxl : (movedExtra sm.entry o).length ≤ sm.entry.extra.length + 28 := by
      unfold movedExtra; split
      · simp only [List.length_append, z64Extra_length]; omega
      · omega
    have hfit : FileFits (placed o m) := by
      refine ⟨by rw [p1]; exact b1, by rw [p2]; exact b2, by rw [p3]; exact b3, by rw [p4]; exact b4,
        by rw [p5]; exact b5, by rw [p6]; exact b6, by rw [p7]; exact b7, by rw [p10]; exact b8, ?_,
        by rw [p12]; exact b10, by rw [p13]; exact b11, by rw [p14]; exact b12, by rw [p8]; exact b13,
        by rw [p9]; exact b14, by rw [p15]; exact ho⟩
      by_cases hbig : synthBig (placed o m)
      · -- `GetDirectoryHeader` has checked that there is room for the ZIP64 field
        have hroom : (placed o m).extra.length + 28 ≤ 65535 := by
          unfold dirHeaderOK at hx
          rw [hraw] at hx
          have hb' : decide ((placed o m).csize ≥ u32Max ∨ (placed o m).usize ≥ u32Max ∨ (placed o m).offset ≥ u32Max) = true := by
            simpa [synthBig] using hbig
          simpa [hb'] using hx
        rw [hsx]; rw [p11] at hroom; omega
      · rw [synthExtra, if_neg hbig, p11]; exact b9
    refine ⟨emits_synth hraw hfit, p15, ?_, ?_, hlen, ?_, ?_, fun _ hw => ⟨?_, hwidth _ p3 p8 p9 hw⟩⟩
    · simp only [synthEntry, p10, p3, p7, p8, p9]; exact M.memberRec hcdz
    · refine ⟨by simp only [synthEntry, p3]; exact hok.enc, by simp only [synthEntry, p3]; exact hok.pat, ?_, ?_,
        by simp only [synthEntry, p4]; exact hok.meth, by simp only [synthEntry, p10, p9]; exact hok.dir,
        by simp only [synthEntry, p4, p8, p9]; exact hok.stored⟩
      · simp only [synthEntry, p2]; split
        · omega
        · exact hok.ver
      · simp only [synthEntry]
        rw [hsx]
        unfold movedExtra; split
        · exact extraWellFormed_z64 _ _ _ _ hok.ext
        · exact hok.ext
    · simp only [pmView, synthEntry, hsx, hdata, p10, p4, p3, p7, p8, p9, p12]
    · simp only [synthEntry, hsx, p10, p12]; omega
    · simp only [synthEntry, fixedNeed]
      cases decide (synthBig (placed o m)) <;> rfl

/-- **the kept run.** In an output that holds the kept members' extents back to back from `L`, the directory entries
    `AddFile` makes stand for a run of members that a standard reader sees as `keptViews`; and they are readable again. -/
theorem kept_run {z : Bytes} {a : Archive} (hcdz : a.ends.cdOff ≤ z.length) :
    ∀ (kms : List KM) (at_ : Nat) (pre post : Bytes) (L : Nat), MeasuredL z a at_ kms →
      (∀ q ∈ kms, q.2.1 ∈ a.members) → pre.length = L → L + keptLenK kms < 2 ^ 64 →
      (∀ q ∈ keptPMs z kms L, dirHeaderOK q.1 = true) →
      Run (pre ++ keptBytesK z kms ++ post) L (L + keptLenK kms) (keptPMs z kms L) (keptViews z kms L) ∧
      ((a.members.all fun m => fixedNeed m.entry.need) = true → (a.members.all (widthOK a)) = true →
        ∀ q ∈ keptPMs z kms L, fixedNeed q.2.e.need = true ∧ PMWidthOK q.2) := by
  intro kms
  induction kms with
  | nil =>
    intro at_ pre post L _ _ _ _ _
    exact ⟨Run.nil _ _, fun _ _ q hq => (nomatch hq)⟩
  | cons q0 r ih =>
    intro at_ pre post L hM hmem hpre hb hx
    obtain ⟨k, sm, m⟩ := q0
    obtain ⟨M, hrest⟩ := MeasuredL_cons.mp hM
    have hmem' : ∀ q ∈ r, q.2.1 ∈ a.members := fun q hq => hmem q (List.mem_cons_of_mem _ hq)
    cases k with
    | false =>
      simp only [keptPMs, keptBytesK, keptViews, keptLenK, Bool.false_eq_true, if_false, List.nil_append, Nat.zero_add] at hb hx ⊢
      exact ih _ pre post L hrest hmem' hpre hb hx
    | true =>
      simp only [keptPMs, keptBytesK, keptViews, keptLenK, if_true] at hb hx ⊢
      have K := M.kept hcdz (hmem _ (List.mem_cons_self ..)) (show L < 2 ^ 64 by omega) (hx _ (List.mem_cons_self ..))
      obtain ⟨hi, hir⟩ := ih _ (pre ++ extent z m) post (L + m.total) hrest hmem' (by simp [hpre, K.len]) (by omega)
        (fun q hq => hx q (List.mem_cons_of_mem _ hq))
      rw [← K.view]
      refine ⟨Run.cons (pre := pre) (rest := keptBytesK z r ++ post) (by simp only [List.append_assoc]) hpre K.emits K.hoff
        K.mrec K.ok (by rw [K.len, ← Nat.add_assoc]; simpa only [List.append_assoc] using hi), fun hfix hw q hq => ?_⟩
      rcases List.mem_cons.mp hq with rfl | hq
      · exact K.readable hfix hw
      · exact hir hfix hw q hq

/-- an added member as a standard reader must see it, and that `readDataDesc` will recognise its descriptor -/
theorem new_member (mt md : Nat) (n : NewMember) (o : Nat) (hn : NewOK n) :
    pmView ⟨synthEntry (newEntryAt mt md n o), newBytes mt md n⟩ =
      ⟨n.name, if n.deflate then 8 else 0, if n.useDesc then 8 else 0, n.crc, n.compd.length, n.usize, newExtra n o, [], n.compd⟩ ∧
    (NewReadable n → fixedNeed (synthEntry (newEntryAt mt md n o)).need = true ∧
      PMWidthOK ⟨synthEntry (newEntryAt mt md n o), newBytes mt md n⟩) := by
  obtain ⟨e26, e28⟩ := newBytes_fld mt md n hn.name (by have := hn.extra; omega)
  refine ⟨?_, fun hr => ⟨?_, ?_⟩⟩
  · have hdata := (newBytes_parts mt md n).2.2.2.1
    simp only [pmView, e26, e28]
    show View.mk _ _ _ _ _ _ (synthExtra (newEntryAt mt md n o)) _ _ = _
    have hsx : synthExtra (newEntryAt mt md n o) = newExtra n o := rfl
    rw [hsx]
    simp only [synthEntry, newEntryAt, hdata]
  · simp only [synthEntry, fixedNeed]
    cases decide (synthBig (newEntryAt mt md n o)) <;> rfl
  · intro hd
    have hfl : (synthEntry (newEntryAt mt md n o)).flags = if n.useDesc then 8 else 0 := rfl
    simp only at hd
    rw [hfl] at hd
    have hu : n.useDesc = true := by
      cases hu : n.useDesc
      · rw [hu] at hd; simp at hd
      · rfl
    have hlen := newBytes_length mt md n
    have hdl : (newDdb n).length = 24 := by unfold newDdb; rw [if_pos hu]; simp
    have hcs : (synthEntry (newEntryAt mt md n o)).csize = n.compd.length := rfl
    have hus : (synthEntry (newEntryAt mt md n o)).usize = n.usize := rfl
    simp only
    rw [e26, e28, hlen, hdl, hcs, hus]
    refine ⟨Or.inl (by omega), ?_⟩
    rcases hr hu with h | h
    · right; left; exact h
    · right; right; exact h

/-- **the added run.** What `NewFile` appends from offset `o` is a run of members that a standard reader sees as requested. -/
theorem news_run (mt md : Nat) (hmt : mt < 2 ^ 16) (hmd : md < 2 ^ 16) :
    ∀ (news : List NewMember) (o : Nat) (pre post : Bytes), (∀ n ∈ news, NewOK n) → pre.length = o →
      o + (newEntries mt md news o).2.length < 2 ^ 64 →
      Run (pre ++ (newEntries mt md news o).2 ++ post) o (o + (newEntries mt md news o).2.length) (newPMs mt md news o)
        (newViews mt md news o) ∧
      ((∀ n ∈ news, NewReadable n) → ∀ q ∈ newPMs mt md news o, fixedNeed q.2.e.need = true ∧ PMWidthOK q.2) := by
  intro news
  induction news with
  | nil => intro o pre post _ _ _; exact ⟨Run.nil _ _, fun _ q hq => (nomatch hq)⟩
  | cons n ns ih =>
    intro o pre post hok hpre hb
    simp only [newEntries, List.length_append] at hb ⊢
    have hn := hok n (List.mem_cons_self ..)
    obtain ⟨k1, k2, k3, k4⟩ := new_pm mt md n o hn hmt hmd (by omega)
    obtain ⟨nv, nr⟩ := new_member mt md n o hn
    obtain ⟨hi, hir⟩ := ih (o + (newBytes mt md n).length) (pre ++ newBytes mt md n) post
      (fun x hx => hok x (List.mem_cons_of_mem _ hx)) (by simp [hpre]) (by omega)
    simp only [newPMs, newViews]
    rw [← nv, ← Nat.add_assoc]
    refine ⟨Run.cons (pre := pre) (rest := (newEntries mt md ns (o + (newBytes mt md n).length)).2 ++ post)
      (by simp only [List.append_assoc]) hpre k1 k2 k3 k4 (by simpa only [List.append_assoc] using hi), fun hnr q hq => ?_⟩
    rcases List.mem_cons.mp hq with rfl | hq
    · exact nr (hnr n (List.mem_cons_self ..))
    · exact hir (fun x hx => hnr x (List.mem_cons_of_mem _ hx)) q hq

theorem map_fst_append {α β} (l1 l2 : List (α × β)) : (l1 ++ l2).map (·.1) = l1.map (·.1) ++ l2.map (·.1) := List.map_append

/-- `out` is a valid archive: a standard reader parses it to `a'`, whose directory starts at `D`, right behind the members
    `pms` (in order), which it sees as `vs`; and `out` is in the readable class again under the condition `R` -/
structure Assembled (out : Bytes) (a' : Archive) (D : Nat) (pms : List (File × PM)) (vs : List View) (R : Prop) : Prop where
  parse : SpecZip.parse out = some a'
  members : MsFor out D (pms.map (·.2)) a'.members
  view : specView out = some vs
  cdOff : a'.ends.cdOff = D
  comment : a'.ends.comment = []
  count : a'.ends.count = pms.length
  readable : R → 42 ≤ out.length →
    noComment a' out = true ∧ descSigned a' = true ∧ zip64Fixed a' = true ∧ (a'.members.all (widthOK a')) = true

theorem Assembled.imp {out : Bytes} {a' : Archive} {D : Nat} {pms : List (File × PM)} {vs : List View} {R R' : Prop}
    (h : Assembled out a' D pms vs R) (hr : R' → R) : Assembled out a' D pms vs R' :=
  { h with readable := fun r => h.readable (hr r) }

/-- a run that fills `B`, followed by the directory `WriteDirectory` serialises for its entries, is an archive; it is
    readable again when every member is -/
theorem Run.parse {B : Bytes} {pms : List (File × PM)} {vs : List View} (h : Run B 0 B.length pms vs) (force : Bool)
    (fs : List File) (cd eod : Bytes) (hfs : fs = pms.map (·.1)) (hcd : cd = (headersOf fs).1)
    (heod : eod = endRecords fs.length cd.length B.length force (maxReader fs)) (hbound : B.length + cd.length < 2 ^ 64) :
    ∃ a', Assembled (B ++ cd ++ eod) a' B.length pms vs (∀ q ∈ pms, fixedNeed q.2.e.need = true ∧ PMWidthOK q.2) := by
  obtain ⟨a', hp', hfor, h1, h2, h3, -, -⟩ := parse_assembled B pms force fs cd eod hfs hcd heod h.emits h.seg hbound
  refine ⟨a', hp', hfor, ?_, h1, h2, h3, fun hr h42 => ?_⟩
  · rw [specView_of_parse hp' hfor, List.map_map]
    exact congrArg some h.views
  · exact assembled_readable h.seg hfor h1 h2 (fun p hp => by
        obtain ⟨q, hq', rfl⟩ := List.mem_map.mp hp; exact (hr q hq').1) (fun p hp => by
        obtain ⟨q, hq', rfl⟩ := List.mem_map.mp hp; exact (hr q hq').2) h42

/-- **kept members first, then added ones** (`Mangle` + `Mangler.NewFile` + `MakePatch`; `AddFile` / `NewFile` /
    `WriteDirectory` in that order): the kept bytes, what `NewFile` appended (`NB`), the directory for the files `F` and the
    end records for a directory at `D` parse to the kept members followed by the added ones; readable again when the
    input was and the added members are. -/
theorem kept_news_parses {z : Bytes} {a : Archive} (hcdz : a.ends.cdOff ≤ z.length)
    (kms : List KM) (at_ : Nat) (hM : MeasuredL z a at_ kms) (hmem : ∀ q ∈ kms, q.2.1 ∈ a.members)
    (hfix : (a.members.all fun m => fixedNeed m.entry.need) = true) (hw : (a.members.all (widthOK a)) = true)
    (mt md : Nat) (hmt : mt < 2 ^ 16) (hmd : md < 2 ^ 16) (news : List NewMember) (hnews : ∀ n ∈ news, NewOK n)
    (hx : ∀ q ∈ keptPMs z kms 0, dirHeaderOK q.1 = true)
    (force : Bool) (out NB : Bytes) (F : List File) (D : Nat)
    (hNB : NB = (newEntries mt md news (keptLenK kms)).2)
    (hF : F = (keptPMs z kms 0).map (·.1) ++ (newEntries mt md news (keptLenK kms)).1)
    (hD : D = keptLenK kms + NB.length)
    (hout : out = keptBytesK z kms ++ NB ++ (headersOf F).1 ++
      endRecords F.length (headersOf F).1.length D force (maxReader F))
    (hbound : D + (headersOf F).1.length < 2 ^ 64) :
    ∃ a', Assembled out a' D (keptPMs z kms 0 ++ newPMs mt md news (keptLenK kms))
      (keptViews z kms 0 ++ newViews mt md news (keptLenK kms)) (∀ n ∈ news, NewReadable n) := by
  have hkl := keptBytesK_length hcdz kms at_ hM
  have hBl : (keptBytesK z kms ++ NB).length = D := by rw [List.length_append, hkl, hD]
  obtain ⟨rk, kr⟩ := kept_run hcdz kms at_ [] NB 0 hM hmem rfl (by omega) hx
  obtain ⟨rn, nr⟩ := news_run mt md hmt hmd news (keptLenK kms) (keptBytesK z kms) [] hnews hkl (by rw [← hNB]; omega)
  simp only [List.nil_append, Nat.zero_add] at rk
  simp only [List.append_nil] at rn
  rw [← hNB, ← hD] at rn
  rw [← hBl] at rn hout hbound ⊢
  obtain ⟨a', hA⟩ := (rk.append rn).parse force F _ _ (by rw [hF, map_fst_append, newPMs_files]) rfl rfl hbound
  rw [← hout] at hA
  exact ⟨a', hA.imp fun hnr => List.forall_mem_append.mpr ⟨kr hfix hw, nr hnr⟩⟩

/-- **added members first, then kept ones** (`insertSignature` of lib/signjar) -/
theorem news_kept_parses {z : Bytes} {a : Archive} (hcdz : a.ends.cdOff ≤ z.length)
    (kms : List KM) (at_ : Nat) (hM : MeasuredL z a at_ kms) (hmem : ∀ q ∈ kms, q.2.1 ∈ a.members)
    (hfix : (a.members.all fun m => fixedNeed m.entry.need) = true) (hw : (a.members.all (widthOK a)) = true)
    (mt md : Nat) (hmt : mt < 2 ^ 16) (hmd : md < 2 ^ 16) (news : List NewMember) (hnews : ∀ n ∈ news, NewOK n)
    (L : Nat) (hL : L = (newEntries mt md news 0).2.length)
    (hx : ∀ q ∈ keptPMs z kms L, dirHeaderOK q.1 = true)
    (force : Bool) (out NB : Bytes) (F : List File) (D : Nat)
    (hNB : NB = (newEntries mt md news 0).2)
    (hF : F = (newEntries mt md news 0).1 ++ (keptPMs z kms L).map (·.1))
    (hD : D = L + keptLenK kms)
    (hout : out = NB ++ keptBytesK z kms ++ (headersOf F).1 ++
      endRecords F.length (headersOf F).1.length D force (maxReader F))
    (hbound : D + (headersOf F).1.length < 2 ^ 64) :
    ∃ a', Assembled out a' D (newPMs mt md news 0 ++ keptPMs z kms L) (newViews mt md news 0 ++ keptViews z kms L)
      (∀ n ∈ news, NewReadable n) := by
  have hkl := keptBytesK_length hcdz kms at_ hM
  have hNl : NB.length = L := by rw [hNB, hL]
  have hBl : (NB ++ keptBytesK z kms).length = D := by rw [List.length_append, hkl, hD, hNl]
  obtain ⟨rk, kr⟩ := kept_run hcdz kms at_ NB [] L hM hmem hNl (by omega) hx
  obtain ⟨rn, nr⟩ := news_run mt md hmt hmd news 0 [] (keptBytesK z kms) hnews rfl (by rw [← hL]; omega)
  simp only [List.nil_append, Nat.zero_add] at rn
  simp only [List.append_nil] at rk
  rw [← hNB, hNl] at rn
  rw [← hD] at rk
  rw [← hBl] at rk hout hbound ⊢
  obtain ⟨a', hA⟩ := (rn.append rk).parse force F _ _ (by rw [hF, map_fst_append, newPMs_files]) rfl rfl hbound
  rw [← hout] at hA
  exact ⟨a', hA.imp fun hnr => List.forall_mem_append.mpr ⟨nr hnr, kr hfix hw⟩⟩

def lenSum : List KM → Nat
  | [] => 0
  | (_, sm, _) :: r => sm.entry.len + lenSum r

theorem measured_lens {z : Bytes} {a : Archive} : ∀ (kms : List KM) (at_ : Nat), MeasuredL z a at_ kms →
    at_ + lenSum kms ≤ max at_ a.ends.first ∧ 46 * kms.length ≤ lenSum kms := by
  intro kms
  induction kms with
  | nil => intro at_ _; simp [lenSum]; omega
  | cons q r ih =>
    intro at_ hM
    obtain ⟨k, sm, m⟩ := q
    obtain ⟨M, hrest⟩ := MeasuredL_cons.mp hM
    obtain ⟨b1, -, -, b4, r', -, hr⟩ := entryAt_some M.ent
    have hlen : sm.entry.len = 46 + fld (z.drop at_) 28 2 + fld (z.drop at_) 30 2 + fld (z.drop at_) 32 2 := by rw [hr]; rfl
    obtain ⟨i1, i2⟩ := ih _ hrest
    simp only [lenSum, List.length_cons]
    refine ⟨by omega, by omega⟩

theorem keptHeaders_length {z : Bytes} {a : Archive} (hcdz : a.ends.cdOff ≤ z.length) :
    ∀ (kms : List KM) (at_ L : Nat), MeasuredL z a at_ kms → (∀ q ∈ kms, q.2.1 ∈ a.members) → L + keptLenK kms < 2 ^ 64 →
    (∀ q ∈ keptPMs z kms L, dirHeaderOK q.1 = true) →
    (headersOf ((keptPMs z kms L).map (·.1))).1.length ≤ lenSum kms + 28 * kms.length := by
  intro kms
  induction kms with
  | nil => intro _ _ _ _ _ _; simp [keptPMs, headersOf]
  | cons q r ih =>
    intro at_ L hM hmem hb hx
    obtain ⟨k, sm, m⟩ := q
    obtain ⟨M, hrest⟩ := MeasuredL_cons.mp hM
    have hmem' : ∀ q ∈ r, q.2.1 ∈ a.members := fun q hq => hmem q (List.mem_cons_of_mem _ hq)
    cases k with
    | false =>
      simp only [keptPMs, keptLenK, Bool.false_eq_true, if_false, Nat.zero_add, lenSum, List.length_cons] at hb hx ⊢
      have := ih _ L hrest hmem' hb hx
      omega
    | true =>
      simp only [keptPMs, keptLenK, if_true, lenSum, List.length_cons, List.map_cons, headersOf_cons, List.length_append] at hb ⊢
      simp only [keptPMs, if_true] at hx
      have K := M.kept (o := L) hcdz (hmem _ (List.mem_cons_self ..)) (by omega) (hx _ (List.mem_cons_self ..))
      have := ih _ (L + m.total) hrest hmem' (by omega) (fun q hq => hx q (List.mem_cons_of_mem _ hq))
      have := K.dirLen
      rw [← K.emits.2]
      omega

end Relic.Zip
