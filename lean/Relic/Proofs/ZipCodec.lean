/-
  Relic.Proofs.ZipCodec — `fld` (a little-endian field of a byte string) on appended buffers, on prefixes and windows, and on
  records written as `leBytes w₁ v₁ ++ leBytes w₂ v₂ ++ …`; the lengths of the encoders; the laws of `headersOf` /
  `headersOK`; `ReadAt` inverted; a member given as a byte string (`MemberRec`).
-/
import Relic.Model.Zip
import Relic.Spec.Zip
import Relic.Proofs.Codec
import Relic.Proofs.Splice
namespace Relic.Zip

theorem fld_eq (b : Bytes) (off w : Nat) : fld b off w = leVal b / 256 ^ off % 256 ^ w := by
  unfold fld; rw [leVal_take, leVal_drop]

theorem leVal_lt (l : Bytes) : leVal l < 256 ^ l.length := Relic.leVal_lt l

theorem fld_lt (b : Bytes) (off w : Nat) : fld b off w < 256 ^ w := leVal_take_lt _ _

theorem fld_skip (a r : Bytes) (n k w : Nat) (h : a.length = n) : fld (a ++ r) (n + k) w = fld r k w := by
  unfold fld
  rw [← List.drop_drop, List.drop_left' h]

theorem fld_head (x r : Bytes) (w : Nat) (h : x.length = w) : fld (x ++ r) 0 w = leVal x := by
  unfold fld
  rw [List.drop_zero, List.take_left' h]

theorem fld_all (x : Bytes) (w : Nat) (h : x.length = w) : fld x 0 w = leVal x := by
  have := fld_head x [] w h
  simpa using this

theorem fld_append_left (a b : Bytes) (k w : Nat) (h : k + w ≤ a.length) : fld (a ++ b) k w = fld a k w := by
  unfold fld
  rw [take_drop_append_left a b k w h]

theorem fld_drop (z : Bytes) (p k w : Nat) : fld (z.drop p) k w = leVal ((z.drop (p + k)).take w) := by
  unfold fld; rw [List.drop_drop]

theorem fld_drop0 (z : Bytes) (p k w : Nat) : fld (z.drop (p + k)) 0 w = fld (z.drop p) k w := by
  rw [fld_drop, fld_drop, Nat.add_zero]

theorem fld_take (b : Bytes) (n off w : Nat) (h : off + w ≤ n) : fld (b.take n) off w = fld b off w := by
  unfold fld
  rw [List.drop_take, List.take_take, Nat.min_eq_left (by omega)]

theorem fld_eq_of_take {x y : Bytes} {L : Nat} (h : x.take L = y.take L) (k w : Nat) (hk : k + w ≤ L) :
    fld x k w = fld y k w := by
  rw [← fld_take x L k w hk, ← fld_take y L k w hk, h]

theorem seg_eq_of_take {x y : Bytes} {L : Nat} (h : x.take L = y.take L) (a b : Nat) (hk : a + b ≤ L) :
    (x.drop a).take b = (y.drop a).take b := by
  rw [← take_drop_take x L a b hk, ← take_drop_take y L a b hk, h]

theorem seg_of_seg {z x : Bytes} {o L : Nat} (h : (z.drop o).take L = x) (a b : Nat) (hab : a + b ≤ L) :
    (z.drop (o + a)).take b = (x.drop a).take b := by
  rw [← h, take_drop_take_drop z o L a b (by omega)]

theorem fld_prefix {z z' : Bytes} {P : Nat} (hp : z'.take P = z.take P) (off k w : Nat) (h : off + k + w ≤ P) :
    fld (z'.drop off) k w = fld (z.drop off) k w := by
  rw [fld_drop, fld_drop, ← take_drop_take z' P _ _ h, ← take_drop_take z P _ _ h, hp]

theorem fld_lb_head (w v : Nat) (r : Bytes) : fld (leBytes w v ++ r) 0 w = v % 256 ^ w := by
  rw [fld_head _ _ _ (leBytes_length w v), leVal_leBytes]

theorem fld_lb_last (w v : Nat) : fld (leBytes w v) 0 w = v % 256 ^ w := by
  rw [fld_all _ _ (leBytes_length w v), leVal_leBytes]

theorem fld_lb_skip (w v : Nat) (r : Bytes) (k w' : Nat) (h : w ≤ k) : fld (leBytes w v ++ r) k w' = fld r (k - w) w' := by
  have := fld_skip (leBytes w v) r w (k - w) w' (leBytes_length w v)
  rw [← this]; congr 1; omega

theorem fld_enc (b : Bytes) (off w : Nat) (h : off + w ≤ b.length) : leBytes w (fld b off w) = (b.drop off).take w := by
  have hl : ((b.drop off).take w).length = w := by rw [List.length_take, List.length_drop]; omega
  have := leBytes_leVal ((b.drop off).take w)
  rw [hl] at this
  exact this

@[simp] theorem encEnd_length (e : EndRec) : (encEnd e).length = 22 := by simp [encEnd]
@[simp] theorem encEnd64_length (e : End64) : (encEnd64 e).length = 56 := by simp [encEnd64]
@[simp] theorem encLoc64_length (l : Loc64) : (encLoc64 l).length = 20 := by simp [encLoc64]

theorem encLfh_length (l : Lfh) : (encLfh l).length = 30 := by
  simp [encLfh, leBytes_length]

theorem endRecords_length (count size cdoff : Nat) (force : Bool) (minV : Nat) :
    (endRecords count size cdoff force minV).length = if needZip64 count size cdoff force minV then 98 else 22 := by
  unfold endRecords
  split <;> simp [encEnd_length, encEnd64_length, encLoc64_length]

theorem headersOf_cons (f : File) (fs : List File) :
    (headersOf (f :: fs)).1 = (getDirectoryHeader f).1 ++ (headersOf fs).1 := by
  simp [headersOf]

theorem headersOf_cons_files (f : File) (fs : List File) :
    (headersOf (f :: fs)).2 = (getDirectoryHeader f).2 :: (headersOf fs).2 := by
  simp [headersOf]

theorem headersOK_append (a b : List File) : headersOK (a ++ b) = (headersOK a && headersOK b) := by
  simp [headersOK, List.all_append]

theorem headersOK_mem {fs : List File} {f : File} (h : headersOK fs = true) (hf : f ∈ fs) : dirHeaderOK f = true :=
  List.all_eq_true.mp h f hf

/-- `ReadAt` inverted, with the two kinds of reader apart (`Rd.readAt_to` says the same about both at once, but not
    that a random-access read starts inside the file) -/
theorem Rd.readAt_ok {r r' : Rd} {off n : Nat} {x : Bytes} (h : r.readAt off n = .ok (x, r')) :
    off < 2 ^ 63 ∧ off + n ≤ r.z.length ∧ x = (r.z.drop off).take n ∧
    (r.stream = true → r.pos ≤ off ∧ r' = { r with pos := off + n }) ∧
    (r.stream = false → off < r.z.length ∧ r' = r) := by
  unfold Rd.readAt at h
  by_cases c1 : off ≥ 2 ^ 63
  · rw [if_pos c1] at h; cases h
  rw [if_neg c1] at h
  cases hs : r.stream
  · rw [hs] at h
    simp only [Bool.false_eq_true, if_false] at h
    by_cases c2 : off ≥ r.z.length
    · rw [if_pos c2] at h; cases h
    rw [if_neg c2] at h
    by_cases c3 : off + n ≤ r.z.length
    · rw [if_pos c3] at h
      cases h
      exact ⟨by omega, c3, rfl, fun c => (by cases c), fun _ => ⟨by omega, rfl⟩⟩
    · rw [if_neg c3] at h; cases h
  · rw [hs] at h
    simp only [if_true] at h
    by_cases c2 : off < r.pos
    · rw [if_pos c2] at h; cases h
    rw [if_neg c2] at h
    by_cases c3 : off + n ≤ r.z.length
    · rw [if_pos c3] at h
      cases h
      exact ⟨by omega, c3, rfl, fun _ => ⟨by omega, rfl⟩, fun c => (by cases c)⟩
    · rw [if_neg c3] at h; cases h

theorem readAt_ra (z : Bytes) (off n : Nat) (h1 : off < z.length) (h2 : off + n ≤ z.length) (h3 : z.length < 2 ^ 63) :
    Rd.readAt ⟨z, false, 0⟩ off n = .ok ((z.drop off).take n, ⟨z, false, 0⟩) := by
  unfold Rd.readAt
  rw [if_neg (by omega)]
  simp only [Bool.false_eq_true, if_false]
  rw [if_neg (by omega), if_pos h2]

theorem descEnc_length (s w : Bool) (crc cs us : Nat) :
    (SpecZip.descEnc s w crc cs us).length = (if s then 4 else 0) + 4 + (if w then 16 else 8) := by
  cases s <;> cases w <;> simp [SpecZip.descEnc]

/-- `x` — the bytes of one member, from its local header to the end of its descriptor — is a well-formed
    member for a central record with this name, these flags, CRC and sizes: local signature, local name,
    descriptor bit as in the directory, the data inside, and (descriptor bit set) a *signed* descriptor
    with the directory's values that ends exactly where `x` ends; without descriptor `x` ends with the data. -/
structure MemberRec (x : Bytes) (name : Bytes) (flags crc csize usize : Nat) : Prop where
  sig : x.take 4 = [0x50, 0x4b, 0x03, 0x04]
  len : 30 + fld x 26 2 + fld x 28 2 + csize ≤ x.length
  name : (x.drop 30).take (fld x 26 2) = name
  flag : fld x 6 2 % 16 / 8 = flags % 16 / 8
  nodesc : flags % 16 / 8 ≠ 1 → x.length = 30 + fld x 26 2 + fld x 28 2 + csize
  desc : flags % 16 / 8 = 1 → ∃ wd, (wd = true ∨ (csize < 2 ^ 32 ∧ usize < 2 ^ 32)) ∧
    x.length = 30 + fld x 26 2 + fld x 28 2 + csize + (SpecZip.descEnc true wd crc csize usize).length ∧
    x.drop (30 + fld x 26 2 + fld x 28 2 + csize) = SpecZip.descEnc true wd crc csize usize

end Relic.Zip
