/- `parseCodeDirectory ∘ newCodeDirectory`: what relic's own reader makes of the directory relic's writer marshalled.
   No hypothesis on the identifier strings (an embedded NUL only shortens what `cstring` returns). -/
import Relic.Proofs.CodeDirSpec
namespace Relic.CodeDir

theorem cstring_of_drop (blob s rest : Bytes) (i : Nat) (h : blob.drop i = s ++ 0 :: rest) :
    cstring blob i = some ((s ++ 0 :: rest).takeWhile (· ≠ 0)) := by
  unfold cstring
  have hi : ¬ i ≥ blob.length := by
    intro c
    rw [List.drop_eq_nil_of_le c] at h
    cases s <;> cases h
  rw [if_neg hi]
  simp only [h, contains_zero, ↓reduceIte]

theorem blocks_range (hs : Nat) (bs : List Bytes) (buf rest : Bytes) (base : Nat) (hb : buf.drop base = bs.flatten ++ rest)
    (h : ∀ b ∈ bs, b.length = hs) :
    (List.range bs.length).map (fun i => (buf.drop (base + i * hs)).take hs) = bs := by
  apply List.ext_getElem (by simp)
  intro i h1 h2
  simp only [List.getElem_map, List.getElem_range]
  exact block_window hs bs buf rest base hb h i h2

/-- the same counted downwards from the end of the blocks: slot `−(i+1)` -/
theorem blocks_range_rev (hs : Nat) (bs : List Bytes) (buf rest : Bytes) (base : Nat) (hb : buf.drop base = bs.flatten ++ rest)
    (h : ∀ b ∈ bs, b.length = hs) :
    (List.range bs.length).map (fun i => (buf.drop (base + bs.length * hs - (i + 1) * hs + 0 * hs)).take hs) = bs.reverse := by
  apply List.ext_getElem (by simp)
  intro i h1 h2
  have hi : i < bs.length := by simpa using h2
  simp only [List.getElem_map, List.getElem_range, List.getElem_reverse, Nat.zero_mul, Nat.add_zero]
  rw [block_window_rev hs bs buf rest base hb h (i + 1) (by omega) (by omega)]
  congr 1; omega

/-- what the parsed directory says about the code it covers -/
structure ParsedCD (H : Bytes → Bytes) (p : Params) (ht : Nat) (raw : Bytes) (d : Dir) : Prop where
  hashType : d.hdr.hashType = ht
  pageShift : d.hdr.pageShift = if p.single then 0 else 12
  code : d.code = p.codeSlots.map (Seg.render H (hashSizeOf p.hash))
  special : d.special = (p.specials.map (fun o => Seg.render H (hashSizeOf p.hash) (specialSeg o))).reverse
  limit : p.codeLimit < 2 ^ 63 → codeSize d.hdr = (p.codeLimit : Int)
  length : be32 raw 4 = raw.length
  magic : be32 raw 0 = 0xfade0c02
  flags : d.hdr.flags = p.flags % 2 ^ 32
  execBase : d.hdr.execBase = (if p.execBase ≠ 0 ∨ p.execLimit ≠ 0 ∨ p.execFlags ≠ 0 then p.execBase % 2 ^ 64 else 0)
  execLimit : d.hdr.execLimit = (if p.execBase ≠ 0 ∨ p.execLimit ≠ 0 ∨ p.execFlags ≠ 0 then p.execLimit % 2 ^ 64 else 0)
  execFlags : d.hdr.execFlags = (if p.execBase ≠ 0 ∨ p.execLimit ≠ 0 ∨ p.execFlags ≠ 0 then p.execFlags % 2 ^ 64 else 0)

theorem newCodeDirectory_states_length (H : Bytes → Bytes) (p : Params) (ht : Nat) (segs : List Seg)
    (hht : hashTypeOf p.hash = some ht) (hH : ∀ s, (H s).length = hashSizeOf p.hash)
    (fSlot : ∀ s ∈ p.codeSlots, (Seg.render H (hashSizeOf p.hash) s).length = hashSizeOf p.hash)
    (hsize : (render H (hashSizeOf p.hash) segs).length < 2 ^ 32) (e : newCodeDirectory p = .ok segs) :
    88 ≤ (render H (hashSizeOf p.hash) segs).length ∧
      be32 (render H (hashSizeOf p.hash) segs) 4 = (render H (hashSizeOf p.hash) segs).length := by
  have S := newCodeDirectory_shape H p ht segs hht hH fSlot e
  exact ⟨by rw [S.length]; unfold slotBase; omega, S.statesLength hsize⟩

/-- relic's reader accepts what relic's writer marshalled, whatever (`extra`) follows it inside the capacity of the Go slice, and
    what it returns is `ParsedCD` -/
theorem parse_newCodeDirectory (H : Bytes → Bytes) (p : Params) (ht : Nat) (segs : List Seg) (extra : Bytes)
    (hht : hashTypeOf p.hash = some ht) (hH : ∀ s, (H s).length = hashSizeOf p.hash)
    (fSlot : ∀ s ∈ p.codeSlots, (Seg.render H (hashSizeOf p.hash) s).length = hashSizeOf p.hash)
    (fCount : p.codeSlots.length = p.codeSlotCount)
    (hsize : (render H (hashSizeOf p.hash) segs).length < 2 ^ 32)
    (e : newCodeDirectory p = .ok segs) :
    ∃ d, parseCodeDirectory (render H (hashSizeOf p.hash) segs) extra = .ok d ∧
      ParsedCD H p ht (render H (hashSizeOf p.hash) segs) d := by
  -- the header the parser reads (`readHeader raw`) is computed from `Reads`, the two capacity guards pass by `Shape.length`, the
  -- slots are found by `blocks_range` / `blocks_range_rev`
  have S := newCodeDirectory_shape H p ht segs hht hH fSlot e
  generalize render H (hashSizeOf p.hash) segs = raw at S hsize ⊢
  have V := S.view
  have R := S.reads hht fCount hsize
  have hfn := hashFunc_of_type p.hash ht hht
  have hL := S.length
  have hspN : (specialBlocks H p).length = p.specials.length := by rw [specialBlocks, List.length_map]
  have hcdN : (codeBlocks H p).length = p.codeSlots.length := by rw [codeBlocks, List.length_map]
  have hspL : (specialBlocks H p).flatten.length = p.specials.length * hashSizeOf p.hash := by
    rw [length_flatten_blocks _ _ S.spLen, hspN]
  let ver : Nat := if p.execBase ≠ 0 ∨ p.execLimit ≠ 0 ∨ p.execFlags ≠ 0 then 0x20400 else 0x20300
  let ho : Nat := slotBase p + p.specials.length * hashSizeOf p.hash
  let tOff : Nat := if p.team.isEmpty then 0 else 88 + p.ident.length + 1
  have hvge : 0x20300 ≤ ver := by show 0x20300 ≤ (if _ then _ else _); split <;> decide
  obtain ⟨ident, hident⟩ : ∃ r, cstring raw 88 = some r := ⟨_, cstring_of_drop raw _ _ 88 S.drop_ident⟩
  obtain ⟨team, hteam⟩ : ∃ r, (if tOff ≠ 0 then cstring raw tOff else some []) = some r := by
    by_cases ht0 : p.team = []
    · have : tOff = 0 := if_pos (by rw [ht0]; rfl)
      exact ⟨[], by simp [this]⟩
    · have hto : tOff = 88 + p.ident.length + 1 := if_neg (by simpa using ht0)
      rw [if_pos (by omega), hto]
      refine ⟨_, cstring_of_drop raw p.team ((specialBlocks H p).flatten ++ (codeBlocks H p).flatten) _ ?_⟩
      rw [S.drop_team, teamBytes_of_ne ht0]; simp
  let hd0 : Header :=
      { magic := be32 raw 0, length := be32 raw 4, version := ver, flags := be32 raw 12,
        hashOffset := ho, identOffset := 88, nSpecial := p.specials.length, nCode := p.codeSlots.length,
        codeLimit := be32 raw 32, hashSize := hashSizeOf p.hash, hashType := ht, pageShift := if p.single then 0 else 12,
        scatterOffset := 0, teamOffset := tOff, codeLimit64 := be64 raw 56,
        execBase := if ver < 0x20400 then 0 else be64 raw 64,
        execLimit := if ver < 0x20400 then 0 else be64 raw 72,
        execFlags := if ver < 0x20400 then 0 else be64 raw 80 }
  have hrd : readHeader raw = hd0 := by
    unfold readHeader
    simp only [R.version, R.hashOffset, R.identOffset, R.nSpecial, R.nCode, R.hashSize, R.hashType, R.pageShift,
      show be32 raw 44 = 0 from V.scatter, R.teamOffset]
    have h1 : ¬ ver < 0x20100 := by omega
    have h2 : ¬ ver < 0x20200 := by omega
    have h3 : ¬ ver < 0x20300 := by omega
    simp only [ver] at h1 h2 h3
    simp only [h1, h2, h3, ↓reduceIte]
    rfl
  have hcap1 : ¬ (p.codeSlots.length ≠ 0 ∧ ho + p.codeSlots.length * hashSizeOf p.hash > raw.length + extra.length) := by
    rw [hL]; omega
  have hcap2 : ¬ (p.specials.length ≠ 0 ∧ (ho > raw.length + extra.length ∨ ho < p.specials.length * hashSizeOf p.hash)) := by
    rw [hL]; omega
  have hbufS := S.drop_special extra
  have hbufC : (raw ++ extra).drop ho = (codeBlocks H p).flatten ++ extra := by rw [← S.drop_code extra, hspN]
  refine ⟨⟨hd0, ident, team, hashSizeOf p.hash,
    (List.range p.codeSlots.length).map (slotAt (raw ++ extra) ho (hashSizeOf p.hash)),
    (List.range p.specials.length).map
      (fun i => slotAt (raw ++ extra) (ho - (i + 1) * hashSizeOf p.hash) (hashSizeOf p.hash) 0)⟩, ?_, ?_⟩
  · unfold parseCodeDirectory
    rw [if_neg (by rw [hL]; unfold slotBase; omega)]
    simp only [hrd, hd0]
    have hio : (88 : Nat) ≠ 0 := by decide
    simp only [hio, ne_eq, not_false_eq_true, ↓reduceIte, hident, hteam, hfn, hcap1, hcap2, not_true_eq_false]
  · have hcode : (List.range p.codeSlots.length).map (slotAt (raw ++ extra) ho (hashSizeOf p.hash)) = codeBlocks H p := by
      have := blocks_range (hashSizeOf p.hash) (codeBlocks H p) (raw ++ extra) extra _ hbufC S.cdLen
      rw [hcdN] at this
      exact this
    have hspec : (List.range p.specials.length).map (fun i =>
        slotAt (raw ++ extra) (ho - (i + 1) * hashSizeOf p.hash) (hashSizeOf p.hash) 0) = (specialBlocks H p).reverse := by
      have := blocks_range_rev (hashSizeOf p.hash) (specialBlocks H p) (raw ++ extra) _ _ hbufS S.spLen
      rw [hspN] at this
      exact this
    refine ⟨rfl, rfl, hcode, hspec, ?_, R.length, V.magic, V.flags, ?_, ?_, ?_⟩
    · intro hlim
      rw [show codeSize _ = (if be64 raw 56 ≠ 0 then toI64 (be64 raw 56) else ((be32 raw 32 : Nat) : Int)) from rfl]
      have c1 : be32 raw 32 = (mkHeader p ht).codeLimit % 2 ^ 32 := V.codeLimit
      have c2 : be64 raw 56 = (mkHeader p ht).codeLimit64 % 2 ^ 64 := V.codeLimit64
      rw [c1, c2]
      simp only [mkHeader]
      by_cases hb : p.codeLimit > 2 ^ 31 - 2
      · simp only [hb, ↓reduceIte]
        have : p.codeLimit % 2 ^ 64 = p.codeLimit := Nat.mod_eq_of_lt (by omega)
        rw [this]
        have hne : p.codeLimit ≠ 0 := by omega
        simp only [ne_eq, hne, not_false_eq_true, ↓reduceIte]
        unfold toI64
        rw [this]
        simp [hlim]
      · simp only [hb, ↓reduceIte]
        have : p.codeLimit % 2 ^ 32 = p.codeLimit := Nat.mod_eq_of_lt (by omega)
        simp [this]
    · show (if (if _ then _ else _) < 0x20400 then 0 else be64 raw 64) = _
      split
      · simp only [Nat.lt_irrefl, ↓reduceIte]; exact V.execBase
      · simp
    · show (if (if _ then _ else _) < 0x20400 then 0 else be64 raw 72) = _
      split
      · simp only [Nat.lt_irrefl, ↓reduceIte]; exact V.execLimit
      · simp
    · show (if (if _ then _ else _) < 0x20400 then 0 else be64 raw 80) = _
      split
      · simp only [Nat.lt_irrefl, ↓reduceIte]; exact V.execFlags
      · simp

end Relic.CodeDir
