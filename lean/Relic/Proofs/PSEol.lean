/- PowerShell, fix F-ps-eol: what `DigestPowershell` cuts off in front of a begin-marker line, whatever follows that line:
   the marker line's own CRLF or nothing, otherwise the script is refused -/
import Relic.Proofs.PSFrame
namespace Relic.PS

theorem digestLoop_unsigned (first : Bytes) (u16 : Bool) (k flen : Nat) (hk : 0 < k) (items : List Item) (saved h : Bytes)
    (ts pos : Nat) (H : Bytes) (T : Nat) (e : digestLoop true true first u16 k flen items saved h ts pos = .ok (H, T, 0)) :
    NoMarker first items := by
  induction items generalizing saved h ts pos with
  | nil => intro l ph hm; cases hm
  | cons it rest ih =>
    obtain ⟨b, phys, rfl, ⟨_, _, _, hR⟩ | ⟨hb, e'⟩⟩ := digestLoop_cons e
    · injection hR with _ hR; injection hR with _ hR
      omega
    · intro l ph hm
      rcases List.mem_cons.mp hm with h1 | h1
      · injection h1 with h1 _; rw [h1]; exact hb
      · exact ih _ _ _ _ e' l ph h1

theorem digestLoop_past (first : Bytes) (u16 : Bool) (k flen : Nat) (xs : List Item) (l : Bytes) (ph : Nat)
    (more : List Item) (hg : Good xs) (nm : NoMarker first xs) (hl : l ≠ first) (H : Bytes) (T S : Nat)
    (e : digestLoop true true first u16 k flen (xs ++ (.line l ph :: more)) [] [] 0 0 = .ok (H, T, S)) :
    (joinItems xs).length + l.length ≤ T + k := by
  rw [digestLoop_pass first u16 k flen l ph more hl xs [] [] 0 0 hg nm] at e
  have := (digestLoop_ts _ _ _ _ _ _ _ _ _ _ _ _ e).2
  simp only [List.length_nil] at this
  omega

theorem digestLoop_refuses (first : Bytes) (u16 : Bool) (k flen : Nat) (xs : List Item) (s : Bytes) (ph ph' : Nat)
    (more : List Item) (hg : Good xs) (nm : NoMarker first xs) (hs : s ≠ first)
    (hbad : ¬ (k ≤ s.length ∧ s.drop (s.length - k) = first.drop (first.length - k))) :
    digestLoop true true first u16 k flen (xs ++ (.line s ph :: .line first ph' :: more)) [] [] 0 0 = .err "badsig" := by
  rw [digestLoop_pass first u16 k flen s ph (.line first ph' :: more) hs xs [] [] 0 0 hg nm]
  simp only [digestLoop, if_true]
  by_cases hlen : s.length < k
  · rw [if_pos hlen]
  · rw [if_neg hlen, if_pos ⟨trivial, fun hc => hbad ⟨by omega, hc⟩⟩]

/-- in front of a marker line: the lines `xs` of an unsigned text `T`, its unterminated last line `p` run together with the
    marker line, anything behind -/
theorem digestLoop_cut (first : Bytes) (u16 : Bool) (k flen : Nat) (hk : 0 < k) (hkf : k ≤ first.length) (xs : List Item)
    (p T : Bytes) (ph : Nat) (more : List Item) (hg : Good xs) (nm : NoMarker first xs) (hj : joinItems xs ++ p = T)
    (H : Bytes) (Tn S : Nat)
    (e : digestLoop true true first u16 k flen (xs ++ (.line (p ++ first) ph :: more)) [] [] 0 0 = .ok (H, Tn, S)) :
    T.length ≤ Tn ∨ (Tn + k = T.length ∧ T.drop Tn = first.drop (first.length - k)) := by
  subst hj
  by_cases hp : p = []
  · subst hp
    rw [List.nil_append] at e
    rw [List.append_nil]
    exact Or.inr (digestLoop_at_marker _ _ _ _ hk _ _ _ hg nm _ _ _ e)
  · have hne : p ++ first ≠ first := fun hc => by
      have := congrArg List.length hc
      simp only [List.length_append] at this
      exact hp (List.eq_nil_of_length_eq_zero (by omega))
    have := digestLoop_past _ _ _ _ _ _ _ _ hg nm hne _ _ _ e
    simp only [List.length_append] at this ⊢
    omega

theorem suffix_of_drop (s cr lf : Bytes) (k : Nat) (hk : k = (cr ++ lf).length) (hl : k ≤ (s ++ lf).length)
    (hd : (s ++ lf).drop ((s ++ lf).length - k) = cr ++ lf) : cr <:+ s := by
  subst hk
  simp only [List.length_append] at hl hd
  rw [show s.length + lf.length - (cr.length + lf.length) = s.length - cr.length by omega,
    List.drop_append_of_le_length (by omega)] at hd
  rw [← List.append_cancel_right hd]
  exact List.drop_suffix _ _

theorem style_head (style : Nat) (st en : Bytes) (hs : styleOf style = some (st, en)) :
    ∃ c tl, st = c :: tl ∧ c ≠ 0xff ∧ c ≠ 0xfe ∧ c ≠ 0 :=
  styleOf_cases (fun st _ => ∃ c tl, st = c :: tl ∧ c ≠ 0xff ∧ c ≠ 0xfe ∧ c ≠ 0) style st en hs ⟨35, [32], by decide⟩
    ⟨60, [33, 45, 45, 32], by decide⟩ ⟨47, [42, 32], by decide⟩

theorem isUtf16_append_marker (style : Nat) (st en : Bytes) (hs : styleOf style = some (st, en)) (T rest : Bytes) :
    isUtf16 (T ++ (firstLine st en (isUtf16 T) ++ rest)) = isUtf16 T := by
  obtain ⟨c, tl, hst, c1, c2, _⟩ := style_head style st en hs
  have hf : firstLine st en false ++ rest = c :: (tl ++ psBegin ++ en ++ crlf ++ rest) := by simp [firstLine, hst]
  match T with
  | a :: b :: r => rw [isUtf16_eq, isUtf16_eq]; simp
  | [a] =>
    have h0 : isUtf16 [a] = false := by simp [isUtf16]
    rw [h0, hf]
    exact isUtf16_append_false [a] c _ h0 c1 c2
  | [] =>
    rw [show isUtf16 ([] : Bytes) = false from rfl, hf]
    exact isUtf16_append_false [] c _ rfl c1 c2

theorem unsigned_noMarker (T : Bytes) (style : Nat) (st en : Bytes) (dT : Digest) (hs : styleOf style = some (st, en))
    (eT : DigestPS T style = .ok dT) (h0 : dT.sigSize = 0) : NoMarker (firstLine st en (isUtf16 T)) (itemsOf T) := by
  have := (DigestPS_loop T style st en dT hs eT).2.2
  rw [h0] at this
  exact digestLoop_unsigned _ _ _ _ (by unfold eolLen; split <;> omega) _ _ _ _ _ _ _ this

variable (m : Mode)

theorem Mode.lines_self (T : Bytes) (hok : m.ok T.length) :
    m.split [] T = m.comp [] T ++ [.line (m.pend [] T) (m.pend [] T).length] := by
  have := m.append [] T [] hok
  rwa [List.append_nil, m.split_nil] at this

/-- `T` is an unsigned script (`hok`: of even length, for UTF-16LE), followed by the begin-marker line and anything -/
theorem DigestPS_cut (T rest : Bytes) (style : Nat) (st en : Bytes) (dT d : Digest) (hs : styleOf style = some (st, en))
    (hu : isUtf16 T = m.u16) (hok : m.ok T.length) (eT : DigestPS T style = .ok dT) (h0 : dT.sigSize = 0)
    (e : DigestPS (T ++ (firstLine st en m.u16 ++ rest)) style = .ok d) :
    T.length ≤ d.textSize ∨ (d.textSize + (m.enc crlf).length = T.length ∧ T.drop d.textSize = m.enc crlf) := by
  have hu' := isUtf16_append_marker style st en hs T rest
  rw [hu] at hu'
  have L := (DigestPS_loop _ style st en d hs e).2.2
  rw [m.items _ hu', hu', m.eol_len] at L
  have nmT := unsigned_noMarker T style st en dT hs eT h0
  rw [m.items _ hu, hu, m.lines_self T hok] at nmT
  have nm : NoMarker (firstLine st en m.u16) (m.comp [] T) := fun l ph hm => nmT l ph (by simp [hm])
  obtain ⟨hj, hg⟩ := m.join [] T
  obtain ⟨ph, hph⟩ := m.lines_marker style st en hs (m.pend [] T) rest
  rw [m.append _ _ _ hok, hph] at L
  have hlen : (m.enc crlf).length ≤ (firstLine st en m.u16).length := by
    rw [m.firstLine_split, List.length_append]
    omega
  have := digestLoop_cut _ _ _ _ m.eol_pos hlen _ _ T _ _ hg nm hj _ _ _ L
  rwa [m.firstLine_sfx st en] at this

/-- `T0 ++ LF` is an unsigned script whose last line break is a bare LF (`hcr`; `hok`: `T0` of even length, for UTF-16LE),
    followed by the begin-marker line -/
theorem DigestPS_bare_lf (T0 rest : Bytes) (style : Nat) (st en : Bytes) (dT : Digest) (hs : styleOf style = some (st, en))
    (hu : isUtf16 (T0 ++ m.lf) = m.u16) (hok : m.ok T0.length) (eT : DigestPS (T0 ++ m.lf) style = .ok dT)
    (h0 : dT.sigSize = 0) (hcr : ¬ m.enc [13] <:+ T0) :
    DigestPS (T0 ++ m.lf ++ (firstLine st en m.u16 ++ rest)) style = .err "badsig" := by
  have hu' := isUtf16_append_marker style st en hs (T0 ++ m.lf) rest
  rw [hu] at hu'
  apply DigestPS_of_loop_err _ style st en _ hs
  rw [m.items _ hu', hu', m.eol_len]
  have nmT := unsigned_noMarker _ style st en dT hs eT h0
  rw [m.items _ hu, hu, m.append _ _ _ hok] at nmT
  have hlf := m.split_lf (m.pend [] T0) []
  rw [List.append_nil, m.split_nil] at hlf
  rw [hlf] at nmT
  obtain ⟨hj, hg⟩ := m.join [] T0
  simp only [List.nil_append] at hj
  obtain ⟨ph, hph⟩ := m.lines_marker style st en hs [] rest
  rw [List.nil_append] at hph
  rw [List.append_assoc, m.append _ _ _ hok, m.split_lf, hph]
  refine digestLoop_refuses _ _ _ _ _ _ _ _ _ hg (fun l ph hm => nmT l ph (by simp [hm]))
    (nmT (m.pend [] T0 ++ m.lf) ((m.pend [] T0).length + m.lf.length) (by simp)) ?_
  rintro ⟨hl, hd⟩
  rw [m.firstLine_sfx st en] at hd
  rw [m.crlf_eq] at hl hd
  exact hcr ((suffix_of_drop (m.pend [] T0) (m.enc [13]) m.lf _ rfl hl hd).trans ⟨_, hj⟩)

/-- UTF-8, a block at the very start: refused since fix F8b -/
theorem DigestPS_marker_first8 (rest : Bytes) (style : Nat) (st en : Bytes) (hs : styleOf style = some (st, en)) :
    DigestPS (firstLine st en false ++ rest) style = .err "badsig" := by
  have hu' := isUtf16_append_marker style st en hs [] rest
  have h0 : isUtf16 ([] : Bytes) = false := by simp [isUtf16]
  rw [h0, List.nil_append] at hu'
  apply DigestPS_of_loop_err _ style st en _ hs
  rw [mode8.items _ hu', hu']
  obtain ⟨ph, hph⟩ := mode8.lines_marker style st en hs [] rest
  rw [show mode8.split [] (firstLine st en false ++ rest) = .line (firstLine st en false) ph :: lines8 [] rest from hph]
  simp [digestLoop, eolLen]

/-- a line that starts one byte before a widened text: every code unit is `(0, c)`, none is U+000A -/
theorem lines16_zero_shift : ∀ (tl cur r : Bytes), ∃ x ph more,
    lines16 cur (0 :: (widen tl ++ r)) = .line (cur ++ x) ph :: more ∧ 2 * tl.length + 1 ≤ x.length := by
  intro tl
  induction tl with
  | nil =>
    intro cur r
    cases r with
    | nil => exact ⟨[0], cur.length + 1, [], by simp [widen, lines16], by simp⟩
    | cons y rs =>
      obtain ⟨x', r', ph, e, _⟩ := lines16_head (cur ++ [0, y]) rs
      refine ⟨0 :: y :: x', ph, r', ?_, by simp⟩
      have : widen [] ++ y :: rs = y :: rs := rfl
      rw [this]
      simp only [lines16]
      rw [if_neg (by intro hc; exact absurd hc.1 (by decide)), e]
      simp
  | cons c tl ih =>
    intro cur r
    obtain ⟨x', ph, more, e, hl⟩ := ih (cur ++ [0, c]) r
    refine ⟨0 :: c :: x', ph, more, ?_, by simp only [List.length_cons]; omega⟩
    rw [widen_cons, List.cons_append, List.cons_append]
    simp only [lines16]
    rw [if_neg (by intro hc; exact absurd hc.1 (by decide)), e]
    simp

theorem lines16_odd_marker (c : UInt8) (hc : c ≠ 0) (tl cur r : Bytes) (b : UInt8) : ∃ x ph more,
    lines16 cur (b :: (widen (c :: tl) ++ r)) = .line (cur ++ x) ph :: more ∧ 2 * (tl.length + 1) + 1 ≤ x.length := by
  obtain ⟨x', ph, more, e, hl⟩ := lines16_zero_shift tl (cur ++ [b, c]) r
  refine ⟨b :: c :: x', ph, more, ?_, by simp only [List.length_cons]; omega⟩
  rw [widen_cons, List.cons_append, List.cons_append]
  simp only [lines16]
  rw [if_neg (by intro h; exact hc h.2), e]
  simp

/-- a script of odd length (a stray byte at the end) keeps all its bytes: the marker behind it is not aligned and is not
    recognised -/
theorem DigestPS_cut16 (T rest : Bytes) (style : Nat) (st en : Bytes) (dT d : Digest) (hs : styleOf style = some (st, en))
    (hu : isUtf16 T = true) (eT : DigestPS T style = .ok dT) (h0 : dT.sigSize = 0)
    (e : DigestPS (T ++ (firstLine st en true ++ rest)) style = .ok d) :
    T.length ≤ d.textSize ∨ (d.textSize + 4 = T.length ∧ T.drop d.textSize = widen crlf) := by
  rcases Nat.mod_two_eq_zero_or_one T.length with he | ho
  · exact DigestPS_cut mode16 T rest style st en dT d hs hu he eT h0 e
  have hu' := isUtf16_append_marker style st en hs T rest
  rw [hu] at hu'
  have L := (DigestPS_loop _ style st en d hs e).2.2
  rw [hu'] at L
  simp only [itemsOf, eolLen, hu', if_true] at L
  have nmT := unsigned_noMarker T style st en dT hs eT h0
  simp only [itemsOf, hu, if_true] at nmT
  left
  rcases List.eq_nil_or_concat T with hnil | ⟨T', b, hT⟩
  · rw [hnil] at ho; simp at ho
  · rw [List.concat_eq_append] at hT
    subst hT
    have he : T'.length % 2 = 0 := by simp only [List.length_append, List.length_cons, List.length_nil] at ho; omega
    rw [lines16_append [] T' [b] he] at nmT
    have nm : NoMarker (firstLine st en true) (comp16 [] T') := fun l ph hm => nmT l ph (by simp [hm])
    obtain ⟨hj, hg⟩ := comp16_join [] T'
    simp only [List.nil_append] at hj
    have hlen := congrArg List.length hj
    simp only [List.length_append] at hlen
    obtain ⟨c, tl, hst, _, _, c0⟩ := style_head style st en hs
    have hfw : firstLine st en true = widen (c :: (tl ++ psBegin ++ en ++ crlf)) := by simp [firstLine, hst]
    have hitems : lines16 [] (T' ++ [b] ++ (firstLine st en true ++ rest)) =
        comp16 [] T' ++ lines16 (pend16 [] T') (b :: (firstLine st en true ++ rest)) := by
      rw [List.append_assoc, lines16_append _ _ _ he]; rfl
    rw [hitems] at L
    rw [show b :: (firstLine st en true ++ rest) = b :: (widen (c :: (tl ++ psBegin ++ en ++ crlf)) ++ rest) by rw [hfw]] at L
    obtain ⟨x, ph, more, ex, hx⟩ := lines16_odd_marker c c0 (tl ++ psBegin ++ en ++ crlf) (pend16 [] T') rest b
    rw [ex] at L
    have hfl : (firstLine st en true).length = 2 * ((tl ++ psBegin ++ en ++ crlf).length + 1) := by
      rw [hfw, widen_length]; simp
    have hne : pend16 [] T' ++ x ≠ firstLine st en true := by
      intro hc
      have := congrArg List.length hc
      rw [hfl, List.length_append] at this
      omega
    have := digestLoop_past _ _ _ _ _ _ _ _ hg nm hne _ _ _ L
    simp only [List.length_append, List.length_cons, List.length_nil, crlf] at *
    omega

end Relic.PS
