/- the shape of what `newCodeDirectory` marshals (`Shape`: header, identifier, team identifier, special slots, code slots,
   with their offsets), and that it satisfies the reader's specification (Relic.Spec.CodeDirectory.Describes) -/
import Relic.Proofs.CodeDir
import Relic.Spec.CodeDirectory
namespace Relic.CodeDir
open Relic.Spec.CodeDirectory (Content Describes u32 cstr slot)

theorem special_block_len (H : Bytes → Bytes) (hs : Nat) (hH : ∀ s, (H s).length = hs) (o : Option Bytes) :
    (Seg.render H hs (specialSeg o)).length = hs := by
  cases o <;> simp [specialSeg, Seg.render, hH]

theorem hashType_cases (h ht : Nat) (e : hashTypeOf h = some ht) :
    (h = 3 ∧ ht = 1) ∨ (h = 5 ∧ ht = 2) ∨ (h = 6 ∧ ht = 4) := by
  unfold hashTypeOf at e
  by_cases h3 : h = 3
  · rw [if_pos h3] at e; exact Or.inl ⟨h3, (Option.some.inj e).symm⟩
  rw [if_neg h3] at e
  by_cases h5 : h = 5
  · rw [if_pos h5] at e; exact Or.inr (Or.inl ⟨h5, (Option.some.inj e).symm⟩)
  rw [if_neg h5] at e
  by_cases h6 : h = 6
  · rw [if_pos h6] at e; exact Or.inr (Or.inr ⟨h6, (Option.some.inj e).symm⟩)
  rw [if_neg h6] at e; cases e

theorem hashSize_of_type (h ht : Nat) (e : hashTypeOf h = some ht) : hashSizeOf h = 20 ∨ hashSizeOf h = 32 ∨ hashSizeOf h = 48 := by
  rcases hashType_cases h ht e with ⟨rfl, _⟩ | ⟨rfl, _⟩ | ⟨rfl, _⟩
  · exact Or.inl rfl
  · exact Or.inr (Or.inl rfl)
  · exact Or.inr (Or.inr rfl)

theorem hashType_lt (h ht : Nat) (e : hashTypeOf h = some ht) : ht < 256 := by
  rcases hashType_cases h ht e with ⟨_, rfl⟩ | ⟨_, rfl⟩ | ⟨_, rfl⟩ <;> decide

theorem hashFunc_of_type (h ht : Nat) (e : hashTypeOf h = some ht) : hashFuncOf ht (hashSizeOf h) = some (hashSizeOf h) := by
  rcases hashType_cases h ht e with ⟨rfl, rfl⟩ | ⟨rfl, rfl⟩ | ⟨rfl, rfl⟩ <;> rfl

/-- the content a directory built from `p` is supposed to carry -/
def contentOf (H : Bytes → Bytes) (p : Params) (ht : Nat) : Content :=
  let hs := hashSizeOf p.hash
  { version := if p.execBase ≠ 0 ∨ p.execLimit ≠ 0 ∨ p.execFlags ≠ 0 then 0x20400 else 0x20300
    flags := p.flags
    nSpecial := p.specials.length
    nCode := p.codeSlotCount
    codeLimit := if p.codeLimit > 2 ^ 31 - 2 then 0 else p.codeLimit
    codeLimit64 := if p.codeLimit > 2 ^ 31 - 2 then p.codeLimit else 0
    hashSize := hs
    hashType := ht
    pageShift := if p.single then 0 else 12
    ident := p.ident
    team := p.team
    execBase := p.execBase
    execLimit := p.execLimit
    execFlags := p.execFlags
    code := fun i => Seg.render H hs (p.codeSlots.getD i .zero)
    special := fun k => Seg.render H hs (specialSeg ((p.specials.getD (p.specials.length - k) none))) }

/-- side conditions: everything fits the field widths, strings are C strings, one slot per page -/
structure Fits (H : Bytes → Bytes) (p : Params) : Prop where
  hashLen : ∀ s, (H s).length = hashSizeOf p.hash
  slotLen : ∀ s ∈ p.codeSlots, (Seg.render H (hashSizeOf p.hash) s).length = hashSizeOf p.hash
  count : p.codeSlots.length = p.codeSlotCount
  identNoNul : ∀ x ∈ p.ident, x ≠ 0
  teamNoNul : ∀ x ∈ p.team, x ≠ 0
  flags : p.flags < 2 ^ 32
  size : 88 + p.ident.length + 1 + (p.team.length + 1) + hashSizeOf p.hash * p.specials.length +
           hashSizeOf p.hash * p.codeSlots.length < 2 ^ 32
  limit : p.codeLimit < 2 ^ 63
  execBase : p.execBase < 2 ^ 64
  execLimit : p.execLimit < 2 ^ 64
  execFlags : p.execFlags < 2 ^ 64

theorem segsLen_blocks (H : Bytes → Bytes) (hs : Nat) (hH : ∀ s, (H s).length = hs) (l : List Seg)
    (h : ∀ s ∈ l, (Seg.render H hs s).length = hs) : segsLen hs l = hs * l.length := by
  rw [← render_length H hs hH l, render_blocks, length_flatten_blocks hs _ (by
    intro b hb
    obtain ⟨s, hs', rfl⟩ := List.mem_map.mp hb
    exact h s hs')]
  simp [Nat.mul_comm]

def teamBytes (p : Params) : Bytes := if p.team.isEmpty then [] else p.team ++ [0]

def specialBlocks (H : Bytes → Bytes) (p : Params) : List Bytes :=
  p.specials.map (fun o => Seg.render H (hashSizeOf p.hash) (specialSeg o))

def codeBlocks (H : Bytes → Bytes) (p : Params) : List Bytes := p.codeSlots.map (Seg.render H (hashSizeOf p.hash))

/-- where the slots of a marshalled directory begin: behind header, identifier and team identifier -/
def slotBase (p : Params) : Nat := 88 + p.ident.length + 1 + (teamBytes p).length

structure Shape (H : Bytes → Bytes) (p : Params) (ht : Nat) (raw : Bytes) : Prop where
  eq : raw = (mkHeader p ht).enc ++ (p.ident ++ 0 :: (teamBytes p ++ ((specialBlocks H p).flatten ++ (codeBlocks H p).flatten)))
  spLen : ∀ b ∈ specialBlocks H p, b.length = hashSizeOf p.hash
  cdLen : ∀ b ∈ codeBlocks H p, b.length = hashSizeOf p.hash
  length : raw.length = slotBase p + p.specials.length * hashSizeOf p.hash + p.codeSlots.length * hashSizeOf p.hash
  hdrLength : (mkHeader p ht).length = raw.length
  hashOffset : raw.length < 2 ^ 32 → (mkHeader p ht).hashOffset = slotBase p + p.specials.length * hashSizeOf p.hash

theorem newCodeDirectory_shape (H : Bytes → Bytes) (p : Params) (ht : Nat) (segs : List Seg)
    (hht : hashTypeOf p.hash = some ht) (hH : ∀ s, (H s).length = hashSizeOf p.hash)
    (fSlot : ∀ s ∈ p.codeSlots, (Seg.render H (hashSizeOf p.hash) s).length = hashSizeOf p.hash)
    (e : newCodeDirectory p = .ok segs) : Shape H p ht (render H (hashSizeOf p.hash) segs) := by
  have hraw : render H (hashSizeOf p.hash) segs =
      (mkHeader p ht).enc ++ (p.ident ++ 0 :: (teamBytes p ++ ((specialBlocks H p).flatten ++ (codeBlocks H p).flatten))) := by
    unfold newCodeDirectory at e
    rw [hht] at e
    injection e with e
    rw [← e, render_append, render_append, render_lit, render_blocks, render_blocks, List.map_map]
    simp only [List.append_assoc, List.cons_append, List.nil_append]
    rfl
  have hspl : ∀ b ∈ specialBlocks H p, b.length = hashSizeOf p.hash := by
    intro b hb
    obtain ⟨o, _, rfl⟩ := List.mem_map.mp hb
    exact special_block_len H _ hH o
  have hcdl : ∀ b ∈ codeBlocks H p, b.length = hashSizeOf p.hash := by
    intro b hb
    obtain ⟨s, hs', rfl⟩ := List.mem_map.mp hb
    exact fSlot s hs'
  have hlen : (render H (hashSizeOf p.hash) segs).length =
      slotBase p + p.specials.length * hashSizeOf p.hash + p.codeSlots.length * hashSizeOf p.hash := by
    have h1 : (specialBlocks H p).flatten.length = p.specials.length * hashSizeOf p.hash := by
      rw [length_flatten_blocks _ _ hspl, specialBlocks, List.length_map]
    have h2 : (codeBlocks H p).flatten.length = p.codeSlots.length * hashSizeOf p.hash := by
      rw [length_flatten_blocks _ _ hcdl, codeBlocks, List.length_map]
    rw [hraw]
    simp only [List.length_append, List.length_cons, Header.enc_length, h1, h2, slotBase]
    omega
  have hsl := segsLen_blocks H _ hH _ fSlot
  have hbase : slotBase p = if p.team.isEmpty then 88 + p.ident.length + 1 else 88 + p.ident.length + 1 + p.team.length + 1 := by
    unfold slotBase teamBytes; split <;> simp <;> omega
  have hm1 := Nat.mul_comm (hashSizeOf p.hash) p.specials.length
  have hm2 := Nat.mul_comm (hashSizeOf p.hash) p.codeSlots.length
  refine ⟨hraw, hspl, hcdl, hlen, ?_, ?_⟩
  · rw [hlen, hbase]
    show (mkHeader p ht).length = _
    simp only [mkHeader, hsl]
    split <;> omega
  · intro h32
    rw [hlen] at h32
    have hs : hashSizeOf p.hash = 20 ∨ hashSizeOf p.hash = 32 ∨ hashSizeOf p.hash = 48 := hashSize_of_type p.hash ht hht
    have h1 : p.specials.length % 2 ^ 32 = p.specials.length := Nat.mod_eq_of_lt (by rcases hs with h | h | h <;> rw [h] at h32 <;> omega)
    have h2 : hashSizeOf p.hash % 256 = hashSizeOf p.hash := Nat.mod_eq_of_lt (by rcases hs with h | h | h <;> omega)
    rw [hbase]
    show (mkHeader p ht).hashOffset = _
    simp only [mkHeader, h1, h2]

theorem Shape.view {H : Bytes → Bytes} {p : Params} {ht : Nat} {raw : Bytes} (S : Shape H p ht raw) :
    HdrView raw (mkHeader p ht) := by
  rw [S.eq]; exact enc_view _ _

theorem Shape.drop_ident {H : Bytes → Bytes} {p : Params} {ht : Nat} {raw : Bytes} (S : Shape H p ht raw) :
    raw.drop 88 = p.ident ++ 0 :: (teamBytes p ++ ((specialBlocks H p).flatten ++ (codeBlocks H p).flatten)) := by
  rw [S.eq]; exact List.drop_left' (Header.enc_length _)

theorem Shape.drop_team {H : Bytes → Bytes} {p : Params} {ht : Nat} {raw : Bytes} (S : Shape H p ht raw) :
    raw.drop (88 + p.ident.length + 1) = teamBytes p ++ ((specialBlocks H p).flatten ++ (codeBlocks H p).flatten) := by
  rw [Nat.add_assoc, ← List.drop_drop, S.drop_ident, List.append_cons]
  exact List.drop_left' (by simp)

theorem Shape.drop_slots {H : Bytes → Bytes} {p : Params} {ht : Nat} {raw : Bytes} (S : Shape H p ht raw) :
    raw.drop (slotBase p) = (specialBlocks H p).flatten ++ (codeBlocks H p).flatten := by
  unfold slotBase
  rw [← List.drop_drop, S.drop_team]
  exact List.drop_left' rfl

theorem Shape.drop_special {H : Bytes → Bytes} {p : Params} {ht : Nat} {raw : Bytes} (S : Shape H p ht raw) (extra : Bytes) :
    (raw ++ extra).drop (slotBase p) = (specialBlocks H p).flatten ++ ((codeBlocks H p).flatten ++ extra) := by
  rw [List.drop_append_of_le_length (by rw [S.length]; omega), S.drop_slots, List.append_assoc]

theorem Shape.drop_code {H : Bytes → Bytes} {p : Params} {ht : Nat} {raw : Bytes} (S : Shape H p ht raw) (extra : Bytes) :
    (raw ++ extra).drop (slotBase p + (specialBlocks H p).length * hashSizeOf p.hash) = (codeBlocks H p).flatten ++ extra := by
  rw [← length_flatten_blocks _ _ S.spLen, ← List.drop_drop, S.drop_special, List.drop_left' rfl]

theorem teamBytes_of_ne {p : Params} (h : p.team ≠ []) : teamBytes p = p.team ++ [0] := by
  unfold teamBytes
  cases hp : p.team with
  | nil => exact absurd hp h
  | cons x xs => rfl

/-- what a reader of a marshalled directory below 4 GiB finds in the fields whose values cannot overflow -/
structure Reads (p : Params) (ht : Nat) (raw : Bytes) : Prop where
  length : be32 raw 4 = raw.length
  version : be32 raw 8 = if p.execBase ≠ 0 ∨ p.execLimit ≠ 0 ∨ p.execFlags ≠ 0 then 0x20400 else 0x20300
  hashOffset : be32 raw 16 = slotBase p + p.specials.length * hashSizeOf p.hash
  identOffset : be32 raw 20 = 88
  nSpecial : be32 raw 24 = p.specials.length
  nCode : be32 raw 28 = p.codeSlots.length
  hashSize : be8 raw 36 = hashSizeOf p.hash
  hashType : be8 raw 37 = ht
  pageShift : be8 raw 39 = if p.single then 0 else 12
  teamOffset : be32 raw 48 = if p.team.isEmpty then 0 else 88 + p.ident.length + 1

theorem Shape.statesLength {H : Bytes → Bytes} {p : Params} {ht : Nat} {raw : Bytes} (S : Shape H p ht raw)
    (h32 : raw.length < 2 ^ 32) : be32 raw 4 = raw.length :=
  S.view.length.trans ((Nat.mod_eq_of_lt (by rw [S.hdrLength]; exact h32)).trans S.hdrLength)

theorem Shape.reads {H : Bytes → Bytes} {p : Params} {ht : Nat} {raw : Bytes} (S : Shape H p ht raw)
    (hht : hashTypeOf p.hash = some ht) (fCount : p.codeSlots.length = p.codeSlotCount) (h32 : raw.length < 2 ^ 32) :
    Reads p ht raw := by
  have V := S.view
  have hsz := hashSize_of_type p.hash ht hht
  have hL := S.length
  have hHO := S.hashOffset h32
  have hnsp : p.specials.length < 2 ^ 32 := by rcases hsz with h | h | h <;> rw [h] at hL <;> omega
  have hncd : p.codeSlots.length < 2 ^ 32 := by rcases hsz with h | h | h <;> rw [h] at hL <;> omega
  refine ⟨S.statesLength h32,
    V.version.trans (Nat.mod_eq_of_lt (by show (mkHeader p ht).version < 2 ^ 32; simp only [mkHeader]; split <;> decide)),
    (V.hashOffset.trans (Nat.mod_eq_of_lt (by rw [hHO]; omega))).trans hHO, V.identOffset,
    V.nSpecial.trans (Nat.mod_eq_of_lt hnsp), ?_, ?_, V.hashType.trans (Nat.mod_eq_of_lt (hashType_lt p.hash ht hht)),
    ?_, ?_⟩
  · refine V.nCode.trans ?_
    show p.codeSlotCount % 2 ^ 32 = _
    rw [← fCount]; exact Nat.mod_eq_of_lt hncd
  · refine V.hashSize.trans ?_
    show hashSizeOf p.hash % 256 % 2 ^ 8 = hashSizeOf p.hash
    omega
  · refine V.pageShift.trans ?_
    show (mkHeader p ht).pageShift % 2 ^ 8 = _
    simp only [mkHeader]; split <;> rfl
  · refine V.teamOffset.trans ?_
    show (mkHeader p ht).teamOffset % 2 ^ 32 = _
    unfold slotBase at hL
    simp only [mkHeader]; split
    · rfl
    · exact Nat.mod_eq_of_lt (by omega)

theorem cstr_of_drop (raw s rest : Bytes) (i : Nat) (h : raw.drop i = s ++ 0 :: rest) (hs : ∀ x ∈ s, x ≠ 0) :
    cstr raw i = some s := by
  unfold cstr
  rw [h, contains_zero, if_pos rfl, List.takeWhile_append_of_pos (by simpa using hs)]
  simp

/-- what `newCodeDirectory` marshals is, for a reader of Apple's layout, a code directory with exactly the intended content -/
theorem newCodeDirectory_describes (H : Bytes → Bytes) (p : Params) (ht : Nat) (segs : List Seg)
    (hht : hashTypeOf p.hash = some ht) (F : Fits H p) (e : newCodeDirectory p = .ok segs) :
    Describes (render H (hashSizeOf p.hash) segs) (contentOf H p ht) := by
  obtain ⟨hH, fSlot, fCount, fIdent, fTeam, fFlags, hsize, fLimit, fEB, fEL, fEF⟩ := F
  have S := newCodeDirectory_shape H p ht segs hht hH fSlot e
  generalize render H (hashSizeOf p.hash) segs = raw at S ⊢
  have V := S.view
  have htp : (teamBytes p).length ≤ p.team.length + 1 := by unfold teamBytes; split <;> simp
  have hL := S.length
  have hmulc1 := Nat.mul_comm (hashSizeOf p.hash) p.specials.length
  have hmulc2 := Nat.mul_comm (hashSizeOf p.hash) p.codeSlots.length
  have h32 : raw.length < 2 ^ 32 := by rw [hL]; unfold slotBase; omega
  have R := S.reads hht fCount h32
  have hho : u32 raw 16 = slotBase p + p.specials.length * hashSizeOf p.hash := R.hashOffset
  refine
    { magic := V.magic, length := R.length, version := R.version
      flags := V.flags.trans (Nat.mod_eq_of_lt fFlags)
      nSpecial := R.nSpecial, nCode := R.nCode.trans fCount
      codeLimit := V.codeLimit.trans (Nat.mod_eq_of_lt (by
        show (mkHeader p ht).codeLimit < 2 ^ 32
        simp only [mkHeader]; split <;> omega))
      hashSize := R.hashSize, hashType := R.hashType, platform := V.platform, pageSize := R.pageShift
      spare2 := V.spare2, scatter := V.scatter, spare3 := V.spare3
      codeLimit64 := V.codeLimit64.trans (Nat.mod_eq_of_lt (by
        show (mkHeader p ht).codeLimit64 < 2 ^ 64
        simp only [mkHeader]; split <;> omega))
      execBase := V.execBase.trans (Nat.mod_eq_of_lt fEB)
      execLimit := V.execLimit.trans (Nat.mod_eq_of_lt fEL)
      execFlags := V.execFlags.trans (Nat.mod_eq_of_lt fEF)
      ident := ?_, team := ?_, slotsInside := ?_, codeSlot := ?_, specialSlot := ?_ }
  · rw [show u32 raw 20 = 88 from R.identOffset]
    exact cstr_of_drop raw _ _ 88 S.drop_ident fIdent
  · show if p.team = [] then _ else _
    by_cases ht0 : p.team = []
    · rw [if_pos ht0]
      exact R.teamOffset.trans (if_pos (by rw [ht0]; rfl))
    · rw [if_neg ht0]
      have hto : u32 raw 48 = 88 + p.ident.length + 1 := R.teamOffset.trans (if_neg (by simpa using ht0))
      rw [hto]
      show cstr raw (88 + p.ident.length + 1) = some p.team
      refine cstr_of_drop raw _ ((specialBlocks H p).flatten ++ (codeBlocks H p).flatten) _ ?_ fTeam
      rw [S.drop_team, teamBytes_of_ne ht0]; simp
  · rw [hho, hL]
    show p.specials.length * hashSizeOf p.hash ≤ _ ∧ _ + p.codeSlotCount * hashSizeOf p.hash ≤ _
    rw [← fCount]
    omega
  · intro i hi
    have hi' : i < (codeBlocks H p).length := by rw [codeBlocks, List.length_map, fCount]; exact hi
    have hw := block_window _ _ _ _ _ (S.drop_code []) S.cdLen i hi'
    rw [List.append_nil, specialBlocks, List.length_map] at hw
    rw [hho]
    refine hw.trans ?_
    rw [codeBlocks, List.length_map] at hi'
    simp [contentOf, codeBlocks, List.getD, hi']
  · intro k hk1 hk2
    have hk2' : k ≤ (specialBlocks H p).length := by rw [specialBlocks, List.length_map]; exact hk2
    have hw := block_window_rev _ _ _ _ _ (S.drop_special []) S.spLen k hk1 hk2'
    rw [List.append_nil] at hw
    simp only [specialBlocks, List.length_map] at hw
    rw [hho]
    refine hw.trans ?_
    have hidx' : p.specials.length - k < p.specials.length := by have : k ≤ p.specials.length := hk2; omega
    simp [contentOf, List.getD, hidx']

end Relic.CodeDir
