/- lemmas about Relic.Model.Der: length codec, TLV, element splitting.  The walkers of `Model/Der` that its section heads
   mark "tie" (`orParse`, `sdWalk`, `siAab`, `ciContent`, `detachCI`, `sortBytes`, `algForest`, `crlForest`, `optList`,
   `sdForest`) are run by the drivers against Go only: no lemma here or in `DerTree` / `DerResynth` speaks of them. -/
import Relic.Model.Der
import Relic.Proofs.Codec
namespace Relic.Der

theorem lenLen_pos (n : Nat) : 0 < lenLen n := by
  rw [lenLen]; split <;> omega

theorem lenLen_spec (n : Nat) (h : 0 < n) : 256 ^ (lenLen n - 1) ≤ n ∧ n < 256 ^ lenLen n := by
  induction n using lenLen.induct with
  | case1 n hn => rw [lenLen, if_pos hn]; omega
  | case2 n hn ih =>
    obtain ⟨lo, hi⟩ := ih (by omega)
    obtain ⟨j, hj⟩ := Nat.exists_eq_add_of_lt (lenLen_pos (n / 256))
    rw [lenLen, if_neg hn, Nat.add_sub_cancel, Nat.pow_succ]
    rw [hj] at lo hi ⊢
    simp only [Nat.zero_add, Nat.add_sub_cancel, Nat.pow_succ] at lo hi ⊢
    omega

theorem lenLen_eq (k n : Nat) (lo : 256 ^ k ≤ n) (hi : n < 256 ^ (k + 1)) : lenLen n = k + 1 := by
  obtain ⟨lo', hi'⟩ := lenLen_spec n (Nat.lt_of_lt_of_le (Nat.pow_pos (by decide)) lo)
  have h1 := (Nat.pow_lt_pow_iff_right (by decide : 1 < 256)).1 (Nat.lt_of_le_of_lt lo' hi)
  have h2 := (Nat.pow_lt_pow_iff_right (by decide : 1 < 256)).1 (Nat.lt_of_le_of_lt lo hi')
  omega

/-- The long-form loop reads exactly `k` octets `ds` as base-256 digits behind `acc`.  Go's two checks
    (accumulator below 2^23 before every shift, no zero accumulator after one) come to
    `256 ^ (k - 1) ≤ n < 2 ^ 31` for the result: the first says the leading digit is not zero. -/
theorem decLenLoop_ok (k acc : Nat) (bs : Bytes) (n : Nat) (r : Bytes) :
    decLenLoop k acc bs = .ok (n, r) ↔
      ∃ ds, ds.length = k ∧ bs = ds ++ r ∧ n = acc * 256 ^ k + beVal ds ∧
        (k = 0 ∨ 256 ^ (k - 1) ≤ n ∧ n < 2 ^ 31) := by
  induction k generalizing acc bs n with
  | zero =>
    simp only [decLenLoop, Res.ok.injEq, Prod.mk.injEq]
    constructor
    · rintro ⟨rfl, rfl⟩
      exact ⟨[], rfl, rfl, by simp [beVal], by simp⟩
    · rintro ⟨ds, hl, rfl, rfl, _⟩
      cases List.length_eq_zero_iff.1 hl
      simp [beVal]
  | succ k ih =>
    cases bs with
    | nil =>
      simp only [decLenLoop]
      constructor
      · intro h; cases h
      · rintro ⟨ds, hl, he, _⟩
        cases ds with
        | nil => cases hl
        | cons _ _ => cases he
    | cons b bs =>
      have hb := b.toNat_lt
      have hp : 0 < 256 ^ k := Nat.pow_pos (by decide)
      have hs (v : Nat) : (acc * 256 + b.toNat) * 256 ^ k + v = acc * 256 ^ (k + 1) + (b.toNat * 256 ^ k + v) := by
        rw [Nat.pow_succ, Nat.add_mul, Nat.mul_assoc, Nat.mul_comm 256, Nat.add_assoc]
      simp only [decLenLoop]
      constructor
      · intro h
        split at h
        · cases h
        split at h
        · cases h
        rename_i h23 h0
        obtain ⟨ds, hl, rfl, rfl, hk⟩ := (ih _ _ _).1 h
        refine ⟨b :: ds, by simp [hl], rfl, by rw [hs, beVal, hl], .inr ?_⟩
        rw [Nat.add_sub_cancel]
        rcases hk with rfl | ⟨_, hi⟩
        · have : ds = [] := List.length_eq_zero_iff.1 hl
          subst this
          simp only [beVal, Nat.pow_zero]
          omega
        · have := Nat.le_mul_of_pos_left (256 ^ k) (Nat.pos_of_ne_zero h0)
          omega
      · rintro ⟨ds, hl, he, rfl, hk⟩
        cases ds with
        | nil => cases hl
        | cons d ds =>
          simp only [List.cons_append, List.cons.injEq] at he
          obtain ⟨rfl, rfl⟩ := he
          simp only [List.length_cons, Nat.add_right_cancel_iff] at hl
          subst hl
          rw [beVal, ← hs] at hk ⊢
          rw [Nat.add_sub_cancel] at hk
          have hv := beVal_lt ds
          have hlo := hk.resolve_left (by omega)
          have hm : acc * 256 + b.toNat ≤ (acc * 256 + b.toNat) * 256 ^ ds.length := Nat.le_mul_of_pos_right _ hp
          rw [if_neg (by omega), if_neg]
          · refine (ih _ _ _).2 ⟨ds, rfl, rfl, rfl, ?_⟩
            rcases Nat.eq_zero_or_pos ds.length with h0 | _
            · exact .inl h0
            · have := Nat.pow_le_pow_right (by decide : 256 > 0) (Nat.sub_le ds.length 1)
              exact .inr ⟨by omega, hlo.2⟩
          · intro h0
            rw [h0] at hlo
            omega

theorem decLen_encLen (n : Nat) (rest : Bytes) (h : n < 2 ^ 31) : decLen (encLen n ++ rest) = .ok (n, rest) := by
  unfold encLen
  by_cases h0 : n < 128
  · simp [h0, decLen, toNat_ofNat_lt n (by omega)]
  · obtain ⟨lo, hi⟩ := lenLen_spec n (by omega)
    have hp := lenLen_pos n
    have hk : lenLen n - 1 < 4 := (Nat.pow_lt_pow_iff_right (by decide : 1 < 256)).1 (by omega)
    have hl : decLenLoop (lenLen n) 0 (beBytes (lenLen n) n ++ rest) = .ok (n, rest) :=
      (decLenLoop_ok ..).2 ⟨_, beBytes_length _ _, rfl, by rw [beVal_beBytes_of_lt _ _ hi]; omega, .inr ⟨lo, h⟩⟩
    have hm : (128 + lenLen n) % 128 = lenLen n := by omega
    simp only [h0, if_false, decLen, List.cons_append, toNat_ofNat_lt (128 + lenLen n) (by omega)]
    rw [if_neg (by omega), if_neg (by omega), hm, hl]
    simp only [h0, if_false]

theorem decLen_long (b : UInt8) (bs : Bytes) (n : Nat) (rest : Bytes) (hb : ¬ b.toNat < 128)
    (h : decLen (b :: bs) = .ok (n, rest)) :
    b.toNat % 128 ≠ 0 ∧ decLenLoop (b.toNat % 128) 0 bs = .ok (n, rest) ∧ 128 ≤ n := by
  simp only [decLen, hb, if_false] at h
  split at h
  · cases h
  · cases hl : decLenLoop (b.toNat % 128) 0 bs with
    | ok p =>
      obtain ⟨n', r'⟩ := p
      rw [hl] at h
      simp only at h
      split at h
      · cases h
      · simp only [Res.ok.injEq, Prod.mk.injEq] at h
        obtain ⟨h1, h2⟩ := h; subst h1 h2
        exact ⟨by assumption, rfl, by omega⟩
    | err e => rw [hl] at h; cases h
    | panic s => rw [hl] at h; cases h
    | diverge => rw [hl] at h; cases h

theorem decLen_ok {bs : Bytes} {n : Nat} {r : Bytes} : decLen bs = .ok (n, r) ↔ bs = encLen n ++ r ∧ n < 2 ^ 31 := by
  refine ⟨fun h => ?_, fun ⟨e, h⟩ => e ▸ decLen_encLen n r h⟩
  cases bs with
  | nil => simp [decLen] at h
  | cons b bs =>
    have lb := b.toNat_lt
    by_cases hb : b.toNat < 128
    · simp only [decLen, hb, if_true, Res.ok.injEq, Prod.mk.injEq] at h
      obtain ⟨h1, h2⟩ := h; subst h1 h2
      simp [encLen, hb]
      omega
    · obtain ⟨hk, hl, hn⟩ := decLen_long b bs n r hb h
      obtain ⟨ds, hd, rfl, hv, hr⟩ := (decLenLoop_ok ..).1 hl
      obtain ⟨lo, hi⟩ := hr.resolve_left hk
      rw [Nat.zero_mul, Nat.zero_add] at hv
      -- `n` has exactly as many digits as were read, so `encLen n` writes the same octets
      have hlen : lenLen n = b.toNat % 128 := by
        have := beVal_lt ds
        rw [lenLen_eq (b.toNat % 128 - 1) n lo (by rw [Nat.sub_add_cancel (by omega), ← hd, hv]; exact this)]
        omega
      have hb' : UInt8.ofNat (128 + b.toNat % 128) = b := by
        rw [show 128 + b.toNat % 128 = b.toNat by omega, UInt8.ofNat_toNat]
      refine ⟨?_, hi⟩
      rw [encLen, if_neg (by omega), hlen, hb', ← hd, hv, beBytes_beVal]
      rfl

/-- a length reader that takes its octets off the front: what it returns is what follows them -/
def Consumes (dl : Bytes → Res (Nat × Bytes)) : Prop := ∀ b n r, dl b = .ok (n, r) → ∃ hd, b = hd ++ r

theorem decLen_consumes : Consumes decLen := fun _ n _ h => ⟨encLen n, (decLen_ok.mp h).1⟩

theorem untlv_tlv (t : UInt8) (c rest : Bytes) (ht : highTag t = false) (hc : c.length < 2 ^ 31) :
    untlv (tlv t c ++ rest) = .ok (t, c, rest) := by
  simp only [untlv, tlv, untlvWith, List.cons_append, ht, List.append_assoc, decLen_encLen _ _ hc]
  simp

theorem untlv_one (t : UInt8) (c : Bytes) (ht : highTag t = false) (hc : c.length < 2 ^ 31) :
    untlv (tlv t c) = .ok (t, c, []) := by
  have := untlv_tlv t c [] ht hc
  rwa [List.append_nil] at this

theorem untlvWith_ok {dl} {bs : Bytes} {t : UInt8} {c rest : Bytes} :
    untlvWith dl bs = .ok (t, c, rest) ↔
      ∃ tl n r, bs = t :: tl ∧ highTag t = false ∧ dl tl = .ok (n, r) ∧ n ≤ r.length ∧
        c = r.take n ∧ rest = r.drop n := by
  constructor
  · revert bs
    intro bs
    fun_cases untlvWith dl bs
    case case4 x xs hx n r hd hn =>
      rintro ⟨⟩
      exact ⟨xs, n, r, rfl, by simpa using hx, hd, by omega, rfl, rfl⟩
    all_goals nofun
  · rintro ⟨tl, n, r, rfl, ht, hd, hn, rfl, rfl⟩
    simp [untlvWith, ht, hd, hn]

theorem untlvWith_head (dl) (bs : Bytes) (t : UInt8) (c rest : Bytes) (h : untlvWith dl bs = .ok (t, c, rest)) :
    ∃ tl, bs = t :: tl ∧ highTag t = false := by
  obtain ⟨tl, _, _, e, ht, _⟩ := untlvWith_ok.mp h
  exact ⟨tl, e, ht⟩

theorem untlv_inv (bs : Bytes) (t : UInt8) (c rest : Bytes) (h : untlv bs = .ok (t, c, rest)) :
    bs = tlv t c ++ rest ∧ highTag t = false ∧ c.length < 2 ^ 31 := by
  obtain ⟨tl, n, r, rfl, ht, hd, hn, rfl, rfl⟩ := untlvWith_ok.mp h
  obtain ⟨rfl, hn31⟩ := decLen_ok.mp hd
  have hl : (List.take n r).length = n := by simp; omega
  refine ⟨?_, ht, by omega⟩
  simp only [tlv, hl, List.cons_append, List.append_assoc, List.take_append_drop]

theorem untlv_take (bs : Bytes) (t : UInt8) (c rest : Bytes) (h : untlv bs = .ok (t, c, rest)) :
    bs.take (bs.length - rest.length) = tlv t c := by
  obtain ⟨e, _, _⟩ := untlv_inv _ _ _ _ h
  rw [e]; simp

theorem retagSet_tlv (c : Bytes) : retagSet (tlv 0x30 c) = .ok (tlv 0x31 c) := by
  simp only [retagSet, tlv]
  rw [if_neg (by decide)]
  rfl

theorem tlv_ne_nil (t : UInt8) (c : Bytes) : tlv t c ≠ [] := by simp [tlv]

theorem tlv_length (t : UInt8) (c : Bytes) : (tlv t c).length = 1 + (encLen c.length).length + c.length := by
  simp [tlv]; omega

theorem len_le_tlv (t : UInt8) (c : Bytes) : c.length ≤ (tlv t c).length := by rw [tlv_length]; omega

theorem tlv_content_infix (t : UInt8) (c : Bytes) : c <:+: tlv t c := by
  refine ⟨t :: encLen c.length, [], ?_⟩
  simp [tlv]

theorem untlv_infix {bs : Bytes} {t : UInt8} {c rest : Bytes} (h : untlv bs = .ok (t, c, rest)) : c <:+: bs ∧ rest <:+ bs := by
  obtain ⟨e, _, _⟩ := untlv_inv _ _ _ _ h
  rw [e]
  exact ⟨(tlv_content_infix t c).trans (List.prefix_append _ _).isInfix, List.suffix_append _ _⟩

theorem splitTLVs_nil : splitTLVs [] = .ok [] := by
  rw [splitTLVs]; simp

theorem splitTLVs_cons (t : UInt8) (c rest : Bytes) (ht : highTag t = false) (hc : c.length < 2 ^ 31) :
    splitTLVs (tlv t c ++ rest) =
      match splitTLVs rest with
      | .ok l => .ok (⟨tlv t c, t, c⟩ :: l)
      | e => e := by
  rw [splitTLVs]
  have hne : (tlv t c ++ rest).isEmpty = false := by simp [tlv]
  rw [hne, if_neg (by simp)]
  split
  · rename_i t' c' rest' hu
    rw [untlv_tlv t c rest ht hc] at hu
    simp only [Res.ok.injEq, Prod.mk.injEq] at hu
    obtain ⟨rfl, rfl, rfl⟩ := hu
    simp
    cases splitTLVs rest <;> rfl
  all_goals (rename_i hu; rw [untlv_tlv t c rest ht hc] at hu; cases hu)

theorem splitTLVs_one (t : UInt8) (c : Bytes) (ht : highTag t = false) (hc : c.length < 2 ^ 31) :
    splitTLVs (tlv t c) = .ok [⟨tlv t c, t, c⟩] := by
  have := splitTLVs_cons t c [] ht hc
  rw [splitTLVs_nil] at this
  simpa using this

theorem splitTLVs_flatMap (l : List (UInt8 × Bytes)) (h : ∀ p ∈ l, highTag p.1 = false ∧ p.2.length < 2 ^ 31) :
    splitTLVs (l.flatMap (fun p => tlv p.1 p.2)) = .ok (l.map (fun p => ⟨tlv p.1 p.2, p.1, p.2⟩)) := by
  induction l with
  | nil => simpa using splitTLVs_nil
  | cons p l ih =>
    have hp := h p (by simp)
    simp only [List.flatMap_cons, List.map_cons]
    rw [splitTLVs_cons _ _ _ hp.1 hp.2, ih (fun q hq => h q (by simp [hq]))]

theorem splitTLVs_inv (bs : Bytes) (l : List RawVal) (h : splitTLVs bs = .ok l) :
    bs = l.flatMap (·.full) ∧
      ∀ v ∈ l, v.full = tlv v.tag v.bytes ∧ highTag v.tag = false ∧ v.bytes.length < 2 ^ 31 := by
  revert l
  fun_induction splitTLVs bs
  case case1 bs he =>
    rintro _ ⟨⟩
    simp at he
    simp [he]
  case case2 bs _ t c rest hu l' hs ih =>
    rintro _ ⟨⟩
    obtain ⟨e, ht, hc⟩ := untlv_inv _ _ _ _ hu
    obtain ⟨e', hall⟩ := ih l' hs
    simp only [List.flatMap_cons, untlv_take _ _ _ _ hu]
    refine ⟨by rw [← e']; exact e, ?_⟩
    intro v hv
    simp only [List.mem_cons] at hv
    rcases hv with rfl | hv
    · exact ⟨rfl, ht, hc⟩
    · exact hall v hv
  case case3 bs _ _ _ rest _ hno _ =>
    intro l h
    exact absurd h (hno l)
  all_goals nofun

theorem appendAttr_absent (l : List Attr) (oid v : Bytes) (h : ∀ a ∈ l, a.oid ≠ oid) :
    appendAttr l oid v = l ++ [⟨oid, ⟨[], 0x31, v⟩⟩] := by
  induction l with
  | nil => rfl
  | cons a l ih =>
    have ha := h a (by simp)
    simp only [appendAttr, ha, if_false, List.cons_append]
    rw [ih (fun b hb => h b (by simp [hb]))]

theorem attrListBytes_eq (l : List Attr) : attrListBytes l = .ok (tlv 0x31 (attrsContent l)) := by
  simp [attrListBytes, encAttrList, retagSet_tlv]

theorem emitSignerInfo_split (pre post : List (UInt8 × Bytes)) (attrs : List Attr) :
    emitSignerInfo pre (some attrs) post =
      tlv 0x30 ((pre ++ (0xA0, attrsContent attrs) :: post).flatMap (fun p => tlv p.1 p.2)) := by
  simp [emitSignerInfo, emitAuthAttrs]

theorem authAttrBytes_emit (pre post : List (UInt8 × Bytes)) (attrs attrs' : List Attr)
    (hpre : pre.length = 3)
    (hwf : ∀ p ∈ pre ++ post, highTag p.1 = false ∧ p.2.length < 2 ^ 31)
    (htot : ((pre ++ (0xA0, attrsContent attrs) :: post).flatMap (fun p => tlv p.1 p.2)).length < 2 ^ 31) :
    authAttrBytes ⟨emitSignerInfo pre (some attrs) post, attrs'⟩ = .ok (tlv 0x31 (attrsContent attrs)) := by
  rw [emitSignerInfo_split]
  -- the attributes are one of the elements, so they are shorter than the whole
  have ha : (attrsContent attrs).length < 2 ^ 31 := by
    have : (attrsContent attrs).length ≤
        ((pre ++ (0xA0, attrsContent attrs) :: post).flatMap (fun p => tlv p.1 p.2)).length := by
      simp [tlv]; omega
    omega
  have hall : ∀ p ∈ pre ++ (0xA0, attrsContent attrs) :: post, highTag p.1 = false ∧ p.2.length < 2 ^ 31 := by
    intro p hp
    simp only [List.mem_append, List.mem_cons] at hp
    rcases hp with hp | rfl | hp
    · exact hwf p (by simp [hp])
    · exact ⟨(by decide : highTag 0xA0 = false), ha⟩
    · exact hwf p (by simp [hp])
  have hu := untlv_one 0x30 _ (by decide) htot
  have hne : (tlv 0x30 ((pre ++ (0xA0, attrsContent attrs) :: post).flatMap (fun p => tlv p.1 p.2))).isEmpty = false := by
    simp [tlv]
  simp only [authAttrBytes, hne, hu, splitTLVs_flatMap _ hall]
  match pre, hpre with
  | [a, b, c], _ => simp [retagSet_tlv]

/-- for a parsed signer info: whenever `AuthenticatedAttributesBytes` succeeds, the input is a
    SEQUENCE whose fourth element `e` stands in the input minimally encoded, and the result is that
    element with its identifier octet replaced by 0x31 -/
theorem authAttrBytes_parsed (si : SignerInfo) (out : Bytes) (hne : si.rawContent ≠ [])
    (h : authAttrBytes si = .ok out) :
    ∃ (c trailing : Bytes) (seq : List RawVal) (e : RawVal), si.rawContent = tlv 0x30 c ++ trailing ∧ c = seq.flatMap (·.full) ∧
      seq[3]? = some e ∧ e.full = tlv e.tag e.bytes ∧ out = tlv 0x31 e.bytes := by
  revert h
  fun_cases authAttrBytes si
  case case1 he =>
    exact absurd (List.isEmpty_iff.mp he) hne
  case case4 _ t c trailing hu ht seq hs e h3 =>
    intro h
    cases Decidable.of_not_not ht
    rw [retagSet_tlv, Res.ok.injEq] at h
    obtain ⟨e1, _, _⟩ := untlv_inv _ _ _ _ hu
    obtain ⟨e2, hall⟩ := splitTLVs_inv _ _ hs
    exact ⟨c, trailing, seq, e, e1, e2, h3, (hall e (List.mem_of_getElem? h3)).1, h.symm⟩
  all_goals nofun

end Relic.Der
