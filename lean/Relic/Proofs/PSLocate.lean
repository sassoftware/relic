/- the verifier's scan on the signed script (UTF-8 and UTF-16LE): it finds exactly the base64 lines `MakePatch` wrote -/
import Relic.Proofs.PSFrame
import Relic.Proofs.Codec
namespace Relic.PS

/-- alphabet or padding -/
def okChar (c : UInt8) : Bool := isB64 c || c == 61

theorem b64char_ok : ∀ n, n < 64 → isB64 (b64char n) = true := by decide

theorem base64_ok (x : Bytes) : b64okF (base64 x) = true ∧ (base64 x).all okChar = true := by
  fun_induction base64 x with
  | case1 a b c rest n ih =>
    obtain ⟨i1, i2⟩ := ih
    have h1 := b64char_ok (n / 262144) (by have := a.toNat_lt; have := b.toNat_lt; have := c.toNat_lt; omega)
    have h2 := b64char_ok (n / 4096 % 64) (by omega)
    have h3 := b64char_ok (n / 64 % 64) (by omega)
    have h4 := b64char_ok (n % 64) (by omega)
    refine ⟨?_, ?_⟩
    · simp only [List.cons_append, List.nil_append, b64okF]
      split
      · simp [h1, h2, h3, h4]
      · simp [h1, h2, h3, h4, i1]
    · simp [okChar, h1, h2, h3, h4, i2]
  | case2 a b n =>
    have h1 := b64char_ok (n / 262144) (by have := a.toNat_lt; have := b.toNat_lt; omega)
    have h2 := b64char_ok (n / 4096 % 64) (by omega)
    have h3 := b64char_ok (n / 64 % 64) (by omega)
    simp [b64okF, okChar, h1, h2, h3]
  | case3 a n =>
    have h1 := b64char_ok (n / 262144) (by have := a.toNat_lt; omega)
    have h2 := b64char_ok (n / 4096 % 64) (by omega)
    simp [b64okF, okChar, h1, h2]
  | case4 => simp [b64okF]

/-- a cut at a quantum boundary leaves padding in the last quantum only -/
theorem b64ok_take_drop (m : Nat) (s : Bytes) (h : b64okF s = true) :
    b64okF (s.take (4 * m)) = true ∧ b64okF (s.drop (4 * m)) = true := by
  induction m generalizing s with
  | zero => simp [b64okF, h]
  | succ m ih =>
    match s, h with
    | [], _ => simp [b64okF]
    | [_], h => simp [b64okF] at h
    | [_, _], h => simp [b64okF] at h
    | [_, _, _], h => simp [b64okF] at h
    | a :: b :: c :: d :: rest, h =>
      have e4 : 4 * (m + 1) = 4 * m + 4 := by omega
      simp only [e4, List.take_succ_cons, List.drop_succ_cons]
      simp only [b64okF] at h
      by_cases hr : rest.isEmpty = true
      · have : rest = [] := by simpa using hr
        subst this
        simp only [List.take_nil, List.drop_nil]
        simp only [List.isEmpty_nil, if_true] at h
        refine ⟨?_, by simp [b64okF]⟩
        simp only [b64okF, List.isEmpty_nil, if_true]
        exact h
      · rw [if_neg hr] at h
        simp only [Bool.and_eq_true] at h
        obtain ⟨⟨⟨⟨ha, hb⟩, hc⟩, hd⟩, hrest⟩ := h
        obtain ⟨i1, i2⟩ := ih rest hrest
        refine ⟨?_, i2⟩
        simp only [b64okF]
        split
        · simp [ha, hb, hc, hd]
        · simp [ha, hb, hc, hd, i1]

theorem locate_skip (guard : Bool) (st en first last : Bytes) (u16 : Bool) (more : List Item) (hm : more ≠ []) :
    ∀ (xs : List Item) (acc : List Bytes), Good xs → NoMarker first xs →
      locateLoop guard st en first last u16 (xs ++ more) false acc = locateLoop guard st en first last u16 more false acc := by
  intro xs
  induction xs with
  | nil => intro _ _ _; rfl
  | cons it xs ih =>
    intro acc hg hn
    obtain ⟨b, hb⟩ := hg it (by simp)
    subst hb
    have hne : (xs ++ more).isEmpty = false := by
      cases xs with
      | nil => cases more with
        | nil => exact absurd rfl hm
        | cons _ _ => rfl
      | cons _ _ => rfl
    have hb : b ≠ first := hn b b.length (by simp)
    simp only [List.cons_append, locateLoop, hne, Bool.false_eq_true, if_false, false_and, if_neg hb]
    exact ih acc (fun y hy => hg y (by simp [hy])) (fun l ph hl => hn l ph (by simp [hl]))

theorem style_nolf (style : Nat) (st en : Bytes) (hs : styleOf style = some (st, en)) :
    (∀ y ∈ st, y ≠ 10) ∧ (∀ y ∈ en, y ≠ 10) ∧ (∀ y ∈ st ++ psEnd ++ en ++ [13], y ≠ 10) :=
  styleOf_cases (fun st en => (∀ y ∈ st, y ≠ 10) ∧ (∀ y ∈ en, y ≠ 10) ∧ ∀ y ∈ st ++ psEnd ++ en ++ [13], y ≠ 10) style st en hs
    (by decide +kernel) (by decide +kernel) (by decide +kernel)

theorem okChar_facts : okChar 10 = false ∧ okChar 13 = false ∧ psEnd.all okChar = false := by decide

theorem hasSuffix_append (r s : Bytes) : hasSuffix (r ++ s) s = true := by
  simp only [hasSuffix, List.length_append, Nat.add_sub_cancel, List.drop_left, beq_self_eq_true, Bool.and_true,
    decide_eq_true_eq]
  omega

theorem sigline_step (st en c : Bytes) (hc : c.all okChar = true) (hb : b64okF c = true) (hne : c ≠ psEnd)
    (rest : List Item) (hr : rest ≠ []) (acc : List Bytes) (ph : Nat) :
    locateLoop true st en (firstLine st en false) (lastLine st en false) false
      (.line (st ++ c ++ en ++ crlf) ph :: rest) true acc =
    locateLoop true st en (firstLine st en false) (lastLine st en false) false rest true (c :: acc) := by
  -- one pass of `locateLoop` over the line `st ++ c ++ en ++ crlf`: each `have` discharges one test of the loop, in the loop's order
  have hre : rest.isEmpty = false := by cases rest with | nil => exact absurd rfl hr | cons _ _ => rfl
  have hlast : st ++ c ++ en ++ crlf ≠ lastLine st en false := by
    intro h
    simp only [lastLine, Bool.false_eq_true, if_false, List.append_assoc] at h
    have h1 := List.append_cancel_left h
    have : c ++ (en ++ crlf) = psEnd ++ (en ++ crlf) := h1
    exact hne (List.append_cancel_right this)
  have hpre : hasPrefix (st ++ c ++ en ++ crlf) st = true := by
    simp [hasPrefix, List.append_assoc]
  have hsuf : hasSuffix (st ++ c ++ en ++ crlf) (en ++ crlf) = true := by
    rw [List.append_assoc (st ++ c)]
    exact hasSuffix_append _ _
  have hpay : ((st ++ c ++ en ++ crlf).drop st.length).take ((st ++ c ++ en ++ crlf).length - en.length - 2 - st.length) = c := by
    have e : st ++ c ++ en ++ crlf = st ++ (c ++ (en ++ crlf)) := by simp [List.append_assoc]
    rw [e, List.drop_left' rfl]
    have : (st ++ (c ++ (en ++ crlf))).length - en.length - 2 - st.length = c.length := by
      simp [List.length_append, crlf]; omega
    rw [this, List.take_left' rfl]
  have hj : ¬ ((st ++ c ++ en ++ crlf).length - en.length - 2 < st.length) := by
    simp [List.length_append, crlf]; omega
  have hok : b64ok c = true := by
    unfold b64ok
    have : c.filter (fun x => x != 10 && x != 13) = c := by
      apply List.filter_eq_self.mpr
      intro y hy
      have hy' := (List.all_eq_true.mp hc) y hy
      have f := okChar_facts
      have h10 : y ≠ 10 := by intro h; rw [h, f.1] at hy'; cases hy'
      have h13 : y ≠ 13 := by intro h; rw [h, f.2.1] at hy'; cases hy'
      simp [h10, h13]
    rw [this]; exact hb
  simp only [locateLoop, hre, Bool.false_eq_true, if_false, true_and, if_neg hlast, if_true, hpre, hsuf, Bool.not_true,
    Bool.or_self, if_neg hj, hpay, hok]

theorem sig_scan8 (style : Nat) (st en : Bytes) (hs : styleOf style = some (st, en)) :
    ∀ (fuel : Nat) (b : Bytes) (acc : List Bytes), b.length ≤ fuel → b64okF b = true → b.all okChar = true →
      locateLoop true st en (firstLine st en false) (lastLine st en false) false
        (lines8 [] (sigLines st en fuel b ++ (st ++ psEnd ++ en ++ crlf))) true acc
      = .ok (acc.reverse ++ chunks64 fuel b) := by
  obtain ⟨nst, nen, nlast⟩ := style_nolf style st en hs
  -- the end marker, then the empty line returned with io.EOF
  have hend : ∀ acc, locateLoop true st en (firstLine st en false) (lastLine st en false) false
      (lines8 [] (st ++ psEnd ++ en ++ crlf)) true acc = .ok acc.reverse := by
    intro acc
    have e : st ++ psEnd ++ en ++ crlf = (st ++ psEnd ++ en ++ [13]) ++ 10 :: [] := by simp [crlf, List.append_assoc]
    rw [e, lines8_nolf [] _ [] nlast]
    have hl : [] ++ (st ++ psEnd ++ en ++ [13]) ++ [10] = lastLine st en false := by
      simp [lastLine, crlf, List.append_assoc]
    rw [hl]
    simp [locateLoop, lines8]
  intro fuel
  induction fuel with
  | zero =>
    intro b acc hl _ _
    have : b = [] := by cases b with | nil => rfl | cons _ _ => simp at hl
    subst this
    simp only [sigLines, chunks64, List.nil_append, List.append_nil]
    exact hend acc
  | succ fuel ih =>
    intro b acc hl hb hc
    by_cases hbe : b.isEmpty = true
    · simp only [sigLines, chunks64, hbe, if_true, List.nil_append, List.append_nil]
      exact hend acc
    · simp only [sigLines, chunks64, hbe, Bool.false_eq_true, if_false]
      -- 16 quanta of 4 characters: the 64 characters of a line of `sigLines`
      obtain ⟨t1, t2⟩ := b64ok_take_drop 16 b hb
      have call : ∀ y ∈ b, okChar y = true := List.all_eq_true.mp hc
      have ctake : (b.take 64).all okChar = true := List.all_eq_true.mpr fun y hy => call y (List.mem_of_mem_take hy)
      have cdrop : (b.drop 64).all okChar = true := List.all_eq_true.mpr fun y hy => call y (List.mem_of_mem_drop hy)
      have f := okChar_facts
      have hne : b.take 64 ≠ psEnd := by
        intro h; rw [h] at ctake; rw [f.2.2] at ctake; cases ctake
      have nolf : ∀ y ∈ st ++ b.take 64 ++ en ++ [13], y ≠ 10 := by
        intro y hy
        simp only [List.mem_append, List.mem_singleton] at hy
        rcases hy with ((hy | hy) | hy) | hy
        · exact nst y hy
        · intro h; have := List.all_eq_true.mp ctake y hy; rw [h, f.1] at this; cases this
        · exact nen y hy
        · rw [hy]; decide
      have e : st ++ b.take 64 ++ en ++ crlf ++ sigLines st en fuel (b.drop 64) ++ (st ++ psEnd ++ en ++ crlf) =
          (st ++ b.take 64 ++ en ++ [13]) ++ 10 :: (sigLines st en fuel (b.drop 64) ++ (st ++ psEnd ++ en ++ crlf)) := by
        simp [crlf, List.append_assoc]
      rw [e, lines8_nolf [] _ _ nolf]
      have hl2 : [] ++ (st ++ b.take 64 ++ en ++ [13]) ++ [10] = st ++ b.take 64 ++ en ++ crlf := by
        simp [crlf, List.append_assoc]
      rw [hl2, sigline_step st en (b.take 64) ctake t1 hne _ (lines8_ne_nil _ _)]
      rw [ih (b.drop 64) (b.take 64 :: acc) (by simp only [List.length_drop]; omega) t2 cdrop]
      simp

theorem widen_inj (a b : Bytes) (h : widen a = widen b) : a = b := by
  induction a generalizing b with
  | nil => cases b with
    | nil => rfl
    | cons y ys => simp [widen] at h
  | cons x xs ih => cases b with
    | nil => simp [widen] at h
    | cons y ys =>
      rw [widen_cons, widen_cons] at h
      injection h with h1 h2
      injection h2 with _ h3
      rw [h1, ih ys h3]

theorem encUtf8_ascii (x : UInt8) (h : x.toNat < 128) : encUtf8 x.toNat = [x] := by
  unfold encUtf8
  rw [if_pos h]
  simp

theorem fromUtf16_widen (l : Bytes) (h : ∀ y ∈ l, y.toNat < 128) : fromUtf16 (widen l) = l := by
  induction l with
  | nil => simp [widen, fromUtf16]
  | cons x xs ih =>
    have hx : x.toNat < 128 := h x (by simp)
    have ih' := ih (fun y hy => h y (by simp [hy]))
    cases xs with
    | nil =>
      have : widen [x] = [x, 0] := by simp [widen]
      rw [this]
      simp only [fromUtf16]
      have z : (0 : UInt8).toNat = 0 := rfl
      rw [z, Nat.mul_zero, Nat.add_zero, if_neg (by omega), encUtf8_ascii x hx]
    | cons y ys =>
      have hy : y.toNat < 128 := h y (by simp)
      rw [widen_cons, widen_cons]
      simp only [fromUtf16]
      have z : (0 : UInt8).toNat = 0 := rfl
      rw [z, Nat.mul_zero, Nat.add_zero, Nat.add_zero, if_neg (by omega), if_neg (by omega), encUtf8_ascii x hx]
      rw [widen_cons] at ih'
      rw [ih']
      simp

theorem okChar_ascii (y : UInt8) : okChar y = true → y.toNat < 128 :=
  forall_u8 (fun y => okChar y = true → y.toNat < 128) (by decide +kernel) y

theorem style_ascii (style : Nat) (st en : Bytes) (hs : styleOf style = some (st, en)) :
    (∀ y ∈ st, y.toNat < 128) ∧ (∀ y ∈ en, y.toNat < 128) :=
  styleOf_cases (fun st en => (∀ y ∈ st, y.toNat < 128) ∧ ∀ y ∈ en, y.toNat < 128) style st en hs (by decide +kernel) (by decide +kernel)
    (by decide +kernel)

/-- a line of ASCII text, as `readLine` returns it from the UTF-16 form of the text -/
def wItem : Item → Item
  | .line b ph => .line (widen b) (2 * ph)
  | .bad => .bad

theorem lines16_widen (cur x : Bytes) : lines16 (widen cur) (widen x) = (lines8 cur x).map wItem := by
  induction x generalizing cur with
  | nil =>
    show lines16 (widen cur) [] = _
    simp only [lines16, lines8, List.map, wItem, widen_length]
  | cons b bs ih =>
    rw [widen_cons]
    simp only [lines16, lines8]
    by_cases hb : b = 10
    · have e : widen cur ++ [10, 0] = widen (cur ++ [10]) := by rw [widen_append]; rfl
      rw [if_pos ⟨hb, trivial⟩, if_pos hb, List.map_cons, ← ih [], e]
      simp only [wItem, widen_length]
      rfl
    · rw [if_neg (fun h => hb h.1), if_neg hb, ← ih (cur ++ [b]), widen_append]
      rfl

theorem locateLoop_widen (st en : Bytes) : ∀ (items : List Item) (found : Bool) (acc : List Bytes),
    (∀ b ph, Item.line b ph ∈ items → ∀ y ∈ b, y.toNat < 128) →
    locateLoop true st en (firstLine st en true) (lastLine st en true) true (items.map wItem) found acc =
      locateLoop true st en (firstLine st en false) (lastLine st en false) false items found acc
  | [], _, _, _ => rfl
  | .bad :: _, _, _, _ => rfl
  | .line l ph :: rest, found, acc, h => by
    have hl := h l ph (by simp)
    have ih := fun fo ac => locateLoop_widen st en rest fo ac (fun b ph hm => h b ph (by simp [hm]))
    have e1 : (widen l = lastLine st en true) = (l = lastLine st en false) :=
      propext ⟨widen_inj _ _, congrArg widen⟩
    have e2 : (widen l = firstLine st en true) = (l = firstLine st en false) :=
      propext ⟨widen_inj _ _, congrArg widen⟩
    simp only [List.map_cons, wItem, locateLoop, List.isEmpty_map, e1, e2, fromUtf16_widen l hl, if_true, Bool.false_eq_true,
      if_false, ih]

theorem sigLines_ascii (st en : Bytes) (hst : ∀ y ∈ st, y.toNat < 128) (hen : ∀ y ∈ en, y.toNat < 128) :
    ∀ (fuel : Nat) (b : Bytes), (∀ y ∈ b, y.toNat < 128) → ∀ y ∈ sigLines st en fuel b, y.toNat < 128
  | 0, _, _, y, hy => by simp [sigLines] at hy
  | fuel + 1, b, hb, y, hy => by
    simp only [sigLines] at hy
    split at hy
    · simp at hy
    · simp only [List.mem_append] at hy
      rcases hy with (((hy | hy) | hy) | hy) | hy
      · exact hst y hy
      · exact hb y (List.mem_of_mem_take hy)
      · exact hen y hy
      · simp only [crlf, List.mem_cons, List.not_mem_nil, or_false] at hy
        rcases hy with rfl | rfl <;> decide
      · exact sigLines_ascii st en hst hen fuel (b.drop 64) (fun z hz => hb z (List.mem_of_mem_drop hz)) y hy

/-- UTF-16: the block is ASCII text, so this is `sig_scan8` -/
theorem sig_scan16 (style : Nat) (st en : Bytes) (hs : styleOf style = some (st, en)) (fuel : Nat) (b : Bytes)
    (acc : List Bytes) (hl : b.length ≤ fuel) (hb : b64okF b = true) (hc : b.all okChar = true) :
    locateLoop true st en (firstLine st en true) (lastLine st en true) true
      (lines16 [] (widen (sigLines st en fuel b ++ (st ++ psEnd ++ en ++ crlf)))) true acc
    = .ok (acc.reverse ++ chunks64 fuel b) := by
  obtain ⟨ast, aen⟩ := style_ascii style st en hs
  rw [← sig_scan8 style st en hs fuel b acc hl hb hc, ← locateLoop_widen st en _ true acc, ← lines16_widen]
  · rfl
  intro l ph hm y hy
  have hy' : y ∈ joinItems (lines8 [] (sigLines st en fuel b ++ (st ++ psEnd ++ en ++ crlf))) :=
    List.mem_flatMap.mpr ⟨_, hm, hy⟩
  rw [lines8_join [] _] at hy'
  simp only [List.nil_append, List.mem_append] at hy'
  rcases hy' with hy' | ((hy' | hy') | hy') | hy'
  · exact sigLines_ascii st en ast aen fuel b (fun z hz => okChar_ascii z (List.all_eq_true.mp hc z hz)) y hy'
  · exact ast y hy'
  · exact (by decide : ∀ z ∈ psEnd, z.toNat < 128) y hy'
  · exact aen y hy'
  · exact (by decide : ∀ z ∈ crlf, z.toNat < 128) y hy'

theorem locate_signed (u16 : Bool) (f : Bytes) (style : Nat) (d : Digest) (st en sig : Bytes) (e : DigestPS f style = .ok d)
    (hs : styleOf style = some (st, en)) (F : (modeOf u16).Fits f d st en) :
    locate (signedBytes f d st en sig) style = .ok (chunks64 (base64 sig).length (base64 sig)) := by
  -- the one step that is not generic in the mode: the scan over the block (`sig_scan16` goes through `sig_scan8`)
  have hscan : ∀ (fuel : Nat) (b : Bytes) (acc : List Bytes), b.length ≤ fuel → b64okF b = true → b.all okChar = true →
      locateLoop true st en (firstLine st en (modeOf u16).u16) (lastLine st en (modeOf u16).u16) (modeOf u16).u16
        ((modeOf u16).split [] ((modeOf u16).enc (sigLines st en fuel b ++ (st ++ psEnd ++ en ++ crlf)))) true acc
      = .ok (acc.reverse ++ chunks64 fuel b) := by
    cases u16
    · exact sig_scan8 style st en hs
    · exact sig_scan16 style st en hs
  generalize modeOf u16 = m at F hscan
  obtain ⟨hu, hok, h2, hnf⟩ := F
  have hdu := (DigestPS_loop f style st en d hs e).1
  obtain ⟨text, tf, x, restf, ph1, rfl, hTl, hx, hg, hsuf, hT, hl⟩ := m.cut_text f style d st en e hs hu hok
  rw [List.take_left' hTl] at hnf
  have nomark := no_marker_prefix (firstLine st en m.u16) m.u16 (m.enc crlf).length (text ++ tf).length m.eol_pos
    (m.pend [] text) x restf ph1 (m.comp [] text) [] [] 0 0 _ _ _ hg rfl hl hT
  have nf : m.pend [] text ++ m.enc crlf ≠ firstLine st en m.u16 := fun hc => hnf _ hc hsuf
  have hu' := m.keep text tf (firstLine st en m.u16 ++ m.enc (blockRest st en sig)) hu (fun h => hTl ▸ h2 h)
  obtain ⟨ph2, ph3, hitems⟩ := m.lines_before_block style st en hs text (m.enc (blockRest st en sig)) (hTl.symm ▸ hok)
  rw [signedBytes, List.take_left' hTl, hdu, hu, m.block_split]
  unfold locate locateWith
  rw [hs]
  show locateLoop _ _ _ _ _ _ (itemsOf _) _ _ = _
  rw [m.items _ hu', hu', hitems, locate_skip true st en _ _ m.u16 _ (by simp) (m.comp [] text) [] hg nomark]
  have hne2 : (m.split [] (m.enc (blockRest st en sig))).isEmpty = false := by
    obtain ⟨y, r, ph, ey, _⟩ := m.head [] (m.enc (blockRest st en sig))
    rw [ey]
    rfl
  simp only [locateLoop, List.isEmpty_cons, hne2, Bool.false_eq_true, if_false, false_and, if_neg nf, if_true]
  obtain ⟨b1, b2⟩ := base64_ok sig
  have := hscan (base64 sig).length (base64 sig) [] (Nat.le_refl _) b1 b2
  simp only [List.reverse_nil, List.nil_append] at this
  exact this

end Relic.PS
