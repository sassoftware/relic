/-
  json.Marshal of the audit attribute map at member level (`Relic.AuditRec.marshal`): an attribute list without duplicate
  keys is determined by its entries (`aget_eq_some_iff`, `aget_perm`); the marshalled object is a permutation of the
  entries, keeps every member, is sorted by key (strictly for a map).  That it is a function of the map alone is drawn
  from these in Props/C06_Record (`marshal_injective_on_nodup`).
-/
import Relic.Proofs.AuditRec
import Relic.Proofs.InsertSort
namespace Relic.AuditRec

/-- `marshal` is the insertion sort of `Relic.InsertSort`: `insertSorted kv` walks past the entries whose key is not
    above `kv`'s -/
theorem marshal_insertSort : InsertSort (fun kv x : String × String => !decide (kv.1 < x.1)) insertSorted marshal where
  ins_nil _ := rfl
  ins_cons kv x rest := by by_cases h : kv.1 < x.1 <;> simp [insertSorted, h]
  sort_nil := rfl
  sort_cons _ _ := rfl

theorem aget_eq_some_iff {a : Attrs} (hn : KeysNodup a) (k v : String) : aget a k = some v ↔ (k, v) ∈ a := by
  induction a with
  | nil => simp [aget]
  | cons x rest ih =>
    obtain ⟨k0, v0⟩ := x
    obtain ⟨hx, hr⟩ := List.nodup_cons.mp hn
    by_cases h : k0 = k
    · subst h
      have : ∀ v, (k0, v) ∉ rest := fun v hm => hx (List.mem_map.mpr ⟨_, hm, rfl⟩)
      simp [aget, this, eq_comm]
    · have : ¬ k = k0 := fun e => h e.symm
      simp [aget, h, this, ih hr]

theorem aget_perm {a b : Attrs} (h : a.Perm b) (hn : KeysNodup a) (q : String) : aget a q = aget b q := by
  have hb : KeysNodup b := (h.map (fun x : String × String => x.1)).nodup_iff.mp hn
  apply Option.ext
  intro v
  rw [aget_eq_some_iff hn, aget_eq_some_iff hb, h.mem_iff]

theorem marshal_perm (a : Attrs) : (marshal a).Perm a := marshal_insertSort.sort_perm a

theorem marshal_keysNodup (a : Attrs) (hn : KeysNodup a) : KeysNodup (marshal a) :=
  ((marshal_perm a).map (fun x : String × String => x.1)).nodup_iff.mpr hn

theorem marshal_keeps (a : Attrs) (q : String) (hn : KeysNodup a) : aget (marshal a) q = aget a q :=
  (aget_perm (marshal_perm a).symm hn q).symm

theorem marshal_sortedLe (a : Attrs) : (marshal a).Pairwise (fun x y => ¬ y.1 < x.1) :=
  marshal_insertSort.sort_pairwise (R := fun x y => ¬ y.1 < x.1) (C := fun _ _ => True)
    (fun _ _ _ h1 h2 => String.not_lt.mpr (String.le_trans (String.not_lt.mp h1) (String.not_lt.mp h2)))
    (fun a b _ => by
      by_cases h : a.1 < b.1
      · simp [h, String.lt_asymm h]
      · simp [h])
    a (List.pairwise_of_forall fun _ _ => trivial)

theorem marshal_sortedK (a : Attrs) (hn : KeysNodup a) : (marshal a).Pairwise (fun x y => x.1 < y.1) := by
  have h2 : (marshal a).Pairwise (fun x y => x.1 ≠ y.1) := List.pairwise_map.mp (marshal_keysNodup a hn)
  refine ((marshal_sortedLe a).and h2).imp fun ⟨hle, hne⟩ => ?_
  exact Decidable.by_contra fun h => hne (String.le_antisymm (String.not_lt.mp hle) (String.not_lt.mp h))

end Relic.AuditRec
