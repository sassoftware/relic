/-
  Relic.Proofs.ZipMeasured — the member extents (`GetTotalSize` vs the contiguous reading of the specification): the bounds
  on a parsed record, a member's bytes as a `MemberRec` (`memberRec_of_memberOf`), which relic measures as such
  (`measured_member`), and the agreement of the extents (`extents_of_parse`).
-/
import Relic.Proofs.ZipEnds
import Relic.Proofs.ZipMemberRec
import Relic.Proofs.ZipDescWidths
namespace Relic.Zip
open Relic.SpecZip

theorem resolve64_lt {us cs off : Nat} {extra : Bytes} {r : Nat × Nat × Nat}
    (h : resolve64 us cs off extra = some r) (hu : us < 2 ^ 64) (hc : cs < 2 ^ 64) :
    r.1 < 2 ^ 64 ∧ r.2.1 < 2 ^ 64 := by
  rw [resolve64_eq_some] at h
  split at h
  · subst h; exact ⟨hu, hc⟩
  · obtain ⟨p, -, -, -, -, rfl⟩ := h
    have f8 : ∀ j, fld p j 8 < 2 ^ 64 := fun j => fld_lt p j 8
    refine ⟨?_, ?_⟩ <;> dsimp only <;> split
    · exact f8 _
    · exact hu
    · exact f8 _
    · exact hc

theorem entryAt_lt {z : Bytes} {at_ lim : Nat} {en : Entry} (h : entryAt z at_ lim = some en) :
    en.csize < 2 ^ 64 ∧ en.usize < 2 ^ 64 := by
  obtain ⟨-, -, -, -, r, hr, rfl⟩ := entryAt_some h
  have h4 : ∀ k, fld (z.drop at_) k 4 < 2 ^ 64 := fun k => by
    have := fld_lt (z.drop at_) k 4; omega
  have := resolve64_lt hr (h4 _) (h4 _)
  exact ⟨this.2, this.1⟩

theorem entryAt_bounds {z : Bytes} {at_ lim : Nat} {en : Entry} (h : entryAt z at_ lim = some en) :
    en.verMade < 2 ^ 16 ∧ en.verNeeded < 2 ^ 16 ∧ en.flags < 2 ^ 16 ∧ en.method < 2 ^ 16 ∧ en.mtime < 2 ^ 16 ∧
    en.mdate < 2 ^ 16 ∧ en.crc < 2 ^ 32 ∧ en.name.length < 2 ^ 16 ∧ en.extra.length < 2 ^ 16 ∧
    en.comment.length < 2 ^ 16 ∧ en.iattrs < 2 ^ 16 ∧ en.eattrs < 2 ^ 32 ∧ en.csize < 2 ^ 64 ∧ en.usize < 2 ^ 64 ∧
    en.len = 46 + en.name.length + en.extra.length + en.comment.length := by
  have hlt := entryAt_lt h
  obtain ⟨-, b2, -, b4, r, -, rfl⟩ := entryAt_some h
  have f2 : ∀ k, fld (z.drop at_) k 2 < 2 ^ 16 := fun k => fld_lt _ k 2
  have f4 : ∀ k, fld (z.drop at_) k 4 < 2 ^ 32 := fun k => fld_lt _ k 4
  have l1 : ((z.drop (at_ + 46)).take (fld (z.drop at_) 28 2)).length = fld (z.drop at_) 28 2 := by
    rw [List.length_take, List.length_drop]; omega
  have l2 : ((z.drop (at_ + 46 + fld (z.drop at_) 28 2)).take (fld (z.drop at_) 30 2)).length = fld (z.drop at_) 30 2 := by
    rw [List.length_take, List.length_drop]; omega
  have l3 : ((z.drop (at_ + 46 + fld (z.drop at_) 28 2 + fld (z.drop at_) 30 2)).take (fld (z.drop at_) 32 2)).length =
      fld (z.drop at_) 32 2 := by
    rw [List.length_take, List.length_drop]; omega
  simp only [specEntry] at hlt ⊢
  rw [l1, l2, l3]
  exact ⟨f2 _, f2 _, f2 _, f2 _, f2 _, f2 _, f4 _, f2 _, f2 _, f2 _, f2 _, f4 _, hlt.1, hlt.2, rfl⟩

theorem entries_mem (z : Bytes) (lim : Nat) : ∀ (count at_ : Nat) (es : List Entry),
    entries z count at_ lim = some es → ∀ e ∈ es, ∃ at', entryAt z at' lim = some e := by
  intro count
  induction count with
  | zero =>
    intro at_ es h
    unfold entries at h
    split at h
    · cases h; intro e he; cases he
    · cases h
  | succ count ih =>
    intro at_ es h
    unfold entries at h
    simp only [Option.bind_eq_bind, Option.bind_eq_some_iff] at h
    obtain ⟨e, he, es', hes, h⟩ := h
    cases h
    intro x hx
    rcases List.mem_cons.mp hx with rfl | hx
    · exact ⟨_, he⟩
    · exact ih _ _ hes x hx

/-- **lifting a member out of the input.** What the specification checked for a member of the input holds
    of the member's bytes taken by themselves — the extent being the one that ends with the data (no
    descriptor) or with a signed descriptor among the widths found. -/
theorem memberRec_of_memberOf {z : Bytes} {cd : Nat} {e : Entry} {m : SpecZip.Member} (h : memberOf z cd e = some m)
    (hz : cd ≤ z.length) (T : Nat)
    (hT0 : e.flags % 16 / 8 ≠ 1 → e.hoff + T = m.dataOff + e.csize)
    (hT1 : e.flags % 16 / 8 = 1 → ∃ w, w ∈ m.descWidths ∧ (w = 16 ∨ w = 24) ∧ e.hoff + T = m.dataOff + e.csize + w) :
    MemberRec ((z.drop e.hoff).take T) e.name e.flags e.crc e.csize e.usize := by
  obtain ⟨h30, hsig, hnb, hname, hflag, -, -, hdo, hdata, hdesc⟩ := memberOf_some h
  generalize hln : fld (z.drop e.hoff) 26 2 = ln at *
  generalize hle : fld (z.drop e.hoff) 28 2 = le at *
  have hTle : e.hoff + T ≤ cd := by
    by_cases hd : e.flags % 16 / 8 = 1
    · obtain ⟨w, hw, -, hT⟩ := hT1 hd
      rw [if_pos hd] at hdesc
      rw [hdesc.1] at hw
      obtain ⟨-, -, -, -, hlim, -⟩ := mem_descWidthsAt hw
      omega
    · have := hT0 hd; omega
  have hTge : 30 + ln + le + e.csize ≤ T := by
    by_cases hd : e.flags % 16 / 8 = 1
    · obtain ⟨w, -, -, hT⟩ := hT1 hd; omega
    · have := hT0 hd; omega
  have hxl : ((z.drop e.hoff).take T).length = T := by rw [List.length_take, List.length_drop]; omega
  have F : ∀ k w, k + w ≤ T → fld ((z.drop e.hoff).take T) k w = fld (z.drop e.hoff) k w := fun k w hk => fld_take _ T k w hk
  have f26 := F 26 2 (by omega); have f28 := F 28 2 (by omega); have f6 := F 6 2 (by omega)
  rw [hln] at f26; rw [hle] at f28
  refine ⟨?_, ?_, ?_, ?_, ?_, ?_⟩
  · rw [List.take_take, Nat.min_eq_left (by omega)]
    unfold hasSig at hsig
    exact eq_of_beq hsig
  · rw [f26, f28, hxl]; exact hTge
  · rw [f26, take_drop_take _ T 30 ln (by omega), List.drop_drop]; exact hname
  · rw [f6]; exact hflag
  · intro hd; rw [f26, f28, hxl]; have := hT0 hd; omega
  · intro hd
    obtain ⟨w, hw, hw2, hT⟩ := hT1 hd
    rw [if_pos hd] at hdesc
    rw [hdesc.1] at hw
    obtain ⟨s, wd, hl, hr, -, hb⟩ := mem_descWidthsAt hw
    have hs : s = true := by
      have hl' := hl
      rw [descEnc_length] at hl'
      cases s
      · cases wd <;> simp at hl' <;> omega
      · rfl
    subst hs
    obtain ⟨-, hbt⟩ := bytesAt_some hb
    refine ⟨wd, hr, ?_, ?_⟩
    · rw [f26, f28, hxl, hl]; omega
    · rw [f26, f28, List.drop_take, List.drop_drop, ← hbt]
      congr 1
      · omega
      · congr 1; omega

/-- **a member of a readable archive, as relic measures it**: `GetTotalSize` succeeds on the directory
    entry, leaves name, sizes, CRC … as the directory has them, finds the data where the specification
    finds it, and the extent ends with the data (no descriptor) or with the descriptor of the true width. -/
theorem measured_member {z : Bytes} {a : Archive} {sm : SpecZip.Member} (at_ : Nat) (hp : parse z = some a)
    (h63 : z.length < 2 ^ 63) (hsigned : descSigned a = true) (hw : (a.members.all (widthOK a)) = true)
    (hm : sm ∈ a.members) :
    ∃ m l ddb, getTotalSize (RA z) (fileOf z at_ sm.entry) = .ok (m, RA z) ∧
      m.file = { fileOf z at_ sm.entry with lfh := some l, ddb := ddb } ∧ m.dataOff = sm.dataOff ∧
      (sm.entry.flags % 16 / 8 ≠ 1 → sm.entry.hoff + m.total = sm.dataOff + sm.entry.csize) ∧
      (sm.entry.flags % 16 / 8 = 1 → ∃ w, w ∈ sm.descWidths ∧ (w = 16 ∨ w = 24) ∧
        sm.entry.hoff + m.total = sm.dataOff + sm.entry.csize + w ∧ trueWidth a sm = some w) := by
  obtain ⟨-, -, hes, hms, -⟩ := parse_some hp
  have hcd : a.ends.cdOff + 22 ≤ z.length := by have := parse_dir_le hp; omega
  obtain ⟨at', hat⟩ := entries_mem z _ _ _ _ hes sm.entry (List.mem_map.mpr ⟨sm, hm, rfl⟩)
  have hlt := entryAt_lt hat
  have hcrc32 : sm.entry.crc < 2 ^ 32 := (entryAt_bounds hat).2.2.2.2.2.2.1
  have hmo := mapM_memberOf_mem _ _ hms sm hm
  obtain ⟨h30, -, -, -, -, -, -, hdo, hdata, -⟩ := memberOf_some hmo
  -- the extent `T`: up to the end of the data, or of the descriptor of the true width
  obtain ⟨T, hT0, hT1, hTle⟩ : ∃ T, (sm.entry.flags % 16 / 8 ≠ 1 → sm.entry.hoff + T = sm.dataOff + sm.entry.csize) ∧
      (sm.entry.flags % 16 / 8 = 1 → ∃ w, w ∈ sm.descWidths ∧ (w = 16 ∨ w = 24) ∧
        sm.entry.hoff + T = sm.dataOff + sm.entry.csize + w ∧ trueWidth a sm = some w ∧
        (w = 16 → sm.entry.usize ≠ 0xffffffff) ∧
        (w = 24 → sm.entry.usize ≥ 0xffffffff ∨ sm.entry.csize / 2 ^ 32 % 2 ^ 32 ≠ sm.entry.usize % 2 ^ 32)) ∧
      sm.entry.hoff + T ≤ a.ends.cdOff := by
    by_cases hd : sm.entry.flags % 16 / 8 = 1
    · obtain ⟨w, h1, h2, -, h3, h4, h5, h6, -⟩ := readable_width hp hsigned hw hm hd
      exact ⟨sm.dataOff + sm.entry.csize + w - sm.entry.hoff, fun c => absurd hd c, fun _ => ⟨w, h2, h3, by omega, h1, h4, h5⟩,
        by omega⟩
    · exact ⟨sm.dataOff + sm.entry.csize - sm.entry.hoff, fun _ => by omega, fun c => absurd c hd, by omega⟩
  have hrec := memberRec_of_memberOf hmo (by omega) T hT0
    (fun hd => by obtain ⟨w, h1, h2, h3, -⟩ := hT1 hd; exact ⟨w, h1, h2, h3⟩)
  generalize hX : (z.drop sm.entry.hoff).take T = x at hrec
  have hxl : x.length = T := by rw [← hX, List.length_take, List.length_drop]; omega
  have f26 : fld x 26 2 = fld (z.drop sm.entry.hoff) 26 2 := by rw [← hX]; exact fld_take _ T 26 2 (by have := hrec.len; omega)
  have f28 : fld x 28 2 = fld (z.drop sm.entry.hoff) 28 2 := by rw [← hX]; exact fld_take _ T 28 2 (by have := hrec.len; omega)
  have e1 : (fileOf z at_ sm.entry).csize = sm.entry.csize := rfl
  obtain ⟨l, q, hg, -⟩ := getTotalSize_bytes (r := RA z) (f := fileOf z at_ sm.entry) rfl rfl hrec
    (by show (z.drop sm.entry.hoff).take x.length = x; rw [hxl, hX])
    (by show sm.entry.hoff + x.length ≤ z.length; omega) h63 (fun c => by cases c) hlt
    (by
      -- the width of the descriptor found in `x` is the true width, which `widthOK` vouches for
      intro wd hD
      have hl := congrArg List.length hD
      rw [List.length_drop, descEnc_length, hxl, e1] at hl
      have hd : sm.entry.flags % 16 / 8 = 1 := Decidable.byContradiction fun c => by
        have := hrec.nodesc c; rw [hxl] at this; cases wd <;> simp at hl <;> omega
      obtain ⟨w, -, -, hT, -, k16, k24⟩ := hT1 hd
      rw [f26, f28] at hl
      cases wd
      · exact ⟨fun _ => k16 (by simp at hl; omega), fun c => (by cases c)⟩
      · exact ⟨fun c => (by cases c), fun _ => k24 (by simp at hl; omega)⟩)
  refine ⟨_, l, x.drop (30 + fld x 26 2 + fld x 28 2 + sm.entry.csize), hg, ?_, ?_, ?_, ?_⟩
  · show ({ fileOf z at_ sm.entry with crc := _, lfh := _, ddb := _ } : File) = _
    have : (if sm.entry.flags % 16 / 8 = 1 then sm.entry.crc % 2 ^ 32 else (fileOf z at_ sm.entry).crc) = sm.entry.crc := by
      split
      · exact Nat.mod_eq_of_lt hcrc32
      · rfl
    rw [this]; rfl
  · show sm.entry.hoff + 30 + fld x 26 2 + fld x 28 2 = _
    rw [f26, f28, hdo]
  · intro hd; show _ + x.length = _; rw [hxl]; exact hT0 hd
  · intro hd
    obtain ⟨w, h1, h2, h3, h4, -⟩ := hT1 hd
    exact ⟨w, h1, h2, by show _ + x.length = _; rw [hxl]; exact h3, h4⟩

/-- **member extents agree.** For an archive the specification parses, addressable by an `int64`, whose
    descriptors are signed and whose widths the inference gets right (`widthOK`): for every member, the
    data offset and total extent `GetTotalSize` computes are the specification's. -/
theorem extents_of_parse {z : Bytes} {a : Archive} (h : parse z = some a) (h63 : z.length < 2 ^ 63)
    (hsigned : descSigned a = true) (hw : (a.members.all (widthOK a)) = true) (at_ : Nat) :
    (filesOf z at_ (a.members.map (·.entry))).map (modelExtent z) = a.members.map (specExtent a) := by
  obtain ⟨-, -, -, hms, -⟩ := parse_some h
  apply filesOf_map
  intro at1 sm hm
  obtain ⟨m, l, ddb, hg, -, hdo, hT0, hT1⟩ := measured_member at1 h h63 hsigned hw hm
  obtain ⟨-, -, -, -, -, -, -, -, -, hdesc⟩ := memberOf_some (mapM_memberOf_mem _ _ hms sm hm)
  unfold modelExtent specExtent
  have hg' : getTotalSize ⟨z, false, 0⟩ (fileOf z at1 sm.entry) = .ok (m, RA z) := hg
  rw [hg']
  simp only
  by_cases hd : sm.entry.flags % 16 / 8 = 1
  · obtain ⟨w, hwm, -, hT, htw⟩ := hT1 hd
    rw [htw, hdo]
    cases hh : sm.descWidths with
    | nil => rw [hh] at hwm; cases hwm
    | cons _ _ => simp only; congr 2; omega
  · rw [if_neg hd] at hdesc
    have := hT0 hd
    rw [hdesc, hdo]
    simp only; congr 2; omega

end Relic.Zip
