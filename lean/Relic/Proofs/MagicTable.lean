/-
  Relic.Proofs.MagicTable — the decision list of `Detect` written out as nested conditionals over named tests, which
  prefix tests exclude one another, and how a prefix test follows from the numeric value of the first bytes (the form
  in which the format readers check their magic numbers); the verdicts `Detect` can give, and the two verdicts on an `MZ`
  file.
-/
import Relic.Proofs.Magic
import Relic.Proofs.Res
namespace Relic.Magic

abbrev isRpm (bs : Bytes) : Bool := atPos bs pRpm 0
abbrev isDebHdr (bs : Bytes) : Bool := atPos bs pDeb 0
abbrev isArmor (bs : Bytes) : Bool := atPos bs pArmor 0
abbrev hasCtl (bs : Bytes) : Bool := containsIn bs pOidCtl 256
abbrev hasSignedData (bs : Bytes) : Bool := containsIn bs pOidSigned 256
abbrev isTar (bs : Bytes) : Bool := atPos bs pUstar 257
abbrev isMZ (bs : Bytes) : Bool := atPos bs pMZ 0
abbrev isCfb (bs : Bytes) : Bool := atPos bs pCfb 0
abbrev isCabHdr (bs : Bytes) : Bool := atPos bs pCab 0
abbrev hasAsm (bs : Bytes) : Bool := containsIn bs pAsm1 256 || containsIn bs pAsm2 256
abbrev isMachoLE (bs : Bytes) : Bool := atPos bs pMacho64 0 || atPos bs pMacho32 0
abbrev isMachoBE (bs : Bytes) : Bool := atPos bs pMacho64BE 0 || atPos bs pMacho32BE 0
abbrev isMacho (bs : Bytes) : Bool := isMachoLE bs || isMachoBE bs
abbrev isFat (bs : Bytes) : Bool := atPos bs pFat 0
abbrev isXar (bs : Bytes) : Bool := atPos bs pXar 0
abbrev isPgpBin (bs : Bytes) : Bool := atPos bs [0x89] 0 || atPos bs [0xc2] 0 || atPos bs [0xc4] 0

theorem detect_unfold (bs : Bytes) : detect bs =
    if isRpm bs then .rpm else if isDebHdr bs then .deb else if isArmor bs then .pgp else if hasCtl bs then .cat
    else if hasSignedData bs then .pkcs7 else if isTar bs then .unknown
    else if isMZ bs then (if mzProbe bs then .pecoff else .unknown)
    else if isCfb bs then .msi else if isCabHdr bs then .cab else if hasAsm bs then .appManifest
    else if isMacho bs then .machO else if isFat bs then .machOFat else if isXar bs then .xar
    else if isPgpBin bs then .pgp else .unknown := by
  simp [detect, detectWith, rules, Rule.fires, Test.eval, runAction, Bool.or_assoc]

theorem ite_mem {α : Type} {c : Prop} [Decidable c] {a b : α} {l : List α} (ha : a ∈ l) (hb : b ∈ l) :
    (if c then a else b) ∈ l := by
  by_cases h : c
  · rwa [if_pos h]
  · rwa [if_neg h]

theorem detect_mem (bs : Bytes) : detect bs ∈
    [.rpm, .deb, .pgp, .cat, .pkcs7, .unknown, .pecoff, .msi, .cab, .appManifest, .machO, .machOFat, .xar] := by
  rw [detect_unfold]
  repeat' apply ite_mem
  all_goals decide

theorem detectOrigFM1_unfold (bs : Bytes) : detectOrigFM1 bs =
    if isRpm bs then .rpm else if isDebHdr bs then .deb else if isArmor bs then .pgp else if hasCtl bs then .cat
    else if hasSignedData bs then .pkcs7 else if isTar bs then .unknown
    else if isMZ bs then (if mzProbeOrig bs then .pecoff else .unknown)
    else if isCfb bs then .msi else if isCabHdr bs then .cab else if hasAsm bs then .appManifest
    else if isMacho bs then .machO else if isFat bs then .machOFat else if isXar bs then .xar
    else if isPgpBin bs then .pgp else .unknown := by
  simp [detectOrigFM1, detectWith, rulesOrigFM1, Rule.fires, Test.eval, runAction, Bool.or_assoc]

theorem detectOrigFM3_unfold (bs : Bytes) : detectOrigFM3 bs =
    if isRpm bs then .rpm else if isDebHdr bs then .deb else if isArmor bs then .pgp else if hasCtl bs then .cat
    else if hasSignedData bs then .pkcs7 else if isTar bs then .unknown
    else if isMZ bs then (if mzProbe bs then .pecoff else .unknown)
    else if isCfb bs then .msi else if isCabHdr bs then .cab else if hasAsm bs then .appManifest
    else if isMachoLE bs then .machO else if isFat bs then .machOFat else if isXar bs then .xar
    else if isPgpBin bs then .pgp else .unknown := by
  simp [detectOrigFM3, detectWith, rulesOrigFM3, Rule.fires, Test.eval, runAction, Bool.or_assoc]

theorem atPos0_iff (bs pat : Bytes) : atPos bs pat 0 = true ↔ pat.length ≤ bufSize ∧ bs.take pat.length = pat := by
  unfold atPos peekAny
  simp only [Nat.zero_add, List.drop_zero]
  by_cases hp : pat.length ≤ bufSize
  · rw [Nat.min_eq_left hp]
    constructor
    · intro h
      split at h
      · cases h
      · exact ⟨hp, by simpa using h⟩
    · rintro ⟨_, h⟩
      simp [h]
  · have hm : min pat.length bufSize = bufSize := Nat.min_eq_right (by omega)
    rw [hm]
    have : (List.take bufSize bs).length < pat.length := by
      simp only [List.length_take]; omega
    rw [if_pos this]
    simp [hp]

theorem atPos0_take {bs pat : Bytes} (h : atPos bs pat 0 = true) {n : Nat} (hn : n ≤ pat.length) :
    bs.take n = pat.take n := by
  have h' := congrArg (List.take n) ((atPos0_iff bs pat).mp h).2
  rwa [List.take_take, Nat.min_eq_left hn] at h'

theorem atPos0_excl_take {bs p q : Bytes} (n : Nat) (hp : n ≤ p.length) (hq : n ≤ q.length)
    (hne : p.take n ≠ q.take n) (h : atPos bs p 0 = true) : atPos bs q 0 = false := by
  cases hq' : atPos bs q 0
  · rfl
  · exact absurd ((atPos0_take h hp).symm.trans (atPos0_take hq' hq)) hne

theorem atPos0_excl {bs : Bytes} {a b : UInt8} {p q : Bytes} (h : atPos bs (a :: p) 0 = true) (hne : a ≠ b) :
    atPos bs (b :: q) 0 = false :=
  atPos0_excl_take 1 (Nat.le_add_left ..) (Nat.le_add_left ..) (by simpa using hne) h

/-- a prefix test that holds rules out every prefix test of the list whose pattern starts with another byte.  The fifteen
    conjuncts are the prefix patterns of `rules`, written out: a pattern added to the table has to be added here (the
    `simp [prefix_excl h]` calls of `Props/C01_Magic` are what would fail). -/
theorem prefix_excl {bs : Bytes} {b : UInt8} {p : Bytes} (h : atPos bs (b :: p) 0 = true) :
    (b ≠ 0xed → atPos bs pRpm 0 = false) ∧ (b ≠ 33 → atPos bs pDeb 0 = false) ∧ (b ≠ 45 → atPos bs pArmor 0 = false) ∧
    (b ≠ 77 → atPos bs pMZ 0 = false) ∧ (b ≠ 0xd0 → atPos bs pCfb 0 = false) ∧ (b ≠ 77 → atPos bs pCab 0 = false) ∧
    (b ≠ 0xcf → atPos bs pMacho64 0 = false) ∧ (b ≠ 0xce → atPos bs pMacho32 0 = false) ∧
    (b ≠ 0xfe → atPos bs pMacho64BE 0 = false) ∧ (b ≠ 0xfe → atPos bs pMacho32BE 0 = false) ∧
    (b ≠ 0xca → atPos bs pFat 0 = false) ∧ (b ≠ 0x78 → atPos bs pXar 0 = false) ∧
    (b ≠ 0x89 → atPos bs [0x89] 0 = false) ∧ (b ≠ 0xc2 → atPos bs [0xc2] 0 = false) ∧ (b ≠ 0xc4 → atPos bs [0xc4] 0 = false) :=
  ⟨atPos0_excl h, atPos0_excl h, atPos0_excl h, atPos0_excl h, atPos0_excl h, atPos0_excl h, atPos0_excl h, atPos0_excl h,
    atPos0_excl h, atPos0_excl h, atPos0_excl h, atPos0_excl h, atPos0_excl h, atPos0_excl h, atPos0_excl h⟩

/-- `MZ…` and `MSCF…` share the first byte only -/
theorem mz_cab_excl {bs : Bytes} (h : isMZ bs = true) : isCabHdr bs = false :=
  atPos0_excl_take 2 (by decide) (by decide) (by decide) h

/-- Numerals are injective on words of one length, so a prefix test may be settled by the value of the first bytes:
    this is how the format readers (`binary.Read` of a magic number) and `Detect` (a byte comparison) meet. -/
theorem atPos0_of_leVal {bs pat : Bytes} (hp : pat.length ≤ bufSize) (hl : pat.length ≤ bs.length)
    (hv : leVal (bs.take pat.length) = leVal pat) : atPos bs pat 0 = true := by
  have h := leBytes_leVal (bs.take pat.length)
  rw [List.length_take, Nat.min_eq_left hl, hv, leBytes_leVal] at h
  exact (atPos0_iff bs pat).mpr ⟨hp, h.symm⟩

theorem atPos0_of_beVal {bs pat : Bytes} (hp : pat.length ≤ bufSize) (hl : pat.length ≤ bs.length)
    (hv : beVal (bs.take pat.length) = beVal pat) : atPos bs pat 0 = true := by
  have h := beBytes_beVal (bs.take pat.length)
  rw [List.length_take, Nat.min_eq_left hl, hv, beBytes_beVal] at h
  exact (atPos0_iff bs pat).mpr ⟨hp, h.symm⟩

theorem detect_pecoff_iff (bs : Bytes) : detect bs = .pecoff ↔
    hasCtl bs = false ∧ hasSignedData bs = false ∧ isTar bs = false ∧ isMZ bs = true ∧ mzProbe bs = true := by
  rw [detect_unfold]; simp only [ite_eq_iff]; simp
  exact ⟨fun h => by simp [h], fun h => by simp [prefix_excl h.2.2.2.1, h]⟩

theorem detect_unknown_iff (bs : Bytes) : detect bs = .unknown ↔
    isRpm bs = false ∧ isDebHdr bs = false ∧ isArmor bs = false ∧ hasCtl bs = false ∧ hasSignedData bs = false ∧
      (isTar bs = true ∨ isTar bs = false ∧
        (isMZ bs = true ∧ mzProbe bs = false ∨
         isMZ bs = false ∧ isCfb bs = false ∧ isCabHdr bs = false ∧ hasAsm bs = false ∧ isMacho bs = false ∧
           isFat bs = false ∧ isXar bs = false ∧ isPgpBin bs = false)) := by
  rw [detect_unfold]; simp only [ite_eq_iff]; simp

end Relic.Magic
