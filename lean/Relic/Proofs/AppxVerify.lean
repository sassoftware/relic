/-
  The two loops of `DigestAppxTar` and the readers of the verifier, run on a file that agrees with the input up to the patch
  offset and holds `NewFile` records from there on (`LocatedFrom`): the ingredients of C01 / C08 for APPX, on top of the ZIP
  round trip of `Relic.Proofs.ZipOwn`.
-/
import Relic.Proofs.AppxSign
namespace Relic.Appx
open Relic.Zip Relic.ZipOwn

theorem verifyBlocks_cons {c : Codec} {out : Bytes} {f : File} {fs : List File} {b : BmFile} {bms : List BmFile} {p : Bytes}
    (hn : (f.name == sSignature || f.name == sCatalog || f.name == sCTypes || f.name == sBlockMap) = false)
    (hpc : partContent c out [f] f.name = some (.ok p)) (hp : p.length = f.usize)
    (hb : bmView b = (zipToDos f.name, p.length, chunks p.length p)) :
    verifyBlocks c out (f :: fs) (b :: bms) = verifyBlocks c out fs bms := by
  have hb1 : b.name = zipToDos f.name := congrArg (·.1) hb
  have hb2 : b.size = f.usize := (congrArg (·.2.1) hb).trans hp
  have hb4 : b.blocks.map (·.1) = chunks p.length p := congrArg (·.2.2) hb
  have hb3 : b.blocks.length = (f.usize + blockSize - 1) / blockSize := by
    rw [← List.length_map (f := (·.1)), hb4, chunks_length _ _ (Nat.le_refl _), hp]
  conv => lhs; unfold verifyBlocks
  rw [if_neg (by rw [hn]; simp)]
  simp only []
  rw [if_neg (by rw [hb1, hb2]; simp), if_neg (by rw [hb3]; simp), hpc]
  simp only []
  rw [if_pos hb4]

theorem verifyBlocks_congr {c : Codec} {out : Bytes} : ∀ (fs : List File) (bms bms' : List BmFile),
    bms.map bmView = bms'.map bmView → verifyBlocks c out fs bms = verifyBlocks c out fs bms'
  | [], _, _, _ => by simp [verifyBlocks]
  | f :: fs, bms, bms', h => by
    unfold verifyBlocks
    by_cases hsk : (f.name == sSignature || f.name == sCatalog || f.name == sCTypes || f.name == sBlockMap) = true
    · rw [if_pos hsk, if_pos hsk]
      exact verifyBlocks_congr fs bms bms' h
    · rw [if_neg hsk, if_neg hsk]
      cases bms with
      | nil =>
        cases bms' with
        | nil => rfl
        | cons b' bt' => simp at h
      | cons b bt =>
        cases bms' with
        | nil => simp at h
        | cons b' bt' =>
          simp only [List.map_cons, List.cons.injEq] at h
          obtain ⟨hv, ht⟩ := h
          have h1 : b.name = b'.name := congrArg (·.1) hv
          have h2 : b.size = b'.size := congrArg (·.2.1) hv
          have h3 : b.blocks.map (·.1) = b'.blocks.map (·.1) := congrArg (·.2.2) hv
          have h4 : b.blocks.length = b'.blocks.length := by simpa using congrArg List.length h3
          simp only [h1, h2, h3, h4, verifyBlocks_congr fs bt bt' ht]

theorem verifyBlocks_skip {c : Codec} {out : Bytes} : ∀ (fs : List File) (bms : List BmFile),
    (∀ f ∈ fs, (f.name == sSignature || f.name == sCatalog || f.name == sCTypes || f.name == sBlockMap) = true) →
    verifyBlocks c out fs bms = .ok ()
  | [], _, _ => by simp [verifyBlocks]
  | f :: fs, bms, h => by
    unfold verifyBlocks
    rw [if_pos (h f (by simp))]
    exact verifyBlocks_skip fs bms (fun g hg => h g (by simp [hg]))

theorem truncBody_append (r : Rd) : ∀ (a b : List File) (x y : Bytes), truncBody r a = .ok x → truncBody r b = .ok y →
    truncBody r (a ++ b) = .ok (x ++ y)
  | [], b, x, y, ha, hb => by
    simp [truncBody] at ha
    subst ha
    simpa using hb
  | f :: a, b, x, y, ha, hb => by
    simp only [List.cons_append]
    unfold truncBody at ha ⊢
    split at ha
    next m r' _ =>
      split at ha
      next rest hr =>
        injection ha with ha
        subst ha
        rw [truncBody_append r a b rest y hr hb]
        simp
      all_goals cases ha
    all_goals cases ha

theorem sigIndex_last : ∀ (fs : List File) (i : Nat) (s : File), (∀ f ∈ fs, (f.name == sSignature) = false) →
    (s.name == sSignature) = true → sigIndex (fs ++ [s]) i none = some (some (i + fs.length))
  | [], i, s, _, hs => by simp [sigIndex, hs]
  | f :: fs, i, s, h, hs => by
    simp only [List.cons_append]
    unfold sigIndex
    rw [if_neg (by rw [h f (by simp)]; simp)]
    simp only [Option.isSome_none, Bool.false_eq_true, if_false]
    rw [sigIndex_last fs (i + 1) s (fun g hg => h g (by simp [hg])) hs]
    simp only [List.length_cons]
    congr 2
    omega

/-- the forward pass over other bytes that agree up to `P`, by any reader that may go to the first member: the same state;
    the members lie back to back, so the second reader may go to each in turn -/
theorem payloadPass_transfer {P : Nat} {c : Codec} : ∀ (fs : List File) (r r2 r' : Rd) (s s' : PState),
    r2.z.take P = r.z.take P → P ≤ r2.z.length → r2.z.length < 2 ^ 63 → r2.before s.pos →
    (∀ f ∈ fs, Fresh f) → payloadPass c r fs s = .ok (s', r') → s'.pos ≤ P →
    ∃ r2', payloadPass c r2 fs s = .ok (s', r2') ∧ r2'.z = r2.z ∧ r2'.before s'.pos
  | [], r, r2, r', s, s', _, _, _, hb, _, h, _ => by
    obtain ⟨rfl, rfl⟩ := payloadPass_nil.1 h
    exact ⟨r2, payloadPass_nil.2 ⟨rfl, rfl⟩, rfl, hb⟩
  | f :: fs, r, r2, r', s, s', hp, hle, h63, hb, hfr, h, hP => by
    obtain ⟨hd, r1, h1, hpe, hoff, h⟩ := payloadPass_cons.1 h
    have hmono := payloadPass_pos_le _ _ _ _ _ h
    simp only [PState.step] at hmono
    have ha := hashMember_transfer (hfr f (by simp)) h1 hp (by omega) hle h63 (by rw [hoff]; exact hb)
    obtain ⟨_, _, rfl⟩ := hashedAt_of_hashMember (hfr f (by simp)) h1
    obtain ⟨rb, hb', zb, bb⟩ := payloadPass_transfer fs _ (r2.to (f.offset + hd.m.total)) r' (s.step c f hd) s'
      (by simpa using hp) (by simpa using hle) (by simpa using h63)
      (Rd.before_to _ (by show _ ≤ s.pos + hd.m.total; omega)) (fun g hg => hfr g (by simp [hg])) h hP
    exact ⟨rb, payloadPass_cons.2 ⟨hd, _, ha, hpe, hoff, hb'⟩, by simpa using zb, bb⟩

/-- the payload members as the verifier meets them in the output: their records are the input's (AXPC), and each one
    matches its `File` element of the block map -/
theorem payload_out {P : Nat} {c : Codec} {out : Bytes} (h63 : out.length < 2 ^ 63) (hPo : P ≤ out.length) :
    ∀ (fs : List File) (r r' : Rd) (s s' : PState),
    out.take P = r.z.take P → (∀ f ∈ fs, Fresh f ∧ special f.name = false ∧ endsWith f.name sAppx = false) →
    payloadPass c r fs s = .ok (s', r') → s'.pos ≤ P →
    truncBody (RA out) fs = .ok ((out.drop s.pos).take (s'.pos - s.pos)) ∧
    ∃ nb, s'.bm = s.bm ++ nb ∧ ∀ rest bms, verifyBlocks c out (fs ++ rest) (nb ++ bms) = verifyBlocks c out rest bms
  | [], r, r', s, s', _, _, h, _ => by
    obtain ⟨rfl, rfl⟩ := payloadPass_nil.1 h
    exact ⟨by simp [truncBody], [], by simp, fun rest bms => rfl⟩
  | f :: fs, r, r', s, s', hp, hfr, h, hP => by
    obtain ⟨hd, r1, h1, _, hoff, h⟩ := payloadPass_cons.1 h
    obtain ⟨hfresh, hspec, happx⟩ := hfr f (by simp)
    obtain ⟨_, n2, n3, n4, n5, _⟩ := special_false hspec
    have hmono := payloadPass_pos_le _ _ _ _ _ h
    simp only [PState.step] at hmono
    obtain ⟨H, _, rfl⟩ := hashedAt_of_hashMember hfresh h1
    have a5 := H.entry.2
    have Ho := H.congr hp (by omega) hPo
    have hg := Ho.getTotalSize hfresh h63
    have hpc := Ho.partContent hfresh h63 (filter_self f)
    obtain ⟨i1, nb, i2, i3⟩ := payload_out h63 hPo fs _ r' (s.step c f hd) s' (by simpa using hp)
      (fun g hg => hfr g (by simp [hg])) h hP
    have hskip : skipBM c.f41 f.name = false := by
      unfold skipBM
      rw [n5, n4, n3, n2, happx]
      simp
    refine ⟨?_, bmOf f hd :: nb, ?_, ?_⟩
    · unfold truncBody
      rw [hg]
      simp only []
      rw [i1]
      simp only [PState.step]
      rw [hoff, take_drop_append]
      congr 2
      omega
    · rw [i2]
      simp only [PState.step, hskip, Bool.false_eq_true, if_false, List.append_assoc, List.singleton_append]
    · intro rest bms
      rw [List.cons_append, List.cons_append,
        verifyBlocks_cons (by rw [n5, n4, n3, n2]; rfl) hpc a5 (by rw [← blocksOf_fst]; rfl)]
      exact i3 rest bms

/-- the entries `AddFile` received in the payload loop: written back from their raw bytes, read back as the input's own -/
theorem payload_files {c : Codec} : ∀ (fs : List File) (r r' : Rd) (s s' : PState),
    (∀ f ∈ fs, Fresh f ∧ RawOk f ∧ seen f = f) → s.outz.dirLoc = s.pos → (∀ g ∈ s.outz.files, RawOk g) →
    payloadPass c r fs s = .ok (s', r') →
    (∀ g ∈ s'.outz.files, RawOk g) ∧ s'.outz.files.map seen = s.outz.files.map seen ++ fs
  | [], r, r', s, s', _, hl, hr, h => by
    obtain ⟨rfl, rfl⟩ := payloadPass_nil.1 h
    exact ⟨hr, by simp⟩
  | f :: fs, r, r', s, s', hfr, hl, hr, h => by
    obtain ⟨hd, r1, h1, _, hoff, h⟩ := payloadPass_cons.1 h
    obtain ⟨hfresh, hraw, hseen⟩ := hfr f (by simp)
    obtain ⟨a4, _⟩ := (hashedAt_of_hashMember hfresh h1).1.entry
    have hout : (s.step c f hd).outz = { s.outz with dirLoc := s.outz.dirLoc + hd.m.total, files := s.outz.files ++ [hd.m.file] } :=
      addFile_same _ _ _ (by rw [a4, hl]; exact hoff)
    obtain ⟨m1, m2⟩ := rawOk_measured hraw hseen hd.m.file.crc (some hd.m.lfh) hd.m.file.ddb
    rw [← a4] at m1 m2
    obtain ⟨i1, i2⟩ := payload_files fs r1 r' (s.step c f hd) s' (fun g hg => hfr g (by simp [hg]))
      (by rw [hout]; simp only [PState.step]; rw [hl])
      (by
        rw [hout]
        intro g hg
        rcases List.mem_append.1 hg with hg | hg
        · exact hr g hg
        · rw [List.mem_singleton.1 hg]
          exact m1) h
    refine ⟨i1, ?_⟩
    rw [i2, hout]
    simp only [List.map_append, List.map_cons, List.map_nil, m2, List.append_assoc, List.singleton_append]

theorem fresh_new (mt md : Nat) (n : NewMember) (q : Nat) : Fresh (seen (newEntryAt mt md n q)) :=
  ⟨(seen_new mt md n q).2.2.2.2.2.1, (seen_new mt md n q).2.2.2.2.2.2⟩

/-- the record `NewFile` wrote for `n`, lying at `q`, is a member the bytes hold at the re-read entry of `n` -/
theorem hashedAt_new {c : Codec} {mt md : Nat} {n : NewMember} (hn : NewOk n) {z : Bytes} {q : Nat} {plain : Bytes}
    (hco : contentOf c (if n.deflate then 8 else 0) n.compd = .ok plain) (hpl : plain.length = n.usize)
    (hz : (z.drop q).take (newBytes mt md n).length = newBytes mt md n)
    (hlen : q + (newBytes mt md n).length ≤ z.length) (h63 : z.length < 2 ^ 63) :
    ∃ h, HashedAt c z (seen (newEntryAt mt md n q)) h ∧ h.plain = plain ∧ h.m.total = (newBytes mt md n).length := by
  obtain ⟨_, s2, s3, s4, s5, s6, s7⟩ := seen_new mt md n q
  rw [← s2] at hz hlen
  rw [← s5] at hco
  generalize seen (newEntryAt mt md n q) = f at *
  obtain ⟨m, r', hg, ht, a3, a4, _⟩ := getTotalSize_new mt md n hn (RA z) f s6 s7 s3 s4 hz hlen h63 nofun
  obtain ⟨l, r1, ddb, crc, h1, h3, rfl⟩ := getTotalSize_ok_iff.1 hg
  obtain ⟨hH, _, rfl⟩ := readLocalHeader_hdrAt s6 h1
  obtain ⟨hD, _, _⟩ := readDataDesc_descAt s7 h3
  have hL := newBytes_length mt md n
  obtain ⟨_, _, _, p4, _⟩ := newBytes_parts mt md n
  have hs := seg_of_seg hz (30 + n.name.length + n.extra.length) n.compd.length (by omega)
  rw [p4, ← Nat.add_assoc, ← Nat.add_assoc] at hs
  simp only [] at a3 a4
  have hmeth : ¬ (f.method ≠ 0 ∧ f.method ≠ 8) := by
    rw [s5]
    cases n.deflate <;> simp
  exact ⟨⟨_, _, plain⟩, ⟨l, ddb, crc, hH, hmeth, fun _ => by rw [a3, a4, s3]; omega, by rw [a3, a4, s3, hs]; exact hco,
    by rw [hpl, s4], hD, rfl, rfl⟩, rfl, ht⟩

/-- the records of `news`, written one after the other, sit at offset `o` of `out`.  A structure and not a conjunction: the
    recursions over `news` below compare two instances up to unfolding, and unfolding a conjunction normalises `newBytes`. -/
structure LocatedFrom (mt md : Nat) (out : Bytes) (news : List NewMember) (o : Nat) : Prop where
  bytes : (out.drop o).take (newEntries mt md news o).2.length = (newEntries mt md news o).2
  le : o + (newEntries mt md news o).2.length ≤ out.length

theorem LocatedFrom.head {mt md : Nat} {out : Bytes} {n : NewMember} {ns : List NewMember} {o : Nat}
    (h : LocatedFrom mt md out (n :: ns) o) :
    (out.drop o).take (newBytes mt md n).length = newBytes mt md n ∧ o + (newBytes mt md n).length ≤ out.length ∧
    LocatedFrom mt md out ns (o + (newBytes mt md n).length) := by
  obtain ⟨h1, h2⟩ := h
  simp only [newEntries, List.length_append] at h1 h2
  refine ⟨?_, by omega, ?_, by omega⟩
  · have := seg_of_seg h1 0 (newBytes mt md n).length (by omega)
    rw [Nat.add_zero, List.drop_zero, List.take_left' rfl] at this
    exact this
  · have := seg_of_seg h1 (newBytes mt md n).length (newEntries mt md ns (o + (newBytes mt md n).length)).2.length (by omega)
    rw [List.drop_left' rfl, List.take_of_length_le (Nat.le_refl _)] at this
    exact this

theorem truncBody_new {mt md : Nat} {out : Bytes} (h63 : out.length < 2 ^ 63) : ∀ (news : List NewMember) (o : Nat),
    LocatedFrom mt md out news o → (∀ n ∈ news, NewOk n) →
    truncBody ⟨out, false, 0⟩ ((newEntries mt md news o).1.map seen) = .ok (newEntries mt md news o).2
  | [], o, _, _ => by simp [newEntries, truncBody]
  | n :: ns, o, hloc, hok => by
    obtain ⟨l1, l2, l3⟩ := hloc.head
    obtain ⟨_, s2, s3, s4, _, s6, s7⟩ := seen_new mt md n o
    obtain ⟨m, r', hg, ht, _⟩ := getTotalSize_new mt md n (hok n (by simp)) ⟨out, false, 0⟩ (seen (newEntryAt mt md n o))
      s6 s7 s3 s4 (by rw [s2]; exact l1) (by rw [s2]; exact l2) h63 (fun hh => by cases hh)
    have ih := truncBody_new h63 ns _ l3 (fun k hk => hok k (by simp [hk]))
    simp only [newEntries, List.map_cons]
    unfold truncBody
    rw [hg]
    simp only []
    rw [ih]
    simp only []
    rw [s2, ht, l1]

/-- a regenerated part that the second loop of `DigestAppxTar` accepts -/
def TailOk (c : Codec) (pbm : List BmFile) (n : NewMember) : Prop :=
  ∃ plain, contentOf c (if n.deflate then 8 else 0) n.compd = .ok plain ∧ plain.length = n.usize ∧
    ((n.name = sManifest ∧ c.manifestOk plain = true) ∨
     (n.name = sBlockMap ∧ ∃ old, c.blockMap plain = some old ∧ CopyOk pbm old) ∨
     (n.name = sCTypes ∧ c.ctypesOk plain = true) ∨ n.name = sCatalog ∨ n.name = sSignature)

/-- the second loop of `DigestAppxTar` on the re-read entries of `news` succeeds; it has seen a manifest iff it had before or
    some part is the manifest; the sizes are verified once a block map part went by -/
theorem tailPass_new {c : Codec} {mt md : Nat} {out : Bytes} (h63 : out.length < 2 ^ 63) {pbm : List BmFile} :
    ∀ (news : List NewMember) (o : Nat) (r : Rd) (t : TState), LocatedFrom mt md out news o → r.z = out → r.before o →
      (∀ n ∈ news, NewOk n) → (∀ n ∈ news, TailOk c pbm n) → t.bm.map bmView = pbm.map bmView →
      ∃ t', tailPass c r ((newEntries mt md news o).1.map seen) t = .ok t' ∧
        t'.manifest = (t.manifest || news.any fun n => n.name == sManifest) ∧
        ((t.unverified = false ∨ (news.any fun n => n.name == sBlockMap) = true) → t'.unverified = false)
  | [], o, r, t, _, _, _, _, _, _ => ⟨t, tailPass_nil.2 rfl, by simp, fun h => by simpa using h⟩
  | n :: ns, o, r, t, hloc, hrz, hb, hnew, hok, hv => by
    obtain ⟨l1, l2, l3⟩ := hloc.head
    obtain ⟨plain, hco, hpl, hkind⟩ := hok n (by simp)
    obtain ⟨hd, H, hp, ht⟩ := hashedAt_new (c := c) (hnew n (by simp)) hco hpl l1 l2 h63
    have hh := hashMember_of_hashedAt (r := r) (fresh_new mt md n o) (by rw [hrz]; exact H) (by rw [hrz]; exact h63)
      (by rw [(seen_new mt md n o).2.1]; exact hb)
    rw [(seen_new mt md n o).2.1, ht] at hh
    have ih := fun t1 hv1 => tailPass_new h63 ns (o + (newBytes mt md n).length) _ t1 l3 (by rw [Rd.to_z, hrz])
      (Rd.before_to _ (Nat.le_refl _)) (fun k hk => hnew k (by simp [hk])) (fun k hk => hok k (by simp [hk])) hv1
    have step : ∀ t1 t', TailStep c n.name plain t t1 →
        tailPass c (r.to (o + (newBytes mt md n).length)) ((newEntries mt md ns (o + (newBytes mt md n).length)).1.map seen) t1 = .ok t' →
        tailPass c r ((newEntries mt md (n :: ns) o).1.map seen) t = .ok t' := fun t1 t' st i1 =>
      tailPass_cons.2 ⟨hd, _, t1, hh, by rw [(seen_new mt md n o).1, hp]; exact st, i1⟩
    simp only [List.any_cons]
    rcases hkind with ⟨hnm, hmo⟩ | ⟨hnm, old, hold, hcopy⟩ | ⟨hnm, hcto⟩ | hnm
    · obtain ⟨t', i1, i2, i3⟩ := ih { t with manifest := true } hv
      refine ⟨t', step _ _ (.manifest hnm hmo) i1, by rw [i2, hnm]; simp, fun hu => i3 ?_⟩
      rw [hnm, show (sManifest == sBlockMap) = false by decide, Bool.false_or] at hu
      exact hu
    · obtain ⟨bm', hbm'⟩ := hcopy t.bm hv
      obtain ⟨t', i1, i2, i3⟩ := ih { t with bm := bm', unverified := false } (by rw [copySizes_view _ _ _ _ hbm', hv])
      exact ⟨t', step _ _ (.blockMap hnm hold hbm') i1, by rw [i2, hnm]; simp [show (sBlockMap == sManifest) = false by decide],
        fun _ => i3 (Or.inl rfl)⟩
    · obtain ⟨t', i1, i2, i3⟩ := ih t hv
      refine ⟨t', step _ _ (.ctypes hnm hcto) i1, by rw [i2, hnm]; simp [show (sCTypes == sManifest) = false by decide],
        fun hu => i3 ?_⟩
      rw [hnm, show (sCTypes == sBlockMap) = false by decide, Bool.false_or] at hu
      exact hu
    · obtain ⟨t', i1, i2, i3⟩ := ih t hv
      have hne : (n.name == sManifest) = false ∧ (n.name == sBlockMap) = false := by
        rcases hnm with hnm | hnm <;> (rw [hnm]; decide)
      refine ⟨t', step _ _ (.other hnm) i1, by rw [i2, hne.1]; simp, fun hu => i3 ?_⟩
      rw [hne.2, Bool.false_or] at hu
      exact hu

theorem newEntries_mem (mt md : Nat) : ∀ (news : List NewMember) (o : Nat) (f : File), f ∈ (newEntries mt md news o).1 →
    ∃ n ∈ news, f = newEntryAt mt md n f.offset ∧ o ≤ f.offset ∧
      f.offset + (newBytes mt md n).length ≤ o + (newEntries mt md news o).2.length
  | [], _, f, h => by simp [newEntries] at h
  | n :: ns, o, f, h => by
    simp only [newEntries, List.mem_cons] at h
    rcases h with rfl | h
    · exact ⟨n, by simp, rfl, Nat.le_refl _, by simp [newEntries, newEntryAt]⟩
    · obtain ⟨k, hk, e, h1, h2⟩ := newEntries_mem mt md ns _ f h
      refine ⟨k, by simp [hk], e, by omega, ?_⟩
      simp only [newEntries, List.length_append]
      omega

theorem seen_names (mt md : Nat) (news : List NewMember) (o : Nat) (f : File)
    (h : f ∈ (newEntries mt md news o).1.map seen) : ∃ n ∈ news, f.name = n.name := by
  obtain ⟨e, he, rfl⟩ := List.mem_map.mp h
  obtain ⟨n, hn, hen, _⟩ := newEntries_mem mt md news o e he
  exact ⟨n, hn, by rw [hen, (seen_new mt md n e.offset).1]⟩

theorem filter_names_nil (mt md : Nat) (news : List NewMember) (o : Nat) (x : Bytes) (h : ∀ n ∈ news, n.name ≠ x) :
    ((newEntries mt md news o).1.map seen).filter (fun g => g.name == x) = [] := by
  rw [List.filter_eq_nil_iff]
  intro f hf
  obtain ⟨n, hn, e⟩ := seen_names mt md news o f hf
  rw [e]
  simpa using h n hn

/-- among the re-read entries of parts with pairwise different names, the entries named like the part `n` are exactly
    `n`'s own, and its record is where the entry says -/
theorem find_part {mt md : Nat} {out : Bytes} : ∀ (news : List NewMember) (o : Nat),
    news.Pairwise (fun a b => a.name ≠ b.name) → LocatedFrom mt md out news o → ∀ n ∈ news,
    ∃ q, ((newEntries mt md news o).1.map seen).filter (fun g => g.name == n.name) = [seen (newEntryAt mt md n q)] ∧
      (out.drop q).take (newBytes mt md n).length = newBytes mt md n ∧ q + (newBytes mt md n).length ≤ out.length
  | [], _, _, _, n, hn => by simp at hn
  | k :: ks, o, hp, hloc, n, hn => by
    obtain ⟨l1, l2, l3⟩ := hloc.head
    rw [List.pairwise_cons] at hp
    obtain ⟨hp1, hp2⟩ := hp
    simp only [newEntries, List.map_cons]
    rcases List.mem_cons.mp hn with rfl | hn'
    · refine ⟨o, ?_, l1, l2⟩
      rw [List.filter_cons_of_pos (by rw [(seen_new mt md n o).1]; simp)]
      rw [filter_names_nil mt md ks _ n.name (fun a ha => (hp1 a ha).symm)]
    · obtain ⟨q, i1, i2, i3⟩ := find_part ks _ hp2 l3 n hn'
      refine ⟨q, ?_, i2, i3⟩
      rw [List.filter_cons_of_neg (by rw [(seen_new mt md k o).1]; simpa using hp1 n hn'), i1]

theorem filter_payload_nil (fs : List File) (x : Bytes) (hx : special x = true) (h : ∀ f ∈ fs, special f.name = false) :
    fs.filter (fun g => g.name == x) = [] := by
  rw [List.filter_eq_nil_iff]
  intro f hf he
  have : f.name = x := by simpa using he
  have h2 := h f hf
  rw [this, hx] at h2
  cases h2

end Relic.Appx
