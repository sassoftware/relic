/-
  Relic.Proofs.ZipMembers — when the specification's `memberOf` accepts (`memberOf_intro`, with the record-only conditions
  `EntryOK`), and members as byte strings (`MemberRec`, Relic.Proofs.ZipCodec) placed in an output: where the output holds such
  a string before its directory, the specification finds the member again; what `NewFile` writes is one, and its central
  record passes the record-only checks.  (Lifting a member out of a parsed input is `memberRec_of_memberOf` in
  Relic.Proofs.ZipMeasured.)
-/
import Relic.Proofs.ZipSpecRead
import Relic.Proofs.ZipFields
import Relic.Proofs.ZipRewrite
namespace Relic.Zip
open Relic.SpecZip

/-- the conditions of `memberOf` that concern the central record alone -/
structure EntryOK (e : Entry) : Prop where
  enc : e.flags % 2 = 0
  pat : e.flags % 128 / 32 = 0
  ver : e.verNeeded ≤ 63
  ext : extraWellFormed e.extra.length e.extra = true
  meth : e.method = 0 ∨ e.method = 8
  dir : ¬ (e.name.getLast? = some 0x2f ∧ e.usize ≠ 0)
  stored : e.method = 0 → e.csize = e.usize

theorem memberOf_intro {z : Bytes} {cdOff : Nat} {e : Entry} (hz : cdOff ≤ z.length) (h30 : e.hoff + 30 ≤ cdOff)
    (hsig : hasSig z e.hoff 0x50 0x4b 0x03 0x04 = true)
    (hname : (z.drop (e.hoff + 30)).take (fld (z.drop e.hoff) 26 2) = e.name)
    (hflag : fld (z.drop e.hoff) 6 2 % 16 / 8 = e.flags % 16 / 8)
    (hok : EntryOK e)
    (hdata : e.hoff + 30 + fld (z.drop e.hoff) 26 2 + fld (z.drop e.hoff) 28 2 + e.csize ≤ cdOff)
    (hdesc : e.flags % 16 / 8 = 1 →
      descWidthsAt z (e.hoff + 30 + fld (z.drop e.hoff) 26 2 + fld (z.drop e.hoff) 28 2 + e.csize) cdOff e ≠ []) :
    memberOf z cdOff e = some ⟨e, e.hoff + 30 + fld (z.drop e.hoff) 26 2 + fld (z.drop e.hoff) 28 2,
      if e.flags % 16 / 8 = 1 then
        descWidthsAt z (e.hoff + 30 + fld (z.drop e.hoff) 26 2 + fld (z.drop e.hoff) 28 2 + e.csize) cdOff e else [],
      fld (z.drop e.hoff) 6 2⟩ := by
  unfold memberOf
  simp only [Option.bind_eq_bind, Option.bind_none]
  have hn : ∀ k w, k + w ≤ 30 → num z (e.hoff + k) w = some (fld (z.drop e.hoff) k w) := fun k w hk => num_fld (by omega)
  rw [if_neg (by omega), hsig]
  simp only [Bool.not_true, Bool.false_eq_true, if_false, hn 6 2 (by omega), hn 26 2 (by omega), hn 28 2 (by omega),
    Option.bind_some]
  rw [bytesAt_eq (by omega), Option.bind_some, hname]
  rw [if_neg (by simp), if_neg (by simp [hflag]), if_neg (by have := hok.enc; omega), if_neg (by simp [hok.pat]),
    if_neg (by have := hok.ver; omega), hok.ext]
  simp only [Bool.not_true, Bool.false_eq_true, if_false]
  rw [if_neg (by have := hok.meth; omega), if_neg hok.dir,
    if_neg (by intro c; exact c.2 (hok.stored c.1)), if_neg (by omega)]
  by_cases hd : e.flags % 16 / 8 = 1
  · rw [if_pos hd, if_neg (hdesc hd), if_pos hd]
  · rw [if_neg hd, if_neg hd]

/-- the converse of the hypothesis `hok` of `memberOf_intro` -/
theorem memberOf_entryOK {z : Bytes} {cdOff : Nat} {e : Entry} {m : SpecZip.Member} (h : memberOf z cdOff e = some m) :
    EntryOK e := by
  unfold memberOf at h
  simp only [Option.bind_eq_bind, Option.bind_none] at h
  simp only [Option.ite_none_left_eq_some, Option.bind_eq_some_iff] at h
  obtain ⟨-, -, lflags, -, ln, -, le, -, lname, -, -, -, c1, c2, c3, c4, c5, c6, c7, -, -⟩ := h
  refine ⟨by omega, by omega, by omega, ?_, by omega, c6, ?_⟩
  · cases hh : extraWellFormed e.extra.length e.extra
    · rw [hh] at c4; exact absurd rfl c4
    · rfl
  · intro hm
    exact Decidable.of_not_not (fun hne => c7 ⟨hm, hne⟩)

theorem mem_descWidthsAt_intro {z : Bytes} {at_ lim : Nat} {e : Entry} (s wd : Bool)
    (hr : wd = true ∨ (e.csize < 2 ^ 32 ∧ e.usize < 2 ^ 32))
    (hl : at_ + (descEnc s wd e.crc e.csize e.usize).length ≤ lim)
    (hb : bytesAt z at_ (descEnc s wd e.crc e.csize e.usize).length = some (descEnc s wd e.crc e.csize e.usize)) :
    (descEnc s wd e.crc e.csize e.usize).length ∈ descWidthsAt z at_ lim e := by
  unfold descWidthsAt
  simp only [List.mem_filterMap]
  refine ⟨(s, wd), by cases s <;> cases wd <;> simp, ?_⟩
  simp only
  rw [if_pos ⟨by simpa using hr, hl, hb⟩]

/-- **placing.** Where the output holds the bytes `x` of a well-formed member at offset `o`, entirely
    before the directory, the specification finds the member for any central record that names it:
    data offset, and (descriptor bit set) the width that ends the member among the widths found. -/
theorem memberOf_placed {out x : Bytes} {cd : Nat} {e : Entry} (hm : MemberRec x e.name e.flags e.crc e.csize e.usize)
    (hok : EntryOK e) (hx : (out.drop e.hoff).take x.length = x) (hcd : e.hoff + x.length ≤ cd) (hz : cd ≤ out.length) :
    ∃ m, memberOf out cd e = some m ∧ m.entry = e ∧ m.dataOff = e.hoff + 30 + fld x 26 2 + fld x 28 2 ∧
      (e.flags % 16 / 8 ≠ 1 → m.descWidths = [] ∧ m.dataOff + e.csize = e.hoff + x.length) ∧
      (e.flags % 16 / 8 = 1 → ∃ w, w ∈ m.descWidths ∧ (w = 16 ∨ w = 24) ∧ m.dataOff + e.csize + w = e.hoff + x.length ∧
        m.descWidths = descWidthsAt out (m.dataOff + e.csize) cd e) := by
  have hx' : (out.drop e.hoff).take x.length = x.take x.length := by rw [List.take_length]; exact hx
  have F : ∀ k w, k + w ≤ x.length → fld (out.drop e.hoff) k w = fld x k w := fun k w hk => fld_eq_of_take hx' k w hk
  have S : ∀ a b, a + b ≤ x.length → (out.drop (e.hoff + a)).take b = (x.drop a).take b := fun a b hk => seg_of_seg hx a b hk
  have h30 := hm.len
  have hsig : hasSig out e.hoff 0x50 0x4b 0x03 0x04 = true := by
    unfold hasSig
    have := S 0 4 (by omega)
    simp only [Nat.add_zero, List.drop_zero] at this
    rw [this, hm.sig]; rfl
  have f26 := F 26 2 (by omega); have f28 := F 28 2 (by omega); have f6 := F 6 2 (by omega)
  have hname : (out.drop (e.hoff + 30)).take (fld (out.drop e.hoff) 26 2) = e.name := by
    rw [f26, S 30 _ (by omega), hm.name]
  have hdesc : e.flags % 16 / 8 = 1 → ∃ w, (w = 16 ∨ w = 24) ∧
      e.hoff + 30 + fld x 26 2 + fld x 28 2 + e.csize + w = e.hoff + x.length ∧
      w ∈ descWidthsAt out (e.hoff + 30 + fld x 26 2 + fld x 28 2 + e.csize) cd e := by
    intro hd
    obtain ⟨wd, hr, hl, hb⟩ := hm.desc hd
    refine ⟨(descEnc true wd e.crc e.csize e.usize).length, ?_, by omega, ?_⟩
    · rw [descEnc_length]; cases wd <;> simp
    · apply mem_descWidthsAt_intro true wd hr (by omega)
      rw [bytesAt_eq (by omega)]
      have := S (30 + fld x 26 2 + fld x 28 2 + e.csize) (descEnc true wd e.crc e.csize e.usize).length (by omega)
      rw [show e.hoff + (30 + fld x 26 2 + fld x 28 2 + e.csize) = e.hoff + 30 + fld x 26 2 + fld x 28 2 + e.csize by omega] at this
      rw [this, hb, List.take_length]
  have hmem := memberOf_intro (z := out) (cdOff := cd) (e := e) hz (by omega) hsig hname (by rw [f6]; exact hm.flag) hok
    (by rw [f26, f28]; omega)
    (by
      intro hd
      obtain ⟨w, -, -, hw⟩ := hdesc hd
      rw [f26, f28]
      exact List.ne_nil_of_mem hw)
  refine ⟨_, hmem, rfl, by simp only [f26, f28], ?_, ?_⟩
  · intro hd
    simp only [if_neg hd, f26, f28, true_and]
    have := hm.nodesc hd
    omega
  · intro hd
    obtain ⟨w, hw1, hw2, hw3⟩ := hdesc hd
    simp only [if_pos hd, f26, f28]
    exact ⟨w, hw3, hw1, hw2, trivial⟩

theorem newBytes_fld (mt md : Nat) (n : NewMember) (hn : n.name.length < 2 ^ 16) (hx : n.extra.length < 2 ^ 16) :
    fld (newBytes mt md n) 26 2 = n.name.length ∧ fld (newBytes mt md n) 28 2 = n.extra.length := by
  have hb : newBytes mt md n = encLfh (newLfh mt md n) ++ (n.name ++ (n.extra ++ (n.compd ++ newDdb n))) := by
    simp [newBytes, List.append_assoc]
  have F := fld_encLfh (newLfh mt md n) (n.name ++ (n.extra ++ (n.compd ++ newDdb n)))
  rw [← hb] at F
  obtain ⟨-, -, -, -, -, -, -, -, -, F26, F28⟩ := F
  refine ⟨?_, ?_⟩
  · rw [F26]; simp only [newLfh]; rw [Nat.mod_mod, Nat.mod_eq_of_lt hn]
  · rw [F28]; simp only [newLfh]; rw [Nat.mod_mod, Nat.mod_eq_of_lt hx]

/-- **what `NewFile` writes is a well-formed member** for the directory entry it makes (name and extra
    lengths fitting 16 bits). -/
theorem memberRec_newBytes (mt md : Nat) (n : NewMember) (hn : n.name.length < 2 ^ 16) (hx : n.extra.length < 2 ^ 16) :
    MemberRec (newBytes mt md n) n.name (if n.useDesc then 8 else 0) n.crc n.compd.length n.usize := by
  have hb : newBytes mt md n = encLfh (newLfh mt md n) ++ (n.name ++ (n.extra ++ (n.compd ++ newDdb n))) := by
    simp [newBytes, List.append_assoc]
  have F := fld_encLfh (newLfh mt md n) (n.name ++ (n.extra ++ (n.compd ++ newDdb n)))
  rw [← hb] at F
  have F6 := F.2.2.1
  obtain ⟨e26, e28⟩ := newBytes_fld mt md n hn hx
  have hlen := newBytes_length mt md n
  have hdl : (newDdb n).length = if n.useDesc then 24 else 0 := by
    unfold newDdb; split <;> simp
  refine ⟨?_, ?_, ?_, ?_, ?_, ?_⟩
  · rw [hb]
    have : encLfh (newLfh mt md n) = [0x50, 0x4b, 0x03, 0x04] ++ (encLfh (newLfh mt md n)).drop 4 := by
      have h4 : leBytes 4 sigFile = [0x50, 0x4b, 0x03, 0x04] := by decide
      simp [encLfh, h4]
    rw [this, List.append_assoc, List.take_left' (by rfl)]
  · rw [e26, e28, hlen]; omega
  · rw [e26]; exact (newBytes_parts mt md n).2.1
  · rw [F6]; simp only [newLfh]; split <;> rfl
  · intro hd
    have : n.useDesc = false := by
      cases hu : n.useDesc
      · rfl
      · rw [hu] at hd; simp at hd
    rw [e26, e28, hlen, hdl, this]; simp; omega
  · intro hd
    have hu : n.useDesc = true := by
      cases hu : n.useDesc
      · rw [hu] at hd; simp at hd
      · rfl
    refine ⟨true, Or.inl rfl, ?_, ?_⟩
    · rw [e26, e28, hlen, hdl, hu, descEnc_length]; simp; omega
    · rw [e26, e28, (newBytes_parts mt md n).2.2.2.2]
      have h4 : leBytes 4 sigDesc = [0x50, 0x4b, 0x07, 0x08] := by decide
      simp [newDdb, hu, descEnc, h4]

/-- the central record of a requested member passes the record-only checks of the specification -/
theorem entryOK_new (e : Entry) (n : NewMember) (he : e.flags = if n.useDesc then 8 else 0) (hv : e.verNeeded ≤ 63)
    (hm : e.method = if n.deflate then 8 else 0) (hx : extraWellFormed e.extra.length e.extra = true)
    (hname : e.name = n.name) (hu : e.usize = n.usize) (hc : e.csize = n.compd.length)
    (hdir : n.name.getLast? = some 0x2f → n.usize = 0) (hst : n.deflate = false → n.usize = n.compd.length) : EntryOK e := by
  refine ⟨?_, ?_, hv, hx, ?_, ?_, ?_⟩
  · rw [he]; split <;> rfl
  · rw [he]; split <;> rfl
  · rw [hm]; split <;> simp
  · rw [hname, hu]; intro ⟨h1, h2⟩; exact h2 (hdir h1)
  · rw [hm, hc, hu]
    intro h
    have : n.deflate = false := by
      cases hd : n.deflate
      · rfl
      · rw [hd] at h; simp at h
    exact (hst this).symm

end Relic.Zip
