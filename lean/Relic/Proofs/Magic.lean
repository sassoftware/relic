/-
  Relic.Proofs.Magic — lemmas about the detection model: every test of `Detect` sees a prefix only; the `MZ` probe; the
  explicit-slice version never leaves its ranges; the decision list and the ZIP member walk answer with their first match.
-/
import Relic.Model.Magic
import Relic.Proofs.Codec
namespace Relic.Magic

theorem take_of_take_eq {bs bs' : Bytes} {N k : Nat} (h : bs.take N = bs'.take N) (hk : k ≤ N) : bs.take k = bs'.take k := by
  have h1 : (bs.take N).take k = (bs'.take N).take k := by rw [h]
  simpa [List.take_take, Nat.min_eq_left hk] using h1

theorem length_ge_of_take_eq {bs bs' : Bytes} {N n : Nat} (h : bs.take N = bs'.take N) (hn : n ≤ N) (hl : n ≤ bs.length) :
    n ≤ bs'.length := by
  have h1 : (bs.take N).length = (bs'.take N).length := by rw [h]
  simp only [List.length_take] at h1
  omega

theorem peekAny_congr {bs bs' : Bytes} {N n : Nat} (h : bs.take N = bs'.take N) (hn : min n bufSize ≤ N) :
    peekAny bs n = peekAny bs' n := take_of_take_eq h hn

theorem peekAny_of_le (bs : Bytes) {n : Nat} (h : n ≤ bufSize) : peekAny bs n = bs.take n := by
  rw [peekAny, Nat.min_eq_left h]

theorem peekOk_congr {bs bs' : Bytes} {N n : Nat} (h : bs.take N = bs'.take N) (hn : n ≤ bufSize → n ≤ N) :
    peekOk bs n = peekOk bs' n := by
  unfold peekOk
  by_cases hb : n ≤ bufSize
  · have hN := hn hb
    by_cases hl : n ≤ bs.length
    · have hl' := length_ge_of_take_eq h hN hl
      simp [hb, hl, hl', take_of_take_eq h hN]
    · have hl' : ¬ n ≤ bs'.length := fun c => hl (length_ge_of_take_eq h.symm hN c)
      simp [hl, hl']
  · simp [hb]

theorem peekAny_take (bs : Bytes) (n : Nat) : peekAny (bs.take bufSize) n = peekAny bs n :=
  peekAny_congr (N := bufSize) (by simp [List.take_take]) (Nat.min_le_right _ _)

theorem peekOk_take (bs : Bytes) (n : Nat) : peekOk (bs.take bufSize) n = peekOk bs n :=
  peekOk_congr (N := bufSize) (by simp [List.take_take]) (fun h => h)

theorem peekOk_length {bs : Bytes} {n : Nat} {b : Bytes} (h : peekOk bs n = some b) : b.length = n := by
  unfold peekOk at h
  split at h
  · rename_i hc
    injection h with h
    subst h
    simp [List.length_take]
    omega
  · cases h

/-- how far into the stream a test looks -/
def Test.bound : Test → Nat
  | .at pos pat => pos + pat.length
  | .contains win _ => win

/-- a prefix test whose pattern starts with byte `b` -/
def Test.prefixByte (b : UInt8) : Test → Bool
  | .at 0 (c :: _) => c == b
  | _ => false

theorem atPos_congr {bs bs' : Bytes} {N : Nat} (h : bs.take N = bs'.take N) (pat : Bytes) (pos : Nat)
    (hb : pos + pat.length ≤ N) : atPos bs pat pos = atPos bs' pat pos := by
  simp only [atPos, peekAny_congr h (Nat.le_trans (Nat.min_le_left _ _) hb)]

theorem containsIn_congr {bs bs' : Bytes} {N : Nat} (h : bs.take N = bs'.take N) (pat : Bytes) (win : Nat)
    (hb : win ≤ N) : containsIn bs pat win = containsIn bs' pat win := by
  simp only [containsIn, peekAny_congr h (Nat.le_trans (Nat.min_le_left _ _) hb)]

theorem Test.eval_congr {bs bs' : Bytes} {N : Nat} (h : bs.take N = bs'.take N) (t : Test) (hb : t.bound ≤ N) :
    t.eval bs = t.eval bs' := by
  cases t with
  | «at» pos pat => exact atPos_congr h pat pos hb
  | contains win pat => exact containsIn_congr h pat win hb

theorem Rule.fires_congr {bs bs' : Bytes} {N : Nat} (h : bs.take N = bs'.take N) (r : Rule)
    (hb : ∀ t ∈ r.tests, t.bound ≤ N) : r.fires bs = r.fires bs' := by
  rw [Bool.eq_iff_iff, Rule.fires, Rule.fires, List.any_eq_true, List.any_eq_true]
  exact exists_congr fun t => and_congr_right fun ht => by rw [Test.eval_congr h t (hb t ht)]

/-- the `e_lfanew` value the probe reads (low 16 bits) -/
def reloc (bs : Bytes) : Nat := leVal ((peekAny bs 0x3e).drop 0x3c)

theorem reloc_low_half (bs : Bytes) : reloc bs = leVal ((bs.drop 0x3c).take 4) % 65536 := by
  have e : (peekAny bs 0x3e).drop 0x3c = ((bs.drop 0x3c).take 4).take 2 := by
    rw [List.take_take, peekAny, List.drop_take]
    rfl
  rw [reloc, e, leVal_take]

theorem mzProbe_congr {bs bs' : Bytes} {N : Nat} (h : bs.take N = bs'.take N) (h1 : 0x3e ≤ N)
    (h2 : reloc bs + 4 ≤ bufSize → reloc bs + 4 ≤ N) : mzProbe bs = mzProbe bs' := by
  have hp : peekAny bs 0x3e = peekAny bs' 0x3e := peekAny_congr h (Nat.le_trans (Nat.min_le_left _ _) h1)
  unfold mzProbe
  simp only [← hp]
  have hr : leVal ((peekAny bs 0x3e).drop 0x3c) = reloc bs := rfl
  rw [hr, peekOk_congr h h2]

theorem mzProbe_iff (bs : Bytes) : mzProbe bs = true ↔
    0x3e ≤ bs.length ∧ reloc bs + 4 ≤ bufSize ∧ reloc bs + 4 ≤ bs.length ∧ (bs.drop (reloc bs)).take 4 = pPE := by
  unfold mzProbe
  have hr : leVal ((peekAny bs 0x3e).drop 0x3c) = reloc bs := rfl
  have hlen : (peekAny bs 0x3e).length = min 0x3e bs.length := by
    rw [peekAny_of_le bs (by decide), List.length_take]
  by_cases hl : 0x3e ≤ bs.length
  · simp only [hlen, Nat.min_eq_left hl, if_true, hr]
    unfold peekOk
    by_cases hc : reloc bs + 4 ≤ bufSize ∧ reloc bs + 4 ≤ bs.length
    · simp only [hc, and_self, if_true, hl, true_and]
      have : List.drop (reloc bs) (List.take (reloc bs + 4) bs) = (bs.drop (reloc bs)).take 4 := by
        rw [List.drop_take]; simp
      simp [this]
    · simp only [hc, if_false]
      constructor
      · intro h; cases h
      · rintro ⟨_, h1, h2, _⟩; exact absurd ⟨h1, h2⟩ hc
  · have : ¬ (min 0x3e bs.length = 0x3e) := by omega
    simp [hlen, this, hl]

theorem inspected_eq (bs : Bytes) : inspected bs =
    if atPos bs pMZ 0 ∧ 0x3e ≤ bs.length then min bufSize (max 262 (reloc bs + 4)) else 262 := by
  rw [inspected, reloc, peekAny_of_le bs (by decide)]

theorem detectWith_congr {bs bs' : Bytes} (rs : List Rule)
    (h : ∀ r ∈ rs, r.fires bs = r.fires bs' ∧ (r.fires bs = true → runAction bs r.act = runAction bs' r.act)) :
    detectWith rs bs = detectWith rs bs' := by
  induction rs with
  | nil => rfl
  | cons r rs ih =>
    have hr := h r (by simp)
    simp only [detectWith]
    rw [← hr.1]
    by_cases hf : r.fires bs = true
    · simp [hf, hr.2 hf]
    · simp [hf]
      exact ih (fun q hq => h q (by simp [hq]))

theorem atPosR_eq (bs pat : Bytes) (pos : Nat) : atPosR bs pat pos = .ok (atPos bs pat pos) := by
  unfold atPosR atPos
  by_cases hl : (peekAny bs (pos + pat.length)).length < pos + pat.length
  · simp [hl]
  · have hle : pos ≤ (peekAny bs (pos + pat.length)).length := by omega
    have hlen : (List.drop pos (peekAny bs (pos + pat.length))).length ≤ (peekAny bs (pos + pat.length)).length - pos := by
      simp [List.length_drop]
    simp [hl, slice?, hle, List.take_of_length_le hlen]

theorem Test.evalR_eq (bs : Bytes) (t : Test) : t.evalR bs = .ok (t.eval bs) := by
  cases t with
  | «at» pos pat => exact atPosR_eq bs pat pos
  | contains win pat => rfl

theorem anyR_eq (bs : Bytes) (ts : List Test) : anyR bs ts = .ok (ts.any (Test.eval bs)) := by
  induction ts with
  | nil => rfl
  | cons t ts ih =>
    simp only [anyR, Test.evalR_eq, List.any_cons]
    cases t.eval bs <;> simp [ih]

theorem mzProbeR_eq (bs : Bytes) : mzProbeR bs = .ok (mzProbe bs) := by
  unfold mzProbeR mzProbe
  by_cases hl : (peekAny bs 0x3e).length = 0x3e
  · simp only [hl, if_true]
    have hs : slice? (peekAny bs 0x3e) 0x3c 0x3e = some ((peekAny bs 0x3e).drop 0x3c) := by
      have : (List.drop 60 (peekAny bs 62)).length = 2 := by simp [List.length_drop, hl]
      simp [slice?, hl, List.take_of_length_le, this]
    rw [hs]
    simp only
    cases hp : peekOk bs (leVal ((peekAny bs 0x3e).drop 0x3c) + 4) with
    | none => rfl
    | some b2 =>
      have hb := peekOk_length hp
      have : (List.drop (leVal (List.drop 60 (peekAny bs 62))) b2).length = 4 := by simp [List.length_drop, hb]
      simp [slice?, hb, List.take_of_length_le, this]
  · simp [hl]

theorem runActionR_eq (bs : Bytes) (a : Action) : runActionR bs a = .ok (runAction bs a) := by
  cases a with
  | ret t => rfl
  | tar => rfl
  | mzpe =>
    simp only [runActionR, runAction, mzProbeR_eq]
    cases mzProbe bs <;> rfl
  | mzpeOrig => rfl

theorem detectWithR_eq (rs : List Rule) (bs : Bytes) : detectWithR rs bs = .ok (detectWith rs bs) := by
  induction rs with
  | nil => rfl
  | cons r rs ih =>
    simp only [detectWithR, detectWith, anyR_eq, Rule.fires]
    by_cases hf : r.tests.any (Test.eval bs) = true
    · simp only [hf, if_true, runActionR_eq]
    · have hf' : r.tests.any (Test.eval bs) = false := by simpa using hf
      simp only [hf', ih, Bool.false_eq_true, if_false]

theorem first_match_iff {α β : Type} (f : α → Option β) (l : List α) (d t : β) :
    (l.findSome? f).getD d = t ↔
      (∃ pre a post, l = pre ++ a :: post ∧ (∀ x ∈ pre, f x = none) ∧ f a = some t) ∨ ((∀ x ∈ l, f x = none) ∧ t = d) := by
  cases hf : l.findSome? f with
  | some b =>
    obtain ⟨pre, a, post, e, ha, hpre⟩ := List.findSome?_eq_some_iff.mp hf
    constructor
    · rintro rfl
      exact Or.inl ⟨pre, a, post, e, hpre, ha⟩
    · rintro (⟨pre', a', post', e', hp', ha'⟩ | ⟨hall, _⟩)
      · exact Option.some.inj (hf.symm.trans (List.findSome?_eq_some_iff.mpr ⟨pre', a', post', e', ha', hp'⟩))
      · exact absurd (hall a (by simp [e])) (by simp [ha])
  | none =>
    have hall := List.findSome?_eq_none_iff.mp hf
    constructor
    · rintro rfl
      exact Or.inr ⟨hall, rfl⟩
    · rintro (⟨pre, a, post, e, _, ha⟩ | ⟨_, h⟩)
      · exact absurd (hall a (by simp [e])) (by simp [ha])
      · exact h.symm

/-- what a rule decides on its own -/
def Rule.verdict (bs : Bytes) (r : Rule) : Option FileType := if r.fires bs then some (runAction bs r.act) else none

theorem detectWith_findSome (rs : List Rule) (bs : Bytes) :
    detectWith rs bs = (rs.findSome? (Rule.verdict bs)).getD .unknown := by
  induction rs with
  | nil => rfl
  | cons r rs ih =>
    rw [detectWith, List.findSome?_cons, Rule.verdict]
    cases r.fires bs
    · exact ih
    · rfl

theorem detectWith_eq_iff (rs : List Rule) (bs : Bytes) (t : FileType) :
    detectWith rs bs = t ↔
      (∃ pre r post, rs = pre ++ r :: post ∧ (∀ q ∈ pre, q.fires bs = false) ∧ r.fires bs = true ∧ runAction bs r.act = t) ∨
      ((∀ q ∈ rs, q.fires bs = false) ∧ t = .unknown) := by
  have none_iff : ∀ q : Rule, q.verdict bs = none ↔ q.fires bs = false := fun q => by
    unfold Rule.verdict; cases q.fires bs <;> simp
  have some_iff : ∀ r : Rule, r.verdict bs = some t ↔ r.fires bs = true ∧ runAction bs r.act = t := fun r => by
    unfold Rule.verdict; cases r.fires bs <;> simp
  rw [detectWith_findSome, first_match_iff]
  simp only [none_iff, some_iff]

theorem detectWith_append_cases (pre l l' : List Rule) (bs : Bytes) :
    detectWith (pre ++ l) bs = detectWith (pre ++ l') bs ∨
    (detectWith (pre ++ l) bs = detectWith l bs ∧ detectWith (pre ++ l') bs = detectWith l' bs) := by
  simp only [detectWith_findSome, List.findSome?_append]
  cases pre.findSome? (Rule.verdict bs) with
  | some t => exact Or.inl rfl
  | none => exact Or.inr ⟨rfl, rfl⟩

/-- what one member name decides on its own: a marker type, IPA, or nothing -/
def hit (n : Bytes) : Option FileType :=
  match markers.lookup (zipName n) with
  | some t => some t
  | none => if isIpaName (zipName n) then some .ipa else none

def isManifest (n : Bytes) : Bool := zipName n == nManifest

theorem classifyLoop_cons (j : Bool) (n : Bytes) (rest : List Bytes) :
    classifyLoop j (n :: rest) = match hit n with
      | some t => t
      | none => classifyLoop (j || isManifest n) rest := by
  simp only [classifyLoop, hit, isManifest]
  cases markers.lookup (zipName n) with
  | some t => rfl
  | none =>
    simp only
    cases isIpaName (zipName n) <;> rfl

theorem classifyLoop_findSome (j : Bool) (names : List Bytes) :
    classifyLoop j names = (names.findSome? hit).getD (if j || names.any isManifest then .jar else .unknown) := by
  induction names generalizing j with
  | nil => simp [classifyLoop]
  | cons n rest ih =>
    rw [classifyLoop_cons, List.findSome?_cons]
    cases hit n with
    | some t => rfl
    | none => simp only [ih, List.any_cons, Bool.or_assoc]; rfl

end Relic.Magic
