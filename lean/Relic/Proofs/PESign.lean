/- the signed PE file as bytes; what signing preserves (C01/C03/C08) -/
import Relic.Proofs.PE
import Relic.Proofs.Binpatch
namespace Relic.PE

theorem makePatch_constructible (f : Bytes) (d : Digest) (sig : Bytes) (ps : List Binpatch.Patch)
    (H : DigestOk f d) (e : makePatch d sig = .ok ps) : Binpatch.wfFrom f.length 0 ps = true := by
  unfold makePatch at e
  split at e
  · contradiction
  · injection e with e
    subst e
    have hlay := H.layout
    have h3 := H.fileEnd
    simp [Binpatch.wfFrom]
    omega

/-- the signed file, as bytes.  The `+ 0` is what `(tbl.length - pad2)` of `makePatch` becomes when the lengths are
    computed; it is kept so that `sem_makePatch` closes by rewriting alone. -/
def signedBytes (f : Bytes) (d : Digest) (sig : Bytes) : Bytes :=
  f.take d.m.posDDCert ++
    (leBytes 4 d.certStart ++ leBytes 4 ((8 + ceil8 sig.length + 0) % 2 ^ 32)) ++
    seg f (d.m.posDDCert + 8) d.origSize ++ List.replicate (d.certStart - d.origSize) 0 ++ certTable sig

theorem certTable_length (sig : Bytes) : (certTable sig).length = 8 + ceil8 sig.length := by
  simp [certTable, ceil8]; omega

theorem sem_makePatch (f : Bytes) (d : Digest) (sig : Bytes) (ps : List Binpatch.Patch)
    (H : DigestOk f d) (e : makePatch d sig = .ok ps) : Binpatch.sem f ps = signedBytes f d sig := by
  have w := makePatch_constructible f d sig ps H e
  unfold makePatch at e
  rw [if_neg (by intro h; rw [if_pos h] at e; cases e)] at e
  cases Res.ok.inj e
  -- the two patches are constructible, so what they write is `copy`: the signed file, piece by piece
  rw [Binpatch.sem_copy f 0 _ w]
  simp only [Binpatch.copy, List.take_zero, List.nil_append, signedBytes, seg, List.drop_zero, Nat.sub_zero, H.fileEnd,
    List.drop_length, List.append_nil, List.length_append, List.length_replicate, Nat.add_sub_cancel_left, certTable_length,
    Nat.add_zero, List.append_assoc]

/-- the signed file in three parts: the image up to and including the rewritten data-directory entry, the rest of
    the image with its padding, the certificate table -/
theorem signedBytes_parts (f : Bytes) (d : Digest) (sig : Bytes) :
    signedBytes f d sig =
      (f.take d.m.posDDCert ++ (leBytes 4 d.certStart ++ leBytes 4 ((8 + ceil8 sig.length + 0) % 2 ^ 32))) ++
      ((seg f (d.m.posDDCert + 8) d.origSize ++ List.replicate (d.certStart - d.origSize) 0) ++ certTable sig) := by
  simp only [signedBytes, List.append_assoc]

theorem signedBytes_head_length {f : Bytes} {d : Digest} (H : DigestOk f d) (x : Nat) :
    (f.take d.m.posDDCert ++ (leBytes 4 d.certStart ++ leBytes 4 x)).length = d.m.posDDCert + 8 := by
  have hlay := H.layout
  simp only [List.length_append, List.length_take, leBytes_length]
  omega

theorem signedBytes_body_length {f : Bytes} {d : Digest} (H : DigestOk f d) :
    (seg f (d.m.posDDCert + 8) d.origSize ++ List.replicate (d.certStart - d.origSize) 0).length =
      d.certStart - (d.m.posDDCert + 8) := by
  have hlay := H.layout
  rw [List.length_append, seg_length f _ _ H.origLe, List.length_replicate]
  omega

theorem signedBytes_length (f : Bytes) (d : Digest) (sig : Bytes) (H : DigestOk f d) :
    (signedBytes f d sig).length = d.certStart + (8 + ceil8 sig.length) := by
  have hlay := H.layout
  rw [signedBytes_parts, List.length_append, signedBytes_head_length H, List.length_append, signedBytes_body_length H,
    certTable_length]
  omega

theorem seg_signed_prefix (f : Bytes) (d : Digest) (sig : Bytes) (H : DigestOk f d) (a b : Nat)
    (hb : b ≤ d.m.posDDCert) : seg (signedBytes f d sig) a b = seg f a b := by
  have hlay := H.layout
  rw [signedBytes_parts, List.append_assoc, seg_append_left _ _ _ _ (by rw [List.length_take]; omega),
    seg_of_take _ _ _ _ hb]

theorem seg_signed_mid (f : Bytes) (d : Digest) (sig : Bytes) (H : DigestOk f d) (a b : Nat)
    (ha : d.m.posDDCert + 8 ≤ a) (hb : b ≤ d.origSize) : seg (signedBytes f d sig) a b = seg f a b := by
  have hlay := H.layout
  by_cases hab : a ≤ b
  · rw [signedBytes_parts, seg_append_right _ _ _ _ (by rw [signedBytes_head_length H]; exact ha),
      signedBytes_head_length H, List.append_assoc,
      seg_append_left _ _ _ _ (by rw [seg_length f _ _ H.origLe]; omega), seg_seg _ _ _ _ _ (by omega)]
    congr 1 <;> omega
  · have : b - a = 0 := by omega
    simp [seg, this]

theorem seg_signed_body (f : Bytes) (d : Digest) (sig : Bytes) (H : DigestOk f d) :
    seg (signedBytes f d sig) (d.m.posDDCert + 8) d.certStart
      = seg f (d.m.posDDCert + 8) d.origSize ++ List.replicate (d.certStart - d.origSize) 0 := by
  rw [signedBytes_parts, seg_append_right _ _ _ _ (by rw [signedBytes_head_length H]; exact Nat.le_refl _),
    signedBytes_head_length H, seg_append_left _ _ _ _ (by rw [signedBytes_body_length H]; exact Nat.le_refl _),
    Nat.sub_self, ← signedBytes_body_length H, seg_whole]

theorem seg_signed_pad (f : Bytes) (d : Digest) (sig : Bytes) (H : DigestOk f d) :
    seg (signedBytes f d sig) d.origSize d.certStart = List.replicate (d.certStart - d.origSize) 0 := by
  have hlay := H.layout
  have := seg_signed_body f d sig H
  rw [← seg_append _ _ d.origSize _ hlay.1 hlay.2.2, seg_signed_mid f d sig H _ _ (Nat.le_refl _) (Nat.le_refl _)] at this
  exact List.append_cancel_left this

theorem seg_signed_table (f : Bytes) (d : Digest) (sig : Bytes) (H : DigestOk f d) :
    seg (signedBytes f d sig) d.certStart (d.certStart + (8 + ceil8 sig.length)) = certTable sig := by
  have hlay := H.layout
  have hl : (f.take d.m.posDDCert ++ (leBytes 4 d.certStart ++ leBytes 4 ((8 + ceil8 sig.length + 0) % 2 ^ 32)) ++
      (seg f (d.m.posDDCert + 8) d.origSize ++ List.replicate (d.certStart - d.origSize) 0)).length = d.certStart := by
    rw [List.length_append, signedBytes_head_length H, signedBytes_body_length H]
    omega
  rw [signedBytes_parts, ← List.append_assoc, seg_append_right _ _ _ _ (by rw [hl]; exact Nat.le_refl _), hl,
    Nat.sub_self, Nat.add_sub_cancel_left, ← certTable_length, seg_whole]

theorem u32_signed_lfanew (f : Bytes) (d : Digest) (sig : Bytes) (H : DigestOk f d) :
    u32 (signedBytes f d sig) 0x3c = u32 f 0x3c := by
  have := H.ddGe
  unfold u32
  rw [seg_signed_prefix f d sig H _ _ (by omega)]

theorem u32_signed_dd (f : Bytes) (d : Digest) (sig : Bytes) (H : DigestOk f d) (hcs : d.certStart < 2 ^ 32)
    (hsig : 8 + ceil8 sig.length < 2 ^ 32) :
    u32 (signedBytes f d sig) d.m.posDDCert = d.certStart ∧
    u32 (signedBytes f d sig) (d.m.posDDCert + 4) = 8 + ceil8 sig.length := by
  have hlay := H.layout
  have lt : (List.take d.m.posDDCert f).length = d.m.posDDCert := by simp [List.length_take]; omega
  unfold u32 signedBytes seg
  simp only [List.append_assoc]
  constructor
  · rw [List.drop_left' lt, Nat.add_sub_cancel_left, List.take_left' (leBytes_length 4 _),
      leVal_leBytes_of_lt 4 _ (by omega)]
  · rw [← List.drop_drop, List.drop_left' lt, List.drop_left' (leBytes_length 4 _), Nat.add_sub_cancel_left,
      List.take_left' (leBytes_length 4 _), Nat.add_zero, Nat.mod_eq_of_lt hsig, leVal_leBytes_of_lt 4 _ (by omega)]

end Relic.PE
