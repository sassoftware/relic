/-
  Self-delimiting printers.  `Reads Ok T f`: what `f` prints can be read off the front of any string whose remainder is
  of class `T` — the statement behind every "the text determines the value" theorem (JSON strings and numbers,
  distinguished-name strings, XML character data and attribute values).  The formats supply what is theirs (tables,
  digits, the quoting rule); how such facts combine is here: a word over an alphabet in front of a byte outside it
  (`cut`), code words of a prefix code in a row (`flatMap`), items between separators (`intercalate`).  Also the cut of a
  list at the first or last element with a property, and `List.span` / `takeWhile` / `dropWhile` stopping there.  `Escaper` is
  the prefix codes that byte escapers are.
-/
import Relic.Base.Bytes
namespace Relic

/-- `a` (not only `f a`) and the remainder are determined by `f a ++ t` whenever the item is `Ok` and the remainder of class `T` -/
def Reads {α β : Type} (Ok : α → Prop) (T : List β → Prop) (f : α → List β) : Prop :=
  ∀ a a' t t', Ok a → Ok a' → T t → T t' → f a ++ t = f a' ++ t' → a = a' ∧ t = t'

namespace Reads
variable {α β γ : Type} {Ok : α → Prop} {T : List β → Prop} {f : α → List β}

theorem mono {Ok' : α → Prop} {T' : List β → Prop} (h : Reads Ok T f) (hOk : ∀ a, Ok' a → Ok a) (hT : ∀ t, T' t → T t) :
    Reads Ok' T' f :=
  fun a a' t t' ha ha' ht ht' e => h a a' t t' (hOk a ha) (hOk a' ha') (hT t ht) (hT t' ht') e

theorem inj (h : Reads Ok T f) (hT : T []) {a a' : α} (ha : Ok a) (ha' : Ok a') (e : f a = f a') : a = a' :=
  (h a a' [] [] ha ha' hT hT (by rw [List.append_nil, List.append_nil, e])).1

/-- the same printer after an injective change of items -/
theorem comap (h : Reads Ok T f) (g : γ → α) {Ok' : γ → Prop} (hOk : ∀ c, Ok' c → Ok (g c))
    (hg : ∀ c c', Ok' c → Ok' c' → g c = g c' → c = c') : Reads Ok' T (fun c => f (g c)) := by
  intro c c' t t' hc hc' ht ht' e
  obtain ⟨e1, e2⟩ := h _ _ t t' (hOk c hc) (hOk c' hc') ht ht' e
  exact ⟨hg c c' hc hc' e1, e2⟩

/-- the basic way to show it: of two strings `f a ++ t = f a' ++ t'` one word is a prefix of the other; so it is
    enough that `f` is injective and that no word is continued to another word by the beginning of a remainder -/
theorem of_no_extension (hinj : ∀ a a', Ok a → Ok a' → f a = f a' → a = a')
    (hext : ∀ a a' c w t', Ok a → Ok a' → f a' = f a ++ c :: w → ¬ T (c :: w ++ t')) : Reads Ok T f := by
  intro a a' t t' ha ha' ht ht' h
  rcases List.append_eq_append_iff.mp h with ⟨x, e1, e2⟩ | ⟨x, e1, e2⟩
  · cases x with
    | nil => exact ⟨hinj a a' ha ha' (by simpa using e1.symm), by simpa using e2⟩
    | cons c w => exact absurd (e2 ▸ ht) (hext a a' c w t' ha ha' e1)
  · cases x with
    | nil => exact ⟨hinj a a' ha ha' (by simpa using e1), by simpa using e2.symm⟩
    | cons c w => exact absurd (e2 ▸ ht') (hext a' a c w t ha' ha e1)

/-- a word without `p`-elements, in front of nothing or of a `p`-element -/
theorem cut (p : β → Prop) : Reads (fun w : List β => ∀ c ∈ w, ¬ p c) (fun t => ∀ b r, t = b :: r → p b) id :=
  of_no_extension (fun _ _ _ _ h => h) fun a a' c w t' _ ha' e ht =>
    ha' c (by simp only [id] at e; simp [e]) (ht c _ rfl)

/-- code words of a prefix code in a row, in front of something that no code word begins -/
theorem flatMap {w : α → List β} (h : Reads Ok (fun _ => True) w) (hT : ∀ c x t, Ok c → T t → t ≠ w c ++ x) :
    Reads (fun s : List α => ∀ c ∈ s, Ok c) T (fun s => s.flatMap w) := by
  intro s
  induction s with
  | nil =>
    rintro (_ | ⟨c', s'⟩) t t' _ h2 ht _ e
    · exact ⟨rfl, e⟩
    · simp only [List.flatMap_nil, List.nil_append, List.flatMap_cons, List.append_assoc] at e
      exact absurd e (hT c' _ t (h2 c' (by simp)) ht)
  | cons c s ih =>
    rintro (_ | ⟨c', s'⟩) t t' h1 h2 ht ht' e
    · simp only [List.flatMap_nil, List.nil_append, List.flatMap_cons, List.append_assoc] at e
      exact absurd e.symm (hT c _ t' (h1 c (by simp)) ht')
    · simp only [List.flatMap_cons, List.append_assoc] at e
      obtain ⟨rfl, e2⟩ := h c c' _ _ (h1 c (by simp)) (h2 c' (by simp)) trivial trivial e
      obtain ⟨rfl, rfl⟩ := ih s' t t' (fun x hx => h1 x (by simp [hx])) (fun x hx => h2 x (by simp [hx])) ht ht' e2
      exact ⟨rfl, rfl⟩

theorem _root_.Relic.intercalate_cons_cons (sep x y : List β) (r : List (List β)) :
    sep.intercalate (x :: y :: r) = x ++ (sep ++ sep.intercalate (y :: r)) := by
  simp [List.intercalate, List.intersperse]

theorem _root_.Relic.intercalate_ne_nil (sep x : List β) (l : List (List β)) (hx : x ≠ []) : sep.intercalate (x :: l) ≠ [] := by
  cases l <;> simp [List.intercalate, List.intersperse, hx]

/-- items between separators: read back in front of `T` if each item is read back in front of `T` or of the
    separator, and nothing of class `T` begins with the separator.  The first item is read in front of "`T` or separator";
    if one list ends there and the other goes on, the remainder `t` would begin with the separator, which `hT` forbids. -/
theorem intercalate {sep : List β} (hitem : Reads Ok (fun t => T t ∨ ∃ u, t = sep ++ u) f)
    (hT : ∀ t u, T t → t ≠ sep ++ u) :
    Reads (fun l : List α => l ≠ [] ∧ ∀ a ∈ l, Ok a) T (fun l => sep.intercalate (l.map f))
  | [], _, _, _, h, _, _, _, _ => absurd rfl h.1
  | _ :: _, [], _, _, _, h, _, _, _ => absurd rfl h.1
  | [a], [a'], t, t', ho, ho', ht, ht', h => by
    simp only [List.map_cons, List.map_nil, List.intercalate, List.intersperse, List.flatten_cons, List.flatten_nil,
      List.append_nil] at h
    obtain ⟨rfl, e⟩ := hitem a a' t t' (ho.2 a (by simp)) (ho'.2 a' (by simp)) (Or.inl ht) (Or.inl ht') h
    exact ⟨rfl, e⟩
  | [a], a' :: b' :: l', t, t', ho, ho', ht, _, h => by
    simp only [List.map_cons, intercalate_cons_cons, List.append_assoc] at h
    simp only [List.map_nil, List.intercalate, List.intersperse, List.flatten_cons, List.flatten_nil, List.append_nil] at h
    obtain ⟨_, e⟩ := hitem a a' t _ (ho.2 a (by simp)) (ho'.2 a' (by simp)) (Or.inl ht) (Or.inr ⟨_, rfl⟩) h
    exact absurd e (hT t _ ht)
  | a :: b :: l, [a'], t, t', ho, ho', _, ht', h => by
    simp only [List.map_cons, intercalate_cons_cons, List.append_assoc] at h
    simp only [List.map_nil, List.intercalate, List.intersperse, List.flatten_cons, List.flatten_nil, List.append_nil] at h
    obtain ⟨_, e⟩ := hitem a a' _ t' (ho.2 a (by simp)) (ho'.2 a' (by simp)) (Or.inr ⟨_, rfl⟩) (Or.inl ht') h
    exact absurd e.symm (hT t' _ ht')
  | a :: b :: l, a' :: b' :: l', t, t', ho, ho', ht, ht', h => by
    simp only [List.map_cons, intercalate_cons_cons, List.append_assoc] at h
    obtain ⟨rfl, e⟩ := hitem a a' _ _ (ho.2 a (by simp)) (ho'.2 a' (by simp)) (Or.inr ⟨_, rfl⟩) (Or.inr ⟨_, rfl⟩) h
    obtain ⟨e2, rfl⟩ := intercalate hitem hT (b :: l) (b' :: l') t t' ⟨by simp, fun x hx => ho.2 x (List.mem_cons_of_mem _ hx)⟩
      ⟨by simp, fun x hx => ho'.2 x (List.mem_cons_of_mem _ hx)⟩ ht ht' (List.append_cancel_left e)
    exact ⟨by rw [e2], rfl⟩

/-- whole strings: a list of non-empty items, the empty list included, is determined by its joined form -/
theorem intercalate_inj {sep : List β} (hitem : Reads Ok (fun t => t = [] ∨ ∃ u, t = sep ++ u) f) (hsep : sep ≠ [])
    (hne : ∀ a, Ok a → f a ≠ []) {l l' : List α} (hl : ∀ a ∈ l, Ok a) (hl' : ∀ a ∈ l', Ok a)
    (h : sep.intercalate (l.map f) = sep.intercalate (l'.map f)) : l = l' := by
  have R := intercalate (T := (· = [])) hitem (by rintro t u rfl h; exact hsep (List.append_eq_nil_iff.mp h.symm).1)
  rcases l with _ | ⟨a, l⟩ <;> rcases l' with _ | ⟨a', l'⟩
  · rfl
  · exact absurd h.symm (intercalate_ne_nil _ _ _ (hne a' (hl' a' (by simp))))
  · exact absurd h (intercalate_ne_nil _ _ _ (hne a (hl a (by simp))))
  · exact R.inj rfl ⟨by simp, hl⟩ ⟨by simp, hl'⟩ h

end Reads

/-- a list is split uniquely at the first element with a given property -/
theorem split_first {β : Type} (p : β → Prop) (a a' : List β) (x x' : β) (s s' : List β) (ha : ∀ c ∈ a, ¬ p c)
    (ha' : ∀ c ∈ a', ¬ p c) (hx : p x) (hx' : p x') (h : a ++ x :: s = a' ++ x' :: s') : a = a' ∧ x = x' ∧ s = s' := by
  obtain ⟨e1, e2⟩ := Reads.cut p a a' _ _ ha ha' (by rintro b r ⟨⟩; exact hx) (by rintro b r ⟨⟩; exact hx') h
  exact ⟨e1, List.cons.inj e2⟩

/-- … in particular at the first occurrence of a delimiter `c` -/
theorem split_first_eq {β : Type} (c : β) {x x' y y' : List β} (hx : c ∉ x) (hx' : c ∉ x') (h : x ++ c :: y = x' ++ c :: y') :
    x = x' ∧ y = y' :=
  have := split_first (· = c) x x' c c y y' (fun _ hc e => hx (e ▸ hc)) (fun _ hc e => hx' (e ▸ hc)) rfl rfl h
  ⟨this.1, this.2.2⟩

/-- and, read from the right, at the last one -/
theorem split_last_eq {β : Type} (c : β) {a a' d d' : List β} (hd : c ∉ d) (hd' : c ∉ d') (h : a ++ c :: d = a' ++ c :: d') :
    a = a' ∧ d = d' := by
  have hr : d.reverse ++ c :: a.reverse = d'.reverse ++ c :: a'.reverse := by
    have := congrArg List.reverse h
    simpa using this
  have := split_first_eq c (by simpa using hd) (by simpa using hd') hr
  exact ⟨List.reverse_inj.mp this.2, List.reverse_inj.mp this.1⟩

private theorem span_loop_stop {α : Type} (p : α → Bool) (a : List α) (x : α) (r : List α) (ha : ∀ c ∈ a, p c = true)
    (hx : p x = false) (acc : List α) : List.span.loop p (a ++ x :: r) acc = (acc.reverse ++ a, x :: r) := by
  induction a generalizing acc with
  | nil => simp [List.span.loop, hx]
  | cons c a ih =>
    rw [List.cons_append, List.span.loop, ha c List.mem_cons_self]
    simp only
    rw [ih (fun d hd => ha d (List.mem_cons_of_mem _ hd))]
    simp

/-- the executable side of `split_first`: `List.span` walks over a prefix that satisfies `p` and stops at the first element
    that does not -/
theorem span_stop {α : Type} (p : α → Bool) (a : List α) (x : α) (r : List α) (ha : ∀ c ∈ a, p c = true)
    (hx : p x = false) : (a ++ x :: r).span p = (a, x :: r) := by
  unfold List.span
  rw [span_loop_stop p a x r ha hx []]
  rfl

theorem takeWhile_dropWhile_stop {α : Type} (p : α → Bool) (a : List α) (x : α) (r : List α) (ha : ∀ c ∈ a, p c = true)
    (hx : p x = false) : (a ++ x :: r).takeWhile p = a ∧ (a ++ x :: r).dropWhile p = x :: r := by
  rw [List.takeWhile_append_of_pos ha, List.dropWhile_append_of_pos ha]
  simp [hx]

/-- an element that fails the test stops `takeWhile` before what is appended -/
theorem takeWhile_append_of_neg {α} {p : α → Bool} {x : List α} {a : α} (ha : a ∈ x) (hp : p a = false) (y : List α) :
    (x ++ y).takeWhile p = x.takeWhile p := by
  rw [List.takeWhile_append, if_neg]
  intro hl
  rw [← (List.takeWhile_prefix p).eq_of_length hl] at ha
  rw [List.all_eq_true.1 List.all_takeWhile a ha] at hp
  cases hp

/-- `f` writes each byte of `S` as a word that begins with the marker `m ∈ S`, no such word being a prefix of
    another, and every other byte as itself -/
structure Escaper (f : UInt8 → Bytes) (m : UInt8) (S : List UInt8) : Prop where
  marker : m ∈ S
  plain : ∀ b, b ∉ S → f b = [b]
  head : ∀ b ∈ S, (f b).head? = some m
  free : ∀ a ∈ S, ∀ b ∈ S, f a <+: f b → a = b

namespace Escaper
variable {f : UInt8 → Bytes} {m : UInt8} {S : List UInt8}

/-- no word is a prefix of another byte's word: a word begins with the marker exactly when its byte is escaped, so the first
    byte tells the two kinds apart -/
theorem eq_of_prefix (e : Escaper f m S) {a b : UInt8} (h : f a <+: f b) : a = b := by
  by_cases ha : a ∈ S
  · by_cases hb : b ∈ S
    · exact e.free a ha b hb h
    · obtain ⟨t, ht⟩ := List.head?_eq_some_iff.mp (e.head a ha)
      rw [ht, e.plain b hb, List.cons_prefix_cons] at h
      exact absurd (h.1 ▸ e.marker) hb
  · by_cases hb : b ∈ S
    · obtain ⟨t, ht⟩ := List.head?_eq_some_iff.mp (e.head b hb)
      rw [ht, e.plain a ha, List.cons_prefix_cons] at h
      exact absurd (h.1 ▸ e.marker) ha
    · rw [e.plain a ha, e.plain b hb, List.cons_prefix_cons] at h
      exact h.1

theorem prefix_free (e : Escaper f m S) (a b : UInt8) (x y : Bytes) (h : f a ++ x = f b ++ y) : a = b ∧ x = y := by
  have hab : a = b := by
    rcases List.prefix_or_prefix_of_prefix (h ▸ List.prefix_append (f a) x) (List.prefix_append (f b) y) with p | p
    · exact e.eq_of_prefix p
    · exact (e.eq_of_prefix p).symm
  subst hab
  exact ⟨rfl, List.append_cancel_left h⟩

theorem head_ne (e : Escaper f m S) {c : UInt8} (hc : c ∈ S) (hm : m ≠ c) (b : UInt8) : ∃ h t, f b = h :: t ∧ h ≠ c := by
  by_cases hb : b ∈ S
  · obtain ⟨t, ht⟩ := List.head?_eq_some_iff.mp (e.head b hb)
    exact ⟨m, t, ht, hm⟩
  · exact ⟨b, [], e.plain b hb, fun h => hb (h ▸ hc)⟩

theorem length_pos (e : Escaper f m S) (b : UInt8) : 0 < (f b).length := by
  by_cases hb : b ∈ S
  · obtain ⟨t, ht⟩ := List.head?_eq_some_iff.mp (e.head b hb)
    simp [ht]
  · simp [e.plain b hb]

/-- tails of equal length: with them a run of code words has no tail class to be told from, and `x = y` follows -/
theorem flatMap_append_inj (e : Escaper f m S) : ∀ (s t x y : Bytes),
    s.flatMap f ++ x = t.flatMap f ++ y → x.length = y.length → s = t ∧ x = y
  | [], [], x, y, h, _ => ⟨rfl, h⟩
  | [], b :: t, x, y, h, hl => by
    have := congrArg List.length h
    simp only [List.flatMap_nil, List.nil_append, List.flatMap_cons, List.length_append] at this
    have := e.length_pos b
    omega
  | a :: s, [], x, y, h, hl => by
    have := congrArg List.length h
    simp only [List.flatMap_nil, List.nil_append, List.flatMap_cons, List.length_append] at this
    have := e.length_pos a
    omega
  | a :: s, b :: t, x, y, h, hl => by
    simp only [List.flatMap_cons, List.append_assoc] at h
    obtain ⟨rfl, hrest⟩ := e.prefix_free a b _ _ h
    obtain ⟨rfl, hxy⟩ := flatMap_append_inj e s t x y hrest hl
    exact ⟨rfl, hxy⟩

/-- an escaper is a prefix code -/
theorem reads (e : Escaper f m S) : Reads (fun _ : UInt8 => True) (fun _ => True) f :=
  fun a b x y _ _ _ _ h => e.prefix_free a b x y h

/-- escaped text in front of an escaped byte other than the marker, which therefore begins no word -/
theorem flatMap_delim_inj (e : Escaper f m S) {c : UInt8} (hc : c ∈ S) (hm : m ≠ c) (s t x y : Bytes)
    (h : s.flatMap f ++ c :: x = t.flatMap f ++ c :: y) : s = t ∧ x = y := by
  have R : Reads (fun s : Bytes => ∀ b ∈ s, True) (fun t => t.head? = some c) (fun s => s.flatMap f) := by
    refine Reads.flatMap e.reads ?_
    intro b x t _ ht h
    obtain ⟨hd, tl, eb, hn⟩ := e.head_ne hc hm b
    rw [h, eb] at ht
    exact hn (by simpa using ht)
  obtain ⟨e1, e2⟩ := R s t _ _ (fun _ _ => trivial) (fun _ _ => trivial) rfl rfl h
  exact ⟨e1, (List.cons.inj e2).2⟩

end Escaper

end Relic
