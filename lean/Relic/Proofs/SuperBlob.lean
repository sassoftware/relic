/- the superblob round trip: `parseSuper (marshalSuperBlob items)` finds the items where they were written -/
import Relic.Proofs.CodeDir
namespace Relic.CodeDir

def itemBytes (H : Bytes → Bytes) (hs : Nat) (i : Item) : Bytes := render H hs i.data

/-- an item whose blob header states its own length (every blob relic writes does) -/
def WellItem (H : Bytes → Bytes) (hs : Nat) (i : Item) : Prop :=
  8 ≤ (itemBytes H hs i).length ∧ be32 (itemBytes H hs i) 4 = (itemBytes H hs i).length

/-- where `parseSuper` must find the items -/
def rawOf (H : Bytes → Bytes) (hs : Nat) : Nat → List Item → List RawItem
  | _, [] => []
  | off, i :: is =>
    ⟨be32 (itemBytes H hs i) 0, i.itype % 2 ^ 32, off, (itemBytes H hs i).length⟩ :: rawOf H hs (off + (itemBytes H hs i).length) is

def itemsLen (H : Bytes → Bytes) (hs : Nat) (is : List Item) : Nat := ((is.map (itemBytes H hs)).flatten).length

theorem itemsLen_cons (H : Bytes → Bytes) (hs : Nat) (i : Item) (is : List Item) :
    itemsLen H hs (i :: is) = (itemBytes H hs i).length + itemsLen H hs is := by
  simp [itemsLen]

theorem superIndex_length (hs : Nat) : ∀ (is : List Item) (off : Nat), (superIndex hs off is).length = 8 * is.length := by
  intro is
  induction is with
  | nil => intro _; rfl
  | cons i is ih =>
    intro off
    simp only [superIndex, List.length_append, ih, List.length_cons]
    rw [beBytes_length, beBytes_length]; omega

theorem be32_of_drop (blob a t : Bytes) (k : Nat) (h : blob.drop k = a ++ t) (ha : a.length = 4) : be32 blob k = beVal a := by
  unfold be32
  rw [h, List.take_left' ha]

theorem be32_inside (blob r t : Bytes) (k j : Nat) (h : blob.drop k = r ++ t) (hj : j + 4 ≤ r.length) :
    be32 blob (k + j) = be32 r j := by
  unfold be32
  rw [← List.drop_drop, h, take_drop_append_left r t j 4 hj]

theorem parseSuper_empty (blob : Bytes) (h12 : 12 ≤ blob.length) (h4 : 8 ≤ be32 blob 4 ∧ be32 blob 4 ≤ blob.length)
    (h8 : be32 blob 8 = 0) : parseSuper blob = .ok (be32 blob 0, []) := by
  unfold parseSuper
  rw [if_neg (by omega)]
  simp only [h8]
  rw [if_neg (by omega), if_neg (by omega)]
  rfl

theorem superEntries_ok (H : Bytes → Bytes) (hs : Nat) (hH : ∀ s, (H s).length = hs) (blob : Bytes) (D : Nat)
    (h32 : blob.length < 2 ^ 32) :
    ∀ (is : List Item) (idx off : Nat) (t1 t2 : Bytes),
      blob.drop idx = superIndex hs off is ++ t1 → blob.drop off = (is.map (itemBytes H hs)).flatten ++ t2 →
      D ≤ off → off + itemsLen H hs is ≤ blob.length → (∀ i ∈ is, WellItem H hs i) →
      superEntries blob D is.length idx = .ok (rawOf H hs off is) := by
  intro is
  induction is with
  | nil => intro _ _ _ _ _ _ _ _ _; rfl
  | cons i is ih =>
    intro idx off t1 t2 hidx hoff hD hend hw
    obtain ⟨w8, wl⟩ := hw i List.mem_cons_self
    have hL : segsLen hs i.data = (itemBytes H hs i).length := (render_length H hs hH i.data).symm
    rw [itemsLen_cons] at hend
    simp only [superIndex, List.append_assoc] at hidx
    simp only [List.map_cons, List.flatten_cons, List.append_assoc] at hoff
    have e1 : be32 blob idx = i.itype % 2 ^ 32 := by
      rw [be32_of_drop blob _ _ idx hidx (beBytes_length 4 _), beVal_beBytes]
    have hidx4 : blob.drop (idx + 4) = beBytes 4 off ++ (superIndex hs (off + segsLen hs i.data) is ++ t1) := by
      rw [← List.drop_drop, hidx, List.drop_left' (beBytes_length 4 _)]
    have e2 : be32 blob (idx + 4) = off := by
      rw [be32_of_drop blob _ _ (idx + 4) hidx4 (beBytes_length 4 _), beVal_beBytes]
      exact Nat.mod_eq_of_lt (by omega)
    have e3 : be32 blob (off + 4) = (itemBytes H hs i).length := by
      rw [be32_inside blob _ _ off 4 hoff (by omega), wl]
    have e4 : be32 blob off = be32 (itemBytes H hs i) 0 := be32_inside blob _ _ off 0 hoff (by omega)
    have hidx8 : blob.drop (idx + 8) = superIndex hs (off + (itemBytes H hs i).length) is ++ t1 := by
      have : idx + 8 = (idx + 4) + 4 := by omega
      rw [this, ← List.drop_drop, hidx4, List.drop_left' (beBytes_length 4 _), hL]
    have hoff' : blob.drop (off + (itemBytes H hs i).length) = (is.map (itemBytes H hs)).flatten ++ t2 := by
      rw [← List.drop_drop, hoff, List.drop_left' rfl]
    have hrec := ih (idx + 8) (off + (itemBytes H hs i).length) t1 t2 hidx8 hoff' (by omega) (by omega)
      (fun j hj => hw j (List.mem_cons_of_mem _ hj))
    simp only [List.length_cons, superEntries, e1, e2, e3, e4, hrec, rawOf]
    have c1 : ¬ (off < D ∨ blob.length - D < 8 ∨ off - D > blob.length - D - 8) := by omega
    have c2 : ¬ (off - D + (itemBytes H hs i).length > blob.length - D) := by omega
    simp only [c1, c2, ↓reduceIte]

theorem render_flatMap (H : Bytes → Bytes) (hs : Nat) (items : List Item) :
    render H hs (items.flatMap (·.data)) = (items.map (itemBytes H hs)).flatten := by
  induction items with
  | nil => rfl
  | cons i is ih => rw [List.flatMap_cons, render_append, ih]; rfl

theorem render_marshal (H : Bytes → Bytes) (hs magic : Nat) (items : List Item) :
    render H hs (marshalSuperBlob hs magic items) =
      (beBytes 4 magic ++ beBytes 4 (12 + 8 * items.length + (items.map (fun i => segsLen hs i.data)).sum) ++
        beBytes 4 items.length ++ superIndex hs (12 + 8 * items.length) items) ++ (items.map (itemBytes H hs)).flatten := by
  unfold marshalSuperBlob
  rw [render_append, render_lit, render_flatMap]

theorem sum_segsLen (H : Bytes → Bytes) (hs : Nat) (hH : ∀ s, (H s).length = hs) (items : List Item) :
    (items.map (fun i => segsLen hs i.data)).sum = itemsLen H hs items := by
  induction items with
  | nil => rfl
  | cons i is ih =>
    rw [itemsLen_cons, List.map_cons, List.sum_cons, ih]
    congr 1
    exact (render_length H hs hH i.data).symm

/-- `tail`: the zero padding of the reserved signature region -/
theorem parseSuper_marshal_tail (H : Bytes → Bytes) (hs magic : Nat) (hH : ∀ s, (H s).length = hs) (items : List Item) (tail : Bytes)
    (hw : ∀ i ∈ items, WellItem H hs i) (h32 : (render H hs (marshalSuperBlob hs magic items) ++ tail).length < 2 ^ 32) :
    parseSuper (render H hs (marshalSuperBlob hs magic items) ++ tail) =
      .ok (magic % 2 ^ 32, rawOf H hs (12 + 8 * items.length) items) ∧
    (render H hs (marshalSuperBlob hs magic items) ++ tail).drop (12 + 8 * items.length) =
      (items.map (itemBytes H hs)).flatten ++ tail ∧
    be32 (render H hs (marshalSuperBlob hs magic items) ++ tail) 4 = (render H hs (marshalSuperBlob hs magic items)).length := by
  have hrm := render_marshal H hs magic items
  rw [sum_segsLen H hs hH] at hrm
  have hhdrL : (beBytes 4 magic ++ beBytes 4 (12 + 8 * items.length + itemsLen H hs items) ++
        beBytes 4 items.length ++ superIndex hs (12 + 8 * items.length) items).length = 12 + 8 * items.length := by
    simp only [List.length_append, beBytes_length, superIndex_length]
  have hlen0 : (render H hs (marshalSuperBlob hs magic items)).length = 12 + 8 * items.length + itemsLen H hs items := by
    rw [hrm, List.length_append, hhdrL]; rfl
  generalize hb : render H hs (marshalSuperBlob hs magic items) ++ tail = blob at *
  have hblob : blob = (beBytes 4 magic ++ beBytes 4 (12 + 8 * items.length + itemsLen H hs items) ++
        beBytes 4 items.length ++ superIndex hs (12 + 8 * items.length) items) ++ ((items.map (itemBytes H hs)).flatten ++ tail) := by
    rw [← hb, hrm, List.append_assoc]
  have hlen : blob.length = 12 + 8 * items.length + itemsLen H hs items + tail.length := by
    rw [← hb, List.length_append, hlen0]
  have hdata : blob.drop (12 + 8 * items.length) = (items.map (itemBytes H hs)).flatten ++ tail := by
    rw [hblob]; exact List.drop_left' hhdrL
  have hhdr : blob.drop 0 = encFields [(4, magic), (4, 12 + 8 * items.length + itemsLen H hs items), (4, items.length)] ++
      (superIndex hs (12 + 8 * items.length) items ++ ((items.map (itemBytes H hs)).flatten ++ tail)) := by
    rw [List.drop_zero, hblob]; simp [encFields]
  have h12 : blob.drop 12 = superIndex hs (12 + 8 * items.length) items ++ ((items.map (itemBytes H hs)).flatten ++ tail) := by
    have := congrArg (List.drop 12) hhdr
    rwa [List.drop_drop, List.drop_left' (by simp [encFields])] at this
  have f0 : be32 blob 0 = magic % 2 ^ 32 := be32_field blob _ 0 _ 0 _ 0 hhdr rfl rfl
  have f4 : be32 blob 4 = 12 + 8 * items.length + itemsLen H hs items :=
    (be32_field blob _ 0 _ 1 _ 4 hhdr rfl rfl).trans (Nat.mod_eq_of_lt (by omega))
  have f8 : be32 blob 8 = items.length :=
    (be32_field blob _ 0 _ 2 _ 8 hhdr rfl rfl).trans (Nat.mod_eq_of_lt (by omega))
  refine ⟨?_, hdata, by rw [f4, hlen0]⟩
  have hse := superEntries_ok H hs hH blob (12 + 8 * items.length) h32 items 12 (12 + 8 * items.length)
    ((items.map (itemBytes H hs)).flatten ++ tail) tail h12 hdata (Nat.le_refl _) (by omega) hw
  unfold parseSuper
  have c0 : ¬ blob.length < 12 := by omega
  have c1 : ¬ (12 + 8 * items.length + itemsLen H hs items < 8 ∨ blob.length < 12 + 8 * items.length + itemsLen H hs items) := by omega
  have c2 : ¬ (blob.length - 12 < 8 * items.length) := by omega
  simp only [c0, ↓reduceIte, f4, f8, c1, c2, hse, f0]

theorem parseSuper_marshal (H : Bytes → Bytes) (hs magic : Nat) (hH : ∀ s, (H s).length = hs) (items : List Item)
    (hw : ∀ i ∈ items, WellItem H hs i) (h32 : (render H hs (marshalSuperBlob hs magic items)).length < 2 ^ 32) :
    parseSuper (render H hs (marshalSuperBlob hs magic items)) =
      .ok (magic % 2 ^ 32, rawOf H hs (12 + 8 * items.length) items) ∧
    (render H hs (marshalSuperBlob hs magic items)).drop (12 + 8 * items.length) = (items.map (itemBytes H hs)).flatten := by
  have := parseSuper_marshal_tail H hs magic hH items [] hw (by simpa using h32)
  simp only [List.append_nil] at this
  exact ⟨this.1, this.2.1⟩

theorem rawOf_lens (H : Bytes → Bytes) (hs : Nat) (t : Nat) : ∀ (is : List Item) (off : Nat),
    ((rawOf H hs off is).filter (fun r => r.itype = t)).map (·.len) =
      (is.filter (fun i => i.itype % 2 ^ 32 = t)).map (fun i => (itemBytes H hs i).length) := by
  intro is
  induction is with
  | nil => intro _; rfl
  | cons i is ih =>
    intro off
    simp only [rawOf, List.filter_cons]
    by_cases c : i.itype % 2 ^ 32 = t
    · simp only [c, decide_true, ↓reduceIte, List.map_cons, ih]
    · simp only [c, decide_false, Bool.false_eq_true, ↓reduceIte, ih]

end Relic.CodeDir
