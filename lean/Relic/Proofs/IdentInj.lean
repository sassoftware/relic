/-
  Relic.Proofs.IdentInj — the LDAP / MS-OSCO string of a distinguished name determines the name, on the class of names
  whose RDNs are non-empty and whose values are character strings.
-/
import Relic.Proofs.IdentName
namespace Relic.Ident

theorem decDigits_digits (n : Nat) : ∀ c ∈ decDigits n, 48 ≤ c.toNat ∧ c.toNat ≤ 57 :=
  fun c hc => dec_digit n c (decDigits_eq n ▸ hc)

theorem decDigits_ne_nil (n : Nat) : decDigits n ≠ [] := by
  rw [decDigits]; split <;> simp

def decVal (l : Bytes) : Nat := l.foldl (fun acc c => acc * 10 + (c.toNat - 48)) 0

theorem decVal_snoc (l : Bytes) (c : UInt8) : decVal (l ++ [c]) = decVal l * 10 + (c.toNat - 48) := by
  simp [decVal, List.foldl_append]

theorem decVal_decDigits (n : Nat) : decVal (decDigits n) = n := by
  induction n using Nat.strongRecOn with
  | _ n ih =>
    rw [decDigits]
    split
    · rename_i h
      simp [decVal, UInt8.toNat_ofNat']; omega
    · rename_i h
      rw [decVal_snoc, ih (n / 10) (by omega)]
      simp [UInt8.toNat_ofNat']; omega

theorem decDigits_injective (a b : Nat) (h : decDigits a = decDigits b) : a = b := by
  have := congrArg decVal h
  rwa [decVal_decDigits, decVal_decDigits] at this

theorem decDigits_no (n : Nat) (k : UInt8) (hk : k.toNat < 48 ∨ 57 < k.toNat) : ∀ c ∈ decDigits n, c ≠ k := by
  intro c hc he
  subst he
  have := decDigits_digits n c hc
  omega

/-- an arc is read off in front of nothing or of the full stop -/
theorem reads_decDigits : Reads (fun _ : Nat => True) (fun t => ∀ b r, t = b :: r → b = 46) decDigits :=
  (Reads.cut (· = 46)).comap decDigits (fun n _ => decDigits_no n 46 (by decide)) (fun a b _ _ => decDigits_injective a b)

theorem dotted_injective (o o' : List Nat) (h : dotted o = dotted o') : o = o' := by
  rw [dotted_eq_intercalate, dotted_eq_intercalate] at h
  refine Reads.intercalate_inj (reads_decDigits.mono (fun _ h => h) ?_) (by simp) (fun a _ => decDigits_ne_nil a)
    (fun _ _ => trivial) (fun _ _ => trivial) h
  rintro t (rfl | ⟨u, rfl⟩) b r e <;> cases e
  rfl

theorem dotted_no_eq (o : List Nat) : ∀ c ∈ dotted o, c ≠ 61 := by
  induction o with
  | nil => simp [dotted]
  | cons a r ih =>
    cases r with
    | nil => simpa [dotted] using decDigits_no a 61 (by decide)
    | cons b r' =>
      intro c hc
      simp only [dotted, List.mem_append, List.mem_cons] at hc
      rcases hc with hc | hc | hc
      · exact decDigits_no a 61 (by decide) c hc
      · subst hc; decide
      · exact ih c hc

theorem dotted_head (o : List Nat) : dotted o = [] ∨ ∃ c t, dotted o = c :: t ∧ 48 ≤ c.toNat ∧ c.toNat ≤ 57 := by
  cases o with
  | nil => left; rfl
  | cons a r =>
    right
    have hne := decDigits_ne_nil a
    cases hd : decDigits a with
    | nil => exact absurd hd hne
    | cons c t =>
      have hc := decDigits_digits a c (by rw [hd]; simp)
      cases r with
      | nil => exact ⟨c, t, by simp [dotted, hd], hc⟩
      | cons b r' => exact ⟨c, t ++ 46 :: dotted (b :: r'), by simp [dotted, hd], hc⟩

/-- LDAP table names are non-empty, start with a letter (not a digit: not the fallback form) and contain no '=' -/
theorem table_names_shape_ldap :
    ∀ e ∈ nameStyleLdap, (e.2.head?.any fun c => decide (65 ≤ c.toNat)) = true ∧ ∀ c ∈ e.2, c ≠ 61 := by decide +kernel

/-- MS-OSCO table names do not begin with `OID.` (not the fallback form) and contain no '=' -/
theorem table_names_shape_ms :
    ∀ e ∈ nameStyleMsOsco, (e.2.take 4 ≠ ascii "OID.") ∧ ∀ c ∈ e.2, c ≠ 61 := by decide +kernel

/-- the two styles with RFC 2253 quoting; the OpenSSL style is out because it is not injective
    (`Props.C19.openssl_style_not_injective`) -/
def twoStyle (s : NameStyle) : Prop := s = .ldap ∨ s = .msosco

theorem table_names_distinct (s : NameStyle) (hs : twoStyle s) :
    ∀ e ∈ styleTable s, ∀ e' ∈ styleTable s, e.2 = e'.2 → e.1 = e'.1 := by
  rcases hs with rfl | rfl <;> decide +kernel

theorem attName_no_eq (s : NameStyle) (hs : twoStyle s) (o : List Nat) : ∀ c ∈ attName s o, c ≠ 61 := by
  intro c hc
  unfold attName at hc
  cases hl : lookupName (styleTable s) o with
  | some n =>
    rw [hl] at hc
    have hm := lookupName_some_mem _ _ _ hl
    rcases hs with h | h <;> subst h
    · exact (table_names_shape_ldap _ hm).2 c hc
    · exact (table_names_shape_ms _ hm).2 c hc
  | none =>
    rw [hl] at hc
    simp only [List.mem_append] at hc
    rcases hc with hc | hc
    · rcases hs with h | h <;> subst h
      · simp [stylePrefix] at hc
      · have : ∀ c ∈ stylePrefix .msosco, c ≠ 61 := by decide +kernel
        exact this c hc
    · exact dotted_no_eq o c hc

theorem table_name_ne_dotted (s : NameStyle) (hs : twoStyle s) (o o' : List Nat) (n : Bytes)
    (hl : lookupName (styleTable s) o = some n) : n ≠ stylePrefix s ++ dotted o' := by
  have hm := lookupName_some_mem _ _ _ hl
  intro h
  rcases hs with hh | hh <;> subst hh
  · have sh := (table_names_shape_ldap _ hm).1
    simp only [stylePrefix, List.nil_append] at h
    simp only at sh
    rw [h] at sh
    rcases dotted_head o' with hd | ⟨c, t, hd, hc⟩
    · rw [hd] at sh; simp at sh
    · rw [hd] at sh; simp at sh; omega
  · apply (table_names_shape_ms _ hm).1
    simp only at h ⊢
    rw [h]
    have : (stylePrefix .msosco).length = 4 := by decide +kernel
    simp [this]
    decide

theorem attName_injective (s : NameStyle) (hs : twoStyle s) (o o' : List Nat)
    (h : attName s o = attName s o') : o = o' := by
  unfold attName at h
  cases hl : lookupName (styleTable s) o with
  | some n =>
    cases hl' : lookupName (styleTable s) o' with
    | some n' =>
      rw [hl, hl'] at h
      simp only at h
      subst h
      have hm := lookupName_some_mem _ _ _ hl
      have hm' := lookupName_some_mem _ _ _ hl'
      exact table_names_distinct s hs _ hm _ hm' rfl
    | none =>
      rw [hl, hl'] at h
      exact absurd h (table_name_ne_dotted s hs o o' n hl)
  | none =>
    cases hl' : lookupName (styleTable s) o' with
    | some n' =>
      rw [hl, hl'] at h
      exact absurd h.symm (table_name_ne_dotted s hs o' o n' hl')
    | none =>
      rw [hl, hl'] at h
      simp only at h
      exact dotted_injective _ _ (List.append_cancel_left h)

/-- what can follow a value: nothing, ", …" or " + …" -/
def Tail (s : Bytes) : Prop := s = [] ∨ (∃ t, s = 44 :: t) ∨ (∃ t, s = 32 :: 43 :: t)

theorem Tail.head_ne_dquote {s : Bytes} (h : Tail s) : s.head? ≠ some 34 := by
  rcases h with h | ⟨t, h⟩ | ⟨t, h⟩ <;> subst h <;> simp

/-- doubling the quote is a byte escaper with the quote as marker -/
theorem dbl_escaper : Escaper (fun c : UInt8 => if c = 34 then [34, 34] else [c]) 34 [34] where
  marker := by simp
  plain b hb := by simp only [List.mem_singleton] at hb; simp [hb]
  head b hb := by simp only [List.mem_singleton] at hb; simp [hb]
  free a ha b hb _ := by simp only [List.mem_singleton] at ha hb; rw [ha, hb]

/-- a value with its quotes doubled, in front of the closing quote: a quote not followed by another one -/
theorem reads_dbl : Reads (fun v : Bytes => ∀ b ∈ v, True) (fun t => ∃ s, t = 34 :: s ∧ s.head? ≠ some 34)
    (replaceByte 34 [34, 34]) := by
  refine Reads.flatMap dbl_escaper.reads ?_
  rintro c x _ _ ⟨s, rfl, hs⟩ h
  by_cases hc : c = 34
  · simp [hc] at h; exact hs (by simp [h])
  · simp [hc] at h; exact hc h.1.symm

structure Plain (v : Bytes) : Prop where
  ne : v ≠ []
  head : v.head? ≠ some 32
  last : v.getLast? ≠ some 32
  chars : ∀ c ∈ v, quoteSet.contains c = false

theorem plain_of_needsQuote_false (v : Bytes) (h : needsQuote v = false) : Plain v := by
  simp only [needsQuote, Bool.or_eq_false_iff] at h
  obtain ⟨⟨⟨h1, h2⟩, h3⟩, h4⟩ := h
  refine ⟨?_, ?_, ?_, ?_⟩
  · intro e; subst e; simp at h1
  · intro e; rw [e] at h2; simp at h2
  · intro e; rw [e] at h3; simp at h3
  · intro c hc
    have := List.any_eq_false.mp h4 c hc
    simpa using this

theorem Plain.no_sep {v : Bytes} (h : Plain v) : ∀ c ∈ v, ¬ (c = 44 ∨ c = 43) := by
  intro c hc hp
  have := h.chars c hc
  rcases hp with e | e <;> subst e <;> simp [quoteSet] at this

theorem Plain.head_ne_dquote {v : Bytes} (h : Plain v) : v.head? ≠ some 34 := by
  intro e
  cases v with
  | nil => simp at e
  | cons c t =>
    simp at e; subst e
    have := h.chars 34 (by simp)
    simp [quoteSet] at this

theorem quoteValue_plain (v : Bytes) (h : needsQuote v = false) : quoteValue v = v := by
  simp only [quoteValue, h]
  exact replaceByte_eq_self 34 [34, 34] v (needsQuote_false_no_dquote v h)

theorem quoteValue_quoted (v : Bytes) (h : needsQuote v = true) :
    quoteValue v = 34 :: (replaceByte 34 [34, 34] v ++ [34]) := by
  simp [quoteValue, h]

theorem getLast?_snoc (l : Bytes) (c : UInt8) : (l ++ [c]).getLast? = some c := by simp

/-- a plain value followed by `,` or ` +` is not the beginning of another plain value: that one would contain the
    `,` or the `+`, or end with the space -/
theorem reads_plain : Reads Plain Tail id := by
  refine Reads.of_no_extension (fun _ _ _ _ h => h) ?_
  rintro v v' c w t' _ hv' rfl ht
  have p := hv'.no_sep
  rcases ht with h | ⟨t, h⟩ | ⟨t, h⟩
  · cases h
  · obtain ⟨rfl, _⟩ := List.cons.inj h
    exact p 44 (by simp) (Or.inl rfl)
  · obtain ⟨rfl, h2⟩ := List.cons.inj h
    cases w with
    | nil => exact hv'.last (by simp)
    | cons d w =>
      obtain ⟨rfl, _⟩ := List.cons.inj h2
      exact p 43 (by simp) (Or.inr rfl)

theorem reads_quoteValue : Reads (fun _ : Bytes => True) Tail quoteValue := by
  intro v v' s s' _ _ hs hs' h
  cases hq : needsQuote v <;> cases hq' : needsQuote v'
  · rw [quoteValue_plain v hq, quoteValue_plain v' hq'] at h
    exact reads_plain v v' s s' (plain_of_needsQuote_false v hq) (plain_of_needsQuote_false v' hq') hs hs' h
  · rw [quoteValue_plain v hq, quoteValue_quoted v' hq'] at h
    exfalso
    have pl := plain_of_needsQuote_false v hq
    cases v with
    | nil => exact pl.ne rfl
    | cons c t =>
      simp at h
      apply pl.head_ne_dquote; simp [h.1]
  · rw [quoteValue_quoted v hq, quoteValue_plain v' hq'] at h
    exfalso
    have pl := plain_of_needsQuote_false v' hq'
    cases v' with
    | nil => exact pl.ne rfl
    | cons c t =>
      simp at h
      apply pl.head_ne_dquote; simp [← h.1]
  · rw [quoteValue_quoted v hq, quoteValue_quoted v' hq'] at h
    have h2 : replaceByte 34 [34, 34] v ++ 34 :: s = replaceByte 34 [34, 34] v' ++ 34 :: s' := by simpa using h
    obtain ⟨e1, e2⟩ := reads_dbl v v' _ _ (fun _ _ => trivial) (fun _ _ => trivial) ⟨s, rfl, hs.head_ne_dquote⟩
      ⟨s', rfl, hs'.head_ne_dquote⟩ h2
    exact ⟨e1, (List.cons.inj e2).2⟩

def strATV (a : ATV) : Prop := ∃ v, a.val = .str v

/-- the class of the injectivity theorem: every RDN non-empty, every value a character string -/
def InjClass (n : Name) : Prop := ∀ r ∈ n, r ≠ [] ∧ ∀ a ∈ r, strATV a

theorem styleValue_two (s : NameStyle) (hs : twoStyle s) (v : Bytes) : styleValue s v = quoteValue v := by
  rcases hs with h | h <;> subst h <;> rfl

/-- the name of an attribute is read off in front of the '=' -/
theorem reads_attName (s : NameStyle) (hs : twoStyle s) :
    Reads (fun _ : List Nat => True) (fun t => ∀ b r, t = b :: r → b = 61) (attName s) :=
  (Reads.cut (· = 61)).comap (attName s) (fun o _ => attName_no_eq s hs o) (fun o o' _ _ => attName_injective s hs o o')

theorem reads_fmtATV (s : NameStyle) (hs : twoStyle s) : Reads strATV Tail (fmtATV s) := by
  rintro ⟨o, _⟩ ⟨o', _⟩ t t' ⟨v, rfl⟩ ⟨v', rfl⟩ ht ht' h
  have h2 : attName s o ++ 61 :: (quoteValue v ++ t) = attName s o' ++ 61 :: (quoteValue v' ++ t') := by
    simpa [fmtATV, attValue, styleValue_two s hs] using h
  obtain ⟨rfl, e1⟩ := reads_attName s hs o o' _ _ trivial trivial (by rintro b r ⟨⟩; rfl) (by rintro b r ⟨⟩; rfl) h2
  obtain ⟨rfl, e2⟩ := reads_quoteValue v v' t t' trivial trivial ht ht' (List.cons.inj e1).2
  exact ⟨rfl, e2⟩

/-- what can follow an RDN: nothing, or the `, ` before the next one -/
def Tail2 (s : Bytes) : Prop := s = [] ∨ ∃ t, s = 44 :: t

def RdnOk (r : RDN) : Prop := r ≠ [] ∧ ∀ a ∈ r, strATV a

theorem reads_fmtRDN (s : NameStyle) (hs : twoStyle s) : Reads RdnOk Tail2 (fmtRDN s) := by
  have R := Reads.intercalate (sep := sepATV) (T := Tail2) ((reads_fmtATV s hs).mono (fun _ h => h) (by
      rintro t (h | ⟨u, rfl⟩)
      · exact h.imp_right Or.inl
      · exact Or.inr (Or.inr ⟨32 :: u, rfl⟩)))
    (by rintro t u (rfl | ⟨v, rfl⟩) h <;> simp [sepATV] at h)
  intro r r' t t' hr hr' ht ht' h
  simp only [fmtRDN, joinSep_eq] at h
  exact R r r' t t' hr hr' ht ht' h

theorem fmtRDN_ne_nil (s : NameStyle) (r : RDN) (h : r ≠ []) : fmtRDN s r ≠ [] := by
  cases r with
  | nil => exact absurd rfl h
  | cons a l =>
    rw [fmtRDN, joinSep_eq]
    exact intercalate_ne_nil _ _ _ (by simp [fmtATV])

theorem formatParsed_injective (s : NameStyle) (hs : twoStyle s) (n n' : Name) (hn : InjClass n) (hn' : InjClass n')
    (h : formatParsed s n = formatParsed s n') : n = n' := by
  have e : ∀ m : Name, formatParsed s m = sepRDN.intercalate (m.reverse.map (fmtRDN s)) := by
    intro m; rw [← joinSep_eq]; rcases hs with h | h <;> subst h <;> rfl
  rw [e, e] at h
  refine List.reverse_inj.mp (Reads.intercalate_inj ((reads_fmtRDN s hs).mono (fun _ h => h) ?_) (by simp [sepRDN])
    (fun r hr => fmtRDN_ne_nil s r hr.1) (fun r hr => hn r (List.mem_reverse.mp hr)) (fun r hr => hn' r (List.mem_reverse.mp hr)) h)
  rintro t (h | ⟨u, rfl⟩)
  · exact Or.inl h
  · exact Or.inr ⟨32 :: u, rfl⟩

end Relic.Ident
