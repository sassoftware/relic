/-
  Relic.Proofs.ZipKept — "the kept members of a back-to-back list" in its three vocabularies, and the bridges between them
  that the proofs use.

  | family | over | kept by | who speaks it |
  |---|---|---|---|
  | `contigMs`, `keptBytes`, `keptLen`, `assign` + `placed`, `delRanges` (Proofs/ZipRewrite) | `List Member` (relic's measured members) | a predicate `keep : File → Bool` | the model loop `walk` of `jarRewrite` / `manglerRewrite`; Props/C03_Zip (`Layout`) |
  | `contigK`, `keptBytesK`, `keptLenK`, `keptPMs`, `keptViews`, `delRangesK`, `fwdK` (Proofs/ZipWrite; `delRangesK` in ZipMangle; `fwdK` here) | `List KM` = (flag, specification's member, relic's member) under `MeasuredL` | the stored flag, which `MeasuredL` ignores and `setKeep` / `setMask` overwrite | the model loop `mangle` of `rewriteWith`; every proof between a parsed input and `Run` |
  | `contigSpec` (Model/ZipWrite; `Props.C17.contigFrom` is the same function, `C17.contigFrom_eq`), `forwardSpec` (Model/ZipStream), `specTotal`, `keptViewsS`, `keptLenS`, `keptRoomS` (here) | `List SpecZip.Member` | a positional delete mask | the statements of Props/C17_Write, C17_Stream, which may mention the specification only |

  Build on the `KM` family: it is the only one that carries both readers' members, and `Measured.kept` / `kept_run` are stated
  over it.  The other two are reached by the bridges below: Ms ↔ K (the equations `assign_keptPMs`, `keptBytes_K`, `keptLen_K`;
  `contigMs_K` goes from Ms to K only), K ↔ S (`contigK_of_spec`, `fwdK_eq_forwardSpec`, `Measured.total`, `keptViews_S`,
  `keptRoom_S`).  There is no bridge between `delRanges` and `delRangesK`: each loop's cut is treated in its own vocabulary
  (`applyDels_contig` in Proofs/ZipRewrite, `dropRanges_contig` in Proofs/ZipMangle).
-/
import Relic.Proofs.ZipWrite
import Relic.Model.ZipWrite
import Relic.Model.ZipStream
namespace Relic.Zip
open Relic.SpecZip

/-- kept flags from a predicate on the directory entry (`keepFile` of signjar / vsix) -/
def setKeep (keep : File → Bool) (kms : List KM) : List KM := kms.map fun q => (keep q.2.2.file, q.2.1, q.2.2)

theorem setKeep_ms (keep : File → Bool) (kms : List KM) : (setKeep keep kms).map (·.2.2) = kms.map (·.2.2) := by
  simp [setKeep, List.map_map, Function.comp_def]

theorem setKeep_members (keep : File → Bool) (kms : List KM) : (setKeep keep kms).map (·.2.1) = kms.map (·.2.1) := by
  simp [setKeep, List.map_map, Function.comp_def]

theorem assign_keptPMs (z : Bytes) (keep : File → Bool) : ∀ (kms : List KM) (L : Nat),
    (assign keep (kms.map (·.2.2)) L).map (fun p => placed p.1 p.2) = (keptPMs z (setKeep keep kms) L).map (·.1) := by
  intro kms
  induction kms with
  | nil => intro _; rfl
  | cons q r ih =>
    intro L
    obtain ⟨k, sm, m⟩ := q
    have ih' := ih
    simp only [setKeep] at ih' ⊢
    simp only [List.map_cons, assign, keptPMs]
    cases hk : keep m.file
    · simp only [Bool.false_eq_true, if_false]; exact ih' L
    · simp only [if_true, List.map_cons, ih' (L + m.total)]

theorem keptBytes_K (z : Bytes) (keep : File → Bool) : ∀ (kms : List KM),
    keptBytes z keep (kms.map (·.2.2)) = keptBytesK z (setKeep keep kms) := by
  intro kms
  induction kms with
  | nil => rfl
  | cons q r ih =>
    obtain ⟨k, sm, m⟩ := q
    simp only [setKeep] at ih ⊢
    simp only [List.map_cons, keptBytes, keptBytesK, ih]

theorem keptLen_K (keep : File → Bool) : ∀ (kms : List KM), keptLen keep (kms.map (·.2.2)) = keptLenK (setKeep keep kms) := by
  intro kms
  induction kms with
  | nil => rfl
  | cons q r ih =>
    obtain ⟨k, sm, m⟩ := q
    simp only [setKeep] at ih ⊢
    simp only [List.map_cons, keptLen, keptLenK, ih]

theorem contigMs_K : ∀ (kms : List KM) (pos stop : Nat), contigMs pos (kms.map (·.2.2)) stop → contigK pos kms stop := by
  intro kms
  induction kms with
  | nil => intro _ _ h; exact h
  | cons q r ih => intro pos stop h; obtain ⟨k, sm, m⟩ := q; exact ⟨h.1, ih _ _ h.2⟩

/-- kept flags from a positional delete mask -/
def setMask : List Bool → List KM → List KM
  | _, [] => []
  | mask, (_, sm, m) :: r => (!(mask.headD false), sm, m) :: setMask (mask.drop 1) r

theorem MeasuredL_setMask {z : Bytes} {a : Archive} : ∀ (kms : List KM) (mask : List Bool) (at_ : Nat), MeasuredL z a at_ kms →
    MeasuredL z a at_ (setMask mask kms) := by
  intro kms
  induction kms with
  | nil => intro _ _ _; trivial
  | cons q r ih =>
    intro mask at_ h
    obtain ⟨k, sm, m⟩ := q
    exact MeasuredL_cons.mpr ⟨(MeasuredL_cons.mp h).1, ih _ _ (MeasuredL_cons.mp h).2⟩

theorem setMask_members : ∀ (kms : List KM) (mask : List Bool), (setMask mask kms).map (·.2.1) = kms.map (·.2.1) := by
  intro kms
  induction kms with
  | nil => intro _; rfl
  | cons q r ih => intro mask; obtain ⟨k, sm, m⟩ := q; simp [setMask, ih]

theorem contigK_of_spec {z : Bytes} {a : Archive} : ∀ (kms : List KM) (at_ pos : Nat), MeasuredL z a at_ kms →
    contigSpec a pos (kms.map (·.2.1)) = true → contigK pos kms a.ends.cdOff := by
  intro kms
  induction kms with
  | nil => intro _ pos _ h; simpa [contigSpec, contigK] using h
  | cons q r ih =>
    intro at_ pos hM h
    obtain ⟨k, sm, m⟩ := q
    obtain ⟨M, hrest⟩ := MeasuredL_cons.mp hM
    obtain ⟨-, -, -, -, -, -, -, -, -, hdesc⟩ := memberOf_some M.mo
    simp only [List.map_cons, contigSpec, Bool.and_eq_true, beq_iff_eq] at h
    obtain ⟨h1, h2⟩ := h
    refine ⟨by rw [M.offset, h1], ?_⟩
    by_cases hd : sm.entry.flags % 16 / 8 = 1
    · rw [if_pos hd] at hdesc
      obtain ⟨w, -, -, hT, htw⟩ := M.desc hd
      rw [htw] at h2
      have : contigSpec a (sm.dataOff + sm.entry.csize + w) (r.map (·.2.1)) = true := by
        cases hh : sm.descWidths with
        | nil => exact absurd hh hdesc.2
        | cons _ _ => rw [hh] at h2; exact h2
      rw [← h1, hT]
      exact ih _ _ hrest this
    · rw [if_neg hd] at hdesc
      rw [hdesc] at h2
      rw [← h1, M.plain hd]
      exact ih _ _ hrest h2

theorem contigK_setMask : ∀ (kms : List KM) (mask : List Bool) (pos stop : Nat), contigK pos kms stop →
    contigK pos (setMask mask kms) stop := by
  intro kms
  induction kms with
  | nil => intro _ _ _ h; exact h
  | cons q r ih => intro mask pos stop h; obtain ⟨k, sm, m⟩ := q; exact ⟨h.1, ih _ _ _ h.2⟩

/-- forward order in relic's measure -/
def fwdK : Nat → List KM → Bool
  | _, [] => true
  | pos, (_, sm, m) :: r => decide (pos ≤ sm.entry.hoff) && fwdK (sm.entry.hoff + m.total) r

theorem fwdK_eq_forwardSpec {z : Bytes} {a : Archive} : ∀ (kms : List KM) (at_ pos : Nat), MeasuredL z a at_ kms →
    fwdK pos kms = forwardSpec a pos (kms.map (·.2.1)) := by
  intro kms
  induction kms with
  | nil => intro _ _ _; rfl
  | cons q r ih =>
    intro at_ pos hM
    obtain ⟨k, sm, m⟩ := q
    obtain ⟨M, hrest⟩ := MeasuredL_cons.mp hM
    obtain ⟨-, -, -, -, -, -, -, -, -, hdesc⟩ := memberOf_some M.mo
    simp only [fwdK, List.map_cons, forwardSpec]
    congr 1
    by_cases hd : sm.entry.flags % 16 / 8 = 1
    · rw [if_pos hd] at hdesc
      obtain ⟨w, -, -, hT, htw⟩ := M.desc hd
      rw [htw, hT]
      cases hh : sm.descWidths with
      | nil => exact absurd hh hdesc.2
      | cons _ _ => exact ih _ _ hrest
    · rw [if_neg hd] at hdesc
      rw [hdesc, M.plain hd]
      exact ih _ _ hrest

/-- bytes a member occupies under the contiguous reading of the specification (0 if the end is not located) -/
def specTotal (a : Archive) (m : SpecZip.Member) : Nat :=
  match specExtent a m with
  | some (_, t) => t
  | none => 0

theorem Measured.total {z : Bytes} {a : Archive} {sm : SpecZip.Member} {m : Member} {at_ : Nat}
    (M : Measured z a at_ sm m) : m.total = specTotal a sm := by
  obtain ⟨-, -, -, -, -, -, -, hdo, -, hdesc⟩ := memberOf_some M.mo
  unfold specTotal specExtent
  by_cases hd : sm.entry.flags % 16 / 8 = 1
  · rw [if_pos hd] at hdesc
    obtain ⟨w, -, -, hT, htw⟩ := M.desc hd
    rw [htw]
    cases hh : sm.descWidths with
    | nil => exact absurd hh hdesc.2
    | cons _ _ => simp only; omega
  · rw [if_neg hd] at hdesc
    rw [hdesc]
    have := M.plain hd
    simp only; omega

/-- the kept members (those the positional mask does not delete) as a standard reader sees them in the
    input, with the extra field they have after re-emission from running offset `o` -/
def keptViewsS (z : Bytes) (a : Archive) : List Bool → List SpecZip.Member → Nat → List View
  | _, [], _ => []
  | mask, sm :: r, o =>
    if mask.headD false then keptViewsS z a (mask.drop 1) r o
    else ⟨sm.entry.name, sm.entry.method, sm.entry.flags, sm.entry.crc, sm.entry.csize, sm.entry.usize, movedExtra sm.entry o,
      sm.entry.comment, (z.drop sm.dataOff).take sm.entry.csize⟩ :: keptViewsS z a (mask.drop 1) r (o + specTotal a sm)

def keptLenS (a : Archive) : List Bool → List SpecZip.Member → Nat
  | _, [] => 0
  | mask, sm :: r => (if mask.headD false then 0 else specTotal a sm) + keptLenS a (mask.drop 1) r

theorem keptViews_S {z : Bytes} {a : Archive} : ∀ (kms : List KM) (mask : List Bool) (at_ o : Nat), MeasuredL z a at_ kms →
    keptViews z (setMask mask kms) o = keptViewsS z a mask (kms.map (·.2.1)) o ∧
    keptLenK (setMask mask kms) = keptLenS a mask (kms.map (·.2.1)) := by
  intro kms
  induction kms with
  | nil => intro _ _ _ _; exact ⟨rfl, rfl⟩
  | cons q r ih =>
    intro mask at_ o hM
    obtain ⟨k, sm, m⟩ := q
    obtain ⟨M, hrest⟩ := MeasuredL_cons.mp hM
    have ht := M.total
    simp only [setMask, List.map_cons, keptViews, keptViewsS, keptLenK, keptLenS]
    cases mask.headD false
    · simp only [Bool.not_false, if_true, Bool.false_eq_true, if_false, ht]
      exact ⟨by rw [(ih _ _ _ hrest).1], by rw [(ih (mask.drop 1) _ 0 hrest).2]⟩
    · simp only [Bool.not_true, Bool.false_eq_true, if_false, if_true, Nat.zero_add]
      exact ih _ _ _ hrest

/-- the guard of fix-F7g on the kept members, at the level of the specification: a kept member (not deleted by the
    positional mask) that moves (`hoff ≠ o`) and needs the ZIP64 field must have room for it in its extra block -/
def keptRoomS (a : Archive) : List Bool → List SpecZip.Member → Nat → Bool
  | _, [], _ => true
  | mask, sm :: r, o =>
    if mask.headD false then keptRoomS a (mask.drop 1) r o
    else (decide (sm.entry.hoff = o) || !(decide (sm.entry.csize ≥ u32Max ∨ sm.entry.usize ≥ u32Max ∨ o ≥ u32Max)) ||
          decide (sm.entry.extra.length + 28 ≤ 65535)) && keptRoomS a (mask.drop 1) r (o + specTotal a sm)

theorem keptRoom_S {z : Bytes} {a : Archive} : ∀ (kms : List KM) (mask : List Bool) (at_ o : Nat), MeasuredL z a at_ kms →
    headersOK ((keptPMs z (setMask mask kms) o).map (·.1)) = keptRoomS a mask (kms.map (·.2.1)) o := by
  intro kms
  induction kms with
  | nil => intro _ _ _ _; rfl
  | cons q r ih =>
    intro mask at_ o hM
    obtain ⟨k, sm, m⟩ := q
    obtain ⟨M, hrest⟩ := MeasuredL_cons.mp hM
    have ht := M.total
    have hat := M.ent
    obtain ⟨l, ddb, hfile⟩ := M.file
    simp only [setMask, List.map_cons, keptPMs, keptRoomS]
    cases mask.headD false
    · simp only [Bool.not_false, if_true, Bool.false_eq_true, if_false, List.map_cons, headersOK, List.all_cons]
      have := ih (mask.drop 1) _ (o + m.total) hrest
      simp only [headersOK] at this
      rw [this, ht]
      congr 1
      obtain ⟨b1, b2, -, b4, r', -, hr⟩ := entryAt_some hat
      have hlen : sm.entry.len = 46 + fld (z.drop at_) 28 2 + fld (z.drop at_) 30 2 + fld (z.drop at_) 32 2 := by rw [hr]; rfl
      have hrawne : (fileOf z at_ sm.entry).raw ≠ [] := by
        show (z.drop at_).take sm.entry.len ≠ []
        intro c
        have := congrArg List.length c
        rw [List.length_take, List.length_drop] at this
        simp at this; omega
      have hoff : m.file.offset = sm.entry.hoff := by rw [hfile]; rfl
      have hraw : m.file.raw = (fileOf z at_ sm.entry).raw := by rw [hfile]
      simp only [dirHeaderOK, placed, hoff, hraw]
      by_cases c : sm.entry.hoff = o
      · simp [c, hrawne]
      · have : m.file.csize = sm.entry.csize ∧ m.file.usize = sm.entry.usize ∧ m.file.extra = sm.entry.extra := by
          rw [hfile]; exact ⟨rfl, rfl, rfl⟩
        simp [c, this.1, this.2.1, this.2.2]
    · simp only [Bool.not_true, Bool.false_eq_true, if_false, if_true]
      exact ih _ _ _ hrest

/-- with room in every extra block nothing is refused -/
theorem keptRoomS_of_room (a : Archive) : ∀ (ms : List SpecZip.Member) (mask : List Bool) (o : Nat),
    (∀ sm ∈ ms, sm.entry.extra.length + 28 < 2 ^ 16) → keptRoomS a mask ms o = true := by
  intro ms
  induction ms with
  | nil => intro _ _ _; rfl
  | cons sm r ih =>
    intro mask o h
    have h1 := h sm (List.mem_cons_self ..)
    have h2 := fun m o => ih m o (fun x hx => h x (List.mem_cons_of_mem _ hx))
    simp only [keptRoomS]
    split
    · exact h2 _ _
    · simp only [Bool.and_eq_true, Bool.or_eq_true, decide_eq_true_eq]
      exact ⟨Or.inr (by omega), h2 _ _⟩

end Relic.Zip
