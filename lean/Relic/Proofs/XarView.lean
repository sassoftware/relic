/- Relic.Model.Xar: the two readers of the table of contents (etree in `Sign`, `encoding/xml` in `Open`/`Verify`) see the
   same members on regular documents, before and after `adjustOffsets` -/
import Relic.Proofs.Xar
namespace Relic.Xar

theorem Num.Laws.rtT {N : Num} (hN : N.Laws) (n : Int) (h : inI64 n) : N.atoiT (N.fmt n) = (n, true) := by
  rw [hN.trim _ (by rw [hN.rt n h]), hN.rt n h]

theorem allText_adjustKids (N : Num) (ea : Bool) (d : Int) (b : Bool) : ∀ ks, allText (adjustKids N ea d b ks) = allText ks
  | [] => by simp [adjustKids]
  | .tx s :: ks => by simp [adjustKids, adjust, allText, allText_adjustKids N ea d b ks]
  | .el n as k :: ks => by
    simp only [adjustKids, adjust]
    split
    · split <;> simp [allText, allText_adjustKids N ea d b ks]
    · simp [allText, allText_adjustKids N ea d b ks]

theorem etext_allTx : ∀ ks, allTx ks = true → allText ks = etext ks
  | [], _ => by simp [allText, etext]
  | .tx s :: ks, h => by
    have : allTx ks = true := by simpa [allTx] using h
    simp [allText, etext, etext_allTx ks this]
  | .el n as k :: ks, h => by simp [allTx] at h

theorem adjustKids_allTx (N : Num) (ea : Bool) (d : Int) (b : Bool) : ∀ ks, allTx ks = true → adjustKids N ea d b ks = ks
  | [], _ => by simp [adjustKids]
  | .tx s :: ks, h => by
    have : allTx ks = true := by simpa [allTx] using h
    simp [adjustKids, adjust, adjustKids_allTx N ea d b ks this]
  | .el n as k :: ks, h => by simp [allTx] at h

theorem dropWhile_allTx : ∀ ks : List Xml, allTx ks = true → ks.dropWhile (·.isTx) = []
  | [], _ => rfl
  | .tx s :: ks, h => by
    have : allTx ks = true := by simpa [allTx] using h
    simp [List.dropWhile, dropWhile_allTx ks this]
  | .el n as k :: ks, h => by simp [allTx] at h

/-- reading a regular number element: both readers get the `ParseInt` value -/
theorem intOf_numOk (N : Num) (hN : N.Laws) (ks : List Xml) (h : numOk N ks = true) :
    intOf N ks = some (N.atoi (etext ks)).1 := by
  simp only [numOk, Bool.and_eq_true] at h
  have ht := etext_allTx ks h.1
  have hne : etext ks ≠ "" := by
    intro e
    have := hN.empty
    rw [e] at h
    simp [this] at h
  simp [intOf, ht, hne, hN.trim _ h.2, h.2]

theorem offset_shifted (N : Num) (ea : Bool) (hN : N.Laws) (d : Int) (as : List (String × String)) (ks : List Xml) (h : numOk N ks = true) :
    adjust N ea d true (.el "offset" as ks) = .el "offset" as [.tx (N.fmt (w64 ((N.atoi (etext ks)).1 + d)))] ∧
    numOk N [.tx (N.fmt (w64 ((N.atoi (etext ks)).1 + d)))] = true ∧
    (N.atoi (etext [Xml.tx (N.fmt (w64 ((N.atoi (etext ks)).1 + d)))])).1 = w64 ((N.atoi (etext ks)).1 + d) := by
  simp only [numOk, Bool.and_eq_true] at h
  have e1 : isRef ea "offset" = false := isRef_false ea _ (by decide) (by decide)
  have e2 : (true && "offset" == "offset") = true := by decide
  refine ⟨?_, ?_, ?_⟩
  · simp only [adjust, e1, e2, ↓reduceIte, adjustKids_allTx N ea d false ks h.1, h.2, setText, dropWhile_allTx ks h.1]
  · simp [numOk, allTx, etext, hN.rt _ (w64_inI64 _)]
  · simp [etext, hN.rt _ (w64_inI64 _)]

/-- a file struct after `adjustOffsets` by `d`: int64 addition on the offset -/
def FileAcc.shift (d : Int) (a : FileAcc) : FileAcc := { a with offset := w64 (a.offset + d) }

theorem count_cons_el (n m : String) (as : List (String × String)) (k ks : List Xml) :
    count n (.el m as k :: ks) = (if m = n then 1 else 0) + count n ks := by
  by_cases h : m = n <;> simp [count, named, h] <;> omega

theorem count_cons_tx (n s : String) (ks : List Xml) : count n (.tx s :: ks) = count n ks := by
  simp [count, named]

theorem umData_offset_frame (N : Num) (o : Int) (ks : List Xml) (a : FileAcc) (h : count "offset" ks = 0) :
    umData N ks { a with offset := o } = (umData N ks a).map fun a' => { a' with offset := o } := by
  fun_induction umData N ks a
  case case1 => rfl
  case case2 => simp [count_cons_el] at h
  case case3 ih =>
    rw [count_cons_el] at h
    simp only [umData, String.reduceEq, ↓reduceIte]
    cases intOf N _ with
    | none => rfl
    | some v => simpa using ih v (by simpa using h)
  case case4 ih =>
    rw [count_cons_el] at h
    simp only [umData, String.reduceEq, ↓reduceIte]
    cases intOf N _ with
    | none => rfl
    | some v => simpa using ih (by simpa using h)
  case case5 ih =>
    rw [count_cons_el] at h
    simpa [umData] using ih (by simpa using h)
  case case6 h1 h2 h3 h4 ih =>
    rw [count_cons_el] at h
    simpa [umData, h1, h2, h3, h4] using ih (by simpa [h1] using h)
  case case7 ih =>
    rw [count_cons_tx] at h
    simpa [umData] using ih h

/-- The single `<offset>` child is rewritten by `offset_shifted`; every other child keeps its `allText`, so it is read as
    before; `umData_offset_frame` carries the new offset across the children that follow. -/
theorem umData_adjust (N : Num) (ea : Bool) (hN : N.Laws) (d : Int) : ∀ (ks : List Xml) (a : FileAcc), ks.all (regDataKid N) = true →
    count "offset" ks ≤ 1 →
    umData N (adjustKids N ea d true ks) a =
      (umData N ks a).map fun a' => if count "offset" ks = 1 then a'.shift d else a'
  | [], a, _, _ => by simp [umData, adjustKids, count, named]
  | .tx s :: ks, a, hr, hc => by
    rw [count_cons_tx] at hc ⊢
    have hr' : ks.all (regDataKid N) = true := by simpa [regDataKid] using hr
    simpa [umData, adjustKids, adjust] using umData_adjust N ea hN d ks a hr' hc
  | .el n as k :: ks, a, hr, hc => by
    rw [count_cons_el] at hc ⊢
    simp only [List.all_cons, Bool.and_eq_true] at hr
    obtain ⟨hk, hr'⟩ := hr
    by_cases hoff : n = "offset"
    · subst hoff
      have hnum : numOk N k = true := by simpa [regDataKid] using hk
      have hc0 : count "offset" ks = 0 := by simp at hc; omega
      obtain ⟨e1, e2, e3⟩ := offset_shifted N ea hN d as k hnum
      simp only [adjustKids, e1, umData, ↓reduceIte, intOf_numOk N hN _ e2, e3, intOf_numOk N hN _ hnum, Option.bind_some]
      rw [umData_adjust N ea hN d ks _ hr' (by omega), hc0]
      simp only [Nat.add_zero, ↓reduceIte, Nat.zero_ne_one]
      rw [umData_offset_frame N _ ks a hc0, umData_offset_frame N (N.atoi (etext k)).1 ks a hc0]
      cases umData N ks a <;> simp [FileAcc.shift]
    · have hcount : count "offset" ks ≤ 1 := by simp [hoff] at hc; exact hc
      have ih := fun a => umData_adjust N ea hN d ks a hr' hcount
      have hadj : ∃ k', adjust N ea d true (.el n as k) = .el n as k' ∧ allText k' = allText k ∧ intOf N k' = intOf N k := by
        refine ⟨adjustKids N ea d (isRef ea n) k, ?_, allText_adjustKids N ea d _ k, ?_⟩
        · simp [adjust, hoff]
        · simp [intOf, allText_adjustKids]
      obtain ⟨k', ek, et, ei⟩ := hadj
      simp only [adjustKids, ek, umData, hoff, ↓reduceIte, Nat.zero_add, ei, et]
      by_cases h2 : n = "length"
      · rw [if_pos h2, if_pos h2]
        cases intOf N k with
        | none => rfl
        | some v => exact ih { a with length := v }
      rw [if_neg h2, if_neg h2]
      by_cases h3 : n = "size"
      · rw [if_pos h3, if_pos h3]
        cases intOf N k with
        | none => rfl
        | some v => exact ih a
      rw [if_neg h3, if_neg h3]
      by_cases h4 : n = "archived-checksum"
      · rw [if_pos h4, if_pos h4]
        exact ih _
      · rw [if_neg h4, if_neg h4]
        exact ih a

mutual
/-- what `encoding/xml` reads from the shifted document: files that have a `<data>` element move, the others do not -/
def shiftX (d : Int) : XFile → XFile
  | .mk a ks => .mk (if a.hasData then a.shift d else a) (shiftXs d ks)
def shiftXs (d : Int) : List XFile → List XFile
  | [] => []
  | x :: xs => shiftX d x :: shiftXs d xs
end

theorem umData_hasData (N : Num) (ks : List Xml) (a a' : FileAcc) (h : umData N ks a = some a') : a'.hasData = a.hasData := by
  fun_induction umData N ks a
  case case1 => cases h; rfl
  case case2 ih => obtain ⟨v, _, h⟩ := Option.bind_eq_some_iff.mp h; exact ih v h
  case case3 ih => obtain ⟨v, _, h⟩ := Option.bind_eq_some_iff.mp h; exact ih v h
  case case4 ih => obtain ⟨v, _, h⟩ := Option.bind_eq_some_iff.mp h; exact ih h
  case case5 ih => exact ih h
  case case6 ih => exact ih h
  case case7 ih => exact ih h

theorem regFileKids_cons (N : Num) (k : Xml) (ks : List Xml) :
    regFileKids N (k :: ks) = true ↔ regFile N k = true ∧ regFileKids N ks = true := by
  simp [regFileKids]

/-! `encoding/xml` fills the struct of a `<file>` from the `<name>` and `<data>` children and starts a fresh struct for every
nested `<file>`: the two do not interact.  So `umFileKids` is the pair of `ownAcc` (the fold over the field children alone)
and `umFiles` (the `<file>` children), and what is to be said about a struct is said about `ownAcc`, by a list induction
without a `<file>` case. -/

/-- the `<file>` children of an element as `encoding/xml` reads them, in order -/
def umFiles (N : Num) : List Xml → Option (List XFile)
  | [] => some []
  | .tx _ :: rest => umFiles N rest
  | .el n _ ks :: rest =>
    if n = "file" then (umFile N ks).bind fun x => (umFiles N rest).map (x :: ·) else umFiles N rest

/-- the fields of one `<file>` struct, from its `<name>` and `<data>` children alone -/
def ownAcc (N : Num) : List Xml → FileAcc → Option FileAcc
  | [], a => some a
  | .tx _ :: rest, a => ownAcc N rest a
  | .el n _ ks :: rest, a =>
    if n = "name" then ownAcc N rest { a with name := allText ks }
    else if n = "data" then
      match umData N ks { a with hasData := true } with
      | none => none
      | some a' => ownAcc N rest a'
    else ownAcc N rest a

theorem umFileKids_eq (N : Num) (ks : List Xml) : ∀ a : FileAcc,
    umFileKids N ks a = (ownAcc N ks a).bind fun a' => (umFiles N ks).map fun s => (a', s) := by
  induction ks using Xml.kids_induction with
  | nil => exact fun _ => by simp [umFileKids, ownAcc, umFiles]
  | tx s ks ih => exact fun a => by simpa [umFileKids, ownAcc, umFiles] using ih a
  | el n as k ks ihk ih =>
    intro a
    by_cases h1 : n = "name"
    · subst h1; simpa [umFileKids, ownAcc, umFiles] using ih _
    by_cases h2 : n = "data"
    · subst h2
      simp only [umFileKids, ownAcc, umFiles, String.reduceEq, ↓reduceIte]
      cases umData N k { a with hasData := true } with
      | none => rfl
      | some a' => exact ih a'
    by_cases h3 : n = "file"
    · subst h3
      simp only [umFileKids, ownAcc, umFiles, umFile, String.reduceEq, ↓reduceIte, ihk, ih]
      cases ownAcc N k {} <;> cases umFiles N k <;> cases ownAcc N ks a <;> cases umFiles N ks <;> rfl
    · simpa [umFileKids, ownAcc, umFiles, h1, h2, h3] using ih a

theorem umFiles_file_eq (N : Num) (as : List (String × String)) (k ks : List Xml) :
    umFiles N (.el "file" as k :: ks) = (ownAcc N k {}).bind fun a' => (umFiles N k).bind fun s =>
      (umFiles N ks).map fun fs' => .mk a' s :: fs' := by
  simp only [umFiles, ↓reduceIte, umFile, umFileKids_eq]
  cases ownAcc N k {} <;> cases umFiles N k <;> cases umFiles N ks <;> rfl

theorem umFiles_cons_other (N : Num) (n : String) (as : List (String × String)) (k ks : List Xml) (h : n ≠ "file") :
    umFiles N (.el n as k :: ks) = umFiles N ks := by simp [umFiles, h]

theorem ownAcc_hasData (N : Num) (ks : List Xml) (a a' : FileAcc) (h : ownAcc N ks a = some a') :
    a'.hasData = (a.hasData || decide (0 < count "data" ks)) := by
  fun_induction ownAcc N ks a
  case case1 => cases h; simp [count, named]
  case case2 ih => rw [count_cons_tx]; exact ih h
  case case3 ih => rw [count_cons_el]; simpa using ih h
  case case4 => cases h
  case case5 h1 _ ih =>
    rw [ih h, umData_hasData N _ _ _ h1, count_cons_el]
    simp
    exact Or.inr (by omega)
  case case6 hd ih => rw [count_cons_el]; simpa [hd] using ih h

theorem ownAcc_data_frame (N : Num) (ks : List Xml) (a a' : FileAcc) (hc : count "data" ks = 0) (h : ownAcc N ks a = some a') :
    a'.offset = a.offset ∧ a'.length = a.length ∧ a'.astyle = a.astyle ∧ a'.adigest = a.adigest := by
  fun_induction ownAcc N ks a
  case case1 => cases h; exact ⟨rfl, rfl, rfl, rfl⟩
  case case2 ih => exact ih (by rwa [count_cons_tx] at hc) h
  case case3 ih => exact ih (by simpa [count_cons_el] using hc) h
  case case4 => cases h
  case case5 => simp [count_cons_el] at hc
  case case6 hd ih => exact ih (by simpa [count_cons_el, hd] using hc) h

theorem ownAcc_offset_frame (N : Num) (d : Int) (ks : List Xml) (a : FileAcc) (h : count "data" ks = 0) :
    ownAcc N ks (a.shift d) = (ownAcc N ks a).map (·.shift d) := by
  fun_induction ownAcc N ks a
  case case1 => rfl
  case case2 ih => simpa [ownAcc] using ih (by rwa [count_cons_tx] at h)
  case case3 ih =>
    simp only [ownAcc, ↓reduceIte]
    exact ih (by simpa [count_cons_el] using h)
  case case4 => simp [count_cons_el] at h
  case case5 => simp [count_cons_el] at h
  case case6 h1 h2 ih => simpa [ownAcc, h1, h2] using ih (by simpa [count_cons_el, h2] using h)

theorem ownAcc_adjust (N : Num) (ea : Bool) (hN : N.Laws) (d : Int) : ∀ (ks : List Xml) (a : FileAcc), regFileKids N ks = true →
    count "data" ks ≤ 1 →
    ownAcc N (adjustKids N ea d false ks) a = (ownAcc N ks a).map fun a' => if count "data" ks = 1 then a'.shift d else a'
  | [], a, _, _ => by simp [ownAcc, adjustKids, count, named]
  | .tx s :: ks, a, hr, hc => by
    rw [count_cons_tx] at hc ⊢
    rw [regFileKids_cons] at hr
    simpa [ownAcc, adjustKids, adjust] using ownAcc_adjust N ea hN d ks a (by simpa [regFile] using hr) hc
  | .el n as k :: ks, a, hr, hc => by
    rw [count_cons_el] at hc ⊢
    rw [regFileKids_cons] at hr
    simp only [adjustKids, adjust_el_plain]
    by_cases hname : n = "name"
    · subst hname
      simpa [ownAcc, allText_adjustKids] using ownAcc_adjust N ea hN d ks _ hr.2 (by simpa using hc)
    by_cases hdata : n = "data"
    · subst hdata
      have hc0 : count "data" ks = 0 := by simp at hc; omega
      have hreg : regData N k = true := by simpa [regFile] using hr.1
      simp only [regData, Bool.and_eq_true, beq_iff_eq, decide_eq_true_eq] at hreg
      obtain ⟨⟨⟨h1, h2⟩, _⟩, _⟩ := hreg
      have e1 : isRef ea "data" = true := by simp [isRef]
      simp only [ownAcc, hname, ↓reduceIte, e1, umData_adjust N ea hN d k _ h1 (by omega), h2]
      cases umData N k { a with hasData := true } with
      | none => rfl
      | some a' =>
        simp only [Option.map_some]
        rw [ownAcc_adjust N ea hN d ks _ hr.2 (by omega), ownAcc_offset_frame N d ks a' hc0, hc0]
        cases ownAcc N ks a' <;> simp
    · simpa [ownAcc, hname, hdata] using ownAcc_adjust N ea hN d ks a hr.2 (by simpa [hdata] using hc)

theorem umFiles_adjust (N : Num) (ea : Bool) (hN : N.Laws) (d : Int) (ks : List Xml) : regFileKids N ks = true →
    umFiles N (adjustKids N ea d false ks) = (umFiles N ks).map (shiftXs d) := by
  induction ks using Xml.kids_induction with
  | nil => intro _; simp [umFiles, adjustKids, shiftXs]
  | tx s ks ih =>
    intro h
    rw [regFileKids_cons] at h
    simpa [umFiles, adjustKids, adjust] using ih (by simpa [regFile] using h)
  | el n as k ks ihk ih =>
    intro h
    rw [regFileKids_cons] at h
    simp only [adjustKids, adjust_el_plain]
    by_cases hf : n = "file"
    · subst hf
      have hreg : regFileKids N k = true ∧ count "data" k ≤ 1 := by simpa [regFile] using h.1
      rw [isRef_false ea "file" (by decide) (by decide), umFiles_file_eq, umFiles_file_eq,
        ownAcc_adjust N ea hN d k {} hreg.1 hreg.2, ihk hreg.1, ih h.2]
      cases ho : ownAcc N k {} with
      | none => rfl
      | some a' =>
        have hd : a'.hasData = decide (0 < count "data" k) := by simpa using ownAcc_hasData N k {} a' ho
        have : (if count "data" k = 1 then a'.shift d else a') = (if a'.hasData = true then a'.shift d else a') := by
          rw [hd]; congr 1; simp; omega
        cases umFiles N k <;> cases umFiles N ks <;> simp [shiftXs, shiftX, this]
    · rw [umFiles_cons_other _ _ _ _ _ hf, umFiles_cons_other _ _ _ _ _ hf]
      exact ih h.2

theorem umTocKids_nosig (N : Num) : ∀ (ks : List Xml) (t : XToc), (∀ k ∈ ks, k.isSig = false) →
    umTocKids N ks t = (umFiles N ks).map fun fs => { t with files := t.files ++ fs }
  | [], t, _ => by simp [umTocKids, umFiles]
  | .tx s :: ks, t, h => by
    simpa [umTocKids, umFiles] using umTocKids_nosig N ks t fun k hk => h k (List.mem_cons_of_mem _ hk)
  | .el n as k :: ks, t, h => by
    have hn : isSigName n = false := by simpa [Xml.isSig] using h _ List.mem_cons_self
    simp only [isSigName, Bool.or_eq_false_iff, decide_eq_false_iff_not] at hn
    obtain ⟨⟨h1, h2⟩, h3⟩ := hn
    have ih := fun t => umTocKids_nosig N ks t fun k hk => h k (List.mem_cons_of_mem _ hk)
    simp only [umTocKids, umFiles, h1, h2, h3, ↓reduceIte]
    split
    · cases umFile N k with
      | none => simp
      | some x =>
        simp only [Option.bind_some, ih]
        cases umFiles N ks <;> simp
    · exact ih t

theorem umTocKids_files (N : Num) (ks : List Xml) (t r : XToc) (h : umTocKids N ks t = some r) :
    ∃ fs, umFiles N (removeSigs N ks).2 = some fs ∧ r.files = t.files ++ fs := by
  fun_induction umTocKids N ks t
  case case1 => cases h; exact ⟨[], by simp [removeSigs, umFiles], by simp⟩
  case case2 ih => simpa [removeSigs, umFiles] using ih h
  case case3 ih =>
    obtain ⟨s, _, h⟩ := Option.bind_eq_some_iff.mp h
    simpa [removeSigs, isSigName] using ih s h
  case case4 ih =>
    obtain ⟨s, _, h⟩ := Option.bind_eq_some_iff.mp h
    simpa [removeSigs, isSigName] using ih s h
  case case5 ih =>
    obtain ⟨s, _, h⟩ := Option.bind_eq_some_iff.mp h
    simpa [removeSigs, isSigName] using ih s h
  case case6 ih =>
    obtain ⟨x, hx, h⟩ := Option.bind_eq_some_iff.mp h
    obtain ⟨fs, e1, e2⟩ := ih x h
    exact ⟨x :: fs, by simp [removeSigs, isSigName, umFiles, hx, e1], by simp [e2]⟩
  case case7 h1 h2 h3 h4 ih =>
    simpa [removeSigs, isSigName, h1, h2, h3, umFiles, h4] using ih h

theorem umTocKids_append (N : Num) (xs ys : List Xml) (t : XToc) :
    umTocKids N (xs ++ ys) t = (umTocKids N xs t).bind (umTocKids N ys) := by
  fun_induction umTocKids N xs t
  case case1 => rfl
  case case2 ih => simpa [umTocKids] using ih
  case case3 ih => simp [umTocKids, ih, Option.bind_assoc]
  case case4 ih => simp [umTocKids, ih, Option.bind_assoc]
  case case5 ih => simp [umTocKids, ih, Option.bind_assoc]
  case case6 ih => simp [umTocKids, ih, Option.bind_assoc]
  case case7 h1 h2 h3 h4 ih => simpa [umTocKids, h1, h2, h3, h4] using ih

theorem umRootKids_notoc (N : Num) : ∀ (ks : List Xml) (t : XToc), (∀ k ∈ ks, k.isEl "toc" = false) → umRootKids N ks t = some t
  | [], t, _ => by simp [umRootKids]
  | .tx s :: ks, t, h => by simpa [umRootKids] using umRootKids_notoc N ks t fun k hk => h k (List.mem_cons_of_mem _ hk)
  | .el n as k :: ks, t, h => by
    have hn : ¬ n = "toc" := by simpa using h _ List.mem_cons_self
    simpa [umRootKids, hn] using umRootKids_notoc N ks t fun k hk => h k (List.mem_cons_of_mem _ hk)

theorem umRootKids_append (N : Num) : ∀ (xs ys : List Xml) (t : XToc),
    umRootKids N (xs ++ ys) t = (umRootKids N xs t).bind (umRootKids N ys)
  | [], ys, t => by simp [umRootKids]
  | .tx s :: xs, ys, t => by simpa [umRootKids] using umRootKids_append N xs ys t
  | .el n as k :: xs, ys, t => by
    simp only [List.cons_append, umRootKids]
    split
    · cases umTocKids N k t <;> simp [umRootKids_append N xs ys]
    · exact umRootKids_append N xs ys t

theorem unmarshal_one_toc (N : Num) (rn : String) (ras : List (String × String)) (pre : List Xml) (tas : List (String × String))
    (tks post : List Xml) (hpre : ∀ k ∈ pre, k.isEl "toc" = false) (hpost : ∀ k ∈ post, k.isEl "toc" = false) :
    unmarshal N (.el rn ras (pre ++ .el "toc" tas tks :: post)) = umTocKids N tks emptyToc := by
  simp only [unmarshal, umRootKids_append, umRootKids_notoc N pre _ hpre, Option.bind_some, umRootKids, ↓reduceIte]
  cases umTocKids N tks emptyToc with
  | none => simp
  | some t => simp [umRootKids_notoc N post _ hpost]

/-- the struct values `Open` gets for the elements `reserveSignatures` wrote -/
def tocOfKey (hk : HK) (ki : KeyInfo) : XToc :=
  match ki.rsaSize with
  | some n => ⟨⟨hk.name, 0, hk.size, []⟩, some ⟨"RSA", hk.size, n, ki.certTexts⟩,
               some ⟨"CMS", hk.size + n, 6144 + ki.derTotal, ki.certTexts⟩, []⟩
  | none => ⟨⟨hk.name, 0, hk.size, []⟩, none, some ⟨"CMS", hk.size, 6144 + ki.derTotal, ki.certTexts⟩, []⟩

theorem intOf_fmt (N : Num) (hN : N.Laws) (n : Int) (h : inI64 n) : intOf N [.tx (N.fmt n)] = some n := by
  simp [intOf, allText, hN.fmt_ne, hN.rtT n h]

theorem certs_roundtrip (cs : List String) :
    (named "X509Certificate" (cs.map fun c => Xml.el "X509Certificate" [] [.tx c])).map (fun c => allText c.kids) = cs := by
  induction cs with
  | nil => rfl
  | cons c cs ih =>
    simp only [List.map_cons, named, List.filter_cons, isEl_el, beq_self_eq_true, ↓reduceIte, kids_el, allText,
      String.append_empty, List.cons.injEq, true_and]
    simpa [named] using ih

theorem umSig_new (N : Num) (hN : N.Laws) (key style : String) (o sz : Int) (cs : Option (List String)) (ho : inI64 o)
    (hs : inI64 sz) (old : XSig) (hold : old.certs = []) :
    umSig N (newSigElement N key style o sz cs) old = some ⟨style, o, sz, cs.getD []⟩ := by
  have e1 : ¬ "size" = "offset" := by decide
  have e3 : ¬ "KeyInfo" = "offset" := by decide
  have e4 : ¬ "KeyInfo" = "size" := by decide
  cases cs with
  | none =>
    simp [newSigElement, umSig, umSigKids, styleOf, attrLast, attrFirst, e1, intOf_fmt N hN _ ho,
      intOf_fmt N hN _ hs, hold]
  | some cs =>
    have := certs_roundtrip cs
    simp only [named] at this
    simp [newSigElement, umSig, umSigKids, styleOf, attrLast, attrFirst, e1, e3, e4, intOf_fmt N hN _ ho,
      intOf_fmt N hN _ hs, hold, named, this]

theorem umTocKids_reserve (N : Num) (hN : N.Laws) (hk : HK) (ki : KeyInfo) (hki : ki.small) :
    umTocKids N (reserve N hk ki).1 emptyToc = some (tocOfKey hk ki) := by
  have hs := hk.size_le
  obtain ⟨hd, hr⟩ := hki
  have i0 : inI64 (0 : Int) := by unfold inI64; omega
  have i1 : inI64 (hk.size : Int) := by unfold inI64; omega
  have i3 : inI64 (6144 + ki.derTotal : Int) := by unfold inI64; omega
  unfold reserve tocOfKey
  cases hrs : ki.rsaSize with
  | none =>
    simp only []
    have b1 := newSigElement_eq_el N "checksum" hk.name 0 hk.size none
    have b3 := newSigElement_eq_el N "x-signature" "CMS" hk.size (6144 + ki.derTotal) (some ki.certTexts)
    have u1 := umSig_new N hN "checksum" hk.name 0 hk.size none i0 i1 emptySig rfl
    have u3 := umSig_new N hN "x-signature" "CMS" hk.size (6144 + ki.derTotal) (some ki.certTexts) i1 i3 emptySig rfl
    rw [b1] at u1 ⊢
    rw [b3] at u3 ⊢
    have e1 : ¬ "x-signature" = "checksum" := by decide
    have e2 : ¬ "x-signature" = "signature" := by decide
    simp [umTocKids, emptyToc, u1, u3, e1, e2]
  | some n =>
    have hn := hr n hrs
    have i2 : inI64 (n : Int) := by unfold inI64; omega
    have i4 : inI64 (hk.size + n : Int) := by unfold inI64; omega
    simp only []
    have b1 := newSigElement_eq_el N "checksum" hk.name 0 hk.size none
    have b2 := newSigElement_eq_el N "signature" "RSA" hk.size n (some ki.certTexts)
    have b3 := newSigElement_eq_el N "x-signature" "CMS" (hk.size + n) (6144 + ki.derTotal) (some ki.certTexts)
    have u1 := umSig_new N hN "checksum" hk.name 0 hk.size none i0 i1 emptySig rfl
    have u2 := umSig_new N hN "signature" "RSA" hk.size n (some ki.certTexts) i1 i2 emptySig rfl
    have u3 := umSig_new N hN "x-signature" "CMS" (hk.size + n) (6144 + ki.derTotal) (some ki.certTexts) i4 i3 emptySig rfl
    rw [b1] at u1 ⊢
    rw [b2] at u2 ⊢
    rw [b3] at u3 ⊢
    have e1 : ¬ "x-signature" = "checksum" := by decide
    have e2 : ¬ "x-signature" = "signature" := by decide
    have e3 : ¬ "signature" = "checksum" := by decide
    simp [umTocKids, emptyToc, u1, u2, u3, e1, e2, e3]

theorem regFileKids_removeSigs (N : Num) : ∀ ks, regFileKids N ks = true → regFileKids N (removeSigs N ks).2 = true
  | [], _ => by simp [removeSigs, regFileKids]
  | .tx s :: ks, h => by
    rw [regFileKids_cons] at h
    simp only [removeSigs, regFileKids_cons]
    exact ⟨h.1, regFileKids_removeSigs N ks h.2⟩
  | .el n as c :: ks, h => by
    rw [regFileKids_cons] at h
    simp only [removeSigs]
    split
    · exact regFileKids_removeSigs N ks h.2
    · simp only [regFileKids_cons]
      exact ⟨h.1, regFileKids_removeSigs N ks h.2⟩

theorem regularDoc_shape (N : Num) (t : Xml) (h : regularDoc N t = true) :
    ∀ ras pre tas tks post, t = .el "xar" ras (pre ++ .el "toc" tas tks :: post) → (∀ k ∈ pre, k.isEl "toc" = false) →
      (∀ k ∈ post, k.isEl "toc" = false) ∧ regFileKids N tks = true := by
  intro ras pre tas tks post e hp
  subst e
  simp only [regularDoc, beq_self_eq_true, Bool.true_and, splitFirst_build "toc" pre (.el "toc" tas tks) post (by simp) hp,
    Bool.and_eq_true, List.all_eq_true, Bool.not_eq_eq_eq_not, Bool.not_true, kids_el] at h
  exact h

/-- What `Open` reads from a document `Sign` wrote: the new checksum / signature / x-signature elements with the sizes and
    certificates of the key, and the files `encoding/xml` read from `t`, those with a `<data>` element shifted (`Sign` shifts
    by `newSigSize − origSigSize`). -/
theorem unmarshal_shifted (N : Num) (ea : Bool) (hN : N.Laws) (hk : HK) (ki : KeyInfo) (hki : ki.small) (t : Xml) (p : Prep) (x0 : XToc) (d : Int)
    (e : prep N hk ki t = some p) (hu : unmarshal N t = some x0)
    (hreg : regularDoc N t = true) :
    unmarshal N (adjust N ea d false p.doc1) = some { tocOfKey hk ki with files := shiftXs d x0.files } := by
  obtain ⟨ras, pre, tas, tks, post, rfl, hp, rfl⟩ := prep_some N hk ki t p e
  obtain ⟨hpost, hr⟩ := regularDoc_shape N _ hreg ras pre tas tks post rfl hp
  rw [unmarshal_one_toc N "xar" ras pre tas tks post hp hpost] at hu
  obtain ⟨fs, hfs, hx0⟩ := umTocKids_files N tks emptyToc x0 hu
  rw [adjust_doc1]
  rw [unmarshal_one_toc N "xar" ras _ tas _ _ (isEl_adjustKids_false N ea _ false "toc" pre hp)
    (isEl_adjustKids_false N ea _ false "toc" post hpost), umTocKids_append, umTocKids_reserve N hN hk ki hki]
  have hreg2 : regFileKids N (removeSigs N tks).2 = true := regFileKids_removeSigs N tks hr
  simp only [Option.bind_some]
  rw [umTocKids_nosig N _ _ (kept_nosig N ea d false tks), umFiles_adjust N ea hN _ _ hreg2, hfs]
  simp [tocOfKey, hx0, emptyToc]
  cases ki.rsaSize <;> simp

/-- the last child element of that name (`encoding/xml`: the last one wins) -/
def lastEl (n : String) : List Xml → Option Xml
  | [] => none
  | k :: ks => match lastEl n ks with
    | some e => some e
    | none => if k.isEl n then some k else none

@[simp] theorem lastEl_cons_tx (n s : String) (ks : List Xml) : lastEl n (.tx s :: ks) = lastEl n ks := by
  simp only [lastEl, isEl_tx, Bool.false_eq_true, ↓reduceIte]
  cases lastEl n ks <;> rfl

theorem lastEl_none_of_count (n : String) : ∀ ks, count n ks = 0 → lastEl n ks = none
  | [], _ => rfl
  | .tx s :: ks, h => by rw [count_cons_tx] at h; simp [lastEl_none_of_count n ks h]
  | .el m as k :: ks, h => by
    rw [count_cons_el] at h
    have hm : ¬ m = n := by intro e; simp [e] at h
    have hc : count n ks = 0 := by simp [hm] at h; exact h
    simp [lastEl, lastEl_none_of_count n ks hc, hm]

theorem lastEl_eq_first (n : String) : ∀ ks, count n ks ≤ 1 → lastEl n ks = first n ks
  | [], _ => rfl
  | .tx s :: ks, h => by rw [count_cons_tx] at h; simp [first, lastEl_eq_first n ks h]
  | .el m as k :: ks, h => by
    rw [count_cons_el] at h
    by_cases hm : m = n
    · have hc : count n ks = 0 := by simp [hm] at h; omega
      simp [lastEl, first, lastEl_none_of_count n ks hc, hm]
    · have hc : count n ks ≤ 1 := by simpa [hm] using h
      simp only [lastEl, first, isEl_el, beq_iff_eq, hm, ↓reduceIte, lastEl_eq_first n ks hc]
      cases first n ks <;> rfl

/-- the number etree reads from an element: `ParseInt` of its `Text()` -/
def numVal (N : Num) (e : Xml) : Int := (N.atoi (etext e.kids)).1

/-- a further element in front: it is the last one of its name only if none follows -/
theorem lastEl_getD_cons {β} (n m : String) (as : List (String × String)) (k ks : List Xml) (g : Xml → β) (d : β) :
    ((lastEl n (.el m as k :: ks)).map g).getD d = ((lastEl n ks).map g).getD (if m = n then g (.el m as k) else d) := by
  simp only [lastEl, isEl_el, beq_iff_eq]
  cases lastEl n ks with
  | some e => rfl
  | none => by_cases h : m = n <;> simp [h]

/-- what `<data>` leaves in the struct, in terms of its last `<offset>`, `<length>` and (single) `<archived-checksum>` child -/
theorem umData_fields (N : Num) (hN : N.Laws) (ks : List Xml) (a a' : FileAcc) (hr : ks.all (regDataKid N) = true)
    (hc : count "archived-checksum" ks ≤ 1) (h : umData N ks a = some a') :
    a'.offset = ((lastEl "offset" ks).map (numVal N)).getD a.offset ∧
    a'.length = ((lastEl "length" ks).map (numVal N)).getD a.length ∧
    a'.astyle = ((lastEl "archived-checksum" ks).map fun e => styleOf a.astyle e.attrs).getD a.astyle ∧
    a'.adigest = ((lastEl "archived-checksum" ks).map fun e => allText e.kids).getD a.adigest := by
  fun_induction umData N ks a
  case case1 => cases h; exact ⟨rfl, rfl, rfl, rfl⟩
  case case2 as k rest a ih =>
    simp only [List.all_cons, Bool.and_eq_true] at hr
    have hnum : numOk N k = true := by simpa [regDataKid] using hr.1
    rw [intOf_numOk N hN k hnum, Option.bind_some] at h
    rw [count_cons_el] at hc
    simp only [lastEl_getD_cons, String.reduceEq, ↓reduceIte]
    exact ih _ hr.2 (by simpa using hc) h
  case case3 as k rest a _ ih =>
    simp only [List.all_cons, Bool.and_eq_true] at hr
    have hnum : numOk N k = true := by simpa [regDataKid] using hr.1
    rw [intOf_numOk N hN k hnum, Option.bind_some] at h
    rw [count_cons_el] at hc
    simp only [lastEl_getD_cons, String.reduceEq, ↓reduceIte]
    exact ih _ hr.2 (by simpa using hc) h
  case case4 as k rest a _ _ ih =>
    simp only [List.all_cons, Bool.and_eq_true] at hr
    rw [count_cons_el] at hc
    obtain ⟨v, _, h⟩ := Option.bind_eq_some_iff.mp h
    simp only [lastEl_getD_cons, String.reduceEq, ↓reduceIte]
    exact ih hr.2 (by simpa using hc) h
  case case5 as k rest a _ _ _ ih =>
    simp only [List.all_cons, Bool.and_eq_true] at hr
    rw [count_cons_el] at hc
    have hc0 : count "archived-checksum" rest = 0 := by simp at hc; omega
    obtain ⟨f1, f2, f3, f4⟩ := ih hr.2 (by omega) h
    have hl := lastEl_none_of_count "archived-checksum" rest hc0
    simp only [lastEl_getD_cons, String.reduceEq, ↓reduceIte]
    rw [hl] at f3 f4 ⊢
    exact ⟨f1, f2, f3, f4⟩
  case case6 n as k rest a h1 h2 _ h4 ih =>
    simp only [List.all_cons, Bool.and_eq_true] at hr
    rw [count_cons_el] at hc
    simp only [lastEl_getD_cons, h1, h2, h4, ↓reduceIte]
    exact ih hr.2 (by simpa [h4] using hc) h
  case case7 ih =>
    simp only [List.all_cons, Bool.and_eq_true] at hr
    rw [count_cons_tx] at hc
    simpa using ih hr.2 hc h

mutual
/-- every struct of a file tree, the file itself before its children -/
def flatX : XFile → List FileAcc
  | .mk a ks => a :: flatXs ks
def flatXs : List XFile → List FileAcc
  | [] => []
  | x :: xs => flatX x ++ flatXs xs
end

/-- an etree reference and an `encoding/xml` struct describe the same heap range and checksum -/
def Agrees (b : FileAcc) (d : DRef) : Prop :=
  d.offset = b.offset ∧ d.length = b.length ∧
    (d.sum = some (b.astyle, b.adigest) ∨ d.sum = none)

theorem first_eq_find? (n : String) : ∀ ks, first n ks = ks.find? (·.isEl n)
  | [] => rfl
  | k :: ks => by rw [first, List.find?_cons, first_eq_find? n ks]; cases k.isEl n <;> rfl

theorem attrFirst_eq_head (k : String) : ∀ as : List (String × String),
    attrFirst k as = ((as.filter fun p => p.1 = k).head?).map (·.2)
  | [] => rfl
  | (a, v) :: as => by
    by_cases h : a = k
    · simp [attrFirst, h]
    · simp [attrFirst, h, attrFirst_eq_head k as]

theorem attrLast_eq_first (k : String) (as : List (String × String)) (h : (as.filter fun p => p.1 = k).length ≤ 1) :
    attrLast k as = attrFirst k as := by
  unfold attrLast
  rw [attrFirst_eq_head, attrFirst_eq_head, List.filter_reverse]
  generalize (as.filter fun p => decide (p.1 = k)) = l at h
  match l, h with
  | [], _ => rfl
  | [x], _ => rfl
  | _ :: _ :: _, h => simp at h

/-- the fields `<data>` leaves behind are what etree reads from its first `<offset>` / `<length>` / `<archived-checksum>` -/
theorem data_agrees (N : Num) (hN : N.Laws) (fk dk : List Xml) (a a' : FileAcc) (hreg : regData N dk = true)
    (h0 : a.offset = 0) (h1 : a.length = 0) (h2 : a.astyle = "") (hu : umData N dk a = some a') :
    Agrees a' (dRefOfData N fk dk) := by
  simp only [regData, Bool.and_eq_true, beq_iff_eq, decide_eq_true_eq] at hreg
  obtain ⟨⟨⟨hall, c1⟩, c2⟩, c3⟩ := hreg
  obtain ⟨f1, f2, f3, f4⟩ := umData_fields N hN dk a a' hall c3 hu
  rw [lastEl_eq_first _ _ (by omega)] at f1
  rw [lastEl_eq_first _ _ c2] at f2
  rw [lastEl_eq_first _ _ c3] at f3 f4
  refine ⟨?_, ?_, ?_⟩
  · rw [f1, h0]; simp only [dRefOfData]; cases first "offset" dk <;> simp [numVal]
  · rw [f2, h1]; simp only [dRefOfData]; cases first "length" dk <;> simp [numVal]
  · rw [f3, f4, h2]
    simp only [dRefOfData]
    cases hf : first "archived-checksum" dk with
    | none => simp
    | some ek =>
      left
      rw [first_eq_find?] at hf
      have hm := List.mem_of_find?_eq_some hf
      have hk : regDataKid N ek = true := (List.all_eq_true.mp hall) ek hm
      obtain ⟨as, c, rfl⟩ := (isEl_true_iff _ _).mp (List.find?_some hf)
      have e1 : ¬ ("archived-checksum" = "offset" ∨ "archived-checksum" = "length") := by decide
      simp only [regDataKid, e1, ↓reduceIte, Bool.and_eq_true, decide_eq_true_eq] at hk
      simp [styleOf, attrLast_eq_first "style" as hk.2, etext_allTx c hk.1]

theorem dRefsKids_append (N : Num) (fk : Option (List Xml)) : ∀ xs ys,
    dRefsKids N fk (xs ++ ys) = dRefsKids N fk xs ++ dRefsKids N fk ys
  | [], ys => by simp [dRefsKids]
  | x :: xs, ys => by simp [dRefsKids, dRefsKids_append N fk xs ys]

theorem dRefsKids_cons (N : Num) (fk : Option (List Xml)) (x : Xml) (xs : List Xml) :
    dRefsKids N fk (x :: xs) = dRefs N fk x ++ dRefsKids N fk xs := by simp [dRefsKids]

theorem agrees_of_frame (b b' : FileAcc) (d : DRef) (h : Agrees b d) (h1 : b'.offset = b.offset) (h2 : b'.length = b.length)
    (h3 : b'.astyle = b.astyle) (h4 : b'.adigest = b.adigest) : Agrees b' d := by
  unfold Agrees at h ⊢
  rw [h1, h2, h3, h4]; exact h

/-- `FileIn ks k`: `k` are the children of a `<file>` element among `ks`, or of one nested in such elements -/
inductive FileIn : List Xml → List Xml → Prop
  | here (as k ks) : FileIn (.el "file" as k :: ks) k
  | nested (as k ks k') : FileIn k k' → FileIn (.el "file" as k :: ks) k'
  | next (x ks k') : FileIn ks k' → FileIn (x :: ks) k'

/-- every struct `encoding/xml` builds below `<toc>` is the struct of one `<file>` element, read from its own children:
    the one walk of the tree; what holds of every struct follows from a fact about `ownAcc` and one about `FileIn` -/
theorem mem_flatXs_umFiles (N : Num) (ks : List Xml) : ∀ fs, umFiles N ks = some fs → ∀ b ∈ flatXs fs,
    ∃ k, FileIn ks k ∧ ownAcc N k {} = some b := by
  induction ks using Xml.kids_induction with
  | nil => intro fs h b hb; cases h; simp [flatXs] at hb
  | tx s ks ih =>
    intro fs h b hb
    obtain ⟨k, hk, ho⟩ := ih fs h b hb
    exact ⟨k, .next _ _ _ hk, ho⟩
  | el n as k ks ihk ih =>
    intro fs h b hb
    by_cases hf : n = "file"
    · subst hf
      rw [umFiles_file_eq] at h
      cases ho : ownAcc N k {} with
      | none => simp [ho] at h
      | some a' =>
        cases hs : umFiles N k with
        | none => simp [ho, hs] at h
        | some s =>
          cases hr : umFiles N ks with
          | none => simp [ho, hs, hr] at h
          | some fs' =>
            simp only [ho, hs, hr, Option.bind_some, Option.map_some, Option.some.injEq] at h
            subst h
            simp only [flatXs, flatX, List.cons_append, List.mem_cons, List.mem_append] at hb
            rcases hb with rfl | hb | hb
            · exact ⟨k, .here _ _ _, ho⟩
            · obtain ⟨k', hk, ho'⟩ := ihk s hs b hb
              exact ⟨k', .nested _ _ _ _ hk, ho'⟩
            · obtain ⟨k', hk, ho'⟩ := ih fs' hr b hb
              exact ⟨k', .next _ _ _ hk, ho'⟩
    · rw [umFiles_cons_other N n as k ks hf] at h
      obtain ⟨k', hk, ho'⟩ := ih fs h b hb
      exact ⟨k', .next _ _ _ hk, ho'⟩

theorem FileIn.reg (N : Num) {ks k : List Xml} (h : FileIn ks k) : regFileKids N ks = true →
    regFileKids N k = true ∧ count "data" k ≤ 1 := by
  induction h with
  | here as k ks =>
    intro hr
    rw [regFileKids_cons] at hr
    simpa [regFile] using hr.1
  | nested as k ks _ _ ih =>
    intro hr
    rw [regFileKids_cons] at hr
    have : regFileKids N k = true ∧ count "data" k ≤ 1 := by simpa [regFile] using hr.1
    exact ih this.1
  | next x ks _ _ ih => intro hr; rw [regFileKids_cons] at hr; exact ih hr.2

theorem dRefs_file (N : Num) (fk : Option (List Xml)) (as : List (String × String)) (k : List Xml) :
    dRefs N fk (.el "file" as k) = dRefsKids N (some k) k := by
  have e : ("file" == "data") = false := by decide
  cases fk <;> simp [dRefs, e]

theorem mem_dRefsKids_data (N : Num) (fk : List Xml) (das : List (String × String)) (dk : List Xml) : ∀ ks : List Xml,
    .el "data" das dk ∈ ks → dRefOfData N fk dk ∈ dRefsKids N (some fk) ks
  | [], h => by simp at h
  | x :: xs, h => by
    rw [dRefsKids_cons, List.mem_append]
    rcases List.mem_cons.mp h with rfl | h
    · exact Or.inl (by simp [dRefs])
    · exact Or.inr (mem_dRefsKids_data N fk das dk xs h)

/-- etree lists the `<data>` children of every `<file>` element, wherever it is nested -/
theorem FileIn.dRefs (N : Num) {ks k : List Xml} (h : FileIn ks k) (das : List (String × String)) (dk : List Xml)
    (hm : .el "data" das dk ∈ k) : ∀ fk, dRefOfData N k dk ∈ dRefsKids N fk ks := by
  induction h with
  | here as k ks =>
    intro fk
    rw [dRefsKids_cons, dRefs_file]
    exact List.mem_append_left _ (mem_dRefsKids_data N k das dk k hm)
  | nested as k ks k' _ ih =>
    intro fk
    rw [dRefsKids_cons, dRefs_file]
    exact List.mem_append_left _ (ih hm (some k))
  | next x ks k' _ ih => intro fk; rw [dRefsKids_cons]; exact List.mem_append_right _ (ih hm fk)

theorem ownAcc_agrees (N : Num) (hN : N.Laws) (fk ks : List Xml) (a b : FileAcc) (hr : regFileKids N ks = true)
    (hc : count "data" ks ≤ 1) (h : ownAcc N ks a = some b) (h0 : a.hasData = false) (h1 : a.offset = 0) (h2 : a.length = 0)
    (h3 : a.astyle = "") (hb : b.hasData = true) :
    ∃ das dk, .el "data" das dk ∈ ks ∧ Agrees b (dRefOfData N fk dk) := by
  fun_induction ownAcc N ks a
  case case1 => cases h; rw [h0] at hb; cases hb
  case case2 ih =>
    rw [regFileKids_cons] at hr
    obtain ⟨das, dk, hm, hag⟩ := ih hr.2 (by rwa [count_cons_tx] at hc) h h0 h1 h2 h3
    exact ⟨das, dk, List.mem_cons_of_mem _ hm, hag⟩
  case case3 ih =>
    rw [regFileKids_cons] at hr
    obtain ⟨das, dk, hm, hag⟩ := ih hr.2 (by simpa [count_cons_el] using hc) h h0 h1 h2 h3
    exact ⟨das, dk, List.mem_cons_of_mem _ hm, hag⟩
  case case4 => cases h
  case case5 hu _ _ =>
    rw [regFileKids_cons] at hr
    obtain ⟨g1, g2, g3, g4⟩ := ownAcc_data_frame N _ _ b (by simp [count_cons_el] at hc; omega) h
    refine ⟨_, _, List.mem_cons_self, agrees_of_frame _ b _ (data_agrees N hN fk _ _ _ ?_ ?_ ?_ ?_ hu) g1 g2 g3 g4⟩
    · simpa [regFile] using hr.1
    all_goals assumption
  case case6 _ hd ih =>
    rw [regFileKids_cons] at hr
    obtain ⟨das, dk, hm, hag⟩ := ih hr.2 (by simpa [count_cons_el, hd] using hc) h h0 h1 h2 h3
    exact ⟨das, dk, List.mem_cons_of_mem _ hm, hag⟩

/-- The etree reader sees what the `encoding/xml` reader sees.  Below a regular `<toc>` every struct that has seen a
    `<data>` element agrees with one of the `//file/data` references etree lists. -/
theorem flat_agrees_toc (N : Num) (hN : N.Laws) (ks : List Xml) (fs : List XFile) (hr : regFileKids N ks = true)
    (h : umFiles N ks = some fs) : ∀ b ∈ flatXs fs, b.hasData = true → ∃ d ∈ dRefsKids N none ks, Agrees b d := by
  intro b hb hd
  obtain ⟨k, hin, ho⟩ := mem_flatXs_umFiles N ks fs h b hb
  obtain ⟨hrk, hck⟩ := hin.reg N hr
  obtain ⟨das, dk, hm, hag⟩ := ownAcc_agrees N hN k k {} b hrk hck ho rfl rfl rfl rfl hd
  exact ⟨_, hin.dRefs N das dk hm none, hag⟩

end Relic.Xar
