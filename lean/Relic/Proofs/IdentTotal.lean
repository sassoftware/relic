/-
  Relic.Proofs.IdentTotal — the model of `FormatPkixName` never panics and never diverges, whatever the bytes, and
  answers an error only for what is outside the model.
-/
import Relic.Model.Ident
import Relic.Proofs.DerTotal
namespace Relic.Ident
open Relic.Der Relic.Res

/-- the errors of the name parser: a refusal of `asn1.Unmarshal`, or one of the two things outside the model -/
def NameErr (e : String) : Prop := e = "invalid" ∨ e = "unmodelled-time" ∨ e = "unmodelled-hightag"

theorem liftTLV_errs {α} (vp : Bool) (r : Res α) (h : Errs (fun _ => True) r) : Errs NameErr (liftTLV vp r) := by
  refine Errs.cases r h (fun _ => trivial) (fun e _ => ?_)
  simp only [liftTLV]
  exact Errs.ite (Or.inr (Or.inr rfl)) (Or.inl rfl)

theorem decodeVal_errs (t : UInt8) (c : Bytes) : Errs NameErr (decodeVal t c) := by
  unfold decodeVal
  split
  · trivial
  · simp only []
    split <;> (try split) <;> first | trivial | exact Or.inl rfl | exact Or.inr (Or.inl rfl)

theorem parseATV_errs (c : Bytes) : Errs NameErr (parseATV c) := by
  unfold parseATV
  refine Errs.cases (liftTLV false (untlv c)) (liftTLV_errs false _ (untlv_errs c)) (fun p => ?_) (fun e he => he)
  obtain ⟨t1, oc, r1⟩ := p
  refine Errs.ite (Or.inl rfl) ?_
  cases parseOID oc with
  | none => exact Or.inl rfl
  | some arcs =>
    refine Errs.cases (liftTLV true (untlv r1)) (liftTLV_errs true _ (untlv_errs r1)) (fun q => ?_) (fun e he => he)
    obtain ⟨t2, vc, r2⟩ := q
    simp only []
    exact Errs.cases (decodeVal t2 vc) (decodeVal_errs t2 vc) (fun _ => trivial) (fun e he => he)

theorem parseEach_errs {α} (tag : UInt8) (f : Bytes → Res α) (hf : ∀ b, Errs NameErr (f b)) :
    ∀ l : List RawVal, Errs NameErr (parseEach tag f l)
  | [] => trivial
  | rv :: rest => by
    simp only [parseEach]
    refine Errs.ite (Or.inl rfl) (Errs.cases (f rv.bytes) (hf _) (fun a => ?_) (fun e he => he))
    exact Errs.cases (parseEach tag f rest) (parseEach_errs tag f hf rest) (fun _ => trivial) (fun e he => he)

theorem parseElems_errs {α} (tag : UInt8) (f : Bytes → Res α) (hf : ∀ b, Errs NameErr (f b)) (c : Bytes) :
    Errs NameErr (parseElems tag f c) := by
  unfold parseElems
  exact Errs.cases (liftTLV false (splitTLVs c)) (liftTLV_errs false _ (splitTLVs_errs c))
    (fun raws => parseEach_errs tag f hf raws) (fun e he => he)

theorem parseName_errs (der : Bytes) : Errs NameErr (parseName der) := by
  unfold parseName
  refine Errs.cases (liftTLV false (untlv der)) (liftTLV_errs false _ (untlv_errs der)) (fun p => ?_) (fun e he => he)
  exact Errs.ite (Or.inl rfl) (parseElems_errs _ _ (fun b => parseElems_errs _ _ parseATV_errs b) _)

/-- `FormatPkixName` returns a string for every input; an error only for an input outside the model: a time value, or
    a multi-byte tag in the value position (a refusal of `asn1.Unmarshal` is printed as `<invalid>`) -/
theorem formatPkixName_errs (style : NameStyle) (der : Bytes) :
    Errs (fun e => e = "unmodelled-time" ∨ e = "unmodelled-hightag") (formatPkixName style der) := by
  unfold formatPkixName
  refine Errs.cases (parseName der) (parseName_errs der) (fun _ => trivial) (fun e he => ?_)
  rcases he with rfl | rfl | rfl
  · trivial
  · exact Or.inl rfl
  · exact Or.inr rfl

theorem formatPkixName_safe (style : NameStyle) (der : Bytes) : safe (formatPkixName style der) = true :=
  (formatPkixName_errs style der).safe

end Relic.Ident
