/-
  Relic.Proofs.Daemon — the invariant of the Serve/Close machine (part 2 of Relic.Model.Daemon) and what holds once Shutdown
  has begun; before them, that the activation functions (part 1) neither panic nor loop.
-/
import Relic.Model.Daemon
import Relic.Proofs.Res
import Relic.Proofs.Lists
namespace Relic.Daemon

/- one walk per function for both outcomes that are neither a value nor an error -/

theorem fdListener_no_crash (w : World) (fd : Int) (c : Crash) : fdListener w fd ≠ Res.crash c := by
  unfold fdListener; split <;> simp

theorem popEnvInt_no_crash (e : Env) (n : String) (c : Crash) : popEnvInt e n ≠ Res.crash c := by
  unfold popEnvInt
  simp only
  split
  · simp
  · split <;> simp

theorem systemdListener_no_crash (w : World) (i : Nat) (c : Crash) : systemdListener w i ≠ Res.crash c := by
  unfold systemdListener
  split
  · split
    · simp
    · split
      · split
        · simp
        · exact fdListener_no_crash w _ c
      · simp
      · exact absurd ‹_› (popEnvInt_no_crash _ _ (.panic _))
      · exact absurd ‹_› (popEnvInt_no_crash _ _ .diverge)
  · simp
  · exact absurd ‹_› (popEnvInt_no_crash _ _ (.panic _))
  · exact absurd ‹_› (popEnvInt_no_crash _ _ .diverge)

theorem any_set {α} (p : α → Bool) (x : α) : ∀ (l : List α) (i : Nat), l.any p = true → p x = true → (l.set i x).any p = true :=
  Relic.any_set p x

/-- no stage carries an expired context or a Shutdown error -/
def CSt.clean : CSt → Bool
  | .waiting e => !e
  | .shutdownDone e => !e
  | .checked _ e => !e
  | .chClosed e => !e
  | .chDone e => !e
  | .returned e => !e

/-- Shutdown has returned -/
def CSt.past : CSt → Bool
  | .waiting _ => false
  | _ => true

/-- `close(s.closeCh)` was executed, or skipped because `s.closeCh` was nil -/
def CSt.late : CSt → Bool
  | .checked false _ => true
  | .chClosed _ => true
  | .chDone _ => true
  | .returned _ => true
  | _ => false

/-- What every interleaving keeps as long as no Shutdown context expires (`expire` is the one event that breaks `clean`,
    hence excluded in `inv_step`).  `tok` and `drained` are the content of C14: the tokens are closed only after some
    Shutdown has returned, and then nothing is in flight.  `shut` (a closer exists only in shutdown) is what rules out a
    new `accept` once `drained` matters.  `noClosedUse`, `good`, `noUac` say that no request ever met a closed token.
    `chNil` and `late` play no role in C14: they are there for `C20.close_closes_channel`. -/
structure Inv (s : St) : Prop where
  clean : s.closers.all CSt.clean = true
  drained : s.closers.any CSt.past = true → s.inflight = []
  shut : s.closers = [] ∨ s.inShutdown = true
  tok : s.tokensOpen = false → s.closers.any CSt.past = true
  noClosedUse : ∀ r ∈ s.inflight, r.st ≠ .tokClosed
  good : ∀ p ∈ s.responses, p.2 = .good
  noUac : s.tokenUseAfterClose = false
  chNil : s.chNil = true → s.closedCh = true
  late : s.closers.any CSt.late = true → s.closedCh = true

/-- the fields `Inv` reads -/
def St.core (s : St) : List CSt × List Req × Bool × Bool × List (Nat × Resp) × Bool × Bool × Bool :=
  (s.closers, s.inflight, s.inShutdown, s.tokensOpen, s.responses, s.tokenUseAfterClose, s.chNil, s.closedCh)

theorem Inv.of_core {s s' : St} (h : Inv s) (e : s'.core = s.core) : Inv s' := by
  simp only [St.core, Prod.mk.injEq] at e
  obtain ⟨e1, e2, e3, e4, e5, e6, e7, e8⟩ := e
  constructor
  · rw [e1]; exact h.clean
  · rw [e1, e2]; exact h.drained
  · rw [e1, e3]; exact h.shut
  · rw [e1, e4]; exact h.tok
  · rw [e2]; exact h.noClosedUse
  · rw [e5]; exact h.good
  · rw [e6]; exact h.noUac
  · rw [e7, e8]; exact h.chNil
  · rw [e1, e8]; exact h.late

theorem inv_init (n : Nat) : Inv (init n) := by
  constructor <;> simp [init]

/-- `setErr` writes `firstErr` only -/
theorem setErr_core (s : St) (e : String) : (setErr s e).core = s.core := by unfold setErr; split <;> rfl
@[simp] theorem setErr_inShutdown (s : St) (e : String) : (setErr s e).inShutdown = s.inShutdown := by unfold setErr; split <;> rfl
@[simp] theorem setErr_accepted (s : St) (e : String) : (setErr s e).accepted = s.accepted := by unfold setErr; split <;> rfl
@[simp] theorem setErr_crashed (s : St) (e : String) : (setErr s e).crashed = s.crashed := by unfold setErr; split <;> rfl

theorem Inv.closer_clean {s : St} {c : Nat} {x : CSt} (h : Inv s) (hc : s.closers[c]? = some x) : x.clean = true :=
  List.all_eq_true.mp h.clean x (List.mem_of_getElem? hc)

theorem Inv.closer_late {s : St} {c : Nat} {x : CSt} (h : Inv s) (hc : s.closers[c]? = some x) (hl : x.late = true) :
    s.closedCh = true :=
  h.late (List.any_eq_true.mpr ⟨x, List.mem_of_getElem? hc, hl⟩)

/-- closer `c` moves on from stage `x` to a stage `y` past Shutdown: the invariant is kept when nothing else
    changes but the channel and token fields, provided Shutdown had returned (or nothing was in flight) and
    `closedCh` holds wherever the new stage or `chNil` needs it -/
theorem Inv.advance {s s' : St} {c : Nat} {x y : CSt} (h : Inv s) (hc : s.closers[c]? = some x)
    (hy : y.clean = true ∧ y.past = true) (hdr : x.past = true ∨ s.inflight = [])
    (hlate : y.late = true → s'.closedCh = true) (hcc : s.closedCh = true → s'.closedCh = true)
    (hnil : s'.chNil = true → s'.closedCh = true)
    (e1 : s'.closers = s.closers.set c y) (e2 : s'.inflight = s.inflight) (e3 : s'.inShutdown = s.inShutdown)
    (e4 : s'.responses = s.responses) (e5 : s'.tokenUseAfterClose = s.tokenUseAfterClose) : Inv s' := by
  refine ⟨e1 ▸ all_set _ _ _ _ h.clean hy.1,
    fun _ => e2 ▸ hdr.elim (fun hx => h.drained (List.any_eq_true.mpr ⟨x, List.mem_of_getElem? hc, hx⟩)) id,
    ?_, fun _ => e1 ▸ any_set_at _ _ _ _ _ hc hy.2, e2 ▸ h.noClosedUse, e4 ▸ h.good, e5 ▸ h.noUac, hnil, ?_⟩
  · rw [e3]
    exact h.shut.imp (fun hs => absurd hs (List.ne_nil_of_mem (List.mem_of_getElem? hc))) id
  · intro hl
    rw [e1, List.any_eq_true] at hl
    obtain ⟨z, hz, hzl⟩ := hl
    rcases List.mem_or_eq_of_mem_set hz with hz | rfl
    · exact hcc (h.late (List.any_eq_true.mpr ⟨z, hz, hzl⟩))
    · exact hlate hzl

/-- `serve`, `lstart`, `lfail`, `serveRet`, `healthExit` write none of the fields `Inv` reads; `accept`, `token`, `respond` are
    the steps of a request; `close` adds a closer; every later step of a closer is an instance of `Inv.advance`. -/
theorem inv_step (s : St) (e : Ev) (he : ∀ c, e ≠ .expire c) (h : Inv s) : Inv (step s e) := by
  cases e with
  | serve =>
    simp only [step]
    split
    · exact h
    · exact h.of_core rfl
  | lstart i =>
    simp only [step]
    split
    · exact h
    · split
      · exact h.of_core rfl
      · exact h
  | accept i id =>
    simp only [step]
    split
    · -- accepted outside shutdown, so there is no closer yet and `drained` holds vacuously
      rename_i hg
      have hns : s.inShutdown = false := by simpa using hg.2.1
      have hcl : s.closers = [] := by
        rcases h.shut with hc | hc
        · exact hc
        · rw [hns] at hc; cases hc
      refine ⟨h.clean, ?_, h.shut, h.tok, ?_, h.good, h.noUac, h.chNil, h.late⟩
      · intro hp; simp [hcl] at hp
      · intro r hr
        simp only [List.mem_append, List.mem_singleton] at hr
        rcases hr with hr | hr
        · exact h.noClosedUse r hr
        · subst hr; simp
    · exact h
  | token id =>
    simp only [step]
    split
    · -- a request is in flight, so no Shutdown has returned (`drained`) and the tokens are still open (`tok`)
      rename_i hg
      have hne : s.inflight ≠ [] := by
        intro hn; simp [hn] at hg
      have hopen : s.tokensOpen = true := by
        cases ht : s.tokensOpen
        · exact absurd (h.drained (h.tok ht)) hne
        · rfl
      refine ⟨h.clean, ?_, h.shut, ?_, ?_, h.good, ?_, h.chNil, h.late⟩
      · intro hp; exact absurd (h.drained hp) hne
      · intro ht; simp [hopen] at ht
      · intro r hr
        simp only [List.mem_map] at hr
        obtain ⟨q, hq, rfl⟩ := hr
        split
        · simp
        · exact h.noClosedUse q hq
      · simp [hopen, h.noUac]
    · exact h
  | respond id =>
    simp only [step]
    split
    · rename_i r hf
      have hr := List.find?_some hf
      have hmem := List.mem_of_find?_eq_some hf
      have hne : s.inflight ≠ [] := List.ne_nil_of_mem hmem
      refine ⟨h.clean, ?_, h.shut, h.tok, ?_, ?_, h.noUac, h.chNil, h.late⟩
      · intro hp; exact absurd (h.drained hp) hne
      · intro q hq
        exact h.noClosedUse q (List.mem_filter.mp hq).1
      · intro p hp
        simp only [List.mem_append, List.mem_singleton] at hp
        rcases hp with hp | hp
        · exact h.good p hp
        · subst hp
          have h1 := h.noClosedUse r hmem
          cases hst : r.st <;> simp_all
    · exact h
  | lfail i =>
    simp only [step]
    split
    · exact (h.of_core rfl).of_core (setErr_core _ _)
    · exact h
  | close =>
    simp only [step]
    refine ⟨?_, ?_, .inr rfl, ?_, h.noClosedUse, h.good, h.noUac, h.chNil, ?_⟩
    · simp [List.all_append, h.clean, CSt.clean]
    · intro hp
      simp only [List.any_append, List.any_cons, CSt.past, List.any_nil, Bool.or_false] at hp
      exact h.drained hp
    · intro ht
      simp only [List.any_append, List.any_cons, CSt.past, List.any_nil, Bool.or_false]
      exact h.tok ht
    · intro hl
      simp only [List.any_append, List.any_cons, CSt.late, List.any_nil, Bool.or_false] at hl
      exact h.late hl
  | expire c => exact absurd rfl (he c)
  | shutdownRet c =>
    simp only [step]
    split
    · rename_i ex hc
      obtain rfl : ex = false := by simpa [CSt.clean] using h.closer_clean hc
      split
      · rename_i hemp
        exact h.advance hc ⟨rfl, rfl⟩ (.inr (by simpa using hemp)) (by simp [CSt.late]) id h.chNil rfl rfl rfl rfl rfl
      · simp; exact h
    · exact h
  | chk c =>
    simp only [step]
    split
    · rename_i e hc
      obtain rfl : e = false := by simpa [CSt.clean] using h.closer_clean hc
      refine h.advance hc ⟨rfl, rfl⟩ (.inl rfl) (fun hl => ?_) id h.chNil rfl rfl rfl rfl rfl
      -- `checked false _` (the field was nil) is late only when `chNil` holds
      cases hn : s.chNil
      · simp [hn, CSt.late] at hl
      · exact h.chNil hn
    · exact h
  | closeCh c =>
    simp only [step]
    split
    · rename_i e hc
      obtain rfl : e = false := by simpa [CSt.clean] using h.closer_clean hc
      split
      · rename_i hcc
        exact h.advance hc ⟨rfl, rfl⟩ (.inl rfl) (fun _ => hcc) id h.chNil rfl rfl rfl rfl rfl
      · exact h.advance hc ⟨rfl, rfl⟩ (.inl rfl) (fun _ => rfl) (fun _ => rfl) (fun _ => rfl) rfl rfl rfl rfl rfl
    · rename_i e hc
      obtain rfl : e = false := by simpa [CSt.clean] using h.closer_clean hc
      have hlate := h.closer_late hc rfl
      exact h.advance hc ⟨rfl, rfl⟩ (.inl rfl) (fun _ => hlate) id h.chNil rfl rfl rfl rfl rfl
    · exact h
  | nilCh c =>
    simp only [step]
    split
    · rename_i e hc
      obtain rfl : e = false := by simpa [CSt.clean] using h.closer_clean hc
      have hlate := h.closer_late hc rfl
      exact h.advance hc ⟨rfl, rfl⟩ (.inl rfl) (fun _ => hlate) id (fun _ => hlate) rfl rfl rfl rfl rfl
    · exact h
  | closeTokens c =>
    simp only [step]
    split
    · rename_i e hc
      obtain rfl : e = false := by simpa [CSt.clean] using h.closer_clean hc
      have hlate := h.closer_late hc rfl
      simp only [Bool.false_eq_true, if_false]
      exact h.advance hc ⟨rfl, rfl⟩ (.inl rfl) (fun _ => hlate) id h.chNil rfl rfl rfl rfl rfl
    · exact h
  | serveRet =>
    simp only [step]
    split
    · exact h.of_core rfl
    · exact h
  | healthExit =>
    simp only [step]
    split
    · exact h.of_core rfl
    · exact h

def NoExpire (evs : List Ev) : Prop := ∀ c, Ev.expire c ∉ evs

theorem inv_run (evs : List Ev) : ∀ (s : St), NoExpire evs → Inv s → Inv (run s evs) := by
  induction evs with
  | nil => intro s _ h; exact h
  | cons e es ih =>
    intro s hn h
    simp only [run]
    apply ih
    · intro c hc; exact hn c (List.mem_cons_of_mem _ hc)
    · apply inv_step _ _ _ h
      intro c hc
      exact hn c (by simp [hc])

theorem step_shutdown (s : St) (e : Ev) (h : s.inShutdown = true) :
    (step s e).inShutdown = true ∧ (step s e).accepted = s.accepted := by
  fun_cases step s e
  -- `accept` is refused in shutdown; `lfail` and `closeTokens` go through `setErr`, which keeps both fields
  case case6 hacc => simp [h] at hacc
  case case12 => simpa using h
  case case29 => simpa +zetaDelta using h
  all_goals first | exact ⟨h, rfl⟩ | exact ⟨rfl, rfl⟩

theorem run_shutdown (evs : List Ev) : ∀ (s : St), s.inShutdown = true →
    (run s evs).inShutdown = true ∧ (run s evs).accepted = s.accepted := by
  induction evs with
  | nil => intro s h; exact ⟨h, rfl⟩
  | cons e es ih =>
    intro s h
    have := step_shutdown s e h
    have h2 := ih (step s e) this.1
    exact ⟨h2.1, by rw [run, h2.2, this.2]⟩

theorem run_append (a b : List Ev) : ∀ s, run s (a ++ b) = run (run s a) b := by
  induction a with
  | nil => intro s; rfl
  | cons e es ih => intro s; simp [run, ih]

end Relic.Daemon
