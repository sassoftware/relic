/-
  Relic.Proofs.ZipAssemble — an output assembled as `members ++ central directory ++ end records`, the
  directory being what `WriteDirectory` serialises for entries that stand for the members placed back to
  back from offset 0, is parsed by `Relic.Spec.Zip` to exactly those members; and that archive is again in the readable
  class when every record's ZIP64 markers are fixed-layout and every descriptor is one `readDataDesc` recognises
  (`assembled_readable`).
-/
import Relic.Proofs.ZipSpecIntro
import Relic.Proofs.ZipMembers
import Relic.Proofs.Lists
namespace Relic.Zip
open Relic.SpecZip

/-- a member to be found in an output: its central record and its bytes -/
structure PM where
  e : Entry
  x : Bytes

/-- the members lie back to back in `B` from `pos` to `stop`, each a well-formed member for its record -/
def PMsSeg (B : Bytes) : Nat → List PM → Nat → Prop
  | pos, [], stop => pos = stop
  | pos, p :: r, stop => p.e.hoff = pos ∧ (B.drop pos).take p.x.length = p.x ∧
      MemberRec p.x p.e.name p.e.flags p.e.crc p.e.csize p.e.usize ∧ EntryOK p.e ∧ PMsSeg B (pos + p.x.length) r stop

/-- … up to the end of `B` -/
def PMsAt (B : Bytes) (pos : Nat) (ps : List PM) : Prop := PMsSeg B pos ps B.length

theorem PMsSeg_append {B : Bytes} : ∀ (ps qs : List PM) (p q r : Nat), PMsSeg B p ps q → PMsSeg B q qs r →
    PMsSeg B p (ps ++ qs) r := by
  intro ps
  induction ps with
  | nil => intro qs p q r h1 h2; simp only [PMsSeg] at h1; subst h1; exact h2
  | cons a ps ih =>
    intro qs p q r h1 h2
    exact ⟨h1.1, h1.2.1, h1.2.2.1, h1.2.2.2.1, ih qs _ q r h1.2.2.2.2 h2⟩

/-- what the specification returns for a placed member -/
def PlacedM (out : Bytes) (cd : Nat) (p : PM) (m : SpecZip.Member) : Prop :=
  memberOf out cd p.e = some m ∧ m.entry = p.e ∧ m.dataOff = p.e.hoff + 30 + fld p.x 26 2 + fld p.x 28 2 ∧
  (out.drop m.dataOff).take p.e.csize = (p.x.drop (30 + fld p.x 26 2 + fld p.x 28 2)).take p.e.csize ∧
  (p.e.flags % 16 / 8 ≠ 1 → m.descWidths = [] ∧ m.dataOff + p.e.csize = p.e.hoff + p.x.length) ∧
  (p.e.flags % 16 / 8 = 1 → ∃ w, w ∈ m.descWidths ∧ (w = 16 ∨ w = 24) ∧ m.dataOff + p.e.csize + w = p.e.hoff + p.x.length ∧
    m.descWidths = descWidthsAt out (m.dataOff + p.e.csize) cd p.e)

def MsFor (out : Bytes) (cd : Nat) : List PM → List SpecZip.Member → Prop
  | [], [] => True
  | p :: ps, m :: ms => PlacedM out cd p m ∧ MsFor out cd ps ms
  | _, _ => False

theorem PMsAt_le {B : Bytes} : ∀ (ps : List PM) (pos : Nat), PMsAt B pos ps → pos ≤ B.length := by
  intro ps
  induction ps with
  | nil => intro pos h; simp [PMsAt, PMsSeg] at h; omega
  | cons p r ih => intro pos h; have := ih _ h.2.2.2.2; omega

theorem ordered_mono : ∀ (ms : List SpecZip.Member) (p q : Nat), q ≤ p → ordered p ms = true → ordered q ms = true := by
  intro ms
  cases ms with
  | nil => intro _ _ _ _; rfl
  | cons m ms =>
    intro p q hq h
    simp only [ordered, Bool.and_eq_true, decide_eq_true_eq] at h ⊢
    exact ⟨by omega, h.2⟩

theorem members_placed {B t : Bytes} : ∀ (ps : List PM) (pos : Nat), PMsAt B pos ps →
    ∃ ms, (ps.map (·.e)).mapM (memberOf (B ++ t) B.length) = some ms ∧ ordered pos ms = true ∧
      MsFor (B ++ t) B.length ps ms := by
  intro ps
  induction ps with
  | nil => intro pos _; exact ⟨[], by simp, by simp [ordered], trivial⟩
  | cons p r ih =>
    intro pos h
    obtain ⟨hoff, hx, hrec, hok, hrest⟩ := h
    have hle := PMsAt_le r _ hrest
    obtain ⟨ms, hms, hord, hfor⟩ := ih _ hrest
    have hx' : ((B ++ t).drop p.e.hoff).take p.x.length = p.x := by
      rw [hoff, take_drop_append_left B t pos _ hle]; exact hx
    obtain ⟨m, hm, hme, hdo, hnd, hd⟩ := memberOf_placed (out := B ++ t) (cd := B.length) hrec hok hx' (by omega) (by simp)
    refine ⟨m :: ms, ?_, ?_, ⟨⟨hm, hme, hdo, ?_, hnd, hd⟩, hfor⟩⟩
    · simp only [List.map_cons, List.mapM_cons, Option.bind_eq_bind, hm, Option.bind_some, hms]; rfl
    · simp only [ordered, Bool.and_eq_true, decide_eq_true_eq, hme]
      refine ⟨by omega, ?_⟩
      by_cases c : p.e.flags % 16 / 8 = 1
      · obtain ⟨w, hw, -, hend, -⟩ := hd c
        have hmin := foldl_min_headD_le hw
        exact ordered_mono ms _ _ (by omega) hord
      · obtain ⟨hws, hend⟩ := hnd c
        rw [hws]
        simp only [List.foldl_nil, List.headD_nil, Nat.add_zero]
        rw [hend, hoff]; exact hord
    · rw [hdo, ← seg_of_seg hx' (30 + fld p.x 26 2 + fld p.x 28 2) p.e.csize (by omega)]
      congr 2; omega

theorem MsFor_entries {out : Bytes} {cd : Nat} : ∀ (ps : List PM) (ms : List SpecZip.Member), MsFor out cd ps ms →
    ms.map (·.entry) = ps.map (·.e) := by
  intro ps
  induction ps with
  | nil => intro ms h; cases ms <;> simp_all [MsFor]
  | cons p r ih =>
    intro ms h
    cases ms with
    | nil => simp [MsFor] at h
    | cons m ms => simp only [MsFor] at h; simp [h.1.2.1, ih ms h.2]

/-- **an archive assembled from placed members and the directory `WriteDirectory` serialises parses.**
    `B`: the members back to back from offset 0; `fps`: each directory entry with the member it stands for
    (the record `GetDirectoryHeader` emits is decoded as the member's central record); the directory is
    written where `B` ends.  Then `B ++ cd ++ eod` is a valid archive whose members are exactly those, in
    order, each found where it was placed. -/
theorem parse_assembled (B : Bytes) (fps : List (File × PM)) (force : Bool) (fs : List File) (cd eod : Bytes)
    (hfs : fs = fps.map (·.1)) (hcd : cd = (headersOf fs).1)
    (heod : eod = endRecords fs.length cd.length B.length force (maxReader fs))
    (hem : ∀ q ∈ fps, Emits q.1 q.2.e) (hpl : PMsAt B 0 (fps.map (·.2)))
    (hbound : B.length + cd.length < 2 ^ 64) :
    ∃ a, parse (B ++ cd ++ eod) = some a ∧ MsFor (B ++ cd ++ eod) B.length (fps.map (·.2)) a.members ∧
      a.ends.cdOff = B.length ∧ a.ends.comment = [] ∧ a.ends.count = fps.length ∧ a.ends.first = B.length + cd.length ∧
      a.ends.zip64 = needZip64 fs.length cd.length B.length force (maxReader fs) := by
  have hlen : fs.length = fps.length := by rw [hfs, List.length_map]
  have hent := entries_headersOf (fps.map (fun q => (q.1, q.2.e))) B eod (by
    intro p hp
    obtain ⟨q, hq, rfl⟩ := List.mem_map.mp hp
    exact hem q hq)
  simp only [List.map_map, List.length_map] at hent
  have hfs' : (fps.map ((fun x => x.1) ∘ fun q => (q.1, q.2.e))) = fs := by
    rw [hfs]; apply List.map_congr_left; intro q _; rfl
  have hes : (fps.map ((fun x => x.2) ∘ fun q => (q.1, q.2.e))) = (fps.map (·.2)).map (·.e) := by
    rw [List.map_map]; apply List.map_congr_left; intro q _; rfl
  rw [hfs', hes, ← hcd] at hent
  have hcount := (entries_count_le _ _ _ _ _ hent).1
  have hends := ends_endRecords (B ++ cd) fs.length cd.length B.length force (maxReader fs)
    (by simp [List.length_append]) (by omega) (by simp only [List.length_append]; exact hbound)
  rw [← heod] at hends
  obtain ⟨ms, hms, hord, hfor⟩ := members_placed (B := B) (t := cd ++ eod) _ 0 hpl
  rw [← List.append_assoc] at hms hfor
  refine ⟨⟨⟨(B ++ cd).length + (if needZip64 fs.length cd.length B.length force (maxReader fs) then 76 else 0),
      (B ++ cd).length, needZip64 fs.length cd.length B.length force (maxReader fs), fs.length, cd.length, B.length, []⟩, ms⟩,
    ?_, hfor, rfl, rfl, hlen, by simp [List.length_append], rfl⟩
  unfold parse
  simp only [Option.bind_eq_bind]
  rw [hends]
  simp only [Option.bind_some, List.length_append]
  rw [if_neg (by simp), hlen, hent]
  simp only [Option.bind_some]
  rw [hms]
  simp only [Option.bind_some, hord, Bool.not_true, Bool.false_eq_true, if_false]

/-- the descriptor widths found are listed in ascending order (12, 16, 20, 24) -/
theorem descWidthsAt_sorted (z : Bytes) (at_ lim : Nat) (e : Entry) : (descWidthsAt z at_ lim e).Pairwise (· < ·) := by
  have hsub : (descWidthsAt z at_ lim e).Sublist [12, 16, 20, 24] := by
    unfold descWidthsAt
    have := filterMap_sublist_map
      (fun (p : Bool × Bool) =>
        decide ((p.2 = true ∨ (e.csize < 2 ^ 32 ∧ e.usize < 2 ^ 32)) ∧ at_ + (descEnc p.1 p.2 e.crc e.csize e.usize).length ≤ lim ∧
          bytesAt z at_ (descEnc p.1 p.2 e.crc e.csize e.usize).length = some (descEnc p.1 p.2 e.crc e.csize e.usize)))
      (fun (p : Bool × Bool) => (descEnc p.1 p.2 e.crc e.csize e.usize).length)
      [(false, false), (true, false), (false, true), (true, true)]
    simp only [List.map_cons, List.map_nil, descEnc_length] at this
    simp only [decide_eq_true_eq] at this
    exact this
  exact List.Pairwise.sublist hsub (by decide)

/-- members placed back to back: every member lies inside `[pos, stop]`, ends where another one starts or at
    `stop`, and no member starts strictly inside another one -/
theorem PMsSeg_sep {B : Bytes} : ∀ (ps : List PM) (pos stop : Nat), PMsSeg B pos ps stop →
    ∀ p ∈ ps, pos ≤ p.e.hoff ∧ p.e.hoff + p.x.length ≤ stop ∧
      (p.e.hoff + p.x.length = stop ∨ ∃ q ∈ ps, q.e.hoff = p.e.hoff + p.x.length) ∧
      ∀ q ∈ ps, q.e.hoff ≤ p.e.hoff ∨ p.e.hoff + p.x.length ≤ q.e.hoff := by
  intro ps
  induction ps with
  | nil => intro _ _ _ p hp; cases hp
  | cons a r ih =>
    intro pos stop h p hp
    obtain ⟨hoff, -, -, -, hrest⟩ := h
    have hi := ih _ _ hrest
    have hle : pos + a.x.length ≤ stop := by
      cases r with
      | nil => simp only [PMsSeg] at hrest; omega
      | cons b r' => have := (hi b (List.mem_cons_self ..)).2.1; have := (hi b (List.mem_cons_self ..)).1; omega
    rcases List.mem_cons.mp hp with rfl | hp
    · refine ⟨by omega, by omega, ?_, ?_⟩
      · cases r with
        | nil => simp only [PMsSeg] at hrest; left; omega
        | cons b r' => right; exact ⟨b, List.mem_cons_of_mem _ (List.mem_cons_self ..), by rw [hrest.1, hoff]⟩
      · intro q hq
        rcases List.mem_cons.mp hq with rfl | hq
        · left; omega
        · right; have := (hi q hq).1; omega
    · obtain ⟨h1, h2, h3, h4⟩ := hi p hp
      refine ⟨by omega, h2, ?_, ?_⟩
      · rcases h3 with h3 | ⟨q, hq, h3⟩
        · left; exact h3
        · right; exact ⟨q, List.mem_cons_of_mem _ hq, h3⟩
      · intro q hq
        rcases List.mem_cons.mp hq with rfl | hq
        · left; omega
        · exact h4 q hq

theorem MsFor_mem {out : Bytes} {cd : Nat} : ∀ (ps : List PM) (ms : List SpecZip.Member), MsFor out cd ps ms →
    ∀ m ∈ ms, ∃ p ∈ ps, PlacedM out cd p m := by
  intro ps
  induction ps with
  | nil => intro ms h m hm; cases ms with
    | nil => cases hm
    | cons _ _ => simp [MsFor] at h
  | cons p r ih =>
    intro ms h m hm
    cases ms with
    | nil => cases hm
    | cons m0 ms =>
      simp only [MsFor] at h
      rcases List.mem_cons.mp hm with rfl | hm
      · exact ⟨p, List.mem_cons_self .., h.1⟩
      · obtain ⟨q, hq, hpl⟩ := ih ms h.2 m hm
        exact ⟨q, List.mem_cons_of_mem _ hq, hpl⟩

/-- the width clause of `relicReadable`, on a placed member: the descriptor that ends the member is one
    `readDataDesc` recognises -/
def PMWidthOK (p : PM) : Prop :=
  p.e.flags % 16 / 8 = 1 →
    (p.x.length ≠ 30 + fld p.x 26 2 + fld p.x 28 2 + p.e.csize + 16 ∨ p.e.usize ≠ 0xffffffff) ∧
    (p.x.length ≠ 30 + fld p.x 26 2 + fld p.x 28 2 + p.e.csize + 24 ∨ p.e.usize ≥ 0xffffffff ∨
      p.e.csize / 2 ^ 32 % 2 ^ 32 ≠ p.e.usize % 2 ^ 32)

/-- **the assembled archive is again in the class `relicReadable`** (clause by clause), when every entry's ZIP64
    markers are fixed-layout and every member's descriptor is one `readDataDesc` recognises.
    The clause that takes work is `widthOK`: `trueWidth` is the FIRST width, in ascending order, at which a member or the
    directory starts (`find?` over `descWidths`, which are sorted).  The real width `w` of a placed member is found,
    because the next member or the directory starts right behind it (`PMsSeg_sep`, third part); no smaller width is,
    because no member starts inside another (`PMsSeg_sep`, fourth part).  With the true width known, the two numeric
    clauses are `PMWidthOK`. -/
theorem assembled_readable {B : Bytes} {ps : List PM} {out : Bytes} {a : Archive} (hpl : PMsAt B 0 ps)
    (hfor : MsFor out B.length ps a.members) (hcd : a.ends.cdOff = B.length) (hcom : a.ends.comment = [])
    (hfix : ∀ p ∈ ps, fixedNeed p.e.need = true) (hwok : ∀ p ∈ ps, PMWidthOK p) (h42 : 42 ≤ out.length) :
    noComment a out = true ∧ descSigned a = true ∧ zip64Fixed a = true ∧ (a.members.all (widthOK a)) = true := by
  have hents := MsFor_entries ps a.members hfor
  refine ⟨by simp [noComment, hcom, h42], ?_, ?_, ?_⟩
  · simp only [descSigned, List.all_eq_true]
    intro m hm
    obtain ⟨p, -, -, -, -, -, hnd, hd⟩ := MsFor_mem ps a.members hfor m hm
    by_cases c : p.e.flags % 16 / 8 = 1
    · obtain ⟨w, hw, hw2, -, -⟩ := hd c
      rcases hw2 with rfl | rfl
      · simp; exact Or.inl (Or.inr hw)
      · simp; exact Or.inr hw
    · simp [(hnd c).1]
  · rw [zip64Fixed_eq, List.all_eq_true]
    intro m hm
    obtain ⟨p, hp, -, he, -⟩ := MsFor_mem ps a.members hfor m hm
    rw [he]
    exact hfix p hp
  · simp only [List.all_eq_true]
    intro m hm
    obtain ⟨p, hp, -, he, hdo, -, hnd, hd⟩ := MsFor_mem ps a.members hfor m hm
    unfold widthOK
    by_cases c : p.e.flags % 16 / 8 = 1
    · obtain ⟨w, hw, hw2, hend, hws⟩ := hd c
      obtain ⟨s1, s2, s3, s4⟩ := PMsSeg_sep ps 0 B.length hpl p hp
      -- what starts somewhere (`nexts` in `trueWidth`): the directory, or a placed member
      have hnx : ∀ x, (a.members.map (·.entry.hoff) ++ [a.ends.cdOff]).contains x = true ↔
          (x = B.length ∨ ∃ q ∈ ps, q.e.hoff = x) := by
        intro x
        rw [List.contains_iff_mem, List.mem_append, hcd]
        have : a.members.map (·.entry.hoff) = ps.map (·.e.hoff) := by
          have := congrArg (List.map (·.hoff)) hents
          simpa [List.map_map, Function.comp_def] using this
        rw [this]
        constructor
        · rintro (h | h)
          · obtain ⟨q, hq, rfl⟩ := List.mem_map.mp h; exact Or.inr ⟨q, hq, rfl⟩
          · left; simpa using h
        · rintro (h | ⟨q, hq, rfl⟩)
          · right; simp [h]
          · left; exact List.mem_map.mpr ⟨q, hq, rfl⟩
      -- `w` is the first width at which something starts
      have htw : trueWidth a m = some w := by
        unfold trueWidth
        rw [he]
        apply find?_sorted _ w (by rw [hws]; exact descWidthsAt_sorted _ _ _ _) hw
        · rw [hnx]
          rcases s3 with h | ⟨q, hq, h⟩
          · left; omega
          · right; exact ⟨q, hq, by omega⟩
        · intro w' _ hlt
          cases hc : (a.members.map (·.entry.hoff) ++ [a.ends.cdOff]).contains (m.dataOff + p.e.csize + w') with
          | false => rfl
          | true =>
            exfalso
            rw [hnx] at hc
            rcases hc with h | ⟨q, hq, h⟩
            · omega
            · rcases s4 q hq with h' | h'
              · omega
              · omega
      rw [htw]
      have hemp : m.descWidths.isEmpty = false := by
        cases hh : m.descWidths with
        | nil => rw [hh] at hw; cases hw
        | cons _ _ => rfl
      rw [hemp, Bool.false_or, he]
      obtain ⟨k1, k2⟩ := hwok p hp c
      have hxl : p.x.length = 30 + fld p.x 26 2 + fld p.x 28 2 + p.e.csize + w := by omega
      simp only [Bool.and_eq_true, Bool.or_eq_true, bne_iff_ne, ne_eq, decide_eq_true_eq]
      refine ⟨?_, ?_⟩
      · rcases k1 with h | h
        · left; intro hw16; apply h; rw [hxl, hw16]
        · right; exact h
      · rcases k2 with h | h | h
        · left; left; intro hw24; apply h; rw [hxl, hw24]
        · left; right; exact h
        · right; exact h
    · simp [(hnd c).1]

end Relic.Zip
