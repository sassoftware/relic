/-
  An added namespace declaration whose prefix is used nowhere in the subtree does not change `walkE` (hence `canon`).
  `AddDecl` is a third relation between two trees beside `Sens.Edit E` and `PermEq`; it has its own
  induction because its step needs a condition on the pending list (`EnvNoX`), which `Sens.walkE_edit` does not carry.
-/
import Relic.Proofs.XmlEnv
namespace Relic.Xml

mutual
/-- prefix `s` is used (in the sense of `usesSpace`) by no element of the subtree -/
def UnusedIn (s : Bytes) : Node → Prop
  | .elem sp _ as ks => usesSpace sp as s = false ∧ UnusedInL s ks
  | _ => True
def UnusedInL (s : Bytes) : List Node → Prop
  | [] => True
  | n :: ns => UnusedIn s n ∧ UnusedInL s ns
end

def forget (s : Bytes) (ds : Env) : Env := ds.filter fun e => decide (e.1 ≠ s)

theorem forget_append (s : Bytes) (a b : Env) : forget s (a ++ b) = forget s a ++ forget s b := by
  unfold forget; rw [List.filter_append]

theorem forget_forget (s : Bytes) (a : Env) : forget s (forget s a) = forget s a := by
  unfold forget; rw [List.filter_filter]; simp

theorem localStep_snd_mem (sp : Bytes) : ∀ (ds : Env) (X : List Attr), ∀ e ∈ (localStep sp X ds).2, e ∈ ds := by
  intro ds
  induction ds with
  | nil => intro X e he; simp [localStep] at he
  | cons d ds ih =>
    intro X e he
    obtain ⟨s1, v1⟩ := d
    simp only [localStep] at he
    split at he
    · exact List.mem_cons_of_mem _ (ih _ e he)
    · split at he
      · exact List.mem_cons_of_mem _ (ih _ e he)
      · rcases List.mem_cons.mp he with h | h
        · rw [h]; exact List.mem_cons_self
        · exact List.mem_cons_of_mem _ (ih _ e h)

/-- The split is on "pending prefix = `s`": such an entry is redeclared or, `s` being unused here, passed on and then forgotten;
    any other entry meets the same fate on both sides. -/
theorem localStep_unused (sp s : Bytes) (hx : s ≠ sXmlns) : ∀ (ds : Env) (X : List Attr), usesSpace sp X s = false →
    (localStep sp X ds).1 = (localStep sp X (forget s ds)).1 ∧
    forget s (localStep sp X ds).2 = (localStep sp X (forget s ds)).2 := by
  intro ds
  induction ds with
  | nil => intro X _; simp [localStep, forget]
  | cons d ds ih =>
    intro X hu
    obtain ⟨s1, v1⟩ := d
    by_cases hs : s1 = s
    · subst hs
      have hf : forget s1 ((s1, v1) :: ds) = forget s1 ds := by simp [forget]
      rw [hf]
      simp only [localStep]
      split
      · exact ih X hu
      · rw [hu]
        simp only [Bool.false_eq_true, if_false]
        have := ih X hu
        refine ⟨this.1, ?_⟩
        rw [← this.2]
        simp [forget]
    · have hf : forget s ((s1, v1) :: ds) = (s1, v1) :: forget s ds := by simp [forget, hs]
      rw [hf]
      simp only [localStep]
      split
      · exact ih X hu
      · split
        · apply ih
          rw [usesSpace_append_mkDecl sp s s1 v1 X hx]
          exact hu
        · have := ih X hu
          refine ⟨this.1, ?_⟩
          rw [← this.2]
          simp [forget, hs]

theorem forget_localStep_forget (sp s : Bytes) (ds : Env) (X : List Attr) :
    forget s (localStep sp X (forget s ds)).2 = (localStep sp X (forget s ds)).2 := by
  unfold forget
  rw [List.filter_eq_self]
  intro e he
  have := localStep_snd_mem sp _ X e he
  exact (List.mem_filter.mp this).2

theorem walkKidsE_forget (s : Bytes) (hx : s ≠ sXmlns) : ∀ (ns : List Node) (ds : Env), UnusedInL s ns →
    walkKidsE ds ns = walkKidsE (forget s ds) ns := by
  intro ns
  induction ns using kids_induction with
  | nil => intro ds _; rw [walkKidsE, walkKidsE]
  | elem sp tag attrs kids rest ihk ihr =>
    intro ds hu
    simp only [UnusedInL, UnusedIn] at hu
    obtain ⟨h1, h2⟩ := localStep_unused sp s hx ds attrs hu.1.1
    rw [walkKidsE_elem, walkKidsE_elem, ihr ds hu.2]
    simp only [walkE]
    rw [← h1, ← h2, ihk _ hu.1.2, ihk (forget s (localStep sp attrs ds).2 ++ _) hu.1.2,
      forget_append, forget_append, forget_forget]
  | text d c rest ihr => intro ds hu; rw [walkKidsE_text, walkKidsE_text, ihr ds hu.2]
  | drop n rest hn ihr => intro ds hu; rw [walkKidsE_drop _ _ hn, walkKidsE_drop _ _ hn, ihr ds hu.2]

theorem walkE_forget (s : Bytes) (hx : s ≠ sXmlns) : ∀ (n : Node) (ds : Env), UnusedIn s n →
    walkE ds n = walkE (forget s ds) n := by
  intro n ds hu
  by_cases hk : keeps n = true
  · have := walkKidsE_forget s hx [n] ds ⟨hu, trivial⟩
    rw [walkE_of_kids _ _ hk, walkE_of_kids _ _ hk] at this
    exact List.head_eq_of_cons_eq this
  · cases n <;> first | exact absurd rfl hk | rfl

theorem localStep_congr (sp : Bytes) : ∀ (ds : Env) (X X' : List Attr),
    (∀ e ∈ ds, selectAttr (declName e.1) X = selectAttr (declName e.1) X' ∧ usesSpace sp X e.1 = usesSpace sp X' e.1) →
    ∃ C, (localStep sp X ds).1 = X ++ C ∧ (localStep sp X' ds).1 = X' ++ C ∧
      (localStep sp X ds).2 = (localStep sp X' ds).2 ∧ ∀ c ∈ C, c.space = [] ∨ c.space = sXmlns := by
  intro ds
  induction ds with
  | nil => intro X X' _; exact ⟨[], by simp [localStep]⟩
  | cons d ds ih =>
    intro X X' h
    obtain ⟨s1, v1⟩ := d
    have hd := h (s1, v1) List.mem_cons_self
    have ht : ∀ e ∈ ds, selectAttr (declName e.1) X = selectAttr (declName e.1) X' ∧ usesSpace sp X e.1 = usesSpace sp X' e.1 :=
      fun e he => h e (List.mem_cons_of_mem _ he)
    simp only at hd
    simp only [localStep]
    rw [← hd.1, ← hd.2]
    split
    · exact ih X X' ht
    · split
      · obtain ⟨C, c1, c2, c3, c4⟩ := ih (X ++ [mkDecl s1 v1]) (X' ++ [mkDecl s1 v1]) (by
          intro e he
          rw [selectAttr_append, selectAttr_append, (ht e he).1, usesSpace_append, usesSpace_append, (ht e he).2]
          exact ⟨rfl, rfl⟩)
        refine ⟨mkDecl s1 v1 :: C, ?_, ?_, c3, ?_⟩
        · rw [c1]; simp
        · rw [c2]; simp
        · intro c hc
          rcases List.mem_cons.mp hc with e | e
          · rw [e]; exact mkDecl_space _ _
          · exact c4 c e
      · obtain ⟨C, c1, c2, c3, c4⟩ := ih X X' ht
        exact ⟨C, c1, c2, by simp only; rw [c3], c4⟩

def EnvNoX (ds : Env) : Prop := ∀ e ∈ ds, e.1 ≠ sXmlns

theorem EnvNoX_kids (sp : Bytes) (attrs : List Attr) (ds : Env) (h : EnvNoX ds) :
    EnvNoX ((localStep sp attrs ds).2 ++ dropped sp (localStep sp attrs ds).1) := by
  intro e he
  rcases List.mem_append.mp he with h1 | h1
  · exact h e (localStep_snd_mem sp ds attrs e h1)
  · exact dropped_ne_xmlns sp _ e h1

/-- The unused declaration on the element itself.  Plan: forget `s` in the pending list on both sides (`localStep_unused`:
    the element does not use `s`); the two attribute lists then answer every remaining test of `localStep` alike
    (`localStep_congr`: the added declaration has another name and its prefix is `""` or `xmlns`); the loop drops the
    added declaration and hands `(s, v)` to the children, who do not use `s` and forget it (`walkKidsE_forget`). -/
theorem walkE_add_decl_here (sp tag s v : Bytes) (pre post : List Attr) (kids : List Node) (ds : Env)
    (hds : EnvNoX ds) (hu : usesSpace sp (pre ++ mkDecl s v :: post) s = false) (hk : UnusedInL s kids) :
    walkE ds (.elem sp tag (pre ++ mkDecl s v :: post) kids) = walkE ds (.elem sp tag (pre ++ post) kids) := by
  have hx : s ≠ sXmlns := by
    intro hs
    have hsp : (mkDecl s v).space = sXmlns := by
      unfold mkDecl declName; rw [hs]; simp [sXmlns_ne_nil]
    have := usesSpace_self_xmlns sp (pre ++ mkDecl s v :: post) (mkDecl s v) (by simp) hsp
    rw [hs] at hu this; rw [this] at hu; cases hu
  have hu0 : usesSpace sp (pre ++ post) s = false := by
    rw [← usesSpace_insert_decl sp s pre post (mkDecl s v) (mkDecl_space s v) hx]; exact hu
  obtain ⟨a1, a2⟩ := localStep_unused sp s hx ds _ hu
  obtain ⟨b1, b2⟩ := localStep_unused sp s hx ds _ hu0
  obtain ⟨C, c1, c2, c3, c4⟩ := localStep_congr sp (forget s ds) (pre ++ mkDecl s v :: post) (pre ++ post) (by
    intro e he
    have hes : e.1 ≠ s := by simpa using (List.mem_filter.mp he).2
    have hex : e.1 ≠ sXmlns := hds e (List.mem_filter.mp he).1
    exact ⟨selectAttr_insert _ pre post _ (selectAttr_mkDecl_other s e.1 v hes hx),
      usesSpace_insert_decl sp e.1 pre post _ (mkDecl_space s v) hex⟩)
  simp only [walkE]
  have eA' : (localStep sp (pre ++ mkDecl s v :: post) ds).1 = pre ++ mkDecl s v :: (post ++ C) := by
    rw [a1, c1]; simp
  have eA : (localStep sp (pre ++ post) ds).1 = pre ++ (post ++ C) := by
    rw [b1, c2]; simp
  rw [eA', eA]
  have huA' : usesSpace sp (pre ++ mkDecl s v :: (post ++ C)) s = false := by
    have e : pre ++ mkDecl s v :: (post ++ C) = (pre ++ mkDecl s v :: post) ++ C := by simp
    rw [e, usesSpace_append_decls sp s _ C hx c4]; exact hu
  have hkd := keep_drop_remove_decl sp pre (post ++ C) (mkDecl s v) s (getDecl_mkDecl s v)
  have kd : keepP sp (pre ++ mkDecl s v :: (post ++ C)) (mkDecl s v) = false := by
    unfold keepP; rw [getDecl_mkDecl]; exact huA'
  have dd : dropF sp (pre ++ mkDecl s v :: (post ++ C)) (mkDecl s v) = some (s, v) := by
    unfold dropF; rw [getDecl_mkDecl]; simp only; rw [huA']; simp [mkDecl]
  have eK : keepAttrs sp (pre ++ mkDecl s v :: (post ++ C)) = keepAttrs sp (pre ++ (post ++ C)) := by
    unfold keepAttrs
    rw [List.filter_append, List.filter_cons, kd]
    simp only [Bool.false_eq_true, if_false]
    rw [← List.filter_append]
    exact List.filter_congr fun b hb => (hkd b hb).1
  have eD : forget s (dropped sp (pre ++ mkDecl s v :: (post ++ C))) = forget s (dropped sp (pre ++ (post ++ C))) := by
    unfold dropped
    rw [List.filterMap_append, List.filterMap_cons, dd]
    simp only
    rw [forget_append]
    have : forget s ((s, v) :: List.filterMap (dropF sp (pre ++ mkDecl s v :: (post ++ C))) (post ++ C)) =
        forget s (List.filterMap (dropF sp (pre ++ mkDecl s v :: (post ++ C))) (post ++ C)) := by
      simp [forget]
    rw [this, ← forget_append, ← List.filterMap_append]
    rw [filterMap_congr fun b hb => (hkd b hb).2]
  rw [eK]
  rw [walkKidsE_forget s hx kids _ hk,
    walkKidsE_forget s hx kids ((localStep sp (pre ++ post) ds).2 ++ _) hk]
  rw [forget_append, forget_append, eD, a2, b2, c3]

mutual
/-- `m` is `n` with one declaration `mkDecl s v` added to one element whose subtree does not use the prefix `s` -/
def AddDecl (s v : Bytes) : Node → Node → Prop
  | .elem sp tag as ks, m =>
    (∃ pre post, as = pre ++ post ∧ m = .elem sp tag (pre ++ mkDecl s v :: post) ks ∧
        usesSpace sp (pre ++ mkDecl s v :: post) s = false ∧ UnusedInL s ks) ∨
    (∃ ks', m = .elem sp tag as ks' ∧ AddDeclL s v ks ks')
  | .text _ _, _ => False
  | .comment _, _ => False
  | .procinst _ _, _ => False
  | .directive _, _ => False
def AddDeclL (s v : Bytes) : List Node → List Node → Prop
  | [], _ => False
  | n :: ns, ms => (∃ m, ms = m :: ns ∧ AddDecl s v n m) ∨ (∃ ms', ms = n :: ms' ∧ AddDeclL s v ns ms')
end

theorem AddDecl.keeps {s v : Bytes} {n m : Node} (h : AddDecl s v n m) : keeps n = true ∧ keeps m = true := by
  cases n <;> simp only [AddDecl] at h
  rcases h with ⟨pre, post, _, rfl, _, _⟩ | ⟨ks', rfl, _⟩ <;> exact ⟨rfl, rfl⟩

mutual
theorem walkE_add_decl (s v : Bytes) : ∀ (n m : Node) (ds : Env), EnvNoX ds → AddDecl s v n m → walkE ds m = walkE ds n
  | .elem sp tag attrs kids, m, ds, hds, h => by
    simp only [AddDecl] at h
    rcases h with ⟨pre, post, rfl, rfl, hu, hk⟩ | ⟨ks', rfl, hk⟩
    · exact walkE_add_decl_here sp tag s v pre post kids ds hds hu hk
    · simp only [walkE]
      rw [walkKidsE_add_decl s v kids ks' _ (EnvNoX_kids sp attrs ds hds) hk]
  | .text _ _, m, ds, _, h => by simp [AddDecl] at h
  | .comment _, m, ds, _, h => by simp [AddDecl] at h
  | .procinst _ _, m, ds, _, h => by simp [AddDecl] at h
  | .directive _, m, ds, _, h => by simp [AddDecl] at h
theorem walkKidsE_add_decl (s v : Bytes) : ∀ (ns ms : List Node) (ds : Env), EnvNoX ds → AddDeclL s v ns ms →
    walkKidsE ds ms = walkKidsE ds ns
  | [], ms, ds, _, h => by simp [AddDeclL] at h
  | n :: rest, ms, ds, hds, h => by
    simp only [AddDeclL] at h
    rcases h with ⟨m, rfl, hm⟩ | ⟨ms', rfl, hr⟩
    · rw [walkKidsE_cons, walkKidsE_cons, if_pos hm.keeps.1, if_pos hm.keeps.2, walkE_add_decl s v n m ds hds hm]
    · rw [walkKidsE_cons, walkKidsE_cons, walkKidsE_add_decl s v rest ms' ds hds hr]
end

end Relic.Xml
