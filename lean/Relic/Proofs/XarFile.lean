/- Relic.Model.Xar at the level of bytes: the header codec, `Open` as a whole (when it crashes, what it has read when it
   does not), the layout of what `Sign` + `Apply` write, `Open` on it -/
import Relic.Proofs.XarView
import Relic.Proofs.Codec
import Relic.Proofs.Splice
namespace Relic.Xar

theorem sl_cat (pre a post : Bytes) (off n : Nat) (h1 : off = pre.length) (h2 : n = a.length) :
    sl (pre ++ (a ++ post)) off n = a := by
  subst h1 h2; simp [sl]

theorem sl_cat_end (pre a : Bytes) (off n : Nat) (h1 : off = pre.length) (h2 : n = a.length) :
    sl (pre ++ a) off n = a := by
  have := sl_cat pre a [] off n h1 h2
  simpa using this

theorem drop_cat (pre post : Bytes) (n : Nat) (h : n = pre.length) : (pre ++ post).drop n = post := by
  subst h; simp

theorem sl_length_le (b : Bytes) (off n : Nat) (h : off + n ≤ b.length) : (sl b off n).length = n := by
  simp [sl]; omega

theorem sl_skip (pre b : Bytes) (off n : Nat) (h : pre.length ≤ off) : sl (pre ++ b) off n = sl b (off - pre.length) n := by
  simp only [sl, List.drop_append]
  have : List.drop off pre = [] := List.drop_eq_nil_of_le h
  simp [this]

theorem sl_drop (f : Bytes) (a off n : Nat) : sl (f.drop a) off n = sl f (a + off) n := by
  simp [sl, List.drop_drop]

theorem u64_nat (n : Nat) (h : n < 2 ^ 63) : u64 (n : Int) = n := by
  unfold u64
  have : ((n : Int) % 2 ^ 64) = n := Int.emod_eq_of_lt (by omega) (by omega)
  rw [this]; simp

theorem i64_nat (n : Nat) (h : n < 2 ^ 63) : i64 n = (n : Int) := by
  unfold i64; exact w64_id (by unfold inI64; omega)

theorem hkOfHdr_hdr (k : HK) : hkOfHdr k.hdr = some k := by cases k <;> rfl

theorem HK.hdr_lt (k : HK) : k.hdr < 256 ^ 4 := by cases k <;> decide

theorem parseHeader_newHdr (hk : HK) (c u : Nat) (hc : c < 2 ^ 63) (hu : u < 2 ^ 63) (rest : Bytes) :
    parseHeader ((newHdr hk c u).enc ++ rest) = .ok (newHdr hk c u, hk) := by
  -- the 28 bytes are six fields; a field is found by the widths of those in front of it (`take_drop_piece`)
  have e : (newHdr hk c u).enc ++ rest =
      [beBytes 4 xarMagic, beBytes 2 28, beBytes 2 1, beBytes 8 c, beBytes 8 u, beBytes 4 hk.hdr, rest].flatten := by
    simp [Hdr.enc, newHdr, u64_nat c hc, u64_nat u hu, List.append_assoc]
  have hlen : ¬ ((newHdr hk c u).enc ++ rest).length < 28 := by simp [Hdr.enc]; omega
  have P := fun j off n x => take_drop_piece
    [beBytes 4 xarMagic, beBytes 2 28, beBytes 2 1, beBytes 8 c, beBytes 8 u, beBytes 4 hk.hdr, rest]
    [4, 2, 2, 8, 8, 4, rest.length] (by simp) j off n x
  have f0 : sl ((newHdr hk c u).enc ++ rest) 0 4 = beBytes 4 xarMagic := by rw [e]; exact P 0 0 4 _ rfl rfl rfl
  have f1 : sl ((newHdr hk c u).enc ++ rest) 4 2 = beBytes 2 28 := by rw [e]; exact P 1 4 2 _ rfl rfl rfl
  have f2 : sl ((newHdr hk c u).enc ++ rest) 6 2 = beBytes 2 1 := by rw [e]; exact P 2 6 2 _ rfl rfl rfl
  have f3 : sl ((newHdr hk c u).enc ++ rest) 8 8 = beBytes 8 c := by rw [e]; exact P 3 8 8 _ rfl rfl rfl
  have f4 : sl ((newHdr hk c u).enc ++ rest) 16 8 = beBytes 8 u := by rw [e]; exact P 4 16 8 _ rfl rfl rfl
  have f5 : sl ((newHdr hk c u).enc ++ rest) 24 4 = beBytes 4 hk.hdr := by rw [e]; exact P 5 24 4 _ rfl rfl rfl
  have m : beVal (beBytes 4 xarMagic) = xarMagic := beVal_beBytes_of_lt 4 _ (by decide)
  have v1 : beVal (beBytes 2 28) = 28 := beVal_beBytes_of_lt 2 _ (by decide)
  have v2 : beVal (beBytes 2 1) = 1 := beVal_beBytes_of_lt 2 _ (by decide)
  have v3 : beVal (beBytes 8 c) = c := beVal_beBytes_of_lt 8 _ (by omega)
  have v4 : beVal (beBytes 8 u) = u := beVal_beBytes_of_lt 8 _ (by omega)
  have v5 : beVal (beBytes 4 hk.hdr) = hk.hdr := beVal_beBytes_of_lt 4 _ hk.hdr_lt
  simp only [parseHeader, readHdr, hlen, ↓reduceIte, f0, f1, f2, f3, f4, f5, m, v1, v2, v3, v4, v5, i64_nat c hc, i64_nat u hu,
    hkOfHdr_hdr, ne_eq, not_true_eq_false]
  rfl

theorem Hdr.enc_length (h : Hdr) : h.enc.length = 28 := by simp [Hdr.enc]

theorem readAt_cat (pre a post : Bytes) (off : Int) (n : Nat) (h1 : off = pre.length) (h2 : n = a.length) :
    readAt (pre ++ (a ++ post)) off n = some a := by
  subst h1 h2
  unfold readAt
  have h0 : ¬ ((pre.length : Int) < 0) := by omega
  simp only [h0, ↓reduceIte]
  split
  · rename_i hz
    have : a = [] := List.length_eq_zero_iff.mp hz
    simp [this]
  · simp [sl]

/-- a piece of a concatenation read through `allocRead` at heap offset `o` behind the base -/
theorem allocRead_cat (fx : Bool) (site cls : String) (pre a post : Bytes) (base o n : Int) (hb : base + o = pre.length)
    (h2 : n = a.length) (hp : pre.length < 2 ^ 62) (h3 : a.length ≤ 2 ^ 48) :
    allocRead fx site cls (pre ++ (a ++ post)) n (w64 (base + o)) = .ok a := by
  have h1 : w64 (base + o) = pre.length := by rw [w64_id (by unfold inI64; omega)]; exact hb
  unfold allocRead
  have hn : ¬ (n < 0 ∨ n > maxAlloc) := by unfold maxAlloc; omega
  have hn' : ¬ (n < 0 ∨ n > ((pre ++ (a ++ post)).length : Int)) := by simp only [List.length_append]; omega
  have hr : readAt (pre ++ (a ++ post)) (w64 (base + o)) n.toNat = some a := readAt_cat pre a post _ n.toNat h1 (by omega)
  cases fx
  · simp [hn, hr]
  · simp only [↓reduceIte, hn', hr]

theorem lastOffset_le (B : Int) (hB : 0 ≤ B) : ∀ fs : List XFile, (∀ b ∈ flatXs fs, w64 (b.offset + b.length) ≤ B) → lastOffset fs ≤ B
  | [], _ => by simpa [lastOffset] using hB
  | .mk a ks :: rest, h => by
    simp only [lastOffset]
    have h1 : w64 (a.offset + a.length) ≤ B := h a (by simp [flatXs, flatX])
    have h2 := lastOffset_le B hB ks fun b hb => h b (by simp [flatXs, flatX, hb])
    have h3 := lastOffset_le B hB rest fun b hb => h b (by simp [flatXs, flatX, hb])
    omega

theorem lastOffset_range : ∀ fs : List XFile, 0 ≤ lastOffset fs ∧ lastOffset fs < 2 ^ 63
  | [] => by simp [lastOffset]
  | .mk a ks :: rest => by
    simp only [lastOffset]
    have h1 := lastOffset_range ks
    have h2 := lastOffset_range rest
    have h3 := w64_inI64 (a.offset + a.length)
    unfold inI64 at h3
    omega

/-- the ticket step cannot fail on a file of sane size, wherever the last member is said to end (a wrapped-around position
    never yields a trailer length between 1 and 999999) -/
theorem readTicket_ok (f : Bytes) (fs : List XFile) (base : Int) (h0 : 0 ≤ base) (h1 : base < 2 ^ 62)
    (h2 : f.length < 2 ^ 62) : ∃ tk, readTicket f fs base = .ok tk := by
  unfold readTicket
  obtain ⟨hl, hu⟩ := lastOffset_range fs
  by_cases hc : lastOffset fs + base < 2 ^ 63
  · have e1 : w64 (lastOffset fs + base) = lastOffset fs + base := w64_id (by unfold inI64; omega)
    have e2 : w64 ((f.length : Int) - (lastOffset fs + base)) = (f.length : Int) - (lastOffset fs + base) :=
      w64_id (by unfold inI64; omega)
    simp only [e1, e2]
    split
    · rename_i hc
      have hr : readAt f (lastOffset fs + base) ((f.length : Int) - (lastOffset fs + base)).toNat =
          some (sl f (lastOffset fs + base).toNat ((f.length : Int) - (lastOffset fs + base)).toNat) := by
        unfold readAt
        have a1 : ¬ (lastOffset fs + base < 0) := by omega
        have a2 : ¬ (((f.length : Int) - (lastOffset fs + base)).toNat = 0) := by omega
        have a3 : (lastOffset fs + base).toNat + ((f.length : Int) - (lastOffset fs + base)).toNat ≤ f.length := by omega
        simp [a1, a2, a3]
      exact ⟨_, by rw [hr]⟩
    · exact ⟨none, rfl⟩
  · have e1 : w64 (lastOffset fs + base) = lastOffset fs + base - 2 ^ 64 := by unfold w64; omega
    have e2 : ¬ (w64 ((f.length : Int) - (lastOffset fs + base - 2 ^ 64)) > 0 ∧
        w64 ((f.length : Int) - (lastOffset fs + base - 2 ^ 64)) < 1000000) := by unfold w64; omega
    simp only [e1, e2, ↓reduceIte]
    exact ⟨none, rfl⟩

theorem readAt_length (f : Bytes) (off : Int) (n : Nat) (b : Bytes) (h : readAt f off n = some b) : b.length = n := by
  revert h
  fun_cases readAt f off n
  case case2 h0 => intro h; cases h; exact h0.symm
  case case3 => intro h; cases h; simp [sl]; omega
  all_goals nofun

theorem allocRead_ok (site cls : String) (f : Bytes) (n off : Int) (b : Bytes) (h : allocRead true site cls f n off = .ok b) :
    0 ≤ n ∧ n ≤ f.length ∧ b.length = n.toNat := by
  revert h
  fun_cases allocRead true site cls f n off
  case case2 hn b' hr => intro h; cases h; exact ⟨by omega, by omega, readAt_length _ _ _ _ hr⟩
  case case5 hfx _ _ _ => exact absurd rfl hfx
  all_goals nofun

/-- the one panic site of `Open`: `make` on a size from the XML, in the tree before the size test; nothing diverges -/
theorem allocRead_crash_iff (fx : Bool) (site cls : String) (f : Bytes) (n off : Int) (c : Crash) :
    allocRead fx site cls f n off = Res.crash c ↔ fx = false ∧ c = .panic site ∧ (n < 0 ∨ n > maxAlloc) := by
  unfold allocRead
  cases fx <;> simp only [Bool.false_eq_true, ↓reduceIte, Res.ite_eq_crash]
  · cases readAt f off n.toNat <;> simp [and_comm]
  · cases readAt f off n.toNat <;> simp

theorem readSig_crash_iff (fx : Bool) (E : Env) (f : Bytes) (base : Int) (sg : Option XSig) (c : Crash) :
    readSig fx E f base sg = Res.crash c ↔ fx = false ∧ c = .panic "xar.Open:makeslice" ∧
      ∃ x, sg = some x ∧ (x.size < 0 ∨ x.size > maxAlloc) := by
  cases sg with
  | none => simp [readSig]
  | some x => simp [readSig, Res.bind_eq_crash, allocRead_crash_iff, Res.ite_eq_crash]

theorem readXSig_crash_iff (fx : Bool) (f : Bytes) (base : Int) (sg : Option XSig) (c : Crash) :
    readXSig fx f base sg = Res.crash c ↔ fx = false ∧ c = .panic "xar.Open:makeslice" ∧
      ∃ x, sg = some x ∧ (x.size < 0 ∨ x.size > maxAlloc) := by
  cases sg with
  | none => simp [readXSig]
  | some x => simp [readXSig, Res.bind_eq_crash, allocRead_crash_iff]

theorem readTicket_ne_crash (f : Bytes) (fs : List XFile) (base : Int) (c : Crash) : readTicket f fs base ≠ Res.crash c := by
  unfold readTicket
  simp only [ne_eq, Res.ite_eq_crash]
  split <;> simp

theorem openRest_crash_iff (fx : Bool) (E : Env) (f : Bytes) (k : HK) (stored : Bytes) (toc : XToc) (base : Int) (n : Nat)
    (c : Crash) :
    openRest fx E f k stored toc base n = Res.crash c ↔ fx = false ∧ c = .panic "xar.Open:makeslice" ∧
      ((∃ x, toc.sig = some x ∧ (x.size < 0 ∨ x.size > maxAlloc)) ∨
        ((∃ sg, readSig fx E f base toc.sig = .ok sg) ∧ ∃ x, toc.xsig = some x ∧ (x.size < 0 ∨ x.size > maxAlloc))) := by
  unfold openRest
  simp only [Res.bind_eq_crash, readSig_crash_iff, readXSig_crash_iff, readTicket_ne_crash, Res.ok_eq_crash, and_false,
    exists_false, or_false]
  constructor
  · rintro (⟨h1, h2, h3⟩ | ⟨sg, hsg, h1, h2, h3⟩)
    · exact ⟨h1, h2, Or.inl h3⟩
    · exact ⟨h1, h2, Or.inr ⟨⟨sg, hsg⟩, h3⟩⟩
  · rintro ⟨h1, h2, h3 | ⟨⟨sg, hsg⟩, h3⟩⟩
    · exact Or.inl ⟨h1, h2, h3⟩
    · exact Or.inr ⟨sg, hsg, h1, h2, h3⟩

theorem openRest_ok_iff (fx : Bool) (E : Env) (f : Bytes) (k : HK) (stored : Bytes) (toc : XToc) (base : Int) (n : Nat)
    (o : Opened) :
    openRest fx E f k stored toc base n = .ok o ↔ ∃ sg x tk, readSig fx E f base toc.sig = .ok sg ∧
      readXSig fx f base toc.xsig = .ok x ∧ readTicket f toc.files base = .ok tk ∧
      o = ⟨k, stored, toc, base, sg.1, sg.2, x, tk, n + k.size + optLen sg.1 + optLen x + optLen tk⟩ := by
  simp only [openRest, Res.bind_eq_ok, Res.ok.injEq, eq_comm (a := o)]
  constructor
  · rintro ⟨sg, h1, x, h2, tk, h3, rfl⟩; exact ⟨sg, x, tk, h1, h2, h3, rfl⟩
  · rintro ⟨sg, x, tk, h1, h2, h3, rfl⟩; exact ⟨sg, h1, x, h2, tk, h3, rfl⟩

theorem readSig_ok_len (E : Env) (f : Bytes) (base : Int) (sg : Option XSig) (r : Option Bytes × List String)
    (h : readSig true E f base sg = .ok r) : optLen r.1 ≤ f.length := by
  cases sg with
  | none => cases h; exact Nat.zero_le _
  | some x =>
    obtain ⟨b, hb, h⟩ := Res.bind_eq_ok.mp h
    have := allocRead_ok _ _ f _ _ b hb
    split at h
    · cases h
    · split at h
      · cases h; simp only [optLen, Option.map_some, Option.getD_some]; omega
      · cases h

theorem readXSig_ok_len (f : Bytes) (base : Int) (sg : Option XSig) (r : Option Bytes)
    (h : readXSig true f base sg = .ok r) : optLen r ≤ f.length := by
  cases sg with
  | none => cases h; exact Nat.zero_le _
  | some x =>
    obtain ⟨b, hb, h⟩ := Res.bind_eq_ok.mp h
    have := allocRead_ok _ _ f _ _ b hb
    cases h; simp only [optLen, Option.map_some, Option.getD_some]; omega

theorem readTicket_ok_len (f : Bytes) (fs : List XFile) (base : Int) (tk : Option Bytes) (h : readTicket f fs base = .ok tk) :
    optLen tk ≤ 1000000 := by
  revert h
  fun_cases readTicket f fs base
  case case2 lo trailer hc t hr =>
    intro h; cases h
    have := readAt_length _ _ _ _ hr
    simp only [optLen, Option.map_some, Option.getD_some]; omega
  case case3 => intro h; cases h; exact Nat.zero_le _
  all_goals nofun

theorem parseHeader_ok (f : Bytes) (h : Hdr) (k : HK) (hp : parseHeader f = .ok (h, k)) :
    readHdr f = some h ∧ h.magic = xarMagic ∧ h.version = 1 ∧ hkOfHdr h.htype = some k := by
  revert hp
  fun_cases parseHeader f
  case case5 h' hr hm hv k' hk =>
    intro e
    obtain ⟨rfl, rfl⟩ := Prod.mk.inj (Except.ok.inj e)
    exact ⟨hr, by simpa using hm, by simpa using hv, hk⟩
  all_goals nofun

/-- What `Open` has read and tested when it reaches the checksum comparison.  `Open` is a front of tests that can only fail
    with an error and no comparison, the one checksum comparison, and `openRest`; every statement about the whole of `Open` (no
    panic, no divergence, the old panic, what was allocated, where the table of contents came from) is one about `openRest`
    behind the front. -/
structure OpenFront (fx : Bool) (E : Env) (f : Bytes) (hd : Hdr) (k : HK) (root : Xml) (n : Nat) (toc : XToc)
    (stored : Bytes) : Prop where
  hdr : parseHeader f = .ok (hd, k)
  sizes : fx = true → tocSizesOk hd f.length = true ∧ (n : Int) ≤ hd.ulen
  dec : E.decode (regionSR f hd.hsize hd.clen) = some (root, n)
  um : unmarshal E.num root = some toc
  cksize : toc.ck.size = k.size
  ck : readAt f (w64 (w64 (hd.hsize + hd.clen) + toc.ck.offset)) k.size = some stored

theorem openPlanG_of_front {fx : Bool} {E : Env} {f : Bytes} {hd : Hdr} {k : HK} {root : Xml} {n : Nat} {toc : XToc}
    {stored : Bytes} (h : OpenFront fx E f hd k root n toc stored) :
    openPlanG fx E f = ⟨[.hashEq "ckmismatch" k (regionSR f hd.hsize hd.clen) stored],
      openRest fx E f k stored toc (w64 (hd.hsize + hd.clen)) n⟩ := by
  obtain ⟨h1, h2, h3, h4, h5, h6⟩ := h
  have g1 : (fx && !tocSizesOk hd f.length) = false := by cases fx <;> simp [h2]
  have g2 : (fx && decide ((n : Int) > hd.ulen)) = false := by
    cases fx
    · rfl
    · have := (h2 rfl).2; simp; omega
  simp only [openPlanG, h1, g1, h3, g2, h4, openBody, h5, h6, Bool.false_eq_true, ↓reduceIte, ne_eq, not_true_eq_false]

/-- `Open` is an error of its front, with no comparison, or the checksum comparison and `openRest` behind the front -/
theorem openPlanG_cases (fx : Bool) (E : Env) (f : Bytes) :
    (∃ e, openPlanG fx E f = .fail e) ∨ ∃ hd k root n toc stored, OpenFront fx E f hd k root n toc stored ∧
      openPlanG fx E f = ⟨[.hashEq "ckmismatch" k (regionSR f hd.hsize hd.clen) stored],
        openRest fx E f k stored toc (w64 (hd.hsize + hd.clen)) n⟩ := by
  suffices h : (∃ e, openPlanG fx E f = .fail e) ∨ ∃ hd k root n toc stored, OpenFront fx E f hd k root n toc stored from
    h.imp_right fun ⟨hd, k, root, n, toc, stored, hF⟩ => ⟨hd, k, root, n, toc, stored, hF, openPlanG_of_front hF⟩
  fun_cases openPlanG fx E f
  case case6 hd k hp hs root n hz hn toc hu =>
    unfold openBody
    split
    · exact Or.inl ⟨_, rfl⟩
    · rename_i hsz
      split
      · exact Or.inl ⟨_, rfl⟩
      · rename_i stored hr
        refine Or.inr ⟨hd, k, root, n, toc, stored, hp, ?_, hz, hu, by simpa using hsz, hr⟩
        rintro rfl
        simp at hs hn
        exact ⟨hs, by omega⟩
  all_goals exact Or.inl ⟨_, rfl⟩

theorem openPlanG_crash_iff (fx : Bool) (E : Env) (f : Bytes) (c : Crash) :
    (openPlanG fx E f).final = Res.crash c ↔ ∃ hd k root n toc stored, OpenFront fx E f hd k root n toc stored ∧
      openRest fx E f k stored toc (w64 (hd.hsize + hd.clen)) n = Res.crash c := by
  constructor
  · intro h
    rcases openPlanG_cases fx E f with ⟨e, he⟩ | ⟨hd, k, root, n, toc, stored, hF, he⟩
    · rw [he] at h; simp [Plan.fail] at h
    · rw [he] at h
      exact ⟨hd, k, root, n, toc, stored, hF, h⟩
  · rintro ⟨hd, k, root, n, toc, stored, hF, h⟩
    rw [openPlanG_of_front hF]; exact h

/-- header, compressed TOC, checksum, classic signature (empty for a non-RSA key), CMS area, then whatever follows -/
def layout (C : Crypto) (hk : HK) (z : Bytes) (u : Nat) (rsa cmsArea tail : Bytes) : Bytes :=
  (newHdr hk z.length u).enc ++ (z ++ (C.H hk z ++ (rsa ++ (cmsArea ++ tail))))

theorem layout_length (C : Crypto) (hH : ∀ k b, (C.H k b).length = k.size) (hk : HK) (z : Bytes) (u : Nat) (rsa cmsArea tail : Bytes) :
    (layout C hk z u rsa cmsArea tail).length = 28 + z.length + hk.size + rsa.length + cmsArea.length + tail.length := by
  simp [layout, Hdr.enc_length, hH]; omega

theorem regionSR_layout (C : Crypto) (hk : HK) (z : Bytes) (u : Nat) (rsa cmsArea tail : Bytes) :
    regionSR (layout C hk z u rsa cmsArea tail) 28 (z.length : Int) = z := by
  have hnn : ¬ ((z.length : Int) < 0) := by omega
  unfold regionSR region
  simp only [hnn, ↓reduceIte]
  split
  · rename_i h0
    have : z = [] := List.length_eq_zero_iff.mp (by omega)
    simp [this]
  · simp only [Int.toNat_natCast]
    exact sl_cat _ z _ 28 z.length (by simp [Hdr.enc_length]) rfl

theorem parseHeader_layout (C : Crypto) (hk : HK) (z : Bytes) (u : Nat) (rsa cmsArea tail : Bytes) (hz : z.length < 2 ^ 63)
    (hu : u < 2 ^ 63) : parseHeader (layout C hk z u rsa cmsArea tail) = .ok (newHdr hk z.length u, hk) :=
  parseHeader_newHdr hk z.length u hz hu _

theorem region_layout (C : Crypto) (hk : HK) (z : Bytes) (u : Nat) (rsa cmsArea tail : Bytes) :
    region (layout C hk z u rsa cmsArea tail) 28 (z.length : Int) = z := by
  have := regionSR_layout C hk z u rsa cmsArea tail
  unfold regionSR at this
  rwa [if_neg (by omega)] at this

theorem tocRegion_layout (C : Crypto) (hk : HK) (z : Bytes) (u : Nat) (rsa cmsArea tail : Bytes) (hz : z.length < 2 ^ 63)
    (hu : u < 2 ^ 63) : tocRegion (layout C hk z u rsa cmsArea tail) = z := by
  unfold tocRegion
  rw [(parseHeader_ok _ _ _ (parseHeader_layout C hk z u rsa cmsArea tail hz hu)).1]
  exact regionSR_layout C hk z u rsa cmsArea tail

theorem layout_ck (C : Crypto) (hH : ∀ k b, (C.H k b).length = k.size) (hk : HK) (z : Bytes) (u : Nat) (rsa cmsArea tail : Bytes)
    (hzl : z.length < 2 ^ 40) :
    readAt (layout C hk z u rsa cmsArea tail) (w64 (28 + (z.length : Int) + 0)) hk.size = some (C.H hk z) := by
  have e : w64 (28 + (z.length : Int) + 0) = ((28 + z.length : Nat) : Int) := by
    rw [w64_id (by unfold inI64; omega)]; omega
  rw [e, show layout C hk z u rsa cmsArea tail = ((newHdr hk z.length u).enc ++ z) ++ (C.H hk z ++ (rsa ++ (cmsArea ++ tail))) by
    simp [layout, List.append_assoc]]
  exact readAt_cat _ _ _ _ _ (by simp [Hdr.enc_length]) (by simp [hH])

theorem layout_readSig (fx : Bool) (C : Crypto) (E : Env) (hH : ∀ k b, (C.H k b).length = k.size) (hk : HK) (z : Bytes) (u : Nat)
    (rsa cmsArea tail : Bytes) (certs : List String) (hzl : z.length < 2 ^ 40) (hrl : rsa.length < 2 ^ 32)
    (hc1 : certs ≠ []) (hc2 : ∀ c ∈ certs, E.certOk c = true) :
    readSig fx E (layout C hk z u rsa cmsArea tail) (28 + (z.length : Int)) (some ⟨"RSA", hk.size, rsa.length, certs⟩) =
      .ok (some rsa, certs) := by
  have hs := hk.size_le
  have h1 : certs.isEmpty = false := by
    cases h : certs with
    | nil => exact absurd h hc1
    | cons _ _ => rfl
  simp only [readSig]
  rw [show layout C hk z u rsa cmsArea tail = ((newHdr hk z.length u).enc ++ z ++ C.H hk z) ++ (rsa ++ (cmsArea ++ tail)) by
      simp [layout, List.append_assoc],
    allocRead_cat fx _ _ _ rsa _ _ _ _ (by simp [Hdr.enc_length, hH]; omega) rfl (by simp [Hdr.enc_length, hH]; omega) (by omega)]
  simp [Res.bind, h1, List.all_eq_true.mpr hc2]

theorem layout_readXSig (fx : Bool) (C : Crypto) (hH : ∀ k b, (C.H k b).length = k.size) (hk : HK) (z : Bytes) (u : Nat)
    (rsa cmsArea tail : Bytes) (certs : List String) (o sz : Int) (ho : o = hk.size + rsa.length) (hsz : sz = cmsArea.length)
    (hzl : z.length < 2 ^ 40) (hrl : rsa.length < 2 ^ 32) (hcl : cmsArea.length ≤ 2 ^ 48) :
    readXSig fx (layout C hk z u rsa cmsArea tail) (28 + (z.length : Int)) (some ⟨"CMS", o, sz, certs⟩) = .ok (some cmsArea) := by
  have hs := hk.size_le
  simp only [readXSig]
  rw [show layout C hk z u rsa cmsArea tail = ((newHdr hk z.length u).enc ++ z ++ C.H hk z ++ rsa) ++ (cmsArea ++ tail) by
      simp [layout, List.append_assoc],
    allocRead_cat fx _ _ _ cmsArea tail _ _ _ (by simp [Hdr.enc_length, hH]; omega) hsz (by simp [Hdr.enc_length, hH]; omega) hcl]
  rfl

theorem tocOfKey_fields (hk : HK) (ki : KeyInfo) :
    (tocOfKey hk ki).ck = ⟨hk.name, 0, hk.size, []⟩ ∧
    (tocOfKey hk ki).sig = ki.rsaSize.map (fun (n : Nat) => (⟨"RSA", hk.size, (n : Int), ki.certTexts⟩ : XSig)) ∧
    (tocOfKey hk ki).xsig = some ⟨"CMS", hk.size + (ki.rsaSize.getD 0 : Nat), 6144 + ki.derTotal, ki.certTexts⟩ := by
  unfold tocOfKey; cases ki.rsaSize <;> simp

/-- `Open` on what `Sign` + `Apply` wrote (`z` inflates to `tree` of `n ≤ u` bytes, which `encoding/xml` reads as the key's three
    signature elements and the files `fs`): it gets through its front and `openRest` returns every blob from its place.  Where
    the bounds come from: `u ≤ 10^8` is `maxTOCSize`, the size test of the current `Open`; `|z| < 2^40` only keeps `28 + |z| +`
    (the sizes of a `small` key) an int64 without wrap-around (any bound far below 2^62 would do); `|file| < 2^62` is what
    `readTicket_ok` needs: below it a wrapped-around end of the last member is never taken for a notary ticket.
    (`verify_written` asks `|f| < 2^60` of the input so that the written file stays below 2^62.) -/
theorem open_layout (fx : Bool) (C : Crypto) (E : Env) (hH : ∀ k b, (C.H k b).length = k.size) (hk : HK) (ki : KeyInfo) (hki : ki.small)
    (z : Bytes) (u : Nat) (rsa cmsArea tail : Bytes) (tree : Xml) (n : Nat) (fs : List XFile)
    (hz : E.decode z = some (tree, n)) (hu : unmarshal E.num tree = some { tocOfKey hk ki with files := fs })
    (hzl : z.length < 2 ^ 40) (hul : u ≤ 100000000) (hnu : n ≤ u)
    (hrsa : rsa.length = ki.rsaSize.getD 0) (hcms : (cmsArea.length : Int) = 6144 + ki.derTotal)
    (hc1 : ki.certTexts ≠ []) (hc2 : ∀ c ∈ ki.certTexts, E.certOk c = true)
    (hlen : (layout C hk z u rsa cmsArea tail).length < 2 ^ 62) :
    ∃ tk, openPlanG fx E (layout C hk z u rsa cmsArea tail) =
      ⟨[.hashEq "ckmismatch" hk z (C.H hk z)],
       .ok ⟨hk, C.H hk z, { tocOfKey hk ki with files := fs }, 28 + z.length, ki.rsaSize.map (fun _ => rsa),
            (if ki.rsaSize.isSome then ki.certTexts else []), some cmsArea, tk,
            n + hk.size + optLen (ki.rsaSize.map (fun _ => rsa)) + optLen (some cmsArea) + optLen tk⟩⟩ := by
  obtain ⟨hd, hr⟩ := hki
  obtain ⟨tck, tsig, txsig⟩ := tocOfKey_fields hk ki
  have hrl32 : rsa.length < 2 ^ 32 := by
    rw [hrsa]
    cases hrs : ki.rsaSize with
    | none => exact Nat.two_pow_pos 32
    | some m => exact hr m hrs
  have hbase : w64 (((28 : Nat) : Int) + (z.length : Int)) = 28 + (z.length : Int) := w64_id (by unfold inI64; omega)
  have hsig : readSig fx E (layout C hk z u rsa cmsArea tail) (28 + (z.length : Int)) (tocOfKey hk ki).sig =
      .ok (ki.rsaSize.map (fun _ => rsa), if ki.rsaSize.isSome then ki.certTexts else []) := by
    rw [tsig]
    cases hrs : ki.rsaSize with
    | none => rfl
    | some m =>
      have hrl : rsa.length = m := by simp [hrsa, hrs]
      subst hrl
      exact layout_readSig fx C E hH hk z u rsa cmsArea tail ki.certTexts hzl hrl32 hc1 hc2
  have hx : readXSig fx (layout C hk z u rsa cmsArea tail) (28 + (z.length : Int)) (tocOfKey hk ki).xsig = .ok (some cmsArea) := by
    rw [txsig]
    exact layout_readXSig fx C hH hk z u rsa cmsArea tail ki.certTexts _ _ (by rw [hrsa]) hcms.symm hzl hrl32 (by omega)
  obtain ⟨tk, htk⟩ := readTicket_ok (layout C hk z u rsa cmsArea tail) fs (28 + (z.length : Int)) (by omega) (by omega) hlen
  have hreg := regionSR_layout C hk z u rsa cmsArea tail
  have hF : OpenFront fx E (layout C hk z u rsa cmsArea tail) (newHdr hk z.length u) hk tree n
      { tocOfKey hk ki with files := fs } (C.H hk z) :=
    ⟨parseHeader_newHdr hk z.length u (by omega) (by omega) _,
     fun _ => ⟨by
       have hl := layout_length C hH hk z u rsa cmsArea tail
       simp only [tocSizesOk, newHdr, maxTOCSize, decide_eq_true_eq, hl]; omega, by simp only [newHdr]; omega⟩,
     by
       show E.decode (regionSR _ 28 (z.length : Int)) = _
       rw [hreg]; exact hz,
     hu, by rw [tck], by
       show readAt _ (w64 (w64 (((28 : Nat) : Int) + (z.length : Int)) + (tocOfKey hk ki).ck.offset)) hk.size = _
       rw [hbase, tck]; exact layout_ck C hH hk z u rsa cmsArea tail hzl⟩
  refine ⟨tk, ?_⟩
  rw [openPlanG_of_front hF]
  show (⟨[.hashEq "ckmismatch" hk (regionSR _ 28 (z.length : Int)) (C.H hk z)],
    openRest fx E _ hk (C.H hk z) { tocOfKey hk ki with files := fs } (w64 (((28 : Nat) : Int) + (z.length : Int))) n⟩ :
      Plan Opened) = _
  rw [hreg, hbase, (openRest_ok_iff fx E _ hk (C.H hk z) { tocOfKey hk ki with files := fs } _ n _).mpr
    ⟨_, _, tk, hsig, hx, htk, rfl⟩]

end Relic.Xar
