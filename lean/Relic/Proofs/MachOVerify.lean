/- the composition step of C01 for thin Mach-O images: `machos.Verify` on a file whose signature region holds the embedded
   signature `csblob.Sign` assembled (followed by the zero padding of the reserved region) and whose first `codeLimit`
   bytes are the image that was hashed.
   This is the verifier of `Model/MachO` (`verifyFile`: `specialChecks`, `bestDir`, `Check` lists).  The decision logic of
   `csblob.Verify` is modelled a second time, independently, as plans in `Model/CsVerify` (Proofs/CsVerify, C02, C11); no
   theorem relates the two models. -/
import Relic.Proofs.SignedBlob
import Relic.Proofs.CodeDirVerify
import Relic.Proofs.MachOField
namespace Relic.MachO
open Relic.CodeDir

theorem specialChecks_own (H : Bytes → Bytes) (sp : SignParams) (stream blob : Bytes) (sig : OldSig) (items : List RawItem)
    (d : Dir) (O : OwnSig H sp stream blob sig items d) (hrep : sp.repSpecific = none) :
    ∀ c ∈ specialChecks d (itemData blob items 7) (itemData blob items 5) (itemData blob items 2), H c.stream = c.expected := by
  intro c hc
  unfold specialChecks at hc
  simp only [List.mem_append] at hc
  rcases hc with ((hc | hc) | hc) | hc
  · obtain ⟨x, hd, hz, rfl⟩ := mem_slotCheck _ _ _ hc
    exact (O.slot7 x hd hz).symm
  · obtain ⟨x, hd, hz, rfl⟩ := mem_slotCheck _ _ _ hc
    exact (O.slot5 x hd hz).symm
  · obtain ⟨x, hd, hz, rfl⟩ := mem_slotCheck _ _ _ hc
    exact (O.slot2 x hd hz).symm
  · obtain ⟨x, hd, hz, rfl⟩ := mem_slotCheck _ _ _ hc
    obtain ⟨r, hr, _⟩ := O.slot6 x hd hz
    rw [hrep] at hr
    cases hr

theorem locate_bounds (g : Bytes) (off len : Nat) (hloc : locate g = .ok (off, len)) :
    off < 2 ^ 32 ∧ len ≤ 10000000 ∧ off + len ≤ g.length := by
  revert hloc
  fun_cases locate g <;> intro hloc
  case case8 =>
    obtain ⟨rfl, rfl⟩ := Prod.mk.inj (Res.ok.inj hloc)
    exact ⟨rd32_lt _ _ _, by omega, by omega⟩
  all_goals cases hloc

theorem take_length_of_take (g s : Bytes) (k : Nat) (h : g.take k = s) : g.take s.length = s := by
  subst h
  rw [List.length_take]
  by_cases c : k ≤ g.length
  · rw [Nat.min_eq_left c]
  · rw [Nat.min_eq_right (by omega), List.take_of_length_le (Nat.le_refl _), List.take_of_length_le (by omega)]

/-- `vp.checks` are the special-slot comparisons against the items found in the blob and one comparison per 4096-byte page
    of the image -/
theorem verifyFile_own (H : Bytes → Bytes) (sp : SignParams) (stream : Bytes) (s : Signed) (cms g : Bytes) (off len : Nat)
    (hH : ∀ x, (H x).length = hashSizeOf sp.hash) (hcms : 8 < cms.length) (e : signBlob sp stream = .ok s)
    (hrep : sp.repSpecific = none) (hlim : stream.length < 2 ^ 63)
    (hloc : locate g = .ok (off, len))
    (hblen : (render H (hashSizeOf sp.hash) (superblob (hashSizeOf sp.hash) s cms)).length ≤ len)
    (hslice : sliceOf g off len = render H (hashSizeOf sp.hash) (superblob (hashSizeOf sp.hash) s cms) ++
      zeros (len - (render H (hashSizeOf sp.hash) (superblob (hashSizeOf sp.hash) s cms)).length))
    (hpre : g.take stream.length = stream) :
    ∃ vp, verifyFile g = .ok vp ∧ vp.sigOff = off ∧ vp.sigLen = len ∧ vp.final = .ok () ∧ ∀ c ∈ vp.checks, H c.stream = c.expected := by
  have hlen7 : len ≤ 10000000 := (locate_bounds g off len hloc).2.1
  generalize hb0 : render H (hashSizeOf sp.hash) (superblob (hashSizeOf sp.hash) s cms) = blob0 at *
  have h32 : (blob0 ++ zeros (len - blob0.length)).length < 2 ^ 32 := by
    simp only [List.length_append, zeros, List.length_replicate]; omega
  obtain ⟨sig, items, d, hps, O⟩ := by
    have := parseSignature_own_tail H sp stream s cms (zeros (len - blob0.length)) hH hcms e (by rw [hb0]; exact h32)
    rw [hb0] at this
    exact this
  have hnone : sp.repSpecific.isSome = false := by rw [hrep]; rfl
  have hcode : d.code = (pages 4096 stream).map H := by
    rw [O.code, hnone]
    simp [hashPages, Seg.render, List.map_map, Function.comp_def]
  have hps12 : d.hdr.pageShift = 12 := by rw [O.pageShift, hnone]; rfl
  have hcs : codeSize d.hdr = (stream.length : Int) := O.limit hlim
  have hvp : verifyPages d g = ⟨zipChecks (pages 4096 stream) ((pages 4096 stream).map H), .ok ()⟩ := by
    unfold verifyPages
    have h0 : ¬ ((12 : Nat) = 0) := by decide
    have h24 : ¬ ((12 : Nat) > 24) := by decide
    simp only [hps12, h0, h24, ↓reduceIte, hcs, Int.toNat_natCast, hpre, hcode]
    have h4096 : (2 : Nat) ^ 12 = 4096 := by decide
    rw [h4096]
    have := verifyLoop_pages 4096 (by decide) ((pages 4096 stream).map H) stream (by simp)
    rw [this]
  have hbest : bestDir sig.dirs = some d := by rw [O.dirs]; rfl
  have hsp := specialChecks_own H sp stream _ sig items d O hrep
  refine ⟨⟨off, len, be32 (blob0 ++ zeros (len - blob0.length)) 4, items,
    specialChecks d (itemData (blob0 ++ zeros (len - blob0.length)) items 7) (itemData (blob0 ++ zeros (len - blob0.length)) items 5)
      (itemData (blob0 ++ zeros (len - blob0.length)) items 2) ++ zipChecks (pages 4096 stream) ((pages 4096 stream).map H), .ok ()⟩,
    ?_, rfl, rfl, rfl, ?_⟩
  · unfold verifyFile
    simp only [hloc, hslice, hps, hbest, O.cms, ne_eq, not_true_eq_false, ↓reduceIte, hvp]
    rw [O.dirs]
    simp
  · intro c hc
    simp only [List.mem_append] at hc
    rcases hc with hc | hc
    · exact hsp c hc
    · exact zipChecks_map H _ c hc

end Relic.MachO
