/-
  One successful `Sign` laid out for the end-to-end proofs: the output as payload prefix,
  consecutive `NewFile` records, central directory and forced ZIP64 end records; what `Read` returns on it.  `SignOk` /
  `sign_setup` produce the `Layout`; then every stage of `verify` on it (`Layout.*`, `verifyMeta_own`), ending in
  `sign_then_verify`.
-/
import Relic.Proofs.AppxVerify
namespace Relic.Appx
open Relic.Zip Relic.ZipOwn

/-- all the parts `Sign` writes, as `NewFile` requests, in the order they are written -/
def allMembers (hasPE : Bool) (ps : Parts) : List NewMember := partMembers hasPE ps ++ [sigMember ps]

-- the parts before the signature, one by one (`partMembers` lists them)
def manifestMember (ps : Parts) : NewMember :=
  ⟨sManifest, [], ps.manifest.plain, ps.manifest.plain.length, ps.manifest.crc, false, true⟩
def blockMapMember (ps : Parts) : NewMember := ⟨sBlockMap, [], ps.blockmap.compd, ps.blockmap.plain.length, ps.blockmap.crc, true, true⟩
def ctypesMember (ps : Parts) : NewMember := ⟨sCTypes, [], ps.ctypes.compd, ps.ctypes.plain.length, ps.ctypes.crc, true, false⟩
def catalogMember (ps : Parts) : NewMember := ⟨sCatalog, [], ps.catalog.compd, ps.catalog.plain.length, ps.catalog.crc, true, false⟩

theorem forall_partMembers {b : Bool} {ps : Parts} {P : NewMember → Prop} (h1 : P (manifestMember ps)) (h2 : P (blockMapMember ps))
    (h3 : P (ctypesMember ps)) (h4 : b = true → P (catalogMember ps)) : ∀ n ∈ partMembers b ps, P n := by
  intro n hn
  cases b <;> simp only [partMembers, List.append_nil, List.cons_append, List.nil_append, List.mem_cons, List.not_mem_nil,
    or_false, if_true, if_false, Bool.false_eq_true] at hn
  · rcases hn with rfl | rfl | rfl
    · exact h1
    · exact h2
    · exact h3
  · rcases hn with rfl | rfl | rfl | rfl
    · exact h1
    · exact h2
    · exact h3
    · exact h4 rfl

theorem forall_allMembers {b : Bool} {ps : Parts} {P : NewMember → Prop} (h1 : P (manifestMember ps)) (h2 : P (blockMapMember ps))
    (h3 : P (ctypesMember ps)) (h4 : b = true → P (catalogMember ps)) (h5 : P (sigMember ps)) : ∀ n ∈ allMembers b ps, P n := by
  intro n hn
  rcases List.mem_append.1 hn with hn | hn
  · exact forall_partMembers h1 h2 h3 h4 n hn
  · rw [List.mem_singleton.1 hn]
    exact h5

/-- the sizes of the parts written before the signature fit the 8-byte size fields of the descriptor and of the ZIP64 extra
    field -/
def PartsSmall (hasPE : Bool) (ps : Parts) : Prop :=
  ∀ n ∈ partMembers hasPE ps, n.compd.length < 2 ^ 64 ∧ n.usize < 2 ^ 64

/-- entries and bytes of all the parts, from the patch offset on -/
def Eall (g : Digested) (ps : Parts) : List File × Bytes := newEntries ps.mt ps.md (allMembers g.p.hasPE ps) g.patchStart

/-- the same for the parts before the signature -/
def Eparts (g : Digested) (ps : Parts) : List File × Bytes := newEntries ps.mt ps.md (partMembers g.p.hasPE ps) g.patchStart

theorem allMembers_spec (b : Bool) (ps : Parts) : ∀ n ∈ allMembers b ps, n.extra = [] ∧ n.name.length < 2 ^ 16 ∧
    (n.name = sManifest ∨ n.name = sBlockMap ∨ n.name = sCTypes ∨ n.name = sCatalog ∨ n.name = sSignature) :=
  forall_allMembers ⟨rfl, (by decide : sManifest.length < 2 ^ 16), .inl rfl⟩
    ⟨rfl, (by decide : sBlockMap.length < 2 ^ 16), .inr (.inl rfl)⟩
    ⟨rfl, (by decide : sCTypes.length < 2 ^ 16), .inr (.inr (.inl rfl))⟩
    (fun _ => ⟨rfl, (by decide : sCatalog.length < 2 ^ 16), .inr (.inr (.inr (.inl rfl)))⟩)
    ⟨rfl, (by decide : sSignature.length < 2 ^ 16), .inr (.inr (.inr (.inr rfl)))⟩

theorem allMembers_pairwise (b : Bool) (ps : Parts) : (allMembers b ps).Pairwise (fun a b => a.name ≠ b.name) := by
  cases b <;> simp only [allMembers, partMembers, sigMember, List.append_nil, List.cons_append, List.nil_append,
    if_true, if_false, Bool.false_eq_true, List.pairwise_cons, List.mem_cons, List.not_mem_nil, or_false, forall_eq_or_imp,
    forall_eq, List.Pairwise.nil, and_true, false_imp_iff, implies_true] <;> decide

/-- What `zipslicer.Read` returns on the signed package: the payload entries of the input, then the
    re-read entries of the regenerated parts; the directory offset; the forced ZIP64 end records. -/
theorem read_own_output {z : Bytes} {ps : Parts} {r : Signed} {g : Digested} {pay : List File}
    (hP : g.patchStart ≤ z.length) (hfiles : g.p.outz.files.map seen = pay) (hraw : ∀ f ∈ g.p.outz.files, RawOk f)
    (hd5f : (d5Of g ps).files = g.p.outz.files ++ (Eall g ps).1)
    (hd5l : (d5Of g ps).dirLoc = g.patchStart + (Eall g ps).2.length)
    (hout : r.out = (z.take g.patchStart ++ (Eall g ps).2) ++
        ((writeDirectory (d5Of g ps) true).1 ++ (writeDirectory (d5Of g ps) true).2.1))
    (hus : ∀ n ∈ allMembers g.p.hasPE ps, n.usize < 2 ^ 64) (h63 : r.out.length < 2 ^ 63) :
    Zip.read ⟨r.out, false, 0⟩ =
      .ok { files := pay ++ (Eall g ps).1.map seen, size := r.out.length, dirLoc := (d5Of g ps).dirLoc,
            end64 := own64 (d5Of g ps).files.length (headersOf (d5Of g ps).files).1.length (d5Of g ps).dirLoc,
            loc64 := ownLoc (headersOf (d5Of g ps).files).1.length (d5Of g ps).dirLoc, endr := ownEnd } ∧
    LocatedFrom ps.mt ps.md r.out (allMembers g.p.hasPE ps) g.patchStart ∧ r.out.take g.patchStart = z.take g.patchStart ∧
    (∀ f ∈ (d5Of g ps).files, Writable f) := by
  have hlt : (z.take g.patchStart).length = g.patchStart := by rw [List.length_take]; omega
  have hlen : r.out.length = g.patchStart + (Eall g ps).2.length +
      ((writeDirectory (d5Of g ps) true).1 ++ (writeDirectory (d5Of g ps) true).2.1).length := by
    rw [hout]; simp only [List.length_append, hlt]
  have hw : ∀ f ∈ (d5Of g ps).files, Writable f := by
    intro f hf
    rw [hd5f, List.mem_append] at hf
    rcases hf with hf | hf
    · exact Or.inl (hraw f hf)
    · right
      obtain ⟨n, hn, hfe, _, hle⟩ := newEntries_mem ps.mt ps.md _ _ f hf
      obtain ⟨he, hnl, _⟩ := allMembers_spec _ _ n hn
      have hL := newBytes_length ps.mt ps.md n
      have hle' : f.offset + (newBytes ps.mt ps.md n).length ≤ g.patchStart + (Eall g ps).2.length := hle
      rw [hfe]
      exact synth_new _ _ _ _ hnl (by rw [he]; decide) (by omega) (hus n hn) (by omega)
  refine ⟨?_, ?_, ?_, hw⟩
  · have := write_read_roundtrip_own (z.take g.patchStart ++ (Eall g ps).2) (d5Of g ps)
      (by rw [hd5l, List.length_append, hlt]) hw (by rw [← hout]; exact h63)
    rw [← hout] at this
    rw [this, hd5f, List.map_append, hfiles]
  · constructor
    · show (r.out.drop g.patchStart).take (Eall g ps).2.length = (Eall g ps).2
      rw [hout, List.append_assoc, List.drop_left' hlt, List.take_left' rfl]
    · show g.patchStart + (Eall g ps).2.length ≤ r.out.length
      omega
  · rw [hout, List.append_assoc, List.take_left' hlt]

theorem newOk_all (b : Bool) (ps : Parts) (hman : ps.manifest.plain ≠ [])
    (hbmw : descWideOk ps.blockmap.compd.length ps.blockmap.plain.length) (hsm : PartsSmall b ps)
    (hsig : ps.signature.plain.length < 2 ^ 64) (hsigc : ps.signature.compd.length < 2 ^ 64) :
    ∀ n ∈ allMembers b ps, NewOk n := by
  have hwide : ∀ n ∈ allMembers b ps, n.useDesc = true → descWideOk n.compd.length n.usize :=
    forall_allMembers (fun _ => descWideOk_stored (n := ps.manifest.plain.length) (by simpa using hman)) (fun _ => hbmw) nofun
      (fun _ => nofun) nofun
  intro n hn
  obtain ⟨he, hnl, _⟩ := allMembers_spec b ps n hn
  have hsz : n.compd.length < 2 ^ 64 ∧ n.usize < 2 ^ 64 := by
    rcases List.mem_append.1 hn with hn | hn
    · exact hsm n hn
    · rw [List.mem_singleton.1 hn]
      exact ⟨hsigc, hsig⟩
  exact ⟨hnl, by rw [he]; decide, hsz.1, hsz.2, hwide n hn⟩

theorem partsSmall_of {b : Bool} {ps : Parts} (hman : ps.manifest.plain.length < 2 ^ 64)
    (hbm : ps.blockmap.compd.length < 2 ^ 64 ∧ ps.blockmap.plain.length < 2 ^ 64)
    (hct : ps.ctypes.compd.length < 2 ^ 64 ∧ ps.ctypes.plain.length < 2 ^ 64)
    (hcat : b = true → ps.catalog.compd.length < 2 ^ 64 ∧ ps.catalog.plain.length < 2 ^ 64) : PartsSmall b ps :=
  forall_partMembers ⟨hman, hman⟩ hbm hct hcat

theorem LocatedFrom.left {mt md : Nat} {out : Bytes} {a b : List NewMember} {o : Nat} (h : LocatedFrom mt md out (a ++ b) o) :
    LocatedFrom mt md out a o := by
  obtain ⟨h1, h2⟩ := h
  obtain ⟨_, e2⟩ := newEntries_app mt md a b o
  rw [e2] at h1 h2
  simp only [List.length_append] at h1 h2
  constructor
  · have := seg_of_seg h1 0 (newEntries mt md a o).2.length (by omega)
    rw [Nat.add_zero, List.drop_zero, List.take_left' rfl] at this
    exact this
  · omega

theorem partMembers_not_sig (b : Bool) (ps : Parts) : ∀ n ∈ partMembers b ps, n.name ≠ sSignature :=
  forall_partMembers (P := fun n => n.name ≠ sSignature) (by decide : sManifest ≠ sSignature) (by decide : sBlockMap ≠ sSignature)
    (by decide : sCTypes ≠ sSignature) (fun _ => (by decide : sCatalog ≠ sSignature))

/-- the hypotheses shared by the end-to-end theorems -/
structure SignOk (c : Codec) (z : Bytes) (ps : Parts) (r : Signed) : Prop where
  sign : sign c z ps = .ok r
  /-- the manifest part is not empty (F7a) -/
  man : ps.manifest.plain ≠ []
  /-- the block map's 24-byte descriptor is recognised (F7a) -/
  bmw : descWideOk ps.blockmap.compd.length ps.blockmap.plain.length
  small : ∀ g, digest c z = .ok g → PartsSmall g.p.hasPE ps
  sigLen : ps.signature.plain.length < 2 ^ 64
  out63 : r.out.length < 2 ^ 63

/-- one successful `Sign` laid out: `g` is what `DigestAppxTar` returned, `d` the directory it read from the input, `r1` the
    reader after the payload loop; the output is the payload prefix, the records of the parts (`Eall`), the directory
    `d5Of` with forced ZIP64 end records; `Read` on the output returns the payload entries and the re-read new entries -/
structure Layout (c : Codec) (z : Bytes) (ps : Parts) (r : Signed) (g : Digested) (d : Directory) (r1 : Rd) : Prop where
  dig : digest c z = .ok g
  asm : assemble z g ps = .ok r
  pass : payloadPass c ⟨z, true, 0⟩ (payloadOf d.files) {} = .ok (g.p, r1)
  pay : ∀ f ∈ payloadOf d.files, Fresh f ∧ RawOk f ∧ seen f = f ∧ special f.name = false
  pos : g.p.pos = g.patchStart
  members : g.p.outz.files = g.p.members.map (·.file)
  files : g.p.outz.files.map seen = payloadOf d.files
  raw : ∀ f ∈ g.p.outz.files, RawOk f
  view : g.bm.map bmView = g.p.bm.map bmView
  d5f : (d5Of g ps).files = g.p.outz.files ++ (Eall g ps).1
  d4f : (d4Of g ps).files = g.p.outz.files ++ (Eparts g ps).1
  d4l : (d4Of g ps).dirLoc = g.patchStart + (Eparts g ps).2.length
  e1 : (Eall g ps).1 = (Eparts g ps).1 ++ [newEntryAt ps.mt ps.md (sigMember ps) (g.patchStart + (Eparts g ps).2.length)]
  streams : r.streams = ⟨z.take g.patchStart ++ (Eparts g ps).2,
    (writeDirectory (d4Of g ps) true).1 ++ (writeDirectory (d4Of g ps) true).2.1,
    ps.ctypes.plain, ps.blockmap.plain, if g.p.hasPE then some ps.catalog.plain else none⟩
  newOk : ∀ n ∈ allMembers g.p.hasPE ps, NewOk n
  read : Zip.read ⟨r.out, false, 0⟩ =
    .ok { files := payloadOf d.files ++ (Eall g ps).1.map seen, size := r.out.length, dirLoc := (d5Of g ps).dirLoc,
          end64 := own64 (d5Of g ps).files.length (headersOf (d5Of g ps).files).1.length (d5Of g ps).dirLoc,
          loc64 := ownLoc (headersOf (d5Of g ps).files).1.length (d5Of g ps).dirLoc, endr := ownEnd }
  loc : LocatedFrom ps.mt ps.md r.out (allMembers g.p.hasPE ps) g.patchStart
  take : r.out.take g.patchStart = z.take g.patchStart
  writable : ∀ f ∈ (d5Of g ps).files, Writable f
  out63 : r.out.length < 2 ^ 63

theorem sign_setup {c : Codec} {z : Bytes} {ps : Parts} {r : Signed} (H : SignOk c z ps r) :
    ∃ (g : Digested) (d : Directory) (r1 : Rd), Layout c z ps r g d r1 := by
  have h := H.sign
  obtain ⟨g, hg, h⟩ := sign_ok.1 h
  obtain ⟨d, r1, t, D⟩ := digest_inv hg
  obtain ⟨loc, hread⟩ := D.read
  obtain ⟨s1, s2, s3, s4, _, _⟩ := digest_spec hg
  obtain ⟨_, a2, a3, _⟩ := assemble_eq h
  have hraw := readWithDirectory_rawOk hread
  have hpay : ∀ f ∈ payloadOf d.files, Fresh f ∧ RawOk f ∧ seen f = f ∧ special f.name = false := fun f hf =>
    ⟨fresh_of_seen (hraw f (mem_payloadOf hf)).1 (hraw f (mem_payloadOf hf)).2, (hraw f (mem_payloadOf hf)).1,
      (hraw f (mem_payloadOf hf)).2, mem_payloadOf_special hf⟩
  obtain ⟨pf1, pf2⟩ := payload_files (c := c) (payloadOf d.files) ⟨z, true, 0⟩ r1 {} g.p
    (fun f hf => ⟨(hpay f hf).1, (hpay f hf).2.1, (hpay f hf).2.2.1⟩) rfl (fun f hf => by cases hf) D.pass
  have hview := tailPass_view _ _ _ _ D.pass2
  simp only [] at hview
  have hep : (newEntries ps.mt ps.md (partMembers g.p.hasPE ps) g.p.outz.dirLoc) = Eparts g ps := by rw [s2]; rfl
  have hd4f : (d4Of g ps).files = g.p.outz.files ++ (Eparts g ps).1 := by simp only [d4Of, hep]
  have hd4l : (d4Of g ps).dirLoc = g.patchStart + (Eparts g ps).2.length := by simp only [d4Of, partsBytes, s2]; rfl
  obtain ⟨e1, e2⟩ := newEntries_app ps.mt ps.md (partMembers g.p.hasPE ps) [sigMember ps] g.patchStart
  have hE1 : (Eall g ps).1 = (Eparts g ps).1 ++ [newEntryAt ps.mt ps.md (sigMember ps) (g.patchStart + (Eparts g ps).2.length)] := by
    simp only [Eall, allMembers, e1, Eparts, newEntries]
  have hE2 : (Eall g ps).2 = (Eparts g ps).2 ++ sigBytes ps := by
    simp only [Eall, allMembers, e2, Eparts, newEntries, sigBytes, List.append_nil]
  have hd5f : (d5Of g ps).files = g.p.outz.files ++ (Eall g ps).1 := by
    simp only [d5Of]
    rw [headersOf_files, hd4f, hd4l, hE1, List.append_assoc]
  have hd5l : (d5Of g ps).dirLoc = g.patchStart + (Eall g ps).2.length := by
    simp only [d5Of]
    rw [hd4l, hE2, List.length_append]; omega
  have hout : r.out = (z.take g.patchStart ++ (Eall g ps).2) ++
      ((writeDirectory (d5Of g ps) true).1 ++ (writeDirectory (d5Of g ps) true).2.1) := by
    rw [a2, hE2]
    simp only [partsBytes, hep, List.append_assoc]
  -- the signature part's record lies inside the output, which is below 2^63
  have hsigc : ps.signature.compd.length < 2 ^ 64 := by
    have h1 := congrArg List.length hout
    have h2 := congrArg List.length hE2
    have h3 := newBytes_length ps.mt ps.md (sigMember ps)
    have h63 := H.out63
    simp only [List.length_append, sigBytes] at h1 h2
    have : (sigMember ps).compd = ps.signature.compd := rfl
    rw [this] at h3
    omega
  have hok := newOk_all g.p.hasPE ps H.man H.bmw (H.small g hg) H.sigLen hsigc
  have hfiles : g.p.outz.files.map seen = payloadOf d.files := by simpa using pf2
  obtain ⟨hread, hloc, htake, hw⟩ := read_own_output s3 hfiles pf1 hd5f hd5l hout (fun n hn => (hok n hn).usize) H.out63
  exact ⟨g, d, r1,
    { dig := hg, asm := h, pass := D.pass, pay := hpay, pos := D.patch.symm, members := s4, files := hfiles, raw := pf1,
      view := D.bm ▸ hview,
      d5f := hd5f, d4f := hd4f, d4l := hd4l, e1 := hE1, streams := (by rw [a3, s1]; simp only [partsBytes, hep]),
      newOk := hok,
      read := hread, loc := hloc, take := htake, writable := hw, out63 := H.out63 }⟩

section stages
variable {c : Codec} {z : Bytes} {ps : Parts} {r : Signed} {g : Digested} {d : Directory} {r1 : Rd}

theorem Layout.le_out (L : Layout c z ps r g d r1) : g.patchStart ≤ r.out.length :=
  Nat.le_trans (Nat.le_add_right _ _) L.loc.le

theorem Layout.special_pay (L : Layout c z ps r g d r1) : ∀ f ∈ payloadOf d.files, special f.name = false :=
  fun f hf => (L.pay f hf).2.2.2

theorem Layout.payload_names (L : Layout c z ps r g d r1) (happx : ∀ m ∈ g.p.members, endsWith m.file.name sAppx = false) :
    ∀ f ∈ payloadOf d.files, Fresh f ∧ special f.name = false ∧ endsWith f.name sAppx = false := by
  intro f hf
  refine ⟨(L.pay f hf).1, L.special_pay f hf, ?_⟩
  rw [← L.files, L.members, List.map_map] at hf
  obtain ⟨m, hm, rfl⟩ := List.mem_map.mp hf
  have hr : m.file.raw ≠ [] := (L.raw m.file (by rw [L.members]; exact List.mem_map_of_mem hm)).1
  simp only [Function.comp]
  rw [seen_raw _ hr]
  exact happx m hm

/-- the payload as the verifier meets it in the output: `Truncate` copies the input's first `patchStart` bytes, and the
    block map entries computed while signing are consumed by the payload members -/
theorem Layout.payload_read (L : Layout c z ps r g d r1) (happx : ∀ m ∈ g.p.members, endsWith m.file.name sAppx = false) :
    truncBody ⟨r.out, false, 0⟩ (payloadOf d.files) = .ok (z.take g.patchStart) ∧
    ∀ rest bms, verifyBlocks c r.out (payloadOf d.files ++ rest) (g.p.bm ++ bms) = verifyBlocks c r.out rest bms := by
  obtain ⟨tb, nb, hnb, vb⟩ := payload_out L.out63 L.le_out (payloadOf d.files) ⟨z, true, 0⟩ r1 {} g.p L.take
    (L.payload_names happx) L.pass (by rw [L.pos]; exact Nat.le_refl _)
  refine ⟨?_, fun rest bms => by rw [show g.p.bm = nb by rw [hnb]; rfl]; exact vb rest bms⟩
  rw [tb, L.pos]
  show Res.ok ((r.out.drop 0).take (g.patchStart - 0)) = _
  rw [List.drop_zero, Nat.sub_zero, L.take]

theorem verifyMeta_own (L : Layout c z ps r g d r1) (happx : ∀ m ∈ g.p.members, endsWith m.file.name sAppx = false) :
    verifyMeta r.out = .ok (r.streams.axpc, r.streams.axcd) := by
  -- the body `Truncate` copies: the payload prefix, then the records of the parts before the signature
  have tn : truncBody ⟨r.out, false, 0⟩ ((Eparts g ps).1.map seen) = .ok (Eparts g ps).2 :=
    truncBody_new L.out63 (partMembers g.p.hasPE ps) g.patchStart (LocatedFrom.left L.loc)
      (fun n hn => L.newOk n (by simp [allMembers, hn]))
  have tall := truncBody_append _ _ _ _ _ (L.payload_read happx).1 tn
  -- the signature's entry is the last one, so `sigIndex` is the number of the others
  let sigE := newEntryAt ps.mt ps.md (sigMember ps) (g.patchStart + (Eparts g ps).2.length)
  have hnosig : ∀ f ∈ payloadOf d.files ++ (Eparts g ps).1.map seen, (f.name == sSignature) = false := by
    intro f hf
    rcases List.mem_append.mp hf with hf | hf
    · exact (special_false (L.special_pay f hf)).2.2.2.2.1
    · obtain ⟨n, hn, e⟩ := seen_names _ _ _ _ f hf
      rw [e]
      simpa using partMembers_not_sig _ _ n hn
  have hfs : payloadOf d.files ++ (Eall g ps).1.map seen = (payloadOf d.files ++ (Eparts g ps).1.map seen) ++ [seen sigE] := by
    rw [L.e1]; simp [sigE]
  have hsi := sigIndex_last _ 0 (seen sigE) hnosig (by rw [(seen_new _ _ _ _).1]; rfl)
  rw [Nat.zero_add] at hsi
  -- the entries before it are the re-read entries of `d4Of`: `truncDir` writes the headers of `d4Of` (`headersOf_seen`) and,
  -- the end records read being ZIP64, forced ZIP64 end records with the counts of `d4Of`
  have hd4seen : payloadOf d.files ++ (Eparts g ps).1.map seen = (d4Of g ps).files.map seen := by
    rw [L.d4f, List.map_append, L.files]
  have hw4 : ∀ f ∈ (d4Of g ps).files, Writable f := by
    intro f hf
    apply L.writable
    rw [L.d5f, L.e1, ← List.append_assoc, ← L.d4f]
    exact List.mem_append_left _ hf
  unfold verifyMeta
  simp only []
  rw [L.read]
  simp only []
  rw [hfs, hsi]
  simp only []
  rw [List.take_left' rfl, List.drop_left' rfl, tall]
  simp only [List.head?_cons, Option.map_some, Option.get!_some]
  rw [(seen_new _ _ _ _).2.1]
  unfold truncDir
  simp only []
  rw [List.take_left' rfl, hd4seen, headersOf_seen _ hw4]
  have hsig64 : (own64 (d5Of g ps).files.length (headersOf (d5Of g ps).files).1.length (d5Of g ps).dirLoc).sig ≠ 0 := by
    show sigEnd64 ≠ 0
    decide
  rw [if_pos hsig64]
  simp only []
  rw [L.streams]
  simp only [writeDirectory, endRecords_forced, L.d4l, own64, ownLoc, List.append_assoc, List.length_map]

theorem verifyFile_part {c : Codec} {mt md : Nat} {news : List NewMember} {out : Bytes} {pay : List File} {o : Nat}
    {n : NewMember} {plain : Bytes} (cls : String) (hpw : news.Pairwise (fun a b => a.name ≠ b.name))
    (hloc : LocatedFrom mt md out news o) (hn : n ∈ news) (hok : NewOk n) (h63 : out.length < 2 ^ 63)
    (hsp : special n.name = true) (hpay : ∀ f ∈ pay, special f.name = false)
    (hco : contentOf c (if n.deflate then 8 else 0) n.compd = .ok plain) (hpl : plain.length = n.usize) :
    verifyFile c out (pay ++ (newEntries mt md news o).1.map seen) n.name (some plain) cls = .ok () := by
  obtain ⟨q, hq, l1, l2⟩ := find_part news o hpw hloc n hn
  have hlast : ((pay ++ (newEntries mt md news o).1.map seen).filter fun g => g.name == n.name).getLast? =
      some (seen (newEntryAt mt md n q)) := by
    rw [List.filter_append, filter_payload_nil pay n.name hsp hpay, hq]
    rfl
  obtain ⟨h, H, hp, _⟩ := hashedAt_new (c := c) hok hco hpl l1 l2 h63
  have := H.partContent (fresh_new mt md n q) h63 hlast
  rw [hp] at this
  unfold verifyFile
  rw [this]
  simp

theorem verifyFile_absent {c : Codec} {mt md : Nat} {news : List NewMember} {out : Bytes} {pay : List File} {o : Nat}
    {x : Bytes} (cls : String) (hx : ∀ n ∈ news, n.name ≠ x) (hsp : special x = true) (hpay : ∀ f ∈ pay, special f.name = false) :
    verifyFile c out (pay ++ (newEntries mt md news o).1.map seen) x none cls = .ok () := by
  have : partContent c out (pay ++ (newEntries mt md news o).1.map seen) x = none := by
    unfold partContent
    rw [List.filter_append, filter_payload_nil pay x hsp hpay, filter_names_nil mt md news o x hx]
    rfl
  unfold verifyFile
  rw [this]

/-- the parts after the manifest: the ones `verifyBlockMap` skips -/
def unhashedMembers (b : Bool) (ps : Parts) : List NewMember :=
  [blockMapMember ps, ctypesMember ps] ++ (if b then [catalogMember ps] else []) ++ [sigMember ps]

theorem allMembers_cons (b : Bool) (ps : Parts) :
    allMembers b ps = manifestMember ps :: unhashedMembers b ps ∧
      ∀ n ∈ unhashedMembers b ps, (n.name == sSignature || n.name == sCatalog || n.name == sCTypes || n.name == sBlockMap) = true := by
  refine ⟨by cases b <;> rfl, ?_⟩
  intro n hn
  cases b <;> simp only [unhashedMembers, sigMember, List.append_nil, List.cons_append, List.nil_append, List.mem_cons,
    List.not_mem_nil, or_false, if_true, if_false, Bool.false_eq_true] at hn
  · rcases hn with rfl | rfl | rfl <;> rfl
  · rcases hn with rfl | rfl | rfl | rfl <;> rfl

theorem mem_allMembers (b : Bool) (ps : Parts) : manifestMember ps ∈ allMembers b ps ∧ blockMapMember ps ∈ allMembers b ps ∧
    ctypesMember ps ∈ allMembers b ps ∧ (b = true → catalogMember ps ∈ allMembers b ps) ∧ sigMember ps ∈ allMembers b ps := by
  rw [(allMembers_cons b ps).1]
  cases b <;> simp [unhashedMembers]

theorem Layout.verifyFile_ok (L : Layout c z ps r g d r1) {n : NewMember} {plain : Bytes} (cls : String)
    (hn : n ∈ allMembers g.p.hasPE ps) (hsp : special n.name = true)
    (hco : contentOf c (if n.deflate then 8 else 0) n.compd = .ok plain) (hpl : plain.length = n.usize) :
    verifyFile c r.out (payloadOf d.files ++ (Eall g ps).1.map seen) n.name (some plain) cls = .ok () :=
  verifyFile_part cls (allMembers_pairwise g.p.hasPE ps) L.loc hn (L.newOk n hn) L.out63 hsp L.special_pay hco hpl

/-- the catalog: written and matched when the package has a PE member, absent and not expected otherwise -/
theorem Layout.verifyFile_catalog (L : Layout c z ps r g d r1)
    (hcat : g.p.hasPE = true → c.inflate ps.catalog.compd = some ps.catalog.plain) :
    verifyFile c r.out (payloadOf d.files ++ (Eall g ps).1.map seen) sCatalog
      (if g.p.hasPE then some ps.catalog.plain else none) "axci" = .ok () := by
  cases hpe : g.p.hasPE with
  | true =>
    exact L.verifyFile_ok "axci" ((mem_allMembers _ ps).2.2.2.1 hpe) (show special sCatalog = true by decide)
      (contentOf_inflate (hcat hpe)) rfl
  | false =>
    have := verifyFile_absent (c := c) (mt := ps.mt) (md := ps.md) (news := allMembers g.p.hasPE ps) (out := r.out)
      (o := g.patchStart) "axci"
      (forall_allMembers (P := fun n => n.name ≠ sCatalog) (by decide : sManifest ≠ sCatalog) (by decide : sBlockMap ≠ sCatalog)
        (by decide : sCTypes ≠ sCatalog) (fun h => by rw [hpe] at h; cases h) (by decide : sSignature ≠ sCatalog))
      (by decide) L.special_pay
    simpa [Eall, hpe] using this

theorem Layout.verifyBlocks_ok (L : Layout c z ps r g d r1) (happx : ∀ m ∈ g.p.members, endsWith m.file.name sAppx = false) :
    verifyBlocks c r.out (payloadOf d.files ++ (Eall g ps).1.map seen) r.bm = .ok () := by
  rw [(assemble_eq L.asm).2.2.2.2.2, verifyBlocks_congr _ (g.bm ++ [manifestBm ps]) (g.p.bm ++ [manifestBm ps])
    (by rw [List.map_append, List.map_append, L.view]), (L.payload_read happx).2]
  obtain ⟨hcons, hskip⟩ := allMembers_cons g.p.hasPE ps
  have hloc1 := L.loc
  unfold Eall
  rw [hcons] at hloc1 ⊢
  obtain ⟨l1, l2, _⟩ := hloc1.head
  simp only [newEntries, List.map_cons]
  obtain ⟨s1, _, _, s4, _⟩ := seen_new ps.mt ps.md (manifestMember ps) g.patchStart
  obtain ⟨h, H, hp, _⟩ := hashedAt_new (c := c) (plain := ps.manifest.plain) (L.newOk _ (mem_allMembers _ ps).1) rfl rfl l1 l2 L.out63
  have hpc := H.partContent (fresh_new _ _ _ _) L.out63 (filter_self _)
  rw [hp] at hpc
  rw [verifyBlocks_cons (by rw [s1]; rfl) hpc (by rw [s4]; rfl) (by rw [s1, ← blocksOf_fst]; rfl)]
  apply verifyBlocks_skip
  intro f hf
  obtain ⟨n, hn, e⟩ := seen_names _ _ _ _ f hf
  rw [e]
  exact hskip n hn

theorem Layout.any_signature (L : Layout c z ps r g d r1) :
    ((payloadOf d.files ++ (Eall g ps).1.map seen).any fun f => f.name == sSignature) = true := by
  rw [L.e1]
  simp only [List.map_append, List.map_cons, List.map_nil, List.any_append, List.any_cons, List.any_nil, (seen_new _ _ _ _).1]
  simp [sigMember]

end stages

/-- The model's verifier accepts what the model's signer wrote, under the streams that were signed and
    the block map that was marshalled: every stage of `verify` accepts the laid-out output. -/
theorem sign_then_verify {c : Codec} {z : Bytes} {ps : Parts} {r : Signed} (H : SignOk c z ps r)
    (hbm : c.inflate ps.blockmap.compd = some ps.blockmap.plain)
    (hct : c.inflate ps.ctypes.compd = some ps.ctypes.plain)
    (hcat : ∀ g, digest c z = .ok g → g.p.hasPE = true → c.inflate ps.catalog.compd = some ps.catalog.plain)
    (happx : ∀ g, digest c z = .ok g → ∀ m ∈ g.p.members, endsWith m.file.name sAppx = false) :
    verify c r.out r.streams (some r.bm) = .ok () := by
  obtain ⟨g, d, r1, L⟩ := sign_setup H
  obtain ⟨_, hmb, hmc, _, _⟩ := mem_allMembers g.p.hasPE ps
  have hvf1 : verifyFile c r.out _ sBlockMap _ "axbm" = .ok () :=
    L.verifyFile_ok "axbm" hmb (show special sBlockMap = true by decide) (contentOf_inflate hbm) rfl
  have hvf2 := L.verifyFile_catalog (hcat g L.dig)
  have hvf3 : verifyFile c r.out _ sCTypes _ "axct" = .ok () :=
    L.verifyFile_ok "axct" hmc (show special sCTypes = true by decide) (contentOf_inflate hct) rfl
  have hvb := L.verifyBlocks_ok (happx g L.dig)
  have hvm := verifyMeta_own L (happx g L.dig)
  rw [L.streams] at hvm ⊢
  simp only [] at hvm
  simp only [verify, L.read, L.any_signature, hvf1, hvf2, hvf3, hvb, hvm, Bool.not_true, Bool.false_eq_true, if_false, ne_eq,
    not_true_eq_false]

end Relic.Appx
