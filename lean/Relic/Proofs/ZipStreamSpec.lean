/-
  Relic.Proofs.ZipStreamSpec — passes over a measured archive: the random-access pass dumps every member as measured
  (what `dumpAll_stream` needs to be stated on `Relic.Spec.Zip`-valid archives; forward order at the level of the
  specification is `fwdK_eq_forwardSpec` in Relic.Proofs.ZipKept), and the single forward pass of the rewriters
  (`passMembers` over the stream reader) measures every member as random access does.
-/
import Relic.Proofs.ZipKept
import Relic.Proofs.ZipStream
namespace Relic.Zip
open Relic.SpecZip

theorem filesOf_fresh (z : Bytes) : ∀ (es : List Entry) (at_ : Nat), ∀ f ∈ filesOf z at_ es, f.fresh := by
  intro es
  induction es with
  | nil => intro _ f hf; cases hf
  | cons e es ih =>
    intro at_ f hf
    rcases List.mem_cons.mp hf with rfl | hf
    · exact ⟨rfl, rfl, rfl⟩
    · exact ih _ f hf

/-- the random-access pass over a measured archive: every member is dumped, with the size and the `File`
    `GetTotalSize` gives; extents inside the archive; `forward` is forward order in relic's measure -/
theorem dumpAll_measured {z : Bytes} {a : Archive} (h63 : z.length < 2 ^ 63) (hcdz : a.ends.cdOff ≤ z.length) :
    ∀ (kms : List KM) (at_ : Nat), MeasuredL z a at_ kms →
    ∃ outs, dumpAll (RA z) (filesOf z at_ (kms.map (·.2.1.entry))) = .ok outs ∧
      outs.map (fun o => (o.2.1, o.2.2)) = kms.map (fun q => (q.2.2.total, q.2.2.file)) ∧
      inRange z.length (filesOf z at_ (kms.map (·.2.1.entry))) outs = true ∧
      ∀ p, forward p (filesOf z at_ (kms.map (·.2.1.entry))) outs = fwdK p kms := by
  intro kms
  induction kms with
  | nil => intro _ _; exact ⟨[], rfl, rfl, rfl, fun _ => rfl⟩
  | cons q r ih =>
    intro at_ hM
    obtain ⟨k, sm, m⟩ := q
    obtain ⟨M, hrest⟩ := MeasuredL_cons.mp hM
    have hTle := M.le
    obtain ⟨outs, ho, hmap, hin, hfw⟩ := ih _ hrest
    have hfo : (fileOf z at_ sm.entry).offset = sm.entry.hoff := rfl
    obtain ⟨b, hb⟩ := dump_of_getTotalSize (z := z) ⟨rfl, rfl, rfl⟩ h63 M.size (by rw [hfo]; omega)
    refine ⟨(b, m.total, m.file) :: outs, ?_, ?_, ?_, ?_⟩
    · simp only [List.map_cons, filesOf, dumpAll, hb, ho]
    · simp only [List.map_cons, hmap]
    · simp only [List.map_cons, filesOf, inRange, Bool.and_eq_true, decide_eq_true_eq, hfo]
      exact ⟨by omega, hin⟩
    · intro p
      simp only [List.map_cons, filesOf, forward, fwdK, hfo, hfw]

/-- per member, what `Dump` reports (data offset from the local header it read, and the extent) is what `GetTotalSize`
    reports -/
theorem dumped_extents {z : Bytes} {a : Archive} (h63 : z.length < 2 ^ 63) :
    ∀ (kms : List KM) (at_ : Nat) (outs : List Dumped), MeasuredL z a at_ kms →
    outs.map (fun o => (o.2.1, o.2.2)) = kms.map (fun q => (q.2.2.total, q.2.2.file)) →
    outs.map (fun o => some (o.2.2.offset + 30 + (o.2.2.lfh.map (·.nameLen)).getD 0 + (o.2.2.lfh.map (·.extraLen)).getD 0, o.2.1)) =
      (filesOf z at_ (kms.map (·.2.1.entry))).map (modelExtent z) := by
  intro kms
  induction kms with
  | nil => intro _ outs _ h; cases outs <;> simp_all [filesOf]
  | cons q r ih =>
    intro at_ outs hM h
    obtain ⟨k, sm, m⟩ := q
    cases outs with
    | nil => simp at h
    | cons o os =>
      simp only [List.map_cons, List.cons.injEq, Prod.mk.injEq] at h
      obtain ⟨⟨h1, h2⟩, h3⟩ := h
      obtain ⟨M, hrest⟩ := MeasuredL_cons.mp hM
      simp only [List.map_cons, filesOf, ih _ os hrest h3]
      congr 1
      unfold modelExtent
      have hg' : getTotalSize ⟨z, false, 0⟩ (fileOf z at_ sm.entry) = .ok (m, RA z) := M.size
      rw [hg']
      simp only
      obtain ⟨l, ddb, c, -, -, hfile, hdo, -, -, -, -⟩ := getTotalSize_ra (z := z) ⟨rfl, rfl, rfl⟩ h63 M.size
      rw [h1, h2, hdo, hfile]
      rfl

/-- one member of the single forward pass (whether or not the caller consumed the contents) is measured as
    random access measures it -/
theorem passMember_ra {z : Bytes} {f : File} {p : Nat} {b : Bool} {m : Member} {r : Rd} (hf : f.fresh) (h63 : z.length < 2 ^ 63)
    (h : passMember (ST z p) f b = .ok (m, r)) : getTotalSize (RA z) f = .ok (m, RA z) ∧ ∃ q, r = ST z q := by
  obtain ⟨hl, hd, _⟩ := hf
  unfold passMember at h
  cases h1 : readLocalHeader (ST z p) f with
  | ok x =>
    obtain ⟨l, r1⟩ := x
    rw [h1] at h
    simp only at h
    obtain ⟨e1, q1, rfl⟩ := readLocalHeader_st_ra hl h63 h1
    have key : ∀ (r2 : Rd) (q : Nat), r2 = ST z q → getTotalSize r2 { f with lfh := some l } = .ok (m, r) →
        getTotalSize (RA z) f = .ok (m, RA z) ∧ ∃ q, r = ST z q := by
      intro r2 q hr2 hg
      subst hr2
      unfold getTotalSize at hg ⊢
      rw [e1]
      simp only [readLocalHeader] at hg ⊢
      cases h2 : readDataDesc (ST z q) { f with lfh := some l } l with
      | ok x2 =>
        obtain ⟨ddb, crc, r3⟩ := x2
        rw [h2] at hg
        obtain ⟨e2, q3, hq3⟩ := readDataDesc_st_ra (f := { f with lfh := some l }) hd h63 h2
        have e2' : readDataDesc (RA z) f l = .ok (ddb, crc, RA z) := e2
        rw [e2']
        simp only [Res.ok.injEq, Prod.mk.injEq] at hg ⊢
        exact ⟨⟨hg.1, trivial⟩, q3, by rw [← hg.2, hq3]⟩
      | err | panic | diverge => rw [h2] at hg; cases hg
    split at h
    · cases h2 : (ST z q1).readAt (f.offset + 30 + l.nameLen + l.extraLen) f.csize with
      | ok x2 =>
        obtain ⟨dat, r2⟩ := x2
        rw [h2] at h
        obtain ⟨-, -, -, h4, -⟩ := Rd.readAt_ok h2
        obtain ⟨-, rfl⟩ := h4 rfl
        exact key _ _ rfl h
      | err | panic | diverge => rw [h2] at h; cases h
    · exact key _ _ rfl h
  | err | panic | diverge => rw [h1] at h; cases h

theorem passMembers_measured {z : Bytes} {a : Archive} (h63 : z.length < 2 ^ 63) (rd : File → Bool) : ∀ (kms : List KM) (at_ p : Nat) (ms : List Member),
    MeasuredL z a at_ kms → passMembers rd (ST z p) (filesOf z at_ (kms.map (·.2.1.entry))) = .ok ms →
    ms = kms.map (·.2.2) := by
  intro kms
  induction kms with
  | nil => intro _ _ ms _ h; simp only [List.map_nil, filesOf, passMembers, Res.ok.injEq] at h; rw [← h]; rfl
  | cons q r ih =>
    intro at_ p ms hM h
    obtain ⟨k, sm, m⟩ := q
    obtain ⟨M, hrest⟩ := MeasuredL_cons.mp hM
    simp only [List.map_cons, filesOf] at h ⊢
    unfold passMembers at h
    cases h1 : passMember (ST z p) (fileOf z at_ sm.entry) (rd (fileOf z at_ sm.entry)) with
    | ok x =>
      obtain ⟨m', r'⟩ := x
      rw [h1] at h
      simp only at h
      obtain ⟨e1, q1, rfl⟩ := passMember_ra ⟨rfl, rfl, rfl⟩ h63 h1
      rw [M.size] at e1
      simp only [Res.ok.injEq, Prod.mk.injEq] at e1
      obtain ⟨rfl, _⟩ := e1
      cases h2 : passMembers rd (ST z q1) (filesOf z (at_ + sm.entry.len) (r.map (·.2.1.entry))) with
      | ok ms' =>
        rw [h2] at h
        simp only [Res.ok.injEq] at h
        rw [← h, ih _ _ _ hrest h2]
      | err | panic | diverge => rw [h2] at h; cases h
    | err | panic | diverge => rw [h1] at h; cases h

end Relic.Zip
