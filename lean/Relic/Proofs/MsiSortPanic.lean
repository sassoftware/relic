/-
  `sortMsiFiles` panics on EVERY list that contains a trigger pair (`Props.C18.sort_panics_iff`).

  The comparator is, outside its panic trigger, the strict lexicographic order of a key (`sortKey`: the code
  units compared, low byte before high byte, with an end marker greater than every byte for names of at most 32
  "bytes"); two entries of a trigger pair have the same key.  An insertion sort keeps its prefix sorted by that
  key, so the later entry of a trigger pair, moving leftwards, cannot stop before it meets an entry of the same
  key with `NameLength > 32` – and that comparison panics.
-/
import Relic.Proofs.MsiDigest
namespace Relic.MsiDigest
open Relic.RedBlack

theorem lessGo_zero (xs ys : List Nat) (tie : Bool) : lessGo xs ys 0 tie = .ok tie := by
  unfold lessGo; rfl

/-- the exact trigger: both `NameLength` fields exceed 32 and the two 32-slot arrays are identical -/
def Trigger (a b : Meta) : Prop := 32 < a.nameLen ∧ 32 < b.nameLen ∧ a.slots = b.slots

def digits (u : Nat) : List Nat := [u % 256, u / 256]

/-- key of what remains to be compared: `k` = remaining `NameLength`, `xs` = remaining slots; the marker 256
    (greater than every low byte) stands for "name ends here" -/
def keyR (xs : List Nat) (k : Nat) : List Nat :=
  (xs.take k).flatMap digits ++ (if k ≤ xs.length then [256] else [])

def sortKey (m : Meta) : List Nat := keyR m.slots m.nameLen

theorem keyR_zero (xs : List Nat) : keyR xs 0 = [256] := by simp [keyR]

theorem keyR_succ (x : Nat) (xs : List Nat) (k : Nat) : keyR (x :: xs) (k + 1) = x % 256 :: x / 256 :: keyR xs k := by
  simp [keyR, digits]

theorem keyR_nil_succ (k : Nat) : keyR [] (k + 1) = [] := by simp [keyR]

/-- the end marker 256 is above every low byte -/
theorem lexLt_marker_left (y : Nat) (r : List Nat) : lexLt [256] (y % 256 :: r) = false := by
  have : y % 256 < 256 := Nat.mod_lt _ (by decide)
  rw [lexLt_cons_ne (by omega)]
  exact decide_eq_false (by omega)

theorem lexLt_marker_right (x : Nat) (r : List Nat) : lexLt (x % 256 :: r) [256] = true := by
  have : x % 256 < 256 := Nat.mod_lt _ (by decide)
  rw [lexLt_cons_ne (by omega)]
  exact decide_eq_true this

theorem lessGo_keyR : ∀ (xs ys : List Nat) (ka kb : Nat), xs.length = ys.length →
    lessGo xs ys (min ka kb) (decide (ka > kb)) =
      if xs.length < ka ∧ xs.length < kb ∧ xs = ys then .panic "sortMsiFiles"
      else .ok (lexLt (keyR xs ka) (keyR ys kb))
  | [], [], 0, kb, _ => by
    rw [Nat.zero_min, lessGo_zero]
    cases kb <;> simp [keyR, lexLt]
  | [], [], ka + 1, 0, _ => by
    rw [Nat.min_zero, lessGo_zero]
    simp [keyR, lexLt]
  | [], [], ka + 1, kb + 1, _ => by
    rw [Nat.succ_min_succ]
    simp [lessGo]
  | [], _ :: _, _, _, h => by simp at h
  | _ :: _, [], _, _, h => by simp at h
  | x :: xs, y :: ys, 0, kb, _ => by
    rw [Nat.zero_min, lessGo_zero]
    cases kb with
    | zero => simp [keyR_zero, lexLt]
    | succ kb => simp [keyR_zero, keyR_succ, lexLt_marker_left]
  | x :: xs, y :: ys, ka + 1, 0, _ => by
    rw [Nat.min_zero, lessGo_zero]
    simp [keyR_zero, keyR_succ, lexLt_marker_right]
  | x :: xs, y :: ys, ka + 1, kb + 1, h => by
    have hl : xs.length = ys.length := by simpa using h
    rw [Nat.succ_min_succ, keyR_succ, keyR_succ, lessGo]
    by_cases h1 : x % 256 = y % 256
    · by_cases h2 : x / 256 = y / 256
      · have hxy := units_eq_of_bytes h1 h2
        subst hxy
        simp only [gt_iff_lt, List.length_cons, Nat.add_lt_add_iff_right, List.cons.injEq, true_and]
        rw [if_neg (not_not_intro rfl), if_neg (not_not_intro rfl), lessGo_keyR xs ys ka kb hl,
          lexLt_cons_self, lexLt_cons_self]
      · have hne : ¬ ((x :: xs).length < ka + 1 ∧ (x :: xs).length < kb + 1 ∧ x :: xs = y :: ys) :=
          fun e => h2 (by rw [(List.cons.inj e.2.2).1])
        rw [if_neg (not_not_intro h1), if_pos h2, if_neg hne, h1, lexLt_cons_self, lexLt_cons_ne h2]
    · have hne : ¬ ((x :: xs).length < ka + 1 ∧ (x :: xs).length < kb + 1 ∧ x :: xs = y :: ys) :=
        fun e => h1 (by rw [(List.cons.inj e.2.2).1])
      rw [if_pos h1, if_neg hne, lexLt_cons_ne h1]

theorem flatMap_digits_inj : ∀ (a b : List Nat), a.flatMap digits = b.flatMap digits → a = b
  | [], [], _ => rfl
  | [], y :: b, h => by simp [digits] at h
  | x :: a, [], h => by simp [digits] at h
  | x :: a, y :: b, h => by
    simp only [List.flatMap_cons, digits, List.cons_append, List.nil_append, List.cons.injEq] at h
    obtain ⟨h1, h2, h3⟩ := h
    rw [units_eq_of_bytes h1 h2, flatMap_digits_inj a b h3]

theorem keyR_length (xs : List Nat) (k : Nat) :
    (keyR xs k).length = 2 * min k xs.length + (if k ≤ xs.length then 1 else 0) := by
  unfold keyR
  have : ∀ l : List Nat, (l.flatMap digits).length = 2 * l.length := by
    intro l
    induction l with
    | nil => rfl
    | cons a l ih => simp [List.flatMap_cons, digits, ih]; omega
  rw [List.length_append, this, List.length_take]
  split <;> simp

theorem trigger_iff_key (a b : Meta) (ha : a.slots.length = 32) (hb : b.slots.length = 32) :
    Trigger a b ↔ sortKey a = sortKey b ∧ 32 < a.nameLen ∧ 32 < b.nameLen := by
  unfold Trigger sortKey keyR
  constructor
  · rintro ⟨h1, h2, h3⟩
    refine ⟨?_, h1, h2⟩
    rw [List.take_of_length_le (by omega), List.take_of_length_le (by omega), ha, hb, h3]
    simp [show ¬ a.nameLen ≤ 32 by omega, show ¬ b.nameLen ≤ 32 by omega]
  · rintro ⟨h1, h2, h3⟩
    refine ⟨h2, h3, ?_⟩
    rw [List.take_of_length_le (by omega), List.take_of_length_le (by omega), ha, hb] at h1
    simp only [show ¬ a.nameLen ≤ 32 by omega, show ¬ b.nameLen ≤ 32 by omega, if_false, List.append_nil] at h1
    exact flatMap_digits_inj _ _ h1

/-- the end marker makes the key's length odd -/
theorem keyR_length_odd (xs : List Nat) (k : Nat) : (keyR xs k).length % 2 = 1 ↔ k ≤ xs.length := by
  rw [keyR_length]
  split <;> omega

theorem key_same_side (a b : Meta) (ha : a.slots.length = 32) (hb : b.slots.length = 32)
    (h : sortKey a = sortKey b) : (32 < a.nameLen ↔ 32 < b.nameLen) := by
  have e : (sortKey a).length % 2 = 1 ↔ (sortKey b).length % 2 = 1 := by rw [h]
  rw [sortKey, sortKey, keyR_length_odd, keyR_length_odd, ha, hb] at e
  omega

instance (a b : Meta) : Decidable (Trigger a b) := by unfold Trigger; infer_instance

theorem less_eq_sortKey (a b : Meta) (ha : a.slots.length = 32) (hb : b.slots.length = 32) :
    less a b = if Trigger a b then .panic "sortMsiFiles" else .ok (lexLt (sortKey a) (sortKey b)) := by
  unfold less
  rw [lessGo_keyR a.slots b.slots a.nameLen b.nameLen (by omega), ha]
  rfl

section abstract
variable {α : Type} (c : α → α → Res Bool) (key : α → List Nat) (bad : α → Bool) (P : α → Prop) (s : String)

/-- the panicking pairs: same key, both beyond the limit -/
def Tie (a b : α) : Prop := key a = key b ∧ bad a = true ∧ bad b = true

instance (a b : α) : Decidable (Tie key bad a b) := by unfold Tie; infer_instance

structure KeyCmp : Prop where
  cmp : ∀ a b, P a → P b → c a b = if Tie key bad a b then .panic s else .ok (lexLt (key a) (key b))
  side : ∀ a b, P a → P b → key a = key b → bad a = bad b

variable {c key bad P s}

/-- the later entry of a tie pair cannot be inserted: it meets an entry of its key beyond the limit -/
theorem insR_panic (K : KeyCmp c key bad P s) (x : α) (hx : P x) : ∀ acc, (∀ y ∈ acc, P y) → SortedR lexLt key acc →
    (∃ z ∈ acc, Tie key bad x z) → insR c x acc = .panic s
  | [], _, _, h => by obtain ⟨z, hz, _⟩ := h; cases hz
  | y :: rest, hP, hs, h => by
    obtain ⟨z, hz, ht⟩ := h
    obtain ⟨hy, hr⟩ := List.pairwise_cons.mp hs
    unfold insR
    rw [K.cmp x y hx (hP y (by simp))]
    by_cases hxy : Tie key bad x y
    · simp [hxy]
    · simp only [hxy, if_false, Res.bind_ok']
      have hzr : z ∈ rest := by
        rcases List.mem_cons.mp hz with rfl | hz'
        · exact absurd ht hxy
        · exact hz'
      cases hlt : lexLt (key x) (key y) with
      | true =>
        simp only [if_true]
        rw [insR_panic K x hx rest (fun w hw => hP w (by simp [hw])) hr ⟨z, hzr, ht⟩]
        rfl
      | false =>
        exfalso
        have h1 : lexLt (key y) (key x) = false := by rw [ht.1]; exact hy z hzr
        have e : key x = key y := lexOrder.tri _ _ hlt h1
        have := K.side x y hx (hP y (by simp)) e
        exact hxy ⟨e, ht.2.1, by rw [← this]; exact ht.2.1⟩

theorem tie_symm {a b : α} (h : Tie key bad a b) : Tie key bad b a := ⟨h.1.symm, h.2.2, h.2.1⟩

theorem pairwise_noTie_perm {l l' : List α} (hp : l.Perm l') :
    l.Pairwise (fun a b => ¬ Tie key bad a b) ↔ l'.Pairwise (fun a b => ¬ Tie key bad a b) :=
  hp.pairwise_iff (fun {_ _} h t => h (tie_symm t))

theorem sortFold_panic (K : KeyCmp c key bad P s) : ∀ (l acc : List α), (∀ y ∈ acc, P y) → (∀ y ∈ l, P y) →
    SortedR lexLt key acc → acc.Pairwise (fun a b => ¬ Tie key bad a b) →
    ¬ (acc ++ l).Pairwise (fun a b => ¬ Tie key bad a b) → sortFold c acc l = .panic s
  | [], acc, _, _, _, hn, h => by rw [List.append_nil] at h; exact absurd hn h
  | x :: rest, acc, hPa, hPl, hs, hn, h => by
    have hx : P x := hPl x (by simp)
    unfold sortFold
    by_cases hz : ∃ z ∈ acc, Tie key bad x z
    · rw [insR_panic K x hx acc hPa hs hz]; rfl
    · have hno : ∀ y ∈ acc, ¬ Tie key bad x y := fun y hy t => hz ⟨y, hy, t⟩
      have hok : insR c x acc = .ok (insP (fun a b => lexLt (key a) (key b)) x acc) := by
        apply insR_ok
        intro y hy
        rw [K.cmp x y hx (hPa y hy)]
        simp [hno y hy]
      rw [hok]
      simp only [Res.bind_ok']
      have hperm := insP_perm (fun a b => lexLt (key a) (key b)) x acc
      apply sortFold_panic K rest
      · intro y hy
        rcases List.mem_cons.mp (hperm.subset hy) with rfl | hy
        · exact hx
        · exact hPa y hy
      · exact fun y hy => hPl y (by simp [hy])
      · exact insP_sortedR lexOrder key x acc hs
      · rw [pairwise_noTie_perm hperm]
        exact List.pairwise_cons.mpr ⟨hno, hn⟩
      · intro hp
        apply h
        have : (insP (fun a b => lexLt (key a) (key b)) x acc ++ rest).Perm (acc ++ x :: rest) :=
          (hperm.append_right rest).trans List.perm_middle.symm
        exact (pairwise_noTie_perm this).mp hp

end abstract

theorem sortItems_panics {β : Type} (l : List (Item β)) (hlen : ∀ a ∈ l, a.1.slots.length = 32)
    (h : ¬ l.Pairwise (fun a b => ¬ Trigger a.1 b.1)) : sortItems l = .panic "sortMsiFiles" := by
  let key : Item β → List Nat := fun a => sortKey a.1
  let bad : Item β → Bool := fun a => decide (32 < a.1.nameLen)
  let P : Item β → Prop := fun a => a.1.slots.length = 32
  have tie_iff : ∀ a b : Item β, P a → P b → (Tie key bad a b ↔ Trigger a.1 b.1) := by
    intro a b ha hb
    rw [trigger_iff_key a.1 b.1 ha hb]
    simp [Tie, key, bad]
  have K : KeyCmp (fun a b : Item β => less a.1 b.1) key bad P "sortMsiFiles" := by
    constructor
    · intro a b ha hb
      rw [less_eq_sortKey a.1 b.1 ha hb]
      by_cases t : Trigger a.1 b.1
      · simp [t, (tie_iff a b ha hb).mpr t]
      · have : ¬ Tie key bad a b := fun t' => t ((tie_iff a b ha hb).mp t')
        simp [t, this, key]
    · intro a b ha hb e
      have := key_same_side a.1 b.1 ha hb e
      simp only [bad]
      by_cases h1 : 32 < a.1.nameLen
      · simp [h1, this.mp h1]
      · have : ¬ 32 < b.1.nameLen := fun h2 => h1 (this.mpr h2)
        simp [h1, this]
  have h' : ¬ ([] ++ l).Pairwise (fun a b => ¬ Tie key bad a b) := by
    intro hp
    apply h
    rw [List.nil_append] at hp
    refine hp.imp_of_mem ?_
    intro a b ha hb hab t
    exact hab ((tie_iff a b (hlen a ha) (hlen b hb)).mpr t)
  have := sortFold_panic K l [] (by simp) hlen (by simp [SortedR]) (by simp) h'
  unfold sortItems sortRes
  rw [this]
  rfl

end Relic.MsiDigest
