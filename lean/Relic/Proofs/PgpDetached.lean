/-
  Relic.Proofs.PgpDetached — go-crypto's canonical-text writer.  The writer's state is carried from one buffer to the next,
  which is why the hashed stream does not depend on how the document is cut into Write calls.  A bare line feed makes the
  canonical text longer than the document, which refutes the verifier as it was before b49f687 (F49).
-/
import Relic.Model.PgpDetached
namespace Relic.PgpDetached

theorem canonStep_append (s : Bool) (a b : Bytes) :
    canonStep s (a ++ b) = ((canonStep s a).1 ++ (canonStep (canonStep s a).2 b).1, (canonStep (canonStep s a).2 b).2) := by
  induction a generalizing s with
  | nil => simp [canonStep]
  | cons c rest ih =>
    cases s
    · by_cases h13 : c = 13
      · simp [canonStep, h13, ih]
      · by_cases h10 : c = 10
        · simp [canonStep, h10, ih]
        · simp [canonStep, h13, h10, ih]
    · simp [canonStep, ih]

theorem canonWrites_eq (s : Bool) (chunks : List Bytes) : canonWrites s chunks = (canonStep s chunks.flatten).1 := by
  induction chunks generalizing s with
  | nil => simp [canonWrites, canonStep]
  | cons b rest ih => simp [canonWrites, List.flatten_cons, canonStep_append, ih]

theorem canonStep_no_lf (s : Bool) (doc : Bytes) (h : ∀ b ∈ doc, b ≠ 10) : (canonStep s doc).1 = doc := by
  induction doc generalizing s with
  | nil => simp [canonStep]
  | cons c rest ih =>
    have hc : c ≠ 10 := h c (by simp)
    have hr : ∀ b ∈ rest, b ≠ 10 := fun b hb => h b (by simp [hb])
    cases s
    · by_cases h13 : c = 13
      · simp [canonStep, h13, ih true hr]
      · simp [canonStep, h13, hc, ih false hr]
    · simp [canonStep, ih false hr]

theorem canonStep_length (s : Bool) (doc : Bytes) : doc.length ≤ (canonStep s doc).1.length := by
  induction doc generalizing s with
  | nil => simp [canonStep]
  | cons c rest ih =>
    cases s
    · by_cases h13 : c = 13
      · have := ih true; simp [canonStep, h13]; omega
      · by_cases h10 : c = 10
        · have := ih false; simp [canonStep, h10]; omega
        · have := ih false; simp [canonStep, h13, h10]; omega
    · have := ih false; simp [canonStep]; omega

theorem canonStep_bare_lf_longer (pre post : Bytes) (hpre : (canonStep false pre).2 = false) :
    (pre ++ 10 :: post).length < (canonStep false (pre ++ 10 :: post)).1.length := by
  rw [canonStep_append, hpre]
  have h1 := canonStep_length false pre
  have h2 := canonStep_length false post
  simp [canonStep]
  omega

end Relic.PgpDetached
