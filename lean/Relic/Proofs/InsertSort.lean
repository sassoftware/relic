/-
  Insertion sort by a Boolean test, for the sorts of the development (the instances are the theorems of type `Insert …` /
  `InsertSort …`); a list ordered by an asymmetric relation is determined by its elements; and strict total orders
  (`StrictTotal`) with the lexicographic order of lists over one (`lexBy`, `StrictTotal.lex`), which Go's `<` on strings
  (`Xml.bytesLt`) and `strings.Compare` on keys (`Json.keyLt`) are.
-/
namespace Relic
universe u

/-- `ins a` walks past the elements `b` with `walk a b` and puts `a` in front of the first other one -/
structure Insert {α : Type u} (walk : α → α → Bool) (ins : α → List α → List α) : Prop where
  ins_nil : ∀ a, ins a [] = [a]
  ins_cons : ∀ a b bs, ins a (b :: bs) = if walk a b then b :: ins a bs else a :: b :: bs

/-- `sort` inserts the elements one by one, the last first -/
structure InsertSort {α : Type u} (walk : α → α → Bool) (ins : α → List α → List α) (sort : List α → List α) : Prop
    extends Insert walk ins where
  sort_nil : sort [] = []
  sort_cons : ∀ a as, sort (a :: as) = ins a (sort as)

namespace Insert
variable {α : Type u} {walk : α → α → Bool} {ins : α → List α → List α}

theorem ins_perm (S : Insert walk ins) (a : α) : ∀ l, (ins a l).Perm (a :: l)
  | [] => by rw [S.ins_nil]
  | b :: bs => by
    rw [S.ins_cons]
    split
    · exact ((ins_perm S a bs).cons b).trans (List.Perm.swap a b bs)
    · exact List.Perm.refl _

/-- inserting into a list ordered by a transitive `R` keeps it ordered, if the test puts `a` behind `b` only when
    `R b a` and in front of `b` only when `R a b` -/
theorem ins_pairwise (S : Insert walk ins) {R : α → α → Prop} (ht : ∀ a b c, R a b → R b c → R a c) (a : α) :
    ∀ l, l.Pairwise R → (∀ b ∈ l, if walk a b then R b a else R a b) → (ins a l).Pairwise R
  | [], _, _ => by
    rw [S.ins_nil]
    exact List.pairwise_singleton R a
  | b :: bs, hl, hw => by
    rw [List.pairwise_cons] at hl
    have hb := hw b List.mem_cons_self
    rw [S.ins_cons]
    split
    · rename_i h
      rw [if_pos h] at hb
      refine List.pairwise_cons.mpr ⟨?_, ins_pairwise S ht a bs hl.2 (fun c hc => hw c (List.mem_cons_of_mem _ hc))⟩
      intro c hc
      rcases List.mem_cons.mp ((S.ins_perm a bs).mem_iff.mp hc) with rfl | hc
      · exact hb
      · exact hl.1 c hc
    · rename_i h
      rw [if_neg h] at hb
      refine List.pairwise_cons.mpr ⟨?_, List.pairwise_cons.mpr hl⟩
      intro c hc
      rcases List.mem_cons.mp hc with rfl | hc
      · exact hb
      · exact ht a b c hb (hl.1 c hc)

/-- a sort written as a left fold of `ins` (each element inserted into what has been sorted so far) permutes its input -/
theorem foldl_perm (S : Insert walk ins) : ∀ (l acc : List α), (l.foldl (fun acc a => ins a acc) acc).Perm (l ++ acc)
  | [], _ => List.Perm.refl _
  | a :: l, acc => by
    rw [List.foldl_cons]
    exact ((foldl_perm S l (ins a acc)).trans ((S.ins_perm a acc).append_left l)).trans List.perm_middle

end Insert

namespace InsertSort
variable {α : Type u} {walk : α → α → Bool} {ins : α → List α → List α} {sort : List α → List α}

theorem sort_perm (S : InsertSort walk ins sort) : ∀ l, (sort l).Perm l
  | [] => by rw [S.sort_nil]
  | a :: as => by
    rw [S.sort_cons]
    exact (S.ins_perm a _).trans ((sort_perm S as).cons a)

/-- the sorted list is ordered by `R`, if the test decides `R` between any two elements related by `C` and the
    elements of the input are pairwise related by `C` -/
theorem sort_pairwise (S : InsertSort walk ins sort) {R C : α → α → Prop} (ht : ∀ a b c, R a b → R b c → R a c)
    (hw : ∀ a b, C a b → if walk a b then R b a else R a b) : ∀ l, l.Pairwise C → (sort l).Pairwise R
  | [], _ => by
    rw [S.sort_nil]
    exact List.Pairwise.nil
  | a :: as, hl => by
    rw [List.pairwise_cons] at hl
    rw [S.sort_cons]
    exact S.ins_pairwise ht a _ (sort_pairwise S ht hw as hl.2)
      (fun b hb => hw a b (hl.1 b ((S.sort_perm as).mem_iff.mp hb)))

end InsertSort

/-- a list ordered by a relation that never holds both ways is determined by its elements: two such lists with the same
    elements are equal (what makes "the sorted permutation" a function of the set of keys) -/
theorem sorted_unique_of_asymm {α : Type u} {R : α → α → Prop} (asymm : ∀ a b, R a b → R b a → False) {s t : List α}
    (hs : s.Pairwise R) (ht : t.Pairwise R) (hp : s.Perm t) : s = t :=
  List.Perm.eq_of_pairwise (le := R) (fun _ _ _ _ hab hba => (asymm _ _ hab hba).elim) hs ht hp

structure StrictTotal {α : Type u} (lt : α → α → Bool) : Prop where
  irrefl : ∀ a, lt a a = false
  trans : ∀ a b c, lt a b = true → lt b c = true → lt a c = true
  tri : ∀ a b, lt a b = false → lt b a = false → a = b

/-- lists compared element by element, a proper prefix coming first -/
def lexBy {α : Type u} (lt : α → α → Bool) : List α → List α → Bool
  | [], [] => false
  | [], _ :: _ => true
  | _ :: _, [] => false
  | a :: as, b :: bs => if lt a b then true else if lt b a then false else lexBy lt as bs

namespace StrictTotal
variable {α : Type u} {lt : α → α → Bool}

theorem asymm (S : StrictTotal lt) {a b : α} (h : lt a b = true) : lt b a = false := by
  cases h' : lt b a
  · rfl
  · rw [← S.irrefl a, S.trans a b a h h']

/-- "not below" is transitive -/
theorem negtrans (S : StrictTotal lt) {a b c : α} (h1 : lt a b = false)
    (h2 : lt b c = false) : lt a c = false := by
  cases h : lt a c with
  | false => rfl
  | true =>
    cases h' : lt b a with
    | false => rw [← S.tri a b h1 h', h] at h2; cases h2
    | true => rw [S.trans b a c h' h] at h2; cases h2

theorem lex_irrefl (S : StrictTotal lt) : ∀ a, lexBy lt a a = false
  | [] => rfl
  | x :: xs => by rw [lexBy, S.irrefl x, lex_irrefl S xs]; rfl

theorem lex_trans (S : StrictTotal lt) : ∀ a b c, lexBy lt a b = true → lexBy lt b c = true → lexBy lt a c = true
  | [], [], _, h, _ => by cases h
  | [], _ :: _, [], _, h => by cases h
  | [], _ :: _, _ :: _, _, _ => rfl
  | _ :: _, [], _, h, _ => by cases h
  | _ :: _, _ :: _, [], _, h => by cases h
  | x :: xs, y :: ys, z :: zs, h1, h2 => by
    rw [lexBy] at h1 h2 ⊢
    cases hxy : lt x y
    · cases hyx : lt y x
      · -- `x = y`: the comparison of `x` with `z` is that of `y` with `z`
        have e := S.tri x y hxy hyx
        subst e
        rw [hxy] at h1
        cases hxz : lt x z
        · cases hzx : lt z x
          · rw [hxz, hzx] at h2
            exact lex_trans S xs ys zs h1 h2
          · rw [hxz, hzx] at h2
            cases h2
        · rfl
      · rw [hxy, hyx] at h1
        cases h1
    · cases hyz : lt y z
      · cases hzy : lt z y
        · have e := S.tri y z hyz hzy
          subst e
          rw [hxy]
          rfl
        · rw [hyz, hzy] at h2
          cases h2
      · rw [S.trans x y z hxy hyz]
        rfl

theorem lex_total (S : StrictTotal lt) : ∀ a b, a ≠ b → lexBy lt a b = true ∨ lexBy lt b a = true
  | [], [], h => absurd rfl h
  | [], _ :: _, _ => Or.inl rfl
  | _ :: _, [], _ => Or.inr rfl
  | x :: xs, y :: ys, h => by
    rw [lexBy, lexBy]
    cases hxy : lt x y
    · cases hyx : lt y x
      · have e := S.tri x y hxy hyx
        subst e
        exact lex_total S xs ys (fun e => h (by rw [e]))
      · exact Or.inr rfl
    · exact Or.inl rfl

theorem lex (S : StrictTotal lt) : StrictTotal (lexBy lt) where
  irrefl := S.lex_irrefl
  trans := S.lex_trans
  tri a b h1 h2 := Classical.byContradiction fun hne => by
    rcases S.lex_total a b hne with h | h
    · rw [h] at h1; cases h1
    · rw [h] at h2; cases h2

theorem lex_asymm (S : StrictTotal lt) {a b : List α} (h : lexBy lt a b = true) : lexBy lt b a = false :=
  S.lex.asymm h

end StrictTotal

end Relic
