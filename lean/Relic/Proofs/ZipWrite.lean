/-
  Relic.Proofs.ZipWrite — from a readable input to the pieces of a rewritten archive: the measured member list of an
  input (`MeasuredL`; one member of it: `Measured`), the directory entries and bytes of the kept members and of the added
  ones.  That a kept member, re-emitted at another offset, is a well-formed member there is `Measured.kept` in
  Relic.Proofs.ZipRoundtrip.  (The model `Relic.Model.ZipWrite`, `rewriteWith`, is treated in Relic.Proofs.ZipMangle.)
-/
import Relic.Proofs.ZipAssemble
import Relic.Proofs.ZipAgree
import Relic.Proofs.ZipMeasured
namespace Relic.Zip
open Relic.SpecZip

/-- the central record a standard reader decodes for a kept member re-emitted at offset `o`: the original
    record if the member did not move (raw re-emission), the synthesised one otherwise -/
def keptEntry (e : Entry) (f' : File) (o : Nat) : Entry := if e.hoff = o then e else synthEntry f'

/-- … for the measured member `m` of the specification's member `sm` -/
abbrev keptE (sm : SpecZip.Member) (m : Member) (o : Nat) : Entry := keptEntry sm.entry (placed o m) o

/-- (kept?, the member as the specification sees it, the member as relic measures it).  The flag says whether a rewrite keeps
    the member; `MeasuredL` ignores it, `setKeep` and `setMask` (Relic.Proofs.ZipKept) overwrite it. -/
abbrev KM := Bool × SpecZip.Member × Member

/-- the members of the input, from record position `at_` on, each with relic's measurement -/
def MeasuredL (z : Bytes) (a : Archive) : Nat → List KM → Prop
  | _, [] => True
  | at_, (_, sm, m) :: r =>
    memberOf z a.ends.cdOff sm.entry = some sm ∧ entryAt z at_ a.ends.first = some sm.entry ∧
    getTotalSize (RA z) (fileOf z at_ sm.entry) = .ok (m, RA z) ∧
    (∃ l ddb, m.file = { fileOf z at_ sm.entry with lfh := some l, ddb := ddb }) ∧ m.dataOff = sm.dataOff ∧
    (sm.entry.flags % 16 / 8 ≠ 1 → sm.entry.hoff + m.total = sm.dataOff + sm.entry.csize) ∧
    (sm.entry.flags % 16 / 8 = 1 → ∃ w, w ∈ sm.descWidths ∧ (w = 16 ∨ w = 24) ∧
      sm.entry.hoff + m.total = sm.dataOff + sm.entry.csize + w ∧ trueWidth a sm = some w) ∧
    sm.entry.hoff + m.total ≤ a.ends.cdOff ∧
    MeasuredL z a (at_ + sm.entry.len) r

/-- a member of a readable input as relic measures it (the clause of `MeasuredL` for one member): `sm` is the
    specification's member for the record at `at_`, and `m` what `GetTotalSize` returns for it, ending where the data,
    or the descriptor of the true width, ends -/
structure Measured (z : Bytes) (a : Archive) (at_ : Nat) (sm : SpecZip.Member) (m : Member) : Prop where
  mo : memberOf z a.ends.cdOff sm.entry = some sm
  ent : entryAt z at_ a.ends.first = some sm.entry
  size : getTotalSize (RA z) (fileOf z at_ sm.entry) = .ok (m, RA z)
  file : ∃ l ddb, m.file = { fileOf z at_ sm.entry with lfh := some l, ddb := ddb }
  dataOff : m.dataOff = sm.dataOff
  plain : sm.entry.flags % 16 / 8 ≠ 1 → sm.entry.hoff + m.total = sm.dataOff + sm.entry.csize
  desc : sm.entry.flags % 16 / 8 = 1 → ∃ w, w ∈ sm.descWidths ∧ (w = 16 ∨ w = 24) ∧
    sm.entry.hoff + m.total = sm.dataOff + sm.entry.csize + w ∧ trueWidth a sm = some w
  le : sm.entry.hoff + m.total ≤ a.ends.cdOff

/-- the one bridge between `MeasuredL`, in which the statements are written, and `Measured`, whose fields the proofs
    use: every induction over a measured list opens with it -/
theorem MeasuredL_cons {z : Bytes} {a : Archive} {at_ : Nat} {k : Bool} {sm : SpecZip.Member} {m : Member} {r : List KM} :
    MeasuredL z a at_ ((k, sm, m) :: r) ↔ Measured z a at_ sm m ∧ MeasuredL z a (at_ + sm.entry.len) r :=
  ⟨fun ⟨h1, h2, h3, h4, h5, h6, h7, h8, h9⟩ => ⟨⟨h1, h2, h3, h4, h5, h6, h7, h8⟩, h9⟩,
   fun ⟨⟨h1, h2, h3, h4, h5, h6, h7, h8⟩, h9⟩ => ⟨h1, h2, h3, h4, h5, h6, h7, h8, h9⟩⟩

namespace Measured
variable {z : Bytes} {a : Archive} {at_ : Nat} {sm : SpecZip.Member} {m : Member}

theorem offset (M : Measured z a at_ sm m) : m.file.offset = sm.entry.hoff := by
  obtain ⟨l, ddb, h⟩ := M.file
  rw [h]; rfl

theorem extent_eq (M : Measured z a at_ sm m) : extent z m = (z.drop sm.entry.hoff).take m.total := by
  unfold extent; rw [M.offset]

theorem extent_length (M : Measured z a at_ sm m) (hcdz : a.ends.cdOff ≤ z.length) : (extent z m).length = m.total := by
  rw [M.extent_eq, List.length_take, List.length_drop]
  have := M.le
  omega

theorem data_le (M : Measured z a at_ sm m) : sm.dataOff + sm.entry.csize ≤ sm.entry.hoff + m.total := by
  by_cases hd : sm.entry.flags % 16 / 8 = 1
  · obtain ⟨w, -, -, hT, -⟩ := M.desc hd; omega
  · have := M.plain hd; omega

theorem memberRec (M : Measured z a at_ sm m) (hcdz : a.ends.cdOff ≤ z.length) :
    MemberRec (extent z m) sm.entry.name sm.entry.flags sm.entry.crc sm.entry.csize sm.entry.usize := by
  rw [M.extent_eq]
  exact memberRec_of_memberOf M.mo hcdz m.total M.plain fun hd => by
    obtain ⟨w, h1, h2, h3, -⟩ := M.desc hd; exact ⟨w, h1, h2, h3⟩

end Measured

/-- the members of a parsed archive can be measured, one directory record after the other (the kept flags are
    set afterwards: `setKeep`, `setMask`) -/
theorem measured_exists {z : Bytes} {a : Archive} (hp : parse z = some a) (h63 : z.length < 2 ^ 63)
    (hsigned : descSigned a = true) (hw : (a.members.all (widthOK a)) = true) :
    ∀ (sms : List SpecZip.Member) (count at_ : Nat), (∀ sm ∈ sms, sm ∈ a.members) →
      entries z count at_ a.ends.first = some (sms.map (·.entry)) →
      ∃ kms : List KM, MeasuredL z a at_ kms ∧ kms.map (·.2.1) = sms := by
  obtain ⟨-, -, -, hms, -⟩ := parse_some hp
  intro sms
  induction sms with
  | nil => intro count at_ _ _; exact ⟨[], trivial, rfl⟩
  | cons sm sms ih =>
    intro count at_ hmem hent
    cases count with
    | zero =>
      unfold entries at hent
      split at hent <;> cases hent
    | succ count =>
      unfold entries at hent
      simp only [Option.bind_eq_bind, Option.bind_eq_some_iff] at hent
      obtain ⟨e, he, es', hes, hh⟩ := hent
      simp only [List.map_cons, Option.some.injEq, List.cons.injEq] at hh
      obtain ⟨rfl, rfl⟩ := hh
      have hsm := hmem sm (List.mem_cons_self ..)
      obtain ⟨kms, hk1, hk2⟩ := ih count _ (fun x hx => hmem x (List.mem_cons_of_mem _ hx)) hes
      obtain ⟨m, l, ddb, hg, hfile, hdo, hT0, hT1⟩ := measured_member at_ hp h63 hsigned hw hsm
      have hmo := mapM_memberOf_mem _ _ hms sm hsm
      have hTle : sm.entry.hoff + m.total ≤ a.ends.cdOff := by
        obtain ⟨-, -, -, -, -, -, -, hdo', hdata, hdesc⟩ := memberOf_some hmo
        by_cases hd : sm.entry.flags % 16 / 8 = 1
        · obtain ⟨w, hw', -, hT, -⟩ := hT1 hd
          rw [if_pos hd] at hdesc
          rw [hdesc.1] at hw'
          obtain ⟨-, -, -, -, hlim, -⟩ := mem_descWidthsAt hw'
          omega
        · have := hT0 hd; omega
      exact ⟨(false, sm, m) :: kms, ⟨hmo, he, hg, ⟨l, ddb, hfile⟩, hdo, hT0, hT1, hTle, hk1⟩, by simp [hk2]⟩

/-- **a readable archive is read and measured**: `Read` returns the directory the specification parses, at the
    same offset, and its records are those of the measured members, in order. -/
theorem Readable.read_measured {z : Bytes} {a : Archive} (hr : Readable z a) :
    ∃ d kms, read ⟨z, false, 0⟩ = .ok d ∧ d.dirLoc = a.ends.cdOff ∧ a.ends.cdOff ≤ z.length ∧
      MeasuredL z a a.ends.cdOff kms ∧ kms.map (·.2.1) = a.members ∧
      d.files = filesOf z a.ends.cdOff (kms.map (·.2.1.entry)) := by
  obtain ⟨-, -, hes, -, -⟩ := parse_some hr.parsed
  obtain ⟨d, hd, hfiles, hloc, -⟩ := read_parsed hr.parsed hr.nocomment hr.len42 hr.len63 hr.fixed
  obtain ⟨kms, hM, hsm⟩ := measured_exists hr.parsed hr.len63 hr.signed hr.widths a.members _ _ (fun _ h => h) hes
  refine ⟨d, kms, hd, hloc, ?_, hM, hsm, ?_⟩
  · have := parse_dir_le hr.parsed; omega
  · rw [hfiles, ← hsm, List.map_map]; rfl

theorem MeasuredL_flags {z : Bytes} {a : Archive} (g : KM → Bool) : ∀ (kms : List KM) (at_ : Nat), MeasuredL z a at_ kms →
    MeasuredL z a at_ (kms.map fun q => (g q, q.2.1, q.2.2)) := by
  intro kms
  induction kms with
  | nil => intro _ _; trivial
  | cons q r ih =>
    intro at_ h
    obtain ⟨k, sm, m⟩ := q
    exact MeasuredL_cons.mpr ⟨(MeasuredL_cons.mp h).1, ih _ (MeasuredL_cons.mp h).2⟩

/-- members back to back, in relic's measure, from `pos` to `stop` -/
def contigK : Nat → List KM → Nat → Prop
  | pos, [], stop => pos = stop
  | pos, (_, _, m) :: r, stop => m.file.offset = pos ∧ contigK (pos + m.total) r stop

def keptBytesK (z : Bytes) : List KM → Bytes
  | [] => []
  | (k, _, m) :: r => (if k then extent z m else []) ++ keptBytesK z r

def keptLenK : List KM → Nat
  | [] => 0
  | (k, _, m) :: r => (if k then m.total else 0) + keptLenK r

/-- the directory entries `AddFile` makes for the kept members, running offset from `o`, each with the
    member it stands for -/
def keptPMs (z : Bytes) : List KM → Nat → List (File × PM)
  | [], _ => []
  | (k, sm, m) :: r, o =>
    if k then (placed o m, ⟨keptEntry sm.entry (placed o m) o, extent z m⟩) :: keptPMs z r (o + m.total)
    else keptPMs z r o

/-- the extra field of a kept member's central record after re-emission at offset `o` -/
def movedExtra (e : Entry) (o : Nat) : Bytes :=
  if e.hoff ≠ o ∧ (e.csize ≥ u32Max ∨ e.usize ≥ u32Max ∨ o ≥ u32Max) then z64Extra e.usize e.csize o ++ e.extra else e.extra

/-- the kept members as a standard reader sees them in the input, with the extra field they have after
    re-emission from running offset `o` -/
def keptViews (z : Bytes) : List KM → Nat → List View
  | [], _ => []
  | (k, sm, m) :: r, o =>
    if k then
      ⟨sm.entry.name, sm.entry.method, sm.entry.flags, sm.entry.crc, sm.entry.csize, sm.entry.usize, movedExtra sm.entry o,
        sm.entry.comment, (z.drop sm.dataOff).take sm.entry.csize⟩ :: keptViews z r (o + m.total)
    else keptViews z r o

theorem contigK_le : ∀ (kms : List KM) (pos stop : Nat), contigK pos kms stop → pos ≤ stop := by
  intro kms
  induction kms with
  | nil => intro pos stop h; simp [contigK] at h; omega
  | cons q r ih => intro pos stop h; obtain ⟨k, sm, m⟩ := q; have := ih _ _ h.2; omega

/-- what is assumed of a member handed to `NewFile` (everything the code silently truncates or a standard
    reader would refuse is excluded).  Not `ZipOwn.NewOk` (small k), the weaker conditions under which relic's own
    reader measures the member it wrote: those lack `extraWF`, `crc`, `dir`, `stored` and the 28 bytes of room in
    `extra`, and add the descriptor clause, whose counterpart on this side is `NewReadable` (Proofs/ZipRoundtrip). -/
structure NewOK (n : NewMember) : Prop where
  name : n.name.length < 2 ^ 16
  extra : n.extra.length + 28 < 2 ^ 16
  extraWF : extraWellFormed n.extra.length n.extra = true
  crc : n.crc < 2 ^ 32
  usize : n.usize < 2 ^ 64
  csize : n.compd.length < 2 ^ 64
  dir : n.name.getLast? = some 0x2f → n.usize = 0
  stored : n.deflate = false → n.usize = n.compd.length

/-- the directory entries `NewFile` makes, from offset `o`, each with the member it stands for -/
def newPMs (mt md : Nat) : List NewMember → Nat → List (File × PM)
  | [], _ => []
  | n :: ns, o => (newEntryAt mt md n o, ⟨synthEntry (newEntryAt mt md n o), newBytes mt md n⟩) ::
      newPMs mt md ns (o + (newBytes mt md n).length)

theorem newPMs_files (mt md : Nat) : ∀ (news : List NewMember) (o : Nat),
    (newPMs mt md news o).map (·.1) = (newEntries mt md news o).1 := by
  intro news
  induction news with
  | nil => intro _; rfl
  | cons n ns ih => intro o; simp [newPMs, newEntries, ih]

theorem new_pm (mt md : Nat) (n : NewMember) (o : Nat) (hn : NewOK n) (hmt : mt < 2 ^ 16) (hmd : md < 2 ^ 16) (ho : o < 2 ^ 64) :
    Emits (newEntryAt mt md n o) (synthEntry (newEntryAt mt md n o)) ∧ (synthEntry (newEntryAt mt md n o)).hoff = o ∧
    MemberRec (newBytes mt md n) (synthEntry (newEntryAt mt md n o)).name (synthEntry (newEntryAt mt md n o)).flags
      (synthEntry (newEntryAt mt md n o)).crc (synthEntry (newEntryAt mt md n o)).csize
      (synthEntry (newEntryAt mt md n o)).usize ∧
    EntryOK (synthEntry (newEntryAt mt md n o)) := by
  have hsx : synthExtra (newEntryAt mt md n o) =
      if synthBig (newEntryAt mt md n o) then z64Extra n.usize n.compd.length o ++ n.extra else n.extra := rfl
  have hfit : FileFits (newEntryAt mt md n o) := by
    refine ⟨by simp [newEntryAt], ?_, ?_, ?_, hmt, hmd, hn.crc, hn.name, ?_, by simp [newEntryAt], by simp [newEntryAt],
      by simp [newEntryAt], hn.csize, hn.usize, ho⟩
    · simp only [newEntryAt]; split <;> omega
    · simp only [newEntryAt]; split <;> omega
    · simp only [newEntryAt]; split <;> omega
    · rw [hsx]; have := hn.extra
      split
      · simp only [List.length_append, z64Extra_length]; omega
      · omega
  refine ⟨emits_synth rfl hfit, rfl, memberRec_newBytes mt md n hn.name (by have := hn.extra; omega), ?_⟩
  apply entryOK_new _ n rfl
  · show (if synthBig (newEntryAt mt md n o) then 45 else (if n.useDesc then 45 else 20)) ≤ 63
    split
    · omega
    · split <;> omega
  · rfl
  · simp only [synthEntry]; rw [hsx]; split
    · exact extraWellFormed_z64 _ _ _ _ hn.extraWF
    · exact hn.extraWF
  · rfl
  · rfl
  · rfl
  · exact hn.dir
  · exact hn.stored

end Relic.Zip
