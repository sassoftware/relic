/-
  From the sector model to the SPEC's reader functions on the bytes of the file: `Cfb.u32s?` on a sector that holds
  `encInts vals` gives back `vals`; `Spec.Cfb.walk` on the serialised FAT follows the model's chains;
  `Spec.Cfb.sectorBytes` is `getSec`.
-/
import Relic.Proofs.CfbBytesClose
import Relic.Spec.Cfb
namespace Relic.CfbB
open Relic.CfbW Relic.Cfb

theorem extract_sector {f : File} (hwf : WF f) {s : Nat} (hs : s < f.secs.length) :
    ((bytes f).toArray.extract (sectorOffset f.ss s) (sectorOffset f.ss s + f.ss)).toList = getSec f s := by
  simp only [Array.toList_extract, List.extract_eq_take_drop, Nat.add_sub_cancel_left, sectorOffset]
  exact sector_window hwf hs

theorem le32_eq (n : Nat) :
    le32 n = [UInt8.ofNat (n % 256), UInt8.ofNat (n / 256 % 256), UInt8.ofNat (n / 256 / 256 % 256),
              UInt8.ofNat (n / 256 / 256 / 256 % 256)] := by
  simp [le32, leBytes]

theorem u32?_of_le32 {b : Buf} {o n : Nat} (hn : n < 4294967296)
    (h : ∀ k, k < 4 → b.toList[o + k]? = (le32 n)[k]?) : u32? b o = some n := by
  have g : ∀ k, b[o + k]? = b.toList[o + k]? := fun k => by simp
  have h0 := h 0 (by omega); have h1 := h 1 (by omega); have h2 := h 2 (by omega); have h3 := h 3 (by omega)
  rw [le32_eq] at h0 h1 h2 h3
  simp only [Nat.add_zero, List.getElem?_cons_zero, List.getElem?_cons_succ] at h0 h1 h2 h3
  unfold u32? u16? u8?
  have e1 : o + 2 + 1 = o + 3 := by omega
  simp only [g, e1, h1, h2, h3, Option.map_some, Option.bind_eq_bind, Option.bind_some, Option.pure_def]
  have g0 : b[o]? = b.toList[o]? := by simp
  rw [g0, h0]
  simp only [Option.map_some, Option.bind_some, UInt8.toNat_ofNat', Nat.mod_mod]
  congr 1
  omega

theorem enc32_lt (i : Int) : enc32 i < 4294967296 := by
  unfold enc32
  have := Int.emod_lt_of_pos i (show (0 : Int) < 4294967296 by omega)
  have := Int.emod_nonneg i (show (4294967296 : Int) ≠ 0 by omega)
  omega

theorem u32s?_of_encInts {b : Buf} : ∀ (vals : List Int) (o : Nat),
    (∀ k, k < 4 * vals.length → b.toList[o + k]? = (encInts vals)[k]?) →
    u32s? b o vals.length = some (vals.map enc32) := by
  intro vals
  induction vals with
  | nil => intro o _; rfl
  | cons v rest ih =>
    intro o h
    have h4 : (le32 (enc32 v)).length = 4 := leBytes_length 4 _
    have hv : u32? b o = some (enc32 v) := by
      apply u32?_of_le32 (enc32_lt v)
      intro k hk
      rw [h k (by simp; omega)]
      simp only [encInts, List.flatMap_cons]
      rw [List.getElem?_append_left (by omega)]
    have hr := ih (o + 4) (by
      intro k hk
      have := h (4 + k) (by simp; omega)
      rw [show o + (4 + k) = o + 4 + k by omega] at this
      rw [this]
      simp only [encInts, List.flatMap_cons]
      rw [List.getElem?_append_right (by omega), h4]
      congr 1; omega)
    simp only [List.length_cons, u32s?, hv, hr, List.map_cons, Option.bind_eq_bind, Option.bind_some, Option.pure_def]

theorem sector_parses_back {f : File} (hwf : WF f) {s : Nat} (hs : s < f.secs.length) {vals : List Int}
    (hlen : vals.length = f.ss / 4) (hdiv : f.ss % 4 = 0) (hsec : getSec f s = pad f.ss (encInts vals)) :
    u32s? (bytes f).toArray (sectorOffset f.ss s) (f.ss / 4) = some (vals.map enc32) := by
  have hfull : (encInts vals).length = f.ss := by rw [encInts_length, hlen]; omega
  rw [pad_of_length hfull] at hsec
  rw [← hlen]
  apply u32s?_of_encInts
  intro k hk
  simp only [sectorOffset]
  have hk' : k < f.ss := by rw [hlen] at hk; omega
  have := bytes_getElem? hwf hs hk'
  show (bytes f)[(s + 1) * f.ss + k]? = _
  rw [this, hsec]

theorem enc32_EOC : enc32 EOC = ENDOFCHAIN := by decide

theorem enc32_nat {x : Nat} (h : x < 2147483648) : enc32 (x : Int) = x := by
  unfold enc32
  have : ((x : Int) % 4294967296) = (x : Int) := Int.emod_eq_of_lt (by omega) (by omega)
  rw [this]; simp

theorem walk_of_chain (sat : List Int) (limit : Nat) (what : String) (hlim : limit ≤ 2147483648) :
    ∀ (l : List Nat) (s : Int) (fuel : Nat) (acc : List Nat), IsChain sat s l → (∀ x ∈ l, x < limit) → l.length ≤ fuel →
      Relic.Spec.Cfb.walk (sat.map enc32).toArray limit what fuel (enc32 s) acc = .ok (acc.reverse ++ l) := by
  intro l
  induction l with
  | nil =>
    intro s fuel acc hc _ _
    simp only [IsChain] at hc
    subst hc
    unfold Relic.Spec.Cfb.walk
    simp [enc32_EOC, pure, Except.pure]
  | cons x l ih =>
    intro s fuel acc hc hb hf
    obtain ⟨h1, nx, h2, h3⟩ := hc
    subst h1
    have hx : x < limit := hb x List.mem_cons_self
    have hx31 : x < 2147483648 := by omega
    rw [enc32_nat hx31]
    cases fuel with
    | zero => simp at hf
    | succ fuel =>
      unfold Relic.Spec.Cfb.walk
      have n1 : ¬ x = ENDOFCHAIN := by simp [ENDOFCHAIN]; omega
      have n2 : ¬ x > MAXREGSECT := by simp [MAXREGSECT]; omega
      have n3 : ¬ x ≥ limit := by omega
      have hget : (sat.map enc32).toArray[x]? = some (enc32 nx) := by simp [h2]
      simp only [n1, n2, n3, if_false, hget]
      rw [ih nx fuel (x :: acc) h3 (fun y hy => hb y (List.mem_cons_of_mem _ hy)) (by simpa using hf)]
      simp

end Relic.CfbB
