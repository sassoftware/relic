/-
  The signer's output: a signing that succeeds as an equivalence, and the signed package seen through the verifier's lookups:
  closed forms of the fixed part names, where each name resolves in `kept ++ new parts`, the pieces `readSignature` and
  `checkRefs` go through on it (the whole evaluation of `readSignature` is `Relic.Props.C01.readSignature_signed`, which needs
  the soundness hypotheses stated there), which names the Manifest lists and in which order, the signer before against after
  the repairs.
-/
import Relic.Proofs.Vsix
namespace Relic.Vsix
open Relic.Xml Relic.XmlSig

/-- "_rels/.rels" -/
def sTopRels : Bytes := [0x5f, 0x72, 0x65, 0x6c, 0x73, 0x2f, 0x2e, 0x72, 0x65, 0x6c, 0x73]

/-- "package/services/digital-signature/_rels/origin.psdor.rels" -/
def sOriginRels : Bytes := [0x70, 0x61, 0x63, 0x6b, 0x61, 0x67, 0x65, 0x2f, 0x73, 0x65, 0x72, 0x76, 0x69, 0x63, 0x65, 0x73, 0x2f, 0x64, 0x69, 0x67, 0x69, 0x74, 0x61, 0x6c, 0x2d, 0x73, 0x69, 0x67, 0x6e, 0x61, 0x74, 0x75, 0x72, 0x65, 0x2f, 0x5f, 0x72, 0x65, 0x6c, 0x73, 0x2f, 0x6f, 0x72, 0x69, 0x67, 0x69, 0x6e, 0x2e, 0x70, 0x73, 0x64, 0x6f, 0x72, 0x2e, 0x72, 0x65, 0x6c, 0x73]

theorem relPath_nil : relPath [] = sTopRels := by decide
theorem relPath_origin : relPath sOrigin = sOriginRels := by decide
theorem origin_back : cleanRel (pathClean (47 :: sOrigin)) = sOrigin := by decide

/-- the parts `sign` appends to the kept members -/
def newsOf (E : Env) (c : Cfg) (obj : Node) (ct : CT) : Pkg :=
  fixedNews E c ++ certNews E c ++
    [⟨sigName c, E.xsign c.hash c.detach obj⟩, ⟨sContentTypes, E.marshalCT (sortMap ct.byExt) (sortMap ct.byOvr)⟩]

theorem sign_inv {fx : Bool} {E : Env} {c : Cfg} {pkg : Pkg} {s : Signed} (hs : sign fx E c pkg = .ok s) :
    ∃ m, mangle fx E pkg {} = .ok m ∧
      mkRefs fx m.ct (sortMap (addDigests m.digests (fixedNews E c))) = .ok s.refs ∧
      s.obj = objectNode E c.hash c.time s.refs ∧ s.kept = m.kept ∧ s.ctOut = newCtypes m.ct c.detach ∧
      s.parts = m.kept ++ newsOf E c s.obj s.ctOut := by
  simp only [sign, bindMangled, bindRefs, Res.bind_eq_ok, Res.ok.injEq] at hs
  obtain ⟨m, hm, refs, hr, rfl⟩ := hs
  exact ⟨m, hm, hr, rfl, rfl, rfl, by simp [newsOf]⟩

theorem sign_true_errs (E : Env) (c : Cfg) (pkg : Pkg) : Res.Errs (fun _ => True) (sign true E c pkg) := by
  simp only [sign, bindMangled, bindRefs]
  exact (mangle_errs true E pkg {}).bind fun m _ => (mkRefs_true_errs _ _).bind fun _ _ => trivial

theorem mem_newsOf {E : Env} {c : Cfg} {obj : Node} {ct : CT} {p : Part} : p ∈ newsOf E c obj ct ↔
    p ∈ fixedNews E c ∨ p ∈ certNews E c ∨ p = ⟨sigName c, E.xsign c.hash c.detach obj⟩ ∨
      p = ⟨sContentTypes, E.marshalCT (sortMap ct.byExt) (sortMap ct.byOvr)⟩ := by
  simp only [newsOf, List.mem_append, List.mem_cons, List.not_mem_nil, or_false, or_assoc]

theorem mem_certNews {E : Env} {c : Cfg} (hd : c.detach = true) {p : Part} : p ∈ certNews E c ↔
    (∃ x ∈ c.chain, ⟨certPath x.1, x.2⟩ = p) ∨ p = ⟨relPath (sigName c), marshalRels (certRels E c.chain [])⟩ := by
  simp only [certNews, hd, if_true, List.mem_append, List.mem_map, List.mem_singleton]

theorem fixedNews_names (E : Env) (c : Cfg) : (fixedNews E c).map (·.name) = [relPath [], relPath sOrigin, sOrigin] := rfl

theorem newsOf_names (E : Env) (c : Cfg) (obj : Node) (ct : CT) : (newsOf E c obj ct).map (·.name) = newNames c := by
  unfold newsOf newNames fixedNews certNews
  cases c.detach <;> simp [Function.comp_def]

/-- A signing succeeds iff the content types parts parse, (repaired signer) no kept name occurs twice, and the reference
    loop over the sorted digested names — kept members and the three digested new parts — succeeds; the result is then
    determined.  The signer before and after the repairs differ only in the second condition and inside `mkRefs`. -/
theorem sign_eq_ok {fx : Bool} {E : Env} {c : Cfg} {pkg : Pkg} {s : Signed} : sign fx E c pkg = .ok s ↔
    ∃ ct, ctPass E pkg {} = some ct ∧ (fx = true → ((keptOf pkg).map (·.name)).Nodup) ∧
      mkRefs fx ct (digested E c pkg) = .ok s.refs ∧
      s.kept = keptOf pkg ∧ s.obj = objectNode E c.hash c.time s.refs ∧ s.ctOut = newCtypes ct c.detach ∧
      s.parts = keptOf pkg ++ newsOf E c s.obj s.ctOut := by
  constructor
  · intro hs
    obtain ⟨m, hm, hrefs, hobj, hkept, hct, hparts⟩ := sign_inv hs
    obtain ⟨hk, hdig, hcp, hfr⟩ := (mangle_eq_ok fx E pkg {} m).mp hm
    rw [show ({} : Mangled).kept ++ keptOf pkg = keptOf pkg from List.nil_append _] at hk
    exact ⟨m.ct, hcp, fun h => (fresh_nil_iff _).mp (hfr h), by rw [digested, ← hdig]; exact hrefs, hkept.trans hk, hobj, hct,
      hk ▸ hparts⟩
  · rintro ⟨ct, hcp, hfr, hrefs, hkept, hobj, hct, hparts⟩
    have hm : mangle fx E pkg {} = .ok ⟨keptOf pkg, (keptOf pkg).foldl (fun d p => mset d p.name p.data) [], ct⟩ :=
      (mangle_eq_ok fx E pkg {} _).mpr ⟨rfl, rfl, hcp, fun h => (fresh_nil_iff _).mpr (hfr h)⟩
    obtain ⟨parts, kept, refs, obj, ctOut⟩ := s
    simp only at hrefs hkept hobj hct hparts
    subst hkept hobj hct hparts
    unfold sign
    unfold digested at hrefs
    simp only [hm, hrefs, newsOf, List.append_assoc]

/-- the signed package: the members `keepFile` accepts, in order, then the signer's parts; the Object built over the
    references; the references pair the sorted names of the kept members (last member of a name) and of the three
    digested new parts with the bytes digested -/
theorem sign_shape {fx : Bool} {E : Env} {c : Cfg} {pkg : Pkg} {s : Signed} (hs : sign fx E c pkg = .ok s) :
    s.kept = keptOf pkg ∧ s.parts = keptOf pkg ++ newsOf E c s.obj s.ctOut ∧ s.obj = objectNode E c.hash c.time s.refs ∧
    s.refs.map (fun r => (r.name, r.stream)) = digested E c pkg :=
  let ⟨_, _, _, hrefs, hk, hobj, _, hparts⟩ := sign_eq_ok.mp hs
  ⟨hk, hparts, hobj, mkRefs_pairs _ _ _ _ hrefs⟩

/-- `cfgOk c` as propositions (`cfgFacts_of_cfgOk`): the signer's own part names are not payload names, are pairwise different,
    and are what the verifier computes back from the relationship targets -/
structure CfgFacts (c : Cfg) : Prop where
  notKept : ∀ n ∈ newNames c, keepFile n = false
  nodup : (newNames c).Nodup
  sigRelsNotKept : keepFile (relPath (sigName c)) = false
  sigRelsAbsent : c.detach = false → relPath (sigName c) ∉ newNames c
  sigBack : cleanRel (pathClean (47 :: sigName c)) = sigName c
  certBack : ∀ x ∈ c.chain, cleanRel (pathClean (47 :: certPath x.1)) = certPath x.1

theorem cfgFacts_of_cfgOk {c : Cfg} (h : cfgOk c = true) : CfgFacts c := by
  simp only [cfgOk, targetBack, Bool.and_eq_true, List.all_eq_true, Bool.not_eq_true', decide_eq_true_eq, Bool.or_eq_true,
    List.contains_eq_mem] at h
  obtain ⟨⟨⟨⟨⟨h1, h2⟩, h3⟩, h4⟩, h5⟩, h6⟩ := h
  refine ⟨h1, h2, h3, ?_, h5, h6⟩
  intro hd
  rcases h4 with h4 | h4
  · rw [hd] at h4; cases h4
  · simpa using h4

theorem keptOf_keep {pkg : Pkg} {p : Part} (h : p ∈ keptOf pkg) : keepFile p.name = true := by
  simp only [keptOf, List.mem_filter] at h
  exact h.2

/-- (here and in `look_new` name and data are separate arguments, so that a use at a concrete part matches the name as
    written, without computing `p.name` through the path functions) -/
theorem CfgFacts.notKept_news {c : Cfg} (F : CfgFacts c) {E : Env} {obj : Node} {ct : CT} {n d : Bytes}
    (hp : ⟨n, d⟩ ∈ newsOf E c obj ct) : keepFile n = false :=
  F.notKept _ (newsOf_names E c obj ct ▸ List.mem_map_of_mem (f := (·.name)) hp)

theorem keptOf_newsOf {c : Cfg} (F : CfgFacts c) (E : Env) (obj : Node) (ct : CT) : keptOf (newsOf E c obj ct) = [] :=
  List.filter_eq_nil_iff.mpr fun p hp => by simp [F.notKept_news (n := p.name) (d := p.data) hp]

theorem keptOf_signed {c : Cfg} (F : CfgFacts c) (E : Env) (pkg : Pkg) (obj : Node) (ct : CT) :
    keptOf (keptOf pkg ++ newsOf E c obj ct) = keptOf pkg := by
  have h1 : keptOf (keptOf pkg) = keptOf pkg := List.filter_eq_self.mpr fun p hp => keptOf_keep hp
  have h2 := keptOf_newsOf F E obj ct
  unfold keptOf at h1 h2 ⊢
  rw [List.filter_append, h1, h2, List.append_nil]

theorem look_new {c : Cfg} (F : CfgFacts c) {E : Env} {obj : Node} {ct : CT} (kept : Pkg) {n d : Bytes}
    (hp : ⟨n, d⟩ ∈ newsOf E c obj ct) : findLast (kept ++ newsOf E c obj ct) n = some ⟨n, d⟩ := by
  rw [findLast_append, findLast_of_nodup (by rw [newsOf_names]; exact F.nodup) hp]

theorem look_kept {c : Cfg} (F : CfgFacts c) {E : Env} {obj : Node} {ct : CT} (kept : Pkg) {n : Bytes}
    (hn : keepFile n = true) : findLast (kept ++ newsOf E c obj ct) n = findLast kept n := by
  rw [findLast_append, findLast_none]
  intro p hp hpn
  have := F.notKept_news (n := p.name) (d := p.data) hp
  rw [hpn, hn] at this
  cases this

theorem look_absent {c : Cfg} {E : Env} {obj : Node} {ct : CT} {pkg : Pkg} {n : Bytes}
    (hk : keepFile n = false) (hn : n ∉ newNames c) : findLast (keptOf pkg ++ newsOf E c obj ct) n = none := by
  apply findLast_none
  intro p hp hpn
  rcases List.mem_append.mp hp with h | h
  · have := keptOf_keep h
    rw [hpn, hk] at this
    cases this
  · exact hn (by rw [← newsOf_names E c obj ct, ← hpn]; exact List.mem_map_of_mem h)

section files
variable {c : Cfg} (F : CfgFacts c) (E : Env) (obj : Node) (ct : CT) (kept : Pkg)
include F

theorem files_top : findLast (kept ++ newsOf E c obj ct) (relPath []) =
    some ⟨relPath [], marshalRels (appendRel E [] sOrigin sigOriginType)⟩ :=
  look_new F _ (mem_newsOf.mpr (.inl List.mem_cons_self))

theorem files_originRels : findLast (kept ++ newsOf E c obj ct) (relPath sOrigin) =
    some ⟨relPath sOrigin, marshalRels (appendRel E [] (sigName c) sigType)⟩ :=
  look_new F _ (mem_newsOf.mpr (.inl (List.mem_cons_of_mem _ List.mem_cons_self)))

theorem files_origin : findLast (kept ++ newsOf E c obj ct) sOrigin = some ⟨sOrigin, []⟩ :=
  look_new F _ (mem_newsOf.mpr (.inl (List.mem_cons_of_mem _ (List.mem_cons_of_mem _ List.mem_cons_self))))

theorem files_sig : findLast (kept ++ newsOf E c obj ct) (sigName c) = some ⟨sigName c, E.xsign c.hash c.detach obj⟩ :=
  look_new F _ (mem_newsOf.mpr (.inr (.inr (.inl rfl))))

theorem files_sigRels (hd : c.detach = true) : findLast (kept ++ newsOf E c obj ct) (relPath (sigName c)) =
    some ⟨relPath (sigName c), marshalRels (certRels E c.chain [])⟩ :=
  look_new F _ (mem_newsOf.mpr (.inr (.inl ((mem_certNews hd).mpr (.inr rfl)))))

theorem files_cert (hd : c.detach = true) {x : Bytes × Bytes} (hx : x ∈ c.chain) :
    findLast (kept ++ newsOf E c obj ct) (certPath x.1) = some ⟨certPath x.1, x.2⟩ :=
  look_new F _ (mem_newsOf.mpr (.inr (.inl ((mem_certNews hd).mpr (.inl ⟨x, hx, rfl⟩)))))

end files

theorem find_origin (E : Env) : relsFind (appendRel E [] sOrigin sigOriginType) sigOriginType = some sOrigin := by
  simp [relsFind, appendRel, origin_back]

theorem find_sig {c : Cfg} (F : CfgFacts c) (E : Env) : relsFind (appendRel E [] (sigName c) sigType) sigType = some (sigName c) := by
  simp [relsFind, appendRel, F.sigBack]

theorem checkRefs_written (E : Env) (files : Files) (h : HashId) (hd : ∀ s, E.digestCmp h s (E.dtext h s) = .ok) :
    ∀ refs : List Ref, (∀ r ∈ refs, uriPath r.uri = r.name ∧ files r.name = some ⟨r.name, r.stream⟩) →
      checkRefs E files (refs.map (refInfoOf E h)) = .ok (refs.map fun r => (r.name, r.stream)) := by
  intro refs
  induction refs with
  | nil => intro _; rfl
  | cons r rs ih =>
    intro hall
    obtain ⟨h1, h2⟩ := hall r List.mem_cons_self
    have ih' := ih (fun x hx => hall x (List.mem_cons_of_mem _ hx))
    simp only [List.map_cons, checkRefs, refInfoOf, h1, h2, hashOfName_hashUri, hd]
    rw [ih']

def CertRel (x : Bytes × Bytes) (r : Rel) : Prop := r.target = pathClean (47 :: certPath x.1) ∧ r.type = certType

inductive CertRels : List (Bytes × Bytes) → List Rel → Prop where
  | nil : CertRels [] []
  | cons {x : Bytes × Bytes} {r : Rel} {xs : List (Bytes × Bytes)} {tail : List Rel} :
      CertRel x r → CertRels xs tail → CertRels (x :: xs) (r :: tail)

theorem certRels_append (E : Env) : ∀ (xs : List (Bytes × Bytes)) (rs : List Rel),
    ∃ tail, certRels E xs rs = rs ++ tail ∧ CertRels xs tail := by
  intro xs
  induction xs with
  | nil => intro rs; exact ⟨[], by simp [certRels], CertRels.nil⟩
  | cons x xs ih =>
    intro rs
    obtain ⟨tail, h1, h2⟩ := ih (appendRel E rs (certPath x.1) certType)
    refine ⟨⟨pathClean (47 :: certPath x.1), E.relId rs (certPath x.1) certType, certType⟩ :: tail, ?_,
      CertRels.cons ⟨rfl, rfl⟩ h2⟩
    rw [certRels, h1]
    simp [appendRel]

/-- public keys of the detached certificates, in chain order -/
def chainKeys (E : Env) (chain : List (Bytes × Bytes)) : List Bytes := chain.flatMap fun x => (E.parseCerts x.2).getD []

theorem readCerts_chain (E : Env) (files : Files) : ∀ (xs : List (Bytes × Bytes)) (tail : List Rel), CertRels xs tail →
    (∀ x ∈ xs, files (certPath x.1) = some ⟨certPath x.1, x.2⟩ ∧ cleanRel (pathClean (47 :: certPath x.1)) = certPath x.1 ∧
      ∃ ks, E.parseCerts x.2 = some ks) →
    readCerts E files tail = .ok (chainKeys E xs) := by
  intro xs tail hf
  induction hf with
  | nil => intro _; rfl
  | @cons x r xs tail hr _ ih =>
    intro hall
    obtain ⟨h1, h2, ks, h3⟩ := hall x List.mem_cons_self
    have ih' := ih (fun y hy => hall y (List.mem_cons_of_mem _ hy))
    simp only [readCerts, hr.2, ne_eq, not_true_eq_false, if_false, hr.1, h2, readZip, h1, h3, ih', chainKeys, List.flatMap_cons,
      Option.getD_some]

theorem refs_names_iff {fx : Bool} {E : Env} {c : Cfg} {pkg : Pkg} {s : Signed} (hs : sign fx E c pkg = .ok s) (n : Bytes) :
    n ∈ s.refs.map (·.name) ↔
      (∃ p ∈ pkg, p.name = n ∧ keepFile n = true) ∨ n = relPath [] ∨ n = relPath sOrigin ∨ n = sOrigin := by
  obtain ⟨-, -, -, hpairs⟩ := sign_shape hs
  have e1 : n ∈ s.refs.map (·.name) ↔ n ∈ (keptOf pkg ++ fixedNews E c).map (·.name) := by
    have : s.refs.map (·.name) = (s.refs.map fun r => (r.name, r.stream)).map (·.1) := by
      rw [List.map_map]; rfl
    rw [this, hpairs, mem_names_iff]
    simp only [List.mem_map, Prod.exists, exists_and_right, exists_eq_right, mem_digested]
    constructor
    · rintro ⟨st, h⟩; rw [h]; exact Option.some_ne_none _
    · intro h
      cases hf : findLast (keptOf pkg ++ fixedNews E c) n with
      | none => exact absurd hf h
      | some p => exact ⟨p.data, by rw [← (findLast_some hf).2]⟩
  rw [e1, List.map_append, List.mem_append]
  simp only [keptOf, List.mem_map, List.mem_filter, fixedNews, List.mem_cons, List.not_mem_nil, or_false]
  constructor
  · rintro (⟨p, ⟨hp, hk⟩, rfl⟩ | ⟨p, rfl | rfl | rfl, rfl⟩)
    · exact .inl ⟨p, hp, rfl, hk⟩
    · exact .inr (.inl rfl)
    · exact .inr (.inr (.inl rfl))
    · exact .inr (.inr (.inr rfl))
  · rintro (⟨p, hp, rfl, hk⟩ | rfl | rfl | rfl)
    · exact .inl ⟨p, ⟨hp, hk⟩, rfl⟩
    · exact .inr ⟨_, .inl rfl, rfl⟩
    · exact .inr ⟨_, .inr (.inl rfl), rfl⟩
    · exact .inr ⟨_, .inr (.inr rfl), rfl⟩

theorem refs_found {fx : Bool} {E : Env} {c : Cfg} {pkg : Pkg} {s : Signed} (F : CfgFacts c) (hs : sign fx E c pkg = .ok s) :
    ∀ r ∈ s.refs, findLast s.parts r.name = some ⟨r.name, r.stream⟩ := by
  obtain ⟨-, hparts, -, hpairs⟩ := sign_shape hs
  intro r hr
  have hmem := List.mem_map_of_mem (f := fun r => (r.name, r.stream)) hr
  rw [hpairs, mem_digested, findLast_append] at hmem
  rw [hparts]
  cases hq : findLast (fixedNews E c) r.name with
  | some q =>
    rw [hq] at hmem
    simp only [Option.some.injEq] at hmem
    subst hmem
    have := (findLast_some hq).1
    exact look_new F _ (mem_newsOf.mpr (.inl this))
  | none =>
    rw [hq] at hmem
    simp only at hmem
    have hkeep : keepFile r.name = true := by
      have := (findLast_some hmem).1
      exact keptOf_keep this
    rw [look_kept F _ hkeep, hmem]

theorem refs_sorted {fx : Bool} {E : Env} {c : Cfg} {pkg : Pkg} {s : Vsix.Signed} (hs : Vsix.sign fx E c pkg = .ok s) :
    (s.refs.map (·.name)).Pairwise (fun a b => bytesLt a b = true) := by
  obtain ⟨-, -, -, hpairs⟩ := sign_shape hs
  have := digested_sorted E c pkg
  rw [← hpairs] at this
  simpa [KSorted, keys, Function.comp_def] using this

theorem sign_true_refsOk_nodup {E : Env} {c : Cfg} {pkg : Pkg} {s : Signed} (hs : sign true E c pkg = .ok s) :
    refsOk s.refs = true ∧ ((keptOf pkg).map (·.name)).Nodup :=
  let ⟨_, _, hfr, hrefs, _⟩ := sign_eq_ok.mp hs
  ⟨mkRefs_refsOk _ _ _ hrefs, hfr rfl⟩

/-- where the signer before the repairs succeeded on an input without two kept members of one name, the repaired one returns the
    same result, or — exactly when `refsOk` fails — refuses a name the verifier would not find again -/
theorem sign_true_of_false {E : Env} {c : Cfg} {pkg : Pkg} {s : Signed} (hs : sign false E c pkg = .ok s)
    (hnd : ((keptOf pkg).map (·.name)).Nodup) :
    (refsOk s.refs = true → sign true E c pkg = .ok s) ∧ (refsOk s.refs = false → sign true E c pkg = .err "unreferencable") := by
  obtain ⟨ct, hcp, -, hrefs, rest⟩ := sign_eq_ok.mp hs
  obtain ⟨h1, h2⟩ := mkRefs_true_of_false _ _ _ hrefs
  refine ⟨fun hok => sign_eq_ok.mpr ⟨ct, hcp, fun _ => hnd, h1 hok, rest⟩, fun hbad => ?_⟩
  have hm : mangle true E pkg {} = .ok ⟨keptOf pkg, (keptOf pkg).foldl (fun d p => mset d p.name p.data) [], ct⟩ :=
    (mangle_eq_ok true E pkg {} _).mpr ⟨rfl, rfl, hcp, fun _ => (fresh_nil_iff _).mpr hnd⟩
  have hb := h2 hbad
  unfold digested at hb
  unfold sign
  simp only [hm, hb]

end Relic.Vsix
