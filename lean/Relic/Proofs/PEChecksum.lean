/- the streaming PE checksum (`Relic.Model.PEChecksum`): an even-sized write followed by more data is one write of the
   concatenation; the word loop against the declarative checksum of `Relic.Spec.PEChecksum`; what a successful `FixPEChecksum`
   has checked and returns -/
import Relic.Model.PEChecksum
import Relic.Spec.PEChecksum
import Relic.Proofs.Res
namespace Relic.PEChecksum

/-- induction over a byte string two bytes at a time, as `loop` and `words16` consume it -/
theorem pairInduction {motive : Bytes → Prop} (nil : motive []) (one : ∀ x, motive [x])
    (step : ∀ a b l, motive l → motive (a :: b :: l)) : ∀ l, motive l
  | [] => nil
  | [x] => one x
  | a :: b :: l => step a b l (pairInduction nil one step l)

theorem loop_append (ck : Option Nat) (w r : Bytes) (i sum : Nat) (hw : w.length % 2 = 0) :
    loop ck i sum (w ++ r) = loop ck (i + w.length) (loop ck i sum w) r := by
  induction w using pairInduction generalizing i sum with
  | nil => simp [loop]
  | one x => simp at hw
  | step x y w ih =>
    simp only [List.length_cons] at hw
    simp only [List.cons_append, loop, List.length_cons]
    rw [ih _ _ (by omega)]
    congr 1
    omega

theorem loop_none_idx (i j sum : Nat) (l : Bytes) : loop none i sum l = loop none j sum l := by
  induction l using pairInduction generalizing i j sum with
  | nil => simp [loop]
  | one _ => simp [loop]
  | step x y l ih =>
    simp only [loop, Option.map_none, reduceCtorEq, or_self, if_false]
    exact ih (i + 2) (j + 2) _

theorem loop_skip (p i sum : Nat) (l : Bytes)
    (hx : ∀ x, i ≤ x → x < i + l.length → x % 2 = i % 2 → x ≠ p ∧ x ≠ p + 2) :
    loop (some p) i sum l = loop none i sum l := by
  induction l using pairInduction generalizing i sum with
  | nil => simp [loop]
  | one x => simp [loop]
  | step x y l ih =>
    have hi := hx i (Nat.le_refl _) (by simp) rfl
    have c1 : ¬ (p = i ∨ p + 2 = i) := by omega
    simp only [loop, Option.map_some, Option.some.injEq, c1, Option.map_none, reduceCtorEq, or_self, if_false]
    apply ih (i + 2)
    intro x h1 h2 h3
    exact hx x (by omega) (by simp only [List.length_cons]; omega) (by omega)

/-- the code after fix F20: no condition on `r` or on where the checksum field lies -/
theorem write_append (s : St) (w r : Bytes) (ho : s.odd = false) (hw : w.length % 2 = 0) :
    (write s w).bind (fun s1 => write s1 r) = write s (w ++ r) := by
  have padw : (if w.length % 2 ≠ 0 then w ++ [0] else w) = w := by simp [hw]
  unfold write
  simp only [ho, Bool.false_eq_true, if_false, Res.bind, padw]
  have hdec : decide (w.length % 2 ≠ 0) = false := by simp [hw]
  simp only [hdec, Bool.false_eq_true, if_false]
  have hpar : (w ++ r).length % 2 = r.length % 2 := by simp; omega
  have pad : (if r.length % 2 ≠ 0 then (w ++ r) ++ [0] else w ++ r) = w ++ (if r.length % 2 ≠ 0 then r ++ [0] else r) := by
    split <;> simp
  have hsize : ((s.size + w.length) % 4294967296 + r.length) % 4294967296
      = (s.size + (w ++ r).length) % 4294967296 := by simp; omega
  have hpos : s.pos + w.length + r.length = s.pos + (w ++ r).length := by simp; omega
  rw [hpar, pad, hsize, hpos, loop_append s.cksumPos w _ s.pos s.sum hw]

theorem write_ok (s : St) (d : Bytes) (ho : s.odd = false) :
    ∃ s1, write s d = .ok s1 ∧ s1.odd = decide (d.length % 2 ≠ 0) := by
  unfold write
  simp only [ho, Bool.false_eq_true, if_false]
  exact ⟨_, rfl, rfl⟩

theorem new_pos (peStart : Nat) (h : peStart ≠ 0) : new (peStart : Int) = ⟨some (peStart + 88), 0, 0, 0, false⟩ := by
  simp [new, h]

theorem fixPE_ok {file : Bytes} {pos v : Nat} (h : fixPE file = .ok (pos, v)) :
    64 ≤ file.length ∧ file.take 2 = [0x4d, 0x5a] ∧ pos = leVal ((file.drop 0x3c).take 4) + 88 ∧
      ∃ s, write (new (leVal ((file.drop 0x3c).take 4) : Nat)) file = .ok s ∧ v = sumVal s := by
  unfold fixPE at h
  simp only [Res.errGuard_eq_ok] at h
  obtain ⟨c1, c2, h⟩ := h
  obtain ⟨s, hs, _⟩ := write_ok (new (leVal ((file.drop 0x3c).take 4) : Nat)) file rfl
  rw [hs] at h
  cases h
  exact ⟨by omega, Decidable.not_not.mp c2, rfl, s, hs, rfl⟩

theorem writes_append_last (s : St) (ws : List Bytes) (last : Bytes) (ho : s.odd = false)
    (hev : ∀ w ∈ ws, w.length % 2 = 0) :
    writes s (ws ++ [last]) = write s (ws.flatten ++ last) := by
  induction ws generalizing s with
  | nil =>
    simp only [List.nil_append, writes, List.flatten_nil]
    cases write s last <;> rfl
  | cons w ws ih =>
    have hw : w.length % 2 = 0 := hev w (by simp)
    have key := write_append s w (ws.flatten ++ last) ho hw
    simp only [List.cons_append, writes, List.flatten_cons, List.append_assoc]
    rw [← key]
    obtain ⟨s1, h1, hodd⟩ := write_ok s w ho
    rw [h1]
    simp only [Res.bind]
    apply ih s1 (by rw [hodd]; simp [hw]) (fun x hx => hev x (by simp [hx]))

open Relic.Spec

theorem fold1_eq_eac (s v : Nat) (hs : s < 65536) (hv : v < 65536) :
    fold1 s v = eac (s + v) ∧ fold1 s v < 65536 := by
  simp only [fold1, eac]
  constructor <;> omega

theorem word_lt (a b : UInt8) : a.toNat + 256 * b.toNat < 65536 := by
  have := a.toNat_lt
  have := b.toNat_lt
  omega

theorem loop_none_spec (i s : Nat) (l : Bytes) (hl : l.length % 2 = 0) (hs : s < 65536) :
    loop none i s l = (words16 l).foldl (fun acc w => eac (acc + w)) s := by
  induction l using pairInduction generalizing i s with
  | nil => simp [loop, words16]
  | one x => simp at hl
  | step x y l ih =>
    simp only [List.length_cons] at hl
    have hw := word_lt x y
    obtain ⟨f1, f2⟩ := fold1_eq_eac s (y.toNat * 256 + x.toNat) hs (by omega)
    simp only [loop, words16, List.foldl_cons, Option.map_none, reduceCtorEq, or_self, if_false]
    rw [ih (i + 2) _ (by omega) f2, f1]
    congr 2
    omega

/-- at an even offset, with the field at an even offset, the loop's test `i == ckpos || i == ckpos+2` zeroes a word
    exactly when the specification zeroes both of its bytes -/
theorem word_zeroed (P i : Nat) (x y : UInt8) (hP : P % 2 = 0) (hi : i % 2 = 0) :
    (if P = i ∨ P + 2 = i then 0 else y.toNat * 256 + x.toNat) =
      (if P ≤ i ∧ i < P + 4 then (0 : UInt8) else x).toNat +
        256 * (if P ≤ i + 1 ∧ i + 1 < P + 4 then (0 : UInt8) else y).toNat := by
  by_cases hz : P = i ∨ P + 2 = i
  · rw [if_pos hz, if_pos (by omega), if_pos (by omega)]
    rfl
  · rw [if_neg hz, if_neg (by omega), if_neg (by omega), Nat.add_comm, Nat.mul_comm]

theorem loop_spec_even (P i s : Nat) (l : Bytes) (hP : P % 2 = 0) (hi : i % 2 = 0)
    (hl : l.length % 2 = 0) (hs : s < 65536) :
    loop (some P) i s l = (words16 (zeroField P i l)).foldl (fun acc w => eac (acc + w)) s := by
  induction l using pairInduction generalizing i s with
  | nil => simp [loop, words16, zeroField]
  | one x => simp at hl
  | step x y l ih =>
    simp only [List.length_cons] at hl
    simp only [loop, zeroField, words16, List.foldl_cons, Option.map_some, Option.some.injEq, word_zeroed P i x y hP hi]
    have hw := word_lt (if P ≤ i ∧ i < P + 4 then 0 else x) (if P ≤ i + 1 ∧ i + 1 < P + 4 then 0 else y)
    obtain ⟨f1, f2⟩ := fold1_eq_eac s _ hs hw
    rw [ih (i + 2) _ (by omega) (by omega) f2, f1]

theorem zeroField_append (P i : Nat) (x y : Bytes) :
    zeroField P i (x ++ y) = zeroField P i x ++ zeroField P (i + x.length) y := by
  induction x generalizing i with
  | nil => simp [zeroField]
  | cons a x ih =>
    simp only [List.cons_append, zeroField, ih, List.length_cons]
    congr 3; omega

theorem zeroField_length (P i : Nat) (x : Bytes) : (zeroField P i x).length = x.length := by
  induction x generalizing i with
  | nil => simp [zeroField]
  | cons a x ih => simp [zeroField, ih]

theorem words16_pad (x : Bytes) (hx : x.length % 2 = 1) : words16 (x ++ [0]) = words16 x := by
  induction x using pairInduction with
  | nil => simp at hx
  | one a => simp [words16]
  | step a b x ih =>
    simp only [List.length_cons] at hx
    simp only [List.cons_append, words16]
    rw [ih (by omega)]

theorem zeroField_pad (P i : Nat) (x : Bytes) : zeroField P i (x ++ [0]) = zeroField P i x ++ [0] := by
  rw [zeroField_append]
  simp [zeroField]

theorem wordSum_bound (ws : List Nat) (s : Nat) (hs : s < 65536) (hw : ∀ w ∈ ws, w < 65536) :
    ws.foldl (fun acc w => eac (acc + w)) s < 65536 := by
  induction ws generalizing s with
  | nil => simpa using hs
  | cons w ws ih =>
    simp only [List.foldl_cons]
    apply ih
    · have := hw w (by simp)
      unfold eac; omega
    · intro x hx; exact hw x (by simp [hx])

theorem words16_lt (l : Bytes) : ∀ w ∈ words16 l, w < 65536 := by
  induction l using pairInduction with
  | nil => simp [words16]
  | one a =>
    intro w hw
    simp only [words16, List.mem_singleton] at hw
    have := a.toNat_lt
    omega
  | step a b l ih =>
    intro w hw
    simp only [words16, List.mem_cons] at hw
    rcases hw with rfl | hw
    · exact word_lt a b
    · exact ih w hw

theorem words_of_padded (f : Bytes → Bytes) (d : Bytes)
    (hf : ∀ x, f (x ++ [0]) = f x ++ [0]) (hlen : ∀ x, (f x).length = x.length) :
    words16 (f (if d.length % 2 ≠ 0 then d ++ [0] else d)) = words16 (f d) := by
  split
  · next h => rw [hf, words16_pad _ (by rw [hlen]; omega)]
  · rfl

theorem padded_even (d : Bytes) : (if d.length % 2 ≠ 0 then d ++ [0] else d).length % 2 = 0 := by
  split <;> (try simp only [List.length_append, List.length_cons, List.length_nil]) <;> omega

/-- `Sum` of a fresh state after one write of `n` bytes whose folded word sum is `S`: a sum below 2^16 is its own
    final fold -/
theorem sum_final (S n : Nat) (hS : S < 65536) :
    ((S + S / 65536) % 4294967296 % 65536 + (0 + n) % 4294967296) % 4294967296 = (eac S + n) % 4294967296 := by
  simp only [eac]
  omega

theorem oneshot_even (P : Nat) (file : Bytes) (hP : P % 2 = 0) :
    ∃ s, write ⟨some P, 0, 0, 0, false⟩ file = .ok s ∧ sumVal s = peChecksum file P := by
  refine ⟨_, rfl, ?_⟩
  simp only [sumVal, peChecksum, wordSum]
  rw [loop_spec_even P 0 0 _ hP rfl (padded_even file) (by omega),
    words_of_padded (zeroField P 0) file (zeroField_pad P 0) (zeroField_length P 0)]
  exact sum_final _ _ (wordSum_bound _ 0 (by omega) (words16_lt _))

theorem oneshot_plain (ck : Option Nat) (file : Bytes) (hck : ∀ p, ck = some p → p % 2 = 1) :
    ∃ s, write ⟨ck, 0, 0, 0, false⟩ file = .ok s ∧ sumVal s = peChecksumPlain file := by
  refine ⟨_, rfl, ?_⟩
  have hnone : ∀ l, loop ck 0 0 l = loop none 0 0 l := by
    intro l
    cases ck with
    | none => rfl
    | some p =>
      have := hck p rfl
      exact loop_skip p 0 0 _ (by intro x _ _ h3; omega)
  simp only [sumVal, peChecksumPlain, wordSum]
  have hwp : words16 (if file.length % 2 ≠ 0 then file ++ [0] else file) = words16 file :=
    words_of_padded id file (fun _ => rfl) (fun _ => rfl)
  rw [hnone, loop_none_spec 0 0 _ (padded_even file) (by omega), hwp]
  exact sum_final _ _ (wordSum_bound _ 0 (by omega) (words16_lt _))

end Relic.PEChecksum
