/-
  Proofs about Relic.Model.ScdToken.  `Sched`: the invariant of the locked discipline (`Inv`), kept by every step of ARBITRARY
  schedules.  The token methods against any daemon: the login loops (attempts bounded, success only with a PIN the token
  accepted), Open, GetKey, Sign and ListKeys never panic; GetKey panics exactly on the no-match leaf of the original code; what
  a successful GetKey selected.
-/
import Relic.Model.ScdToken
import Relic.Proofs.Assuan
namespace Relic.ScdToken.Sched

theorem prog_locked {c : Call} (h : c ≠ .idle) : prog .locked c = .acq :: ((body c).map .txn ++ [.rel]) := by
  cases c <;> simp [prog] at h ⊢

theorem prog_idle (D : Discipline) : prog D .idle = [] := by cases D <;> rfl

/-- where an event of a locked call sits: `acq` first, the transactions of the body at 1 … |body|, `rel` last -/
theorem evAt_locked_cases {c : Call} {p : Nat} {e : Ev} (h : (prog .locked c)[p]? = some e) :
    c ≠ .idle ∧ ((e = .acq ∧ p = 0) ∨ (∃ t, e = .txn t ∧ 0 < p ∧ p ≤ (body c).length ∧ (body c)[p - 1]? = some t) ∨
      (e = .rel ∧ p = (body c).length + 1)) := by
  have hc : c ≠ .idle := by
    rintro rfl
    rw [prog_idle] at h
    cases h
  refine ⟨hc, ?_⟩
  rw [prog_locked hc] at h
  cases p with
  | zero => exact .inl ⟨(Option.some.inj h).symm, rfl⟩
  | succ q =>
    rw [List.getElem?_cons_succ, List.getElem?_append] at h
    split at h
    · rename_i hq
      rw [List.length_map] at hq
      rw [List.getElem?_map] at h
      obtain ⟨t, ht, rfl⟩ := Option.map_eq_some_iff.mp h
      exact .inr (.inl ⟨t, rfl, Nat.succ_pos q, hq, ht⟩)
    · rename_i hq
      rw [List.length_map] at hq h
      have hlt : q - (body c).length < 1 := by
        rcases Nat.lt_or_ge (q - (body c).length) 1 with h1 | h1
        · exact h1
        · rw [List.getElem?_eq_none (by simpa using h1)] at h
          cases h
      rw [show q - (body c).length = 0 by omega] at h
      exact .inr (.inr ⟨(Option.some.inj h).symm, by omega⟩)

/-- The invariant of the locked discipline.  A `Sign k d` call runs `prog .locked (.sign k d) = [acq, SETDATA d, PKSIGN k, rel]`,
    so its pc is 2 between the two transactions, at least 3 once PKSIGN has run, and 4 when the call is done.
    * `idle`: a thread that does not hold the mutex is before its `acq` or past its `rel`;
    * `mid`: while the holder stands between SETDATA and PKSIGN the daemon stores the holder's own digest;
    * `res`: a Sign call has a result exactly once its PKSIGN has run, and it is the signature of its key over its digest. -/
structure Inv (calls : Nat → Call) (s : State) : Prop where
  idle : ∀ j, s.holder ≠ some j → (s.pc j = 0 ∨ s.pc j = (prog .locked (calls j)).length)
  mid : ∀ h k d, s.holder = some h → calls h = .sign k d → s.pc h = 2 → s.data = some d
  res : ∀ j k d, calls j = .sign k d →
          (3 ≤ s.pc j → s.res j = some (some ⟨k, d⟩)) ∧ (s.pc j < 3 → s.res j = none)

theorem inv_init (calls : Nat → Call) : Inv calls init := by
  refine ⟨fun j _ => Or.inl rfl, ?_, ?_⟩
  · intro h k d hh; simp [init] at hh
  · intro j k d _; simp [init]

theorem inv_step {calls : Nat → Call} {s s' : State} {i : Nat} (hi : Inv calls s) (hs : step .locked calls s i = some s') :
    Inv calls s' := by
  unfold step at hs
  cases hev : (prog .locked (calls i))[s.pc i]? with
  | none => simp [hev] at hs
  | some e =>
    rw [hev] at hs
    obtain ⟨hc, hpos⟩ := evAt_locked_cases hev
    -- only the holder is past its `acq`
    have hhold : 0 < s.pc i → s.holder = some i := fun hp => by
      by_cases hh : s.holder = some i
      · exact hh
      · rcases hi.idle i hh with h0 | hl
        · omega
        · rw [hl, List.getElem?_eq_none (Nat.le_refl _)] at hev
          cases hev
    have other : ∀ j, j ≠ i → bump s.pc i j = s.pc j := fun j hj => by simp [bump, hj]
    have self : bump s.pc i i = s.pc i + 1 := by simp [bump]
    rcases hpos with ⟨rfl, hp0⟩ | ⟨t, rfl, hp1, hple, hbt⟩ | ⟨rfl, hpl⟩
    · by_cases hh : s.holder = none
      · simp only [hh, if_true, Option.some.injEq] at hs
        subst hs
        refine ⟨fun j hj => ?_, fun h k d hhd _ h2 => ?_, fun j k d hj => ?_⟩
        all_goals dsimp only at *
        · have hji : j ≠ i := fun h => hj (by rw [h])
          rw [other j hji]
          exact hi.idle j (by simp [hh])
        · cases hhd
          rw [self, hp0] at h2
          omega
        · by_cases hji : j = i
          · subst hji
            rw [self, hp0]
            exact ⟨fun h => by omega, fun _ => (hi.res j k d hj).2 (by omega)⟩
          · rw [other j hji]
            exact hi.res j k d hj
      · simp [hh] at hs
    · have hh := hhold hp1
      simp only [Option.some.injEq] at hs
      subst hs
      refine ⟨fun j hj => ?_, fun h k d hhd hcall h2 => ?_, fun j k d hj => ?_⟩
      all_goals dsimp only at *
      · have hj' : s.holder ≠ some j := hj
        have hji : j ≠ i := fun h => hj' (by rw [hh, h])
        rw [other j hji]
        exact hi.idle j hj'
      · obtain rfl : i = h := Option.some.inj (hh.symm.trans hhd)
        rw [self] at h2
        have hp : s.pc i = 1 := by omega
        rw [hcall, hp] at hbt
        cases hbt
        rfl
      · by_cases hji : j = i
        · subst hji
          have hr := hi.res j k d hj
          rw [hj] at hbt hple
          rw [self]
          -- the body of a Sign is SETDATA, PKSIGN
          have h12 : s.pc j = 1 ∨ s.pc j = 2 := by
            have : (body (.sign k d)).length = 2 := rfl
            omega
          rcases h12 with hp | hp <;> rw [hp] at hbt ⊢ <;> cases hbt
          · exact ⟨fun h => by omega, fun _ => by simpa [daemonStep] using hr.2 (by omega)⟩
          · have hd := hi.mid j k d hh hj hp
            exact ⟨fun _ => by simp [daemonStep, hd], fun h => by omega⟩
        · rw [other j hji]
          have hr := hi.res j k d hj
          generalize daemonStep s.data t = ds
          obtain ⟨d1, _ | x⟩ := ds
          · exact hr
          · simpa [hji] using hr
    · have hh := hhold (by omega)
      simp only [Option.some.injEq] at hs
      subst hs
      refine ⟨fun j _ => ?_, fun h k d hhd _ _ => ?_, fun j k d hj => ?_⟩
      all_goals dsimp only at *
      · by_cases hji : j = i
        · subst hji
          exact .inr (by rw [self, hpl, prog_locked hc]; simp)
        · rw [other j hji]
          exact hi.idle j (by rw [hh]; exact fun h => hji (Option.some.inj h).symm)
      · cases hhd
      · by_cases hji : j = i
        · subst hji
          have hb : (body (calls j)).length = 2 := by rw [hj]; rfl
          rw [self]
          exact ⟨fun _ => (hi.res j k d hj).1 (by omega), fun h => by omega⟩
        · rw [other j hji]
          exact hi.res j k d hj

theorem inv_run {calls : Nat → Call} : ∀ (sched : List Nat) {s s' : State},
    Inv calls s → run .locked calls s sched = some s' → Inv calls s'
  | [], s, s', hi, h => by simp [run] at h; subst h; exact hi
  | i :: rest, s, s', hi, h => by
    unfold run at h
    cases hs : step .locked calls s i with
    | none => simp [hs] at h
    | some s1 => rw [hs] at h; exact inv_run rest (inv_step hi hs) h

end Relic.ScdToken.Sched

namespace Relic.ScdToken
open Relic.Assuan

theorem promptLoop_spec {σ} (dm : Daemon σ) : ∀ (answers : List Bytes) (s : ScdConn σ),
    (promptLoop dm s answers).2.2.isPanic = false ∧ (promptLoop dm s answers).2.1 ≤ answers.length ∧
    (∀ p, (promptLoop dm s answers).2.2 = .ok p → ∃ s0, (checkPin dm s0 p).2 = .ok ())
  | [], s => by simp [promptLoop, Out.isPanic]
  | p :: rest, s => by
    unfold promptLoop
    by_cases he : p.isEmpty
    · simp [he, Out.isPanic]
    · simp only [he, Bool.false_eq_true, if_false]
      have hc := checkPin_no_panic dm s p
      cases hr : checkPin dm s p with
      | mk s1 o =>
        rw [hr] at hc
        cases o with
        | ok u =>
          refine ⟨by simp [Out.isPanic], by simp, ?_⟩
          intro q hq
          have : p = q := by simpa using hq
          subst this
          exact ⟨s, by rw [hr]⟩
        | fail e =>
          simp only
          by_cases hb : e = .msg "badpin"
          · simp only [hb, if_true]
            obtain ⟨h1, h2, h3⟩ := promptLoop_spec dm rest s1
            exact ⟨h1, by simp; omega, h3⟩
          · simp only [hb, if_false]
            exact ⟨by simp [Out.isPanic], by simp, by intro q hq; simp at hq⟩
        | panic x => simp [Out.isPanic] at hc
        | block => exact ⟨by simp [Out.isPanic], by simp, by intro q hq; simp at hq⟩

/-- in order: no panic; a configured PIN: one attempt; a getter: at most one attempt per answer; neither: none; success only
    with a PIN that a CHECKPIN accepted -/
theorem tokenLogin_spec {σ} (dm : Daemon σ) (s : ScdConn σ) (tc : TokenConf) :
    (tokenLogin dm s tc).2.2.isPanic = false ∧
    (∀ p, tc.pin = some p → (tokenLogin dm s tc).2.1 = 1) ∧
    (tc.pin = none → ∀ answers, tc.getter = some answers → (tokenLogin dm s tc).2.1 ≤ answers.length) ∧
    (tc.pin = none → tc.getter = none → (tokenLogin dm s tc).2.1 = 0) ∧
    (∀ p, (tokenLogin dm s tc).2.2 = .ok p → ∃ s0, (checkPin dm s0 p).2 = .ok ()) := by
  unfold tokenLogin
  cases hp : tc.pin with
  | some p =>
    simp only
    have hc := checkPin_no_panic dm s p
    cases hr : checkPin dm s p with
    | mk s1 o =>
      rw [hr] at hc
      cases o with
      | ok u =>
        refine ⟨by simp [Out.isPanic], by simp, by simp, by simp, ?_⟩
        intro q hq
        have : p = q := by simpa using hq
        subst this
        exact ⟨s, by rw [hr]⟩
      | fail e => exact ⟨by simp [Out.isPanic], by simp, by simp, by simp, by intro q hq; simp at hq⟩
      | panic x => simp [Out.isPanic] at hc
      | block => exact ⟨by simp [Out.isPanic], by simp, by simp, by simp, by intro q hq; simp at hq⟩
  | none =>
    simp only
    cases hg : tc.getter with
    | none => exact ⟨by simp [Out.isPanic], by simp, by simp, by simp, by intro q hq; simp at hq⟩
    | some answers =>
      simp only
      obtain ⟨h1, h2, h3⟩ := promptLoop_spec dm answers s
      refine ⟨h1, by simp, ?_, by simp, h3⟩
      intro _ a ha
      have : answers = a := by simpa using ha
      subst this; exact h2

theorem dial_no_panic {σ} (dm : Daemon σ) (s0 : σ) : (dial dm s0).2.isPanic = false := by
  fun_cases dial dm s0
  case case4 c _ _ h =>
    have := readLine_no_panic c
    rw [h] at this
    cases this
  all_goals rfl

/-- each panic leaf of `Open` would need a panic of Dial, Learn, `keyInfos[0]` after a successful Learn, or the login -/
theorem openToken_no_panic {σ} (dm : Daemon σ) (s0 : σ) (tc : TokenConf) : (openToken dm s0 tc).2.isPanic = false := by
  fun_cases openToken dm s0 tc
  case case2 h =>
    have := dial_no_panic dm s0
    rw [h] at this
    cases this
  case case5 s _ _ h =>
    have := (learn_spec dm s).1
    rw [h] at this
    cases this
  case case7 s _ infos hl _ h =>
    have := (learn_spec dm s).2 infos (by rw [hl])
    rw [idx_lt _ 0 _ this] at h
    cases h
  case case13 s1 _ _ _ _ _ _ _ _ h =>
    have := (tokenLogin_spec dm s1 tc).1
    rw [h] at this
    cases this
  all_goals rfl

theorem getKeyWith_panic_iff {σ} (onNil : Out Key) (dm : Daemon σ) (t : Token σ) (name : String) :
    (getKeyWith onNil dm t name).2.isPanic = true ↔
      onNil.isPanic = true ∧ ∃ kc, t.conf.keys.find? (·.name = name) = some kc ∧ findKey t.keyInfos kc.id = none := by
  unfold getKeyWith
  cases hk : t.conf.keys.find? (·.name = name) with
  | none => simp [Out.isPanic]
  | some kc =>
    simp only
    cases hf : findKey t.keyInfos kc.id with
    | none => simp [hf]
    | some k =>
      simp only
      by_cases he : k.keyId.isEmpty
      · simp [he, Out.isPanic, hf]
      · simp only [he, Bool.false_eq_true, if_false]
        have hp := scdPublic_no_panic dm t.sock.conn k
        cases hr : scdPublic dm t.sock.conn k with
        | mk c o =>
          rw [hr] at hp
          cases o with
          | ok p => simp [Out.isPanic, hf]
          | fail e => simp [Out.isPanic, hf]
          | panic x => simp [Out.isPanic] at hp
          | block => simp [Out.isPanic, hf]

theorem getKeyWith_ok {σ} {onNil : Out Key} {dm : Daemon σ} {t : Token σ} {name : String} {k : Key}
    (h : (getKeyWith onNil dm t name).2 = .ok k) :
    ∃ kc, t.conf.keys.find? (·.name = name) = some kc ∧
      ((findKey t.keyInfos kc.id = none ∧ onNil = .ok k) ∨
       (findKey t.keyInfos kc.id = some k.key ∧ k.key.keyId.isEmpty = false ∧ (scdPublic dm t.sock.conn k.key).2 = .ok k.pub)) := by
  unfold getKeyWith at h
  cases hk : t.conf.keys.find? (·.name = name) with
  | none => simp [hk] at h
  | some kc =>
    simp only [hk] at h
    refine ⟨kc, rfl, ?_⟩
    cases hf : findKey t.keyInfos kc.id with
    | none => exact .inl ⟨rfl, by simpa [hf] using h⟩
    | some k0 =>
      simp only [hf] at h
      by_cases he : k0.keyId.isEmpty
      · simp [he] at h
      · simp only [he, Bool.false_eq_true, if_false] at h
        cases hp : scdPublic dm t.sock.conn k0 with
        | mk c o =>
          rw [hp] at h
          cases o <;> simp only [Out.ok.injEq, reduceCtorEq] at h
          subst h
          exact .inr ⟨rfl, by simpa using he, by rw [hp]⟩

/-- the nil dereference of the original code (before e11c4f9) -/
theorem getKeyOrig_panic_iff {σ} (dm : Daemon σ) (t : Token σ) (name : String) :
    (getKeyOrig dm t name).2.isPanic = true ↔
      ∃ kc, t.conf.keys.find? (·.name = name) = some kc ∧ findKey t.keyInfos kc.id = none := by
  unfold getKeyOrig
  rw [getKeyWith_panic_iff]
  simp [Out.isPanic]

theorem getKey_no_panic {σ} (dm : Daemon σ) (t : Token σ) (name : String) : (getKey dm t name).2.isPanic = false := by
  cases h : (getKey dm t name).2.isPanic with
  | false => rfl
  | true =>
    unfold getKey at h
    have := (getKeyWith_panic_iff _ dm t name).mp h
    simp [Out.isPanic] at this

/-- the no-match case is the error "key … not found in token …" -/
theorem getKey_unmatched {σ} (dm : Daemon σ) (t : Token σ) (name : String) (kc : KeyConf)
    (h1 : t.conf.keys.find? (·.name = name) = some kc) (h2 : findKey t.keyInfos kc.id = none) :
    getKey dm t name = (t, .fail (.msg "notfound")) := by
  unfold getKey getKeyWith
  simp [h1, h2]

/-- `scdKey.Sign` and `ListKeys` only store the connection back: their outcomes are, by definition, those of `ScdKey.Sign` and of
    the loop -/
theorem keySign_no_panic {σ} (dm : Daemon σ) (t : Token σ) (k : Key) (d : Bytes) (o : SignOpts) :
    (keySign dm t k d o).2.isPanic = false :=
  scdSign_no_panic dm t.sock.conn k.key d o t.pin

theorem listLoop_no_panic {σ} (dm : Daemon σ) (id : Bytes) (values : Bool) :
    ∀ (ks : List ScdKey) (c : Conn σ) (i : Nat) (acc : List Chunk),
    (listLoop dm id values c i ks acc).2.isPanic = false
  | [], _, _, _ => by simp [listLoop, Out.isPanic]
  | k :: rest, c, i, acc => by
    unfold listLoop
    split
    · exact listLoop_no_panic dm id values rest c (i + 1) acc
    · simp only
      cases values with
      | false => simp only [Bool.false_eq_true, if_false]; exact listLoop_no_panic dm id false rest c (i + 1) _
      | true =>
        simp only [if_true]
        have hp := scdPublic_no_panic dm c k
        cases hr : scdPublic dm c k with
        | mk c' o =>
          rw [hr] at hp
          cases o with
          | ok p => exact listLoop_no_panic dm id true rest c' (i + 1) _
          | fail e => exact listLoop_no_panic dm id true rest c' (i + 1) _
          | panic x => simp [Out.isPanic] at hp
          | block => simp [Out.isPanic]

theorem listKeys_no_panic {σ} (dm : Daemon σ) (t : Token σ) (id : Bytes) (values : Bool) :
    (listKeys dm t id values).2.isPanic = false :=
  listLoop_no_panic dm id values t.keyInfos t.sock.conn 0 [Chunk.serial t.serial]

theorem findKey_spec (infos : List ScdKey) (id : Bytes) (k : ScdKey) (h : findKey infos id = some k) :
    k ∈ infos ∧ (id ≠ [] → k.keyId = id) ∧ (id = [] → infos.head? = some k) := by
  unfold findKey at h
  refine ⟨List.mem_of_find?_eq_some h, ?_, ?_⟩
  · intro hne
    have hie : id.isEmpty = false := by
      cases id with
      | nil => exact absurd rfl hne
      | cons _ _ => rfl
    have := List.find?_some h
    simp [hie] at this
    exact this.symm
  · intro he
    subst he
    cases infos with
    | nil => simp at h
    | cons a rest => simp [List.find?] at h; simp [h]

end Relic.ScdToken
