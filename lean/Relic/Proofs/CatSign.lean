/- signers/cat: the ContentInfo of a catalog is re-emitted bit-exactly, re-signing replaces the signature.
   The navigation `unmarshalCI`/`walkOuter`/`walkSD` is the model's own (Model/CatSign says it accepts what `Der.sdWalk`
   accepts); no lemma here or elsewhere relates the two: that agreement rests on the C16 correspondence check alone.
   Second half: every navigator and `sign` answer a value or an error of a named class (`*_errs`, `sign_total`). -/
import Relic.Model.CatSign
import Relic.Proofs.DerTree
import Relic.Proofs.DerTotal
import Relic.Proofs.Lists
namespace Relic.CatSign
open Relic.Der Relic.Res

theorem infix_of_append (a x b : Bytes) : x <:+: a ++ x ++ b := ⟨a, b, rfl⟩

theorem splitTLVs_elems (bs : Bytes) (l : List RawVal) (h : splitTLVs bs = .ok l) :
    ∀ v ∈ l, v.full = tlv v.tag v.bytes ∧ highTag v.tag = false ∧ v.bytes.length < 2 ^ 31 ∧ v.full <:+: bs := by
  obtain ⟨e, hall⟩ := splitTLVs_inv bs l h
  intro v hv
  obtain ⟨a, b, c⟩ := hall v hv
  exact ⟨a, b, c, e ▸ infix_flatMap (·.full) hv⟩

theorem walkSD_ok (c2 ci : Bytes) : walkSD c2 = .ok ci ↔
    ∃ v da e more, splitTLVs c2 = .ok (v :: da :: e :: more) ∧ v.tag = 0x02 ∧ da.tag = 0x31 ∧ e.tag = 0x30 ∧
      tailOK more = true ∧ e.full = ci := by
  constructor
  · fun_cases walkSD c2
    case case2 v da e more hs ht hk =>
      simp only [ne_eq, Bool.or_eq_true, decide_eq_true_eq, not_or, Decidable.not_not] at ht
      exact fun h => ⟨v, da, e, more, hs, ht.1.1, ht.1.2, ht.2, hk, Res.ok.inj h⟩
    all_goals nofun
  · rintro ⟨v, da, e, more, hs, h1, h2, h3, hk, rfl⟩
    simp [walkSD, hs, h1, h2, h3, hk]

theorem walkOuter_ok (c ci : Bytes) : walkOuter c = .ok ci ↔
    ∃ o e1 more c2 r2, splitTLVs c = .ok (o :: e1 :: more) ∧ e1.tag = 0xA0 ∧ untlv e1.bytes = .ok (0x30, c2, r2) ∧
      walkSD c2 = .ok ci := by
  constructor
  · fun_cases walkOuter c
    case case3 o e1 more hs ht t2 c2 r2 hu ht2 =>
      rw [Decidable.not_not] at ht ht2
      subst ht2
      exact fun h => ⟨o, e1, more, c2, r2, hs, ht, hu, h⟩
    all_goals nofun
  · rintro ⟨o, e1, more, c2, r2, hs, h1, hu, hw⟩
    simp [walkOuter, hs, h1, hu, hw]

theorem unmarshalCI_ok (blob ci : Bytes) : unmarshalCI blob = .ok ci ↔
    ∃ c rest, untlv blob = .ok (0x30, c, rest) ∧ walkOuter c = .ok ci ∧ allZero rest = true := by
  constructor
  · fun_cases unmarshalCI blob
    case case2 t c rest hu ht ci' hw hz =>
      rw [Decidable.not_not] at ht
      subst ht
      exact fun h => ⟨c, rest, hu, Res.ok.inj h ▸ hw, hz⟩
    case case4 hx => exact fun h => (hx ci h).elim
    all_goals nofun
  · rintro ⟨c, rest, hu, hw, hz⟩
    simp [unmarshalCI, hu, hw, hz]

theorem unmarshalCI_inv (blob ci : Bytes) (h : unmarshalCI blob = .ok ci) :
    ∃ cc, ci = tlv 0x30 cc ∧ cc.length < 2 ^ 31 ∧ ci <:+: blob := by
  obtain ⟨c, rest, hu, hw, _⟩ := (unmarshalCI_ok blob ci).mp h
  obtain ⟨o, e1, more, c2, r2, hs, _, hu2, hsd⟩ := (walkOuter_ok c ci).mp hw
  obtain ⟨v, da, e, more', hs2, _, _, htag, _, rfl⟩ := (walkSD_ok c2 ci).mp hsd
  obtain ⟨hf, _, hl, hin⟩ := splitTLVs_elems c2 _ hs2 e (by simp)
  obtain ⟨hf1, _, _, hin1⟩ := splitTLVs_elems c _ hs e1 (by simp)
  refine ⟨e.bytes, by rw [hf, htag], hl, ?_⟩
  have b : e1.bytes <:+: e1.full := by rw [hf1]; exact tlv_content_infix _ _
  exact hin.trans ((untlv_infix hu2).1.trans (b.trans (hin1.trans (untlv_infix hu).1)))

/-- what `asn1.Marshal` writes for a ContentInfo whose header is minimal is the very byte string – whatever is inside it
    (non-minimal lengths, indefinite lengths, unsorted sets, …) -/
theorem emitCI_tlv (cc : Bytes) (hl : cc.length < 2 ^ 31) : emitCI (tlv 0x30 cc) = tlv 0x30 cc := by
  unfold emitCI
  rw [strip_tlv 0x30 cc (by decide) hl]

/-- the certificates of the chain are elements (they are DER certificates) -/
def Signer.WF (k : Signer) : Prop := (splitTLVs k.chain.flatten).isOk = true

/-- Plan: name the nested encodings, outermost first, `X ⊃ Y ⊃ Z` (`emitSD = tlv 0x30 X`, `X = OID ++ tlv 0xA0 Y`,
    `Y = tlv 0x30 Z`, `Z` the five fields); push the 2^31 bound of the whole inwards with `len_le_tlv`; then each of the
    three navigators is replayed through its `_ok` equivalence on the element lists `h1`, `h3` -/
theorem unmarshalCI_emitSD (k : Signer) (cc sig : Bytes) (hk : k.WF) (hcc : cc.length < 2 ^ 31)
    (hfit : (emitSD k (tlv 0x30 cc) sig).length < 2 ^ 31) :
    unmarshalCI (emitSD k (tlv 0x30 cc) sig) = .ok (tlv 0x30 cc) := by
  have hci := emitCI_tlv cc hcc
  unfold emitSD at hfit ⊢
  rw [hci] at hfit ⊢
  generalize hsi : emitSI k sig = si at *
  generalize hZ : tlv 0x02 [1] ++ tlv 0x31 k.digestAlg ++ tlv 0x30 cc ++ tlv 0xA0 k.chain.flatten ++ tlv 0x31 si = Z at *
  generalize hY : tlv 0x30 Z = Y at *
  generalize hX : tlv 0x06 oidSignedData ++ tlv 0xA0 Y = X at *
  have hXl : X.length < 2 ^ 31 := by have := len_le_tlv 0x30 X; omega
  have hYl : Y.length < 2 ^ 31 := by
    have := len_le_tlv 0xA0 Y
    rw [← hX] at hXl; simp only [List.length_append] at hXl; omega
  have hZl : Z.length < 2 ^ 31 := by have := len_le_tlv 0x30 Z; rw [← hY] at hYl; omega
  have hparts : (tlv 0x31 k.digestAlg).length + (tlv 0xA0 k.chain.flatten).length + (tlv 0x31 si).length < 2 ^ 31 := by
    rw [← hZ] at hZl; simp only [List.length_append] at hZl; omega
  have hda : k.digestAlg.length < 2 ^ 31 := by have := len_le_tlv 0x31 k.digestAlg; omega
  have hch : k.chain.flatten.length < 2 ^ 31 := by have := len_le_tlv 0xA0 k.chain.flatten; omega
  have hsil : si.length < 2 ^ 31 := by have := len_le_tlv 0x31 si; omega
  have hsi1 : (splitTLVs si).isOk = true := by
    rw [← hsi]; unfold emitSI
    rw [splitTLVs_one 0x30 _ (by decide) (by
      have h9 : (emitSI k sig).length < 2 ^ 31 := by rw [hsi]; exact hsil
      unfold emitSI at h9
      have h2 := len_le_tlv 0x30 (tlv 0x02 [1] ++ tlv 0x30 (k.issuer ++ tlv 0x02 k.serial) ++ k.digestAlg ++ k.keyAlg ++ tlv 0x04 sig)
      omega)]
    rfl
  have h0 : untlv (tlv 0x30 X) = .ok (0x30, X, []) := untlv_one 0x30 X (by decide) hXl
  have h1 : splitTLVs X = .ok [⟨tlv 0x06 oidSignedData, 0x06, oidSignedData⟩, ⟨tlv 0xA0 Y, 0xA0, Y⟩] := by
    rw [← hX, splitTLVs_cons 0x06 oidSignedData _ (by decide) (by decide), splitTLVs_one 0xA0 Y (by decide) hYl]
  have h2 : untlv Y = .ok (0x30, Z, []) := by
    rw [← hY]
    exact untlv_one 0x30 Z (by decide) hZl
  have h3 : splitTLVs Z = .ok [⟨tlv 0x02 [1], 0x02, [1]⟩, ⟨tlv 0x31 k.digestAlg, 0x31, k.digestAlg⟩, ⟨tlv 0x30 cc, 0x30, cc⟩,
      ⟨tlv 0xA0 k.chain.flatten, 0xA0, k.chain.flatten⟩, ⟨tlv 0x31 si, 0x31, si⟩] := by
    rw [← hZ]
    simp only [List.append_assoc]
    rw [splitTLVs_cons 0x02 [1] _ (by decide) (by decide), splitTLVs_cons 0x31 _ _ (by decide) hda,
      splitTLVs_cons 0x30 cc _ (by decide) hcc, splitTLVs_cons 0xA0 _ _ (by decide) hch, splitTLVs_one 0x31 si (by decide) hsil]
  have h4 : tailOK [⟨tlv 0xA0 k.chain.flatten, 0xA0, k.chain.flatten⟩, ⟨tlv 0x31 si, 0x31, si⟩] = true := by
    unfold tailOK skipOpt
    simp only [if_true]
    unfold Signer.WF at hk
    cases hs : splitTLVs k.chain.flatten with
    | ok l => simp [hsi1]
    | err e => rw [hs] at hk; cases hk
    | panic e => rw [hs] at hk; cases hk
    | diverge => rw [hs] at hk; cases hk
  exact (unmarshalCI_ok _ _).mpr ⟨X, [], h0, (walkOuter_ok _ _).mpr ⟨_, _, _, Z, [], h1, rfl, h2,
    (walkSD_ok _ _).mpr ⟨_, _, _, _, h3, rfl, rfl, rfl, h4, rfl⟩⟩, rfl⟩

theorem untlvSyn_some (bs : Bytes) (q : UInt8 × Bytes × Bytes) (h : untlvSyn bs = .ok (some q)) : untlv bs = .ok q := by
  unfold untlvSyn at h
  split at h
  · simp only [Res.ok.injEq, Option.some.injEq] at h; subst h; assumption
  · split at h <;> cases h
  all_goals cases h

theorem ciBytes_inv {raw inner : Bytes} (h : ciBytes raw = .ok (some inner)) :
    ∃ c r0 o r1 t2 v r2 t3 r3, untlv raw = .ok (0x30, c, r0) ∧ untlv c = .ok (0x06, o, r1) ∧ untlv r1 = .ok (t2, v, r2) ∧
      untlv v = .ok (t3, inner, r3) := by
  revert h
  fun_cases ciBytes raw
  case case3 t c r0 h1 ht t1 o r1 h2 ht1 t2 v r2 h3 t3 i r3 h4 =>
    rintro ⟨⟩
    rw [Decidable.not_not] at ht ht1
    subst ht ht1
    exact ⟨c, r0, o, r1, t2, v, r2, t3, r3, untlvSyn_some _ _ h1, untlvSyn_some _ _ h2, untlvSyn_some _ _ h3, untlvSyn_some _ _ h4⟩
  all_goals nofun

theorem ciBytes_infix (raw inner : Bytes) (h : ciBytes raw = .ok (some inner)) : inner <:+: raw := by
  obtain ⟨c, r0, o, r1, t2, v, r2, t3, r3, h1, h2, h3, h4⟩ := ciBytes_inv h
  exact (untlv_infix h4).1.trans ((untlv_infix h3).1.trans ((untlv_infix h2).2.isInfix.trans (untlv_infix h1).1))

theorem sign_ok (H : Bytes → Bytes) (k : Signer) (blob : Bytes) (s : Signed) : sign H k blob = .ok s ↔
    unmarshalCI blob = .ok s.ci ∧ ciOid s.ci = some oidCTL ∧ ciBytes s.ci = .ok (some s.content) ∧
      s.sig = k.sign (H s.content) ∧ s.out = emitSD k s.ci s.sig := by
  constructor
  · fun_cases sign H k blob
    case case2 ci hu ho c hc sg =>
      rintro ⟨⟩
      exact ⟨hu, Decidable.not_not.mp ho, hc, rfl, rfl⟩
    all_goals nofun
  · obtain ⟨o, ci, c, sg⟩ := s
    rintro ⟨hu, ho, hc, hs, hout⟩
    simp only at hu ho hc hs hout
    subst hs hout
    simp [sign, hu, ho, hc]

theorem sign_inv (H : Bytes → Bytes) (k : Signer) (blob : Bytes) (s : Signed) (h : sign H k blob = .ok s) :
    unmarshalCI blob = .ok s.ci ∧ ciOid s.ci = some oidCTL ∧ ciBytes s.ci = .ok (some s.content) ∧
      s.sig = k.sign (H s.content) ∧ s.out = emitSD k s.ci s.sig := (sign_ok H k blob s).mp h

theorem sign_of_ci (H : Bytes → Bytes) (k : Signer) (blob ci c : Bytes) (hu : unmarshalCI blob = .ok ci)
    (ho : ciOid ci = some oidCTL) (hc : ciBytes ci = .ok (some c)) :
    sign H k blob = .ok ⟨emitSD k ci (k.sign (H c)), ci, c, k.sign (H c)⟩ :=
  (sign_ok H k blob _).mpr ⟨hu, ho, hc, rfl, rfl⟩

theorem sign_congr (H : Bytes → Bytes) (k : Signer) (b b' : Bytes) (h : unmarshalCI b = unmarshalCI b') :
    sign H k b = sign H k b' := by
  unfold sign; rw [h]

theorem emitCI_infix_emitSD (k : Signer) (ci sig : Bytes) : emitCI ci <:+: emitSD k ci sig := by
  unfold emitSD
  refine List.IsInfix.trans ?_ (tlv_content_infix 0x30 _)
  refine List.IsInfix.trans ?_ (List.suffix_append _ _).isInfix
  refine List.IsInfix.trans ?_ (tlv_content_infix 0xA0 _)
  refine List.IsInfix.trans ?_ (tlv_content_infix 0x30 _)
  exact ⟨tlv 0x02 [1] ++ tlv 0x31 k.digestAlg, tlv 0xA0 k.chain.flatten ++ tlv 0x31 (emitSI k sig), by simp⟩

/-- `hfit`: whatever is signed, the new SignedData stays below the 2^31-byte limit of encoding/asn1's length reader -/
theorem unmarshalCI_signed (H : Bytes → Bytes) (k : Signer) (blob : Bytes) (s : Signed) (h : sign H k blob = .ok s)
    (hk : k.WF) (hfit : ∀ d, (emitSD k s.ci (k.sign d)).length < 2 ^ 31) : unmarshalCI s.out = .ok s.ci := by
  obtain ⟨hu, _, _, hs, ho⟩ := sign_inv H k blob s h
  obtain ⟨cc, hci, hl, _⟩ := unmarshalCI_inv blob s.ci hu
  have hfit := hfit (H s.content)
  rw [← hs, hci] at hfit
  rw [ho, hci]
  exact unmarshalCI_emitSD k cc s.sig hk hl hfit

theorem walkSD_errs (c2 : Bytes) : Errs (· = "parse") (walkSD c2) := by
  unfold walkSD
  refine Errs.cases (splitTLVs c2) (splitTLVs_errs c2) (fun l => ?_) (fun _ _ => rfl)
  split
  · exact Errs.ite rfl (Errs.ite trivial rfl)
  · rfl
  all_goals (rename_i h; cases h)

theorem walkOuter_errs (c : Bytes) : Errs (· = "parse") (walkOuter c) := by
  unfold walkOuter
  refine Errs.cases (splitTLVs c) (splitTLVs_errs c) (fun l => ?_) (fun _ _ => rfl)
  split
  · rename_i e1 _ _
    refine Errs.ite rfl (Errs.cases (untlv e1.bytes) (untlv_errs _) (fun p => ?_) (fun _ _ => rfl))
    exact Errs.ite rfl (walkSD_errs _)
  · rfl
  all_goals (rename_i h; cases h)

theorem unmarshalCI_errs (blob : Bytes) : Errs (fun e => e = "parse" ∨ e = "trailing") (unmarshalCI blob) := by
  unfold unmarshalCI
  refine Errs.cases (untlv blob) (untlv_errs blob) (fun p => ?_) (fun _ _ => Or.inl rfl)
  refine Errs.ite (Or.inl rfl) (Errs.cases (walkOuter p.2.1) (walkOuter_errs _) (fun ci => ?_) (fun e he => Or.inl he))
  exact Errs.ite trivial (Or.inr rfl)

theorem untlvSyn_errs (bs : Bytes) : Errs (fun _ => True) (untlvSyn bs) := by
  unfold untlvSyn
  exact Errs.cases (untlv bs) (untlv_errs bs) (fun _ => trivial) (fun _ _ => Errs.ite trivial trivial)

theorem ciBytes_errs (raw : Bytes) : Errs (fun _ => True) (ciBytes raw) := by
  unfold ciBytes
  refine Errs.cases (untlvSyn raw) (untlvSyn_errs raw) (fun p => ?_) (fun _ _ => trivial)
  obtain _ | ⟨t, c, _⟩ := p
  · trivial
  refine Errs.ite trivial (Errs.cases (untlvSyn c) (untlvSyn_errs c) (fun p1 => ?_) (fun _ _ => trivial))
  obtain _ | ⟨t1, _, r1⟩ := p1
  · trivial
  refine Errs.ite trivial (Errs.cases (untlvSyn r1) (untlvSyn_errs r1) (fun p2 => ?_) (fun _ _ => trivial))
  obtain _ | ⟨t2, v, r2⟩ := p2
  · trivial
  simp only []
  refine Errs.cases (untlvSyn v) (untlvSyn_errs v) (fun p3 => ?_) (fun _ _ => trivial)
  obtain _ | ⟨t3, _, _⟩ := p3 <;> trivial

theorem sign_errs (H : Bytes → Bytes) (k : Signer) (blob : Bytes) :
    Errs (fun e => e = "parse" ∨ e = "trailing" ∨ e = "not-catalog" ∨ e = "self-check" ∨ e = "content") (sign H k blob) := by
  unfold sign
  refine Errs.cases (unmarshalCI blob) (unmarshalCI_errs blob) (fun ci => ?_) (fun e he => he.imp_right Or.inl)
  refine Errs.ite (by simp [Errs]) (Errs.cases (ciBytes ci) (ciBytes_errs ci) (fun o => ?_) (fun _ _ => by simp [Errs]))
  cases o
  · simp [Errs]
  · trivial

def Total {α} (r : Res α) : Prop := (∃ a, r = .ok a) ∨ (∃ e, r = .err e)

theorem sign_total (H : Bytes → Bytes) (k : Signer) (blob : Bytes) : Total (sign H k blob) :=
  (sign_errs H k blob).value_or_err

end Relic.CatSign
