/-
  Relic.Proofs.MagicDeep — `Detect` on an `MZ` file whose 16-bit `e_lfanew` is 65535 (the largest possible), computed
  structurally (the file is too long for `decide`): the witnesses that the 65539-byte bound is attained.
-/
import Relic.Proofs.MagicTable
namespace Relic.Magic

/-- DOS header: `MZ`, zeros, `e_lfanew` (low half) = 0xFFFF -/
def deepHead : Bytes := [77, 90] ++ List.replicate 58 0 ++ [0xff, 0xff]

/-- header, `k` zeros, then `tail`.  The one instance is `k = 65473` (zeros up to offset 65535); `k` stays a variable with
    the hypothesis `62 + k = 65535` so that no proof has to evaluate `List.replicate 65473 0`. -/
def deepFile (k : Nat) (tail : Bytes) : Bytes := deepHead ++ (List.replicate k 0 ++ tail)

theorem deepHead_length : deepHead.length = 62 := by decide

theorem deepFile_length (k : Nat) (hk : 62 + k = 65535) (tail : Bytes) : (deepFile k tail).length = 65535 + tail.length := by
  simp only [deepFile, List.length_append, deepHead_length, List.length_replicate]; omega

theorem deepFile_take262 (k : Nat) (hk : 62 + k = 65535) (tail : Bytes) : (deepFile k tail).take 262 = deepHead ++ List.replicate 200 0 := by
  have e : List.replicate k (0 : UInt8) = List.replicate 200 0 ++ List.replicate (k - 200) 0 := by
    rw [List.replicate_append_replicate, Nat.add_sub_cancel' (by omega)]
  rw [deepFile, e, List.append_assoc, ← List.append_assoc deepHead]
  exact List.take_left' (by rw [List.length_append, deepHead_length, List.length_replicate])

theorem deepFile_drop (k : Nat) (hk : 62 + k = 65535) (tail : Bytes) : (deepFile k tail).drop 65535 = tail := by
  rw [deepFile, ← List.append_assoc]
  exact List.drop_left' (by rw [List.length_append, deepHead_length, List.length_replicate, hk])

theorem deepFile_window (k : Nat) (hk : 62 + k = 65535) (tail : Bytes) :
    hasCtl (deepFile k tail) = false ∧ hasSignedData (deepFile k tail) = false ∧ isTar (deepFile k tail) = false ∧
    isMZ (deepFile k tail) = true := by
  have h : (deepFile k tail).take 262 = (deepHead ++ List.replicate 200 0).take 262 := by
    rw [deepFile_take262 k hk]
    exact (List.take_of_length_le (by simp only [List.length_append, deepHead_length, List.length_replicate]; decide)).symm
  unfold hasCtl hasSignedData isTar isMZ
  rw [containsIn_congr h _ _ (by decide), containsIn_congr h _ _ (by decide), atPos_congr h _ _ (by decide),
    atPos_congr h _ _ (by decide)]
  decide +kernel

theorem deepFile_reloc (k : Nat) (tail : Bytes) : reloc (deepFile k tail) = 65535 := by
  rw [reloc, peekAny_of_le _ (by decide), deepFile, List.take_left' deepHead_length]
  decide +kernel

theorem deepFile_probe (k : Nat) (hk : 62 + k = 65535) (tail : Bytes) (h4 : tail.length = 4) : mzProbe (deepFile k tail) = (tail == pPE) := by
  rw [Bool.eq_iff_iff, mzProbe_iff, deepFile_reloc k, deepFile_length k hk, deepFile_drop k hk,
    List.take_of_length_le (Nat.le_of_eq h4), beq_iff_eq]
  exact ⟨fun h => h.2.2.2, fun h => ⟨by omega, by decide, by omega, h⟩⟩

theorem deepFile_detect (k : Nat) (hk : 62 + k = 65535) (tail : Bytes) (h4 : tail.length = 4) :
    detect (deepFile k tail) = if tail == pPE then .pecoff else .unknown := by
  obtain ⟨h1, h2, h3, hmz⟩ := deepFile_window k hk tail
  cases he : (tail == pPE)
  · simp only [Bool.false_eq_true, if_false]
    rw [detect_unknown_iff]
    refine ⟨atPos0_excl hmz (by decide), atPos0_excl hmz (by decide), atPos0_excl hmz (by decide), h1, h2,
      Or.inr ⟨h3, Or.inl ⟨hmz, ?_⟩⟩⟩
    rw [deepFile_probe k hk tail h4, he]
  · simp only [if_true]
    rw [detect_pecoff_iff]
    exact ⟨h1, h2, h3, hmz, by rw [deepFile_probe k hk tail h4, he]⟩

theorem deepFile_inspected (k : Nat) (hk : 62 + k = 65535) (tail : Bytes) : inspected (deepFile k tail) = 65539 := by
  have hmz := (deepFile_window k hk tail).2.2.2
  have hl : 0x3e ≤ (deepFile k tail).length := by rw [deepFile_length k hk]; omega
  rw [inspected_eq, if_pos ⟨hmz, hl⟩, deepFile_reloc k tail]
  decide

theorem deepFile_take_init (k : Nat) (hk : 62 + k = 65535) (a : Bytes) (x y : UInt8) (ha : a.length = 3) :
    (deepFile k (a ++ [x])).take 65538 = (deepFile k (a ++ [y])).take 65538 := by
  have e : ∀ z : UInt8, deepFile k (a ++ [z]) = deepFile k a ++ [z] := by
    intro z; simp only [deepFile, List.append_assoc]
  have hl : (deepFile k a).length = 65538 := by rw [deepFile_length k hk, ha]
  rw [e x, e y, List.take_left' hl, List.take_left' hl]

end Relic.Magic
