/-
  Relic.Proofs.ZipOwn — the ZIP round trip on relic's own output (C17 / C01 / C08):
  `read` applied to `body ++ cd ++ eod`, where `(cd, eod, _) = writeDirectory d true`, returns `d` as a reader sees it.
  Also: entries read back are `RawOk` and seen as themselves; `GetTotalSize` on a member `NewFile` wrote (`NewOk`,
  `getTotalSize_new`).  Namespace `Relic.ZipOwn`.
-/
import Relic.Proofs.ZipMembers
import Relic.Proofs.ZipAgree
import Relic.Proofs.ZipMemberRec
namespace Relic.ZipOwn
open Relic.Zip

/-- the three end records `WriteDirectory(…, forceZip64 = true)` writes -/
def own64 (count size cdoff : Nat) : End64 :=
  { sig := sigEnd64, recSize := 44, creator := 45, reader := 45, diskCount := count, total := count, cdSize := size, cdOff := cdoff }
def ownLoc (size cdoff : Nat) : Loc64 := { sig := sigLoc64, off := cdoff + size, diskCount := 1 }
def ownEnd : EndRec := { sig := sigEnd, diskCount := u16Max, total := u16Max, cdSize := u32Max, cdOff := u32Max }

theorem endRecords_forced (count size cdoff minV : Nat) :
    endRecords count size cdoff true minV = encEnd64 (own64 count size cdoff) ++ (encLoc64 (ownLoc size cdoff) ++ encEnd ownEnd) := by
  simp [endRecords, needZip64, own64, ownLoc, ownEnd]

theorem parse_own64 (count size cdoff : Nat) (h1 : count < 2 ^ 64) (h2 : size < 2 ^ 64) (h3 : cdoff < 2 ^ 64) :
    parseEnd64 (encEnd64 (own64 count size cdoff)) = own64 count size cdoff := by
  have h := parseEnd64_encEnd64 (own64 count size cdoff) []
  rw [List.append_nil] at h
  rw [h]
  have a1 : sigEnd64 % 2 ^ 32 = sigEnd64 := by decide
  have a2 : 44 % 2 ^ 64 = 44 := by decide
  have a3 : 45 % 2 ^ 16 = 45 := by decide
  simp only [own64, Nat.mod_eq_of_lt h1, Nat.mod_eq_of_lt h2, Nat.mod_eq_of_lt h3, a1, a2, a3, Nat.zero_mod]

theorem parse_ownLoc (size cdoff : Nat) (h : cdoff + size < 2 ^ 64) :
    parseLoc64 (encLoc64 (ownLoc size cdoff)) = ownLoc size cdoff := by
  have h' := parseLoc64_encLoc64 (ownLoc size cdoff) []
  rw [List.append_nil] at h'
  rw [h']
  have a1 : sigLoc64 % 2 ^ 32 = sigLoc64 := by decide
  have a2 : 1 % 2 ^ 32 = 1 := by decide
  simp only [ownLoc, Nat.mod_eq_of_lt h, a1, a2, Nat.zero_mod]

theorem parse_ownEnd : parseEnd (encEnd ownEnd) = ownEnd := by
  have h := parseEnd_encEnd ownEnd []
  rw [List.append_nil] at h
  rw [h]; decide

theorem findDirectory_own (pre : Bytes) (count size cdoff minV : Nat) (hpre : pre.length = cdoff + size)
    (h63 : pre.length + 98 < 2 ^ 63) (hc : count < 2 ^ 64) :
    findDirectory ⟨pre ++ endRecords count size cdoff true minV, false, 0⟩ = .ok cdoff := by
  rw [endRecords_forced]
  generalize hz : pre ++ (encEnd64 (own64 count size cdoff) ++ (encLoc64 (ownLoc size cdoff) ++ encEnd ownEnd)) = z
  have hlen : z.length = pre.length + 98 := by
    rw [← hz]; simp [encEnd64_length, encLoc64_length, encEnd_length]
  have hd1 : (z.drop (z.length - 42)).take 42 = encLoc64 (ownLoc size cdoff) ++ encEnd ownEnd := by
    have e : z.length - 42 = (pre ++ encEnd64 (own64 count size cdoff)).length := by
      rw [hlen]; simp [encEnd64_length]
    rw [e, ← hz, ← List.append_assoc, List.drop_left]
    exact List.take_of_length_le (by simp [encLoc64_length, encEnd_length])
  have hd2 : (z.drop pre.length).take 56 = encEnd64 (own64 count size cdoff) := by
    rw [← hz, List.drop_left]
    exact List.take_left' (encEnd64_length _)
  have hr1 := readAt_ra z (z.length - 42) 42 (by omega) (by omega) (by omega)
  have hr2 := readAt_ra z pre.length 56 (by omega) (by omega) (by omega)
  rw [hd1] at hr1
  rw [hd2] at hr2
  unfold findDirectory
  simp only []
  rw [if_neg (by omega), hr1]
  simp only []
  rw [List.take_left' (encLoc64_length _), List.drop_left' (encLoc64_length _), parse_ownLoc _ _ (by omega), parse_ownEnd]
  have s1 : ownEnd.sig = sigEnd := rfl
  have s2 : ownEnd.total = u16Max := rfl
  have s3 : (ownLoc size cdoff).sig = sigLoc64 := rfl
  have s4 : (ownLoc size cdoff).off = pre.length := by rw [hpre]; rfl
  rw [s1, s2, s3, s4]
  simp only [ne_eq, not_true_eq_false, if_false, true_or, if_true]
  rw [hr2]
  simp only []
  rw [parse_own64 _ _ _ hc (by omega) (by omega)]
  rfl

theorem readEntry_layout (hdr name extra comment rest : Bytes) (hl : hdr.length = 46)
    (hn : fld hdr 28 2 = name.length) (he : fld hdr 30 2 = extra.length) (hc : fld hdr 32 2 = comment.length) :
    readEntry (hdr ++ (name ++ (extra ++ (comment ++ rest)))) =
      let st := scanExtra (decide (fld hdr 24 4 = u32Max))
        ⟨fld hdr 24 4, fld hdr 20 4, fld hdr 42 4, decide (fld hdr 20 4 = u32Max), decide (fld hdr 42 4 = u32Max)⟩
        extra.length extra
      if st.needC ∨ st.needO then .err "missingzip64" else
      .ok ({ creator := fld hdr 4 2, reader := fld hdr 6 2, flags := fld hdr 8 2, method := fld hdr 10 2,
             mtime := fld hdr 12 2, mdate := fld hdr 14 2, crc := fld hdr 16 4, csize := st.csize, usize := st.usize,
             name := name, extra := extra, comment := comment,
             iattrs := fld hdr 36 2, eattrs := fld hdr 38 4, offset := st.offset,
             raw := hdr ++ (name ++ (extra ++ comment)) }, rest) := by
  generalize hz : hdr ++ (name ++ (extra ++ (comment ++ rest))) = z
  have hf : ∀ k w, k + w ≤ 46 → fld z k w = fld hdr k w := by
    intro k w h; rw [← hz]; exact fld_append_left _ _ _ _ (by omega)
  have hzl : z.length = 46 + name.length + extra.length + comment.length + rest.length := by
    rw [← hz]; simp [hl]; omega
  have h0 := readEntry_eq z 0 (by
    rw [List.drop_zero, hf 28 2 (by omega), hf 30 2 (by omega), hf 32 2 (by omega), hn, he, hc, hzl]; omega)
  simp only [List.drop_zero, Nat.zero_add] at h0
  rw [h0]
  simp only [hf 28 2 (by omega), hf 30 2 (by omega), hf 32 2 (by omega), hf 24 4 (by omega), hf 20 4 (by omega),
    hf 42 4 (by omega), hf 4 2 (by omega), hf 6 2 (by omega), hf 8 2 (by omega), hf 10 2 (by omega), hf 12 2 (by omega),
    hf 14 2 (by omega), hf 16 4 (by omega), hf 36 2 (by omega), hf 38 4 (by omega), hn, he, hc]
  have d1 : (z.drop 46).take name.length = name := by
    rw [← hz, List.drop_left' hl]; exact List.take_left' rfl
  have d2 : (z.drop (46 + name.length)).take extra.length = extra := by
    rw [← hz, ← List.drop_drop, List.drop_left' hl, List.drop_left' rfl]; exact List.take_left' rfl
  have d3 : (z.drop (46 + name.length + extra.length)).take comment.length = comment := by
    rw [← hz, Nat.add_assoc, ← List.drop_drop, List.drop_left' hl, ← List.drop_drop, List.drop_left' rfl, List.drop_left' rfl]
    exact List.take_left' rfl
  have d4 : z.drop (46 + name.length + extra.length + comment.length) = rest := by
    rw [← hz, Nat.add_assoc, Nat.add_assoc, ← List.drop_drop, List.drop_left' hl, ← List.drop_drop, List.drop_left' rfl,
      ← List.drop_drop, List.drop_left' rfl, List.drop_left' rfl]
  have d5 : z.take (46 + name.length + extra.length + comment.length) = hdr ++ (name ++ (extra ++ comment)) := by
    rw [← hz]
    have : hdr ++ (name ++ (extra ++ (comment ++ rest))) = (hdr ++ (name ++ (extra ++ comment))) ++ rest := by simp
    rw [this]
    exact List.take_left' (by simp [hl]; omega)
  rw [d1, d2, d3, d4, d5]

/-- an entry that `ReadWithDirectory` produced is read back from its raw bytes, whatever follows them.
    The four length checks that did not fail cut `cd` into `hdr ++ name ++ extra ++ comment ++ rest0`; on a buffer of that
    shape `readEntry` is `readEntry_layout`, which does not look at the rest: applied to `rest0` it says what `f` is (so
    `f.raw = hdr ++ name ++ extra ++ comment`), applied to any `rest'` it gives the same entry again. -/
theorem readEntry_reread {cd rest : Bytes} {f : File} (h : readEntry cd = .ok (f, rest)) :
    cd = f.raw ++ rest ∧ 46 ≤ f.raw.length ∧ f.crc = fld f.raw 16 4 ∧ fld f.raw 0 4 = fld cd 0 4 ∧
    f.lfh = none ∧ f.ddb = [] ∧ f.compd = none ∧
    ∀ rest', readEntry (f.raw ++ rest') = .ok (f, rest') := by
  have c1 : ¬ cd.length < 46 := by
    intro hc; unfold readEntry at h; rw [if_pos hc] at h; cases h
  have c2 : ¬ (cd.drop 46).length < fld cd 28 2 := by
    intro hc; unfold readEntry at h; rw [if_neg c1] at h; simp only [] at h; rw [if_pos hc] at h; cases h
  have c3 : ¬ ((cd.drop 46).drop (fld cd 28 2)).length < fld cd 30 2 := by
    intro hc; unfold readEntry at h; rw [if_neg c1] at h; simp only [] at h; rw [if_neg c2, if_pos hc] at h; cases h
  have c4 : ¬ (((cd.drop 46).drop (fld cd 28 2)).drop (fld cd 30 2)).length < fld cd 32 2 := by
    intro hc; unfold readEntry at h; rw [if_neg c1] at h; simp only [] at h; rw [if_neg c2, if_neg c3, if_pos hc] at h; cases h
  generalize hN : fld cd 28 2 = n at c2 c3 c4
  generalize hE : fld cd 30 2 = e at c3 c4
  generalize hC : fld cd 32 2 = c at c4
  simp only [List.length_drop] at c2 c3 c4
  let hdr := cd.take 46
  let name := (cd.drop 46).take n
  let extra := ((cd.drop 46).drop n).take e
  let comment := (((cd.drop 46).drop n).drop e).take c
  let rest0 := (((cd.drop 46).drop n).drop e).drop c
  have hcd : hdr ++ (name ++ (extra ++ (comment ++ rest0))) = cd := by
    simp only [hdr, name, extra, comment, rest0, List.take_append_drop]
  have hl : hdr.length = 46 := by simp only [hdr, List.length_take]; omega
  have ln : name.length = n := by simp only [name, List.length_take, List.length_drop]; omega
  have le : extra.length = e := by simp only [extra, List.length_take, List.length_drop]; omega
  have lc : comment.length = c := by simp only [comment, List.length_take, List.length_drop]; omega
  have hf : ∀ k w, k + w ≤ 46 → fld hdr k w = fld cd k w := fun k w hk => fld_take cd 46 k w hk
  have key := fun r => readEntry_layout hdr name extra comment r hl (by rw [hf 28 2 (by omega), hN, ln])
    (by rw [hf 30 2 (by omega), hE, le]) (by rw [hf 32 2 (by omega), hC, lc])
  have k0 := key rest0
  rw [hcd, h] at k0
  simp only [] at k0
  split at k0
  · cases k0
  · injection k0 with k0
    injection k0 with k1 k2
    have hraw : f.raw = hdr ++ (name ++ (extra ++ comment)) := by rw [k1]
    refine ⟨?_, ?_, ?_, ?_, by rw [k1], by rw [k1], by rw [k1], ?_⟩
    · rw [hraw, k2, ← hcd]; simp
    · rw [hraw]; simp [hl]
    · rw [hraw, fld_append_left _ _ _ _ (by omega)]; rw [k1]
    · rw [hraw, fld_append_left _ _ _ _ (by omega), hf 0 4 (by omega)]
    · intro rest'
      have k' := key rest'
      rename_i hneg
      simp only [] at k'
      rw [if_neg hneg] at k'
      rw [hraw]
      simp only [List.append_assoc]
      rw [k', ← k1]

theorem readEntry_cdh (f : File) (rv cs us off : Nat) (name extra comment rest : Bytes)
    (h8 : cs < 2 ^ 32) (h9 : us < 2 ^ 32) (h10 : name.length < 2 ^ 16)
    (h11 : extra.length < 2 ^ 16) (h12 : comment.length < 2 ^ 16) (h15 : off < 2 ^ 32) :
    readEntry (encFields (cdhFields f rv cs us off name.length extra.length comment.length) ++
        (name ++ (extra ++ (comment ++ rest)))) =
      let st := scanExtra (decide (us = u32Max)) ⟨us, cs, off, decide (cs = u32Max), decide (off = u32Max)⟩ extra.length extra
      if st.needC ∨ st.needO then .err "missingzip64" else
      .ok ({ creator := f.creator % 2 ^ 16, reader := rv % 2 ^ 16, flags := f.flags % 2 ^ 16, method := f.method % 2 ^ 16,
             mtime := f.mtime % 2 ^ 16, mdate := f.mdate % 2 ^ 16, crc := f.crc % 2 ^ 32,
             csize := st.csize, usize := st.usize, name := name, extra := extra, comment := comment,
             iattrs := f.iattrs % 2 ^ 16, eattrs := f.eattrs % 2 ^ 32, offset := st.offset,
             raw := encFields (cdhFields f rv cs us off name.length extra.length comment.length) ++
               (name ++ (extra ++ comment)) }, rest) := by
  have F := fld_cdh f rv cs us off name.length extra.length comment.length []
  simp only [List.append_nil] at F
  obtain ⟨-, f4, f6, f8, f10, f12, f14, f16, f20, f24, f28, f30, f32, f36, f38, f42⟩ := F
  rw [Nat.mod_eq_of_lt (by assumption)] at f20 f24 f28 f30 f32 f42
  rw [readEntry_layout _ name extra comment rest (cdh_length ..) f28 f30 f32]
  simp only [f4, f6, f8, f10, f12, f14, f16, f20, f24, f36, f38, f42]

theorem scanExtra_nop (st : Z64State) (hc : st.needC = false) (ho : st.needO = false) (fuel : Nat) (extra : Bytes) :
    scanExtra false st fuel extra = st := by
  rw [scanExtra_eq]
  cases SpecZip.zip64Field fuel extra with
  | none => rfl
  | some p => exact applyZ64_0 _ _ _ hc ho (Or.inl rfl)

theorem scanExtra_z64 (us cs off u c o : Nat) (more : Bytes) (hu : u < 2 ^ 64) (hc : c < 2 ^ 64) (ho : o < 2 ^ 64) :
    scanExtra true ⟨us, cs, off, true, true⟩ (z64Extra u c o ++ more).length (z64Extra u c o ++ more) = ⟨u, c, o, false, false⟩ := by
  have e : (256 : Nat) ^ 8 = 2 ^ 64 := by decide
  rw [scanExtra_eq, zip64Field_z64Extra u c o more _ (by simp [z64Extra_length])]
  simp only [applyZ64_eq, List.append_assoc, List.length_append, leBytes_length, fld_lb_head, fld_lb_skip, fld_lb_last,
    Nat.reduceLeDiff, Nat.reduceSub, Nat.reduceAdd, and_self, if_true, e, Nat.mod_eq_of_lt hu, Nat.mod_eq_of_lt hc,
    Nat.mod_eq_of_lt ho]

/-- `GetDirectoryHeader` writes a ZIP64 entry (the proposition `Zip.synthBig` of Proofs/ZipFields, under which the
    synthesised header is stated; `seen` is written with this name) -/
def isBig (f : File) : Prop := f.csize ≥ u32Max ∨ f.usize ≥ u32Max ∨ f.offset ≥ u32Max

instance (f : File) : Decidable (isBig f) := by unfold isBig; infer_instance

/-- an entry without raw bytes whose synthesised header holds the sizes, the offset and the three lengths untruncated -/
structure Synth (f : File) : Prop where
  raw : f.raw = []
  name : f.name.length < 2 ^ 16
  extra : 28 + f.extra.length < 2 ^ 16
  comment : f.comment.length < 2 ^ 16
  csize : f.csize < 2 ^ 64
  usize : f.usize < 2 ^ 64
  offset : f.offset < 2 ^ 64

/-- an entry as a reader of the written directory sees it: the values of the central header that `WriteDirectory` wrote
    (16- and 32-bit fields truncated to their width, version needed 45 and the ZIP64 extra field in front when a size or
    the offset reaches 0xffffffff), `raw` = that header, nothing read from the member yet.  For an entry re-emitted from
    its raw bytes: the entry itself, with the CRC of those bytes. -/
def seen (f : File) : File :=
  if f.raw ≠ [] then { f with crc := fld f.raw 16 4, lfh := none, ddb := [], compd := none }
  else { (getDirectoryHeaderOrig f).2 with   -- `f` with the extra block a reader sees (ZIP64 field in front when big)
           creator := f.creator % 2 ^ 16, reader := (if isBig f then 45 else f.reader) % 2 ^ 16, flags := f.flags % 2 ^ 16,
           method := f.method % 2 ^ 16, mtime := f.mtime % 2 ^ 16, mdate := f.mdate % 2 ^ 16, crc := f.crc % 2 ^ 32,
           iattrs := f.iattrs % 2 ^ 16, eattrs := f.eattrs % 2 ^ 32,
           raw := (getDirectoryHeader f).1, lfh := none, ddb := [], compd := none }

/-- the `File` the code before fix 7d5f1c2 left behind = the entry with the extra block a reader of the record sees -/
theorem getDirectoryHeaderOrig_snd (f : File) (hr : f.raw = []) :
    (getDirectoryHeaderOrig f).2 = { f with extra := if isBig f then z64Extra f.usize f.csize f.offset ++ f.extra else f.extra } := by
  unfold getDirectoryHeaderOrig
  rw [if_neg (by rw [hr]; simp)]
  simp only [z64Extra, isBig, List.append_assoc]

theorem readEntry_synth (f : File) (hs : Synth f) (rest : Bytes) :
    readEntry ((getDirectoryHeader f).1 ++ rest) = .ok (seen f, rest) := by
  have hseen : seen f = { (getDirectoryHeaderOrig f).2 with creator := f.creator % 2 ^ 16, reader := (if isBig f then 45 else f.reader) % 2 ^ 16, flags := f.flags % 2 ^ 16, method := f.method % 2 ^ 16, mtime := f.mtime % 2 ^ 16, mdate := f.mdate % 2 ^ 16, crc := f.crc % 2 ^ 32, iattrs := f.iattrs % 2 ^ 16, eattrs := f.eattrs % 2 ^ 32, raw := (getDirectoryHeader f).1, lfh := none, ddb := [], compd := none } := by
    unfold seen; rw [if_neg (by rw [hs.raw]; simp)]
  rw [hseen, getDirectoryHeader_synth f hs.raw, getDirectoryHeaderOrig_snd f hs.raw]
  simp only [List.append_assoc]
  have u32 : u32Max < 2 ^ 32 := by decide
  by_cases hb : synthBig f
  · have hb' : isBig f := hb
    have hx : synthExtra f = z64Extra f.usize f.csize f.offset ++ f.extra := if_pos hb
    simp only [if_pos hb, if_pos hb', hx]
    rw [readEntry_cdh _ _ _ _ _ _ _ _ rest u32 u32
      hs.name (by have := hs.extra; simp [z64Extra_length]; omega) hs.comment u32]
    simp only [decide_true]
    rw [scanExtra_z64 _ _ _ _ _ _ _ hs.usize hs.csize hs.offset]
    simp
  · have hb' : ¬ isBig f := hb
    have hx : synthExtra f = f.extra := if_neg hb
    simp only [if_neg hb, if_neg hb', hx]
    have hlt : f.csize < u32Max ∧ f.usize < u32Max ∧ f.offset < u32Max := by
      unfold synthBig at hb; omega
    have u32' : u32Max = 2 ^ 32 - 1 := by decide
    rw [readEntry_cdh _ _ _ _ _ _ _ _ rest
      (by omega) (by omega) hs.name (by have := hs.extra; omega) hs.comment (by omega)]
    have d1 : decide (f.usize = u32Max) = false := by simp; omega
    have d2 : decide (f.csize = u32Max) = false := by simp; omega
    have d3 : decide (f.offset = u32Max) = false := by simp; omega
    rw [d1, d2, d3, scanExtra_nop _ rfl rfl]
    simp

/-- an entry carrying raw bytes that read back as the entry (what `ReadWithDirectory` produced, possibly measured since) -/
def RawOk (f : File) : Prop :=
  f.raw ≠ [] ∧ fld f.raw 0 4 = sigDir ∧ 4 ≤ f.raw.length ∧ ∀ rest, readEntry (f.raw ++ rest) = .ok (seen f, rest)

/-- entries `WriteDirectory` writes in a form `ReadWithDirectory` reads back -/
def Writable (f : File) : Prop := RawOk f ∨ Synth f

theorem writable_head {f : File} (h : Writable f) (rest : Bytes) :
    4 ≤ (getDirectoryHeader f).1.length ∧ fld ((getDirectoryHeader f).1 ++ rest) 0 4 = sigDir ∧
    readEntry ((getDirectoryHeader f).1 ++ rest) = .ok (seen f, rest) := by
  rcases h with ⟨h1, h2, h3, h4⟩ | hs
  · have : getDirectoryHeader f = (f.raw, f) := by unfold getDirectoryHeader; rw [if_pos h1]
    rw [this]
    exact ⟨h3, by rw [fld_append_left _ _ _ _ (by omega)]; exact h2, h4 rest⟩
  · refine ⟨?_, ?_, readEntry_synth f hs rest⟩
    · rw [getDirectoryHeader_synth f hs.raw]; simp [cdh_length]; omega
    · rw [getDirectoryHeader_synth f hs.raw, List.append_assoc]
      exact (fld_cdh f _ _ _ _ _ _ _ _).1

theorem headersOf_length_ge : ∀ (fs : List File), (∀ f ∈ fs, Writable f) → fs.length ≤ (headersOf fs).1.length
  | [], _ => Nat.zero_le _
  | f :: fs, h => by
    have ih := headersOf_length_ge fs (fun g hg => h g (by simp [hg]))
    have := (writable_head (h f (by simp)) []).1
    rw [headersOf_cons f fs]
    simp only [List.length_cons, List.length_append]
    omega

theorem readEntries_own : ∀ (fs : List File) (fuel : Nat) (tail : Bytes), fs.length < fuel → (∀ f ∈ fs, Writable f) →
    4 ≤ tail.length → fld tail 0 4 ≠ sigDir → readEntries fuel ((headersOf fs).1 ++ tail) = .ok (fs.map seen, tail)
  | [], fuel, tail, hf, _, ht, hs => by
    obtain ⟨k, rfl⟩ : ∃ k, fuel = k + 1 := ⟨fuel - 1, by simp at hf; omega⟩
    have e : (headersOf ([] : List File)).1 ++ tail = tail := rfl
    rw [e]
    unfold readEntries
    rw [if_neg (by omega), if_pos hs]
    rfl
  | f :: fs, fuel, tail, hf, hw, ht, hs => by
    obtain ⟨k, rfl⟩ : ∃ k, fuel = k + 1 := ⟨fuel - 1, by simp at hf; omega⟩
    obtain ⟨w1, w2, w3⟩ := writable_head (hw f (by simp)) ((headersOf fs).1 ++ tail)
    have ih := readEntries_own fs k tail (by simp at hf; omega) (fun g hg => hw g (by simp [hg])) ht hs
    unfold readEntries
    rw [headersOf_cons f fs, List.append_assoc]
    rw [if_neg (by simp only [List.length_append]; omega), if_neg (by rw [w2]; simp), w3]
    simp only []
    rw [ih]
    rfl

theorem readWithDirectory_own (fs : List File) (size count csz cdoff minV : Nat) (hw : ∀ f ∈ fs, Writable f)
    (hc : count < 2 ^ 64) (hs : cdoff + csz < 2 ^ 64) :
    readWithDirectory size ((headersOf fs).1 ++ endRecords count csz cdoff true minV) =
      .ok { files := fs.map seen, size := size, dirLoc := size - ((headersOf fs).1.length + 98),
            end64 := own64 count csz cdoff, loc64 := ownLoc csz cdoff, endr := ownEnd } := by
  rw [endRecords_forced]
  generalize htl : encEnd64 (own64 count csz cdoff) ++ (encLoc64 (ownLoc csz cdoff) ++ encEnd ownEnd) = tail
  have htlen : tail.length = 98 := by rw [← htl]; simp [encEnd64_length, encLoc64_length, encEnd_length]
  have hsig : fld tail 0 4 = sigEnd64 := by
    rw [← htl, fld_append_left _ _ _ _ (by rw [encEnd64_length]; omega)]
    have := congrArg End64.sig (parse_own64 count csz cdoff hc (by omega) (by omega))
    exact this
  have hge := headersOf_length_ge fs hw
  unfold readWithDirectory
  rw [readEntries_own fs _ tail (by simp only [List.length_append]; omega) hw (by omega) (by rw [hsig]; decide)]
  simp only [hsig, if_true]
  rw [← htl, takeStruct_left _ _ 56 (encEnd64_length _), takeStruct_left _ _ 20 (encLoc64_length _)]
  have e : encEnd ownEnd = encEnd ownEnd ++ [] := by simp
  rw [e, takeStruct_left _ _ 22 (encEnd_length _)]
  simp only [Option.map_some, Option.getD_some, parse_own64 count csz cdoff hc (by omega) (by omega),
    parse_ownLoc csz cdoff hs, parse_ownEnd, List.length_append, encEnd64_length, encLoc64_length, encEnd_length, List.length_nil]

/-- `Read` on relic's own output: `body` (the local records, `DirLoc` bytes), the central
    directory and the forced ZIP64 end records `WriteDirectory` writes for `d`, nothing behind.  The reader gets every
    entry back as `seen` describes, the directory offset, the size and the three end records. -/
theorem write_read_roundtrip_own (body : Bytes) (d : Directory) (hloc : d.dirLoc = body.length)
    (hw : ∀ f ∈ d.files, Writable f)
    (h63 : (body ++ ((writeDirectory d true).1 ++ (writeDirectory d true).2.1)).length < 2 ^ 63) :
    Zip.read ⟨body ++ ((writeDirectory d true).1 ++ (writeDirectory d true).2.1), false, 0⟩ =
      .ok { files := d.files.map seen,
            size := (body ++ ((writeDirectory d true).1 ++ (writeDirectory d true).2.1)).length,
            dirLoc := d.dirLoc,
            end64 := own64 d.files.length (headersOf d.files).1.length d.dirLoc,
            loc64 := ownLoc (headersOf d.files).1.length d.dirLoc, endr := ownEnd } := by
  have hwd1 : (writeDirectory d true).1 = (headersOf d.files).1 := by simp [writeDirectory]
  have hwd2 : (writeDirectory d true).2.1 =
      endRecords d.files.length (headersOf d.files).1.length d.dirLoc true (maxReader d.files) := by simp [writeDirectory]
  rw [hwd1, hwd2] at h63 ⊢
  generalize hcd : (headersOf d.files).1 = cd at *
  generalize maxReader d.files = minV at *
  have hel : (endRecords d.files.length cd.length d.dirLoc true minV).length = 98 := by
    rw [endRecords_forced]; simp [encEnd64_length, encLoc64_length, encEnd_length]
  have hge : d.files.length ≤ cd.length := by rw [← hcd]; exact headersOf_length_ge _ hw
  simp only [List.length_append, hel] at h63
  -- `FindDirectory` goes through the ZIP64 locator to `d.dirLoc` (`findDirectory_own`) …
  have hfd := findDirectory_own (body ++ cd) d.files.length cd.length d.dirLoc minV (by simp [hloc])
    (by simp only [List.length_append]; omega) (by omega)
  rw [List.append_assoc] at hfd
  unfold Zip.read
  rw [hfd]
  simp only [List.length_append, hel]
  rw [if_neg (by omega), if_neg (by omega)]
  -- … `Read` takes everything from there to the end of the file, and `ReadWithDirectory` reads `cd` record by record
  -- (`readWithDirectory_own`) and then the three end records
  rw [readAt_ra _ d.dirLoc (body.length + (cd.length + 98) - d.dirLoc) (by simp only [List.length_append, hel]; omega)
    (by simp only [List.length_append, hel]; omega) (by simp only [List.length_append, hel]; omega)]
  simp only []
  have hel' := hel
  rw [hloc] at hel'
  rw [hloc, List.drop_left, List.take_of_length_le (by simp only [List.length_append, hel']; omega), ← hcd,
    readWithDirectory_own d.files _ _ _ _ _ hw (by omega) (by rw [hcd]; omega)]
  simp only [hcd]
  congr 2
  omega

/-- the 24-byte descriptor of a member with these sizes is recognised as such by `readDataDesc` -/
def descWideOk (csize usize : Nat) : Prop := usize ≥ u32Max ∨ csize / 2 ^ 32 % 2 ^ 32 ≠ usize % 2 ^ 32

theorem descWideOk_small {csize usize : Nat} (hc : csize < 2 ^ 32) (hu : usize ≠ 0) (hu2 : usize < 2 ^ 32) : descWideOk csize usize := by
  right
  rw [Nat.div_eq_of_lt hc, Nat.mod_eq_of_lt hu2]
  simpa using hu.symm

/-- a stored, non-empty member (compressed size = uncompressed size): its 24-byte descriptor is recognised, whatever the size -/
theorem descWideOk_stored {n : Nat} (hn : n ≠ 0) : descWideOk n n := by
  unfold descWideOk
  by_cases h : n ≥ u32Max
  · exact Or.inl h
  · right
    have : n < 2 ^ 32 := by simp only [u32Max] at h; omega
    rw [Nat.div_eq_of_lt this, Nat.mod_eq_of_lt this]
    simpa using hn.symm

/-- what relic's own `GetTotalSize` needs of the request to read the member back (`getTotalSize_new`).  Not `Zip.NewOK`
    (Proofs/ZipWrite, capital K), which is what the specification's reader needs: that one asks more of the extra field
    (room for a ZIP64 field, well-formedness), the CRC and the sizes of directories and stored members, and has no
    clause on the descriptor (`wide`); `Zip.NewReadable` is its counterpart of `wide`. -/
structure NewOk (n : NewMember) : Prop where
  name : n.name.length < 2 ^ 16
  extra : n.extra.length < 2 ^ 16
  csize : n.compd.length < 2 ^ 64
  usize : n.usize < 2 ^ 64
  wide : n.useDesc = true → descWideOk n.compd.length n.usize

/-- `GetTotalSize` on an entry read back from the directory, for a member `NewFile` wrote: the true
    extent `30 + name + extra + data + descriptor`. -/
theorem getTotalSize_new (mt md : Nat) (n : NewMember) (hn : NewOk n) (r : Rd) (f : File) (hl : f.lfh = none) (hd : f.ddb = [])
    (hcs : f.csize = n.compd.length) (hus : f.usize = n.usize)
    (hz : (r.z.drop f.offset).take (newBytes mt md n).length = newBytes mt md n)
    (hlen : f.offset + (newBytes mt md n).length ≤ r.z.length) (h63 : r.z.length < 2 ^ 63) (hb : r.before f.offset) :
    ∃ m r', getTotalSize r f = .ok (m, r') ∧ m.total = (newBytes mt md n).length ∧
      m.lfh.nameLen = n.name.length ∧ m.lfh.extraLen = n.extra.length ∧
      r'.z = r.z ∧ r'.stream = r.stream ∧ r'.before (f.offset + (newBytes mt md n).length) := by
  have hm := memberRec_newBytes mt md n hn.name hn.extra
  obtain ⟨e26, e28⟩ := newBytes_fld mt md n hn.name hn.extra
  have hdd := (newBytes_parts mt md n).2.2.2.2
  have hdl : (newDdb n).length = if n.useDesc then 24 else 0 := by unfold newDdb; split <;> simp
  -- the record as a byte string from here on: nothing below unfolds `newBytes`
  generalize newBytes mt md n = x at *
  rw [← hcs, ← hus] at hm
  rw [← hcs] at hdd
  rw [← e26, ← e28] at hdd ⊢
  obtain ⟨l, q, hg, -, -, a3, a4, -, hq⟩ := getTotalSize_bytes hl hd hm hz hlen h63 hb
    (by rw [hcs, hus]; exact ⟨hn.csize, hn.usize⟩) (by
      intro wd hD
      have := congrArg List.length hD
      rw [hdd, descEnc_length, hdl] at this
      cases hu : n.useDesc <;> cases wd <;> simp [hu] at this
      exact ⟨fun c => (by cases c), fun _ => by rw [hcs, hus]; exact hn.wide hu⟩)
  exact ⟨_, _, hg, rfl, a3, a4, Rd.to_z _ _, Rd.to_stream _ _, Rd.before_to _ hq⟩

theorem seen_raw (f : File) (h : f.raw ≠ []) :
    seen f = { f with crc := fld f.raw 16 4, lfh := none, ddb := [], compd := none } := by
  unfold seen; rw [if_pos h]

theorem readEntry_rawOk {cd rest : Bytes} {f : File} (h : readEntry cd = .ok (f, rest)) (hs : fld cd 0 4 = sigDir) :
    RawOk f ∧ seen f = f := by
  obtain ⟨-, h46, hcrc, hsig, hl, hd, hc, hre⟩ := readEntry_reread h
  have hne : f.raw ≠ [] := by intro e; rw [e] at h46; simp at h46
  have hseen : seen f = f := by
    rw [seen_raw f hne, ← hcrc]
    cases f
    simp_all
  exact ⟨⟨hne, by rw [hsig, hs], by omega, by rw [hseen]; exact hre⟩, hseen⟩

theorem readEntries_rawOk : ∀ (fuel : Nat) (cd : Bytes) (fs : List File) (rest : Bytes),
    readEntries fuel cd = .ok (fs, rest) → ∀ f ∈ fs, RawOk f ∧ seen f = f
  | 0, _, _, _, h => by cases h
  | fuel + 1, cd, fs, rest, h => by
    unfold readEntries at h
    split at h
    · cases h
    · split at h
      · injection h with h
        injection h with h1 h2
        subst h1
        intro f hf; cases hf
      next hsig =>
        have hsig' : fld cd 0 4 = sigDir := by
          by_cases hq : fld cd 0 4 = sigDir
          · exact hq
          · exact absurd hq hsig
        split at h
        next f0 r0 h0 =>
          split at h
          next fs1 r1 h1 =>
            injection h with h
            injection h with e1 e2
            subst e1
            intro f hf
            rcases List.mem_cons.mp hf with rfl | hf
            · exact readEntry_rawOk h0 hsig'
            · exact readEntries_rawOk fuel r0 fs1 r1 h1 f hf
          all_goals cases h
        all_goals cases h

theorem readWithDirectory_rawOk {size : Nat} {cd : Bytes} {d : Directory} (h : readWithDirectory size cd = .ok d) :
    ∀ f ∈ d.files, RawOk f ∧ seen f = f := by
  unfold readWithDirectory at h
  split at h
  next files tail h1 =>
    have := readEntries_rawOk _ _ _ _ h1
    simp only [] at h
    split at h
    · injection h with h; subst h; exact this
    · split at h
      · injection h with h; subst h; exact this
      · cases h
  all_goals cases h

/-- measuring a member (`GetTotalSize`: CRC of the descriptor, cached local header and descriptor) does not change what
    `WriteDirectory` writes for it nor what is read back -/
theorem rawOk_measured {f : File} (h : RawOk f) (hs : seen f = f) (crc : Nat) (l : Option Lfh) (ddb : Bytes) :
    RawOk { f with crc := crc, lfh := l, ddb := ddb } ∧ seen { f with crc := crc, lfh := l, ddb := ddb } = f := by
  obtain ⟨h1, h2, h3, h4⟩ := h
  have e : seen { f with crc := crc, lfh := l, ddb := ddb } = seen f := by
    rw [seen_raw _ (by exact h1), seen_raw f h1]
  refine ⟨⟨h1, h2, h3, ?_⟩, by rw [e, hs]⟩
  intro rest
  rw [e]
  exact h4 rest

theorem getDirectoryHeader_seen {f : File} (h : Writable f) : getDirectoryHeader (seen f) = ((getDirectoryHeader f).1, seen f) := by
  have hne : (seen f).raw ≠ [] := by
    rcases h with ⟨h1, -⟩ | hs
    · rw [seen_raw f h1]; exact h1
    · have h4 := (writable_head (Or.inr hs) []).1
      unfold seen
      rw [if_neg (by rw [hs.raw]; simp)]
      simp only []
      intro e; rw [e] at h4; simp at h4
  have hraw : (seen f).raw = (getDirectoryHeader f).1 := by
    rcases h with ⟨h1, -⟩ | hs
    · rw [seen_raw f h1]
      unfold getDirectoryHeader
      rw [if_pos h1]
    · unfold seen
      rw [if_neg (by rw [hs.raw]; simp)]
  conv => lhs; unfold getDirectoryHeader
  rw [if_pos hne, hraw]

theorem headersOf_seen : ∀ (fs : List File), (∀ f ∈ fs, Writable f) → (headersOf (fs.map seen)).1 = (headersOf fs).1
  | [], _ => rfl
  | f :: fs, h => by
    rw [List.map_cons, headersOf_cons _ _, headersOf_cons f fs, headersOf_seen fs (fun g hg => h g (by simp [hg])),
      getDirectoryHeader_seen (h f (by simp))]

theorem headersOf_app : ∀ (a b : List File),
    (headersOf (a ++ b)).1 = (headersOf a).1 ++ (headersOf b).1 ∧ (headersOf (a ++ b)).2 = (headersOf a).2 ++ (headersOf b).2
  | [], b => by simp [headersOf]
  | f :: a, b => by
    obtain ⟨h1, h2⟩ := headersOf_app a b
    simp only [List.cons_append, headersOf, h1, h2]
    simp [List.append_assoc]

/-- (fix 7d5f1c2) `GetDirectoryHeader` leaves the entry as it was — whatever the entry -/
theorem getDirectoryHeader_file (f : File) : (getDirectoryHeader f).2 = f := by
  unfold getDirectoryHeader; split <;> rfl

theorem headersOf_files : ∀ fs : List File, (headersOf fs).2 = fs
  | [] => rfl
  | f :: fs => by rw [headersOf_cons_files f fs, getDirectoryHeader_file, headersOf_files fs]

theorem headersOf_keep : ∀ (fs : List File), (∀ f ∈ fs, f.raw ≠ [] ∨ ¬ isBig f) → (headersOf fs).2 = fs :=
  fun fs _ => headersOf_files fs

theorem newEntries_app (mt md : Nat) : ∀ (a b : List NewMember) (o : Nat),
    (newEntries mt md (a ++ b) o).1 = (newEntries mt md a o).1 ++ (newEntries mt md b (o + (newEntries mt md a o).2.length)).1 ∧
    (newEntries mt md (a ++ b) o).2 = (newEntries mt md a o).2 ++ (newEntries mt md b (o + (newEntries mt md a o).2.length)).2
  | [], b, o => by simp [newEntries]
  | n :: a, b, o => by
    obtain ⟨h1, h2⟩ := newEntries_app mt md a b (o + (newBytes mt md n).length)
    simp only [List.cons_append, newEntries, h1, h2, List.length_append]
    simp [List.append_assoc, Nat.add_assoc]

theorem synth_new (mt md : Nat) (n : NewMember) (o : Nat) (hn : n.name.length < 2 ^ 16) (he : 28 + n.extra.length < 2 ^ 16)
    (hc : n.compd.length < 2 ^ 64) (hu : n.usize < 2 ^ 64) (ho : o < 2 ^ 64) : Synth (newEntryAt mt md n o) :=
  ⟨rfl, hn, he, by simp [newEntryAt], hc, hu, ho⟩

theorem seen_new (mt md : Nat) (n : NewMember) (o : Nat) :
    (seen (newEntryAt mt md n o)).name = n.name ∧ (seen (newEntryAt mt md n o)).offset = o ∧
    (seen (newEntryAt mt md n o)).csize = n.compd.length ∧ (seen (newEntryAt mt md n o)).usize = n.usize ∧
    (seen (newEntryAt mt md n o)).method = (if n.deflate then 8 else 0) ∧
    (seen (newEntryAt mt md n o)).lfh = none ∧ (seen (newEntryAt mt md n o)).ddb = [] := by
  have hr : (newEntryAt mt md n o).raw = [] := rfl
  unfold seen
  rw [if_neg (by rw [hr]; simp)]
  refine ⟨rfl, rfl, rfl, rfl, ?_, rfl, rfl⟩
  simp only [newEntryAt]
  cases n.deflate <;> decide

end Relic.ZipOwn
