/-
  Relic.Proofs.ZipForward — forward order of the members follows from `Spec.Zip` validity on the readable class: no
  local header can start inside the descriptor that ends a member (a 4-byte window there straddles two words that are
  zero or the descriptor signature), hence `ordered` (narrowest encoding) implies `forwardSpec` (true width).
-/
import Relic.Proofs.ZipDescWidths
import Relic.Proofs.Lists
import Relic.Model.ZipStream
namespace Relic.Zip
open Relic.SpecZip

theorem fld_straddle (b : Bytes) (o j : Nat) (hj : j < 4) :
    fld b (o + j) 4 = fld b o 4 / 256 ^ j + fld b (o + 4) 4 % 256 ^ j * 256 ^ (4 - j) := by
  simp only [fld_eq, Nat.pow_add, ← Nat.div_div_eq_div_mul]
  generalize leVal b / 256 ^ o = m
  rcases (by omega : j = 0 ∨ j = 1 ∨ j = 2 ∨ j = 3) with rfl | rfl | rfl | rfl <;> omega

/-- a window over a word that is zero or the descriptor signature, followed by such a word or by a header
    signature, never reads as a local header signature (32 combinations) -/
theorem straddle_ne_sigFile : ∀ a ∈ [0, sigDesc], ∀ c ∈ [0, sigDesc, sigFile, sigDir], ∀ j, j < 4 →
    a / 256 ^ j + c % 256 ^ j * 256 ^ (4 - j) ≠ sigFile := by decide +kernel

/-- **no local header can start inside the descriptor that ends a member.**  If the signed encoding of width `w`
    (16 or 24) is present at `stop` and is followed at `stop + w` by a local or central signature, and some
    encoding of width `w0` is present too, then no position `stop + k` with `w0 ≤ k < w` carries a local header
    signature: the two encodings overlap shifted by one or two words, which forces every word from `w0` on to be
    zero or the descriptor signature. -/
theorem no_header_inside_desc {z : Bytes} {stop lim w w0 k : Nat} {e : Entry}
    (hw : w ∈ descWidthsAt z stop lim e) (hw2 : w = 16 ∨ w = 24) (hw0 : w0 ∈ descWidthsAt z stop lim e)
    (hk0 : w0 ≤ k) (hk : k < w)
    (hnext : fld (z.drop (stop + w)) 0 4 = sigFile ∨ fld (z.drop (stop + w)) 0 4 = sigDir)
    (hsig : fld (z.drop (stop + k)) 0 4 = sigFile) : False := by
  rw [fld_drop0] at hnext hsig
  have hmid := desc_mid_words hw hw2 hw0
  obtain ⟨s0, wd0, hl0, -, -, -⟩ := mem_descWidthsAt hw0
  generalize z.drop stop = B at *
  rw [descEnc_length] at hl0
  have h4 : w0 % 4 = 0 := by cases s0 <;> cases wd0 <;> simp at hl0 <;> omega
  obtain ⟨i, j, hj, rfl⟩ : ∃ i j, j < 4 ∧ k = 4 * i + j := ⟨k / 4, k % 4, by omega, by omega⟩
  refine straddle_ne_sigFile _ ?_ _ ?_ j hj (fld_straddle B (4 * i) j hj ▸ hsig)
  · have := hmid i (by omega) (by omega)
    simpa using this
  · by_cases hi : 4 * (i + 1) < w
    · have := hmid (i + 1) (by omega) hi
      rw [Nat.mul_add] at this
      rcases this with h | h <;> simp [h]
    · have : 4 * i + 4 = w := by rcases hw2 with rfl | rfl <;> omega
      rw [this]
      rcases hnext with h | h <;> simp [h]

theorem forwardSpec_mono (a : Archive) : ∀ (ms : List SpecZip.Member) (p q : Nat), (∀ m, ms.head? = some m → q ≤ m.entry.hoff) →
    forwardSpec a p ms = true → forwardSpec a q ms = true := by
  intro ms
  cases ms with
  | nil => intro _ _ _ _; rfl
  | cons m ms =>
    intro p q hq h
    simp only [forwardSpec, Bool.and_eq_true, decide_eq_true_eq] at h ⊢
    exact ⟨hq m rfl, h.2⟩

/-- **forward order follows from validity on the readable class**: `Spec.Zip.ordered` bounds the next member by the
    narrowest descriptor encoding found; no local header can start inside the descriptor that really ends the
    member, so the next member starts after it. -/
theorem forward_of_ordered {z : Bytes} {a : Archive} (hp : parse z = some a) (hsigned : descSigned a = true)
    (hw : (a.members.all (widthOK a)) = true) :
    ∀ (ms : List SpecZip.Member) (pos : Nat), (∀ m ∈ ms, m ∈ a.members) → ordered pos ms = true →
      forwardSpec a pos ms = true := by
  obtain ⟨-, -, -, hms, -⟩ := parse_some hp
  intro ms
  induction ms with
  | nil => intro _ _ _; rfl
  | cons m ms ih =>
    intro pos hmem hord
    have hm := hmem m (List.mem_cons_self ..)
    have hmem' : ∀ x ∈ ms, x ∈ a.members := fun x hx => hmem x (List.mem_cons_of_mem _ hx)
    simp only [ordered, Bool.and_eq_true, decide_eq_true_eq] at hord
    obtain ⟨hpos, hord'⟩ := hord
    obtain ⟨-, -, -, -, -, -, -, -, -, hdesc⟩ := memberOf_some (mapM_memberOf_mem _ _ hms m hm)
    simp only [forwardSpec, Bool.and_eq_true, decide_eq_true_eq]
    refine ⟨hpos, ?_⟩
    cases hh : m.descWidths with
    | nil =>
      rw [hh] at hord'
      simp only [List.foldl_nil, List.headD_nil, Nat.add_zero] at hord'
      exact ih _ hmem' hord'
    | cons w1 ws =>
      simp only
      have hne : m.descWidths ≠ [] := by rw [hh]; simp
      have hfl : m.entry.flags % 16 / 8 = 1 := Decidable.byContradiction fun c => by
        rw [if_neg c] at hdesc; exact hne hdesc
      obtain ⟨w, htw, hwm, hws, hw1624, -, -, -, -, hnx⟩ := readable_width hp hsigned hw hm hfl
      rw [htw]
      simp only
      rw [hws] at hwm
      have hminmem : m.descWidths.foldl min (m.descWidths.headD 0) ∈
          descWidthsAt z (m.dataOff + m.entry.csize) a.ends.cdOff m.entry := by
        rw [← hws]; exact foldl_min_headD_mem hne
      rw [hh] at hord' hminmem
      apply forwardSpec_mono a ms _ _ _ (ih _ hmem' hord')
      intro m' hm'
      cases ms with
      | nil => cases hm'
      | cons m2 ms2 =>
        simp only [List.head?_cons, Option.some.injEq] at hm'
        subst hm'
        simp only [ordered, Bool.and_eq_true, decide_eq_true_eq] at hord'
        have hsig2 := (memberOf_some (mapM_memberOf_mem _ _ hms m2 (hmem' m2 (List.mem_cons_self ..)))).2.1
        refine Decidable.byContradiction fun c => ?_
        have hk : m2.entry.hoff = m.dataOff + m.entry.csize + (m2.entry.hoff - (m.dataOff + m.entry.csize)) := by omega
        apply no_header_inside_desc (k := m2.entry.hoff - (m.dataOff + m.entry.csize)) hwm hw1624 hminmem (by omega) (by omega)
          hnx
        rw [← hk]
        exact hasSig_fld hsig2

end Relic.Zip
