/-
  Relic.Proofs.MsiTree — per-directory and whole-tree lemmas: relic's MSI digest walk = the specification's
  on well-formed trees; the Boolean forms `sibsOkB` / `okAtB` / `okAllB` of the hypothesis with their soundness (run by
  `Driver/MSI`, `Driver/MsiSign`).
-/
import Relic.Proofs.MsiDigest
import Relic.Proofs.Lists
namespace Relic.MsiDigest
open Relic.RedBlack

/-- the siblings of one storage: every name field well formed, names pairwise distinct -/
def SibsOk (ms : List Meta) : Prop :=
  (∀ m ∈ ms, wfNameB m = true) ∧ ms.Pairwise (fun a b => Spec.MsiDigest.specName a ≠ Spec.MsiDigest.specName b)

def okify {β : Type} (x : Meta × β) : Item β := (x.1, .ok x.2)

variable {β : Type}

theorem sortItems_sorted (l : List (Item β)) (h : SibsOk (l.map (·.1))) :
    ∃ s, sortItems l = .ok s ∧ s.Perm l ∧ s.Pairwise (fun u v => lexLt (nameKey u.1) (nameKey v.1) = true) := by
  have hp : l.Pairwise (fun a b => Spec.MsiDigest.specName a.1 ≠ Spec.MsiDigest.specName b.1) :=
    (List.pairwise_map (f := Prod.fst)).mp h.2
  have hw : ∀ a ∈ l, WfName a.1 := fun a ha => wfName_of_B a.1 (h.1 a.1 (List.mem_map_of_mem ha))
  refine ⟨_, sortRes_ok _ _ l ?_, sortP_perm _ l, sortP_sorted lexOrder (fun it : Item β => nameKey it.1) l ?_⟩
  · exact hp.imp_of_mem (fun {a b} ha hb hab => less_eq_key b.1 a.1 (hw b hb) (hw a ha) (fun e => hab e.symm))
  · exact hp.imp_of_mem (fun {a b} ha hb hab => specName_ne_of_key (hw a ha) (hw b hb) hab)

/-- the specification's `insertSorted` / `digestOrder` as an insertion sort: an entry walks past those it is not before -/
theorem specSort : InsertSort (fun a b : Meta × β => !Spec.MsiDigest.specBefore a.1 b.1)
    Spec.MsiDigest.insertSorted Spec.MsiDigest.digestOrder where
  ins_nil _ := rfl
  ins_cons a b bs := by
    rw [Spec.MsiDigest.insertSorted]
    cases Spec.MsiDigest.specBefore a.1 b.1 <;> rfl
  sort_nil := rfl
  sort_cons _ _ := rfl

theorem digestOrder_perm (l : List (Meta × β)) : (Spec.MsiDigest.digestOrder l).Perm l :=
  specSort.sort_perm l

theorem insertSorted_map {γ : Type} (g : Meta × β → Meta × γ)
    (hg : ∀ x y, Spec.MsiDigest.specBefore (g x).1 (g y).1 = Spec.MsiDigest.specBefore x.1 y.1) (x : Meta × β) :
    ∀ l, Spec.MsiDigest.insertSorted (g x) (l.map g) = (Spec.MsiDigest.insertSorted x l).map g
  | [] => rfl
  | y :: r => by
    rw [List.map_cons, Spec.MsiDigest.insertSorted, Spec.MsiDigest.insertSorted, hg, insertSorted_map g hg x r]
    cases Spec.MsiDigest.specBefore x.1 y.1 <;> rfl

theorem digestOrder_map {γ : Type} (g : Meta × β → Meta × γ)
    (hg : ∀ x y, Spec.MsiDigest.specBefore (g x).1 (g y).1 = Spec.MsiDigest.specBefore x.1 y.1) :
    ∀ l, Spec.MsiDigest.digestOrder (l.map g) = (Spec.MsiDigest.digestOrder l).map g
  | [] => rfl
  | x :: r => by
    have ih := digestOrder_map g hg r
    unfold Spec.MsiDigest.digestOrder at ih ⊢
    rw [List.map_cons, List.foldr_cons, List.foldr_cons, ih, insertSorted_map g hg]

theorem digestOrder_sorted (l : List (Meta × β)) (h : SibsOk (l.map (·.1))) :
    (Spec.MsiDigest.digestOrder l).Pairwise (fun u v => lexLt (nameKey u.1) (nameKey v.1) = true) := by
  have hw : ∀ a ∈ l, WfName a.1 := fun a ha => wfName_of_B a.1 (h.1 a.1 (List.mem_map_of_mem ha))
  refine specSort.sort_pairwise (R := fun u v => lexLt (nameKey u.1) (nameKey v.1) = true)
    (C := fun a b => WfName a.1 ∧ WfName b.1 ∧ Spec.MsiDigest.specName a.1 ≠ Spec.MsiDigest.specName b.1)
    (fun _ _ _ => lexLt_trans _ _ _) ?_ l
    (((List.pairwise_map (f := Prod.fst)).mp h.2).imp_of_mem (fun {a b} ha hb hab => ⟨hw a ha, hw b hb, hab⟩))
  intro a b ⟨ha, hb, hne⟩
  rw [specBefore_eq_key a.1 b.1 ha hb hne]
  cases hlt : lexLt (nameKey a.1) (nameKey b.1)
  · rw [Bool.not_false, if_pos rfl]
    exact (lexLt_total _ _ (specName_ne_of_key ha hb hne)).resolve_left (by rw [hlt]; exact Bool.false_ne_true)
  · rw [Bool.not_true, if_neg Bool.false_ne_true]

theorem sortItems_eq_digestOrder (l : List (Meta × β)) (h : SibsOk (l.map (·.1))) :
    sortItems (l.map okify) = .ok ((Spec.MsiDigest.digestOrder l).map okify) := by
  have hm : (l.map okify).map (·.1) = l.map (·.1) := by simp [okify, Function.comp_def]
  obtain ⟨s, hs, hperm, hsorted⟩ := sortItems_sorted (l.map okify) (by rw [hm]; exact h)
  rw [hs]
  congr 1
  apply sorted_unique lexOrder (fun it : Item β => nameKey it.1) _ _ hsorted
  · rw [List.pairwise_map]
    exact (digestOrder_sorted l h).imp (fun hab => hab)
  · exact hperm.trans ((digestOrder_perm l).map okify).symm

theorem catRes_ok {γ : Type} (f : α → List γ) : ∀ (l : List α), catRes (l.map (fun x => Res.ok (f x))) = .ok (l.flatMap f)
  | [] => rfl
  | x :: r => by simp [catRes, catRes_ok f r]

/-- the children's contributions in specification order: what both walks append once the siblings are sorted -/
theorem catRes_digestOrder (isRoot : Bool) (l : List (Meta × Bytes)) (hs : SibsOk (l.map (·.1))) :
    catRes ((((Spec.MsiDigest.digestOrder l).map okify).filter (fun it => !(isRoot && isSig it.1))).map (·.2)) =
    .ok (((Spec.MsiDigest.digestOrder l).filter
      (fun k => !(isRoot && Spec.MsiDigest.isSignatureStream k.1))).flatMap (·.2)) := by
  have hf : ((Spec.MsiDigest.digestOrder l).map okify).filter (fun it => !(isRoot && isSig it.1)) =
      ((Spec.MsiDigest.digestOrder l).filter (fun k => !(isRoot && isSig k.1))).map okify := by
    rw [List.filter_map]; rfl
  have hw : ∀ k ∈ Spec.MsiDigest.digestOrder l, WfName k.1 :=
    fun k hk => wfName_of_B k.1 (hs.1 k.1 (List.mem_map_of_mem ((digestOrder_perm l).subset hk)))
  rw [hf, List.filter_congr (fun k hk => by rw [isSig_wf k.1 (hw k hk)]), List.map_map]
  exact catRes_ok (fun k : Meta × Bytes => k.2) _

theorem hashDirOf_eq (isRoot : Bool) (clsid : Bytes) (l : List (Meta × Bytes)) (hs : SibsOk (l.map (·.1))) :
    hashDirOf isRoot clsid (l.map okify) = .ok (Spec.MsiDigest.dirInput isRoot clsid l) := by
  unfold hashDirOf Spec.MsiDigest.dirInput
  rw [sortItems_eq_digestOrder l hs, Res.bind_ok', catRes_digestOrder isRoot l hs]
  rfl

theorem prehashDirOf_eq (isRoot : Bool) (m : Meta) (l : List (Meta × Bytes)) (hs : SibsOk (l.map (·.1)))
    (hm : prehashDirent m = .ok (Spec.MsiDigest.metaInput m isRoot)) :
    prehashDirOf isRoot m (l.map okify) = .ok (Spec.MsiDigest.dirMetaInput m isRoot l) := by
  unfold prehashDirOf Spec.MsiDigest.dirMetaInput
  rw [sortItems_eq_digestOrder l hs, hm, Res.bind_ok', Res.bind_ok', catRes_digestOrder isRoot l hs]
  rfl

theorem nameField_bytes : ∀ (sl : List Nat), (sl.flatMap (fun u => [u % 256, u / 256])).map UInt8.ofNat = le16s sl
  | [] => rfl
  | u :: r => by simp [le16s, nameField_bytes r]

theorem le16s_length : ∀ (sl : List Nat), (le16s sl).length = 2 * sl.length
  | [] => rfl
  | u :: r => by simp [le16s, le16s_length r]; omega

theorem prehashDirent_wf (m : Meta) (h : WfName m) (ht12 : m.typ = typStream ∨ m.typ = typStorage) :
    prehashDirent m = .ok (Spec.MsiDigest.metaInput m false) := by
  have h1 := h.even
  have h2 := h.le64
  have hn : (m.nameLen + 65534) % 65536 = m.nameLen - 2 :=
    sub_mod_wrap (M := 65536) (c := 2) (by omega) (by decide) (by omega)
  have hname : (enc m).take (m.nameLen - 2) =
      ((Spec.MsiDigest.nameField m).take (m.nameLen - 2)).map UInt8.ofNat := by
    rw [List.map_take, Spec.MsiDigest.nameField, nameField_bytes, enc]
    simp only [List.append_assoc]
    rw [List.take_append_of_le_length (by rw [le16s_length, h.len]; omega)]
  have hc : ¬ (m.typ ≠ typRoot ∧ m.nameLen - 2 > 128) := fun hh => by omega
  unfold prehashDirent Spec.MsiDigest.metaInput
  simp only [hn, hname, if_neg hc]
  rcases ht12 with ht | ht
  · simp [ht, typStream, typStorage, typRoot]
  · simp [ht, typStream, typStorage, typRoot]

theorem prehashDirent_root (m : Meta) (ht : m.typ = typRoot) :
    prehashDirent m = .ok (Spec.MsiDigest.metaInput m true) := by
  unfold prehashDirent Spec.MsiDigest.metaInput
  unfold typStream typStorage typRoot at *
  simp [ht]

def metas (ks : List Node) : List Meta := ks.map Node.meta

mutual
/-- hypothesis on a tree: in every storage the children have well-formed, pairwise distinct names.  The Boolean is not
    read (the hypothesis is the same at the root and below it); the statements pass `true` for a document's root. -/
def Node.okAt : Bool → Node → Prop
  | _, .mk _ _ kids => SibsOk (metas kids) ∧ Nodes.ok kids
def Nodes.ok : List Node → Prop
  | [] => True
  | n :: r => Node.okAt false n ∧ Nodes.ok r
end

theorem nodesOk_iff : ∀ ks : List Node, Nodes.ok ks ↔ ∀ k ∈ ks, Node.okAt false k
  | [] => by rw [Nodes.ok]; simp
  | n :: r => by rw [Nodes.ok, nodesOk_iff r]; simp

theorem okAt_root_iff (m : Meta) (c : Bytes) (ks : List Node) :
    Node.okAt true (.mk m c ks) ↔ SibsOk (metas ks) ∧ ∀ k ∈ ks, Node.okAt false k := by
  rw [Node.okAt, nodesOk_iff]

theorem okAt_leaf (b : Bool) (m : Meta) (c : Bytes) : Node.okAt b (.mk m c []) := by
  rw [Node.okAt]
  refine ⟨⟨fun _ h => (by cases h), List.Pairwise.nil⟩, ?_⟩
  rw [Nodes.ok]; trivial

theorem entryInput_fst (n : Node) : (Spec.MsiDigest.entryInput n).1 = n.meta := by
  cases n; rw [Spec.MsiDigest.entryInput]; rfl

theorem entryMeta_fst (n : Node) : (Spec.MsiDigest.entryMeta n).1 = n.meta := by
  cases n; rw [Spec.MsiDigest.entryMeta]; rfl

theorem entriesInput_eq_map : ∀ ks, Spec.MsiDigest.entriesInput ks = ks.map Spec.MsiDigest.entryInput
  | [] => by rw [Spec.MsiDigest.entriesInput]; rfl
  | n :: r => by rw [Spec.MsiDigest.entriesInput, entriesInput_eq_map r]; rfl

theorem entriesMeta_eq_map : ∀ ks, Spec.MsiDigest.entriesMeta ks = ks.map Spec.MsiDigest.entryMeta
  | [] => by rw [Spec.MsiDigest.entriesMeta]; rfl
  | n :: r => by rw [Spec.MsiDigest.entriesMeta, entriesMeta_eq_map r]; rfl

theorem entriesInput_fst (ks : List Node) : (Spec.MsiDigest.entriesInput ks).map (·.1) = metas ks := by
  rw [entriesInput_eq_map, List.map_map]; exact List.map_congr_left fun n _ => entryInput_fst n

theorem entriesMeta_fst (ks : List Node) : (Spec.MsiDigest.entriesMeta ks).map (·.1) = metas ks := by
  rw [entriesMeta_eq_map, List.map_map]; exact List.map_congr_left fun n _ => entryMeta_fst n

theorem mem_fst_of_map {l : List (Meta × Bytes)} {ms : List Meta} (h : l.map (·.1) = ms) :
    ∀ k ∈ l, k.1 ∈ ms := fun _ hk => h ▸ List.mem_map_of_mem hk

mutual
theorem hashItem_eq : ∀ (n : Node), Node.okAt false n → hashItem n = okify (Spec.MsiDigest.entryInput n)
  | .mk m c kids, h => by
    rw [Node.okAt] at h
    rw [hashItem, Spec.MsiDigest.entryInput, hashItems_eq kids h.2,
      hashDirOf_eq false m.clsid _ (by rw [entriesInput_fst]; exact h.1)]
    unfold okify typStream typStorage
    by_cases h2 : m.typ = 2
    · simp [h2]
    · by_cases h1 : m.typ = 1
      · simp [h1]
      · simp [h1, h2]
theorem hashItems_eq : ∀ (ks : List Node), Nodes.ok ks →
    hashItems ks = (Spec.MsiDigest.entriesInput ks).map okify
  | [], _ => by rw [hashItems, Spec.MsiDigest.entriesInput]; rfl
  | n :: r, h => by
    rw [Nodes.ok] at h
    rw [hashItems, Spec.MsiDigest.entriesInput, List.map_cons, hashItem_eq n h.1, hashItems_eq r h.2]
end

theorem hashMsiDir_eq (root : Node) (h : Node.okAt true root) :
    hashMsiDir root = .ok (Spec.MsiDigest.hashInput root) := by
  cases root with
  | mk m c kids =>
    rw [Node.okAt] at h
    unfold hashMsiDir Spec.MsiDigest.hashInput
    simp only [Node.meta, Node.kids]
    rw [hashItems_eq kids h.2]
    exact hashDirOf_eq true m.clsid _ (by rw [entriesInput_fst]; exact h.1)

theorem SibsOk.wf {ms : List Meta} (h : SibsOk ms) : ∀ m ∈ ms, WfName m := fun m hm => wfName_of_B m (h.1 m hm)

mutual
theorem prehashItem_eq : ∀ (n : Node), Node.okAt false n → WfName n.meta →
    prehashItem n = okify (Spec.MsiDigest.entryMeta n)
  | .mk m c kids, h, hw => by
    rw [Node.okAt] at h
    simp only [Node.meta] at hw
    rw [prehashItem, Spec.MsiDigest.entryMeta, prehashItems_eq kids h.2 h.1.wf]
    by_cases h2 : m.typ = typStream
    · have key := prehashDirent_wf m hw (Or.inl h2)
      unfold typStream at h2
      simp only [okify, typStream, h2, if_true, key]
    · by_cases h1 : m.typ = typStorage
      · have key := prehashDirOf_eq false m _ (by rw [entriesMeta_fst]; exact h.1)
          (prehashDirent_wf m hw (Or.inr h1))
        unfold typStorage at h1
        rw [key]
        simp [okify, typStream, typStorage, h1]
      · unfold typStream at h2; unfold typStorage at h1
        simp [okify, typStream, typStorage, h1, h2]
theorem prehashItems_eq : ∀ (ks : List Node), Nodes.ok ks → (∀ m ∈ metas ks, WfName m) →
    prehashItems ks = (Spec.MsiDigest.entriesMeta ks).map okify
  | [], _, _ => by rw [prehashItems, Spec.MsiDigest.entriesMeta]; rfl
  | n :: r, h, hw => by
    rw [Nodes.ok] at h
    rw [prehashItems, Spec.MsiDigest.entriesMeta, List.map_cons,
      prehashItem_eq n h.1 (hw n.meta (by simp [metas])),
      prehashItems_eq r h.2 (fun m hm => hw m (by simp only [metas, List.map_cons, List.mem_cons]; right; exact hm))]
end

theorem prehashMsiDir_eq (root : Node) (h : Node.okAt true root) (hr : root.meta.typ = typRoot) :
    prehashMsiDir root = .ok (Spec.MsiDigest.prehashInput root) := by
  cases root with
  | mk m c kids =>
    rw [Node.okAt] at h
    unfold prehashMsiDir Spec.MsiDigest.prehashInput
    simp only [Node.meta, Node.kids] at hr ⊢
    rw [prehashItems_eq kids h.2 h.1.wf]
    exact prehashDirOf_eq true m _ (by rw [entriesMeta_fst]; exact h.1) (prehashDirent_root m hr)

theorem digestOrder_filter_congr (p : Meta → Bool) (l₁ l₂ : List (Meta × β))
    (h₁ : SibsOk (l₁.map (·.1))) (h₂ : SibsOk (l₂.map (·.1)))
    (hp : (l₁.filter (fun k => p k.1)).Perm (l₂.filter (fun k => p k.1))) :
    (Spec.MsiDigest.digestOrder l₁).filter (fun k => p k.1) = (Spec.MsiDigest.digestOrder l₂).filter (fun k => p k.1) := by
  apply sorted_unique lexOrder (fun it : Meta × β => nameKey it.1)
  · exact (digestOrder_sorted l₁ h₁).filter _
  · exact (digestOrder_sorted l₂ h₂).filter _
  · exact ((digestOrder_perm l₁).filter _).trans (hp.trans ((digestOrder_perm l₂).filter _).symm)

/-- in the specification's order, the entries that pass a test on the metadata depend only on those entries -/
theorem digestOrder_entries_congr (f : Node → Meta × β) (hf : ∀ n, (f n).1 = n.meta) (p : Meta → Bool)
    (k₁ k₂ : List Node) (h₁ : SibsOk (metas k₁)) (h₂ : SibsOk (metas k₂))
    (hk : (k₁.filter (fun n => p n.meta)).Perm (k₂.filter (fun n => p n.meta))) :
    (Spec.MsiDigest.digestOrder (k₁.map f)).filter (fun k => p k.1) =
    (Spec.MsiDigest.digestOrder (k₂.map f)).filter (fun k => p k.1) := by
  have hm : ∀ ks : List Node, (ks.map f).map (·.1) = metas ks := fun ks => by
    rw [List.map_map]; exact List.map_congr_left (fun n _ => hf n)
  apply digestOrder_filter_congr p _ _ (by rw [hm]; exact h₁) (by rw [hm]; exact h₂)
  have e := filter_map_of f (fun k => p k.1) (fun n => p n.meta) (fun n => by simp [hf n])
  rw [e, e]
  exact hk.map f

theorem hashInput_perm (m₁ m₂ : Meta) (c₁ c₂ : Bytes) (k₁ k₂ : List Node) (hc : m₁.clsid = m₂.clsid)
    (h₁ : SibsOk (metas k₁)) (h₂ : SibsOk (metas k₂))
    (hk : (k₁.filter (fun n => !Spec.MsiDigest.isSignatureStream n.meta)).Perm
          (k₂.filter (fun n => !Spec.MsiDigest.isSignatureStream n.meta))) :
    Spec.MsiDigest.hashInput (.mk m₁ c₁ k₁) = Spec.MsiDigest.hashInput (.mk m₂ c₂ k₂) := by
  unfold Spec.MsiDigest.hashInput Spec.MsiDigest.dirInput
  simp only [Node.meta, Node.kids, Bool.true_and, hc, entriesInput_eq_map]
  rw [digestOrder_entries_congr _ entryInput_fst (fun k => !Spec.MsiDigest.isSignatureStream k) k₁ k₂ h₁ h₂ hk]

theorem prehashInput_perm (m₁ m₂ : Meta) (c₁ c₂ : Bytes) (k₁ k₂ : List Node)
    (hc : Spec.MsiDigest.metaInput m₁ true = Spec.MsiDigest.metaInput m₂ true)
    (h₁ : SibsOk (metas k₁)) (h₂ : SibsOk (metas k₂))
    (hk : (k₁.filter (fun n => !Spec.MsiDigest.isSignatureStream n.meta)).Perm
          (k₂.filter (fun n => !Spec.MsiDigest.isSignatureStream n.meta))) :
    Spec.MsiDigest.prehashInput (.mk m₁ c₁ k₁) = Spec.MsiDigest.prehashInput (.mk m₂ c₂ k₂) := by
  unfold Spec.MsiDigest.prehashInput Spec.MsiDigest.dirMetaInput
  simp only [Node.meta, Node.kids, Bool.true_and, hc, entriesMeta_eq_map]
  rw [digestOrder_entries_congr _ entryMeta_fst (fun k => !Spec.MsiDigest.isSignatureStream k) k₁ k₂ h₁ h₂ hk]

def pairwiseB {α : Type} (r : α → α → Bool) : List α → Bool
  | [] => true
  | x :: l => l.all (r x) && pairwiseB r l

theorem pairwiseB_sound {α : Type} (r : α → α → Bool) : ∀ l, pairwiseB r l = true → l.Pairwise (fun a b => r a b = true)
  | [], _ => List.Pairwise.nil
  | x :: l, h => by
    simp only [pairwiseB, Bool.and_eq_true, List.all_eq_true] at h
    exact List.pairwise_cons.mpr ⟨h.1, pairwiseB_sound r l h.2⟩

def sibsOkB (ms : List Meta) : Bool :=
  ms.all wfNameB && pairwiseB (fun a b => decide (Spec.MsiDigest.specName a ≠ Spec.MsiDigest.specName b)) ms

theorem sibsOkB_sound (ms : List Meta) (h : sibsOkB ms = true) : SibsOk ms := by
  simp only [sibsOkB, Bool.and_eq_true, List.all_eq_true] at h
  exact ⟨h.1, (pairwiseB_sound _ ms h.2).imp (fun hab => by simpa using hab)⟩

mutual
def okAtB : Bool → Node → Bool
  | _, .mk _ _ kids => sibsOkB (metas kids) && okAllB kids
def okAllB : List Node → Bool
  | [] => true
  | n :: r => okAtB false n && okAllB r
end

mutual
theorem okAtB_sound : ∀ (isRoot : Bool) (n : Node), okAtB isRoot n = true → Node.okAt isRoot n
  | isRoot, .mk m c kids, h => by
    rw [okAtB] at h
    simp only [Bool.and_eq_true] at h
    rw [Node.okAt]
    exact ⟨sibsOkB_sound _ h.1, okAllB_sound kids h.2⟩
theorem okAllB_sound : ∀ (ks : List Node), okAllB ks = true → Nodes.ok ks
  | [], _ => by rw [Nodes.ok]; trivial
  | n :: r, h => by
    rw [okAllB] at h
    simp only [Bool.and_eq_true] at h
    rw [Nodes.ok]
    exact ⟨okAtB_sound false n h.1, okAllB_sound r h.2⟩
end

end Relic.MsiDigest
