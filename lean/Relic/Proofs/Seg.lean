/- Reads of a byte string by offsets (`Relic.PE.seg f a b`, the slice `f[a:b]`; `u16`, `u32`): of an append, of a prefix, of a
   segment, their lengths.  Shared by the formats whose models read fixed offsets (PE, CAB, the reader programs). -/
import Relic.Model.PE
import Relic.Proofs.Codec
import Relic.Proofs.Splice
namespace Relic.PE

theorem seg_length (f : Bytes) (a b : Nat) (h : b ≤ f.length) : (seg f a b).length = b - a := by
  simp [seg, List.length_take, List.length_drop]; omega

theorem seg_append (f : Bytes) (a b c : Nat) (h1 : a ≤ b) (h2 : b ≤ c) :
    seg f a b ++ seg f b c = seg f a c := by
  unfold seg
  rw [show c - a = (b - a) + (c - b) by omega, ← take_drop_append, show a + (b - a) = b by omega]

theorem seg_self (f : Bytes) (a : Nat) : seg f a a = [] := by simp [seg]

theorem seg_append_right (X Y : Bytes) (a b : Nat) (h : X.length ≤ a) :
    seg (X ++ Y) a b = seg Y (a - X.length) (b - X.length) := by
  unfold seg
  rw [List.drop_append, List.drop_eq_nil_of_le h, List.nil_append]
  congr 1
  omega

theorem seg_append_left (Y Z : Bytes) (a b : Nat) (h : b ≤ Y.length) : seg (Y ++ Z) a b = seg Y a b := by
  unfold seg
  by_cases hab : a ≤ b
  · exact take_drop_append_left Y Z a (b - a) (by omega)
  · have : b - a = 0 := by omega
    simp [this]

theorem seg_of_take (f : Bytes) (n a b : Nat) (h : b ≤ n) : seg (f.take n) a b = seg f a b := by
  unfold seg
  by_cases hab : a ≤ b
  · exact take_drop_take f n a (b - a) (by omega)
  · have : b - a = 0 := by omega
    simp [this]

theorem seg_whole (x : Bytes) : seg x 0 x.length = x := by
  simp [seg]

theorem seg_seg (f : Bytes) (x y a b : Nat) (h : x + b ≤ y) : seg (seg f x y) a b = seg f (x + a) (x + b) := by
  unfold seg
  rw [take_drop_take_drop f x (y - x) a (b - a) (by omega), show x + b - (x + a) = b - a by omega]

theorem u32_seg (f : Bytes) (a b off : Nat) (h : off + 4 ≤ b - a) :
    u32 (seg f a b) off = u32 f (a + off) := by
  unfold u32
  rw [seg_seg f a b off (off + 4) (by omega)]
  rfl

theorem u16_seg (f : Bytes) (a b off : Nat) (h : off + 2 ≤ b - a) :
    u16 (seg f a b) off = u16 f (a + off) := by
  unfold u16
  rw [seg_seg f a b off (off + 2) (by omega)]
  rfl

theorem seg_take (f : Bytes) (a b x : Nat) (h : x ≤ b - a) : (seg f a b).take x = seg f a (a + x) := by
  unfold seg
  rw [List.take_take, Nat.min_eq_left h, Nat.add_sub_cancel_left]

theorem seg_drop (f : Bytes) (a b x : Nat) : (seg f a b).drop x = seg f (a + x) b := by
  unfold seg
  rw [List.drop_take, List.drop_drop, Nat.sub_add_eq]

theorem u32_lt (f : Bytes) (off : Nat) : u32 f off < 2 ^ 32 := by
  unfold u32 seg; rw [Nat.add_sub_cancel_left]; exact leVal_take_lt _ 4

theorem u16_lt (f : Bytes) (off : Nat) : u16 f off < 2 ^ 16 := by
  unfold u16 seg; rw [Nat.add_sub_cancel_left]; exact leVal_take_lt _ 2

end Relic.PE
