/- Lemmas about the attribute map of Relic.Model.AuditRec: `aget` after `aset`; no key twice. -/
import Relic.Model.AuditRec
namespace Relic.AuditRec

theorem aget_aset (a : Attrs) (k v q : String) :
    aget (aset a k v) q = if k = q then some v else aget a q := by
  induction a with
  | nil => simp [aset, aget]
  | cons x rest ih =>
    obtain ⟨k0, v0⟩ := x
    simp only [aset]
    by_cases h0 : k0 = k
    · subst h0
      by_cases h1 : k0 = q <;> simp [aget, h1]
    · simp only [h0, if_false, aget, ih]
      by_cases h1 : k0 = q
      · subst h1
        have : ¬ k = k0 := fun h => h0 h.symm
        simp [this]
      · simp [h1]

theorem aget_aset_ne (a : Attrs) (k v q : String) (h : k ≠ q) : aget (aset a k v) q = aget a q := by
  rw [aget_aset]; simp [h]

theorem aget_asetAll (kvs : List (String × String)) (a : Attrs) (q : String)
    (h : ∀ kv ∈ kvs, kv.1 ≠ q) : aget (asetAll a kvs) q = aget a q := by
  induction kvs generalizing a with
  | nil => rfl
  | cons kv rest ih =>
    simp only [asetAll, List.foldl_cons]
    have := ih (aset a kv.1 kv.2) (fun kv' hk => h kv' (List.mem_cons_of_mem _ hk))
    simp only [asetAll] at this
    rw [this, aget_aset_ne _ _ _ _ (h kv (List.mem_cons_self ..))]

/-- no key twice: what a Go map guarantees (`aset` maintains it, `aset_keysNodup`) -/
def KeysNodup (a : Attrs) : Prop := (a.map (·.1)).Nodup

theorem aset_keys (a : Attrs) (k v : String) :
    (aset a k v).map (·.1) = if k ∈ a.map (·.1) then a.map (·.1) else a.map (·.1) ++ [k] := by
  induction a with
  | nil => simp [aset]
  | cons x rest ih =>
    obtain ⟨k0, v0⟩ := x
    simp only [aset]
    by_cases h0 : k0 = k
    · subst h0; simp
    · have : ¬ k = k0 := fun e => h0 e.symm
      simp only [h0, if_false, List.map_cons, ih, List.mem_cons, this, false_or]
      split <;> simp

theorem aset_keysNodup (a : Attrs) (k v : String) (h : KeysNodup a) : KeysNodup (aset a k v) := by
  unfold KeysNodup at *
  rw [aset_keys]
  split
  · exact h
  · rename_i hk
    rw [List.nodup_append]
    refine ⟨h, by simp, ?_⟩
    intro x hx y hy
    simp only [List.mem_singleton] at hy
    subst hy
    exact fun e => hk (e ▸ hx)

theorem asetAll_keysNodup (kvs : List (String × String)) (a : Attrs) (h : KeysNodup a) : KeysNodup (asetAll a kvs) := by
  induction kvs generalizing a with
  | nil => exact h
  | cons kv rest ih =>
    simp only [asetAll, List.foldl_cons]
    exact ih _ (aset_keysNodup a kv.1 kv.2 h)

end Relic.AuditRec
