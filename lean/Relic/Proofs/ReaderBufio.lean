/-
  Relic.Proofs.ReaderBufio — `bufio.Reader` (fill / Peek / ReadByte / ReadString / WriteTo) observes only the logical
  content `buffer ++ stream`, provided the stream never stalls for 100 consecutive reads (`Stream.NoStall`).
  Every method's lemma has one shape: its result is the flat one, and `BufStep` says where the reader stands afterwards.
-/
import Relic.Proofs.Reader
namespace Relic.Rd
open Relic.Rd.Stream

/-- invariant between a `bufio.Reader`'s state and the reader under it -/
structure BufOk (b : Buf) (s : Stream) : Prop where
  len : b.data.length ≤ b.size
  err : b.err = none ∨ (b.err = some (.term s.term) ∧ s.data = [])

/-- the `bufio.Reader` went from `(b, s)` to `(b', s')`, where it holds the logical content `d` -/
structure BufStep (b : Buf) (s : Stream) (d : Bytes) (b' : Buf) (s' : Stream) : Prop where
  size : b'.size = b.size
  data : b'.data ++ s'.data = d
  ok : BufOk b' s'
  after : After s' s

theorem BufStep.refl {b : Buf} {s : Stream} (hb : BufOk b s) : BufStep b s (b.data ++ s.data) b s :=
  ⟨rfl, rfl, hb, After.refl s⟩

theorem BufStep.trans {b b' b'' : Buf} {s s' s'' : Stream} {d d' : Bytes} (h2 : BufStep b' s' d' b'' s'')
    (h1 : BufStep b s d b' s') : BufStep b s d' b'' s'' :=
  ⟨h2.size.trans h1.size, h2.data, h2.ok, h2.after.trans h1.after⟩

/-- `fill` on a reader without pending error: same content, and either more of it buffered or the end recorded -/
structure Filled (b : Buf) (s : Stream) (b' : Buf) (s' : Stream) : Prop where
  step : BufStep b s (b.data ++ s.data) b' s'
  wt : wt s'.chunks + b'.data.length ≤ wt s.chunks + b.data.length
  mono : b.data.length ≤ b'.data.length
  prog : (b'.err = none ∧ b.data.length < b'.data.length) ∨ (b'.err = some (.term s.term) ∧ s'.data = [])

theorem fillLoop_spec (i : Nat) (b : Buf) (s : Stream) (he : b.err = none) (hlen : b.data.length < b.size)
    (hlead : lead s.chunks < i) : Filled b s (fillLoop i b s).1 (fillLoop i b s).2 := by
  induction i generalizing s with
  | zero => omega
  | succ i ih =>
    rw [fillLoop]
    rcases read_cases s (b.size - b.data.length) with ⟨s', h, hs', hm⟩ | ⟨out, s', h, hm⟩ <;> rw [h] <;> dsimp only
    · have hol := hm.len
      exact ⟨⟨rfl, by rw [hs', List.append_nil], ⟨by simp; omega, .inr ⟨by rw [hm.after.term], hs'⟩⟩, hm.after⟩,
        by have := hm.wtout; simp; omega, by simp, .inr ⟨rfl, hs'⟩⟩
    · have hd := hm.data
      have hol := hm.len
      by_cases hpos : 0 < out.length
      · rw [if_pos hpos]
        exact ⟨⟨rfl, by simp only [List.append_assoc, hd], ⟨by simp; omega, .inl he⟩, hm.after⟩,
          by have := hm.wtout; simp; omega, by simp, .inl ⟨he, by simp; omega⟩⟩
      · rw [if_neg hpos]
        obtain rfl : out = [] := List.eq_nil_of_length_eq_zero (by omega)
        have ih' := ih s' (by have := hm.stall rfl rfl (by omega); omega)
        rw [List.nil_append] at hd
        rw [List.append_nil]
        show Filled b s (fillLoop i b s').1 (fillLoop i b s').2
        exact ⟨⟨ih'.step.size, by rw [ih'.step.data, hd], ih'.step.ok, ih'.step.after.trans hm.after⟩,
          by have := ih'.wt; have := hm.after.wt; omega, ih'.mono,
          ih'.prog.imp id fun h => ⟨by rw [h.1, hm.after.term], h.2⟩⟩

theorem fill_spec (b : Buf) (s : Stream) (he : b.err = none) (hlen : b.data.length < b.size) (hs : s.NoStall) :
    Filled b s (fill b s).1 (fill b s).2 :=
  fillLoop_spec 100 b s he hlen (Nat.lt_of_le_of_lt (lead_le_maxRun _) hs)

theorem NoStall.after {s' s : Stream} (h : After s' s) (hs : s.NoStall) : s'.NoStall :=
  Nat.lt_of_le_of_lt h.run hs

theorem peekLoop_spec (fuel n : Nat) (b : Buf) (s : Stream) (hb : BufOk b s) (hs : s.NoStall)
    (hf : b.err = none → b.size - b.data.length < fuel) :
    BufStep b s (b.data ++ s.data) (peekLoop fuel n b s).1 (peekLoop fuel n b s).2 ∧
    ¬ ((peekLoop fuel n b s).1.data.length < n ∧ (peekLoop fuel n b s).1.data.length < (peekLoop fuel n b s).1.size ∧
      (peekLoop fuel n b s).1.err = none) := by
  induction fuel generalizing b s with
  | zero => exact ⟨.refl hb, fun ⟨_, _, h3⟩ => by have := hf h3; omega⟩
  | succ fuel ih =>
    rw [peekLoop]
    by_cases hc : b.data.length < n ∧ b.data.length < b.size ∧ b.err = none
    · rw [if_pos hc]
      have hfl := fill_spec b s hc.2.2 hc.2.1 hs
      have ih' := ih (fill b s).1 (fill b s).2 hfl.step.ok (NoStall.after hfl.step.after hs) (by
        intro he
        rcases hfl.prog with p | p
        · have := hf hc.2.2; have := p.2; rw [hfl.step.size]; omega
        · rw [p.1] at he; cases he)
      exact ⟨by rw [← hfl.step.data]; exact ih'.1.trans hfl.step, ih'.2⟩
    · rw [if_neg hc]
      exact ⟨.refl hb, hc⟩

theorem take_prefix {l a b : Bytes} {n : Nat} (h : a ++ b = l) (hn : n ≤ a.length) : a.take n = l.take n := by
  rw [← h, List.take_append_of_le_length hn]

theorem peek_spec (n : Nat) (b : Buf) (s : Stream) (hb : BufOk b s) (hs : s.NoStall) :
    (peek n b s).1 = flatPeek n b.size ⟨b.data ++ s.data, s.term, some b.size⟩ ∧
    BufStep b s (b.data ++ s.data) (peek n b s).2.1 (peek n b s).2.2 := by
  have hp := peekLoop_spec (b.size + 1) n b s hb hs (by intro _; omega)
  rw [peek]
  generalize peekLoop (b.size + 1) n b s = r at hp
  obtain ⟨b1, s1⟩ := r
  obtain ⟨⟨hsz, hdat, hok, haf⟩, hex⟩ := hp
  dsimp only at hsz hdat hok haf hex ⊢
  have hlen := hok.len
  -- a recorded end means that everything is in the buffer
  have hall : b1.err ≠ none → b1.data = b.data ++ s.data ∧ b1.err = some (.term s.term) := fun hne =>
    hok.err.elim (fun h => absurd h hne) fun h => ⟨by rw [← hdat, h.2, List.append_nil], by rw [h.1, haf.term]⟩
  have hll : b1.data.length ≤ (b.data ++ s.data).length := by rw [← hdat, List.length_append]; omega
  rw [flatPeek, ← hsz]
  dsimp only
  by_cases h1 : b1.size < n
  · rw [if_pos h1, if_pos h1]
    refine ⟨?_, hsz, hdat, hok, haf⟩
    by_cases he : b1.err = none
    · have : b1.data.length = b1.size := by
        have : ¬ (b1.data.length < b1.size) := fun h => hex ⟨by omega, h, he⟩
        omega
      rw [← take_prefix hdat (Nat.le_of_eq this.symm), ← this, List.take_length]
    · rw [← (hall he).1, List.take_of_length_le hlen]
  · rw [if_neg h1, if_neg h1]
    by_cases h2 : b1.data.length < n
    · obtain ⟨ha, hterm⟩ := hall fun h => hex ⟨h2, by omega, h⟩
      rw [if_pos h2, if_pos (by rw [← ha]; exact h2), hterm]
      exact ⟨by rw [ha], hsz, hdat, ⟨hlen, .inl rfl⟩, haf⟩
    · rw [if_neg h2, if_neg (by omega), take_prefix hdat (by omega)]
      exact ⟨rfl, hsz, hdat, hok, haf⟩

/-- the `readByte` branch of `runFlat` (which the model writes inline) as a function of content and terminal condition -/
def rbFlat (l : Bytes) (t : Term) : Except BErr UInt8 × Bytes :=
  match l with
  | x :: r => (.ok x, r)
  | [] => (.error (.term t), [])

/-- what `ReadByte` does once the buffer holds a byte or an error is pending -/
def pop (b : Buf) (s : Stream) : Except BErr UInt8 × Buf × Stream :=
  match b.data with
  | x :: r => (.ok x, { b with data := r }, s)
  | [] =>
    match b.err with
    | some e => (.error e, { b with err := none }, s)
    | none => (.error .noProgress, b, s)

theorem readByte_eq (b : Buf) (s : Stream) :
    readByte b s = if b.data = [] ∧ b.err = none then pop (fill b s).1 (fill b s).2 else pop b s := by
  obtain ⟨size, data, err⟩ := b
  cases data with
  | cons x r => simp [readByte, pop]
  | nil =>
    cases err with
    | some e => simp [readByte, pop]
    | none => simp only [readByte, and_self, if_true]; rfl

theorem pop_spec (b : Buf) (s : Stream) (hb : BufOk b s) (h : ¬ (b.data = [] ∧ b.err = none)) :
    (pop b s).1 = (rbFlat (b.data ++ s.data) s.term).1 ∧
    BufStep b s (rbFlat (b.data ++ s.data) s.term).2 (pop b s).2.1 (pop b s).2.2 := by
  obtain ⟨size, data, err⟩ := b
  cases data with
  | cons x r =>
    simp only [pop, List.cons_append, rbFlat]
    exact ⟨trivial, rfl, rfl, ⟨by have := hb.len; simp at this ⊢; omega, hb.err⟩, After.refl s⟩
  | nil =>
    cases err with
    | none => exact absurd ⟨rfl, rfl⟩ h
    | some e =>
      obtain ⟨he, hd⟩ := hb.err.resolve_left (by simp)
      simp only [Option.some.injEq] at he
      simp only [pop, List.nil_append, hd, rbFlat, he]
      exact ⟨trivial, rfl, hd, ⟨by simp, .inl rfl⟩, After.refl s⟩

theorem readByte_spec (b : Buf) (s : Stream) (hb : BufOk b s) (hs : s.NoStall) (hsz : 0 < b.size) :
    (readByte b s).1 = (rbFlat (b.data ++ s.data) s.term).1 ∧
    BufStep b s (rbFlat (b.data ++ s.data) s.term).2 (readByte b s).2.1 (readByte b s).2.2 := by
  rw [readByte_eq]
  by_cases h : b.data = [] ∧ b.err = none
  · rw [if_pos h]
    have hfl := fill_spec b s h.2 (by rw [h.1]; exact hsz) hs
    -- after the one `fill` there is a byte, or the end is recorded
    obtain ⟨h1, h2⟩ := pop_spec (fill b s).1 (fill b s).2 hfl.step.ok fun hn => by
      rcases hfl.prog with p | p
      · rw [hn.1, h.1] at p; exact absurd p.2 (Nat.lt_irrefl _)
      · rw [hn.2] at p; cases p.1
    rw [hfl.step.data, hfl.step.after.term] at h1 h2
    exact ⟨h1, h2.trans hfl.step⟩
  · rw [if_neg h]
    exact pop_spec b s hb h

theorem flatReadString_rest (d : UInt8) (l : Bytes) (t : Term) (bf : Option Nat) :
    (flatReadString d ⟨l, t, bf⟩).2 = ⟨(flatReadString d ⟨l, t, bf⟩).2.data, t, bf⟩ := by
  rw [flatReadString]
  cases cutAt d l <;> rfl

theorem flatReadString_append (d : UInt8) (a l : Bytes) (t : Term) (bf : Option Nat) :
    flatReadString d ⟨a ++ l, t, bf⟩ = match cutAt d a with
      | some (line, rest) => ((line, none), ⟨rest ++ l, t, bf⟩)
      | none => ((a ++ (flatReadString d ⟨l, t, bf⟩).1.1, (flatReadString d ⟨l, t, bf⟩).1.2), (flatReadString d ⟨l, t, bf⟩).2) := by
  rw [flatReadString, cutAt_append]
  cases cutAt d a with
  | some p => rfl
  | none => rw [flatReadString]; cases cutAt d l <;> simp

/-- the loop's result against the model's `flatReadString` on the logical content (`acc` = what was set aside before) -/
structure RsOk (d : UInt8) (acc : Bytes) (b : Buf) (s : Stream) (r : (Bytes × Option BErr) × Buf × Stream) : Prop where
  res : r.1 = (acc ++ (flatReadString d ⟨b.data ++ s.data, s.term, some b.size⟩).1.1,
    (flatReadString d ⟨b.data ++ s.data, s.term, some b.size⟩).1.2)
  step : BufStep b s (flatReadString d ⟨b.data ++ s.data, s.term, some b.size⟩).2.data r.2.1 r.2.2

/-- The measure: a `fill` moves bytes from the stream into `data` (so the stream counts twice: `2 * wt` falls by two per
    byte while `data.length` rises by one) or records the end (the `+ 1` while no error is pending: nothing else changes
    then); setting a full buffer aside empties `data`.  `hsz` is needed in that branch only: a full buffer is non-empty. -/
theorem readStringLoop_spec (d : UInt8) (fuel : Nat) (acc : Bytes) (b : Buf) (s : Stream) (hb : BufOk b s)
    (hs : s.NoStall) (hsz : 0 < b.size)
    (hf : 2 * wt s.chunks + b.data.length + (if b.err = none then 1 else 0) < fuel) :
    RsOk d acc b s (readStringLoop d fuel acc b s) := by
  induction fuel generalizing acc b s with
  | zero => omega
  | succ fuel ih =>
    have hfl := flatReadString_append d b.data s.data s.term (some b.size)
    rw [readStringLoop]
    cases hc : cutAt d b.data with
    | some p =>
      rw [hc] at hfl
      have hl : p.2.length ≤ b.data.length := by rw [← (cutAt_some hc).2, List.length_append]; omega
      exact ⟨by rw [hfl], by rw [hfl]; exact ⟨rfl, rfl, ⟨by have := hb.len; dsimp only; omega, hb.err⟩, After.refl s⟩⟩
    | none =>
      rw [hc] at hfl
      dsimp only at hfl ⊢
      cases he : b.err with
      | some e =>
        -- the end is recorded: the buffer is all that is left
        obtain ⟨he', hd⟩ := hb.err.resolve_left (by rw [he]; simp)
        have hn : flatReadString d ⟨s.data, s.term, some b.size⟩ = (([], some (.term s.term)), ⟨[], s.term, some b.size⟩) := by
          rw [hd]; rfl
        rw [hn] at hfl
        rw [he'] at he
        cases he
        exact ⟨by rw [hfl, List.append_nil], by rw [hfl]; exact ⟨rfl, hd, ⟨by simp, .inl rfl⟩, After.refl s⟩⟩
      | none =>
        dsimp only
        by_cases hfull : b.size ≤ b.data.length
        · rw [if_pos hfull]
          have ih' := ih (acc ++ b.data) ⟨b.size, [], none⟩ s ⟨by simp, .inl rfl⟩ hs hsz (by
            simp only [he, if_true, List.length_nil] at hf ⊢; omega)
          obtain ⟨i1, i2⟩ := ih'
          rw [List.nil_append] at i1 i2
          exact ⟨by rw [i1, hfl, List.append_assoc], by rw [hfl]; exact ⟨i2.size, i2.data, i2.ok, i2.after⟩⟩
        · rw [if_neg hfull]
          have hf' := fill_spec b s he (by omega) hs
          obtain ⟨i1, i2⟩ := ih acc (fill b s).1 (fill b s).2 hf'.step.ok (NoStall.after hf'.step.after hs)
            (by rw [hf'.step.size]; exact hsz) (by
              simp only [he, if_true] at hf
              have hw := hf'.wt
              rcases hf'.prog with p | p
              · simp only [p.1, if_true]; omega
              · have hm := hf'.mono
                simp only [p.1, reduceCtorEq, if_false]; omega)
          rw [hf'.step.data, hf'.step.after.term, hf'.step.size] at i1 i2
          exact ⟨i1, i2.trans hf'.step⟩

theorem readString_spec (d : UInt8) (b : Buf) (s : Stream) (hb : BufOk b s) (hs : s.NoStall) (hsz : 0 < b.size) :
    RsOk d [] b s (readString d b s) := by
  apply readStringLoop_spec d _ [] b s hb hs hsz
  simp only [rsFuel]
  split <;> omega

theorem bufDrain_spec (sched : Sched) (b : Buf) (s : Stream) (hb : BufOk b s) :
    (bufDrain sched b s).1 = (b.data ++ s.data, .src s.term) ∧
    BufStep b s [] (bufDrain sched b s).2.1 (bufDrain sched b s).2.2 := by
  have hc := copy_spec none sched s
  simp only [bufDrain]
  generalize copy none sched s = r at hc
  obtain ⟨out, e, s'⟩ := r
  simp only [flatCopy] at hc ⊢
  obtain ⟨h1, h2, hd, h3⟩ := hc
  refine ⟨by rw [h1, h2], rfl, by simp [hd], ⟨by simp, ?_⟩, h3⟩
  exact hb.err.imp id fun h => ⟨by rw [h.1, h3.term], hd⟩

end Relic.Rd
