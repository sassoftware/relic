/-
  Go maps with string keys as association lists (`Relic.Vsix.SMap`: `mset` drops the old entry and appends, `mget` reads the
  first entry, a missing key reads as ""), for the VSIX signer and the APPX content types.  Membership after `mset`; the keys, which
  stay pairwise different; `sort.Strings` (`sortMap`) as an insertion sort: same entries, keys strictly ascending; lookups: a map
  with at most one value per key (`Fn`, in particular one with pairwise different keys) is decided by membership, also after
  sorting and re-inserting its entries.
-/
import Relic.Model.Vsix
import Relic.Proofs.InsertSort
import Relic.Proofs.XmlSort
namespace Relic.Vsix
open Relic.Xml

theorem mem_mset {m : SMap} {k v k' v' : Bytes} : (k', v') ∈ mset m k v ↔ (k' ≠ k ∧ (k', v') ∈ m) ∨ (k' = k ∧ v' = v) := by
  simp only [mset, List.mem_append, List.mem_filter, List.mem_singleton, Prod.mk.injEq, ne_eq, decide_eq_true_eq]
  rw [and_comm]

def keys (m : SMap) : List Bytes := m.map (·.1)

theorem mem_keys_mset {m : SMap} {k v k' : Bytes} : k' ∈ keys (mset m k v) ↔ k' = k ∨ k' ∈ keys m := by
  simp only [keys, List.mem_map]
  constructor
  · rintro ⟨e, he, rfl⟩
    rcases mem_mset.mp (show (e.1, e.2) ∈ mset m k v from he) with ⟨-, h⟩ | ⟨h, -⟩
    · exact Or.inr ⟨e, h, rfl⟩
    · exact Or.inl h
  · rintro (rfl | ⟨e, he, rfl⟩)
    · exact ⟨(k', v), mem_mset.mpr (Or.inr ⟨rfl, rfl⟩), rfl⟩
    · by_cases hk : e.1 = k
      · exact ⟨(k, v), mem_mset.mpr (Or.inr ⟨rfl, rfl⟩), hk.symm⟩
      · exact ⟨e, mem_mset.mpr (Or.inl ⟨hk, he⟩), rfl⟩

theorem any_key_iff (m : SMap) (n : Bytes) : m.any (fun e => e.1 = n) = true ↔ n ∈ keys m := by
  simp only [List.any_eq_true, decide_eq_true_eq, keys, List.mem_map]

/-- `sort.Strings` over the keys, as the insertion sort it is modelled by -/
theorem sortMap_insertSort :
    InsertSort (fun e f : Bytes × Bytes => !bytesLt e.1 f.1) (fun e => insSorted e.1 e.2) sortMap where
  ins_nil _ := rfl
  ins_cons a b bs := by cases h : bytesLt a.1 b.1 <;> simp [insSorted, h]
  sort_nil := rfl
  sort_cons _ _ := rfl

theorem mem_sortMap {e : Bytes × Bytes} {m : SMap} : e ∈ sortMap m ↔ e ∈ m :=
  (sortMap_insertSort.sort_perm m).mem_iff

theorem keys_mset (m : SMap) (k v : Bytes) (h : (keys m).Nodup) : (keys (mset m k v)).Nodup := by
  simp only [keys, mset, List.map_append, List.map_cons, List.map_nil]
  rw [List.nodup_append]
  refine ⟨(h.sublist (List.Sublist.map _ List.filter_sublist)), by simp, ?_⟩
  intro a ha b hb
  simp only [List.mem_singleton] at hb
  subst hb
  simp only [List.mem_map, List.mem_filter, ne_eq, decide_eq_true_eq] at ha
  obtain ⟨e, ⟨-, hne⟩, rfl⟩ := ha
  exact hne

theorem keys_foldl {α} (k v : α → Bytes) (l : List α) : ∀ (d0 : SMap), (keys d0).Nodup →
    (keys (l.foldl (fun d x => mset d (k x) (v x)) d0)).Nodup := by
  induction l with
  | nil => intro d0 h; exact h
  | cons x _ ih => intro d0 h; exact ih _ (keys_mset d0 (k x) (v x) h)

def KSorted (m : SMap) : Prop := (keys m).Pairwise (fun a b => bytesLt a b = true)

theorem sortMap_sorted : ∀ m : SMap, (keys m).Nodup → KSorted (sortMap m) := by
  intro m h
  refine List.pairwise_map.mpr (sortMap_insertSort.sort_pairwise (R := fun e f => bytesLt e.1 f.1 = true)
    (C := fun e f => e.1 ≠ f.1) (fun a b c => bytesLt_trans _ _ _) ?_ m (List.pairwise_map.mp h))
  intro a b hne
  cases hlt : bytesLt a.1 b.1
  · exact (bytesLt_total a.1 b.1 hne).resolve_left (by simp [hlt])
  · rfl

theorem mem_keys_addDigests : ∀ (news : Pkg) (d : SMap) (k : Bytes),
    k ∈ keys (addDigests d news) ↔ k ∈ keys d ∨ k ∈ news.map (·.name)
  | [], d, k => by simp [addDigests]
  | p :: ps, d, k => by
    have ih := mem_keys_addDigests ps (mset d p.name p.data) k
    simp only [addDigests, List.foldl_cons] at ih ⊢
    rw [ih, mem_keys_mset]
    simp only [List.map_cons, List.mem_cons, or_assoc, or_left_comm]

theorem mem_keys_sortMap (m : SMap) (k : Bytes) : k ∈ keys (sortMap m) ↔ k ∈ keys m := by
  simp only [keys, List.mem_map]
  constructor
  · rintro ⟨e, he, rfl⟩; exact ⟨e, mem_sortMap.mp he, rfl⟩
  · rintro ⟨e, he, rfl⟩; exact ⟨e, mem_sortMap.mpr he, rfl⟩

/-- at most one value per key -/
def Fn (m : SMap) : Prop := ∀ k v v', (k, v) ∈ m → (k, v') ∈ m → v = v'

theorem fn_of_nodup {m : SMap} (h : (keys m).Nodup) : Fn m := by
  intro k v v' h1 h2
  induction m with
  | nil => cases h1
  | cons e m ih =>
    simp only [keys, List.map_cons, List.nodup_cons] at h
    have nk : ∀ w, (k, w) ∈ m → e.1 ≠ k := fun w hw heq => h.1 (by rw [heq]; exact List.mem_map_of_mem (f := (·.1)) hw)
    rcases List.mem_cons.1 h1 with e1 | h1 <;> rcases List.mem_cons.1 h2 with e2 | h2
    · exact (Prod.mk.inj (e1.trans e2.symm)).2
    · exact absurd (congrArg Prod.fst e1).symm (nk v' h2)
    · exact absurd (congrArg Prod.fst e2).symm (nk v h1)
    · exact ih h.2 h1 h2

theorem mget_mem_or {m : SMap} (k : Bytes) : (k, mget m k) ∈ m ∨ ((∀ v, (k, v) ∉ m) ∧ mget m k = []) := by
  unfold mget
  cases hf : m.find? (fun e => e.1 = k) with
  | none =>
    refine Or.inr ⟨?_, rfl⟩
    intro v hv
    have := List.find?_eq_none.mp hf (k, v) hv
    simp at this
  | some e =>
    have h1 := List.find?_some hf
    have h2 := List.mem_of_find?_eq_some hf
    simp only [decide_eq_true_eq] at h1
    exact Or.inl (by rw [← h1]; exact h2)

theorem mget_of_mem {m : SMap} (h : Fn m) {k v : Bytes} (hm : (k, v) ∈ m) : mget m k = v := by
  rcases mget_mem_or (m := m) k with h1 | ⟨h1, -⟩
  · exact h k _ _ h1 hm
  · exact absurd hm (h1 v)

theorem mget_of_not_mem {m : SMap} {k : Bytes} (hm : ∀ v, (k, v) ∉ m) : mget m k = [] := by
  rcases mget_mem_or (m := m) k with h1 | ⟨-, h2⟩
  · exact absurd h1 (hm _)
  · exact h2

theorem mget_congr {a b : SMap} (hb : Fn b) (h : ∀ e, e ∈ a ↔ e ∈ b) (k : Bytes) : mget a k = mget b k := by
  rcases mget_mem_or (m := a) k with h1 | ⟨h1, h2⟩
  · exact (mget_of_mem hb ((h _).mp h1)).symm
  · rw [h2, mget_of_not_mem (fun v hv => h1 v ((h _).mpr hv))]

theorem mget_mset (m : SMap) (k v k' : Bytes) : mget (mset m k v) k' = if k' = k then v else mget m k' := by
  unfold mget mset
  rw [List.find?_append, List.find?_filter]
  by_cases hk : k' = k
  · subst hk
    have : m.find? (fun a => decide (decide (a.1 ≠ k') = true ∧ decide (a.1 = k') = true)) = none :=
      List.find?_eq_none.mpr fun a _ => by simp
    rw [this]
    simp
  · have : (fun a : Bytes × Bytes => decide (decide (a.1 ≠ k) = true ∧ decide (a.1 = k') = true)) = fun a => decide (a.1 = k') := by
      funext a
      by_cases ha : a.1 = k' <;> simp [ha, hk]
    rw [this]
    simp [hk, Ne.symm hk]

theorem mget_foldl_mset : ∀ (l : List (Bytes × Bytes)) (m : SMap) (k : Bytes),
    mget (l.foldl (fun m d => mset m d.1 d.2) m) k =
      match l.reverse.find? (fun e => e.1 = k) with
      | some e => e.2
      | none => mget m k
  | [], _, _ => rfl
  | d :: l, m, k => by
    rw [List.foldl_cons, mget_foldl_mset l, List.reverse_cons, List.find?_append]
    cases l.reverse.find? (fun e => e.1 = k) with
    | some e => rfl
    | none =>
      by_cases hk : d.1 = k
      · simp [mget_mset, hk]
      · simp [mget_mset, hk, Ne.symm hk]

/-- `Parse` of what `Marshal` wrote from a table with pairwise different keys: the same lookups -/
theorem mget_parse_sorted {m : SMap} (hm : (keys m).Nodup) (k : Bytes) :
    mget ((sortMap m).foldl (fun m d => mset m d.1 d.2) []) k = mget m k := by
  have h := fn_of_nodup hm
  rw [mget_foldl_mset]
  cases hf : (sortMap m).reverse.find? (fun e => e.1 = k) with
  | some e =>
    have hm : e ∈ m := mem_sortMap.mp (List.mem_reverse.mp (List.mem_of_find?_eq_some hf))
    have hk : e.1 = k := by simpa using List.find?_some hf
    exact (mget_of_mem h (hk ▸ hm)).symm
  | none =>
    refine (mget_of_not_mem fun v hv => ?_).symm
    simpa using List.find?_eq_none.mp hf (k, v) (List.mem_reverse.mpr (mem_sortMap.mpr hv))

theorem mget_mset_same (m : SMap) (k v : Bytes) : mget (mset m k v) k = v := by
  rw [mget_mset, if_pos rfl]

/-- a second assignment to the same key replaces the first -/
theorem mset_mset_same (m : SMap) (k v v' : Bytes) : mset (mset m k v) k v' = mset m k v' := by
  unfold mset
  simp [List.filter_append, List.filter_filter]

theorem foldl_mset_append : ∀ (l acc : SMap), (keys (acc ++ l)).Nodup → l.foldl (fun m d => mset m d.1 d.2) acc = acc ++ l
  | [], acc, _ => by simp
  | e :: l, acc, h => by
    simp only [List.foldl_cons]
    have hk : e.1 ∉ keys acc := by
      simp only [keys, List.map_append, List.map_cons] at h
      have := (List.nodup_append.1 h).2.2
      intro hmem
      exact this e.1 hmem e.1 (by simp) rfl
    have e1 : mset acc e.1 e.2 = acc ++ [e] := by
      unfold mset
      have : acc.filter (fun x => x.1 ≠ e.1) = acc := by
        rw [List.filter_eq_self]; intro x hx
        have : x.1 ≠ e.1 := fun heq => hk (by rw [← heq]; exact List.mem_map_of_mem hx)
        simpa using this
      rw [this]
    rw [e1, foldl_mset_append l (acc ++ [e]) (by simpa [List.append_assoc] using h)]
    simp [List.append_assoc]

theorem mget_sortMap (m : SMap) (h : (keys m).Nodup) (k : Bytes) : mget (sortMap m) k = mget m k :=
  mget_congr (fn_of_nodup h) (fun _ => mem_sortMap) k

theorem sortMap_of_sorted : ∀ (l : SMap), KSorted l → sortMap l = l
  | [], _ => rfl
  | [e], _ => rfl
  | e :: f :: l, h => by
    have hs : KSorted (f :: l) := by
      unfold KSorted keys at h ⊢
      simp only [List.map_cons] at h ⊢
      exact (List.pairwise_cons.1 h).2
    have hlt : bytesLt e.1 f.1 = true := by
      unfold KSorted keys at h
      simp only [List.map_cons] at h
      exact (List.pairwise_cons.1 h).1 f.1 (by simp)
    show insSorted e.1 e.2 (sortMap (f :: l)) = e :: f :: l
    rw [sortMap_of_sorted (f :: l) hs]
    simp [insSorted, hlt]

theorem keys_sortMap_nodup (m : SMap) (h : (keys m).Nodup) : (keys (sortMap m)).Nodup := by
  have hs := sortMap_sorted m h
  unfold KSorted at hs
  refine List.Pairwise.imp ?_ hs
  intro a b hab heq
  subst heq
  rw [bytesLt_irrefl] at hab; cases hab

end Relic.Vsix
