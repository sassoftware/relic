/- the composition step of C01 for disk images: a successful `sign` taken apart (`sign_inv`), and `verifyBlob` on the embedded
   signature `csblob.Sign` wrote -/
import Relic.Proofs.SignedBlob
import Relic.Proofs.Dmg
namespace Relic.Dmg
open Relic.CodeDir

theorem sign_inv (t f : Bytes) (p : SignParams) (so : SignOut) (h : sign t f p = .ok so) :
    ∃ p' : SignParams, plan t f = .ok so.plan ∧ signBlob p' so.plan.stream = .ok so.signed ∧ so.plan.fits f.length = true ∧
      p'.hash = p.hash ∧ p'.repSpecific = some so.plan.rep := by
  obtain ⟨p', opq, hpl, hd, hs, hfit⟩ := sign_ok t f p so h
  obtain ⟨a, b⟩ := MachO.defaults_keeps _ _ _ _ hd
  exact ⟨p', hpl, hs, hfit, a, b⟩

theorem specialChecks_own (H : Bytes → Bytes) (sp : SignParams) (stream blob : Bytes) (sig : MachO.OldSig) (items : List RawItem)
    (d : Dir) (rep : Bytes) (O : OwnSig H sp stream blob sig items d) (hrep : sp.repSpecific = some rep) :
    ∀ c ∈ specialChecks d (MachO.itemData blob items 7) (MachO.itemData blob items 5) (MachO.itemData blob items 2) rep,
      H c.stream = c.expected := by
  intro c hc
  unfold specialChecks at hc
  simp only [List.mem_append] at hc
  rcases hc with ((hc | hc) | hc) | hc
  · obtain ⟨x, hd, hz, rfl⟩ := mem_slotCheck _ _ _ hc
    exact (O.slot7 x hd hz).symm
  · obtain ⟨x, hd, hz, rfl⟩ := mem_slotCheck _ _ _ hc
    exact (O.slot5 x hd hz).symm
  · obtain ⟨x, hd, hz, rfl⟩ := mem_slotCheck _ _ _ hc
    exact (O.slot2 x hd hz).symm
  · obtain ⟨x, hd, hz, rfl⟩ := mem_slotCheck _ _ _ hc
    obtain ⟨r, hr, hx⟩ := O.slot6 x hd hz
    rw [hrep] at hr
    cases hr
    exact hx.symm

/-- `csblob.Verify` + `VerifyPages` on the signature `csblob.Sign` assembled for a disk image (rep-specific slot present,
    single code slot), for every hash function with values of the advertised size -/
theorem verifyBlob_own (H : Bytes → Bytes) (sp : SignParams) (stream : Bytes) (s : Signed) (cms rep : Bytes)
    (hH : ∀ x, (H x).length = hashSizeOf sp.hash) (hcms : 8 < cms.length) (e : signBlob sp stream = .ok s)
    (hrep : sp.repSpecific = some rep) (hlim : stream.length < 2 ^ 63)
    (h32 : (render H (hashSizeOf sp.hash) (superblob (hashSizeOf sp.hash) s cms)).length < 2 ^ 32) :
    ∃ vp, verifyBlob (render H (hashSizeOf sp.hash) (superblob (hashSizeOf sp.hash) s cms)) rep stream false = .ok vp ∧
      vp.final = .ok () ∧ ∀ c ∈ vp.checks, H c.stream = c.expected := by
  obtain ⟨sig, items, d, hps, O⟩ := parseSignature_own H sp stream s cms hH hcms e h32
  generalize render H (hashSizeOf sp.hash) (superblob (hashSizeOf sp.hash) s cms) = blob at *
  have hne : blob.isEmpty = false := by
    cases blob with
    | nil => simp [MachO.parseSignature, parseSuper] at hps
    | cons _ _ => rfl
  have hsome : sp.repSpecific.isSome = true := by rw [hrep]; rfl
  have hcode : d.code = [H stream] := by
    rw [O.code, hsome]; rfl
  have hps0 : d.hdr.pageShift = 0 := by rw [O.pageShift, hsome]; rfl
  have hvp : verifyPagesOn d stream = ⟨[⟨stream, H stream⟩], .ok ()⟩ := by
    rw [verifyPagesOn_single d stream _ hps0 hcode, if_pos (O.limit hlim)]
  have hbest : MachO.bestDir sig.dirs = some d := by rw [O.dirs]; rfl
  have hsp := specialChecks_own H sp stream blob sig items d rep O hrep
  refine ⟨⟨specialChecks d (MachO.itemData blob items 7) (MachO.itemData blob items 5) (MachO.itemData blob items 2) rep ++
    [⟨d.hdr.hashType, stream, H stream⟩], .ok ()⟩, ?_, ?_, ?_⟩
  · unfold verifyBlob
    simp only [hne, Bool.false_eq_true, ↓reduceIte, hps, hbest, O.cms, ne_eq, not_true_eq_false, hvp]
    rw [O.dirs]
    simp
  · rfl
  · intro c hc
    simp only [List.mem_append, List.mem_cons, List.mem_nil_iff, or_false] at hc
    rcases hc with hc | rfl
    · exact hsp c hc
    · rfl

end Relic.Dmg
