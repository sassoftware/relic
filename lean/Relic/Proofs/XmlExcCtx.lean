/-
  The declarations `pullDown` collects from the ancestors (`collectSpaces`) against the namespace context
  Exclusive C14N starts from (`ctxMap`): the initial invariant of `Relic.Proofs.XmlExc`.
  Both are association lists read by first match; they are compared prefix by prefix, as equations between
  `ExcC14N.lookup`s: `lookup (collectSpaces ctx) p = lookup (ctxMap ctx) p` (`lookup_collectSpaces`).
-/
import Relic.Proofs.XmlExc
namespace Relic.Xml
open Relic.ExcC14N

def firstDecl (l : List Attr) (p : Bytes) : Option Bytes := (l.find? fun a => getDecl a = some p).map (·.value)

theorem firstDecl_cons (a : Attr) (l : List Attr) (p : Bytes) :
    firstDecl (a :: l) p = if getDecl a = some p then some a.value else firstDecl l p := by
  unfold firstDecl
  rw [List.find?_cons]
  by_cases h : getDecl a = some p <;> simp [h]

/-- every value stored in the map is non-empty: then `mapGet m s ≠ []` says that `s` is bound -/
def ValsNE (m : SpaceMap) : Prop := ∀ e ∈ m, e.2 ≠ []

theorem lookup_mapSet (s v p : Bytes) : ∀ m : SpaceMap,
    lookup (mapSet m s v) p = if s = p then some v else lookup m p
  | [] => by simp only [mapSet, lookup]
  | (k, w) :: m => by
    by_cases hk : k = s
    · subst hk
      simp only [mapSet, if_true, lookup]
      by_cases hp : k = p <;> simp only [hp, if_true, if_false]
    · simp only [mapSet, if_neg hk, lookup, lookup_mapSet s v p m]
      by_cases hp : k = p
      · rw [if_pos hp, if_neg (fun e => hk (hp.trans e.symm)), if_pos hp]
      · rw [if_neg hp, if_neg hp]

theorem mapGet_eq (s : Bytes) : ∀ m : SpaceMap, mapGet m s = (lookup m s).getD []
  | [] => rfl
  | (k, w) :: m => by
    simp only [mapGet, lookup]
    split
    · rfl
    · exact mapGet_eq s m

theorem lookup_ne_nil {m : SpaceMap} (hm : ValsNE m) {p v : Bytes} : lookup m p = some v → v ≠ [] := by
  induction m with
  | nil => intro h; cases h
  | cons e m ih =>
    obtain ⟨k, w⟩ := e
    simp only [lookup]
    split
    · intro h; exact Option.some.inj h ▸ hm (k, w) List.mem_cons_self
    · exact ih (fun e he => hm e (List.mem_cons_of_mem _ he))

theorem valsNE_mapSet {m : SpaceMap} (hm : ValsNE m) (s : Bytes) {v : Bytes} (hv : v ≠ []) : ValsNE (mapSet m s v) := by
  intro e he
  rcases mem_mapSet he with h | h
  · rw [h]; exact hv
  · exact hm e h

theorem valsNE_collectAttrs : ∀ (l : List Attr) (m : SpaceMap), ValsNE m →
    (∀ a ∈ l, ∀ q, getDecl a = some q → a.value ≠ []) → ValsNE (collectAttrs m l)
  | [], _, hm, _ => hm
  | a :: l, m, hm, hl => by
    have hl' : ∀ b ∈ l, ∀ q, getDecl b = some q → b.value ≠ [] := fun b hb => hl b (List.mem_cons_of_mem _ hb)
    rw [collectAttrs]
    cases hg : getDecl a with
    | none => exact valsNE_collectAttrs l m hm hl'
    | some s =>
      dsimp only
      split
      · exact valsNE_collectAttrs l m hm hl'
      · exact valsNE_collectAttrs l _ (valsNE_mapSet hm s (hl a List.mem_cons_self s hg)) hl'

theorem lookup_collectAttrs (p : Bytes) : ∀ (l : List Attr) (m : SpaceMap), ValsNE m →
    (∀ a ∈ l, ∀ q, getDecl a = some q → a.value ≠ []) →
    lookup (collectAttrs m l) p = (lookup m p).or (firstDecl l p)
  | [], m, _, _ => by simp [collectAttrs, firstDecl]
  | a :: l, m, hm, hl => by
    have hl' : ∀ b ∈ l, ∀ q, getDecl b = some q → b.value ≠ [] := fun b hb => hl b (List.mem_cons_of_mem _ hb)
    rw [firstDecl_cons, collectAttrs]
    cases hg : getDecl a with
    | none => simpa using lookup_collectAttrs p l m hm hl'
    | some s =>
      simp only [mapGet_eq, Option.some.injEq]
      cases hs : lookup m s with
      | some w =>
        have hw : w ≠ [] := lookup_ne_nil hm hs
        simp only [Option.getD_some, ne_eq, hw, not_false_eq_true, if_true]
        rw [lookup_collectAttrs p l m hm hl']
        by_cases hp : s = p
        · rw [if_pos hp, ← hp, hs]; rfl
        · rw [if_neg hp]
      | none =>
        simp only [Option.getD_none, ne_eq, not_true_eq_false, if_false]
        rw [lookup_collectAttrs p l _ (valsNE_mapSet hm s (hl a List.mem_cons_self s hg)) hl', lookup_mapSet]
        by_cases hp : s = p
        · rw [if_pos hp, if_pos hp, ← hp, hs]; rfl
        · rw [if_neg hp, if_neg hp]

/-- `bindDecls` lets the last declaration of a prefix win; under `AttrsOK` it is the first -/
theorem lookup_bindDecls (l : List Attr) (hl : AttrsOK l) (m : NsMap) (p : Bytes) :
    lookup (bindDecls m l) p = (firstDecl l p).or (lookup m p) := by
  unfold firstDecl
  cases hf : l.find? (fun a => getDecl a = some p) with
  | none =>
    rw [lookup_bind_none p l m (fun a ha hg => by simpa [hg] using List.find?_eq_none.mp hf a ha)]
    rfl
  | some a =>
    rw [lookup_bind_own l hl m a (List.mem_of_find?_eq_some hf) p (by simpa using List.find?_some hf)]
    rfl

/-- an ancestor's attribute list as namespace well-formedness gives it -/
def CtxWF (ctx : List (List Attr)) : Prop := ∀ l ∈ ctx, AttrsOK l ∧ DeclsOK l

theorem valsNE_collect : ∀ (ctx : List (List Attr)), CtxWF ctx → ∀ (m : SpaceMap), ValsNE m → ValsNE (ctx.foldl collectAttrs m)
  | [], _, _, hm => hm
  | c :: rest, hwf, m, hm =>
    valsNE_collect rest (fun l hl => hwf l (List.mem_cons_of_mem _ hl)) _
      (valsNE_collectAttrs c m hm fun a ha q hg => ((hwf c List.mem_cons_self).2 a ha q hg).1)

theorem lookup_collect (p : Bytes) : ∀ (ctx : List (List Attr)), CtxWF ctx → ∀ (m : SpaceMap), ValsNE m →
    lookup (ctx.foldl collectAttrs m) p = (lookup m p).or (lookup (ctxMap ctx) p)
  | [], _, m, _ => by simp [ctxMap, lookup]
  | c :: rest, hwf, m, hm => by
    have hc := hwf c List.mem_cons_self
    have hv : ∀ a ∈ c, ∀ q, getDecl a = some q → a.value ≠ [] := fun a ha q hg => (hc.2 a ha q hg).1
    rw [List.foldl_cons, lookup_collect p rest (fun l hl => hwf l (List.mem_cons_of_mem _ hl)) _ (valsNE_collectAttrs c m hm hv),
      lookup_collectAttrs p c m hm hv, show ctxMap (c :: rest) = bindDecls (ctxMap rest) c from rfl, lookup_bindDecls c hc.1,
      Option.or_assoc]

theorem lookup_collectSpaces (ctx : List (List Attr)) (h : CtxWF ctx) (p : Bytes) :
    lookup (collectSpaces ctx) p = lookup (ctxMap ctx) p := by
  have := lookup_collect p ctx h [] (fun e he => by cases he)
  simpa [lookup, collectSpaces] using this

theorem mem_iff_lookup : ∀ {m : NsMap}, m.Pairwise (fun e f => e.1 ≠ f.1) → ∀ p v, (p, v) ∈ m ↔ lookup m p = some v
  | [], _, p, v => by simp [lookup]
  | (k, w) :: m, hm, p, v => by
    rw [List.pairwise_cons] at hm
    rw [List.mem_cons, mem_iff_lookup hm.2 p v]
    simp only [lookup, Prod.mk.injEq]
    by_cases hk : k = p
    · subst hk
      rw [if_pos rfl]
      constructor
      · rintro (⟨_, rfl⟩ | h)
        · rfl
        · exact absurd rfl (hm.1 (k, v) ((mem_iff_lookup hm.2 k v).mpr h))
      · intro h; exact Or.inl ⟨rfl, (Option.some.inj h).symm⟩
    · rw [if_neg hk]
      constructor
      · rintro (⟨e, _⟩ | h)
        · exact absurd e.symm hk
        · exact h
      · exact Or.inr

theorem lookup_none_of_absent : ∀ {m : NsMap} {p : Bytes}, (∀ e ∈ m, e.1 ≠ p) → lookup m p = none
  | [], _, _ => rfl
  | (k, w) :: m, p, h => by
    simp only [lookup, if_neg (h (k, w) List.mem_cons_self)]
    exact lookup_none_of_absent fun e he => h e (List.mem_cons_of_mem _ he)

theorem lookup_ctxMap_xml (ctx : List (List Attr)) (h : CtxWF ctx) : lookup (ctxMap ctx) sXml = none := by
  induction ctx with
  | nil => rfl
  | cons c rest ih =>
    rw [show ctxMap (c :: rest) = bindDecls (ctxMap rest) c from rfl,
      lookup_bind_none sXml c _ (fun a ha hg => ((h c List.mem_cons_self).2 a ha sXml hg).2 rfl)]
    exact ih (fun l hl => h l (List.mem_cons_of_mem _ hl))

theorem inv_init (ctx : List (List Attr)) (hwf : CtxWF ctx) (hx : ∀ attrs ∈ ctx, NoXmlnsName attrs) :
    Inv (collectSpaces ctx) (ctxMap ctx) [] := by
  have hok : EnvOK (collectSpaces ctx) :=
    collectSpaces_ok ctx fun attrs hat a ha hg => hx attrs hat a ha (Or.inl (getDecl_xmlns_name a hg))
  have hne : ValsNE (collectSpaces ctx) := valsNE_collect ctx hwf [] (fun e he => by cases he)
  have hmem : ∀ e ∈ collectSpaces ctx, lookup (ctxMap ctx) e.1 = some e.2 := fun e he => by
    rw [← lookup_collectSpaces ctx hwf]; exact (mem_iff_lookup hok.1 e.1 e.2).mp he
  have hxml := lookup_ctxMap_xml ctx hwf
  refine ⟨hok, fun e he h => ?_, fun e he => ⟨hmem e he, hne e he, by simp [lookup]⟩, fun p hp => ?_⟩
  · have := hmem e he
    rw [h, hxml] at this
    cases this
  · rw [← lookup_collectSpaces ctx hwf, lookup_none_of_absent hp]
    rfl

end Relic.Xml
