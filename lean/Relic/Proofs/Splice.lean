/-
  Overwriting in place: the laws of `Relic.splice b off old blob` (`old` bytes at `off` replaced by `blob`), stated
  about the byte string itself, its bytes one by one, and its windows `(b.drop a).take n`.  The writers that patch a file
  where it lies (a Mach-O header field, the PE checksum, a mini sector of a compound file) are `splice` with
  `old = blob.length`; what they leave alone and what they put there is read off these lemmas.  With them: the
  laws of windows themselves (adjacent ones, a window of a window, the pieces of a concatenation).
-/
import Relic.Base.Bytes
namespace Relic

theorem splice_length (b : Bytes) {off old : Nat} (blob : Bytes) (h : off + old ≤ b.length) :
    (splice b off old blob).length = b.length + blob.length - old := by
  rw [splice, List.length_append, List.length_append, List.length_take_of_le (by omega), List.length_drop]
  omega

theorem getElem?_splice (b : Bytes) (off old : Nat) (blob : Bytes) (h : off ≤ b.length) (i : Nat) :
    (splice b off old blob)[i]? =
      if i < off then b[i]? else if i < off + blob.length then blob[i - off]? else b[i - blob.length + old]? := by
  unfold splice
  have ht : (b.take off).length = off := by rw [List.length_take]; omega
  by_cases c1 : i < off
  · rw [if_pos c1, List.append_assoc, List.getElem?_append_left (by omega), List.getElem?_take_of_lt c1]
  · rw [if_neg c1, List.append_assoc, List.getElem?_append_right (by omega), ht]
    by_cases c2 : i < off + blob.length
    · rw [if_pos c2, List.getElem?_append_left (by omega)]
    · rw [if_neg c2, List.getElem?_append_right (by omega), List.getElem?_drop]
      congr 1; omega

theorem slice?_some (b : Bytes) (lo hi : Nat) (h1 : lo ≤ hi) (h2 : hi ≤ b.length) :
    slice? b lo hi = some ((b.drop lo).take (hi - lo)) := by
  simp [slice?, h1, h2]

theorem getElem?_take_drop (l : Bytes) (a n j : Nat) :
    ((l.drop a).take n)[j]? = if j < n then l[a + j]? else none := by
  rw [List.getElem?_take]
  split
  · rw [List.getElem?_drop]
  · rfl

theorem take_drop_append (l : Bytes) (a n m : Nat) :
    (l.drop a).take n ++ (l.drop (a + n)).take m = (l.drop a).take (n + m) := by
  rw [List.take_add, List.drop_drop]

theorem take_drop_append_left (l r : Bytes) (a n : Nat) (h : a + n ≤ l.length) :
    ((l ++ r).drop a).take n = (l.drop a).take n := by
  rw [List.drop_append_of_le_length (by omega), List.take_append_of_le_length (by rw [List.length_drop]; omega)]

theorem take_drop_append_tail (l : Bytes) {a b : Nat} (h : a ≤ b) : (l.drop a).take (b - a) ++ l.drop b = l.drop a := by
  have := List.take_append_drop (b - a) (l.drop a)
  rwa [List.drop_drop, show a + (b - a) = b by omega] at this

theorem length_flatten_blocks {α : Type} (n : Nat) (bs : List (List α)) (hl : ∀ b ∈ bs, b.length = n) :
    bs.flatten.length = bs.length * n := by
  rw [List.length_flatten, List.map_congr_left (g := fun _ => n) hl, List.map_const', List.sum_replicate_nat]

/-- a piece of a concatenation is the window behind the pieces in front of it -/
theorem take_drop_flatten {α : Type} : ∀ (ss : List (List α)) (j : Nat) (h : j < ss.length),
    (ss.flatten.drop ((ss.take j).map List.length).sum).take ss[j].length = ss[j]
  | s :: rest, 0, _ => by simp
  | s :: rest, j + 1, h => by
    simp only [List.take_succ_cons, List.map_cons, List.sum_cons, List.flatten_cons, List.getElem_cons_succ]
    rw [List.drop_append, List.drop_eq_nil_of_le (Nat.le_add_right _ _), Nat.add_sub_cancel_left, List.nil_append]
    exact take_drop_flatten rest j (by simpa using h)

/-- … for blocks of `n` elements each: block `i` is the window of length `n` at `i * n` -/
theorem take_drop_flatten_blocks {α : Type} (n : Nat) (bs : List (List α)) (i : Nat) (rest : List α)
    (hl : ∀ b ∈ bs, b.length = n) (h : i < bs.length) : ((bs.flatten ++ rest).drop (i * n)).take n = bs[i] := by
  have hs : ((bs.take i).map List.length).sum = i * n := by
    rw [List.map_congr_left (g := fun _ => n) (fun b hb => hl b (List.mem_of_mem_take hb)), List.map_const', List.sum_replicate_nat,
      List.length_take, Nat.min_eq_left (Nat.le_of_lt h)]
  have := take_drop_flatten (bs ++ [rest]) i (by rw [List.length_append]; omega)
  rwa [List.take_append_of_le_length (Nat.le_of_lt h), hs, List.getElem_append_left h, hl _ (List.getElem_mem h), List.flatten_append,
    List.flatten_cons, List.flatten_nil, List.append_nil] at this

/-- … found by the literal list of the pieces' lengths: offset, width and piece are checked by evaluation -/
theorem take_drop_piece (ss : List Bytes) (ls : List Nat) (hl : ss.map List.length = ls) (j off n : Nat) (x : Bytes)
    (ho : (ls.take j).sum = off) (hn : ls[j]? = some n) (hx : ss[j]? = some x) : (ss.flatten.drop off).take n = x := by
  subst hl
  obtain ⟨h, rfl⟩ := List.getElem?_eq_some_iff.mp hx
  rw [List.getElem?_map, List.getElem?_eq_getElem h] at hn
  rw [← ho, ← Option.some.inj hn, ← List.map_take]
  exact take_drop_flatten ss j h

theorem take_drop_take_drop (l : Bytes) (a n b m : Nat) (h : m ≤ n - b) :
    (((l.drop a).take n).drop b).take m = (l.drop (a + b)).take m := by
  rw [List.drop_take, List.take_take, List.drop_drop, Nat.min_eq_left h]

theorem take_drop_take (l : Bytes) (k a n : Nat) (h : a + n ≤ k) : ((l.take k).drop a).take n = (l.drop a).take n := by
  rw [List.drop_take, List.take_take, Nat.min_eq_left (by omega)]

theorem take_drop_congr (f g : Bytes) (a n : Nat) (h : ∀ i, a ≤ i → i < a + n → g[i]? = f[i]?) :
    (g.drop a).take n = (f.drop a).take n := by
  apply List.ext_getElem?
  intro j
  rw [getElem?_take_drop, getElem?_take_drop]
  split
  · exact h _ (by omega) (by omega)
  · rfl

theorem take_drop_eq_of_getElem? (g b : Bytes) (a : Nat) (h : ∀ j, j < b.length → g[a + j]? = b[j]?) :
    (g.drop a).take b.length = b := by
  apply List.ext_getElem?
  intro j
  rw [getElem?_take_drop]
  split
  · exact h j (by assumption)
  · exact (List.getElem?_eq_none_iff.mpr (by omega)).symm

theorem take_drop_splice_before (b : Bytes) {off : Nat} (old : Nat) (blob : Bytes) {a n : Nat} (h : off ≤ b.length)
    (ha : a + n ≤ off) : ((splice b off old blob).drop a).take n = (b.drop a).take n := by
  apply List.ext_getElem?
  intro j
  rw [getElem?_take_drop, getElem?_take_drop]
  split
  · rw [getElem?_splice b off old blob h, if_pos (by omega)]
  · rfl

theorem take_splice (b : Bytes) {off n : Nat} (old : Nat) (blob : Bytes) (hn : n ≤ off) (hb : n ≤ b.length) :
    (splice b off old blob).take n = b.take n := by
  unfold splice
  rw [List.append_assoc, List.take_append_of_le_length (by rw [List.length_take]; omega), List.take_take, Nat.min_eq_left hn]

/-- a window that begins behind the patch: the same bytes, moved by the difference of the two lengths -/
theorem take_drop_splice_after (b : Bytes) {off : Nat} (old : Nat) (blob : Bytes) {a : Nat} (n : Nat) (h : off ≤ b.length)
    (ha : off + blob.length ≤ a) :
    ((splice b off old blob).drop a).take n = (b.drop (a - blob.length + old)).take n := by
  apply List.ext_getElem?
  intro j
  rw [getElem?_take_drop, getElem?_take_drop]
  split
  · rw [getElem?_splice b off old blob h, if_neg (by omega), if_neg (by omega)]
    congr 1; omega
  · rfl

theorem take_drop_splice_at (b : Bytes) {off : Nat} (old : Nat) (blob : Bytes) (h : off ≤ b.length) :
    ((splice b off old blob).drop off).take blob.length = blob := by
  apply List.ext_getElem?
  intro j
  rw [getElem?_take_drop]
  split
  · rw [getElem?_splice b off old blob h, if_neg (by omega), if_pos (by omega)]
    congr 1; omega
  · rw [List.getElem?_eq_none (by omega)]

theorem take_drop_splice_in (b : Bytes) {off : Nat} (old : Nat) (blob : Bytes) {k n : Nat} (h : off ≤ b.length)
    (hk : k + n ≤ blob.length) : ((splice b off old blob).drop (off + k)).take n = (blob.drop k).take n := by
  apply List.ext_getElem?
  intro j
  rw [getElem?_take_drop, getElem?_take_drop]
  split
  · rw [getElem?_splice b off old blob h, if_neg (by omega), if_pos (by omega)]
    congr 1; omega
  · rfl

theorem splice_splice_adj (f : Bytes) (off o1 o2 : Nat) (b1 b2 : Bytes) (h : off + o1 ≤ f.length) :
    splice (splice f (off + o1) o2 b2) off o1 b1 = splice f off (o1 + o2) (b1 ++ b2) := by
  unfold splice
  have h1 : (List.take (off + o1) f).length = off + o1 := by simp [List.length_take]; omega
  have e1 : List.take off (List.take (off + o1) f ++ b2 ++ List.drop (off + o1 + o2) f) = List.take off f := by
    rw [List.append_assoc, List.take_append, h1, List.take_take]
    have : off - (off + o1) = 0 := by omega
    simp [this, Nat.min_eq_left (Nat.le_add_right off o1)]
  have e2 : List.drop (off + o1) (List.take (off + o1) f ++ b2 ++ List.drop (off + o1 + o2) f)
      = b2 ++ List.drop (off + o1 + o2) f := by
    rw [List.append_assoc, List.drop_append, h1]
    simp
  rw [e1, e2]
  simp [List.append_assoc, Nat.add_assoc]

theorem splice_same_length (b : Bytes) {off : Nat} (x : Bytes) (h : off + x.length ≤ b.length) :
    (splice b off x.length x).length = b.length :=
  (splice_length b x h).trans (Nat.add_sub_cancel ..)

theorem getElem?_splice_same (b : Bytes) (off : Nat) (x : Bytes) (h : off ≤ b.length) (i : Nat) :
    (splice b off x.length x)[i]? = if off ≤ i ∧ i < off + x.length then x[i - off]? else b[i]? := by
  rw [getElem?_splice b off x.length x h]
  by_cases c1 : i < off
  · rw [if_pos c1, if_neg (by omega)]
  · by_cases c2 : i < off + x.length
    · rw [if_neg c1, if_pos c2, if_pos (by omega)]
    · rw [if_neg c1, if_neg c2, if_neg (by omega)]
      congr 1; omega

/-- a window beside the overwritten bytes, on either side, is unchanged -/
theorem take_drop_splice_same_other (b : Bytes) {off : Nat} (x : Bytes) {a n : Nat} (h : off ≤ b.length)
    (hd : a + n ≤ off ∨ off + x.length ≤ a) : ((splice b off x.length x).drop a).take n = (b.drop a).take n := by
  rcases hd with hd | hd
  · exact take_drop_splice_before b x.length x h hd
  · rw [take_drop_splice_after b x.length x n h hd, Nat.sub_add_cancel (by omega)]

theorem splice_append_left {a : Bytes} (r : Bytes) {off old : Nat} (blob : Bytes) (h : off + old ≤ a.length) :
    splice (a ++ r) off old blob = splice a off old blob ++ r := by
  unfold splice
  rw [List.take_append_of_le_length (by omega), List.drop_append_of_le_length h]
  simp only [List.append_assoc]

theorem splice_append_right (a r : Bytes) (off old : Nat) (blob : Bytes) :
    splice (a ++ r) (a.length + off) old blob = a ++ splice r off old blob := by
  unfold splice
  rw [List.take_append, List.drop_append, List.take_of_length_le (Nat.le_add_right _ _),
    List.drop_of_length_le (by omega), Nat.add_sub_cancel_left, Nat.add_assoc, Nat.add_sub_cancel_left]
  simp only [List.nil_append, List.append_assoc]

theorem splice_mid (a m b blob : Bytes) : splice (a ++ m ++ b) a.length m.length blob = a ++ blob ++ b := by
  have h1 : (a ++ m ++ b).take a.length = a := by rw [List.append_assoc, List.take_left]
  have h2 : (a ++ m ++ b).drop (a.length + m.length) = b := by rw [← List.length_append, List.drop_left]
  rw [splice, h1, h2]

end Relic
