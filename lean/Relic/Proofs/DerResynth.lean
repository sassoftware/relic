/-
  Re-synthesised nodes round-trip iff their headers are DER (C16, `resynth_nodes_need_der`).

  `parseMix` is the reader that insists on Go's strict (minimal definite) length form exactly at the headers
  that get re-synthesised (`prim`, `node`, `rawc`) and is BER-tolerant at the headers of raw-captured nodes
  (`raw`, emitted verbatim).  For an input read the BER way, `emit f = bs ↔ parseMix sh bs = .ok f`
  (`C16.resynth_nodes_need_der_mixed`; the direction from left to right is `Parses.strict_of_emit`);
  for shapes without raw-captured nodes `parseMix` is `parse false`.
-/
import Relic.Proofs.DerTree
namespace Relic.Der

def parseMix : Shape → Bytes → Res Forest
  | .done, bs => if bs.isEmpty then .ok .nil else .err "trailing"
  | .tail, _ => .ok .nil
  | .raw next, bs =>
    match untlvWith decLenLax bs with
    | .ok (_, _, rest) =>
      match parseMix next rest with
      | .ok f => .ok (.raw (bs.take (bs.length - rest.length)) f)
      | e => e
    | .err e => .err e
    | .panic s => .panic s
    | .diverge => .diverge
  | .rawc next, bs =>
    match untlvWith decLen bs with
    | .ok (t, _, rest) =>
      match parseMix next rest with
      | .ok f => .ok (.rawc t (bs.take (bs.length - rest.length)) f)
      | e => e
    | .err e => .err e
    | .panic s => .panic s
    | .diverge => .diverge
  | .prim next, bs =>
    match untlvWith decLen bs with
    | .ok (t, c, rest) =>
      match parseMix next rest with
      | .ok f => .ok (.prim t c f)
      | e => e
    | .err e => .err e
    | .panic s => .panic s
    | .diverge => .diverge
  | .node kids next, bs =>
    match untlvWith decLen bs with
    | .ok (t, c, rest) =>
      match parseMix kids c with
      | .ok k =>
        match parseMix next rest with
        | .ok f => .ok (.node t k f)
        | e => e
      | e => e
    | .err e => .err e
    | .panic s => .panic s
    | .diverge => .diverge

/-- no raw-captured node in the schema -/
def Shape.noRaw : Shape → Bool
  | .done => true
  | .tail => true
  | .raw _ => false
  | .rawc n => n.noRaw
  | .prim n => n.noRaw
  | .node k n => k.noRaw && n.noRaw

theorem parseMix_eq_strict (sh : Shape) (hr : sh.noRaw = true) (bs : Bytes) : parseMix sh bs = parse false sh bs := by
  induction sh generalizing bs with
  | done => simp [parseMix, parse]
  | tail => simp [parseMix, parse]
  | raw next _ => simp [Shape.noRaw] at hr
  | rawc next ih =>
    simp only [Shape.noRaw] at hr
    simp only [parseMix, parse, Bool.false_eq_true, if_false, ih hr]
    rcases untlvWith decLen bs with ⟨t, c, rest⟩ | _ | _ | _ <;> rfl
  | prim next ih =>
    simp only [Shape.noRaw] at hr
    simp only [parseMix, parse, Bool.false_eq_true, if_false, ih hr]
    rcases untlvWith decLen bs with ⟨t, c, rest⟩ | _ | _ | _ <;> rfl
  | node kids next ihk ihn =>
    simp only [Shape.noRaw, Bool.and_eq_true] at hr
    simp only [parseMix, parse, Bool.false_eq_true, if_false, ihk hr.1, ihn hr.2]
    rcases untlvWith decLen bs with ⟨t, c, rest⟩ | _ | _ | _ <;> rfl

/-- element level: a freshly written element has the minimal header, so what the BER reader takes off it the strict
    reader takes too -/
theorem lax_of_fresh (bs : Bytes) (t : UInt8) (c rest c' x : Bytes) (hb : bs.length < 2 ^ 31)
    (hl : untlvWith decLenLax bs = .ok (t, c, rest)) (e : tlv t c' ++ x = bs) :
    untlv bs = .ok (t, c, rest) ∧ c' = c ∧ x = rest := by
  obtain ⟨_, _, ht⟩ := untlvWith_head _ _ _ _ _ hl
  have hc' : c'.length < 2 ^ 31 := by
    have : (tlv t c' ++ x).length = bs.length := by rw [e]
    simp only [List.length_append, tlv_length] at this
    omega
  have hs := untlv_tlv t c' x ht hc'
  rw [e] at hs
  have h2 := untlvLax_of_untlv _ _ hs
  rw [untlvLax, hl] at h2
  simp only [Res.ok.injEq, Prod.mk.injEq] at h2
  obtain ⟨_, rfl, rfl⟩ := h2
  exact ⟨hs, rfl, rfl⟩

theorem parseMix_ok {sh : Shape} {bs : Bytes} {f : Forest} :
    parseMix sh bs = .ok f ↔ Parses decLenLax decLen sh bs f := by
  constructor
  · revert f
    fun_induction parseMix sh bs
    case case1 bs he => intro f h; cases h; cases List.isEmpty_iff.mp he; exact .done
    case case3 => intro f h; cases h; exact .tail _
    case case4 hu f' hp ih => intro f h; cases h; exact .raw hu (ih hp)
    case case9 hu f' hp ih => intro f h; cases h; exact .rawc hu (ih hp)
    case case14 hu f' hp ih => intro f h; cases h; exact .prim hu (ih hp)
    case case19 hu k hk f' hp ihk ihn => intro f h; cases h; exact .node hu (ihk hk) (ihn hp)
    case case5 hne _ => exact fun h => absurd h (hne _)
    case case10 hne _ => exact fun h => absurd h (hne _)
    case case15 hne _ => exact fun h => absurd h (hne _)
    case case20 hne _ _ => exact fun h => absurd h (hne _)
    case case21 hne _ => exact fun h => absurd h (hne _)
    all_goals nofun
  · intro h
    induction h with
    | done => rfl
    | tail => rfl
    | raw hu _ ih => simp only [parseMix, hu, ih]
    | rawc hu _ ih => simp only [parseMix, hu, ih]
    | prim hu _ ih => simp only [parseMix, hu, ih]
    | node hu _ _ ihk ihn => simp only [parseMix, hu, ihk, ihn]

/-- an input that its own BER reading re-encodes to had minimal headers wherever a header is written anew -/
theorem Parses.strict_of_emit {sh : Shape} {bs : Bytes} {f : Forest} (h : Parses decLenLax decLenLax sh bs f) :
    bs.length < 2 ^ 31 → Der.emit f = bs → Parses decLenLax decLen sh bs f := by
  induction h with
  | done => exact fun _ _ => .done
  | tail => exact fun _ _ => .tail _
  | @raw _ bs t c rest f' hu _ ih =>
    intro hb e
    obtain ⟨hd, e1, etake⟩ := untlvWith_parts _ decLenLax_consumes _ _ _ _ hu
    have hr : rest.length < bs.length := by rw [e1]; simp; omega
    rw [Der.emit, etake] at e
    exact .raw hu (ih (by omega) (List.append_cancel_left (e.trans e1)))
  | @rawc _ bs t c rest f' hu _ ih =>
    intro hb e
    obtain ⟨hst, _, ex⟩ := lax_of_fresh bs t c rest _ _ hb hu e
    have hr := untlv_rest_lt _ _ _ _ hst
    exact .rawc hst (ih (by omega) ex)
  | @prim _ bs t c rest f' hu _ ih =>
    intro hb e
    obtain ⟨hst, _, ex⟩ := lax_of_fresh bs t c rest _ _ hb hu e
    have hr := untlv_rest_lt _ _ _ _ hst
    exact .prim hst (ih (by omega) ex)
  | @node _ _ bs t c rest k f' hu _ _ ihk ihn =>
    intro hb e
    obtain ⟨hst, ec, ex⟩ := lax_of_fresh bs t c rest _ _ hb hu e
    have hr := untlv_rest_lt _ _ _ _ hst
    exact .node hst (ihk (untlv_inv _ _ _ _ hst).2.2 ec) (ihn (by omega) ex)

end Relic.Der
