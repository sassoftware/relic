/-
  Relic.Proofs.Pgp — relic's packet header writer against the RFC 4880 reader of Relic.Spec.OpenPgp: a packet written by
  serializeHeader reads back as the same tag and body, whatever follows.  Then the literal and one-pass bodies as §5.9 / §5.4
  read them, `packet tag body`, and what `serializeLiteral` / `MergeSignature` return as concatenations of such packets.
-/
import Relic.Model.Pgp
import Relic.Spec.OpenPgp
import Relic.Proofs.Codec
namespace Relic.Pgp
open Relic.Spec.OpenPgp

theorem tagOctet (p : Nat) (h : p < 64) : ((0xC0 : UInt8) ||| UInt8.ofNat p).toNat = 192 + p := by
  have : ∀ q : Fin 64, ((0xC0 : UInt8) ||| UInt8.ofNat q.val).toNat = 192 + q.val := by decide
  exact this ⟨p, h⟩

theorem serializeLength_length (n : Nat) :
    (serializeLength n).length = if n ≤ 191 then 1 else if n ≤ 8383 then 2 else 5 := by
  unfold serializeLength
  by_cases h1 : n ≤ 191
  · rw [if_pos h1, if_pos (by omega)]; rfl
  · by_cases h2 : n ≤ 8383
    · rw [if_neg h1, if_pos h2, if_neg (by omega), if_pos (by omega)]; rfl
    · rw [if_neg h1, if_neg h2, if_neg (by omega), if_neg (by omega)]; rfl

theorem serializeLength_five (n : Nat) (h : ¬ n < 8384) : serializeLength n = 255 :: beBytes 4 n := by
  have h1 : ¬ n < 192 := by omega
  simp [serializeLength, h, h1, beBytes, ofNat_mod_256]

/-- §4.2.2.3 read as a big-endian number -/
theorem decodeLength_five (q : Bytes) (hq : q.length = 4) (rest : Bytes) :
    decodeLength (255 :: q ++ rest) = some (.five, beVal q, rest) := by
  match q, hq with
  | [a, b, c, d], _ => simp [decodeLength, beVal]; omega

/-- the length octets relic writes decode (RFC 4880 §4.2.2) to the length, in the prescribed form -/
theorem decodeLength_serialize (n : Nat) (h : n < 2 ^ 32) (rest : Bytes) :
    decodeLength (serializeLength n ++ rest) = some (prescribedForm n, n, rest) := by
  by_cases h1 : n < 192
  · have e : (UInt8.ofNat n).toNat = n := toNat_ofNat_lt n (by omega)
    simp only [serializeLength, prescribedForm, h1, show n ≤ 191 by omega, if_true, List.cons_append, List.nil_append,
      decodeLength, e]
  by_cases h2 : n < 8384
  · have e1 : (UInt8.ofNat (192 + (n - 192) / 256)).toNat = 192 + (n - 192) / 256 := toNat_ofNat_lt _ (by omega)
    have e2 : (UInt8.ofNat (n - 192)).toNat = (n - 192) % 256 := UInt8.toNat_ofNat'
    simp only [serializeLength, prescribedForm, h1, h2, show ¬ n ≤ 191 by omega, show n ≤ 8383 by omega, if_true, if_false,
      List.cons_append, List.nil_append, decodeLength, e1, e2, show ¬ (192 + (n - 192) / 256 < 192) by omega,
      show 192 + (n - 192) / 256 < 224 by omega]
    rw [show (192 + (n - 192) / 256 - 192) * 256 + (n - 192) % 256 + 192 = n by omega]
  · have hf : prescribedForm n = .five := by unfold prescribedForm; rw [if_neg (by omega), if_neg (by omega)]
    rw [serializeLength_five n h2, decodeLength_five _ (beBytes_length 4 n), beVal_beBytes_of_lt 4 n (by simpa using h), hf]

theorem readBody_serialize (n : Nat) (h : n < 2 ^ 32) (body rest : Bytes) (hb : body.length = n) (fuel : Nat) :
    readBody (fuel + 1) (serializeLength n ++ (body ++ rest)) = some (body, rest) := by
  unfold readBody
  rw [decodeLength_serialize n h]
  have hl : ¬ ((body ++ rest).length < n) := by rw [List.length_append]; omega
  have t : (body ++ rest).take n = body := List.take_left' hb
  have d : (body ++ rest).drop n = rest := List.drop_left' hb
  have hf : prescribedForm n = .one ∨ prescribedForm n = .two ∨ prescribedForm n = .five := by
    unfold prescribedForm
    split
    · exact Or.inl rfl
    · split
      · exact Or.inr (Or.inl rfl)
      · exact Or.inr (Or.inr rfl)
  rcases hf with e | e | e <;> rw [e] <;> simp only [hl, if_false, t, d]

/-- a packet written as `serializeHeader ptype len(body) ‖ body` reads back (RFC 4880 §4.2) as tag
    `ptype` with exactly `body`, and the reader stops exactly behind it -/
theorem parsePacket_serialize (ptype : Nat) (hp : ptype < 64) (body rest : Bytes) (h : body.length < 2 ^ 32) :
    parsePacket (serializeHeader ptype body.length ++ body ++ rest) = some (⟨ptype, body⟩, rest) := by
  unfold serializeHeader parsePacket
  simp only [List.cons_append, List.append_assoc]
  rw [tagOctet ptype hp]
  have : 192 + ptype ≥ 192 := by omega
  simp only [this, if_true]
  rw [readBody_serialize body.length h body rest rfl]
  have : (192 + ptype) % 64 = ptype := by omega
  simp only [this]

theorem literalMeta_length (filename : Bytes) : (literalMeta filename).length = 6 + min 255 filename.length := by
  unfold literalMeta
  simp [List.length_take]
  omega

/-- §5.9 reading of what relic puts in a literal packet -/
theorem parseLiteral_meta (filename body : Bytes) :
    parseLiteral (literalMeta filename ++ body) = some ⟨0x62, filename.take 255, 0, body⟩ := by
  unfold literalMeta
  have hl : (filename.take 255).length ≤ 255 := by rw [List.length_take]; omega
  have e : (UInt8.ofNat (filename.take 255).length).toNat = (filename.take 255).length := by
    rw [UInt8.toNat_ofNat']; omega
  simp only [List.cons_append, List.nil_append, List.append_assoc, parseLiteral, e]
  generalize filename.take 255 = fn
  have hlen : ¬ ((fn ++ 0 :: 0 :: 0 :: 0 :: body).length < fn.length + 4) := by
    simp only [List.length_append, List.length_cons]; omega
  simp only [hlen, if_false]
  have t : (fn ++ 0 :: 0 :: 0 :: 0 :: body).take fn.length = fn := List.take_left' rfl
  have d : (fn ++ 0 :: 0 :: 0 :: 0 :: body).drop fn.length = 0 :: 0 :: 0 :: 0 :: body := List.drop_left' rfl
  have d4 : (fn ++ 0 :: 0 :: 0 :: 0 :: body).drop (fn.length + 4) = body := by
    rw [← List.drop_drop, d]; rfl
  have bv : beVal (List.take 4 ((0 : UInt8) :: 0 :: 0 :: 0 :: body)) = 0 := by
    simp [List.take, beVal]
  rw [t, d, d4, bv]

theorem parsePackets_step (fuel : Nat) (bs : Bytes) (h : bs ≠ []) :
    parsePackets (fuel + 1) bs =
      match parsePacket bs with
      | some (p, rest) => (parsePackets fuel rest).map (p :: ·)
      | none => none := by
  cases bs with
  | nil => exact absurd rfl h
  | cons b bs => rfl

/-- a packet as relic writes it: new-format header with the definite length, then the body.  What `serializeLiteral` and
    `MergeSignature` return is a concatenation of such packets, and the RFC's reader takes one off the front per step. -/
def packet (tag : Nat) (body : Bytes) : Bytes := serializeHeader tag body.length ++ body

theorem parsePackets_packet (fuel tag : Nat) (body rest : Bytes) (ht : tag < 64) (hb : body.length < 2 ^ 32) :
    parsePackets (fuel + 1) (packet tag body ++ rest) = (parsePackets fuel rest).map (⟨tag, body⟩ :: ·) := by
  unfold packet
  rw [parsePackets_step fuel _ (by simp [serializeHeader]),
    parsePacket_serialize tag ht body rest hb]

/-- body of the one-pass packet `writeOnePass` emits -/
def onePassBody (i : SigInfo) : Bytes := [3, i.sigType, i.hashId, i.pkAlgo] ++ beBytes 8 i.keyId ++ [1]

theorem onePassBody_length (i : SigInfo) : (onePassBody i).length = 13 := by
  unfold onePassBody
  simp [beBytes_length]

theorem onePass_eq (i : SigInfo) : onePass i = packet 4 (onePassBody i) := by
  rw [packet, onePassBody_length]
  unfold onePass onePassBody
  simp only [List.append_assoc]

theorem parseOnePass_body (i : SigInfo) :
    parseOnePass (onePassBody i) = some ⟨i.sigType, i.hashId, i.pkAlgo, beBytes 8 i.keyId, true⟩ := by
  unfold onePassBody
  simp only [List.cons_append, List.nil_append, parseOnePass]
  have l9 : (beBytes 8 i.keyId ++ [1]).length = 9 := by simp [beBytes_length]
  have t : (beBytes 8 i.keyId ++ [1]).take 8 = beBytes 8 i.keyId := List.take_left' (beBytes_length 8 _)
  have d : (beBytes 8 i.keyId ++ [1]).drop 8 = [1] := List.drop_left' (beBytes_length 8 _)
  simp only [l9, t, d, true_and, if_true, List.head?_cons]
  simp

theorem serializeLiteral_ok (body filename : Bytes) (h : body.length + (6 + min 255 filename.length) < 2 ^ 32) :
    serializeLiteral body filename = .ok (packet 11 (literalMeta filename ++ body)) := by
  have hm := literalMeta_length filename
  unfold serializeLiteral packet
  rw [if_neg (by omega), List.length_append, Nat.add_comm, List.append_assoc]

theorem mergeSignature_ok (i : SigInfo) (sig body filename : Bytes) (hb : body.length ≤ maxLiteralSize) :
    mergeSignature i sig body filename = .ok (packet 4 (onePassBody i) ++ packet 11 (literalMeta filename ++ body) ++ sig) := by
  have hmax : maxLiteralSize = 2147483136 := by unfold maxLiteralSize; simp
  unfold mergeSignature
  rw [if_neg (by omega), serializeLiteral_ok body filename (by simp; omega), onePass_eq]

end Relic.Pgp
