/- `Dump`/`Load` (C12): `load` accepts exactly the dumps followed by anything (`load_ok`); more input does not change an
   accepted parse and an accepted parse has consumed its bytes (`load_mono`, `load_consumes`); size of a dump -/
import Relic.Model.Binpatch
import Relic.Proofs.Codec
import Relic.Proofs.Lists
namespace Relic.Binpatch

/-- every field fits the width `Dump` writes it in -/
def Fits (p : Patch) : Prop := p.off < 256 ^ 8 ∧ p.old < 256 ^ 4 ∧ p.blob.length < 256 ^ 4

def hdrOf (p : Patch) : Nat × Nat × Nat := (p.off, p.old, p.blob.length)

theorem dumpHeader_length (p : Patch) : (dumpHeader p).length = 16 := by simp [dumpHeader]

theorem loadHeaders_dump (ps : List Patch) (rest : Bytes) (h : ∀ p ∈ ps, Fits p) :
    loadHeaders ps.length (ps.flatMap dumpHeader ++ rest) = some (ps.map hdrOf, rest) := by
  induction ps with
  | nil => simp [loadHeaders]
  | cons p ps ih =>
    have hp := h p (by simp)
    have ih' := ih (fun q hq => h q (by simp [hq]))
    simp only [List.length_cons, List.flatMap_cons, loadHeaders]
    generalize hR : List.flatMap dumpHeader ps ++ rest = R at ih'
    have e : dumpHeader p ++ List.flatMap dumpHeader ps ++ rest
        = beBytes 8 p.off ++ (beBytes 4 p.old ++ (beBytes 4 p.blob.length ++ R)) := by
      simp [dumpHeader, List.append_assoc, ← hR]
    rw [e]
    have l16 : ¬ (beBytes 8 p.off ++ (beBytes 4 p.old ++ (beBytes 4 p.blob.length ++ R))).length < 16 := by
      simp; omega
    rw [if_neg l16]
    have t8 : List.take 8 (beBytes 8 p.off ++ (beBytes 4 p.old ++ (beBytes 4 p.blob.length ++ R))) = beBytes 8 p.off :=
      List.take_left' (by simp)
    have d8 : List.drop 8 (beBytes 8 p.off ++ (beBytes 4 p.old ++ (beBytes 4 p.blob.length ++ R)))
        = beBytes 4 p.old ++ (beBytes 4 p.blob.length ++ R) := List.drop_left' (by simp)
    have d12 : List.drop 12 (beBytes 8 p.off ++ (beBytes 4 p.old ++ (beBytes 4 p.blob.length ++ R)))
        = beBytes 4 p.blob.length ++ R := by
      rw [show (12 : Nat) = 8 + 4 from rfl, drop_length_add_append' _ _ 8 4 (by simp)]
      exact List.drop_left' (by simp)
    have d16 : List.drop 16 (beBytes 8 p.off ++ (beBytes 4 p.old ++ (beBytes 4 p.blob.length ++ R))) = R := by
      rw [show (16 : Nat) = 8 + 8 from rfl, drop_length_add_append' _ _ 8 8 (by simp),
        show (8 : Nat) = 4 + 4 from rfl, drop_length_add_append' _ _ 4 4 (by simp)]
      exact List.drop_left' (by simp)
    rw [t8, d8, d12, d16, ih']
    have t4a : List.take 4 (beBytes 4 p.old ++ (beBytes 4 p.blob.length ++ R)) = beBytes 4 p.old :=
      List.take_left' (by simp)
    have t4b : List.take 4 (beBytes 4 p.blob.length ++ R) = beBytes 4 p.blob.length := List.take_left' (by simp)
    rw [t4a, t4b, beVal_beBytes_of_lt _ _ hp.1, beVal_beBytes_of_lt _ _ hp.2.1, beVal_beBytes_of_lt _ _ hp.2.2]
    rfl

theorem loadBlobs_dump (ps : List Patch) (rest : Bytes) :
    loadBlobs (ps.map hdrOf) (ps.flatMap (·.blob) ++ rest) = some ps := by
  induction ps with
  | nil => simp [loadBlobs]
  | cons p ps ih =>
    simp only [List.map_cons, List.flatMap_cons]
    generalize hR : List.flatMap (fun x => x.blob) ps ++ rest = R at ih
    rw [List.append_assoc, hR]
    show loadBlobs ((p.off, p.old, p.blob.length) :: List.map hdrOf ps) (p.blob ++ R) = some (p :: ps)
    simp only [loadBlobs]
    have : ¬ (p.blob ++ R).length < p.blob.length := by simp
    rw [if_neg this, List.drop_left, ih, List.take_left]

theorem load_frame (n : Nat) (R : Bytes) (hn : n < 256 ^ 4) :
    load (beBytes 4 1 ++ (beBytes 4 n ++ R)) =
      match loadHeaders n R with
      | none => .err "short"
      | some (hs, rest) =>
        match loadBlobs hs rest with
        | none => .err "short"
        | some ps => .ok ps := by
  unfold load
  have l8 : ¬ (beBytes 4 1 ++ (beBytes 4 n ++ R)).length < 8 := by
    simp only [List.length_append, beBytes_length]; omega
  rw [if_neg l8]
  have t4 : List.take 4 (beBytes 4 1 ++ (beBytes 4 n ++ R)) = beBytes 4 1 := List.take_left' (beBytes_length _ _)
  have d4 : List.drop 4 (beBytes 4 1 ++ (beBytes 4 n ++ R)) = beBytes 4 n ++ R := List.drop_left' (beBytes_length _ _)
  have d8 : List.drop 8 (beBytes 4 1 ++ (beBytes 4 n ++ R)) = R := by
    rw [show (8 : Nat) = 4 + 4 from rfl, drop_length_add_append' _ _ 4 4 (beBytes_length _ _)]
    exact List.drop_left' (beBytes_length _ _)
  have t4b : List.take 4 (beBytes 4 n ++ R) = beBytes 4 n := List.take_left' (beBytes_length _ _)
  have v1 : beVal (beBytes 4 1) = 1 := beVal_beBytes_of_lt 4 1 (by omega)
  rw [t4, d4, d8, t4b, v1, beVal_beBytes_of_lt _ _ hn]
  simp only [ne_eq, not_true_eq_false, if_false]
  cases loadHeaders n R with
  | none => rfl
  | some x =>
    obtain ⟨hs, rest⟩ := x
    simp only
    cases loadBlobs hs rest <;> rfl

theorem dumpSorted_eq (ps : List Patch) (rest : Bytes) :
    dumpSorted ps ++ rest = beBytes 4 1 ++ (beBytes 4 ps.length ++
      (List.flatMap dumpHeader ps ++ (List.flatMap (fun x => x.blob) ps ++ rest))) := by
  simp only [dumpSorted, List.append_assoc]

theorem load_dumpSorted (ps : List Patch) (h : ∀ p ∈ ps, Fits p) (hn : ps.length < 256 ^ 4) (rest : Bytes) :
    load (dumpSorted ps ++ rest) = .ok ps := by
  rw [dumpSorted_eq, load_frame _ _ hn, loadHeaders_dump ps _ h]
  simp only
  rw [loadBlobs_dump]

def totalSize (ps : List Patch) : Nat := 8 + 16 * ps.length + (ps.map (·.blob.length)).sum

theorem dumpSorted_length (ps : List Patch) : (dumpSorted ps).length = totalSize ps := by
  have h1 : (List.flatMap dumpHeader ps).length = 16 * ps.length := by
    induction ps with
    | nil => rfl
    | cons p ps ih => simp [List.flatMap_cons, dumpHeader_length, ih]; omega
  have h2 : (List.flatMap (fun x => x.blob) ps).length = (ps.map (·.blob.length)).sum := by
    induction ps with
    | nil => rfl
    | cons p ps _ => simp [List.flatMap_cons]
  simp only [dumpSorted, List.length_append, beBytes_length, h1, h2, totalSize]

/-! `load` accepts exactly the dumps, followed by anything: that more input does not change an accepted parse, and that an
  accepted parse has consumed its bytes, are the two immediate consequences. -/

/-- a header triple as `Dump` writes it: `dumpHeader p` is `encHdr (hdrOf p)` by `rfl`; `loadHeaders` returns triples before
    there are patches, hence the two spellings -/
def encHdr (h : Nat × Nat × Nat) : Bytes := beBytes 8 h.1 ++ beBytes 4 h.2.1 ++ beBytes 4 h.2.2

theorem loadHeaders_ok (n : Nat) (b : Bytes) (hs : List (Nat × Nat × Nat)) (r : Bytes)
    (h : loadHeaders n b = some (hs, r)) : b = hs.flatMap encHdr ++ r ∧ hs.length = n ∧
      ∀ x ∈ hs, x.1 < 256 ^ 8 ∧ x.2.1 < 256 ^ 4 ∧ x.2.2 < 256 ^ 4 := by
  induction n generalizing b hs r with
  | zero => simp [loadHeaders] at h; obtain ⟨rfl, rfl⟩ := h; exact ⟨rfl, rfl, nofun⟩
  | succ n ih =>
    simp only [loadHeaders] at h
    by_cases hl : b.length < 16
    · simp [hl] at h
    · rw [if_neg hl] at h
      cases hr : loadHeaders n (List.drop 16 b) with
      | none => simp [hr] at h
      | some v =>
        obtain ⟨hs', r'⟩ := v
        simp only [hr, Option.some.injEq, Prod.mk.injEq] at h
        obtain ⟨e, hn, hf⟩ := ih _ _ _ hr
        obtain ⟨rfl, rfl⟩ := h
        refine ⟨?_, by simp [hn], ?_⟩
        · -- the sixteen bytes read are the three fields written back
          have e16 : b = b.take 8 ++ ((b.drop 8).take 4 ++ ((b.drop 12).take 4 ++ b.drop 16)) := by
            conv => lhs; rw [← List.take_append_drop 8 b, ← List.take_append_drop 4 (b.drop 8),
              List.drop_drop, ← List.take_append_drop 4 (b.drop 12), List.drop_drop]
          simp only [List.flatMap_cons, encHdr, List.append_assoc]
          rw [beBytes_beVal' _ 8 (by simp; omega), beBytes_beVal' _ 4 (by simp; omega),
            beBytes_beVal' _ 4 (by simp; omega), ← e]
          exact e16
        · intro x hx
          rcases List.mem_cons.mp hx with rfl | hx
          · exact ⟨beVal_take_lt b 8, beVal_take_lt _ 4, beVal_take_lt _ 4⟩
          · exact hf x hx

theorem loadBlobs_ok (hs : List (Nat × Nat × Nat)) (b : Bytes) (ps : List Patch)
    (h : loadBlobs hs b = some ps) : ps.map hdrOf = hs ∧ ∃ rest, b = ps.flatMap (·.blob) ++ rest := by
  induction hs generalizing b ps with
  | nil => simp [loadBlobs] at h; subst h; exact ⟨rfl, b, rfl⟩
  | cons hd hs ih =>
    obtain ⟨off, old, new⟩ := hd
    simp only [loadBlobs] at h
    by_cases hl : b.length < new
    · simp [hl] at h
    · rw [if_neg hl] at h
      cases hr : loadBlobs hs (List.drop new b) with
      | none => simp [hr] at h
      | some qs =>
        simp only [hr, Option.some.injEq] at h
        obtain ⟨e, rest, hrest⟩ := ih _ _ hr
        subst h
        refine ⟨by simp [hdrOf, e, List.length_take]; omega, rest, ?_⟩
        simp only [List.flatMap_cons, List.append_assoc]
        rw [← hrest, List.take_append_drop]

theorem load_ok (b : Bytes) (ps : List Patch) :
    load b = .ok ps ↔ (∀ p ∈ ps, Fits p) ∧ ps.length < 256 ^ 4 ∧ ∃ rest, b = dumpSorted ps ++ rest := by
  refine ⟨fun h => ?_, fun ⟨hf, hn, rest, e⟩ => e ▸ load_dumpSorted ps hf hn rest⟩
  unfold load at h
  by_cases hl : b.length < 8
  · simp [hl] at h
  · rw [if_neg hl] at h
    by_cases hv : beVal (List.take 4 b) ≠ 1
    · simp [hv] at h
    · rw [if_neg hv] at h
      cases hh : loadHeaders (beVal (List.take 4 (List.drop 4 b))) (List.drop 8 b) with
      | none => simp [hh] at h
      | some v =>
        obtain ⟨hs, r⟩ := v
        simp only [hh] at h
        cases hb : loadBlobs hs r with
        | none => simp [hb] at h
        | some qs =>
          simp only [hb, Res.ok.injEq] at h
          subst h
          obtain ⟨e1, hn, hf⟩ := loadHeaders_ok _ _ _ _ hh
          obtain ⟨e2, rest, e3⟩ := loadBlobs_ok _ _ _ hb
          subst e2
          have hlen : qs.length = beVal (List.take 4 (List.drop 4 b)) := by simpa using hn
          refine ⟨fun p hp => ?_, hlen ▸ beVal_take_lt _ 4, rest, ?_⟩
          · exact hf (hdrOf p) (List.mem_map_of_mem hp)
          · have e8 : b = b.take 4 ++ ((b.drop 4).take 4 ++ b.drop 8) := by
              conv => lhs; rw [← List.take_append_drop 4 b, ← List.take_append_drop 4 (b.drop 4), List.drop_drop]
            have v1 : b.take 4 = beBytes 4 1 := by
              rw [← beBytes_beVal' (b.take 4) 4 (by simp; omega), Classical.not_not.mp hv]
            rw [dumpSorted_eq, hlen, beBytes_beVal' _ 4 (by simp; omega), ← v1]
            have : List.flatMap dumpHeader qs = List.flatMap encHdr (List.map hdrOf qs) := by
              rw [List.flatMap_map]; rfl
            rw [this, ← e3, ← e1]
            exact e8

theorem load_mono (b x : Bytes) (ps : List Patch) (h : load b = .ok ps) : load (b ++ x) = .ok ps := by
  obtain ⟨hf, hn, rest, rfl⟩ := (load_ok b ps).mp h
  rw [List.append_assoc]
  exact load_dumpSorted ps hf hn _

theorem load_consumes (b : Bytes) (ps : List Patch) (h : load b = .ok ps) : totalSize ps ≤ b.length := by
  obtain ⟨_, _, rest, rfl⟩ := (load_ok b ps).mp h
  rw [List.length_append, dumpSorted_length]
  omega

end Relic.Binpatch
