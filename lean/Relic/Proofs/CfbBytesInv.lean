/-
  The invariant of the byte-level comdoc writer model, its preservation by AddFile / DeleteFile, and what every stream
  reads back as through a history.  Live chains are a family indexed by their owner (`FamOK`); the invariant `Inv` is a
  table half (`TInv`, field `t`, with `Frame` for what an operation leaves of the tables) plus the facts about the file;
  `DataKept` carries the contents of the streams whose slot record stays.

  The live chains are spoken of at two levels.  `Props/C18_Disjoint` states disjointness for a bare table and a LIST of
  heads; it is self-contained and nothing here uses it.  Here the heads are a FUNCTION of the owner, computed from the
  state (`satHeads`, `miniHeads`; not the list-valued functions of the same names in `Relic.Props.C18`), which is what
  lets one slot be changed at a time; the executable `invB` of `Model/CfbBytesInv` checks the same and is tied to `Inv`
  by `invB_sound`.  Build on this level.
-/
import Relic.Proofs.CfbBytes
import Relic.Model.CfbBytesInv
namespace Relic.CfbB
open Relic.CfbW Relic.Cfb Relic.Props.C18

/-- every head starts a valid chain; chains of different owners share no sector -/
structure FamOK {τ : Type} (tbl : List Int) (H : τ → Option Int) : Prop where
  valid : ∀ t h, H t = some h → ∃ l, chain tbl h = some l
  disj : ∀ t1 t2 h1 h2 l1 l2, t1 ≠ t2 → H t1 = some h1 → H t2 = some h2 →
    chain tbl h1 = some l1 → chain tbl h2 = some l2 → ∀ x ∈ l1, x ∉ l2

theorem FamOK.frame {τ : Type} {tbl tbl' : List Int} {H H' : τ → Option Int} (ok : FamOK tbl H)
    (hf : ∀ t h l, H' t = some h → chain tbl h = some l → chain tbl' h = some l)
    (hsub : ∀ t h, H' t = some h → H t = some h) : FamOK tbl' H' := by
  refine ⟨?_, ?_⟩
  · intro t h ht
    obtain ⟨l, hl⟩ := ok.valid t h (hsub t h ht)
    exact ⟨l, hf t h l ht hl⟩
  · intro t1 t2 h1 h2 l1 l2 hne e1 e2 c1 c2
    obtain ⟨m1, hm1⟩ := ok.valid t1 h1 (hsub _ _ e1)
    obtain ⟨m2, hm2⟩ := ok.valid t2 h2 (hsub _ _ e2)
    have := hf t1 h1 m1 e1 hm1
    rw [c1] at this; cases this
    have := hf t2 h2 m2 e2 hm2
    rw [c2] at this; cases this
    exact ok.disj t1 t2 h1 h2 l1 l2 hne (hsub _ _ e1) (hsub _ _ e2) hm1 hm2

theorem FamOK.remove {τ : Type} [DecidableEq τ] {tbl tbl' : List Int} {H : τ → Option Int} (ok : FamOK tbl H)
    (t0 : τ) (h0 : Int) (l0 : List Nat) (ht0 : H t0 = some h0) (hl0 : chain tbl h0 = some l0)
    (hf : ∀ s m, chain tbl s = some m → (∀ x ∈ m, x ∉ l0) → chain tbl' s = some m) :
    FamOK tbl' (fun t => if t = t0 then none else H t) := by
  have live : ∀ t h, (if t = t0 then none else H t) = some h → t ≠ t0 ∧ H t = some h := by
    intro t h ht
    by_cases e : t = t0
    · simp [e] at ht
    · exact ⟨e, by simpa [e] using ht⟩
  refine ok.frame (fun t h l ht hl => ?_) (fun t h ht => (live t h ht).2)
  obtain ⟨e, ht'⟩ := live t h ht
  exact hf h l hl (ok.disj t t0 h h0 l l0 e ht' ht0 hl hl0)

theorem FamOK.free {τ : Type} [DecidableEq τ] {tbl : List Int} {H : τ → Option Int} (ok : FamOK tbl H)
    (t0 : τ) (h0 : Int) (ht0 : H t0 = some h0) :
    ∃ tbl', freeSectors tbl h0 = .ok tbl' ∧
      FamOK tbl' (fun t => if t = t0 then none else H t) ∧
      (∀ t h, t ≠ t0 → H t = some h → chain tbl' h = chain tbl h) ∧
      (∀ (j : Nat) (v : Int), tbl[j]? = some v → v ≤ -3 → tbl'[j]? = some v) := by
  obtain ⟨l0, hl0⟩ := ok.valid t0 h0 ht0
  obtain ⟨e1, k⟩ := freeSectors_chain (chain_iff.mp hl0)
  refine ⟨_, e1, ok.remove t0 h0 l0 ht0 hl0 (fun s m => k.chain), ?_, fun j v => k.mark (chain_iff.mp hl0)⟩
  intro t h hne ht
  obtain ⟨l, hl⟩ := ok.valid t h ht
  rw [hl]
  exact k.chain hl (ok.disj t t0 h h0 l l0 hne ht ht0 hl hl0)

theorem FamOK.congr {τ : Type} {tbl : List Int} {H H' : τ → Option Int} (ok : FamOK tbl H) (h : ∀ t, H' t = H t) :
    FamOK tbl H' :=
  ok.frame (fun _ _ _ _ h => h) (fun t x hx => by rw [← h t]; exact hx)

/-- one owner's chain grows at its end by fresh sectors (or comes into being) -/
theorem FamOK.grow {τ : Type} [DecidableEq τ] {tbl tbl' : List Int} {H : τ → Option Int} (ok : FamOK tbl H)
    (t0 : τ) (C E : List Nat) (o' : Option Int)
    (hold : (∃ h0, H t0 = some h0 ∧ chain tbl h0 = some C) ∨ (H t0 = none ∧ C = []))
    (hnew : ∀ h, o' = some h → chain tbl' h = some (C ++ E))
    (hfresh : ∀ x ∈ E, tbl[x]? = some FREE ∨ tbl.length ≤ x)
    (hf : ∀ s l, chain tbl s = some l → (∀ x ∈ l, x ∉ C) → chain tbl' s = some l) :
    FamOK tbl' (fun t => if t = t0 then o' else H t) := by
  have other : ∀ t h, t ≠ t0 → H t = some h →
      ∃ l, chain tbl h = some l ∧ chain tbl' h = some l ∧ ∀ x ∈ l, x ∉ C ++ E := by
    intro t h hne ht
    obtain ⟨l, hl⟩ := ok.valid t h ht
    have hC : ∀ x ∈ l, x ∉ C := by
      rcases hold with ⟨h0, e0, c0⟩ | ⟨_, rfl⟩
      · exact ok.disj t t0 h h0 l C hne ht e0 hl c0
      · exact fun _ _ hx => nomatch hx
    exact ⟨l, hl, hf h l hl hC, fun x hx hm =>
      (List.mem_append.mp hm).elim (hC x hx) fun he => chain_not_fresh hl x hx (hfresh x he)⟩
  refine ⟨fun t h ht => ?_, fun t1 t2 h1 h2 l1 l2 hne e1 e2 c1 c2 x hx1 hx2 => ?_⟩
  · by_cases e : t = t0
    · rw [if_pos e] at ht; exact ⟨_, hnew h ht⟩
    · rw [if_neg e] at ht
      obtain ⟨l, _, hl, _⟩ := other t h e ht
      exact ⟨l, hl⟩
  · by_cases a1 : t1 = t0 <;> by_cases a2 : t2 = t0
    · exact hne (a1.trans a2.symm)
    · rw [if_pos a1] at e1; rw [if_neg a2] at e2
      obtain ⟨l, _, hl, hd⟩ := other t2 h2 a2 e2
      cases hl.symm.trans c2; cases (hnew h1 e1).symm.trans c1
      exact hd x hx2 hx1
    · rw [if_neg a1] at e1; rw [if_pos a2] at e2
      obtain ⟨l, _, hl, hd⟩ := other t1 h1 a1 e1
      cases hl.symm.trans c1; cases (hnew h2 e2).symm.trans c2
      exact hd x hx1 hx2
    · rw [if_neg a1] at e1; rw [if_neg a2] at e2
      obtain ⟨m1, g1, k1, _⟩ := other t1 h1 a1 e1
      obtain ⟨m2, g2, k2, _⟩ := other t2 h2 a2 e2
      cases k1.symm.trans c1; cases k2.symm.trans c2
      exact ok.disj t1 t2 h1 h2 _ _ hne e1 e2 g1 g2 x hx1 hx2

/-- owners of FAT chains -/
inductive Tag where
  | cont | dir | ssat | slot (i : Nat)
  deriving DecidableEq

def satHeads (rs dirStart ssatStart : Int) (cutoff : Nat) (files : List Slot) : Tag → Option Int
  | .cont => if 0 ≤ rs then some rs else none
  | .dir => some dirStart
  | .ssat => some ssatStart
  | .slot i => (files[i]?).bind (bigHeadOf cutoff)

def miniHeads (cutoff : Nat) (files : List Slot) (i : Nat) : Option Int := (files[i]?).bind (miniHeadOf cutoff)

/-- the table half of the invariant: both families of live chains, the marks of the FAT / DIFAT sectors, and every mini
    sector of a live short stream inside the container -/
structure TInv (a : Alloc) (cutoff : Nat) (files : List Slot) (dirStart ssatStart : Int) (marks : List Int) : Prop where
  big : FamOK a.sat (satHeads a.rootStart dirStart ssatStart cutoff files)
  mini : FamOK a.ssat (miniHeads cutoff files)
  marked : ∀ s ∈ marks, 0 ≤ s ∧ ∃ v, a.sat[s.toNat]? = some v ∧ v ≤ -3
  inCont : ∀ i h l, miniHeads cutoff files i = some h → chain a.ssat h = some l →
    ∃ C, Cont a.sat a.rootStart C ∧ ∀ m ∈ l, (m + 1) * a.sss ≤ C.length * a.ss

/-- what an operation on the tables leaves alone: the sector sizes, the head of the container, and for every owner that is
    still live the chain it had -/
structure Frame (a a' : Alloc) (cutoff : Nat) (files files' : List Slot) (ds st : Int) : Prop where
  ss : a'.ss = a.ss
  sss : a'.sss = a.sss
  rs : a'.rootStart = a.rootStart
  big : ∀ t h, satHeads a.rootStart ds st cutoff files' t = some h →
    satHeads a.rootStart ds st cutoff files t = some h ∧ chain a'.sat h = chain a.sat h
  mini : ∀ i h, miniHeads cutoff files' i = some h → miniHeads cutoff files i = some h ∧ chain a'.ssat h = chain a.ssat h

/-- both head functions read slot `i` as `(files[i]?).bind g`; `e` stands for the empty slot -/
theorem bind_set_self_none {α β : Type} {g : α → Option β} {e : α} (he : g e = none) (l : List α) (i : Nat) :
    ((l.set i e)[i]?).bind g = none := by
  by_cases h : i < l.length
  · simp [List.getElem?_set_self h, he]
  · have : (l.set i e)[i]? = none := by simp; omega
    simp [this]

theorem bind_append_replicate_none {α β : Type} {g : α → Option β} {e : α} (he : g e = none) (l : List α) (k i : Nat) :
    ((l ++ List.replicate k e)[i]?).bind g = (l[i]?).bind g := by
  by_cases h : i < l.length
  · rw [List.getElem?_append_left h]
  · rw [List.getElem?_append_right (by omega), List.getElem?_eq_none (l := l) (by omega), List.getElem?_replicate]
    split <;> simp [he]

theorem satHeads_set_ne {rs ds ss : Int} {cutoff : Nat} {files : List Slot} {idx : Nat} {v : Slot} {t : Tag}
    (h : t ≠ Tag.slot idx) : satHeads rs ds ss cutoff (files.set idx v) t = satHeads rs ds ss cutoff files t := by
  cases t with
  | slot j =>
    have : idx ≠ j := fun e => h (by rw [e])
    simp [satHeads, List.getElem?_set_ne this]
  | _ => rfl

theorem miniHeads_set_ne {cutoff : Nat} {files : List Slot} {idx j : Nat} {v : Slot} (h : j ≠ idx) :
    miniHeads cutoff (files.set idx v) j = miniHeads cutoff files j := by
  simp [miniHeads, List.getElem?_set_ne (Ne.symm h)]

theorem satHeads_set {rs ds ss : Int} {cutoff : Nat} {files : List Slot} {idx : Nat} {v : Slot} (h : idx < files.length) :
    satHeads rs ds ss cutoff (files.set idx v) =
      fun t => if t = .slot idx then bigHeadOf cutoff v else satHeads rs ds ss cutoff files t := by
  funext t
  by_cases e : t = .slot idx
  · subst e; simp [satHeads, List.getElem?_set_self h]
  · rw [if_neg e, satHeads_set_ne e]

theorem miniHeads_set {cutoff : Nat} {files : List Slot} {idx : Nat} {v : Slot} (h : idx < files.length) :
    miniHeads cutoff (files.set idx v) = fun i => if i = idx then miniHeadOf cutoff v else miniHeads cutoff files i := by
  funext i
  by_cases e : i = idx
  · subst e; simp [miniHeads, List.getElem?_set_self h]
  · rw [if_neg e, miniHeads_set_ne e]

theorem satHeads_set_empty {rs ds ss : Int} {cutoff : Nat} {files : List Slot} {idx : Nat} :
    satHeads rs ds ss cutoff (files.set idx emptySlot) (.slot idx) = none :=
  bind_set_self_none (by simp [bigHeadOf, emptySlot]) files idx

theorem miniHeads_set_empty {cutoff : Nat} {files : List Slot} {idx : Nat} :
    miniHeads cutoff (files.set idx emptySlot) idx = none :=
  bind_set_self_none (by simp [miniHeadOf, emptySlot]) files idx

theorem satHeads_of_set_empty {rs ds ss : Int} {cutoff : Nat} {files : List Slot} {idx : Nat} {t : Tag} {h : Int}
    (ht : satHeads rs ds ss cutoff (files.set idx emptySlot) t = some h) :
    t ≠ Tag.slot idx ∧ satHeads rs ds ss cutoff files t = some h := by
  by_cases e : t = Tag.slot idx
  · subst e; rw [satHeads_set_empty] at ht; cases ht
  · rw [satHeads_set_ne e] at ht; exact ⟨e, ht⟩

theorem miniHeads_of_set_empty {cutoff : Nat} {files : List Slot} {idx i : Nat} {h : Int}
    (hi : miniHeads cutoff (files.set idx emptySlot) i = some h) : i ≠ idx ∧ miniHeads cutoff files i = some h := by
  by_cases e : i = idx
  · subst e; rw [miniHeads_set_empty] at hi; cases hi
  · rw [miniHeads_set_ne e] at hi; exact ⟨e, hi⟩

theorem satHeads_empty_slot {rs ds ss : Int} {cutoff : Nat} {files : List Slot} {idx : Nat}
    (hempty : ∀ sl, files[idx]? = some sl → sl.typ = 0) : satHeads rs ds ss cutoff files (.slot idx) = none := by
  simp only [satHeads]
  cases hs : files[idx]? with
  | none => rfl
  | some sl => simp [bigHeadOf, hempty sl hs]

theorem miniHeads_empty_slot {cutoff : Nat} {files : List Slot} {idx : Nat}
    (hempty : ∀ sl, files[idx]? = some sl → sl.typ = 0) : miniHeads cutoff files idx = none := by
  simp only [miniHeads]
  cases hs : files[idx]? with
  | none => rfl
  | some sl => simp [miniHeadOf, hempty sl hs]

theorem satHeads_set_none {rs ds ss : Int} {cutoff : Nat} {files : List Slot} {idx : Nat} {v : Slot} (h : idx < files.length)
    (hv : bigHeadOf cutoff v = none) (hempty : ∀ sl, files[idx]? = some sl → sl.typ = 0) :
    satHeads rs ds ss cutoff (files.set idx v) = satHeads rs ds ss cutoff files := by
  rw [satHeads_set h]
  funext t
  by_cases e : t = .slot idx
  · rw [if_pos e, hv, e, satHeads_empty_slot hempty]
  · rw [if_neg e]

theorem miniHeads_set_none {cutoff : Nat} {files : List Slot} {idx : Nat} {v : Slot} (h : idx < files.length)
    (hv : miniHeadOf cutoff v = none) (hempty : ∀ sl, files[idx]? = some sl → sl.typ = 0) :
    miniHeads cutoff (files.set idx v) = miniHeads cutoff files := by
  rw [miniHeads_set h]
  funext i
  by_cases e : i = idx
  · rw [if_pos e, hv, e, miniHeads_empty_slot hempty]
  · rw [if_neg e]

theorem satHeads_append_empty {rs ds ss : Int} {cutoff : Nat} {files : List Slot} {k : Nat} (t : Tag) :
    satHeads rs ds ss cutoff (files ++ List.replicate k emptySlot) t = satHeads rs ds ss cutoff files t := by
  cases t with
  | slot i => exact bind_append_replicate_none (by simp [bigHeadOf, emptySlot]) files k i
  | _ => rfl

theorem miniHeads_append_empty {cutoff : Nat} {files : List Slot} {k : Nat} (i : Nat) :
    miniHeads cutoff (files ++ List.replicate k emptySlot) i = miniHeads cutoff files i :=
  bind_append_replicate_none (by simp [miniHeadOf, emptySlot]) files k i

theorem satHeads_rs {rs rs' ds ss : Int} {cutoff : Nat} {files : List Slot} {t : Tag} (h : t ≠ Tag.cont) :
    satHeads rs ds ss cutoff files t = satHeads rs' ds ss cutoff files t := by
  cases t <;> first | rfl | exact absurd rfl h

theorem bigHeadOf_start {cutoff : Nat} {sl : Slot} {h : Int} (hh : bigHeadOf cutoff sl = some h) : h = sl.start := by
  simp only [bigHeadOf] at hh
  split at hh <;> cases hh
  rfl

theorem miniHeadOf_start {cutoff : Nat} {sl : Slot} {h : Int} (hh : miniHeadOf cutoff sl = some h) : h = sl.start := by
  simp only [miniHeadOf] at hh
  split at hh <;> cases hh
  rfl

theorem Frame.refl (a : Alloc) (cutoff : Nat) (files : List Slot) (ds ss : Int) : Frame a a cutoff files files ds ss :=
  ⟨rfl, rfl, rfl, fun _ _ h => ⟨h, rfl⟩, fun _ _ h => ⟨h, rfl⟩⟩

theorem Frame.trans {a a1 a2 : Alloc} {cutoff : Nat} {files files1 files2 : List Slot} {ds ss : Int}
    (f1 : Frame a a1 cutoff files files1 ds ss) (f2 : Frame a1 a2 cutoff files1 files2 ds ss) :
    Frame a a2 cutoff files files2 ds ss := by
  refine ⟨f2.ss.trans f1.ss, f2.sss.trans f1.sss, f2.rs.trans f1.rs, ?_, ?_⟩
  · intro t h hh
    obtain ⟨p1, p2⟩ := f2.big t h (f1.rs ▸ hh)
    obtain ⟨q1, q2⟩ := f1.big t h (f1.rs ▸ p1)
    exact ⟨q1, p2.trans q2⟩
  · intro i h hh
    obtain ⟨p1, p2⟩ := f2.mini i h hh
    obtain ⟨q1, q2⟩ := f1.mini i h p1
    exact ⟨q1, p2.trans q2⟩

/-- the container is one of the owners -/
theorem Frame.cont {a a' : Alloc} {cutoff : Nat} {files files' : List Slot} {ds ss : Int}
    (fr : Frame a a' cutoff files files' ds ss) {C : List Nat} (hC : Cont a.sat a.rootStart C) :
    Cont a'.sat a'.rootStart C := by
  rw [fr.rs]
  rcases hC with hC | ⟨hp, hC⟩
  · exact .inl hC
  · have hh : satHeads a.rootStart ds ss cutoff files' .cont = some a.rootStart := by simp [satHeads, hp]
    exact .inr ⟨hp, chain_iff.mp ((fr.big _ _ hh).2 ▸ chain_iff.mpr hC)⟩

theorem TInv.frame {a a' : Alloc} {cutoff : Nat} {files files' : List Slot} {ds ss : Int} {marks : List Int}
    (inv : TInv a cutoff files ds ss marks) (fr : Frame a a' cutoff files files' ds ss)
    (hmk : ∀ (j : Nat) (v : Int), a.sat[j]? = some v → v ≤ -3 → a'.sat[j]? = some v) :
    TInv a' cutoff files' ds ss marks := by
  refine ⟨?_, inv.mini.frame (fun i h l hi hl => (fr.mini i h hi).2 ▸ hl) (fun i h hi => (fr.mini i h hi).1), ?_, ?_⟩
  · rw [fr.rs]
    exact inv.big.frame (fun t h l ht hl => (fr.big t h ht).2 ▸ hl) (fun t h ht => (fr.big t h ht).1)
  · intro s hs
    obtain ⟨h1, v, hv, hv'⟩ := inv.marked s hs
    exact ⟨h1, v, hmk _ v hv hv', hv'⟩
  · intro i h l hi hl
    obtain ⟨p1, p2⟩ := fr.mini i h hi
    obtain ⟨C, hC, hb⟩ := inv.inCont i h l p1 (p2 ▸ hl)
    exact ⟨C, fr.cont hC, by rw [fr.ss, fr.sss]; exact hb⟩

theorem TInv.cont {a : Alloc} {cutoff : Nat} {files : List Slot} {ds ss : Int} {marks : List Int}
    (inv : TInv a cutoff files ds ss marks) : ∃ C, Cont a.sat a.rootStart C := by
  by_cases h : 0 ≤ a.rootStart
  · obtain ⟨l, hl⟩ := inv.big.valid .cont a.rootStart (by simp [satHeads, h])
    exact ⟨l, Or.inr ⟨h, chain_iff.mp hl⟩⟩
  · exact ⟨[], Or.inl ⟨by omega, rfl⟩⟩

theorem Cont.unique {sat : List Int} {rs : Int} {C C' : List Nat} (h : Cont sat rs C) (h' : Cont sat rs C') : C = C' := by
  rcases h with ⟨h1, rfl⟩ | ⟨h1, h2⟩
  · rcases h' with ⟨_, rfl⟩ | ⟨h3, _⟩
    · rfl
    · omega
  · rcases h' with ⟨h3, _⟩ | ⟨_, h4⟩
    · omega
    · exact IsChain.functional h2 h4

theorem TInv.extend {a : Alloc} {cutoff : Nat} {files : List Slot} {ds ss : Int} {marks : List Int}
    (inv : TInv a cutoff files ds ss marks) (k : Nat) : TInv a cutoff (files ++ List.replicate k emptySlot) ds ss marks :=
  ⟨inv.big.congr satHeads_append_empty, inv.mini.congr miniHeads_append_empty, inv.marked,
   fun i h l hi hl => inv.inCont i h l (by rwa [miniHeads_append_empty] at hi) hl⟩

/-- one matching entry of `DeleteFile`: its chain is freed and the slot blanked -/
theorem delete_slot {a : Alloc} {cutoff : Nat} {files : List Slot} {ds ss : Int} {marks : List Int} {idx : Nat} {it : Slot}
    (inv : TInv a cutoff files ds ss marks) (hit : files[idx]? = some it) (htyp : it.typ = 2) :
    ∃ a', (if it.size = 0 then Res.ok a
           else if it.size < cutoff then rmap (fun t => { a with ssat := t }) (freeSectors a.ssat it.start)
           else rmap (fun t => { a with sat := t }) (freeSectors a.sat it.start)) = .ok a' ∧
      TInv a' cutoff (files.set idx emptySlot) ds ss marks ∧ Frame a a' cutoff files (files.set idx emptySlot) ds ss := by
  by_cases h0 : it.size = 0
  · -- an empty stream owns nothing
    have fr : Frame a a cutoff files (files.set idx emptySlot) ds ss :=
      ⟨rfl, rfl, rfl, fun _ _ ht => ⟨(satHeads_of_set_empty ht).2, rfl⟩,
        fun _ _ hi => ⟨(miniHeads_of_set_empty hi).2, rfl⟩⟩
    exact ⟨a, by simp [h0], inv.frame fr (fun _ _ h _ => h), fr⟩
  · by_cases hs : it.size < cutoff
    · have hm : miniHeads cutoff files idx = some it.start := by
        simp [miniHeads, hit, miniHeadOf, htyp, h0, hs]
      obtain ⟨ssat', e1, _, keep, _⟩ := inv.mini.free idx it.start hm
      have fr : Frame a { a with ssat := ssat' } cutoff files (files.set idx emptySlot) ds ss :=
        ⟨rfl, rfl, rfl, fun _ _ ht => ⟨(satHeads_of_set_empty ht).2, rfl⟩,
          fun i h hi =>
            ⟨(miniHeads_of_set_empty hi).2, keep i h (miniHeads_of_set_empty hi).1 (miniHeads_of_set_empty hi).2⟩⟩
      exact ⟨_, by simp [h0, hs, e1, rmap], inv.frame fr (fun _ _ h _ => h), fr⟩
    · have hb : satHeads a.rootStart ds ss cutoff files (.slot idx) = some it.start := by
        simp [satHeads, hit, bigHeadOf, htyp, h0]; omega
      obtain ⟨sat', e1, _, keep, kmark⟩ := inv.big.free (.slot idx) it.start hb
      have fr : Frame a { a with sat := sat' } cutoff files (files.set idx emptySlot) ds ss :=
        ⟨rfl, rfl, rfl,
          fun t h ht => ⟨(satHeads_of_set_empty ht).2, keep t h (satHeads_of_set_empty ht).1 (satHeads_of_set_empty ht).2⟩,
          fun _ _ hi => ⟨(miniHeads_of_set_empty hi).2, rfl⟩⟩
      exact ⟨_, by simp [h0, hs, e1, rmap], inv.frame fr kmark, fr⟩

theorem deleteLoop_spec (key cutoff : Nat) (ds ss : Int) (marks : List Int) (rf keep : List Nat) (a : Alloc)
    (files : List Slot) (ch : Bool) (rf' : List Nat) (a' : Alloc) (files' : List Slot) (ch' : Bool)
    (inv : TInv a cutoff files ds ss marks)
    (h : deleteLoop key cutoff rf keep a files ch = .ok (rf', a', files', ch')) :
    TInv a' cutoff files' ds ss marks ∧ Frame a a' cutoff files files' ds ss ∧
    files'.length = files.length ∧
    (∀ (i : Nat) (sl : Slot), files[i]? = some sl → ¬ (i ∈ rf ∧ sl.key = key) → files'[i]? = some sl) ∧
    (∀ j ∈ rf', j ∈ keep ∨ j ∈ rf) := by
  revert inv h
  fun_induction deleteLoop key cutoff rf keep a files ch
  case case1 keep a files ch =>
    rintro inv ⟨⟩
    exact ⟨inv, Frame.refl _ _ _ _ _, rfl, fun _ _ h _ => h, fun j hj => Or.inl (by simpa using hj)⟩
  case case3 idx rest keep a files ch it hit _ ih =>
    intro inv h
    obtain ⟨r1, r2, r3, r4, r6⟩ := ih inv h
    refine ⟨r1, r2, r3, fun i sl hi hn => r4 i sl hi fun ⟨h1, h2⟩ => hn ⟨List.mem_cons_of_mem _ h1, h2⟩, ?_⟩
    intro j hj
    rcases r6 j hj with h1 | h1
    · rcases List.mem_cons.mp h1 with rfl | h1
      · exact Or.inr List.mem_cons_self
      · exact Or.inl h1
    · exact Or.inr (List.mem_cons_of_mem _ h1)
  case case5 idx rest keep a files _ it hit hk htyp _ a1 e1 ih =>
    intro inv h
    obtain ⟨a1', e1', inv1, fr1⟩ := delete_slot inv hit (by simpa using htyp)
    cases e1'.symm.trans e1
    obtain ⟨r1, r2, r3, r4, r6⟩ := ih inv1 h
    refine ⟨r1, fr1.trans r2, by rw [r3]; simp, fun i sl hi hn => ?_, fun j hj => (r6 j hj).imp id (List.mem_cons_of_mem _)⟩
    have hne : i ≠ idx := by
      intro e; subst e
      rw [hit] at hi; cases hi
      exact hn ⟨List.mem_cons_self, by simpa using hk⟩
    exact r4 i sl (by rw [List.getElem?_set_ne (Ne.symm hne)]; exact hi)
      fun ⟨h1, h2⟩ => hn ⟨List.mem_cons_of_mem _ h1, h2⟩
  all_goals nofun

/-- the streams whose slot is the same before and after read back the same bytes -/
structure DataKept (a : Alloc) (f : File) (a' : Alloc) (f' : File) (cutoff : Nat) (files files' : List Slot) : Prop where
  big : ∀ (i : Nat) (sl : Slot) (h : Int) (l : List Nat), files[i]? = some sl → files'[i]? = some sl →
      bigHeadOf cutoff sl = some h → chain a.sat h = some l →
      chain a'.sat h = some l ∧ readChain f' l = readChain f l
  mini : ∀ (i : Nat) (sl : Slot) (h : Int) (l C : List Nat), files[i]? = some sl → files'[i]? = some sl →
      miniHeadOf cutoff sl = some h → chain a.ssat h = some l → Cont a.sat a.rootStart C →
      (∀ m ∈ l, (m + 1) * a.sss ≤ C.length * a.ss) →
      chain a'.ssat h = some l ∧ ∃ C', Cont a'.sat a'.rootStart C' ∧
        ∀ m ∈ l, miniSec a.sss (readChain f' C') m = miniSec a.sss (readChain f C) m

theorem contChain_iff {a : Alloc} {C : List Nat} : contChain a = some C ↔ Cont a.sat a.rootStart C := by
  unfold contChain Cont
  by_cases h : a.rootStart < 0
  · simp only [h, if_true, Option.some.injEq]
    constructor
    · intro e; exact Or.inl ⟨trivial, e.symm⟩
    · rintro (⟨_, e⟩ | ⟨h', _⟩)
      · exact e.symm
      · omega
  · simp only [h, if_false]
    constructor
    · intro e; exact Or.inr ⟨by omega, chain_iff.mp e⟩
    · rintro (⟨h', _⟩ | ⟨_, e⟩)
      · exact absurd h' (by simp)
      · exact chain_iff.mpr e

/-- the bytes a slot record reads back as, from tables and file: size 0 ↦ empty, ≥ cutoff through the FAT chain, else through
    the mini-FAT chain inside the container; `slotData b i` is this on slot `i` of a state (`slotData_eq`) -/
def slotRead (a : Alloc) (cutoff : Nat) (f : File) (sl : Slot) : Option Bytes :=
  if sl.size = 0 then some []
  else if cutoff ≤ sl.size then (chain a.sat sl.start).map fun l => (readChain f l).take sl.size
  else (contChain a).bind fun C => (chain a.ssat sl.start).map fun l => (miniData a.sss (readChain f C) l).take sl.size

/-- what adding a stream of contents `c` as record `v` in the empty slot `idx` establishes -/
structure AddOK (a : Alloc) (f : File) (a' : Alloc) (f' : File) (cutoff : Nat) (files : List Slot) (idx : Nat) (v : Slot)
    (c : Bytes) (ds st : Int) (marks : List Int) : Prop where
  tinv : TInv a' cutoff (files.set idx v) ds st marks
  kept : DataKept a f a' f' cutoff files (files.set idx v)
  ss : a'.ss = a.ss
  sss : a'.sss = a.sss
  wf : WF f'
  fss : f'.ss = f.ss
  read : slotRead a' cutoff f' v = some c

theorem add_big_tinv {a : Alloc} {cutoff : Nat} {files : List Slot} {ds ss : Int} {marks : List Int}
    (inv : TInv a cutoff files ds ss marks) {c : Bytes} {f : File} {first : Int} {a' : Alloc} {f' : File}
    (hfs : f.ss = a.ss) (hwf : WF f) (h : addStreamB a c false f = .ok (first, a', f'))
    {idx key : Nat} (hidx : idx < files.length) (hempty : ∀ sl, files[idx]? = some sl → sl.typ = 0)
    (hbig : cutoff ≤ c.length) : AddOK a f a' f' cutoff files idx ⟨2, key, first, c.length⟩ c ds ss marks := by
  obtain ⟨proj, fl, sat1, hm, hch, hrd, hlen, same⟩ := addStreamB_big hfs h
  obtain ⟨hb, ha'⟩ := addStream_big a c.length first a' proj
  obtain ⟨fr1, fr2⟩ := addStream_frame a.ss a.sat c.length first a'.sat hb
  have fresh := (makeFree_spec hm).wasFree
  have hssat : a'.ssat = a.ssat := by rw [ha']
  have notfl : ∀ s l, chain a.sat s = some l → ∀ x ∈ l, x ∉ fl :=
    fun s l hl x hx hmem => chain_not_fresh hl x hx (fresh x hmem)
  -- every owner keeps its chain; the new record is too long for a mini-FAT chain
  have fr : Frame a a' cutoff files files ds ss :=
    ⟨by rw [ha'], by rw [ha'], by rw [ha'],
      fun t h ht => ⟨ht, by obtain ⟨l, hl⟩ := inv.big.valid t h ht; rw [hl, fr1 h l hl]⟩,
      fun _ _ hi => ⟨hi, by rw [hssat]⟩⟩
  have t := inv.frame fr (fun j v hv hv' => fr2 j v hv (by omega))
  have hmini := miniHeads_set_none (cutoff := cutoff) (v := ⟨2, key, first, c.length⟩) hidx
    (if_neg fun h => Nat.not_lt.mpr hbig h.2.2) hempty
  refine ⟨⟨?_, hmini ▸ t.mini, t.marked, hmini ▸ t.inCont⟩, ⟨?_, ?_⟩, fr.ss, fr.sss, same.wf hwf, same.ss, ?_⟩
  · -- FAT family: the new chain (an empty one when there are no contents: then the slot lists no head)
    rw [fr.rs, satHeads_set hidx]
    exact inv.big.grow (.slot idx) [] fl _ (.inr ⟨satHeads_empty_slot hempty, rfl⟩)
      (fun h hh => by rw [bigHeadOf_start hh]; exact hch) fresh (fun s l hl _ => fr1 s l hl)
  · intro i sl h l _ _ _ hl
    exact ⟨fr1 h l hl, same.readChain (notfl h l hl)⟩
  · intro i sl h l C _ _ _ hl hC _
    refine ⟨by rw [hssat]; exact hl, C, fr.cont hC, fun m _ => ?_⟩
    rw [same.readChain fun x hx => ?_]
    rcases hC with ⟨_, rfl⟩ | ⟨_, hC⟩
    · cases hx
    · exact notfl _ _ (chain_iff.mpr hC) x hx
  · unfold slotRead
    by_cases h0 : c.length = 0
    · rw [if_pos h0, List.length_eq_zero_iff.mp h0]
    · simp [h0, hbig, hch, hrd, take_pad hlen]

theorem add_short_tinv {a : Alloc} {cutoff : Nat} {files : List Slot} {ds ss : Int} {marks : List Int}
    (inv : TInv a cutoff files ds ss marks) {c : Bytes} {f : File} {first : Int} {a' : Alloc} {f' : File} {q : Nat}
    (hq : a.ss = q * a.sss) (hs : 0 < a.sss) (hfs : f.ss = a.ss) (hwf : WF f)
    (h : addStreamB a c true f = .ok (first, a', f'))
    {idx key : Nat} (hidx : idx < files.length) (hempty : ∀ sl, files[idx]? = some sl → sl.typ = 0)
    (hshort : c.length < cutoff) : AddOK a f a' f' cutoff files idx ⟨2, key, first, c.length⟩ c ds ss marks := by
  obtain ⟨C, hC⟩ := inv.cont
  obtain ⟨proj, fl, E, hch, g, same, bd, fresh, ms, md, hlen⟩ := addStreamB_short hq hs hfs hwf hC h
  obtain ⟨_, mfr, _, ess, esss⟩ := addStream_short_ssat a c.length first a' proj
  have hbigH := satHeads_set_none (rs := a'.rootStart) (ds := ds) (ss := ss) (cutoff := cutoff)
    (v := ⟨2, key, first, c.length⟩) hidx (if_neg fun h => Nat.not_le.mpr hshort h.2.2) hempty
  have away : ∀ t h l, t ≠ Tag.cont → satHeads a.rootStart ds ss cutoff files t = some h → chain a.sat h = some l →
      ∀ x ∈ l, x ∉ C ++ E := by
    intro t h l hne ht hl x hx hmem
    rcases List.mem_append.mp hmem with hc | he
    · rcases hC with ⟨_, rfl⟩ | ⟨hp, hC⟩
      · cases hc
      · exact inv.big.disj t .cont h a.rootStart l C hne ht (by simp [satHeads, hp]) hl (chain_iff.mpr hC) x hx hc
    · exact chain_not_fresh hl x hx (g.fresh x he)
  have hlenC : (readChain f C).length = C.length * a.ss := by rw [readChain_length hwf, hfs]
  have oldmini : ∀ l s, chain a.ssat s = some l → (∀ m ∈ l, (m + 1) * a.sss ≤ C.length * a.ss) →
      ∀ m ∈ l, miniSec a.sss (readChain f' (C ++ E)) m = miniSec a.sss (readChain f C) m := by
    intro l s hl hb m hm
    rw [ms m (fun hmem => chain_not_fresh hl m hm (fresh m hmem)), readChain_append,
      miniSec_append_left (by rw [hlenC]; exact hb m hm)]
  refine ⟨⟨?_, ?_, fun s hs' => ?_, ?_⟩, ⟨?_, ?_⟩, ess, esss, same.wf hwf, same.ss, ?_⟩
  · -- FAT family: the container grows; the new record lists no FAT chain
    rw [hbigH]
    refine (inv.big.grow .cont C E (if 0 ≤ a'.rootStart then some a'.rootStart else none) ?_ ?_ g.fresh
      (fun s l => g.keeps.chain)).congr fun t => ?_
    · rcases hC with ⟨hn, rfl⟩ | ⟨hp, hC⟩
      · exact Or.inr ⟨by simp [satHeads]; omega, rfl⟩
      · exact Or.inl ⟨a.rootStart, by simp [satHeads, hp], chain_iff.mpr hC⟩
    · intro h hh
      split at hh <;> cases hh
      rcases g.cont with ⟨hn, _⟩ | ⟨_, hc⟩
      · omega
      · exact chain_iff.mpr hc
    · by_cases e : t = .cont
      · subst e; simp [satHeads]
      · rw [if_neg e]; exact satHeads_rs e
  · rw [miniHeads_set hidx]
    exact inv.mini.grow idx [] fl _ (.inr ⟨miniHeads_empty_slot hempty, rfl⟩)
      (fun h hh => by rw [miniHeadOf_start hh]; exact hch) fresh (fun s l hl _ => mfr s l hl)
  · obtain ⟨h1, v, hv, hv'⟩ := inv.marked s hs'
    exact ⟨h1, v, g.keeps.mark_cont hC hv hv', hv'⟩
  · intro i h l hi hl
    refine ⟨C ++ E, g.cont, ?_⟩
    rw [ess, esss]
    simp only [miniHeads_set hidx] at hi
    split at hi
    · rw [miniHeadOf_start hi, hch] at hl
      cases hl; exact bd
    · obtain ⟨l0, hl0⟩ := inv.mini.valid i h hi
      cases (mfr h l0 hl0).symm.trans hl
      obtain ⟨C0, hC0, hb0⟩ := inv.inCont i h l hi hl0
      cases Cont.unique hC hC0
      intro m hm
      have := hb0 m hm
      have hle : C.length * a.ss ≤ (C ++ E).length * a.ss := Nat.mul_le_mul_right _ (by simp)
      omega
  · intro i sl h l hi _ hh hl
    have ht : satHeads a.rootStart ds ss cutoff files (.slot i) = some h := by simp [satHeads, hi, hh]
    have hne : Tag.slot i ≠ Tag.cont := by intro e; cases e
    exact ⟨g.keeps.chain hl (fun x hx hc => away _ h l hne ht hl x hx (List.mem_append_left _ hc)),
      same.readChain (away _ h l hne ht hl)⟩
  · intro i sl h l C0 _ _ _ hl hC0 hb0
    cases Cont.unique hC hC0
    exact ⟨mfr h l hl, C ++ E, g.cont, oldmini l h hl hb0⟩
  · unfold slotRead
    by_cases h0 : c.length = 0
    · rw [if_pos h0, List.length_eq_zero_iff.mp h0]
    · have hb : ¬ cutoff ≤ c.length := by omega
      simp only [h0, hb, if_false]
      rw [contChain_iff.mpr g.cont]
      simp [hch, esss, md, take_pad hlen]

/-- the invariant of a state with its file: the table half `t`, with the FAT and DIFAT sector lists as the marked
    sectors, and the file half.  `div`: a sector holds a whole number of mini sectors, so a mini sector lies inside one
    sector of the container (`miniPos`).  `ssBig`: `openFile` puts sector 0 at offset `max 512 SectorSize`; with
    `512 ≤ ss` the bytes before sector 0 are one sector long (`WF.pre`) and hold the 512 header bytes `Close` rewrites.
    `lens`: the raw directory entries `ents` and the slot records `files` are indexed alike.  Nothing is said of
    `rootFiles` (in range, without repetition), and `invB` does not check it: the theorems take `… = .ok …` as a
    hypothesis, and that `AddFile` / `DeleteFile` do not panic (`Files[index]`) does not follow from `Inv`. -/
structure Inv (b : BSt) : Prop where
  t : TInv b.st.a b.st.cutoff b.st.files b.st.dirStart b.st.ssatStart (b.st.msat ++ b.st.msatList)
  wf : WF b.file
  fss : b.file.ss = b.st.a.ss
  div : ∃ q, b.st.a.ss = q * b.st.a.sss
  sssPos : 0 < b.st.a.sss
  lens : b.ents.length = b.st.files.length
  nodup : (b.st.msat ++ b.st.msatList).Nodup
  ssBig : 512 ≤ b.st.a.ss

/-- the bytes of the stream in slot `i`, read as a reader does: through its FAT chain when it has at least `cutoff`
    bytes, through its mini-FAT chain inside the mini-stream container otherwise; cut to the size in the slot -/
def slotData (b : BSt) (i : Nat) : Option Bytes :=
  (b.st.files[i]?).bind fun sl =>
    if sl.size = 0 then some []
    else if b.st.cutoff ≤ sl.size then
      (chain b.st.a.sat sl.start).map fun l => (readChain b.file l).take sl.size
    else
      (contChain b.st.a).bind fun C => (chain b.st.a.ssat sl.start).map fun l =>
        (miniData b.st.a.sss (readChain b.file C) l).take sl.size

theorem slotData_eq (b : BSt) (i : Nat) :
    slotData b i = (b.st.files[i]?).bind (slotRead b.st.a b.st.cutoff b.file) := rfl

theorem DataKept.mono {a a' : Alloc} {f f' : File} {cutoff : Nat} {files filesX files' : List Slot}
    (dk : DataKept a f a' f' cutoff filesX files')
    (sub : ∀ (i : Nat) (sl : Slot), files[i]? = some sl → filesX[i]? = some sl) :
    DataKept a f a' f' cutoff files files' :=
  ⟨fun i sl h l hi => dk.big i sl h l (sub i sl hi), fun i sl h l C hi => dk.mini i sl h l C (sub i sl hi)⟩

theorem DataKept.reads {b b' : BSt} (inv : Inv b)
    (dk : DataKept b.st.a b.file b'.st.a b'.file b.st.cutoff b.st.files b'.st.files)
    (hc : b'.st.cutoff = b.st.cutoff) (hs : b'.st.a.sss = b.st.a.sss) {i : Nat} {sl : Slot}
    (h1 : b.st.files[i]? = some sl) (h2 : b'.st.files[i]? = some sl) (htyp : sl.typ = 2) : slotData b' i = slotData b i := by
  unfold slotData
  simp only [h1, h2, Option.bind_some, hc, hs]
  by_cases h0 : sl.size = 0
  · simp [h0]
  · simp only [h0, if_false]
    by_cases hb : b.st.cutoff ≤ sl.size
    · simp only [hb, if_true]
      have hh : bigHeadOf b.st.cutoff sl = some sl.start := by simp [bigHeadOf, htyp, h0, hb]
      obtain ⟨l, hl⟩ := inv.t.big.valid (.slot i) sl.start (by simp [satHeads, h1, hh])
      obtain ⟨e2, e3⟩ := dk.big i sl _ l h1 h2 hh hl
      simp [hl, e2, e3]
    · simp only [hb, if_false]
      have hh : miniHeadOf b.st.cutoff sl = some sl.start := by simp [miniHeadOf, htyp, h0]; omega
      have ht : miniHeads b.st.cutoff b.st.files i = some sl.start := by simp [miniHeads, h1, hh]
      obtain ⟨l, hl⟩ := inv.t.mini.valid _ _ ht
      obtain ⟨C, hC, hbd⟩ := inv.t.inCont i _ l ht hl
      obtain ⟨e2, C', e4, e5⟩ := dk.mini i sl _ l C h1 h2 hh hl hC hbd
      rw [contChain_iff.mpr hC, contChain_iff.mpr e4]
      simp only [Option.bind_some, hl, e2, Option.map_some]
      rw [miniData_congr e5]

theorem firstEmpty_spec : ∀ (l : List Slot) (k i : Nat), firstEmpty l k = some i →
    k ≤ i ∧ ∃ sl, l[i - k]? = some sl ∧ sl.typ = 0 := by
  intro l
  induction l with
  | nil => intro k i h; simp [firstEmpty] at h
  | cons s rest ih =>
    intro k i h
    simp only [firstEmpty] at h
    split at h
    · rename_i ht
      cases h
      exact ⟨Nat.le_refl _, s, by simp, ht⟩
    · obtain ⟨h1, sl, h2, h3⟩ := ih (k + 1) i h
      refine ⟨by omega, sl, ?_, h3⟩
      have : i - k = (i - (k + 1)) + 1 := by omega
      rw [this, List.getElem?_cons_succ]; exact h2

/-- `firstEmpty` finds none only when no slot of the list is empty -/
theorem firstEmpty_none : ∀ (l : List Slot) (k : Nat), firstEmpty l k = none → ∀ sl ∈ l, sl.typ ≠ 0 := by
  intro l
  induction l with
  | nil => intro k _ sl h; cases h
  | cons s rest ih =>
    intro k h sl hm
    simp only [firstEmpty] at h
    split at h
    · cases h
    · rename_i ht
      rcases List.mem_cons.mp hm with rfl | hm
      · exact ht
      · exact ih (k + 1) h sl hm

theorem Frame.dataKept {a a' : Alloc} {cutoff : Nat} {files files' : List Slot} {ds ss : Int}
    (fr : Frame a a' cutoff files files' ds ss) (f : File) : DataKept a f a' f cutoff files files' where
  big i sl h l _ hi' hh hl := ⟨(fr.big (.slot i) h (by simp [satHeads, hi', hh])).2 ▸ hl, rfl⟩
  mini i sl h l C _ hi' hh hl hC _ := ⟨(fr.mini i h (by simp [miniHeads, hi', hh])).2 ▸ hl, C, fr.cont hC, fun _ _ => rfl⟩

/-- every slot in use that is not a root-level entry with the name `key`: its record, its raw directory entry and the
    bytes it reads back as are the same afterwards, and it has not become a root-level entry -/
def Untouched (b b' : BSt) (key : Nat) : Prop :=
  ∀ (i : Nat) (sl : Slot), b.st.files[i]? = some sl → sl.typ ≠ 0 → ¬ (i ∈ b.st.rootFiles ∧ sl.key = key) →
    b'.st.files[i]? = some sl ∧ b'.ents[i]? = b.ents[i]? ∧ (sl.typ = 2 → slotData b' i = slotData b i) ∧
    (i ∈ b'.st.rootFiles → i ∈ b.st.rootFiles)

theorem deleteFileB_step {b b' : BSt} {key : Nat} (inv : Inv b) (h : deleteFileB b key = .ok b') :
    Inv b' ∧ Untouched b b' key := by
  obtain ⟨st', ents', file'⟩ := b'
  obtain ⟨hd, rfl, rfl⟩ := deleteFileB_proj h
  unfold deleteFile at hd
  split at hd
  · rename_i rf a files ch hl
    cases hd
    obtain ⟨t1, fr, len, k1, k3⟩ :=
      deleteLoop_spec key b.st.cutoff b.st.dirStart b.st.ssatStart _ _ _ _ _ _ _ _ _ _ inv.t hl
    refine ⟨⟨t1, inv.wf, inv.fss.trans fr.ss.symm, by rw [fr.ss, fr.sss]; exact inv.div, fr.sss ▸ inv.sssPos,
      inv.lens.trans len.symm, inv.nodup, fr.ss ▸ inv.ssBig⟩, fun i sl hi _ hn => ?_⟩
    exact ⟨k1 i sl hi hn, rfl,
      (fr.dataKept b.file).reads (b' := ⟨{ b.st with rootFiles := rf, a := a, files := files, changed := ch }, _, _⟩)
        inv rfl fr.sss hi (k1 i sl hi hn),
      fun hm => (k3 i hm).elim (fun h => by simp at h) id⟩
  all_goals cases hd

def AddGoal (b b' : BSt) (units : List Nat) (c : Bytes) : Prop :=
  Inv b' ∧
  Untouched b b' (nameKey units) ∧
  ∃ j first, b'.st.files[j]? = some ⟨2, nameKey units, first, c.length⟩ ∧ b'.ents[j]? = some (newEntry units) ∧
    slotData b' j = some c ∧ j ∈ b'.st.rootFiles

theorem addFileB_step {b b' : BSt} {units : List Nat} {c : Bytes} (inv : Inv b) (hlen : c.length < 4294967296)
    (h : addFileB b units c = .ok b') : AddGoal b b' units c := by
  revert h
  fun_cases addFileB b units c
  case case2 key st1 hd frst a' f' ha _ slot index files ents hfe hi =>
    rintro ⟨⟩
    simp only [slot, key, Nat.mod_eq_of_lt hlen]
    -- `AddFile` deletes first: `{ b with st := st1 }` is the state in between
    obtain ⟨inv1, keep1⟩ := deleteFileB_step (b' := { b with st := st1 }) (key := key) inv (by simp [deleteFileB, hd])
    obtain ⟨q, hq⟩ := inv1.div
    -- the common tail: the slot `index` of the (possibly extended) directory receives the new entry
    have tail : ∀ (filesX : List Slot) (entsX : List DirEntry) (index : Nat),
        TInv st1.a st1.cutoff filesX st1.dirStart st1.ssatStart (st1.msat ++ st1.msatList) →
        (∀ (i : Nat) (sl : Slot), st1.files[i]? = some sl → filesX[i]? = some sl) →
        index < filesX.length → (∀ sl, filesX[index]? = some sl → sl.typ = 0) →
        entsX.length = filesX.length → (∀ i, i < b.ents.length → entsX[i]? = b.ents[i]?) →
        AddGoal b { st := { st1 with a := a', files := filesX.set index ⟨2, nameKey units, frst, c.length⟩,
                                     rootFiles := st1.rootFiles ++ [index], changed := true }
                    ents := entsX.set index (newEntry units), file := f' } units c := by
      intro filesX entsX index tX sub hidx hempty hel hes
      have ok : AddOK st1.a b.file a' f' st1.cutoff filesX index ⟨2, nameKey units, frst, c.length⟩ c st1.dirStart
          st1.ssatStart (st1.msat ++ st1.msatList) := by
        by_cases hsh : c.length < st1.cutoff
        · simp only [hsh, decide_true] at ha
          exact add_short_tinv tX hq inv1.sssPos inv1.fss inv1.wf ha hidx hempty hsh
        · simp only [hsh, decide_false] at ha
          exact add_big_tinv tX inv1.fss inv1.wf ha hidx hempty (by omega)
      obtain ⟨T', DK, ess, esss, wf', fss', newd⟩ := ok
      refine ⟨⟨T', wf', (fss'.trans inv1.fss).trans ess.symm, ⟨q, by rw [ess, esss]; exact hq⟩, esss ▸ inv1.sssPos,
        by simp [hel], inv1.nodup, ess ▸ inv1.ssBig⟩, ?_, index, frst, ?_, ?_, ?_, by simp⟩
      · -- the other streams: through the deletion, then through the addition
        intro i sl hi hty hn
        obtain ⟨h1, _, d1, r1⟩ := keep1 i sl hi hty hn
        have hX := sub i sl h1
        have hne : i ≠ index := fun e => hty (hempty sl (e ▸ hX))
        have hX' : (filesX.set index ⟨2, nameKey units, frst, c.length⟩)[i]? = some sl := by
          rw [List.getElem?_set_ne (Ne.symm hne)]; exact hX
        have hib : i < b.ents.length := by rw [inv.lens]; exact (List.getElem?_eq_some_iff.mp hi).1
        refine ⟨hX', by rw [List.getElem?_set_ne (Ne.symm hne)]; exact hes i hib, fun htyp => ?_, fun hm => ?_⟩
        · rw [← d1 htyp]
          exact DataKept.reads (b := { b with st := st1 }) inv1 (DK.mono sub) (by rfl) esss h1 hX' htyp
        · rcases List.mem_append.mp hm with hm | hm
          · exact r1 hm
          · simp at hm; exact absurd hm hne
      · simp [List.getElem?_set_self hidx]
      · simp [List.getElem?_set_self (show index < entsX.length by omega)]
      · rw [slotData_eq, List.getElem?_set_self hidx]
        exact newd
    cases hfe' : firstEmpty st1.files 0 with
    | some i =>
      simp only [hfe', Prod.mk.injEq] at hfe
      obtain ⟨rfl, rfl, rfl⟩ := hfe
      obtain ⟨_, sl0, hs0, hs1⟩ := firstEmpty_spec _ _ _ hfe'
      simp only [Nat.sub_zero] at hs0
      exact tail st1.files b.ents i inv1.t (fun _ _ h => h) hi (fun sl hsl => by rw [hs0] at hsl; cases hsl; exact hs1)
        inv1.lens (fun _ _ => rfl)
    | none =>
      simp only [hfe', Prod.mk.injEq] at hfe
      obtain ⟨rfl, rfl, rfl⟩ := hfe
      refine tail _ _ st1.files.length (inv1.t.extend _) (fun i sl hs => ?_) hi ?_ (by simp [inv1.lens]) ?_
      · rw [List.getElem?_append_left (List.getElem?_eq_some_iff.mp hs).1]; exact hs
      · intro sl hsl
        rw [List.getElem?_append_right (Nat.le_refl _)] at hsl
        simp only [Nat.sub_self, List.getElem?_replicate] at hsl
        split at hsl
        · cases hsl; rfl
        · cases hsl
      · intro i hi'
        rw [List.getElem?_append_left hi']
  all_goals nofun

/-- `nameKey [] = 0`, and `0` is also the key of a slot without a name (`Slot.key`: "0 = none", `emptySlot`): what is said
    of a name through its key needs `key ≠ 0` to be about that name alone -/
def opKey : Op → Nat
  | .add n _ => nameKey n
  | .del n => nameKey n

/-- contents shorter than 2^32 bytes (`StreamSize` is a uint32) -/
def opOk : Op → Prop
  | .add _ d => d.length < 4294967296
  | .del _ => True

/-- a slot is untouched when it is not a root-level entry carrying one of the names used (up to `strings.EqualFold`) -/
theorem run_spec : ∀ (ops : List Op) (b b' : BSt), Inv b → (∀ op ∈ ops, opOk op) → run b ops = .ok b' →
    Inv b' ∧ ∀ (i : Nat) (sl : Slot), b.st.files[i]? = some sl → sl.typ ≠ 0 →
      (∀ op ∈ ops, ¬ (i ∈ b.st.rootFiles ∧ sl.key = opKey op)) →
      b'.st.files[i]? = some sl ∧ b'.ents[i]? = b.ents[i]? ∧ (sl.typ = 2 → slotData b' i = slotData b i) ∧
      (i ∈ b'.st.rootFiles → i ∈ b.st.rootFiles) := by
  intro ops
  induction ops with
  | nil =>
    intro b b' inv _ h
    simp only [run, Res.ok.injEq] at h
    subst h
    exact ⟨inv, fun i sl hi _ _ => ⟨hi, rfl, fun _ => rfl, id⟩⟩
  | cons op rest ih =>
    intro b b' inv hok h
    simp only [run] at h
    split at h
    · rename_i b1 hs
      have hrest : ∀ op ∈ rest, opOk op := fun o ho => hok o (List.mem_cons_of_mem _ ho)
      have one : Inv b1 ∧ Untouched b b1 (opKey op) := by
        cases op with
        | add n d =>
          have g := addFileB_step inv (hok _ List.mem_cons_self) hs
          exact ⟨g.1, g.2.1⟩
        | del n => exact deleteFileB_step inv hs
      obtain ⟨inv1, keep1⟩ := one
      obtain ⟨inv', keep'⟩ := ih b1 b' inv1 hrest h
      refine ⟨inv', fun i sl hi hty hn => ?_⟩
      obtain ⟨p1, p2, p3, p4⟩ := keep1 i sl hi hty (hn op List.mem_cons_self)
      obtain ⟨q1, q2, q3, q4⟩ := keep' i sl p1 hty (fun o ho hc => hn o (List.mem_cons_of_mem _ ho) ⟨p4 hc.1, hc.2⟩)
      exact ⟨q1, q2.trans p2, fun ht => (q3 ht).trans (p3 ht), fun hm => p4 (q4 hm)⟩
    all_goals cases h

end Relic.CfbB
