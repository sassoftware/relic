/-
  Lemmas about `[Content_Types].xml` in `Relic.Model.AppxPkg` (lib/signappx/contenttypes.go): Go maps as association lists,
  `Add`, `Find`, the sorted lists `Marshal` writes and `Parse` reads back, attribute escaping.
-/
import Relic.Model.AppxPkg
import Relic.Proofs.VsixMap
namespace Relic.AppxPkg
open Relic.Appx

theorem octet_ne_nil : octetStreamType ≠ [] := by decide

/-- `Add` as a decision tree -/
theorem ctAdd_eq (c : CT) (name : Bytes) : ctAdd c name =
    if name = sBundle then { c with byExt := Vsix.mset c.byExt sXml bundleManifestType }
    else if defaultOverride (47 :: name) ≠ [] then { c with byOvr := Vsix.mset c.byOvr (47 :: name) (defaultOverride (47 :: name)) }
    else if Vsix.mget c.byOvr (47 :: name) ≠ [] then c
    else if Jar.pathExt (Jar.pathBase name) ≠ [] ∧ (Jar.pathExt (Jar.pathBase name)).head? = some 46 then
      (if defaultExtension ((Jar.pathExt (Jar.pathBase name)).drop 1) ≠ [] then
        { c with byExt := Vsix.mset c.byExt ((Jar.pathExt (Jar.pathBase name)).drop 1) (defaultExtension ((Jar.pathExt (Jar.pathBase name)).drop 1)) }
      else if Vsix.mget c.byExt ((Jar.pathExt (Jar.pathBase name)).drop 1) ≠ [] then c
      else { c with byExt := Vsix.mset c.byExt ((Jar.pathExt (Jar.pathBase name)).drop 1) octetStreamType })
    else { c with byOvr := Vsix.mset c.byOvr (47 :: name) octetStreamType } := rfl

theorem ctAdd_idem (c : CT) (name : Bytes) : ctAdd (ctAdd c name) name = ctAdd c name := by
  generalize hc' : ctAdd c name = c'
  revert hc'
  fun_cases ctAdd c name
  case case1 h0 =>
    rintro rfl
    rw [ctAdd_eq, if_pos h0]
    simp only [Vsix.mset_mset_same]
  case case2 h0 oname h1 =>
    rintro rfl
    rw [ctAdd_eq, if_neg h0, if_pos h1]
    simp only [oname, Vsix.mset_mset_same]
  case case3 h0 oname h1 h2 =>
    rintro rfl
    rw [ctAdd_eq, if_neg h0, if_neg h1, if_pos h2]
  case case4 h0 oname h1 h2 ext h3 e h4 =>
    rintro rfl
    rw [ctAdd_eq, if_neg h0, if_neg h1, if_neg h2, if_pos h3, if_pos h4]
    simp only [e, ext, Vsix.mset_mset_same]
  case case5 h0 oname h1 h2 ext h3 e h4 h5 =>
    rintro rfl
    rw [ctAdd_eq, if_neg h0, if_neg h1, if_neg h2, if_pos h3, if_neg h4, if_pos h5]
  case case6 h0 oname h1 h2 ext h3 e h4 _ =>
    rintro rfl
    rw [ctAdd_eq, if_neg h0, if_neg h1, if_neg h2, if_pos h3, if_neg h4,
      if_pos (by simp only [e, ext, Vsix.mget_mset_same]; exact octet_ne_nil)]
  case case7 h0 oname h1 _ _ _ =>
    rintro rfl
    rw [ctAdd_eq, if_neg h0, if_neg h1, if_pos (by simp only [oname, Vsix.mget_mset_same]; exact octet_ne_nil)]

theorem bundle_ovr : Vsix.mget ([] : SMap) (47 :: sBundle) = [] := rfl

theorem ctFind_eq (c : CT) (name : Bytes) : Vsix.ctFind c name =
    if Vsix.mget c.byOvr (47 :: name) ≠ [] then Vsix.mget c.byOvr (47 :: name)
    else if Jar.pathExt (Jar.pathBase name) ≠ [] ∧ (Jar.pathExt (Jar.pathBase name)).head? = some 46 then
      Vsix.mget c.byExt ((Jar.pathExt (Jar.pathBase name)).drop 1)
    else [] := rfl

/-- every name that was added has a content type, for a table that holds no override for the bundle manifest (relic never
    writes one) -/
theorem ctFind_after_add (c : CT) (name : Bytes) (hb : name = sBundle → Vsix.mget c.byOvr (47 :: sBundle) = []) :
    Vsix.ctFind (ctAdd c name) name ≠ [] := by
  fun_cases ctAdd c name
  case case1 h0 =>
    subst h0
    have hx : ([46, 120, 109, 108] : Bytes).drop 1 = sXml := by decide
    rw [ctFind_eq, if_neg (by simp only [hb rfl]; simp), (by decide : Jar.pathExt (Jar.pathBase sBundle) = [46, 120, 109, 108]),
      if_pos (by decide), hx]
    simp only [Vsix.mget_mset_same]
    decide
  case case2 _ oname h1 =>
    rw [ctFind_eq]
    simp only [oname, Vsix.mget_mset_same, h1, if_true, ne_eq, not_false_eq_true]
  case case3 _ oname _ h2 =>
    rw [ctFind_eq, if_pos h2]
    exact h2
  case case4 _ oname _ h2 ext h3 e h4 =>
    rw [ctFind_eq, if_neg h2, if_pos h3]
    simp only [e, ext, Vsix.mget_mset_same]
    exact h4
  case case5 _ oname _ h2 ext h3 _ _ h5 =>
    rw [ctFind_eq, if_neg h2, if_pos h3]
    exact h5
  case case6 _ oname _ h2 ext h3 e _ _ =>
    rw [ctFind_eq, if_neg h2, if_pos h3]
    simp only [e, ext, Vsix.mget_mset_same]
    exact octet_ne_nil
  case case7 _ oname _ _ _ _ =>
    rw [ctFind_eq]
    simp only [oname, Vsix.mget_mset_same, octet_ne_nil, if_true, ne_eq, not_false_eq_true]

/-- `Parse`, into an empty table, of the `Default` / `Override` lists `Marshal` writes; hence `Marshal ∘ Parse ∘ Marshal = Marshal` -/
theorem ctParse_lists (c : CT) (h1 : (Vsix.keys c.byExt).Nodup) (h2 : (Vsix.keys c.byOvr).Nodup) :
    Vsix.ctParse {} (ctLists c).1 (ctLists c).2 = ⟨(ctLists c).1, (ctLists c).2⟩ ∧
    ctLists (Vsix.ctParse {} (ctLists c).1 (ctLists c).2) = ctLists c := by
  have n1 := Vsix.keys_sortMap_nodup _ h1
  have n2 := Vsix.keys_sortMap_nodup _ h2
  have e : Vsix.ctParse {} (ctLists c).1 (ctLists c).2 = ⟨(ctLists c).1, (ctLists c).2⟩ := by
    unfold Vsix.ctParse ctLists
    simp only
    rw [Vsix.foldl_mset_append _ [] (by simpa using n1), Vsix.foldl_mset_append _ [] (by simpa using n2)]
    simp
  refine ⟨e, ?_⟩
  rw [e]
  unfold ctLists
  simp only
  rw [Vsix.sortMap_of_sorted _ (Vsix.sortMap_sorted _ h1), Vsix.sortMap_of_sorted _ (Vsix.sortMap_sorted _ h2)]

/-- text that `EscapeString` copies or replaces by a character reference, never by U+FFFD: printable ASCII, TAB, LF, CR -/
def asciiClean (s : Bytes) : Prop := ∀ b ∈ s, b.toNat < 128 ∧ (32 ≤ b.toNat ∨ b = 9 ∨ b = 10 ∨ b = 13)

theorem unesc_plain (b : UInt8) (r : Bytes) (h : b ≠ 38) : unescAttr (b :: r) = b :: unescAttr r := by
  rw [unescAttr]; simp [h]

theorem unesc_entity (b : UInt8) (e r : Bytes) (he : escByte b = some e) : unescAttr (e ++ r) = b :: unescAttr r := by
  revert he
  fun_cases escByte b
  all_goals intro he
  all_goals cases he
  all_goals
    subst_vars
    rw [unescAttr.eq_def]
    rfl

theorem unesc_esc : ∀ (fuel : Nat) (s : Bytes), s.length ≤ fuel → asciiClean s → unescAttr (escAttrF fuel s) = s
  | 0, s, h, _ => by
    have : s = [] := List.eq_nil_of_length_eq_zero (by omega)
    subst this; simp [escAttrF, unescAttr]
  | fuel + 1, [], _, _ => by simp [escAttrF, unescAttr]
  | fuel + 1, b :: r, h, hc => by
    have hb := hc b (by simp)
    have hr : asciiClean r := fun x hx => hc x (by simp [hx])
    have ih := unesc_esc fuel r (by simp at h; omega) hr
    unfold escAttrF
    cases he : escByte b with
    | some e => simp only; rw [unesc_entity b e _ he, ih]
    | none =>
      simp only
      have hd : decodeRune (b :: r) = (b.toNat, 1) := by simp [decodeRune, hb.1]
      have hin : inCharRange b.toNat = true := by
        unfold inCharRange
        rcases hb.2 with h | h | h | h
        · have : b.toNat ≤ 0xD7FF := by omega
          simp [h, this]
        · subst h; decide
        · subst h; decide
        · subst h; decide
      have hne : ¬ (b.toNat = 0xFFFD) := by omega
      simp only [hd, hin, Bool.not_true, Bool.false_or, Bool.and_eq_true, decide_eq_true_eq, hne, false_and, if_false]
      simp only [List.take, Nat.sub_self, List.drop_zero, List.cons_append, List.nil_append]
      rw [unesc_plain b _ (by rintro rfl; simp [escByte] at he), ih]

end Relic.AppxPkg
