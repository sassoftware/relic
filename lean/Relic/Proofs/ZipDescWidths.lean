/-
  Relic.Proofs.ZipDescWidths — data descriptors in a parsed archive: a descriptor as a sequence of 32-bit words, what lies
  between two encodings that both end a member (`desc_mid_words`), that the width which ends a member of a readable archive
  is the signed one of the width the sizes need (`true_width_signed`, `readable_width`).
-/
import Relic.Proofs.ZipSpecRead
namespace Relic.Zip
open Relic.SpecZip

/-- a data descriptor as a sequence of 32-bit words -/
def words4 : List Nat → Bytes
  | [] => []
  | w :: ws => leBytes 4 w ++ words4 ws

theorem words4_length (ws : List Nat) : (words4 ws).length = 4 * ws.length := by
  induction ws with
  | nil => rfl
  | cons w ws ih => simp [words4, ih]; omega

theorem fld_words4 (rest : Bytes) : ∀ (ws : List Nat) (i : Nat), i < ws.length →
    fld (words4 ws ++ rest) (4 * i) 4 = ws[i]! % 2 ^ 32 := by
  intro ws
  induction ws with
  | nil => intro i hi; simp at hi
  | cons w ws ih =>
    intro i hi
    cases i with
    | zero =>
      simp only [words4, List.append_assoc, Nat.mul_zero]
      rw [fld_head _ _ 4 (leBytes_length 4 w), leVal_leBytes]
      rfl
    | succ i =>
      simp only [words4, List.append_assoc]
      rw [show 4 * (i + 1) = 4 + 4 * i by omega, fld_skip _ _ 4 _ 4 (leBytes_length 4 w),
        ih i (by simpa using hi)]
      simp

theorem descEnc_words (s w : Bool) (crc cs us : Nat) :
    descEnc s w crc cs us =
      words4 ((if s then [sigDesc] else []) ++ [crc] ++
        (if w then [cs, cs / 2 ^ 32, us, us / 2 ^ 32] else [cs, us])) := by
  have e8 : ∀ n, leBytes 8 n = leBytes 4 n ++ leBytes 4 (n / 2 ^ 32) := fun n => leBytes_add 4 4 n
  have hs : leBytes 4 sigDesc = [0x50, 0x4b, 0x07, 0x08] := by decide
  cases s <;> cases w <;> simp [descEnc, words4, e8, hs]

theorem mem_descWidthsAt {z : Bytes} {at_ lim w : Nat} {e : Entry} (h : w ∈ descWidthsAt z at_ lim e) :
    ∃ s wd, (descEnc s wd e.crc e.csize e.usize).length = w ∧
      (wd = true ∨ (e.csize < 2 ^ 32 ∧ e.usize < 2 ^ 32)) ∧ at_ + w ≤ lim ∧
      bytesAt z at_ w = some (descEnc s wd e.crc e.csize e.usize) := by
  unfold descWidthsAt at h
  simp only [List.mem_filterMap] at h
  obtain ⟨⟨s, wd⟩, -, h⟩ := h
  simp only [Option.ite_none_right_eq_some, Option.some.injEq] at h
  obtain ⟨⟨h1, h2, h3⟩, h4⟩ := h
  refine ⟨s, wd, h4, ?_, by omega, by rw [← h4]; exact h3⟩
  simpa using h1

theorem fld_of_bytesAt {z : Bytes} {at_ : Nat} {ws : List Nat} (h : bytesAt z at_ (4 * ws.length) = some (words4 ws))
    (i : Nat) (hi : i < ws.length) : fld (z.drop at_) (4 * i) 4 = ws[i]! % 2 ^ 32 := by
  unfold bytesAt at h
  split at h
  · have h := Option.some.inj h
    have : z.drop at_ = words4 ws ++ (z.drop at_).drop (4 * ws.length) := by
      rw [← h, List.take_append_drop]
    rw [this]
    exact fld_words4 _ ws i hi
  · cases h

theorem enc_fields {z : Bytes} {stop w : Nat} {s wd : Bool} {crc cs us : Nat}
    (hl : (descEnc s wd crc cs us).length = w) (hb : bytesAt z stop w = some (descEnc s wd crc cs us)) :
    ∀ i, i < ((if s then [sigDesc] else []) ++ [crc] ++
        (if wd then [cs, cs / 2 ^ 32, us, us / 2 ^ 32] else [cs, us])).length →
      fld (z.drop stop) (4 * i) 4 = ((if s then [sigDesc] else []) ++ [crc] ++
        (if wd then [cs, cs / 2 ^ 32, us, us / 2 ^ 32] else [cs, us]))[i]! % 2 ^ 32 := by
  apply fld_of_bytesAt
  rw [← words4_length, ← descEnc_words, hl, hb]

/-- **the words between two descriptor encodings.**  If the signed encoding of width `w` (16 or 24) is present at
    `stop` and some encoding of width `w0` is present too, every aligned word from `w0` up to `w` is zero or the
    descriptor signature: the two encodings overlap shifted by one or two words, and the word equalities chain every
    such word back to the signature at the front or to the zero high half of a size below 2^32. -/
theorem desc_mid_words {z : Bytes} {stop lim w w0 : Nat} {e : Entry}
    (hw : w ∈ descWidthsAt z stop lim e) (hw2 : w = 16 ∨ w = 24) (hw0 : w0 ∈ descWidthsAt z stop lim e) :
    ∀ i, w0 ≤ 4 * i → 4 * i < w → fld (z.drop stop) (4 * i) 4 = 0 ∨ fld (z.drop stop) (4 * i) 4 = sigDesc := by
  obtain ⟨s, wd, hl, hr, -, hb⟩ := mem_descWidthsAt hw
  obtain ⟨s0, wd0, hl0, hr0, -, hb0⟩ := mem_descWidthsAt hw0
  have U := enc_fields hl hb
  have V := enc_fields hl0 hb0
  generalize z.drop stop = B at *
  rw [descEnc_length] at hl hl0
  intro i h1 h2
  unfold sigDesc
  clear hw hw0 hb hb0
  rcases hw2 with rfl | rfl
  · -- true width 16; the other encoding can only be the 12-byte one, one word behind
    obtain ⟨rfl, rfl⟩ : s = true ∧ wd = false := by cases s <;> cases wd <;> simp at hl ⊢
    obtain ⟨rfl, rfl, rfl⟩ : s0 = false ∧ wd0 = false ∧ w0 = 12 := by
      cases s0 <;> cases wd0 <;> simp at hl0 ⊢ <;> omega
    obtain rfl : i = 3 := by omega
    have U0 := U 0 (by simp); have U1 := U 1 (by simp); have U2 := U 2 (by simp); have U3 := U 3 (by simp)
    have V0 := V 0 (by simp); have V1 := V 1 (by simp); have V2 := V 2 (by simp)
    simp only [if_true, Bool.false_eq_true, if_false, List.cons_append, List.nil_append,
      List.getElem!_cons_zero, List.getElem!_cons_succ, Nat.reduceMul, sigDesc] at U0 U1 U2 U3 V0 V1 V2 ⊢
    right
    rw [U3, ← V2, U2, ← V1, U1, ← V0, U0]
  · -- true width 24
    obtain ⟨rfl, rfl⟩ : s = true ∧ wd = true := by cases s <;> cases wd <;> simp at hl ⊢
    have U0 := U 0 (by simp); have U1 := U 1 (by simp); have U2 := U 2 (by simp); have U3 := U 3 (by simp)
    have U4 := U 4 (by simp); have U5 := U 5 (by simp)
    simp only [if_true, List.cons_append, List.nil_append,
      List.getElem!_cons_zero, List.getElem!_cons_succ, Nat.reduceMul, sigDesc] at U0 U1 U2 U3 U4 U5
    cases s0 <;> cases wd0
    · -- 12 bytes (crc, cs, us), one word behind: the words are sig, sig, sig, 0, sig, 0
      obtain rfl : w0 = 12 := by simp at hl0; omega
      have hr0 : e.csize < 2 ^ 32 ∧ e.usize < 2 ^ 32 := by simpa using hr0
      have V0 := V 0 (by simp); have V1 := V 1 (by simp); have V2 := V 2 (by simp)
      simp only [Bool.false_eq_true, if_false, List.cons_append, List.nil_append,
        List.getElem!_cons_zero, List.getElem!_cons_succ, Nat.reduceMul] at V0 V1 V2
      rcases (by omega : i = 3 ∨ i = 4 ∨ i = 5) with rfl | rfl | rfl <;> simp only [Nat.reduceMul]
      · left
        rw [U3, Nat.div_eq_of_lt hr0.1, Nat.zero_mod]
      · right
        rw [U4, ← V2, U2, ← V1, U1, ← V0, U0]
      · left
        rw [U5, Nat.div_eq_of_lt hr0.2, Nat.zero_mod]
    · -- 20 bytes (crc, cs 64 bit, us 64 bit), one word behind: all words are sig
      obtain rfl : w0 = 20 := by simp at hl0; omega
      have V0 := V 0 (by simp); have V1 := V 1 (by simp); have V2 := V 2 (by simp); have V3 := V 3 (by simp)
      have V4 := V 4 (by simp)
      simp only [Bool.false_eq_true, if_false, if_true, List.cons_append, List.nil_append,
        List.getElem!_cons_zero, List.getElem!_cons_succ, Nat.reduceMul] at V0 V1 V2 V3 V4
      obtain rfl : i = 5 := by omega
      simp only [Nat.reduceMul]
      right
      rw [U5, ← V4, U4, ← V3, U3, ← V2, U2, ← V1, U1, ← V0, U0]
    · -- 16 bytes (sig, crc, cs, us), aligned: the high halves and `us` are zero
      obtain rfl : w0 = 16 := by simp at hl0; omega
      have hr0 : e.csize < 2 ^ 32 ∧ e.usize < 2 ^ 32 := by simpa using hr0
      have V3 := V 3 (by simp)
      simp only [Bool.false_eq_true, if_false, if_true, List.cons_append, List.nil_append,
        List.getElem!_cons_zero, List.getElem!_cons_succ, Nat.reduceMul, sigDesc] at V3
      rcases (by omega : i = 4 ∨ i = 5) with rfl | rfl <;> simp only [Nat.reduceMul] <;> left
      · rw [U4, ← V3, U3, Nat.div_eq_of_lt hr0.1, Nat.zero_mod]
      · rw [U5, Nat.div_eq_of_lt hr0.2, Nat.zero_mod]
    · -- 24 bytes: nothing between
      simp at hl0
      omega

/-- an unsigned encoding cannot be the one that ends at the next structure when a signed one is present:
    the word after it would have to be both "PK\3\4"/"PK\1\2" and the descriptor signature (or zero) -/
theorem true_width_signed {z : Bytes} {stop lim w : Nat} {e : Entry}
    (hsigned : 16 ∈ descWidthsAt z stop lim e ∨ 24 ∈ descWidthsAt z stop lim e)
    (hw : w ∈ descWidthsAt z stop lim e)
    (hnext : fld (z.drop (stop + w)) 0 4 = sigFile ∨ fld (z.drop (stop + w)) 0 4 = sigDir) :
    w = 16 ∨ w = 24 := by
  obtain ⟨s, wd, hl, hrange, -, hb⟩ := mem_descWidthsAt hw
  have hl' := hl
  rw [descEnc_length] at hl'
  cases s
  case true => cases wd <;> simp at hl' <;> omega
  have hnx : fld (z.drop stop) w 4 = sigFile ∨ fld (z.drop stop) w 4 = sigDir := by
    rw [fld_drop] at hnext ⊢; simpa using hnext
  exfalso
  -- below a signed width the word at `w` is zero or the descriptor signature (`desc_mid_words`), not a header signature
  have key : ∀ W, W ∈ descWidthsAt z stop lim e → (W = 16 ∨ W = 24) → w < W → False := by
    intro W hW hW2 hlt
    have h4 : w = 4 * (w / 4) := by cases wd <;> simp at hl' <;> omega
    have := desc_mid_words hW hW2 hw (w / 4) (by omega) (by omega)
    rw [← h4] at this
    rcases this with h0 | h0 <;> rcases hnx with h1 | h1 <;> rw [h0] at h1 <;> revert h1 <;> decide
  rcases hsigned with h16 | h24
  · cases wd
    · exact key 16 h16 (.inl rfl) (by simp at hl'; omega)
    · -- unsigned wide (20) beside signed narrow (16): the first three words agree, so the signature would be the
      -- zero high half of a compressed size below 2^32
      obtain ⟨s', wd', hl2, hr2, -, hb2⟩ := mem_descWidthsAt h16
      have hl2' := hl2
      rw [descEnc_length] at hl2'
      obtain ⟨rfl, rfl⟩ : s' = true ∧ wd' = false := by cases s' <;> cases wd' <;> simp at hl2' ⊢
      have hr2 : e.csize < 2 ^ 32 ∧ e.usize < 2 ^ 32 := by simpa using hr2
      have U := enc_fields hl hb
      have V := enc_fields hl2 hb2
      have U0 := U 0 (by simp); have U1 := U 1 (by simp); have U2 := U 2 (by simp)
      have V0 := V 0 (by simp); have V1 := V 1 (by simp); have V2 := V 2 (by simp)
      simp only [if_true, Bool.false_eq_true, if_false, List.cons_append, List.nil_append,
        List.getElem!_cons_zero, List.getElem!_cons_succ, Nat.reduceMul] at U0 U1 U2 V0 V1 V2
      have : sigDesc % 2 ^ 32 = 0 := by
        rw [← V0, U0, ← V1, U1, ← V2, U2, Nat.div_eq_of_lt hr2.1, Nat.zero_mod]
      revert this
      decide
  · exact key 24 h24 (.inr rfl) (by cases wd <;> simp at hl' <;> omega)

theorem nexts_sig {z : Bytes} {a : Archive} (h : parse z = some a) (hne : a.members ≠ []) :
    ∀ x ∈ a.members.map (·.entry.hoff) ++ [a.ends.cdOff],
      fld (z.drop x) 0 4 = sigFile ∨ fld (z.drop x) 0 4 = sigDir := by
  obtain ⟨-, -, hes, hms, -⟩ := parse_some h
  intro x hx
  rcases List.mem_append.mp hx with hx | hx
  · obtain ⟨m, hm, rfl⟩ := List.mem_map.mp hx
    have := (memberOf_some (mapM_memberOf_mem _ _ hms m hm)).2.1
    exact Or.inl (hasSig_fld this)
  · have hx : x = a.ends.cdOff := by simpa using hx
    subst hx
    have hc := (entries_count_le z _ _ _ _ hes).2
    cases hcount : a.ends.count with
    | zero =>
      rw [hcount] at hc
      simp only [List.length_map] at hc
      exact absurd (List.eq_nil_of_length_eq_zero hc) hne
    | succ n =>
      rw [hcount] at hes
      unfold entries at hes
      simp only [Option.bind_eq_bind, Option.bind_eq_some_iff] at hes
      obtain ⟨e, he, -⟩ := hes
      exact Or.inr (hasSig_fld (entryAt_some he).2.2.1)

/-- **the width that ends a member of a readable archive**: where the descriptor bit is set, the true width is located,
    is among the widths found, is 16 or 24 (a signed encoding), `readDataDesc` infers it right, and the structure that
    follows starts inside the file with a header signature -/
theorem readable_width {z : Bytes} {a : Archive} {sm : SpecZip.Member} (hp : parse z = some a) (hsigned : descSigned a = true)
    (hw : (a.members.all (widthOK a)) = true) (hm : sm ∈ a.members) (hd : sm.entry.flags % 16 / 8 = 1) :
    ∃ w, trueWidth a sm = some w ∧ w ∈ sm.descWidths ∧
      sm.descWidths = descWidthsAt z (sm.dataOff + sm.entry.csize) a.ends.cdOff sm.entry ∧ (w = 16 ∨ w = 24) ∧
      (w = 16 → sm.entry.usize ≠ 0xffffffff) ∧
      (w = 24 → sm.entry.usize ≥ 0xffffffff ∨ sm.entry.csize / 2 ^ 32 % 2 ^ 32 ≠ sm.entry.usize % 2 ^ 32) ∧
      sm.dataOff + sm.entry.csize + w ≤ a.ends.cdOff ∧
      (a.members.map (·.entry.hoff) ++ [a.ends.cdOff]).contains (sm.dataOff + sm.entry.csize + w) = true ∧
      (fld (z.drop (sm.dataOff + sm.entry.csize + w)) 0 4 = sigFile ∨ fld (z.drop (sm.dataOff + sm.entry.csize + w)) 0 4 = sigDir) := by
  obtain ⟨-, -, -, hms, -⟩ := parse_some hp
  simp only [descSigned, List.all_eq_true] at hsigned hw
  obtain ⟨-, -, -, -, -, -, -, -, -, hdesc⟩ := memberOf_some (mapM_memberOf_mem _ _ hms sm hm)
  rw [if_pos hd] at hdesc
  have hemp : sm.descWidths.isEmpty = false := by
    cases h : sm.descWidths
    · exact absurd h hdesc.2
    · rfl
  have hwk := hw sm hm
  unfold widthOK at hwk
  rw [hemp, Bool.false_or] at hwk
  cases htw : trueWidth a sm with
  | none => rw [htw] at hwk; cases hwk
  | some w =>
    rw [htw] at hwk
    simp only [Bool.and_eq_true, Bool.or_eq_true, bne_iff_ne, ne_eq, decide_eq_true_eq] at hwk
    have htw' := htw
    unfold trueWidth at htw'
    have hmem := List.mem_of_find?_eq_some htw'
    have hcont := List.find?_some htw'
    have hnx := nexts_sig hp (List.ne_nil_of_mem hm) _ (by simpa using hcont)
    have hsg := hsigned sm hm
    rw [hemp, Bool.false_or, hdesc.1] at hsg
    have hmem' := hmem
    rw [hdesc.1] at hmem'
    have h1624 := true_width_signed (by simpa using hsg) hmem' hnx
    obtain ⟨-, -, -, -, hlim, -⟩ := mem_descWidthsAt hmem'
    refine ⟨w, rfl, hmem, hdesc.1, h1624, fun e => ?_, fun e => ?_, hlim, hcont, hnx⟩
    · rcases hwk.1 with c | c
      · exact absurd e c
      · exact c
    · rcases hwk.2 with (c | c) | c
      · exact absurd e c
      · exact Or.inl c
      · exact Or.inr c

end Relic.Zip
