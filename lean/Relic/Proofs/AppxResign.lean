/-
  Signing relic's own APPX output again, with the same parts, reproduces the file and the five hashed streams (C08).
-/
import Relic.Proofs.AppxRoundTrip
import Relic.Proofs.ZipStream
import Relic.Proofs.Delim
namespace Relic.Appx
open Relic.Zip Relic.ZipOwn

/-- Signing the signed package again, with the same codec and the same parts (the block map part being
    the block map the first signing marshalled), returns the same file and the same five streams. -/
theorem resign_same {c : Codec} {z : Bytes} {ps : Parts} {r : Signed} (H : SignOk c z ps r)
    (hbm : c.inflate ps.blockmap.compd = some ps.blockmap.plain)
    (hct : c.inflate ps.ctypes.compd = some ps.ctypes.plain)
    (hcat : ∀ g, digest c z = .ok g → g.p.hasPE = true → c.inflate ps.catalog.compd = some ps.catalog.plain)
    (hsg : c.inflate ps.signature.compd = some ps.signature.plain)
    (hmo : c.manifestOk ps.manifest.plain = true) (hcto : c.ctypesOk ps.ctypes.plain = true)
    (hold : c.blockMap ps.blockmap.plain = some (r.bm.map fun f => (f.name, f.blocks.map (·.2)))) :
    ∃ r', sign c r.out ps = .ok r' ∧ r'.out = r.out ∧ r'.streams = r.streams := by
  obtain ⟨g, d, r1, L⟩ := sign_setup H
  obtain ⟨loc2, hfd2, hle2, hrwd2⟩ := read_inv L.read
  -- the second forward pass: the same state, and its reader has not gone beyond the patch offset
  obtain ⟨r2, hpass2, sq3, hr2b⟩ := payloadPass_transfer (P := g.patchStart) (payloadOf d.files) ⟨z, true, 0⟩ ⟨r.out, true, 0⟩
    r1 {} g.p L.take L.le_out H.out63 (fun _ => Nat.le_refl _) (fun f hf => (L.pay f hf).1) L.pass (by rw [L.pos]; exact Nat.le_refl _)
  rw [L.pos] at hr2b
  have hmfskip : (dosToZip (manifestBm ps).name == sManifest || dosToZip (manifestBm ps).name == sBundle) = true := by
    show (dosToZip (zipToDos sManifest) == sManifest || dosToZip (zipToDos sManifest) == sBundle) = true
    decide
  have hcopy : CopyOk g.p.bm (r.bm.map fun f => (f.name, f.blocks.map (·.2))) := by
    rw [(assemble_eq L.asm).2.2.2.2.2]
    exact copyOk_own g.p.bm g.bm (manifestBm ps) L.view hmfskip
  have htailok : ∀ n ∈ allMembers g.p.hasPE ps, TailOk c g.p.bm n :=
    forall_allMembers (P := TailOk c g.p.bm)
      ⟨ps.manifest.plain, rfl, rfl, .inl ⟨rfl, hmo⟩⟩
      ⟨ps.blockmap.plain, contentOf_inflate hbm, rfl, .inr (.inl ⟨rfl, _, hold, hcopy⟩)⟩
      ⟨ps.ctypes.plain, contentOf_inflate hct, rfl, .inr (.inr (.inl ⟨rfl, hcto⟩))⟩
      (fun hpe => ⟨ps.catalog.plain, contentOf_inflate (hcat g L.dig hpe), rfl, .inr (.inr (.inr (.inl rfl)))⟩)
      ⟨ps.signature.plain, contentOf_inflate hsg, rfl, .inr (.inr (.inr (.inr rfl)))⟩
  obtain ⟨t', ht', tm, tu⟩ := tailPass_new (c := c) H.out63 (allMembers g.p.hasPE ps) g.patchStart r2
    { bm := g.p.bm, unverified := g.p.unverified } L.loc sq3 hr2b L.newOk htailok rfl
  have ht'' : tailPass c r2 ((Eall g ps).1.map seen) { bm := g.p.bm, unverified := g.p.unverified } = .ok t' := ht'
  obtain ⟨hcons, _⟩ := allMembers_cons g.p.hasPE ps
  have tm' : t'.manifest = true := by
    rw [tm, hcons]
    simp [manifestMember]
  have tu' : t'.unverified = false := by
    apply tu
    right
    rw [hcons]
    simp [unhashedMembers, blockMapMember]
  -- the directory of the output, split as `DigestAppxTar` does
  have hE : (Eall g ps).1.map seen = seen (newEntryAt ps.mt ps.md
      (manifestMember ps) g.patchStart) ::
      (newEntries ps.mt ps.md (unhashedMembers g.p.hasPE ps) (g.patchStart + (newBytes ps.mt ps.md
        (manifestMember ps)).length)).1.map seen := by
    unfold Eall
    rw [hcons]
    simp only [newEntries, List.map_cons]
  have hsplit := takeWhile_dropWhile_stop (fun f : File => !special f.name) (payloadOf d.files)
    (seen (newEntryAt ps.mt ps.md (manifestMember ps) g.patchStart))
    ((newEntries ps.mt ps.md (unhashedMembers g.p.hasPE ps) (g.patchStart + (newBytes ps.mt ps.md (manifestMember ps)).length)).1.map seen)
    (fun f hf => by rw [L.special_pay f hf]; rfl)
    (by rw [(seen_new _ _ _ _).1]; show (!special sManifest) = false; decide)
  rw [← hE] at hsplit
  obtain ⟨hpay2, htail2⟩ := hsplit
  have hdig : digest c r.out = .ok ⟨g.p, g.patchStart, t'.bm, false⟩ := by
    unfold digest
    rw [hfd2]
    simp only []
    rw [if_neg (by omega), hrwd2]
    simp only []
    unfold digestDir
    simp only []
    have e1 : payloadOf (payloadOf d.files ++ (Eall g ps).1.map seen) = payloadOf d.files := hpay2
    have e2 : tailOf (payloadOf d.files ++ (Eall g ps).1.map seen) = (Eall g ps).1.map seen := htail2
    rw [e1, hpass2]
    simp only []
    rw [e2]
    rw [hE] at ht'' ⊢
    simp only []
    rw [(seen_new _ _ _ _).2.1, if_neg (by rw [L.pos]; simp), ht'']
    simp only [tm', tu', Bool.not_true, Bool.false_eq_true, if_false]
  obtain ⟨r', hr'⟩ := assemble_total r.out ⟨g.p, g.patchStart, t'.bm, false⟩ ps rfl
  obtain ⟨_, b2, b3, _⟩ := assemble_eq hr'
  obtain ⟨_, a2, a3, _⟩ := assemble_eq L.asm
  refine ⟨r', ?_, ?_, ?_⟩
  · exact sign_ok.2 ⟨_, hdig, hr'⟩
  · rw [b2]
    show r.out.take g.patchStart ++ _ = r.out
    rw [L.take]
    exact a2.symm
  · rw [b3, a3]
    rfl

end Relic.Appx
