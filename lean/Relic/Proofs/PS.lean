/- lemmas about the PowerShell model: line splitting, the digest loop, the characterisation of a successful digest; the signed
   script as bytes -/
import Relic.Model.PS
import Relic.Proofs.Res
namespace Relic.PS

theorem styleOf_cases (P : Bytes → Bytes → Prop) (style : Nat) (st en : Bytes) (hs : styleOf style = some (st, en))
    (h1 : P (ascii "# ") []) (h2 : P (ascii "<!-- ") (ascii " -->")) (h3 : P (ascii "/* ") (ascii " */")) : P st en := by
  unfold styleOf at hs
  split at hs
  · cases hs; exact h1
  · cases hs; exact h2
  · cases hs; exact h3
  · cases hs

def itemBytes : Item → Bytes
  | .line b _ => b
  | .bad => []

def joinItems (l : List Item) : Bytes := l.flatMap itemBytes

/-- every item is a line whose physical size is its length (no "malformed utf16", no phantom zero byte) -/
def Good (l : List Item) : Prop := ∀ it ∈ l, ∃ b, it = .line b b.length

/-- complete lines of `a` (UTF-8 mode), `cur` being the line read so far -/
def comp8 : Bytes → Bytes → List Item
  | _, [] => []
  | cur, b :: bs => if b = 10 then .line (cur ++ [10]) (cur.length + 1) :: comp8 [] bs else comp8 (cur ++ [b]) bs

def pend8 : Bytes → Bytes → Bytes
  | cur, [] => cur
  | cur, b :: bs => if b = 10 then pend8 [] bs else pend8 (cur ++ [b]) bs

theorem lines8_append (cur a b : Bytes) : lines8 cur (a ++ b) = comp8 cur a ++ lines8 (pend8 cur a) b := by
  induction a generalizing cur with
  | nil => simp [comp8, pend8]
  | cons x xs ih =>
    simp only [List.cons_append, lines8, comp8, pend8]
    split
    · rw [ih]; simp
    · rw [ih]

theorem comp8_join (cur a : Bytes) : joinItems (comp8 cur a) ++ pend8 cur a = cur ++ a ∧ Good (comp8 cur a) := by
  induction a generalizing cur with
  | nil => exact ⟨by simp [comp8, pend8, joinItems], fun _ h => by simp [comp8] at h⟩
  | cons x xs ih =>
    simp only [comp8, pend8]
    split
    · rename_i hx
      obtain ⟨j, g⟩ := ih []
      refine ⟨?_, ?_⟩
      · simp only [joinItems, List.flatMap_cons, itemBytes] at j ⊢
        rw [List.append_assoc, j, hx]; simp
      · intro it hit
        rcases List.mem_cons.mp hit with h | h
        · exact ⟨cur ++ [10], by rw [h]; simp⟩
        · exact g it h
    · obtain ⟨j, g⟩ := ih (cur ++ [x])
      exact ⟨by rw [j]; simp, g⟩

theorem lines8_self (cur f : Bytes) : lines8 cur f = comp8 cur f ++ [.line (pend8 cur f) (pend8 cur f).length] := by
  have := lines8_append cur f []
  rwa [List.append_nil] at this

theorem lines8_ne_nil (cur t : Bytes) : lines8 cur t ≠ [] := by
  rw [lines8_self]
  simp

theorem lines8_join (cur f : Bytes) : joinItems (lines8 cur f) = cur ++ f := by
  rw [lines8_self, ← (comp8_join cur f).1]
  simp [joinItems, itemBytes]

theorem lines8_head (cur t : Bytes) : ∃ x restf ph, lines8 cur t = .line (cur ++ x) ph :: restf ∧ (x = [] → restf = []) := by
  induction t generalizing cur with
  | nil => exact ⟨[], [], cur.length, by simp [lines8], fun _ => rfl⟩
  | cons b bs ih =>
    simp only [lines8]
    split
    · exact ⟨[10], _, _, rfl, fun h => by cases h⟩
    · obtain ⟨x, r, ph, e, _⟩ := ih (cur ++ [b])
      exact ⟨b :: x, r, ph, by rw [e]; simp, fun h => by cases h⟩

theorem lines8_nolf (cur body r : Bytes) (h : ∀ y ∈ body, y ≠ 10) :
    lines8 cur (body ++ 10 :: r) = .line (cur ++ body ++ [10]) ((cur ++ body).length + 1) :: lines8 [] r := by
  induction body generalizing cur with
  | nil => simp [lines8]
  | cons y ys ih =>
    have hy : y ≠ 10 := h y (by simp)
    simp only [List.cons_append, lines8, if_neg hy]
    rw [ih (cur ++ [y]) (fun z hz => h z (by simp [hz]))]
    simp

/-- complete lines of `a` (UTF-16 mode: a line ends with the unit 0A 00) -/
def comp16 : Bytes → Bytes → List Item
  | _, [] => []
  | _, [_] => []
  | cur, a :: b :: bs =>
    if a = 10 ∧ b = 0 then .line (cur ++ [10, 0]) (cur.length + 2) :: comp16 [] bs else comp16 (cur ++ [a, b]) bs

/-- the unterminated last line, a stray odd byte included -/
def pend16 : Bytes → Bytes → Bytes
  | cur, [] => cur
  | cur, [b] => cur ++ [b]
  | cur, a :: b :: bs => if a = 10 ∧ b = 0 then pend16 [] bs else pend16 (cur ++ [a, b]) bs

theorem lines16_append (cur a b : Bytes) (he : a.length % 2 = 0) :
    lines16 cur (a ++ b) = comp16 cur a ++ lines16 (pend16 cur a) b := by
  fun_induction comp16 cur a with
  | case1 cur => simp [pend16]
  | case2 cur x => simp at he
  | case3 cur x y bs hxy ih =>
    have he' : bs.length % 2 = 0 := by simp only [List.length_cons] at he; omega
    simp only [List.cons_append, lines16, pend16, if_pos hxy]
    rw [ih he']
  | case4 cur x y bs hxy ih =>
    have he' : bs.length % 2 = 0 := by simp only [List.length_cons] at he; omega
    simp only [List.cons_append, lines16, pend16, if_neg hxy]
    rw [ih he']

theorem comp16_join (cur a : Bytes) : joinItems (comp16 cur a) ++ pend16 cur a = cur ++ a ∧ Good (comp16 cur a) := by
  fun_induction comp16 cur a with
  | case1 cur => exact ⟨by simp [pend16, joinItems], fun _ h => by simp at h⟩
  | case2 cur x => exact ⟨by simp [pend16, joinItems], fun _ h => by simp at h⟩
  | case3 cur x y bs hxy ih =>
    obtain ⟨j, g⟩ := ih
    obtain ⟨hx, hy⟩ := hxy
    refine ⟨?_, ?_⟩
    · simp only [pend16, if_pos (And.intro hx hy), joinItems, List.flatMap_cons, itemBytes] at j ⊢
      rw [List.append_assoc, j, hx, hy]; simp
    · intro it hit
      rcases List.mem_cons.mp hit with h | h
      · exact ⟨cur ++ [10, 0], by rw [h]; simp⟩
      · exact g it h
  | case4 cur x y bs hxy ih =>
    obtain ⟨j, g⟩ := ih
    exact ⟨by simp only [pend16, if_neg hxy]; rw [j]; simp, g⟩

theorem lines16_self (cur f : Bytes) : lines16 cur f = comp16 cur f ++ [.line (pend16 cur f) (pend16 cur f).length] := by
  fun_induction comp16 cur f with
  | case1 cur => rfl
  | case2 cur x => simp [lines16, pend16]
  | case3 cur x y bs hxy ih => simp only [lines16, pend16, if_pos hxy, ih, List.cons_append]
  | case4 cur x y bs hxy ih => simp only [lines16, pend16, if_neg hxy, ih]

theorem lines16_head (cur t : Bytes) : ∃ x restf ph, lines16 cur t = .line (cur ++ x) ph :: restf ∧ (x = [] → restf = []) := by
  fun_induction lines16 cur t with
  | case1 cur => exact ⟨[], [], cur.length, by simp, fun _ => rfl⟩
  | case2 cur b => exact ⟨[b], [], _, rfl, fun h => by cases h⟩
  | case3 cur _ _ bs _ _ => exact ⟨[10, 0], _, _, rfl, fun h => by cases h⟩
  | case4 cur a b bs _ ih =>
    obtain ⟨x, r, ph, e, _⟩ := ih
    exact ⟨a :: b :: x, r, ph, by rw [e]; simp, fun h => by cases h⟩

theorem widen_cons (x : UInt8) (l : Bytes) : widen (x :: l) = x :: 0 :: widen l := by simp [widen]

theorem widen_append (a b : Bytes) : widen (a ++ b) = widen a ++ widen b := by simp [widen]

theorem widen_length (l : Bytes) : (widen l).length = 2 * l.length := by
  induction l with
  | nil => rfl
  | cons a t ih => simp only [widen, List.flatMap_cons, List.length_append, List.length_cons, List.length_nil] at ih ⊢; omega

theorem lines16_nolf (cur body r : Bytes) (h : ∀ y ∈ body, y ≠ 10) :
    lines16 cur (widen body ++ 10 :: 0 :: r) =
      .line (cur ++ widen body ++ [10, 0]) ((cur ++ widen body).length + 2) :: lines16 [] r := by
  induction body generalizing cur with
  | nil => simp [lines16, widen]
  | cons y ys ih =>
    have hy : y ≠ 10 := h y (by simp)
    rw [widen_cons]
    simp only [List.cons_append, lines16]
    rw [if_neg (by intro hc; exact hy hc.1)]
    rw [ih (cur ++ [y, 0]) (fun z hz => h z (by simp [hz]))]
    simp

/-- the lines `DigestPowershell` reads, and the size of the end-of-line it strips in front of the marker -/
def itemsOf (f : Bytes) : List Item := if isUtf16 f then lines16 [] f else lines8 [] f
def eolLen (u16 : Bool) : Nat := if u16 then 4 else 2

theorem items_join (f : Bytes) : joinItems (itemsOf f) = f ∧ Good (itemsOf f) := by
  have key (xs : List Item) (p : Bytes) (h : joinItems xs ++ p = [] ++ f ∧ Good xs) :
      joinItems (xs ++ [.line p p.length]) = f ∧ Good (xs ++ [.line p p.length]) := by
    refine ⟨by simpa [joinItems, itemBytes] using h.1, fun it hit => ?_⟩
    rcases List.mem_append.mp hit with hm | hm
    · exact h.2 it hm
    · exact ⟨p, by simpa using hm⟩
  unfold itemsOf
  split
  · rw [lines16_self]
    exact key _ _ (comp16_join [] f)
  · rw [lines8_self]
    exact key _ _ (comp8_join [] f)

/-- one successful step of the loop: the item is a line, and either it is the begin marker – then the line in front of it
    ends with the marker line's own end-of-line, which is cut off, and the run ends – or the loop goes on with it -/
theorem digestLoop_cons {first : Bytes} {u16 : Bool} {k flen : Nat} {it : Item} {rest : List Item} {saved h : Bytes}
    {ts pos : Nat} {R : Bytes × Nat × Nat} (e : digestLoop true true first u16 k flen (it :: rest) saved h ts pos = .ok R) :
    ∃ l phys, it = .line l phys ∧
      ((l = first ∧ k ≤ saved.length ∧ saved.drop (saved.length - k) = first.drop (first.length - k) ∧
          R = (h ++ conv u16 (saved.take (saved.length - k)), ts + (saved.length - k), k + l.length + (flen - (pos + phys)))) ∨
        (l ≠ first ∧
          digestLoop true true first u16 k flen rest l (h ++ conv u16 saved) (ts + saved.length) (pos + phys) = .ok R)) := by
  cases it with
  | bad => simp [digestLoop] at e
  | line l phys =>
    refine ⟨l, phys, rfl, ?_⟩
    simp only [digestLoop] at e
    by_cases hl : l = first
    · rw [if_pos hl] at e
      by_cases hk : saved.length < k
      · simp [hk] at e
      rw [if_neg hk] at e
      by_cases hc : saved.drop (saved.length - k) = first.drop (first.length - k)
      · rw [if_neg (fun hn => hn.2 hc)] at e
        rw [List.length_take, Nat.min_eq_left (Nat.sub_le _ _)] at e
        exact Or.inl ⟨hl, by omega, hc, (Res.ok.inj e).symm⟩
      · simp [hc] at e
    · rw [if_neg hl] at e
      exact Or.inr ⟨hl, e⟩

theorem digestLoop_sizes (first : Bytes) (u16 : Bool) (k flen : Nat) (items : List Item) (saved h : Bytes) (ts pos : Nat)
    (H : Bytes) (T S : Nat) (e : digestLoop true true first u16 k flen items saved h ts pos = .ok (H, T, S))
    (hg : Good items) (hp : pos = ts + saved.length) (hl : pos + (joinItems items).length = flen) :
    T + S = flen := by
  induction items generalizing saved h ts pos with
  | nil =>
    cases Res.ok.inj e
    simp [joinItems] at hl
    omega
  | cons it rest ih =>
    obtain ⟨l, hit⟩ := hg it (by simp)
    subst hit
    simp only [joinItems, List.flatMap_cons, itemBytes, List.length_append] at hl
    obtain ⟨_, _, hi, ⟨_, _, _, hR⟩ | ⟨_, e'⟩⟩ := digestLoop_cons e
    · cases hi; cases hR
      omega
    · cases hi
      exact ih l _ _ _ e' (fun x hx => hg x (by simp [hx])) (by omega) (by simp only [joinItems]; omega)

/-- what the loop feeds to the hash: the text, cut into the pieces `done'` (whole lines) and a last piece `s`, each
    converted on its own.  `P` is any property that `saved` and every line but the last have. -/
theorem digestLoop_stream (P : Bytes → Prop) (first : Bytes) (u16 : Bool) (k flen : Nat) (items : List Item) (saved h : Bytes)
    (ts pos : Nat)
    (H : Bytes) (T S : Nat) (e : digestLoop true true first u16 k flen items saved h ts pos = .ok (H, T, S))
    (F : Bytes) (done : List Bytes) (hF : F = done.flatten ++ saved ++ joinItems items)
    (hh : h = done.flatMap (conv u16)) (hts : ts = done.flatten.length) (hd : ∀ l ∈ done, P l)
    (hs : P saved ∨ items = []) (hi : ∀ it ∈ items.dropLast, P (itemBytes it)) :
    ∃ (done' : List Bytes) (s : Bytes), F.take T = done'.flatten ++ s ∧
      H = done'.flatMap (conv u16) ++ conv u16 s ∧ ∀ l ∈ done', P l := by
  induction items generalizing saved h ts pos done with
  | nil =>
    cases Res.ok.inj e
    refine ⟨done, saved, ?_, by rw [hh], hd⟩
    subst hF; subst hts
    simp only [joinItems, List.flatMap_nil, List.append_nil]
    rw [← List.length_append, List.take_length]
  | cons it rest ih =>
    obtain ⟨l, phys, rfl, ⟨_, hk, _, hR⟩ | ⟨_, e'⟩⟩ := digestLoop_cons e
    · cases hR
      refine ⟨done, saved.take (saved.length - k), ?_, by rw [hh], hd⟩
      subst hF; subst hts
      simp only [List.append_assoc]
      rw [List.take_length_add_append, List.take_append_of_le_length (by omega)]
    · have hsv : P saved := by
        rcases hs with hs | hs
        · exact hs
        · cases hs
      refine ih l (h ++ conv u16 saved) (ts + saved.length) (pos + phys) e' (done ++ [saved]) ?_ ?_ ?_ ?_ ?_ ?_
      · subst hF; simp [joinItems, itemBytes, List.append_assoc]
      · subst hh; simp
      · subst hts; simp
      · intro x hx
        rcases List.mem_append.mp hx with hx | hx
        · exact hd x hx
        · simp only [List.mem_singleton] at hx; subst hx; exact hsv
      · cases rest with
        | nil => exact Or.inr rfl
        | cons r rs =>
          left
          have := hi (.line l phys) (by simp [List.dropLast])
          simpa [itemBytes] using this
      · intro x hx
        apply hi
        cases rest with
        | nil => simp at hx
        | cons r rs => rw [List.dropLast_cons_of_ne_nil (by simp)]; exact List.mem_cons_of_mem _ hx

theorem digestLoop_ne_crash (first : Bytes) (u16 : Bool) (k flen : Nat) (items : List Item) (saved h : Bytes) (ts pos : Nat)
    (c : Crash) : digestLoop true true first u16 k flen items saved h ts pos ≠ Res.crash c := by
  fun_induction digestLoop true true first u16 k flen items saved h ts pos <;> simp_all

theorem DigestPS_eq_loop (f : Bytes) (style : Nat) (st en : Bytes) (hs : styleOf style = some (st, en)) :
    DigestPS f style =
      match digestLoop true true (firstLine st en (isUtf16 f)) (isUtf16 f) (eolLen (isUtf16 f)) f.length (itemsOf f) [] [] 0 0 with
      | .ok (h, ts, ss) => .ok ⟨h, ts, ss, isUtf16 f, style⟩
      | .err x => .err x
      | .panic p => .panic p
      | .diverge => .diverge := by
  unfold DigestPS digestWith
  rw [hs]
  rfl

theorem DigestPS_loop (f : Bytes) (style : Nat) (st en : Bytes) (d : Digest) (hs : styleOf style = some (st, en))
    (e : DigestPS f style = .ok d) :
    d.utf16 = isUtf16 f ∧ d.style = style ∧
      digestLoop true true (firstLine st en (isUtf16 f)) (isUtf16 f) (eolLen (isUtf16 f)) f.length (itemsOf f) [] [] 0 0 =
        .ok (d.hashed, d.textSize, d.sigSize) := by
  rw [DigestPS_eq_loop f style st en hs] at e
  split at e <;> cases e
  exact ⟨rfl, rfl, by assumption⟩

theorem DigestPS_of_loop_err (f : Bytes) (style : Nat) (st en : Bytes) (x : String) (hs : styleOf style = some (st, en))
    (e : digestLoop true true (firstLine st en (isUtf16 f)) (isUtf16 f) (eolLen (isUtf16 f)) f.length (itemsOf f) [] [] 0 0 = .err x) :
    DigestPS f style = .err x := by
  rw [DigestPS_eq_loop f style st en hs, e]

/-- the code after fix F8b -/
theorem DigestPS_ne_crash (f : Bytes) (style : Nat) (c : Crash) : DigestPS f style ≠ Res.crash c := by
  unfold DigestPS digestWith
  cases styleOf style with
  | none => simp
  | some se =>
    simp only
    intro h
    split at h
    · simp at h
    · simp at h
    · rename_i p hp
      exact digestLoop_ne_crash _ _ _ _ _ _ _ _ _ (.panic p) hp
    · rename_i hp
      exact digestLoop_ne_crash _ _ _ _ _ _ _ _ _ .diverge hp

/-- what a successful `DigestPowershell` guarantees: text and signature block partition the file, and UTF-16 text is
    hashed as it is – the stream is the file minus the signature block and the line break in front of it. -/
structure DigestOk (f : Bytes) (style : Nat) (d : Digest) : Prop where
  sizes : d.textSize + d.sigSize = f.length
  utf16 : d.utf16 = isUtf16 f
  known : ∃ se, styleOf style = some se
  styleEq : d.style = style
  stream16 : d.utf16 = true → d.hashed = f.take d.textSize

theorem DigestPS_spec (f : Bytes) (style : Nat) (d : Digest) (e : DigestPS f style = .ok d) : DigestOk f style d := by
  cases hs : styleOf style with
  | none => simp [DigestPS, digestWith, hs] at e
  | some se =>
    obtain ⟨hu, hst, hl⟩ := DigestPS_loop f style se.1 se.2 d hs e
    obtain ⟨hj, hg⟩ := items_join f
    have hz := digestLoop_sizes _ _ _ _ _ _ _ _ _ _ _ _ hl hg (by simp) (by rw [hj]; simp)
    refine ⟨hz, hu, ⟨se, hs⟩, hst, fun h16 => ?_⟩
    rw [← hu, h16] at hl
    obtain ⟨done', s, h1, h2, _⟩ := digestLoop_stream (fun _ => True) _ true _ _ _ _ _ _ _ _ _ _ hl f [] (by rw [hj]; simp)
      rfl rfl (fun _ _ => trivial) (Or.inl trivial) (fun _ _ => trivial)
    rw [h2, h1, show conv true = id from rfl, List.flatMap_id]
    rfl

def signedBytes (f : Bytes) (d : Digest) (st en sig : Bytes) : Bytes := f.take d.textSize ++ block st en d.utf16 sig

theorem signedBytes_take (f : Bytes) (style : Nat) (d : Digest) (st en sig : Bytes) (H : DigestOk f style d) :
    (signedBytes f d st en sig).take d.textSize = f.take d.textSize := by
  have hz := H.sizes
  rw [signedBytes, List.take_append_of_le_length (by rw [List.length_take]; omega), List.take_take, Nat.min_self]

theorem sem_makePatch (f : Bytes) (style : Nat) (d : Digest) (sig : Bytes) (ps : List Binpatch.Patch) (st en : Bytes)
    (H : DigestOk f style d) (hs : styleOf style = some (st, en)) (e : makePatch d sig = .ok ps) :
    Binpatch.sem f ps = signedBytes f d st en sig ∧ Binpatch.wfFrom f.length 0 ps = true := by
  unfold makePatch at e
  rw [H.styleEq, hs] at e
  injection e with e
  subst e
  have hz := H.sizes
  refine ⟨?_, ?_⟩
  · simp only [Binpatch.sem, List.foldr, splice, signedBytes]
    rw [hz, List.drop_length, List.append_nil]
  · simp [Binpatch.wfFrom]; omega

end Relic.PS
