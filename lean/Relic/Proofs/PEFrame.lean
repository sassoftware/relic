/- the frame property of the PE header parser: which bytes `readHeaders` depends on, and what follows for
   the signed file (re-digest succeeds, the locator finds the embedded blob) -/
import Relic.Proofs.PESign
namespace Relic.PE

/-- `g` agrees with `f` on every read below `n` that stays clear of `[dd, dd+8)` -/
def Agree (f g : Bytes) (dd n : Nat) : Prop :=
  n ≤ f.length ∧ n ≤ g.length ∧ ∀ a b, b ≤ n → (b ≤ dd ∨ dd + 8 ≤ a) → seg g a b = seg f a b

theorem Agree.u16_lo {f g : Bytes} {dd n : Nat} (A : Agree f g dd n) (off : Nat) (h1 : off + 2 ≤ dd) (h2 : dd ≤ n) :
    u16 g off = u16 f off := by
  unfold u16; rw [A.2.2 _ _ (by omega) (Or.inl h1)]

theorem Agree.u32_lo {f g : Bytes} {dd n : Nat} (A : Agree f g dd n) (off : Nat) (h1 : off + 4 ≤ dd) (h2 : dd ≤ n) :
    u32 g off = u32 f off := by
  unfold u32; rw [A.2.2 _ _ (by omega) (Or.inl h1)]

theorem Agree.u32_hi {f g : Bytes} {dd n : Nat} (A : Agree f g dd n) (off : Nat) (h1 : dd + 8 ≤ off) (h2 : off + 4 ≤ n) :
    u32 g off = u32 f off := by
  unfold u32; rw [A.2.2 _ _ h2 (Or.inr h1)]

theorem Agree.rawSections_eq {f g : Bytes} {dd n : Nat} (A : Agree f g dd n) (k tbl : Nat) (h1 : dd + 8 ≤ tbl)
    (h2 : tbl + k * 40 ≤ n) : rawSections g tbl k = rawSections f tbl k := by
  induction k generalizing tbl with
  | zero => rfl
  | succ k ih =>
    simp only [rawSections]
    rw [A.u32_hi _ (by omega) (by omega), A.u32_hi _ (by omega) (by omega), ih _ (by omega) (by omega)]

/-- every field of `HeadersFull` is a read below `cur` that stays clear of the data-directory entry, or that entry's
    two values themselves: so the characterisation carries over to any `g` that agrees with `f` on such reads -/
theorem HeadersFull.frame {f g : Bytes} {h : Headers} (F : HeadersFull f h) (A : Agree f g h.m.posDDCert h.cur) :
    HeadersFull g { h with m := { h.m with certStart := u32 g h.m.posDDCert, certSize := u32 g (h.m.posDDCert + 4) } } := by
  have hEnd := F.tblEndLe
  have hdd := F.dd
  have h64 := F.pe64
  have hv := F.ddIn
  have hn : h.m.posDDCert ≤ h.cur := by omega
  have r60 : u32 g 60 = u32 f 60 := A.u32_lo _ (by omega) hn
  refine ⟨?_, ?_, F.pe64, F.off, ?_, ?_, ?_, ?_, ?_, F.dd, F.tbl, ?_, ?_, ?_, F.cur, A.2.1, ?_, rfl, rfl⟩
  · rw [A.2.2 _ _ (by omega) (Or.inl (by omega))]; exact F.mz
  · simp only; rw [r60]; exact F.pe
  · simp only; rw [A.2.2 _ _ (by omega) (Or.inl (by omega))]; exact F.sig
  · simp only; rw [A.u16_lo _ (by omega) hn]; exact F.soh
  · simp only; rw [A.u16_lo _ (by omega) hn]; exact F.nsec
  · simp only; rw [A.u16_lo _ (by omega) hn]; exact F.page
  · simp only
    rw [A.u16_lo _ (by omega) hn, A.u32_lo (h.m.peStart + 24 + 92) (by omega) hn,
      A.u32_lo (h.m.peStart + 24 + 108) (by omega) hn]
    exact F.variant
  · simp only; rw [A.u32_lo _ (by omega) hn]; exact F.fa
  · simp only; rw [A.u32_lo _ (by omega) hn]; exact F.noOverlap
  · simp only
    rw [A.u32_lo (h.m.peStart + 24 + 36) (by omega) hn, A.u32_lo (h.m.peStart + 24 + 60) (by omega) hn,
      A.rawSections_eq _ _ (by omega) (by omega)]
    exact F.fix
  · simp only
    rw [A.2.2 _ _ (by omega) (Or.inl (by omega)), A.2.2 _ _ (by omega) (Or.inl (Nat.le_refl _)),
      A.2.2 _ _ (Nat.le_refl _) (Or.inr (Nat.le_refl _))]
    exact F.hashed

theorem readHeaders_frame (f g : Bytes) (h : Headers) (hp : 64 ≤ u32 f 0x3c) (e : readHeaders f = .ok h)
    (A : Agree f g h.m.posDDCert h.cur) :
    readHeaders g = .ok { h with m := { h.m with certStart := u32 g h.m.posDDCert,
                                                   certSize := u32 g (h.m.posDDCert + 4) } } :=
  readHeaders_complete g _ ((readHeaders_full f h hp e).frame A)

theorem readSectionData_flen (flen : Nat) (ss : List Section) (i cur next c n : Nat) (ex : List (Nat × Nat × Nat))
    (e : readSectionData flen ss i cur next = .ok (c, n, ex)) (flen' : Nat) (hf : c ≤ flen') :
    readSectionData flen' ss i cur next = .ok (c, n, ex) := by
  induction ss generalizing i cur next ex with
  | nil => exact e
  | cons s rest ih =>
    rcases readSectionData_cons_ok e with ⟨hz, hr⟩ | ⟨hnz, hp, hfit, ex', hr, rfl⟩
    · rw [readSectionData, if_pos hz, ih _ _ _ _ hr]
    · have := (readSectionData_bounds _ _ _ _ _ _ _ _ hfit hr).1
      rw [readSectionData, if_neg hnz, if_neg (by simpa using hp), if_neg (by omega), ih _ _ _ _ hr]

theorem agree_signed (f : Bytes) (d : Digest) (sig : Bytes) (H : DigestOk f d) (n : Nat) (hn : n ≤ d.origSize) :
    Agree f (signedBytes f d sig) d.m.posDDCert n := by
  have hlay := H.layout
  refine ⟨by omega, by rw [signedBytes_length f d sig H]; omega, fun a b hb hab => ?_⟩
  rcases hab with hab | hab
  · exact seg_signed_prefix f d sig H a b hab
  · exact seg_signed_mid f d sig H a b hab (by omega)

theorem readHeaders_signed (f : Bytes) (d : Digest) (sig : Bytes) (h : Headers) (hp : 64 ≤ u32 f 0x3c)
    (e : DigestPE f = .ok d) (hh : readHeaders f = .ok h) (hcs : d.certStart < 2 ^ 32) (hsig : 8 + ceil8 sig.length < 2 ^ 32) :
    readHeaders (signedBytes f d sig) =
      .ok { h with m := { h.m with certStart := d.certStart, certSize := 8 + ceil8 sig.length } } := by
  have H := DigestPE_spec f d hp e
  obtain ⟨h0, cur2, ex, orig, hh0, _, hge, hle, _, _, _, hd⟩ := DigestPE_run f d hp e
  obtain rfl : h = h0 := Res.ok.inj (hh.symm.trans hh0)
  have hm : d.m = h.m := by rw [hd]
  have A := agree_signed f d sig H h.cur (by rw [hd]; simp only; omega)
  rw [hm] at A
  have hg := readHeaders_frame f _ h hp hh A
  obtain ⟨cs', cz'⟩ := u32_signed_dd f d sig H hcs hsig
  rw [hm] at cs' cz'
  rw [cs', cz'] at hg
  exact hg

/-- what `DigestPE` returns for the signed file: the image now ends where the new table begins -/
def resigned (d : Digest) (sig : Bytes) : Digest :=
  { d with origSize := d.certStart, m := { d.m with certStart := d.certStart, certSize := 8 + ceil8 sig.length } }

theorem DigestPE_signed (f : Bytes) (d : Digest) (sig : Bytes) (hp : 64 ≤ u32 f 0x3c)
    (e : DigestPE f = .ok d) (hcs : d.certStart < 2 ^ 32) (hsig : 8 + ceil8 sig.length < 2 ^ 32) :
    DigestPE (signedBytes f d sig) = .ok (resigned d sig) := by
  have H := DigestPE_spec f d hp e
  obtain ⟨h, cur2, ex, orig, hh, hs, hge, hle, _, _, _, hd⟩ := DigestPE_run f d hp e
  have F := readHeaders_full f h hp hh
  have hlay := H.layout
  -- `d`, and what is expected for the signed file, in the terms of this run
  have ho : d.origSize = orig := by rw [hd]
  have hH : d.hashed = h.hashed ++ seg f h.cur d.origSize ++ List.replicate (d.certStart - d.origSize) 0 := by
    subst hd; simp only [Nat.add_sub_cancel_left]
  have hR : resigned d sig = ⟨d.hashed, d.certStart, d.certStart,
      { h.m with certStart := d.certStart, certSize := 8 + ceil8 sig.length }, ex, h.hashed.length⟩ := by subst hd; rfl
  have hcur : d.m.posDDCert + 8 ≤ h.cur := by
    have := F.tblEndLe; have := F.ddIn; have := F.dd; rw [hd]; simp only; omega
  have hl := signedBytes_length f d sig H
  rw [DigestPE_of_run _ _ cur2 d.certStart ex (readHeaders_signed f d sig h hp e hh hcs hsig) F.cur
    (readSectionData_flen _ _ _ _ _ _ _ _ hs _ (by omega))
    (show h.cur + gapOf h.sections h.m.sizeOfHdr ≤ _ by omega)
    (Or.inr ⟨show 8 + ceil8 sig.length ≠ 0 by omega, rfl, by omega, hl⟩),
    hR, if_pos H.aligned, hH, ← seg_append _ h.cur d.origSize _ (by omega) hlay.2.2,
    seg_signed_mid f d sig H _ _ hcur (Nat.le_refl _), seg_signed_pad f d sig H]
  simp only [List.replicate_zero, List.append_nil, Nat.add_zero, List.append_assoc]

theorem signedBytes_resigned (f : Bytes) (d : Digest) (s1 s2 : Bytes) (H : DigestOk f d) :
    signedBytes (signedBytes f d s1) (resigned d s1) s2 = signedBytes f d s2 := by
  have tk : List.take d.m.posDDCert (signedBytes f d s1) = List.take d.m.posDDCert f := by
    simpa [seg] using seg_signed_prefix f d s1 H 0 d.m.posDDCert (Nat.le_refl _)
  have md := seg_signed_body f d s1 H
  generalize signedBytes f d s1 = g at tk md ⊢
  unfold signedBytes resigned
  simp only [tk, md, Nat.sub_self, List.replicate_zero, List.append_nil, List.append_assoc]

theorem findSignatures_of_full (f : Bytes) (h : Headers) (F : HeadersFull f h) :
    findSignatures f = .ok (h.m.certStart, h.m.certSize) := by
  have hEnd := F.tblEndLe
  have hcur := F.curLe
  have h64 := F.pe64
  have hsoh := F.ddIn.2.2
  obtain ⟨need, nrva, hv, hneed, hnr⟩ := F.optVariant
  unfold findSignatures
  simp only [← F.pe, ← F.soh, hv, F.certStart, F.certSize, F.dd, Res.errGuard_eq_ok, Res.panicGuard_eq_ok, ne_eq,
    Decidable.not_not, Nat.not_lt]
  exact ⟨by omega, F.mz, by omega, F.sig, by omega, by omega, by omega, hneed, hnr, trivial⟩

theorem ceil8_ceil8 (n : Nat) : ceil8 (8 + ceil8 n) = 8 + ceil8 n := by
  unfold ceil8; omega

theorem walkCerts_nil (fuel : Nat) : walkCerts fuel [] = .ok [] := by
  cases fuel <;> simp [walkCerts]

theorem walkCerts_certTable (sig : Bytes) (hsig : 8 + ceil8 sig.length < 2 ^ 32) :
    walkCerts (8 + ceil8 sig.length) (certTable sig)
      = .ok [sig ++ List.replicate (ceil8 sig.length - sig.length) 0] := by
  have hl := certTable_length sig
  have hle : sig.length ≤ ceil8 sig.length := by unfold ceil8; omega
  have e : 8 + ceil8 sig.length = (7 + ceil8 sig.length) + 1 := by omega
  have t4 : (certTable sig).take 4 = leBytes 4 (8 + ceil8 sig.length) := by
    unfold certTable
    simp only [List.append_assoc]
    rw [List.take_left' (leBytes_length 4 _)]
  have d8 : (certTable sig).drop 8 = sig ++ List.replicate (ceil8 sig.length - sig.length) 0 := by
    unfold certTable
    have : (leBytes 4 (8 + ceil8 sig.length) ++ leBytes 2 0x0200 ++ leBytes 2 0x0002).length = 8 := by simp
    simp only [List.append_assoc] at this ⊢
    rw [← List.append_assoc (leBytes 2 512), ← List.append_assoc (leBytes 4 _), List.drop_left' (by simp)]
  have ne : (certTable sig).isEmpty = false := by
    cases hc : certTable sig with
    | nil => rw [hc] at hl; simp at hl; omega
    | cons _ _ => rfl
  conv => lhs; rw [e]
  unfold walkCerts
  rw [ne]
  simp only [Bool.false_eq_true, if_false]
  rw [t4, leVal_leBytes_of_lt 4 _ (by omega), ceil8_ceil8, hl, if_neg (by omega), if_neg (by omega)]
  rw [List.drop_eq_nil_of_le (by omega), walkCerts_nil, d8]
  have : 8 + ceil8 sig.length - 8 = (sig ++ List.replicate (ceil8 sig.length - sig.length) (0 : UInt8)).length := by
    simp; omega
  rw [this, List.take_length]

theorem locate_signed (f : Bytes) (d : Digest) (sig : Bytes) (hp : 64 ≤ u32 f 0x3c)
    (e : DigestPE f = .ok d) (hcs : d.certStart < 2 ^ 32) (hsig : 8 + ceil8 sig.length < 2 ^ 32) :
    locate (signedBytes f d sig) = .ok [sig ++ List.replicate (ceil8 sig.length - sig.length) 0] := by
  have H := DigestPE_spec f d hp e
  obtain ⟨h, _, _, _, hh, _⟩ := DigestPE_run f d hp e
  have hg := readHeaders_signed f d sig h hp e hh hcs hsig
  have F' := readHeaders_full _ _ (by rw [u32_signed_lfanew f d sig H]; exact hp) hg
  have hf := findSignatures_of_full _ _ F'
  simp only at hf
  have hl := signedBytes_length f d sig H
  have ht := seg_signed_table f d sig H
  unfold locate
  rw [hf]
  simp only
  rw [if_neg (by omega), if_neg (by omega), ht]
  exact walkCerts_certTable sig hsig

end Relic.PE
