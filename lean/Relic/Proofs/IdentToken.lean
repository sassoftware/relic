/-
  Relic.Proofs.IdentToken — the strong-name key blob of the model equals the specification's; where the key
  material stands in the blob; the selection of digest bytes.
-/
import Relic.Model.Ident
import Relic.Spec.Ident
import Relic.Proofs.Codec
namespace Relic.Ident

theorem natLE_zero : natLE 0 = [] := by rw [natLE]; simp

theorem natLE_pos (n : Nat) (h : n ≠ 0) : natLE n = UInt8.ofNat (n % 256) :: natLE (n / 256) := by
  rw [natLE]; simp [h]

theorem byteLen_zero : Spec.Ident.byteLen 0 = 0 := by rw [Spec.Ident.byteLen]; simp

theorem byteLen_pos (n : Nat) (h : n ≠ 0) : Spec.Ident.byteLen n = Spec.Ident.byteLen (n / 256) + 1 := by
  rw [Spec.Ident.byteLen]; simp [h]

/-- the swap loop of `bigIntToLE` undoes the big-endian order of `Bytes()` -/
theorem bigIntToLE_eq (n : Nat) : bigIntToLE n = natLE n := by simp [bigIntToLE, natBE]

theorem natLE_eq_leBytes (n : Nat) : natLE n = leBytes (Spec.Ident.byteLen n) n := by
  induction n using Nat.strongRecOn with
  | _ n ih =>
    by_cases h : n = 0
    · subst h; simp [natLE_zero, byteLen_zero, leBytes]
    · rw [natLE_pos n h, byteLen_pos n h, leBytes, ih (n / 256) (by omega)]

theorem natLE_length (n : Nat) : (natLE n).length = Spec.Ident.byteLen n := by
  rw [natLE_eq_leBytes]; simp

theorem leVal_natLE (n : Nat) : leVal (natLE n) = n := by
  induction n using Nat.strongRecOn with
  | _ n ih =>
    by_cases h : n = 0
    · subst h; simp [natLE_zero, leVal]
    · rw [natLE_pos n h, leVal, ih (n / 256) (by omega)]
      have : (UInt8.ofNat (n % 256)).toNat = n % 256 := by
        simp [UInt8.toNat_ofNat']
      rw [this]; omega

theorem natLE_injective (a b : Nat) (h : natLE a = natLE b) : a = b := by
  have := congrArg leVal h
  rwa [leVal_natLE, leVal_natLE] at this

theorem natBE_injective (a b : Nat) (h : natBE a = natBE b) : a = b := by
  apply natLE_injective
  have := congrArg List.reverse h
  simpa [natBE] using this

theorem byteLen_le (n k : Nat) (h : n < 256 ^ k) : Spec.Ident.byteLen n ≤ k := by
  induction k generalizing n with
  | zero =>
    have : n = 0 := by simpa using h
    subst this; simp [byteLen_zero]
  | succ k ih =>
    by_cases h0 : n = 0
    · subst h0; simp [byteLen_zero]
    · rw [byteLen_pos n h0]
      have : n / 256 < 256 ^ k := by
        rw [Nat.div_lt_iff_lt_mul (by decide)]; rw [Nat.pow_succ] at h; exact h
      have := ih (n / 256) this
      omega

theorem magic_bytes : leBytes 4 bcryptRsaPubMagic = [0x52, 0x53, 0x41, 0x31] := by decide

theorem capi_length (n e : Nat) : (Spec.Ident.capiPublicKeyBlob n e).length = 20 + Spec.Ident.byteLen n := by
  simp [Spec.Ident.capiPublicKeyBlob, Spec.Ident.publicKeyStruc, Spec.Ident.rsaPubKey, Spec.Ident.field]
  omega

theorem snkRsa_eq_spec (n e : Nat) : snkRsa n e = Spec.Ident.strongNameBlob n e := by
  unfold Spec.Ident.strongNameBlob
  simp only [capi_length]
  unfold snkRsa snkHeader Spec.Ident.capiPublicKeyBlob Spec.Ident.publicKeyStruc Spec.Ident.rsaPubKey Spec.Ident.field
  simp only [bigIntToLE_eq, natLE_length, magic_bytes]
  rw [natLE_eq_leBytes]
  simp [calgRsaSign, calgSha1, snkRsaPub, snkRsaVersion, List.append_assoc]

/-- 28 = the 20-byte header + the 4-byte magic + the 4-byte bit length in front of the exponent -/
theorem snkRsa_split (n e : Nat) :
    ∃ pre : Bytes, pre.length = 28 ∧ snkRsa n e = pre ++ (leBytes 4 e ++ natLE n) := by
  refine ⟨snkHeader calgRsaSign calgSha1 (20 + (natLE n).length) snkRsaPub snkRsaVersion 0 calgRsaSign
    ++ leBytes 4 bcryptRsaPubMagic ++ leBytes 4 (8 * (natLE n).length), ?_, ?_⟩
  · simp [snkHeader]
  · simp [snkRsa, bigIntToLE_eq, List.append_assoc]

/-- the exponent field is 32 bits wide: `uint32(k.E)` -/
theorem snkRsa_exponent_mod (n e : Nat) : snkRsa n e = snkRsa n (e % 2 ^ 32) := by
  simp only [snkRsa, show 2 ^ 32 = 256 ^ 4 from rfl, leBytes_mod]

theorem tokenSel_eq (d : Bytes) (h : d.length = 20) : tokenSel d = .ok ((d.drop 12).reverse) := by
  match d, h with
  | [b0, b1, b2, b3, b4, b5, b6, b7, b8, b9, b10, b11, b12, b13, b14, b15, b16, b17, b18, b19], _ =>
    rfl

theorem tokenSel_eq_spec (d : Bytes) (h : d.length = 20) : tokenSel d = .ok (Spec.Ident.tokenOfDigest d) := by
  rw [tokenSel_eq d h, Spec.Ident.tokenOfDigest, h]
  have : (d.drop 12).length = 8 := by simp [h]
  rw [show (20 - 8 : Nat) = 12 from rfl, ← this, beBytes_leVal]

theorem tokenSel_short (d : Bytes) (h : d.length < 20) : tokenSel d = .panic "publictoken.go:PublicKeyToken:sum[19-i]" := by
  have : d[19]? = none := by simp; omega
  simp [tokenSel, List.range, List.range.loop, List.mapM_cons, this]

theorem natBE_length_le (x k : Nat) (h : x < 256 ^ k) : (natBE x).length ≤ k := by
  simp only [natBE, List.length_reverse, natLE_length]
  exact byteLen_le x k h

/-- 24 = the 20-byte header + the 4-byte magic in front of the coordinate length -/
theorem snkEcdsa_split (m x y : Nat) :
    ∃ pre : Bytes, pre.length = 24 ∧ snkEcdsa m x y = pre ++ (leBytes 4 (natBE x).length ++ (natBE x ++ natBE y)) := by
  refine ⟨snkHeader calgEcdsa calgSha1 (12 + 2 * (natBE x).length) snkRsaPub snkRsaVersion 0 calgEcdsa ++ leBytes 4 m, ?_, ?_⟩
  · simp [snkHeader]
  · simp [snkEcdsa, List.append_assoc]

end Relic.Ident
