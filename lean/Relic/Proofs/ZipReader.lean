/-
  Relic.Proofs.ZipReader — the member reads of `Relic.Model.Zip`.

  A successful `readLocalHeader` / `readDataDesc` says three things that do not interact: what the BYTES are (`HdrAt`,
  `DescAt`: no reader in them), where the reader STOOD (`Rd.before`: a stream not beyond the offset), and where it is LEFT
  (`Rd.to`).  Each read has this as an implication and, inside the `int64` range, as an equivalence, for either kind of
  reader; running the same reads on another reader, or on other bytes with the same stretch, is then `mpr ∘ mp`.
-/
import Relic.Proofs.ZipCodec
namespace Relic.Zip

abbrev lfhOf (b name extra : Bytes) : Lfh :=
  { reader := fld b 4 2, flags := fld b 6 2, method := fld b 8 2, mtime := fld b 10 2, mdate := fld b 12 2,
    crc := fld b 14 4, csize := fld b 18 4, usize := fld b 22 4, nameLen := fld b 26 2, extraLen := fld b 28 2,
    name := name, extra := extra }

theorem lfhOf_nameLen (b name extra : Bytes) : (lfhOf b name extra).nameLen = fld b 26 2 := rfl
theorem lfhOf_extraLen (b name extra : Bytes) : (lfhOf b name extra).extraLen = fld b 28 2 := rfl

theorem readLocalHeader_ok_iff {r r' : Rd} {f : File} {l : Lfh} (hl : f.lfh = none) :
    readLocalHeader r f = .ok (l, r') ↔
      ∃ b r1 name r2 extra, r.readFullAt f.offset 30 = .ok (b, r1) ∧ fld b 0 4 = sigFile ∧
        r1.readFullAt (f.offset + 30) (fld b 26 2) = .ok (name, r2) ∧
        r2.readFullAt (f.offset + 30 + fld b 26 2) (fld b 28 2) = .ok (extra, r') ∧ l = lfhOf b name extra := by
  unfold readLocalHeader
  rw [hl]
  simp only
  constructor
  · intro h
    cases h1 : r.readFullAt f.offset 30 with
    | ok x =>
      obtain ⟨b, r1⟩ := x
      rw [h1] at h
      simp only at h
      by_cases hsig : fld b 0 4 ≠ sigFile
      · rw [if_pos hsig] at h; cases h
      rw [if_neg hsig] at h
      cases h2 : r1.readFullAt (f.offset + 30) (fld b 26 2) with
      | ok x2 =>
        obtain ⟨name, r2⟩ := x2
        rw [h2] at h
        simp only at h
        cases h3 : r2.readFullAt (f.offset + 30 + fld b 26 2) (fld b 28 2) with
        | ok x3 =>
          obtain ⟨extra, r3⟩ := x3
          rw [h3] at h
          simp only [Res.ok.injEq, Prod.mk.injEq] at h
          obtain ⟨rfl, rfl⟩ := h
          exact ⟨b, r1, name, r2, extra, rfl, Decidable.of_not_not hsig, h2, h3, rfl⟩
        | err | panic | diverge => rw [h3] at h; cases h
      | err | panic | diverge => rw [h2] at h; cases h
    | err | panic | diverge => rw [h1] at h; cases h
  · rintro ⟨b, r1, name, r2, extra, h1, hsig, h2, h3, rfl⟩
    rw [h1]
    simp only
    rw [if_neg (by rw [hsig]; exact fun c => c rfl), h2]
    simp only
    rw [h3]

abbrev descPos (f : File) (l : Lfh) : Nat := f.offset + (30 + l.name.length + l.extra.length) + f.csize

theorem readDataDesc_ok_iff {r r' : Rd} {f : File} {l : Lfh} {d : Bytes} {c : Nat} (hd : f.ddb = []) :
    readDataDesc r f l = .ok (d, c, r') ↔
      (l.flags % 16 / 8 = 0 ∧ d = [] ∧ c = f.crc ∧ r' = r) ∨
      (l.flags % 16 / 8 ≠ 0 ∧ ∃ d16 r1, r.readAt (descPos f l) 16 = .ok (d16, r1) ∧ fld d16 0 4 = sigDesc ∧
        if inferWide f.csize f.usize d16 = true then
          ∃ d8, r1.readAt (descPos f l + 16) 8 = .ok (d8, r') ∧ fld (d16 ++ d8) 8 8 = f.csize ∧
            fld (d16 ++ d8) 16 8 = f.usize ∧ d = d16 ++ d8 ∧ c = fld (d16 ++ d8) 4 4
        else d = d16 ∧ c = fld d16 4 4 ∧ r' = r1) := by
  unfold readDataDesc
  by_cases hf : l.flags % 16 / 8 = 0
  · rw [if_pos hf]
    simp only [Res.ok.injEq, Prod.mk.injEq]
    constructor
    · rintro ⟨rfl, rfl, rfl⟩
      exact Or.inl ⟨hf, rfl, rfl, rfl⟩
    · rintro (⟨_, rfl, rfl, rfl⟩ | ⟨h, _⟩)
      · exact ⟨rfl, rfl, rfl⟩
      · exact absurd hf h
  · rw [if_neg hf, if_neg (by rw [hd]; exact fun c => c rfl)]
    simp only
    constructor
    · intro h
      refine Or.inr ⟨hf, ?_⟩
      cases h1 : r.readAt (descPos f l) 16 with
      | ok x =>
        obtain ⟨d16, r1⟩ := x
        rw [h1] at h
        simp only at h
        by_cases hsig : fld d16 0 4 ≠ sigDesc
        · rw [if_pos hsig] at h; cases h
        rw [if_neg hsig] at h
        refine ⟨d16, r1, rfl, Decidable.of_not_not hsig, ?_⟩
        by_cases hw : inferWide f.csize f.usize d16 = true
        · rw [if_pos hw] at h ⊢
          cases h2 : r1.readAt (descPos f l + 16) 8 with
          | ok x2 =>
            obtain ⟨d8, r2⟩ := x2
            rw [h2] at h
            simp only at h
            by_cases hbad : fld (d16 ++ d8) 8 8 ≠ f.csize ∨ fld (d16 ++ d8) 16 8 ≠ f.usize
            · rw [if_pos hbad] at h; cases h
            rw [if_neg hbad] at h
            simp only [Res.ok.injEq, Prod.mk.injEq] at h
            obtain ⟨rfl, rfl, rfl⟩ := h
            simp only [not_or, Decidable.not_not] at hbad
            exact ⟨d8, rfl, hbad.1, hbad.2, rfl, rfl⟩
          | err | panic | diverge => rw [h2] at h; cases h
        · rw [if_neg hw] at h ⊢
          simp only [Res.ok.injEq, Prod.mk.injEq] at h
          obtain ⟨rfl, rfl, rfl⟩ := h
          exact ⟨rfl, rfl, rfl⟩
      | err | panic | diverge => rw [h1] at h; cases h
    · rintro (⟨h, _⟩ | ⟨_, d16, r1, h1, hsig, h⟩)
      · exact absurd h hf
      · rw [h1]
        simp only
        rw [if_neg (by rw [hsig]; exact fun c => c rfl)]
        by_cases hw : inferWide f.csize f.usize d16 = true
        · rw [if_pos hw] at h ⊢
          obtain ⟨d8, h2, e1, e2, rfl, rfl⟩ := h
          rw [h2]
          simp only
          rw [if_neg (by rw [e1, e2]; simp)]
        · rw [if_neg hw] at h ⊢
          obtain ⟨rfl, rfl, rfl⟩ := h
          rfl

theorem getTotalSize_ok_iff {r r' : Rd} {f : File} {m : Member} :
    getTotalSize r f = .ok (m, r') ↔
      ∃ l r1 ddb crc, readLocalHeader r f = .ok (l, r1) ∧ readDataDesc r1 f l = .ok (ddb, crc, r') ∧
        m = { file := { f with crc := crc, lfh := some l, ddb := ddb }, lfh := l,
              dataOff := f.offset + 30 + l.nameLen + l.extraLen,
              total := 30 + (l.name.length + l.extra.length + ddb.length) + f.csize } := by
  unfold getTotalSize
  constructor
  · intro h
    cases h1 : readLocalHeader r f with
    | ok x =>
      obtain ⟨l, r1⟩ := x
      rw [h1] at h
      simp only at h
      cases h2 : readDataDesc r1 f l with
      | ok x2 =>
        obtain ⟨ddb, crc, r2⟩ := x2
        rw [h2] at h
        simp only [Res.ok.injEq, Prod.mk.injEq] at h
        obtain ⟨rfl, rfl⟩ := h
        exact ⟨l, r1, ddb, crc, rfl, h2, rfl⟩
      | err | panic | diverge => rw [h2] at h; cases h
    | err | panic | diverge => rw [h1] at h; cases h
  · rintro ⟨l, r1, ddb, crc, h1, h2, rfl⟩
    rw [h1]
    simp only
    rw [h2]

/-- the random-access reader over `z` -/
abbrev RA (z : Bytes) : Rd := ⟨z, false, 0⟩

/-- the stream over `z` with `p` bytes consumed -/
abbrev ST (z : Bytes) (p : Nat) : Rd := ⟨z, true, p⟩

/-- the reader after a read that ended at `p`: a stream stands there, random access has no state -/
def Rd.to (r : Rd) (p : Nat) : Rd := if r.stream = true then { r with pos := p } else r

@[simp] theorem Rd.to_z (r : Rd) (p : Nat) : (r.to p).z = r.z := by unfold Rd.to; split <;> rfl
@[simp] theorem Rd.to_stream (r : Rd) (p : Nat) : (r.to p).stream = r.stream := by unfold Rd.to; split <;> rfl
theorem Rd.to_pos (r : Rd) (p : Nat) (h : r.stream = true) : (r.to p).pos = p := by unfold Rd.to; rw [if_pos h]
@[simp] theorem Rd.to_to (r : Rd) (p q : Nat) : (r.to p).to q = r.to q := by
  unfold Rd.to; by_cases h : r.stream = true <;> simp [h]

theorem Rd.to_st (z : Bytes) (p q : Nat) : (ST z p).to q = ST z q := rfl

/-- every read issued so far ended at or before `p` (no constraint on a random-access reader) -/
def Rd.before (r : Rd) (p : Nat) : Prop := r.stream = true → r.pos ≤ p

theorem Rd.before_to (r : Rd) {p q : Nat} (h : p ≤ q) : (r.to p).before q := fun hs => by
  rw [Rd.to_pos _ _ (by simpa using hs)]; exact h

theorem Rd.readAt_to {r r' : Rd} {off n : Nat} {x : Bytes} (h : r.readAt off n = .ok (x, r')) :
    off + n ≤ r.z.length ∧ x = (r.z.drop off).take n ∧ r.before off ∧ r' = r.to (off + n) := by
  obtain ⟨z, s, p⟩ := r
  obtain ⟨-, h2, h3, h4, h5⟩ := Rd.readAt_ok h
  refine ⟨h2, h3, fun hs => (h4 hs).1, ?_⟩
  cases s
  · exact (h5 rfl).2
  · exact (h4 rfl).2

theorem Rd.readAt_iff {r r' : Rd} {off n : Nat} {x : Bytes} (h63 : r.z.length < 2 ^ 63) (hn : 0 < n) :
    r.readAt off n = .ok (x, r') ↔
      off + n ≤ r.z.length ∧ x = (r.z.drop off).take n ∧ r.before off ∧ r' = r.to (off + n) := by
  refine ⟨Rd.readAt_to, ?_⟩
  obtain ⟨z, s, p⟩ := r
  rintro ⟨h2, rfl, h4, rfl⟩
  unfold Rd.readAt
  rw [if_neg (by simp only at h63 h2; omega)]
  cases s
  · simp only [Bool.false_eq_true, if_false]
    rw [if_neg (by simp only at h2 ⊢; omega), if_pos h2]; rfl
  · have := h4 rfl
    simp only [if_true]
    rw [if_neg (by simp only at this ⊢; omega), if_pos h2]; rfl

/-- `io.ReadFull` through a section reader, on a reader that stands at `off` if it is a stream (as after a read that ended
    there): an empty request changes nothing, so in both cases the reader ends at `off + n` -/
theorem Rd.readFullAt_to {r r' : Rd} {off n : Nat} {x : Bytes} (h : (r.to off).readFullAt off n = .ok (x, r')) :
    x = (r.z.drop off).take n ∧ (n ≠ 0 → off + n ≤ r.z.length) ∧ r' = r.to (off + n) := by
  unfold Rd.readFullAt at h
  by_cases hn : n = 0
  · subst hn
    rw [if_pos rfl] at h
    simp only [Res.ok.injEq, Prod.mk.injEq] at h
    obtain ⟨rfl, rfl⟩ := h
    exact ⟨by simp, fun c => absurd rfl c, rfl⟩
  · rw [if_neg hn] at h
    obtain ⟨a, b, -, d⟩ := Rd.readAt_to h
    simp only [Rd.to_z, Rd.to_to] at a b d
    exact ⟨b, fun _ => a, d⟩

theorem Rd.readFullAt_to_iff {r r' : Rd} {off n : Nat} {x : Bytes} (h63 : r.z.length < 2 ^ 63) :
    (r.to off).readFullAt off n = .ok (x, r') ↔
      x = (r.z.drop off).take n ∧ (n ≠ 0 → off + n ≤ r.z.length) ∧ r' = r.to (off + n) := by
  refine ⟨Rd.readFullAt_to, ?_⟩
  rintro ⟨b, c, d⟩
  unfold Rd.readFullAt
  by_cases hn : n = 0
  · subst hn
    rw [if_pos rfl, b, d]; simp
  · rw [if_neg hn, Rd.readAt_iff (by simpa using h63) (by omega)]
    simp only [Rd.to_z, Rd.to_to]
    exact ⟨c hn, b, Rd.before_to _ (Nat.le_refl _), d⟩

/-- the bytes at `f.offset` are a local header that reads as `l` -/
def HdrAt (z : Bytes) (f : File) (l : Lfh) : Prop :=
  f.offset + 30 + fld (z.drop f.offset) 26 2 + fld (z.drop f.offset) 28 2 ≤ z.length ∧
  fld (z.drop f.offset) 0 4 = sigFile ∧
  l = lfhOf ((z.drop f.offset).take 30) ((z.drop (f.offset + 30)).take (fld (z.drop f.offset) 26 2))
        ((z.drop (f.offset + 30 + fld (z.drop f.offset) 26 2)).take (fld (z.drop f.offset) 28 2))

theorem HdrAt.lens {z : Bytes} {f : File} {l : Lfh} (h : HdrAt z f l) :
    l.nameLen = fld (z.drop f.offset) 26 2 ∧ l.extraLen = fld (z.drop f.offset) 28 2 ∧
    l.name.length = l.nameLen ∧ l.extra.length = l.extraLen ∧ l.flags = fld (z.drop f.offset) 6 2 := by
  obtain ⟨hb, -, rfl⟩ := h
  have e26 := fld_take (z.drop f.offset) 30 26 2 (by omega)
  have e28 := fld_take (z.drop f.offset) 30 28 2 (by omega)
  have e6 := fld_take (z.drop f.offset) 30 6 2 (by omega)
  refine ⟨e26, e28, ?_, ?_, e6⟩
  · show ((z.drop (f.offset + 30)).take _).length = fld _ 26 2
    rw [e26, List.length_take, List.length_drop]; omega
  · show ((z.drop (f.offset + 30 + _)).take _).length = fld _ 28 2
    rw [e28, List.length_take, List.length_drop]; omega

theorem readLocalHeader_hdrAt {r r' : Rd} {f : File} {l : Lfh} (hl : f.lfh = none) (h : readLocalHeader r f = .ok (l, r')) :
    HdrAt r.z f l ∧ r.before f.offset ∧ r' = r.to (f.offset + 30 + l.nameLen + l.extraLen) := by
  obtain ⟨b, r1, name, r2, extra, h1, hsig, h2, h3, rfl⟩ := (readLocalHeader_ok_iff hl).mp h
  have e0 := fld_take (r.z.drop f.offset) 30 0 4 (by omega)
  have e26 := fld_take (r.z.drop f.offset) 30 26 2 (by omega)
  have e28 := fld_take (r.z.drop f.offset) 30 28 2 (by omega)
  obtain ⟨c1, rfl, c1', rfl⟩ := Rd.readAt_to (n := 30) h1
  obtain ⟨rfl, c2, rfl⟩ := Rd.readFullAt_to h2
  obtain ⟨rfl, c3, rfl⟩ := Rd.readFullAt_to h3
  rw [e0] at hsig
  rw [e26] at c2
  rw [e26, e28] at c3
  refine ⟨⟨?_, hsig, by rw [e26, e28]⟩, c1', by rw [lfhOf_nameLen, lfhOf_extraLen]⟩
  by_cases he : fld (r.z.drop f.offset) 28 2 = 0
  · by_cases hn : fld (r.z.drop f.offset) 26 2 = 0
    · omega
    · have := c2 hn; omega
  · exact c3 he

theorem readLocalHeader_iff {r r' : Rd} {f : File} {l : Lfh} (hl : f.lfh = none) (h63 : r.z.length < 2 ^ 63) :
    readLocalHeader r f = .ok (l, r') ↔
      HdrAt r.z f l ∧ r.before f.offset ∧ r' = r.to (f.offset + 30 + l.nameLen + l.extraLen) := by
  refine ⟨readLocalHeader_hdrAt hl, ?_⟩
  rw [readLocalHeader_ok_iff hl]
  have e0 := fld_take (r.z.drop f.offset) 30 0 4 (by omega)
  have e26 := fld_take (r.z.drop f.offset) 30 26 2 (by omega)
  have e28 := fld_take (r.z.drop f.offset) 30 28 2 (by omega)
  rintro ⟨⟨hb, hsig, rfl⟩, hp, rfl⟩
  refine ⟨_, _, _, _, _, (Rd.readAt_iff h63 (by omega)).mpr ⟨by omega, rfl, hp, rfl⟩, by rw [e0]; exact hsig,
    (Rd.readFullAt_to_iff h63).mpr ⟨rfl, fun _ => by rw [e26]; omega, rfl⟩,
    (Rd.readFullAt_to_iff h63).mpr ⟨rfl, fun _ => by rw [e26, e28]; omega, ?_⟩, by rw [e26, e28]⟩
  rw [lfhOf_nameLen, lfhOf_extraLen]

/-- the bytes behind the data of `f` are the descriptor `d` carrying the CRC `c`, as `readDataDesc` takes it (none when the
    local flags announce none) -/
def DescAt (z : Bytes) (f : File) (l : Lfh) (d : Bytes) (c : Nat) : Prop :=
  if l.flags % 16 / 8 = 0 then d = [] ∧ c = f.crc else
    descPos f l + 16 ≤ z.length ∧ fld (z.drop (descPos f l)) 0 4 = sigDesc ∧ c = fld (z.drop (descPos f l)) 4 4 ∧
    if inferWide f.csize f.usize ((z.drop (descPos f l)).take 16) = true then
      descPos f l + 24 ≤ z.length ∧ fld (z.drop (descPos f l)) 8 8 = f.csize ∧ fld (z.drop (descPos f l)) 16 8 = f.usize ∧
      d = (z.drop (descPos f l)).take 24
    else d = (z.drop (descPos f l)).take 16

theorem DescAt.length {z : Bytes} {f : File} {l : Lfh} {d : Bytes} {c : Nat} (h : DescAt z f l d c) :
    if l.flags % 16 / 8 = 0 then d = [] else d.length = 16 ∨ d.length = 24 := by
  unfold DescAt at h
  split
  · next hf => rw [if_pos hf] at h; exact h.1
  · next hf =>
    rw [if_neg hf] at h
    obtain ⟨c1, -, -, hw⟩ := h
    split at hw
    · right; rw [hw.2.2.2, List.length_take, List.length_drop]; omega
    · left; rw [hw, List.length_take, List.length_drop]; omega

theorem readDataDesc_descAt {r r' : Rd} {f : File} {l : Lfh} {d : Bytes} {c : Nat} (hd : f.ddb = [])
    (h : readDataDesc r f l = .ok (d, c, r')) :
    DescAt r.z f l d c ∧ (l.flags % 16 / 8 ≠ 0 → r.before (descPos f l)) ∧
    r' = if l.flags % 16 / 8 = 0 then r else r.to (descPos f l + d.length) := by
  unfold DescAt
  rcases (readDataDesc_ok_iff hd).mp h with ⟨hf, rfl, rfl, rfl⟩ | ⟨hf, d16, r1, h1, hsig, hw⟩
  · rw [if_pos hf, if_pos hf]; exact ⟨⟨rfl, rfl⟩, fun c => absurd hf c, rfl⟩
  · rw [if_neg hf, if_neg hf]
    have e0 := fld_take (r.z.drop (descPos f l)) 16 0 4 (by omega)
    have e4 := fld_take (r.z.drop (descPos f l)) 16 4 4 (by omega)
    obtain ⟨c1, rfl, c1', rfl⟩ := Rd.readAt_to h1
    have l16 : ((r.z.drop (descPos f l)).take 16).length = 16 := by rw [List.length_take, List.length_drop]; omega
    rw [e0] at hsig
    by_cases hwide : inferWide f.csize f.usize ((r.z.drop (descPos f l)).take 16) = true
    · rw [if_pos hwide] at hw ⊢
      obtain ⟨d8, h2, k1, k2, rfl, rfl⟩ := hw
      obtain ⟨c2, rfl, -, rfl⟩ := Rd.readAt_to h2
      simp only [Rd.to_z, Rd.to_to] at k1 k2 c2 ⊢
      have l24 : ((r.z.drop (descPos f l)).take 24).length = 24 := by rw [List.length_take, List.length_drop]; omega
      rw [take_drop_append, fld_take _ 24 8 8 (by omega)] at k1
      rw [take_drop_append, fld_take _ 24 16 8 (by omega)] at k2
      rw [take_drop_append, fld_take _ 24 4 4 (by omega), l24]
      exact ⟨⟨c1, hsig, rfl, by omega, k1, k2, rfl⟩, fun _ => c1', rfl⟩
    · rw [if_neg hwide] at hw ⊢
      obtain ⟨rfl, rfl, rfl⟩ := hw
      rw [l16, e4]
      exact ⟨⟨c1, hsig, rfl, rfl⟩, fun _ => c1', rfl⟩

theorem readDataDesc_iff {r r' : Rd} {f : File} {l : Lfh} {d : Bytes} {c : Nat} (hd : f.ddb = []) (h63 : r.z.length < 2 ^ 63) :
    readDataDesc r f l = .ok (d, c, r') ↔
      DescAt r.z f l d c ∧ (l.flags % 16 / 8 ≠ 0 → r.before (descPos f l)) ∧
      r' = if l.flags % 16 / 8 = 0 then r else r.to (descPos f l + d.length) := by
  refine ⟨readDataDesc_descAt hd, ?_⟩
  rw [readDataDesc_ok_iff hd]
  unfold DescAt
  by_cases hf : l.flags % 16 / 8 = 0
  · rw [if_pos hf, if_pos hf]
    rintro ⟨⟨rfl, rfl⟩, -, rfl⟩
    exact Or.inl ⟨hf, rfl, rfl, rfl⟩
  · rw [if_neg hf, if_neg hf]
    rintro ⟨⟨c1, hsig, rfl, hw⟩, hp, rfl⟩
    have e0 := fld_take (r.z.drop (descPos f l)) 16 0 4 (by omega)
    have e4 := fld_take (r.z.drop (descPos f l)) 16 4 4 (by omega)
    refine Or.inr ⟨hf, _, _, (Rd.readAt_iff h63 (by omega)).mpr ⟨c1, rfl, hp hf, rfl⟩, by rw [e0]; exact hsig, ?_⟩
    by_cases hwide : inferWide f.csize f.usize ((r.z.drop (descPos f l)).take 16) = true
    · rw [if_pos hwide] at hw ⊢
      obtain ⟨c2, k1, k2, rfl⟩ := hw
      have l24 : ((r.z.drop (descPos f l)).take 24).length = 24 := by rw [List.length_take, List.length_drop]; omega
      refine ⟨_, (Rd.readAt_iff (by simpa using h63) (by omega)).mpr
        ⟨by simpa using (by omega : descPos f l + 16 + 8 ≤ r.z.length), rfl, Rd.before_to _ (Nat.le_refl _), ?_⟩, ?_⟩
      · rw [Rd.to_to, l24]
      · simp only [Rd.to_z]
        rw [take_drop_append, fld_take _ 24 8 8 (by omega), fld_take _ 24 16 8 (by omega), fld_take _ 24 4 4 (by omega)]
        exact ⟨k1, k2, rfl, rfl⟩
    · rw [if_neg hwide] at hw ⊢
      subst hw
      have l16 : ((r.z.drop (descPos f l)).take 16).length = 16 := by rw [List.length_take, List.length_drop]; omega
      rw [l16, e4]
      exact ⟨rfl, rfl, rfl⟩

theorem HdrAt.congr {z z' : Bytes} {f : File} {l : Lfh} {P : Nat} (h : HdrAt z f l) (hp : z'.take P = z.take P)
    (hle : f.offset + 30 + l.name.length + l.extra.length ≤ P) (hP : P ≤ z'.length) : HdrAt z' f l := by
  obtain ⟨e1, e2, e3, e4, -⟩ := h.lens
  rw [e3, e4, e1, e2] at hle
  obtain ⟨-, hsig, rfl⟩ := h
  have F := fun k w (hk : k + w ≤ 30) => fld_prefix hp f.offset k w (by omega)
  have S := fun off n (hk : off + n ≤ P) => seg_eq_of_take hp off n hk
  refine ⟨by rw [F 26 2 (by omega), F 28 2 (by omega)]; omega, by rw [F 0 4 (by omega)]; exact hsig, ?_⟩
  rw [F 26 2 (by omega), F 28 2 (by omega), S f.offset 30 (by omega), S (f.offset + 30) _ (by omega), S (f.offset + 30 + _) _ (by omega)]

theorem DescAt.congr {z z' : Bytes} {f : File} {l : Lfh} {d : Bytes} {c : Nat} {P : Nat} (h : DescAt z f l d c)
    (hp : z'.take P = z.take P) (hle : descPos f l + d.length ≤ P) (hP : P ≤ z'.length) : DescAt z' f l d c := by
  unfold DescAt at h ⊢
  by_cases hf : l.flags % 16 / 8 = 0
  · rw [if_pos hf] at h ⊢; exact h
  · rw [if_neg hf] at h ⊢
    obtain ⟨c1, hsig, rfl, hw⟩ := h
    have hd : 16 ≤ d.length ∧ (inferWide f.csize f.usize ((z.drop (descPos f l)).take 16) = true → d.length = 24) := by
      split at hw
      · rw [hw.2.2.2, List.length_take, List.length_drop]; omega
      · rw [hw, List.length_take, List.length_drop]; exact ⟨by omega, fun c => absurd c (by assumption)⟩
    have F := fun k w (hk : k + w ≤ 16) => fld_prefix hp (descPos f l) k w (by omega)
    have S := fun n (hk : descPos f l + n ≤ P) => seg_eq_of_take hp (descPos f l) n hk
    rw [F 0 4 (by omega), F 4 4 (by omega), S 16 (by omega)]
    refine ⟨by omega, hsig, rfl, ?_⟩
    split
    · next hwide =>
      rw [if_pos hwide] at hw
      have := hd.2 hwide
      rw [fld_prefix hp (descPos f l) 8 8 (by omega), fld_prefix hp (descPos f l) 16 8 (by omega), S 24 (by omega)]
      exact ⟨by omega, hw.2.1, hw.2.2.1, hw.2.2.2⟩
    · next hwide => rw [if_neg hwide] at hw; exact hw

end Relic.Zip
