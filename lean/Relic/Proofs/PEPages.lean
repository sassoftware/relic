/- The page-hash part of the PE model: what `DigestPE` records for `pageHashInputs` (`d.extents`, `d.hdrLen`, `d.m`) in
   terms of the section table of the file, and the bridge to `Spec.PageHashes`: `pageChunks` in closed form, the pages of a
   section, the table's last label. -/
import Relic.Proofs.PE
import Relic.Spec.PageHashes
import Relic.Proofs.Lists
namespace Relic.PE

theorem pageChunks_zero (ps pos phys : Nat) : pageChunks ps pos phys 0 = [] := by
  rw [pageChunks]; simp

theorem pageChunks_pos (ps pos phys rem : Nat) (hps : 0 < ps) (hr : 0 < rem) :
    pageChunks ps pos phys rem =
      (pos % 2 ^ 32, phys, (if rem > ps then ps else rem)) ::
        pageChunks ps (pos + (if rem > ps then ps else rem)) (phys + (if rem > ps then ps else rem))
          (rem - (if rem > ps then ps else rem)) := by
  rw [pageChunks]
  simp [hps, hr]

theorem pageChunks_small (ps pos phys rem : Nat) (hps : 0 < ps) (h0 : 0 < rem) (hle : rem ≤ ps) :
    pageChunks ps pos phys rem = [(pos % 2 ^ 32, phys, rem)] := by
  rw [pageChunks_pos ps pos phys rem hps h0, if_neg (by omega), Nat.sub_self, pageChunks_zero]

theorem pageChunks_big (ps pos phys rem : Nat) (hps : 0 < ps) (hgt : ps < rem) :
    pageChunks ps pos phys rem = (pos % 2 ^ 32, phys, ps) :: pageChunks ps (pos + ps) (phys + ps) (rem - ps) := by
  rw [pageChunks_pos ps pos phys rem hps (by omega), if_pos hgt]

/-- page `k` of an extent -/
def chunkAt (ps pos phys rem k : Nat) : Nat × Nat × Nat :=
  ((pos + k * ps) % 2 ^ 32, phys + k * ps, min ps (rem - k * ps))

theorem pageChunks_eq (ps : Nat) (hps : 0 < ps) (rem : Nat) : ∀ pos phys,
    pageChunks ps pos phys rem = (List.range ((rem + ps - 1) / ps)).map (chunkAt ps pos phys rem) := by
  induction rem using Nat.strongRecOn with
  | _ rem ih =>
    intro pos phys
    by_cases h0 : rem = 0
    · subst h0
      have : (0 + ps - 1) / ps = 0 := by
        apply Nat.div_eq_of_lt; omega
      rw [pageChunks_zero, this]; simp
    · by_cases hle : rem ≤ ps
      · have hn : (rem + ps - 1) / ps = 1 := by
          apply Nat.div_eq_of_lt_le <;> omega
        rw [pageChunks_small ps pos phys rem hps (by omega) hle, hn]
        simp [chunkAt, Nat.min_eq_right hle]
      · have hgt : ps < rem := by omega
        have hn : (rem + ps - 1) / ps = (rem - ps + ps - 1) / ps + 1 := by
          have : rem + ps - 1 = (rem - ps + ps - 1) + ps := by omega
          rw [this, Nat.add_div_right _ hps]
        rw [pageChunks_big ps pos phys rem hps hgt, ih (rem - ps) (by omega), hn, range_succ_map]
        congr 1
        · simp [chunkAt]; omega
        · apply List.map_congr_left
          intro k _
          simp only [chunkAt]
          have e1 : pos + ps + k * ps = pos + (k + 1) * ps := by rw [Nat.add_mul]; omega
          have e2 : phys + ps + k * ps = phys + (k + 1) * ps := by rw [Nat.add_mul]; omega
          have e3 : rem - ps - k * ps = rem - (k + 1) * ps := by rw [Nat.add_mul]; omega
          rw [e1, e2, e3]

theorem pageChunks_last (ps : Nat) (hps : 0 < ps) (rem : Nat) : ∀ pos phys, 0 < rem →
    ∃ p q n, (pageChunks ps pos phys rem).getLast? = some (p, q, n) ∧ (p + n) % 2 ^ 32 = (pos + rem) % 2 ^ 32 := by
  induction rem using Nat.strongRecOn with
  | _ rem ih =>
    intro pos phys h0
    by_cases hle : rem ≤ ps
    · rw [pageChunks_small ps pos phys rem hps h0 hle]
      refine ⟨_, _, _, rfl, ?_⟩
      omega
    · have hgt : ps < rem := by omega
      rw [pageChunks_big ps pos phys rem hps hgt]
      obtain ⟨p, q, n, hl, hm⟩ := ih (rem - ps) (by omega) (pos + ps) (phys + ps) (by omega)
      refine ⟨p, q, n, ?_, ?_⟩
      · rw [List.getLast?_cons, hl]; rfl
      · rw [hm]; congr 1; omega

/-- stated on the three facts `HeadersOk` and `DigestOk` share -/
theorem certDirOffset_eq {f : Bytes} {pe dd4 dd : Nat} (hpe : pe = u32 f 0x3c) (hdd : dd = pe + 24 + dd4)
    (h4 : (u16 f (pe + 24) = 267 ∧ dd4 = 128) ∨ (u16 f (pe + 24) = 523 ∧ dd4 = 144)) :
    Spec.Authenticode.certDirOffset f = some dd := by
  unfold Spec.Authenticode.certDirOffset
  subst hpe hdd
  rcases h4 with ⟨hm, rfl⟩ | ⟨hm, rfl⟩ <;> simp [hm]

def toPair (s : Section) : Nat × Nat := (s.ptr, s.size)

theorem rawSections_eq (f : Bytes) (n : Nat) : ∀ tbl,
    (rawSections f tbl n).map toPair =
      (List.range n).map fun i => (u32 f (tbl + 40 * i + 20), u32 f (tbl + 40 * i + 16)) := by
  induction n with
  | zero => intro tbl; simp [rawSections]
  | succ n ih =>
    intro tbl
    rw [range_succ_map]
    simp only [rawSections, List.map_cons, ih]
    have h1 : tbl + 40 * 0 + 20 = tbl + 20 := by omega
    have h2 : tbl + 40 * 0 + 16 = tbl + 16 := by omega
    rw [h1, h2]
    have hm : ∀ i, (u32 f (tbl + 40 + 40 * i + 20), u32 f (tbl + 40 + 40 * i + 16)) =
        (u32 f (tbl + 40 * (i + 1) + 20), u32 f (tbl + 40 * (i + 1) + 16)) := by
      intro i
      have e : tbl + 40 + 40 * i = tbl + 40 * (i + 1) := by omega
      rw [e]
    simp only [hm, toPair]

/-- on a regular table the fix-ups of `readSections` change nothing -/
theorem fixSections_regular (e fa : Nat) (ss : List Section) : ∀ (soh : Nat) (ss' : List Section) (soh' : Nat),
    fixSections e fa ss soh = .ok (ss', soh') →
    Spec.PageHashes.sizesAligned fa (ss.map toPair) = true →
    (∀ s ∈ ss, s.size = 0 ∨ soh ≤ s.ptr) → ss' = ss ∧ soh' = soh := by
  induction ss with
  | nil => intro soh ss' soh' h _ _; simp [fixSections] at h; exact ⟨h.1, h.2.symm⟩
  | cons s rest ih =>
    intro soh ss' soh' h ha hh
    have hrest : Spec.PageHashes.sizesAligned fa (rest.map toPair) = true := by
      cases rest with
      | nil => rfl
      | cons t u =>
        simp only [List.map_cons, Spec.PageHashes.sizesAligned, Bool.and_eq_true] at ha
        exact ha.2
    have hh' : ∀ t ∈ rest, t.size = 0 ∨ soh ≤ t.ptr := fun t ht => hh t (List.mem_cons_of_mem _ ht)
    rcases fixSections_cons_ok h with ⟨_, ss, hr, rfl⟩ | ⟨hnz, _, hcase⟩
    · obtain ⟨rfl, rfl⟩ := ih _ _ _ hr hrest hh'
      exact ⟨rfl, rfl⟩
    · have hsoh : (if s.ptr < soh then s.ptr else soh) = soh := by
        have := (hh s (List.mem_cons_self ..)).resolve_left hnz
        split <;> omega
      rw [hsoh] at hcase
      rcases hcase with ⟨rfl, rfl, rfl⟩ | ⟨hne, sz, ss, hal, hr, rfl⟩
      · exact ⟨rfl, rfl⟩
      · obtain ⟨rfl, rfl⟩ := ih _ _ _ hr hrest hh'
        -- the size is a multiple of FileAlignment, so `align32` returns it
        obtain ⟨t, u, rfl⟩ := List.exists_cons_of_ne_nil hne
        simp only [List.map_cons, Spec.PageHashes.sizesAligned, Bool.and_eq_true, Bool.or_eq_true, decide_eq_true_eq,
          toPair] at ha
        have hmod := ha.1.resolve_left hnz
        unfold align32 at hal
        rw [if_pos hmod] at hal
        split at hal <;> cases hal
        exact ⟨rfl, rfl⟩

theorem readSectionData_extents (flen : Nat) (ss : List Section) : ∀ (i cur c n : Nat) (ex : List (Nat × Nat × Nat)),
    readSectionData flen ss i cur cur = .ok (c, n, ex) →
    ex = (ss.filter fun s => s.size ≠ 0).map fun s => (s.ptr, s.ptr, s.size) := by
  induction ss with
  | nil => intro i cur c n ex e; simp [readSectionData] at e; simp [e.2.2]
  | cons s rest ih =>
    intro i cur c n ex e
    rcases readSectionData_cons_ok e with ⟨hz, hr⟩ | ⟨hnz, hp, _, ex', hr, rfl⟩
    · rw [ih _ _ _ _ _ hr]
      simp [hz]
    · rw [ih _ _ _ _ _ hr]
      simp [hnz, hp]

/-- what `DigestPE` hands to `pageHashInputs` -/
structure DigestPages (f : Bytes) (d : Digest) (h : Headers) : Prop where
  hdrs : readHeaders f = .ok h
  m : d.m = h.m
  hdrLen : d.hdrLen = h.hashed.length
  prefix_ : d.hashed.take d.hdrLen = h.hashed
  extents : d.extents = (h.sections.filter fun s => s.size ≠ 0).map fun s => (s.ptr, s.ptr, s.size)

theorem DigestPE_pages (f : Bytes) (d : Digest) (hp : 64 ≤ u32 f 0x3c) (e : DigestPE f = .ok d) :
    ∃ h, DigestPages f d h := by
  obtain ⟨h, cur2, ex, orig, hh, hs, _, _, _, _, _, rfl⟩ := DigestPE_run f d hp e
  exact ⟨h, hh, rfl, rfl, by simp only [List.append_assoc, List.take_left'], readSectionData_extents _ _ _ _ _ _ _ hs⟩

def extOf (ss : List Section) : List (Nat × Nat × Nat) :=
  (ss.filter fun s => s.size ≠ 0).map fun s => (s.ptr, s.ptr, s.size)

/-- `mChunks`, `mPage`, `mLast`: the three `let`s of the model's `pageHashInputs` (`chunks`, the page function, `last`), named -/
def mChunks (ps : Nat) (ex : List (Nat × Nat × Nat)) : List (Nat × Nat × Nat) :=
  ex.flatMap fun (ptr, phys, size) => pageChunks ps ptr phys size

def mPage (ps : Nat) (f : Bytes) : Nat × Nat × Nat → Nat × Bytes :=
  fun (pos, phys, n) => (pos, seg f phys (phys + n) ++ List.replicate (ps - n) 0)

def mLast (chunks : List (Nat × Nat × Nat)) : Nat :=
  match chunks.getLast? with
  | some (pos, _, n) => (pos + n) % 2 ^ 32
  | none => 0

/-- `needzero = pageSize - hdrLen - (sizeOfHdr - hdrLen)` does not depend on `hdrLen` -/
theorem pageHashInputs_eq (f : Bytes) (d : Digest) :
    pageHashInputs f d =
      if d.m.pageSize < d.m.sizeOfHdr then none else
      some ((0, d.hashed.take d.hdrLen ++ List.replicate (d.m.pageSize - d.m.sizeOfHdr) 0) ::
        (mChunks d.m.pageSize d.extents).map (mPage d.m.pageSize f) ++ [(mLast (mChunks d.m.pageSize d.extents), [])]) := by
  unfold pageHashInputs
  simp only []
  by_cases h : d.m.pageSize < d.m.sizeOfHdr
  · rw [if_pos h, if_pos (by omega)]
  · rw [if_neg h, if_neg (by omega)]
    have : ((d.m.pageSize : Int) - d.hdrLen - ((d.m.sizeOfHdr : Int) - d.hdrLen)).toNat = d.m.pageSize - d.m.sizeOfHdr := by
      omega
    rw [this]
    rfl

theorem pageHashInputs_eq_none (f : Bytes) (d : Digest) : pageHashInputs f d = none ↔ d.m.pageSize < d.m.sizeOfHdr := by
  rw [pageHashInputs_eq]
  split <;> simp <;> omega

theorem section_pages_eq (ps : Nat) (hps : 0 < ps) (f : Bytes) (ptr size : Nat) :
    (pageChunks ps ptr ptr size).map (mPage ps f) = Spec.PageHashes.sectionPages ps f ptr size := by
  rw [pageChunks_eq ps hps, List.map_map]
  unfold Spec.PageHashes.sectionPages
  apply List.map_congr_left
  intro k _
  simp [mPage, chunkAt]

theorem pages_eq (ps : Nat) (hps : 0 < ps) (f : Bytes) (ss : List Section) :
    (mChunks ps (extOf ss)).map (mPage ps f) =
      ((ss.map toPair).filter fun s => s.2 ≠ 0).flatMap fun s => Spec.PageHashes.sectionPages ps f s.1 s.2 := by
  simp only [mChunks, extOf, List.filter_map, List.flatMap_map, List.map_flatMap, section_pages_eq ps hps]
  rfl

theorem mLast_append (pre a : List (Nat × Nat × Nat)) (p q n : Nat) (h : a.getLast? = some (p, q, n)) :
    mLast (pre ++ a) = (p + n) % 2 ^ 32 := by
  unfold mLast
  rw [List.getLast?_append, h]
  rfl

theorem last_eq (ps : Nat) (hps : 0 < ps) (ss : List Section) :
    mLast (mChunks ps (extOf ss)) = ((ss.map toPair).filter fun s => s.2 ≠ 0).foldl (fun _ s => (s.1 + s.2) % 2 ^ 32) 0 := by
  -- over the sections with raw data: the label after the chunks of each is its end
  have key : ∀ secs : List Section, (∀ s ∈ secs, s.size ≠ 0) → ∀ pre,
      mLast (pre ++ secs.flatMap fun s => pageChunks ps s.ptr s.ptr s.size) =
        secs.foldl (fun _ s => (s.ptr + s.size) % 2 ^ 32) (mLast pre) := by
    intro secs
    induction secs with
    | nil => intro _ pre; simp
    | cons s rest ih =>
      intro h pre
      obtain ⟨p, q, n, hl, hm⟩ := pageChunks_last ps hps s.size s.ptr s.ptr (Nat.pos_of_ne_zero (h s (List.mem_cons_self ..)))
      rw [List.flatMap_cons, ← List.append_assoc, ih (fun t ht => h t (List.mem_cons_of_mem _ ht)), List.foldl_cons,
        mLast_append pre _ p q n hl, hm]
  simp only [mChunks, extOf, List.filter_map, List.flatMap_map, List.foldl_map]
  exact key _ (fun s hs => by simpa using (List.mem_filter.1 hs).2) []

end Relic.PE
