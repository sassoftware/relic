/-
  Lemmas about `Relic.Model.Vsix`: the model's pass-through matches as `Res.bind`, last-member lookup (`findLast`), what a pass of
  the callback computes (`mangle_eq_ok`), the reference loop `mkRefs` (one round, success criterion, before and after the
  repairs), the Manifest round trip through `encoding/xml`, the two tests of the repaired verifier on the member names.
-/
import Relic.Model.Vsix
import Relic.Proofs.Res
import Relic.Proofs.VsixMap
namespace Relic.Vsix
open Relic.XmlSig

/-! The model writes `r.bind f` out as a `match` with three pass-through arms.  Lean compiles such a `match` to an auxiliary
    function per result type, named after the first definition of the model file that needs it (and a `match` written in another
    file never elaborates to it, so the lemmas name it).  Rewriting with them shows a modelled function as a chain of `Res.bind`s,
    to which `Res.bind_eq_ok`, `Res.bind_eq_panic`, `Res.bind_congr` and `Res.Errs.bind` apply. -/
section
variable {β : Type}

theorem bindBytes (r : Res Bytes) (f : Bytes → Res β) :
    mkRefs.match_3 (fun _ => Res β) r f .err .panic (fun _ => .diverge) = r.bind f := by cases r <;> rfl
theorem bindRefs (r : Res (List Ref)) (f : List Ref → Res β) :
    mkRefs.match_1 (fun _ => Res β) r f .err .panic (fun _ => .diverge) = r.bind f := by cases r <;> rfl
theorem bindMangled (r : Res Mangled) (f : Mangled → Res β) :
    sign.match_1 (fun _ => Res β) r f .err .panic (fun _ => .diverge) = r.bind f := by cases r <;> rfl
theorem bindRels (r : Res (List Rel)) (f : List Rel → Res β) :
    readSignature.match_1 (fun _ => Res β) r f .err .panic (fun _ => .diverge) = r.bind f := by cases r <;> rfl
theorem bindKeys (r : Res (List Bytes)) (f : List Bytes → Res β) :
    readCerts.match_1 (fun _ => Res β) r f .err .panic (fun _ => .diverge) = r.bind f := by cases r <;> rfl
theorem bindChecked (r : Res (List (Bytes × Bytes))) (f : List (Bytes × Bytes) → Res β) :
    checkRefs.match_1 (fun _ => Res β) r f .err .panic (fun _ => .diverge) = r.bind f := by cases r <;> rfl
theorem bindOpened (r : Res Opened) (f : Opened → Res β) :
    verifyCore.match_1 (fun _ => Res β) r f .err .panic (fun _ => .diverge) = r.bind f := by cases r <;> rfl
theorem bindSig (r : Res (Bytes × List Bytes)) (f : Bytes × List Bytes → Res β) :
    verifyCore.match_3 (fun _ => Res β) r f .err .panic (fun _ => .diverge) = r.bind f := by cases r <;> rfl
theorem bindCore (r : Res ((Bytes × List Bytes) × Opened × List (Bytes × Bytes))) (f : _ → Res β) :
    verifyF.match_3 (fun _ => Res β) r f .err .panic (fun _ => .diverge) = r.bind f := by cases r <;> rfl

end

theorem findLast_eq_find? (a : Pkg) (n : Bytes) : findLast a n = a.reverse.find? (fun p => p.name = n) := by
  induction a with
  | nil => rfl
  | cons p ps ih =>
    rw [findLast, ih, List.reverse_cons, List.find?_append]
    cases ps.reverse.find? (fun p => p.name = n) <;> by_cases hn : p.name = n <;> simp [hn]

theorem findLast_append (a b : Pkg) (n : Bytes) :
    findLast (a ++ b) n = match findLast b n with
      | some q => some q
      | none => findLast a n := by
  rw [findLast_eq_find?, findLast_eq_find?, findLast_eq_find?, List.reverse_append, List.find?_append]
  cases b.reverse.find? (fun p => p.name = n) <;> rfl

theorem findLast_none {a : Pkg} {n : Bytes} (h : ∀ p ∈ a, p.name ≠ n) : findLast a n = none := by
  rw [findLast_eq_find?, List.find?_eq_none]
  exact fun p hp => by simpa using h p (List.mem_reverse.mp hp)

theorem findLast_some {a : Pkg} {n : Bytes} {p : Part} (h : findLast a n = some p) : p ∈ a ∧ p.name = n := by
  rw [findLast_eq_find?] at h
  exact ⟨List.mem_reverse.mp (List.mem_of_find?_eq_some h), by simpa using List.find?_some h⟩

theorem findLast_of_nodup {a : Pkg} (hnd : (a.map (·.name)).Nodup) {p : Part} (hp : p ∈ a) : findLast a p.name = some p := by
  induction a with
  | nil => cases hp
  | cons q qs ih =>
    simp only [List.map_cons, List.nodup_cons] at hnd
    simp only [findLast]
    rcases List.mem_cons.mp hp with rfl | hq
    · have : findLast qs p.name = none := findLast_none (fun x hx hxe => hnd.1 (by rw [← hxe]; exact List.mem_map_of_mem hx))
      simp [this]
    · rw [ih hnd.2 hq]

theorem mem_names_iff (q : Pkg) (n : Bytes) : n ∈ q.map (·.name) ↔ findLast q n ≠ none := by
  rw [findLast_eq_find?, Ne, List.find?_eq_none]
  simp

theorem filter_name_of_nodup : ∀ {a : Pkg}, (a.map (·.name)).Nodup → ∀ {n d : Bytes}, ⟨n, d⟩ ∈ a →
    a.filter (fun q => q.name = n) = [⟨n, d⟩]
  | [], _, _, _, hp => nomatch hp
  | q :: qs, hnd, n, d, hp => by
    rw [List.map_cons, List.nodup_cons] at hnd
    rcases List.mem_cons.mp hp with rfl | hq
    · rw [List.filter_cons_of_pos (by simp), List.filter_eq_nil_iff.mpr]
      intro x hx hxn
      exact hnd.1 (List.mem_map.mpr ⟨x, hx, by simpa using hxn⟩)
    · rw [List.filter_cons_of_neg, filter_name_of_nodup hnd.2 hq]
      intro hqn
      exact hnd.1 (List.mem_map.mpr ⟨_, hq, (by simpa using hqn : q.name = n).symm⟩)

theorem findLast_cons_shadow (p : Part) (q : Pkg) (h : findLast q p.name ≠ none) : findLast (p :: q) = findLast q := by
  funext n
  simp only [findLast]
  cases hq : findLast q n with
  | some x => rfl
  | none =>
    by_cases hn : p.name = n
    · subst hn; exact absurd hq h
    · simp [hn]

theorem mem_digests (ps : Pkg) : ∀ (d0 : SMap) (n s : Bytes),
    (n, s) ∈ ps.foldl (fun d p => mset d p.name p.data) d0 ↔
      findLast ps n = some ⟨n, s⟩ ∨ (findLast ps n = none ∧ (n, s) ∈ d0) := by
  induction ps with
  | nil => intro d0 n s; simp [findLast]
  | cons p ps ih =>
    intro d0 n s
    simp only [List.foldl_cons, ih, findLast]
    cases hq : findLast ps n with
    | some q => simp
    | none =>
      simp only [mem_mset, true_and]
      by_cases hn : p.name = n
      · subst hn
        simp
        constructor
        · intro h; cases p; simp_all
        · intro h; cases p; simp_all
      · have hn' : n ≠ p.name := fun h => hn h.symm
        simp [hn, hn']

def keptOf (pkg : Pkg) : Pkg := pkg.filter (fun p => keepFile p.name)

/-- the (name, stream) pairs the Manifest is made of: what `m.digests` holds after the kept members and the three digested new
    parts, in `sort.Strings` order -/
def digested (E : Env) (c : Cfg) (pkg : Pkg) : SMap :=
  sortMap (addDigests ((keptOf pkg).foldl (fun d p => mset d p.name p.data) []) (fixedNews E c))

theorem mem_digested {E : Env} {c : Cfg} {pkg : Pkg} {n s : Bytes} :
    (n, s) ∈ digested E c pkg ↔ findLast (keptOf pkg ++ fixedNews E c) n = some ⟨n, s⟩ := by
  rw [digested, mem_sortMap, addDigests, ← List.foldl_append, mem_digests]
  simp

theorem digested_congr (E : Env) (c : Cfg) {a b : Pkg} (h : keptOf a = keptOf b) : digested E c a = digested E c b := by
  rw [digested, h]; rfl

theorem digested_sorted (E : Env) (c : Cfg) (pkg : Pkg) : KSorted (digested E c pkg) := by
  refine sortMap_sorted _ ?_
  rw [addDigests, ← List.foldl_append]
  exact keys_foldl _ _ _ _ (by simp [keys])

theorem keptOf_cons_keep {p : Part} (ps : Pkg) (h : keepFile p.name = true) : keptOf (p :: ps) = p :: keptOf ps := by
  simp [keptOf, h]

theorem keptOf_cons_drop {p : Part} (ps : Pkg) (h : keepFile p.name = false) : keptOf (p :: ps) = keptOf ps := by
  simp [keptOf, h]

/-- the content types table after the members named `[Content_Types].xml`, in order; `none` = one of them does not parse -/
def ctPass (E : Env) : Pkg → CT → Option CT
  | [], ct => some ct
  | p :: ps, ct =>
    if p.name = sContentTypes then (E.parseCT p.data).bind fun t => ctPass E ps (ctParse ct t.1 t.2) else ctPass E ps ct

/-- no kept member has a name seen before: what the repaired callback insists on -/
def Fresh (seen : SMap) (kept : Pkg) : Prop := (kept.map (·.name)).Nodup ∧ ∀ p ∈ kept, p.name ∉ keys seen

theorem fresh_cons {seen : SMap} {p : Part} {kept : Pkg} :
    Fresh seen (p :: kept) ↔ p.name ∉ keys seen ∧ Fresh (mset seen p.name p.data) kept := by
  simp only [Fresh, List.map_cons, List.nodup_cons, List.mem_cons, forall_eq_or_imp, mem_keys_mset, List.mem_map, not_or,
    not_exists, not_and]
  constructor
  · rintro ⟨⟨h1, h2⟩, h3, h4⟩
    exact ⟨h3, h2, fun q hq => ⟨fun e => h1 q hq e, h4 q hq⟩⟩
  · rintro ⟨h3, h2, h4⟩
    exact ⟨⟨fun q hq e => (h4 q hq).1 e, h2⟩, h3, fun q hq => (h4 q hq).2⟩

theorem fresh_nil_iff (kept : Pkg) : Fresh [] kept ↔ (kept.map (·.name)).Nodup := by
  simp [Fresh, keys]

theorem keepFile_ctypes : keepFile sContentTypes = false := by decide

/-- A pass of the callback does three independent things: it keeps the members `keepFile` accepts, in order; it records the
    last member of each of their names; it reads the table from the content types parts.  The repaired callback succeeds only
    if no kept name occurs twice. -/
theorem mangle_eq_ok (fx : Bool) (E : Env) : ∀ (pkg : Pkg) (m0 m : Mangled), mangle fx E pkg m0 = .ok m ↔
    m.kept = m0.kept ++ keptOf pkg ∧ m.digests = (keptOf pkg).foldl (fun d p => mset d p.name p.data) m0.digests ∧
    ctPass E pkg m0.ct = some m.ct ∧ (fx = true → Fresh m0.digests (keptOf pkg))
  | [], m0, m => by
    obtain ⟨k, d, c⟩ := m
    obtain ⟨k0, d0, c0⟩ := m0
    simp [mangle, keptOf, ctPass, Fresh, eq_comm]
  | p :: ps, m0, m => by
    have ih := mangle_eq_ok fx E ps
    by_cases hk : keepFile p.name = true
    · have hc : p.name ≠ sContentTypes := fun e => by rw [e, keepFile_ctypes] at hk; cases hk
      simp only [mangle, hk, if_true, keptOf_cons_keep ps hk, fresh_cons, ctPass, hc, if_false, List.foldl_cons]
      by_cases hd : (fx && m0.digests.any fun e => e.1 = p.name) = true
      · rw [if_pos hd]
        simp only [Bool.and_eq_true, any_key_iff] at hd
        simp [hd.1, hd.2]
      · rw [if_neg hd, ih]
        simp only [Bool.and_eq_true, any_key_iff, not_and] at hd
        simp only [List.append_assoc, List.singleton_append]
        exact ⟨fun ⟨a, b, c, d⟩ => ⟨a, b, c, fun hf => ⟨hd hf, d hf⟩⟩,
          fun ⟨a, b, c, d⟩ => ⟨a, b, c, fun hf => (d hf).2⟩⟩
    · have hk' : keepFile p.name = false := by simpa using hk
      simp only [mangle, hk', Bool.false_eq_true, if_false, keptOf_cons_drop ps hk', ctPass]
      by_cases hc : p.name = sContentTypes
      · simp only [hc, if_true]
        cases E.parseCT p.data with
        | none => simp
        | some t => exact ih _ _
      · simp only [hc, if_false]
        exact ih _ _

theorem ctPass_skip (E : Env) : ∀ (ps : Pkg) (ct : CT), (∀ p ∈ ps, p.name ≠ sContentTypes) → ctPass E ps ct = some ct
  | [], _, _ => rfl
  | p :: ps, ct, h => by
    rw [ctPass, if_neg (h p List.mem_cons_self), ctPass_skip E ps ct fun q hq => h q (List.mem_cons_of_mem _ hq)]

theorem ctPass_append (E : Env) (b : Pkg) : ∀ (a : Pkg) (ct ct' : CT), ctPass E a ct = some ct' →
    ctPass E (a ++ b) ct = ctPass E b ct'
  | [], _, _, h => by cases h; rfl
  | p :: ps, ct, ct', h => by
    simp only [ctPass, List.cons_append] at h ⊢
    split
    · rename_i hc
      rw [if_pos hc] at h
      cases ht : E.parseCT p.data with
      | none => simp [ht] at h
      | some t => rw [ht] at h; exact ctPass_append E b ps _ _ h
    · rename_i hc
      rw [if_neg hc] at h
      exact ctPass_append E b ps _ _ h

theorem mangle_errs (fx : Bool) (E : Env) : ∀ (pkg : Pkg) (m0 : Mangled), Res.Errs (fun _ => True) (mangle fx E pkg m0)
  | [], _ => trivial
  | p :: ps, m0 => by
    simp only [mangle]
    refine .ite (.ite trivial (mangle_errs fx E ps _)) (.ite ?_ (mangle_errs fx E ps _))
    split
    · trivial
    · exact mangle_errs fx E ps _

theorem refCType_true_errs (c : CT) (n : Bytes) : Res.Errs (fun _ => True) (refCType true c n) := by
  unfold refCType
  refine .ite trivial ?_
  split
  · rw [if_pos rfl]; trivial
  · exact .ite trivial trivial

theorem mkRefs_true_errs (c : CT) : ∀ (l : SMap), Res.Errs (fun _ => True) (mkRefs true c l)
  | [] => trivial
  | e :: es => by
    simp only [mkRefs, bindBytes, bindRefs]
    exact (refCType_true_errs c e.1).bind fun ct _ => .ite trivial ((mkRefs_true_errs c es).bind fun _ _ => trivial)

theorem mkRefs_cons_ok {fx : Bool} {c : CT} {e : Bytes × Bytes} {es : SMap} {refs : List Ref}
    (h : mkRefs fx c (e :: es) = .ok refs) :
    ∃ ct rs, refCType fx c e.1 = .ok ct ∧ (fx = true → uriPath (Ref.uri ⟨e.1, ct, e.2⟩) = e.1) ∧
      mkRefs fx c es = .ok rs ∧ refs = ⟨e.1, ct, e.2⟩ :: rs := by
  simp only [mkRefs, bindBytes, bindRefs, Res.bind_eq_ok, Res.errGuard_eq_ok, Res.ok.injEq] at h
  obtain ⟨ct, hc, hu, rs, hr, rfl⟩ := h
  exact ⟨ct, rs, hc, fun hfx => by simpa [hfx] using hu, hr, rfl⟩

theorem mkRefs_pairs (fx : Bool) (c : CT) : ∀ (l : SMap) (refs : List Ref), mkRefs fx c l = .ok refs →
    refs.map (fun r => (r.name, r.stream)) = l
  | [], refs, h => by simp only [mkRefs, Res.ok.injEq] at h; subst h; rfl
  | e :: es, refs, h => by
    obtain ⟨ct, rs, -, -, hr, rfl⟩ := mkRefs_cons_ok h
    rw [List.map_cons, mkRefs_pairs fx c es rs hr]

theorem mkRefs_refsOk (c : CT) : ∀ (l : SMap) (refs : List Ref), mkRefs true c l = .ok refs → refsOk refs = true
  | [], refs, h => by simp only [mkRefs, Res.ok.injEq] at h; subst h; rfl
  | e :: es, refs, h => by
    obtain ⟨ct, rs, -, hu, hr, rfl⟩ := mkRefs_cons_ok h
    simp only [refsOk, List.all_cons, Bool.and_eq_true, decide_eq_true_eq]
    exact ⟨hu rfl, mkRefs_refsOk c es rs hr⟩

theorem mkRefs_true_ok_iff (c : CT) : ∀ (l : SMap), (∃ refs, mkRefs true c l = .ok refs) ↔
    ∀ e ∈ l, ∃ ct, refCType true c e.1 = .ok ct ∧ uriPath (47 :: e.1 ++ sQueryCT ++ ct) = e.1
  | [] => by simp [mkRefs]
  | x :: xs => by
    rw [List.forall_mem_cons, ← mkRefs_true_ok_iff c xs]
    constructor
    · rintro ⟨refs, h⟩
      obtain ⟨ct, rs, hc, hu, hr, -⟩ := mkRefs_cons_ok h
      exact ⟨⟨ct, hc, hu rfl⟩, rs, hr⟩
    · rintro ⟨⟨ct, h1, h2⟩, rs, hrs⟩
      have hu : uriPath (Ref.uri ⟨x.1, ct, x.2⟩) = x.1 := h2
      exact ⟨⟨x.1, ct, x.2⟩ :: rs, by simp only [mkRefs, h1, hu, hrs]; simp⟩

theorem refCType_true_of_false {c : CT} {n ct : Bytes} (h : refCType false c n = .ok ct) : refCType true c n = .ok ct := by
  unfold refCType at h ⊢
  by_cases hf : ctFind c n = []
  · cases he : pathExt (pathBase n) with
    | nil => simp [hf, he] at h
    | cons d rest => simpa [hf, he] using h
  · simpa [hf] using h

theorem mkRefs_true_of_false (c : CT) : ∀ (l : SMap) (refs : List Ref), mkRefs false c l = .ok refs →
    (refsOk refs = true → mkRefs true c l = .ok refs) ∧ (refsOk refs = false → mkRefs true c l = .err "unreferencable") := by
  intro l
  induction l with
  | nil => intro refs h; simp only [mkRefs, Res.ok.injEq] at h; subst h; simp [mkRefs, refsOk]
  | cons e es ih =>
    intro refs h
    obtain ⟨ct, rs, hc, -, hr, rfl⟩ := mkRefs_cons_ok h
    obtain ⟨ih1, ih2⟩ := ih rs hr
    simp only [mkRefs, refCType_true_of_false hc, Bool.true_and, refsOk, List.all_cons, Bool.and_eq_true, decide_eq_true_eq,
      Bool.and_eq_false_iff, decide_eq_false_iff_not]
    by_cases hu : uriPath (Ref.uri ⟨e.1, ct, e.2⟩) = e.1
    · simp only [hu, ne_eq, not_true_eq_false, if_false, true_and, false_or]
      constructor
      · intro hok; rw [ih1 hok]
      · intro hbad; rw [ih2 hbad]
    · simp [hu]

/-- what `encoding/xml` makes of one Reference element as `makeSignature` writes it -/
def refInfoOf (E : Env) (h : HashId) (r : Ref) : RefInfo :=
  { uri := r.uri, transforms := [], digestAlg := hashUri h, digestValue := E.dtext h r.stream }

theorem decodeRefs_refNodes (E : Env) (h : HashId) : ∀ (refs : List Ref) (acc : List RefInfo),
    decodeRefs acc (refs.map (refNode E h)) = acc ++ refs.map (refInfoOf E h) := by
  intro refs
  induction refs with
  | nil => intro acc; simp [decodeRefs]
  | cons r rs ih =>
    intro acc
    have e1 : decRefKids { uri := attrVal sURI [at_ sURI r.uri] [] }
        [el sDigestMethod [at_ sAlgorithm (hashUri h)] [], el sDigestValue [] [txt (E.dtext h r.stream)]] = refInfoOf E h r := by
      simp +decide [decRefKids, el, at_, txt, attrVal, textOf, refInfoOf]
    simp only [List.map_cons, refNode, el, decodeRefs]
    simp only [el] at e1
    rw [if_pos trivial, e1, ih (acc ++ [refInfoOf E h r])]
    simp

theorem decodeManifest_objectNode (E : Env) (h : HashId) (time : Bytes) (refs : List Ref) :
    decodeManifest (objectNode E h time refs) = refs.map (refInfoOf E h) := by
  have h2 : (sSignatureProperties = sManifest) = False := by simp; decide
  simp only [decodeManifest, objectNode, el, kidsOf, decodeManifestKids, h2, if_true, if_false]
  have := decodeRefs_refNodes E h refs []
  simp only [List.nil_append] at this
  exact this

theorem hashOfName_hashUri (h : HashId) : hashOfName (stripNs (hashUri h)) = some h := by
  cases h <;> decide

theorem uncovered_iff {names : List Bytes} {checked : List (Bytes × Bytes)} :
    uncovered names checked = true ↔ ∃ n ∈ names, keepFile n = true ∧ n ∉ checked.map (·.1) := by
  simp only [uncovered, List.any_eq_true, Bool.and_eq_true, Bool.not_eq_true', List.any_eq_false, List.mem_map, not_exists,
    not_and, decide_eq_true_eq]

theorem uncovered_false_iff {names : List Bytes} {checked : List (Bytes × Bytes)} :
    uncovered names checked = false ↔ ∀ n ∈ names, keepFile n = true → n ∈ checked.map (·.1) := by
  rw [← Bool.not_eq_true, uncovered_iff]
  exact ⟨fun h n hn hk => Decidable.byContradiction fun hc => h ⟨n, hn, hk, hc⟩, fun h ⟨n, hn, hk, hc⟩ => hc (h n hn hk)⟩

theorem refsOk_iff (refs : List Ref) : refsOk refs = true ↔ ∀ r ∈ refs, uriPath r.uri = r.name := by
  simp only [refsOk, List.all_eq_true, decide_eq_true_eq]

theorem hasDup_false_iff (q : Pkg) : hasDup q = false ↔ (q.map (·.name)).Nodup := by
  simp [hasDup]

end Relic.Vsix
