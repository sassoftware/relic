/- Relic.Model.Xar: int64 wrap-around; `Plan` as a writer over `Res`; the etree side of `Sign` on arbitrary trees: the `adjust`
   calculus, the explicit value of `prep`, the document `Sign` serialises, signing a signed document -/
import Relic.Model.Xar
import Relic.Proofs.Res
namespace Relic.Xar

/-- induction over a child list that also descends into the children of each element: the scheme of `umFileKids` / `umFiles`
    (the functions `adjust`, `dRefs`, … are mutual recursions and are followed by mutual proofs) -/
theorem Xml.kids_induction {P : List Xml → Prop} (nil : P []) (tx : ∀ s ks, P ks → P (.tx s :: ks))
    (el : ∀ n as k ks, P k → P ks → P (.el n as k :: ks)) : ∀ ks, P ks
  | [] => nil
  | .tx s :: ks => tx s ks (Xml.kids_induction nil tx el ks)
  | .el n as k :: ks => el n as k ks (Xml.kids_induction nil tx el k) (Xml.kids_induction nil tx el ks)

theorem w64_inI64 (i : Int) : inI64 (w64 i) := by
  unfold inI64 w64
  have h1 := Int.emod_nonneg (i + 2 ^ 63) (b := 2 ^ 64) (by decide)
  omega

theorem w64_id {i : Int} (h : inI64 i) : w64 i = i := by
  unfold inI64 at h
  unfold w64
  have : (i + 2 ^ 63) % 2 ^ 64 = i + 2 ^ 63 := Int.emod_eq_of_lt (by omega) (by omega)
  omega

theorem w64_w64 (a : Int) : w64 (w64 a) = w64 a := w64_id (w64_inI64 a)

theorem w64_congr (a b : Int) (h : (a - b) % 2 ^ 64 = 0) (v : Int) : w64 (v + a) = w64 (v + b) := by
  unfold w64
  have : (v + a + 2 ^ 63) % 2 ^ 64 = (v + b + 2 ^ 63) % 2 ^ 64 := by
    have e : v + a + 2 ^ 63 = (v + b + 2 ^ 63) + (a - b) := by omega
    rw [e, Int.add_emod, h]
    simp
  omega

theorem w64_emod (x : Int) : (w64 x - x) % 2 ^ 64 = 0 := by
  unfold w64; omega

theorem w64_add_w64 (a b : Int) : w64 (w64 a + b) = w64 (a + b) := by
  rw [Int.add_comm, Int.add_comm a]; exact w64_congr _ _ (w64_emod a) b

theorem runChecks_append {α} (C : Crypto) (xs ys : List Check) (r : Res α) :
    runChecks C (xs ++ ys) r = (match runChecks C xs (.ok ()) with
      | .ok _ => runChecks C ys r
      | .err e => .err e
      | .panic s => .panic s
      | .diverge => .diverge) := by
  induction xs with
  | nil => simp [runChecks]
  | cons c cs ih =>
    simp only [List.cons_append, runChecks]
    split
    · exact ih
    · rfl

theorem runChecks_ok_iff {α} (C : Crypto) (cs : List Check) (r : Res α) (a : α) :
    runChecks C cs r = .ok a ↔ (∀ c ∈ cs, c.holds C = true) ∧ r = .ok a := by
  induction cs with
  | nil => simp [runChecks]
  | cons c cs ih =>
    simp only [runChecks, List.mem_cons, forall_eq_or_imp]
    split
    · rename_i h
      simp [ih, h]
    · rename_i h
      simp [h]

theorem runChecks_all {α} (C : Crypto) (cs : List Check) (r : Res α) (h : ∀ c ∈ cs, c.holds C = true) :
    runChecks C cs r = r := by
  induction cs with
  | nil => rfl
  | cons c cs ih =>
    simp only [runChecks, h c (List.mem_cons_self), ↓reduceIte]
    exact ih fun c hc => h c (List.mem_cons_of_mem _ hc)

theorem run_ok_iff {α} (C : Crypto) (p : Plan α) (a : α) :
    p.run C = .ok a ↔ (∀ c ∈ p.checks, c.holds C = true) ∧ p.final = .ok a := runChecks_ok_iff C p.checks p.final a

/-! `Plan` is a writer over `Res`; both ways of looking at a plan, its final outcome and its run under a `Crypto`, commute
    with `bind`.  Through these two equations every statement about a composed plan is one about `Res.bind`. -/

theorem final_bind {α β} (p : Plan α) (g : α → Plan β) : (p.bind g).final = p.final.bind fun a => (g a).final := by
  unfold Plan.bind; cases p.final <;> rfl

theorem runChecks_eq {α} (C : Crypto) (cs : List Check) (r : Res α) :
    runChecks C cs r = (runChecks C cs (.ok ())).bind fun _ => r := by
  induction cs with
  | nil => rfl
  | cons c cs ih => simp only [runChecks]; split; exact ih; rfl

theorem run_bind {α β} (C : Crypto) (p : Plan α) (g : α → Plan β) :
    (p.bind g).run C = (p.run C).bind fun a => (g a).run C := by
  have e (r : Res α) (k : α → Res β) :
      (runChecks C p.checks r).bind k = (runChecks C p.checks (.ok ())).bind fun _ => r.bind k := by
    rw [runChecks_eq]; cases runChecks C p.checks (.ok ()) <;> rfl
  unfold Plan.bind Plan.run
  rw [e]
  cases p.final with
  | ok a => exact (runChecks_append C _ _ _).trans (by cases runChecks C p.checks (.ok ()) <;> rfl)
  | _ => exact runChecks_eq C _ _

theorem run_bind_ok_iff {α β} (C : Crypto) (p : Plan α) (g : α → Plan β) (b : β) :
    (p.bind g).run C = .ok b ↔ ∃ a, p.run C = .ok a ∧ (g a).run C = .ok b := by
  rw [run_bind, Res.bind_eq_ok]

/-- a failing comparison is an error: a run crashes only where the final outcome of the plan is that crash -/
theorem run_eq_crash {α} (C : Crypto) (p : Plan α) (c : Crash) (h : p.run C = Res.crash c) : p.final = Res.crash c := by
  have hn : ∀ cs : List Check, runChecks C cs (.ok ()) ≠ Res.crash c := by
    intro cs
    induction cs with
    | nil => simp [runChecks]
    | cons x xs ih => simp only [runChecks]; split; exact ih; simp
  unfold Plan.run at h
  rw [runChecks_eq, Res.bind_eq_crash] at h
  rcases h with h | ⟨_, _, h⟩
  · exact absurd h (hn _)
  · exact h

@[simp] theorem isTx_tx (s : String) : (Xml.tx s).isTx = true := rfl
@[simp] theorem isTx_el (n : String) (a : List (String × String)) (k : List Xml) : (Xml.el n a k).isTx = false := rfl
@[simp] theorem kids_el (n : String) (a : List (String × String)) (k : List Xml) : (Xml.el n a k).kids = k := rfl
@[simp] theorem kids_tx (s : String) : (Xml.tx s).kids = [] := rfl
@[simp] theorem attrs_el (n : String) (a : List (String × String)) (k : List Xml) : (Xml.el n a k).attrs = a := rfl
@[simp] theorem isEl_tx (n s : String) : (Xml.tx s).isEl n = false := rfl
@[simp] theorem isEl_el (n m : String) (a : List (String × String)) (k : List Xml) : (Xml.el m a k).isEl n = (m == n) := rfl

theorem isEl_true_iff (n : String) (x : Xml) : x.isEl n = true ↔ ∃ as ks, x = .el n as ks := by
  cases x with
  | tx s => simp
  | el m as ks =>
    simp only [isEl_el, beq_iff_eq, Xml.el.injEq]
    constructor
    · rintro rfl; exact ⟨as, ks, rfl, rfl, rfl⟩
    · rintro ⟨_, _, h, _, _⟩; exact h

theorem etext_adjustKids (N : Num) (ea : Bool) (d : Int) (b : Bool) : ∀ ks, etext (adjustKids N ea d b ks) = etext ks
  | [] => by simp [adjustKids]
  | .tx s :: ks => by simp [adjustKids, adjust, etext, etext_adjustKids N ea d b ks]
  | .el n as k :: ks => by
    simp only [adjustKids, adjust]
    split
    · split <;> simp [etext]
    · simp [etext]

theorem adjust_tx (N : Num) (ea : Bool) (d : Int) (b : Bool) (s : String) : adjust N ea d b (.tx s) = .tx s := by simp [adjust]

theorem adjust_el_plain (N : Num) (ea : Bool) (d : Int) (n : String) (as : List (String × String)) (k : List Xml) :
    adjust N ea d false (.el n as k) = .el n as (adjustKids N ea d (isRef ea n) k) := by
  simp [adjust]

theorem adjustKids_append (N : Num) (ea : Bool) (d : Int) (b : Bool) : ∀ xs ys, adjustKids N ea d b (xs ++ ys) = adjustKids N ea d b xs ++ adjustKids N ea d b ys
  | [], ys => by simp [adjustKids]
  | x :: xs, ys => by simp [adjustKids, adjustKids_append N ea d b xs ys]

theorem adjustKids_cons (N : Num) (ea : Bool) (d : Int) (b : Bool) (x : Xml) (xs : List Xml) :
    adjustKids N ea d b (x :: xs) = adjust N ea d b x :: adjustKids N ea d b xs := by simp [adjustKids]

/-- `adjust` changes nothing of a node but the children of an element: what does not look at those survives -/
theorem adjust_keeps {β} (f : Xml → β) (hf : ∀ n as ks ks', f (.el n as ks) = f (.el n as ks')) (N : Num) (ea : Bool) (d : Int)
    (b : Bool) : ∀ x, f (adjust N ea d b x) = f x
  | .tx s => by rw [adjust_tx]
  | .el n as ks => by
    simp only [adjust]
    split
    · split <;> exact hf ..
    · exact hf ..

theorem adjust_isEl (N : Num) (ea : Bool) (d : Int) (b : Bool) (n : String) (x : Xml) : (adjust N ea d b x).isEl n = x.isEl n :=
  adjust_keeps (·.isEl n) (fun _ _ _ _ => rfl) N ea d b x

theorem adjust_isTx (N : Num) (ea : Bool) (d : Int) (b : Bool) (x : Xml) : (adjust N ea d b x).isTx = x.isTx :=
  adjust_keeps (·.isTx) (fun _ _ _ _ => rfl) N ea d b x

theorem adjust_isSig (N : Num) (ea : Bool) (d : Int) (b : Bool) (x : Xml) : (adjust N ea d b x).isSig = x.isSig :=
  adjust_keeps (·.isSig) (fun _ _ _ _ => rfl) N ea d b x

theorem mem_adjustKids (N : Num) (ea : Bool) (d : Int) (b : Bool) : ∀ (ks : List Xml) (k : Xml),
    k ∈ adjustKids N ea d b ks → ∃ x ∈ ks, k = adjust N ea d b x
  | [], k, hk => by simp [adjustKids] at hk
  | x :: xs, k, hk => by
    simp only [adjustKids, List.mem_cons] at hk
    rcases hk with rfl | hk
    · exact ⟨x, List.mem_cons_self, rfl⟩
    · obtain ⟨y, hy, e⟩ := mem_adjustKids N ea d b xs k hk
      exact ⟨y, List.mem_cons_of_mem _ hy, e⟩

theorem etext_dropWhile_isTx : ∀ ks : List Xml, etext (ks.dropWhile (·.isTx)) = ""
  | [] => by simp [etext]
  | .tx s :: ks => by simp [List.dropWhile, etext_dropWhile_isTx ks]
  | .el n as k :: ks => by simp [List.dropWhile, etext]

theorem dropWhile_dropWhile_isTx (ks : List Xml) : (ks.dropWhile (·.isTx)).dropWhile (·.isTx) = ks.dropWhile (·.isTx) := by
  induction ks with
  | nil => rfl
  | cons k ks ih =>
    cases k with
    | tx s => simpa [List.dropWhile] using ih
    | el n as k => simp [List.dropWhile]

theorem etext_setText (s : String) (ks : List Xml) : etext (setText s ks) = s := by
  simp [setText, etext, etext_dropWhile_isTx]

theorem setText_setText (s t : String) (ks : List Xml) : setText t (setText s ks) = setText t ks := by
  simp [setText, List.dropWhile, dropWhile_dropWhile_isTx]

mutual
theorem adjust_adjust (N : Num) (ea : Bool) (hN : N.Laws) (d1 d2 : Int) (b : Bool) :
    ∀ x, adjust N ea d2 b (adjust N ea d1 b x) = adjust N ea (d1 + d2) b x
  | .tx s => by simp [adjust]
  | .el n as ks => by
    have ih := adjustKids_adjustKids N ea hN d1 d2 (isRef ea n) ks
    simp only [adjust]
    by_cases hc : (b && n == "offset") = true
    · simp only [hc, ↓reduceIte, etext_adjustKids]
      by_cases hp : (N.atoi (etext ks)).2 = true
      · simp only [hp, ↓reduceIte, adjust, hc]
        -- after the first shift the text is the formatted number; it parses back
        have e1 : adjustKids N ea d2 (isRef ea n) (setText (N.fmt (w64 ((N.atoi (etext ks)).1 + d1))) (adjustKids N ea d1 (isRef ea n) ks))
            = setText (N.fmt (w64 ((N.atoi (etext ks)).1 + d1))) (adjustKids N ea (d1 + d2) (isRef ea n) ks) := by
          simp only [setText, adjustKids_cons, adjust_tx]
          congr 1
          rw [← ih]
          generalize adjustKids N ea d1 (isRef ea n) ks = l
          induction l with
          | nil => simp [adjustKids]
          | cons k l ihl =>
            cases k with
            | tx s => simpa [List.dropWhile, adjustKids_cons, adjust_tx] using ihl
            | el m as2 k2 =>
              have := adjust_isTx N ea d2 (isRef ea n) (.el m as2 k2)
              simp only [isTx_el] at this
              simp [adjustKids_cons, List.dropWhile, this]
        rw [e1, etext_setText, hN.rt _ (w64_inI64 _)]
        simp only [↓reduceIte, setText_setText, w64_add_w64]
        rw [Int.add_assoc]
      · simp only [hp, adjust, hc, ↓reduceIte, etext_adjustKids, Bool.false_eq_true, ih]
    · simp only [hc, adjust, ↓reduceIte, ih, Bool.false_eq_true]
theorem adjustKids_adjustKids (N : Num) (ea : Bool) (hN : N.Laws) (d1 d2 : Int) (b : Bool) :
    ∀ ks, adjustKids N ea d2 b (adjustKids N ea d1 b ks) = adjustKids N ea (d1 + d2) b ks
  | [] => by simp [adjustKids]
  | k :: ks => by
    simp only [adjustKids]
    rw [adjust_adjust N ea hN d1 d2 b k, adjustKids_adjustKids N ea hN d1 d2 b ks]
end

theorem isRef_false (ea : Bool) (n : String) (h1 : n ≠ "data") (h2 : n ≠ "ea") : isRef ea n = false := by
  cases ea <;> simp [isRef, h1, h2]

mutual
/-- no element whose `<offset>` child `adjustOffsets` shifts (`<data>`; with `ea` also `<ea>`) at or below -/
def noRef (ea : Bool) : Xml → Bool
  | .tx _ => true
  | .el n _ ks => !isRef ea n && noRefL ea ks
def noRefL (ea : Bool) : List Xml → Bool
  | [] => true
  | k :: ks => noRef ea k && noRefL ea ks
end

/-- no element named `data` at or below (the original `adjustOffsets`) -/
abbrev noData (x : Xml) : Bool := noRef false x

mutual
theorem adjust_noRef (N : Num) (ea : Bool) (d : Int) : ∀ x, noRef ea x = true → adjust N ea d false x = x
  | .tx s, _ => by simp [adjust]
  | .el n as ks, h => by
    simp only [noRef, Bool.and_eq_true, Bool.not_eq_eq_eq_not, Bool.not_true] at h
    simp only [adjust, Bool.false_and, Bool.false_eq_true, ↓reduceIte, h.1]
    rw [adjustKids_noRef N ea d ks h.2]
theorem adjustKids_noRef (N : Num) (ea : Bool) (d : Int) : ∀ ks, noRefL ea ks = true → adjustKids N ea d false ks = ks
  | [], _ => by simp [adjustKids]
  | k :: ks, h => by
    simp only [noRefL, Bool.and_eq_true] at h
    simp only [adjustKids]
    rw [adjust_noRef N ea d k h.1, adjustKids_noRef N ea d ks h.2]
end

theorem noRefL_certs (ea : Bool) (cs : List String) : noRefL ea (cs.map fun c => Xml.el "X509Certificate" [] [.tx c]) = true := by
  induction cs with
  | nil => rfl
  | cons c cs ih => simp [noRefL, noRef, ih, isRef_false ea "X509Certificate" (by decide) (by decide)]

theorem noRef_newSigElement (N : Num) (ea : Bool) (key style : String) (o sz : Int) (cs : Option (List String))
    (hk : key ≠ "data") (hk2 : key ≠ "ea") : noRef ea (newSigElement N key style o sz cs) = true := by
  have e1 := isRef_false ea "size" (by decide) (by decide)
  have e2 := isRef_false ea "offset" (by decide) (by decide)
  have e3 := isRef_false ea "KeyInfo" (by decide) (by decide)
  have e4 := isRef_false ea "X509Data" (by decide) (by decide)
  have e5 := isRef_false ea key hk hk2
  cases cs with
  | none => simp [newSigElement, noRef, noRefL, e1, e2, e5]
  | some cs => simp [newSigElement, noRef, noRefL, e1, e2, e3, e4, e5, noRefL_certs]

theorem noRefL_reserve (N : Num) (ea : Bool) (hk : HK) (ki : KeyInfo) : noRefL ea (reserve N hk ki).1 = true := by
  unfold reserve
  cases ki.rsaSize <;> simp [noRefL, noRef_newSigElement]

theorem removeSigs_append (N : Num) : ∀ xs ys, removeSigs N (xs ++ ys) =
    ((removeSigs N xs).1 + (removeSigs N ys).1, (removeSigs N xs).2 ++ (removeSigs N ys).2)
  | [], ys => by simp [removeSigs]
  | .tx s :: xs, ys => by simp [removeSigs, removeSigs_append N xs ys]
  | .el n as ks :: xs, ys => by
    simp only [List.cons_append, removeSigs, removeSigs_append N xs ys]
    split <;> simp [Int.add_assoc]

theorem removeSigs_nosig (N : Num) : ∀ ks, (∀ k ∈ ks, k.isSig = false) → removeSigs N ks = (0, ks)
  | [], _ => by simp [removeSigs]
  | .tx s :: ks, h => by
    simp [removeSigs, removeSigs_nosig N ks fun k hk => h k (List.mem_cons_of_mem _ hk)]
  | .el n as k :: ks, h => by
    have h1 : isSigName n = false := by simpa [Xml.isSig] using h _ List.mem_cons_self
    simp [removeSigs, h1, removeSigs_nosig N ks fun k hk => h k (List.mem_cons_of_mem _ hk)]

theorem removeSigs_snd_nosig (N : Num) : ∀ ks, ∀ k ∈ (removeSigs N ks).2, k.isSig = false
  | [], k, hk => by simp [removeSigs] at hk
  | .tx s :: ks, k, hk => by
    simp only [removeSigs, List.mem_cons] at hk
    rcases hk with rfl | hk
    · rfl
    · exact removeSigs_snd_nosig N ks k hk
  | .el n as c :: ks, k, hk => by
    simp only [removeSigs] at hk
    split at hk
    · exact removeSigs_snd_nosig N ks k hk
    · rename_i hn
      simp only [List.mem_cons] at hk
      rcases hk with rfl | hk
      · simpa [Xml.isSig] using hn
      · exact removeSigs_snd_nosig N ks k hk

theorem kids_adjust_etext (N : Num) (ea : Bool) (d : Int) (b : Bool) (x : Xml) : etext (adjust N ea d b x).kids = etext x.kids ∨
    (∃ n as ks, x = .el n as ks ∧ (b && n == "offset") = true) := by
  cases x with
  | tx s => left; simp [adjust]
  | el n as ks =>
    by_cases hc : (b && n == "offset") = true
    · right; exact ⟨n, as, ks, rfl, hc⟩
    · left
      simp [adjust, hc, Xml.kids, etext_adjustKids]

theorem splitFirst_adjustKids (N : Num) (ea : Bool) (d : Int) (b : Bool) (n : String) : ∀ ks,
    splitFirst n (adjustKids N ea d b ks) =
      (splitFirst n ks).map fun r => (adjustKids N ea d b r.1, adjust N ea d b r.2.1, adjustKids N ea d b r.2.2)
  | [] => by simp [adjustKids, splitFirst]
  | k :: ks => by
    simp only [adjustKids, splitFirst, adjust_isEl]
    split
    · simp [adjustKids]
    · rw [splitFirst_adjustKids N ea d b n ks]
      cases splitFirst n ks <;> simp [adjustKids]

theorem splitFirst_eq (n : String) : ∀ ks pre t post, splitFirst n ks = some (pre, t, post) →
    ks = pre ++ t :: post ∧ t.isEl n = true ∧ ∀ k ∈ pre, k.isEl n = false
  | [], _, _, _, h => by simp [splitFirst] at h
  | k :: ks, pre, t, post, h => by
    simp only [splitFirst] at h
    split at h
    · rename_i hk
      simp only [Option.some.injEq, Prod.mk.injEq] at h
      obtain ⟨rfl, rfl, rfl⟩ := h
      simp [hk]
    · rename_i hk
      cases hs : splitFirst n ks with
      | none => simp [hs] at h
      | some r =>
        obtain ⟨p, t', q⟩ := r
        simp only [hs, Option.map_some, Option.some.injEq, Prod.mk.injEq] at h
        obtain ⟨rfl, rfl, rfl⟩ := h
        obtain ⟨e, ht, hp⟩ := splitFirst_eq n ks p t' q hs
        refine ⟨by rw [e]; rfl, ht, ?_⟩
        intro x hx
        simp only [List.mem_cons] at hx
        rcases hx with rfl | hx
        · simpa using hk
        · exact hp x hx

theorem splitFirst_build (n : String) : ∀ (pre : List Xml) (t : Xml) (post : List Xml), t.isEl n = true →
    (∀ k ∈ pre, k.isEl n = false) → splitFirst n (pre ++ t :: post) = some (pre, t, post)
  | [], t, post, ht, _ => by simp [splitFirst, ht]
  | k :: pre, t, post, ht, hp => by
    have hk : k.isEl n = false := hp k List.mem_cons_self
    simp [splitFirst, hk, splitFirst_build n pre t post ht fun x hx => hp x (List.mem_cons_of_mem _ hx)]

mutual
theorem adjust_congr (N : Num) (ea : Bool) (a b : Int) (h : ∀ v, w64 (v + a) = w64 (v + b)) (i : Bool) :
    ∀ x, adjust N ea a i x = adjust N ea b i x
  | .tx s => by simp [adjust]
  | .el n as ks => by
    simp only [adjust, adjustKids_congr N ea a b h (isRef ea n) ks, h]
theorem adjustKids_congr (N : Num) (ea : Bool) (a b : Int) (h : ∀ v, w64 (v + a) = w64 (v + b)) (i : Bool) :
    ∀ ks, adjustKids N ea a i ks = adjustKids N ea b i ks
  | [] => by simp [adjustKids]
  | k :: ks => by simp only [adjustKids, adjust_congr N ea a b h i k, adjustKids_congr N ea a b h i ks]
end

/-- what the theorems need from the signing key: sizes that fit an int64 comfortably -/
def KeyInfo.small (ki : KeyInfo) : Prop := ki.derTotal < 2 ^ 32 ∧ ∀ n, ki.rsaSize = some n → n < 2 ^ 32

/-- the key's blobs fit the limit the repaired `removeSigs` puts on a `<size>` -/
def KeyInfo.fits (ki : KeyInfo) : Prop := 6144 + ki.derTotal ≤ 1000000 ∧ ∀ n, ki.rsaSize = some n → n ≤ 1000000

theorem HK.size_le (k : HK) : k.size ≤ 64 := by cases k <;> decide

theorem sizeOf_newSigElement (N : Num) (hN : N.Laws) (key style : String) (o sz : Int) (cs : Option (List String))
    (h : inI64 sz) : sizeOfSigEl N (newSigElement N key style o sz cs).kids = sz := by
  cases cs <;> simp [newSigElement, sizeOfSigEl, first, Xml.kids, etext, hN.rt sz h]

theorem newSigElement_eq_el (N : Num) (key style : String) (o sz : Int) (cs : Option (List String)) :
    newSigElement N key style o sz cs = .el key [("style", style)] (newSigElement N key style o sz cs).kids := by
  cases cs <;> rfl

theorem removeSigs_reserve (N : Num) (hN : N.Laws) (hk : HK) (ki : KeyInfo) (hki : ki.small) :
    removeSigs N (reserve N hk ki).1 = ((reserve N hk ki).2, []) := by
  have hs := hk.size_le
  obtain ⟨hd, hr⟩ := hki
  have i1 : inI64 (hk.size : Int) := by unfold inI64; omega
  have i3 : inI64 (6144 + ki.derTotal : Int) := by unfold inI64; omega
  have a1 := sizeOf_newSigElement N hN "checksum" hk.name 0 hk.size none i1
  have b1 := newSigElement_eq_el N "checksum" hk.name 0 hk.size none
  unfold reserve
  cases hrs : ki.rsaSize with
  | none =>
    simp only []
    have a3 := sizeOf_newSigElement N hN "x-signature" "CMS" hk.size (6144 + ki.derTotal) (some ki.certTexts) i3
    have b3 := newSigElement_eq_el N "x-signature" "CMS" hk.size (6144 + ki.derTotal) (some ki.certTexts)
    rw [b1, b3]
    simp only [removeSigs, isSigName, decide_true, Bool.or_true, Bool.true_or, ↓reduceIte]
    simp [a1, a3]
  | some n =>
    have hn := hr n hrs
    have i2 : inI64 (n : Int) := by unfold inI64; omega
    simp only []
    have a2 := sizeOf_newSigElement N hN "signature" "RSA" hk.size n (some ki.certTexts) i2
    have b2 := newSigElement_eq_el N "signature" "RSA" hk.size n (some ki.certTexts)
    have a3 := sizeOf_newSigElement N hN "x-signature" "CMS" (hk.size + n) (6144 + ki.derTotal) (some ki.certTexts) i3
    have b3 := newSigElement_eq_el N "x-signature" "CMS" (hk.size + n) (6144 + ki.derTotal) (some ki.certTexts)
    rw [b1, b2, b3]
    simp only [removeSigs, isSigName, decide_true, Bool.or_true, Bool.true_or, ↓reduceIte]
    simp [a1, a2, a3]
    omega

theorem reserve_size_bounds (N : Num) (hk : HK) (ki : KeyInfo) (hki : ki.small) :
    0 ≤ (reserve N hk ki).2 ∧ (reserve N hk ki).2 < 2 ^ 34 := by
  have hs := hk.size_le
  obtain ⟨hd, hr⟩ := hki
  unfold reserve
  cases hrs : ki.rsaSize with
  | none => simp only []; omega
  | some n => have := hr n hrs; simp only []; omega

theorem reserve_snd (N : Num) (hk : HK) (ki : KeyInfo) :
    (reserve N hk ki).2 = (hk.size : Int) + (ki.rsaSize.getD 0 : Nat) + (6144 + ki.derTotal) := by
  unfold reserve
  cases ki.rsaSize <;> simp <;> omega

theorem prep_some (N : Num) (hk : HK) (ki : KeyInfo) (t : Xml) (p : Prep) (h : prep N hk ki t = some p) :
    ∃ ras pre tas tks post, t = .el "xar" ras (pre ++ .el "toc" tas tks :: post) ∧ (∀ k ∈ pre, k.isEl "toc" = false) ∧
      p = ⟨.el "xar" ras (pre ++ .el "toc" tas ((reserve N hk ki).1 ++ (removeSigs N tks).2) :: post),
           w64 (removeSigs N tks).1, (reserve N hk ki).2⟩ := by
  cases t with
  | tx s => simp [prep] at h
  | el rn ras rks =>
    simp only [prep] at h
    split at h
    · cases h
    · rename_i hrn
      have hrn : rn = "xar" := by simpa using hrn
      subst hrn
      split at h
      · cases h
      · rename_i pre tocEl post hs
        obtain ⟨e, ht, hp⟩ := splitFirst_eq "toc" rks pre tocEl post hs
        obtain ⟨tas, tks, rfl⟩ := (isEl_true_iff "toc" tocEl).mp ht
        refine ⟨ras, pre, tas, tks, post, by rw [e], hp, ?_⟩
        simpa [Xml.kids, Xml.attrs] using h.symm

theorem prep_build (N : Num) (hk : HK) (ki : KeyInfo) (ras : List (String × String)) (pre : List Xml)
    (tas : List (String × String)) (tks post : List Xml) (hp : ∀ k ∈ pre, k.isEl "toc" = false) :
    prep N hk ki (.el "xar" ras (pre ++ .el "toc" tas tks :: post)) =
      some ⟨.el "xar" ras (pre ++ .el "toc" tas ((reserve N hk ki).1 ++ (removeSigs N tks).2) :: post),
            w64 (removeSigs N tks).1, (reserve N hk ki).2⟩ := by
  simp [prep, splitFirst_build "toc" pre (.el "toc" tas tks) post (by simp) hp, Xml.kids, Xml.attrs]

theorem adjust_doc (N : Num) (ea : Bool) (d : Int) (ras : List (String × String)) (pre : List Xml) (tas : List (String × String))
    (tks post : List Xml) :
    adjust N ea d false (.el "xar" ras (pre ++ .el "toc" tas tks :: post)) =
      .el "xar" ras (adjustKids N ea d false pre ++ .el "toc" tas (adjustKids N ea d false tks) :: adjustKids N ea d false post) := by
  have h1 := isRef_false ea "xar" (by decide) (by decide)
  have h2 := isRef_false ea "toc" (by decide) (by decide)
  simp [adjust, adjustKids_append, adjustKids_cons, h1, h2]

theorem isEl_adjustKids_false (N : Num) (ea : Bool) (d : Int) (b : Bool) (n : String) (ks : List Xml)
    (h : ∀ k ∈ ks, k.isEl n = false) : ∀ k ∈ adjustKids N ea d b ks, k.isEl n = false := by
  intro k hk
  obtain ⟨x, hx, rfl⟩ := mem_adjustKids N ea d b ks k hk
  rw [adjust_isEl]; exact h x hx

/-- the children of `<toc>` that `Sign` keeps carry no signature element, shifted or not -/
theorem kept_nosig (N : Num) (ea : Bool) (d : Int) (b : Bool) (tks : List Xml) :
    ∀ k ∈ adjustKids N ea d b (removeSigs N tks).2, k.isSig = false := by
  intro k hk
  obtain ⟨x, hx, rfl⟩ := mem_adjustKids N ea d b _ k hk
  rw [adjust_isSig]; exact removeSigs_snd_nosig N tks x hx

theorem removeSigs_reserve_append (N : Num) (hN : N.Laws) (hk : HK) (ki : KeyInfo) (hki : ki.small) (rest : List Xml)
    (h : ∀ k ∈ rest, k.isSig = false) : removeSigs N ((reserve N hk ki).1 ++ rest) = ((reserve N hk ki).2, rest) := by
  rw [removeSigs_append, removeSigs_reserve N hN hk ki hki, removeSigs_nosig N _ h]
  simp

/-- the document `Sign` serialises (`p.tree`, or `p.doc1` under any shift `d`): the new signature elements hold no heap
    reference and stand unchanged in front of the shifted remaining children of `<toc>` -/
theorem adjust_doc1 (N : Num) (ea : Bool) (d : Int) (hk : HK) (ki : KeyInfo) (ras : List (String × String)) (pre : List Xml)
    (tas : List (String × String)) (rest post : List Xml) :
    adjust N ea d false (.el "xar" ras (pre ++ .el "toc" tas ((reserve N hk ki).1 ++ rest) :: post)) =
      .el "xar" ras (adjustKids N ea d false pre ++
        .el "toc" tas ((reserve N hk ki).1 ++ adjustKids N ea d false rest) :: adjustKids N ea d false post) := by
  rw [adjust_doc, adjustKids_append, adjustKids_noRef N ea d _ (noRefL_reserve N ea hk ki)]

theorem tocKids_build (ras : List (String × String)) (pre : List Xml) (tas : List (String × String)) (tks post : List Xml)
    (hp : ∀ k ∈ pre, k.isEl "toc" = false) : tocKids (.el "xar" ras (pre ++ .el "toc" tas tks :: post)) = some tks := by
  simp [tocKids, splitFirst_build "toc" pre (.el "toc" tas tks) post (by simp [Xml.isEl]) hp]

theorem tocKids_doc1 (N : Num) (ea : Bool) (d : Int) (hk : HK) (ki : KeyInfo) (ras : List (String × String)) (pre : List Xml)
    (tas : List (String × String)) (rest post : List Xml) (hp : ∀ k ∈ pre, k.isEl "toc" = false) :
    tocKids (adjust N ea d false (.el "xar" ras (pre ++ .el "toc" tas ((reserve N hk ki).1 ++ rest) :: post))) =
      some ((reserve N hk ki).1 ++ adjustKids N ea d false rest) := by
  rw [adjust_doc1]
  exact tocKids_build _ _ _ _ _ (isEl_adjustKids_false N ea d false "toc" pre hp)

/-- `Sign` with key 2 on the document `Sign` with key 1 made of `t` finds exactly the space key 1 reserved as the old signature
    size, and serialises the very document it serialises from `t` directly: nothing of the first signature (elements, sizes,
    offset shift) is left -/
theorem prep_resign (N : Num) (ea : Bool) (hN : N.Laws) (hk1 hk2 : HK) (ki1 ki2 : KeyInfo) (h1 : ki1.small) (t : Xml) (p1 p2 : Prep)
    (e1 : prep N hk1 ki1 t = some p1) (e2 : prep N hk2 ki2 t = some p2) :
    ∃ p2', prep N hk2 ki2 (p1.tree N ea) = some p2' ∧ p2'.origSig = p1.newSig ∧ p2'.newSig = p2.newSig ∧
      p2'.tree N ea = p2.tree N ea := by
  obtain ⟨ras, pre, tas, tks, post, rfl, hp, rfl⟩ := prep_some N hk1 ki1 t p1 e1
  rw [prep_build N hk2 ki2 ras pre tas tks post hp] at e2
  cases e2
  have hb := reserve_size_bounds N hk1 ki1 h1
  have hprep : prep N hk2 ki2 (Prep.tree N ea ⟨.el "xar" ras (pre ++ .el "toc" tas ((reserve N hk1 ki1).1 ++ (removeSigs N tks).2) :: post),
      w64 (removeSigs N tks).1, (reserve N hk1 ki1).2⟩) = some ⟨.el "xar" ras
        (adjustKids N ea (w64 ((reserve N hk1 ki1).2 - w64 (removeSigs N tks).1)) false pre ++
          .el "toc" tas ((reserve N hk2 ki2).1 ++
            adjustKids N ea (w64 ((reserve N hk1 ki1).2 - w64 (removeSigs N tks).1)) false (removeSigs N tks).2) ::
          adjustKids N ea (w64 ((reserve N hk1 ki1).2 - w64 (removeSigs N tks).1)) false post),
        w64 (reserve N hk1 ki1).2, (reserve N hk2 ki2).2⟩ := by
    simp only [Prep.tree, adjust_doc1]
    rw [prep_build N hk2 ki2 ras _ tas _ _ (isEl_adjustKids_false N ea _ false "toc" pre hp),
      removeSigs_reserve_append N hN hk1 ki1 h1 _ (kept_nosig N ea _ false tks)]
  refine ⟨_, hprep, ?_, rfl, ?_⟩
  · simp only
    exact w64_id (by unfold inI64; omega)
  · simp only [Prep.tree, adjust_doc1, adjustKids_adjustKids N ea hN]
    -- the two shifts add up to the shift of the direct signing, modulo 2^64
    have hc : ∀ v, w64 (v + (w64 ((reserve N hk1 ki1).2 - w64 (removeSigs N tks).1) +
        w64 ((reserve N hk2 ki2).2 - w64 (reserve N hk1 ki1).2))) =
        w64 (v + w64 ((reserve N hk2 ki2).2 - w64 (removeSigs N tks).1)) := by
      intro v
      apply w64_congr
      have a := w64_emod ((reserve N hk1 ki1).2 - w64 (removeSigs N tks).1)
      have b := w64_emod ((reserve N hk2 ki2).2 - w64 (reserve N hk1 ki1).2)
      have c := w64_emod ((reserve N hk2 ki2).2 - w64 (removeSigs N tks).1)
      have d : w64 (reserve N hk1 ki1).2 = (reserve N hk1 ki1).2 := w64_id (by unfold inI64; omega)
      rw [d] at b ⊢
      omega
    rw [adjustKids_congr N ea _ _ hc false pre, adjustKids_congr N ea _ _ hc false post,
      adjustKids_congr N ea _ _ hc false (removeSigs N tks).2]

/-- the shift `Sign` applies depends on the old signature size only modulo 2^64 -/
theorem tree_congr (N : Num) (ea : Bool) (p : Prep) (s : Int) (h : p.origSig = w64 s) :
    adjust N ea (w64 (p.newSig - s)) false p.doc1 = p.tree N ea := by
  unfold Prep.tree
  apply adjust_congr
  apply w64_congr
  have a := w64_emod (p.newSig - s)
  have b := w64_emod (p.newSig - p.origSig)
  have c := w64_emod s
  rw [h] at b ⊢
  omega

/-- `prep` and `tocKids` speak of the same `<toc>` children -/
theorem prep_tocKids {N : Num} {hk : HK} {ki : KeyInfo} {t : Xml} {p : Prep} {tks : List Xml}
    (h : prep N hk ki t = some p) (ht : tocKids t = some tks) :
    p.origSig = w64 (removeSigs N tks).1 ∧ p.newSig = (reserve N hk ki).2 := by
  obtain ⟨ras, pre, tas, tks', post, rfl, hp, rfl⟩ := prep_some N hk ki t p h
  rw [tocKids_build _ _ _ _ _ hp] at ht
  cases ht
  exact ⟨rfl, rfl⟩

theorem tree_tocKids (N : Num) (ea : Bool) (hN : N.Laws) (hk : HK) (ki : KeyInfo) (hki : ki.small) (t : Xml) (p : Prep)
    (e : prep N hk ki t = some p) : ∃ tks', tocKids (p.tree N ea) = some tks' ∧ (removeSigs N tks').1 = p.newSig := by
  obtain ⟨ras, pre, tas, tks, post, rfl, hp, rfl⟩ := prep_some N hk ki t p e
  exact ⟨_, tocKids_doc1 N ea _ hk ki ras pre tas _ post hp,
    by rw [removeSigs_reserve_append N hN hk ki hki _ (kept_nosig N ea _ false tks)]⟩

end Relic.Xar
