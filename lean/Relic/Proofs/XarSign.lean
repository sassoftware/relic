/- Relic.Model.Xar: what a successful `Sign` run has tested (`signPlanG_ok_at`, `prepFx_ok`); the tiling test of the repaired
   `removeSigs` and that it accepts what `Sign` reserved; sign, apply, verify (`written_eq_layout`, `verify_written`) -/
import Relic.Proofs.XarFile
import Relic.Proofs.InsertSort
namespace Relic.Xar

/-- a successful run of `Sign`, either tree, taken apart; `p` is the prepared document it worked with -/
theorem signPlanG_ok (fx : Bool) (C : Crypto) (E : Env) (f : Bytes) (hk : HK) (ki : KeyInfo) (so : SignOut)
    (h : (signPlanG fx E f hk ki).run C = .ok so) :
    ∃ hd k0 t n p, parseHeader f = .ok (hd, k0) ∧ hd.clen ≤ 1000000 ∧ hd.ulen ≤ 10000000 ∧
      E.decode (region f 28 hd.clen) = some (t, n) ∧
      (if fx then prepFx E.num hk ki t = .ok p ∧ 0 ≤ hd.clen ∧ 0 ≤ hd.ulen ∧ (n : Int) ≤ hd.ulen ∧
          frontCheck p.origSig (dRefs E.num none p.doc1) = none
        else prep E.num hk ki t = some p) ∧
      so = ⟨hk, p.tree E.num fx, p.origSig, p.newSig, w64 (28 + hd.clen + p.origSig), ki.rsaSize⟩ ∧
      (checkAllStream (f.drop (28 + hd.clen.toNat)) 0 (sortRefs (eRefs E.num p.doc1))).run C = .ok () := by
  revert h
  fun_cases signPlanG fx E f hk ki
  case case8 hd k0 hp hl hneg t n hz hin p hpr hfc _ files =>
    intro h
    obtain ⟨u, hu1, hu2⟩ := (run_bind_ok_iff C _ _ _).mp h
    refine ⟨hd, k0, t, n, p, hp, by omega, by omega, hz, ?_, ?_, by cases u; exact hu1⟩
    · cases fx with
      | false =>
        simp only [Bool.false_eq_true, ↓reduceIte] at hpr ⊢
        cases hq : prep E.num hk ki t with
        | none => rw [hq] at hpr; cases hpr
        | some q => rw [hq] at hpr; cases hpr; rfl
      | true =>
        simp only [↓reduceIte, Bool.true_and, decide_eq_true_eq] at hpr hfc hneg hin ⊢
        exact ⟨hpr, by omega, by omega, by omega, hfc⟩
    · simpa [Plan.pure, Plan.run, runChecks] using hu2.symm
  all_goals exact fun h => by simp [Plan.fail, Plan.run, runChecks] at h

theorem signPlanG_ok_at (fx : Bool) (C : Crypto) (E : Env) (f : Bytes) (hk : HK) (ki : KeyInfo) (so : SignOut)
    (hd : Hdr) (k0 : HK) (t : Xml) (n : Nat) (hp : parseHeader f = .ok (hd, k0))
    (hdec : E.decode (region f 28 hd.clen) = some (t, n)) (h : (signPlanG fx E f hk ki).run C = .ok so) :
    ∃ p, hd.clen ≤ 1000000 ∧ hd.ulen ≤ 10000000 ∧
      (if fx then prepFx E.num hk ki t = .ok p ∧ 0 ≤ hd.clen ∧ 0 ≤ hd.ulen ∧ (n : Int) ≤ hd.ulen ∧
          frontCheck p.origSig (dRefs E.num none p.doc1) = none
        else prep E.num hk ki t = some p) ∧
      so = ⟨hk, p.tree E.num fx, p.origSig, p.newSig, w64 (28 + hd.clen + p.origSig), ki.rsaSize⟩ ∧
      (checkAllStream (f.drop (28 + hd.clen.toNat)) 0 (sortRefs (eRefs E.num p.doc1))).run C = .ok () := by
  obtain ⟨hd', k0', t', n', p, hp', h1, h2, hdec', rest⟩ := signPlanG_ok fx C E f hk ki so h
  rw [hp] at hp'
  obtain ⟨rfl, rfl⟩ := Prod.mk.inj (Except.ok.inj hp')
  rw [hdec] at hdec'
  obtain ⟨rfl, rfl⟩ := Prod.mk.inj (Option.some.inj hdec')
  exact ⟨p, h1, h2, rest⟩

theorem checkFileStream_final (heap : Bytes) (pos : Nat) (r : Ref) :
    (∃ e, (checkFileStream heap pos r).final = .err e) ∨ ∃ p, (checkFileStream heap pos r).final = .ok p := by
  fun_cases checkFileStream heap pos r
  case case4 | case6 => exact Or.inr ⟨_, rfl⟩
  all_goals exact Or.inl ⟨_, rfl⟩

theorem checkAllStream_final (heap : Bytes) : ∀ rs pos, (∃ e, (checkAllStream heap pos rs).final = .err e) ∨ (checkAllStream heap pos rs).final = .ok ()
  | [], _ => Or.inr rfl
  | r :: rs, pos => by
    simp only [checkAllStream, Plan.bind]
    rcases checkFileStream_final heap pos r with ⟨e, h⟩ | ⟨p, h⟩
    · rw [h]; exact Or.inl ⟨e, rfl⟩
    · rw [h]; exact checkAllStream_final heap rs p

theorem signPlanG_final (fx : Bool) (E : Env) (f : Bytes) (hk : HK) (ki : KeyInfo) :
    (∃ so, (signPlanG fx E f hk ki).final = .ok so) ∨ ∃ e, (signPlanG fx E f hk ki).final = .err e := by
  fun_cases signPlanG fx E f hk ki
  case case8 heap _ =>
    simp only [Plan.bind]
    rcases checkAllStream_final heap (sortRefs (eRefs E.num _)) 0 with ⟨e, h⟩ | h
    · rw [h]; exact Or.inr ⟨e, rfl⟩
    · rw [h]; exact Or.inl ⟨_, rfl⟩
  all_goals exact Or.inr ⟨_, rfl⟩

theorem prepFx_ok (N : Num) (hk : HK) (ki : KeyInfo) (t : Xml) (p : Prep) (h : prepFx N hk ki t = .ok p) :
    ∃ p0 tks s, prep N hk ki t = some p0 ∧ tocKids t = some tks ∧ checkSigAreas N tks = .ok s ∧
      p = { p0 with origSig := s } := by
  unfold prepFx at h
  cases hp : prep N hk ki t with
  | none => simp [hp] at h
  | some p0 =>
    cases ht : tocKids t with
    | none => simp [hp, ht] at h
    | some tks =>
      simp only [hp, ht] at h
      cases hc : checkSigAreas N tks with
      | error e => simp [hc] at h
      | ok s =>
        simp only [hc, Except.ok.injEq] at h
        exact ⟨p0, tks, s, rfl, rfl, hc, h.symm⟩

/-! Both sorts of the model (`sortAreas`, `sortRefs`: `sort.Slice` as a stable insertion sort, written as a left fold) are
    instances of `Relic.Insert`; that they permute their input (`Insert.foldl_perm`) is all that is used of them. -/

theorem insertArea_insert : Insert (fun a b : Int × Int => !decide (a.1 < b.1)) insertArea :=
  ⟨fun _ => rfl, fun a b bs => by by_cases h : a.1 < b.1 <;> simp [insertArea, h]⟩

theorem sortAreas_perm (as : List (Int × Int)) : (sortAreas as).Perm as := by
  simpa [sortAreas] using insertArea_insert.foldl_perm as []

theorem insertRef_insert : Insert (fun a b : Ref => !decide (a.offset < b.offset)) insertRef :=
  ⟨fun _ => rfl, fun a b bs => by by_cases h : a.offset < b.offset <;> simp [insertRef, h]⟩

theorem sortRefs_perm (rs : List Ref) : (sortRefs rs).Perm rs := by
  simpa [sortRefs] using insertRef_insert.foldl_perm rs []

theorem mem_sortRefs (x : Ref) (rs : List Ref) : x ∈ sortRefs rs ↔ x ∈ rs := (sortRefs_perm rs).mem_iff

/-- the total size of a list of (offset, size) areas -/
def sumA : List (Int × Int) → Int
  | [] => 0
  | a :: r => a.2 + sumA r

theorem sumA_append : ∀ (a b : List (Int × Int)), sumA (a ++ b) = sumA a + sumA b
  | [], b => by simp [sumA]
  | x :: a, b => by simp only [List.cons_append, sumA, sumA_append a b]; omega

theorem tile_sum : ∀ (as : List (Int × Int)) (s0 s : Int), tile s0 as = some s → s = s0 + sumA as
  | [], s0, s, h => by simp [tile] at h; simp [sumA]; omega
  | a :: r, s0, s, h => by
    simp only [tile] at h
    split at h
    · cases h
    · have := tile_sum r (s0 + a.2) s h
      simp only [sumA]; omega

theorem sumA_perm {l l' : List (Int × Int)} (h : l.Perm l') : sumA l = sumA l' := by
  induction h with
  | nil => rfl
  | cons x _ ih => rw [sumA, sumA, ih]
  | swap x y l => simp only [sumA]; omega
  | trans _ _ ih1 ih2 => rw [ih1, ih2]

theorem sumA_sortAreas (as : List (Int × Int)) : sumA (sortAreas as) = sumA as := sumA_perm (sortAreas_perm as)

theorem sumA_nonneg : ∀ l : List (Int × Int), (∀ a ∈ l, 0 ≤ a.2) → 0 ≤ sumA l
  | [], _ => Int.le_refl 0
  | a :: r, h => by
    have := h a List.mem_cons_self
    have := sumA_nonneg r fun x hx => h x (List.mem_cons_of_mem _ hx)
    simp only [sumA]; omega

theorem sumA_le : ∀ l : List (Int × Int), (∀ a ∈ l, a.2 ≤ 1000000) → sumA l ≤ 1000000 * l.length
  | [], _ => by simp [sumA]
  | a :: r, h => by
    have := h a List.mem_cons_self
    have := sumA_le r fun x hx => h x (List.mem_cons_of_mem _ hx)
    simp only [sumA, List.length_cons]; omega

theorem areaOf_nonneg (N : Num) (ks : List Xml) (a : Int × Int) (h : areaOf N ks = some a) : 0 ≤ a.2 ∧ a.2 ≤ 1000000 := by
  unfold areaOf at h
  simp only at h
  split at h
  · rename_i hc
    simp only [Option.some.injEq] at h
    subst h
    exact ⟨hc.2.2.1, hc.2.2.2.1⟩
  · cases h

theorem areasOfKey_some (N : Num) (key : String) : ∀ (ks : List Xml) (as : List (Int × Int)), areasOfKey N key ks = some as →
    as.length ≤ ks.length ∧ ∀ a ∈ as, 0 ≤ a.2 ∧ a.2 ≤ 1000000
  | [], as, h => by simp [areasOfKey] at h; subst h; simp
  | .tx _ :: rest, as, h => by
    simp only [areasOfKey] at h
    obtain ⟨h1, h2⟩ := areasOfKey_some N key rest as h
    exact ⟨by simp only [List.length_cons]; omega, h2⟩
  | .el n _ ks :: rest, as, h => by
    simp only [areasOfKey] at h
    split at h
    · cases h1 : areaOf N ks with
      | none => simp [h1] at h
      | some a1 =>
        cases h2 : areasOfKey N key rest with
        | none => simp [h1, h2] at h
        | some as2 =>
          simp only [h1, h2, Option.bind_some, Option.map_some, Option.some.injEq] at h
          subst h
          obtain ⟨g1, g2⟩ := areasOfKey_some N key rest as2 h2
          refine ⟨by simp only [List.length_cons]; omega, ?_⟩
          intro a ha
          simp only [List.mem_cons] at ha
          rcases ha with rfl | ha
          · exact areaOf_nonneg N ks _ h1
          · exact g2 a ha
    · obtain ⟨h1, h2⟩ := areasOfKey_some N key rest as h
      exact ⟨by simp only [List.length_cons]; omega, h2⟩

theorem checkSigAreas_ok (N : Num) (ks : List Xml) (s : Int) (h : checkSigAreas N ks = .ok s) :
    ∃ a b c, areasOfKey N "checksum" ks = some a ∧ areasOfKey N "signature" ks = some b ∧
      areasOfKey N "x-signature" ks = some c ∧ tile 0 (sortAreas (a ++ b ++ c)) = some s := by
  unfold checkSigAreas sigAreas at h
  cases ha : areasOfKey N "checksum" ks with
  | none => simp [ha] at h
  | some a =>
    cases hb : areasOfKey N "signature" ks with
    | none => simp [ha, hb] at h
    | some b =>
      cases hc : areasOfKey N "x-signature" ks with
      | none => simp [ha, hb, hc] at h
      | some c =>
        simp only [ha, hb, hc, Option.bind_some, Option.map_some] at h
        split at h
        · cases h
        · rename_i s' ht
          cases h
          exact ⟨a, b, c, rfl, rfl, rfl, ht⟩

/-- the old signature size the repaired `removeSigs` returns is the sum of the areas it collected: at most three per child of
    `<toc>`, each between 0 and 10^6 bytes -/
theorem checkSigAreas_areas (N : Num) (ks : List Xml) (s : Int) (h : checkSigAreas N ks = .ok s) :
    ∃ as : List (Int × Int), as.length ≤ 3 * ks.length ∧ (∀ a ∈ as, 0 ≤ a.2 ∧ a.2 ≤ 1000000) ∧ s = sumA as := by
  obtain ⟨a1, a2, a3, ha1, ha2, ha3, ht⟩ := checkSigAreas_ok N ks s h
  obtain ⟨l1, m1⟩ := areasOfKey_some N _ ks a1 ha1
  obtain ⟨l2, m2⟩ := areasOfKey_some N _ ks a2 ha2
  obtain ⟨l3, m3⟩ := areasOfKey_some N _ ks a3 ha3
  refine ⟨a1 ++ a2 ++ a3, by simp only [List.length_append]; omega, fun a ha => ?_, ?_⟩
  · rcases List.mem_append.mp ha with ha | ha
    · rcases List.mem_append.mp ha with ha | ha
      · exact m1 a ha
      · exact m2 a ha
    · exact m3 a ha
  · rw [tile_sum _ 0 _ ht, sumA_sortAreas]; omega

theorem checkSigAreas_nonneg (N : Num) (ks : List Xml) (s : Int) (h : checkSigAreas N ks = .ok s) : 0 ≤ s := by
  obtain ⟨as, _, hb, rfl⟩ := checkSigAreas_areas N ks s h
  exact sumA_nonneg as fun a ha => (hb a ha).1

theorem areaOf_size (N : Num) (hN : N.Laws) (ks : List Xml) (a : Int × Int) (h : areaOf N ks = some a) : sizeOfSigEl N ks = a.2 := by
  unfold areaOf at h
  simp only at h
  split at h
  · rename_i hc
    simp only [Option.some.injEq] at h
    subst h
    unfold sizeOfSigEl
    unfold fieldOf at hc ⊢
    cases hf : first "size" ks with
    | none =>
      simp only [hf] at hc
      have := hN.empty
      rw [this] at hc
      exact absurd hc.1 (by simp)
    | some se => rfl
  · cases h

theorem areasOfKey_cons_sum (N : Num) (hN : N.Laws) (key n : String) (as : List (String × String)) (ks rest : List Xml)
    (l : List (Int × Int)) (h : areasOfKey N key (.el n as ks :: rest) = some l) :
    ∃ l', areasOfKey N key rest = some l' ∧ sumA l = (if n = key then sizeOfSigEl N ks else 0) + sumA l' := by
  simp only [areasOfKey] at h
  by_cases hn : n = key
  · rw [if_pos hn] at h ⊢
    cases hao : areaOf N ks with
    | none => simp [hao] at h
    | some a1 =>
      cases har : areasOfKey N key rest with
      | none => simp [hao, har] at h
      | some l' =>
        simp only [hao, har, Option.bind_some, Option.map_some, Option.some.injEq] at h
        subst h
        exact ⟨l', rfl, by rw [sumA, areaOf_size N hN ks a1 hao]⟩
  · rw [if_neg hn] at h ⊢
    exact ⟨l, h, by omega⟩

theorem removeSigs_sum (N : Num) (hN : N.Laws) : ∀ (ks : List Xml) (a b c : List (Int × Int)),
    areasOfKey N "checksum" ks = some a → areasOfKey N "signature" ks = some b → areasOfKey N "x-signature" ks = some c →
    (removeSigs N ks).1 = sumA a + sumA b + sumA c
  | [], a, b, c, ha, hb, hc => by
    simp only [areasOfKey, Option.some.injEq] at ha hb hc
    subst ha hb hc
    simp [removeSigs, sumA]
  | .tx _ :: rest, a, b, c, ha, hb, hc => by
    simp only [areasOfKey] at ha hb hc
    simp only [removeSigs]
    exact removeSigs_sum N hN rest a b c ha hb hc
  | .el n as ks :: rest, a, b, c, ha, hb, hc => by
    obtain ⟨a', ha', ea⟩ := areasOfKey_cons_sum N hN _ n as ks rest a ha
    obtain ⟨b', hb', eb⟩ := areasOfKey_cons_sum N hN _ n as ks rest b hb
    obtain ⟨c', hc', ec⟩ := areasOfKey_cons_sum N hN _ n as ks rest c hc
    have ih := removeSigs_sum N hN rest a' b' c' ha' hb' hc'
    -- the three names are distinct: at most one of the three lists gains the element's size
    simp only [removeSigs, isSigName, Bool.or_eq_true, decide_eq_true_eq]
    by_cases h1 : n = "checksum"
    · subst h1
      simp only [String.reduceEq, ↓reduceIte, true_or] at ea eb ec ⊢
      omega
    by_cases h2 : n = "signature"
    · subst h2
      simp only [String.reduceEq, ↓reduceIte, true_or, or_true] at ea eb ec ⊢
      omega
    by_cases h3 : n = "x-signature"
    · subst h3
      simp only [String.reduceEq, ↓reduceIte, or_true] at ea eb ec ⊢
      omega
    simp only [h1, h2, h3, ↓reduceIte, or_self] at ea eb ec ⊢
    omega

/-- the size the repaired `removeSigs` returns is what the original summed: the `<size>` values of the old signature elements -/
theorem checkSigAreas_eq_sum (N : Num) (hN : N.Laws) (ks : List Xml) (s : Int) (h : checkSigAreas N ks = .ok s) :
    s = (removeSigs N ks).1 := by
  obtain ⟨a1, a2, a3, ha1, ha2, ha3, ht⟩ := checkSigAreas_ok N ks s h
  have e := tile_sum _ 0 _ ht
  rw [sumA_sortAreas, sumA_append, sumA_append] at e
  rw [removeSigs_sum N hN ks a1 a2 a3 ha1 ha2 ha3, e]
  omega

theorem areasOfKey_append (N : Num) (key : String) : ∀ (a b : List Xml), areasOfKey N key (a ++ b) =
    (areasOfKey N key a).bind fun x => (areasOfKey N key b).map (x ++ ·)
  | [], b => by cases h : areasOfKey N key b <;> simp [areasOfKey, h]
  | .tx _ :: a, b => by simp only [List.cons_append, areasOfKey]; exact areasOfKey_append N key a b
  | .el n _ ks :: a, b => by
    simp only [List.cons_append, areasOfKey]
    split
    · rw [areasOfKey_append N key a b]
      cases areaOf N ks <;> cases areasOfKey N key a <;> cases areasOfKey N key b <;> simp
    · exact areasOfKey_append N key a b

theorem areasOfKey_nosig (N : Num) (key : String) (hkey : isSigName key = true) : ∀ (b : List Xml), (∀ k ∈ b, k.isSig = false) →
    areasOfKey N key b = some []
  | [], _ => rfl
  | .tx _ :: b, h => by
    simp only [areasOfKey]
    exact areasOfKey_nosig N key hkey b fun k hk => h k (List.mem_cons_of_mem _ hk)
  | .el n _ ks :: b, h => by
    have h1 : isSigName n = false := by simpa [Xml.isSig] using h _ List.mem_cons_self
    have hne : ¬ n = key := by intro e; subst e; rw [hkey] at h1; cases h1
    simp only [areasOfKey, hne, ↓reduceIte]
    exact areasOfKey_nosig N key hkey b fun k hk => h k (List.mem_cons_of_mem _ hk)

theorem areaOf_newSigElement (N : Num) (hN : N.Laws) (key style : String) (o sz : Int) (cs : Option (List String))
    (h1 : inI64 o) (h2 : 0 ≤ sz) (h3 : sz ≤ 1000000) (h4 : 0 ≤ o) :
    areaOf N (newSigElement N key style o sz cs).kids = some (o, sz) := by
  have i2 : inI64 sz := by unfold inI64; omega
  cases cs <;> simp [newSigElement, areaOf, fieldOf, first, Xml.kids, Xml.isEl, etext, hN.rt sz i2, hN.rt o h1, h2, h3, h4]

theorem areasOfKey_cons_newSig (N : Num) (hN : N.Laws) (key k style : String) (o sz : Int) (cs : Option (List String)) (r : List Xml)
    (h1 : inI64 o) (h2 : 0 ≤ sz) (h3 : sz ≤ 1000000) (h4 : 0 ≤ o) :
    areasOfKey N key (newSigElement N k style o sz cs :: r) =
      (areasOfKey N key r).map fun l => if k = key then (o, sz) :: l else l := by
  have a := areaOf_newSigElement N hN k style o sz cs h1 h2 h3 h4
  have b := newSigElement_eq_el N k style o sz cs
  rw [b]
  by_cases hk : k = key
  · subst hk; simp [areasOfKey, a]
  · simp [areasOfKey, hk]

theorem checkSigAreas_reserve (N : Num) (hN : N.Laws) (hk : HK) (ki : KeyInfo) (hfit : ki.fits) (rest : List Xml)
    (hrest : ∀ k ∈ rest, k.isSig = false) : checkSigAreas N ((reserve N hk ki).1 ++ rest) = .ok (reserve N hk ki).2 := by
  have hs := hk.size_le
  obtain ⟨hd, hr⟩ := hfit
  have r1 := areasOfKey_nosig N "checksum" (by decide) rest hrest
  have r2 := areasOfKey_nosig N "signature" (by decide) rest hrest
  have r3 := areasOfKey_nosig N "x-signature" (by decide) rest hrest
  have i1 : inI64 (hk.size : Int) := by unfold inI64; omega
  have c1 := fun key r => areasOfKey_cons_newSig N hN key "checksum" hk.name 0 hk.size none r (by unfold inI64; omega) (by omega)
    (by omega) (by omega)
  have hlt : ¬ ((hk.size : Int) < 0) := by omega
  unfold checkSigAreas sigAreas reserve
  cases hrs : ki.rsaSize with
  | none =>
    have c3 := fun key r => areasOfKey_cons_newSig N hN key "x-signature" "CMS" hk.size (6144 + ki.derTotal) (some ki.certTexts) r
      i1 (by omega) (by omega) (by omega)
    simp only [List.cons_append, List.nil_append, c1, c3, r1, r2, r3, Option.map_some, Option.bind_some, String.reduceEq, if_true, if_false]
    simp [sortAreas, insertArea, tile, hlt]
  | some n =>
    have hn := hr n hrs
    have c2 := fun key r => areasOfKey_cons_newSig N hN key "signature" "RSA" hk.size n (some ki.certTexts) r i1 (by omega) (by omega)
      (by omega)
    have c3 := fun key r => areasOfKey_cons_newSig N hN key "x-signature" "CMS" (hk.size + n) (6144 + ki.derTotal) (some ki.certTexts) r
      (by unfold inI64; omega) (by omega) (by omega) (by omega)
    have hlt2 : ¬ ((hk.size : Int) + n < 0) := by omega
    have hlt3 : ¬ ((hk.size : Int) + n < hk.size) := by omega
    simp only [List.cons_append, List.nil_append, c1, c2, c3, r1, r2, r3, Option.map_some, Option.bind_some, String.reduceEq, if_true,
      if_false]
    simp [sortAreas, insertArea, tile, hlt, hlt2, hlt3]

/-- the `<toc>` children of what `Sign` serialises pass the tiling test of the next `Sign`, with the reserved space as result -/
theorem tree_checkSigAreas (N : Num) (ea : Bool) (hN : N.Laws) (hk : HK) (ki : KeyInfo) (hfit : ki.fits) (t : Xml) (p : Prep)
    (e : prep N hk ki t = some p) : ∃ tks', tocKids (p.tree N ea) = some tks' ∧ checkSigAreas N tks' = .ok p.newSig := by
  obtain ⟨ras, pre, tas, tks, post, rfl, hp, rfl⟩ := prep_some N hk ki t p e
  exact ⟨_, tocKids_doc1 N ea _ hk ki ras pre tas _ post hp,
    checkSigAreas_reserve N hN hk ki hfit _ (kept_nosig N ea _ false tks)⟩

theorem frontCheck_none (o : Int) : ∀ ds : List DRef, frontCheck o ds = none →
    ∀ d ∈ ds, d.length ≠ 0 → o ≤ d.offset ∧ d.sum ≠ none
  | [], _, d, hd, _ => by simp at hd
  | x :: xs, h, d, hd, hl => by
    simp only [frontCheck] at h
    split at h
    · cases h
    · rename_i h1
      split at h
      · cases h
      · rename_i h2
        simp only [List.mem_cons] at hd
        rcases hd with rfl | hd
        · refine ⟨?_, ?_⟩
          · by_cases hlt : d.offset < o
            · exact absurd ⟨hl, hlt⟩ h1
            · omega
          · intro hs; exact h2 ⟨hs, hl⟩
        · exact frontCheck_none o xs h d hd hl

/-- the facts `checkFile` establishes about one member on the input heap -/
def Checked (C : Crypto) (heap : Bytes) (r : Ref) : Prop :=
  ∃ k exp, hkOfStyle r.style = some k ∧ unhex r.digest = some exp ∧ 0 ≤ r.length ∧
    (r.length ≠ 0 → 0 ≤ r.offset ∧ r.offset.toNat + r.length.toNat ≤ heap.length) ∧
    C.H k (sl heap r.offset.toNat r.length.toNat) = exp

theorem checkFileStream_ok (C : Crypto) (heap : Bytes) (pos pos' : Nat) (r : Ref)
    (h : (checkFileStream heap pos r).run C = .ok pos') : Checked C heap r := by
  rw [run_ok_iff] at h
  obtain ⟨hc, hf⟩ := h
  unfold checkFileStream at hc hf
  cases hs : hkOfStyle r.style with
  | none => simp [hs, Plan.fail] at hf
  | some k =>
    simp only [hs] at hc hf
    cases hx : unhex r.digest with
    | none => simp [hx, Plan.fail] at hf
    | some exp =>
      simp only [hx] at hc hf
      by_cases h1 : r.length < 0
      · simp [h1, Plan.fail] at hf
      · simp only [h1, ↓reduceIte] at hc hf
        by_cases h2 : r.length = 0
        · simp only [h2, ↓reduceIte] at hc hf
          refine ⟨k, exp, hs, hx, by omega, fun h => absurd h2 h, ?_⟩
          have := hc _ List.mem_cons_self
          simp only [Check.holds, beq_iff_eq] at this
          simpa [h2, sl] using this
        · simp only [h2, ↓reduceIte] at hc hf
          by_cases h3 : r.offset < (pos : Int)
          · simp [h3, Plan.fail] at hf
          · simp only [h3, ↓reduceIte] at hc hf
            by_cases h4 : r.offset.toNat + r.length.toNat ≤ heap.length
            · simp only [h4, ↓reduceIte] at hc hf
              refine ⟨k, exp, hs, hx, by omega, fun _ => ⟨by omega, h4⟩, ?_⟩
              have := hc _ List.mem_cons_self
              simpa [Check.holds] using this
            · simp [h4, Plan.fail] at hf

theorem checkAllStream_ok (C : Crypto) (heap : Bytes) : ∀ (rs : List Ref) (pos : Nat),
    (checkAllStream heap pos rs).run C = .ok () → ∀ r ∈ rs, Checked C heap r
  | [], _, _, r, hr => by simp at hr
  | x :: xs, pos, h, r, hr => by
    simp only [checkAllStream] at h
    obtain ⟨pos', h1, h2⟩ := (run_bind_ok_iff C _ _ _).mp h
    simp only [List.mem_cons] at hr
    rcases hr with rfl | hr
    · exact checkFileStream_ok C heap pos pos' _ h1
    · exact checkAllStream_ok C heap xs pos' h2 r hr

theorem checkAllAt_of_each (C : Crypto) (f : Bytes) (base : Int) : ∀ rs : List Ref,
    (∀ r ∈ rs, (checkFileAt f base r).run C = .ok ()) → (checkAllAt f base rs).run C = .ok ()
  | [], _ => by simp [checkAllAt, Plan.pure, Plan.run, runChecks]
  | x :: xs, h => by
    simp only [checkAllAt]
    exact (run_bind_ok_iff C _ _ _).mpr ⟨(), h x List.mem_cons_self,
      checkAllAt_of_each C f base xs fun r hr => h r (List.mem_cons_of_mem _ hr)⟩

theorem flatXs_append (xs ys : List XFile) : flatXs (xs ++ ys) = flatXs xs ++ flatXs ys := by
  induction xs with
  | nil => simp [flatXs]
  | cons x xs ih => simp [flatXs, ih]

theorem gather_sub_flat : ∀ fs : List XFile, ∀ x ∈ gather fs, x.acc ∈ flatXs fs ∧ x.acc.length ≠ 0
  | [], x, hx => by simp [gather] at hx
  | .mk a ks :: rest, x, hx => by
    simp only [gather] at hx
    split at hx
    · rename_i hl
      simp only [List.mem_cons] at hx
      rcases hx with rfl | hx
      · exact ⟨by simp [flatXs, flatX, XFile.acc], hl⟩
      · obtain ⟨h1, h2⟩ := gather_sub_flat rest x hx
        exact ⟨by simp [flatXs, flatX, h1], h2⟩
    · simp only [List.mem_append] at hx
      rcases hx with hx | hx
      · obtain ⟨h1, h2⟩ := gather_sub_flat ks x hx
        exact ⟨by simp [flatXs, flatX, h1], h2⟩
      · obtain ⟨h1, h2⟩ := gather_sub_flat rest x hx
        exact ⟨by simp [flatXs, flatX, h1], h2⟩

/-- `adjustOffsets` moves a struct only if its `<file>` had a `<data>` element -/
def FileAcc.shiftIf (d : Int) (b : FileAcc) : FileAcc := if b.hasData then b.shift d else b

mutual
theorem flatX_shift (d : Int) : ∀ x, flatX (shiftX d x) = (flatX x).map (FileAcc.shiftIf d)
  | .mk a ks => by simp [shiftX, flatX, FileAcc.shiftIf, flatXs_shift d ks]
theorem flatXs_shift (d : Int) : ∀ xs, flatXs (shiftXs d xs) = (flatXs xs).map (FileAcc.shiftIf d)
  | [] => by simp [shiftXs, flatXs]
  | x :: xs => by simp [shiftXs, flatXs, flatX_shift d x, flatXs_shift d xs]
end

theorem umFiles_length_of_noData (N : Num) (ks : List Xml) (fs : List XFile) (h : umFiles N ks = some fs) :
    ∀ b ∈ flatXs fs, b.hasData = false → b.length = 0 := by
  intro b hb hd
  obtain ⟨k, _, ho⟩ := mem_flatXs_umFiles N ks fs h b hb
  have h0 : count "data" k = 0 := by
    have := ownAcc_hasData N k {} b ho
    rw [hd] at this
    simpa using this.symm
  exact (ownAcc_data_frame N k {} b h0 ho).2.1

theorem append_cons_unique (n : String) : ∀ (pre pre' : List Xml) (t t' : Xml) (post post' : List Xml),
    pre ++ t :: post = pre' ++ t' :: post' → (∀ k ∈ pre, k.isEl n = false) → (∀ k ∈ pre', k.isEl n = false) →
    t.isEl n = true → t'.isEl n = true → pre = pre' ∧ t = t' ∧ post = post' := by
  intro pre pre' t t' post post' h hp hp' ht ht'
  have a := splitFirst_build n pre t post ht hp
  have b := splitFirst_build n pre' t' post' ht' hp'
  rw [h, b] at a
  simp only [Option.some.injEq, Prod.mk.injEq] at a
  exact ⟨a.1.symm, a.2.1.symm, a.2.2.symm⟩

theorem newBytes_some (C : Crypto) (E : Env) (so : SignOut) (rsa cms body : Bytes) (h : newBytes C E so rsa cms = some body) :
    (so.hk.size + rsa.length + cms.length : Int) ≤ so.newSig ∧
    body = (newHdr so.hk (E.encode so.tree).1.length (E.encode so.tree).2).enc ++ (E.encode so.tree).1 ++
      C.H so.hk (E.encode so.tree).1 ++ rsa ++ cms ++ zeros (so.newSig.toNat - (so.hk.size + rsa.length + cms.length)) := by
  unfold newBytes at h
  simp only at h
  split at h
  · cases h
  · rename_i hu
    simp only [Option.some.injEq] at h
    exact ⟨by omega, h.symm⟩

/-- what `appendSignatures` produced, in front of the rest of the input, is a `layout`; its own length -/
theorem written_eq_layout (C : Crypto) (E : Env) (hH : ∀ k b, (C.H k b).length = k.size) (f : Bytes) (so : SignOut) (ot : Int)
    (rsa cms body : Bytes) (hb : newBytes C E so rsa cms = some body) :
    written f ot body = layout C so.hk (E.encode so.tree).1 (E.encode so.tree).2 rsa
      (cms ++ zeros (so.newSig.toNat - (so.hk.size + rsa.length + cms.length))) (f.drop ot.toNat) ∧
    (body.length : Int) = 28 + (E.encode so.tree).1.length + so.newSig ∧
    ((cms ++ zeros (so.newSig.toNat - (so.hk.size + rsa.length + cms.length))).length : Int) =
      so.newSig - (so.hk.size + rsa.length) := by
  obtain ⟨hfit, hbody⟩ := newBytes_some C E so rsa cms body hb
  refine ⟨by simp [written, hbody, layout, List.append_assoc], ?_, ?_⟩
  · rw [hbody]
    simp only [List.length_append, Hdr.enc_length, hH, zeros, List.length_replicate]
    omega
  · simp only [List.length_append, zeros, List.length_replicate]
    omega

/-- what `gatherDataFiles` takes from the shifted structs is the shift of a struct with a `<data>` element and a non-zero
    length, which the etree reader lists too -/
theorem gathered_of_signed (N : Num) (hN : N.Laws) (ks : List Xml) (fs : List XFile) (δ : Int) (hr : regFileKids N ks = true)
    (hfs : umFiles N ks = some fs) (x : XFile) (hx : x ∈ gather (shiftXs δ fs)) :
    ∃ b d, b.length ≠ 0 ∧ x.acc = b.shift δ ∧ d ∈ dRefsKids N none ks ∧ Agrees b d := by
  obtain ⟨hxf, hxl⟩ := gather_sub_flat _ x hx
  rw [flatXs_shift, List.mem_map] at hxf
  obtain ⟨b, hbm, hbx⟩ := hxf
  have hblen : b.length ≠ 0 := by
    rw [← hbx] at hxl
    unfold FileAcc.shiftIf FileAcc.shift at hxl
    split at hxl <;> simpa using hxl
  have hbd : b.hasData = true := by
    cases hbd' : b.hasData with
    | true => rfl
    | false => exact absurd (umFiles_length_of_noData N _ fs hfs b hbm hbd') hblen
  obtain ⟨d, hdm, ha⟩ := flat_agrees_toc N hN ks fs hr hfs b hbm hbd
  refine ⟨b, d, hblen, ?_, hdm, ha⟩
  rw [← hbx, FileAcc.shiftIf, if_pos hbd]

/-- a struct with bytes that agrees with a `//file/data` of the prepared document was checked by `Sign`, and lies behind the old
    signature area -/
theorem signed_member_checked (C : Crypto) (N : Num) (heap : Bytes) (doc1 : Xml) (s : Int)
    (hstream : (checkAllStream heap 0 (sortRefs (eRefs N doc1))).run C = .ok ())
    (hmem : ∀ d ∈ dRefs N none doc1, d.length ≠ 0 → s ≤ d.offset ∧ d.sum ≠ none)
    (b : FileAcc) (d : DRef) (hd : d ∈ dRefs N none doc1) (ha : Agrees b d) (hl : b.length ≠ 0) :
    s ≤ b.offset ∧ Checked C heap ⟨d.name, b.offset, b.length, b.astyle, b.adigest⟩ := by
  obtain ⟨hoff, hlen, hsumd⟩ := ha
  obtain ⟨hfr, hsome⟩ := hmem d hd (by rw [hlen]; exact hl)
  have hdsum : d.sum = some (b.astyle, b.adigest) := by
    rcases hsumd with h | h
    · exact h
    · exact absurd h hsome
  refine ⟨by rw [← hoff]; exact hfr, checkAllStream_ok C _ _ 0 hstream _ ?_⟩
  rw [mem_sortRefs]
  unfold eRefs
  rw [List.mem_filterMap]
  exact ⟨d, hd, by simp [DRef.toRef?, hdsum, hoff, hlen]⟩

/-- A member behind the old signature area keeps its bytes.  `body` (header, table of contents of `nz` bytes, `ns` bytes of
    signature area) replaces the first `28 + c + s` bytes of `f`.  A range `Sign` checked at heap offset `off ≥ s` of the input
    lies, in the written file, at heap offset `off + (ns − s)` behind the new heap base `28 + nz`: the same bytes, so the same
    comparison succeeds (the name is not looked at). -/
theorem member_check_after (C : Crypto) (f body : Bytes) (c s ns nz : Nat) (hns : ns < 2 ^ 40)
    (hbody : body.length = 28 + nz + ns)
    (name name' style digest : String) (off len : Int) (hfront : (s : Int) ≤ off) (hlen : len ≠ 0) (hoff : off < 2 ^ 60)
    (hc : Checked C (f.drop (28 + c)) ⟨name, off, len, style, digest⟩) :
    (checkFileAt (written f (28 + (c : Int) + s) body) (28 + (nz : Int))
      ⟨name', w64 (off + w64 ((ns : Int) - s)), len, style, digest⟩).run C = .ok () := by
  obtain ⟨k, exp, h1, h2, h3, h4, h5⟩ := hc
  dsimp only at h1 h2 h3 h4 h5
  -- offset and length are natural numbers; so is the shifted offset, since the member lies behind the old signature
  obtain ⟨o, rfl⟩ := Int.eq_ofNat_of_zero_le (Int.le_trans (Int.natCast_nonneg s) hfront)
  obtain ⟨l, rfl⟩ := Int.eq_ofNat_of_zero_le h3
  have e1 : w64 ((ns : Int) - s) = ns - s := w64_id (by unfold inI64; omega)
  have eo : w64 ((o : Int) + ((ns : Int) - s)) = ((o - s + ns : Nat) : Int) := by
    rw [w64_id (by unfold inI64; omega)]; omega
  have et : ((28 : Int) + c + s).toNat = 28 + c + s := by
    rw [show (28 : Int) + c + s = ((28 + c + s : Nat) : Int) by omega, Int.toNat_natCast]
  rw [e1, eo, show (28 : Int) + nz = ((28 + nz : Nat) : Int) by omega]
  clear e1 eo
  simp only [Int.toNat_natCast] at h4 h5
  obtain ⟨-, h4b⟩ := h4 hlen
  rw [List.length_drop] at h4b
  have hsl : sl (body ++ f.drop (28 + c + s)) (28 + nz + (o - s + ns)) l = sl f (28 + c + o) l := by
    rw [show 28 + nz + (o - s + ns) = body.length + (o - s) by omega, sl_skip body _ _ _ (Nat.le_add_right _ _),
      Nat.add_sub_cancel_left, sl_drop, show 28 + c + s + (o - s) = 28 + c + o by omega]
  unfold checkFileAt written
  simp only [h1, h2, et]
  have c1 : ¬ (((o - s + ns : Nat) : Int) < 0 ∨ (l : Int) < 0 ∨ ((28 + nz : Nat) : Int) < 0 ∨
      ((o - s + ns : Nat) : Int) ≥ 2 ^ 62) := by omega
  have c2 : 28 + nz + (o - s + ns) + l ≤ (body ++ f.drop (28 + c + s)).length := by
    rw [List.length_append, List.length_drop]; omega
  rw [if_neg c1, ← Int.natCast_add, Int.toNat_natCast, Int.toNat_natCast, if_pos c2, run_ok_iff]
  refine ⟨fun ch hch => ?_, rfl⟩
  rw [List.mem_singleton.mp hch, hsl]
  simp only [Check.holds, beq_iff_eq]
  rw [← h5, sl_drop]

theorem mem_dRefs_doc1 (N : Num) (ras : List (String × String)) (pre : List Xml) (tas : List (String × String))
    (new rest post : List Xml) (d : DRef) (h : d ∈ dRefsKids N none rest) :
    d ∈ dRefs N none (.el "xar" ras (pre ++ .el "toc" tas (new ++ rest) :: post)) := by
  have e1 : ("xar" == "file") = false := by decide
  have e2 : ("toc" == "file") = false := by decide
  simp only [dRefs, List.nil_append, e1, Bool.false_eq_true, ↓reduceIte, dRefsKids_append, dRefsKids_cons, e2,
    List.mem_append]
  exact Or.inr (Or.inl (Or.inr h))

/-- Sign, apply, verify (both trees).  `p0` is the prepared document, `s` the old signature size the signer worked
    with; the facts the repaired signer establishes itself (`hmem`, `h0`, `hcl`) are hypotheses here. -/
theorem verify_written (fx : Bool) (C : Crypto) (E : Env) (hE : E.Laws) (hH : ∀ k b, (C.H k b).length = k.size)
    (f : Bytes) (hk : HK) (ki : KeyInfo) (hki : ki.small) (rsa cms body : Bytes)
    (cl : Int) (t : Xml) (x0 : XToc) (p0 : Prep) (s : Int)
    (hprep : prep E.num hk ki t = some p0)
    (hstream : (checkAllStream (f.drop (28 + cl.toNat)) 0 (sortRefs (eRefs E.num p0.doc1))).run C = .ok ())
    (hb : newBytes C E ⟨hk, adjust E.num fx (w64 (p0.newSig - s)) false p0.doc1, s, p0.newSig, w64 (28 + cl + s), ki.rsaSize⟩ rsa cms = some body)
    (hrsa : rsa.length = ki.rsaSize.getD 0)
    (hc1 : ki.certTexts ≠ []) (hc2 : ∀ c ∈ ki.certTexts, E.certOk c = true)
    (hcms : C.cmsOk (cms ++ zeros (p0.newSig.toNat - (hk.size + rsa.length + cms.length)))
      (C.H hk (E.encode (adjust E.num fx (w64 (p0.newSig - s)) false p0.doc1)).1) = true)
    (hreg : regularDoc E.num t = true) (hu : unmarshal E.num t = some x0)
    (hmem : ∀ d ∈ dRefs E.num none p0.doc1, d.length ≠ 0 → s ≤ d.offset ∧ d.sum ≠ none)
    (h0 : 0 ≤ s) (hcl : 0 ≤ cl) (h1 : 28 + cl + s ≤ f.length) (hfl : f.length < 2 ^ 60)
    (hzl : (E.encode (adjust E.num fx (w64 (p0.newSig - s)) false p0.doc1)).1.length < 2 ^ 40)
    (hul : (E.encode (adjust E.num fx (w64 (p0.newSig - s)) false p0.doc1)).2 ≤ 100000000) :
    ∃ v, (verifyPlanG fx E (written f (w64 (28 + cl + s)) body) false).run C = .ok v ∧ v.hk = hk := by
  have hshape := regularDoc_shape E.num t hreg
  have hus := unmarshal_shifted E.num fx hE.num hk ki hki t p0 x0 (w64 (p0.newSig - s)) hprep hu hreg
  obtain ⟨ras, pre, tas, tks, post, ht, hpre, hpeq⟩ := prep_some E.num hk ki _ p0 hprep
  subst ht
  obtain ⟨hpost, hrk⟩ := hshape ras pre tas tks post rfl hpre
  have hPn : p0.newSig = (reserve E.num hk ki).2 := by rw [hpeq]
  have hPd : p0.doc1 = .el "xar" ras (pre ++ .el "toc" tas ((reserve E.num hk ki).1 ++ (removeSigs E.num tks).2) :: post) := by rw [hpeq]
  have hrb := reserve_size_bounds E.num hk ki hki
  have hrs := reserve_snd E.num hk ki
  rw [← hPn] at hrb hrs
  clear hpeq hPn hshape hreg
  generalize p0.newSig = nsI at *
  obtain ⟨c, rfl⟩ := Int.eq_ofNat_of_zero_le hcl
  obtain ⟨s, rfl⟩ := Int.eq_ofNat_of_zero_le h0
  obtain ⟨ns, rfl⟩ := Int.eq_ofNat_of_zero_le hrb.1
  replace hrb := hrb.2
  clear hcl h0
  rw [Int.toNat_natCast] at hstream hcms
  generalize adjust E.num fx (w64 ((ns : Int) - s)) false p0.doc1 = tree at *
  have hot : w64 (28 + (c : Int) + s) = 28 + c + s := w64_id (by unfold inI64; omega)
  rw [hot] at hb ⊢
  clear hot
  obtain ⟨hg, hbl, hcml⟩ := written_eq_layout C E hH f _ (28 + (c : Int) + s) rsa cms body hb
  have et : ((28 : Int) + c + s).toNat = 28 + c + s := by
    rw [show (28 : Int) + c + s = ((28 + c + s : Nat) : Int) by omega, Int.toNat_natCast]
  simp only [Int.toNat_natCast, et] at hg hbl hcml
  have hsz := hk.size_le
  have hcmsl : ((cms ++ zeros (ns - (hk.size + rsa.length + cms.length))).length : Int) = 6144 + ki.derTotal := by omega
  clear hrs
  obtain ⟨tk, hopen⟩ := open_layout fx C E hH hk ki hki _ _ rsa _ (f.drop (28 + c + s)) tree _ _
    (hE.dec_enc tree) hus hzl hul (Nat.le_refl _) hrsa hcmsl hc1 hc2 (by
      rw [layout_length C hH, List.length_drop]
      omega)
  rw [← hg] at hopen
  have htr : tocRegion (written f (28 + (c : Int) + s) body) = (E.encode tree).1 := by
    rw [hg]; exact tocRegion_layout C hk _ _ rsa _ _ (by omega) (by omega)
  refine ⟨⟨hk, tk.isSome⟩, ?_, rfl⟩
  unfold verifyPlanG
  refine (run_bind_ok_iff C _ _ _).mpr ⟨_, by rw [hopen, run_ok_iff]; exact ⟨by simp [Check.holds], rfl⟩, ?_⟩
  rw [htr]
  unfold verifyOpened
  simp only
  refine (run_bind_ok_iff C _ _ _).mpr ⟨(), ?_, (run_bind_ok_iff C _ _ _).mpr ⟨(), ?_, by simp [Plan.pure, Plan.run, runChecks]⟩⟩
  · rw [run_ok_iff]
    refine ⟨fun c hc => ?_, rfl⟩
    rw [List.mem_singleton.mp hc]
    simpa [Check.holds] using hcms
  simp only [Bool.false_eq_true, ↓reduceIte]
  apply checkAllAt_of_each
  intro r hr
  rw [mem_sortRefs, List.mem_map] at hr
  obtain ⟨x', hx', rfl⟩ := hr
  -- the struct is the shift of one that the etree reader saw too, and that `Sign` checked
  rw [unmarshal_one_toc E.num "xar" ras pre tas tks post hpre hpost] at hu
  obtain ⟨fs, hfs, hx0⟩ := umTocKids_files E.num tks emptyToc x0 hu
  have hx0' : x0.files = fs := by simpa [emptyToc] using hx0
  obtain ⟨b, d, hblen, hxa, hdm, ha⟩ := gathered_of_signed E.num hE.num _ fs _ (regFileKids_removeSigs E.num tks hrk) hfs x'
    (by rw [← hx0']; exact hx')
  obtain ⟨hfr, hchk⟩ := signed_member_checked C E.num _ p0.doc1 s hstream hmem b d
    (by rw [hPd]; exact mem_dRefs_doc1 E.num ras pre tas _ _ post d hdm) ha hblen
  have hoff : b.offset < 2 ^ 60 := by
    obtain ⟨_, _, _, _, _, h4, _⟩ := hchk
    have := (h4 hblen).2
    simp only [List.length_drop] at this
    omega
  have hxr : x'.ref = ⟨b.name, w64 (b.offset + w64 ((ns : Int) - s)), b.length, b.astyle, b.adigest⟩ := by
    unfold XFile.ref FileAcc.ref; rw [hxa]; rfl
  rw [hxr]
  exact member_check_after C f body c s ns (E.encode tree).1.length (by omega) (by omega) d.name b.name b.astyle b.adigest
    b.offset b.length hfr hblen hoff hchk

end Relic.Xar
