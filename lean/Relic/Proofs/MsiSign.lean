/-
  The MSI sign → insert → verify model (`Relic.Model.MsiSign`).  The notions of this file: `Reread` (what `Close` +
  `ReadFile` may change), `inserted` (what `InsertMSISignature` leaves), `lastNamed` (what `VerifyMSI` finds), the class
  `DocOk`, `PayloadSame`; each model function gets its closed form, and the flow theorems are read off those.
-/
import Relic.Model.MsiSign
import Relic.Proofs.MsiTar
namespace Relic.MsiSign
open Relic.MsiDigest Relic.RedBlack

/-- a directory entry without its tree links and start sector (`rebuildTree`, `addStream` set them anew) -/
def stripM (m : Meta) : Meta := { m with color := 0, left := 0, right := 0, child := 0, start := 0 }

/-- the root entry: its size field is the length of the mini-stream container as well -/
def stripRoot (m : Meta) : Meta := { stripM m with size := 0 }

def strip : Node → Node
  | .mk m c k => .mk (stripM m) c k

/-- `d'` is what `comdoc.ReadFile` may deliver after `d` was written by `Close`: the same root entry and the same
    entries of the root storage – contents, sub-trees and every field except colour, the three links and the start
    sector – in any `ListDir` order -/
def Reread (d d' : Node) : Prop :=
  stripRoot d'.meta = stripRoot d.meta ∧ (d'.kids.map strip).Perm (d.kids.map strip)

theorem Reread.refl (d : Node) : Reread d d := ⟨rfl, List.Perm.refl _⟩

theorem Reread.trans {a b c : Node} (h₁ : Reread a b) (h₂ : Reread b c) : Reread a c :=
  ⟨h₂.1.trans h₁.1, h₂.2.trans h₁.2⟩

@[simp] theorem strip_meta (n : Node) : (strip n).meta = stripM n.meta := by cases n; rfl
@[simp] theorem strip_content (n : Node) : (strip n).content = n.content := by cases n; rfl
@[simp] theorem strip_kids (n : Node) : (strip n).kids = n.kids := by cases n; rfl
@[simp] theorem goName_stripM (m : Meta) : goName (stripM m) = goName m := rfl
@[simp] theorem isSig_stripM (m : Meta) : isSig (stripM m) = isSig m := rfl
@[simp] theorem typ_stripM (m : Meta) : (stripM m).typ = m.typ := rfl
@[simp] theorem specName_stripM (m : Meta) : Spec.MsiDigest.specName (stripM m) = Spec.MsiDigest.specName m := rfl
@[simp] theorem isSigStream_stripM (m : Meta) :
    Spec.MsiDigest.isSignatureStream (stripM m) = Spec.MsiDigest.isSignatureStream m := rfl
@[simp] theorem specBefore_stripM (a b : Meta) :
    Spec.MsiDigest.specBefore (stripM a) (stripM b) = Spec.MsiDigest.specBefore a b := rfl
@[simp] theorem wfNameB_stripM (m : Meta) : wfNameB (stripM m) = wfNameB m := rfl
@[simp] theorem metaInput_stripM (m : Meta) :
    Spec.MsiDigest.metaInput (stripM m) false = Spec.MsiDigest.metaInput m false := rfl

theorem metas_strip (ks : List Node) : metas (ks.map strip) = (metas ks).map stripM := by
  simp [metas, List.map_map, Function.comp_def]

variable {β : Type}

def stripFst (x : Meta × β) : Meta × β := (stripM x.1, x.2)

theorem digestOrder_strip (l : List (Meta × β)) :
    Spec.MsiDigest.digestOrder (l.map stripFst) = (Spec.MsiDigest.digestOrder l).map stripFst :=
  digestOrder_map stripFst (fun _ _ => rfl) l

theorem sigFilter_strip (isRoot : Bool) (l : List (Meta × Bytes)) :
    ((l.map stripFst).filter (fun k => !(isRoot && Spec.MsiDigest.isSignatureStream k.1))).flatMap (·.2) =
    (l.filter (fun k => !(isRoot && Spec.MsiDigest.isSignatureStream k.1))).flatMap (·.2) := by
  rw [List.filter_map, List.flatMap_map]
  rfl

theorem entryInput_strip (n : Node) : Spec.MsiDigest.entryInput (strip n) = stripFst (Spec.MsiDigest.entryInput n) := by
  cases n with
  | mk m c k => simp only [strip, Spec.MsiDigest.entryInput, stripFst]; rfl

theorem entryMeta_strip (n : Node) : Spec.MsiDigest.entryMeta (strip n) = stripFst (Spec.MsiDigest.entryMeta n) := by
  cases n with
  | mk m c k => simp only [strip, Spec.MsiDigest.entryMeta, stripFst]; rfl

theorem entriesInput_strip (ks : List Node) :
    Spec.MsiDigest.entriesInput (ks.map strip) = (Spec.MsiDigest.entriesInput ks).map stripFst := by
  rw [entriesInput_eq_map, entriesInput_eq_map]
  exact map_map_comm strip _ stripFst entryInput_strip ks

theorem entriesMeta_strip (ks : List Node) :
    Spec.MsiDigest.entriesMeta (ks.map strip) = (Spec.MsiDigest.entriesMeta ks).map stripFst := by
  rw [entriesMeta_eq_map, entriesMeta_eq_map]
  exact map_map_comm strip _ stripFst entryMeta_strip ks

theorem hashInput_strip (m : Meta) (c : Bytes) (ks : List Node) :
    Spec.MsiDigest.hashInput (.mk m c (ks.map strip)) = Spec.MsiDigest.hashInput (.mk m c ks) := by
  unfold Spec.MsiDigest.hashInput Spec.MsiDigest.dirInput
  simp only [Node.meta, Node.kids]
  rw [entriesInput_strip, digestOrder_strip, sigFilter_strip]

theorem prehashInput_strip (m : Meta) (c : Bytes) (ks : List Node) :
    Spec.MsiDigest.prehashInput (.mk m c (ks.map strip)) = Spec.MsiDigest.prehashInput (.mk m c ks) := by
  unfold Spec.MsiDigest.prehashInput Spec.MsiDigest.dirMetaInput
  simp only [Node.meta, Node.kids]
  rw [entriesMeta_strip, digestOrder_strip, sigFilter_strip]

theorem sibsOk_strip (ms : List Meta) : SibsOk (ms.map stripM) ↔ SibsOk ms := by
  simp only [SibsOk, List.forall_mem_map, List.pairwise_map, wfNameB_stripM, specName_stripM]

theorem sibsOk_perm {a b : List Meta} (hp : a.Perm b) (h : SibsOk a) : SibsOk b :=
  ⟨fun m hm => h.1 m (hp.symm.subset hm), hp.pairwise h.2 (fun hab e => hab e.symm)⟩

theorem okAt_strip (b : Bool) (n : Node) : Node.okAt b (strip n) ↔ Node.okAt b n := by
  cases n with
  | mk m c k => simp only [strip]; rw [Node.okAt, Node.okAt]

theorem Reread.okAt {d d' : Node} (h : Reread d d') (hd : Node.okAt true d) : Node.okAt true d' := by
  cases d with
  | mk m c ks =>
  cases d' with
  | mk m' c' ks' =>
    rw [okAt_root_iff] at hd ⊢
    have hp : (ks'.map strip).Perm (ks.map strip) := h.2
    refine ⟨?_, ?_⟩
    · rw [← sibsOk_strip, ← metas_strip]
      have : (metas (ks.map strip)).Perm (metas (ks'.map strip)) := by
        unfold metas; exact (hp.map _).symm
      exact sibsOk_perm this (by rw [metas_strip, sibsOk_strip]; exact hd.1)
    · intro k hk
      have : strip k ∈ ks.map strip := hp.subset (List.mem_map_of_mem hk)
      obtain ⟨k0, hk0, e⟩ := List.mem_map.mp this
      rw [← okAt_strip, ← e, okAt_strip]
      exact hd.2 k0 hk0

theorem Reread.typ {d d' : Node} (h : Reread d d') : d'.meta.typ = d.meta.typ :=
  -- `have` first: the expected type has `d'.meta`, `h.1` has `stripRoot d'.meta`
  have := congrArg Meta.typ h.1
  this

theorem Reread.clsid {d d' : Node} (h : Reread d d') : d'.meta.clsid = d.meta.clsid :=
  have := congrArg Meta.clsid h.1
  this

theorem metaInput_root_strip (m : Meta) (hr : m.typ = typRoot) :
    Spec.MsiDigest.metaInput (stripRoot m) true = Spec.MsiDigest.metaInput m true := by
  unfold Spec.MsiDigest.metaInput stripRoot stripM
  have : m.typ ≠ 2 := by rw [hr]; decide
  simp [this]

theorem Reread.inputs {d d' : Node} (h : Reread d d') (hd : Node.okAt true d) (hr : d.meta.typ = typRoot) :
    Spec.MsiDigest.hashInput d' = Spec.MsiDigest.hashInput d ∧
    Spec.MsiDigest.prehashInput d' = Spec.MsiDigest.prehashInput d := by
  have hd' := h.okAt hd
  have hr' : d'.meta.typ = typRoot := h.typ.trans hr
  cases d with
  | mk m c ks =>
  cases d' with
  | mk m' c' ks' =>
    have s₁ : SibsOk (metas (ks.map strip)) := by rw [metas_strip, sibsOk_strip]; exact ((okAt_root_iff _ _ _).mp hd).1
    have s₂ : SibsOk (metas (ks'.map strip)) := by rw [metas_strip, sibsOk_strip]; exact ((okAt_root_iff _ _ _).mp hd').1
    have hp : ((ks'.map strip).filter (fun n => !Spec.MsiDigest.isSignatureStream n.meta)).Perm
        ((ks.map strip).filter (fun n => !Spec.MsiDigest.isSignatureStream n.meta)) := h.2.filter _
    have hm : Spec.MsiDigest.metaInput m' true = Spec.MsiDigest.metaInput m true := by
      have e : stripRoot m' = stripRoot m := h.1
      rw [← metaInput_root_strip m' hr', ← metaInput_root_strip m hr, e]
    constructor
    · rw [← hashInput_strip m' c' ks', ← hashInput_strip m c ks]
      exact hashInput_perm m' m c' c _ _ h.clsid s₂ s₁ hp
    · rw [← prehashInput_strip m' c' ks', ← prehashInput_strip m c ks]
      exact prehashInput_perm m' m c' c _ _ hm s₂ s₁ hp

theorem wfNameB_congr (a b : Meta) (h1 : a.slots = b.slots) (h2 : a.nameLen = b.nameLen) (h3 : a.typ = b.typ) :
    wfNameB a = wfNameB b := by unfold wfNameB; rw [h1, h2, h3]

theorem newMeta_wf_sig (n s : Nat) : wfNameB (newMeta sigName n s) = true := by
  rw [wfNameB_congr (newMeta sigName n s) (newMeta sigName 0 0) rfl rfl rfl]; decide

theorem newMeta_wf_ex (n s : Nat) : wfNameB (newMeta sigExName n s) = true := by
  rw [wfNameB_congr (newMeta sigExName n s) (newMeta sigExName 0 0) rfl rfl rfl]; decide

theorem specName_newMeta_sig (n s : Nat) : Spec.MsiDigest.specName (newMeta sigName n s) = sigName := by
  show Spec.MsiDigest.specName (newMeta sigName 0 0) = sigName
  decide

theorem specName_newMeta_ex (n s : Nat) : Spec.MsiDigest.specName (newMeta sigExName n s) = sigExName := by
  show Spec.MsiDigest.specName (newMeta sigExName 0 0) = sigExName
  decide

theorem goName_wf (m : Meta) (h : wfNameB m = true) : goName m = utf16Decode (Spec.MsiDigest.specName m) := by
  unfold goName; rw [nameUnits_wf m (wfName_of_B m h)]

theorem goName_newMeta_sig (n s : Nat) : goName (newMeta sigName n s) = sigName := by
  rw [goName_wf _ (newMeta_wf_sig n s), specName_newMeta_sig]
  exact utf16Decode_id sigName (fun x hx => (sigName_plain x hx).1)

theorem goName_newMeta_ex (n s : Nat) : goName (newMeta sigExName n s) = sigExName := by
  rw [goName_wf _ (newMeta_wf_ex n s), specName_newMeta_ex]
  exact utf16Decode_id sigExName (fun x hx => (sigExName_plain x hx).1)

def sigNode (pkcs : Bytes) (s : Nat) : Node := .mk (newMeta sigName pkcs.length s) pkcs []
def exNode (ex : Bytes) (s : Nat) : Node := .mk (newMeta sigExName ex.length s) ex []

@[simp] theorem goName_sigNode (p : Bytes) (s : Nat) : goName (sigNode p s).meta = sigName := goName_newMeta_sig _ _
@[simp] theorem goName_exNode (p : Bytes) (s : Nat) : goName (exNode p s).meta = sigExName := goName_newMeta_ex _ _
@[simp] theorem isSig_sigNode (p : Bytes) (s : Nat) : isSig (sigNode p s).meta = true := by simp [isSig]
@[simp] theorem isSig_exNode (p : Bytes) (s : Nat) : isSig (exNode p s).meta = true := by simp [isSig]

/-- `DeleteFile(t)` can deal with the entry: its name does not fold to `t`, or it is a stream -/
def deletable (t : List Nat) (n : Node) : Bool := !equalFold (goName n.meta) t || n.meta.typ == typStream

theorem not_deletable {t : List Nat} {n : Node} (h : ¬ deletable t n = true) :
    equalFold (goName n.meta) t = true ∧ n.meta.typ ≠ typStream := by
  simp only [deletable, Bool.or_eq_true, Bool.not_eq_true', beq_iff_eq, not_or] at h
  exact ⟨by simpa using h.1, h.2⟩

theorem deleteFile_eq (t : List Nat) : ∀ kids : List Node, deleteFile t kids =
    if kids.all (deletable t) then .ok (kids.filter (fun n => !equalFold (goName n.meta) t)) else .err "storage"
  | [] => rfl
  | n :: r => by
    rw [deleteFile, deleteFile_eq t r]
    by_cases hf : equalFold (goName n.meta) t = true
    · by_cases ht : n.meta.typ = typStream
      · simp [deletable, hf, ht]
      · simp [deletable, hf, ht]
    · have hd : deletable t n = true := by simp [deletable, hf]
      simp only [hf, Bool.not_false, if_true, List.all_cons, hd, Bool.true_and, List.filter_cons]
      by_cases ha : r.all (deletable t) = true
      · simp [ha]
      · simp [ha]

theorem equalFold_sig_refl : equalFold sigName sigName = true := by decide
theorem equalFold_ex_refl : equalFold sigExName sigExName = true := by decide

theorem equalFold_of_noAlias {kids : List Node} (h : noAliasB kids = true) {t : List Nat}
    (ht : t = sigName ∨ t = sigExName) (n : Node) (hn : n ∈ kids) :
    equalFold (goName n.meta) t = (goName n.meta == t) := by
  have := List.all_eq_true.mp h n hn
  simp only [Bool.and_eq_true, Bool.or_eq_true, Bool.not_eq_true'] at this
  have key : ∀ u : List Nat, equalFold u u = true →
      (equalFold (goName n.meta) u = false ∨ (goName n.meta == u) = true) →
      equalFold (goName n.meta) u = (goName n.meta == u) := by
    intro u hu hor
    cases hq : equalFold (goName n.meta) u with
    | true =>
      rcases hor with h' | h'
      · rw [hq] at h'; cases h'
      · exact h'.symm
    | false =>
      cases he : goName n.meta == u with
      | false => rfl
      | true => rw [beq_iff_eq.mp he, hu] at hq; cases hq
  rcases ht with rfl | rfl
  · exact key _ equalFold_sig_refl this.1
  · exact key _ equalFold_ex_refl this.2

theorem stream_of_sigsAreStreams {kids : List Node} (h : sigsAreStreamsB kids = true) (n : Node) (hn : n ∈ kids)
    (hs : isSig n.meta = true) : n.meta.typ = typStream := by
  have := List.all_eq_true.mp h n hn
  simp only [Bool.or_eq_true, Bool.not_eq_true', beq_iff_eq] at this
  rcases this with h' | h'
  · rw [hs] at h'; cases h'
  · exact h'

theorem deletable_of_class {kids : List Node} (ha : noAliasB kids = true) (hs : sigsAreStreamsB kids = true) {t : List Nat}
    (ht : t = sigName ∨ t = sigExName) (n : Node) (hn : n ∈ kids) : deletable t n = true := by
  rw [deletable, equalFold_of_noAlias ha ht n hn]
  by_cases he : goName n.meta = t
  · have : isSig n.meta = true := by
      unfold isSig; rcases ht with rfl | rfl <;> simp [he]
    simp [stream_of_sigsAreStreams hs n hn this]
  · simp [he]

/-- what `InsertMSISignature` leaves in the root storage: the payload entries in their order, the new
    extended-signature stream if one was given, the new signature stream -/
def inserted (kids : List Node) (pkcs exsig : Bytes) (s₁ s₂ : Nat) : List Node :=
  payload kids ++ (if exsig.length > 0 then [exNode exsig s₁] else []) ++ [sigNode pkcs s₂]

theorem payload_eq_filter (kids : List Node) :
    (kids.filter (fun n => !(goName n.meta == sigExName))).filter (fun n => !(goName n.meta == sigName)) = payload kids := by
  rw [List.filter_filter]
  unfold payload isSig
  apply List.filter_congr
  intro n _
  by_cases h1 : goName n.meta = sigName <;> by_cases h2 : goName n.meta = sigExName <;> simp [h1, h2]

theorem addFile_eq (name : List Nat) (c : Bytes) (s : Nat) (ks : List Node) (hl : ¬ (name.length + 1 > 32)) :
    addFile name c s ks =
      if ks.all (deletable name) then
        .ok (ks.filter (fun n => !equalFold (goName n.meta) name) ++ [Node.mk (newMeta name c.length s) c []])
      else .err "storage" := by
  unfold addFile
  rw [deleteFile_eq]
  by_cases h : ks.all (deletable name) = true
  · rw [if_pos h, if_pos h, Res.bind_ok', if_neg hl]
    rfl
  · rw [if_neg h, if_neg h]
    rfl

theorem insertOrig_bind (d : Node) (pkcs ex : Bytes) (s₁ s₂ : Nat) :
    insertMSISignatureOrig d pkcs ex s₁ s₂ =
      ((if ex.length > 0 then addFile sigExName ex s₁ d.kids else deleteFile sigExName d.kids) >>= fun k1 =>
        addFile sigName pkcs s₂ k1 >>= fun k2 => pure (.mk d.meta d.content k2)) := by
  unfold insertMSISignatureOrig
  by_cases he : ex.length > 0 <;> simp only [he, if_true, if_false] <;> rfl

/-- **the body of `InsertMSISignature` in closed form**, on any document: it fails, with the storage error, exactly if the
    first `DeleteFile` meets an entry it cannot delete or the second does among the entries the first has left -/
theorem insertOrig_eq (d : Node) (pkcs ex : Bytes) (s₁ s₂ : Nat) :
    insertMSISignatureOrig d pkcs ex s₁ s₂ =
      if (d.kids.all (deletable sigExName) &&
          (d.kids.filter (fun n => !equalFold (goName n.meta) sigExName)).all (deletable sigName)) = true then
        .ok (.mk d.meta d.content
          ((d.kids.filter (fun n => !equalFold (goName n.meta) sigExName) ++
              (if ex.length > 0 then [exNode ex s₁] else [])).filter (fun n => !equalFold (goName n.meta) sigName) ++
            [sigNode pkcs s₂]))
      else .err "storage" := by
  have h1 : (if ex.length > 0 then addFile sigExName ex s₁ d.kids else deleteFile sigExName d.kids) =
      if d.kids.all (deletable sigExName) then
        .ok (d.kids.filter (fun n => !equalFold (goName n.meta) sigExName) ++ (if ex.length > 0 then [exNode ex s₁] else []))
      else .err "storage" := by
    by_cases he : ex.length > 0
    · rw [if_pos he, if_pos he, addFile_eq _ _ _ _ (by decide)]
      rfl
    · rw [if_neg he, if_neg he, deleteFile_eq, List.append_nil]
  rw [insertOrig_bind, h1]
  by_cases ha : d.kids.all (deletable sigExName) = true
  · have hx : (if ex.length > 0 then [exNode ex s₁] else []).all (deletable sigName) = true := by
      split <;> simp [deletable, exNode, Node.meta, newMeta]
    rw [if_pos ha, ha, Bool.true_and, Res.bind_ok', addFile_eq _ _ _ _ (by decide), List.all_append, hx, Bool.and_true]
    by_cases hb : (d.kids.filter (fun n => !equalFold (goName n.meta) sigExName)).all (deletable sigName) = true
    · rw [if_pos hb, if_pos hb]
      rfl
    · rw [if_neg hb, if_neg hb]
      rfl
  · rw [if_neg ha, if_neg (by rw [Bool.and_eq_true]; exact fun h => ha h.1)]
    rfl

/-- **`InsertMSISignature` characterised**: when no entry of the root storage is a case-folding alias of a signature
    name and the entries carrying a signature name are streams, it succeeds and leaves `inserted` -/
theorem insert_eq (m : Meta) (c : Bytes) (kids : List Node) (pkcs exsig : Bytes) (s₁ s₂ : Nat)
    (ha : noAliasB kids = true) (hs : sigsAreStreamsB kids = true) :
    insertMSISignature (.mk m c kids) pkcs exsig s₁ s₂ = .ok (.mk m c (inserted kids pkcs exsig s₁ s₂)) := by
  -- the closed form of the body, where folding to a signature name is carrying it
  have hex : kids.filter (fun n => !equalFold (goName n.meta) sigExName) = kids.filter (fun n => !(goName n.meta == sigExName)) :=
    List.filter_congr fun n hn => by rw [equalFold_of_noAlias ha (.inr rfl) n hn]
  have hsig : (kids.filter (fun n => !(goName n.meta == sigExName))).filter (fun n => !equalFold (goName n.meta) sigName) =
      payload kids := by
    rw [← payload_eq_filter]
    exact List.filter_congr fun n hn => by rw [equalFold_of_noAlias ha (.inl rfl) n (List.mem_filter.mp hn).1]
  have hxs : (if exsig.length > 0 then [exNode exsig s₁] else []).filter (fun n => !equalFold (goName n.meta) sigName) =
      (if exsig.length > 0 then [exNode exsig s₁] else []) := by
    split
    · rw [List.filter_cons_of_pos (by rw [goName_exNode]; decide), List.filter_nil]
    · rfl
  unfold insertMSISignature
  rw [show (Node.mk m c kids).kids = kids from rfl, ha, Bool.not_true, if_neg Bool.false_ne_true, insertOrig_eq, if_pos]
  · rw [show (Node.mk m c kids).kids = kids from rfl, hex, List.filter_append, hsig, hxs]
    rfl
  · rw [show (Node.mk m c kids).kids = kids from rfl, Bool.and_eq_true, List.all_eq_true, List.all_eq_true]
    exact ⟨deletable_of_class ha hs (.inr rfl), fun n hn => deletable_of_class ha hs (.inl rfl) n (List.mem_filter.mp hn).1⟩

theorem payload_inserted (kids : List Node) (pkcs ex : Bytes) (s₁ s₂ : Nat) :
    payload (inserted kids pkcs ex s₁ s₂) = payload kids := by
  unfold inserted payload
  by_cases he : ex.length > 0
  · simp [he, List.filter_filter]
  · simp [he, List.filter_filter]

theorem payload_named_nil (kids : List Node) {t : List Nat} (ht : t = sigName ∨ t = sigExName) :
    (payload kids).filter (fun n => goName n.meta == t) = [] := by
  unfold payload
  rw [List.filter_filter, List.filter_eq_nil_iff]
  intro n _ hh
  simp only [Bool.and_eq_true, beq_iff_eq, Bool.not_eq_true'] at hh
  have : isSig n.meta = true := by
    unfold isSig; rcases ht with rfl | rfl <;> simp [hh.1]
  rw [this] at hh
  cases hh.2

theorem filter_sig_inserted (kids : List Node) (pkcs ex : Bytes) (s₁ s₂ : Nat) :
    (inserted kids pkcs ex s₁ s₂).filter (fun n => goName n.meta == sigName) = [sigNode pkcs s₂] ∧
    (inserted kids pkcs ex s₁ s₂).filter (fun n => goName n.meta == sigExName) =
      (if ex.length > 0 then [exNode ex s₁] else []) := by
  unfold inserted
  rw [List.filter_append, List.filter_append, List.filter_append, List.filter_append,
    payload_named_nil kids (Or.inl rfl), payload_named_nil kids (Or.inr rfl)]
  have e1 : (sigName == sigExName) = false := by decide
  have e2 : (sigExName == sigName) = false := by decide
  by_cases he : ex.length > 0
  · simp [he, e1, e2]
  · simp [he, e1]

theorem counts_inserted (kids : List Node) (pkcs ex : Bytes) (s₁ s₂ : Nat) :
    sigCount (inserted kids pkcs ex s₁ s₂) = 1 ∧
    exCount (inserted kids pkcs ex s₁ s₂) = (if ex.length > 0 then 1 else 0) := by
  obtain ⟨f1, f2⟩ := filter_sig_inserted kids pkcs ex s₁ s₂
  unfold sigCount exCount
  rw [f1, f2]
  exact ⟨rfl, by split <;> rfl⟩

theorem forall_inserted {P : Node → Prop} {kids : List Node} {pkcs ex : Bytes} {s₁ s₂ : Nat}
    (hk : ∀ n ∈ kids, P n) (he : P (exNode ex s₁)) (hs : P (sigNode pkcs s₂)) :
    ∀ n ∈ inserted kids pkcs ex s₁ s₂, P n := by
  intro n hn
  unfold inserted at hn
  rcases List.mem_append.mp hn with h' | h'
  · rcases List.mem_append.mp h' with h'' | h''
    · exact hk n (List.mem_filter.mp h'').1
    · by_cases hx : ex.length > 0
      · rw [if_pos hx, List.mem_singleton] at h''
        rw [h'']
        exact he
      · rw [if_neg hx] at h''
        cases h''
  · rw [List.mem_singleton.mp h']
    exact hs

/-- `noAliasB` and `sigsAreStreamsB` test every entry: they hold of `inserted` because they hold of the old entries and
    of the two streams `newDirEnt` makes -/
theorem hyps_inserted (kids : List Node) (pkcs ex : Bytes) (s₁ s₂ : Nat)
    (ha : noAliasB kids = true) (hs : sigsAreStreamsB kids = true) :
    noAliasB (inserted kids pkcs ex s₁ s₂) = true ∧ sigsAreStreamsB (inserted kids pkcs ex s₁ s₂) = true := by
  unfold noAliasB sigsAreStreamsB at *
  rw [List.all_eq_true] at ha hs ⊢
  rw [List.all_eq_true]
  constructor
  · exact forall_inserted ha (by simp only [exNode, Node.meta, goName_newMeta_ex]; decide)
      (by simp only [sigNode, Node.meta, goName_newMeta_sig]; decide)
  · exact forall_inserted hs (by simp [exNode, Node.meta, newMeta]) (by simp [sigNode, Node.meta, newMeta])

theorem sibsOk_sublist {a b : List Meta} (h : a.Sublist b) (hb : SibsOk b) : SibsOk a :=
  ⟨fun m hm => hb.1 m (h.subset hm), hb.2.sublist h⟩

theorem sibsOk_snoc (ms : List Meta) (x : Meta) (h : SibsOk ms) (hx : wfNameB x = true)
    (hne : ∀ m ∈ ms, Spec.MsiDigest.specName m ≠ Spec.MsiDigest.specName x) : SibsOk (ms ++ [x]) := by
  refine ⟨fun m hm => ?_, ?_⟩
  · rcases List.mem_append.mp hm with h' | h'
    · exact h.1 m h'
    · rw [List.mem_singleton.mp h']; exact hx
  · rw [List.pairwise_append]
    refine ⟨h.2, List.pairwise_singleton _ _, ?_⟩
    intro a ha b hb
    rw [List.mem_singleton.mp hb]
    exact hne a ha

theorem not_sig_of_payload {kids : List Node} (hw : ∀ m ∈ metas kids, wfNameB m = true) (n : Node) (hn : n ∈ payload kids) :
    Spec.MsiDigest.specName n.meta ≠ sigName ∧ Spec.MsiDigest.specName n.meta ≠ sigExName := by
  obtain ⟨hk, hp⟩ := List.mem_filter.mp hn
  rw [isSig_wf n.meta (wfName_of_B _ (hw n.meta (List.mem_map_of_mem hk)))] at hp
  simpa [Spec.MsiDigest.isSignatureStream] using hp

theorem sibsOk_inserted (kids : List Node) (pkcs ex : Bytes) (s₁ s₂ : Nat) (h : SibsOk (metas kids)) :
    SibsOk (metas (inserted kids pkcs ex s₁ s₂)) := by
  -- the payload is a sublist of `kids`; then `sibsOk_snoc` once per new stream: its name is well formed and differs from
  -- every payload name (`not_sig_of_payload`) and from the other new name
  have hpay : SibsOk (metas (payload kids)) :=
    sibsOk_sublist ((List.filter_sublist (l := kids)).map Node.meta) h
  have hns := fun n hn => not_sig_of_payload (kids := kids) h.1 n hn
  unfold inserted
  rw [metas, List.map_append]
  by_cases he : ex.length > 0
  · simp only [he, if_true, List.map_append]
    have h1 : SibsOk (metas (payload kids) ++ metas [exNode ex s₁]) := by
      apply sibsOk_snoc _ _ hpay (newMeta_wf_ex _ _)
      intro m hm
      obtain ⟨n, hn, rfl⟩ := List.mem_map.mp hm
      show _ ≠ Spec.MsiDigest.specName (newMeta sigExName _ _)
      rw [specName_newMeta_ex]
      exact (hns n hn).2
    apply sibsOk_snoc _ _ h1 (newMeta_wf_sig _ _)
    intro m hm
    show _ ≠ Spec.MsiDigest.specName (newMeta sigName _ _)
    rw [specName_newMeta_sig]
    rcases List.mem_append.mp hm with h' | h'
    · obtain ⟨n, hn, rfl⟩ := List.mem_map.mp h'
      exact (hns n hn).1
    · have : m = newMeta sigExName ex.length s₁ := by simpa [metas, exNode, Node.meta] using h'
      rw [this, specName_newMeta_ex]; decide
  · simp only [he, if_false, List.append_nil]
    apply sibsOk_snoc _ _ hpay (newMeta_wf_sig _ _)
    intro m hm
    obtain ⟨n, hn, rfl⟩ := List.mem_map.mp hm
    show _ ≠ Spec.MsiDigest.specName (newMeta sigName _ _)
    rw [specName_newMeta_sig]
    exact (hns n hn).1

theorem okAt_inserted (m : Meta) (c : Bytes) (kids : List Node) (pkcs ex : Bytes) (s₁ s₂ : Nat)
    (h : Node.okAt true (.mk m c kids)) : Node.okAt true (.mk m c (inserted kids pkcs ex s₁ s₂)) := by
  rw [okAt_root_iff] at h ⊢
  exact ⟨sibsOk_inserted kids pkcs ex s₁ s₂ h.1, forall_inserted h.2 (okAt_leaf _ _ _) (okAt_leaf _ _ _)⟩

theorem specFilter_eq_payload (kids : List Node) (hw : ∀ m ∈ metas kids, wfNameB m = true) :
    kids.filter (fun n => !Spec.MsiDigest.isSignatureStream n.meta) = payload kids := by
  apply List.filter_congr
  intro n hn
  rw [isSig_wf n.meta (wfName_of_B n.meta (hw n.meta (List.mem_map_of_mem hn)))]

theorem inputs_inserted (m : Meta) (c : Bytes) (kids : List Node) (pkcs ex : Bytes) (s₁ s₂ : Nat)
    (h : SibsOk (metas kids)) :
    Spec.MsiDigest.hashInput (.mk m c (inserted kids pkcs ex s₁ s₂)) = Spec.MsiDigest.hashInput (.mk m c kids) ∧
    Spec.MsiDigest.prehashInput (.mk m c (inserted kids pkcs ex s₁ s₂)) = Spec.MsiDigest.prehashInput (.mk m c kids) := by
  have h' := sibsOk_inserted kids pkcs ex s₁ s₂ h
  have hk : ((inserted kids pkcs ex s₁ s₂).filter (fun n => !Spec.MsiDigest.isSignatureStream n.meta)).Perm
      (kids.filter (fun n => !Spec.MsiDigest.isSignatureStream n.meta)) := by
    rw [specFilter_eq_payload _ h'.1, specFilter_eq_payload _ h.1, payload_inserted]
  exact ⟨hashInput_perm m m c c _ _ rfl h' h hk, prehashInput_perm m m c c _ _ rfl h' h hk⟩

theorem rootOk_newMeta {t : List Nat} (n s : Nat) (c : Bytes) (hg : goName (newMeta t n s) = t)
    (hd : msiDecodeName t = t) (hne : t ≠ exmetaName) : rootOkB (.mk (newMeta t n s) c []) = true := by
  unfold rootOkB
  have ht : (newMeta t n s).typ = typStream := rfl
  simp only [Node.meta, ht, if_true, hg, hd]
  simp [hne]

theorem rootOk_sigNode (p : Bytes) (s : Nat) : rootOkB (sigNode p s) = true :=
  rootOk_newMeta _ s p (goName_newMeta_sig _ _) msiDecodeName_sig (by decide)

theorem rootOk_exNode (p : Bytes) (s : Nat) : rootOkB (exNode p s) = true :=
  rootOk_newMeta _ s p (goName_newMeta_ex _ _) msiDecodeName_sigEx (by decide)

theorem tarRootOk_inserted (kids : List Node) (pkcs ex : Bytes) (s₁ s₂ : Nat) (h : tarRootOkB kids = true) :
    tarRootOkB (inserted kids pkcs ex s₁ s₂) = true := by
  rw [tarRootOkB_all, List.all_eq_true] at h ⊢
  exact forall_inserted h (rootOk_exNode _ _) (rootOk_sigNode _ _)

/-- one of the two searches of `VerifyMSI`'s loop: `f` of the content of the last entry named `t`, `a` when there is none -/
def lastNamed {α : Type} (t : List Nat) (f : Bytes → α) : List Node → α → α
  | [], a => a
  | n :: r, a => lastNamed t f r (if goName n.meta = t then f n.content else a)

theorem locate_eq : ∀ (ks : List Node) (sig : Bytes) (ex : Option Bytes),
    (∀ n ∈ ks, isSig n.meta = true → n.meta.typ = typStream) →
    locate ks sig ex = .ok (lastNamed sigName id ks sig, lastNamed sigExName some ks ex)
  | [], _, _, _ => rfl
  | n :: r, sig, ex, h => by
    have hr : ∀ k ∈ r, isSig k.meta = true → k.meta.typ = typStream := fun k hk => h k (List.mem_cons_of_mem _ hk)
    rw [locate, lastNamed, lastNamed]
    by_cases h1 : goName n.meta = sigName
    · have ht := h n (List.mem_cons_self) (by simp [isSig, h1])
      have hne : ¬ goName n.meta = sigExName := by rw [h1]; decide
      rw [if_pos h1, if_neg (not_not_intro ht), if_pos h1, if_neg hne]
      exact locate_eq r _ _ hr
    · by_cases h2 : goName n.meta = sigExName
      · have ht := h n (List.mem_cons_self) (by simp [isSig, h2])
        rw [if_neg h1, if_pos h2, if_neg (not_not_intro ht), if_neg h1, if_pos h2]
        exact locate_eq r _ _ hr
      · rw [if_neg h1, if_neg h2, if_neg h1, if_neg h2]
        exact locate_eq r _ _ hr

variable {α : Type}

theorem lastNamed_nil (t : List Nat) (f : Bytes → α) : ∀ (ks : List Node) (a : α),
    ks.filter (fun n => goName n.meta == t) = [] → lastNamed t f ks a = a
  | [], _, _ => rfl
  | n :: r, a, h => by
    rw [List.filter_cons] at h
    by_cases h1 : goName n.meta = t
    · rw [if_pos (beq_iff_eq.mpr h1)] at h
      cases h
    · rw [if_neg (fun e => h1 (beq_iff_eq.mp e))] at h
      rw [lastNamed, if_neg h1]
      exact lastNamed_nil t f r a h

theorem lastNamed_single (t : List Nat) (f : Bytes → α) : ∀ (ks : List Node) (a : α) (x : Node),
    ks.filter (fun n => goName n.meta == t) = [x] → lastNamed t f ks a = f x.content
  | [], _, _, h => by cases h
  | n :: r, a, x, h => by
    rw [List.filter_cons] at h
    by_cases h1 : goName n.meta = t
    · rw [if_pos (beq_iff_eq.mpr h1), List.cons.injEq] at h
      rw [lastNamed, if_pos h1, lastNamed_nil t f r _ h.2, h.1]
    · rw [if_neg (fun e => h1 (beq_iff_eq.mp e))] at h
      rw [lastNamed, if_neg h1]
      exact lastNamed_single t f r a x h

theorem reread_filter {d d' : Node} (h : Reread d d') (p : Meta → Bool) (hp : ∀ m, p (stripM m) = p m) :
    ((d'.kids.filter (fun n => p n.meta)).map strip).Perm ((d.kids.filter (fun n => p n.meta)).map strip) := by
  have e := filter_map_of strip (fun n => p n.meta) (fun n => p n.meta) (fun n => by simp [hp])
  rw [← e, ← e]
  exact h.2.filter _

theorem reread_filter_nil {d d' : Node} (h : Reread d d') (p : Meta → Bool) (hp : ∀ m, p (stripM m) = p m)
    (h0 : d.kids.filter (fun n => p n.meta) = []) : d'.kids.filter (fun n => p n.meta) = [] := by
  have := reread_filter h p hp
  rw [h0] at this
  simpa using this

theorem reread_filter_single {d d' : Node} (h : Reread d d') (p : Meta → Bool) (hp : ∀ m, p (stripM m) = p m) (x : Node)
    (h1 : d.kids.filter (fun n => p n.meta) = [x]) :
    ∃ x', d'.kids.filter (fun n => p n.meta) = [x'] ∧ strip x' = strip x := by
  have := reread_filter h p hp
  rw [h1] at this
  have e := List.perm_singleton.mp this
  cases hl : d'.kids.filter (fun n => p n.meta) with
  | nil => rw [hl] at e; simp at e
  | cons a r =>
    rw [hl] at e
    simp only [List.map_cons, List.cons.injEq, List.map_eq_nil_iff] at e
    exact ⟨a, by rw [e.2], e.1⟩

theorem strip_eq_content {a b : Node} (h : strip a = strip b) : a.content = b.content := by
  have := congrArg Node.content h; simpa using this

theorem strip_eq_typ {a b : Node} (h : strip a = strip b) : a.meta.typ = b.meta.typ := by
  have := congrArg (fun n => n.meta.typ) h; simpa using this

theorem strip_eq_isSig {a b : Node} (h : strip a = strip b) : isSig a.meta = isSig b.meta := by
  have := congrArg (fun n => isSig n.meta) h; simpa using this

/-- **what `VerifyMSI` finds in a written and re-read document after `InsertMSISignature`**: exactly the blob that was
    inserted, and the extended-signature value exactly if one was given -/
theorem locate_reread_inserted (m : Meta) (c : Bytes) (kids : List Node) (pkcs ex : Bytes) (s₁ s₂ : Nat)
    (hs : sigsAreStreamsB kids = true) (ha : noAliasB kids = true) (d' : Node)
    (h : Reread (.mk m c (inserted kids pkcs ex s₁ s₂)) d') :
    locate d'.kids [] none = .ok (pkcs, if ex.length > 0 then some ex else none) := by
  have hstr := (hyps_inserted kids pkcs ex s₁ s₂ ha hs).2
  have hall : ∀ n ∈ d'.kids, isSig n.meta = true → n.meta.typ = typStream := by
    intro n hn hsig
    have : strip n ∈ (inserted kids pkcs ex s₁ s₂).map strip := h.2.subset (List.mem_map_of_mem hn)
    obtain ⟨n0, hn0, e⟩ := List.mem_map.mp this
    rw [strip_eq_typ e.symm]
    exact stream_of_sigsAreStreams hstr n0 hn0 (by rw [strip_eq_isSig e]; exact hsig)
  rw [locate_eq _ _ _ hall]
  obtain ⟨f1, f2⟩ := filter_sig_inserted kids pkcs ex s₁ s₂
  obtain ⟨x', hx', ex'⟩ := reread_filter_single h (fun m => goName m == sigName) (fun _ => rfl) _ f1
  rw [lastNamed_single _ _ _ _ x' hx', strip_eq_content ex']
  by_cases he : ex.length > 0
  · simp only [he, if_true] at f2 ⊢
    obtain ⟨y', hy', ey'⟩ := reread_filter_single h (fun m => goName m == sigExName) (fun _ => rfl) _ f2
    rw [lastNamed_single _ _ _ _ y' hy', strip_eq_content ey']
    rfl
  · simp only [he, if_false] at f2 ⊢
    rw [lastNamed_nil _ _ _ _ (reread_filter_nil h (fun m => goName m == sigExName) (fun _ => rfl) f2)]
    rfl

/-- a document the theorems speak about: the digest hypotheses (`Node.okAt`: in every storage well-formed, pairwise
    distinct names), a root entry of type root, no case-folding alias of a signature name in the root storage, entries
    with a signature name are streams.  All four are executable (`okAtB`, `noAliasB`, `sigsAreStreamsB`; the driver
    prints them for every document). -/
structure DocOk (d : Node) : Prop where
  ok : Node.okAt true d
  root : d.meta.typ = typRoot
  noAlias : noAliasB d.kids = true
  streams : sigsAreStreamsB d.kids = true

theorem DocOk.of_checks {d : Node}
    (h : (okAtB true d && d.meta.typ == typRoot && noAliasB d.kids && sigsAreStreamsB d.kids) = true) : DocOk d := by
  simp only [Bool.and_eq_true, beq_iff_eq] at h
  exact ⟨okAtB_sound true d h.1.1.1, h.1.1.2, h.1.2, h.2⟩

theorem all_reread {d d' : Node} (h : Reread d d') (q : Node → Bool) (hq : ∀ n, q (strip n) = q n)
    (ha : d.kids.all q = true) : d'.kids.all q = true := by
  rw [List.all_eq_true] at ha ⊢
  intro n hn
  have : strip n ∈ d.kids.map strip := h.2.subset (List.mem_map_of_mem hn)
  obtain ⟨n0, hn0, e⟩ := List.mem_map.mp this
  rw [← hq n, ← e, hq n0]
  exact ha n0 hn0

theorem DocOk.reread {d d' : Node} (hd : DocOk d) (h : Reread d d') : DocOk d' :=
  ⟨h.okAt hd.ok, h.typ.trans hd.root,
   all_reread h _ (fun n => by cases n; rfl) hd.noAlias,
   all_reread h _ (fun n => by cases n; rfl) hd.streams⟩

theorem tarRootOk_reread {d d' : Node} (h : Reread d d') (hs : tarRootOkB d.kids = true) : tarRootOkB d'.kids = true := by
  rw [tarRootOkB_all] at hs ⊢
  exact all_reread h _ (fun n => by cases n; rfl) hs

theorem DocOk.afterInsert {d : Node} (hd : DocOk d) (pkcs ex : Bytes) (s₁ s₂ : Nat) :
    DocOk (.mk d.meta d.content (inserted d.kids pkcs ex s₁ s₂)) := by
  cases d with
  | mk m c kids =>
    have := hyps_inserted kids pkcs ex s₁ s₂ hd.noAlias hd.streams
    exact ⟨okAt_inserted m c kids pkcs ex s₁ s₂ hd.ok, hd.root, this.1, this.2⟩

theorem DocOk.insertOk {d : Node} (hd : DocOk d) (pkcs ex : Bytes) (s₁ s₂ : Nat) :
    insertMSISignature d pkcs ex s₁ s₂ = .ok (.mk d.meta d.content (inserted d.kids pkcs ex s₁ s₂)) := by
  cases d with
  | mk m c kids => exact Relic.MsiSign.insert_eq m c kids pkcs ex s₁ s₂ hd.noAlias hd.streams

theorem DocOk.walks {d : Node} (hd : DocOk d) (pkcs ex : Bytes) (s₁ s₂ : Nat) (d' : Node)
    (h : Reread (.mk d.meta d.content (inserted d.kids pkcs ex s₁ s₂)) d') :
    hashMsiDir d' = .ok (Spec.MsiDigest.hashInput d) ∧ prehashMsiDir d' = .ok (Spec.MsiDigest.prehashInput d) := by
  have h1 := hd.afterInsert pkcs ex s₁ s₂
  have h2 := h1.reread h
  obtain ⟨a, b⟩ := h.inputs h1.ok h1.root
  cases d with
  | mk m c kids =>
    obtain ⟨a', b'⟩ := inputs_inserted m c kids pkcs ex s₁ s₂ ((okAt_root_iff _ _ _).mp hd.ok).1
    rw [hashMsiDir_eq d' h2.ok, prehashMsiDir_eq d' h2.ok h2.root, a, b]
    exact ⟨congrArg Res.ok a', congrArg Res.ok b'⟩

/-- what goes into the extended-signature stream: nothing with `--no-extended-sig` -/
def exValue (H : Nat → Bytes → Bytes) (alg : Nat) (noExt : Bool) (d : Node) : Bytes :=
  if noExt then [] else H alg (Spec.MsiDigest.prehashInput d)

/-- the imprint that is signed: the hash of (pre-hash digest ++) the specification's stream -/
def imprintOf (H : Nat → Bytes → Bytes) (alg : Nat) (noExt : Bool) (d : Node) : Bytes :=
  H alg (exValue H alg noExt d ++ Spec.MsiDigest.hashInput d)

/-- **the signer module on a document of the class**: it succeeds and leaves the payload entries, the pre-hash (unless
    `--no-extended-sig`) and the blob over the imprint computed from the tar form, which is the specification's -/
theorem sign_eq (H : Nat → Bytes → Bytes) (mk : Nat → Bytes → Bytes) (d : Node) (hd : DocOk d)
    (hsafe : tarRootOkB d.kids = true) (alg : Nat) (noExt : Bool) (s₁ s₂ : Nat) :
    signMSI H mk alg noExt d s₁ s₂ =
      .ok (.mk d.meta d.content (inserted d.kids (mk alg (imprintOf H alg noExt d)) (exValue H alg noExt d) s₁ s₂)) := by
  obtain ⟨ms, hms, hdig⟩ := msiToTar_total d hd.ok hd.root hsafe
  have hp := prehashMsiDir_eq d hd.ok hd.root
  have hsum : digestMsiTar (H alg) (!noExt) ms = exValue H alg noExt d ++ Spec.MsiDigest.hashInput d := by
    rw [hdig]; unfold Spec.MsiDigest.digestInput exValue; cases noExt <;> rfl
  rw [← hd.insertOk]
  unfold signMSI
  simp only [hd.noAlias, Bool.not_true, Bool.false_eq_true, if_false]
  rw [hp, hms]
  unfold imprintOf
  cases noExt <;> simp only [Res.bind_ok', Res.pure_eq, hsum] <;> rfl

/-- **every re-reading of what the signer module wrote verifies**: `VerifyMSI` locates the blob that was made and the
    pre-hash (if one was asked for), `DigestMSI` recomputes the signed imprint, and the verdict is acceptance with and
    without digest checking.  The CMS layer has to give back what was signed for the one algorithm signed with. -/
theorem verify_signed (H : Nat → Bytes → Bytes) (mk : Nat → Bytes → Bytes) (cms : Bytes → Res CmsInfo) (alg : Nat)
    (hcms : ∀ x, cms (mk alg x) = .ok ⟨alg, x⟩) (hne : ∀ x, (mk alg x).length ≠ 0)
    (d : Node) (hd : DocOk d) (noExt : Bool) (s₁ s₂ : Nat) (d' : Node)
    (h : Reread (.mk d.meta d.content
      (inserted d.kids (mk alg (imprintOf H alg noExt d)) (exValue H alg noExt d) s₁ s₂)) d') :
    let e := exValue H alg noExt d
    let imprint := imprintOf H alg noExt d
    locate d'.kids [] none = .ok (mk alg imprint, if e.length > 0 then some e else none) ∧
    digestMSI2 (H alg) d' (decide (e.length > 0)) = .ok (imprint, e) ∧
    verifyMSI H cms d' false = .ok (mk alg imprint, ⟨alg, imprint⟩) ∧
    verifyMSI H cms d' true = .ok (mk alg imprint, ⟨alg, imprint⟩) := by
  intro e imprint
  have hloc := locate_reread_inserted d.meta d.content d.kids (mk alg imprint) e s₁ s₂ hd.streams hd.noAlias d' h
  obtain ⟨w1, w2⟩ := hd.walks (mk alg imprint) e s₁ s₂ d' h
  have hdg : digestMSI2 (H alg) d' (decide (e.length > 0)) = .ok (imprint, e) := by
    unfold digestMSI2
    rw [w1, w2]
    by_cases he : e.length > 0
    · have hx : noExt = false := by
        cases hq : noExt with
        | false => rfl
        | true => simp [e, exValue, hq] at he
      have : H alg (Spec.MsiDigest.prehashInput d) = e := by simp [e, exValue, hx]
      simp only [he, decide_true, if_true, Res.bind_ok', Res.pure_eq, this]; rfl
    · have : e = [] := List.eq_nil_of_length_eq_zero (by omega)
      simp only [he, decide_false, Bool.false_eq_true, if_false, Res.bind_ok', Res.pure_eq]
      rw [show imprint = H alg (e ++ Spec.MsiDigest.hashInput d) from rfl, this]
  refine ⟨hloc, hdg, ?_, ?_⟩
  · unfold verifyMSI
    rw [hloc]
    simp only [Res.bind_ok']
    unfold verdictOf
    simp only [hne, if_false, hcms, Res.bind_ok', Bool.false_eq_true]
    have hsome : (if e.length > 0 then some e else none : Option Bytes).isSome = decide (e.length > 0) := by
      by_cases he : e.length > 0 <;> simp [he]
    rw [hsome, hdg]
    simp only [Res.bind_ok']
    by_cases he : e.length > 0
    · simp [he]
    · simp [he]
  · unfold verifyMSI
    rw [hloc]
    simp only [Res.bind_ok']
    unfold verdictOf
    simp only [hne, if_false, hcms, Res.bind_ok', if_true, Res.pure_eq]

theorem count_reread {d d' : Node} (h : Reread d d') (p : Meta → Bool) (hp : ∀ m, p (stripM m) = p m) :
    (d'.kids.filter (fun n => p n.meta)).length = (d.kids.filter (fun n => p n.meta)).length := by
  have := (reread_filter h p hp).length_eq
  simpa using this

theorem sigCount_reread {d d' : Node} (h : Reread d d') : sigCount d'.kids = sigCount d.kids :=
  count_reread h (fun m => goName m == sigName) (fun _ => rfl)

theorem exCount_reread {d d' : Node} (h : Reread d d') : exCount d'.kids = exCount d.kids :=
  count_reread h (fun m => goName m == sigExName) (fun _ => rfl)

/-- the payload entries of `d'` are those of `d`: same fields, contents and sub-trees, up to tree links, start sectors
    and `ListDir` order; same root entry -/
def PayloadSame (d d' : Node) : Prop :=
  stripRoot d'.meta = stripRoot d.meta ∧ ((payload d'.kids).map strip).Perm ((payload d.kids).map strip)

theorem PayloadSame.refl (d : Node) : PayloadSame d d := ⟨rfl, List.Perm.refl _⟩

theorem PayloadSame.trans {a b c : Node} (h₁ : PayloadSame a b) (h₂ : PayloadSame b c) : PayloadSame a c :=
  ⟨h₂.1.trans h₁.1, h₂.2.trans h₁.2⟩

theorem payloadSame_reread {d d' : Node} (h : Reread d d') : PayloadSame d d' :=
  ⟨h.1, reread_filter h (fun m => !isSig m) (fun _ => rfl)⟩

theorem payloadSame_inserted (d : Node) (pkcs ex : Bytes) (s₁ s₂ : Nat) :
    PayloadSame d (.mk d.meta d.content (inserted d.kids pkcs ex s₁ s₂)) := by
  refine ⟨rfl, ?_⟩
  simp only [Node.kids]
  rw [payload_inserted]

theorem insertOrig_err_of_nonstream (d : Node) (pkcs ex : Bytes) (s₁ s₂ : Nat) (n : Node) (hn : n ∈ d.kids)
    (hf : equalFold (goName n.meta) sigName = true ∨ equalFold (goName n.meta) sigExName = true)
    (ht : n.meta.typ ≠ typStream) : insertMSISignatureOrig d pkcs ex s₁ s₂ = .err "storage" := by
  have key : ∀ t, equalFold (goName n.meta) t = true → deletable t n = false := by
    intro t h
    simp [deletable, h, ht]
  rw [insertOrig_eq, if_neg]
  rw [Bool.and_eq_true, List.all_eq_true, List.all_eq_true]
  rintro ⟨h1, h2⟩
  by_cases hx : equalFold (goName n.meta) sigExName = true
  · have := h1 n hn
    rw [key _ hx] at this
    cases this
  · have := h2 n (List.mem_filter.mpr ⟨hn, by simpa using hx⟩)
    rw [key _ (hf.resolve_right hx)] at this
    cases this

theorem insert_ok_streams (d : Node) (pkcs ex : Bytes) (s₁ s₂ : Nat) (d₁ : Node)
    (h : insertMSISignature d pkcs ex s₁ s₂ = .ok d₁) : noAliasB d.kids = true ∧ sigsAreStreamsB d.kids = true := by
  unfold insertMSISignature at h
  cases ha : noAliasB d.kids with
  | false => rw [ha] at h; simp at h
  | true =>
    rw [ha] at h
    simp only [Bool.not_true, Bool.false_eq_true, if_false] at h
    refine ⟨rfl, ?_⟩
    unfold sigsAreStreamsB
    rw [List.all_eq_true]
    intro n hn
    by_cases hs : isSig n.meta = true
    · by_cases ht : n.meta.typ = typStream
      · simp [ht]
      · exfalso
        have hf : equalFold (goName n.meta) sigName = true ∨ equalFold (goName n.meta) sigExName = true := by
          unfold isSig at hs
          simp only [Bool.or_eq_true, decide_eq_true_eq] at hs
          rcases hs with e | e
          · left; rw [e]; exact equalFold_sig_refl
          · right; rw [e]; exact equalFold_ex_refl
        rw [insertOrig_err_of_nonstream d pkcs ex s₁ s₂ n hn hf ht] at h
        cases h
    · simp [hs]

/-- **a successful signing passed all three tests**: no case-folding alias of a signature name, no reserved tar name in
    the root storage, the entries carrying a signature name are streams -/
theorem sign_ok_class (H : Nat → Bytes → Bytes) (mk : Nat → Bytes → Bytes) (alg : Nat) (noExt : Bool) (d d₁ : Node)
    (s₁ s₂ : Nat) (h : signMSI H mk alg noExt d s₁ s₂ = .ok d₁) :
    noAliasB d.kids = true ∧ sigsAreStreamsB d.kids = true ∧ tarRootOkB d.kids = true := by
  unfold signMSI at h
  cases ha : noAliasB d.kids with
  | false => rw [ha] at h; simp at h
  | true =>
    rw [ha, Bool.not_true, if_neg Bool.false_ne_true] at h
    refine ⟨rfl, ?_⟩
    have fin : ∀ exsig, (msiToTar d >>= fun ms =>
        insertMSISignature d (mk alg (H alg (digestMsiTar (H alg) (!noExt) ms))) exsig s₁ s₂) = .ok d₁ →
        sigsAreStreamsB d.kids = true ∧ tarRootOkB d.kids = true := by
      intro exsig h
      obtain ⟨ms, hm, h⟩ := Res.bind_eq_ok.mp h
      exact ⟨(insert_ok_streams d _ _ s₁ s₂ d₁ h).2, msiToTar_ok_rootOk d ms hm⟩
    cases noExt with
    | true => exact fin [] h
    | false =>
      obtain ⟨exsig, -, h⟩ := Res.bind_eq_ok.mp h
      exact fin exsig h

end Relic.MsiSign
