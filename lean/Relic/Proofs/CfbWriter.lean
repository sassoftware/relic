/-
  The table level of the comdoc writer (`Relic.Model.CfbWriter`): chains as a relation (`IsChain`), what an operation
  leaves of a table (`Keeps`), what `makeFreeSectors` promises (`Fresh`), the table after the allocate-and-link loop
  of `addStream` (`linkFin`), the mini-stream container and its growth (`Cont`, `Grown`), and induction over a run of
  `allocSectorTables`.  The inversion lemmas of `addStream` are in `Props/C18_Writer`.
-/
import Relic.Model.CfbWriter
import Relic.Proofs.Lists
namespace Relic.CfbW

theorem setChk_of_lt {tbl : List Int} {i : Nat} (v : Int) (site : String) (h : i < tbl.length) :
    setChk tbl i v site = .ok (tbl.set i v) := by simp [setChk, h]

theorem setChk_ok {tbl t : List Int} {i : Nat} {v : Int} {site : String} (h : setChk tbl i v site = .ok t) :
    i < tbl.length ∧ t = tbl.set i v := by
  unfold setChk at h
  split at h
  · cases h; exact ⟨‹_›, rfl⟩
  · cases h

/-- `site` is only the message of the panic: a write that succeeded is the same write under any other -/
theorem setChk_site {tbl t : List Int} {i : Nat} {v : Int} {site : String} (site' : String)
    (h : setChk tbl i v site = .ok t) : setChk tbl i v site' = .ok t :=
  (setChk_ok h).2 ▸ setChk_of_lt v site' (setChk_ok h).1

/-- `l` is the list of sectors visited from `s` until ENDOFCHAIN -/
def IsChain (tbl : List Int) : Int → List Nat → Prop
  | s, [] => s = EOC
  | s, x :: l => s = (x : Int) ∧ ∃ nx, tbl[x]? = some nx ∧ IsChain tbl nx l

theorem chainAux_sound (tbl : List Int) : ∀ (f : Nat) (s : Int) (l : List Nat),
    chainAux tbl f s = some l → IsChain tbl s l := by
  intro f s
  fun_induction chainAux tbl f s
  case case1 =>
    intro l h
    cases h
    rfl
  case case5 s _ hs f nx hnx ih =>
    intro l h
    obtain ⟨l', hc, rfl⟩ := Option.map_eq_some_iff.mp h
    exact ⟨by omega, nx, hnx, ih l' hc⟩
  all_goals nofun

theorem chainAux_complete (tbl : List Int) : ∀ (l : List Nat) (s : Int) (f : Nat),
    IsChain tbl s l → l.length ≤ f → chainAux tbl f s = some l := by
  intro l
  induction l with
  | nil =>
    intro s f h _
    simp [IsChain] at h
    unfold chainAux
    simp [h]
  | cons x l ih =>
    intro s f h hf
    obtain ⟨h1, nx, h2, h3⟩ := h
    cases f with
    | zero => simp at hf
    | succ f =>
      unfold chainAux
      have : ¬ s = EOC := by omega
      have : ¬ s < 0 := by omega
      simp [*]
      exact ih nx f h3 (by simp at hf; omega)

theorem IsChain.functional {tbl : List Int} : ∀ {l₁ l₂ : List Nat} {s : Int},
    IsChain tbl s l₁ → IsChain tbl s l₂ → l₁ = l₂ := by
  intro l₁
  induction l₁ with
  | nil =>
    intro l₂ s h1 h2
    cases l₂ with
    | nil => rfl
    | cons y l₂ =>
      simp [IsChain] at h1
      obtain ⟨h3, _⟩ := h2
      omega
  | cons x l₁ ih =>
    intro l₂ s h1 h2
    obtain ⟨h3, nx, h4, h5⟩ := h1
    cases l₂ with
    | nil => simp [IsChain] at h2; omega
    | cons y l₂ =>
      obtain ⟨h6, ny, h7, h8⟩ := h2
      have : x = y := by omega
      subst this
      rw [h4] at h7
      cases h7
      rw [ih h5 h8]

theorem IsChain.suffix {tbl : List Int} : ∀ {a : List Nat} {s : Int} {x : Nat} {b : List Nat},
    IsChain tbl s (a ++ x :: b) → IsChain tbl (x : Int) (x :: b) := by
  intro a
  induction a with
  | nil =>
    intro s x b h
    obtain ⟨_, nx, h2, h3⟩ := h
    exact ⟨rfl, nx, h2, h3⟩
  | cons y a ih =>
    intro s x b h
    obtain ⟨_, nx, _, h3⟩ := h
    exact ih h3

theorem IsChain.last_eoc {tbl : List Int} : ∀ {l : List Nat} {s : Int} {x : Nat},
    IsChain tbl s (l ++ [x]) → tbl[x]? = some EOC := by
  intro l
  induction l with
  | nil =>
    intro s x h
    obtain ⟨_, nx, h2, h3⟩ := h
    simp [IsChain] at h3
    rw [h2, h3]
  | cons y l ih =>
    intro s x h
    obtain ⟨_, nx, _, h3⟩ := h
    exact ih h3

theorem IsChain.nodup {tbl : List Int} : ∀ {l : List Nat} {s : Int}, IsChain tbl s l → l.Nodup := by
  intro l
  induction l with
  | nil => intro _ _; exact List.nodup_nil
  | cons x l ih =>
    intro s h
    have h0 := h
    obtain ⟨_, nx, h2, h3⟩ := h
    refine List.nodup_cons.mpr ⟨?_, ih h3⟩
    intro hx
    obtain ⟨a, b, hab⟩ := List.append_of_mem hx
    subst hab
    have h4 : IsChain tbl (x : Int) (x :: b) := IsChain.suffix h3
    have h5 : IsChain tbl (x : Int) (x :: (a ++ x :: b)) := ⟨rfl, nx, h2, h3⟩
    have := congrArg List.length (IsChain.functional h4 h5)
    simp at this
    omega

/-- every entry on a chain holds ENDOFCHAIN or a sector number: never FREESECT, FATSECT, DIFSECT -/
theorem IsChain.entry {tbl : List Int} : ∀ {l : List Nat} {s : Int}, IsChain tbl s l →
    ∀ x ∈ l, ∃ v, tbl[x]? = some v ∧ (v = EOC ∨ 0 ≤ v) := by
  intro l
  induction l with
  | nil => intro _ _ x hx; cases hx
  | cons y l ih =>
    intro s h x hx
    obtain ⟨_, nx, h2, h3⟩ := h
    rcases List.mem_cons.mp hx with rfl | hx
    · refine ⟨nx, h2, ?_⟩
      cases l with
      | nil => left; simpa [IsChain] using h3
      | cons z l => right; obtain ⟨h4, _⟩ := h3; omega
    · exact ih h3 x hx

theorem IsChain.lt_length {tbl : List Int} {l : List Nat} {s : Int} (h : IsChain tbl s l) :
    ∀ x ∈ l, x < tbl.length := by
  intro x hx
  obtain ⟨v, hv, _⟩ := h.entry x hx
  exact (List.getElem?_eq_some_iff.mp hv).1

theorem IsChain.congr {tbl tbl' : List Int} : ∀ {l : List Nat} {s : Int},
    (∀ x ∈ l, tbl'[x]? = tbl[x]?) → IsChain tbl s l → IsChain tbl' s l := by
  intro l
  induction l with
  | nil => intro s _ h; exact h
  | cons y l ih =>
    intro s hc h
    obtain ⟨h1, nx, h2, h3⟩ := h
    exact ⟨h1, nx, by rw [hc y (List.mem_cons_self)]; exact h2,
      ih (fun x hx => hc x (List.mem_cons_of_mem _ hx)) h3⟩

theorem length_le_of_increasing : ∀ (l : List Nat) (lo n : Nat),
    l.Pairwise (· < ·) → (∀ x ∈ l, lo ≤ x ∧ x < n) → l.length + lo ≤ n ∨ l = [] := by
  intro l
  induction l with
  | nil => intros; right; rfl
  | cons x l ih =>
    intro lo n hp hb
    left
    have hx := hb x List.mem_cons_self
    rcases ih (x + 1) n (List.Pairwise.of_cons hp) (by
      intro y hy
      have := List.rel_of_pairwise_cons hp hy
      have := hb y (List.mem_cons_of_mem _ hy)
      omega) with h | h
    · simp; omega
    · subst h; simp; omega

theorem chain_iff {tbl : List Int} {s : Int} {l : List Nat} : chain tbl s = some l ↔ IsChain tbl s l := by
  constructor
  · exact chainAux_sound tbl _ s l
  · intro h
    exact chainAux_complete tbl l s _ h (nodup_length_le _ l h.nodup h.lt_length)

theorem IsChain.not_mem {tbl : List Int} {s : Int} {l : List Nat} (h : IsChain tbl s l) {j : Nat}
    (hj : tbl.length ≤ j ∨ ∃ v, tbl[j]? = some v ∧ v ≠ EOC ∧ v < 0) : j ∉ l := by
  intro hmem
  obtain ⟨w, hw, hw'⟩ := h.entry j hmem
  rcases hj with hj | ⟨v, hv, h1, h2⟩
  · have := (List.getElem?_eq_some_iff.mp hw).1; omega
  · rw [hv] at hw; cases hw; omega

theorem chain_not_fresh {tbl : List Int} {h : Int} {l : List Nat} (hc : chain tbl h = some l) :
    ∀ x ∈ l, ¬ (tbl[x]? = some FREE ∨ tbl.length ≤ x) :=
  fun _ hx hf => (chain_iff.mp hc).not_mem (hf.elim (fun h => .inr ⟨FREE, h, by decide, by decide⟩) .inl) hx

/-- `tbl'` has every entry of `tbl` that is in use, except perhaps on `C`: all that an operation working on the chain `C`
    (freeing it, extending it at its end) or on free entries only (`C = []`) does to the rest of the table -/
def Keeps (tbl : List Int) (C : List Nat) (tbl' : List Int) : Prop :=
  ∀ (j : Nat) (v : Int), tbl[j]? = some v → v ≠ FREE → j ∉ C → tbl'[j]? = some v

theorem Keeps.refl (tbl : List Int) (C : List Nat) : Keeps tbl C tbl := fun _ _ h _ _ => h

theorem Keeps.trans {t0 t1 t2 : List Int} {C1 C2 C : List Nat} (h1 : Keeps t0 C1 t1) (h2 : Keeps t1 C2 t2)
    (hC : ∀ j, j ∉ C → j ∉ C1 ∧ j ∉ C2) : Keeps t0 C t2 :=
  fun j v hj hv hjC => h2 j v (h1 j v hj hv (hC j hjC).1) hv (hC j hjC).2

theorem Keeps.chain {tbl tbl' : List Int} {C : List Nat} (k : Keeps tbl C tbl') {s : Int} {l : List Nat}
    (hc : chain tbl s = some l) (hd : ∀ x ∈ l, x ∉ C) : chain tbl' s = some l := by
  have hc' := chain_iff.mp hc
  refine chain_iff.mpr (IsChain.congr (fun x hx => ?_) hc')
  obtain ⟨v, hv, hv'⟩ := hc'.entry x hx
  rw [k x v hv (by omega) (hd x hx), hv]

theorem Keeps.mark {tbl tbl' : List Int} {C : List Nat} (k : Keeps tbl C tbl') {s : Int} (hC : IsChain tbl s C)
    {j : Nat} {v : Int} (hj : tbl[j]? = some v) (hv : v ≤ -3) : tbl'[j]? = some v :=
  k j v hj (by omega) (hC.not_mem (Or.inr ⟨v, hj, by omega, by omega⟩))

theorem sub_eq_succ_sub {i j : Nat} (h : i < j) : j - i = (j - (i + 1)) + 1 := by omega

theorem index_cons {v : Int} {t : List Int} {i j : Nat} {w : Int}
    (h : i + 1 ≤ j ∧ j < i + 1 + t.length ∧ t[j - (i + 1)]? = some w) :
    i ≤ j ∧ j < i + (v :: t).length ∧ (v :: t)[j - i]? = some w := by
  obtain ⟨h1, h2, h3⟩ := h
  refine ⟨by omega, by rw [List.length_cons]; omega, ?_⟩
  rw [sub_eq_succ_sub h1, List.getElem?_cons_succ]
  exact h3

theorem scanFree_spec : ∀ (t : List Int) (i c : Nat),
    (scanFree t i c).length ≤ c ∧ (scanFree t i c).Pairwise (· < ·) ∧
    ∀ j ∈ scanFree t i c, i ≤ j ∧ j < i + t.length ∧ t[j - i]? = some FREE := by
  intro t i c
  fun_induction scanFree t i c
  case case1 => simp
  case case2 => simp
  case case3 rest i c ih =>
    obtain ⟨h1, h2, h3⟩ := ih
    refine ⟨Nat.succ_le_succ h1, List.pairwise_cons.mpr ⟨fun j hj => (h3 j hj).1, h2⟩, fun j hj => ?_⟩
    rcases List.mem_cons.mp hj with rfl | hj
    · simp
    · exact index_cons (h3 j hj)
  case case4 v rest i c _ ih =>
    exact ⟨ih.1, ih.2.1, fun j hj => index_cons (ih.2.2 j hj)⟩

/-- everything `makeFreeSectors` promises -/
structure Fresh (spb : Nat) (tbl : List Int) (n : Nat) (fl : List Nat) (tbl' : List Int) : Prop where
  len : fl.length = n
  incr : fl.Pairwise (· < ·)
  ext : ∃ k, tbl' = tbl ++ List.replicate (k * spb) FREE
  wasFree : ∀ i ∈ fl, tbl[i]? = some FREE ∨ tbl.length ≤ i
  isFree : ∀ i ∈ fl, tbl'[i]? = some FREE

theorem Fresh.lt {spb tbl n fl tbl'} (f : Fresh spb tbl n fl tbl') : ∀ x ∈ fl, x < tbl'.length :=
  fun x hx => (List.getElem?_eq_some_iff.mp (f.isFree x hx)).1

theorem Fresh.nodup {spb tbl n fl tbl'} (f : Fresh spb tbl n fl tbl') : fl.Nodup :=
  List.Pairwise.imp (fun hab => Nat.ne_of_lt hab) f.incr

theorem Fresh.up {spb tbl n fl tbl'} (f : Fresh spb tbl n fl tbl') (j : Nat) (v : Int)
    (hj : tbl[j]? = some v) : tbl'[j]? = some v := by
  obtain ⟨k, rfl⟩ := f.ext
  rw [List.getElem?_append_left (List.getElem?_eq_some_iff.mp hj).1]
  exact hj

theorem Fresh.not_mem {spb tbl n fl tbl'} (f : Fresh spb tbl n fl tbl') (j : Nat) (v : Int)
    (hj : tbl[j]? = some v) (hv : v ≠ FREE) : j ∉ fl := by
  intro hmem
  have := f.isFree j hmem
  rw [f.up j v hj] at this
  exact hv (by simpa using this)

theorem Fresh.keeps {spb tbl n fl tbl'} (f : Fresh spb tbl n fl tbl') {T : List Int}
    (h : ∀ j, j ∉ fl → T[j]? = tbl'[j]?) : Keeps tbl [] T := by
  intro j v hj hv _
  rw [h j (f.not_mem j v hj hv)]
  exact f.up j v hj

theorem le_ceilDiv_mul (r spb : Nat) (h : spb ≠ 0) : r ≤ (r + spb - 1) / spb * spb := by
  have := Nat.div_add_mod (r + spb - 1) spb
  have := Nat.mod_lt (r + spb - 1) (Nat.pos_of_ne_zero h)
  rw [Nat.mul_comm]
  omega

theorem makeFree_spec {spb : Nat} {tbl : List Int} {n : Nat} {fl : List Nat} {tbl' : List Int}
    (h : makeFree spb tbl n = .ok (fl, tbl')) : Fresh spb tbl n fl tbl' := by
  revert h
  fun_cases makeFree spb tbl n
  case case1 hn =>
    intro h
    cases h
    exact ⟨hn.symm, .nil, ⟨0, by simp⟩, by simp, by simp⟩
  case case2 _ s hl =>
    intro h
    obtain ⟨rfl, rfl⟩ := Prod.mk.inj (Res.ok.inj h)
    obtain ⟨_, s2, s3⟩ := scanFree_spec tbl 0 n
    exact ⟨hl, s2, ⟨0, by simp⟩, fun i hi => .inl (by simpa using (s3 i hi).2.2),
      fun i hi => by simpa using (s3 i hi).2.2⟩
  case case4 _ s _ hspb rem blocks =>
    -- the scan found fewer than `n`: the rest are the first `rem` entries of the new blocks
    intro h
    obtain ⟨rfl, rfl⟩ := Prod.mk.inj (Res.ok.inj h)
    obtain ⟨s1, s2, s3⟩ : s.length ≤ n ∧ s.Pairwise (· < ·) ∧
      ∀ j ∈ s, 0 ≤ j ∧ j < 0 + tbl.length ∧ tbl[j - 0]? = some FREE := scanFree_spec tbl 0 n
    have hb : rem ≤ blocks * spb := le_ceilDiv_mul rem spb hspb
    refine ⟨by simp; omega, ?_, ⟨_, rfl⟩, ?_, ?_⟩
    · refine List.pairwise_append.mpr ⟨s2, List.pairwise_map.mpr ?_, ?_⟩
      · exact List.Pairwise.imp (by intro a b hab; omega) List.pairwise_lt_range
      · intro a ha b hb
        obtain ⟨k, _, rfl⟩ := List.mem_map.mp hb
        have := (s3 a ha).2.1
        omega
    · intro i hi
      rcases List.mem_append.mp hi with hi | hi
      · exact .inl (by simpa using (s3 i hi).2.2)
      · obtain ⟨k, _, rfl⟩ := List.mem_map.mp hi
        exact .inr (by omega)
    · intro i hi
      rcases List.mem_append.mp hi with hi | hi
      · have := s3 i hi
        rw [List.getElem?_append_left (by omega)]
        simpa using this.2.2
      · obtain ⟨k, hk, rfl⟩ := List.mem_map.mp hi
        have hk := List.mem_range.mp hk
        rw [List.getElem?_append_right (by omega), List.getElem?_replicate]
        simp
        omega
  all_goals nofun

def headInt : List Nat → Int
  | [] => EOC
  | x :: _ => (x : Int)

def lastInt : Int → List Nat → Int
  | prev, [] => prev
  | _, x :: rest => lastInt (x : Int) rest

def firstOf (first prev : Int) (l : List Nat) : Int :=
  if prev = EOC then (match l with | [] => first | x :: _ => (x : Int)) else first

theorem firstOf_EOC (fl : List Nat) : firstOf EOC EOC fl = headInt fl := by
  cases fl <;> simp [firstOf, headInt]

def linkPure : Int → List Nat → List Int → List Int
  | _, [], tbl => tbl
  | prev, i :: rest, tbl => linkPure (i : Int) rest (if prev = EOC then tbl else tbl.set prev.toNat (i : Int))

/-- the table after the loop and the final `sat[previous] = ENDOFCHAIN` -/
def linkFin : Int → List Nat → List Int → List Int
  | prev, [], tbl => if prev = EOC then tbl else tbl.set prev.toNat EOC
  | prev, i :: rest, tbl => linkFin (i : Int) rest (if prev = EOC then tbl else tbl.set prev.toNat (i : Int))

def foldW {σ : Type} (w : Nat → σ → Res σ) : List Nat → σ → Res σ
  | [], s => .ok s
  | i :: rest, s =>
    match w i s with
    | .ok s' => foldW w rest s'
    | .err e => .err e | .panic p => .panic p | .diverge => .diverge

/-- the loop = the pure table transformation, whatever the per-sector effect `w` does to its own state -/
theorem linkLoop_eq {σ : Type} (w : Nat → σ → Res σ) : ∀ (l : List Nat) (first prev : Int)
    (tbl : List Int) (s : σ),
    (∀ x ∈ l, x < tbl.length) → (prev = EOC ∨ (0 ≤ prev ∧ prev.toNat < tbl.length)) →
    linkLoop w l first prev tbl s =
      match foldW w l s with
      | .ok s' => .ok (firstOf first prev l, lastInt prev l, linkPure prev l tbl, s')
      | .err e => .err e | .panic p => .panic p | .diverge => .diverge := by
  intro l
  induction l with
  | nil =>
    intro first prev tbl s _ _
    simp [linkLoop, foldW, firstOf, lastInt, linkPure]
  | cons i rest ih =>
    intro first prev tbl s hb hp
    have hi : i < tbl.length := hb i List.mem_cons_self
    have hrest : ∀ x ∈ rest, x < tbl.length := fun x hx => hb x (List.mem_cons_of_mem _ hx)
    have hne : ¬ ((i : Int) = EOC) := by omega
    have hnext : ∀ t : List Int, t.length = tbl.length →
        (i : Int) = EOC ∨ (0 ≤ (i : Int) ∧ (i : Int).toNat < t.length) :=
      fun t ht => Or.inr ⟨by omega, by simpa [ht] using hi⟩
    unfold linkLoop
    by_cases hpe : prev = EOC
    · simp only [hpe, if_true, foldW]
      cases hw : w i s with
      | ok s' =>
        simp only [ih (i : Int) (i : Int) tbl s' hrest (hnext tbl rfl)]
        cases foldW w rest s' <;> simp [firstOf, lastInt, linkPure, hne]
      | _ => rfl
    · have hp' : prev.toNat < tbl.length := (hp.resolve_left hpe).2
      simp only [hpe, if_false, setChk_of_lt _ _ hp', foldW]
      cases hw : w i s with
      | ok s' =>
        simp only [ih first (i : Int) (tbl.set prev.toNat (i : Int)) s' (by simpa using hrest) (hnext _ (by simp))]
        cases foldW w rest s' <;> simp [firstOf, lastInt, linkPure, hne, hpe]
      | _ => rfl

theorem linkLoop_fresh {σ : Type} (w : Nat → σ → Res σ) (fl : List Nat) (tbl : List Int) (s : σ)
    (hb : ∀ x ∈ fl, x < tbl.length) :
    linkLoop w fl EOC EOC tbl s =
      match foldW w fl s with
      | .ok s' => .ok (headInt fl, lastInt EOC fl, linkPure EOC fl tbl, s')
      | .err e => .err e | .panic p => .panic p | .diverge => .diverge := by
  rw [linkLoop_eq w fl EOC EOC tbl s hb (Or.inl rfl), firstOf_EOC]

theorem foldW_noWrite (l : List Nat) : foldW noWrite l () = .ok () := by
  induction l with
  | nil => rfl
  | cons x l ih => simp [foldW, noWrite, ih]

theorem terminate_linkPure : ∀ (l : List Nat) (prev : Int) (tbl : List Int),
    (∀ x ∈ l, x < tbl.length) → (prev = EOC ∨ (0 ≤ prev ∧ prev.toNat < tbl.length)) →
    terminate (linkPure prev l tbl) (lastInt prev l) = .ok (linkFin prev l tbl) := by
  intro l
  induction l with
  | nil =>
    intro prev tbl _ hp
    simp only [linkPure, lastInt, linkFin, terminate]
    by_cases hpe : prev = EOC
    · simp [hpe]
    · have : prev.toNat < tbl.length := by rcases hp with h | h; exact absurd h hpe; exact h.2
      simp [setChk_of_lt _ _ this, hpe]
  | cons i rest ih =>
    intro prev tbl hb _
    simp only [linkPure, lastInt, linkFin]
    apply ih
    · intro x hx
      have := hb x (List.mem_cons_of_mem _ hx)
      split <;> simpa using this
    · right
      have := hb i List.mem_cons_self
      refine ⟨by omega, ?_⟩
      split <;> simpa using this

theorem linked {σ : Type} {w : Nat → σ → Res σ} {spb n : Nat} {tbl tbl1 : List Int} {fl : List Nat} {s : σ}
    {first prev : Int} {tbl2 : List Int} {s' : σ} (hm : makeFree spb tbl n = .ok (fl, tbl1))
    (hl : linkLoop w fl EOC EOC tbl1 s = .ok (first, prev, tbl2, s')) :
    foldW w fl s = .ok s' ∧ first = headInt fl ∧ terminate tbl2 prev = .ok (linkFin EOC fl tbl1) := by
  have hb := (makeFree_spec hm).lt
  rw [linkLoop_fresh w fl tbl1 s hb] at hl
  cases hw : foldW w fl s with
  | ok s1 =>
    rw [hw] at hl
    cases hl
    exact ⟨rfl, rfl, terminate_linkPure fl EOC tbl1 hb (Or.inl rfl)⟩
  | err e => rw [hw] at hl; cases hl
  | panic p => rw [hw] at hl; cases hl
  | diverge => rw [hw] at hl; cases hl

/-- the table after the linking loop started at `prev`; the conjunct about a `prev` that is a sector is also what the step
    of the induction needs of the rest of the list -/
theorem linkFin_spec : ∀ (l : List Nat) (prev : Int) (tbl : List Int),
    l.Nodup → (∀ x ∈ l, x < tbl.length) →
    let T := linkFin prev l tbl
    T.length = tbl.length ∧
    (∀ j, j ∉ l → (prev = EOC ∨ j ≠ prev.toNat) → T[j]? = tbl[j]?) ∧
    (0 ≤ prev → prev.toNat < tbl.length → prev.toNat ∉ l → T[prev.toNat]? = some (headInt l)) ∧
    IsChain T (headInt l) l := by
  intro l
  induction l with
  | nil =>
    intro prev tbl _ _
    simp only [linkFin, headInt]
    refine ⟨by split <;> simp, ?_, ?_, by simp [IsChain]⟩
    · intro j _ hj
      split
      · rfl
      · rename_i hpe
        rcases hj with hj | hj
        · exact absurd hj hpe
        · rw [List.getElem?_set_ne (Ne.symm hj)]
    · intro h0 h1 _
      have : ¬ prev = EOC := by omega
      simp [this, h1]
  | cons i rest ih =>
    intro prev tbl hn hb
    have hi : i < tbl.length := hb i List.mem_cons_self
    obtain ⟨hni, hnr⟩ := List.nodup_cons.mp hn
    simp only [linkFin, headInt]
    let tbl₁ := if prev = EOC then tbl else tbl.set prev.toNat (i : Int)
    have hlen₁ : tbl₁.length = tbl.length := by simp only [tbl₁]; split <;> simp
    obtain ⟨a1, a2, a3, a4⟩ := ih (i : Int) tbl₁ hnr
      (by intro x hx; rw [hlen₁]; exact hb x (List.mem_cons_of_mem _ hx))
    refine ⟨by rw [a1, hlen₁], ?_, ?_, ?_⟩
    · intro j hj hjp
      have hj1 : j ∉ rest := fun h => hj (List.mem_cons_of_mem _ h)
      have hj2 : j ≠ i := fun h => hj (h ▸ List.mem_cons_self)
      rw [a2 j hj1 (Or.inr (by simpa using hj2))]
      simp only [tbl₁]
      split
      · rfl
      · rename_i hpe
        rcases hjp with hjp | hjp
        · exact absurd hjp hpe
        · rw [List.getElem?_set_ne (Ne.symm hjp)]
    · intro h0 h1 h2
      have hp1 : prev.toNat ∉ rest := fun h => h2 (List.mem_cons_of_mem _ h)
      have hp2 : prev.toNat ≠ i := fun h => h2 (h ▸ List.mem_cons_self)
      rw [a2 prev.toNat hp1 (Or.inr (by simpa using hp2))]
      have : ¬ prev = EOC := by omega
      simp [tbl₁, this, h1]
    · refine ⟨rfl, headInt rest, ?_, a4⟩
      have := a3 (by omega) (by simpa [hlen₁] using hi) (by simpa using hni)
      simpa using this

def freeAll : List Nat → List Int → List Int
  | [], tbl => tbl
  | x :: l, tbl => freeAll l (tbl.set x FREE)

theorem freeAll_length : ∀ (l : List Nat) (tbl : List Int), (freeAll l tbl).length = tbl.length := by
  intro l
  induction l with
  | nil => intros; rfl
  | cons x l ih => intro tbl; simp [freeAll, ih]

theorem freeAll_get : ∀ (l : List Nat) (tbl : List Int) (j : Nat),
    (freeAll l tbl)[j]? = if j ∈ l ∧ j < tbl.length then some FREE else tbl[j]? := by
  intro l
  induction l with
  | nil => intro tbl j; simp [freeAll]
  | cons x l ih =>
    intro tbl j
    simp only [freeAll]
    rw [ih]
    by_cases hjx : j = x
    · subst hjx
      by_cases hlt : j < tbl.length
      · simp [hlt]
      · simp [hlt]
    · have : (tbl.set x FREE)[j]? = tbl[j]? := List.getElem?_set_ne (Ne.symm hjx)
      simp [this, hjx]

theorem freeLoop_eq (tbl0 : List Int) : ∀ (l : List Nat) (f : Nat) (tbl : List Int) (x : Nat),
    IsChain tbl0 (x : Int) (x :: l) → (∀ y ∈ x :: l, tbl[y]? = tbl0[y]?) → l.length < f →
    freeLoop f tbl x = .ok (freeAll (x :: l) tbl) := by
  intro l
  induction l with
  | nil =>
    intro f tbl x h hc hf
    obtain ⟨_, nx, h2, h3⟩ := h
    cases f with
    | zero => simp at hf
    | succ f =>
      simp [IsChain] at h3
      subst h3
      have := hc x List.mem_cons_self
      simp [freeLoop, this, h2, freeAll]
  | cons y l ih =>
    intro f tbl x h hc hf
    have hnd := h.nodup
    obtain ⟨_, nx, h2, h3⟩ := h
    have h3' := h3
    obtain ⟨h4, _⟩ := h3
    subst h4
    cases f with
    | zero => simp at hf
    | succ f =>
      have hx := hc x List.mem_cons_self
      have hny : ¬ ((y : Int) < 0) := by omega
      simp only [freeLoop, hx, h2, hny, if_false, Int.toNat_natCast]
      rw [ih f (tbl.set x FREE) y h3']
      · simp [freeAll]
      · intro z hz
        have hzx : z ≠ x := by
          intro hzx
          subst hzx
          exact (List.nodup_cons.mp hnd).1 hz
        rw [List.getElem?_set_ne (Ne.symm hzx)]
        exact hc z (List.mem_cons_of_mem _ hz)
      · simp at hf; omega

theorem freeSectors_chain {tbl : List Int} {start : Int} {l : List Nat} (hc : IsChain tbl start l) :
    freeSectors tbl start = .ok (freeAll l tbl) ∧ Keeps tbl l (freeAll l tbl) := by
  refine ⟨?_, fun j v hj _ hjl => by rw [freeAll_get, if_neg (fun h => hjl h.1), hj]⟩
  unfold freeSectors
  cases l with
  | nil =>
    simp [IsChain] at hc
    subst hc
    simp [freeAll]
  | cons x l =>
    have hx := hc.1
    subst hx
    have : ¬ ((x : Int) < 0) := by omega
    simp only [this, if_false, Int.toNat_natCast]
    apply freeLoop_eq tbl l _ tbl x hc (fun _ _ => rfl)
    have := nodup_length_le _ _ hc.nodup hc.lt_length
    simp at this
    omega

/-- number of entries that are not FREESECT: every round of `freeLoop` lowers it -/
def nonFree : List Int → Nat
  | [] => 0
  | v :: t => (if v = FREE then 0 else 1) + nonFree t

theorem nonFree_le : ∀ (t : List Int), nonFree t ≤ t.length := by
  intro t; induction t with
  | nil => simp [nonFree]
  | cons v t ih => simp [nonFree]; split <;> omega

theorem nonFree_set : ∀ (t : List Int) (i : Nat) (v : Int), t[i]? = some v → v ≠ FREE →
    nonFree (t.set i FREE) + 1 = nonFree t := by
  intro t
  induction t with
  | nil => intro i v h; simp at h
  | cons w t ih =>
    intro i v h hv
    cases i with
    | zero =>
      simp at h
      subst h
      simp [nonFree, hv]
      omega
    | succ i =>
      simp at h
      simp [nonFree]
      have := ih i v h hv
      omega

theorem freeLoop_terminates : ∀ (f : Nat) (tbl : List Int) (s : Nat),
    nonFree tbl < f → freeLoop f tbl s ≠ .diverge := by
  intro f
  induction f with
  | zero => intro tbl s h; omega
  | succ f ih =>
    intro tbl s h
    unfold freeLoop
    split
    · simp
    · rename_i nx hnx
      split
      · simp
      · rename_i hneg
        apply ih
        have := nonFree_set tbl s nx hnx (by omega)
        omega

theorem extendLoop_linkFin {site : String} : ∀ (fl : List Nat) (big : Nat) (sat : List Int) {big' : Nat}
    {sat2 sat3 : List Int}, extendLoop fl big sat = .ok (big', sat2) → setChk sat2 big' EOC site = .ok sat3 →
    sat3 = linkFin (big : Int) fl sat ∧ fl.getLast?.getD big = big' := by
  intro fl
  induction fl with
  | nil =>
    intro big sat big' sat2 sat3 he hs
    cases he
    have hne : ¬ ((big : Int) = EOC) := by omega
    exact ⟨by simp [(setChk_ok hs).2, linkFin, hne], rfl⟩
  | cons s rest ih =>
    intro big sat big' sat2 sat3 he hs
    have hne : ¬ ((big : Int) = EOC) := by omega
    simp only [extendLoop] at he
    split at he
    · rename_i sat' hw
      obtain ⟨e1, e2⟩ := ih s sat' he hs
      exact ⟨by rw [e1, (setChk_ok hw).2]; simp [linkFin, hne], by rw [List.getLast?_cons]; exact e2⟩
    all_goals cases he

/-- the walk along the container cannot fall off a valid chain.  How a successful walk ended: on the sector at the index
    asked for, or, with index distance `k` left over, on the last sector of the chain -/
theorem walkBig_end {sat : List Int} : ∀ {bigIdx b : Nat} {C0 : List Nat} {big k : Nat},
    IsChain sat (b : Int) (b :: C0) → walkBig sat bigIdx b = .ok (big, k) →
    k ≤ bigIdx ∧ (b :: C0)[bigIdx - k]? = some big ∧
    (k ≠ 0 → bigIdx - k = C0.length ∧ ∃ init, b :: C0 = init ++ [big]) := by
  intro bigIdx
  induction bigIdx with
  | zero =>
    intro b C0 big k _ hw
    cases hw
    exact ⟨Nat.le_refl _, by simp, fun h => absurd rfl h⟩
  | succ k0 ih =>
    intro b C0 big k hC hw
    obtain ⟨_, nx, h2, h3⟩ := hC
    cases C0 with
    | nil =>
      simp [IsChain] at h3
      subst h3
      simp only [walkBig, h2] at hw
      cases hw
      exact ⟨Nat.le_refl _, by simp, fun _ => ⟨by simp, [], rfl⟩⟩
    | cons c C' =>
      have h3' := h3
      obtain ⟨h4, _⟩ := h3
      subst h4
      have hc : ¬ ((c : Int) < 0) := by omega
      simp only [walkBig, h2, hc, if_false, Int.toNat_natCast] at hw
      obtain ⟨e2, e3, e4⟩ := ih h3' hw
      refine ⟨by omega, ?_, fun hk => ?_⟩
      · have : k0 + 1 - k = (k0 - k) + 1 := by omega
        rw [this, List.getElem?_cons_succ]; exact e3
      · obtain ⟨e5, init, hi⟩ := e4 hk
        exact ⟨by simp; omega, b :: init, by rw [hi]; rfl⟩

theorem IsChain.extend {tbl T : List Int} : ∀ (init : List Nat) (big : Nat) (s : Int) (fl : List Nat),
    IsChain tbl s (init ++ [big]) → (∀ x ∈ init, T[x]? = tbl[x]?) →
    T[big]? = some (headInt fl) → IsChain T (headInt fl) fl →
    IsChain T s (init ++ [big] ++ fl) := by
  intro init
  induction init with
  | nil =>
    intro big s fl h _ hb hfl
    obtain ⟨h1, _, _, _⟩ := h
    exact ⟨h1, headInt fl, hb, hfl⟩
  | cons y init ih =>
    intro big s fl h hc hb hfl
    obtain ⟨h1, nx, h2, h3⟩ := h
    refine ⟨h1, nx, by rw [hc y List.mem_cons_self]; exact h2, ?_⟩
    exact ih big nx fl h3 (fun x hx => hc x (List.mem_cons_of_mem _ hx)) hb hfl

/-- `C` is the mini-stream container chain (`[]` when the root has none: `root.NextSector < 0`) -/
def Cont (sat : List Int) (rs : Int) (C : List Nat) : Prop :=
  (rs < 0 ∧ C = []) ∨ (0 ≤ rs ∧ IsChain sat rs C)

/-- the FAT after the container grew from `C` to `C ++ E`: `E` is fresh and no non-free entry outside
    `C` was written -/
structure Grown (sat : List Int) (C : List Nat) (sat' : List Int) (rs' : Int) (E : List Nat) : Prop where
  cont : Cont sat' rs' (C ++ E)
  fresh : ∀ x ∈ E, sat[x]? = some FREE ∨ sat.length ≤ x
  keep : ∀ (j : Nat) (v : Int), sat[j]? = some v → v ≠ FREE → j ∉ C → sat'[j]? = some v
  len : sat.length ≤ sat'.length

theorem Grown.keeps {sat sat' : List Int} {C E : List Nat} {rs' : Int} (g : Grown sat C sat' rs' E) :
    Keeps sat C sat' := g.keep

theorem Grown.refl {sat : List Int} {rs : Int} {C : List Nat} (h : Cont sat rs C) : Grown sat C sat rs [] :=
  ⟨by simpa using h, by simp, fun _ _ h _ _ => h, Nat.le_refl _⟩

theorem Cont.entry {sat : List Int} {rs : Int} {C : List Nat} (h : Cont sat rs C) :
    ∀ x ∈ C, ∃ v, sat[x]? = some v ∧ v ≠ FREE := by
  intro x hx
  rcases h with ⟨_, rfl⟩ | ⟨_, h⟩
  · cases hx
  · obtain ⟨v, hv, hv'⟩ := h.entry x hx
    exact ⟨v, hv, by omega⟩

theorem Keeps.mark_cont {sat sat' : List Int} {C : List Nat} {rs : Int} (k : Keeps sat C sat') (hC : Cont sat rs C)
    {j : Nat} {v : Int} (hj : sat[j]? = some v) (hv : v ≤ -3) : sat'[j]? = some v := by
  rcases hC with ⟨_, rfl⟩ | ⟨_, hC⟩
  · exact k j v hj (by omega) (by simp)
  · exact k.mark hC hj hv

/-- growth composes.  A sector the second step took and that lies inside the first table was free there: on `C` it would
    be on the container chain of `sat1`, and in use elsewhere the first step would have kept it in use; either way not
    free for the second step. -/
theorem Grown.trans {sat sat1 sat2 : List Int} {C E1 E2 : List Nat} {rs1 rs2 : Int}
    (g1 : Grown sat C sat1 rs1 E1) (g2 : Grown sat1 (C ++ E1) sat2 rs2 E2) :
    Grown sat C sat2 rs2 (E1 ++ E2) := by
  refine ⟨by simpa [List.append_assoc] using g2.cont, ?_, ?_, Nat.le_trans g1.len g2.len⟩
  · intro x hx
    rcases List.mem_append.mp hx with hx | hx
    · exact g1.fresh x hx
    · rcases g2.fresh x hx with h | h
      · by_cases hlt : x < sat.length
        · obtain ⟨v, hv⟩ : ∃ v, sat[x]? = some v := ⟨sat[x], List.getElem?_eq_getElem hlt⟩
          by_cases hvf : v = FREE
          · left; rw [hv, hvf]
          · exfalso
            by_cases hxC : x ∈ C
            · obtain ⟨w, hw, hw'⟩ := g1.cont.entry x (List.mem_append_left _ hxC)
              rw [hw] at h; exact hw' (by simpa using h)
            · have := g1.keep x v hv hvf hxC
              rw [this] at h; exact hvf (by simpa using h)
        · right; omega
      · right; have := g1.len; omega
  · intro j v hj hv hjC
    apply g2.keep j v (g1.keep j v hj hv hjC) hv
    intro hmem
    rcases List.mem_append.mp hmem with h | h
    · exact hjC h
    · rcases g1.fresh j h with h' | h'
      · rw [hj] at h'; exact hv (by simpa using h')
      · have := (List.getElem?_eq_some_iff.mp hj).1; omega

theorem Grown.disjoint {sat sat' : List Int} {C E : List Nat} {rs rs' : Int} (hC : Cont sat rs C)
    (g : Grown sat C sat' rs' E) : ∀ x ∈ E, x ∉ C := by
  intro x hx hxC
  rcases hC with ⟨_, rfl⟩ | ⟨_, hC⟩
  · cases hxC
  · exact chain_not_fresh (chain_iff.mpr hC) x hxC (g.fresh x hx)

theorem ensureContainer_spec {spb : Nat} {sat : List Int} {rs : Int} {C : List Nat}
    {sat0 : List Int} {rs0 : Int} (hC : Cont sat rs C)
    (h : ensureContainer spb sat rs = .ok (sat0, rs0)) :
    ∃ E0, Grown sat C sat0 rs0 E0 ∧ 0 ≤ rs0 := by
  revert h
  fun_cases ensureContainer spb sat rs
  case case1 hneg x rest sat1 hm sat2 hset =>
    -- no container yet: one fresh sector becomes its only one
    intro h
    cases h
    have f := makeFree_spec hm
    have hxl := f.lt x List.mem_cons_self
    rw [setChk_of_lt _ _ hxl] at hset
    cases hset
    have hCnil : C = [] := by
      rcases hC with ⟨_, h⟩ | ⟨h, _⟩
      · exact h
      · omega
    subst hCnil
    refine ⟨[x], ⟨Or.inr ⟨by omega, ?_⟩, ?_, ?_, ?_⟩, by omega⟩
    · exact ⟨rfl, EOC, by simp [hxl], by simp [IsChain]⟩
    · intro y hy
      cases List.mem_singleton.mp hy
      exact f.wasFree x List.mem_cons_self
    · exact f.keeps fun j hj => List.getElem?_set_ne (by rintro rfl; exact hj List.mem_cons_self)
    · obtain ⟨k, rfl⟩ := f.ext
      simp
  case case9 hpos =>
    intro h
    cases h
    exact ⟨[], Grown.refl hC, by omega⟩
  all_goals nofun

/-- the container chain ends in `big0`; `k ≠ 0` fresh sectors are linked behind it and the last one is terminated:
    the container has grown by exactly the free list, whose last sector is the one the loop stopped on.  Shared by
    `growContainer` and its byte-level twin, which differ only in what they return. -/
theorem Grown.extend {spb : Nat} {sat : List Int} {rs : Int} {init : List Nat} {big0 k : Nat} {fl : List Nat}
    {sat1 sat2 sat3 : List Int} {big' : Nat} {site : String}
    (hrs : 0 ≤ rs) (hC : IsChain sat rs (init ++ [big0])) (hk : k ≠ 0)
    (hm : makeFree spb sat k = .ok (fl, sat1)) (he : extendLoop fl big0 sat1 = .ok (big', sat2))
    (hs : setChk sat2 big' EOC site = .ok sat3) :
    Grown sat (init ++ [big0]) sat3 rs fl ∧ fl.length = k ∧ fl.getLast? = some big' := by
  have hbigE : sat[big0]? = some EOC := IsChain.last_eoc hC
  have hbigl : big0 < sat.length := (List.getElem?_eq_some_iff.mp hbigE).1
  have f := makeFree_spec hm
  obtain ⟨kk, hext⟩ := f.ext
  have hbig1 : big0 < sat1.length := by rw [hext]; simp; omega
  obtain ⟨rfl, hlast⟩ := extendLoop_linkFin fl big0 sat1 he hs
  have hne : fl ≠ [] := fun e => hk (by rw [← f.len, e]; rfl)
  obtain ⟨a1, a2, a3, a4⟩ := linkFin_spec fl (big0 : Int) sat1 f.nodup f.lt
  have hbignotfl : big0 ∉ fl := f.not_mem big0 EOC hbigE (by decide)
  have a3' := a3 (Int.natCast_nonneg _) (by simpa using hbig1) (by simpa using hbignotfl)
  simp only [Int.toNat_natCast] at a3' a2
  have hndC := hC.nodup
  refine ⟨⟨Or.inr ⟨hrs, ?_⟩, f.wasFree, ?_, by rw [a1, hext]; simp⟩, f.len, ?_⟩
  · apply IsChain.extend init big0 _ fl hC _ a3' a4
    intro x hx
    obtain ⟨v, hv, hv'⟩ := hC.entry x (List.mem_append_left _ hx)
    have hxb : x ≠ big0 := by
      intro e; subst e
      exact (List.nodup_append.mp hndC).2.2 x hx x (by simp) rfl
    rw [a2 x (f.not_mem x v hv (by omega)) (Or.inr (by omega)), f.up x v hv, hv]
  · intro j v hj hv hjC
    have hjb : j ≠ big0 := by
      intro e; subst e; simp at hjC
    rw [a2 j (f.not_mem j v hj hv) (Or.inr (by omega))]
    exact f.up j v hj
  · rw [List.getLast?_eq_some_getLast hne] at hlast ⊢
    exact congrArg some hlast

theorem growContainer_spec {spb : Nat} {sat : List Int} {rs : Int} {C : List Nat} {bigIdx : Nat}
    {sat' : List Int} (hrs : 0 ≤ rs) (hC : IsChain sat rs C)
    (h : growContainer spb sat bigIdx rs = .ok sat') :
    ∃ E, Grown sat C sat' rs E := by
  cases C with
  | nil => simp [IsChain] at hC; omega
  | cons b C0 =>
    have hb : rs = (b : Int) := hC.1
    subst hb
    revert h
    fun_cases growContainer spb sat bigIdx (b : Int)
    case case1 _ _ =>
      rintro ⟨⟩
      exact ⟨[], Grown.refl (Or.inr ⟨hrs, hC⟩)⟩
    case case2 big1 k1 hw1 hk0 fl sat1 hm big' sat2 he =>
      intro hs
      rw [Int.toNat_natCast] at hw1
      obtain ⟨_, init, hinit⟩ := (walkBig_end hC hw1).2.2 hk0
      rw [hinit] at hC ⊢
      exact ⟨fl, (Grown.extend hrs hC hk0 hm he hs).1⟩
    all_goals nofun

theorem writeShort_spec {ss sss i : Nat} {sat : List Int} {rs : Int} {rz : Nat}
    {sat' : List Int} {rs' : Int} {rz' : Nat} {C : List Nat} (hC : Cont sat rs C)
    (h : writeShort ss sss i (sat, rs, rz) = .ok (sat', rs', rz')) :
    ∃ E, Grown sat C sat' rs' E := by
  revert h
  fun_cases writeShort ss sss i (sat, rs, rz)
  case case2 _ sat0 rs0 he sat1 hg sl =>
    intro h
    obtain ⟨E0, g0, hrs0⟩ := ensureContainer_spec hC he
    have hc0 : IsChain sat0 rs0 (C ++ E0) := by
      rcases g0.cont with ⟨h, _⟩ | ⟨_, h⟩
      · omega
      · exact h
    obtain ⟨E1, g1⟩ := growContainer_spec hrs0 hc0 hg
    obtain ⟨rfl, rfl, _⟩ := Prod.mk.inj (Res.ok.inj h)
    exact ⟨E0 ++ E1, Grown.trans g0 g1⟩
  all_goals nofun

theorem foldW_writeShort_spec (ss sss : Nat) : ∀ (fl : List Nat) (sat : List Int) (rs : Int) (rz : Nat)
    (C : List Nat) (sat' : List Int) (rs' : Int) (rz' : Nat), Cont sat rs C →
    foldW (writeShort ss sss) fl (sat, rs, rz) = .ok (sat', rs', rz') →
    ∃ E, Grown sat C sat' rs' E := by
  intro fl
  induction fl with
  | nil =>
    intro sat rs rz C sat' rs' rz' hC h
    simp [foldW] at h
    obtain ⟨rfl, rfl, rfl⟩ := h
    exact ⟨[], Grown.refl hC⟩
  | cons i rest ih =>
    intro sat rs rz C sat' rs' rz' hC h
    simp only [foldW] at h
    split at h
    · rename_i s1 hw
      obtain ⟨sat1, rs1, rz1⟩ := s1
      obtain ⟨E1, g1⟩ := writeShort_spec hC hw
      obtain ⟨E2, g2⟩ := ih sat1 rs1 rz1 (C ++ E1) sat' rs' rz' g1.cont h
      exact ⟨E1 ++ E2, Grown.trans g1 g2⟩
    all_goals cases h

/-- `allocSectorTables` is a loop with two kinds of round – a sector is taken for the FAT itself, or for the
    DIFAT – and one exit.  Induction over a successful run: `motive` of the tables at the exit, and from the
    tables after a round back to those before it. -/
theorem allocTables_induct {ss : Nat} {r : List Int × List Int × List Int}
    {motive : List Int → List Int → List Int → Prop}
    (fat : ∀ sat msat ml x rest sat1, ss / 4 ≠ 0 → sat.length % (ss / 4) = 0 →
      msat.length < sat.length / (ss / 4) → makeFree (ss / 4) sat 1 = .ok (x :: rest, sat1) →
      motive (sat1.set x FATSECT) (msat ++ [(x : Int)]) ml → motive sat msat ml)
    (difat : ∀ sat msat ml x rest sat1, ss / 4 ≠ 0 → sat.length % (ss / 4) = 0 →
      sat.length / (ss / 4) ≤ msat.length →
      (ml.length : Int) <
        Int.tdiv ((msat.length : Int) - 109 + ((ss / 4 - 1 : Nat) : Int) - 1) ((ss / 4 - 1 : Nat) : Int) →
      makeFree (ss / 4) sat 1 = .ok (x :: rest, sat1) →
      motive (sat1.set x DIFSECT) msat (ml ++ [(x : Int)]) → motive sat msat ml)
    (stop : ∀ sat msat ml, ss / 4 ≠ 0 → sat.length % (ss / 4) = 0 → sat.length / (ss / 4) ≤ msat.length →
      Int.tdiv ((msat.length : Int) - 109 + ((ss / 4 - 1 : Nat) : Int) - 1) ((ss / 4 - 1 : Nat) : Int) ≤
        (ml.length : Int) →
      r = (sat, msat, ml) → motive sat msat ml) :
    ∀ (fuel : Nat) (sat msat ml : List Int), allocTables ss fuel sat msat ml = .ok r → motive sat msat ml := by
  intro fuel sat msat ml
  fun_induction allocTables ss fuel sat msat ml
  case case4 _ sat msat ml spb hspb hmod hgt x rest sat1 hm sat2 hset ih =>
    intro h
    rw [setChk_of_lt _ _ ((makeFree_spec hm).lt x List.mem_cons_self)] at hset
    cases hset
    exact fat _ _ _ x rest sat1 hspb (Decidable.not_not.mp hmod) hgt hm (ih h)
  case case13 _ sat msat ml spb hspb hmod hle _ _ hneed x rest sat1 hm sat2 hset ih =>
    intro h
    rw [setChk_of_lt _ _ ((makeFree_spec hm).lt x List.mem_cons_self)] at hset
    cases hset
    exact difat _ _ _ x rest sat1 hspb (Decidable.not_not.mp hmod) (Nat.not_lt.mp hle) hneed hm (ih h)
  case case21 _ sat msat ml _ hspb hmod hle _ _ hneed =>
    intro h
    cases h
    exact stop _ _ _ hspb (Decidable.not_not.mp hmod) (Nat.not_lt.mp hle) (Int.not_lt.mp hneed) rfl
  all_goals nofun

end Relic.CfbW
