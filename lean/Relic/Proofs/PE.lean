/- The PE model: what a successful `readHeaders` and a successful `DigestPE` have checked and what they return, as predicates
   on the file, and the converses.

   The theorems assume `64 ≤ e_lfanew` (`u32 f 0x3c`).  Below 64 `readHeaders` reads the COFF header at offset 64 (a negative
   `io.CopyN` count copies nothing) while `MakePatch` writes the directory entry at `e_lfanew + 24 + dd4Start`: not where it
   was read, so the signed file is not what the theorems say. -/
import Relic.Model.PE
import Relic.Proofs.Seg
import Relic.Proofs.Res

namespace Relic.PE

theorem fixSections_cons_ok {e fa : Nat} {s : Section} {rest : List Section} {soh : Nat} {ss' : List Section}
    {soh' : Nat} (h : fixSections e fa (s :: rest) soh = .ok (ss', soh')) :
    (s.size = 0 ∧ ∃ ss, fixSections e fa rest soh = .ok (ss, soh') ∧ ss' = s :: ss) ∨
    (s.size ≠ 0 ∧ e ≤ s.ptr ∧
      (rest = [] ∧ ss' = [s] ∧ soh' = (if s.ptr < soh then s.ptr else soh) ∨
       rest ≠ [] ∧ ∃ sz ss, align32 s.size fa = some sz ∧
         fixSections e fa rest (if s.ptr < soh then s.ptr else soh) = .ok (ss, soh') ∧ ss' = ⟨s.ptr, sz⟩ :: ss)) := by
  simp only [fixSections] at h
  by_cases hz : s.size = 0
  · rw [if_pos hz] at h
    split at h <;> cases h
    exact Or.inl ⟨hz, _, by assumption, rfl⟩
  · rw [if_neg hz] at h
    simp only [Res.errGuard_eq_ok, Nat.not_lt] at h
    obtain ⟨hov, h⟩ := h
    refine Or.inr ⟨hz, hov, ?_⟩
    by_cases hr : rest.isEmpty
    · rw [if_pos hr] at h
      cases h
      exact Or.inl ⟨List.isEmpty_iff.1 hr, rfl, rfl⟩
    · rw [if_neg hr] at h
      split at h
      · cases h
      · split at h <;> cases h
        exact Or.inr ⟨fun hn => hr (by rw [hn]; rfl), _, _, by assumption, by assumption, rfl⟩

theorem fixSections_ge (secTblEnd fa : Nat) (ss : List Section) (soh : Nat) (ss' : List Section) (soh' : Nat)
    (h : fixSections secTblEnd fa ss soh = .ok (ss', soh')) (hs : secTblEnd ≤ soh) : secTblEnd ≤ soh' := by
  induction ss generalizing soh ss' soh' with
  | nil => simp [fixSections] at h; omega
  | cons s rest ih =>
    rcases fixSections_cons_ok h with ⟨_, ss, hr, _⟩ | ⟨_, hov, ⟨_, _, rfl⟩ | ⟨_, sz, ss, _, hr, _⟩⟩
    · exact ih _ _ _ hr hs
    · split <;> omega
    · exact ih _ _ _ hr (by split <;> omega)

/-- `readOptHeader`'s two layouts: (structure size, offset of NumberOfRvaAndSizes, offset of data directory 4) -/
theorem optVariant_eq_some {magic need nrva dd4 : Nat} :
    (if magic = 0x10b then some (224, 92, 128) else if magic = 0x20b then some (240, 108, 144) else none) =
        some (need, nrva, dd4) ↔
      magic = 0x10b ∧ need = 224 ∧ nrva = 92 ∧ dd4 = 128 ∨ magic = 0x20b ∧ need = 240 ∧ nrva = 108 ∧ dd4 = 144 := by
  by_cases m1 : magic = 0x10b
  · simp [m1, eq_comm]
  · by_cases m2 : magic = 0x20b
    · simp [m2, eq_comm]
    · simp [m1, m2]

/-- complete characterisation of a successful `readHeaders` (for `e_lfanew ≥ 64`): every condition checked and
    every value produced, as a predicate on the file -/
structure HeadersFull (f : Bytes) (h : Headers) : Prop where
  mz : seg f 0 2 = [77, 90]
  pe : h.m.peStart = u32 f 60
  pe64 : 64 ≤ h.m.peStart
  off : h.m.hdrOff = h.m.peStart
  sig : seg f h.m.peStart (h.m.peStart + 4) = [80, 69, 0, 0]
  soh : h.m.soh = u16 f (h.m.peStart + 20)
  nsec : h.m.nsec = u16 f (h.m.peStart + 6)
  page : h.m.pageSize = if u16 f (h.m.peStart + 4) = 512 ∨ u16 f (h.m.peStart + 4) = 388 ∨ u16 f (h.m.peStart + 4) = 644
            then 8192 else 4096
  variant : (u16 f (h.m.peStart + 24) = 267 ∧ h.m.dd4Start = 128 ∧ 224 ≤ h.m.soh ∧ 5 ≤ u32 f (h.m.peStart + 24 + 92)) ∨
            (u16 f (h.m.peStart + 24) = 523 ∧ h.m.dd4Start = 144 ∧ 240 ≤ h.m.soh ∧ 5 ≤ u32 f (h.m.peStart + 24 + 108))
  dd : h.m.posDDCert = h.m.peStart + 24 + h.m.dd4Start
  tbl : h.m.secTblStart = h.m.peStart + 24 + h.m.soh
  fa : h.m.fileAlign = u32 f (h.m.peStart + 24 + 36)
  noOverlap : h.m.peStart + 24 + h.m.soh + h.m.nsec * 40 ≤ u32 f (h.m.peStart + 24 + 60)
  fix : fixSections (h.m.peStart + 24 + h.m.soh + h.m.nsec * 40) (u32 f (h.m.peStart + 24 + 36))
          (rawSections f (h.m.peStart + 24 + h.m.soh) h.m.nsec) (u32 f (h.m.peStart + 24 + 60))
          = .ok (h.sections, h.m.sizeOfHdr)
  cur : h.cur = h.m.sizeOfHdr
  curLe : h.cur ≤ f.length
  hashed : h.hashed = seg f 0 (h.m.peStart + 24 + 64) ++ seg f (h.m.peStart + 24 + 68) h.m.posDDCert ++
              seg f (h.m.posDDCert + 8) h.cur
  certStart : h.m.certStart = u32 f h.m.posDDCert
  certSize : h.m.certSize = u32 f (h.m.posDDCert + 4)

theorem HeadersFull.tblEndLe {f : Bytes} {h : Headers} (F : HeadersFull f h) :
    h.m.peStart + 24 + h.m.soh + h.m.nsec * 40 ≤ h.cur := by
  rw [F.cur]
  exact fixSections_ge _ _ _ _ _ _ F.fix F.noOverlap

theorem HeadersFull.ddIn {f : Bytes} {h : Headers} (F : HeadersFull f h) :
    128 ≤ h.m.dd4Start ∧ h.m.dd4Start + 8 ≤ h.m.soh ∧ 224 ≤ h.m.soh := by
  rcases F.variant with v | v <;> omega

/-- `HeadersFull.variant` in the form in which the parsers test it -/
theorem HeadersFull.optVariant {f : Bytes} {h : Headers} (F : HeadersFull f h) : ∃ need nrva,
    (if u16 f (h.m.peStart + 24) = 0x10b then some (224, 92, 128) else
      if u16 f (h.m.peStart + 24) = 0x20b then some (240, 108, 144) else none) = some (need, nrva, h.m.dd4Start) ∧
    need ≤ h.m.soh ∧ 5 ≤ u32 f (h.m.peStart + 24 + nrva) := by
  rcases F.variant with ⟨hm, hd, a, b⟩ | ⟨hm, hd, a, b⟩
  · exact ⟨224, 92, optVariant_eq_some.2 (Or.inl ⟨hm, rfl, rfl, hd⟩), a, b⟩
  · exact ⟨240, 108, optVariant_eq_some.2 (Or.inr ⟨hm, rfl, rfl, hd⟩), a, b⟩

theorem readHeaders_full (f : Bytes) (h : Headers) (hp : 64 ≤ u32 f 0x3c) (e : readHeaders f = .ok h) :
    HeadersFull f h := by
  unfold readHeaders at e
  simp only [hp, if_true, Res.errGuard_eq_ok, Res.panicGuard_eq_ok, ne_eq, Decidable.not_not, Nat.not_lt] at e
  obtain ⟨_, mz, _, _, sig, _, _, _, e⟩ := e
  split at e
  · cases e
  · rename_i need nrva dd4 hv
    simp only [Res.errGuard_eq_ok, Nat.not_lt] at e
    obtain ⟨d1, d2, d3, _, e⟩ := e
    split at e
    · cases e
    · cases e
    · cases e
    · rename_i sections sizeOfHdr hfix
      simp only [Res.errGuard_eq_ok, Res.ok.injEq, Nat.not_lt] at e
      obtain ⟨d5, rfl⟩ := e
      have hge := fixSections_ge _ _ _ _ _ _ hfix d3
      refine ⟨mz, rfl, hp, rfl, sig, rfl, rfl, ?_, ?_, rfl, rfl, rfl, d3, hfix, ?_, d5, rfl, rfl, ?_⟩
      · simp only
      · rcases optVariant_eq_some.1 hv with ⟨m, rfl, rfl, rfl⟩ | ⟨m, rfl, rfl, rfl⟩
        · exact Or.inl ⟨m, rfl, d1, d2⟩
        · exact Or.inr ⟨m, rfl, d1, d2⟩
      · simp only; omega
      · simp only [Nat.add_assoc]

theorem readHeaders_complete (g : Bytes) (h : Headers) (F : HeadersFull g h) : readHeaders g = .ok h := by
  have hEnd := F.tblEndLe
  have hc := Nat.add_sub_cancel' hEnd
  have ⟨b1, b2, b3, b4, b5, b6, b7⟩ : 64 ≤ g.length ∧ h.m.peStart ≤ g.length ∧ h.m.peStart + 4 ≤ g.length ∧
      h.m.peStart + 24 ≤ g.length ∧ h.m.peStart + 24 + h.m.soh ≤ g.length ∧ 2 ≤ h.m.soh ∧
      h.m.peStart + 24 + h.m.soh + h.m.nsec * 40 ≤ g.length := by
    have := F.curLe; have := F.pe64; have := F.ddIn.2.2
    omega
  obtain ⟨need, nrva, hv, hneed, hnr⟩ := F.optVariant
  obtain ⟨⟨peStart, hdrOff, soh, dd4Start, posDDCert, secTblStart, sizeOfHdr, pageSize, fileAlign, certStart,
    certSize, nsec⟩, sections, hashed, cur⟩ := h
  obtain ⟨mz, pe, pe64, off, sig, hsoh, hnsec, page, -, dd, tbl, fa, noOv, fix, hcur, curLe, hhashed, hcs, hcz⟩ := F
  simp only at mz pe pe64 off sig hsoh hnsec page dd tbl fa noOv fix hcur curLe hhashed hcs hcz
  simp only at hc hv hneed hnr b2 b3 b4 b5 b6 b7
  subst hcur off tbl fa hhashed hcs hcz dd
  rw [page]
  unfold readHeaders
  simp only [← pe, ← hsoh, ← hnsec, pe64, if_true, hv, fix, hc, Res.errGuard_eq_ok, Res.panicGuard_eq_ok, ne_eq,
    Decidable.not_not, Nat.not_lt]
  exact ⟨b1, mz, b2, b3, sig, b4, b5, b6, hneed, hnr, noOv, b7, curLe, trivial⟩

/-- what `readHeaders` guarantees about a file whose `e_lfanew` is at least 64 -/
structure HeadersOk (f : Bytes) (h : Headers) : Prop where
  pe : h.m.peStart = u32 f 0x3c
  off : h.m.hdrOff = h.m.peStart
  dd : h.m.posDDCert = h.m.peStart + 24 + h.m.dd4Start
  ddIn : h.m.dd4Start + 8 ≤ h.m.soh
  dd4 : (u16 f (h.m.peStart + 24) = 267 ∧ h.m.dd4Start = 128) ∨ (u16 f (h.m.peStart + 24) = 523 ∧ h.m.dd4Start = 144)
  cur : h.cur = h.m.sizeOfHdr
  curLe : h.cur ≤ f.length
  tblLe : h.m.peStart + 24 + h.m.soh ≤ h.cur
  hashed : h.hashed = seg f 0 (h.m.peStart + 88) ++ seg f (h.m.peStart + 92) h.m.posDDCert ++
              seg f (h.m.posDDCert + 8) h.cur
  certStart : h.m.certStart = u32 f h.m.posDDCert
  certSize : h.m.certSize = u32 f (h.m.posDDCert + 4)

theorem HeadersFull.ok {f : Bytes} {h : Headers} (F : HeadersFull f h) : HeadersOk f h where
  pe := F.pe
  off := F.off
  dd := F.dd
  ddIn := F.ddIn.2.1
  dd4 := F.variant.imp (fun v => ⟨v.1, v.2.1⟩) (fun v => ⟨v.1, v.2.1⟩)
  cur := F.cur
  curLe := F.curLe
  tblLe := Nat.le_trans (Nat.le_add_right _ _) F.tblEndLe
  hashed := F.hashed
  certStart := F.certStart
  certSize := F.certSize

theorem findSignatures_ok {f : Bytes} {cs sz : Nat} (h : findSignatures f = .ok (cs, sz)) :
    ∃ dd, cs = u32 f dd ∧ sz = u32 f (dd + 4) := by
  unfold findSignatures at h
  simp only [Res.errGuard_eq_ok, Res.panicGuard_eq_ok] at h
  obtain ⟨_, _, _, _, _, _, _, h⟩ := h
  split at h
  · cases h
  · simp only [Res.errGuard_eq_ok, Res.ok.injEq, Prod.mk.injEq] at h
    exact ⟨_, h.2.2.1.symm, h.2.2.2.symm⟩

theorem readSectionData_cons_ok {flen : Nat} {s : Section} {rest : List Section} {i cur next c n : Nat}
    {ex : List (Nat × Nat × Nat)} (e : readSectionData flen (s :: rest) i cur next = .ok (c, n, ex)) :
    (s.size = 0 ∧ readSectionData flen rest (i + 1) cur next = .ok (c, n, ex)) ∨
    (s.size ≠ 0 ∧ s.ptr = next ∧ cur + s.size ≤ flen ∧ ∃ ex',
      readSectionData flen rest (i + 1) (cur + s.size) (next + s.size) = .ok (c, n, ex') ∧
      ex = (s.ptr, cur, s.size) :: ex') := by
  simp only [readSectionData] at e
  by_cases hz : s.size = 0
  · rw [if_pos hz] at e
    exact Or.inl ⟨hz, e⟩
  · rw [if_neg hz] at e
    simp only [Res.errGuard_eq_ok, ne_eq, Decidable.not_not, Nat.not_lt] at e
    obtain ⟨hp, hl, e⟩ := e
    split at e
    · cases e
      exact Or.inr ⟨hz, hp, hl, _, by assumption, rfl⟩
    · rename_i hno
      exact absurd e (hno _ _ _)

theorem readSectionData_bounds (flen : Nat) (ss : List Section) (i cur next c n : Nat) (ex : List (Nat × Nat × Nat))
    (hcur : cur ≤ flen) (e : readSectionData flen ss i cur next = .ok (c, n, ex)) :
    cur ≤ c ∧ c ≤ flen ∧ c + next = n + cur := by
  induction ss generalizing i cur next ex with
  | nil => simp [readSectionData] at e; omega
  | cons s rest ih =>
    rcases readSectionData_cons_ok e with ⟨_, hr⟩ | ⟨_, _, hfit, ex', hr, _⟩
    · exact ih _ _ _ _ hcur hr
    · have := ih _ _ _ _ hfit hr
      omega

theorem readSectionData_ne_crash (flen : Nat) (ss : List Section) (i cur next : Nat) (k : Crash) :
    readSectionData flen ss i cur next ≠ Res.crash k := by
  fun_induction readSectionData flen ss i cur next <;> simp_all

/-- what a successful `DigestPE` guarantees (for `e_lfanew ≥ 64`): the stream fed to the image hash is the
    file up to `origSize` minus the checksum and the certificate-table directory entry, zero-padded to 8 -/
structure DigestOk (f : Bytes) (d : Digest) : Prop where
  pe : d.m.peStart = u32 f 0x3c
  dd : d.m.posDDCert = d.m.peStart + 24 + d.m.dd4Start
  dd4 : (u16 f (d.m.peStart + 24) = 267 ∧ d.m.dd4Start = 128) ∨ (u16 f (d.m.peStart + 24) = 523 ∧ d.m.dd4Start = 144)
  ddLe : d.m.posDDCert + 8 ≤ d.origSize
  origLe : d.origSize ≤ f.length
  hashed : d.hashed = seg f 0 (d.m.peStart + 88) ++ seg f (d.m.peStart + 92) d.m.posDDCert ++
              seg f (d.m.posDDCert + 8) d.origSize ++ List.replicate (d.certStart - d.origSize) 0
  padLe : d.origSize ≤ d.certStart
  padLt : d.certStart < d.origSize + 8
  aligned : d.certStart % 8 = 0
  certStart : d.m.certStart = u32 f d.m.posDDCert
  certSize : d.m.certSize = u32 f (d.m.posDDCert + 4)
  unsigned : d.m.certSize = 0 → d.origSize = f.length
  signed : d.m.certSize ≠ 0 → d.origSize = d.m.certStart ∧ f.length = d.m.certStart + d.m.certSize

/-- the three inequalities that `omega` needs in every proof about the signed file -/
theorem DigestOk.layout {f : Bytes} {d : Digest} (H : DigestOk f d) :
    d.m.posDDCert + 8 ≤ d.origSize ∧ d.origSize ≤ f.length ∧ d.origSize ≤ d.certStart :=
  ⟨H.ddLe, H.origLe, H.padLe⟩

theorem DigestOk.fileEnd {f : Bytes} {d : Digest} (H : DigestOk f d) : d.origSize + d.m.certSize = f.length := by
  by_cases hz : d.m.certSize = 0
  · have := H.unsigned hz; omega
  · have := H.signed hz; omega

theorem DigestOk.ddGe {f : Bytes} {d : Digest} (H : DigestOk f d) : d.m.peStart + 24 + 128 ≤ d.m.posDDCert := by
  have := H.dd
  rcases H.dd4 with h | h <;> omega

theorem DigestOk.posDD_eq {f g : Bytes} {d d' : Digest} (H : DigestOk f d) (H' : DigestOk g d')
    (hP : u32 g 0x3c = u32 f 0x3c) (hm : u16 g (d.m.peStart + 24) = u16 f (d.m.peStart + 24)) :
    d'.m.peStart = d.m.peStart ∧ d'.m.posDDCert = d.m.posDDCert := by
  have pe' : d'.m.peStart = d.m.peStart := by rw [H'.pe, hP, ← H.pe]
  have a := H'.dd4
  have b := H.dd4
  rw [pe', hm] at a
  have dd4' : d'.m.dd4Start = d.m.dd4Start := by
    rcases a with a | a <;> rcases b with b | b <;> omega
  exact ⟨pe', by rw [H'.dd, pe', dd4', ← H.dd]⟩

/-- `certStart` is `origSize` rounded up to a multiple of 8 -/
theorem DigestOk.certStart_eq {f g : Bytes} {d d' : Digest} (H : DigestOk f d) (H' : DigestOk g d')
    (ho : d'.origSize = d.origSize) : d'.certStart = d.certStart := by
  have a1 := H.padLe; have a2 := H.padLt; have a3 := H.aligned
  have b1 := H'.padLe; have b2 := H'.padLt; have b3 := H'.aligned
  omega

/-- for `e_lfanew ≥ 64` the physical and the logical position agree; `orig` is the end of the image as `readTrailer`
    finds it -/
theorem DigestPE_run (f : Bytes) (d : Digest) (hp : 64 ≤ u32 f 0x3c) (e : DigestPE f = .ok d) :
    ∃ h cur2 ex orig, readHeaders f = .ok h ∧
      readSectionData f.length h.sections 0 (h.cur + gapOf h.sections h.m.sizeOfHdr)
        (h.cur + gapOf h.sections h.m.sizeOfHdr) = .ok (cur2, cur2, ex) ∧
      h.cur + gapOf h.sections h.m.sizeOfHdr ≤ cur2 ∧ cur2 ≤ orig ∧ orig ≤ f.length ∧
      (h.m.certSize = 0 → orig = f.length) ∧
      (h.m.certSize ≠ 0 → orig = h.m.certStart ∧ f.length = h.m.certStart + h.m.certSize) ∧
      d = { hashed := h.hashed ++ seg f h.cur orig ++ List.replicate (if orig % 8 = 0 then 0 else 8 - orig % 8) 0,
            origSize := orig, certStart := orig + (if orig % 8 = 0 then 0 else 8 - orig % 8), m := h.m,
            extents := ex, hdrLen := h.hashed.length } := by
  unfold DigestPE at e
  split at e
  · cases e
  · cases e
  · cases e
  · rename_i h hh
    have hcur := (readHeaders_full f h hp hh).cur
    simp only [Res.errGuard_eq_ok, Nat.not_lt] at e
    obtain ⟨g1, e⟩ := e
    generalize hgap : gapOf h.sections h.m.sizeOfHdr = gap at g1 e
    have hnext : (if gap = 0 then h.m.sizeOfHdr else h.m.sizeOfHdr + gap) = h.cur + gap := by
      rw [hcur]; split <;> omega
    rw [hnext] at e
    split at e
    · cases e
    · cases e
    · cases e
    · rename_i cur2 next2 ex hs
      obtain ⟨e2, e3, e1⟩ := readSectionData_bounds _ _ _ _ _ _ _ _ g1 hs
      obtain rfl : cur2 = next2 := by omega
      subst hgap
      refine ⟨h, cur2, ex, ?_⟩
      by_cases t1 : h.m.certSize = 0
      · rw [if_pos t1, show cur2 + (f.length - cur2) = f.length by omega] at e
        cases e
        exact ⟨_, hh, hs, e2, e3, Nat.le_refl _, fun _ => rfl, fun t => absurd t1 t, rfl⟩
      · rw [if_neg t1] at e
        simp only [Res.errGuard_eq_ok, Nat.not_lt, Res.ok.injEq] at e
        obtain ⟨t2, _, t4, t5, e⟩ := e
        rw [show cur2 + (h.m.certStart - cur2) = h.m.certStart by omega] at t4 t5 e
        exact ⟨_, hh, hs, e2, t2, by omega, fun t => absurd t t1, fun _ => ⟨rfl, by omega⟩, e.symm⟩

/-- the converse of `DigestPE_run`; `htr`: the image ends at the end of the file, or where a certificate table that reaches
    the end of the file begins -/
theorem DigestPE_of_run (g : Bytes) (h : Headers) (cur2 orig : Nat) (ex : List (Nat × Nat × Nat))
    (hh : readHeaders g = .ok h) (hcur : h.cur = h.m.sizeOfHdr)
    (hs : readSectionData g.length h.sections 0 (h.cur + gapOf h.sections h.m.sizeOfHdr)
      (h.cur + gapOf h.sections h.m.sizeOfHdr) = .ok (cur2, cur2, ex))
    (hgap : h.cur + gapOf h.sections h.m.sizeOfHdr ≤ g.length)
    (htr : h.m.certSize = 0 ∧ orig = g.length ∨
      h.m.certSize ≠ 0 ∧ orig = h.m.certStart ∧ cur2 ≤ orig ∧ g.length = orig + h.m.certSize) :
    DigestPE g = .ok
      { hashed := h.hashed ++ seg g h.cur orig ++ List.replicate (if orig % 8 = 0 then 0 else 8 - orig % 8) 0,
        origSize := orig, certStart := orig + (if orig % 8 = 0 then 0 else 8 - orig % 8), m := h.m,
        extents := ex, hdrLen := h.hashed.length } := by
  have hc2 := (readSectionData_bounds _ _ _ _ _ _ _ _ hgap hs).2.1
  unfold DigestPE
  rw [hh]
  simp only
  generalize gapOf h.sections h.m.sizeOfHdr = gap at hs hgap ⊢
  have hnext : (if gap = 0 then h.m.sizeOfHdr else h.m.sizeOfHdr + gap) = h.cur + gap := by
    rw [hcur]; split <;> omega
  rw [hnext, if_neg (by omega), hs]
  simp only
  rcases htr with ⟨t0, rfl⟩ | ⟨t0, rfl, t1, t2⟩
  · rw [if_pos t0, show cur2 + (g.length - cur2) = g.length by omega]
  · -- the guards of `readTrailer`: a table, behind the sections, inside the file, reaching its end
    rw [if_neg t0, if_neg (by omega), if_neg (by omega), show cur2 + (h.m.certStart - cur2) = h.m.certStart by omega,
      if_neg (by omega), if_neg (by omega)]

theorem DigestPE_spec (f : Bytes) (d : Digest) (hp : 64 ≤ u32 f 0x3c) (e : DigestPE f = .ok d) : DigestOk f d := by
  obtain ⟨h, cur2, ex, orig, hh, _, h1, h2, h3, hu, hs, rfl⟩ := DigestPE_run f d hp e
  have H := (readHeaders_full f h hp hh).ok
  have hdd : h.m.posDDCert + 8 ≤ h.cur := by have := H.tblLe; have := H.ddIn; have := H.dd; omega
  refine ⟨H.pe, H.dd, H.dd4, by simp only; omega, h3, ?_, ?_, ?_, ?_, H.certStart, H.certSize, hu, hs⟩
  · simp only
    rw [H.hashed, List.append_assoc (seg f 0 _ ++ seg f _ _), seg_append f _ _ _ hdd (by omega)]
    congr 2
    omega
  · simp only; omega
  · simp only; split <;> omega
  · simp only; split <;> omega

end Relic.PE
