/- the algebra of verification plans and the acceptance condition of every stage of `csblob.Verify` / `VerifyPages`.
   `Model/CsVerify` (plans: C02, C11, C01_CsVerify) and the verifier of `Model/MachO` (`MachO.verifyFile`, check lists: the C01
   end-to-end theorems, Proofs/MachOVerify) are two independent models of the same Go code; no theorem relates them
   (`C01.csblob_sign_then_verify_bytes_full` is the stated, unproved link). -/
import Relic.Model.CsVerify
import Relic.Proofs.CodeDirVerify
namespace Relic.CsVerify
open Relic.CodeDir

variable (H : Nat → Bytes → Bytes)

theorem runSteps_ok_iff (steps : List Step) (fin : Res Unit) :
    runSteps H steps fin = .ok () ↔ (∀ s ∈ steps, s.holds H = true) ∧ fin = .ok () := by
  induction steps with
  | nil => simp [runSteps]
  | cons s ss ih =>
    by_cases h : s.holds H = true
    · simp [runSteps, h, ih]
    · simp [runSteps, h]

theorem run_ok_iff (p : Plan) : p.run H = .ok () ↔ (∀ s ∈ p.steps, s.holds H = true) ∧ p.final = .ok () :=
  runSteps_ok_iff H p.steps p.final

theorem run_pass : Plan.pass.run H = .ok () := rfl

theorem run_fail (e : String) : (Plan.fail e).run H ≠ .ok () := by
  simp [Plan.fail, Plan.run, runSteps]

theorem run_check (s : Step) : (Plan.check s).run H = .ok () ↔ s.holds H = true := by
  simp [run_ok_iff, Plan.check]

theorem run_guard (c : Bool) (e : String) : (Plan.guard c e).run H = .ok () ↔ c = true := by
  cases c <;> simp [Plan.guard, Plan.pass, Plan.fail, Plan.run, runSteps]

theorem run_seq (p q : Plan) : (p.seq q).run H = .ok () ↔ p.run H = .ok () ∧ q.run H = .ok () := by
  rw [run_ok_iff, run_ok_iff, run_ok_iff]
  unfold Plan.seq
  cases hf : p.final with
  | ok u =>
    simp only [List.mem_append]
    constructor
    · rintro ⟨h1, h2⟩
      exact ⟨⟨fun s hs => h1 s (Or.inl hs), trivial⟩, fun s hs => h1 s (Or.inr hs), h2⟩
    · rintro ⟨⟨h1, _⟩, h2, h3⟩
      exact ⟨fun s hs => hs.elim (h1 s) (h2 s), h3⟩
  | err e => simp [hf]
  | panic s => simp [hf]
  | diverge => simp [hf]

theorem run_seqAll (ps : List Plan) : (seqAll ps).run H = .ok () ↔ ∀ p ∈ ps, p.run H = .ok () := by
  induction ps with
  | nil => simp [seqAll, run_pass]
  | cons p ps ih => simp [seqAll, run_seq, ih]

theorem runSteps_cases (steps : List Step) (fin : Res Unit) :
    runSteps H steps fin = fin ∨ ∃ s ∈ steps, runSteps H steps fin = .err s.label := by
  induction steps with
  | nil => exact Or.inl rfl
  | cons s ss ih =>
    by_cases h : s.holds H = true
    · simp only [runSteps, h, ↓reduceIte]
      rcases ih with h1 | ⟨t, ht, h2⟩
      · exact Or.inl h1
      · exact Or.inr ⟨t, List.mem_cons_of_mem _ ht, h2⟩
    · exact Or.inr ⟨s, List.mem_cons_self, by simp [runSteps, h]⟩

theorem holds_full (l : String) (a : Nat) (s e : Bytes) : (Step.holds H ⟨l, a, s, 0, e⟩ = true) ↔ H a s = e := by
  simp [Step.holds, Step.digest]

theorem holds_trunc (l : String) (a n : Nat) (s e : Bytes) (hn : n ≠ 0) :
    (Step.holds H ⟨l, a, s, n, e⟩ = true) ↔ (H a s).take n = e := by
  simp [Step.holds, Step.digest, hn]

/-- a special slot, when the directory has it, holds the digest of the blob -/
def SlotOk (c : CD) (i : Nat) (blob : Bytes) : Prop := ∀ v, c.slot i = some v → H c.alg blob = v

theorem optCheck_ok (l : String) (a : Nat) (slot : Option Bytes) (blob : Bytes) :
    (optCheck l a slot blob).run H = .ok () ↔ ∀ v, slot = some v → H a blob = v := by
  cases slot with
  | none => simp [optCheck, run_pass]
  | some s => simp [optCheck, run_check, holds_full]

/-- what the loop body of `Verify` demands of one directory -/
def DirOk (P : Params) (s : Sig) (c : CD) : Prop :=
  SlotOk H c 7 (s.entDER.getD []) ∧ SlotOk H c 5 (s.ent.getD []) ∧ SlotOk H c 2 (s.req.getD []) ∧
  SlotOk H c 6 (P.rep.getD []) ∧ (∀ v, P.info = some v → SlotOk H c 1 v) ∧ (∀ v, P.res = some v → SlotOk H c 3 v)

theorem dirPlan_ok (P : Params) (s : Sig) (c : CD) : (dirPlan P s c).run H = .ok () ↔ DirOk H P s c := by
  unfold dirPlan DirOk SlotOk
  simp only [run_seqAll, List.mem_cons, List.not_mem_nil, or_false, forall_eq_or_imp, forall_eq, optCheck_ok]
  cases hi : P.info <;> cases hr : P.res <;> simp [run_pass, optCheck_ok]

/-- what `SignerInfo.Verify` + the content-type rule demand of one signer info -/
def SignerOk (content : Bytes) (sv : SignerV) : Prop :=
  ∃ a, sv.digestAlg = some a ∧ (sv.hasAttrs = true → ∃ md, sv.md = some md ∧ H a content = md) ∧ sv.restOk = true

theorem signerPlan_ok (content : Bytes) (sv : SignerV) : (signerPlan content sv).run H = .ok () ↔ SignerOk H content sv := by
  unfold signerPlan SignerOk
  cases ha : sv.digestAlg with
  | none => simp [run_fail]
  | some a =>
    cases hat : sv.hasAttrs with
    | false => simp [run_guard]
    | true =>
      cases hm : sv.md with
      | none => simp [run_fail]
      | some md => simp [run_seq, run_check, run_guard, holds_full]

def CmsOk (content : Bytes) (c : CmsV) : Prop :=
  (∀ e, c.embedded = some e → e = content) ∧ c.signers ≠ [] ∧ ∀ sv ∈ c.signers, SignerOk H content sv

theorem cmsPlan_ok (content : Bytes) (c : CmsV) : (cmsPlan content c).run H = .ok () ↔ CmsOk H content c := by
  unfold cmsPlan CmsOk
  rw [run_seq, run_seq, run_guard, run_seqAll]
  have h1 : ((embeddedPlan content c.embedded).run H = .ok ()) ↔ ∀ e, c.embedded = some e → e = content := by
    cases c.embedded with
    | none => simp [embeddedPlan, run_pass]
    | some e => simp [embeddedPlan, run_guard]
  rw [h1]
  have h2 : (!c.signers.isEmpty) = true ↔ c.signers ≠ [] := by
    cases c.signers <;> simp
  rw [h2]
  simp only [List.mem_map, forall_exists_index, and_imp, forall_apply_eq_imp_iff₂, signerPlan_ok]

/-- every LISTED digest is the digest of the last directory of that hash function -/
def CdhOk (dirs : List CD) (l : List (Option Nat × Bytes)) : Prop :=
  ∀ p ∈ l, ∃ a c, p.1 = some a ∧ lastWithAlg dirs a = some c ∧ H a c.raw = p.2

theorem cdhPlan_ok (dirs : List CD) (l : List (Option Nat × Bytes)) : (cdhPlan dirs l).run H = .ok () ↔ CdhOk H dirs l := by
  unfold CdhOk
  induction l with
  | nil => simp [cdhPlan, run_pass]
  | cons p rest ih =>
    obtain ⟨a, dg⟩ := p
    cases a with
    | none => simp [cdhPlan, run_fail]
    | some a =>
      cases hl : lastWithAlg dirs a with
      | none => simp [cdhPlan, hl, run_fail]
      | some c => simp [cdhPlan, hl, run_seq, run_check, holds_full, ih]

def CdhAttrOk (dirs : List CD) : AttrV (List (Option Nat × Bytes)) → Prop
  | .absent => True
  | .bad => False
  | .val l => CdhOk H dirs l

theorem cdhAttrPlan_ok (dirs : List CD) (a : AttrV (List (Option Nat × Bytes))) :
    (cdhAttrPlan dirs a).run H = .ok () ↔ CdhAttrOk H dirs a := by
  cases a with
  | absent => simp [cdhAttrPlan, CdhAttrOk, run_pass]
  | bad => simp [cdhAttrPlan, CdhAttrOk, run_fail]
  | val l => simp [cdhAttrPlan, CdhAttrOk, cdhPlan_ok]

/-- what `checkPlistHashes` compares the entry of directory `c` with: `computed[c.HashFunc][:20]` -/
def computedAt (dirs : List CD) (c : CD) : Bytes := (H c.alg (lastRaw dirs c.alg)).take 20

/-- count AND positional equality -/
def PlistOk (dirs : List CD) (L : List Bytes) : Prop := L = dirs.map (computedAt H dirs)

/-- `dirs0` is the full list the digests are taken over, `dirs` the tail walked -/
theorem plistChecks_ok (dirs0 : List CD) : ∀ (dirs : List CD) (L : List Bytes), L.length = dirs.length →
    ((∀ p ∈ (dirs.zip L).map (fun p => Plan.check ⟨"plist", p.1.alg, lastRaw dirs0 p.1.alg, 20, p.2⟩), p.run H = .ok ()) ↔
      L = dirs.map (computedAt H dirs0)) := by
  intro dirs
  induction dirs with
  | nil => intro L hl; cases L <;> simp_all
  | cons c cs ih =>
    intro L hl
    cases L with
    | nil => simp at hl
    | cons e es =>
      simp only [List.length_cons, Nat.add_right_cancel_iff] at hl
      simp only [List.zip_cons_cons, List.map_cons, List.mem_cons, forall_eq_or_imp, ih es hl, List.cons.injEq]
      rw [run_check, holds_trunc H _ _ _ _ _ (by decide)]
      simp only [computedAt]
      constructor
      · rintro ⟨h1, h2⟩; exact ⟨h1.symm, h2⟩
      · rintro ⟨h1, h2⟩; exact ⟨h1.symm, h2⟩

theorem plistPlan_ok (dirs : List CD) (L : List Bytes) : (plistPlan dirs L).run H = .ok () ↔ PlistOk H dirs L := by
  unfold plistPlan PlistOk
  by_cases hl : L.length = dirs.length
  · simp only [hl, ne_eq, not_true_eq_false, ↓reduceIte, run_seqAll]
    exact plistChecks_ok H dirs dirs L hl
  · simp only [ne_eq, hl, not_false_eq_true, ↓reduceIte]
    constructor
    · intro h; exact absurd h (run_fail H _)
    · intro h; exact absurd (by rw [h]; simp) hl

def PlistAttrOk (dirs : List CD) : AttrV (List Bytes) → Prop
  | .absent => True
  | .bad => False
  | .val l => PlistOk H dirs l

theorem plistAttrPlan_ok (dirs : List CD) (a : AttrV (List Bytes)) :
    (plistAttrPlan dirs a).run H = .ok () ↔ PlistAttrOk H dirs a := by
  cases a with
  | absent => simp [plistAttrPlan, PlistAttrOk, run_pass]
  | bad => simp [plistAttrPlan, PlistAttrOk, run_fail]
  | val l => simp [plistAttrPlan, PlistAttrOk, plistPlan_ok]

/-- the guard of patches/F-CSV-1.patch (vacuous on the unchanged tree) -/
def VouchOk (fx : Fixes) (dirs : List CD) (si : SignerV) : Prop :=
  fx.vouch = true → 1 < dirs.length → si.plist ≠ .absent

theorem vouchPlan_ok (fx : Fixes) (dirs : List CD) (si : SignerV) : (vouchPlan fx dirs si).run H = .ok () ↔ VouchOk fx dirs si := by
  unfold vouchPlan VouchOk
  rw [run_guard]
  cases hp : si.plist <;> cases hv : fx.vouch <;> simp [AttrV.isAbsent]

def AttrsOk (fx : Fixes) (dirs : List CD) (c : CmsV) : Prop :=
  ∃ si, c.signers.getLast? = some si ∧ CdhAttrOk H dirs si.cdhashes ∧ PlistAttrOk H dirs si.plist ∧ VouchOk fx dirs si ∧
    c.tsOk = true

theorem attrsPlan_ok (fx : Fixes) (dirs : List CD) (c : CmsV) : (attrsPlan fx dirs c).run H = .ok () ↔ AttrsOk H fx dirs c := by
  unfold attrsPlan AttrsOk
  cases hl : c.signers.getLast? with
  | none => simp [run_fail]
  | some si => simp [run_seq, run_guard, cdhAttrPlan_ok, plistAttrPlan_ok, vouchPlan_ok]

/-- the acceptance condition of `csblob.Verify` -/
def Accepts (fx : Fixes) (P : Params) (s : Sig) : Prop :=
  (∀ c ∈ s.dirs, DirOk H P s c) ∧
  ∃ d0 rest, s.dirs = d0 :: rest ∧ ∃ c, s.cms = some c ∧ CmsOk H d0.raw c ∧ AttrsOk H fx s.dirs c

theorem verifyPlan_ok (fx : Fixes) (P : Params) (s : Sig) : (verifyPlan fx P s).run H = .ok () ↔ Accepts H fx P s := by
  unfold verifyPlan Accepts
  rw [run_seq, run_seqAll]
  simp only [List.mem_map, forall_exists_index, and_imp, forall_apply_eq_imp_iff₂, dirPlan_ok]
  cases hd : s.dirs with
  | nil => simp [run_fail]
  | cons d0 rest =>
    cases hc : s.cms with
    | none => simp [run_fail]
    | some c => simp [run_seq, cmsPlan_ok, attrsPlan_ok]

theorem accepts_last_signer (fx : Fixes) (P : Params) (s : Sig) (c : CmsV) (si : SignerV) (hc : s.cms = some c)
    (hsi : c.signers.getLast? = some si) (hacc : (verifyPlan fx P s).run H = .ok ()) :
    CdhAttrOk H s.dirs si.cdhashes ∧ PlistAttrOk H s.dirs si.plist ∧ VouchOk fx s.dirs si := by
  obtain ⟨_, d0, rest, _, c', hc', _, si', hsi', h1, h2, h3, _⟩ := (verifyPlan_ok H fx P s).mp hacc
  rw [hc] at hc'; cases hc'
  rw [hsi] at hsi'; cases hsi'
  exact ⟨h1, h2, h3⟩

theorem foldl_bestStep_some (l : List CD) (b : CD) : ∃ x, l.foldl bestStep (some b) = some x ∧ (x = b ∨ x ∈ l) ∧
    b.d.hdr.hashType ≤ x.d.hdr.hashType ∧ ∀ y ∈ l, y.d.hdr.hashType ≤ x.d.hdr.hashType := by
  induction l generalizing b with
  | nil => exact ⟨b, rfl, Or.inl rfl, Nat.le_refl _, by simp⟩
  | cons c cs ih =>
    simp only [List.foldl_cons, bestStep]
    by_cases h : c.d.hdr.hashType > b.d.hdr.hashType
    · simp only [h, ↓reduceIte]
      obtain ⟨x, hx, hm, hle, hall⟩ := ih c
      refine ⟨x, hx, ?_, by omega, ?_⟩
      · rcases hm with rfl | hm
        · exact Or.inr List.mem_cons_self
        · exact Or.inr (List.mem_cons_of_mem _ hm)
      · intro y hy
        rcases List.mem_cons.mp hy with rfl | hy
        · exact hle
        · exact hall y hy
    · simp only [h, ↓reduceIte]
      obtain ⟨x, hx, hm, hle, hall⟩ := ih b
      refine ⟨x, hx, ?_, hle, ?_⟩
      · rcases hm with rfl | hm
        · exact Or.inl rfl
        · exact Or.inr (List.mem_cons_of_mem _ hm)
      · intro y hy
        rcases List.mem_cons.mp hy with rfl | hy
        · omega
        · exact hall y hy

theorem bestDir_mem_max (dirs : List CD) :
    (dirs = [] ∧ bestDir dirs = none) ∨
    ∃ b, bestDir dirs = some b ∧ b ∈ dirs ∧ ∀ y ∈ dirs, y.d.hdr.hashType ≤ b.d.hdr.hashType := by
  cases dirs with
  | nil => exact Or.inl ⟨rfl, rfl⟩
  | cons c cs =>
    right
    obtain ⟨x, hx, hm, hle, hall⟩ := foldl_bestStep_some cs c
    refine ⟨x, by simpa [bestDir, bestStep] using hx, ?_, ?_⟩
    · rcases hm with rfl | hm
      · exact List.mem_cons_self
      · exact List.mem_cons_of_mem _ hm
    · intro y hy
      rcases List.mem_cons.mp hy with rfl | hy
      · exact hle
      · exact hall y hy

theorem pagesPlan_paged (b : CD) (r : Bytes) (hk : 0 < b.d.hdr.pageShift ∧ b.d.hdr.pageShift ≤ 24) :
    pagesPlan b r = pageLoop b.alg b.d.code r (codeSize b.d.hdr) (2 ^ b.d.hdr.pageShift) := by
  unfold pagesPlan; rw [if_neg (by omega), if_neg (by omega)]

theorem pageLoop_ok (alg ps : Nat) (hps : 0 < ps) : ∀ (es : List Bytes) (r : Bytes), es.length = (pages ps r).length →
    (∀ e ∈ es, allZero e = false) →
    ((pageLoop alg es r r.length ps).run H = .ok () ↔ es = (pages ps r).map (H alg)) := by
  intro es
  induction es with
  | nil =>
    intro r hlen _
    have : pages ps r = [] := List.eq_nil_of_length_eq_zero hlen.symm
    simp [pageLoop, run_pass, this]
  | cons e es ih =>
    intro r hlen hz
    have hne : r ≠ [] := by
      intro h; subst h; simp [pages_nil] at hlen
    have hpos : 0 < r.length := List.length_pos_iff.mpr hne
    rw [pages_cons ps hps r hne] at hlen ⊢
    simp only [List.length_cons, Nat.add_right_cancel_iff] at hlen
    have hze : allZero e = false := hz e List.mem_cons_self
    have hzes : ∀ x ∈ es, allZero x = false := fun x hx => hz x (List.mem_cons_of_mem _ hx)
    unfold pageLoop
    have h0 : ¬ ((r.length : Int) ≤ 0) := by omega
    simp only [h0, ↓reduceIte]
    by_cases hshort : r.length < ps
    · have h1 : ((r.length : Int) < (ps : Int)) := by omega
      simp only [h1, ↓reduceIte, Int.toNat_natCast, Nat.lt_irrefl, hze, Bool.false_eq_true]
      have hd : r.drop ps = [] := List.drop_eq_nil_of_le (by omega)
      rw [hd, pages_nil] at hlen
      have hes : es = [] := List.eq_nil_of_length_eq_zero hlen
      subst hes
      have ht : r.take ps = r.take r.length := by rw [List.take_of_length_le (by omega), List.take_length]
      rw [run_seq, run_check, holds_full]
      simp [pageLoop, run_pass, hd, pages_nil, ht, eq_comm]
    · have h1 : ¬ ((r.length : Int) < (ps : Int)) := by omega
      have h2 : ¬ r.length < ps := hshort
      simp only [h1, ↓reduceIte, h2, hze, Bool.false_eq_true]
      have hcast : (r.length : Int) - (ps : Int) = ((r.drop ps).length : Nat) := by
        simp only [List.length_drop]; omega
      rw [run_seq, run_check, holds_full, hcast, ih (r.drop ps) hlen hzes]
      simp [eq_comm]

end Relic.CsVerify
