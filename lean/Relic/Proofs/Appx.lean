/-
  Lemmas about `Relic.Model.Appx` (APPX at the ZIP level): the two loops of `DigestAppxTar` taken apart once; a member in the
  bytes without a reader (`HashedAt`), to which `hashMember` with any reader and the verifier's two readers are tied; after the
  payload loop AXPC holds exactly `z[0, pos)` and the entries given to `AddFile` are the input's, untouched; `CopySizes` and the
  second loop change nothing of a `File` element that `verifyBlockMap` looks at.
-/
import Relic.Model.Appx
import Relic.Proofs.ZipRewrite
import Relic.Proofs.Res
import Relic.Proofs.Merkle
import Relic.Proofs.Lists
namespace Relic.Appx
open Relic.Zip

theorem encLfh_parse (b name extra : Bytes) (hl : b.length = 30) (hs : fld b 0 4 = sigFile) :
    encLfh (lfhOf b name extra) = b := by
  unfold encLfh
  simp only []
  rw [← hs]
  rw [fld_enc b 0 4 (by omega), fld_enc b 4 2 (by omega), fld_enc b 6 2 (by omega), fld_enc b 8 2 (by omega),
      fld_enc b 10 2 (by omega), fld_enc b 12 2 (by omega), fld_enc b 14 4 (by omega), fld_enc b 18 4 (by omega),
      fld_enc b 22 4 (by omega), fld_enc b 26 2 (by omega), fld_enc b 28 2 (by omega)]
  have g := take_drop_append b
  rw [g 0 4 2, g 0 6 2, g 0 8 2, g 0 10 2, g 0 12 2, g 0 14 4, g 0 18 4, g 0 22 4, g 0 26 2, g 0 28 2]
  simp
  exact List.take_of_length_le (by omega)

theorem contentOf_inflate {c : Codec} {x y : Bytes} (h : c.inflate x = some y) : contentOf c 8 x = .ok y := by
  unfold contentOf
  rw [if_neg (by decide), h]

/-- a directory entry as `ReadWithDirectory` makes it: nothing read from the member yet -/
def Fresh (f : File) : Prop := f.lfh = none ∧ f.ddb = []

theorem hashMember_ok {c : Codec} {r r' : Rd} {f : File} {h : Hashed} :
    hashMember c r f = .ok (h, r') ↔
      ∃ l r1 data r2 ddb crc, readLocalHeader r f = .ok (l, r1) ∧ ¬ (f.method ≠ 0 ∧ f.method ≠ 8) ∧
        r1.readFullAt (f.offset + 30 + l.nameLen + l.extraLen) f.csize = .ok (data, r2) ∧
        contentOf c f.method data = .ok h.plain ∧ h.plain.length = f.usize ∧ readDataDesc r2 f l = .ok (ddb, crc, r') ∧
        h.m = { file := { f with crc := crc, lfh := some l, ddb := ddb }, lfh := l,
                dataOff := f.offset + 30 + l.nameLen + l.extraLen,
                total := 30 + (l.name.length + l.extra.length + ddb.length) + f.csize } ∧
        h.raw = encLfh l ++ l.name ++ l.extra ++ data ++ ddb := by
  constructor
  · intro hh
    revert hh
    fun_cases hashMember c r f
    case case3 l r1 h1 hmeth doff data r2 h2 plain hp hlen ddb crc r3 h3 =>
      intro hh
      injection hh with hh
      injection hh with e1 e2
      subst e1 e2
      exact ⟨l, r1, data, r2, ddb, crc, h1, hmeth, h2, hp, Decidable.of_not_not hlen, h3, rfl, rfl⟩
    all_goals nofun
  · rintro ⟨l, r1, data, r2, ddb, crc, h1, hmeth, h2, hp, hlen, h3, hm, hraw⟩
    obtain ⟨m, raw, plain⟩ := h
    simp only [] at hp hlen hm hraw
    -- `rw`, not `subst`: the right-hand sides are long concatenations, which `subst` would evaluate
    rw [hm, hraw]
    unfold Rd.readFullAt at h2
    simp only [hashMember, h1, hmeth, h2, hp, hlen, h3, ne_eq, not_true_eq_false, if_false]

theorem hdrAt_bytes {z : Bytes} {f : File} {l : Lfh} (h : HdrAt z f l) :
    encLfh l ++ l.name ++ l.extra = (z.drop f.offset).take (30 + l.nameLen + l.extraLen) := by
  obtain ⟨hb, hsig, rfl⟩ := h
  have hl : ((z.drop f.offset).take 30).length = 30 := by rw [List.length_take, List.length_drop]; omega
  have e0 := fld_take (z.drop f.offset) 30 0 4 (by omega)
  have e26 := fld_take (z.drop f.offset) 30 26 2 (by omega)
  have e28 := fld_take (z.drop f.offset) 30 28 2 (by omega)
  rw [encLfh_parse _ _ _ hl (by rw [e0]; exact hsig), lfhOf_nameLen, lfhOf_extraLen, e26, e28, take_drop_append,
    Nat.add_assoc f.offset, take_drop_append]

theorem descAt_bytes {z : Bytes} {f : File} {l : Lfh} {d : Bytes} {c : Nat} (h : DescAt z f l d c) :
    d = (z.drop (descPos f l)).take d.length ∧ (d = [] ∨ descPos f l + d.length ≤ z.length) := by
  unfold DescAt at h
  split at h
  · rw [h.1]
    exact ⟨rfl, Or.inl rfl⟩
  · obtain ⟨_, _, _, hw⟩ := h
    split at hw
    · obtain ⟨c2, _, _, rfl⟩ := hw
      have : ((z.drop (descPos f l)).take 24).length = 24 := by rw [List.length_take, List.length_drop]; omega
      rw [this]
      exact ⟨rfl, Or.inr c2⟩
    · subst hw
      have : ((z.drop (descPos f l)).take 16).length = 16 := by rw [List.length_take, List.length_drop]; omega
      rw [this]
      exact ⟨rfl, Or.inr (by omega)⟩

/-- The bytes `z` hold, at the entry `f`, a member that `hashMember` takes to `h`: a local header (`Zip.HdrAt`), the data extent
    inside `z` with contents the codec accepts, the descriptor (`Zip.DescAt`).  No reader occurs in it: a successful `hashMember`
    found this, every reader that may go to `f.offset` finds it, and so do the verifier's `GetTotalSize` and `files[name]`; it
    depends on the bytes of the member's extent only. -/
def HashedAt (c : Codec) (z : Bytes) (f : File) (h : Hashed) : Prop :=
  ∃ l ddb crc, HdrAt z f l ∧ ¬ (f.method ≠ 0 ∧ f.method ≠ 8) ∧
    (f.csize ≠ 0 → f.offset + 30 + l.nameLen + l.extraLen + f.csize ≤ z.length) ∧
    contentOf c f.method ((z.drop (f.offset + 30 + l.nameLen + l.extraLen)).take f.csize) = .ok h.plain ∧
    h.plain.length = f.usize ∧ DescAt z f l ddb crc ∧
    h.m = { file := { f with crc := crc, lfh := some l, ddb := ddb }, lfh := l,
            dataOff := f.offset + 30 + l.nameLen + l.extraLen,
            total := 30 + (l.name.length + l.extra.length + ddb.length) + f.csize } ∧
    h.raw = encLfh l ++ l.name ++ l.extra ++ (z.drop (f.offset + 30 + l.nameLen + l.extraLen)).take f.csize ++ ddb

theorem member_end {z : Bytes} {f : File} {l : Lfh} {ddb : Bytes} {crc : Nat} (hH : HdrAt z f l) (hD : DescAt z f l ddb crc)
    (r : Rd) :
    (if l.flags % 16 / 8 = 0 then r.to (f.offset + 30 + l.nameLen + l.extraLen + f.csize)
      else (r.to (f.offset + 30 + l.nameLen + l.extraLen + f.csize)).to (descPos f l + ddb.length)) =
      r.to (f.offset + (30 + (l.name.length + l.extra.length + ddb.length) + f.csize)) := by
  obtain ⟨_, _, e3, e4, _⟩ := hH.lens
  split
  next h0 =>
    unfold DescAt at hD
    rw [if_pos h0] at hD
    rw [hD.1]
    congr 1
    simp only [List.length_nil]
    omega
  next =>
    rw [Rd.to_to]
    congr 1
    show f.offset + (30 + l.name.length + l.extra.length) + f.csize + ddb.length = _
    omega

theorem hashedAt_of_hashMember {c : Codec} {r r' : Rd} {f : File} {h : Hashed} (hf : Fresh f)
    (hh : hashMember c r f = .ok (h, r')) :
    HashedAt c r.z f h ∧ r.before f.offset ∧ r' = r.to (f.offset + h.m.total) := by
  obtain ⟨l, r1, data, r2, ddb, crc, h1, hmeth, h2, hp, hlen, h3, hm, hraw⟩ := hashMember_ok.1 hh
  obtain ⟨hH, hb, rfl⟩ := readLocalHeader_hdrAt hf.1 h1
  obtain ⟨rfl, hdb, rfl⟩ := Rd.readFullAt_to h2
  obtain ⟨hD, _, rfl⟩ := readDataDesc_descAt hf.2 h3
  rw [Rd.to_z] at hD
  refine ⟨⟨l, ddb, crc, hH, hmeth, hdb, hp, hlen, hD, hm, hraw⟩, hb, ?_⟩
  rw [hm]
  exact member_end hH hD r

theorem hashMember_of_hashedAt {c : Codec} {r : Rd} {f : File} {h : Hashed} (hf : Fresh f) (H : HashedAt c r.z f h)
    (h63 : r.z.length < 2 ^ 63) (hp : r.before f.offset) :
    hashMember c r f = .ok (h, r.to (f.offset + h.m.total)) := by
  obtain ⟨l, ddb, crc, hH, hmeth, hdb, hco, hlen, hD, hm, hraw⟩ := H
  obtain ⟨_, _, e3, e4, _⟩ := hH.lens
  refine hashMember_ok.2 ⟨l, _, _, _, ddb, crc, (readLocalHeader_iff hf.1 h63).2 ⟨hH, hp, rfl⟩, hmeth,
    (Rd.readFullAt_to_iff h63).2 ⟨rfl, hdb, rfl⟩, hco, hlen,
    (readDataDesc_iff hf.2 (by simpa using h63)).2 ⟨by simpa using hD, fun _ => Rd.before_to _ ?_, ?_⟩, hm, hraw⟩
  · show _ ≤ f.offset + (30 + l.name.length + l.extra.length) + f.csize
    omega
  · rw [hm]
    exact (member_end hH hD r).symm

theorem HashedAt.getTotalSize {c : Codec} {z : Bytes} {f : File} {h : Hashed} (hf : Fresh f) (H : HashedAt c z f h)
    (h63 : z.length < 2 ^ 63) : getTotalSize (RA z) f = .ok (h.m, RA z) := by
  obtain ⟨l, ddb, crc, hH, _, _, _, _, hD, hm, _⟩ := H
  exact getTotalSize_ok_iff.2 ⟨l, _, ddb, crc, (readLocalHeader_iff hf.1 h63).2 ⟨hH, nofun, rfl⟩,
    (readDataDesc_iff hf.2 h63).2 ⟨hD, fun _ => nofun, by split <;> rfl⟩, hm⟩

theorem HashedAt.partContent {c : Codec} {z : Bytes} {f : File} {h : Hashed} (hf : Fresh f) (H : HashedAt c z f h)
    (h63 : z.length < 2 ^ 63) {fs : List File} {name : Bytes} (hlast : (fs.filter fun g => g.name == name).getLast? = some f) :
    partContent c z fs name = some (.ok h.plain) := by
  obtain ⟨l, ddb, crc, hH, hmeth, _, hco, hlen, _⟩ := H
  have h1 : readLocalHeader ⟨z, false, 0⟩ f = .ok (l, _) := (readLocalHeader_iff (r := RA z) hf.1 h63).2 ⟨hH, nofun, rfl⟩
  simp only [Appx.partContent, hlast, h1, hmeth, hco, hlen, ne_eq, not_true_eq_false, if_false]

theorem filter_self (f : File) : ([f].filter fun g => g.name == f.name).getLast? = some f := by
  simp [List.filter]

theorem HashedAt.congr {c : Codec} {z z' : Bytes} {f : File} {h : Hashed} {P : Nat} (H : HashedAt c z f h)
    (hp : z'.take P = z.take P) (hle : f.offset + h.m.total ≤ P) (hP : P ≤ z'.length) : HashedAt c z' f h := by
  obtain ⟨l, ddb, crc, hH, hmeth, hdb, hco, hlen, hD, hm, hraw⟩ := H
  obtain ⟨_, _, e3, e4, _⟩ := hH.lens
  rw [hm] at hle
  simp only [] at hle
  have hs : (z'.drop (f.offset + 30 + l.nameLen + l.extraLen)).take f.csize =
      (z.drop (f.offset + 30 + l.nameLen + l.extraLen)).take f.csize := seg_eq_of_take hp _ _ (by omega)
  exact ⟨l, ddb, crc, hH.congr hp (by omega) hP, hmeth, fun _ => by omega, by rw [hs]; exact hco, hlen,
    hD.congr hp (by show f.offset + (30 + l.name.length + l.extra.length) + f.csize + ddb.length ≤ P; omega) hP, hm,
    by rw [hs]; exact hraw⟩

/-- what is written to AXPC for a member is the member's extent, which lies inside the file -/
theorem HashedAt.extent {c : Codec} {z : Bytes} {f : File} {h : Hashed} (H : HashedAt c z f h) :
    h.raw = (z.drop f.offset).take h.m.total ∧ f.offset + h.m.total ≤ z.length := by
  obtain ⟨l, ddb, crc, hH, _, hdb, _, _, hD, hm, hraw⟩ := H
  obtain ⟨_, _, e3, e4, _⟩ := hH.lens
  have hbound := hH.1
  obtain ⟨d1, d2⟩ := descAt_bytes hD
  rw [hm, hraw]
  simp only []
  constructor
  · generalize ddb.length = D at d1 ⊢
    have e1 : f.offset + 30 + l.nameLen + l.extraLen = f.offset + (30 + l.nameLen + l.extraLen) := by omega
    have e2 : descPos f l = f.offset + (30 + l.nameLen + l.extraLen + f.csize) := by
      show f.offset + (30 + l.name.length + l.extra.length) + f.csize = _
      omega
    have e5 : 30 + (l.name.length + l.extra.length + D) + f.csize = 30 + l.nameLen + l.extraLen + f.csize + D := by omega
    rw [hdrAt_bytes hH, d1, e1, e2, e5, take_drop_append, take_drop_append]
  · obtain ⟨_, _, _⟩ := hH.lens
    rcases d2 with rfl | d2
    · by_cases hc : f.csize = 0
      · rw [← hH.lens.1, ← hH.lens.2.1] at hbound
        simp only [List.length_nil]
        omega
      · have := hdb hc
        simp only [List.length_nil]
        omega
    · show f.offset + (30 + (l.name.length + l.extra.length + ddb.length) + f.csize) ≤ _
      have : descPos f l = f.offset + (30 + l.name.length + l.extra.length) + f.csize := rfl
      omega

theorem HashedAt.entry {c : Codec} {z : Bytes} {f : File} {h : Hashed} (H : HashedAt c z f h) :
    h.m.file = { f with crc := h.m.file.crc, lfh := some h.m.lfh, ddb := h.m.file.ddb } ∧ h.plain.length = f.usize := by
  obtain ⟨l, ddb, crc, _, _, _, _, hlen, _, hm, _⟩ := H
  rw [hm]
  exact ⟨rfl, hlen⟩

/-- what one reader found at an entry, every reader that may go there finds, over bytes that agree up to `P` -/
theorem hashMember_transfer {c : Codec} {r r' r2 : Rd} {f : File} {h : Hashed} {P : Nat} (hf : Fresh f)
    (hh : hashMember c r f = .ok (h, r')) (hp : r2.z.take P = r.z.take P) (hin : f.offset + h.m.total ≤ P)
    (hle : P ≤ r2.z.length) (h63 : r2.z.length < 2 ^ 63) (hb : r2.before f.offset) :
    hashMember c r2 f = .ok (h, r2.to (f.offset + h.m.total)) :=
  hashMember_of_hashedAt hf ((hashedAt_of_hashMember hf hh).1.congr hp hin hle) h63 hb

theorem payloadPass_nil {c : Codec} {r r' : Rd} {s s' : PState} : payloadPass c r [] s = .ok (s', r') ↔ s' = s ∧ r' = r := by
  rw [payloadPass]
  constructor
  · intro h
    cases h
    exact ⟨rfl, rfl⟩
  · rintro ⟨rfl, rfl⟩
    rfl

theorem payloadPass_cons {c : Codec} {r r' : Rd} {f : File} {fs : List File} {s s' : PState} :
    payloadPass c r (f :: fs) s = .ok (s', r') ↔
      ∃ h r1, hashMember c r f = .ok (h, r1) ∧ (isPE f.name && !c.peOk h.plain) = false ∧ f.offset = s.pos ∧
        payloadPass c r1 fs (s.step c f h) = .ok (s', r') := by
  rw [payloadPass]
  cases hashMember c r f with
  | ok p =>
    simp only [Res.errGuard_eq_ok, Res.ok.injEq, Bool.not_eq_true, Decidable.not_not]
    exact ⟨fun ⟨a, b, x⟩ => ⟨p.1, p.2, rfl, a, b, x⟩, fun ⟨_, _, e, a, b, x⟩ => by cases e; exact ⟨a, b, x⟩⟩
  | err x => exact ⟨nofun, fun ⟨_, _, e, _⟩ => nomatch e⟩
  | panic x => exact ⟨nofun, fun ⟨_, _, e, _⟩ => nomatch e⟩
  | diverge => exact ⟨nofun, fun ⟨_, _, e, _⟩ => nomatch e⟩

theorem payloadPass_pos_le {c : Codec} : ∀ (fs : List File) (r r' : Rd) (s s' : PState),
    payloadPass c r fs s = .ok (s', r') → s.pos ≤ s'.pos
  | [], _, _, _, _, h => by
    rw [(payloadPass_nil.1 h).1]
    exact Nat.le_refl _
  | f :: fs, r, r', s, s', h => by
    obtain ⟨hd, r1, _, _, _, h⟩ := payloadPass_cons.1 h
    have := payloadPass_pos_le fs _ _ _ _ h
    simp only [PState.step] at this
    omega

theorem addFile_same (d : Directory) (f : File) (t : Nat) (h : f.offset = d.dirLoc) :
    addFile d f t = { d with dirLoc := d.dirLoc + t, files := d.files ++ [f] } := by
  unfold addFile
  simp [h]
  cases f
  simp_all

structure PInv (z : Bytes) (s : PState) : Prop where
  axpc : s.axpc = z.take s.pos
  loc : s.outz.dirLoc = s.pos
  files : s.outz.files = s.members.map (·.file)
  le : s.pos ≤ z.length

theorem PInv.init (z : Bytes) : PInv z {} :=
  ⟨by simp, rfl, rfl, by simp⟩

theorem payloadPass_spec {c : Codec} {z : Bytes} : ∀ (fs : List File) (r r' : Rd) (s s' : PState),
    r.z = z → (∀ f ∈ fs, Fresh f) → PInv z s → payloadPass c r fs s = .ok (s', r') →
    PInv z s' ∧
    ∃ ms, s'.members = s.members ++ ms ∧ contigMs s.pos ms s'.pos ∧
      ∀ m ∈ ms, ∃ f ∈ fs, m.file = { f with crc := m.file.crc, lfh := some m.lfh, ddb := m.file.ddb }
  | [], r, r', s, s', hz, _, hi, h => by
    obtain ⟨rfl, rfl⟩ := payloadPass_nil.1 h
    exact ⟨hi, [], by simp, rfl, nofun⟩
  | f :: fs, r, r', s, s', hz, hfr, hi, h => by
    obtain ⟨hd, r1, h1, _, hoff, h⟩ := payloadPass_cons.1 h
    obtain ⟨H, _, rfl⟩ := hashedAt_of_hashMember (hfr f (by simp)) h1
    rw [hz] at H
    obtain ⟨a1, a6⟩ := H.extent
    obtain ⟨a4, _⟩ := H.entry
    have hmo : hd.m.file.offset = s.outz.dirLoc := by rw [a4, hi.loc]; exact hoff
    have hout : (s.step c f hd).outz = { s.outz with dirLoc := s.outz.dirLoc + hd.m.total, files := s.outz.files ++ [hd.m.file] } :=
      addFile_same _ _ _ hmo
    have hi' : PInv z (s.step c f hd) := by
      refine ⟨?_, by rw [hout]; simp only [PState.step]; rw [hi.loc], by rw [hout]; simp [PState.step, hi.files], ?_⟩
      · simp only [PState.step]
        rw [hi.axpc, a1, hoff, ← List.take_add]
      · simp only [PState.step]
        rw [← hoff]
        exact a6
    obtain ⟨b1, ms, b5, b6, b7⟩ := payloadPass_spec fs _ r' (s.step c f hd) s' (by rw [Rd.to_z, hz])
      (fun g hg => hfr g (by simp [hg])) hi' h
    refine ⟨b1, hd.m :: ms, by rw [b5]; simp [PState.step],
      ⟨by rw [a4]; exact hoff, b6⟩, ?_⟩
    intro m hm
    rcases List.mem_cons.1 hm with rfl | hm
    · exact ⟨f, by simp, a4⟩
    · obtain ⟨g, hg, e⟩ := b7 m hm
      exact ⟨g, by simp [hg], e⟩

/-- a round of the second loop of `DigestAppxTar` that does not end it: what the part `name` with contents `plain` does to
    the state -/
inductive TailStep (c : Codec) (name plain : Bytes) (t : TState) : TState → Prop
  | manifest : name = sManifest → c.manifestOk plain = true → TailStep c name plain t { t with manifest := true }
  | blockMap {old : List (Bytes × List Nat)} {bm : List BmFile} : name = sBlockMap → c.blockMap plain = some old →
      copySizes 0 t.bm old = .ok bm → TailStep c name plain t { t with bm := bm, unverified := false }
  | ctypes : name = sCTypes → c.ctypesOk plain = true → TailStep c name plain t t
  | other : name = sCatalog ∨ name = sSignature → TailStep c name plain t t

theorem tailPass_nil {c : Codec} {r : Rd} {t t' : TState} : tailPass c r [] t = .ok t' ↔ t' = t := by
  rw [tailPass]
  exact ⟨fun h => by cases h; rfl, fun h => by rw [h]⟩

theorem tailPass_cons {c : Codec} {r : Rd} {f : File} {fs : List File} {t t' : TState} :
    tailPass c r (f :: fs) t = .ok t' ↔
      ∃ h r1 t1, hashMember c r f = .ok (h, r1) ∧ TailStep c f.name h.plain t t1 ∧ tailPass c r1 fs t1 = .ok t' := by
  rw [tailPass]
  cases hashMember c r f with
  | ok p =>
    obtain ⟨h, r1⟩ := p
    simp only []
    constructor
    · intro x
      simp only [Relic.ite_eq_iff, reduceCtorEq, and_false, or_false, false_or] at x
      rcases x with ⟨n1, hm, x⟩ | ⟨_, _, ⟨n3, x⟩ | ⟨_, ⟨n4, hm, x⟩ | ⟨_, n5, x⟩⟩⟩
      · exact ⟨h, r1, _, rfl, .manifest (eq_of_beq n1) hm, x⟩
      · cases ho : c.blockMap h.plain with
        | none => rw [ho] at x; cases x
        | some old =>
          rw [ho] at x
          simp only [] at x
          cases hb : copySizes 0 t.bm old with
          | ok bm =>
            rw [hb] at x
            exact ⟨h, r1, _, rfl, .blockMap (eq_of_beq n3) ho hb, x⟩
          | err e => rw [hb] at x; cases x
          | panic e => rw [hb] at x; cases x
          | diverge => rw [hb] at x; cases x
      · exact ⟨h, r1, _, rfl, .ctypes (eq_of_beq n4) hm, x⟩
      · exact ⟨h, r1, _, rfl, .other (by simpa using n5), x⟩
    · rintro ⟨_, _, t1, e, st, x⟩
      cases e
      cases st with
      | manifest hn hm => rw [hn, if_pos (beq_self_eq_true _), if_pos hm]; exact x
      | blockMap hn ho hb =>
        rw [hn, if_neg (by decide), if_neg (by decide), if_pos (beq_self_eq_true _), ho]
        simp only []
        rw [hb]
        exact x
      | ctypes hn hm =>
        rw [hn, if_neg (by decide), if_neg (by decide), if_neg (by decide), if_pos (beq_self_eq_true _), if_pos hm]
        exact x
      | other hn =>
        rcases hn with hn | hn
        · rw [hn, if_neg (by decide), if_neg (by decide), if_neg (by decide), if_neg (by decide), if_pos (by decide)]
          exact x
        · rw [hn, if_neg (by decide), if_neg (by decide), if_neg (by decide), if_neg (by decide), if_pos (by decide)]
          exact x
  | err x => exact ⟨nofun, fun ⟨_, _, _, e, _⟩ => nomatch e⟩
  | panic x => exact ⟨nofun, fun ⟨_, _, _, e, _⟩ => nomatch e⟩
  | diverge => exact ⟨nofun, fun ⟨_, _, _, e, _⟩ => nomatch e⟩

/-- one successful `DigestAppxTar` taken apart: the directory `d` it read, the reader `r1` after the payload loop, the state `t`
    after the second loop -/
structure DigestRun (c : Codec) (z : Bytes) (g : Digested) (d : Directory) (r1 : Rd) (t : TState) : Prop where
  read : ∃ loc, readWithDirectory z.length (z.drop loc) = .ok d
  pass : payloadPass c ⟨z, true, 0⟩ (payloadOf d.files) {} = .ok (g.p, r1)
  patch : g.patchStart = g.p.pos
  pass2 : tailPass c r1 (tailOf d.files) { bm := g.p.bm, unverified := g.p.unverified } = .ok t
  manifest : t.manifest = true
  bm : g.bm = t.bm

theorem digest_inv {c : Codec} {z : Bytes} {g : Digested} (h : digest c z = .ok g) :
    ∃ d r1 t, DigestRun c z g d r1 t := by
  revert h
  fun_cases digest c z
  case case2 loc _ _ d hd =>
    fun_cases digestDir c z d
    case case4 p r1 hp f0 tl htl hoff t ht hm =>
      intro h
      injection h with h
      subst h
      exact ⟨d, r1, t, ⟨loc, hd⟩, hp, Decidable.of_not_not hoff, htl ▸ ht, by simpa using hm, rfl⟩
    all_goals nofun
  all_goals nofun

theorem mem_payloadOf {fs : List File} {f : File} (h : f ∈ payloadOf fs) : f ∈ fs :=
  (List.takeWhile_sublist _).subset h

theorem mem_payloadOf_special {fs : List File} {f : File} (h : f ∈ payloadOf fs) : special f.name = false := by
  have := List.all_eq_true.1 List.all_takeWhile _ h
  simpa using this

theorem special_false {n : Bytes} (h : special n = false) :
    (n == sManifest) = false ∧ (n == sBlockMap) = false ∧ (n == sCTypes) = false ∧ (n == sCatalog) = false ∧
    (n == sSignature) = false ∧ (n == sBundle) = false := by
  unfold special at h
  simp only [Bool.or_eq_false_iff] at h
  obtain ⟨⟨⟨⟨⟨a, b⟩, c⟩, d⟩, e⟩, f⟩ := h
  exact ⟨a, b, c, d, e, f⟩

theorem chunks_eq (n : Nat) (b : Bytes) (h : b.length ≤ n) : chunks n b = Merkle.chunks blockSize b :=
  Merkle.chunks_of_fuel blockSize (by decide) chunks (fun _ => rfl) (fun k b => by cases b <;> simp [chunks]) n b h

theorem chunks_flatten (n : Nat) (b : Bytes) (h : b.length ≤ n) : (chunks n b).flatten = b := by
  rw [chunks_eq n b h, Merkle.chunks_flatten _ b (by decide)]

theorem blocksOf_fst (p : Bytes) : (blocksOf p).map (·.1) = chunks p.length p := by
  unfold blocksOf
  simp only [List.map_map]
  have : ((fun x : Bytes × Nat => x.1) ∘ fun c : Bytes => (c, 0)) = id := by funext c; rfl
  rw [this, List.map_id]

theorem blocksOf_flatten (p : Bytes) : ((blocksOf p).map (·.1)).flatten = p := by
  rw [blocksOf_fst]
  exact chunks_flatten _ _ (Nat.le_refl _)

theorem chunks_length (n : Nat) (b : Bytes) (h : b.length ≤ n) : (chunks n b).length = (b.length + blockSize - 1) / blockSize := by
  rw [chunks_eq n b h, Merkle.chunks_length _ b (by decide)]

/-- what `verifyBlockMap` looks at -/
def bmView (b : BmFile) : Bytes × Nat × List Bytes := (b.name, b.size, b.blocks.map (·.1))

theorem setSizes_fst : ∀ (bs : List (Bytes × Nat)) (ns : List Nat) (bs' : List (Bytes × Nat)),
    setSizes bs ns = some bs' → bs'.map (·.1) = bs.map (·.1)
  | bs, [], bs', h => by simp [setSizes] at h; rw [h]
  | [], _ :: _, _, h => by simp [setSizes] at h
  | (s, _) :: bs, n :: ns, bs', h => by
    simp only [setSizes, Option.map_eq_some_iff] at h
    obtain ⟨t, ht, rfl⟩ := h
    simp [setSizes_fst bs ns t ht]

theorem copySizes_view (old : List (Bytes × List Nat)) (i : Nat) (bm bm' : List BmFile)
    (h : copySizes i bm old = .ok bm') : bm'.map bmView = bm.map bmView := by
  revert h
  fun_induction copySizes i bm old
  case case1 =>
    intro h
    cases h
    rfl
  case case2 ih => exact ih
  case case6 i bm _ _ _ _ _ nf hnf _ bs hbs ih =>
    intro h
    rw [ih h]
    exact map_set_same bmView bm i nf _ hnf (by simp only [bmView, setSizes_fst _ _ _ hbs])
  all_goals nofun

theorem setSizes_total : ∀ (bs : List (Bytes × Nat)) (ns : List Nat), ns.length ≤ bs.length → ∃ t, setSizes bs ns = some t
  | bs, [], _ => ⟨bs, by simp [setSizes]⟩
  | [], _ :: _, h => by simp at h
  | (s, _) :: bs, n :: ns, h => by
    obtain ⟨t, ht⟩ := setSizes_total bs ns (by simp at h; omega)
    exact ⟨(s, n) :: t, by simp [setSizes, ht]⟩

/-- `CopySizes` succeeds when every old `File` element is the manifest's / the bundle manifest's, or names the new element at
    its index and has no more blocks than that one -/
theorem copySizes_total : ∀ (old : List (Bytes × List Nat)) (i : Nat) (bm : List BmFile),
    (∀ j name sizes, old[j]? = some (name, sizes) → (dosToZip name == sManifest || dosToZip name == sBundle) = true ∨
      ∃ nf, bm[i + j]? = some nf ∧ nf.name = name ∧ sizes.length ≤ nf.blocks.length) →
    ∃ bm', copySizes i bm old = .ok bm'
  | [], i, bm, _ => ⟨bm, by simp [copySizes]⟩
  | (name, sizes) :: rest, i, bm, h => by
    unfold copySizes
    simp only []
    -- the hypothesis is indexed from `i`, and a round changes the table at `i` only: it carries over to `i + 1`
    have hrest : ∀ (bm2 : List BmFile), (∀ k, k ≠ i → bm2[k]? = bm[k]?) →
        ∀ j nm sz, rest[j]? = some (nm, sz) → (dosToZip nm == sManifest || dosToZip nm == sBundle) = true ∨
          ∃ nf, bm2[i + 1 + j]? = some nf ∧ nf.name = nm ∧ sz.length ≤ nf.blocks.length := by
      intro bm2 hbm2 j nm sz hj
      have := h (j + 1) nm sz (by simpa using hj)
      rcases this with hsk | ⟨nf, h1, h2, h3⟩
      · exact Or.inl hsk
      · refine Or.inr ⟨nf, ?_, h2, h3⟩
        rw [hbm2 _ (by omega)]
        have e : i + 1 + j = i + (j + 1) := by omega
        rw [e]; exact h1
    by_cases hsk : (dosToZip name == sManifest || dosToZip name == sBundle) = true
    · rw [if_pos hsk]
      exact copySizes_total rest (i + 1) bm (hrest bm (fun _ _ => rfl))
    · rw [if_neg hsk]
      have h0 := h 0 name sizes (by simp)
      simp only [Nat.add_zero] at h0
      rcases h0 with h0 | ⟨nf, h1, h2, h3⟩
      · exact absurd h0 hsk
      · rw [h1]
        simp only []
        rw [if_neg (by rw [h2]; simp)]
        obtain ⟨t, ht⟩ := setSizes_total nf.blocks sizes h3
        rw [ht]
        simp only []
        exact copySizes_total rest (i + 1) _ (hrest _ (fun k hk => by rw [List.getElem?_set_ne (by omega)]))

/-- every block map that looks like `pbm` (names, sizes, blocks) takes the `Size` attributes of `old` -/
def CopyOk (pbm : List BmFile) (old : List (Bytes × List Nat)) : Prop :=
  ∀ bm : List BmFile, bm.map bmView = pbm.map bmView → ∃ bm', copySizes 0 bm old = .ok bm'

/-- the block map `Sign` marshalled (the payload's entries with the `Size` attributes it ended up with, then the
    manifest's) is accepted by `CopySizes` against the freshly computed payload entries -/
theorem copyOk_own (pbm gbm : List BmFile) (mf : BmFile) (hv : gbm.map bmView = pbm.map bmView)
    (hmf : (dosToZip mf.name == sManifest || dosToZip mf.name == sBundle) = true) :
    CopyOk pbm ((gbm ++ [mf]).map fun f => (f.name, f.blocks.map (·.2))) := by
  intro bm hbm
  apply copySizes_total
  intro j name sizes hj
  rw [List.getElem?_map] at hj
  obtain ⟨b, hb, hφ⟩ := Option.map_eq_some_iff.mp hj
  simp only [Prod.mk.injEq] at hφ
  obtain ⟨hname, hsizes⟩ := hφ
  by_cases hlt : j < gbm.length
  · right
    rw [List.getElem?_append_left hlt] at hb
    have hvj : (bm.map bmView)[j]? = (gbm.map bmView)[j]? := by rw [hbm, hv]
    rw [List.getElem?_map, List.getElem?_map, hb] at hvj
    obtain ⟨nf, hnf, hview⟩ := Option.map_eq_some_iff.mp hvj
    refine ⟨nf, by rw [Nat.zero_add]; exact hnf, ?_, ?_⟩
    · rw [← hname]; exact congrArg (·.1) hview
    · have h3 : nf.blocks.map (·.1) = b.blocks.map (·.1) := congrArg (·.2.2) hview
      have h4 : nf.blocks.length = b.blocks.length := by simpa using congrArg List.length h3
      rw [← hsizes, h4]; simp
  · left
    rw [List.getElem?_append_right (by omega)] at hb
    have : b = mf := by
      cases hk : j - gbm.length with
      | zero => rw [hk] at hb; simpa using hb.symm
      | succ k => rw [hk] at hb; simp at hb
    rw [← hname, this]
    exact hmf

theorem tailPass_view {c : Codec} : ∀ (fs : List File) (r : Rd) (t t' : TState),
    tailPass c r fs t = .ok t' → t'.bm.map bmView = t.bm.map bmView
  | [], _, _, _, h => by rw [tailPass_nil.1 h]
  | f :: fs, r, t, t', h => by
    obtain ⟨hd, r1, t1, _, st, h⟩ := tailPass_cons.1 h
    rw [tailPass_view fs r1 t1 t' h]
    cases st with
    | manifest => rfl
    | blockMap _ _ hb => exact copySizes_view _ _ _ _ hb
    | ctypes => rfl
    | other => rfl

theorem tailPass_no_manifest {c : Codec} (hc : ∀ x, c.manifestOk x = false) : ∀ (fs : List File) (r : Rd) (t t' : TState),
    tailPass c r fs t = .ok t' → t'.manifest = t.manifest
  | [], _, _, _, h => by rw [tailPass_nil.1 h]
  | f :: fs, r, t, t', h => by
    obtain ⟨hd, r1, t1, _, st, h⟩ := tailPass_cons.1 h
    rw [tailPass_no_manifest hc fs r1 t1 t' h]
    cases st with
    | manifest _ hm =>
      rw [hc] at hm
      cases hm
    | blockMap => rfl
    | ctypes => rfl
    | other => rfl

end Relic.Appx
