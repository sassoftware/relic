/-
  Agreement of relic's canonical form with Exclusive C14N (`Relic.Spec.ExcC14N`) on the class of trees without
  deviation trigger.  The invariant `Inv` ties relic's pending declarations to the specification's two contexts (in
  scope, rendered by the output ancestors); at one element the one case split is on a prefix newly bound there
  (`Fresh`: declared on the element, or pending and not redeclared): relic keeps or creates its declaration exactly where
  the specification renders it, so the sorted attribute lists are equal and the invariant holds for the children.
-/
import Relic.Spec.ExcC14N
import Relic.Proofs.XmlEnv
namespace Relic.Xml
open Relic.ExcC14N

theorem sortBy_insertSort {α} (lt : α → α → Bool) : InsertSort (fun a b => !lt a b) (insBy lt) (sortBy lt) := by
  refine ⟨⟨fun _ => rfl, fun a b bs => ?_⟩, rfl, fun _ _ => rfl⟩
  rw [insBy]
  cases lt a b <;> rfl

theorem sortBy_perm {α} (lt : α → α → Bool) (l : List α) : (sortBy lt l).Perm l := (sortBy_insertSort lt).sort_perm l

theorem sortBy_bsorted (l : List Bytes) (hn : l.Nodup) : (sortBy bytesLt l).Pairwise (fun a b => bytesLt a b = true) := by
  refine (sortBy_insertSort bytesLt).sort_pairwise (C := fun a b => a ≠ b) bytesLt_trans ?_ l hn
  intro a b hab
  by_cases h : bytesLt a b = true
  · rw [if_neg (by simp [h])]
    exact h
  · rw [if_pos (by simp [h])]
    exact (bytesLt_total a b hab).resolve_left h

theorem mem_dedup (a : Bytes) (l : List Bytes) : a ∈ dedup l ↔ a ∈ l := by
  induction l with
  | nil => simp [dedup]
  | cons b bs ih =>
    simp only [dedup]
    split
    · rename_i h
      have hb : b ∈ bs := by simpa using h
      rw [ih, List.mem_cons]
      constructor
      · exact Or.inr
      · rintro (e | e)
        · rw [e]; exact hb
        · exact e
    · rw [List.mem_cons, List.mem_cons, ih]

theorem dedup_nodup (l : List Bytes) : (dedup l).Nodup := by
  induction l with
  | nil => simp [dedup]
  | cons b bs ih =>
    simp only [dedup]
    split
    · exact ih
    · rename_i h
      rw [List.nodup_cons]
      refine ⟨?_, ih⟩
      rw [mem_dedup]
      simpa using h

theorem lookup_cons_ne (m : NsMap) (q v p : Bytes) (h : q ≠ p) : lookup ((q, v) :: m) p = lookup m p := by
  simp [lookup, h]

theorem lookup_cons_eq (m : NsMap) (p v : Bytes) : lookup ((p, v) :: m) p = some v := by
  simp [lookup]

theorem bindDecls_cons (m : NsMap) (a : Attr) (as : List Attr) :
    bindDecls m (a :: as) = bindDecls (match getDecl a with | some p => (p, a.value) :: m | none => m) as := rfl

theorem lookup_bind_none (p : Bytes) : ∀ (attrs : List Attr) (m : NsMap), (∀ a ∈ attrs, getDecl a ≠ some p) →
    lookup (bindDecls m attrs) p = lookup m p := by
  intro attrs
  induction attrs with
  | nil => intro m _; rfl
  | cons a as ih =>
    intro m h
    rw [bindDecls_cons, ih _ (fun b hb => h b (List.mem_cons_of_mem _ hb))]
    have ha := h a List.mem_cons_self
    cases hg : getDecl a with
    | none => rfl
    | some q =>
      simp only
      exact lookup_cons_ne m q a.value p (fun e => ha (by rw [hg, e]))

theorem lookup_bind_some (p v : Bytes) : ∀ (attrs : List Attr) (m : NsMap),
    (∀ b ∈ attrs, getDecl b = some p → b.value = v) → (∃ b ∈ attrs, getDecl b = some p) →
    lookup (bindDecls m attrs) p = some v := by
  intro attrs
  induction attrs with
  | nil => intro m _ h; obtain ⟨b, hb, _⟩ := h; cases hb
  | cons a as ih =>
    intro m hv hex
    rw [bindDecls_cons]
    by_cases hr : ∃ b ∈ as, getDecl b = some p
    · exact ih _ (fun b hb => hv b (List.mem_cons_of_mem _ hb)) hr
    · have hr' : ∀ b ∈ as, getDecl b ≠ some p := fun b hb e => hr ⟨b, hb, e⟩
      rw [lookup_bind_none p as _ hr']
      obtain ⟨b, hb, hg⟩ := hex
      rcases List.mem_cons.mp hb with e | e
      · subst e
        rw [hg]
        simp only
        rw [hv b List.mem_cons_self hg]
        exact lookup_cons_eq m p v
      · exact absurd hg (hr' b e)

theorem decl_unique (l : List Attr) (hl : AttrsOK l) (a b : Attr) (ha : a ∈ l) (hb : b ∈ l) (p : Bytes)
    (hga : getDecl a = some p) (hgb : getDecl b = some p) : a = b := by
  apply namesNodup_unique l hl.1 a ha b hb
  have n1 := getDecl_name a p hga (hl.2 a ha)
  have n2 := getDecl_name b p hgb (hl.2 b hb)
  exact ⟨n1.1.trans n2.1.symm, n1.2.trans n2.2.symm⟩

theorem lookup_bind_own (l : List Attr) (hl : AttrsOK l) (m : NsMap) (a : Attr) (ha : a ∈ l) (p : Bytes)
    (hg : getDecl a = some p) : lookup (bindDecls m l) p = some a.value := by
  apply lookup_bind_some p a.value l m
  · intro b hb hgb
    rw [decl_unique l hl b a hb ha p hgb hg]
  · exact ⟨a, ha, hg⟩

/-- the test of `renderNs`: is a declaration of the utilised prefix `p` rendered -/
def emitP (inScope rendered : NsMap) (p : Bytes) : Bool :=
  if p = [] then decide ((lookup inScope p).getD [] ≠ (lookup rendered p).getD [])
  else decide (lookup rendered p ≠ some ((lookup inScope p).getD []))

theorem renderNs_cons (inScope rendered : NsMap) (p : Bytes) (ps : List Bytes) :
    renderNs inScope rendered (p :: ps) =
      if emitP inScope rendered p then
        ((renderNs inScope ((p, (lookup inScope p).getD []) :: rendered) ps).1,
          mkDecl p ((lookup inScope p).getD []) :: (renderNs inScope ((p, (lookup inScope p).getD []) :: rendered) ps).2)
      else renderNs inScope rendered ps := by
  simp only [renderNs, emitP, mkDecl]
  rfl

/-- The prefixes being distinct, the binding `renderNs` pushes onto `rendered` for one prefix does not change the test of any
    later one (`hcong`): the loop is a `filter`. -/
theorem renderNs_closed (inScope : NsMap) : ∀ (ps : List Bytes) (rendered : NsMap), ps.Nodup →
    (renderNs inScope rendered ps).2 =
      (ps.filter (emitP inScope rendered)).map (fun p => mkDecl p ((lookup inScope p).getD [])) ∧
    ∀ q, lookup (renderNs inScope rendered ps).1 q =
      if q ∈ ps ∧ emitP inScope rendered q = true then some ((lookup inScope q).getD []) else lookup rendered q := by
  intro ps
  induction ps with
  | nil => intro rendered _; simp [renderNs]
  | cons p ps ih =>
    intro rendered hn
    rw [List.nodup_cons] at hn
    rw [renderNs_cons]
    cases he : emitP inScope rendered p with
    | false =>
      simp only [Bool.false_eq_true, if_false]
      obtain ⟨i1, i2⟩ := ih rendered hn.2
      refine ⟨?_, ?_⟩
      · rw [i1, List.filter_cons, he]; simp
      · intro q
        rw [i2 q]
        by_cases hq : q = p
        · subst hq
          simp [hn.1, he]
        · simp [hq]
    | true =>
      simp only [if_true]
      obtain ⟨i1, i2⟩ := ih ((p, (lookup inScope p).getD []) :: rendered) hn.2
      have hcong : ∀ q ∈ ps, emitP inScope ((p, (lookup inScope p).getD []) :: rendered) q = emitP inScope rendered q := by
        intro q hq
        have hne : p ≠ q := fun e => hn.1 (e ▸ hq)
        unfold emitP
        rw [lookup_cons_ne _ _ _ _ hne]
      refine ⟨?_, ?_⟩
      · rw [i1, List.filter_congr hcong, List.filter_cons, he]; simp
      · intro q
        rw [i2 q]
        by_cases hq : q = p
        · subst hq
          simp [hn.1, he, lookup_cons_eq]
        · have hne : p ≠ q := fun e => hq e.symm
          rw [lookup_cons_ne _ _ _ _ hne]
          by_cases hm : q ∈ ps
          · simp [hm, hq, hcong q hm]
          · simp [hm, hq]

theorem mem_utilised (sp : Bytes) (attrs : List Attr) (p : Bytes) :
    p ∈ utilised sp attrs ↔ p ≠ sXml ∧ (p = sp ∨ ∃ a ∈ attrs, getDecl a = none ∧ a.space ≠ [] ∧ a.space = p) := by
  unfold utilised
  rw [(sortBy_perm bytesLt _).mem_iff, mem_dedup, List.mem_filter, List.mem_cons, List.mem_map]
  simp only [plainAttrs, isDecl, List.mem_filter, decide_eq_true_eq, Option.isSome_eq_false_iff,
    Option.isNone_iff_eq_none, ne_eq, Bool.not_eq_eq_eq_not, Bool.not_true]
  constructor
  · rintro ⟨h1, h2⟩
    refine ⟨h2, ?_⟩
    rcases h1 with h | ⟨a, ⟨⟨ha, hg⟩, hs⟩, rfl⟩
    · exact Or.inl h
    · exact Or.inr ⟨a, ha, hg, hs, rfl⟩
  · rintro ⟨h2, h1⟩
    refine ⟨?_, h2⟩
    rcases h1 with h | ⟨a, ha, hg, hs, rfl⟩
    · exact Or.inl h
    · exact Or.inr ⟨a, ⟨⟨ha, hg⟩, hs⟩, rfl⟩

theorem utilised_nodup (sp : Bytes) (attrs : List Attr) : (utilised sp attrs).Nodup := by
  unfold utilised
  rw [(sortBy_perm bytesLt _).nodup_iff]
  exact dedup_nodup _

theorem utilised_sorted (sp : Bytes) (attrs : List Attr) : (utilised sp attrs).Pairwise (fun a b => bytesLt a b = true) := by
  unfold utilised
  exact sortBy_bsorted _ (dedup_nodup _)

/-- namespace declarations of a namespace-well-formed element: non-empty value (`xmlns=""` is the listed deviation
    F16-empty-default, `xmlns:p=""` is forbidden by Namespaces in XML 1.0), and the prefix `xml` is not declared
    (legal, but a deviation: `canon_ne_excc14n_xml_decl`).  It subsumes the triggers `empty-default` and
    `ctx-empty-default` of `devs`, which the agreement proof therefore never consults. -/
def DeclsOK (l : List Attr) : Prop := ∀ a ∈ l, ∀ p, getDecl a = some p → a.value ≠ [] ∧ p ≠ sXml

/-- no attribute `xmlns:xmlns`, no attribute `p:xmlns` (the trigger `xmlns-name`) -/
def NoXmlnsName (l : List Attr) : Prop :=
  ∀ a ∈ l, ¬ ((a.space = sXmlns ∧ a.key = sXmlns) ∨ (a.space ≠ [] ∧ a.key = sXmlns))

mutual
def WF : Node → Prop
  | .elem _ _ as ks => AttrsOK as ∧ DeclsOK as ∧ WFL ks
  | _ => True
def WFL : List Node → Prop
  | [] => True
  | n :: ns => WF n ∧ WFL ns
end

/-- How relic's pending list `ds` relates to the two contexts Exclusive C14N carries: a pending declaration is in scope
    but not (with that value) rendered by an output ancestor (`pend`); for every other prefix the rendered context says
    what is in scope (`sync`).  So relic's "push a declaration down to where its prefix is used" is the specification's
    "render where visibly utilised, unless an output ancestor rendered the same". -/
structure Inv (ds : Env) (inScope rendered : NsMap) : Prop where
  ok : EnvOK ds
  noxml : ∀ e ∈ ds, e.1 ≠ sXml
  pend : ∀ e ∈ ds, lookup inScope e.1 = some e.2 ∧ e.2 ≠ [] ∧ lookup rendered e.1 ≠ some e.2
  sync : ∀ p, (∀ e ∈ ds, e.1 ≠ p) → lookup inScope p = lookup rendered p

/-- a trigger of the deviation classifier that did not fire: its test fails on every element of the list -/
theorem trigger_nil {α : Type} {l : List α} {f : α → Bool} {x : String} (h : (if l.any f then [x] else []) = []) :
    ∀ a ∈ l, f a = false := by
  intro a ha
  cases hf : f a with
  | false => rfl
  | true => rw [if_pos (List.any_eq_true.mpr ⟨a, ha, hf⟩)] at h; cases h

theorem elemDevs_nil (inScope' rendered : NsMap) (sp : Bytes) (attrs : List Attr)
    (h : elemDevs inScope' rendered sp attrs = []) :
    (∀ p ∈ utilised sp attrs, p ≠ [] → lookup inScope' p ≠ none) ∧
    sortBy (attrLt inScope') (plainAttrs attrs) = sortAttrs (plainAttrs attrs) ∧
    (∀ a ∈ attrs, ∀ p, getDecl a = some p → a.value ≠ [] → lookup rendered p ≠ some a.value) ∧
    NoXmlnsName attrs := by
  unfold elemDevs at h
  simp only [List.append_eq_nil_iff] at h
  obtain ⟨⟨⟨⟨h1, h2⟩, h3⟩, _⟩, h5⟩ := h
  refine ⟨?_, ?_, ?_, ?_⟩
  · intro p hp hne hnone
    -- the classifier's list of used prefixes is the list `utilised` is made from, without the empty prefix
    unfold utilised at hp
    rw [(sortBy_perm bytesLt _).mem_iff, mem_dedup, List.mem_filter] at hp
    have := trigger_nil h1 p (List.mem_filter.mpr ⟨hp.1, by simpa using ⟨by simpa using hp.2, hne⟩⟩)
    simp [hnone] at this
  · by_cases hc : sortBy (attrLt inScope') (plainAttrs attrs) ≠ sortAttrs (plainAttrs attrs)
    · rw [if_pos hc] at h2; cases h2
    · exact Classical.not_not.mp hc
  · intro a ha p hg hv heq
    have := trigger_nil h3 a ha
    rw [hg] at this
    simp [hv, heq] at this
  · intro a ha hbad
    have := trigger_nil h5 a ha
    simp [hbad] at this

theorem uses_iff_utilised (sp : Bytes) (attrs : List Attr) (p : Bytes) (h1 : p ≠ sXmlns) (h2 : p ≠ sXml) :
    usesSpace sp attrs p = true ↔ p ∈ utilised sp attrs := by
  rw [mem_utilised]
  unfold usesSpace
  by_cases hsp : sp = p
  · simp [hsp, h2]
  · rw [if_neg hsp]
    have hsp' : ¬ p = sp := fun e => hsp e.symm
    by_cases hp : p = []
    · subst hp
      rw [if_pos rfl]
      constructor
      · intro h; cases h
      · rintro ⟨_, h | ⟨a, _, _, hs, he⟩⟩
        · exact absurd h hsp'
        · exact absurd he hs
    · rw [if_neg hp, List.any_eq_true]
      constructor
      · rintro ⟨a, ha, hs⟩
        have hs' : a.space = p := by simpa using hs
        refine ⟨h2, Or.inr ⟨a, ha, ?_, by rw [hs']; exact hp, hs'⟩⟩
        cases hg : getDecl a with
        | none => rfl
        | some q =>
          rcases getDecl_space a q hg with e | e
          · exact absurd (hs'.symm.trans e) hp
          · exact absurd (hs'.symm.trans e) h1
      · rintro ⟨_, h | ⟨a, ha, _, _, hs⟩⟩
        · exact absurd h hsp'
        · exact ⟨a, ha, by simpa using hs⟩

/-- a hit is a declaration because no attribute is called `q:xmlns`; a declaration is hit under its own name -/
theorem select_iff {attrs : List Attr} (hx : NoXmlnsName attrs) (hk : ∀ a ∈ attrs, a.key ≠ []) (p : Bytes) :
    selectAttr (declName p) attrs = true ↔ ∃ a ∈ attrs, getDecl a = some p := by
  unfold selectAttr
  rw [List.any_eq_true]
  constructor
  · rintro ⟨a, ha, hm⟩
    have hm' : ((declName p).1 = [] ∨ (declName p).1 = a.space) ∧ (declName p).2 = a.key := by simpa using hm
    refine ⟨a, ha, ?_⟩
    unfold declName at hm'
    by_cases hp : p = []
    · rw [if_pos hp] at hm'
      simp only [true_or, true_and] at hm'
      by_cases hs : a.space = []
      · unfold getDecl; rw [if_pos ⟨hs, hm'.symm⟩, hp]
      · exact absurd (Or.inr ⟨hs, hm'.symm⟩) (hx a ha)
    · rw [if_neg hp] at hm'
      simp only at hm'
      rcases hm'.1 with e | e
      · exact absurd e sXmlns_ne_nil
      · unfold getDecl
        have : ¬ (a.space = [] ∧ a.key = sXmlns) := fun hh => sXmlns_ne_nil (e.trans hh.1)
        rw [if_neg this, if_pos e.symm, hm'.2]
  · rintro ⟨a, ha, hg⟩
    have nm := getDecl_name a p hg (hk a ha)
    exact ⟨a, ha, by simpa using ⟨Or.inr nm.1.symm, nm.2.symm⟩⟩

theorem select_false_iff {attrs : List Attr} (hx : NoXmlnsName attrs) (hk : ∀ a ∈ attrs, a.key ≠ []) (p : Bytes) :
    selectAttr (declName p) attrs = false ↔ ∀ a ∈ attrs, getDecl a ≠ some p := by
  rw [← Bool.not_eq_true, select_iff hx hk]
  exact ⟨fun h a ha hg => h ⟨a, ha, hg⟩, fun h ⟨a, ha, hg⟩ => h a ha hg⟩

theorem emitP_of_ne (inScope' rendered : NsMap) (p v : Bytes) (hl : lookup inScope' p = some v) (hv : v ≠ [])
    (hr : lookup rendered p ≠ some v) : emitP inScope' rendered p = true := by
  unfold emitP
  rw [hl]
  by_cases hp : p = []
  · rw [if_pos hp]
    cases hlr : lookup rendered p with
    | none => simpa using hv
    | some w =>
      rw [hlr] at hr
      have : ¬ v = w := fun e => hr (by rw [e])
      simpa using this
  · rw [if_neg hp]; simpa using hr

theorem emitP_of_sync (inScope' rendered : NsMap) (p : Bytes) (hs : lookup inScope' p = lookup rendered p)
    (hd : p ≠ [] → lookup inScope' p ≠ none) : emitP inScope' rendered p = false := by
  unfold emitP
  by_cases hp : p = []
  · rw [if_pos hp, hs]; simp
  · rw [if_neg hp]
    cases hl : lookup inScope' p with
    | none => exact absurd hl (hd hp)
    | some u => rw [← hs, hl]; simp

/-- What is known at one element: the invariant, namespace well-formedness of its attributes, and the triggers of `elemDevs`
    that did not fire (`und`: `undeclared`; `red`: `redundant-decl`; `nox`: `xmlns-name`). -/
structure ElemHyp (sp : Bytes) (attrs : List Attr) (ds : Env) (inScope rendered : NsMap) : Prop where
  inv : Inv ds inScope rendered
  aok : AttrsOK attrs
  dok : DeclsOK attrs
  und : ∀ p ∈ utilised sp attrs, p ≠ [] → lookup (bindDecls inScope attrs) p ≠ none
  red : ∀ a ∈ attrs, ∀ p, getDecl a = some p → a.value ≠ [] → lookup rendered p ≠ some a.value
  nox : NoXmlnsName attrs

section
variable {sp : Bytes} {attrs : List Attr} {ds : Env} {inScope rendered : NsMap}

/-- prefix `p` is newly bound to `v` at this element, as far as the output goes: declared by the element itself, or
    pending from an ancestor and not redeclared -/
def Fresh (attrs : List Attr) (ds : Env) (p v : Bytes) : Prop :=
  (∃ a ∈ attrs, getDecl a = some p ∧ a.value = v) ∨ ((∀ a ∈ attrs, getDecl a ≠ some p) ∧ (p, v) ∈ ds)

theorem fresh_or_none (attrs : List Attr) (ds : Env) (p : Bytes) :
    (∃ v, Fresh attrs ds p v) ∨ ((∀ a ∈ attrs, getDecl a ≠ some p) ∧ ∀ e ∈ ds, e.1 ≠ p) := by
  by_cases hown : ∃ a ∈ attrs, getDecl a = some p
  · obtain ⟨a, ha, hg⟩ := hown
    exact Or.inl ⟨a.value, Or.inl ⟨a, ha, hg, rfl⟩⟩
  · have hno : ∀ a ∈ attrs, getDecl a ≠ some p := fun a ha hg => hown ⟨a, ha, hg⟩
    by_cases hpend : ∃ e ∈ ds, e.1 = p
    · obtain ⟨e, he, rfl⟩ := hpend
      exact Or.inl ⟨e.2, Or.inr ⟨hno, he⟩⟩
    · exact Or.inr ⟨hno, fun e he h => hpend ⟨e, he, h⟩⟩

/-- what Exclusive C14N knows of a newly bound prefix: in scope with that value, which is not empty and not what the output
    ancestors rendered, so to be rendered where utilised; and the prefix is neither `xmlns` nor `xml` -/
structure Fresh.Facts (inScope' rendered : NsMap) (p v : Bytes) : Prop where
  bound : lookup inScope' p = some v
  emit : emitP inScope' rendered p = true
  ne : v ≠ []
  notRendered : lookup rendered p ≠ some v
  ne_xmlns : p ≠ sXmlns
  ne_xml : p ≠ sXml

theorem Fresh.facts (H : ElemHyp sp attrs ds inScope rendered) {p v : Bytes} (h : Fresh attrs ds p v) :
    Fresh.Facts (bindDecls inScope attrs) rendered p v := by
  rcases h with ⟨a, ha, hg, rfl⟩ | ⟨hno, he⟩
  · have hl := lookup_bind_own attrs H.aok inScope a ha p hg
    have hd := H.dok a ha p hg
    have hr := H.red a ha p hg hd.1
    exact ⟨hl, emitP_of_ne _ _ p a.value hl hd.1 hr, hd.1, hr,
      fun hx => H.nox a ha (Or.inl (getDecl_xmlns_name a (hx ▸ hg))), hd.2⟩
  · have hp := H.inv.pend _ he
    have hl : lookup (bindDecls inScope attrs) p = some v := by rw [lookup_bind_none p attrs inScope hno]; exact hp.1
    exact ⟨hl, emitP_of_ne _ _ p v hl hp.2.1 hp.2.2, hp.2.1, hp.2.2, H.inv.ok.2 _ he, H.inv.noxml _ he⟩

theorem none_facts (H : ElemHyp sp attrs ds inScope rendered) (p : Bytes)
    (hno : ∀ a ∈ attrs, getDecl a ≠ some p) (hnd : ∀ e ∈ ds, e.1 ≠ p) :
    lookup (bindDecls inScope attrs) p = lookup rendered p ∧
    (p ∈ utilised sp attrs → emitP (bindDecls inScope attrs) rendered p = false) := by
  have hs : lookup (bindDecls inScope attrs) p = lookup rendered p := by
    rw [lookup_bind_none p attrs inScope hno]; exact H.inv.sync p hnd
  exact ⟨hs, fun hu => emitP_of_sync _ _ p hs (H.und p hu)⟩

theorem usesSpace_created (p : Bytes) (hx : p ≠ sXmlns) :
    usesSpace sp (attrs ++ created sp attrs ds) p = usesSpace sp attrs p :=
  usesSpace_append_decls sp p attrs _ hx (created_space sp attrs ds)

/-- relic keeps or creates a declaration on the element exactly for the newly bound prefixes it uses -/
theorem keep_iff_fresh (H : ElemHyp sp attrs ds inScope rendered) (d : Attr) :
    (d ∈ keepAttrs sp (attrs ++ created sp attrs ds) ∧ isDecl d = true) ↔
      ∃ p v, Fresh attrs ds p v ∧ usesSpace sp attrs p = true ∧ d = mkDecl p v := by
  unfold keepAttrs
  rw [List.mem_filter, List.mem_append]
  constructor
  · rintro ⟨⟨hdA, hk⟩, hdecl⟩
    obtain ⟨p, hg⟩ := Option.isSome_iff_exists.mp hdecl
    simp only [keepP, hg] at hk
    rcases hdA with h | h
    · have hf : Fresh attrs ds p d.value := Or.inl ⟨d, h, hg, rfl⟩
      rw [usesSpace_created p (hf.facts H).ne_xmlns] at hk
      exact ⟨p, d.value, hf, hk, attr_eq_mkDecl d p hg (H.aok.2 d h)⟩
    · obtain ⟨e, he, hP, rfl⟩ := (mem_created d).mp h
      obtain ⟨hsel, huse⟩ := (takenHere_iff e).mp hP
      exact ⟨e.1, e.2, Or.inr ⟨(select_false_iff H.nox H.aok.2 e.1).mp hsel, he⟩, huse, rfl⟩
  · rintro ⟨p, v, hf, hu, rfl⟩
    have hx := (hf.facts H).ne_xmlns
    refine ⟨⟨?_, by simp only [keepP, getDecl_mkDecl, usesSpace_created p hx, hu]⟩, by simp [isDecl, getDecl_mkDecl]⟩
    rcases hf with ⟨a, ha, hg, rfl⟩ | ⟨hno, he⟩
    · exact Or.inl (attr_eq_mkDecl a p hg (H.aok.2 a ha) ▸ ha)
    · exact Or.inr ((mem_created _).mpr ⟨(p, v), he, (takenHere_iff _).mpr ⟨(select_false_iff H.nox H.aok.2 p).mpr hno, hu⟩, rfl⟩)

/-- … and hands down to the children exactly the newly bound prefixes it does not use -/
theorem kidsEnv_iff_fresh (H : ElemHyp sp attrs ds inScope rendered) (e : Bytes × Bytes) :
    e ∈ ds.filter (passedOn sp attrs) ++ dropped sp (attrs ++ created sp attrs ds) ↔
      Fresh attrs ds e.1 e.2 ∧ usesSpace sp attrs e.1 = false := by
  rw [List.mem_append, List.mem_filter]
  constructor
  · rintro (⟨hed, hQ⟩ | h)
    · obtain ⟨hsel, huse⟩ := (passedOn_iff e).mp hQ
      exact ⟨Or.inr ⟨(select_false_iff H.nox H.aok.2 e.1).mp hsel, hed⟩, huse⟩
    · obtain ⟨a, haA, hg, hu, hv⟩ := mem_dropped_iff.mp h
      rcases List.mem_append.mp haA with h | h
      · have hf : Fresh attrs ds e.1 e.2 := Or.inl ⟨a, h, hg, hv.symm⟩
        rw [usesSpace_created e.1 (hf.facts H).ne_xmlns] at hu
        exact ⟨hf, hu⟩
      · rw [usesSpace_of_created h hg] at hu
        cases hu
  · rintro ⟨hf, hu⟩
    have hx := (hf.facts H).ne_xmlns
    rcases hf with ⟨a, ha, hg, hv⟩ | ⟨hno, he⟩
    · exact Or.inr (mem_dropped_iff.mpr ⟨a, List.mem_append_left _ ha, hg, by rw [usesSpace_created e.1 hx]; exact hu, hv.symm⟩)
    · exact Or.inl ⟨he, (passedOn_iff e).mpr ⟨(select_false_iff H.nox H.aok.2 e.1).mpr hno, hu⟩⟩

/-- the declarations relic keeps or creates on the element are exactly those Exclusive C14N renders -/
theorem mem_decls_iff (H : ElemHyp sp attrs ds inScope rendered) (d : Attr) :
    (d ∈ keepAttrs sp (attrs ++ created sp attrs ds) ∧ isDecl d = true) ↔
      d ∈ (renderNs (bindDecls inScope attrs) rendered (utilised sp attrs)).2 := by
  rw [keep_iff_fresh H, (renderNs_closed (bindDecls inScope attrs) (utilised sp attrs) rendered (utilised_nodup sp attrs)).1,
    List.mem_map]
  constructor
  · rintro ⟨p, v, hf, hu, rfl⟩
    have F := hf.facts H
    exact ⟨p, List.mem_filter.mpr ⟨(uses_iff_utilised sp attrs p F.ne_xmlns F.ne_xml).mp hu, F.emit⟩, by rw [F.bound]; rfl⟩
  · rintro ⟨p, hp, rfl⟩
    obtain ⟨hu, hemit⟩ := List.mem_filter.mp hp
    rcases fresh_or_none attrs ds p with ⟨v, hf⟩ | ⟨hno, hnd⟩
    · have F := hf.facts H
      exact ⟨p, v, hf, (uses_iff_utilised sp attrs p F.ne_xmlns F.ne_xml).mpr hu, by rw [F.bound]; rfl⟩
    · rw [(none_facts H p hno hnd).2 hu] at hemit
      cases hemit

theorem plain_of_keep :
    (keepAttrs sp (attrs ++ created sp attrs ds)).filter (fun a => !isDecl a) = plainAttrs attrs := by
  unfold keepAttrs plainAttrs
  rw [List.filter_filter, List.filter_append]
  have h1 : List.filter (fun a => !isDecl a && keepP sp (attrs ++ created sp attrs ds) a) (created sp attrs ds) = [] := by
    rw [List.filter_eq_nil_iff]
    intro a ha
    obtain ⟨e, _, _, rfl⟩ := (mem_created (sp := sp) (attrs := attrs) (ds := ds) a).mp ha
    unfold isDecl
    rw [getDecl_mkDecl]
    simp
  rw [h1, List.append_nil]
  apply List.filter_congr
  intro a _
  unfold isDecl keepP
  cases getDecl a <;> simp

theorem attrs_agree (H : ElemHyp sp attrs ds inScope rendered) :
    sortAttrs (keepAttrs sp (attrs ++ created sp attrs ds)) =
      (renderNs (bindDecls inScope attrs) rendered (utilised sp attrs)).2 ++ sortAttrs (plainAttrs attrs) := by
  have hOK := AttrsOK_step sp attrs ds H.aok H.inv.ok
  have hnK : NamesNodup (keepAttrs sp (attrs ++ created sp attrs ds)) :=
    List.Pairwise.sublist List.filter_sublist hOK.1
  have hnP : NamesNodup (plainAttrs attrs) := List.Pairwise.sublist List.filter_sublist H.aok.1
  have cf := (renderNs_closed (bindDecls inScope attrs) (utilised sp attrs) rendered (utilised_nodup sp attrs)).1
  -- both sides are sorted and permutations of each other, with distinct names: then they are equal
  have hs1 : Sorted (renderNs (bindDecls inScope attrs) rendered (utilised sp attrs)).2 := by
    rw [cf]
    unfold Sorted
    rw [List.pairwise_map]
    refine List.Pairwise.imp ?_ (List.Pairwise.sublist List.filter_sublist (utilised_sorted sp attrs))
    intro p q hpq
    exact attrLess_mkDecl p q _ _ hpq
  have hs : Sorted ((renderNs (bindDecls inScope attrs) rendered (utilised sp attrs)).2 ++ sortAttrs (plainAttrs attrs)) := by
    unfold Sorted
    rw [List.pairwise_append]
    refine ⟨hs1, sortAttrs_sorted _ hnP, ?_⟩
    intro d hd x hx
    rw [cf] at hd
    obtain ⟨p, _, rfl⟩ := List.mem_map.mp hd
    have hx' := (sortAttrs_perm_self _).mem_iff.mp hx
    unfold plainAttrs at hx'
    have hxd := (List.mem_filter.mp hx').2
    have : getDecl x = none := by
      unfold isDecl at hxd
      cases hg : getDecl x with
      | none => rfl
      | some q => rw [hg] at hxd; simp at hxd
    exact attrLess_decl_plain _ x p (getDecl_mkDecl _ _) this
  have hnd2 : (renderNs (bindDecls inScope attrs) rendered (utilised sp attrs)).2.Nodup := by
    rw [cf]
    refine List.Pairwise.map _ ?_ (List.Nodup.sublist List.filter_sublist (utilised_nodup sp attrs))
    intro p q hpq e
    apply hpq
    have := congrArg getDecl e
    rw [getDecl_mkDecl, getDecl_mkDecl] at this
    exact Option.some.inj this
  have hp1 : ((keepAttrs sp (attrs ++ created sp attrs ds)).filter isDecl).Perm
      (renderNs (bindDecls inScope attrs) rendered (utilised sp attrs)).2 := by
    rw [List.perm_ext_iff_of_nodup (List.Nodup.sublist List.filter_sublist (namesNodup_nodup _ hnK)) hnd2]
    intro d
    rw [List.mem_filter]
    exact mem_decls_iff H d
  have hp : ((renderNs (bindDecls inScope attrs) rendered (utilised sp attrs)).2 ++ sortAttrs (plainAttrs attrs)).Perm
      (keepAttrs sp (attrs ++ created sp attrs ds)) := by
    refine List.Perm.trans ?_ (List.filter_append_perm isDecl _)
    rw [plain_of_keep]
    exact List.Perm.append hp1.symm (sortAttrs_perm_self _)
  have hnq : NamesNodup ((renderNs (bindDecls inScope attrs) rendered (utilised sp attrs)).2 ++ sortAttrs (plainAttrs attrs)) :=
    (namesNodup_perm hp).mpr hnK
  exact (sorted_perm_unique _ _ hs (sortAttrs_sorted _ hnK) (hp.trans (sortAttrs_perm_self _).symm) hnq).symm

theorem inv_kids (H : ElemHyp sp attrs ds inScope rendered) :
    Inv (ds.filter (passedOn sp attrs) ++ dropped sp (attrs ++ created sp attrs ds)) (bindDecls inScope attrs)
      (renderNs (bindDecls inScope attrs) rendered (utilised sp attrs)).1 := by
  have cl := (renderNs_closed (bindDecls inScope attrs) (utilised sp attrs) rendered (utilised_nodup sp attrs)).2
  refine ⟨EnvOK_kids sp attrs ds H.aok H.inv.ok, fun e he => ?_, fun e he => ?_, fun p hp => ?_⟩
  · exact (((kidsEnv_iff_fresh H e).mp he).1.facts H).ne_xml
  · -- handed down: not utilised here, so the rendered context says what it said
    obtain ⟨hf, hu⟩ := (kidsEnv_iff_fresh H e).mp he
    have F := hf.facts H
    refine ⟨F.bound, F.ne, ?_⟩
    rw [cl e.1, if_neg fun hh => by rw [(uses_iff_utilised sp attrs e.1 F.ne_xmlns F.ne_xml).mpr hh.1] at hu; cases hu]
    exact F.notRendered
  · rw [cl p]
    rcases fresh_or_none attrs ds p with ⟨v, hf⟩ | ⟨hno, hnd⟩
    · -- newly bound and not handed down: used, hence rendered here
      have F := hf.facts H
      have hu : usesSpace sp attrs p = true := by
        cases hu : usesSpace sp attrs p with
        | true => rfl
        | false => exact absurd rfl (hp (p, v) ((kidsEnv_iff_fresh H (p, v)).mpr ⟨hf, hu⟩))
      rw [if_pos ⟨(uses_iff_utilised sp attrs p F.ne_xmlns F.ne_xml).mp hu, F.emit⟩, F.bound]
      rfl
    · obtain ⟨n1, n2⟩ := none_facts H p hno hnd
      by_cases hu : p ∈ utilised sp attrs
      · rw [n2 hu]
        simp only [Bool.false_eq_true, and_false, if_false]
        exact n1
      · rw [if_neg (fun hh => hu hh.1)]
        exact n1
end

theorem kids_agree : ∀ (ns : List Node) (ds : Env) (inScope rendered : NsMap), Inv ds inScope rendered → WFL ns →
    kidsDevs inScope rendered ns = [] → serKids (walkKidsE ds ns) = renderKids inScope rendered ns := by
  intro ns
  induction ns using kids_induction with
  | nil => intros; rw [walkKidsE, serKids, renderKids]
  | elem sp tag attrs kids rest ihk ihr =>
    intro ds inScope rendered hinv hwf hdev
    simp only [WFL, WF] at hwf
    simp only [kidsDevs, nodeDevs, List.append_eq_nil_iff] at hdev
    obtain ⟨d1, d2, d3, d5⟩ := elemDevs_nil _ _ _ _ hdev.1.1
    have H : ElemHyp sp attrs ds inScope rendered := ⟨hinv, hwf.1.1, hwf.1.2.1, d1, d3, d5⟩
    rw [walkKidsE_elem, serKids, renderKids, ihr ds inScope rendered hinv hwf.2 hdev.2, walkE, ser, render,
      localStep_closed sp ds attrs hinv.ok]
    simp only
    rw [attrs_agree H, ihk _ _ _ (inv_kids H) hwf.1.2.2 hdev.1.2, d2, serAttrs_append]
    simp only [List.append_assoc, List.cons_append]
  | text d c rest ihr =>
    intro ds inScope rendered hinv hwf hdev
    simp only [kidsDevs, nodeDevs, List.append_eq_nil_iff] at hdev
    have hc : c = false := by cases c <;> simp at hdev ⊢
    rw [walkKidsE_text, serKids, renderKids, ihr ds inScope rendered hinv hwf.2 hdev.2, hc]
    simp [ser, render]
  | drop n rest hn ihr =>
    intro ds inScope rendered hinv hwf hdev
    simp only [kidsDevs, List.append_eq_nil_iff] at hdev
    rw [walkKidsE_drop _ _ hn, renderKids, ihr ds inScope rendered hinv hwf.2 hdev.2]
    cases n <;> simp only [keeps, Bool.true_eq_false] at hn <;> simp [nodeDevs, render] at hdev ⊢

theorem dedupS_nil : ∀ (l : List String), dedupS l = [] → l = []
  | [], _ => rfl
  | a :: as, h => by
    simp only [dedupS] at h
    split at h
    · rename_i hc
      have := dedupS_nil as h
      subst this
      simp at hc
    · cases h

/-- what the hypotheses use of `agree`: no `xmlns-name` trigger among the ancestors, no trigger in the subtree (the
    trigger `ctx-empty-default` is not needed: `CtxWF` excludes every empty declaration value) -/
theorem agree_unpack (ctx : List (List Attr)) (root : Node) (h : agree ctx root = true) :
    (∀ attrs ∈ ctx, NoXmlnsName attrs) ∧ nodeDevs (ctxMap ctx) [] root = [] := by
  unfold agree at h
  have h' : devs ctx root = [] := by simpa using h
  unfold devs at h'
  have h2 := dedupS_nil _ h'
  simp only [List.append_eq_nil_iff] at h2
  obtain ⟨⟨_, c2⟩, c3⟩ := h2
  refine ⟨?_, c3⟩
  intro attrs hat a ha hbad
  have := trigger_nil c2 attrs hat
  rw [List.any_eq_false] at this
  simpa [hbad] using this a ha

theorem canon_eq_excC14N_of_inv (ctx : List (List Attr)) (sp tag : Bytes) (attrs : List Attr) (kids : List Node)
    (hinv : Inv (collectSpaces ctx) (ctxMap ctx) []) (hwf : WF (.elem sp tag attrs kids))
    (hdev : nodeDevs (ctxMap ctx) [] (.elem sp tag attrs kids) = []) :
    canon ctx (.elem sp tag attrs kids) = excC14N ctx (.elem sp tag attrs kids) := by
  have := kids_agree [.elem sp tag attrs kids] _ _ _ hinv ⟨hwf, trivial⟩ (by rw [kidsDevs, hdev]; rfl)
  rw [canon_eq_walkE]
  simpa [walkKidsE_elem, walkKidsE, serKids, renderKids, excC14N] using this

theorem inv_nil : Inv [] [] [] where
  ok := ⟨List.Pairwise.nil, fun e he => by cases he⟩
  noxml := fun e he => by cases he
  pend := fun e he => by cases he
  sync := fun _ _ => rfl

end Relic.Xml
