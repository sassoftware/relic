/-
  Lemmas about `Relic.Model.Jar`: the search `index` and `cut`, the pieces `splitManifest` cuts and their minimality, line
  folding against the two rewriting passes of `parseSection` and the 72-byte rule, one round of the section loop of
  `DigestManifest`, the signing pipeline that succeeds.
-/
import Relic.Model.Jar
namespace Relic.Jar

theorem index_lt {pat : Bytes} (hp : pat ≠ []) : ∀ {s : Bytes} {i : Nat}, index pat s = some i → i + pat.length ≤ s.length
  | [], i, h => by
    cases pat with
    | nil => exact absurd rfl hp
    | cons a t => simp [index] at h
  | b :: bs, i, h => by
    unfold index at h
    by_cases hpre : pat.isPrefixOf (b :: bs) = true
    · simp [hpre] at h
      subst h
      have := List.isPrefixOf_iff_prefix.mp hpre
      have := this.length_le
      omega
    · simp [hpre] at h
      obtain ⟨j, hj, rfl⟩ := h
      have := index_lt hp hj
      simp; omega

theorem index_take {pat : Bytes} : ∀ {s : Bytes} {i : Nat}, index pat s = some i →
    s.take (i + pat.length) = s.take i ++ pat
  | [], i, h => by
    cases pat with
    | nil => simp [index] at h; subst h; simp
    | cons a t => simp [index] at h
  | b :: bs, i, h => by
    unfold index at h
    by_cases hpre : pat.isPrefixOf (b :: bs) = true
    · simp [hpre] at h
      subst h
      obtain ⟨t, ht⟩ := List.isPrefixOf_iff_prefix.mp hpre
      simp [← ht]
    · simp [hpre] at h
      obtain ⟨j, hj, rfl⟩ := h
      have ih := index_take hj
      have : j + 1 + pat.length = (j + pat.length) + 1 := by omega
      rw [this]
      simp [List.take_succ_cons, ih]

theorem cut_pos {m : Bytes} (hm : m ≠ []) : 1 ≤ (cut m).1 := by
  unfold cut
  split
  · simp
  · split
    · simp
    · simp
      cases m with
      | nil => exact absurd rfl hm
      | cons a t => simp

theorem cut_le (m : Bytes) : (cut m).1 ≤ m.length := by
  unfold cut
  split
  · rename_i i h
    have := index_lt (pat := sepCRLF) (by decide) h
    simp [sepCRLF] at this ⊢
    omega
  · split
    · rename_i i h
      have := index_lt (pat := sepLF) (by decide) h
      simp [sepLF] at this ⊢
      omega
    · simp

theorem piecesAux_flatten : ∀ (n : Nat) (m : Bytes), m.length ≤ n → (piecesAux n m).flatMap (·.1) = m
  | 0, m, h => by
    have : m = [] := List.eq_nil_of_length_eq_zero (by omega)
    subst this
    simp [piecesAux]
  | n + 1, m, h => by
    unfold piecesAux
    by_cases hm : m = []
    · subst hm; simp
    · have hne : m.isEmpty = false := List.isEmpty_eq_false_iff.mpr hm
      simp only [hne]
      have hc := cut_pos hm
      have ih := piecesAux_flatten n (m.drop (cut m).1) (by simp; omega)
      simp [List.flatMap_cons, ih]

theorem pieces_flatten (m : Bytes) : (pieces m).flatMap (·.1) = m :=
  piecesAux_flatten m.length m (Nat.le_refl _)

theorem mem_piecesAux : ∀ (n : Nat) (m : Bytes) (p : Bytes × Bool), p ∈ piecesAux n m →
    ∃ m' : Bytes, m' ≠ [] ∧ p = (m'.take (cut m').1, (cut m').2)
  | 0, m, p, hp => by simp [piecesAux] at hp
  | n + 1, m, p, hp => by
    unfold piecesAux at hp
    by_cases hm : m.isEmpty = true
    · simp [hm] at hp
    · simp only [hm, Bool.false_eq_true, if_false, List.mem_cons] at hp
      rcases hp with rfl | hp
      · exact ⟨m, by simpa using hm, rfl⟩
      · exact mem_piecesAux n _ p hp

theorem split_sections_eq_pieces {m : Bytes} {secs : List Bytes} (h : splitManifest m = (secs, false)) :
    secs = (pieces m).map (·.1) ∧ ∀ p ∈ pieces m, p.2 = false := by
  unfold splitManifest at h
  simp only [Prod.mk.injEq] at h
  obtain ⟨h1, h2⟩ := h
  have hall : ∀ p ∈ pieces m, p.2 = false ∧ isBlank p.1 = false := by
    intro p hp
    simpa using List.any_eq_false.mp h2 p hp
  rw [List.filter_eq_self.mpr fun p hp => by simp [(hall p hp).2]] at h1
  exact ⟨h1.symm, fun p hp => (hall p hp).1⟩

/-! Every piece ends at the FIRST separator the code's search finds in it (minimality of the division), and what that means
    for manifests with uniform line ends. -/

theorem isPrefixOf_take_cons {pat : Bytes} {b : UInt8} {bs : Bytes} (h : ¬ pat.isPrefixOf (b :: bs) = true) (k : Nat) :
    pat.isPrefixOf (b :: bs.take k) = false := by
  refine Bool.eq_false_iff.mpr fun hh => h ?_
  rw [List.isPrefixOf_iff_prefix] at hh ⊢
  exact hh.trans (List.take_succ_cons ▸ List.take_prefix (k + 1) (b :: bs))

theorem index_take_self {pat : Bytes} : ∀ {s : Bytes} {i : Nat}, index pat s = some i →
    index pat (s.take (i + pat.length)) = some i
  | [], i, h => by
    cases pat with
    | nil => simp [index] at h; subst h; simp [index]
    | cons a t => simp [index] at h
  | b :: bs, i, h => by
    unfold index at h
    by_cases hpre : pat.isPrefixOf (b :: bs) = true
    · simp only [hpre, if_true, Option.some.injEq] at h
      subst h
      obtain ⟨t, ht⟩ := List.isPrefixOf_iff_prefix.mp hpre
      have e : (b :: bs).take (0 + pat.length) = pat := by rw [← ht]; simp
      rw [e]
      cases pat with
      | nil => simp [index]
      | cons a t' =>
        unfold index
        have : (a :: t').isPrefixOf (a :: t') = true := List.isPrefixOf_iff_prefix.mpr (List.prefix_refl _)
        simp [this]
    · simp only [hpre, Bool.false_eq_true, if_false, Option.map_eq_some_iff] at h
      obtain ⟨j, hj, rfl⟩ := h
      have ih := index_take_self hj
      have e : j + 1 + pat.length = (j + pat.length) + 1 := by omega
      rw [e, List.take_succ_cons]
      unfold index
      simp [isPrefixOf_take_cons hpre, ih]

theorem index_none_take {pat : Bytes} (hp : pat ≠ []) : ∀ {s : Bytes} (k : Nat), index pat s = none →
    index pat (s.take k) = none
  | [], k, _ => by
    cases pat with
    | nil => exact absurd rfl hp
    | cons a t => simp [index]
  | b :: bs, 0, _ => by
    cases pat with
    | nil => exact absurd rfl hp
    | cons a t => simp [index]
  | b :: bs, k + 1, h => by
    unfold index at h
    by_cases hpre : pat.isPrefixOf (b :: bs) = true
    · simp [hpre] at h
    · simp only [hpre, Bool.false_eq_true, if_false, Option.map_eq_none_iff] at h
      rw [List.take_succ_cons]
      unfold index
      simp [isPrefixOf_take_cons hpre, index_none_take hp k h]

/-- a cut piece is cut nowhere earlier: searching it again finds its own end -/
theorem cut_take_self (m : Bytes) (h : (cut m).2 = false) : cut (m.take (cut m).1) = ((cut m).1, false) := by
  unfold cut at h ⊢
  cases h4 : index sepCRLF m with
  | some i =>
    have := index_take_self h4
    simp only [sepCRLF, List.length_cons, List.length_nil] at this
    simp only [sepCRLF, this]
  | none =>
    simp only [h4] at h ⊢
    cases h2 : index sepLF m with
    | some i =>
      have e2 := index_take_self h2
      simp only [sepLF, List.length_cons, List.length_nil] at e2
      have e4 := index_none_take (pat := sepCRLF) (by decide) (i + 2) h4
      simp only [sepLF, e2, e4]
    | none => simp [h2] at h

theorem piecesAux_cut_self (n : Nat) (m : Bytes) (p : Bytes × Bool) (hp : p ∈ piecesAux n m) (hf : p.2 = false) :
    cut p.1 = (p.1.length, false) := by
  obtain ⟨m', -, rfl⟩ := mem_piecesAux n m p hp
  rw [cut_take_self m' hf]
  have := cut_le m'
  simp [List.length_take, Nat.min_eq_left this]

theorem index_none_of_not_mem {pat : Bytes} {c : UInt8} (hc : c ∈ pat) : ∀ {s : Bytes}, (∀ b ∈ s, b ≠ c) → index pat s = none
  | [], _ => by
    cases pat with
    | nil => simp at hc
    | cons a t => simp [index]
  | b :: bs, h => by
    unfold index
    have hn : pat.isPrefixOf (b :: bs) = false := by
      cases hh : pat.isPrefixOf (b :: bs) with
      | false => rfl
      | true =>
        have := (List.isPrefixOf_iff_prefix.mp hh).subset hc
        exact absurd rfl (h c this)
    simp [hn, index_none_of_not_mem hc (fun x hx => h x (List.mem_cons_of_mem _ hx))]

theorem replCRLF_cons_ne (a : UInt8) (z : Bytes) (h : a ≠ 13) : replCRLF (a :: z) = a :: replCRLF z := by
  rw [replCRLF]
  intro r hh _; exact h hh

theorem dropCont_cons_ne (a : UInt8) (z : Bytes) (h : a ≠ 10) : dropCont (a :: z) = a :: dropCont z := by
  rw [dropCont]
  intro r hh _; exact h hh

theorem replCRLF_append_no13 : ∀ (x y : Bytes), (∀ b ∈ x, b ≠ 13) → replCRLF (x ++ y) = x ++ replCRLF y
  | [], y, _ => by simp
  | a :: x, y, h => by
    have ha : a ≠ 13 := h a (by simp)
    have ih := replCRLF_append_no13 x y (fun b hb => h b (by simp [hb]))
    simp [replCRLF_cons_ne _ _ ha, ih]

theorem dropCont_append_no10 : ∀ (x y : Bytes), (∀ b ∈ x, b ≠ 10) → dropCont (x ++ y) = x ++ dropCont y
  | [], y, _ => by simp
  | a :: x, y, h => by
    have ha : a ≠ 10 := h a (by simp)
    have ih := dropCont_append_no10 x y (fun b hb => h b (by simp [hb]))
    simp [dropCont_cons_ne _ _ ha, ih]

theorem replCRLF_crlf (z : Bytes) : replCRLF (13 :: 10 :: z) = 10 :: replCRLF z := by
  rw [replCRLF]

theorem dropCont_lfsp (z : Bytes) : dropCont (10 :: 32 :: z) = dropCont z := by
  rw [dropCont]

theorem dropCont_lf_ne (x : UInt8) (r : Bytes) (hx : x ≠ 32) : dropCont (10 :: x :: r) = 10 :: dropCont (x :: r) := by
  rw [dropCont]
  intro r' _ hh; simp only [List.cons.injEq] at hh; exact hx hh.1

/-- what `parseSection` undoes: CRLF → LF, then deletion of LF SP -/
def unfoldLines (s : Bytes) : Bytes := dropCont (replCRLF s)

def noEol (l : Bytes) : Prop := ∀ b ∈ l, b ≠ 13 ∧ b ≠ 10

theorem noEol_take {l : Bytes} (h : noEol l) (k : Nat) : noEol (l.take k) :=
  fun b hb => h b (List.mem_of_mem_take hb)

theorem noEol_drop {l : Bytes} (h : noEol l) (k : Nat) : noEol (l.drop k) :=
  fun b hb => h b (List.mem_of_mem_drop hb)

/-- `foldRest` followed by anything: the continuation lines are glued back, the rest is processed after one LF -/
theorem unfold_foldRest_tail : ∀ (n : Nat) (l : Bytes), l.length ≤ n → noEol l → ∀ (c tail : Bytes), (∀ b ∈ c, b ≠ 10) →
    dropCont (c ++ 10 :: replCRLF (foldRest n l ++ tail)) = c ++ l ++ dropCont (10 :: replCRLF tail)
  | 0, l, hl, _, c, tail, hc => by
    have : l = [] := List.eq_nil_of_length_eq_zero (by omega)
    subst this
    simp [foldRest, dropCont_append_no10 c _ hc]
  | n + 1, l, hl, hn, c, tail, hc => by
    unfold foldRest
    by_cases he : l = []
    · subst he
      simp [dropCont_append_no10 c _ hc]
    · have hne : l.isEmpty = false := List.isEmpty_eq_false_iff.mpr he
      simp only [hne]
      have h13 : ∀ b ∈ l.take (maxLineLength - 1), b ≠ 13 := fun b hb => (noEol_take hn _ b hb).1
      have h10 : ∀ b ∈ l.take (maxLineLength - 1), b ≠ 10 := fun b hb => (noEol_take hn _ b hb).2
      have hlen : (l.drop (maxLineLength - 1)).length ≤ n := by
        have : 0 < l.length := List.length_pos_iff.mpr he
        simp [maxLineLength]; omega
      have ih := unfold_foldRest_tail n (l.drop (maxLineLength - 1)) hlen (noEol_drop hn _) (l.take (maxLineLength - 1)) tail h10
      simp only [Bool.false_eq_true, ↓reduceIte]
      rw [List.cons_append, replCRLF_cons_ne 32 _ (by decide), List.append_assoc, List.append_assoc, replCRLF_append_no13 _ _ h13]
      simp only [List.cons_append, List.nil_append, replCRLF_crlf]
      rw [dropCont_append_no10 c _ hc, dropCont_lfsp, ih]
      simp [List.take_append_drop]

theorem unfold_foldLine_tail (l tail : Bytes) (hne : l ≠ []) (hn : noEol l) :
    unfoldLines (foldLine l ++ tail) = l ++ dropCont (10 :: replCRLF tail) := by
  unfold unfoldLines foldLine
  have he : l.isEmpty = false := List.isEmpty_eq_false_iff.mpr hne
  simp only [he, Bool.false_eq_true, ↓reduceIte]
  have h13 : ∀ b ∈ l.take maxLineLength, b ≠ 13 := fun b hb => (noEol_take hn _ b hb).1
  have h10 : ∀ b ∈ l.take maxLineLength, b ≠ 10 := fun b hb => (noEol_take hn _ b hb).2
  rw [List.append_assoc, List.append_assoc, replCRLF_append_no13 _ _ h13]
  simp only [List.cons_append, List.nil_append, replCRLF_crlf]
  have := unfold_foldRest_tail l.length (l.drop maxLineLength) (by simp) (noEol_drop hn _) (l.take maxLineLength) tail h10
  rw [this]
  simp [List.take_append_drop]

theorem unfold_foldLine (l : Bytes) (hne : l ≠ []) (hn : noEol l) : unfoldLines (foldLine l) = l ++ [10] := by
  have := unfold_foldLine_tail l [] hne hn
  rwa [List.append_nil] at this

/-- `out` is a sequence of lines of at most `k` bytes, each followed by CRLF -/
def LinesLe (k : Nat) (out : Bytes) : Prop :=
  ∃ ls : List Bytes, out = ls.flatMap (fun x => x ++ [13, 10]) ∧ ∀ x ∈ ls, x.length ≤ k

theorem foldRest_lines : ∀ (n : Nat) (l : Bytes), LinesLe maxLineLength (foldRest n l)
  | 0, l => ⟨[], by simp [foldRest], by simp⟩
  | n + 1, l => by
    unfold foldRest
    by_cases he : l.isEmpty = true
    · simp only [he]; exact ⟨[], by simp, by simp⟩
    · simp only [he]
      obtain ⟨ls, h1, h2⟩ := foldRest_lines n (l.drop (maxLineLength - 1))
      refine ⟨(32 :: l.take (maxLineLength - 1)) :: ls, ?_, ?_⟩
      · simp [h1]
      · intro x hx
        simp at hx
        rcases hx with rfl | hx
        · simp [maxLineLength]; omega
        · exact h2 x hx

theorem foldLine_lines (l : Bytes) : LinesLe maxLineLength (foldLine l) := by
  unfold foldLine
  by_cases he : l.isEmpty = true
  · simp only [he]; exact ⟨[], by simp, by simp⟩
  · simp only [he]
    obtain ⟨ls, h1, h2⟩ := foldRest_lines l.length (l.drop maxLineLength)
    refine ⟨l.take maxLineLength :: ls, ?_, ?_⟩
    · simp [h1]
    · intro x hx
      simp at hx
      rcases hx with rfl | hx
      · simp [maxLineLength]; omega
      · exact h2 x hx

theorem sfSections_cons_ok {hash : Bytes → Bytes} {hn s : Bytes} {ss : List Bytes} {body : Bytes}
    (h : sfSections hash hn (s :: ss) = .ok body) :
    ∃ hdr rest, parseSection s = .ok hdr ∧ (hget hdr kName).isEmpty = false ∧ sfSections hash hn ss = .ok rest ∧
      body = writeAttribute kName (hget hdr kName) ++ writeAttribute (hn ++ asc "-Digest") (hash s) ++ [13, 10] ++ rest := by
  unfold sfSections at h
  cases hp : parseSection s with
  | ok hdr =>
    simp only [hp] at h
    cases hne : (hget hdr kName).isEmpty with
    | true => simp [hne] at h
    | false =>
      simp only [hne, Bool.false_eq_true, if_false] at h
      cases hr : sfSections hash hn ss with
      | ok rest =>
        simp only [hr, Res.ok.injEq] at h
        exact ⟨hdr, rest, rfl, hne, rfl, h.symm⟩
      | _ => simp [hr] at h
  | _ => simp [hp] at h

theorem signJar_eq_ok {hash : Bytes → Bytes} {sign : Bytes → Bytes} {hn cb : Bytes} {so apk : Bool} {kk : Nat} {alias : Bytes}
    {ms out : List Member} : signJar hash sign hn cb so apk kk alias ms = .ok out ↔
    ∃ mf sf ch, updateManifest hash hn ms = .ok (mf, ch) ∧ digestManifest hash hn cb so apk mf = .ok sf ∧
      out = signedMembers ms mf sf (sign sf) kk alias := by
  unfold signJar
  cases hu : updateManifest hash hn ms with
  | ok r =>
    obtain ⟨mf, ch⟩ := r
    cases hd : digestManifest hash hn cb so apk mf with
    | ok sf => simp [hd, eq_comm]
    | _ => simp [hd]
  | _ => simp

end Relic.Jar
