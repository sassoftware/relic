/-
  Relic.Proofs.RedBlack — balance half of `rb_insert_valid`: for lib/redblack's recursive insert
  with new nodes red and the root re-blackened, the indexed red-black predicate `RB`
  (no red node has a red child; equal black height) is preserved.
-/
import Relic.Model.RedBlack
namespace Relic.RedBlack
open Tree
variable {α : Type}

/-- `RB t c n`: `t` is balanced, its root has colour `c` (true = red), black height `n` -/
inductive RB : Tree α → Bool → Nat → Prop
  | nil : RB nil false 0
  | red {l r k n} : RB l false n → RB r false n → RB (node true l k r) true n
  | black {l r k c1 c2 n} : RB l c1 n → RB r c2 n → RB (node false l k r) false (n+1)

/-- red root whose children are balanced and at most one of them is red -/
def AB (t : Tree α) (n : Nat) : Prop :=
  ∃ l k r c1 c2, t = node true l k r ∧ RB l c1 n ∧ RB r c2 n ∧ (c1 = false ∨ c2 = false)

theorem isRed_of_RB {t : Tree α} {c n} (h : RB t c n) : isRed t = c := by
  cases h <;> rfl

theorem RB.blacken_red {t : Tree α} {n} (h : RB t true n) : RB (blacken t) false (n+1) := by
  cases h with
  | red hl hr => exact RB.black hl hr

theorem isRed_node_true (l : Tree α) (k r) : isRed (node true l k r) = true := rfl
theorem isRed_node_false (l : Tree α) (k r) : isRed (node false l k r) = false := rfl
theorem blacken_node (c) (l : Tree α) (k r) : blacken (node c l k r) = node false l k r := rfl
theorem right_node (c) (l : Tree α) (k r) : right (node c l k r) = r := rfl
theorem left_node (c) (l : Tree α) (k r) : left (node c l k r) = l := rfl
theorem rotL_node (c) (l : Tree α) (k c2 rl rk rr) : rotL (node c l k (node c2 rl rk rr)) = node false (node true l k rl) rk rr := rfl
theorem rotR_node (c c2) (ll : Tree α) (lk lr k r) : rotR (node c (node c2 ll lk lr) k r) = node false ll lk (node true lr k r) := rfl

theorem RB.inv_red {t : Tree α} {n} (h : RB t true n) :
    ∃ l k r, t = node true l k r ∧ RB l false n ∧ RB r false n := by
  cases h with
  | red hl hr => exact ⟨_, _, _, rfl, hl, hr⟩

theorem AB.of_red {t : Tree α} {n} (h : RB t true n) : AB t n := by
  obtain ⟨a, k, b, rfl, ha, hb⟩ := RB.inv_red h
  exact ⟨a, k, b, false, false, rfl, ha, hb, .inl rfl⟩

/-- the balancing branch of `ins` after the recursive call on the right, as a function of the parent's colour `c` -/
def fixR (c : Bool) (l : Tree α) (k : α) (r' : Tree α) : Tree α :=
  if !isRed r' then node c l k r'
  else if isRed l then node true (blacken l) k (blacken r')
  else if isRed (right r') then rotL (node c l k r')
  else if isRed (left r') then rotL (node c l k (rotR r'))
  else node c l k r'

def fixL (c : Bool) (l' : Tree α) (k : α) (r : Tree α) : Tree α :=
  if !isRed l' then node c l' k r
  else if isRed r then node true (blacken l') k (blacken r)
  else if isRed (left l') then rotR (node c l' k r)
  else if isRed (right l') then rotR (node c (rotL l') k r)
  else node c l' k r

theorem ins_node (less : α → α → Bool) (nr c) (l : Tree α) (k r x) : ins less nr (node c l k r) x =
    if less k x then fixR c l k (ins less nr r x) else fixL c (ins less nr l x) k r := by
  simp only [ins, fixR, fixL]

/-- black parent; the right child came back balanced with a black root (nothing to do), or with a red root and at most
    one red child (a balanced red-rooted tree is the case of none) -/
theorem fixR_black {l : Tree α} {k r' c1 n} (hl : RB l c1 n) (hr : RB r' false n ∨ AB r' n) :
    ∃ c, RB (fixR false l k r') c (n+1) := by
  rcases hr with hb | ⟨a, kk, b, ca, cb, rfl, ha, hb, hor⟩
  · refine ⟨false, ?_⟩
    simp only [fixR, isRed_of_RB hb, Bool.not_false, ↓reduceIte]
    exact RB.black hl hb
  have hl0 := isRed_of_RB hl
  cases c1 with
  | true =>
    refine ⟨true, ?_⟩
    simp only [fixR, isRed_node_true, hl0, Bool.not_true, Bool.false_eq_true, ↓reduceIte, blacken_node]
    exact RB.red (RB.blacken_red hl) (RB.black ha hb)
  | false =>
    refine ⟨false, ?_⟩
    cases cb with
    | true =>
      have : ca = false := by cases hor with | inl h => exact h | inr h => cases h
      subst this
      simp only [fixR, isRed_node_true, hl0, right_node, isRed_of_RB hb, Bool.not_true, Bool.false_eq_true,
        ↓reduceIte, rotL_node]
      exact RB.black (RB.red hl ha) hb
    | false =>
      cases ca with
      | true =>
        obtain ⟨a1, ak, a2, rfl, ha1, ha2⟩ := RB.inv_red ha
        simp only [fixR, isRed_node_true, hl0, right_node, left_node, isRed_of_RB hb, Bool.not_true,
          Bool.false_eq_true, ↓reduceIte, rotL_node, rotR_node]
        exact RB.black (RB.red hl ha1) (RB.red ha2 hb)
      | false =>
        simp only [fixR, isRed_node_true, hl0, right_node, left_node, isRed_of_RB ha, isRed_of_RB hb, Bool.not_true,
          Bool.false_eq_true, ↓reduceIte]
        exact RB.black hl (RB.red ha hb)

theorem fixL_black {l' : Tree α} {k r c2 n} (hl : RB l' false n ∨ AB l' n) (hr : RB r c2 n) :
    ∃ c, RB (fixL false l' k r) c (n+1) := by
  rcases hl with hb | ⟨a, kk, b, ca, cb, rfl, ha, hb, hor⟩
  · refine ⟨false, ?_⟩
    simp only [fixL, isRed_of_RB hb, Bool.not_false, ↓reduceIte]
    exact RB.black hb hr
  have hr0 := isRed_of_RB hr
  cases c2 with
  | true =>
    refine ⟨true, ?_⟩
    simp only [fixL, isRed_node_true, hr0, Bool.not_true, Bool.false_eq_true, ↓reduceIte, blacken_node]
    exact RB.red (RB.black ha hb) (RB.blacken_red hr)
  | false =>
    refine ⟨false, ?_⟩
    cases ca with
    | true =>
      have : cb = false := by cases hor with | inl h => cases h | inr h => exact h
      subst this
      simp only [fixL, isRed_node_true, hr0, left_node, isRed_of_RB ha, Bool.not_true, Bool.false_eq_true,
        ↓reduceIte, rotR_node]
      exact RB.black ha (RB.red hb hr)
    | false =>
      cases cb with
      | true =>
        obtain ⟨b1, bk, b2, rfl, hb1, hb2⟩ := RB.inv_red hb
        simp only [fixL, isRed_node_true, hr0, right_node, left_node, isRed_of_RB ha, Bool.not_true,
          Bool.false_eq_true, ↓reduceIte, rotL_node, rotR_node]
        exact RB.black (RB.red ha hb1) (RB.red hb2 hr)
      | false =>
        simp only [fixL, isRed_node_true, hr0, right_node, left_node, isRed_of_RB ha, isRed_of_RB hb, Bool.not_true,
          Bool.false_eq_true, ↓reduceIte]
        exact RB.black (RB.red ha hb) hr

/-- red parent (black children): the result is red-rooted with at most one red child -/
theorem fixR_red {l : Tree α} {k r' c' n} (hl : RB l false n) (hr : RB r' c' n) :
    AB (fixR true l k r') n := by
  have hl0 := isRed_of_RB hl
  cases c' with
  | false =>
    simp only [fixR, isRed_of_RB hr, Bool.not_false, ↓reduceIte]
    exact ⟨_, _, _, _, _, rfl, hl, hr, Or.inl rfl⟩
  | true =>
    obtain ⟨a, kk, b, rfl, ha, hb⟩ := RB.inv_red hr
    simp only [fixR, isRed_node_true, hl0, right_node, left_node, isRed_of_RB ha, isRed_of_RB hb,
      Bool.not_true, Bool.false_eq_true, ↓reduceIte]
    exact ⟨_, _, _, _, _, rfl, hl, RB.red ha hb, Or.inl rfl⟩

theorem fixL_red {l' : Tree α} {k r c' n} (hl : RB l' c' n) (hr : RB r false n) :
    AB (fixL true l' k r) n := by
  have hr0 := isRed_of_RB hr
  cases c' with
  | false =>
    simp only [fixL, isRed_of_RB hl, Bool.not_false, ↓reduceIte]
    exact ⟨_, _, _, _, _, rfl, hl, hr, Or.inr rfl⟩
  | true =>
    obtain ⟨a, kk, b, rfl, ha, hb⟩ := RB.inv_red hl
    simp only [fixL, isRed_node_true, hr0, right_node, left_node, isRed_of_RB ha, isRed_of_RB hb,
      Bool.not_true, Bool.false_eq_true, ↓reduceIte]
    exact ⟨_, _, _, _, _, rfl, RB.red ha hb, hr, Or.inr rfl⟩

/-- what an insertion below a black parent hands up, whatever the colour of the child it went into -/
theorem almost_of {t : Tree α} {c n} (h : (c = false → ∃ c', RB t c' n) ∧ (c = true → AB t n)) :
    RB t false n ∨ AB t n := by
  cases c with
  | true => exact .inr (h.2 rfl)
  | false =>
    obtain ⟨c', h'⟩ := h.1 rfl
    cases c' with
    | false => exact .inl h'
    | true => exact .inr (AB.of_red h')

theorem ins_RB (less : α → α → Bool) : ∀ (t : Tree α) (x : α) (c : Bool) (n : Nat), RB t c n →
    (c = false → ∃ c', RB (ins less true t x) c' n) ∧ (c = true → AB (ins less true t x) n) := by
  intro t
  induction t with
  | nil =>
    intro x c n h
    cases h
    exact ⟨fun _ => ⟨true, RB.red RB.nil RB.nil⟩, fun h => (by cases h)⟩
  | node cc l k r ihl ihr =>
    intro x c n h
    rw [ins_node]
    cases h with
    | red hl hr =>
      refine ⟨fun h => (by cases h), fun _ => ?_⟩
      split
      · obtain ⟨c', hr'⟩ := (ihr x false _ hr).1 rfl
        exact fixR_red hl hr'
      · obtain ⟨c', hl'⟩ := (ihl x false _ hl).1 rfl
        exact fixL_red hl' hr
    | @black _ _ _ c1 c2 n' hl hr =>
      refine ⟨fun _ => ?_, fun h => (by cases h)⟩
      split
      · exact fixR_black hl (almost_of (ihr x c2 _ hr))
      · exact fixL_black (almost_of (ihl x c1 _ hl)) hr

theorem RB.blacken_black {t : Tree α} {n} (h : RB t false n) : RB (blacken t) false n := by
  cases h with
  | nil => exact RB.nil
  | black a b => exact RB.black a b

theorem insert_RB (less : α → α → Bool) (t : Tree α) (x : α) (n : Nat) (h : RB t false n) :
    ∃ m, RB (insertFixed less t x) false m := by
  obtain ⟨c', h'⟩ := (ins_RB less t x false n h).1 rfl
  simp only [insertWith, ↓reduceIte]
  cases c' with
  | false => exact ⟨n, RB.blacken_black h'⟩
  | true => exact ⟨n+1, RB.blacken_red h'⟩

theorem insertAll_RB (less : α → α → Bool) : ∀ (xs : List α) (t : Tree α), (∃ n, RB t false n) →
    ∃ n, RB (insertAll less true true t xs) false n
  | [], _, h => h
  | x :: xs, t, ⟨n, h⟩ => insertAll_RB less xs _ (insert_RB less t x n h)

end Relic.RedBlack
