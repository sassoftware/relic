/-
  No panic, no divergence: the DER readers of `Relic.Model.Der` return a value or an error on every input
  (`Res.Errs` with no condition on the error text: the callers map these errors to their own).
-/
import Relic.Model.Der
import Relic.Proofs.Res
namespace Relic.Der
open Relic.Res

theorem decLenLoop_errs : ∀ (k acc : Nat) (bs : Bytes), Errs (fun _ => True) (decLenLoop k acc bs)
  | 0, _, _ => trivial
  | _ + 1, _, [] => trivial
  | k + 1, _, _ :: t => by
    simp only [decLenLoop]
    exact Errs.ite trivial (Errs.ite trivial (decLenLoop_errs k _ t))

theorem decLen_errs : ∀ bs : Bytes, Errs (fun _ => True) (decLen bs)
  | [] => trivial
  | b :: t => by
    simp only [decLen]
    refine Errs.ite trivial (Errs.ite trivial ?_)
    refine Errs.cases (decLenLoop (b.toNat % 128) 0 t) (decLenLoop_errs _ _ _) (fun p => ?_) (fun _ _ => trivial)
    exact Errs.ite trivial trivial

theorem untlv_errs : ∀ bs : Bytes, Errs (fun _ => True) (untlv bs)
  | [] => trivial
  | t :: r => by
    simp only [untlv, untlvWith]
    refine Errs.ite trivial (Errs.cases (decLen r) (decLen_errs r) (fun p => ?_) (fun _ _ => trivial))
    exact Errs.ite trivial trivial

theorem splitTLVs_errs (bs : Bytes) : Errs (fun _ => True) (splitTLVs bs) := by
  induction h : bs.length using Nat.strongRecOn generalizing bs with
  | _ n ih =>
    rw [splitTLVs]
    split
    · trivial
    · have hs := untlv_errs bs
      split
      · rename_i t c rest hu
        have hlt := untlv_rest_lt bs t c rest hu
        exact Errs.cases (splitTLVs rest) (ih rest.length (by omega) rest rfl) (fun _ => trivial) (fun _ _ => trivial)
      · trivial
      · rename_i s hu
        rw [hu] at hs
        exact hs.elim
      · rename_i hu
        rw [hu] at hs
        exact hs.elim

end Relic.Der
