/- the frame property for PowerShell: the text `DigestPowershell` reports, followed by CRLF, a begin-marker line and anything
   (the signed script in particular), digests to the same text and the same stream; `Mode`: what the lemmas need of an encoding,
   so that each is stated once for UTF-8 and UTF-16LE -/
import Relic.Proofs.PS
namespace Relic.PS

def NoMarker (first : Bytes) (xs : List Item) : Prop := ∀ l ph, Item.line l ph ∈ xs → l ≠ first

theorem digestLoop_ts (first : Bytes) (u16 : Bool) (k flen : Nat) (items : List Item) (saved h : Bytes) (ts pos : Nat)
    (H : Bytes) (T S : Nat) (e : digestLoop true true first u16 k flen items saved h ts pos = .ok (H, T, S)) :
    ts ≤ T ∧ ts + saved.length ≤ T + k := by
  induction items generalizing saved h ts pos with
  | nil =>
    cases Res.ok.inj e
    omega
  | cons it rest ih =>
    -- the item is a line: the marker, and `hR` is the result of the run, or not, and the run goes on (`e'`)
    obtain ⟨l, phys, rfl, ⟨_, _, _, hR⟩ | ⟨_, e'⟩⟩ := digestLoop_cons e
    · cases hR
      omega
    · have := ih _ _ _ _ e'
      omega

/-- lines that are not the begin marker are passed over: the last of them becomes `saved`, the others go to the hash -/
theorem digestLoop_pass (first : Bytes) (u16 : Bool) (k flen : Nat) (s : Bytes) (ph : Nat) (ys : List Item) (hs : s ≠ first) :
    ∀ (xs : List Item) (saved h : Bytes) (ts pos : Nat), Good xs → NoMarker first xs →
      digestLoop true true first u16 k flen (xs ++ (.line s ph :: ys)) saved h ts pos =
        digestLoop true true first u16 k flen ys s (h ++ conv u16 saved ++ xs.flatMap (fun it => conv u16 (itemBytes it)))
          (ts + saved.length + (joinItems xs).length) (pos + (joinItems xs).length + ph) := by
  intro xs
  induction xs with
  | nil =>
    intro saved h ts pos _ _
    simp [digestLoop, hs, joinItems]
  | cons it xs ih =>
    intro saved h ts pos hg nm
    obtain ⟨b, rfl⟩ := hg it (by simp)
    have hbf : b ≠ first := nm b b.length (by simp)
    simp only [List.cons_append, digestLoop, if_neg hbf]
    rw [ih b _ _ _ (fun y hy => hg y (by simp [hy])) (fun l ph hm => nm l ph (by simp [hm]))]
    simp only [joinItems, List.flatMap_cons, itemBytes, List.length_append, List.append_assoc, Nat.add_assoc]

theorem digestLoop_at_marker (first : Bytes) (u16 : Bool) (k flen : Nat) (hk : 0 < k) (xs : List Item) (ph : Nat)
    (more : List Item) (hg : Good xs) (nm : NoMarker first xs) (H : Bytes) (T S : Nat)
    (e : digestLoop true true first u16 k flen (xs ++ (.line first ph :: more)) [] [] 0 0 = .ok (H, T, S)) :
    T + k = (joinItems xs).length ∧ (joinItems xs).drop T = first.drop (first.length - k) := by
  rcases List.eq_nil_or_concat xs with rfl | ⟨xs', it, rfl⟩
  · simp only [List.nil_append, digestLoop, if_true, List.length_nil] at e
    rw [if_pos hk] at e
    simp at e
  · rw [List.concat_eq_append] at e hg nm ⊢
    obtain ⟨s, hit⟩ := hg it (by simp)
    subst hit
    have hsf : s ≠ first := nm s s.length (by simp)
    rw [List.append_assoc, List.singleton_append] at e
    rw [digestLoop_pass first u16 k flen s s.length (.line first ph :: more) hsf xs' [] [] 0 0
      (fun y hy => hg y (by simp [hy])) (fun l ph hm => nm l ph (by simp [hm]))] at e
    obtain ⟨_, _, hi, ⟨_, hlen, hsfx, hR⟩ | ⟨hne, _⟩⟩ := digestLoop_cons e
    · cases hi; cases hR
      simp only [List.length_nil, Nat.zero_add]
      simp only [joinItems, List.flatMap_append, List.flatMap_cons, List.flatMap_nil, itemBytes, List.append_nil, List.length_append]
      refine ⟨by omega, ?_⟩
      rw [List.drop_append, List.drop_eq_nil_of_le (by omega), List.nil_append, Nat.add_sub_cancel_left]
      exact hsfx
    · cases hi
      exact absurd rfl hne

theorem no_marker_prefix (first : Bytes) (u16 : Bool) (k flen : Nat) (hk : 0 < k) (p x : Bytes) (restf : List Item) (ph1 : Nat) :
    ∀ (xs : List Item) (saved h : Bytes) (ts pos : Nat) (H : Bytes) (T S : Nat), Good xs → pos = ts + saved.length →
      digestLoop true true first u16 k flen (xs ++ (.line (p ++ x) ph1 :: restf)) saved h ts pos = .ok (H, T, S) →
      T = pos + (joinItems xs).length + p.length → NoMarker first xs := by
  intro xs
  induction xs with
  | nil => intro _ _ _ _ _ _ _ _ _ _ _ l ph hm; simp at hm
  | cons it xs ih =>
    intro saved h ts pos H T S hg hp e hT l ph hm
    obtain ⟨b, rfl⟩ := hg it (by simp)
    simp only [joinItems, List.flatMap_cons, itemBytes, List.length_append] at hT
    obtain ⟨_, _, hi, ⟨_, _, _, hR⟩ | ⟨hl, e'⟩⟩ := digestLoop_cons e
    · cases hi; cases hR
      omega
    · cases hi
      rcases List.mem_cons.mp hm with h1 | h1
      · injection h1 with h1 _; rw [h1]; exact hl
      · exact ih _ _ _ _ H T S (fun y hy => hg y (by simp [hy])) (by omega) e'
          (by simp only [joinItems]; omega) l ph h1

/-- Two runs of the digest loop over item lists with a common prefix `xs`.  In the first
    (the input) the prefix is followed by the line `p ++ x` and anything; in the second (the signed file) by the line
    `p ++ eol`, the begin marker and anything.  If the first run reports a text that ends exactly after `p`, the second
    reports the same stream and the same text size: both pass `xs` and the line behind it in the same way
    (`digestLoop_pass`), and what is left to compare is how each run ends. -/
theorem digestLoop_frame (first eol : Bytes) (u16 : Bool) (flen flen' : Nat) (hk : 0 < eol.length)
    (p x : Bytes) (restf more : List Item) (ph1 ph2 ph3 : Nat)
    (hx : x = [] → restf = []) (nf : p ++ eol ≠ first) (hsfx : first.drop (first.length - eol.length) = eol)
    (xs : List Item) (H : Bytes) (T S : Nat) (hg : Good xs)
    (e : digestLoop true true first u16 eol.length flen (xs ++ (.line (p ++ x) ph1 :: restf)) [] [] 0 0 = .ok (H, T, S))
    (hT : T = (joinItems xs).length + p.length) :
    ∃ S', digestLoop true true first u16 eol.length flen' (xs ++ (.line (p ++ eol) ph2 :: .line first ph3 :: more)) [] [] 0 0
      = .ok (H, T, S') := by
  have nm := no_marker_prefix first u16 _ flen hk p x restf ph1 xs [] [] 0 0 H T S hg rfl e (by omega)
  -- `p ++ x` is not the marker: the text would end before `p`
  have nf1 : p ++ x ≠ first := fun hc => by
    have := (digestLoop_at_marker first u16 _ flen hk xs ph1 restf hg nm H T S (hc ▸ e)).1
    omega
  rw [digestLoop_pass first u16 _ flen _ ph1 restf nf1 xs [] [] 0 0 hg nm] at e
  rw [digestLoop_pass first u16 _ flen' _ ph2 _ nf xs [] [] 0 0 hg nm]
  simp only [Nat.zero_add, List.length_nil, Nat.add_zero, List.nil_append] at e ⊢
  generalize conv u16 [] ++ xs.flatMap (fun it => conv u16 (itemBytes it)) = h' at e ⊢
  -- the second run: the next line is the marker, the end-of-line in front of it is cut off
  have run2 : digestLoop true true first u16 eol.length flen' (.line first ph3 :: more) (p ++ eol) h' (joinItems xs).length
      ((joinItems xs).length + ph2) = .ok (h' ++ conv u16 p, (joinItems xs).length + p.length,
        eol.length + first.length + (flen' - ((joinItems xs).length + ph2 + ph3))) := by
    simp only [digestLoop, if_true]
    rw [if_neg (by simp), if_neg (by
      intro hc
      apply hc.2
      rw [hsfx, List.length_append, Nat.add_sub_cancel, List.drop_left])]
    simp [List.length_append]
  rw [run2]
  suffices hh : H = h' ++ conv u16 p by rw [hh, hT]; exact ⟨_, rfl⟩
  cases restf with
  | nil =>
    -- the first run: `p ++ x` is the last line, and then `x` is empty,
    cases Res.ok.inj e
    have hx0 : x = [] := List.eq_nil_of_length_eq_zero (by simp only [List.length_append] at hT; omega)
    rw [hx0, List.append_nil]
  | cons it2 rest2 =>
    -- … or the next line is the marker, and `x` is the end-of-line cut off
    have hxl : 0 < x.length := List.length_pos_iff.mpr fun h0 => by cases hx h0
    obtain ⟨_, _, _, ⟨_, hge, _, hR⟩ | ⟨_, e''⟩⟩ := digestLoop_cons e
    · cases hR
      simp only [List.length_append] at hT hge
      have hxk : x.length = eol.length := by omega
      rw [List.length_append, hxk, Nat.add_sub_cancel, List.take_left' rfl]
    · have := (digestLoop_ts _ _ _ _ _ _ _ _ _ _ _ _ e'').1
      simp only [List.length_append] at this
      omega

theorem isUtf16_eq (l : Bytes) : isUtf16 l = decide (l.take 2 = [0xff, 0xfe]) := by
  match l with
  | [] => rfl
  | [a] => simp [isUtf16]
  | a :: b :: r =>
    simp only [List.take_succ_cons, List.take_zero]
    unfold isUtf16
    split
    · rename_i h; injection h with h1 h2; injection h2 with h2 h3; subst h1; subst h2; rfl
    · rename_i h
      symm
      apply decide_eq_false
      intro hc
      injection hc with h1 h2; injection h2 with h2 h3
      exact h r (by rw [h1, h2])

theorem isUtf16_append_false (a : Bytes) (c : UInt8) (r : Bytes) (h : isUtf16 a = false) (h1 : c ≠ 0xff) (h2 : c ≠ 0xfe) :
    isUtf16 (a ++ c :: r) = false := by
  rw [isUtf16_eq] at h ⊢
  match a, h with
  | [], _ => simp [h1]
  | [x], _ => simp [h2]
  | x :: y :: t, h => simpa using h

theorem isUtf16_text_crlf (text tf r : Bytes) (hu : isUtf16 (text ++ tf) = false) : isUtf16 (text ++ (crlf ++ r)) = false := by
  rw [isUtf16_eq] at hu ⊢
  apply decide_eq_false
  have hu0 := of_decide_eq_false hu
  intro hc
  apply hu0
  match text with
  | [] => simp [crlf] at hc
  | [a] => simp [crlf] at hc
  | a :: b :: r => simpa using hc

theorem isUtf16_append (a b c : Bytes) (h : 2 ≤ a.length) : isUtf16 (a ++ b) = isUtf16 (a ++ c) := by
  match a, h with
  | x :: y :: r, _ => rw [isUtf16_eq, isUtf16_eq]; rfl

/-- the block `MakePatch` writes, behind its leading CRLF and the begin-marker line: the base64 lines and the end marker -/
def blockRest (st en sig : Bytes) : Bytes :=
  sigLines st en (base64 sig).length (base64 sig) ++ (st ++ psEnd ++ en ++ crlf)

theorem marker_nolf (style : Nat) (st en : Bytes) (hs : styleOf style = some (st, en)) :
    ∀ y ∈ st ++ psBegin ++ en ++ [13], y ≠ 10 :=
  styleOf_cases (fun st en => ∀ y ∈ st ++ psBegin ++ en ++ [13], y ≠ 10) style st en hs (by decide +kernel) (by decide +kernel)
    (by decide +kernel)

/-- What the proofs about the signed script need of an encoding: its line splitter with the complete lines (`comp`) and
    the unterminated last line (`pend`) of a prefix, the form ASCII text takes in it (`enc`), and how a file in it is
    recognised.  `ok` is the alignment the length of a prefix must have for the splitter to start afresh behind it. -/
structure Mode where
  u16 : Bool
  split : Bytes → Bytes → List Item
  comp : Bytes → Bytes → List Item
  pend : Bytes → Bytes → Bytes
  ok : Nat → Prop
  enc : Bytes → Bytes
  lf : Bytes
  append : ∀ cur a b, ok a.length → split cur (a ++ b) = comp cur a ++ split (pend cur a) b
  join : ∀ cur a, joinItems (comp cur a) ++ pend cur a = cur ++ a ∧ Good (comp cur a)
  head : ∀ cur t, ∃ x restf ph, split cur t = .line (cur ++ x) ph :: restf ∧ (x = [] → restf = [])
  nolf : ∀ cur body r, (∀ y ∈ body, y ≠ 10) →
    split cur (enc body ++ (lf ++ r)) = .line (cur ++ enc body ++ lf) ((cur ++ enc body).length + lf.length) :: split [] r
  split_nil : ∀ cur, split cur [] = [.line cur cur.length]
  items : ∀ f, isUtf16 f = u16 → itemsOf f = split [] f
  enc_eq : ∀ l, (if u16 then widen l else l) = enc l
  enc_append : ∀ a b, enc (a ++ b) = enc a ++ enc b
  enc_lf : enc [10] = lf
  eol_len : eolLen u16 = (enc crlf).length
  keep : ∀ text tf r, isUtf16 (text ++ tf) = u16 → (u16 = true → 2 ≤ text.length) → isUtf16 (text ++ (enc crlf ++ r)) = u16

/-- UTF-8, more precisely: not UTF-16 with BOM -/
def mode8 : Mode where
  u16 := false
  split := lines8
  comp := comp8
  pend := pend8
  ok := fun _ => True
  enc := fun b => b
  lf := [10]
  append := fun cur a b _ => lines8_append cur a b
  join := comp8_join
  head := lines8_head
  nolf := lines8_nolf
  split_nil := fun _ => rfl
  items := fun f h => by simp [itemsOf, h]
  enc_eq := fun _ => rfl
  enc_append := fun _ _ => rfl
  enc_lf := rfl
  eol_len := rfl
  keep := fun text tf r h _ => isUtf16_text_crlf text tf r h

/-- UTF-16LE with BOM; a prefix must be a whole number of code units -/
def mode16 : Mode where
  u16 := true
  split := lines16
  comp := comp16
  pend := pend16
  ok := fun n => n % 2 = 0
  enc := widen
  lf := [10, 0]
  append := lines16_append
  join := comp16_join
  head := lines16_head
  nolf := lines16_nolf
  split_nil := fun _ => by simp [lines16]
  items := fun f h => by simp [itemsOf, h]
  enc_eq := fun _ => rfl
  enc_append := widen_append
  enc_lf := rfl
  eol_len := rfl
  keep := fun text tf r h h2 => (isUtf16_append text _ tf (h2 rfl)).trans h

/-- the mode of the encoding `detectUtf16` found.  The property theorems speak of the Boolean (`if u16 then widen x else x`);
    through `modeOf` they call the lemmas about a `Mode` once, not once per encoding. -/
def modeOf : Bool → Mode
  | true => mode16
  | false => mode8

theorem modeOf_u16 (b : Bool) : (modeOf b).u16 = b := by cases b <;> rfl

theorem modeOf_ok (b : Bool) (n : Nat) : (modeOf b).ok n ↔ (b = true → n % 2 = 0) := by
  cases b <;> simp [modeOf, mode8, mode16]

theorem modeOf_enc (b : Bool) (x : Bytes) : (modeOf b).enc x = if b then widen x else x := by
  rw [← (modeOf b).enc_eq, modeOf_u16]

variable (m : Mode)

theorem Mode.eol_pos : 0 < (m.enc crlf).length := by
  rw [← m.eol_len]
  unfold eolLen
  split <;> decide

theorem Mode.firstLine_eq (st en : Bytes) :
    firstLine st en m.u16 = m.enc (st ++ psBegin ++ en ++ [13]) ++ m.lf := by
  rw [← m.enc_lf, ← m.enc_append, firstLine, m.enc_eq]
  simp [crlf, List.append_assoc]

theorem Mode.crlf_eq : m.enc crlf = m.enc [13] ++ m.lf := by
  rw [← m.enc_lf, ← m.enc_append]
  rfl

theorem Mode.block_split (st en sig : Bytes) :
    block st en m.u16 sig = m.enc crlf ++ (firstLine st en m.u16 ++ m.enc (blockRest st en sig)) := by
  rw [firstLine, block, m.enc_eq, m.enc_eq, ← m.enc_append, ← m.enc_append]
  simp [blockRest, List.append_assoc]

theorem Mode.lines_marker (style : Nat) (st en : Bytes) (hs : styleOf style = some (st, en)) (cur rest : Bytes) :
    ∃ ph, m.split cur (firstLine st en m.u16 ++ rest) = .line (cur ++ firstLine st en m.u16) ph :: m.split [] rest := by
  rw [m.firstLine_eq, List.append_assoc, m.nolf cur _ rest (marker_nolf style st en hs), List.append_assoc cur]
  exact ⟨_, rfl⟩

theorem Mode.firstLine_split (st en : Bytes) : firstLine st en m.u16 = m.enc (st ++ psBegin ++ en) ++ m.enc crlf := by
  rw [← m.enc_append, firstLine, m.enc_eq]

/-- the last bytes of the begin-marker line are its CRLF: what fix F-ps-eol compares with -/
theorem Mode.firstLine_sfx (st en : Bytes) :
    (firstLine st en m.u16).drop ((firstLine st en m.u16).length - (m.enc crlf).length) = m.enc crlf := by
  rw [m.firstLine_split, List.length_append, Nat.add_sub_cancel, List.drop_left]

theorem Mode.enc_nil : m.enc [] = [] := by
  have := congrArg List.length (m.enc_append [] [])
  rw [List.append_nil, List.length_append] at this
  exact List.eq_nil_of_length_eq_zero (by omega)

theorem Mode.split_lf (cur r : Bytes) :
    m.split cur (m.lf ++ r) = .line (cur ++ m.lf) (cur.length + m.lf.length) :: m.split [] r := by
  have := m.nolf cur [] r (by simp)
  rwa [m.enc_nil, List.nil_append, List.append_nil] at this

/-- A script `DigestPS` accepts, cut at the end of the text it reports: the loop ran over the complete lines of the text,
    then the line the text ends in (`pend [] text ++ x`), then whatever follows. -/
theorem Mode.cut_text (f : Bytes) (style : Nat) (d : Digest) (st en : Bytes) (e : DigestPS f style = .ok d)
    (hs : styleOf style = some (st, en)) (hu : isUtf16 f = m.u16) (hok : m.ok d.textSize) :
    ∃ text tf x restf ph1, f = text ++ tf ∧ text.length = d.textSize ∧ (x = [] → restf = []) ∧ Good (m.comp [] text) ∧
      m.pend [] text <:+ text ∧ d.textSize = 0 + (joinItems (m.comp [] text)).length + (m.pend [] text).length ∧
      digestLoop true true (firstLine st en m.u16) m.u16 (m.enc crlf).length f.length
        (m.comp [] text ++ (.line (m.pend [] text ++ x) ph1 :: restf)) [] [] 0 0 = .ok (d.hashed, d.textSize, d.sigSize) := by
  have hz := (DigestPS_spec f style d e).sizes
  have hl := (DigestPS_loop f style st en d hs e).2.2
  rw [m.items f hu, hu, m.eol_len] at hl
  have hf : f = f.take d.textSize ++ f.drop d.textSize := (List.take_append_drop _ f).symm
  have hTl : (f.take d.textSize).length = d.textSize := by simp [List.length_take]; omega
  rw [hf, m.append _ _ _ (hTl.symm ▸ hok)] at hl
  obtain ⟨x, restf, ph1, hhead, hx⟩ := m.head (m.pend [] (f.take d.textSize)) (f.drop d.textSize)
  rw [hhead, ← hf] at hl
  obtain ⟨hj, hg⟩ := m.join [] (f.take d.textSize)
  simp only [List.nil_append] at hj
  have := congrArg List.length hj
  simp only [List.length_append] at this
  exact ⟨_, _, x, restf, ph1, hf, hTl, hx, hg, ⟨_, hj⟩, by omega, hl⟩

theorem Mode.lines_before_block (style : Nat) (st en : Bytes) (hs : styleOf style = some (st, en)) (text rest : Bytes)
    (hok : m.ok text.length) :
    ∃ ph2 ph3, m.split [] (text ++ (m.enc crlf ++ (firstLine st en m.u16 ++ rest))) =
      m.comp [] text ++ (.line (m.pend [] text ++ m.enc crlf) ph2 :: .line (firstLine st en m.u16) ph3 :: m.split [] rest) := by
  obtain ⟨ph3, h3⟩ := m.lines_marker style st en hs [] rest
  rw [m.append _ _ _ hok, m.crlf_eq, List.append_assoc, m.nolf _ [13] _ (by decide), h3, List.append_assoc]
  exact ⟨_, _, rfl⟩

/-- the side conditions under which the block `MakePatch` appends is found again behind the text of `f`, for the mode of
    `f`'s encoding: the text is aligned (and keeps its BOM), and its last line with the block's leading CRLF is no marker.
    `C08.NoFalseMarker f d st en` (Props) is this for `modeOf d.utf16`, written with `if d.utf16 then widen crlf else crlf`
    for `m.enc crlf` (`C08.NoFalseMarker.mode`); `C03.NoFalseMarker st en u16 text` is the last conjunct alone. -/
def Mode.Fits (f : Bytes) (d : Digest) (st en : Bytes) : Prop :=
  isUtf16 f = m.u16 ∧ m.ok d.textSize ∧ (m.u16 = true → 2 ≤ d.textSize) ∧
    ∀ l, l ++ m.enc crlf = firstLine st en m.u16 → ¬ l <:+ f.take d.textSize

/-- The text `DigestPS` reports for `f`, followed by CRLF, the begin marker line and ANY bytes (a block in whatever state:
    complete, truncated, LF-converted lines, trailing text), digests to the same text again. -/
theorem DigestPS_before_block (f : Bytes) (style : Nat) (d : Digest) (st en rest : Bytes) (e : DigestPS f style = .ok d)
    (hs : styleOf style = some (st, en)) (F : m.Fits f d st en) :
    ∃ d', DigestPS (f.take d.textSize ++ (m.enc crlf ++ (firstLine st en m.u16 ++ rest))) style = .ok d' ∧
      d'.hashed = d.hashed ∧ d'.textSize = d.textSize ∧ d'.utf16 = d.utf16 := by
  obtain ⟨hu, hok, h2, hnf⟩ := F
  have hdu := (DigestPS_loop f style st en d hs e).1
  obtain ⟨text, tf, x, restf, ph1, rfl, hTl, hx, hg, hsuf, hT, hl⟩ := m.cut_text f style d st en e hs hu hok
  rw [List.take_left' hTl] at hnf ⊢
  obtain ⟨ph2, ph3, hitems⟩ := m.lines_before_block style st en hs text rest (hTl.symm ▸ hok)
  obtain ⟨S', hrun⟩ := digestLoop_frame (firstLine st en m.u16) (m.enc crlf) m.u16 (text ++ tf).length
    (text ++ (m.enc crlf ++ (firstLine st en m.u16 ++ rest))).length m.eol_pos (m.pend [] text) x restf (m.split [] rest) ph1 ph2 ph3
    hx (fun hc => hnf _ hc hsuf) (m.firstLine_sfx st en) (m.comp [] text) _ _ _ hg hl (by rw [hT, Nat.zero_add])
  have hu' := m.keep text tf (firstLine st en m.u16 ++ rest) hu (fun h => hTl ▸ h2 h)
  refine ⟨⟨d.hashed, d.textSize, S', m.u16, style⟩, ?_, rfl, rfl, by rw [hdu, hu]⟩
  rw [DigestPS_eq_loop _ style st en hs, m.items _ hu', hu', m.eol_len, hitems, hrun]

/-- the signed script is the text `DigestPS` reports, a CRLF, the begin marker line and the rest of the block -/
theorem DigestPS_signed (f : Bytes) (style : Nat) (d : Digest) (st en sig : Bytes) (e : DigestPS f style = .ok d)
    (hs : styleOf style = some (st, en)) (F : m.Fits f d st en) :
    ∃ d', DigestPS (signedBytes f d st en sig) style = .ok d' ∧ d'.hashed = d.hashed ∧ d'.textSize = d.textSize ∧
      d'.utf16 = d.utf16 := by
  have hb : block st en d.utf16 sig = m.enc crlf ++ (firstLine st en m.u16 ++ m.enc (blockRest st en sig)) := by
    rw [(DigestPS_spec f style d e).utf16, F.1, m.block_split]
  rw [signedBytes, hb]
  exact DigestPS_before_block m f style d st en _ e hs F

end Relic.PS
