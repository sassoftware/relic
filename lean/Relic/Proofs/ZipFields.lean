/-
  Relic.Proofs.ZipFields — the fixed-layout records of lib/zipslicer by field: the end records read back out of their
  encoding, every field of a local and a central header, the records as lists of (width, value) fields (`encFields`), and
  the central header `GetDirectoryHeader` synthesises in that form; the ZIP64 field it puts in front of an extra block
  leaves the block well formed.
-/
import Relic.Proofs.ZipCodec
namespace Relic.Zip

def encFields : List (Nat × Nat) → Bytes
  | [] => []
  | (w, v) :: r => leBytes w v ++ encFields r

def fieldsLen : List (Nat × Nat) → Nat
  | [] => 0
  | (w, _) :: r => w + fieldsLen r

theorem encFields_length : ∀ fs, (encFields fs).length = fieldsLen fs
  | [] => rfl
  | (w, v) :: r => by simp [encFields, fieldsLen, encFields_length r]

/-- What the reader's `parseEnd` (and `parseEnd64`, `parseLoc64` below) makes of a record the writer encoded, whatever
    follows it: the record itself, every field reduced to its width.  A statement about a field of a written record is a
    projection of these equations. -/
theorem parseEnd_encEnd (e : EndRec) (rest : Bytes) :
    parseEnd (encEnd e ++ rest) = ⟨e.sig % 2 ^ 32, e.disk % 2 ^ 16, e.diskCD % 2 ^ 16, e.diskCount % 2 ^ 16, e.total % 2 ^ 16,
      e.cdSize % 2 ^ 32, e.cdOff % 2 ^ 32, e.commentLen % 2 ^ 16⟩ := by
  simp only [parseEnd, encEnd, List.append_assoc, fld_lb_head, fld_lb_skip, Nat.reduceLeDiff, Nat.reduceSub, Nat.reducePow]

theorem parseEnd64_encEnd64 (e : End64) (rest : Bytes) :
    parseEnd64 (encEnd64 e ++ rest) = ⟨e.sig % 2 ^ 32, e.recSize % 2 ^ 64, e.creator % 2 ^ 16, e.reader % 2 ^ 16, e.disk % 2 ^ 32,
      e.firstDisk % 2 ^ 32, e.diskCount % 2 ^ 64, e.total % 2 ^ 64, e.cdSize % 2 ^ 64, e.cdOff % 2 ^ 64⟩ := by
  simp only [parseEnd64, encEnd64, List.append_assoc, fld_lb_head, fld_lb_skip, Nat.reduceLeDiff, Nat.reduceSub, Nat.reducePow]

theorem parseLoc64_encLoc64 (l : Loc64) (rest : Bytes) :
    parseLoc64 (encLoc64 l ++ rest) = ⟨l.sig % 2 ^ 32, l.disk % 2 ^ 32, l.off % 2 ^ 64, l.diskCount % 2 ^ 32⟩ := by
  simp only [parseLoc64, encLoc64, List.append_assoc, fld_lb_head, fld_lb_skip, Nat.reduceLeDiff, Nat.reduceSub, Nat.reducePow]

theorem parseEnd_take (b : Bytes) : parseEnd (b.take 22) = parseEnd b := by
  simp only [parseEnd, fld_take b 22 20 2 (by omega), fld_take b 22 0 4 (by omega), fld_take b 22 4 2 (by omega),
    fld_take b 22 6 2 (by omega), fld_take b 22 8 2 (by omega), fld_take b 22 10 2 (by omega), fld_take b 22 12 4 (by omega),
    fld_take b 22 16 4 (by omega)]

theorem parseEnd64_take (b : Bytes) : parseEnd64 (b.take 56) = parseEnd64 b := by
  simp only [parseEnd64, fld_take b 56 48 8 (by omega), fld_take b 56 0 4 (by omega), fld_take b 56 4 8 (by omega),
    fld_take b 56 12 2 (by omega), fld_take b 56 14 2 (by omega), fld_take b 56 16 4 (by omega), fld_take b 56 20 4 (by omega),
    fld_take b 56 24 8 (by omega), fld_take b 56 32 8 (by omega), fld_take b 56 40 8 (by omega)]

theorem parseLoc64_take (b : Bytes) : parseLoc64 (b.take 20) = parseLoc64 b := by
  simp only [parseLoc64, fld_take b 20 16 4 (by omega), fld_take b 20 0 4 (by omega), fld_take b 20 4 4 (by omega),
    fld_take b 20 8 8 (by omega)]

theorem fld_encLfh (l : Lfh) (rest : Bytes) :
    fld (encLfh l ++ rest) 0 4 = sigFile ∧ fld (encLfh l ++ rest) 4 2 = l.reader % 2 ^ 16 ∧
    fld (encLfh l ++ rest) 6 2 = l.flags % 2 ^ 16 ∧ fld (encLfh l ++ rest) 8 2 = l.method % 2 ^ 16 ∧
    fld (encLfh l ++ rest) 10 2 = l.mtime % 2 ^ 16 ∧ fld (encLfh l ++ rest) 12 2 = l.mdate % 2 ^ 16 ∧
    fld (encLfh l ++ rest) 14 4 = l.crc % 2 ^ 32 ∧ fld (encLfh l ++ rest) 18 4 = l.csize % 2 ^ 32 ∧
    fld (encLfh l ++ rest) 22 4 = l.usize % 2 ^ 32 ∧ fld (encLfh l ++ rest) 26 2 = l.nameLen % 2 ^ 16 ∧
    fld (encLfh l ++ rest) 28 2 = l.extraLen % 2 ^ 16 := by
  simp only [encLfh, sigFile, List.append_assoc, fld_lb_head, fld_lb_skip, Nat.reduceLeDiff, Nat.reduceSub, Nat.reducePow,
    Nat.reduceMod, and_self]

/-- the 46 fixed bytes, given the values that go into the 32-bit size/offset fields, the version needed
    and the three lengths -/
def cdhFields (f : File) (rv cs us off nameLen extraLen commentLen : Nat) : List (Nat × Nat) :=
  [(4, sigDir), (2, f.creator), (2, rv), (2, f.flags), (2, f.method), (2, f.mtime), (2, f.mdate), (4, f.crc),
   (4, cs), (4, us), (2, nameLen), (2, extraLen), (2, commentLen), (2, 0), (2, f.iattrs), (4, f.eattrs), (4, off)]

theorem fld_cdh (f : File) (rv cs us off nl el cl : Nat) (rest : Bytes) :
    let h := encFields (cdhFields f rv cs us off nl el cl) ++ rest
    fld h 0 4 = sigDir ∧ fld h 4 2 = f.creator % 2 ^ 16 ∧ fld h 6 2 = rv % 2 ^ 16 ∧ fld h 8 2 = f.flags % 2 ^ 16 ∧
    fld h 10 2 = f.method % 2 ^ 16 ∧ fld h 12 2 = f.mtime % 2 ^ 16 ∧ fld h 14 2 = f.mdate % 2 ^ 16 ∧
    fld h 16 4 = f.crc % 2 ^ 32 ∧ fld h 20 4 = cs % 2 ^ 32 ∧ fld h 24 4 = us % 2 ^ 32 ∧ fld h 28 2 = nl % 2 ^ 16 ∧
    fld h 30 2 = el % 2 ^ 16 ∧ fld h 32 2 = cl % 2 ^ 16 ∧ fld h 36 2 = f.iattrs % 2 ^ 16 ∧
    fld h 38 4 = f.eattrs % 2 ^ 32 ∧ fld h 42 4 = off % 2 ^ 32 := by
  simp only [encFields, cdhFields, sigDir, List.append_assoc, List.nil_append, fld_lb_head, fld_lb_skip, Nat.reduceLeDiff,
    Nat.reduceSub, Nat.reducePow, Nat.reduceMod, and_self]

theorem cdh_length (f : File) (rv cs us off nl el cl : Nat) : (encFields (cdhFields f rv cs us off nl el cl)).length = 46 := by
  simp [encFields_length, cdhFields, fieldsLen]

/-- the decision `GetDirectoryHeader` takes when it synthesises a record -/
def synthBig (f : File) : Prop := f.csize ≥ u32Max ∨ f.usize ≥ u32Max ∨ f.offset ≥ u32Max
instance (f : File) : Decidable (synthBig f) := by unfold synthBig; infer_instance

/-- the ZIP64 extra field `GetDirectoryHeader` prepends -/
def z64Extra (us cs off : Nat) : Bytes := leBytes 2 1 ++ leBytes 2 24 ++ leBytes 8 us ++ leBytes 8 cs ++ leBytes 8 off

def synthExtra (f : File) : Bytes := if synthBig f then z64Extra f.usize f.csize f.offset ++ f.extra else f.extra

theorem z64Extra_length (us cs off : Nat) : (z64Extra us cs off).length = 28 := by simp [z64Extra]

/-- the field in front of a block, byte by byte: tag 1, size 24, the three values -/
theorem z64Extra_append (us cs off : Nat) (x : Bytes) :
    z64Extra us cs off ++ x = [1, 0] ++ ([24, 0] ++ (leBytes 8 us ++ leBytes 8 cs ++ leBytes 8 off ++ x)) := by
  have h1 : leBytes 2 1 = [1, 0] := by decide
  have h2 : leBytes 2 24 = [24, 0] := by decide
  simp [z64Extra, h1, h2]

theorem zip64Field_z64Extra (us cs off : Nat) (rest : Bytes) (fuel : Nat) (hf : fuel ≠ 0) :
    SpecZip.zip64Field fuel (z64Extra us cs off ++ rest) = some (leBytes 8 us ++ leBytes 8 cs ++ leBytes 8 off) := by
  obtain ⟨k, rfl⟩ : ∃ k, fuel = k + 1 := ⟨fuel - 1, by omega⟩
  unfold SpecZip.zip64Field
  have hl : ¬ (z64Extra us cs off ++ rest).length < 4 := by simp [z64Extra_length]; omega
  rw [if_neg hl]
  have e := z64Extra_append us cs off rest
  have t1 : leVal ((z64Extra us cs off ++ rest).take 2) = 1 := by
    rw [e, List.take_left' (by rfl)]; decide
  have t2 : leVal (((z64Extra us cs off ++ rest).drop 2).take 2) = 24 := by
    rw [e, List.drop_left' (by rfl), List.take_left' (by rfl)]; decide
  simp only [t1, t2]
  rw [if_neg (by simp [z64Extra_length]; omega)]
  simp only [↓reduceIte]
  rw [e, ← List.append_assoc, List.drop_left' (by rfl), List.take_left' (by simp)]

theorem getDirectoryHeader_synth (f : File) (hraw : f.raw = []) :
    (getDirectoryHeader f).1 =
      encFields (cdhFields f (if synthBig f then 45 else f.reader) (if synthBig f then u32Max else f.csize)
        (if synthBig f then u32Max else f.usize) (if synthBig f then u32Max else f.offset) f.name.length
        (synthExtra f).length f.comment.length) ++ (f.name ++ (synthExtra f ++ f.comment)) := by
  unfold getDirectoryHeader
  rw [if_neg (by simp [hraw])]
  by_cases hb : synthBig f
  · have hb' := hb
    unfold synthBig at hb'
    simp [encFields, cdhFields, synthExtra, hb, hb', z64Extra]
  · have hb' := hb
    unfold synthBig at hb'
    simp [encFields, cdhFields, synthExtra, hb, hb']

theorem extraWellFormed_succ : ∀ (fuel : Nat) (x : Bytes), x.length ≤ fuel →
    SpecZip.extraWellFormed (fuel + 1) x = SpecZip.extraWellFormed fuel x := by
  intro fuel
  induction fuel with
  | zero =>
    intro x hx
    have : x = [] := List.eq_nil_of_length_eq_zero (by omega)
    subst this
    simp [SpecZip.extraWellFormed]
  | succ fuel ih =>
    intro x hx
    rw [SpecZip.extraWellFormed, SpecZip.extraWellFormed]
    by_cases c1 : x.length < 4
    · rw [if_pos c1, if_pos c1]
    · rw [if_neg c1, if_neg c1]
      simp only
      by_cases c2 : x.length - 4 < leVal ((x.drop 2).take 2)
      · rw [if_pos c2, if_pos c2]
      · rw [if_neg c2, if_neg c2]
        exact ih _ (by rw [List.length_drop]; omega)

theorem extraWellFormed_fuel (x : Bytes) : ∀ (k : Nat), SpecZip.extraWellFormed (x.length + k) x = SpecZip.extraWellFormed x.length x := by
  intro k
  induction k with
  | zero => rfl
  | succ k ih => rw [← Nat.add_assoc, extraWellFormed_succ _ _ (by omega), ih]

theorem extraWellFormed_z64 (us cs off : Nat) (x : Bytes) (h : SpecZip.extraWellFormed x.length x = true) :
    SpecZip.extraWellFormed (z64Extra us cs off ++ x).length (z64Extra us cs off ++ x) = true := by
  have e := z64Extra_append us cs off x
  have hl : (z64Extra us cs off ++ x).length = (x.length + 27) + 1 := by simp [z64Extra_length]; omega
  rw [hl, SpecZip.extraWellFormed]
  have t2 : leVal (((z64Extra us cs off ++ x).drop 2).take 2) = 24 := by
    rw [e, List.drop_left' (by rfl), List.take_left' (by rfl)]; decide
  rw [if_neg (by simp [z64Extra_length]; omega)]
  simp only [t2]
  rw [if_neg (by simp [z64Extra_length]; omega)]
  have : (z64Extra us cs off ++ x).drop (4 + 24) = x := by
    rw [show 4 + 24 = (z64Extra us cs off).length by rw [z64Extra_length], List.drop_left]
  rw [this, extraWellFormed_fuel, h]

end Relic.Zip
