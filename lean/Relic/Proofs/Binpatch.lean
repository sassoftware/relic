/- `Relic.Model.Binpatch` (C12): `Add` / `build` keep the meaning `sem` and constructibility; `copy`, the one expression that
   the rewrite loop, `sem` and the in-place strategy (its writes, then `Truncate`) all put out for a constructible list;
   `Dump` sorts by offset with an unstable sort: why that cannot matter -/
import Relic.Model.Binpatch
import Relic.Model.PE
import Relic.Proofs.Splice
import Relic.Proofs.InsertSort
namespace Relic.Binpatch

theorem wfFrom_append (n pos : Nat) (xs ys : List Patch) :
    wfFrom n pos (xs ++ ys) = (wfFrom n pos xs && wfFrom n (endPos pos xs) ys) := by
  induction xs generalizing pos with
  | nil => simp [wfFrom, endPos]
  | cons p ps ih => simp [wfFrom, endPos, ih, Bool.and_assoc]

theorem endPos_append (pos : Nat) (xs ys : List Patch) :
    endPos pos (xs ++ ys) = endPos (endPos pos xs) ys := by
  induction xs generalizing pos with
  | nil => simp [endPos]
  | cons p ps ih => simp [endPos, ih]

theorem endPos_le (n pos : Nat) (ps : List Patch) (hp : pos ≤ n) (w : wfFrom n pos ps = true) :
    endPos pos ps ≤ n ∧ pos ≤ endPos pos ps := by
  induction ps generalizing pos with
  | nil => simp [endPos]; exact hp
  | cons p ps ih =>
    simp [wfFrom] at w
    have := ih (p.off + p.old) w.1.2 w.2
    simp [endPos]; omega

theorem sem_append (f : Bytes) (ps qs : List Patch) : sem f (ps ++ qs) = sem (sem f qs) ps := by
  simp [sem, List.foldr_append]

theorem sem_cons (f : Bytes) (p : Patch) (ps : List Patch) :
    sem f (p :: ps) = splice (sem f ps) p.off p.old p.blob := rfl

theorem le_length_sem (f : Bytes) (k : Nat) (ps : List Patch) (hk : k ≤ f.length)
    (w : wfFrom f.length k ps = true) : k ≤ (sem f ps).length := by
  induction ps generalizing k with
  | nil => simpa [sem] using hk
  | cons p ps ih =>
    simp [wfFrom] at w
    have h2 := ih (p.off + p.old) w.1.2 w.2
    rw [sem_cons, splice_length _ _ h2]
    omega

theorem addSplit_small (M off old : Nat) (blob : Bytes) (h : old ≤ M) : addSplit M off old blob = [⟨off, old, blob⟩] := by
  rw [addSplit, dif_neg (by omega)]

theorem sem_addSplit (M : Nat) (f : Bytes) (off old : Nat) (blob : Bytes) (h : off + old ≤ f.length) :
    sem f (addSplit M off old blob) = splice f off old blob := by
  induction old using Nat.strongRecOn generalizing off with
  | _ old ih =>
    rw [addSplit]
    split
    · rename_i hc
      rw [sem_cons, ih (old - M) (by omega) (off + M) (by omega)]
      have := splice_splice_adj f off M (old - M) [] blob (by omega)
      simp only [List.nil_append] at this
      rw [this]
      congr 1; omega
    · simp [sem]

theorem sem_add (M : Nat) (f : Bytes) (ps : List Patch) (c : Patch) (h : c.off + c.old ≤ f.length) :
    sem f (add M ps c) = sem (splice f c.off c.old c.blob) ps := by
  rcases List.eq_nil_or_concat ps with rfl | ⟨init, l, rfl⟩
  · have := sem_addSplit M f c.off c.old c.blob h
    simpa [add, sem] using this
  · simp only [List.concat_eq_append]
    unfold add
    simp only [List.getLast?_concat, List.dropLast_concat]
    split
    · rename_i hc
      rw [sem_append, sem_append]
      congr 1
      simp only [sem, List.foldr]
      rw [hc.1, splice_splice_adj f l.off l.old c.old l.blob c.blob (by omega)]
    · rw [sem_append, sem_addSplit M f _ _ _ h]

theorem sem_foldl_add (M : Nat) (f : Bytes) (pos : Nat) (cs acc : List Patch)
    (w : wfFrom f.length pos cs = true) :
    sem f (cs.foldl (add M) acc) = sem (sem f cs) acc := by
  induction cs generalizing pos acc with
  | nil => simp [sem]
  | cons c cs ih =>
    simp [wfFrom] at w
    simp only [List.foldl_cons]
    rw [ih (c.off + c.old) (add M acc c) w.2]
    rw [sem_add M (sem f cs) acc c (le_length_sem f _ cs w.1.2 w.2)]
    rfl

theorem sem_build (M : Nat) (f : Bytes) (cs : List Patch) (w : wfFrom f.length 0 cs = true) :
    sem f (build M cs) = sem f cs := by
  unfold build
  rw [sem_foldl_add M f 0 cs [] w]
  simp [sem]

theorem wf_addSplit (M n pos off old : Nat) (blob : Bytes) (h1 : pos ≤ off) (h2 : off + old ≤ n) :
    wfFrom n pos (addSplit M off old blob) = true ∧ endPos pos (addSplit M off old blob) = off + old := by
  induction old using Nat.strongRecOn generalizing pos off with
  | _ old ih =>
    rw [addSplit]
    split
    · rename_i hc
      have := ih (old - M) (by omega) (off + M) (off + M) (Nat.le_refl _) (by omega)
      simp [wfFrom, endPos, this.1, this.2]
      omega
    · simp [wfFrom, endPos]; omega

theorem endPos_concat (pos : Nat) (xs : List Patch) (l : Patch) : endPos pos (xs ++ [l]) = l.off + l.old := by
  rw [endPos_append]; simp [endPos]

theorem wf_add (M n : Nat) (acc : List Patch) (c : Patch) (w : wfFrom n 0 acc = true)
    (h1 : endPos 0 acc ≤ c.off) (h2 : c.off + c.old ≤ n) :
    wfFrom n 0 (add M acc c) = true ∧ endPos 0 (add M acc c) = c.off + c.old := by
  rcases List.eq_nil_or_concat acc with rfl | ⟨init, l, rfl⟩
  · simp only [add, List.getLast?_nil, List.nil_append]
    exact wf_addSplit M n 0 c.off c.old c.blob (Nat.zero_le _) h2
  · simp only [List.concat_eq_append] at *
    unfold add
    simp only [List.getLast?_concat, List.dropLast_concat]
    rw [wfFrom_append] at w
    simp [wfFrom] at w
    split
    · rename_i hc
      rw [wfFrom_append, endPos_concat]
      simp [wfFrom, w.1, w.2.1]
      omega
    · rw [endPos_concat] at h1
      have := wf_addSplit M n (l.off + l.old) c.off c.old c.blob h1 h2
      rw [wfFrom_append, wfFrom_append, endPos_append (xs := init ++ [l]), endPos_concat]
      simp only [wfFrom]
      simp [w.1, w.2.1, w.2.2, this.1, this.2]

theorem wf_foldl_add (M n : Nat) (cs acc : List Patch) (w : wfFrom n 0 acc = true)
    (wc : wfFrom n (endPos 0 acc) cs = true) : wfFrom n 0 (cs.foldl (add M) acc) = true := by
  induction cs generalizing acc with
  | nil => simpa using w
  | cons c cs ih =>
    simp [wfFrom] at wc
    have := wf_add M n acc c w wc.1.1 wc.1.2
    simp only [List.foldl_cons]
    apply ih _ this.1
    rw [this.2]; exact wc.2

theorem wf_build (M n : Nat) (cs : List Patch) (w : wfFrom n 0 cs = true) : wfFrom n 0 (build M cs) = true :=
  wf_foldl_add M n cs [] rfl (by simpa [endPos] using w)

/-- What the copy–skip–write loop puts out from read position `pos` on, for a constructible list: the stretch up to the
    next patch, its blob, and so on, then the rest of the file.  Naming it makes the loop's result and the reference
    `sem` two equations about one expression; a format's signed file is this expression written out for its patch.  The stretches are
    spelled with `PE.seg` because `sem_makePatch` of PE and CAB and `Xap.sem_thePatch` simplify with the `seg` lemmas. -/
def copy (f : Bytes) : Nat → List Patch → Bytes
  | pos, [] => f.drop pos
  | pos, p :: ps => PE.seg f pos p.off ++ p.blob ++ copy f (p.off + p.old) ps

theorem rewriteLoop_copy (f : Bytes) (pos : Nat) (ps : List Patch) (w : wfFrom f.length pos ps = true) :
    rewriteLoop f pos ps = .ok (copy f pos ps) := by
  induction ps generalizing pos with
  | nil => rfl
  | cons p ps ih =>
    simp only [wfFrom, Bool.and_eq_true, decide_eq_true_eq] at w
    rw [rewriteLoop, if_neg (by omega), if_neg (by omega), ih _ w.2]
    rfl

theorem sem_copy (f : Bytes) (pos : Nat) (ps : List Patch) (w : wfFrom f.length pos ps = true) :
    sem f ps = f.take pos ++ copy f pos ps := by
  induction ps generalizing pos with
  | nil => exact (List.take_append_drop pos f).symm
  | cons p ps ih =>
    simp only [wfFrom, Bool.and_eq_true, decide_eq_true_eq] at w
    have hl : (f.take (p.off + p.old)).length = p.off + p.old := by rw [List.length_take]; omega
    -- the later patches leave the file up to the end of this range alone; patching that part gives what was copied
    -- so far, the stretch up to the patch, and the blob
    have e : f.take p.off = f.take pos ++ (f.drop pos).take (p.off - pos) := by
      rw [← List.take_add, Nat.add_sub_cancel' w.1.1]
    rw [sem_cons, ih _ w.2, splice_append_left _ _ (by omega), copy]
    unfold splice PE.seg
    rw [List.take_take, Nat.min_eq_left (Nat.le_add_right ..), List.drop_of_length_le (by omega), List.append_nil, e]
    simp only [List.append_assoc]

theorem applyRewrite_sem (f : Bytes) (ps : List Patch) (w : wfFrom f.length 0 ps = true) :
    applyRewrite f ps = .ok (sem f ps) := by
  rw [applyRewrite, rewriteLoop_copy f 0 ps w, sem_copy f 0 ps w]
  rfl

theorem applyRewrite_build (M : Nat) (f : Bytes) (cs : List Patch) (h : wfFrom f.length 0 cs = true) :
    applyRewrite f (build M cs) = .ok (sem f cs) := by
  rw [applyRewrite_sem f _ (wf_build M f.length cs h), sem_build M f cs h]

theorem copy_congr {g g' : Bytes} {n pos : Nat} {ps : List Patch} (h : g.drop pos = g'.drop pos)
    (w : wfFrom n pos ps = true) : copy g pos ps = copy g' pos ps := by
  induction ps generalizing pos with
  | nil => exact h
  | cons p ps ih =>
    simp only [wfFrom, Bool.and_eq_true, decide_eq_true_eq] at w
    have h' : g.drop (p.off + p.old) = g'.drop (p.off + p.old) := by
      rw [show p.off + p.old = pos + (p.off + p.old - pos) by omega, ← List.drop_drop, ← List.drop_drop, h]
    rw [copy, copy, ih h' w.2, PE.seg, PE.seg, h]

theorem writeAt_same (g : Bytes) (off : Nat) (b : Bytes) (h : off + b.length ≤ g.length) :
    writeAt g off b = splice g off b.length b := by
  unfold writeAt splice
  by_cases he : b.isEmpty
  · simp at he; subst he; simp
  · have : off - g.length = 0 := by omega
    simp [he, this]

/-- a last write that ends the file, then `Truncate` to its end -/
theorem truncate_writeAt (g : Bytes) (off : Nat) (b : Bytes) (h : off ≤ g.length) :
    truncate (writeAt g off b) (off + b.length) = g.take off ++ b := by
  have hl : (g.take off ++ b).length = off + b.length := by simp [List.length_take, Nat.min_eq_left h]
  unfold writeAt truncate
  by_cases he : b.isEmpty
  · simp at he; subst he
    simp [Nat.sub_eq_zero_of_le h]
  · rw [if_neg he, Nat.sub_eq_zero_of_le h, List.replicate_zero, List.append_nil, List.take_left' hl]
    simp [List.length_take, Nat.min_eq_left h]

theorem inplace_copy (ps : List Patch) : ∀ (g : Bytes) (pos size : Nat),
    wfFrom g.length pos ps = true → inPlaceSize g.length ps g.length = some size →
    applyInPlace g ps size = g.take pos ++ copy g pos ps := by
  induction ps with
  | nil =>
    intro g pos size _ hs
    cases hs
    simp [applyInPlace, truncate, copy]
  | cons p ps ih =>
    intro g pos size w hs
    simp only [wfFrom, Bool.and_eq_true, decide_eq_true_eq] at w
    have e : g.take p.off = g.take pos ++ PE.seg g pos p.off := by
      rw [PE.seg, ← List.take_add, Nat.add_sub_cancel' w.1.1]
    rw [inPlaceSize] at hs
    by_cases hsame : p.old = p.blob.length
    · -- a size-preserving write: the file keeps its length, and its part behind the patch
      rw [if_pos hsame] at hs
      have hr : p.off + p.blob.length ≤ g.length := by omega
      have hg : writeAt g p.off p.blob = g.take p.off ++ p.blob ++ g.drop (p.off + p.old) := by
        rw [writeAt_same g p.off p.blob hr, hsame]; rfl
      have hl : (writeAt g p.off p.blob).length = g.length := by
        rw [writeAt_same g p.off p.blob hr, splice_length _ _ hr]; omega
      have ht : (g.take p.off ++ p.blob).length = p.off + p.old := by
        simp [List.length_take]; omega
      have := ih (writeAt g p.off p.blob) (p.off + p.old) size (by rw [hl]; exact w.2) (by rw [hl]; exact hs)
      rw [applyInPlace, List.foldl_cons, ← applyInPlace, this, copy,
        copy_congr (g' := g) (by rw [hg, List.drop_left' ht]) w.2, hg, List.take_left' ht, e]
      simp only [List.append_assoc]
    · -- the last patch, reaching the end of the file
      rw [if_neg hsame] at hs
      cases ps with
      | cons q qs => simp at hs
      | nil =>
        by_cases he : p.off + p.old = g.length
        · simp [he, inPlaceSize] at hs
          subst hs
          rw [applyInPlace, List.foldl_cons, List.foldl_nil, truncate_writeAt g p.off p.blob (by omega), copy, copy, he,
            List.drop_length, List.append_nil, e]
          simp only [List.append_assoc]
        · simp [he] at hs

theorem inplace_spec (ps : List Patch) (g : Bytes) (pos size : Nat)
    (w : wfFrom g.length pos ps = true) (hs : inPlaceSize g.length ps g.length = some size) :
    applyInPlace g ps size = sem g ps := by
  rw [inplace_copy ps g pos size w hs, sem_copy g pos ps w]

/-- `sortByOff` is the insertion sort of `Relic.InsertSort`: `insertByOff p` walks past the patches that start before `p` -/
theorem sortByOff_insertSort : InsertSort (fun p q => !decide (p.off ≤ q.off)) insertByOff sortByOff :=
  ⟨⟨fun _ => rfl, fun p q qs => by by_cases h : p.off ≤ q.off <;> simp [insertByOff, h]⟩, rfl, fun _ _ => rfl⟩

theorem sortByOff_perm (ps : List Patch) : (sortByOff ps).Perm ps :=
  sortByOff_insertSort.sort_perm ps

theorem sortByOff_sorted (ps : List Patch) : (sortByOff ps).Pairwise (fun a b => a.off ≤ b.off) := by
  refine sortByOff_insertSort.sort_pairwise (R := fun a b => a.off ≤ b.off) (C := fun _ _ => True)
    (fun _ _ _ => Nat.le_trans) ?_ ps
    (List.pairwise_of_forall fun _ _ => trivial)
  intro p q _
  by_cases h : p.off ≤ q.off <;> simp [h]
  omega

theorem strict_of_sorted_nodup (ps : List Patch) (h : ps.Pairwise (fun a b => a.off ≤ b.off))
    (nd : (ps.map (·.off)).Nodup) : ps.Pairwise (fun a b => a.off < b.off) := by
  induction ps with
  | nil => exact List.Pairwise.nil
  | cons p ps ih =>
    rw [List.pairwise_cons] at h ⊢
    simp only [List.map_cons, List.nodup_cons] at nd
    refine ⟨?_, ih h.2 nd.2⟩
    intro b hb
    have := h.1 b hb
    have ne : p.off ≠ b.off := by
      intro e
      exact nd.1 (List.mem_map.mpr ⟨b, hb, e.symm⟩)
    omega

theorem sortByOff_id (n pos : Nat) (ps : List Patch) (w : wfFrom n pos ps = true) : sortByOff ps = ps := by
  induction ps generalizing pos with
  | nil => rfl
  | cons p ps ih =>
    simp [wfFrom] at w
    show insertByOff p (sortByOff ps) = p :: ps
    rw [ih _ w.2]
    cases ps with
    | nil => rfl
    | cons q qs =>
      simp [wfFrom] at w
      have : p.off ≤ q.off := by omega
      simp [insertByOff, this]

end Relic.Binpatch
