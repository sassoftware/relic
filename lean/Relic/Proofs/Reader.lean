/-
  Relic.Proofs.Reader — the primitives of the reader calculus observe only the logical content of the stream.
  `read_spec` is the io.Reader contract of `Stream.read`; every loop is then characterised by the whole buffer, by an
  induction on its fuel whose step is one read and the law of the flat function for a delivered prefix.
-/
import Relic.Model.Reader
namespace Relic.Rd

namespace Stream

theorem lead_le_maxRun (l : List Bytes) : lead l ≤ maxRun l := by
  cases l with
  | nil => simp [lead, maxRun]
  | cons c r => simp only [maxRun]; omega

theorem maxRun_tail (c : Bytes) (r : List Bytes) : maxRun r ≤ maxRun (c :: r) := by
  simp only [maxRun]; omega

theorem maxRun_head_nonempty (c c' : Bytes) (r : List Bytes) (h : c' ≠ []) :
    maxRun (c' :: r) ≤ maxRun (c :: r) := by
  have : lead (c' :: r) = 0 := by
    simp only [lead]
    cases c' with
    | nil => exact absurd rfl h
    | cons _ _ => simp
  simp only [maxRun, this]; omega

/-- `s'` is what remains of `s` after some reads (an order on streams; what was read is not part of it) -/
structure After (s' s : Stream) : Prop where
  term : s'.term = s.term
  run : maxRun s'.chunks ≤ maxRun s.chunks
  wt : wt s'.chunks ≤ wt s.chunks
  plain : s.Plain → s'.Plain

theorem After.refl (s : Stream) : After s s := ⟨rfl, Nat.le_refl _, Nat.le_refl _, id⟩

theorem After.trans {s'' s' s : Stream} (h2 : After s'' s') (h1 : After s' s) : After s'' s :=
  ⟨h2.term.trans h1.term, Nat.le_trans h2.run h1.run, Nat.le_trans h2.wt h1.wt, fun h => h2.plain (h1.plain h)⟩

/-- the contract of one `Read` -/
structure ReadOk (s : Stream) (k : Nat) (out : Bytes) (e : Option Term) (s' : Stream) : Prop where
  data : out ++ s'.data = s.data
  after : After s' s
  len : out.length ≤ k
  err : ∀ t, e = some t → t = s.term ∧ s'.chunks = []
  wtlt : e = none → 0 < k → wt s'.chunks < wt s.chunks
  wtout : wt s'.chunks + out.length ≤ wt s.chunks
  stall : e = none → out = [] → 0 < k → lead s'.chunks < lead s.chunks

/-- the contract holds: the three cases of `read` (no chunk left, the chunk fits, the chunk is cut at `k`) -/
theorem read_spec (s : Stream) (k : Nat) : ReadOk s k (s.read k).1 (s.read k).2.1 (s.read k).2.2 := by
  obtain ⟨chunks, term, eager⟩ := s
  cases chunks with
  | nil =>
    simp only [read]
    exact ⟨by simp [data], After.refl _, by simp, fun t h => by simp at h; exact ⟨h.symm, rfl⟩,
      by simp, by simp, by simp⟩
  | cons c rest =>
    simp only [read]
    by_cases hc : c.length ≤ k
    · simp only [hc, if_true]
      refine ⟨by simp [data], ⟨rfl, maxRun_tail c rest, by simp only [wt]; omega,
        fun hp => ⟨fun x hx => hp.1 x (List.mem_cons_of_mem _ hx), hp.2⟩⟩, hc, ?_, ?_, ?_, ?_⟩
      · intro t h
        by_cases hr : (rest.isEmpty && eager) = true
        · simp only [hr, if_true, Option.some.injEq] at h
          simp only [Bool.and_eq_true, List.isEmpty_iff] at hr
          exact ⟨h.symm, hr.1⟩
        · simp [hr] at h
      · intro _ _; simp only [wt]; omega
      · simp only [wt]; omega
      · intro _ hout _
        subst hout
        simp [lead]
    · simp only [hc, if_false]
      have hne : c.drop k ≠ [] := by
        intro h
        have := congrArg List.length h
        simp at this; omega
      refine ⟨by simp [data, ← List.append_assoc], ⟨rfl, maxRun_head_nonempty c _ rest hne, ?_, ?_⟩, by simp; omega,
        by simp, ?_, ?_, ?_⟩
      · simp only [wt, List.length_drop]; omega
      · intro hp
        refine ⟨fun x hx => ?_, hp.2⟩
        simp only [List.mem_cons] at hx
        rcases hx with hx | hx
        · rw [hx]; exact hne
        · exact hp.1 x (List.mem_cons_of_mem _ hx)
      · intro _ hk0; simp only [wt, List.length_drop]; omega
      · simp only [wt, List.length_drop, List.length_take]; omega
      · intro _ hout hk0
        have := congrArg List.length hout
        rw [List.length_take] at this
        simp only [List.length_nil] at this
        omega

theorem ReadOk.last {s : Stream} {k : Nat} {out : Bytes} {t : Term} {s' : Stream} (h : ReadOk s k out (some t) s') :
    t = s.term ∧ s'.data = [] := by
  obtain ⟨ht, hnil⟩ := h.err t rfl
  exact ⟨ht, by rw [Stream.data, hnil, List.flatten_nil]⟩

theorem read_cases (s : Stream) (k : Nat) :
    (∃ s', s.read k = (s.data, some s.term, s') ∧ s'.data = [] ∧ ReadOk s k s.data (some s.term) s') ∨
    (∃ out s', s.read k = (out, none, s') ∧ ReadOk s k out none s') := by
  have hr := read_spec s k
  generalize s.read k = r at hr
  obtain ⟨out, e, s'⟩ := r
  cases e with
  | none => exact .inr ⟨out, s', rfl, hr⟩
  | some t =>
    obtain ⟨rfl, hs'⟩ := hr.last
    obtain rfl : out = s.data := by rw [← hr.data, hs', List.append_nil]
    exact .inl ⟨s', rfl, hs', hr⟩

end Stream

open Relic.Rd.Stream

/-- `io.Copy` / `io.CopyN` and `io.ReadFull` are both specified by `flatCopy`; their inductions rest on how `flatCopy` treats a
    prefix that a `Read` has delivered: it takes it, within the limit, and goes on behind it. -/
theorem flatCopy_append (rem : Option Nat) (out d : Bytes) (t : Term) (h : ∀ n, rem = some n → out.length ≤ n) :
    flatCopy rem ⟨out ++ d, t, none⟩ =
      (out ++ (flatCopy (rem.map (· - out.length)) ⟨d, t, none⟩).1, (flatCopy (rem.map (· - out.length)) ⟨d, t, none⟩).2.1,
        (flatCopy (rem.map (· - out.length)) ⟨d, t, none⟩).2.2) := by
  cases rem with
  | none => simp [flatCopy]
  | some n =>
    have hn := h n rfl
    simp only [flatCopy, Option.map_some, List.length_append]
    by_cases hle : n ≤ out.length + d.length
    · rw [if_pos hle, if_pos (by omega), List.take_append, List.drop_append, List.take_of_length_le hn,
        List.drop_eq_nil_of_le hn, List.nil_append]
    · rw [if_neg hle, if_neg (by omega)]

theorem flatCopy_zero (f : Flat) : flatCopy (some 0) f = ([], .limit, f) := by simp [flatCopy]

theorem flatCopy_nil (rem : Option Nat) (t : Term) (h : rem ≠ some 0) :
    flatCopy rem ⟨[], t, none⟩ = ([], .src t, ⟨[], t, none⟩) := by
  cases rem with
  | none => rfl
  | some n => have : ¬ n ≤ 0 := fun h0 => h (by rw [Nat.le_zero.mp h0]); simp [flatCopy, this]

theorem copyLoop_spec (sched : Sched) (fuel : Nat) (rem : Option Nat) (hist : List Nat) (acc : Bytes) (s : Stream)
    (hf : wt s.chunks < fuel) :
    (copyLoop sched fuel rem hist acc s).1 = acc ++ (flatCopy rem ⟨s.data, s.term, none⟩).1 ∧
    (copyLoop sched fuel rem hist acc s).2.1 = (flatCopy rem ⟨s.data, s.term, none⟩).2.1 ∧
    (copyLoop sched fuel rem hist acc s).2.2.data = (flatCopy rem ⟨s.data, s.term, none⟩).2.2.data ∧
    After (copyLoop sched fuel rem hist acc s).2.2 s := by
  induction fuel generalizing rem hist acc s with
  | zero => omega
  | succ fuel ih =>
    rw [copyLoop]
    by_cases h0 : rem = some 0
    · rw [if_pos h0, h0, flatCopy_zero]
      exact ⟨(List.append_nil _).symm, rfl, rfl, After.refl s⟩
    rw [if_neg h0]
    dsimp only
    -- the buffer offered is not empty and lies within the limit
    generalize hrd : s.read _ = r
    obtain ⟨k, hrd, hkpos, hkn⟩ : ∃ k, s.read k = r ∧ 0 < k ∧ ∀ n, rem = some n → k ≤ n := by
      refine ⟨_, hrd, ?_, ?_⟩
      · cases rem with
        | none => dsimp only; omega
        | some n => have : n ≠ 0 := fun h => h0 (by rw [h]); dsimp only; omega
      · rintro n rfl; dsimp only; omega
    have hr := hrd ▸ read_spec s k
    obtain ⟨out, e, s'⟩ := r
    dsimp only at hr ⊢
    -- on the whole buffer: the bytes delivered, then the copy of the rest
    have hfl := flatCopy_append rem out s'.data s.term fun n hn => Nat.le_trans hr.len (hkn n hn)
    rw [hr.data] at hfl
    rw [hfl]
    by_cases hz : rem.map (· - out.length) = some 0
    · rw [if_pos hz, hz, flatCopy_zero]
      exact ⟨by rw [List.append_nil], rfl, rfl, hr.after⟩
    rw [if_neg hz]
    cases e with
    | some t =>
      obtain ⟨rfl, hs'⟩ := hr.last
      rw [hs', flatCopy_nil _ _ hz]
      exact ⟨by rw [List.append_nil], rfl, rfl, hr.after⟩
    | none =>
      obtain ⟨i1, i2, i3, i4⟩ := ih (rem.map (· - out.length)) (out.length :: hist) (acc ++ out) s'
        (by have := hr.wtlt rfl hkpos; omega)
      rw [hr.after.term] at i1 i2 i3
      exact ⟨by rw [i1, List.append_assoc], i2, i3, i4.trans hr.after⟩

theorem copy_spec (lim : Option Nat) (sched : Sched) (s : Stream) :
    (copy lim sched s).1 = (flatCopy lim ⟨s.data, s.term, none⟩).1 ∧
    (copy lim sched s).2.1 = (flatCopy lim ⟨s.data, s.term, none⟩).2.1 ∧
    (copy lim sched s).2.2.data = (flatCopy lim ⟨s.data, s.term, none⟩).2.2.data ∧
    After (copy lim sched s).2.2 s := by
  have h := copyLoop_spec sched (wt s.chunks + 1) lim [] [] s (by omega)
  simpa [copy] using h

/-- what `io.ReadFull` makes of the outcome of the copy it is -/
def rfOf (acc : Bytes) (r : Bytes × End × Flat) : RF :=
  match r.2.1 with
  | .limit => .ok (acc ++ r.1)
  | .src t => .short (acc ++ r.1) t

/-- `io.ReadFull(r, buf)` gathers like `io.CopyN` with the rest of `buf` as the limit -/
theorem readFullLoop_spec (fuel n : Nat) (acc : Bytes) (s : Stream) (hf : wt s.chunks < fuel) :
    (readFullLoop fuel n acc s).1 = rfOf acc (flatCopy (some (n - acc.length)) ⟨s.data, s.term, none⟩) ∧
    (readFullLoop fuel n acc s).2.data = (flatCopy (some (n - acc.length)) ⟨s.data, s.term, none⟩).2.2.data ∧
    After (readFullLoop fuel n acc s).2 s := by
  induction fuel generalizing acc s with
  | zero => omega
  | succ fuel ih =>
    rw [readFullLoop]
    by_cases hn : n ≤ acc.length
    · rw [if_pos hn, Nat.sub_eq_zero_of_le hn, flatCopy_zero]
      exact ⟨by simp [rfOf], rfl, After.refl s⟩
    rw [if_neg hn]
    rcases read_cases s (n - acc.length) with ⟨s', h, hs', hm⟩ | ⟨out, s', h, hm⟩ <;> rw [h] <;> dsimp only
    · have hfl := flatCopy_append (some (n - acc.length)) s.data [] s.term fun m h => by cases h; exact hm.len
      rw [List.append_nil] at hfl
      rw [hfl, Option.map_some, List.length_append]
      by_cases hz : n ≤ acc.length + s.data.length
      · rw [if_pos hz, Nat.sub_eq_zero_of_le (by omega), flatCopy_zero]
        exact ⟨by simp [rfOf], hs', hm.after⟩
      · rw [if_neg hz, flatCopy_nil _ _ (by simp; omega)]
        exact ⟨by simp [rfOf], hs', hm.after⟩
    · have hfl := flatCopy_append (some (n - acc.length)) out s'.data s.term fun m h => by cases h; exact hm.len
      rw [hm.data] at hfl
      obtain ⟨i1, i2, i3⟩ := ih (acc ++ out) s' (by have := hm.wtlt rfl (by omega); omega)
      rw [hm.after.term, List.length_append, Nat.sub_add_eq] at i1 i2
      rw [hfl, i1]
      exact ⟨by simp [rfOf, List.append_assoc], i2, i3.trans hm.after⟩

theorem cutAt_append (d : UInt8) (a b : Bytes) :
    cutAt d (a ++ b) = match cutAt d a with
      | some (l, r) => some (l, r ++ b)
      | none => (cutAt d b).map fun p => (a ++ p.1, p.2) := by
  induction a with
  | nil => cases h : cutAt d b <;> simp [cutAt, h]
  | cons x r ih =>
    simp only [cutAt, List.cons_append]
    by_cases hx : x = d
    · rw [if_pos hx, if_pos hx]
    · rw [if_neg hx, if_neg hx, ih]
      cases cutAt d r with
      | some p => rfl
      | none => cases cutAt d b <;> rfl

theorem cutAt_some {d : UInt8} {a l r : Bytes} (h : cutAt d a = some (l, r)) : l ≠ [] ∧ l ++ r = a := by
  induction a generalizing l with
  | nil => cases h
  | cons x t ih =>
    rw [cutAt] at h
    by_cases hx : x = d
    · rw [if_pos hx] at h
      cases h
      exact ⟨List.cons_ne_nil _ _, rfl⟩
    · rw [if_neg hx] at h
      cases hc : cutAt d t with
      | none => rw [hc] at h; cases h
      | some q =>
        rw [hc] at h
        cases h
        exact ⟨List.cons_ne_nil _ _, congrArg (x :: ·) (ih hc).2⟩

end Relic.Rd
