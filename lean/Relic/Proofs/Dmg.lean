/- the UDIF trailer codec, `dmg.Open` on an image that ends in a written trailer, the image `dmg.Sign` writes and `Sign` on
   it again; the planning of `Sign` in closed form, the guards of the repaired `Sign` as a predicate; a small concrete image
   for the non-vacuity examples.  `toI64` (a uint64 bit pattern read as int64) is `Relic.CodeDir.toI64` of `Model/CodeDir`;
   `sl`, `zeros`, `u64` are the model's own (`Model/Xar` has identical copies, with their lemmas under `Relic.Xar`). -/
import Relic.Model.Dmg
import Relic.Proofs.Codec
import Relic.Proofs.Res
import Relic.Proofs.Splice
namespace Relic.Dmg
open Relic.CodeDir

theorem sl_length (b : Bytes) (off n : Nat) (h : off + n ≤ b.length) : (sl b off n).length = n := by
  simp only [sl, List.length_take, List.length_drop]; omega

theorem sl_append_adj (t : Bytes) (a n m : Nat) : sl t a n ++ sl t (a + n) m = sl t a (n + m) :=
  take_drop_append t a n m

theorem sl_getElem? (t : Bytes) (a n i : Nat) (h : i < n) : (sl t a n)[i]? = t[a + i]? :=
  (getElem?_take_drop t a n i).trans (if_pos h)

theorem sl_sl (t : Bytes) (a n c m : Nat) (h : c + m ≤ n) : sl (sl t a n) c m = sl t (a + c) m :=
  take_drop_take_drop t a n c m (by omega)

theorem getElem?_of_sl_eq {t t' : Bytes} {a n : Nat} (h : sl t a n = sl t' a n) (i : Nat) (h1 : a ≤ i) (h2 : i < a + n) :
    t[i]? = t'[i]? := by
  have e := congrArg (fun x => x[i - a]?) h
  simp only [sl_getElem? _ a n (i - a) (by omega), Nat.add_sub_cancel' h1] at e
  exact e

theorem sl_zero_all (t : Bytes) (n : Nat) (h : t.length ≤ n) : sl t 0 n = t := by
  simp [sl, List.take_of_length_le h]

theorem beBytes_beVal_sl (t : Bytes) (a n : Nat) (h : a + n ≤ t.length) : beBytes n (beVal (sl t a n)) = sl t a n := by
  have := Relic.beBytes_beVal (sl t a n)
  rwa [sl_length t a n h] at this

/-- field widths: what `binary.Read` can deliver -/
structure Koly.WF (k : Koly) : Prop where
  magic : k.magic < 2 ^ 32
  head : k.head.length = 212
  tail : k.tail.length = 148
  xo : k.xmlOffset < 2 ^ 64
  xl : k.xmlLength < 2 ^ 64
  so : k.sigOffset < 2 ^ 64
  sl : k.sigLength < 2 ^ 64

theorem sl_piece (ss : List Bytes) (ls : List Nat) (hl : ss.map List.length = ls) (j off n : Nat) (x : Bytes)
    (ho : (ls.take j).sum = off) (hn : ls[j]? = some n) (hx : ss[j]? = some x) : sl ss.flatten off n = x :=
  take_drop_piece ss ls hl j off n x ho hn hx

theorem segs_lengths (k : Koly) (h1 : k.head.length = 212) (h2 : k.tail.length = 148) :
    k.segs.map List.length = [4, 212, 8, 8, 64, 8, 8, 40, 148, 12] := by
  simp [Koly.segs, zeros, h1, h2]

theorem enc_length (k : Koly) (h1 : k.head.length = 212) (h2 : k.tail.length = 148) : k.enc.length = 512 := by
  rw [Koly.enc, List.length_flatten, segs_lengths k h1 h2]; rfl

theorem drop_append_enc (a : Bytes) (k : Koly) (h1 : k.head.length = 212) (h2 : k.tail.length = 148) :
    (a ++ k.enc).drop ((a ++ k.enc).length - 512) = k.enc := by
  rw [List.length_append, enc_length k h1 h2, Nat.add_sub_cancel, List.drop_left]

theorem enc_magic (k : Koly) (h1 : k.head.length = 212) (h2 : k.tail.length = 148) : sl k.enc 0 4 = beBytes 4 k.magic :=
  sl_piece k.segs _ (segs_lengths k h1 h2) 0 0 4 _ rfl rfl rfl

theorem decode_enc (k : Koly) (wf : k.WF) : decode k.enc = k := by
  obtain ⟨hm, h1, h2, hxo, hxl, hso, hsl⟩ := wf
  have P := fun j off n x => sl_piece k.segs _ (segs_lengths k h1 h2) j off n x
  unfold decode Koly.enc
  rw [P 0 0 4 _ rfl rfl rfl, P 1 4 212 _ rfl rfl rfl, P 2 216 8 _ rfl rfl rfl, P 3 224 8 _ rfl rfl rfl,
    P 5 296 8 _ rfl rfl rfl, P 6 304 8 _ rfl rfl rfl, P 8 352 148 _ rfl rfl rfl,
    beVal_beBytes_of_lt 4 _ (by omega), beVal_beBytes_of_lt 8 _ (by omega), beVal_beBytes_of_lt 8 _ (by omega),
    beVal_beBytes_of_lt 8 _ (by omega), beVal_beBytes_of_lt 8 _ (by omega)]

theorem decode_wf (t : Bytes) (h : 512 ≤ t.length) : (decode t).WF :=
  ⟨beVal_take_lt _ 4, sl_length t 4 212 (by omega), sl_length t 352 148 (by omega),
    beVal_take_lt _ 8, beVal_take_lt _ 8, beVal_take_lt _ 8, beVal_take_lt _ 8⟩

theorem enc_eq (k : Koly) :
    k.enc = beBytes 4 k.magic ++ k.head ++ beBytes 8 k.xmlOffset ++ beBytes 8 k.xmlLength ++ zeros 64 ++
      beBytes 8 k.sigOffset ++ beBytes 8 k.sigLength ++ zeros 40 ++ k.tail ++ zeros 12 := by
  simp [Koly.enc, Koly.segs]

/-- a trailer read with `binary.Read` and written with `binary.Write` keeps the bytes of its fields; the three ranges the
    struct has no field for, [232,296), [312,352), [500,512), come out zero -/
theorem enc_decode_with (t : Bytes) (h : 512 ≤ t.length) (so sn : Nat) :
    ({ decode t with sigOffset := so, sigLength := sn }).enc =
      sl t 0 232 ++ zeros 64 ++ beBytes 8 so ++ beBytes 8 sn ++ zeros 40 ++ sl t 352 148 ++ zeros 12 := by
  have e : sl t 0 4 ++ sl t 4 212 ++ sl t 216 8 ++ sl t 224 8 = sl t 0 232 := by
    rw [sl_append_adj t 0 4 212, sl_append_adj t 0 216 8, sl_append_adj t 0 224 8]
  rw [enc_eq, ← e]
  simp only [decode, beBytes_beVal_sl t 0 4 (by omega), beBytes_beVal_sl t 216 8 (by omega),
    beBytes_beVal_sl t 224 8 (by omega)]

theorem enc_decode (t : Bytes) (h : 512 ≤ t.length) :
    (decode t).enc = sl t 0 232 ++ zeros 64 ++ sl t 296 16 ++ zeros 40 ++ sl t 352 148 ++ zeros 12 := by
  have := enc_decode_with t h (decode t).sigOffset (decode t).sigLength
  simp only [decode, beBytes_beVal_sl t 296 8 (by omega), beBytes_beVal_sl t 304 8 (by omega)] at this
  rw [← sl_append_adj t 296 8 8, ← List.append_assoc (_ ++ _)]
  exact this

theorem toI64_of_lt (n : Nat) (h : n < 2 ^ 63) : toI64 n = (n : Int) := by
  unfold toI64
  have : n % 2 ^ 64 = n := Nat.mod_eq_of_lt (by omega)
  simp [this, h]

theorem toI64_range (n : Nat) : -(2 ^ 63 : Int) ≤ toI64 n ∧ toI64 n < 2 ^ 63 := by
  unfold toI64
  have := Nat.mod_lt n (show 0 < 2 ^ 64 by decide)
  split <;> omega

theorem u64_toI64 (x : Nat) : u64 (toI64 x) = x % 2 ^ 64 := by
  unfold u64 toI64
  have := Nat.mod_lt x (show 0 < 2 ^ 64 by decide)
  split <;> omega

theorem toI64_mod (x : Nat) : toI64 (x % 2 ^ 64) = toI64 x := by
  unfold toI64; simp

theorem toI64_u64 (x : Nat) : toI64 (u64 (toI64 x)) = toI64 x := by
  rw [u64_toI64, toI64_mod]

theorem u64_lt (i : Int) : u64 i < 2 ^ 64 := by
  unfold u64; omega

theorem u64_of_nonneg (i : Int) (h0 : 0 ≤ i) (h1 : i < 2 ^ 63) : u64 i = i.toNat := by
  unfold u64; omega

theorem lt_of_toI64_nonneg (n : Nat) (hn : n < 2 ^ 64) (h : 0 ≤ toI64 n) : n < 2 ^ 63 := by
  unfold toI64 at h
  rw [Nat.mod_eq_of_lt hn] at h
  split at h <;> omega

/-- the one panic site of `Open`: `make([]byte, n)` with `n < 0`, reached only before fix-open; `Open` never diverges -/
theorem openFileG_crash_iff (fx : Bool) (f : Bytes) (c : Crash) :
    openFileG fx f = Res.crash c ↔
      fx = false ∧ c = .panic "dmg.Open:makeslice" ∧ 512 ≤ f.length ∧
        (decode (f.drop (f.length - 512))).magic = kolyMagic ∧ toI64 (decode (f.drop (f.length - 512))).sigLength < 0 := by
  constructor
  · fun_cases openFileG fx f
    case case6 hl _ hm _ _ _ hn hfx =>
      intro h
      exact ⟨Bool.eq_false_iff.mpr hfx, (Res.panic_eq_crash _ c).mp h, Nat.le_of_not_lt hl, Decidable.not_not.mp hm, hn⟩
    all_goals intro h; simp at h
  · rintro ⟨rfl, rfl, hl, hm, hn⟩
    have hz : (decode (f.drop (f.length - 512))).sigLength ≠ 0 := by
      intro hz; rw [hz] at hn; exact absurd hn (by decide)
    have hmax : ¬ toI64 (decode (f.drop (f.length - 512))).sigLength > (maxSig : Int) := by omega
    rw [openFileG, if_neg (Nat.not_lt.mpr hl)]
    simp only [hm, ne_eq, not_true_eq_false, hz, hmax, hn, ↓reduceIte, Bool.false_eq_true, Res.crash_panic]

/-- `Open` finds trailer and blob by position from the end resp. by absolute offset: bytes `junk` between the signature and
    the trailer change nothing it returns but the trailer's own offset (C02: the gap is not protected) -/
theorem openFile_gap (pre blob junk : Bytes) (k : Koly) (wf : k.WF) (hm : k.magic = kolyMagic)
    (hso : k.sigOffset = pre.length) (hsl : k.sigLength = blob.length) (hne : blob ≠ []) (hmax : blob.length ≤ maxSig)
    (hpre : pre.length < 2 ^ 63) :
    openFile (pre ++ blob ++ junk ++ k.enc) = .ok ⟨k, pre.length + blob.length + junk.length, blob, blob.length⟩ := by
  have hel := enc_length k wf.head wf.tail
  have hl : (pre ++ blob ++ junk ++ k.enc).length = pre.length + blob.length + junk.length + 512 := by simp [hel]; omega
  have hpos : 0 < blob.length := List.length_pos_iff.mpr hne
  have hms : maxSig = 10000000 := rfl
  have hn : toI64 blob.length = (blob.length : Int) := toI64_of_lt _ (by omega)
  have ho : toI64 pre.length = (pre.length : Int) := toI64_of_lt _ hpre
  have hs : sl (pre ++ blob ++ junk ++ k.enc) pre.length blob.length = blob := by
    simp [sl, List.append_assoc]
  unfold openFile openFileG
  rw [drop_append_enc _ k wf.head wf.tail, hl, decode_enc k wf]
  have c1 : ¬ pre.length + blob.length + junk.length + 512 < 512 := by omega
  simp only [c1, hm, ↓reduceIte, ne_eq, not_true_eq_false, hsl, hso, hn, ho, Int.toNat_natCast, hs]
  have c4 : ¬ ((blob.length : Int) > (maxSig : Int)) := by omega
  have c5 : ¬ ((blob.length : Int) < 0) := by omega
  have c6 : ¬ ((pre.length : Int) < 0) := by omega
  have c7 : ¬ pre.length + blob.length + junk.length + 512 < pre.length + blob.length := by omega
  have c8 : ¬ blob.length = 0 := by omega
  have c9 : pre.length + blob.length + junk.length + 512 - 512 = pre.length + blob.length + junk.length := by omega
  simp only [c4, c5, c6, c7, c8, c9, ↓reduceIte]

theorem openFile_built (pre blob : Bytes) (k : Koly) (wf : k.WF) (hm : k.magic = kolyMagic)
    (hso : k.sigOffset = pre.length) (hsl : k.sigLength = blob.length) (hne : blob ≠ []) (hmax : blob.length ≤ maxSig)
    (hpre : pre.length < 2 ^ 63) :
    openFile (pre ++ blob ++ k.enc) = .ok ⟨k, pre.length + blob.length, blob, blob.length⟩ := by
  have := openFile_gap pre blob [] k wf hm hso hsl hne hmax hpre
  simpa using this

theorem openFile_magic (a : Bytes) (k : Koly) (h1 : k.head.length = 212) (h2 : k.tail.length = 148) (hm : k.magic < 2 ^ 32)
    (hne : k.magic ≠ kolyMagic) : openFile (a ++ k.enc) = .err "magic" := by
  have hel := enc_length k h1 h2
  have hl : (a ++ k.enc).length = a.length + 512 := by simp [hel]
  have hmag : (decode k.enc).magic = k.magic := by
    show beVal (sl k.enc 0 4) = _
    rw [enc_magic k h1 h2, beVal_beBytes_of_lt 4 _ (by omega)]
  unfold openFile openFileG
  rw [drop_append_enc a k h1 h2, hl]
  have c1 : ¬ a.length + 512 < 512 := by omega
  simp only [c1, ↓reduceIte, hmag, ne_eq, hne, not_false_eq_true]

/-- what `planOrig` returns when it returns a plan -/
def planOf (t f : Bytes) : Plan :=
  let k := decode t
  ⟨k, k.bundle, f.take k.bundle.toNat, ({ k with sigOffset := u64 k.bundle }).forHashing,
    if k.sigOffset = 0 then none else some ((f.drop (f.take k.bundle.toNat).length).take (toI64 k.sigLength).toNat)⟩

theorem planOrig_eq (t f : Bytes) (h : 512 ≤ t.length) :
    planOrig t f = if (decode t).sigOffset ≠ 0 ∧ toI64 (decode t).sigOffset ≠ (decode t).bundle then .err "overlap"
      else .ok (planOf t f) := by
  unfold planOrig planOf
  rw [if_neg (Nat.not_lt.mpr h)]
  by_cases c1 : (decode t).sigOffset = 0
  · simp [c1]
  · by_cases c2 : toI64 (decode t).sigOffset = (decode t).bundle <;> simp [c1, c2]

theorem planOrig_ok (t f : Bytes) (pl : Plan) (h : planOrig t f = .ok pl) :
    512 ≤ t.length ∧ pl = planOf t f ∧ ((decode t).sigOffset = 0 ∨ toI64 (decode t).sigOffset = (decode t).bundle) := by
  have hl : 512 ≤ t.length := by
    refine Nat.le_of_not_lt fun hl => ?_
    rw [planOrig, if_pos hl] at h; cases h
  rw [planOrig_eq t f hl] at h
  split at h
  · cases h
  · rename_i c
    refine ⟨hl, (Res.ok.inj h).symm, ?_⟩
    by_cases c1 : (decode t).sigOffset = 0
    · exact Or.inl c1
    · exact Or.inr (Decidable.not_not.mp fun c2 => c ⟨c1, c2⟩)

theorem planOrig_bundle_koly (t f : Bytes) (pl : Plan) (h : planOrig t f = .ok pl) : pl.koly.bundle = pl.bundle := by
  obtain ⟨_, rfl, _⟩ := planOrig_ok t f pl h
  rfl

theorem planOrig_koly_wf (t f : Bytes) (pl : Plan) (h : planOrig t f = .ok pl) : pl.koly.WF := by
  obtain ⟨hl, rfl, _⟩ := planOrig_ok t f pl h
  exact decode_wf t hl

theorem planOrig_bundle_lt (t f : Bytes) (pl : Plan) (h : planOrig t f = .ok pl) : pl.bundle < 2 ^ 63 := by
  obtain ⟨_, rfl, _⟩ := planOrig_ok t f pl h
  exact (toI64_range _).2

theorem planOrig_stream (t f : Bytes) (pl : Plan) (h : planOrig t f = .ok pl) : pl.stream = f.take pl.bundle.toNat := by
  obtain ⟨_, rfl, _⟩ := planOrig_ok t f pl h
  rfl

theorem newKoly_wf (pl : Plan) (wf : pl.koly.WF) (n : Nat) (hn : n < 2 ^ 64) : (pl.newKoly n).WF :=
  ⟨wf.magic, wf.head, wf.tail, wf.xo, wf.xl, u64_lt _, hn⟩

theorem planOrig_rep_eq_forHashing (t f : Bytes) (pl : Plan) (h : planOrig t f = .ok pl) (n : Nat) : (pl.newKoly n).forHashing = pl.rep := by
  obtain ⟨_, rfl, _⟩ := planOrig_ok t f pl h
  rfl

theorem written_eq (f : Bytes) (pl : Plan) (blob : Bytes) :
    written f pl blob = f.take pl.bundle.toNat ++ (blob ++ (pl.newKoly blob.length).enc) := List.append_assoc _ _ _

theorem take_written (f : Bytes) (pl : Plan) (blob : Bytes) (h1 : pl.bundle.toNat ≤ f.length) :
    (written f pl blob).take pl.bundle.toNat = f.take pl.bundle.toNat := by
  rw [written_eq, List.take_left' (List.length_take_of_le h1)]

theorem drop_written (f : Bytes) (pl : Plan) (blob : Bytes) (h1 : pl.bundle.toNat ≤ f.length) :
    (written f pl blob).drop pl.bundle.toNat = blob ++ (pl.newKoly blob.length).enc := by
  rw [written_eq, List.drop_left' (List.length_take_of_le h1)]

theorem getElem?_written (f : Bytes) (pl : Plan) (blob : Bytes) (h1 : pl.bundle.toNat ≤ f.length) (i : Nat)
    (hi : i < pl.bundle.toNat) : (written f pl blob)[i]? = f[i]? := by
  rw [written_eq, List.getElem?_append_left (by rw [List.length_take_of_le h1]; exact hi), List.getElem?_take_of_lt hi]

theorem written_length (f : Bytes) (pl : Plan) (blob : Bytes) (wf : pl.koly.WF) (h1 : pl.bundle.toNat ≤ f.length) :
    (written f pl blob).length = pl.bundle.toNat + blob.length + 512 := by
  rw [written_eq, List.length_append, List.length_append, List.length_take_of_le h1,
    enc_length (pl.newKoly blob.length) wf.head wf.tail, Nat.add_assoc]

/-- on the written image the verifier runs on exactly the blob, with the signer's own rep-specific bytes and page stream -/
theorem verify_written (t f : Bytes) (pl : Plan) (blob : Bytes) (skip : Bool) (h : planOrig t f = .ok pl)
    (hm : pl.koly.magic = kolyMagic) (h0 : 0 ≤ pl.bundle) (h1 : pl.bundle.toNat ≤ f.length)
    (hne : blob ≠ []) (hmax : blob.length ≤ maxSig) :
    openFile (written f pl blob) = .ok ⟨pl.newKoly blob.length, pl.bundle.toNat + blob.length, blob, blob.length⟩ ∧
    verify (written f pl blob) skip = verifyBlob blob pl.rep pl.stream skip := by
  have wf := planOrig_koly_wf t f pl h
  have hb := planOrig_bundle_koly t f pl h
  have hlt := planOrig_bundle_lt t f pl h
  have hms : maxSig = 10000000 := rfl
  have wf' := newKoly_wf pl wf blob.length (by omega)
  have hpl : (f.take pl.bundle.toNat).length = pl.bundle.toNat := by simp [List.length_take]; omega
  have hop := openFile_built (f.take pl.bundle.toNat) blob (pl.newKoly blob.length) wf' hm
    (by show u64 pl.bundle = _; rw [hpl, u64_of_nonneg _ h0 hlt]) rfl hne hmax (by rw [hpl]; omega)
  rw [hpl] at hop
  have hw : written f pl blob = f.take pl.bundle.toNat ++ blob ++ (pl.newKoly blob.length).enc := rfl
  refine ⟨by rw [hw]; exact hop, ?_⟩
  unfold verify verifyG
  have hop' : openFileG true (f.take pl.bundle.toNat ++ blob ++ (pl.newKoly blob.length).enc) = _ := hop
  rw [hw, hop']
  simp only
  rw [planOrig_rep_eq_forHashing t f pl h]
  have hb' : (pl.newKoly blob.length).bundle = pl.bundle := hb
  have hs := planOrig_stream t f pl h
  have hsec : sectionOf (f.take pl.bundle.toNat ++ blob ++ (pl.newKoly blob.length).enc) (pl.newKoly blob.length).bundle = pl.stream := by
    rw [hb', hs]
    unfold sectionOf
    have : ¬ pl.bundle < 0 := by omega
    simp only [this, ↓reduceIte]
    exact take_written f pl blob h1
  rw [hsec]

theorem decode_of_ranges (t t' : Bytes) (hA : sl t 0 232 = sl t' 0 232) (hB : sl t 352 148 = sl t' 352 148) :
    (decode t).magic = (decode t').magic ∧ (decode t).head = (decode t').head ∧ (decode t).xmlOffset = (decode t').xmlOffset ∧
    (decode t).xmlLength = (decode t').xmlLength ∧ (decode t).tail = (decode t').tail := by
  have e (c m : Nat) (h : c + m ≤ 232) : sl t c m = sl t' c m := by
    have a := sl_sl t 0 232 c m h
    have b := sl_sl t' 0 232 c m h
    simp only [Nat.zero_add] at a b
    rw [← a, ← b, hA]
  simp only [decode]
  rw [e 0 4 (by omega), e 4 212 (by omega), e 216 8 (by omega), e 224 8 (by omega), hB]
  exact ⟨rfl, rfl, rfl, rfl, rfl⟩

/-- The bytes hashed into special slot −6: the trailer with SignatureLength and the blank ranges zero. -/
theorem forHashing_decode (t : Bytes) (h : 512 ≤ t.length) :
    (decode t).forHashing = sl t 0 232 ++ zeros 64 ++ sl t 296 8 ++ zeros 8 ++ zeros 40 ++ sl t 352 148 ++ zeros 12 := by
  have := enc_decode_with t h (decode t).sigOffset 0
  simp only [decode, beBytes_beVal_sl t 296 8 (by omega)] at this
  exact this

/-- what `dmg.Sign` writes behind the signature, in terms of the input trailer `t`. -/
theorem newKoly_enc (t f : Bytes) (pl : Plan) (h : planOrig t f = .ok pl) (n : Nat) :
    (pl.newKoly n).enc = sl t 0 232 ++ zeros 64 ++ beBytes 8 (u64 pl.bundle) ++ beBytes 8 n ++ zeros 40 ++ sl t 352 148 ++ zeros 12 := by
  obtain ⟨hl, rfl, _⟩ := planOrig_ok t f pl h
  exact enc_decode_with t hl _ n

theorem plan_digest_inputs (t t' f f' : Bytes) (pl pl' : Plan) (h : planOrig t f = .ok pl) (h' : planOrig t' f' = .ok pl')
    (hA : sl t 0 232 = sl t' 0 232) (hB : sl t 352 148 = sl t' 352 148)
    (hf : f.take pl.bundle.toNat = f'.take pl.bundle.toNat) :
    pl.bundle = pl'.bundle ∧ pl.stream = pl'.stream ∧ pl.rep = pl'.rep := by
  obtain ⟨_, rfl, _⟩ := planOrig_ok t f pl h
  obtain ⟨_, rfl, _⟩ := planOrig_ok t' f' pl' h'
  obtain ⟨e1, e2, e3, e4, e5⟩ := decode_of_ranges t t' hA hB
  have hbb : (decode t).bundle = (decode t').bundle := by simp only [Koly.bundle, e3, e4]
  refine ⟨hbb, ?_, ?_⟩
  · show f.take _ = f'.take _
    rw [← hbb]; exact hf
  · show Koly.enc _ = Koly.enc _
    rw [← hbb, enc_eq, enc_eq]
    simp only [e1, e2, e3, e4, e5]

/-- `dmg.Sign` on its own output plans as before and hands the previous blob to `csblob.Sign` as the old signature, except
    when the bundle size is zero: a zero SignatureOffset reads as "unsigned" -/
theorem planOrig_written (t f : Bytes) (pl : Plan) (blob : Bytes) (h : planOrig t f = .ok pl)
    (h0 : 0 ≤ pl.bundle) (h1 : pl.bundle.toNat ≤ f.length) (hn : blob.length < 2 ^ 63) :
    planOrig ((written f pl blob).drop ((written f pl blob).length - 512)) (written f pl blob) =
      .ok ⟨pl.newKoly blob.length, pl.bundle, pl.stream, pl.rep, if pl.bundle = 0 then none else some blob⟩ := by
  have wf := planOrig_koly_wf t f pl h
  have hb := planOrig_bundle_koly t f pl h
  have hlt := planOrig_bundle_lt t f pl h
  have wf' := newKoly_wf pl wf blob.length (by omega)
  have hel := enc_length _ wf'.head wf'.tail
  have hpl : (f.take pl.bundle.toNat).length = pl.bundle.toNat := by simp [List.length_take]; omega
  have hs := planOrig_stream t f pl h
  have hd : (written f pl blob).drop ((written f pl blob).length - 512) = (pl.newKoly blob.length).enc :=
    drop_append_enc _ _ wf'.head wf'.tail
  rw [hd]
  unfold planOrig
  have c1 : ¬ (pl.newKoly blob.length).enc.length < 512 := by omega
  simp only [c1, ↓reduceIte, decode_enc _ wf']
  have hb' : (pl.newKoly blob.length).bundle = pl.bundle := hb
  have hrep : ({ pl.newKoly blob.length with sigOffset := u64 (pl.newKoly blob.length).bundle }).forHashing = pl.rep := by
    rw [hb']; exact planOrig_rep_eq_forHashing t f pl h 0
  have hso : (pl.newKoly blob.length).sigOffset = pl.bundle.toNat := by
    show u64 pl.bundle = _; exact u64_of_nonneg _ h0 hlt
  have htk : (written f pl blob).take pl.bundle.toNat = pl.stream := by
    rw [hs]; exact take_written f pl blob h1
  rw [hrep, hb', htk, hso]
  by_cases hz : pl.bundle = 0
  · have : pl.bundle.toNat = 0 := by omega
    simp [hz]
  · have hnz : ¬ pl.bundle.toNat = 0 := by omega
    have hti : toI64 pl.bundle.toNat = pl.bundle := by rw [toI64_of_lt _ (by omega)]; omega
    have hsl : toI64 (pl.newKoly blob.length).sigLength = (blob.length : Int) := toI64_of_lt _ hn
    have hold : ((written f pl blob).drop pl.stream.length).take blob.length = blob := by
      rw [hs, hpl, drop_written f pl blob h1, List.take_left]
    simp only [hnz, hz, hti, hsl, ↓reduceIte, ne_eq, not_false_eq_true, not_true_eq_false, Int.toNat_natCast, hold]

theorem written_written (t f : Bytes) (pl pl2 : Plan) (b1 b2 : Bytes) (h : planOrig t f = .ok pl)
    (h0 : 0 ≤ pl.bundle) (h1 : pl.bundle.toNat ≤ f.length) (hn : b1.length < 2 ^ 63)
    (h2 : planOrig ((written f pl b1).drop ((written f pl b1).length - 512)) (written f pl b1) = .ok pl2) :
    written (written f pl b1) pl2 b2 = written f pl b2 := by
  rw [planOrig_written t f pl b1 h h0 h1 hn] at h2
  injection h2 with h2
  subst h2
  show (written f pl b1).take pl.bundle.toNat ++ b2 ++ _ = f.take pl.bundle.toNat ++ b2 ++ _
  rw [take_written f pl b1 h1]
  rfl

/-- the repaired `dmg.Sign` (fix-sign) is the guards in front of the original planning -/
theorem plan_eq (t f : Bytes) (h : 512 ≤ t.length) : plan t f = (guards (decode t)).elim (planOrig t f) .err := by
  rw [plan, if_neg (Nat.not_lt.mpr h)]
  cases guards (decode t) <;> rfl

theorem plan_ok (t f : Bytes) (pl : Plan) (h : plan t f = .ok pl) :
    planOrig t f = .ok pl ∧ guards (decode t) = none ∧ 512 ≤ t.length := by
  have hl : 512 ≤ t.length := by
    refine Nat.le_of_not_lt fun hl => ?_
    rw [plan, if_pos hl] at h; cases h
  rw [plan_eq t f hl] at h
  cases hg : guards (decode t) with
  | some e => rw [hg] at h; cases h
  | none => rw [hg] at h; exact ⟨h, rfl, hl⟩

theorem plan_of_guards (t f : Bytes) (hl : 512 ≤ t.length) (hg : guards (decode t) = none) : plan t f = planOrig t f := by
  rw [plan_eq t f hl, hg]; rfl

/-- the guards look at the magic, the fork descriptors and the plist fields only -/
theorem guards_newKoly (pl : Plan) (n : Nat) : guards (pl.newKoly n) = guards pl.koly := rfl

/-- the trailers the repaired `dmg.Sign` accepts (`guards_none_iff`): koly magic, a plist with non-negative offset and
    positive length whose end (the bundle size) is a non-negative int64, and no fork that ends behind it -/
structure Safe (k : Koly) : Prop where
  magic : k.magic = kolyMagic
  xo : 0 ≤ toI64 k.xmlOffset
  xl : 0 < toI64 k.xmlLength
  bundle : 0 ≤ k.bundle
  data : forkEnd k.dataOff k.dataLen ≤ k.bundle
  rsrc : forkEnd k.rsrcOff k.rsrcLen ≤ k.bundle

theorem guards_none_iff (k : Koly) : guards k = none ↔ Safe k := by
  unfold guards
  constructor
  · intro h
    split at h
    · cases h
    · rename_i hm
      split at h
      · cases h
      · rename_i hp
        split at h
        · cases h
        · rename_i hb
          exact ⟨by simpa using hm, by omega, by omega, by omega, by omega, by omega⟩
  · intro ⟨hm, h1, h2, h3, h4, h5⟩
    have c2 : ¬ (toI64 k.xmlOffset < 0 ∨ toI64 k.xmlLength ≤ 0 ∨ k.bundle < 0) := by omega
    have c3 : ¬ (forkEnd k.dataOff k.dataLen > k.bundle ∨ forkEnd k.rsrcOff k.rsrcLen > k.bundle) := by omega
    simp only [hm, ne_eq, not_true_eq_false, ↓reduceIte, c2, c3]

theorem plan_safe (t f : Bytes) (pl : Plan) (h : plan t f = .ok pl) : Safe pl.koly ∧ 0 ≤ pl.bundle := by
  obtain ⟨ho, hg, _⟩ := plan_ok t f pl h
  obtain ⟨_, rfl, _⟩ := planOrig_ok t f pl ho
  have hs := (guards_none_iff _).mp hg
  exact ⟨hs, hs.bundle⟩

/-- the bundle size of a safe header does not wrap around -/
theorem safe_bundle (k : Koly) (hs : Safe k) (wxo : k.xmlOffset < 2 ^ 64) (wxl : k.xmlLength < 2 ^ 64) :
    k.bundle = toI64 k.xmlOffset + toI64 k.xmlLength := by
  have a := lt_of_toI64_nonneg _ wxo hs.xo
  have b := lt_of_toI64_nonneg _ wxl (Int.le_of_lt hs.xl)
  have c := lt_of_toI64_nonneg (k.xmlOffset + k.xmlLength) (by omega) hs.bundle
  rw [Koly.bundle, toI64_of_lt _ c, toI64_of_lt _ a, toI64_of_lt _ b]
  exact Int.natCast_add _ _

theorem fits_iff (pl : Plan) (flen : Nat) (h0 : 0 ≤ pl.bundle) : pl.fits flen = true ↔ pl.bundle.toNat + 512 ≤ flen := by
  simp only [Plan.fits, decide_eq_true_eq]; omega

/-- `fits` is the test behind `csblob.Sign`; with an accepted plan the signature offset lies in `[0, len − 512]` -/
theorem plan_fits (t f : Bytes) (pl : Plan) (h : plan t f = .ok pl) (hfit : pl.fits f.length = true) :
    0 ≤ pl.bundle ∧ pl.bundle.toNat + 512 ≤ f.length :=
  ⟨(plan_safe t f pl h).2, (fits_iff pl f.length (plan_safe t f pl h).2).mp hfit⟩

theorem plan_written_fixed (t f : Bytes) (pl : Plan) (blob : Bytes) (h : plan t f = .ok pl)
    (h1 : pl.bundle.toNat ≤ f.length) (hn : blob.length < 2 ^ 63) :
    plan ((written f pl blob).drop ((written f pl blob).length - 512)) (written f pl blob) =
      .ok ⟨pl.newKoly blob.length, pl.bundle, pl.stream, pl.rep, if pl.bundle = 0 then none else some blob⟩ := by
  obtain ⟨ho, hg, _⟩ := plan_ok t f pl h
  have h0 := (plan_safe t f pl h).2
  have wf := planOrig_koly_wf t f pl ho
  have wf' := newKoly_wf pl wf blob.length (by omega)
  have hel := enc_length _ wf'.head wf'.tail
  have hd : (written f pl blob).drop ((written f pl blob).length - 512) = (pl.newKoly blob.length).enc :=
    drop_append_enc _ _ wf'.head wf'.tail
  have hpw := planOrig_written t f pl blob ho h0 h1 hn
  rw [hd] at hpw ⊢
  rw [plan_of_guards _ _ (by omega) ?_, hpw]
  rw [decode_enc _ wf', guards_newKoly]
  rw [(planOrig_ok t f pl ho).2.1]; exact hg

theorem sign_ok (t f : Bytes) (p : SignParams) (so : SignOut) (h : sign t f p = .ok so) :
    ∃ p' opq, plan t f = .ok so.plan ∧
      MachO.defaults { p with repSpecific := some so.plan.rep } so.plan.oldSig = .ok (p', opq) ∧
      signBlob p' so.plan.stream = .ok so.signed ∧ so.plan.fits f.length = true := by
  revert h
  fun_cases sign t f p
  case case7 pl hpl p' opq hd s hs hfit =>
    intro h
    rw [← Res.ok.inj h]
    exact ⟨p', opq, hpl, hd, hs, hfit⟩
  all_goals nofun

theorem sign_fits (t f : Bytes) (p : SignParams) (so : SignOut) (h : sign t f p = .ok so) :
    plan t f = .ok so.plan ∧ so.plan.fits f.length = true ∧ 0 ≤ so.plan.bundle ∧ so.plan.bundle.toNat + 512 ≤ f.length := by
  obtain ⟨_, _, hpl, _, _, hfit⟩ := sign_ok t f p so h
  exact ⟨hpl, hfit, plan_fits t f _ hpl hfit⟩

/-- the code directory of a disk image has one slot over the whole section (page shift 0): `VerifyPages` makes one comparison -/
theorem verifyPagesOn_single (d : Dir) (page c : Bytes) (hps : d.hdr.pageShift = 0) (hc : d.code = [c]) :
    verifyPagesOn d page = if codeSize d.hdr = page.length then ⟨[⟨page, c⟩], .ok ()⟩ else ⟨[], .err "size"⟩ := by
  by_cases hl : codeSize d.hdr = page.length
  · simp [verifyPagesOn, hps, hc, hl]
  · have : ¬ ((page.length : Int) = codeSize d.hdr) := fun h => hl h.symm
    simp [verifyPagesOn, hps, hc, hl, this]

theorem sectionOf_ne {f g : Bytes} {b : Int} {p : Nat} (h0 : 0 ≤ b) (hp : p < b.toNat) (hd : f[p]? ≠ g[p]?) :
    sectionOf f b ≠ sectionOf g b := by
  intro e
  apply hd
  have hn : ¬ b < 0 := by omega
  have := congrArg (fun x => x[p]?) e
  simpa [sectionOf, hn, List.getElem?_take_of_lt hp] using this

def sampleKoly (xo xl so sl : Nat) : Koly := ⟨kolyMagic, zeros 212, xo, xl, so, sl, zeros 148⟩

/-- 3 bytes of data fork, 5 bytes of plist, the trailer -/
def sampleImage : Bytes := [1, 2, 3, 4, 5, 6, 7, 8] ++ (sampleKoly 3 5 0 0).enc

def samplePlan : Plan :=
  ⟨sampleKoly 3 5 0 0, 8, [1, 2, 3, 4, 5, 6, 7, 8], (sampleKoly 3 5 8 0).enc, none⟩

theorem samplePlan_ok : planOrig (sampleKoly 3 5 0 0).enc sampleImage = .ok samplePlan := by decide +kernel

/-- the repaired code accepts the sample image as well (no fork descriptors, plist [3,8)) -/
theorem samplePlan_ok_fixed : plan (sampleKoly 3 5 0 0).enc sampleImage = .ok samplePlan := by decide +kernel

/-- a header whose data fork is `[dfo, dfo+dfl)` -/
def sampleKolyD (dfo dfl xo xl so sl : Nat) : Koly :=
  ⟨kolyMagic, zeros 20 ++ beBytes 8 dfo ++ beBytes 8 dfl ++ zeros 176, xo, xl, so, sl, zeros 148⟩

end Relic.Dmg
