/- the load-command walk of `debug/macho.NewFile` (`loadLoop`) as a `Chain` of commands whose checks read nothing outside the
   command, hence replayable on a buffer that differs from the input only in the fields `PatchSignature` writes; the scanner's
   loop `cmdLoop` (`scanOrig`: the scanner before fix F-MACHO-4) one step at a time against it -/
import Relic.Proofs.MachOField
import Relic.Proofs.Res
namespace Relic.MachO

/-- the per-command check inside `loadLoop` -/
def stepChk (be : Bool) (f : Bytes) (pos cmd siz : Nat) : Res Unit :=
  if cmd = 0x8000001c ∨ cmd = 0xc ∨ cmd = 0x2 ∨ cmd = 0xb then .err "unmodelled"
  else if cmd = 1 then
    if siz < 56 then .err "eof" else
    match sectCheck be f 68 52 (pos + siz) (rd32 be f (pos + 48)) (pos + 56) with
    | .ok _ => .ok ()
    | e => e
  else if cmd = 0x19 then
    if siz < 72 then .err "eof" else
    match sectCheck be f 80 60 (pos + siz) (rd32 be f (pos + 64)) (pos + 72) with
    | .ok _ => if rd64 be f (pos + 40) ≥ 2 ^ 63 ∨ rd64 be f (pos + 48) ≥ 2 ^ 63 then .err "segrange" else .ok ()
    | e => e
  else .ok ()

theorem loadLoop_succ (be : Bool) (f : Bytes) (stop n pos : Nat) :
    loadLoop be f stop (n + 1) pos =
      if stop - pos < 8 then .err "cmdsmall" else
      if rd32 be f (pos + 4) < 8 ∨ rd32 be f (pos + 4) > stop - pos then .err "cmdsize" else
      match stepChk be f pos (rd32 be f pos) (rd32 be f (pos + 4)) with
      | .ok _ =>
        match loadLoop be f stop n (pos + rd32 be f (pos + 4)) with
        | .ok rest => .ok ((pos, rd32 be f pos, rd32 be f (pos + 4)) :: rest)
        | e => e
      | .err e => .err e
      | .panic p => .panic p
      | .diverge => .diverge := rfl

abbrev Load := Nat × Nat × Nat

/-- one command `(pos, cmd, size)` passes the checks of the walk on buffer `f` with end of commands `stop` -/
def StepOK (be : Bool) (f : Bytes) (stop : Nat) (e : Load) : Prop :=
  rd32 be f e.1 = e.2.1 ∧ rd32 be f (e.1 + 4) = e.2.2 ∧ 8 ≤ e.2.2 ∧ e.1 + e.2.2 ≤ stop ∧ stepChk be f e.1 e.2.1 e.2.2 = .ok ()

/-- consecutive commands starting at `pos` -/
def Chain : Nat → List Load → Prop
  | _, [] => True
  | pos, e :: t => e.1 = pos ∧ Chain (pos + e.2.2) t

def chainEnd : Nat → List Load → Nat
  | pos, [] => pos
  | pos, e :: t => chainEnd (pos + e.2.2) t

theorem loadLoop_succ_ok (be : Bool) (f : Bytes) (stop n pos : Nat) (l : List Load)
    (h : loadLoop be f stop (n + 1) pos = .ok l) :
    StepOK be f stop (pos, rd32 be f pos, rd32 be f (pos + 4)) ∧
    ∃ rest, loadLoop be f stop n (pos + rd32 be f (pos + 4)) = .ok rest ∧
      l = (pos, rd32 be f pos, rd32 be f (pos + 4)) :: rest := by
  rw [loadLoop_succ, Res.errGuard_eq_ok, Res.errGuard_eq_ok] at h
  obtain ⟨h8, hs, h⟩ := h
  cases hc : stepChk be f pos (rd32 be f pos) (rd32 be f (pos + 4)) with
  | ok u =>
    rw [hc] at h
    cases hr : loadLoop be f stop n (pos + rd32 be f (pos + 4)) with
    | ok rest =>
      rw [hr] at h; injection h with h
      refine ⟨⟨rfl, rfl, ?_, ?_, hc⟩, rest, rfl, h.symm⟩
      · show 8 ≤ rd32 be f (pos + 4); omega
      · show pos + rd32 be f (pos + 4) ≤ stop; omega
    | err x => rw [hr] at h; cases h
    | panic x => rw [hr] at h; cases h
    | diverge => rw [hr] at h; cases h
  | err x => rw [hc] at h; cases h
  | panic x => rw [hc] at h; cases h
  | diverge => rw [hc] at h; cases h

theorem loadLoop_sound (be : Bool) (f : Bytes) (stop : Nat) : ∀ (n pos : Nat) (l : List Load),
    loadLoop be f stop n pos = .ok l → l.length = n ∧ Chain pos l ∧ ∀ e ∈ l, StepOK be f stop e := by
  intro n
  induction n with
  | zero =>
    intro pos l h
    simp only [loadLoop] at h
    injection h with h; subst h
    exact ⟨rfl, trivial, by simp⟩
  | succ n ih =>
    intro pos l h
    obtain ⟨hok, rest, hrest, rfl⟩ := loadLoop_succ_ok be f stop n pos l h
    obtain ⟨h1, h2, h3⟩ := ih _ _ hrest
    refine ⟨by rw [List.length_cons, h1], ⟨rfl, h2⟩, fun e he => ?_⟩
    rcases List.mem_cons.mp he with rfl | he
    · exact hok
    · exact h3 e he

theorem loadLoop_replay (be : Bool) (g : Bytes) (stop : Nat) : ∀ (l : List Load) (pos : Nat),
    Chain pos l → (∀ e ∈ l, StepOK be g stop e) → loadLoop be g stop l.length pos = .ok l := by
  intro l
  induction l with
  | nil => intro pos _ _; rfl
  | cons e t ih =>
    intro pos hc hs
    obtain ⟨p, c, s⟩ := e
    obtain ⟨hp, hc⟩ := hc
    simp only at hp hc
    subst hp
    obtain ⟨h1, h2, h3, h4, h5⟩ := hs (p, c, s) List.mem_cons_self
    simp only at h1 h2 h3 h4 h5
    have ht := ih (p + s) hc (fun e he => hs e (List.mem_cons_of_mem _ he))
    show loadLoop be g stop (t.length + 1) p = _
    rw [loadLoop_succ, h1, h2, h5]
    have a : ¬ stop - p < 8 := by omega
    have b : ¬ (s < 8 ∨ s > stop - p) := by omega
    simp only [a, b, ↓reduceIte, ht]

theorem chain_mem (l : List Load) : ∀ pos, Chain pos l → ∀ e ∈ l, pos ≤ e.1 ∧ e.1 + e.2.2 ≤ chainEnd pos l := by
  induction l with
  | nil => intro _ _ e he; cases he
  | cons a t ih =>
    intro pos hc e he
    obtain ⟨hp, hc⟩ := hc
    have hmono : ∀ (t : List Load) q, q ≤ chainEnd q t := by
      intro t; induction t with
      | nil => intro q; exact Nat.le_refl _
      | cons b t ih => intro q; have := ih (q + b.2.2); simp only [chainEnd]; omega
    rcases List.mem_cons.mp he with rfl | he
    · have := hmono t (pos + e.2.2)
      simp only [chainEnd]; omega
    · have := ih _ hc e he
      simp only [chainEnd]; omega

theorem chain_disjoint (l : List Load) : ∀ pos, Chain pos l → (∀ e ∈ l, 0 < e.2.2) →
    ∀ e ∈ l, ∀ e' ∈ l, e = e' ∨ e.1 + e.2.2 ≤ e'.1 ∨ e'.1 + e'.2.2 ≤ e.1 := by
  induction l with
  | nil => intro _ _ _ e he; cases he
  | cons a t ih =>
    intro pos hc hs e he e' he'
    obtain ⟨hp, hc⟩ := hc
    rcases List.mem_cons.mp he with h1 | h1 <;> rcases List.mem_cons.mp he' with h2 | h2
    · exact Or.inl (h1.trans h2.symm)
    · subst h1; have := chain_mem t _ hc e' h2; right; left; omega
    · subst h2; have := chain_mem t _ hc e h1; right; right; omega
    · exact ih _ hc (fun x hx => hs x (List.mem_cons_of_mem _ hx)) e h1 e' h2

theorem chain_append (l1 l2 : List Load) : ∀ pos, Chain pos (l1 ++ l2) ↔ Chain pos l1 ∧ Chain (chainEnd pos l1) l2 := by
  induction l1 with
  | nil => intro pos; simp [Chain, chainEnd]
  | cons a t ih => intro pos; simp only [List.cons_append, Chain, chainEnd, ih, and_assoc]

theorem chainEnd_append (l1 l2 : List Load) : ∀ pos, chainEnd pos (l1 ++ l2) = chainEnd (chainEnd pos l1) l2 := by
  induction l1 with
  | nil => intro pos; rfl
  | cons a t ih => intro pos; simp only [List.cons_append, chainEnd, ih]

theorem chainEnd_eq_sum (l : List Load) : ∀ pos, chainEnd pos l = pos + (l.map (fun e => e.2.2)).sum := by
  induction l with
  | nil => intro pos; simp [chainEnd]
  | cons a t ih => intro pos; simp only [chainEnd, ih, List.map_cons, List.sum_cons]; omega

theorem chainEnd_ge (l : List Load) : ∀ pos, (∀ e ∈ l, 8 ≤ e.2.2) → pos + 8 * l.length ≤ chainEnd pos l := by
  induction l with
  | nil => intro pos _; simp [chainEnd]
  | cons a t ih =>
    intro pos h
    have := ih (pos + a.2.2) (fun e he => h e (List.mem_cons_of_mem _ he))
    have := h a List.mem_cons_self
    simp only [chainEnd, List.length_cons]; omega

theorem chainEnd_le (stop : Nat) : ∀ (l : List Load) (pos : Nat), Chain pos l → (∀ e ∈ l, e.1 + e.2.2 ≤ stop) → pos ≤ stop →
    chainEnd pos l ≤ stop := by
  intro l
  induction l with
  | nil => intro pos _ _ h; exact h
  | cons a t ih =>
    intro pos hc hs _
    obtain ⟨h1, h2⟩ := hc
    have := hs a List.mem_cons_self
    exact ih _ h2 (fun e he => hs e (List.mem_cons_of_mem _ he)) (by omega)

theorem loadLoop_append (be : Bool) (f : Bytes) (stop n1 n2 pos : Nat) (l1 l2 : List Load)
    (h1 : loadLoop be f stop n1 pos = .ok l1) (h2 : loadLoop be f stop n2 (chainEnd pos l1) = .ok l2) :
    loadLoop be f stop (n1 + n2) pos = .ok (l1 ++ l2) := by
  obtain ⟨a1, b1, c1⟩ := loadLoop_sound be f stop _ _ _ h1
  obtain ⟨a2, b2, c2⟩ := loadLoop_sound be f stop _ _ _ h2
  have := loadLoop_replay be f stop (l1 ++ l2) pos ((chain_append l1 l2 pos).mpr ⟨b1, b2⟩)
    (fun e he => by rcases List.mem_append.mp he with h | h; exact c1 e h; exact c2 e h)
  rw [List.length_append, a1, a2] at this
  exact this

theorem sectCheck_congr (be : Bool) (f g : Bytes) (stride nro lim : Nat) (hn : nro + 4 ≤ stride) : ∀ (n pos : Nat),
    (∀ i, pos ≤ i → i < lim → g[i]? = f[i]?) →
    sectCheck be g stride nro lim n pos = sectCheck be f stride nro lim n pos := by
  intro n
  induction n with
  | zero => intro _ _; rfl
  | succ n ih =>
    intro pos h
    simp only [sectCheck]
    by_cases c : pos + stride > lim
    · simp [c]
    · have e : rd32 be g (pos + nro) = rd32 be f (pos + nro) :=
        rd32_congr be f g _ (fun i h1 h2 => h i (by omega) (by omega))
      rw [e, ih (pos + stride) (fun i h1 h2 => h i (by omega) h2)]

theorem stepChk_seg32 (be : Bool) (f : Bytes) (pos siz : Nat) :
    stepChk be f pos 1 siz =
      if siz < 56 then .err "eof" else
      match sectCheck be f 68 52 (pos + siz) (rd32 be f (pos + 48)) (pos + 56) with
      | .ok _ => .ok ()
      | e => e := by
  unfold stepChk; rw [if_neg (by decide), if_pos rfl]

theorem stepChk_seg64 (be : Bool) (f : Bytes) (pos siz : Nat) :
    stepChk be f pos 0x19 siz =
      if siz < 72 then .err "eof" else
      match sectCheck be f 80 60 (pos + siz) (rd32 be f (pos + 64)) (pos + 72) with
      | .ok _ => if rd64 be f (pos + 40) ≥ 2 ^ 63 ∨ rd64 be f (pos + 48) ≥ 2 ^ 63 then .err "segrange" else .ok ()
      | e => e := by
  unfold stepChk; rw [if_neg (by decide), if_neg (by decide), if_pos rfl]

theorem stepChk_other (be : Bool) (f g : Bytes) (pos cmd siz : Nat) (h1 : cmd ≠ 1) (h2 : cmd ≠ 0x19) :
    stepChk be g pos cmd siz = stepChk be f pos cmd siz := by
  unfold stepChk; rw [if_neg h1, if_neg h2, if_neg h1, if_neg h2]

theorem stepChk_size (be : Bool) (f : Bytes) (pos cmd siz : Nat) (hsz : stepChk be f pos cmd siz = .ok ()) :
    (cmd = 1 → 56 ≤ siz) ∧ (cmd = 0x19 → 72 ≤ siz ∧ rd64 be f (pos + 40) < 2 ^ 63 ∧ rd64 be f (pos + 48) < 2 ^ 63) := by
  revert hsz
  -- the exits of the check: refusals, or a bound that was tested on the way
  fun_cases stepChk be f pos cmd siz <;> intro hsz
  all_goals first
    | (cases hsz; done)
    | (constructor <;> intro c <;> omega)
    | (rename_i hne; exact absurd hsz (hne ()))

theorem stepChk_seg32_congr (be : Bool) (f g : Bytes) (pos siz : Nat)
    (h48 : ∀ i, pos + 48 ≤ i → i < pos + 52 → g[i]? = f[i]?) (hs : ∀ i, pos + 56 ≤ i → i < pos + siz → g[i]? = f[i]?) :
    stepChk be g pos 1 siz = stepChk be f pos 1 siz := by
  rw [stepChk_seg32, stepChk_seg32, rd32_congr be f g _ h48, sectCheck_congr be f g 68 52 (pos + siz) (by omega) _ _ hs]

theorem stepChk_seg64_congr (be : Bool) (f g : Bytes) (pos siz : Nat)
    (h64 : ∀ i, pos + 64 ≤ i → i < pos + 68 → g[i]? = f[i]?) (h40 : ∀ i, pos + 40 ≤ i → i < pos + 48 → g[i]? = f[i]?)
    (h48 : rd64 be g (pos + 48) ≥ 2 ^ 63 ↔ rd64 be f (pos + 48) ≥ 2 ^ 63)
    (hs : ∀ i, pos + 72 ≤ i → i < pos + siz → g[i]? = f[i]?) :
    stepChk be g pos 0x19 siz = stepChk be f pos 0x19 siz := by
  rw [stepChk_seg64, stepChk_seg64, rd32_congr be f g _ h64, rd64_congr be f g _ h40,
    sectCheck_congr be f g 80 60 (pos + siz) (by omega) _ _ hs]
  simp only [h48]

theorem stepChk_congr (be : Bool) (f g : Bytes) (pos cmd siz : Nat)
    (h : ∀ i, pos ≤ i → i < pos + siz → g[i]? = f[i]?) : stepChk be g pos cmd siz = stepChk be f pos cmd siz := by
  by_cases c1 : cmd = 1
  · subst c1
    by_cases c4 : siz < 56
    · rw [stepChk_seg32, stepChk_seg32, if_pos c4, if_pos c4]
    · exact stepChk_seg32_congr be f g pos siz (fun i a b => h i (by omega) (by omega)) (fun i a b => h i (by omega) b)
  by_cases c2 : cmd = 0x19
  · subst c2
    by_cases c4 : siz < 72
    · rw [stepChk_seg64, stepChk_seg64, if_pos c4, if_pos c4]
    · exact stepChk_seg64_congr be f g pos siz (fun i a b => h i (by omega) (by omega)) (fun i a b => h i (by omega) (by omega))
        (by rw [rd64_congr be f g _ (fun i a b => h i (by omega) (by omega))]) (fun i a b => h i (by omega) b)
  exact stepChk_other be f g pos cmd siz c1 c2

theorem StepOK_congr (be : Bool) (f g : Bytes) (stop stop' : Nat) (e : Load) (hst : stop ≤ stop')
    (h : ∀ i, e.1 ≤ i → i < e.1 + e.2.2 → g[i]? = f[i]?) (hf : StepOK be f stop e) : StepOK be g stop' e := by
  obtain ⟨h1, h2, h3, h4, h5⟩ := hf
  refine ⟨?_, ?_, h3, by omega, (stepChk_congr be f g _ _ _ h).trans h5⟩
  · rw [rd32_congr be f g _ (fun i a b => h i (by omega) (by omega)), h1]
  · rw [rd32_congr be f g _ (fun i a b => h i (by omega) (by omega)), h2]

theorem loadLoop_congr (be : Bool) (f g : Bytes) (stop : Nat) : ∀ (n pos : Nat),
    (∀ i, pos ≤ i → i < stop → g[i]? = f[i]?) → loadLoop be g stop n pos = loadLoop be f stop n pos := by
  intro n
  induction n with
  | zero => intro _ _; rfl
  | succ n ih =>
    intro pos h
    rw [loadLoop_succ, loadLoop_succ]
    by_cases h8 : stop - pos < 8
    · rw [if_pos h8, if_pos h8]
    rw [if_neg h8, if_neg h8, rd32_congr be f g pos (fun i a b => h i a (by omega)),
      rd32_congr be f g (pos + 4) (fun i a b => h i (by omega) (by omega))]
    by_cases hs : rd32 be f (pos + 4) < 8 ∨ rd32 be f (pos + 4) > stop - pos
    · rw [if_pos hs, if_pos hs]
    rw [if_neg hs, if_neg hs, stepChk_congr be f g pos _ _ (fun i a b => h i a (by omega)),
      ih _ (fun i a b => h i (by omega) b)]

/-- `isLinkEdit` with the ten name bytes as a parameter (`linkedit` is defined through `String.toUTF8`, which the kernel
    cannot evaluate: see the last section) -/
def isLinkEditL (le : Bytes) (b : Bytes) (off : Nat) : Bool :=
  (b.drop off).take 10 == le && ((b.drop (off + 10)).take 1 == [0])

/-- what one iteration of `scanFile`'s loop does to the markers (`le` = `linkedit`) -/
def cmdStep (le : Bytes) (be : Bool) (f : Bytes) (pos cmd siz : Nat) (st : ScanSt) : Res ScanSt :=
  if cmd = 1 then
    if siz < 56 then .err "eof" else
    let st := if isLinkEditL le f (pos + 8) then
      { st with lePos := pos, leOffset := rd32 be f (pos + 32), leFilesz := rd32 be f (pos + 36) } else st
    match sectLoop be f 68 36 4 40 true (pos + siz) (rd32 be f (pos + 48)) (pos + 56) st.firstSh with
    | none => .err "eof"
    | some fs => .ok { st with firstSh := fs }
  else if cmd = 0x19 then
    if siz < 72 then .err "eof" else
    let st := if isLinkEditL le f (pos + 8) then
      { st with lePos := pos, leOffset := rd64 be f (pos + 40), leFilesz := rd64 be f (pos + 48) } else st
    match sectLoop be f 80 40 8 48 (rd64 be f (pos + 48) ≠ 0) (pos + siz) (rd32 be f (pos + 64)) (pos + 72) st.firstSh with
    | none => .err "eof"
    | some fs => .ok { st with firstSh := fs }
  else if cmd = 0x1d then
    if siz < 16 then .err "eof" else
    .ok { st with sigStart := rd32 be f (pos + 8), sigLen := rd32 be f (pos + 12), loadCsStart := pos }
  else .ok st

theorem cmdLoop_succ (be : Bool) (f : Bytes) (stop n pos : Nat) (st : ScanSt) :
    cmdLoop be f stop (n + 1) pos st =
      if stop - pos < 8 then .err "cmdsmall" else
      if rd32 be f (pos + 4) < 8 ∨ rd32 be f (pos + 4) > stop - pos then .err "cmdsize" else
      match cmdStep linkedit be f pos (rd32 be f pos) (rd32 be f (pos + 4)) st with
      | .ok st' => cmdLoop be f stop n (pos + rd32 be f (pos + 4)) st'
      | .err e => .err e
      | .panic p => .panic p
      | .diverge => .diverge := by
  rw [cmdLoop]
  unfold cmdStep
  show (if stop - pos < 8 then _ else _) = _
  by_cases h8 : stop - pos < 8
  · rw [if_pos h8, if_pos h8]
  rw [if_neg h8, if_neg h8]
  dsimp only
  by_cases hs : rd32 be f (pos + 4) < 8 ∨ rd32 be f (pos + 4) > stop - pos
  · rw [if_pos hs, if_pos hs]
  rw [if_neg hs, if_neg hs]
  by_cases c1 : rd32 be f pos = 1
  · rw [if_pos c1, if_pos c1]
    by_cases c4 : rd32 be f (pos + 4) < 56
    · rw [if_pos c4, if_pos c4]
    rw [if_neg c4, if_neg c4]
    split <;> rename_i h <;> rw [show isLinkEditL linkedit f (pos + 8) = isLinkEdit f (pos + 8) from rfl, h]
  rw [if_neg c1, if_neg c1]
  by_cases c2 : rd32 be f pos = 0x19
  · rw [if_pos c2, if_pos c2]
    by_cases c4 : rd32 be f (pos + 4) < 72
    · rw [if_pos c4, if_pos c4]
    rw [if_neg c4, if_neg c4]
    split <;> rename_i h <;> rw [show isLinkEditL linkedit f (pos + 8) = isLinkEdit f (pos + 8) from rfl, h]
  rw [if_neg c2, if_neg c2]
  by_cases c3 : rd32 be f pos = 0x1d
  · rw [if_pos c3, if_pos c3]
    by_cases c4 : rd32 be f (pos + 4) < 16
    · rw [if_pos c4, if_pos c4]
    rw [if_neg c4, if_neg c4]
  rw [if_neg c3, if_neg c3]

/-- `cmdLoop` with the ten name bytes as a parameter: the right-hand side of `cmdLoop_succ` as a recursion of its own, for
    evaluation on concrete images (last section) -/
def cmdLoopL (le : Bytes) (be : Bool) (f : Bytes) (stop : Nat) : Nat → Nat → ScanSt → Res ScanSt
  | 0, _, st => .ok st
  | n + 1, pos, st =>
    if stop - pos < 8 then .err "cmdsmall" else
    if rd32 be f (pos + 4) < 8 ∨ rd32 be f (pos + 4) > stop - pos then .err "cmdsize" else
    match cmdStep le be f pos (rd32 be f pos) (rd32 be f (pos + 4)) st with
    | .ok st' => cmdLoopL le be f stop n (pos + rd32 be f (pos + 4)) st'
    | .err e => .err e
    | .panic p => .panic p
    | .diverge => .diverge

theorem cmdLoop_eq_L (be : Bool) (f : Bytes) (stop : Nat) : ∀ (n pos : Nat) (st : ScanSt),
    cmdLoop be f stop n pos st = cmdLoopL linkedit be f stop n pos st := by
  intro n
  induction n with
  | zero => intro pos st; rfl
  | succ n ih =>
    intro pos st
    rw [cmdLoop_succ, cmdLoopL]
    simp only [ih]

theorem cmdLoop_succ_ok (be : Bool) (f : Bytes) (stop n pos : Nat) (st0 st : ScanSt)
    (h : cmdLoop be f stop (n + 1) pos st0 = .ok st) :
    8 ≤ stop - pos ∧ 8 ≤ rd32 be f (pos + 4) ∧ rd32 be f (pos + 4) ≤ stop - pos ∧
    ∃ st1, cmdStep linkedit be f pos (rd32 be f pos) (rd32 be f (pos + 4)) st0 = .ok st1 ∧
      cmdLoop be f stop n (pos + rd32 be f (pos + 4)) st1 = .ok st := by
  rw [cmdLoop_succ] at h
  revert h
  split
  · nofun
  split
  · nofun
  split <;> intro h
  · rename_i st1 hst; exact ⟨by omega, by omega, by omega, st1, hst, h⟩
  all_goals cases h

theorem cmdLoop_nonempty (be : Bool) (f : Bytes) (stop n pos : Nat) (st : ScanSt)
    (h : cmdLoop be f stop n pos {} = .ok st) (h0 : st.lePos ≠ 0) : 8 ≤ stop - pos := by
  cases n with
  | zero => simp only [cmdLoop] at h; injection h with h; subst h; exact absurd rfl h0
  | succ n => exact (cmdLoop_succ_ok be f stop n pos _ st h).1

theorem cmdStep_facts (le : Bytes) (be : Bool) (f : Bytes) (pos cmd siz : Nat) (st0 st1 : ScanSt)
    (h : cmdStep le be f pos cmd siz st0 = .ok st1) :
    (st1.lePos = st0.lePos ∨ (st1.lePos = pos ∧ ((cmd = 1 ∧ 56 ≤ siz) ∨ (cmd = 0x19 ∧ 72 ≤ siz)))) ∧
    (cmd ≠ 0x1d → st1.loadCsStart = st0.loadCsStart ∧ st1.sigStart = st0.sigStart ∧ st1.sigLen = st0.sigLen) ∧
    (cmd = 0x1d → st1.loadCsStart = pos ∧ st1.sigStart = rd32 be f (pos + 8) ∧ st1.sigLen = rd32 be f (pos + 12)) := by
  revert h
  fun_cases cmdStep le be f pos cmd siz st0 <;> intro h
  case case3 c1 c4 st fs _ =>
    cases h
    by_cases cl : isLinkEditL le f (pos + 8) = true <;> simp [st, cl, c1] <;> omega
  case case6 _ c2 c4 st fs _ =>
    cases h
    by_cases cl : isLinkEditL le f (pos + 8) = true <;> simp [st, cl, c2] <;> omega
  case case8 _ _ c3 _ => cases h; simp [c3]
  case case9 _ _ c3 => cases h; simp [c3]
  all_goals cases h

theorem cmdStep_no_panic (le : Bytes) (be : Bool) (f : Bytes) (pos cmd siz : Nat) (st : ScanSt) (s : String) :
    cmdStep le be f pos cmd siz st ≠ .panic s := by
  fun_cases cmdStep le be f pos cmd siz st <;> nofun

theorem cmdLoop_no_panic (be : Bool) (f : Bytes) (stop : Nat) : ∀ (n pos : Nat) (st : ScanSt) (s : String),
    cmdLoop be f stop n pos st ≠ .panic s := by
  intro n
  induction n with
  | zero => intro pos st s h; cases h
  | succ n ih =>
    intro pos st s h
    rw [cmdLoop_succ, Res.errGuard_eq_panic, Res.errGuard_eq_panic] at h
    obtain ⟨_, _, h⟩ := h
    cases hst : cmdStep linkedit be f pos (rd32 be f pos) (rd32 be f (pos + 4)) st with
    | ok st1 => rw [hst] at h; exact ih _ _ _ h
    | err x => rw [hst] at h; cases h
    | panic x => exact cmdStep_no_panic _ _ _ _ _ _ _ _ hst
    | diverge => rw [hst] at h; cases h

/-- 56: room for the fields `patchLinkEdit` writes in the recorded __LINKEDIT command -/
theorem cmdLoop_lePos (be : Bool) (f : Bytes) (stop : Nat) : ∀ (n pos : Nat) (st0 st : ScanSt),
    cmdLoop be f stop n pos st0 = .ok st → st.lePos = st0.lePos ∨ (pos ≤ st.lePos ∧ st.lePos + 56 ≤ stop) := by
  intro n
  induction n with
  | zero => intro pos st0 st h; simp only [cmdLoop] at h; injection h with h; subst h; exact Or.inl rfl
  | succ n ih =>
    intro pos st0 st h
    obtain ⟨h8, hs8, hs, st1, hst, hrest⟩ := cmdLoop_succ_ok be f stop n pos st0 st h
    have hf := (cmdStep_facts _ be f pos _ _ st0 st1 hst).1
    rcases ih _ _ _ hrest with h1 | h1
    · rcases hf with h2 | h2
      · left; rw [h1, h2]
      · right; rw [h1, h2.1]; omega
    · right; omega

/-- on the same bytes, the commands the scanner records are entries of the list the verifier's walk returns -/
theorem cmdLoop_loads (be : Bool) (f : Bytes) (stop : Nat) : ∀ (n pos : Nat) (st0 st : ScanSt) (l : List Load),
    cmdLoop be f stop n pos st0 = .ok st → loadLoop be f stop n pos = .ok l →
    (st.lePos = st0.lePos ∨ ∃ c s, (st.lePos, c, s) ∈ l ∧ (c = 1 ∨ c = 0x19)) ∧
    ((st.loadCsStart = st0.loadCsStart ∧ st.sigStart = st0.sigStart ∧ st.sigLen = st0.sigLen ∧ ∀ e ∈ l, e.2.1 ≠ 0x1d) ∨
     (∃ s, (st.loadCsStart, 0x1d, s) ∈ l ∧ st.sigStart = rd32 be f (st.loadCsStart + 8) ∧
        st.sigLen = rd32 be f (st.loadCsStart + 12))) := by
  intro n
  induction n with
  | zero =>
    intro pos st0 st l h hl
    simp only [cmdLoop] at h; injection h with h; subst h
    simp only [loadLoop] at hl; injection hl with hl; subst hl
    exact ⟨Or.inl rfl, Or.inl ⟨rfl, rfl, rfl, by simp⟩⟩
  | succ n ih =>
    intro pos st0 st l h hl
    obtain ⟨_, _, _, st1, hst, hrest⟩ := cmdLoop_succ_ok be f stop n pos st0 st h
    obtain ⟨_, rest, hl', rfl⟩ := loadLoop_succ_ok be f stop n pos l hl
    obtain ⟨f1, f2, f3⟩ := cmdStep_facts _ be f pos _ _ st0 st1 hst
    obtain ⟨i1, i2⟩ := ih _ _ _ _ hrest hl'
    constructor
    · rcases i1 with i1 | ⟨c, s, hm, hc⟩
      · rcases f1 with f1 | f1
        · left; rw [i1, f1]
        · right
          refine ⟨rd32 be f pos, rd32 be f (pos + 4), ?_, by omega⟩
          rw [i1, f1.1]; exact List.mem_cons_self
      · exact Or.inr ⟨c, s, List.mem_cons_of_mem _ hm, hc⟩
    · rcases i2 with ⟨j1, j2, j3, j4⟩ | ⟨s, hm, j2, j3⟩
      · by_cases c : rd32 be f pos = 0x1d
        · right
          obtain ⟨k1, k2, k3⟩ := f3 c
          refine ⟨rd32 be f (pos + 4), ?_, ?_, ?_⟩
          · rw [j1, k1, ← c]; exact List.mem_cons_self
          · rw [j2, k2, j1, k1]
          · rw [j3, k3, j1, k1]
        · left
          obtain ⟨k1, k2, k3⟩ := f2 c
          refine ⟨by rw [j1, k1], by rw [j2, k2], by rw [j3, k3], ?_⟩
          intro e he
          rcases List.mem_cons.mp he with rfl | he
          · exact c
          · exact j4 e he
      · exact Or.inr ⟨s, List.mem_cons_of_mem _ hm, j2, j3⟩

theorem chain_same_pos (l : List Load) (pos : Nat) (hc : Chain pos l) (hs : ∀ e ∈ l, 0 < e.2.2)
    (e e' : Load) (he : e ∈ l) (he' : e' ∈ l) (h : e.1 = e'.1) : e = e' := by
  rcases chain_disjoint l pos hc hs e he e' he' with h1 | h1 | h1
  · exact h1
  · have := hs e he; omega
  · have := hs e' he'; omega

/-- the byte positions `patchLinkEdit` writes: Memsz and Filesz of the recorded segment command -/
def leField (is64 : Bool) (lePos i : Nat) : Prop :=
  if is64 then (lePos + 32 ≤ i ∧ i < lePos + 40) ∨ (lePos + 48 ≤ i ∧ i < lePos + 56)
  else (lePos + 28 ≤ i ∧ i < lePos + 32) ∨ (lePos + 36 ≤ i ∧ i < lePos + 40)

/-- the checks do not look at the 32-bit Memsz/Filesz fields, and at the 64-bit file size only for its sign -/
theorem StepOK_lePatched (be : Bool) (f x : Bytes) (stop stop' : Nat) (is64 : Bool) (p c s : Nat) (hst : stop ≤ stop')
    (hk : (c = 0x19 ∧ is64 = true) ∨ (c = 1 ∧ is64 = false))
    (hx : ∀ i, p ≤ i → i < p + s → ¬ leField is64 p i → x[i]? = f[i]?)
    (h48 : is64 = true → rd64 be x (p + 48) < 2 ^ 63)
    (hf : StepOK be f stop (p, c, s)) : StepOK be x stop' (p, c, s) := by
  obtain ⟨a1, a2, a3, a4, a5⟩ := hf
  have hsz := stepChk_size be f p c s a5
  refine ⟨?_, ?_, a3, Nat.le_trans a4 hst, ?_⟩
  · show rd32 be x p = c
    have hn : ∀ i, i < p + 4 → ¬ leField is64 p i := by intro i hi; unfold leField; split <;> omega
    rw [rd32_congr be f x p (fun i h1 h2 => hx i h1 (by have : 8 ≤ s := a3; omega) (hn i h2))]; exact a1
  · show rd32 be x (p + 4) = s
    have hn : ∀ i, i < p + 8 → ¬ leField is64 p i := by intro i hi; unfold leField; split <;> omega
    rw [rd32_congr be f x (p + 4) (fun i h1 h2 => hx i (by omega) (by have : 8 ≤ s := a3; omega) (hn i h2))]; exact a2
  · show stepChk be x p c s = .ok ()
    rcases hk with ⟨rfl, rfl⟩ | ⟨rfl, rfl⟩
    · obtain ⟨h72, _, hlt⟩ := hsz.2 rfl
      have hx' : ∀ i, p ≤ i → i < p + s → ¬ ((p + 32 ≤ i ∧ i < p + 40) ∨ (p + 48 ≤ i ∧ i < p + 56)) → x[i]? = f[i]? :=
        hx
      rw [stepChk_seg64_congr be f x p s (fun i h1 h2 => hx' i (by omega) (by omega) (by omega))
        (fun i h1 h2 => hx' i (by omega) (by omega) (by omega))
        ⟨fun h => by have := h48 rfl; omega, fun h => by omega⟩ (fun i h1 h2 => hx' i (by omega) h2 (by omega))]
      exact a5
    · have h56 := hsz.1 rfl
      have hx' : ∀ i, p ≤ i → i < p + s → ¬ ((p + 28 ≤ i ∧ i < p + 32) ∨ (p + 36 ≤ i ∧ i < p + 40)) → x[i]? = f[i]? :=
        hx
      rw [stepChk_seg32_congr be f x p s (fun i h1 h2 => hx' i (by omega) (by omega) (by omega))
        (fun i h1 h2 => hx' i (by omega) h2 (by omega))]
      exact a5

/-- every command except the one at `lc` still passes on a buffer that differs from `f` only in the __LINKEDIT size fields and
    in `[lc, lc+16)` -/
theorem stepOK_patched (be : Bool) (f x : Bytes) (stop stop' hdrEnd : Nat) (l : List Load) (is64 : Bool)
    (lePos cLe sLe lc : Nat) (hst : stop ≤ stop')
    (hc : Chain hdrEnd l) (hok : ∀ e ∈ l, StepOK be f stop e)
    (hle : (lePos, cLe, sLe) ∈ l) (hk : (cLe = 0x19 ∧ is64 = true) ∨ (cLe = 1 ∧ is64 = false))
    (hlc : ∀ e ∈ l, e.1 ≠ lc → e.1 + e.2.2 ≤ lc ∨ lc + 16 ≤ e.1) (hne : lePos ≠ lc)
    (hx : ∀ i, hdrEnd ≤ i → i < stop → ¬ leField is64 lePos i → ¬ (lc ≤ i ∧ i < lc + 16) → x[i]? = f[i]?)
    (h48 : is64 = true → rd64 be x (lePos + 48) < 2 ^ 63) :
    ∀ e ∈ l, e.1 ≠ lc → StepOK be x stop' e := by
  have hpos : ∀ e ∈ l, 0 < e.2.2 := fun e he => by have := (hok e he).2.2.1; omega
  have hLe := hok _ hle
  have hsLe : 56 ≤ sLe := by
    have hsz := stepChk_size be f lePos cLe sLe hLe.2.2.2.2
    rcases hk with ⟨k1, _⟩ | ⟨k1, _⟩
    · have := (hsz.2 k1).1; omega
    · exact hsz.1 k1
  have hmLe : hdrEnd ≤ lePos := (chain_mem l hdrEnd hc _ hle).1
  have hendLe : lePos + sLe ≤ stop := hLe.2.2.2.1
  have hlcLe : lePos + sLe ≤ lc ∨ lc + 16 ≤ lePos := hlc _ hle hne
  intro e he hec
  -- the command at `lePos` passes by `StepOK_lePatched`; any other is disjoint from it and from `[lc, lc+16)`: `StepOK_congr`
  by_cases c : e.1 = lePos
  · have : e = (lePos, cLe, sLe) := chain_same_pos l hdrEnd hc hpos _ _ he hle c
    subst this
    exact StepOK_lePatched be f x stop stop' is64 lePos cLe sLe hst hk
      (fun i h1 h2 h3 => hx i (by omega) (by omega) h3 (by omega)) h48 hLe
  · have hd := chain_disjoint l hdrEnd hc hpos e he _ hle
    have hm := (chain_mem l hdrEnd hc e he).1
    have hs := hok e he
    have hend : e.1 + e.2.2 ≤ stop := hs.2.2.2.1
    have hl := hlc e he hec
    refine StepOK_congr be f x stop stop' e hst (fun i h1 h2 => ?_) hs
    refine hx i (by omega) (by omega) (fun hf => ?_) (by omega)
    have : lePos ≤ i ∧ i < lePos + sLe := by unfold leField at hf; split at hf <;> omega
    rcases hd with hd | hd | hd
    · rw [hd] at c; exact c rfl
    · simp only at hd; omega
    · simp only at hd; omega

theorem stepChk_cs (be : Bool) (x : Bytes) (pos siz : Nat) : stepChk be x pos 0x1d siz = .ok () := by
  unfold stepChk; rw [if_neg (by decide), if_neg (by decide), if_neg (by decide)]

/-- LC_CODE_SIGNATURE appended directly behind the last command (`stop` = end of the walk of
    `f` = old end of commands), the command count raised by one and the end of commands by 16 -/
theorem walk_patched_new (be : Bool) (f x : Bytes) (stop hdrEnd n : Nat) (l : List Load) (is64 : Bool)
    (lePos cLe sLe : Nat)
    (hl : loadLoop be f stop n hdrEnd = .ok l) (hend : chainEnd hdrEnd l = stop)
    (hle : (lePos, cLe, sLe) ∈ l) (hk : (cLe = 0x19 ∧ is64 = true) ∨ (cLe = 1 ∧ is64 = false))
    (hx : ∀ i, hdrEnd ≤ i → i < stop → ¬ leField is64 lePos i → x[i]? = f[i]?)
    (h48 : is64 = true → rd64 be x (lePos + 48) < 2 ^ 63)
    (hc1 : rd32 be x stop = 0x1d) (hc2 : rd32 be x (stop + 4) = 16) :
    loadLoop be x (stop + 16) (n + 1) hdrEnd = .ok (l ++ [(stop, 0x1d, 16)]) := by
  obtain ⟨a, b, c⟩ := loadLoop_sound be f stop _ _ _ hl
  have hin : ∀ e ∈ l, e.1 + e.2.2 ≤ stop := fun e he => (c e he).2.2.2.1
  have hpos : ∀ e ∈ l, 0 < e.2.2 := fun e he => by have := (c e he).2.2.1; omega
  have hold := stepOK_patched be f x stop (stop + 16) hdrEnd l is64 lePos cLe sLe stop (by omega) b c hle hk
    (fun e he _ => Or.inl (hin e he)) (by have := hin _ hle; have := hpos _ hle; simp only at *; omega)
    (fun i h1 h2 h3 _ => hx i h1 h2 h3) h48
  have := loadLoop_replay be x (stop + 16) (l ++ [(stop, 0x1d, 16)]) hdrEnd
    ((chain_append l _ hdrEnd).mpr ⟨b, by rw [hend]; exact ⟨rfl, trivial⟩⟩)
    (fun e he => by
      rcases List.mem_append.mp he with h | h
      · exact hold e h (by have := hin e h; have := hpos e h; omega)
      · rw [List.mem_singleton] at h; subst h
        exact ⟨hc1, hc2, (by show 8 ≤ 16; omega), Nat.le_refl _, stepChk_cs be x stop 16⟩)
  rw [List.length_append, a] at this
  exact this

/-- the existing 16-byte LC_CODE_SIGNATURE command at `lc` overwritten in place -/
theorem walk_patched_old (be : Bool) (f x : Bytes) (stop hdrEnd n : Nat) (l : List Load) (is64 : Bool)
    (lePos cLe sLe lc : Nat)
    (hl : loadLoop be f stop n hdrEnd = .ok l) (hcs : (lc, 0x1d, 16) ∈ l)
    (hle : (lePos, cLe, sLe) ∈ l) (hk : (cLe = 0x19 ∧ is64 = true) ∨ (cLe = 1 ∧ is64 = false))
    (hx : ∀ i, hdrEnd ≤ i → i < stop → ¬ leField is64 lePos i → ¬ (lc ≤ i ∧ i < lc + 16) → x[i]? = f[i]?)
    (h48 : is64 = true → rd64 be x (lePos + 48) < 2 ^ 63)
    (hc1 : rd32 be x lc = 0x1d) (hc2 : rd32 be x (lc + 4) = 16) :
    loadLoop be x stop n hdrEnd = .ok l := by
  obtain ⟨a, b, c⟩ := loadLoop_sound be f stop _ _ _ hl
  have hpos : ∀ e ∈ l, 0 < e.2.2 := fun e he => by have := (c e he).2.2.1; omega
  have hne : lePos ≠ lc := by
    intro h
    have := chain_same_pos l hdrEnd b hpos _ _ hle hcs h
    injection this with _ h2; injection h2 with h3 _
    rcases hk with ⟨k, _⟩ | ⟨k, _⟩ <;> omega
  have hold := stepOK_patched be f x stop stop hdrEnd l is64 lePos cLe sLe lc (Nat.le_refl _) b c hle hk
    (fun e he hn => by
      rcases chain_disjoint l hdrEnd b hpos e he _ hcs with h | h | h
      · rw [h] at hn; exact absurd rfl hn
      · exact Or.inl h
      · exact Or.inr h) hne hx h48
  have := loadLoop_replay be x stop l hdrEnd b (fun e he => by
    by_cases h : e.1 = lc
    · have := chain_same_pos l hdrEnd b hpos _ _ he hcs h
      subst this
      exact ⟨hc1, hc2, (by show 8 ≤ 16; omega), (c _ hcs).2.2.2.1, stepChk_cs be x lc 16⟩
    · exact hold e he h)
  rw [a] at this
  exact this

def hdrEndOf (magic : Nat) : Nat := if magic = 0xfeedfacf then 32 else 28

/-- what a successful `scanOrig` says about its markers `m` and the state `st` its loop ended in -/
structure ScanInv (f : Bytes) (m : Markers) (st : ScanSt) : Prop where
  magic : readMagic f = some (m.be, m.magic)
  len28 : 28 ≤ f.length
  nextLc : m.nextLc = hdrEndOf m.magic + rd32 m.be f 20
  stopLe : m.nextLc ≤ f.length
  consumed : m.consumed = m.nextLc
  loop : cmdLoop m.be f m.nextLc (rd32 m.be f 16) (hdrEndOf m.magic) {} = .ok st
  lePos : m.lePos = st.lePos
  lePos0 : m.lePos ≠ 0
  loadCsStart : m.loadCsStart = st.loadCsStart
  sigStart : m.sigStart = st.sigStart
  sigLen : m.sigLen = st.sigLen
  codeSize : m.sigLen ≠ 0 → m.codeSize = (m.sigStart : Int)

theorem hdrEndOf_eq (magic : Nat) : (if magic = 0xfeedfacf then 32 else 28) = hdrEndOf magic := rfl

theorem hdrEndOf_ge (magic : Nat) : 28 ≤ hdrEndOf magic := by unfold hdrEndOf; split <;> omega

theorem scanOrig_inv (f : Bytes) (m : Markers) (h : scanOrig f = .ok m) : ∃ st, ScanInv f m st := by
  revert h
  fun_cases scanOrig f <;> intro h
  case case10 _ be magic hm h28 ncmd cmdsz hdrEnd hlen _ st hst hle _ _ _ hs0 _ _ =>
    cases h
    -- a recorded __LINKEDIT command means there was a command: `sizeofcmds ≠ 0`
    have hne : 8 ≤ hdrEnd + cmdsz - hdrEnd := cmdLoop_nonempty _ _ _ _ _ _ hst hle
    have hcz : ¬ cmdsz = 0 := by omega
    exact ⟨st, hm, by omega, rfl, by show hdrEnd + cmdsz ≤ f.length; omega, if_neg hcz, hst, rfl, hle, rfl, rfl, rfl,
      fun _ => rfl⟩
  case case11 _ be magic hm h28 ncmd cmdsz hdrEnd hlen _ st hst hle _ _ _ hs0 =>
    cases h
    have hne : 8 ≤ hdrEnd + cmdsz - hdrEnd := cmdLoop_nonempty _ _ _ _ _ _ hst hle
    have hcz : ¬ cmdsz = 0 := by omega
    exact ⟨st, hm, by omega, rfl, by show hdrEnd + cmdsz ≤ f.length; omega, if_neg hcz, hst, rfl, hle, rfl, rfl, rfl,
      fun c => absurd c hs0⟩
  all_goals cases h

theorem scanOrig_lePos (f : Bytes) (m : Markers) (h : scanOrig f = .ok m) : m.lePos ≠ 0 ∧ m.lePos + 56 ≤ m.nextLc := by
  obtain ⟨st, S⟩ := scanOrig_inv f m h
  refine ⟨S.lePos0, ?_⟩
  rcases cmdLoop_lePos _ _ _ _ _ _ _ S.loop with h1 | h1
  · exact absurd (S.lePos.trans h1) S.lePos0
  · rw [S.lePos]; exact h1.2

theorem newFile_inv (f : Bytes) (be : Bool) (l : List Load) (h : newFile f = .ok (be, l)) :
    ∃ magic, readMagic f = some (be, magic) ∧ hdrEndOf magic + rd32 be f 20 ≤ f.length ∧
      loadLoop be f (hdrEndOf magic + rd32 be f 20) (rd32 be f 16) (hdrEndOf magic) = .ok l := by
  revert h
  fun_cases newFile f <;> intro h
  case case5 _ _ magic hm _ _ _ _ hlen _ hl => cases h; exact ⟨magic, hm, Nat.le_of_not_lt hlen, hl⟩
  all_goals cases h

/- Evaluating `scanOrig` on concrete images.  `linkedit` is defined through `String.toUTF8`, which the kernel cannot evaluate
   (`ByteArray.toList` is defined by well-founded recursion).  `cmdLoopL` (beside `cmdLoop_succ`) is the loop with the ten name
   bytes as a parameter; `scanOrig_eq` puts `scanOrig` behind its tests of the file's length (so that the length of a large image
   is never computed) and in terms of `cmdLoopL` on the literal bytes, where `decide` works. -/

theorem linkedit_eq : linkedit = [95, 95, 76, 73, 78, 75, 69, 68, 73, 84] := by
  unfold linkedit
  have e : "__LINKEDIT" = String.ofList ['_', '_', 'L', 'I', 'N', 'K', 'E', 'D', 'I', 'T'] := by decide
  rw [e, String.toUTF8, String.toByteArray_ofList]
  have e2 : ['_', '_', 'L', 'I', 'N', 'K', 'E', 'D', 'I', 'T'].utf8Encode =
      [95, 95, 76, 73, 78, 75, 69, 68, 73, 84].toByteArray := by decide
  rw [e2]
  simp [ByteArray.toList, ByteArray.toList.loop, ByteArray.size, ByteArray.get!]

/-- what `scanFile` makes of the markers behind its loop (`sizeofcmds ≠ 0`, before fix F-MACHO-4) -/
def scanFinish (be : Bool) (magic stop : Nat) (st : ScanSt) : Res Markers :=
  if st.lePos = 0 then .err "nolinkedit" else
  let leEnd := wrapI64 (CodeDir.toI64 st.leOffset + CodeDir.toI64 st.leFilesz)
  let mk (cs : Int) : Markers :=
    ⟨be, magic, st.sigStart, st.sigLen, st.loadCsStart, st.lePos, st.leOffset, st.leFilesz, stop, st.firstSh, cs, stop⟩
  if st.sigLen ≠ 0 then
    let sigEnd : Int := st.sigStart + st.sigLen
    if sigEnd > leEnd ∨ sigEnd < wrapI64 (leEnd - 16) then .err "coterminous" else .ok (mk st.sigStart)
  else .ok (mk leEnd)

theorem scanOrig_eq (f : Bytes) (be : Bool) (magic : Nat) (hm : readMagic f = some (be, magic)) (h28 : 28 ≤ f.length)
    (hlen : hdrEndOf magic + rd32 be f 20 ≤ f.length) (hcz : rd32 be f 20 ≠ 0) :
    scanOrig f =
      match cmdLoopL [95, 95, 76, 73, 78, 75, 69, 68, 73, 84] be f (hdrEndOf magic + rd32 be f 20) (rd32 be f 16)
          (hdrEndOf magic) {} with
      | .ok st => scanFinish be magic (hdrEndOf magic + rd32 be f 20) st
      | .err e => .err e
      | .panic p => .panic p
      | .diverge => .diverge := by
  unfold scanOrig
  rw [if_neg (by omega), hm]
  dsimp only
  rw [if_neg (by omega), hdrEndOf_eq, if_neg (by omega), cmdLoop_eq_L, linkedit_eq, if_neg hcz]
  cases cmdLoopL [95, 95, 76, 73, 78, 75, 69, 68, 73, 84] be f (hdrEndOf magic + rd32 be f 20) (rd32 be f 16)
    (hdrEndOf magic) {} <;> rfl

end Relic.MachO
