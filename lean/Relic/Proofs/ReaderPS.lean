/-
  Relic.Proofs.ReaderPS — the reader program `digestPS`, run on a whole file, is the whole-buffer model
  `Relic.PS.DigestPS` (text size, signature size, UTF-16 flag, bytes hashed).
-/
import Relic.Proofs.ReaderFlat
import Relic.Proofs.Reader
import Relic.Proofs.PSFrame
namespace Relic.Rd
open Relic.PS (Item lines8 lines16 digestLoop conv isUtf16 isUtf16_eq firstLine styleOf)

/-- UTF-16LE: code units until 0A 00 -/
def cut16 : Bytes → Bytes → Bytes × Bool × Bytes
  | cur, [] => (cur, true, [])
  | cur, [b] => (cur ++ [b], true, [])
  | cur, a :: b :: bs => if a = 10 ∧ b = 0 then (cur ++ [10, 0], false, bs) else cut16 (cur ++ [a, b]) bs

/-- the next line of the flat content: (line, returned together with io.EOF?, what follows).  For 8-bit text this is the
    model's `flatReadString 10`, with the error as a flag. -/
def nextLine (u16 : Bool) (d : Bytes) : Bytes × Bool × Bytes :=
  if u16 then cut16 [] d
  else match cutAt 10 d with
    | some (l, r) => (l, false, r)
    | none => (d, true, [])

def items (u16 : Bool) (d : Bytes) : List Item := if u16 then lines16 [] d else lines8 [] d

theorem lines8_cut (cur d : Bytes) :
    lines8 cur d = match cutAt 10 d with
      | some (l, r) => .line (cur ++ l) (cur.length + l.length) :: lines8 [] r
      | none => [.line (cur ++ d) (cur.length + d.length)] := by
  induction d generalizing cur with
  | nil => simp [lines8, cutAt]
  | cons b bs ih =>
    simp only [lines8, cutAt]
    by_cases hb : b = 10
    · simp [hb]
    · simp only [hb, ↓reduceIte]
      rw [ih (cur ++ [b])]
      cases cutAt 10 bs with
      | none => simp; omega
      | some p => simp; omega

theorem lines16_cut (cur d : Bytes) :
    lines16 cur d =
      if (cut16 cur d).2.1 then [.line (cut16 cur d).1 (cut16 cur d).1.length]
      else .line (cut16 cur d).1 (cut16 cur d).1.length :: lines16 [] (cut16 cur d).2.2 := by
  fun_induction cut16 cur d with
  | case1 cur => simp [lines16]
  | case2 cur b => simp [lines16]
  | case3 cur a b bs h => simp [lines16, h]
  | case4 cur a b bs h ih => simp only [lines16, h, ↓reduceIte]; exact ih

theorem cut16_spec (cur d : Bytes) : (cut16 cur d).1 ++ (cut16 cur d).2.2 = cur ++ d ∧
    ((cut16 cur d).2.1 = true → (cut16 cur d).2.2 = []) ∧
    ((cut16 cur d).2.1 = false → (cut16 cur d).2.2.length < d.length) := by
  fun_induction cut16 cur d with
  | case1 cur => simp
  | case2 cur b => simp
  | case3 cur a b bs hc => simp [hc.1, hc.2]; omega
  | case4 cur a b bs _ ih =>
    exact ⟨by simpa using ih.1, ih.2.1, fun h => by have := ih.2.2 h; simp only [List.length_cons]; omega⟩

theorem items_next (u16 : Bool) (d : Bytes) :
    items u16 d =
      if (nextLine u16 d).2.1 then [.line (nextLine u16 d).1 (nextLine u16 d).1.length]
      else .line (nextLine u16 d).1 (nextLine u16 d).1.length :: items u16 (nextLine u16 d).2.2 := by
  cases u16 with
  | true =>
    simp only [items, nextLine, ↓reduceIte]
    have := lines16_cut [] d
    simpa using this
  | false =>
    simp only [items, nextLine, Bool.false_eq_true, ↓reduceIte]
    rw [lines8_cut]
    cases cutAt 10 d with
    | none => simp
    | some p => simp

theorem nextLine_spec (u16 : Bool) (d : Bytes) :
    (nextLine u16 d).1 ++ (nextLine u16 d).2.2 = d ∧
    ((nextLine u16 d).2.1 = true → (nextLine u16 d).2.2 = []) ∧
    ((nextLine u16 d).2.1 = false → (nextLine u16 d).2.2.length < d.length) := by
  cases u16 with
  | true =>
    simp only [nextLine, ↓reduceIte]
    simpa using cut16_spec [] d
  | false =>
    simp only [nextLine, Bool.false_eq_true, ↓reduceIte]
    cases hc : cutAt 10 d with
    | none => simp
    | some p =>
      obtain ⟨l, r⟩ := p
      obtain ⟨hl, hcat⟩ := cutAt_some hc
      simp only
      refine ⟨hcat, by simp, fun _ => ?_⟩
      have := congrArg List.length hcat
      simp only [List.length_append] at this
      have : 0 < l.length := List.length_pos_iff.mpr hl
      omega

/-- the flat reader of `digestPS` in mid-run: `d` still to come, ending in io.EOF, behind a `bufio.Reader` of size `sz` -/
def bst (d : Bytes) (sz : Nat) : Flat := ⟨d, .eof, some sz⟩

theorem obs_readLine16 {α} (fuel : Nat) (line d : Bytes) (sz : Nat) (k : Bytes → Option BErr → Prog α)
    (hf : d.length < 2 * fuel) :
    obs (runFlat (readLine16 fuel line k) (bst d sz)) =
      obs (runFlat (k (cut16 line d).1 (if (cut16 line d).2.1 then some (.term .eof) else none)) (bst (cut16 line d).2.2 sz)) := by
  induction fuel generalizing line d with
  | zero => omega
  | succ fuel ih =>
    simp only [readLine16, runFlat, bst]
    match d with
    | [] => simp [cut16]
    | [b] => simp [cut16]
    | a :: b :: bs =>
      simp only [cut16]
      by_cases hc : a = 10 ∧ b = 0
      · simp only [hc, and_self, ↓reduceIte, Bool.false_eq_true]
      · simp only [hc, ↓reduceIte]
        have := ih (line ++ [a, b]) bs (by simp at hf; omega)
        simp only [bst] at this
        exact this

theorem obs_readLine {α} (u16 : Bool) (lfuel : Nat) (d : Bytes) (sz : Nat) (k : Bytes → Option BErr → Prog α)
    (hf : d.length < 2 * lfuel) :
    obs (runFlat (readLine u16 lfuel k) (bst d sz)) =
      obs (runFlat (k (nextLine u16 d).1 (if (nextLine u16 d).2.1 then some (.term .eof) else none))
        (bst (nextLine u16 d).2.2 sz)) := by
  cases u16 with
  | true =>
    simp only [readLine, nextLine, ↓reduceIte]
    exact obs_readLine16 lfuel [] d sz k hf
  | false =>
    simp only [readLine, nextLine, Bool.false_eq_true, ↓reduceIte, runFlat, bst, flatReadString]
    cases cutAt 10 d with
    | none => rfl
    | some p => rfl

/-- what `PS.digestLoop` returns (hashed bytes, text size, signature size) as the program reports it -/
def toObsLoop (u16 : Bool) (r : Res (Bytes × Nat × Nat)) : Obs PSOut :=
  match r with
  | .ok (h, ts, ss) => .ok (⟨ts, ss, u16⟩, h, [])
  | .err e => .err e
  | .panic p => .panic p
  | .diverge => .diverge

/-- the loop only appends to what is hashed so far.  (`digestLoop true true`: the code with both fixes, F8b and F-ps-eol, which
    is what `PS.DigestPS` runs and the program `digestPS` transcribes.) -/
theorem digestLoop_hashed (first : Bytes) (u16 : Bool) (k flen : Nat) (its : List Item) (saved h : Bytes) (ts pos : Nat) :
    digestLoop true true first u16 k flen its saved h ts pos =
      match digestLoop true true first u16 k flen its saved [] ts pos with
      | .ok (h', ts', ss) => .ok (h ++ h', ts', ss)
      | .err e => .err e
      | .panic p => .panic p
      | .diverge => .diverge := by
  induction its generalizing saved h ts pos with
  | nil => simp [digestLoop]
  | cons it rest ih =>
    cases it with
    | bad => simp [digestLoop]
    | line l phys =>
      simp only [digestLoop]
      by_cases hl : l = first
      · simp only [hl, ↓reduceIte]
        split
        · rfl
        · split
          · rfl
          · simp
      · simp only [hl, ↓reduceIte]
        rw [ih l (h ++ conv u16 saved), ih l ([] ++ conv u16 saved)]
        cases digestLoop true true first u16 k flen rest l [] (ts + saved.length) (pos + phys) with
        | ok v => obtain ⟨a, b, c⟩ := v; simp
        | err e => rfl
        | panic p => rfl
        | diverge => rfl

/-- the marker line: the program ends as `digestLoop` does at a line equal to `first` (`rest` = what follows it) -/
theorem obs_psMarker (u16 : Bool) (first saved rest : Bytes) (ts pos flen sz : Nat) (its : List Item)
    (hlen : flen - (pos + first.length) = rest.length) :
    obs (runFlat (psMarker u16 (if u16 then 4 else 2) saved ts first) (bst rest sz)) =
      toObsLoop u16 (digestLoop true true first u16 (if u16 then 4 else 2) flen (.line first first.length :: its) saved [] ts pos) := by
  simp only [digestLoop, ↓reduceIte, psMarker]
  by_cases hs : saved.length < (if u16 = true then 4 else 2)
  · simp only [hs, ↓reduceIte]
    rfl
  · by_cases hc : saved.drop (saved.length - (if u16 = true then 4 else 2)) ≠
        first.drop (first.length - (if u16 = true then 4 else 2))
    · simp only [hs, hc, ↓reduceIte, and_self, ne_eq, not_false_eq_true]
      rfl
    · simp only [hs, hc, ↓reduceIte, runFlat, bst, and_false]
      simp [hlen, obs, toObsLoop, sinkBytes, hashSink, patchedSink]

theorem obs_psLoop (u16 : Bool) (first : Bytes) (lfuel flen sz : Nat) (fuel : Nat) (d saved : Bytes) (ts pos : Nat)
    (hf : d.length < fuel) (hlf : d.length < 2 * lfuel) (hpos : pos + d.length = flen) :
    obs (runFlat (psLoop u16 first lfuel fuel saved ts) (bst d sz)) =
      toObsLoop u16 (digestLoop true true first u16 (if u16 then 4 else 2) flen (items u16 d) saved [] ts pos) := by
  induction fuel generalizing d saved ts pos with
  | zero => omega
  | succ fuel ih =>
    simp only [psLoop]
    rw [obs_readLine u16 lfuel d sz _ hlf, items_next u16 d]
    obtain ⟨hcat, heof, hlt⟩ := nextLine_spec u16 d
    generalize nextLine u16 d = nl at hcat heof hlt
    obtain ⟨line, e, rest⟩ := nl
    simp only at hcat heof hlt ⊢
    have hlen : d.length = line.length + rest.length := by
      rw [← hcat]
      simp
    by_cases hl : line = first
    · -- the marker line, with or without io.EOF
      subst hl
      cases e with
      | true =>
        rw [heof rfl] at hlen ⊢
        simp only [↓reduceIte, psStep]
        exact obs_psMarker u16 line saved [] ts pos flen sz [] (by simp at hlen ⊢; omega)
      | false =>
        simp only [Bool.false_eq_true, ↓reduceIte, psStep]
        exact obs_psMarker u16 line saved rest ts pos flen sz _ (by omega)
    · cases e with
      | true =>
        simp only [↓reduceIte, psStep, digestLoop, hl]
        rw [obs_emit, obs_emit, obs_ret]
        simp [toObsLoop, pre, hashSink, patchedSink, Nat.add_assoc]
      | false =>
        have hlt' := hlt rfl
        simp only [Bool.false_eq_true, ↓reduceIte, psStep, digestLoop, hl]
        have hne : ¬ ((none : Option BErr) = some (.term .eof)) := by simp
        rw [obs_emit, if_neg hne, ih rest line (ts + saved.length) (pos + line.length) (by omega) (by omega) (by omega)]
        rw [digestLoop_hashed first u16 _ flen (items u16 rest) line ([] ++ conv u16 saved)]
        cases digestLoop true true first u16 (if u16 = true then 4 else 2) flen (items u16 rest) line [] (ts + saved.length)
            (pos + line.length) with
        | ok v =>
          obtain ⟨a, b, c⟩ := v
          simp [toObsLoop, pre, hashSink, patchedSink]
        | err e => rfl
        | panic p => rfl
        | diverge => rfl

/-- what the model returns, as an observation -/
def psObs (f : Bytes) (style : Nat) : Obs PSOut :=
  match PS.DigestPS f style with
  | .ok d => .ok (⟨d.textSize, d.sigSize, d.utf16⟩, d.hashed, [])
  | .err e => .err e
  | .panic p => .panic p
  | .diverge => .diverge

/-- what `detectUtf16` makes of `Peek(2)` is `isUtf16` of the whole file -/
theorem peek2_isUtf16 (f : Bytes) (sz : Nat) (h : 2 ≤ sz) :
    ((flatPeek 2 sz ⟨f, .eof, some sz⟩).2.isNone && isUtf16 (flatPeek 2 sz ⟨f, .eof, some sz⟩).1) = isUtf16 f := by
  rw [flatPeek, if_neg (by omega)]
  by_cases h2 : f.length < 2
  · have : f.take 2 ≠ [0xff, 0xfe] := fun e => by
      have := congrArg List.length e
      rw [List.length_take] at this
      simp at this; omega
    rw [if_pos h2, isUtf16_eq f, decide_eq_false this]
    rfl
  · rw [if_neg h2, isUtf16_eq, isUtf16_eq f, List.take_take, Nat.min_self]
    rfl

theorem ps_flat (f : Bytes) (style fuel : Nat) (hf : f.length + 1 < fuel) :
    obs (runFlat (digestPS style fuel) (Flat.raw f .eof)) = psObs f style := by
  unfold digestPS psObs PS.DigestPS PS.digestWith
  cases hst : styleOf style with
  | none => rfl
  | some p =>
    obtain ⟨st, en⟩ := p
    have erun : runFlat (Prog.wrapBufio 4096 (Prog.peek 2 fun bom e =>
          psLoop (e.isNone && isUtf16 bom) (firstLine st en (e.isNone && isUtf16 bom)) fuel fuel [] 0)) (Flat.raw f .eof) =
        runFlat (psLoop ((flatPeek 2 (max 4096 16) ⟨f, .eof, some (max 4096 16)⟩).2.isNone &&
              isUtf16 (flatPeek 2 (max 4096 16) ⟨f, .eof, some (max 4096 16)⟩).1)
            (firstLine st en ((flatPeek 2 (max 4096 16) ⟨f, .eof, some (max 4096 16)⟩).2.isNone &&
              isUtf16 (flatPeek 2 (max 4096 16) ⟨f, .eof, some (max 4096 16)⟩).1)) fuel fuel [] 0)
          ⟨f, .eof, some (max 4096 16)⟩ := rfl
    simp only
    rw [erun, peek2_isUtf16 f _ (by omega)]
    have := obs_psLoop (isUtf16 f) (firstLine st en (isUtf16 f)) fuel f.length (max 4096 16) fuel f [] 0 0 (by omega) (by omega) (by omega)
    simp only [bst] at this
    rw [this]
    simp only [items]
    cases digestLoop true true (firstLine st en (isUtf16 f)) (isUtf16 f) (if isUtf16 f = true then 4 else 2) f.length
        (if isUtf16 f = true then lines16 [] f else lines8 [] f) [] [] 0 0 with
    | ok v => obtain ⟨a, b, c⟩ := v; rfl
    | err e => rfl
    | panic p => rfl
    | diverge => rfl

end Relic.Rd
