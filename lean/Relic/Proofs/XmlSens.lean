/-
  `canon` is sensitive to single edits of the input tree.  The four kinds of edit (`TextEdit`, `AttrEdit`, `TagEdit`,
  `SwapEdit`) are instances of one notion, `Edit E`: the trees are equal except at one node, where they are related by a
  local relation `E`.  `canon` is taken in its environment-passing form (`canon_eq_walkE`), which recurses on the
  children of a node only; so `walkE` maps `Edit E` to `Edit E'` as soon as it maps `E` to `E'` (`walkE_edit`), and `ser`
  separates `Edit E'`-related trees as soon as it separates `E'`-related nodes whatever follows (`ser_edit`).
-/
import Relic.Proofs.XmlEnv
namespace Relic.Xml.Sens

mutual
/-- `Edit E t t'`: `t'` is `t` with exactly one node `a` replaced by a node `b` such that `E a b` -/
inductive Edit (E : Node → Node → Prop) : Node → Node → Prop
  | here {a b : Node} : E a b → Edit E a b
  | kids {sp tag : Bytes} {as : List Attr} {ks ks' : List Node} :
    EditL E ks ks' → Edit E (.elem sp tag as ks) (.elem sp tag as ks')
inductive EditL (E : Node → Node → Prop) : List Node → List Node → Prop
  | head {n m : Node} {ns : List Node} : Edit E n m → EditL E (n :: ns) (m :: ns)
  | tail {n : Node} {ns ms : List Node} : EditL E ns ms → EditL E (n :: ns) (n :: ms)
end

variable {E E' : Node → Node → Prop}

theorem Edit.keeps (hk : ∀ a b, E a b → keeps a = true ∧ keeps b = true) :
    ∀ {n m : Node}, Edit E n m → keeps n = true ∧ keeps m = true
  | _, _, .here h => hk _ _ h
  | _, _, .kids _ => ⟨rfl, rfl⟩

mutual
theorem walkE_edit (hk : ∀ a b, E a b → keeps a = true ∧ keeps b = true)
    (hE : ∀ ds a b, E a b → E' (walkE ds a) (walkE ds b)) (ds : Env) :
    ∀ {n m : Node}, Edit E n m → Edit E' (walkE ds n) (walkE ds m)
  | _, _, .here h => .here (hE ds _ _ h)
  | _, _, .kids h => by
    simp only [walkE]
    exact .kids (walkKidsE_editL hk hE _ h)
theorem walkKidsE_editL (hk : ∀ a b, E a b → keeps a = true ∧ keeps b = true)
    (hE : ∀ ds a b, E a b → E' (walkE ds a) (walkE ds b)) (ds : Env) :
    ∀ {ns ms : List Node}, EditL E ns ms → EditL E' (walkKidsE ds ns) (walkKidsE ds ms)
  | _, _, .head h => by
    rw [walkKidsE_cons, walkKidsE_cons, if_pos (h.keeps hk).1, if_pos (h.keeps hk).2]
    exact .head (walkE_edit hk hE ds h)
  | _, _, .tail (n := n) h => by
    rw [walkKidsE_cons, walkKidsE_cons]
    split
    · exact .tail (walkKidsE_editL hk hE ds h)
    · exact walkKidsE_editL hk hE ds h
end

mutual
theorem ser_edit (hS : ∀ a b, E a b → ∀ x : Bytes, ser a ++ x ≠ ser b ++ x) :
    ∀ {n m : Node}, Edit E n m → ∀ x : Bytes, ser n ++ x ≠ ser m ++ x
  | _, _, .here h, x => hS _ _ h x
  | _, _, .kids h, x => by
    intro he
    simp only [ser, List.append_assoc, List.cons_append, List.cons.injEq, true_and, List.append_cancel_left_eq] at he
    exact serKids_editL hS h _ he
theorem serKids_editL (hS : ∀ a b, E a b → ∀ x : Bytes, ser a ++ x ≠ ser b ++ x) :
    ∀ {ns ms : List Node}, EditL E ns ms → ∀ x : Bytes, serKids ns ++ x ≠ serKids ms ++ x
  | _, _, .head h, x => by
    simp only [serKids, List.append_assoc]
    exact ser_edit hS h _
  | _, _, .tail h, x => by
    simp only [serKids, List.append_assoc, ne_eq, List.append_cancel_left_eq]
    exact serKids_editL hS h x
end

theorem canon_edit_sensitive (hk : ∀ a b, E a b → keeps a = true ∧ keeps b = true)
    (hE : ∀ ds a b, E a b → E' (walkE ds a) (walkE ds b))
    (hS : ∀ a b, E' a b → ∀ x : Bytes, ser a ++ x ≠ ser b ++ x)
    (ctx : List (List Attr)) {t t' : Node} (h : Edit E t t') : canon ctx t ≠ canon ctx t' := by
  have := ser_edit hS (walkE_edit hk hE (collectSpaces ctx) h) []
  rwa [List.append_nil, List.append_nil, ← canon_eq_walkE, ← canon_eq_walkE] at this

mutual
/-- `TextEdit d d' t t'`: `t'` is `t` with exactly one character-data node `.text d c` replaced by `.text d' c` -/
def TextEdit (d d' : Bytes) : Node → Node → Prop
  | .elem sp tag as ks, .elem sp' tag' as' ks' => sp = sp' ∧ tag = tag' ∧ as = as' ∧ TextEditL d d' ks ks'
  | .text x c, .text y c' => x = d ∧ y = d' ∧ c = c'
  | _, _ => False
def TextEditL (d d' : Bytes) : List Node → List Node → Prop
  | n :: ns, m :: ms => (TextEdit d d' n m ∧ ns = ms) ∨ (n = m ∧ TextEditL d d' ns ms)
  | _, _ => False
end

theorem textEdit_text (d d' x y : Bytes) (c c' : Bool) :
    TextEdit d d' (.text x c) (.text y c') ↔ (x = d ∧ y = d' ∧ c = c') := by
  rw [TextEdit]

def TextAt (d d' : Bytes) (a b : Node) : Prop := ∃ c, a = .text d c ∧ b = .text d' c

mutual
theorem TextEdit.edit {d d' : Bytes} : ∀ {n m : Node}, TextEdit d d' n m → Edit (TextAt d d') n m := by
  intro n m h
  cases n <;> cases m <;> simp only [TextEdit] at h
  · obtain ⟨rfl, rfl, rfl, hk⟩ := h
    exact .kids (TextEditL.editL hk)
  · obtain ⟨rfl, rfl, rfl⟩ := h
    exact .here ⟨_, rfl, rfl⟩
theorem TextEditL.editL {d d' : Bytes} : ∀ {ns ms : List Node}, TextEditL d d' ns ms → EditL (TextAt d d') ns ms := by
  intro ns ms h
  cases ns <;> cases ms <;> simp only [TextEditL] at h
  rcases h with ⟨h1, rfl⟩ | ⟨rfl, h2⟩
  · exact .head (TextEdit.edit h1)
  · exact .tail (TextEditL.editL h2)
end

theorem ser_textAt {d d' : Bytes} (hd : d ≠ d') (a b : Node) (h : TextAt d d' a b) (x : Bytes) : ser a ++ x ≠ ser b ++ x := by
  obtain ⟨c, rfl, rfl⟩ := h
  intro he
  cases c with
  | false =>
    simp only [ser] at he
    exact hd (escText_append_inj _ _ x x (by simpa using he) rfl).1
  | true =>
    simp only [ser, if_true, List.append_assoc, List.append_cancel_left_eq] at he
    rw [← List.append_assoc, ← List.append_assoc, List.append_cancel_right_eq] at he
    exact hd (List.append_cancel_right he)

theorem serKids_textEdit (d d' : Bytes) (hd : d ≠ d') :
    ∀ ns ms, TextEditL d d' ns ms → ∀ x : Bytes, serKids ns ++ x ≠ serKids ms ++ x :=
  fun _ _ h => serKids_editL (ser_textAt hd) h.editL

theorem canon_text_sensitive (ctx : List (List Attr)) (d d' : Bytes) (t t' : Node)
    (hd : d ≠ d') (h : TextEdit d d' t t') : canon ctx t ≠ canon ctx t' := by
  refine canon_edit_sensitive (E' := TextAt d d') ?_ ?_ (ser_textAt hd) ctx h.edit
  · rintro a b ⟨c, rfl, rfl⟩
    exact ⟨rfl, rfl⟩
  · rintro ds a b ⟨c, rfl, rfl⟩
    exact ⟨c, rfl, rfl⟩

def AttrsEdit (s k v v' : Bytes) (as as' : List Attr) : Prop :=
  ∃ pre post, as = pre ++ ⟨s, k, v⟩ :: post ∧ as' = pre ++ ⟨s, k, v'⟩ :: post

mutual
/-- `AttrEdit s k v v' t t'`: `t'` is `t` with the value of exactly one attribute `s:k="v"` of exactly one element
    replaced by `v'` -/
def AttrEdit (s k v v' : Bytes) : Node → Node → Prop
  | .elem sp tag as ks, .elem sp' tag' as' ks' =>
    sp = sp' ∧ tag = tag' ∧ ((AttrsEdit s k v v' as as' ∧ ks = ks') ∨ (as = as' ∧ AttrEditL s k v v' ks ks'))
  | _, _ => False
def AttrEditL (s k v v' : Bytes) : List Node → List Node → Prop
  | n :: ns, m :: ms => (AttrEdit s k v v' n m ∧ ns = ms) ∨ (n = m ∧ AttrEditL s k v v' ns ms)
  | _, _ => False
end

def AttrAt (s k v v' : Bytes) (a b : Node) : Prop :=
  ∃ sp tag as as' ks, a = .elem sp tag as ks ∧ b = .elem sp tag as' ks ∧ AttrsEdit s k v v' as as'

mutual
theorem AttrEdit.edit {s k v v' : Bytes} : ∀ {n m : Node}, AttrEdit s k v v' n m → Edit (AttrAt s k v v') n m := by
  intro n m h
  cases n <;> cases m <;> simp only [AttrEdit] at h
  obtain ⟨rfl, rfl, ⟨ha, rfl⟩ | ⟨rfl, hk⟩⟩ := h
  · exact .here ⟨_, _, _, _, _, rfl, rfl, ha⟩
  · exact .kids (AttrEditL.editL hk)
theorem AttrEditL.editL {s k v v' : Bytes} :
    ∀ {ns ms : List Node}, AttrEditL s k v v' ns ms → EditL (AttrAt s k v v') ns ms := by
  intro ns ms h
  cases ns <;> cases ms <;> simp only [AttrEditL] at h
  rcases h with ⟨h1, rfl⟩ | ⟨rfl, h2⟩
  · exact .head (AttrEdit.edit h1)
  · exact .tail (AttrEditL.editL h2)
end

section
variable {s k v v' : Bytes} {l l' : List Attr}

theorem attrsEdit_append_right (h : AttrsEdit s k v v' l l') (r : List Attr) : AttrsEdit s k v v' (l ++ r) (l' ++ r) := by
  obtain ⟨pre, post, rfl, rfl⟩ := h
  exact ⟨pre, post ++ r, by simp, by simp⟩

theorem attrsEdit_cons (b : Attr) (h : AttrsEdit s k v v' l l') : AttrsEdit s k v v' (b :: l) (b :: l') := by
  obtain ⟨pre, post, rfl, rfl⟩ := h
  exact ⟨b :: pre, post, rfl, rfl⟩

theorem attrsEdit_here (s k v v' : Bytes) (post : List Attr) :
    AttrsEdit s k v v' (⟨s, k, v⟩ :: post) (⟨s, k, v'⟩ :: post) := ⟨[], post, rfl, rfl⟩

theorem usesSpace_attrsEdit (h : AttrsEdit s k v v' l l') (esp sp : Bytes) : usesSpace esp l sp = usesSpace esp l' sp := by
  obtain ⟨pre, post, rfl, rfl⟩ := h
  simp [usesSpace, List.any_append]

theorem selectAttr_attrsEdit (h : AttrsEdit s k v v' l l') (name : Bytes × Bytes) : selectAttr name l = selectAttr name l' := by
  obtain ⟨pre, post, rfl, rfl⟩ := h
  simp [selectAttr, List.any_append]

/-- none of the tests of `localStep` looks at a value -/
theorem localStep_attrsEdit (sp : Bytes) : ∀ (ds : Env) {l l' : List Attr}, AttrsEdit s k v v' l l' →
    AttrsEdit s k v v' (localStep sp l ds).1 (localStep sp l' ds).1 ∧ (localStep sp l ds).2 = (localStep sp l' ds).2
  | [], _, _, h => ⟨h, rfl⟩
  | (s', w) :: ds, l, l', h => by
    simp only [localStep]
    rw [selectAttr_attrsEdit h, usesSpace_attrsEdit h]
    split
    · exact localStep_attrsEdit sp ds h
    · split
      · exact localStep_attrsEdit sp ds (attrsEdit_append_right h _)
      · exact ⟨(localStep_attrsEdit sp ds h).1, by rw [(localStep_attrsEdit sp ds h).2]⟩

theorem attrsEdit_filter (p : Attr → Bool) (h1 : p ⟨s, k, v⟩ = true) (h2 : p ⟨s, k, v'⟩ = true)
    (h : AttrsEdit s k v v' l l') : AttrsEdit s k v v' (l.filter p) (l'.filter p) := by
  obtain ⟨pre, post, rfl, rfl⟩ := h
  refine ⟨pre.filter p, post.filter p, ?_, ?_⟩
  · rw [List.filter_append, List.filter_cons_of_pos h1]
  · rw [List.filter_append, List.filter_cons_of_pos h2]

theorem keepAttrs_attrsEdit (hnd : getDecl ⟨s, k, v⟩ = none) (sp : Bytes) (h : AttrsEdit s k v v' l l') :
    AttrsEdit s k v v' (keepAttrs sp l) (keepAttrs sp l') ∧ dropped sp l = dropped sp l' := by
  have hnd' : getDecl ⟨s, k, v'⟩ = none := hnd
  obtain ⟨ek, ed⟩ := keepP_dropF_congr sp (usesSpace_attrsEdit h sp)
  rw [keepAttrs, keepAttrs, dropped, dropped, ek, ed]
  refine ⟨attrsEdit_filter _ (by simp [keepP, hnd]) (by simp [keepP, hnd']) h, ?_⟩
  obtain ⟨pre, post, rfl, rfl⟩ := h
  simp [List.filterMap_append, dropF, hnd, hnd']

theorem insertAttr_attrsEdit (b : Attr) (h : AttrsEdit s k v v' l l') :
    AttrsEdit s k v v' (insertAttr b l) (insertAttr b l') := by
  obtain ⟨pre, post, rfl, rfl⟩ := h
  induction pre with
  | nil =>
    simp only [List.nil_append, insertAttr]
    -- `attrLess` does not look at values
    rw [show attrLess ⟨s, k, v'⟩ b = attrLess ⟨s, k, v⟩ b from rfl]
    split
    · exact attrsEdit_here ..
    · exact attrsEdit_cons _ (attrsEdit_here ..)
  | cons c pre ih =>
    simp only [List.cons_append, insertAttr]
    split
    · exact attrsEdit_cons _ ih
    · exact attrsEdit_cons _ (attrsEdit_cons _ ⟨pre, post, rfl, rfl⟩)

theorem insertAttr_attrsEdit_here (s k v v' : Bytes) (l : List Attr) :
    AttrsEdit s k v v' (insertAttr ⟨s, k, v⟩ l) (insertAttr ⟨s, k, v'⟩ l) := by
  induction l with
  | nil => exact attrsEdit_here ..
  | cons c l ih =>
    simp only [insertAttr]
    rw [show attrLess c ⟨s, k, v'⟩ = attrLess c ⟨s, k, v⟩ from rfl]
    split
    · exact attrsEdit_cons _ ih
    · exact attrsEdit_here ..

theorem sortAttrs_attrsEdit (h : AttrsEdit s k v v' l l') : AttrsEdit s k v v' (sortAttrs l) (sortAttrs l') := by
  obtain ⟨pre, post, rfl, rfl⟩ := h
  induction pre with
  | nil => exact insertAttr_attrsEdit_here ..
  | cons c pre ih => exact insertAttr_attrsEdit c ih

theorem walkE_attrAt (hnd : getDecl ⟨s, k, v⟩ = none) (ds : Env) (a b : Node) (h : AttrAt s k v v' a b) :
    AttrAt s k v v' (walkE ds a) (walkE ds b) := by
  obtain ⟨sp, tag, as, as', ks, rfl, rfl, h⟩ := h
  obtain ⟨h1, h2⟩ := localStep_attrsEdit sp ds h
  obtain ⟨h3, h4⟩ := keepAttrs_attrsEdit hnd sp h1
  simp only [walkE]
  rw [h2, h4]
  exact ⟨_, _, _, _, _, rfl, rfl, sortAttrs_attrsEdit h3⟩

theorem serAttrs_attrsEdit (hv : v ≠ v') (h : AttrsEdit s k v v' l l') (x : Bytes) : serAttrs l ++ x ≠ serAttrs l' ++ x := by
  obtain ⟨pre, post, rfl, rfl⟩ := h
  intro he
  simp only [serAttrs, serAttr, List.flatMap_append, List.flatMap_cons, List.append_assoc, List.cons_append,
    List.append_cancel_left_eq, List.cons.injEq, true_and] at he
  exact hv (escAttr_append_inj _ _ _ _ he rfl).1

theorem ser_attrAt (hv : v ≠ v') (a b : Node) (h : AttrAt s k v v' a b) (x : Bytes) : ser a ++ x ≠ ser b ++ x := by
  obtain ⟨sp, tag, as, as', ks, rfl, rfl, h⟩ := h
  intro he
  simp only [ser, List.append_assoc, List.cons_append, List.cons.injEq, true_and, List.append_cancel_left_eq] at he
  exact serAttrs_attrsEdit hv h _ he

end

theorem serKids_attrEdit (s k v v' : Bytes) (hv : v ≠ v') :
    ∀ ns ms, AttrEditL s k v v' ns ms → ∀ x : Bytes, serKids ns ++ x ≠ serKids ms ++ x :=
  fun _ _ h => serKids_editL (ser_attrAt hv) h.editL

theorem canon_attrval_sensitive (ctx : List (List Attr)) (s k v v' : Bytes) (t t' : Node)
    (hnd : getDecl ⟨s, k, v⟩ = none) (hv : v ≠ v') (h : AttrEdit s k v v' t t') : canon ctx t ≠ canon ctx t' := by
  refine canon_edit_sensitive ?_ (walkE_attrAt hnd) (ser_attrAt hv) ctx h.edit
  rintro a b ⟨sp, tag, as, as', ks, rfl, rfl, _⟩
  exact ⟨rfl, rfl⟩

mutual
/-- `TagEdit g g' t t'`: `t'` is `t` with the local name `g` of exactly one element replaced by `g'`
    (same prefix, attributes and children) -/
def TagEdit (g g' : Bytes) : Node → Node → Prop
  | .elem sp tag as ks, .elem sp' tag' as' ks' =>
    sp = sp' ∧ as = as' ∧ ((tag = g ∧ tag' = g' ∧ ks = ks') ∨ (tag = tag' ∧ TagEditL g g' ks ks'))
  | _, _ => False
def TagEditL (g g' : Bytes) : List Node → List Node → Prop
  | n :: ns, m :: ms => (TagEdit g g' n m ∧ ns = ms) ∨ (n = m ∧ TagEditL g g' ns ms)
  | _, _ => False
end

def TagAt (g g' : Bytes) (a b : Node) : Prop := ∃ sp as ks, a = .elem sp g as ks ∧ b = .elem sp g' as ks

mutual
theorem TagEdit.edit {g g' : Bytes} : ∀ {n m : Node}, TagEdit g g' n m → Edit (TagAt g g') n m := by
  intro n m h
  cases n <;> cases m <;> simp only [TagEdit] at h
  obtain ⟨rfl, rfl, ⟨rfl, rfl, rfl⟩ | ⟨rfl, hk⟩⟩ := h
  · exact .here ⟨_, _, _, rfl, rfl⟩
  · exact .kids (TagEditL.editL hk)
theorem TagEditL.editL {g g' : Bytes} : ∀ {ns ms : List Node}, TagEditL g g' ns ms → EditL (TagAt g g') ns ms := by
  intro ns ms h
  cases ns <;> cases ms <;> simp only [TagEditL] at h
  rcases h with ⟨h1, rfl⟩ | ⟨rfl, h2⟩
  · exact .head (TagEdit.edit h1)
  · exact .tail (TagEditL.editL h2)
end

theorem fullName_length (sp g : Bytes) :
    (fullName sp g).length = (if sp = [] then 0 else sp.length + 1) + g.length := by
  unfold fullName
  split <;> simp <;> omega

/-- both serialisations contain the name twice (start and end tag) and are otherwise equal, so equal output forces equal
    name lengths, hence equal names -/
theorem ser_tagAt {g g' : Bytes} (hg : g ≠ g') (a b : Node) (h : TagAt g g' a b) (x : Bytes) : ser a ++ x ≠ ser b ++ x := by
  obtain ⟨sp, as, ks, rfl, rfl⟩ := h
  intro he
  have hl := congrArg List.length he
  simp only [ser, List.length_append, List.length_cons, fullName_length] at hl
  have hlen : g.length = g'.length := by
    generalize (if sp = [] then 0 else sp.length + 1) = c at hl
    omega
  by_cases hsp : sp = []
  · simp only [ser, fullName, if_pos hsp, List.append_assoc, List.cons_append, List.cons.injEq, true_and] at he
    exact hg (List.append_inj he hlen).1
  · simp only [ser, fullName, if_neg hsp, List.append_assoc, List.cons_append, List.cons.injEq, true_and,
      List.append_cancel_left_eq] at he
    exact hg (List.append_inj he hlen).1

theorem serKids_tagEdit (g g' : Bytes) (hg : g ≠ g') :
    ∀ ns ms, TagEditL g g' ns ms → ∀ x : Bytes, serKids ns ++ x ≠ serKids ms ++ x :=
  fun _ _ h => serKids_editL (ser_tagAt hg) h.editL

def KidsSwap (P : Node → Node → Prop) (ks ks' : List Node) : Prop :=
  ∃ pre a b post, P a b ∧ ks = pre ++ a :: b :: post ∧ ks' = pre ++ b :: a :: post

mutual
/-- `SwapEdit P t t'`: `t'` is `t` with two adjacent children `a`, `b` (with `P a b`) of exactly one element swapped -/
def SwapEdit (P : Node → Node → Prop) : Node → Node → Prop
  | .elem sp tag as ks, .elem sp' tag' as' ks' =>
    sp = sp' ∧ tag = tag' ∧ as = as' ∧ (KidsSwap P ks ks' ∨ SwapEditL P ks ks')
  | _, _ => False
def SwapEditL (P : Node → Node → Prop) : List Node → List Node → Prop
  | n :: ns, m :: ms => (SwapEdit P n m ∧ ns = ms) ∨ (n = m ∧ SwapEditL P ns ms)
  | _, _ => False
end

def IsElem : Node → Prop
  | .elem _ _ _ _ => True
  | _ => False

theorem IsElem.keeps {n : Node} (h : IsElem n) : keeps n = true := by
  cases n <;> first | rfl | exact h.elim

def SwapAt (P : Node → Node → Prop) (a b : Node) : Prop :=
  ∃ sp tag as ks ks', a = .elem sp tag as ks ∧ b = .elem sp tag as ks' ∧ KidsSwap P ks ks'

mutual
theorem SwapEdit.edit {P : Node → Node → Prop} : ∀ {n m : Node}, SwapEdit P n m → Edit (SwapAt P) n m := by
  intro n m h
  cases n <;> cases m <;> simp only [SwapEdit] at h
  obtain ⟨rfl, rfl, rfl, hk | hk⟩ := h
  · exact .here ⟨_, _, _, _, _, rfl, rfl, hk⟩
  · exact .kids (SwapEditL.editL hk)
theorem SwapEditL.editL {P : Node → Node → Prop} : ∀ {ns ms : List Node}, SwapEditL P ns ms → EditL (SwapAt P) ns ms := by
  intro ns ms h
  cases ns <;> cases ms <;> simp only [SwapEditL] at h
  rcases h with ⟨h1, rfl⟩ | ⟨rfl, h2⟩
  · exact .head (SwapEdit.edit h1)
  · exact .tail (SwapEditL.editL h2)
end

theorem walkKidsE_kidsSwap {P P' : Node → Node → Prop} (hel : ∀ a b, P a b → IsElem a ∧ IsElem b)
    (hP : ∀ ds a b, P a b → P' (walkE ds a) (walkE ds b)) (ds : Env) {ks ks' : List Node} (h : KidsSwap P ks ks') :
    KidsSwap P' (walkKidsE ds ks) (walkKidsE ds ks') := by
  obtain ⟨pre, x, y, post, hxy, rfl, rfl⟩ := h
  obtain ⟨hx, hy⟩ := hel x y hxy
  refine ⟨walkKidsE ds pre, walkE ds x, walkE ds y, walkKidsE ds post, hP ds x y hxy, ?_, ?_⟩
  · rw [walkKidsE_append, walkKidsE_cons, walkKidsE_cons, if_pos hx.keeps, if_pos hy.keeps]
  · rw [walkKidsE_append, walkKidsE_cons, walkKidsE_cons, if_pos hx.keeps, if_pos hy.keeps]

theorem walkE_swapAt {P P' : Node → Node → Prop} (hel : ∀ a b, P a b → IsElem a ∧ IsElem b)
    (hP : ∀ ds a b, P a b → P' (walkE ds a) (walkE ds b)) (ds : Env) (a b : Node) (h : SwapAt P a b) :
    SwapAt P' (walkE ds a) (walkE ds b) := by
  obtain ⟨sp, tag, as, ks, ks', rfl, rfl, hk⟩ := h
  simp only [walkE]
  exact ⟨_, _, _, _, _, rfl, rfl, walkKidsE_kidsSwap hel hP _ hk⟩

/-- the relation between the two swapped nodes after `walk`: their serialisations do not commute -/
def SerNoncomm (a b : Node) : Prop := ∀ x : Bytes, ser a ++ (ser b ++ x) ≠ ser b ++ (ser a ++ x)

theorem ser_swapAt (a b : Node) (h : SwapAt SerNoncomm a b) (x : Bytes) : ser a ++ x ≠ ser b ++ x := by
  obtain ⟨sp, tag, as, ks, ks', rfl, rfl, pre, c, d, post, hcd, rfl, rfl⟩ := h
  intro he
  simp only [ser, serKids_append, serKids, List.append_assoc, List.cons_append, List.cons.injEq, true_and,
    List.append_cancel_left_eq] at he
  exact hcd _ he

theorem serKids_swapEdit : ∀ ns ms, SwapEditL SerNoncomm ns ms → ∀ x : Bytes, serKids ns ++ x ≠ serKids ms ++ x :=
  fun _ _ h => serKids_editL ser_swapAt h.editL

theorem canon_swap_sensitive_of (P : Node → Node → Prop)
    (hel : ∀ a b, P a b → IsElem a ∧ IsElem b)
    (hser : ∀ ds a b, P a b → SerNoncomm (walkE ds a) (walkE ds b))
    (ctx : List (List Attr)) (t t' : Node) (h : SwapEdit P t t') : canon ctx t ≠ canon ctx t' := by
  refine canon_edit_sensitive ?_ (walkE_swapAt hel hser) ser_swapAt ctx h.edit
  rintro a b ⟨sp, tag, as, ks, ks', rfl, rfl, _⟩
  exact ⟨rfl, rfl⟩

def NamedPair (sp1 g1 sp2 g2 : Bytes) (a b : Node) : Prop :=
  (∃ as ks, a = .elem sp1 g1 as ks) ∧ (∃ as ks, b = .elem sp2 g2 as ks)

def NoDelim (p : Bytes) : Prop := ∀ b ∈ p, b ≠ 0x20 ∧ b ≠ 0x3e

theorem delim_inj (p q : Bytes) (c d : UInt8) (y z : Bytes) (hp : NoDelim p) (hq : NoDelim q)
    (hc : c = 0x20 ∨ c = 0x3e) (hd : d = 0x20 ∨ d = 0x3e) (h : p ++ c :: y = q ++ d :: z) : p = q :=
  (split_first (fun b => b = 0x20 ∨ b = 0x3e) p q c d y z (fun b hb => not_or.mpr (hp b hb))
    (fun b hb => not_or.mpr (hq b hb)) hc hd h).1

theorem serAttrs_head (as : List Attr) (r : Bytes) :
    ∃ c y, (c = 0x20 ∨ c = 0x3e) ∧ serAttrs as ++ 0x3e :: r = c :: y := by
  cases as with
  | nil => exact ⟨0x3e, r, Or.inr rfl, by simp [serAttrs]⟩
  | cons a as =>
    refine ⟨0x20, fullName a.space a.key ++ [0x3d, 0x22] ++ escAttr a.value ++ [0x22] ++ serAttrs as ++ 0x3e :: r,
      Or.inl rfl, ?_⟩
    simp only [serAttrs, List.flatMap_cons, serAttr, List.cons_append]

theorem ser_elem_head (sp g : Bytes) (as : List Attr) (ks : List Node) (x : Bytes) :
    ∃ c y, (c = 0x20 ∨ c = 0x3e) ∧ ser (.elem sp g as ks) ++ x = 0x3c :: (fullName sp g ++ c :: y) := by
  obtain ⟨c, y, hc, hy⟩ := serAttrs_head as (serKids ks ++ ([0x3c, 0x2f] ++ (fullName sp g ++ ([0x3e] ++ x))))
  refine ⟨c, y, hc, ?_⟩
  rw [← hy]
  simp only [ser, List.append_assoc, List.cons_append]

theorem namedPair_noncomm (sp1 g1 sp2 g2 : Bytes) (hne : fullName sp1 g1 ≠ fullName sp2 g2)
    (h1 : NoDelim (fullName sp1 g1)) (h2 : NoDelim (fullName sp2 g2)) (ds : Env) (a b : Node)
    (h : NamedPair sp1 g1 sp2 g2 a b) : SerNoncomm (walkE ds a) (walkE ds b) := by
  obtain ⟨⟨as1, ks1, rfl⟩, ⟨as2, ks2, rfl⟩⟩ := h
  intro x he
  simp only [walkE] at he
  obtain ⟨c, y, hc, hy⟩ := ser_elem_head sp1 g1 _ _ _
  obtain ⟨d, z, hd, hz⟩ := ser_elem_head sp2 g2 _ _ _
  rw [hy, hz] at he
  simp only [List.cons.injEq, true_and] at he
  exact hne (delim_inj _ _ c d y z h1 h2 hc hd he)

example : TextEdit [0x61] [0x62] (.elem [] [0x72] [] [.comment [], .elem [] [0x65] [] [.text [0x61] false]])
    (.elem [] [0x72] [] [.comment [], .elem [] [0x65] [] [.text [0x62] false]]) := by
  simp [TextEdit, TextEditL]

example : AttrEdit [] [0x6b] [0x61] [0x62] (.elem [] [0x72] [] [.elem [] [0x65] [⟨[], [0x69], []⟩, ⟨[], [0x6b], [0x61]⟩] []])
    (.elem [] [0x72] [] [.elem [] [0x65] [⟨[], [0x69], []⟩, ⟨[], [0x6b], [0x62]⟩] []]) := by
  rw [AttrEdit, AttrEditL, AttrEdit]
  exact ⟨rfl, rfl, Or.inr ⟨rfl, Or.inl ⟨⟨rfl, rfl, Or.inl ⟨⟨[⟨[], [0x69], []⟩], [], rfl, rfl⟩, rfl⟩⟩, rfl⟩⟩⟩

example : TagEdit [0x61] [0x62] (.elem [] [0x72] [] [.elem [] [0x61] [] []]) (.elem [] [0x72] [] [.elem [] [0x62] [] []]) := by
  simp [TagEdit, TagEditL]

example : SwapEdit (NamedPair [] [0x61] [] [0x62]) (.elem [] [0x72] [] [.elem [] [0x61] [] [], .elem [] [0x62] [] []])
    (.elem [] [0x72] [] [.elem [] [0x62] [] [], .elem [] [0x61] [] []]) := by
  rw [SwapEdit]
  exact ⟨rfl, rfl, rfl, Or.inl ⟨[], _, _, [], ⟨⟨_, _, rfl⟩, ⟨_, _, rfl⟩⟩, rfl, rfl⟩⟩

end Relic.Xml.Sens
