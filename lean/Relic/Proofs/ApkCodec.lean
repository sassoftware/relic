/-
  `unmarshal` reads back what `marshal` wrote (serializer.go), as far as sign-then-verify needs it: signed data, signer
  list, `makeSigBlock` / `getSigBlock` / the pair loop.
  The proofs share one shape: the windows the reader cuts are named (`have e1 … : (…).take 8 = …` by `List.take_left'` /
  `List.drop_left'`), then `unfold f; simp only [e1, …]` and one `rw [if_neg …]` per guard.  A guard `if b.isEmpty then …` is an
  `if false = true` after `simp only [hne]`; it needs `Bool.false_eq_true, if_false` in that `simp only`, or the next `rw [if_neg …]`
  meets it instead of the guard it was meant for.
-/
import Relic.Proofs.ApkVerify
import Relic.Proofs.Codec
namespace Relic.ApkVerify

theorem lp_length (b : Bytes) : (lp b).length = 4 + b.length := by simp [lp]

theorem readPrefix_lp (b rest : Bytes) (h : b.length < 2 ^ 32) : readPrefix (lp b ++ rest) = .ok (b, rest) := by
  have e1 : (lp b ++ rest).take 4 = leBytes 4 b.length := by
    unfold lp; rw [List.append_assoc]; exact List.take_left' (by simp)
  have e2 : (lp b ++ rest).drop 4 = b ++ rest := by
    unfold lp; rw [List.append_assoc]; exact List.drop_left' (by simp)
  have e3 : (lp b ++ rest).length = 4 + b.length + rest.length := by simp [lp]; omega
  have e4 : leVal (leBytes 4 b.length) = b.length := leVal_leBytes_of_lt 4 _ (by omega)
  unfold readPrefix
  rw [if_neg (by omega)]
  simp only [e1, e4, e2, e3]
  rw [if_neg (by omega)]
  rw [List.take_left' rfl]
  rw [← List.drop_drop, e2, List.drop_left' rfl]

theorem readPrefix_lp' (b : Bytes) (h : b.length < 2 ^ 32) : readPrefix (lp b) = .ok (b, []) := by
  have := readPrefix_lp b [] h
  rwa [List.append_nil] at this

theorem loop_flatMap {α : Type} (p : Bytes → Res (α × Bytes)) (enc : α → Bytes) :
    ∀ (xs : List α), (∀ x ∈ xs, ∀ rest, p (enc x ++ rest) = .ok (x, rest)) → (∀ x ∈ xs, enc x ≠ []) →
      ∀ fuel, (xs.flatMap enc).length ≤ fuel → loop p fuel (xs.flatMap enc) = .ok xs := by
  intro xs
  induction xs with
  | nil => intro _ _ fuel _; cases fuel <;> simp [loop]
  | cons x xs ih =>
    intro hp hne fuel hf
    have hx := hne x (List.mem_cons_self ..)
    have hlen : 0 < (enc x).length := List.length_pos_iff.mpr hx
    simp only [List.flatMap_cons, List.length_append] at hf
    cases fuel with
    | zero => omega
    | succ fuel =>
      have hne' : ((x :: xs).flatMap enc).isEmpty = false :=
        List.isEmpty_eq_false_iff.mpr fun h => hx (List.append_eq_nil_iff.mp (List.flatMap_cons ▸ h)).1
      simp only [loop, hne']
      simp only [List.flatMap_cons]
      rw [hp x (List.mem_cons_self ..)]
      simp only [Res.bind]
      rw [ih (fun y hy => hp y (List.mem_cons_of_mem _ hy)) (fun y hy => hne y (List.mem_cons_of_mem _ hy)) fuel (by omega)]
      simp

theorem parseList_enc {α : Type} (p : Bytes → Res (α × Bytes)) (enc : α → Bytes) (xs : List α) (rest : Bytes)
    (hp : ∀ x ∈ xs, ∀ rest, p (enc x ++ rest) = .ok (x, rest)) (hne : ∀ x ∈ xs, enc x ≠ [])
    (hlen : (xs.flatMap enc).length < 2 ^ 32) : parseList p (lp (xs.flatMap enc) ++ rest) = .ok (xs, rest) := by
  unfold parseList
  rw [readPrefix_lp _ _ hlen]
  simp only [Res.bind]
  rw [loop_flatMap p enc xs hp hne _ (Nat.le_refl _)]

theorem lp_ne_nil (b : Bytes) : lp b ≠ [] := by
  intro h; have := congrArg List.length h; simp [lp] at this

/-- an id-value record whose encoding fits the uint32 prefixes: the id in four bytes, the value with its own prefix and the id (4 + 4
    bytes) below 2^32 -/
def AttrFits (a : Attr) : Prop := a.id < 2 ^ 32 ∧ a.value.length + 8 < 2 ^ 32

theorem parseAttr_enc (a : Attr) (h : AttrFits a) (rest : Bytes) : parseAttr (encAttr a ++ rest) = .ok (a, rest) := by
  obtain ⟨h1, h2⟩ := h
  unfold parseAttr encAttr
  rw [readPrefix_lp _ _ (by simp [lp]; omega)]
  simp only [Res.bind]
  rw [if_neg (by simp [lp])]
  rw [List.drop_left' (by simp), readPrefix_lp' _ (by omega)]
  simp only [List.isEmpty_nil, if_true]
  rw [List.take_left' (by simp), leVal_leBytes_of_lt 4 _ (by omega)]

theorem parseAttrs_enc (l : List Attr) (h : ∀ a ∈ l, AttrFits a) (hlen : (l.flatMap encAttr).length < 2 ^ 32) (rest : Bytes) :
    parseList parseAttr (encAttrs l ++ rest) = .ok (l, rest) :=
  parseList_enc parseAttr encAttr l rest (fun a ha r => parseAttr_enc a (h a ha) r) (fun _ _ => lp_ne_nil _) hlen

theorem parseCertsList_enc (l : List Bytes) (hlen : (l.flatMap lp).length < 2 ^ 32) (rest : Bytes) :
    parseList parseBytes (encCerts l ++ rest) = .ok (l, rest) := by
  refine parseList_enc parseBytes lp l rest ?_ (fun c _ => lp_ne_nil c) hlen
  intro c hc r
  have := (List.sublist_flatten_of_mem (List.mem_map_of_mem (f := lp) hc)).length_le
  rw [← List.flatMap_def, lp_length] at this
  exact readPrefix_lp c r (by omega)

theorem unmarshalSignedData_enc_sign (id : Nat) (digest : Bytes) (chain : List Bytes) (hid : id < 2 ^ 32)
    (hlen : (encSignedData (signSignedData id digest chain)).length < 2 ^ 32) :
    unmarshalSignedData (encSignedData (signSignedData id digest chain)) = .ok (signSignedData id digest chain) := by
  have hl := hlen
  simp only [encSignedData, signSignedData, encAttrs, encCerts, encAttr, lp_length, List.length_append, List.flatMap_cons,
    List.flatMap_nil, List.append_nil, List.length_nil, leBytes_length] at hl
  unfold unmarshalSignedData encSignedData
  rw [readPrefix_lp' _ (by simp only [signSignedData, encAttrs, encCerts, encAttr, lp_length, List.length_append,
    List.flatMap_cons, List.flatMap_nil, List.append_nil, List.length_nil, leBytes_length]; omega)]
  simp only [Res.bind]
  rw [List.append_assoc, parseAttrs_enc _ (by
      intro a ha
      simp only [signSignedData, List.mem_singleton] at ha
      subst ha
      exact ⟨hid, by simp only []; omega⟩) (by
      simp only [signSignedData, encAttr, lp_length, List.length_append, List.flatMap_cons, List.flatMap_nil, List.append_nil,
        leBytes_length]; omega)]
  simp only []
  rw [parseCertsList_enc _ (by simp only [signSignedData]; omega)]
  simp only []
  have := parseAttrs_enc [] (by intro a ha; cases ha) (by simp) []
  rw [List.append_nil] at this
  simp only [signSignedData] at this ⊢
  rw [this]
  simp

theorem parseSigner_enc (x : Bytes) (sigs : List Attr) (pub rest : Bytes) (hs : ∀ a ∈ sigs, AttrFits a)
    (hlen : (encSigner ⟨lp x, sigs, pub⟩).length < 2 ^ 32) :
    parseSigner (encSigner ⟨lp x, sigs, pub⟩ ++ rest) = .ok (⟨lp x, sigs, pub⟩, rest) := by
  have hl := hlen
  simp only [encSigner, encAttrs, lp_length, List.length_append] at hl
  unfold parseSigner encSigner
  rw [readPrefix_lp _ _ (by simp only [encAttrs, lp_length, List.length_append]; omega)]
  simp only [Res.bind]
  rw [List.append_assoc, readPrefix_lp _ _ (by omega)]
  simp only []
  rw [parseAttrs_enc _ hs (by omega)]
  simp only []
  unfold parseBytes
  rw [readPrefix_lp' _ (by omega)]
  simp only [List.isEmpty_nil, if_true]
  rw [List.take_left' (by rw [lp_length])]

theorem unmarshalSigners_enc_one (x : Bytes) (sigs : List Attr) (pub : Bytes) (hs : ∀ a ∈ sigs, AttrFits a)
    (hlen : (encSigners [⟨lp x, sigs, pub⟩]).length < 2 ^ 32) :
    unmarshalSigners (encSigners [⟨lp x, sigs, pub⟩]) = .ok [⟨lp x, sigs, pub⟩] := by
  have hl := hlen
  simp only [encSigners, lp_length, List.flatMap_cons, List.flatMap_nil, List.append_nil] at hl
  unfold unmarshalSigners encSigners
  have := parseList_enc parseSigner encSigner [⟨lp x, sigs, pub⟩] []
    (by
      intro s hm r
      simp only [List.mem_singleton] at hm
      subst hm
      exact parseSigner_enc x sigs pub r hs (by omega))
    (fun _ _ => lp_ne_nil _)
    (by simp only [List.flatMap_cons, List.flatMap_nil, List.append_nil]; omega)
  rw [List.append_nil] at this
  rw [this]
  simp [Res.bind]

theorem encPair_length (id : Nat) (v : Bytes) : (encPair id v).length = 12 + v.length := by
  simp [encPair]; omega

theorem getSigBlock_make (b : Bytes) (h : b.length < 2 ^ 32) :
    getSigBlock (makeSigBlock b) = .ok (some (encPair sigApkV2 b)) := by
  have hN : leVal (leBytes 8 (8 + 4 + b.length + 8 + 16)) = 8 + 4 + b.length + 8 + 16 :=
    leVal_leBytes_of_lt 8 _ (by omega)
  have hlen : (makeSigBlock b).length = b.length + 44 := by
    simp [makeSigBlock, encPair_length, magic]; omega
  have hne : (makeSigBlock b).isEmpty = false :=
    List.isEmpty_eq_false_iff.mpr fun hh => by rw [hh] at hlen; simp at hlen
  have e1 : (makeSigBlock b).take 8 = leBytes 8 (8 + 4 + b.length + 8 + 16) := by
    unfold makeSigBlock; rw [List.append_assoc, List.append_assoc]; exact List.take_left' (by simp)
  have e2 : (makeSigBlock b).drop (b.length + 44 - 16) = magic := by
    unfold makeSigBlock; exact List.drop_left' (by simp [encPair_length]; omega)
  have e3 : ((makeSigBlock b).drop (b.length + 44 - 24)).take 8 = leBytes 8 (8 + 4 + b.length + 8 + 16) := by
    unfold makeSigBlock
    rw [List.append_assoc]
    rw [List.drop_left' (by simp [encPair_length]; omega)]
    exact List.take_left' (by simp)
  have e4 : ((makeSigBlock b).drop 8).take (b.length + 44 - 32) = encPair sigApkV2 b := by
    unfold makeSigBlock
    rw [List.append_assoc, List.append_assoc, List.drop_left' (by simp)]
    exact List.take_left' (by rw [encPair_length]; omega)
  unfold getSigBlock
  simp only [hne, hlen, e1, e2, e3, e4, hN]
  rw [if_neg (by decide), if_neg (fun h => h.elim (fun h => by omega) (fun h => h rfl)), if_neg (by omega)]

theorem v2Signers_encPair (b : Bytes) (l : List Signer) (fuel : Nat) (hf : fuel ≠ 0) (h : b.length < 2 ^ 32)
    (hu : unmarshalSigners b = .ok l) (hl : l ≠ []) : v2Signers fuel (encPair sigApkV2 b) = .ok l := by
  obtain ⟨fuel, rfl⟩ := Nat.exists_eq_succ_of_ne_zero hf
  have hne : (encPair sigApkV2 b).isEmpty = false :=
    List.isEmpty_eq_false_iff.mpr fun hh => by have := encPair_length sigApkV2 b; rw [hh] at this; simp at this; omega
  have e1 : (encPair sigApkV2 b).take 8 = leBytes 8 (4 + b.length) := by
    unfold encPair; rw [List.append_assoc]; exact List.take_left' (by simp)
  have e2 : (encPair sigApkV2 b).drop 8 = leBytes 4 sigApkV2 ++ b := by
    unfold encPair; rw [List.append_assoc]; exact List.drop_left' (by simp)
  have e3 : leVal (leBytes 8 (4 + b.length)) = 4 + b.length := leVal_leBytes_of_lt 8 _ (by omega)
  have e4 : leVal (leBytes 4 sigApkV2) = sigApkV2 := leVal_leBytes_of_lt 4 _ (by decide)
  have e5 : (leBytes 4 sigApkV2 ++ b).take 4 = leBytes 4 sigApkV2 := List.take_left' (by simp)
  have e6 : ((leBytes 4 sigApkV2 ++ b).take (4 + b.length)).drop 4 = b := by
    rw [List.take_of_length_le (by simp)]; exact List.drop_left' (by simp)
  have e7 : (leBytes 4 sigApkV2 ++ b).drop (4 + b.length) = [] := List.drop_of_length_le (by simp)
  have e8 : (leBytes 4 sigApkV2 ++ b).length = 4 + b.length := by simp
  have hle : l.isEmpty = false := List.isEmpty_eq_false_iff.mpr hl
  have hnil : v2Signers fuel [] = .ok [] := by
    cases fuel <;> simp [v2Signers]
  unfold v2Signers
  simp only [hne, encPair_length, e1, e2, e3, e4, e5, e6, e7, e8, hu, hle, hnil]
  rw [if_neg (by decide), if_neg (by omega), if_neg (by omega), if_neg (by simp)]
  simp [Res.bind]

theorem gapSigners_signBlock (id : Nat) (digest : Bytes) (chain : List Bytes) (spki sigv : Bytes) (hid : id < 2 ^ 32)
    (hsz : (encSigners [signSigner id digest chain spki sigv]).length < 2 ^ 32) :
    gapSigners (signBlock id digest chain spki sigv) = .ok [signSigner id digest chain spki sigv] := by
  have hs : ∀ a ∈ [(⟨id, sigv⟩ : Attr)], AttrFits a := by
    intro a ha
    simp only [List.mem_singleton] at ha
    subst ha
    have := hsz
    simp only [encSigners, encSigner, signSigner, encAttrs, encAttr, lp_length, List.length_append, List.flatMap_cons,
      List.flatMap_nil, List.append_nil, leBytes_length] at this
    exact ⟨hid, by simp only []; omega⟩
  have hu := unmarshalSigners_enc_one _ [⟨id, sigv⟩] spki hs (by simpa [signSigner, encSignedData] using hsz)
  unfold gapSigners signBlock
  rw [getSigBlock_make _ hsz]
  simp only [Res.bind]
  exact v2Signers_encPair _ _ _ (by rw [encPair_length]; omega) hsz (by simpa [signSigner, encSignedData] using hu) (by simp)

end Relic.ApkVerify
