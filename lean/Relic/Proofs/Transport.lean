/- The client's fail-over loop and encoding selection (Relic.Model.Transport; C09).  `fold_pick` is the invariant of
   `selectEncoding`'s loop (the accumulator always has the form `(pref s, s)`).  Every invariant of `pass` is one
   `fun_induction pass`, whose live cases are the two leaves that go on to the next server (and the one leaf the statement
   speaks about).  `doRequest_ok`: a `doRequest` that ends is one such pass, or two around a restart. -/
import Relic.Model.Transport
import Relic.Proofs.Lists
namespace Relic.Transport

theorem gzip_ne_snappy : gzip ≠ snappy := by decide

theorem pref_cases (e : Str) : (e = snappy ∧ pref e = 2) ∨
    (e = gzip ∧ pref e = 1) ∨ (snappy ≠ e ∧ gzip ≠ e ∧ pref e = 0) := by
  unfold pref
  by_cases h1 : e = gzip
  · exact .inr (.inl ⟨h1, if_pos h1⟩)
  · by_cases h2 : e = snappy
    · exact .inl ⟨h2, by rw [if_neg h1, if_pos h2]⟩
    · exact .inr (.inr ⟨Ne.symm h2, Ne.symm h1, by rw [if_neg h1, if_neg h2]⟩)

/-- The `for` loop of `selectEncoding` from any accumulator of the form `(pref s, s)`, which is the form it keeps: the best
    of `s` and the tokens, x-snappy-framed before gzip before anything else. -/
theorem fold_pick (ts : List Str) (s : Str) :
    ts.foldl pick (pref s, s) =
      if pref s < 2 ∧ snappy ∈ ts then (2, snappy) else if pref s < 1 ∧ gzip ∈ ts then (1, gzip) else (pref s, s) := by
  have gs := gzip_ne_snappy
  induction ts generalizing s with
  | nil => simp
  | cons e ts ih =>
    have hp : pick (pref s, s) e = if pref e > pref s then (pref e, e) else (pref s, s) := rfl
    rw [List.foldl_cons, hp]
    -- the new accumulator is again of the form `(pref x, x)`; what remains is a computation in each of the nine cases of (s, e)
    by_cases hgt : pref e > pref s
    · rw [if_pos hgt, ih e]
      rcases pref_cases s with ⟨rfl, hs⟩ | ⟨rfl, hs⟩ | ⟨_, _, hs⟩ <;>
        rcases pref_cases e with ⟨rfl, he⟩ | ⟨rfl, he⟩ | ⟨_, _, he⟩ <;>
        simp [hs, he, gs.symm] at hgt ⊢
    · rw [if_neg hgt, ih s]
      rcases pref_cases s with ⟨rfl, hs⟩ | ⟨rfl, hs⟩ | ⟨_, _, hs⟩ <;>
        rcases pref_cases e with ⟨rfl, he⟩ | ⟨rfl, he⟩ | ⟨h1, h2, -⟩ <;>
        simp [gs.symm, *] at hgt ⊢

theorem selectEncoding_eq (a : Str) :
    selectEncoding a = if snappy ∈ tokens a then snappy else if gzip ∈ tokens a then gzip else [] := by
  have h : (tokens a).foldl pick (0, []) =
      if snappy ∈ tokens a then (2, snappy) else if gzip ∈ tokens a then (1, gzip) else (0, []) := by
    simpa [show pref [] = 0 by decide] using fold_pick (tokens a) []
  unfold selectEncoding choose
  rw [h]
  split
  · rfl
  · split <;> rfl

theorem selectEncoding_nil : selectEncoding [] = [] := by decide

/-- a faulting source never makes the request body end in EOF, whatever encoding was selected:
    `io.Copy` hands the error to `pw.CloseWithError` -/
theorem srcFault_bodyEnd (enc : Str) (file : Bytes) (k : Nat) (t : Bool) :
    bodyEnd enc (sourceOf file (.srcFault k t)).2 = .error t := by
  simp [bodyEnd, sourceOf, closeWithError, compressResult]

theorem roundTrip_status (enc : Str) (file : Bytes) (c : Nat) :
    roundTrip enc file (.status c) = (.response c, .complete file) := by
  simp [roundTrip, bodyEnd, sourceOf, closeWithError, compressResult, getReader]

theorem roundTrip_neterr (enc : Str) (file : Bytes) (t : Bool) :
    roundTrip enc file (.neterr t) = (.error t, .none) := by
  simp [roundTrip, bodyEnd, sourceOf, closeWithError, compressResult]

theorem roundTrip_srcFault (enc : Str) (file : Bytes) (k : Nat) (t : Bool) :
    roundTrip enc file (.srcFault k t) = (.error t, .aborted) := by
  simp [roundTrip, bodyEnd, sourceOf, closeWithError, compressResult]

theorem roundTrip_complete (enc : Str) (file : Bytes) (o : Outcome) (body : Bytes)
    (h : (roundTrip enc file o).2 = .complete body) : body = file ∧ ∃ c, o = .status c := by
  cases o with
  | status c => rw [roundTrip_status] at h; simp at h; exact ⟨h.symm, c, rfl⟩
  | neterr t => rw [roundTrip_neterr] at h; simp at h
  | srcFault k t => rw [roundTrip_srcFault] at h; simp at h

theorem roundTrip_response (enc : Str) (file : Bytes) (o : Outcome) (c : Nat)
    (h : (roundTrip enc file o).1 = .response c) : o = .status c := by
  cases o with
  | status c' => rw [roundTrip_status] at h; simp at h; rw [h]
  | neterr t => rw [roundTrip_neterr] at h; simp at h
  | srcFault k t => rw [roundTrip_srcFault] at h; simp at h

theorem pass_attempts (file : Bytes) (encs : Str) (bs : List Nat) (sc : List Outcome) :
    ∀ a ∈ (pass file encs bs sc).1,
      a.offered = file ∧ a.accept = encs ∧ a.enc = selectEncoding encs ∧ a.server ∈ bs := by
  fun_induction pass file encs bs sc
  case case1 => nofun
  case case4 b rest _ a _ _ _ _ _ _ ih =>
    intro x hx
    rcases List.mem_cons.mp hx with rfl | hx
    · simp +zetaDelta [getReader]
    · exact (ih x hx).imp_right fun h => h.imp_right fun h => h.imp_right (List.mem_cons_of_mem _)
  case case6 b rest _ a _ _ _ _ ih =>
    intro x hx
    rcases List.mem_cons.mp hx with rfl | hx
    · simp +zetaDelta [getReader]
    · exact (ih x hx).imp_right fun h => h.imp_right fun h => h.imp_right (List.mem_cons_of_mem _)
  all_goals
    intro x hx
    cases List.mem_singleton.mp hx
    simp +zetaDelta [getReader]

theorem pass_length (file : Bytes) (encs : Str) (bs : List Nat) (sc : List Outcome) :
    (pass file encs bs sc).1.length ≤ bs.length := by
  fun_induction pass file encs bs sc <;> simp <;> omega

theorem pass_no_restart (file : Bytes) (bs : List Nat) (sc : List Outcome) :
    (pass file [] bs sc).2.1 ≠ .restart := by
  generalize he : ([] : Str) = encs
  fun_induction pass file encs bs sc
  -- the restart leaf needs advertised encodings
  case case3 h => subst he; simp at h
  case case4 ih => exact ih
  case case6 ih => exact ih
  all_goals nofun

theorem pass_consumed (file : Bytes) (encs : Str) (bs : List Nat) (sc : List Outcome) :
    (pass file encs bs sc).2.2 = sc.drop (pass file encs bs sc).1.length := by
  fun_induction pass file encs bs sc
  case case4 ih => simp only [List.length_cons]; rw [ih, List.drop_tail]
  case case6 ih => simp only [List.length_cons]; rw [ih, List.drop_tail]
  all_goals simp

theorem pass_response (file : Bytes) (encs : Str) (bs : List Nat) (sc : List Outcome) (c s : Nat)
    (h : (pass file encs bs sc).2.1 = .final (.response c s)) :
    (pass file encs bs sc).1 ≠ [] ∧
    sc.getD ((pass file encs bs sc).1.length - 1) (.status 200) = .status c ∧ c < 300 := by
  -- a pass that goes on: the last attempt is the last attempt of the rest, one position further in the script
  have more : ∀ (a : Attempt) (r : List Attempt) (sc : List Outcome), r ≠ [] →
      sc.tail.getD (r.length - 1) (.status 200) = .status c → (a :: r) ≠ [] ∧
      sc.getD ((a :: r).length - 1) (.status 200) = .status c := by
    intro a r sc hr h2
    have := List.length_pos_iff.mpr hr
    rw [getD_tail] at h2
    exact ⟨List.cons_ne_nil _ _, by rw [List.length_cons, show r.length + 1 - 1 = r.length - 1 + 1 by omega]; exact h2⟩
  revert h
  fun_induction pass file encs bs sc
  case case2 b _ sc a c' hrt hlt =>
    intro h
    cases h
    exact ⟨List.cons_ne_nil _ _, by rw [List.length_singleton, ← List.headD_eq_getD, roundTrip_response _ _ _ _ hrt], hlt⟩
  case case4 ih =>
    intro h
    obtain ⟨i1, i2, i3⟩ := ih h
    exact ⟨(more _ _ _ i1 i2).1, (more _ _ _ i1 i2).2, i3⟩
  case case6 ih =>
    intro h
    obtain ⟨i1, i2, i3⟩ := ih h
    exact ⟨(more _ _ _ i1 i2).1, (more _ _ _ i1 i2).2, i3⟩
  all_goals nofun

def isTemp : Outcome → Bool
  | .status c => statusIsTemporary c
  | .neterr t => t
  | .srcFault _ t => t

theorem temp_status (c : Nat) (h : statusIsTemporary c = true) : ¬ c < 300 ∧ ¬ (c = 406 ∨ c = 415) := by
  unfold statusIsTemporary at h
  simp at h
  omega

/-- the first `k` servers fail transiently, the next one answers below 300: each temporary failure takes the "go on" leaf
    of `pass` (`temp_status`), the tail is the induction hypothesis -/
theorem pass_first_healthy (file : Bytes) (encs : Str) (fails : List Outcome) (c : Nat)
    (more : List Outcome) (bs : List Nat) (hf : ∀ o ∈ fails, isTemp o = true)
    (hk : fails.length < bs.length) (hc : c < 300) :
    pass file encs bs (fails ++ .status c :: more) =
      ((bs.take (fails.length + 1)).map (fun b => ⟨b, encs, selectEncoding encs, file⟩),
        .final (.response c (bs.getD fails.length 0)), more) := by
  induction fails generalizing bs with
  | nil =>
    match bs, hk with
    | b :: rest, _ =>
      simp [pass, hc, getReader, roundTrip_status]
  | cons o fails ih =>
    match bs, hk with
    | b :: rest, hk =>
      have hrest : rest ≠ [] := by
        intro h; subst h; simp at hk
      have hk' : fails.length < rest.length := by simp at hk; omega
      have iht := ih rest (fun x hx => hf x (by simp [hx])) hk'
      have ho := hf o (by simp)
      unfold pass
      cases o with
      | status c' =>
        simp only [isTemp] at ho
        obtain ⟨t1, t2⟩ := temp_status c' ho
        simp only [List.cons_append, List.headD_cons, List.tail_cons, roundTrip_status, t1, t2, ho, hrest,
          if_false, false_and, ne_eq, not_false_eq_true, and_self, if_true, iht]
        simp [getReader]
      | neterr t =>
        simp only [isTemp] at ho
        subst ho
        simp only [List.cons_append, List.headD_cons, List.tail_cons, roundTrip_neterr, hrest,
          ne_eq, not_false_eq_true, and_self, if_true, iht]
        simp [getReader]
      | srcFault k t =>
        simp only [isTemp] at ho
        subst ho
        simp only [List.cons_append, List.headD_cons, List.tail_cons, roundTrip_srcFault, hrest,
          ne_eq, not_false_eq_true, and_self, if_true, iht]
        simp [getReader]

theorem expand_zero (bs : List Nat) : expand bs 0 = some bs := by
  unfold expand
  have : ¬ ((bs.length : Int) < 0) := by omega
  simp [this]

theorem expand_length (bases : List Nat) (retries : Int) (bs : List Nat)
    (h : expand bases retries = some bs) : bases ≠ [] → bs ≠ [] := by
  intro hne
  unfold expand at h
  split at h
  · simp only [Option.some.injEq] at h
    subst h
    -- at least one copy is appended
    have hpos : 0 < retries.toNat := by omega
    match retries.toNat, hpos with
    | n + 1, _ =>
      unfold repeatTo
      simp only [List.length_nil, List.nil_append]
      have : 0 < n + 1 := by omega
      simp only [this, if_true]
      -- after the first append the accumulator is non-empty and only grows
      have grow : ∀ fuel (acc : List Nat), acc ≠ [] → repeatTo bases (n + 1) fuel acc ≠ [] := by
        intro fuel
        induction fuel with
        | zero => intro acc ha; simpa [repeatTo] using ha
        | succ f ihf =>
          intro acc ha
          unfold repeatTo
          split
          · apply ihf; simp [ha]
          · exact ha
      exact grow n bases hne
  · simp at h; subst h; exact hne

/-- A `doRequest` that terminates made one pass over the (repeated) server list, or – after a 406 or 415 – that pass
    and a second one, without encodings, on what is left of the script. -/
theorem doRequest_ok (file : Bytes) (encs : Str) (bases : List Nat) (retries : Int) (script : List Outcome)
    (tr : List Attempt) (f : Final) (h : doRequest file encs bases retries script = .ok (tr, f)) :
    ∃ bs, expand bases retries = some bs ∧
      (((pass file encs bs script).2.1 = .final f ∧ tr = (pass file encs bs script).1) ∨
       ((pass file encs bs script).2.1 = .restart ∧
        (pass file [] bs (pass file encs bs script).2.2).2.1 = .final f ∧
        tr = (pass file encs bs script).1 ++ (pass file [] bs (pass file encs bs script).2.2).1)) := by
  unfold doRequest at h
  split at h
  · cases h
  · rename_i bs hbs
    refine ⟨bs, hbs, ?_⟩
    simp only at h
    split at h
    · rename_i f' hf'
      cases h
      exact .inl ⟨hf', rfl⟩
    · rename_i hre
      split at h <;> cases h
      rename_i f' hf'
      exact .inr ⟨hre, hf', rfl⟩

end Relic.Transport
