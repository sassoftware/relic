/-
  Relic.Proofs.Rpm — the RPM model: the tag map read through `get`; the guard `recovered`; the accepting run of each reader
  and of `signWith`; the verifier as the chain of its stages, down to the fact on which the tamper-evidence statement of
  `Props/C02_Rpm` stands.
-/
import Relic.Model.Rpm
import Relic.Proofs.Res
namespace Relic.Rpm

theorem get_ins (k k' : Int) (e : Entry) (m : EMap) : get k (ins k' e m) = if k' = k then some e else get k m := by
  induction m with
  | nil => simp [ins, get]
  | cons p r ih =>
    obtain ⟨k2, e2⟩ := p
    unfold ins
    by_cases h1 : k' < k2
    · simp [h1, get]
    · by_cases h2 : k' = k2
      · subst h2
        by_cases h3 : k' = k <;> simp [h1, get, h3]
      · by_cases h3 : k2 = k
        · subst h3
          simp [h1, h2, get]
        · simp [h1, h2, h3, get, ih]

theorem get_ins_same (k : Int) (e : Entry) (m : EMap) : get k (ins k e m) = some e := by
  rw [get_ins, if_pos rfl]

theorem get_ins_other (k k' : Int) (e : Entry) (m : EMap) (h : k ≠ k') : get k (ins k' e m) = get k m := by
  rw [get_ins, if_neg (Ne.symm h)]

theorem get_del (k k' : Int) (m : EMap) : get k (del k' m) = if k' = k then none else get k m := by
  induction m with
  | nil => simp [del, get]
  | cons p r ih =>
    obtain ⟨k2, e2⟩ := p
    unfold del at *
    by_cases h2 : k2 = k'
    · subst h2
      by_cases h3 : k2 = k
      · subst h3
        simpa using ih
      · simp [get, h3, ih]
    · have : (k2 != k') = true := by simp [h2]
      by_cases h3 : k2 = k
      · subst h3
        simp [this, get, Ne.symm h2]
      · simp [this, get, h3, ih]

theorem get_del_same (k : Int) (m : EMap) : get k (del k m) = none := by
  rw [get_del, if_pos rfl]

theorem get_del_other (k k' : Int) (m : EMap) (h : k ≠ k') : get k (del k' m) = get k m := by
  rw [get_del, if_neg (Ne.symm h)]

theorem recovered_eq_ok {α : Type} (r : Res α) (o : α) : recovered r = .ok o ↔ r = .ok o := by
  cases r <;> simp [recovered]

-- Accepting runs.  The model propagates `Res` by hand-written `match`es; the functional case principle of each function
-- has one leaf that returns `.ok`, and `cases` on the hypothesis closes all others.
theorem readHeader_split (H : Nat → Bytes → Bytes) (sb : Bool) (chk : Option (Nat × Bytes)) (f : Bytes) (h : Hdr) (rest : Bytes)
    (hr : readHeader H sb chk f = .ok (h, rest)) : f = h.orig ++ rest := by
  revert hr
  fun_cases readHeader H sb chk f <;> intro hr <;> cases hr
  show f = f.take (16 + _ + _) ++ ((f.drop 16).drop _).drop _
  rw [List.drop_drop, List.drop_drop, ← Nat.add_assoc, List.take_append_drop]

theorem readBody_split (H : Nat → Bytes → Bytes) (body : Bytes) (sig gen : Hdr) (payload : Bytes)
    (hr : readBody H body = .ok (sig, gen, payload)) : body = sig.orig ++ gen.orig ++ payload := by
  revert hr
  fun_cases readBody H body <;> intro hr <;> cases hr
  rename_i rest chk h1 _ h3
  rw [readHeader_split H true none body sig rest h1, readHeader_split H false chk rest gen payload h3, List.append_assoc]

/-- the layout `readBoth` finds: lead (96 bytes), signature header as read (padding included), general header, payload -/
theorem readBoth_layout (H : Nat → Bytes → Bytes) (f : Bytes) (p : Parsed) (hr : readBoth H f = .ok p) :
    f = p.lead ++ p.sig.orig ++ p.gen.orig ++ p.payload ∧ p.lead.length = 96 ∧ p.lead = f.take 96 := by
  revert hr
  fun_cases readBoth H f <;> intro hr <;> cases hr
  rename_i hl _ s g pl hb
  refine ⟨?_, by simp only [List.length_take]; omega, rfl⟩
  rw [List.append_assoc, List.append_assoc, ← List.append_assoc s.orig, ← readBody_split H _ s g pl hb]
  exact (List.take_append_drop 96 f).symm

theorem signWith_ok (nv : EMap → Res Bytes) (H : Nat → Bytes → Bytes) (mk : Bool → Bytes → Bytes) (f : Bytes) (o : SignOut)
    (hs : signWith nv H mk f = .ok o) :
    ∃ p, readBoth H f = .ok p ∧ digestPayload H p.sig.ents p.gen p.payload = .ok () ∧ nv p.gen.ents = .ok o.nevra ∧
      o.old = sigAreaLen p ∧ o.blob = dumpSig p.lead (signedSig mk p) := by
  revert hs
  fun_cases signWith nv H mk f <;> intro hs <;> cases hs
  exact ⟨_, ‹_›, ‹_›, ‹_›, rfl, rfl⟩

theorem libVerifyCore_eq (H pgp valid known sig gen payload) :
    libVerifyCore H pgp valid known sig gen payload =
      (collect pgp sig.ents gen.orig [tagRSA, tagDSA]).bind fun hs =>
      (collect pgp sig.ents (gen.orig ++ payload) [tagPGP, tagGPG]).bind fun ps =>
      (digestPayload H sig.ents gen payload).bind fun _ =>
      (validateAll valid known (hs ++ ps)).bind fun _ => .ok (hs ++ ps) := by
  unfold libVerifyCore
  cases collect pgp sig.ents gen.orig [tagRSA, tagDSA] <;> try rfl
  cases collect pgp sig.ents (gen.orig ++ payload) [tagPGP, tagGPG] <;> try rfl
  cases digestPayload H sig.ents gen payload <;> try rfl
  simp only [Res.bind]
  generalize validateAll valid known _ = r
  cases r <;> rfl

theorem verifyCoreWith_eq (nv H pgp valid known noChain sig gen payload) :
    verifyCoreWith nv H pgp valid known noChain sig gen payload =
      (libVerifyCore H pgp valid known sig gen payload).bind fun sigs =>
      if sigs = [] then .err "notsigned" else
      (nv gen.ents).bind fun name =>
      if known = none ∧ !noChain then .err "nokeychain"
      else .ok ⟨(dedupe sigs []).map fun s => (s.info.keyid, s.info.hash), name⟩ := by
  unfold verifyCoreWith
  cases libVerifyCore H pgp valid known sig gen payload <;> try rfl
  rename_i sigs
  by_cases h : sigs = []
  · simp only [Res.bind, h, if_true]
  · simp only [Res.bind, h, if_false]
    cases nv gen.ents <;> rfl

theorem collect_mem (pgp : Bytes → Res SigInfo) (sig : EMap) (s : Bytes) (ts : List Int) (l : List Found) (t : Int) (e : Entry)
    (hc : collect pgp sig s ts = .ok l) (ht : t ∈ ts) (hg : get t sig = some e) : ∃ i, (⟨t, e.contents, i, s⟩ : Found) ∈ l := by
  revert hc
  fun_induction collect pgp sig s ts generalizing l <;> intro hc
  case case1 => cases ht
  case case2 a r ha ih =>
    rcases List.mem_cons.mp ht with rfl | ht
    · rw [hg] at ha; cases ha
    · exact ih l ht hc
  case case4 a r e' ha _ i _ r' hr ih =>
    cases hc
    rcases List.mem_cons.mp ht with rfl | ht
    · rw [hg] at ha; cases ha; exact ⟨i, List.mem_cons_self⟩
    · obtain ⟨j, hj⟩ := ih r' ht hr; exact ⟨j, List.mem_cons_of_mem _ hj⟩
  all_goals cases hc

theorem validateAll_mem (valid : Bytes → Bytes → Bool) (ks : List Nat) (l : List Found) (x : Found)
    (hv : validateAll valid (some ks) l = .ok ()) (hx : x ∈ l) : valid x.blob x.stream = true ∧ ks.contains x.info.keyid = true := by
  induction l with
  | nil => cases hx
  | cons a r ih =>
    unfold validateAll at hv
    simp only at hv
    split at hv
    · cases hv
    · split at hv
      · cases hv
      · rename_i h1 h2
        cases hx with
        | head => simp at h1 h2; exact ⟨h2, by simpa using h1⟩
        | tail _ h => exact ih hv h

theorem verifyCore_accepts (H pgp valid ks nc sig) (g : Hdr) (pl : Bytes) (v : VerifyOut)
    (h : verifyCore H pgp valid (some ks) nc sig g pl = .ok v) (t : Int) (e : Entry) (hg : get t sig.ents = some e) :
    (t ∈ [tagRSA, tagDSA] → valid e.contents g.orig = true) ∧
    (t ∈ [tagPGP, tagGPG] → valid e.contents (g.orig ++ pl) = true) := by
  rw [verifyCore, verifyCoreWith_eq] at h
  obtain ⟨_, hl, -⟩ := Res.bind_eq_ok.mp h
  rw [libVerifyCore_eq] at hl
  obtain ⟨hs, a, hl⟩ := Res.bind_eq_ok.mp hl
  obtain ⟨ps, b, hl⟩ := Res.bind_eq_ok.mp hl
  obtain ⟨_, -, hl⟩ := Res.bind_eq_ok.mp hl
  obtain ⟨_, c, -⟩ := Res.bind_eq_ok.mp hl
  constructor <;> intro ht
  · obtain ⟨i, m⟩ := collect_mem pgp sig.ents _ _ hs t e a ht hg
    exact (validateAll_mem valid ks _ _ c (List.mem_append_left _ m)).1
  · obtain ⟨i, m⟩ := collect_mem pgp sig.ents _ _ ps t e b ht hg
    exact (validateAll_mem valid ks _ _ c (List.mem_append_right _ m)).1

end Relic.Rpm
