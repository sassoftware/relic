/- bytes as numbers below 256; the big/little-endian codecs of `Relic.Base.Bytes` (a byte string as a number in base 256,
   either byte order; fields, windows, bounds); decimal digits are ASCII (`dec_digit`)
   and determine the number (`toDigits_inj`) -/
import Relic.Base.Bytes
namespace Relic

/-- core's `UInt8.toNat_ofNat_of_lt'` with the number explicit and the bound written `256` (what `omega` closes at the uses) -/
theorem toNat_ofNat_lt (n : Nat) (h : n < 256) : (UInt8.ofNat n).toNat = n := by
  simp [Nat.mod_eq_of_lt h]

theorem ofNat_inj_lt {n m : Nat} (hn : n < 256) (hm : m < 256) (h : UInt8.ofNat n = UInt8.ofNat m) : n = m := by
  have := congrArg UInt8.toNat h
  rwa [toNat_ofNat_lt n hn, toNat_ofNat_lt m hm] at this

/-- a property of every byte may be checked on the 256 numerals (then `decide` can finish) -/
theorem forall_u8 (P : UInt8 → Prop) (h : ∀ n, n < 256 → P (UInt8.ofNat n)) (b : UInt8) : P b := by
  simpa using h b.toNat b.toNat_lt

/-- `byte(x)` sees `x` modulo 256 only (core's `UInt8.ofNat_mod_size`, which writes `2 ^ 8`) -/
theorem ofNat_mod_256 (x : Nat) : UInt8.ofNat (x % 256) = UInt8.ofNat x := by
  apply UInt8.toNat_inj.mp; simp [UInt8.toNat_ofNat']

@[simp] theorem beBytes_length (w n : Nat) : (beBytes w n).length = w := by
  induction w with
  | zero => rfl
  | succ w ih => simp [beBytes, ih]

theorem beVal_beBytes (w n : Nat) : beVal (beBytes w n) = n % 256 ^ w := by
  induction w with
  | zero => simp [beBytes, beVal, Nat.mod_one]
  | succ w ih =>
    simp only [beBytes, beVal, beBytes_length, ih]
    have : (UInt8.ofNat (n / 256 ^ w % 256)).toNat = n / 256 ^ w % 256 := by
      simp [UInt8.toNat_ofNat']
    rw [this, Nat.pow_succ, Nat.mod_mul, Nat.mul_comm]; omega

theorem beVal_beBytes_of_lt (w n : Nat) (h : n < 256 ^ w) : beVal (beBytes w n) = n := by
  rw [beVal_beBytes, Nat.mod_eq_of_lt h]

@[simp] theorem leBytes_length (w n : Nat) : (leBytes w n).length = w := by
  induction w generalizing n with
  | zero => rfl
  | succ w ih => simp [leBytes, ih]

theorem leVal_leBytes (w n : Nat) : leVal (leBytes w n) = n % 256 ^ w := by
  induction w generalizing n with
  | zero => simp [leBytes, leVal, Nat.mod_one]
  | succ w ih =>
    simp only [leBytes, leVal, ih]
    have : (UInt8.ofNat (n % 256)).toNat = n % 256 := by
      simp [UInt8.toNat_ofNat']
    rw [this, Nat.pow_succ, Nat.mul_comm (256 ^ w) 256, Nat.mod_mul]

theorem leVal_leBytes_of_lt (w n : Nat) (h : n < 256 ^ w) : leVal (leBytes w n) = n := by
  rw [leVal_leBytes, Nat.mod_eq_of_lt h]

theorem leVal_lt (l : Bytes) : leVal l < 256 ^ l.length := by
  induction l with
  | nil => simp [leVal]
  | cons b bs ih =>
    simp only [leVal, List.length_cons, Nat.pow_succ]
    have := b.toNat_lt
    omega

theorem leBytes_leVal (b : Bytes) : leBytes b.length (leVal b) = b := by
  induction b with
  | nil => rfl
  | cons x xs ih =>
    have hx := x.toNat_lt
    have e1 : (x.toNat + 256 * leVal xs) % 256 = x.toNat := by omega
    have e2 : (x.toNat + 256 * leVal xs) / 256 = leVal xs := by omega
    simp [leVal, leBytes, e1, e2, ih]

theorem beVal_lt (l : Bytes) : beVal l < 256 ^ l.length := by
  induction l with
  | nil => simp [beVal]
  | cons b bs ih =>
    simp only [beVal, List.length_cons, Nat.pow_succ]
    have := b.toNat_lt
    have : b.toNat * 256 ^ bs.length ≤ 255 * 256 ^ bs.length := Nat.mul_le_mul_right _ (by omega)
    omega

theorem beBytes_mul_add (w a v : Nat) : beBytes w (a * 256 ^ w + v) = beBytes w v := by
  induction w generalizing a with
  | zero => rfl
  | succ w ih =>
    have e : a * 256 ^ (w + 1) = 256 ^ w * (256 * a) := by
      rw [Nat.pow_succ, Nat.mul_comm a, Nat.mul_assoc]
    rw [beBytes, beBytes, e, Nat.mul_add_div (Nat.pow_pos (by decide)), Nat.mul_add_mod, Nat.mul_comm, ih]

theorem beBytes_beVal (b : Bytes) : beBytes b.length (beVal b) = b := by
  induction b with
  | nil => rfl
  | cons x xs ih =>
    have e : (x.toNat * 256 ^ xs.length + beVal xs) / 256 ^ xs.length % 256 = x.toNat := by
      rw [Nat.mul_comm, Nat.mul_add_div (Nat.pow_pos (by decide)), Nat.div_eq_of_lt (beVal_lt xs)]
      exact Nat.mod_eq_of_lt x.toNat_lt
    rw [List.length_cons, beVal, beBytes, e, beBytes_mul_add, ih, UInt8.ofNat_toNat]

theorem leVal_cons_mod (b : UInt8) (bs : Bytes) : leVal (b :: bs) % 256 = b.toNat := by
  have := b.toNat_lt
  simp only [leVal]; omega

theorem leVal_cons_div (b : UInt8) (bs : Bytes) : leVal (b :: bs) / 256 = leVal bs := by
  have := b.toNat_lt
  simp only [leVal]; omega

theorem leVal_drop (l : Bytes) (n : Nat) : leVal (l.drop n) = leVal l / 256 ^ n := by
  induction n generalizing l with
  | zero => simp
  | succ n ih =>
    cases l with
    | nil => simp [leVal]
    | cons b bs =>
      rw [List.drop_succ_cons, ih, Nat.pow_succ, Nat.mul_comm, ← Nat.div_div_eq_div_mul, leVal_cons_div]

theorem leVal_take (l : Bytes) (n : Nat) : leVal (l.take n) = leVal l % 256 ^ n := by
  induction n generalizing l with
  | zero => simp [leVal, Nat.mod_one]
  | succ n ih =>
    cases l with
    | nil => simp [leVal]
    | cons b bs =>
      rw [Nat.pow_succ, Nat.mul_comm, Nat.mod_mul, leVal_cons_mod, leVal_cons_div, ← ih]
      rfl

theorem leBytes_mod (w n : Nat) : leBytes w (n % 256 ^ w) = leBytes w n := by
  have := leBytes_leVal (leBytes w n)
  rwa [leBytes_length, leVal_leBytes] at this

/-- the two round trips with the length given by an equation -/
theorem beBytes_beVal' (x : Bytes) (w : Nat) (h : x.length = w) : beBytes w (beVal x) = x := h ▸ beBytes_beVal x

theorem leBytes_leVal' (x : Bytes) (w : Nat) (h : x.length = w) : leBytes w (leVal x) = x := h ▸ leBytes_leVal x

/-- whether or not the string has `w` bytes left -/
theorem leVal_take_lt (l : Bytes) (w : Nat) : leVal (l.take w) < 256 ^ w := by
  rw [leVal_take]; exact Nat.mod_lt _ (Nat.pow_pos (by decide))

theorem beVal_take_lt (l : Bytes) (w : Nat) : beVal (l.take w) < 256 ^ w :=
  Nat.lt_of_lt_of_le (beVal_lt _) (Nat.pow_le_pow_right (by decide) (List.length_take_le _ _))

theorem leBytes_add (a b n : Nat) : leBytes (a + b) n = leBytes a n ++ leBytes b (n / 256 ^ a) := by
  induction a generalizing n with
  | zero => simp [leBytes]
  | succ a ih =>
    have e : a + 1 + b = (a + b) + 1 := by omega
    rw [e]
    simp only [leBytes, ih, List.cons_append]
    congr 2
    rw [Nat.div_div_eq_div_mul, Nat.pow_succ, Nat.mul_comm]

theorem leBytes_snoc (w n : Nat) : leBytes (w + 1) n = leBytes w n ++ [UInt8.ofNat (n / 256 ^ w % 256)] :=
  leBytes_add w 1 n

theorem beBytes_eq_reverse (w n : Nat) : beBytes w n = (leBytes w n).reverse := by
  induction w with
  | zero => simp [beBytes, leBytes]
  | succ w ih => rw [leBytes_snoc, beBytes, ih]; simp

theorem beBytes_leVal (l : Bytes) : beBytes l.length (leVal l) = l.reverse := by
  rw [beBytes_eq_reverse, leBytes_leVal]

theorem leBytes_inj (w a b : Nat) (ha : a < 256 ^ w) (hb : b < 256 ^ w) (h : leBytes w a = leBytes w b) : a = b := by
  have := congrArg leVal h
  rwa [leVal_leBytes_of_lt w a ha, leVal_leBytes_of_lt w b hb] at this

/-- a natural number printed in decimal (`%d`, `strconv.Itoa`) is ASCII digits only -/
theorem dec_digit (n : Nat) (c : UInt8) (h : c ∈ (Nat.toDigits 10 n).map fun ch => UInt8.ofNat ch.toNat) :
    48 ≤ c.toNat ∧ c.toNat ≤ 57 := by
  obtain ⟨ch, hch, rfl⟩ := List.mem_map.mp h
  have hd := Nat.isDigit_of_mem_toDigits (by decide) (by decide) hch
  simp only [Char.isDigit, Bool.and_eq_true, decide_eq_true_eq] at hd
  have h1 : 48 ≤ ch.toNat := hd.1
  have h2 : ch.toNat ≤ 57 := hd.2
  rw [toNat_ofNat_lt _ (by omega)]
  exact ⟨h1, h2⟩

theorem toDigits_inj {a b : Nat} (h : Nat.toDigits 10 a = Nat.toDigits 10 b) : a = b := by
  have ha := Nat.ofDigitChars_toDigits (b := 10) (n := a) (by decide) (by decide)
  have hb := Nat.ofDigitChars_toDigits (b := 10) (n := b) (by decide) (by decide)
  rw [h] at ha
  exact ha.symm.trans hb

end Relic
