/- `parseSignature` on the embedded signature `csblob.Sign` writes: one code directory (type 0) whose slots are the
   signer's, the hashed items found again byte for byte, a non-empty CMS item; `mem_slotCheck` (one special-slot comparison,
   for both verifier models); `MachO.defaults_keeps` -/
import Relic.Proofs.SuperBlob
import Relic.Proofs.CodeDirParse
import Relic.Model.MachO
namespace Relic.CodeDir

theorem sliceOf_inside (blob r t : Bytes) (k : Nat) (h : blob.drop k = r ++ t) : MachO.sliceOf blob k r.length = r := by
  unfold MachO.sliceOf
  rw [h, List.take_left' rfl]

theorem rawOf_filter (H : Bytes → Bytes) (hs : Nat) (blob : Bytes) (t : Nat) : ∀ (is : List Item) (off : Nat) (t2 : Bytes),
    blob.drop off = (is.map (itemBytes H hs)).flatten ++ t2 →
    ((rawOf H hs off is).filter (fun r => r.itype = t)).map (fun r => MachO.sliceOf blob r.off r.len) =
      (is.filter (fun i => i.itype % 2 ^ 32 = t)).map (itemBytes H hs) := by
  intro is
  induction is with
  | nil => intro _ _ _; rfl
  | cons i is ih =>
    intro off t2 h
    simp only [List.map_cons, List.flatten_cons, List.append_assoc] at h
    have h' : blob.drop (off + (itemBytes H hs i).length) = (is.map (itemBytes H hs)).flatten ++ t2 := by
      rw [← List.drop_drop, h, List.drop_left' rfl]
    have hsl := sliceOf_inside blob _ _ off h
    simp only [rawOf, List.filter_cons]
    by_cases c : i.itype % 2 ^ 32 = t
    · simp only [c, decide_true, ↓reduceIte, List.map_cons, hsl, ih _ t2 h']
    · simp only [c, decide_false, Bool.false_eq_true, ↓reduceIte, ih _ t2 h']

theorem itemData_rawOf (H : Bytes → Bytes) (hs : Nat) (blob : Bytes) (t : Nat) (is : List Item) (off : Nat) (t2 : Bytes)
    (h : blob.drop off = (is.map (itemBytes H hs)).flatten ++ t2) :
    MachO.itemData blob (rawOf H hs off is) t = ((is.filter (fun i => i.itype % 2 ^ 32 = t)).getLast?).map (itemBytes H hs) := by
  unfold MachO.itemData
  rw [← List.getLast?_map, ← List.getLast?_map]
  congr 1
  exact rawOf_filter H hs blob t is off t2 h

theorem sigItems_nodir (blob : Bytes) : ∀ (rs : List RawItem) (s : MachO.OldSig), (∀ r ∈ rs, MachO.isDirType r.itype = false) →
    ∃ s', MachO.sigItems blob rs s = .ok s' ∧ s'.dirs = s.dirs := by
  intro rs s
  -- one case per exit of the loop body; the directory branch contradicts the hypothesis on the head item
  fun_induction MachO.sigItems blob rs s <;> intro h
  all_goals first
    | exact ⟨_, rfl, rfl⟩
    | (rename_i ih; exact ih (fun r hr => h r (List.mem_cons_of_mem _ hr)))
    | (have := h _ List.mem_cons_self; simp_all)

theorem itemBytes_new (H : Bytes → Bytes) (hs m : Nat) (payload : Bytes) :
    itemBytes H hs (newSuperItem m payload) = beBytes 4 m ++ beBytes 4 (payload.length + 8) ++ payload := by
  simp [itemBytes, newSuperItem, render, Seg.render]

theorem litOf_new (H : Bytes → Bytes) (hs m : Nat) (payload : Bytes) :
    litOf (newSuperItem m payload) = itemBytes H hs (newSuperItem m payload) := by
  simp [litOf, itemBytes, newSuperItem, render, Seg.render]

theorem wellItem_new (H : Bytes → Bytes) (hs m : Nat) (payload : Bytes) (h : payload.length + 8 < 2 ^ 32) :
    WellItem H hs (newSuperItem m payload) := by
  unfold WellItem
  rw [itemBytes_new]
  refine ⟨by simp; omega, ?_⟩
  have : be32 (beBytes 4 m ++ beBytes 4 (payload.length + 8) ++ payload) 4 = beVal (beBytes 4 (payload.length + 8)) := by
    apply be32_of_drop _ _ payload
    · rw [List.append_assoc, List.drop_left' (beBytes_length 4 _)]
    · exact beBytes_length 4 _
  rw [this, beVal_beBytes]
  simp only [List.length_append, beBytes_length]
  rw [Nat.mod_eq_of_lt h]; omega

theorem itemBytes_le (H : Bytes → Bytes) (hs : Nat) : ∀ (is : List Item) (i : Item), i ∈ is → (itemBytes H hs i).length ≤ itemsLen H hs is := by
  intro is
  induction is with
  | nil => intro i h; cases h
  | cons j is ih =>
    intro i h
    rw [itemsLen_cons]
    rcases List.mem_cons.mp h with rfl | h'
    · omega
    · have := ih i h'; omega

theorem rawOf_itype (H : Bytes → Bytes) (hs : Nat) : ∀ (is : List Item) (off : Nat) (r : RawItem), r ∈ rawOf H hs off is →
    ∃ i ∈ is, r.itype = i.itype % 2 ^ 32 := by
  intro is
  induction is with
  | nil => intro _ r h; cases h
  | cons j is ih =>
    intro off r h
    simp only [rawOf, List.mem_cons] at h
    rcases h with rfl | h'
    · exact ⟨j, List.mem_cons_self, rfl⟩
    · obtain ⟨i, hi, e⟩ := ih _ r h'
      exact ⟨i, List.mem_cons_of_mem _ hi, e⟩

theorem filter_optItem (o : Option Bytes) (m t : Nat) :
    (o.map (newSuperItem m)).toList.filter (fun i => i.itype % 2 ^ 32 = t) =
      if csItype m % 2 ^ 32 = t then (o.map (newSuperItem m)).toList else [] := by
  cases o with
  | none => simp
  | some b => simp [newSuperItem, List.filter_cons]

theorem trimSpecials_suffix : ∀ l : List (Option Bytes), ∃ pre, l = pre ++ trimSpecials l := by
  intro l
  induction l with
  | nil => exact ⟨[], rfl⟩
  | cons a l ih =>
    cases a with
    | some x => exact ⟨[], rfl⟩
    | none =>
      unfold trimSpecials
      split
      · obtain ⟨pre, h⟩ := ih
        exact ⟨none :: pre, by rw [List.cons_append, ← h]⟩
      · exact ⟨[], rfl⟩

theorem trimmed_slot (f : Option Bytes → Bytes) (l : List (Option Bytes)) (k : Nat) (x : Bytes)
    (h : ((trimSpecials l).map f).reverse[k]? = some x) : ((l.map f).reverse)[k]? = some x := by
  obtain ⟨pre, hp⟩ := trimSpecials_suffix l
  have : (l.map f).reverse = ((trimSpecials l).map f).reverse ++ (pre.map f).reverse := by
    conv => lhs; rw [hp]
    rw [List.map_append, List.reverse_append]
  rw [this]
  have hk : k < ((trimSpecials l).map f).reverse.length := (List.getElem?_eq_some_iff.mp h).1
  rw [List.getElem?_append_left hk]
  exact h

/-- what `parseSignature` makes of the embedded signature `csblob.Sign` assembles: exactly one code directory, of type 0, that
    carries the signer's code slots, page size and code limit; every non-zero special slot −7/−5/−2 it holds is `H` of the item
    of that type found in the blob, slot −6 is `H` of the rep-specific bytes; the CMS item is seen as non-empty -/
structure OwnSig (H : Bytes → Bytes) (sp : SignParams) (stream blob : Bytes) (sig : MachO.OldSig) (items : List RawItem)
    (d : Dir) : Prop where
  dirs : sig.dirs = [(0, d)]
  pageShift : d.hdr.pageShift = if sp.repSpecific.isSome then 0 else 12
  code : d.code = (hashPages stream sp.repSpecific.isSome).slots.map (Seg.render H (hashSizeOf sp.hash))
  limit : stream.length < 2 ^ 63 → codeSize d.hdr = (stream.length : Int)
  cms : (items.filter (fun i => i.itype = 0x10000)).getLast?.map (fun i => decide (i.len ≤ 8)) = some false
  slot7 : ∀ x, d.special[6]? = some x → x.all (· = 0) = false → x = H ((MachO.itemData blob items 7).getD [])
  slot5 : ∀ x, d.special[4]? = some x → x.all (· = 0) = false → x = H ((MachO.itemData blob items 5).getD [])
  slot2 : ∀ x, d.special[1]? = some x → x.all (· = 0) = false → x = H ((MachO.itemData blob items 2).getD [])
  slot6 : ∀ x, d.special[5]? = some x → x.all (· = 0) = false → ∃ rep, sp.repSpecific = some rep ∧ x = H rep

/-- a comparison `csblob.Verify` makes for one special slot `o` (both models of it, with their own record `mk` of a comparison):
    the slot is present and not all zero -/
theorem mem_slotCheck {γ : Type} (mk : Bytes → γ) (o : Option Bytes) (c : γ)
    (hc : c ∈ (match (match o with | some s => if s.all (· = 0) then none else some s | none => none) with
               | some s => [mk s] | none => [])) :
    ∃ x, o = some x ∧ x.all (· = 0) = false ∧ c = mk x := by
  cases o with
  | none => cases hc
  | some x =>
    cases hz : x.all (· = 0) with
    | true => simp [hz] at hc
    | false =>
      simp only [hz, Bool.false_eq_true, ↓reduceIte, List.mem_cons, List.not_mem_nil, or_false] at hc
      exact ⟨x, rfl, hz, hc⟩

theorem slot_cases (H : Bytes → Bytes) (hs : Nat) (o : Option Bytes) (x : Bytes)
    (hx : x = Seg.render H hs (specialSeg o)) (hnz : x.all (· = 0) = false) : ∃ c, o = some c ∧ x = H c := by
  cases o with
  | none => simp [hx, specialSeg, Seg.render] at hnz
  | some c => exact ⟨c, rfl, by rw [hx]; rfl⟩

theorem sigItems_cons_dir (blob : Bytes) (r : RawItem) (rs : List RawItem) (s : MachO.OldSig) (d : Dir) (h0 : r.itype = 0)
    (hp : parseCodeDirectory (MachO.sliceOf blob r.off r.len) (blob.drop (r.off + r.len)) = .ok d) :
    MachO.sigItems blob (r :: rs) s = MachO.sigItems blob rs { s with dirs := s.dirs ++ [(r.itype, d)] } := by
  rw [MachO.sigItems]
  have c4 : MachO.isDirType 0 = true := by decide
  simp [h0, hp, c4]

theorem parseSignature_of (blob : Bytes) (r0 : RawItem) (rs : List RawItem) (d : Dir) (s' : MachO.OldSig)
    (hps : parseSuper blob = .ok (0xfade0cc0 % 2 ^ 32, r0 :: rs)) (h0 : r0.itype = 0)
    (hp : parseCodeDirectory (MachO.sliceOf blob r0.off r0.len) (blob.drop (r0.off + r0.len)) = .ok d)
    (hs' : MachO.sigItems blob rs ⟨none, none, [] ++ [(r0.itype, d)], false⟩ = .ok s') :
    MachO.parseSignature blob = .ok ({ s' with dirs := s'.dirs.foldr MachO.insertDir [] }, r0 :: rs) := by
  unfold MachO.parseSignature
  rw [hps]
  have hm : ¬ ((0xfade0cc0 % 2 ^ 32 ≠ 0xfade0cc0) ∧ (0xfade0cc0 % 2 ^ 32 ≠ 0xfade0cc1)) := by decide
  simp only [hm, ↓reduceIte]
  rw [sigItems_cons_dir blob r0 rs _ d h0 hp, hs']

/-- `parseSignature` on the embedded signature of `signBlob` followed by `tail` (the zero padding of the reserved region)
    succeeds with an `OwnSig` -/
theorem parseSignature_own_tail (H : Bytes → Bytes) (sp : SignParams) (stream : Bytes) (s : Signed) (cms tail : Bytes)
    (hH : ∀ x, (H x).length = hashSizeOf sp.hash) (hcms : 8 < cms.length) (e : signBlob sp stream = .ok s)
    (h32 : (render H (hashSizeOf sp.hash) (superblob (hashSizeOf sp.hash) s cms) ++ tail).length < 2 ^ 32) :
    ∃ sig items d, MachO.parseSignature (render H (hashSizeOf sp.hash) (superblob (hashSizeOf sp.hash) s cms) ++ tail) = .ok (sig, items) ∧
      OwnSig H sp stream (render H (hashSizeOf sp.hash) (superblob (hashSizeOf sp.hash) s cms) ++ tail) sig items d := by
  -- no induction, the fields of `OwnSig` are assembled: (1) `superblob` is `marshalSuperBlob (cdI :: rest)`; (2) every item states
  -- its own length (`WellItem`), so `parseSuper_marshal_tail` says where `parseSuper` finds the items; (3) the head item parses by
  -- `parse_newCodeDirectory`, the others are no directory slots (`sigItems_nodir`); (4) the special slots: `trimSpecials` only
  -- drops a prefix (`trimmed_slot`), and a non-zero slot is the hash of its item (`slot_cases`)
  obtain ⟨rp, hcd, _, hhashed⟩ := signBlob_inv sp stream s e
  let hs := hashSizeOf sp.hash
  have hhs : hashSizeOf sp.hash = hs := rfl
  -- the hash type exists because newCodeDirectory succeeded
  obtain ⟨ht, hht⟩ : ∃ ht, hashTypeOf sp.hash = some ht := by
    cases hq : hashTypeOf sp.hash with
    | some ht => exact ⟨ht, rfl⟩
    | none => simp [newCodeDirectory, hq] at hcd
  let reqI := rp.map (newSuperItem 0xfade0c01)
  let entI := sp.entitlement.map (newSuperItem 0xfade7171)
  let derI := sp.entitlementDER.map (newSuperItem 0xfade7172)
  let cdI : Item := ⟨0xfade0c02, 0, s.cd⟩
  let cmsI := newSuperItem 0xfade0b01 cms
  let rest : List Item := reqI.toList ++ entI.toList ++ derI.toList ++ [cmsI]
  have hitems : superblob hs s cms = marshalSuperBlob hs 0xfade0cc0 (cdI :: rest) := by
    unfold superblob
    rw [hhashed]
    simp [cdI, rest, reqI, entI, derI, cmsI]
  rw [hitems] at h32 ⊢
  have h32' : (render H hs (marshalSuperBlob hs 0xfade0cc0 (cdI :: rest)) ++ tail).length < 2 ^ 32 := h32
  have hrm := render_marshal H hs 0xfade0cc0 (cdI :: rest)
  rw [sum_segsLen H hs hH] at hrm
  have hblobL0 : (render H hs (marshalSuperBlob hs 0xfade0cc0 (cdI :: rest))).length =
      12 + 8 * (cdI :: rest).length + itemsLen H hs (cdI :: rest) := by
    rw [hrm]
    simp only [List.length_append, beBytes_length, superIndex_length]
    rfl
  have hbound : ∀ i ∈ cdI :: rest, (itemBytes H hs i).length < 2 ^ 32 := by
    intro i hi
    have := itemBytes_le H hs _ i hi
    rw [List.length_append] at h32'
    omega
  have hrawL : (render H hs s.cd).length < 2 ^ 32 := hbound cdI List.mem_cons_self
  have hslots : ∀ sg ∈ (hashPages stream sp.repSpecific.isSome).slots, (Seg.render H hs sg).length = hs := by
    intro sg hsg
    unfold hashPages at hsg
    split at hsg
    · simp only [List.mem_cons, List.mem_nil_iff, or_false] at hsg; subst hsg; exact hH _
    · obtain ⟨pg, _, rfl⟩ := List.mem_map.mp hsg; exact hH _
  have hcount : (hashPages stream sp.repSpecific.isSome).slots.length = (hashPages stream sp.repSpecific.isSome).count := by
    unfold hashPages; split <;> simp
  have hrest_plain : ∀ i ∈ rest, ∃ m payload, i = newSuperItem m payload ∧
      (m = 0xfade0c01 ∨ m = 0xfade7171 ∨ m = 0xfade7172 ∨ m = 0xfade0b01) := by
    intro i hi
    simp only [rest, List.mem_append, Option.mem_toList, List.mem_cons, List.mem_nil_iff, or_false, reqI, entI, derI, cmsI,
      Option.map_eq_some_iff] at hi
    rcases hi with ((⟨a, _, rfl⟩ | ⟨a, _, rfl⟩) | ⟨a, _, rfl⟩) | rfl
    · exact ⟨_, _, rfl, Or.inl rfl⟩
    · exact ⟨_, _, rfl, Or.inr (Or.inl rfl)⟩
    · exact ⟨_, _, rfl, Or.inr (Or.inr (Or.inl rfl))⟩
    · exact ⟨_, _, rfl, Or.inr (Or.inr (Or.inr rfl))⟩
  have hwell : ∀ i ∈ cdI :: rest, WellItem H hs i := by
    intro i hi
    rcases List.mem_cons.mp hi with rfl | hr
    · -- the code directory states its own length
      obtain ⟨h88, hl⟩ := newCodeDirectory_states_length H _ ht s.cd hht (by simpa [hhs] using hH) (by simpa [hhs] using hslots)
        (by simpa [hhs] using hrawL) hcd
      simp only [hhs] at h88 hl
      exact ⟨by show 8 ≤ (render H hs s.cd).length; omega, hl⟩
    · obtain ⟨m, payload, rfl, _⟩ := hrest_plain i hr
      have hb' := hbound _ hi
      rw [itemBytes_new] at hb'
      simp only [List.length_append, beBytes_length] at hb'
      exact wellItem_new H hs m payload (by omega)
  obtain ⟨hps, hdata, -⟩ := parseSuper_marshal_tail H hs 0xfade0cc0 hH (cdI :: rest) tail hwell h32'
  generalize render H hs (marshalSuperBlob hs 0xfade0cc0 (cdI :: rest)) ++ tail = blob at *
  let off0 := 12 + 8 * (cdI :: rest).length
  have hdrop0 : blob.drop off0 = render H hs s.cd ++ ((rest.map (itemBytes H hs)).flatten ++ tail) := by
    rw [hdata]; simp [itemBytes, cdI]
  obtain ⟨d, hparse, P⟩ := parse_newCodeDirectory H _ ht s.cd (blob.drop (off0 + (render H hs s.cd).length)) hht
    (by simpa [hhs] using hH) (by simpa [hhs] using hslots) hcount (by simpa [hhs] using hrawL) hcd
  simp only [hhs] at hparse P
  have hraws : rawOf H hs off0 (cdI :: rest) =
      ⟨be32 (render H hs s.cd) 0, 0, off0, (render H hs s.cd).length⟩ :: rawOf H hs (off0 + (render H hs s.cd).length) rest := rfl
  have hnodir : ∀ r ∈ rawOf H hs (off0 + (render H hs s.cd).length) rest, MachO.isDirType r.itype = false := by
    intro r hr
    obtain ⟨i, hi, ei⟩ := rawOf_itype H hs rest _ r hr
    obtain ⟨m, payload, rfl, hm⟩ := hrest_plain i hi
    rw [ei]
    rcases hm with rfl | rfl | rfl | rfl <;> rfl
  obtain ⟨s', hs', hdirs'⟩ := sigItems_nodir blob (rawOf H hs (off0 + (render H hs s.cd).length) rest)
    ⟨none, none, [] ++ [(0, d)], false⟩ hnodir
  have hsl0 : MachO.sliceOf blob off0 (render H hs s.cd).length = render H hs s.cd := sliceOf_inside blob _ _ off0 hdrop0
  have hsig : MachO.parseSignature blob =
      .ok ({ s' with dirs := s'.dirs.foldr MachO.insertDir [] }, rawOf H hs off0 (cdI :: rest)) := by
    rw [hraws]
    exact parseSignature_of blob _ _ d s' (by rw [hps, hraws]) rfl (by rw [hsl0]; exact hparse) hs'
  have hdirs : ({ s' with dirs := s'.dirs.foldr MachO.insertDir [] } : MachO.OldSig).dirs = [(0, d)] := by
    show s'.dirs.foldr MachO.insertDir [] = _
    rw [hdirs']; rfl
  have hidata : ∀ t, MachO.itemData blob (rawOf H hs off0 (cdI :: rest)) t =
      (((cdI :: rest).filter (fun i => i.itype % 2 ^ 32 = t)).getLast?).map (itemBytes H hs) := by
    intro t
    exact itemData_rawOf H hs blob t (cdI :: rest) off0 tail hdata
  -- the items of each type among `cdI :: rest`
  obtain ⟨hf7, hf5, hf2, hfc⟩ : (cdI :: rest).filter (fun i => i.itype % 2 ^ 32 = 7) = derI.toList ∧
      (cdI :: rest).filter (fun i => i.itype % 2 ^ 32 = 5) = entI.toList ∧
      (cdI :: rest).filter (fun i => i.itype % 2 ^ 32 = 2) = reqI.toList ∧
      (cdI :: rest).filter (fun i => i.itype % 2 ^ 32 = 0x10000) = [cmsI] := by
    refine ⟨?_, ?_, ?_, ?_⟩ <;>
      simp only [rest, reqI, entI, derI, List.filter_cons, List.filter_append, filter_optItem, List.filter_nil] <;>
      simp [cdI, cmsI, newSuperItem, csItype]
  have olast : ∀ (o : Option Item), o.toList.getLast? = o := by intro o; cases o <;> rfl
  have hd7 : MachO.itemData blob (rawOf H hs off0 (cdI :: rest)) 7 = derI.map (itemBytes H hs) := by rw [hidata, hf7, olast]
  have hd5 : MachO.itemData blob (rawOf H hs off0 (cdI :: rest)) 5 = entI.map (itemBytes H hs) := by rw [hidata, hf5, olast]
  have hd2 : MachO.itemData blob (rawOf H hs off0 (cdI :: rest)) 2 = reqI.map (itemBytes H hs) := by rw [hidata, hf2, olast]
  have hsp := P.special
  have hslot : ∀ (k : Nat) (x : Bytes), d.special[k]? = some x →
      (([derI.map litOf, sp.repSpecific, entI.map litOf, none, sp.resources, reqI.map litOf, sp.infoPlist].map
        (fun o => Seg.render H hs (specialSeg o))).reverse)[k]? = some x := by
    intro k x hk
    rw [hsp] at hk
    exact trimmed_slot _ _ k x hk
  have hlit : ∀ (o : Option Item) (m : Nat) (pl : Option Bytes), o = pl.map (newSuperItem m) →
      o.map litOf = o.map (itemBytes H hs) := by
    intro o m pl ho
    subst ho
    cases pl with
    | none => rfl
    | some b => simp [litOf_new H hs]
  refine ⟨_, _, d, hsig, ?_⟩
  refine
    { dirs := hdirs, pageShift := P.pageShift, code := P.code,
      limit := ?_, cms := ?_, slot7 := ?_, slot5 := ?_, slot2 := ?_, slot6 := ?_ }
  · intro hl
    have := P.limit (by
      show (hashPages stream sp.repSpecific.isSome).limit < 2 ^ 63
      unfold hashPages; split <;> exact hl)
    rw [this]
    unfold hashPages; split <;> rfl
  · have hl := rawOf_lens H hs 0x10000 (cdI :: rest) off0
    rw [hfc] at hl
    have : ((rawOf H hs off0 (cdI :: rest)).filter (fun r => r.itype = 0x10000)).getLast?.map (fun i => decide (i.len ≤ 8)) =
        ((((rawOf H hs off0 (cdI :: rest)).filter (fun r => r.itype = 0x10000)).map (·.len)).getLast?).map
          (fun n => decide (n ≤ 8)) := by
      rw [List.getLast?_map, Option.map_map]; rfl
    rw [this, hl]
    simp only [List.map_cons, List.map_nil, List.getLast?_singleton, Option.map_some, Option.some.injEq, decide_eq_false_iff_not]
    rw [itemBytes_new]
    simp only [List.length_append, beBytes_length]
    omega
  · intro x hx hnz
    obtain ⟨c, hc, hxc⟩ := slot_cases H hs _ x (Option.some.inj (hslot 6 x hx)).symm hnz
    rw [hd7, ← hlit derI 0xfade7172 sp.entitlementDER rfl, hc]
    exact hxc
  · intro x hx hnz
    obtain ⟨c, hc, hxc⟩ := slot_cases H hs _ x (Option.some.inj (hslot 4 x hx)).symm hnz
    rw [hd5, ← hlit entI 0xfade7171 sp.entitlement rfl, hc]
    exact hxc
  · intro x hx hnz
    obtain ⟨c, hc, hxc⟩ := slot_cases H hs _ x (Option.some.inj (hslot 1 x hx)).symm hnz
    rw [hd2, ← hlit reqI 0xfade0c01 rp rfl, hc]
    exact hxc
  · intro x hx hnz
    obtain ⟨c, hc, hxc⟩ := slot_cases H hs _ x (Option.some.inj (hslot 5 x hx)).symm hnz
    exact ⟨c, hc, hxc⟩

theorem parseSignature_own (H : Bytes → Bytes) (sp : SignParams) (stream : Bytes) (s : Signed) (cms : Bytes)
    (hH : ∀ x, (H x).length = hashSizeOf sp.hash) (hcms : 8 < cms.length) (e : signBlob sp stream = .ok s)
    (h32 : (render H (hashSizeOf sp.hash) (superblob (hashSizeOf sp.hash) s cms)).length < 2 ^ 32) :
    ∃ sig items d, MachO.parseSignature (render H (hashSizeOf sp.hash) (superblob (hashSizeOf sp.hash) s cms)) = .ok (sig, items) ∧
      OwnSig H sp stream (render H (hashSizeOf sp.hash) (superblob (hashSizeOf sp.hash) s cms)) sig items d := by
  have := parseSignature_own_tail H sp stream s cms [] hH hcms e (by simpa using h32)
  simpa using this

end Relic.CodeDir

namespace Relic.MachO
open Relic.CodeDir

theorem defaults_keeps (p : SignParams) (old : Option Bytes) (p' : SignParams) (opq : Bool)
    (h : defaults p old = .ok (p', opq)) : p'.hash = p.hash ∧ p'.repSpecific = p.repSpecific := by
  revert h
  fun_cases defaults p old
  case case1 => rintro ⟨⟩; exact ⟨rfl, rfl⟩
  case case7 p1 _ =>
    intro h
    obtain ⟨rfl, -⟩ := Prod.mk.inj (Res.ok.inj h)
    unfold p1
    split <;> exact ⟨rfl, rfl⟩
  case case8 p1 _ _ p2 p3 =>
    -- entitlements, then flags, then the exec-segment fields: each step copies the other fields
    intro h
    obtain ⟨rfl, -⟩ := Prod.mk.inj (Res.ok.inj h)
    have h1 : p1.hash = p.hash ∧ p1.repSpecific = p.repSpecific := by unfold p1; split <;> exact ⟨rfl, rfl⟩
    have h2 : p2.hash = p1.hash ∧ p2.repSpecific = p1.repSpecific := by unfold p2; split <;> exact ⟨rfl, rfl⟩
    have h3 : p3.hash = p2.hash ∧ p3.repSpecific = p2.repSpecific := by unfold p3; split <;> exact ⟨rfl, rfl⟩
    exact ⟨h3.1.trans (h2.1.trans h1.1), h3.2.trans (h2.2.trans h1.2)⟩
  all_goals nofun

end Relic.MachO
