/-
  Relic.Proofs.ReaderCalc — the central theorem of the reader calculus: a program without a raw `Read` behaves on a
  chunked stream exactly as on the whole buffer (`run_flat`), hence identically on any two streams with the same
  logical content and terminal condition (`run_split_independent` in Relic/Props/C09_Readers.lean).
-/
import Relic.Proofs.ReaderBufio
namespace Relic.Rd
open Relic.Rd.Stream

/-- reader state invariant: the `bufio.Reader`, if any, is consistent with the reader under it -/
def M.Ok (m : M) : Prop :=
  match m.b with
  | none => True
  | some b => BufOk b m.s ∧ 0 < b.size

/-- `m'` (a state reached from `m`) is described by the flat state `f` -/
structure Sim (m' m : M) (f : Flat) : Prop where
  abs : m'.abs = f
  ok : m'.Ok
  after : After m'.s m.s

theorem Sim.trans {m'' m' m : M} {f : Flat} (h2 : Sim m'' m' f) (h1 : After m'.s m.s) : Sim m'' m f :=
  ⟨h2.abs, h2.ok, h2.after.trans h1⟩

theorem abs_raw (s : Stream) : (M.mk s none).abs = ⟨s.data, s.term, none⟩ := by simp [M.abs]

theorem abs_buf (s : Stream) (b : Buf) : (M.mk s (some b)).abs = ⟨b.data ++ s.data, s.term, some b.size⟩ := by
  simp [M.abs]

theorem flatCopy_rest (lim : Option Nat) (f : Flat) :
    (flatCopy lim f).2.2 = { f with data := (flatCopy lim f).2.2.data } := by
  cases lim with
  | none => rfl
  | some n =>
    simp only [flatCopy]
    split <;> rfl

/-- `copy_spec` as a `Sim`, the shape `run_flat` consumes -/
theorem copy_sim (lim : Option Nat) (sched : Sched) (s : Stream) :
    (copy lim sched s).1 = (flatCopy lim ⟨s.data, s.term, none⟩).1 ∧
    (copy lim sched s).2.1 = (flatCopy lim ⟨s.data, s.term, none⟩).2.1 ∧
    Sim ⟨(copy lim sched s).2.2, none⟩ ⟨s, none⟩ (flatCopy lim ⟨s.data, s.term, none⟩).2.2 := by
  obtain ⟨h1, h2, h3, h4⟩ := copy_spec lim sched s
  exact ⟨h1, h2, ⟨by rw [abs_raw, h3, h4.term, flatCopy_rest], trivial, h4⟩⟩

theorem flatReadFull_eq (n : Nat) (f : Flat) :
    flatReadFull n f = (rfOf [] (flatCopy (some n) f), (flatCopy (some n) f).2.2) := by
  by_cases h : n ≤ f.data.length <;> simp [flatReadFull, flatCopy, rfOf, h]

theorem readFull_sim (n : Nat) (s : Stream) :
    (readFull n s).1 = (flatReadFull n ⟨s.data, s.term, none⟩).1 ∧
    Sim ⟨(readFull n s).2, none⟩ ⟨s, none⟩ (flatReadFull n ⟨s.data, s.term, none⟩).2 := by
  obtain ⟨h1, h2, h3⟩ := readFullLoop_spec _ n [] s (Nat.lt_succ_self _)
  rw [List.length_nil, Nat.sub_zero] at h1 h2
  rw [flatReadFull_eq, readFull]
  exact ⟨h1, ⟨by rw [abs_raw, h2, h3.term, flatCopy_rest], trivial, h3⟩⟩

theorem probe_sim (s : Stream) (hp : s.Plain) :
    (s.read 1).2.1 = (if s.data.isEmpty then some s.term else none) ∧
    Sim ⟨(s.read 1).2.2, none⟩ ⟨s, none⟩ ⟨if s.data.isEmpty then s.data else s.data.drop 1, s.term, none⟩ := by
  have haf := (read_spec s 1).after
  suffices h : (s.read 1).2.1 = (if s.data.isEmpty then some s.term else none) ∧
      (s.read 1).2.2.data = (if s.data.isEmpty then s.data else s.data.drop 1) from
    ⟨h.1, ⟨by rw [abs_raw, h.2, haf.term], trivial, haf⟩⟩
  obtain ⟨chunks, term, eager⟩ := s
  obtain ⟨hne, hea⟩ := hp
  simp only at hne hea
  subst hea
  cases chunks with
  | nil => simp [Stream.read, data]
  | cons c rest =>
    have hc : c ≠ [] := hne c (List.mem_cons_self ..)
    cases c with
    | nil => exact absurd rfl hc
    | cons x r =>
      cases r with
      | nil => simp [Stream.read, data]
      | cons y r' => simp [Stream.read, data]

theorem runFlat_probe {α : Type} (k : Option Term → Prog α) (d : Bytes) (t : Term) :
    runFlat (.probe k) ⟨d, t, none⟩ =
      runFlat (k (if d.isEmpty then some t else none)) ⟨if d.isEmpty then d else d.drop 1, t, none⟩ := by
  simp only [runFlat]
  split <;> simp [*]

theorem sim_misuse {α : Type} (what : String) (m : M) (hm : m.Ok) :
    (misuse what m : Res α × Log × M).1 = (misuse what m.abs : Res α × Log × Flat).1 ∧
    (misuse what m : Res α × Log × M).2.1 = (misuse what m.abs : Res α × Log × Flat).2.1 ∧
    Sim (misuse what m : Res α × Log × M).2.2 m (misuse what m.abs : Res α × Log × Flat).2.2 :=
  ⟨rfl, rfl, ⟨rfl, hm, After.refl _⟩⟩

/-- the step of `run_flat` at a primitive: the primitive took `m` to `m'`, described by `f'`; the rest of the program
    runs from `m'` as the induction hypothesis says -/
theorem Sim.run {α : Type} {p : Prog α} {m' m : M} {f' : Flat} (h : Sim m' m f')
    (ih : m'.Ok → (m'.s.NoStall ∨ (p.bufFree ∧ m'.b = none)) → (p.probeFree ∨ m'.s.Plain) →
      (run p m').1 = (runFlat p m'.abs).1 ∧ (run p m').2.1 = (runFlat p m'.abs).2.1 ∧
      Sim (run p m').2.2 m' (runFlat p m'.abs).2.2)
    (hs : m.s.NoStall ∨ (p.bufFree ∧ m'.b = none)) (hq : p.probeFree ∨ m.s.Plain) :
    (run p m').1 = (runFlat p f').1 ∧ (run p m').2.1 = (runFlat p f').2.1 ∧ Sim (run p m').2.2 m (runFlat p f').2.2 := by
  have ih' := ih h.ok (hs.imp (NoStall.after h.after) id) (hq.imp id h.after.plain)
  rw [h.abs] at ih'
  exact ⟨ih'.1, ih'.2.1, ih'.2.2.trans h.after⟩

theorem Sim.ofBuf {b b' : Buf} {s s' : Stream} {d : Bytes} (hm : M.Ok ⟨s, some b⟩) (h : BufStep b s d b' s') :
    Sim ⟨s', some b'⟩ ⟨s, some b⟩ ⟨d, s.term, some b.size⟩ :=
  ⟨by rw [abs_buf, h.data, h.after.term, h.size], ⟨h.ok, by rw [h.size]; exact hm.2⟩, h.after⟩

theorem runFlat_readByte {α : Type} (k : Except BErr UInt8 → Prog α) (d : Bytes) (t : Term) (sz : Nat) :
    runFlat (.readByte k) ⟨d, t, some sz⟩ = runFlat (k (rbFlat d t).1) ⟨(rbFlat d t).2, t, some sz⟩ := by
  cases d <;> rfl

/-- A program that never looks at the outcome of a raw `Read` computes, on any stream, what it
    computes on the whole buffer: same result, same sink writes, and the reader is left with the same logical
    content.  Side condition for programs that use a `bufio.Reader`: the stream never answers 100 consecutive reads
    with `0, nil` (`NoStall`). -/
theorem run_flat {α : Type} (p : Prog α) (hp : p.rawFree) (m : M) (hm : m.Ok)
    (hs : m.s.NoStall ∨ (p.bufFree ∧ m.b = none)) (hq : p.probeFree ∨ m.s.Plain) :
    (run p m).1 = (runFlat p m.abs).1 ∧ (run p m).2.1 = (runFlat p m.abs).2.1 ∧
    Sim (run p m).2.2 m (runFlat p m.abs).2.2 := by
  induction p generalizing m with
  | ret a => exact ⟨rfl, rfl, ⟨rfl, hm, After.refl _⟩⟩
  | fail f => exact ⟨rfl, rfl, ⟨rfl, hm, After.refl _⟩⟩
  | emit i d k ih =>
    have ih' := ih hp m hm hs hq
    simp only [run, runFlat]
    exact ⟨ih'.1, by rw [ih'.2.1], ih'.2.2⟩
  | readFull n k ih =>
    obtain ⟨s, b⟩ := m
    cases b with
    | some b => exact sim_misuse _ _ hm
    | none =>
      obtain ⟨h1, h2⟩ := readFull_sim n s
      simp only [run, runFlat, abs_raw]
      rw [← h1]
      exact h2.run (ih _ (hp _) _) (hs.imp id fun h => ⟨h.1 _, rfl⟩) (hq.imp (fun h => h _) id)
  | copy lim sc k ih =>
    obtain ⟨s, b⟩ := m
    cases b with
    | some b => exact sim_misuse _ _ hm
    | none =>
      obtain ⟨h1, h2, h3⟩ := copy_sim lim sc s
      simp only [run, runFlat, abs_raw]
      rw [← h1, ← h2]
      exact h3.run (ih _ _ (hp _ _) _) (hs.imp id fun h => ⟨h.1 _ _, rfl⟩) (hq.imp (fun h => h _ _) id)
  | rawRead n k _ => exact absurd hp (by simp [Prog.rawFree])
  | probe k ih =>
    obtain ⟨s, b⟩ := m
    cases b with
    | some b => exact sim_misuse _ _ hm
    | none =>
      have hpl : s.Plain := hq.elim (fun h => absurd h (by simp [Prog.probeFree])) id
      obtain ⟨h1, h2⟩ := probe_sim s hpl
      simp only [run, abs_raw, runFlat_probe]
      rw [← h1]
      exact h2.run (ih _ (hp _) _) (hs.imp id fun h => ⟨h.1 _, rfl⟩) (Or.inr hpl)
  | wrapBufio size k ih =>
    obtain ⟨s, b⟩ := m
    cases b with
    | some b => exact sim_misuse _ _ hm
    | none =>
      have hns : s.NoStall := hs.elim id fun h => absurd h.1 (by simp [Prog.bufFree])
      have h : Sim ⟨s, some ⟨max size 16, [], none⟩⟩ ⟨s, none⟩ ⟨s.data, s.term, some (max size 16)⟩ :=
        ⟨by rw [abs_buf]; rfl, ⟨⟨by simp, Or.inl rfl⟩, by simp only; omega⟩, After.refl _⟩
      simp only [run, runFlat, abs_raw]
      exact h.run (ih hp _) (Or.inl hns) hq
  | peek n k ih =>
    obtain ⟨s, b⟩ := m
    cases b with
    | none => exact sim_misuse _ _ hm
    | some b =>
      have hns : s.NoStall := hs.elim id fun h => absurd h.1 (by simp [Prog.bufFree])
      obtain ⟨h1, h2⟩ := peek_spec n b s hm.1 hns
      simp only [run, runFlat, abs_buf]
      rw [← h1]
      exact (Sim.ofBuf hm h2).run (ih _ _ (hp _ _) _) (Or.inl hns) (hq.imp (fun h => h _ _) id)
  | readByte k ih =>
    obtain ⟨s, b⟩ := m
    cases b with
    | none => exact sim_misuse _ _ hm
    | some b =>
      have hns : s.NoStall := hs.elim id fun h => absurd h.1 (by simp [Prog.bufFree])
      obtain ⟨h1, h2⟩ := readByte_spec b s hm.1 hns hm.2
      simp only [run, abs_buf, runFlat_readByte]
      rw [← h1]
      exact (Sim.ofBuf hm h2).run (ih _ (hp _) _) (Or.inl hns) (hq.imp (fun h => h _) id)
  | readString d k ih =>
    obtain ⟨s, b⟩ := m
    cases b with
    | none => exact sim_misuse _ _ hm
    | some b =>
      have hns : s.NoStall := hs.elim id fun h => absurd h.1 (by simp [Prog.bufFree])
      obtain ⟨h1, h2⟩ := readString_spec d b s hm.1 hns hm.2
      have hX : flatReadString d ⟨b.data ++ s.data, s.term, some b.size⟩ =
          ((readString d b s).1, ⟨(flatReadString d ⟨b.data ++ s.data, s.term, some b.size⟩).2.data, s.term, some b.size⟩) :=
        Prod.ext h1.symm (flatReadString_rest ..)
      simp only [run, abs_buf]
      rw [runFlat]
      dsimp only
      rw [hX]
      exact (Sim.ofBuf hm h2).run (ih _ _ (hp _ _) _) (Or.inl hns) (hq.imp (fun h => h _ _) id)
  | bufDrain sc k ih =>
    obtain ⟨s, b⟩ := m
    cases b with
    | none => exact sim_misuse _ _ hm
    | some b =>
      obtain ⟨h1, h2⟩ := bufDrain_spec sc b s hm.1
      simp only [run, runFlat, abs_buf]
      rw [← show (bufDrain sc b s).1.1 = b.data ++ s.data from congrArg Prod.fst h1,
        ← show (bufDrain sc b s).1.2 = .src s.term from congrArg Prod.snd h1]
      exact (Sim.ofBuf hm h2).run (ih _ _ (hp _ _) _)
        (hs.imp id fun h => absurd h.1 (by simp [Prog.bufFree])) (hq.imp (fun h => h _ _) id)

end Relic.Rd
