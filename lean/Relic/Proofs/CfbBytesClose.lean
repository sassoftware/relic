/-
  `Close` at byte level: every live stream reads back the same after writeShortSAT, writeDirStream,
  allocSectorTables, writeSAT, writeMSAT, the header rewrite and the final Truncate; and the sectors Close wrote hold
  the serialised tables of the final state.
-/
import Relic.Proofs.CfbBytesInv
import Relic.Proofs.Codec
namespace Relic.CfbB
open Relic.CfbW Relic.Cfb Relic.Props.C18

def luStep (acc : Nat) (p : Int × Nat) : Nat := if p.1 ≠ FREE then p.2 + 1 else acc

/-- `lastUsed sat` is this scan with `k = 0`, `acc = 0` -/
theorem lu_scan : ∀ (l : List Int) (k acc : Nat),
    ((l.zipIdx k).foldl luStep acc = acc ∨ k < (l.zipIdx k).foldl luStep acc) ∧
    ∀ (x : Nat) (v : Int), l[x]? = some v → v ≠ FREE → k + x < (l.zipIdx k).foldl luStep acc := by
  intro l
  induction l with
  | nil => intro k acc; exact ⟨.inl rfl, fun x v h => by simp at h⟩
  | cons z r ih =>
    intro k acc
    rw [List.zipIdx_cons, List.foldl_cons]
    obtain ⟨m, g⟩ := ih (k + 1) (luStep acc (z, k))
    have e : z ≠ FREE → luStep acc (z, k) = k + 1 := fun hz => if_pos hz
    refine ⟨?_, ?_⟩
    · by_cases hz : z ≠ FREE
      · rw [e hz] at m ⊢; omega
      · rw [show luStep acc (z, k) = acc from if_neg hz] at m ⊢; omega
    · intro x v hx hv
      cases x with
      | zero =>
        simp only [List.getElem?_cons_zero, Option.some.injEq] at hx
        subst hx
        rw [e hv] at m ⊢
        omega
      | succ x =>
        have := g x v (by simpa using hx) hv
        omega

theorem lastUsed_spec (sat : List Int) (x : Nat) (v : Int) (hx : sat[x]? = some v) (hv : v ≠ FREE) :
    x < lastUsed sat := by
  have := (lu_scan sat 0 0).2 x v hx hv
  rw [Nat.zero_add] at this
  exact this

theorem getSec_truncSecs {f : File} {n s : Nat} (h : s < n) : getSec (truncSecs f n) s = getSec f s := by
  unfold getSec truncSecs
  simp only
  rw [List.getElem?_take_of_lt h]
  by_cases hs : s < f.secs.length
  · rw [List.getElem?_append_left hs]
  · rw [List.getElem?_append_right (by omega), List.getElem?_eq_none (l := f.secs) (by omega)]
    simp only [List.getElem?_replicate]
    split <;> rfl

theorem truncSecs_WF {f : File} (h : WF f) (n : Nat) : WF (truncSecs f n) := by
  refine ⟨h.pos, h.pre, ?_⟩
  intro s hs
  have hs' := List.mem_of_mem_take hs
  rcases List.mem_append.mp hs' with h1 | h1
  · exact h.secs s h1
  · rw [(List.mem_replicate.mp h1).2]; simp [zeros, truncSecs]

/-- FAT / DIFAT sectors: non-negative, marked in the FAT, listed once -/
structure MarksOK (sat : List Int) (marks : List Int) : Prop where
  marked : ∀ s ∈ marks, 0 ≤ s ∧ ∃ v, sat[s.toNat]? = some v ∧ v ≤ -3
  nodup : marks.Nodup

theorem Inv.marks {b : BSt} (inv : Inv b) : MarksOK b.st.a.sat (b.st.msat ++ b.st.msatList) := ⟨inv.t.marked, inv.nodup⟩

theorem MarksOK.keep {sat sat' : List Int} {marks : List Int} (mk : MarksOK sat marks)
    (h : ∀ (j : Nat) (v : Int), sat[j]? = some v → v ≤ -3 → sat'[j]? = some v) : MarksOK sat' marks :=
  ⟨fun s hs => (mk.marked s hs).imp id fun ⟨v, hv, hv'⟩ => ⟨v, h _ v hv hv', hv'⟩, mk.nodup⟩

/-- one new table sector: a free entry becomes a mark, wherever it is entered in the list of marks -/
theorem mark_one {spb : Nat} {sat : List Int} {x : Nat} {rest : List Nat} {sat1 : List Int}
    {mark : Int} (hmark : mark ≤ -3) {marks marks' : List Int} (mk : MarksOK sat marks)
    (hp : marks'.Perm ((x : Int) :: marks)) (hm : makeFree spb sat 1 = .ok (x :: rest, sat1)) :
    Keeps sat [] (sat1.set x mark) ∧ MarksOK (sat1.set x mark) marks' := by
  have f := makeFree_spec hm
  have hxl : x < sat1.length := f.lt x List.mem_cons_self
  have keep : Keeps sat [] (sat1.set x mark) :=
    f.keeps fun j hj => List.getElem?_set_ne (by rintro rfl; exact hj List.mem_cons_self)
  -- a mark is neither free nor beyond the table, so the fresh sector is a new one
  have hnew : (x : Int) ∉ marks := by
    intro hmem
    obtain ⟨_, v, hv, hv'⟩ := mk.marked _ hmem
    exact f.not_mem x v hv (by omega) List.mem_cons_self
  refine ⟨keep, fun s hs => ?_, hp.nodup_iff.mpr (List.nodup_cons.mpr ⟨hnew, mk.nodup⟩)⟩
  rcases List.mem_cons.mp (hp.mem_iff.mp hs) with rfl | hs
  · exact ⟨by omega, mark, by simp [hxl], hmark⟩
  · exact (mk.keep fun j v hv hv' => keep j v hv (by omega) (by simp)).marked s hs

theorem allocTables_marks (ss : Nat) (sat' msat' ml' : List Int) :
    ∀ (fuel : Nat) (sat msat ml : List Int), allocTables ss fuel sat msat ml = .ok (sat', msat', ml') →
    MarksOK sat (msat ++ ml) →
    MarksOK sat' (msat' ++ ml') ∧ Keeps sat [] sat' ∧ (∃ m, msat' = msat ++ m) ∧ (∃ m, ml' = ml ++ m) := by
  refine allocTables_induct ?_ ?_ ?_
  · intro sat msat ml x rest sat1 _ _ _ hm ih mk
    obtain ⟨keep', mk'⟩ := mark_one (mark := FATSECT) (by omega) mk
      (marks' := msat ++ [(x : Int)] ++ ml) (by rw [List.append_assoc]; exact List.perm_middle) hm
    obtain ⟨r1, r2, ⟨m1, r4⟩, r5⟩ := ih mk'
    exact ⟨r1, keep'.trans r2 (by simp), ⟨(x : Int) :: m1, by rw [r4]; simp⟩, r5⟩
  · intro sat msat ml x rest sat1 _ _ _ _ hm ih mk
    obtain ⟨keep', mk'⟩ := mark_one (mark := DIFSECT) (by omega) mk
      (marks' := msat ++ (ml ++ [(x : Int)])) (by rw [← List.append_assoc]; exact List.perm_append_singleton _ _) hm
    obtain ⟨r1, r2, r4, ⟨m1, r5⟩⟩ := ih mk'
    exact ⟨r1, keep'.trans r2 (by simp), r4, ⟨(x : Int) :: m1, by rw [r5]; simp⟩⟩
  · intro sat msat ml _ _ _ _ e mk
    cases e
    exact ⟨mk, Keeps.refl _ _, ⟨[], by simp⟩, ⟨[], by simp⟩⟩

/-- one rewrite of a table chain.  The chain of owner `t0` was freed and `fl` allocated and linked in its place, chunk `j`
    of the serialisation going to sector `fl[j]`: `T` is the FAT and `f'` the file afterwards. -/
structure ReallocOK {τ : Type} [DecidableEq τ] (sat : List Int) (H : τ → Option Int) (t0 : τ) (f : File) (chunk : Nat → Bytes)
    (T : List Int) (first : Int) (fl : List Nat) (f' : File) : Prop where
  fam : FamOK T (fun t => if t = t0 then some first else H t)
  new : chain T first = some fl
  live : ∀ t h l, t ≠ t0 → H t = some h → chain sat h = some l →
    chain T h = some l ∧ ∀ x ∈ l, getSec f' x = getSec f x
  marks : ∀ (j : Nat) (v : Int), sat[j]? = some v → v ≤ -3 → T[j]? = some v
  same : SameOff fl f f'
  wrote : ∀ j (hj : j < fl.length), getSec f' fl[j] = pad f.ss (chunk j)

theorem realloc_phase {τ : Type} [DecidableEq τ] {sat : List Int} {H : τ → Option Int} (ok : FamOK sat H)
    (t0 : τ) (h0 : Int) (ht0 : H t0 = some h0) {f : File} {spb n : Nat} {chunk : Nat → Bytes}
    {sat0 : List Int} (hfree : freeSectors sat h0 = .ok sat0)
    {fl : List Nat} {sat1 : List Int} (hm : makeFree spb sat0 n = .ok (fl, sat1))
    {first prev : Int} {sat2 : List Int} {k : Nat} {f' : File}
    (hl : linkLoop (wChunk chunk) fl EOC EOC sat1 (0, f) = .ok (first, prev, sat2, (k, f'))) :
    terminate sat2 prev = .ok (linkFin EOC fl sat1) ∧ fl.length = n ∧
    ReallocOK sat H t0 f chunk (linkFin EOC fl sat1) first fl f' := by
  have fr := makeFree_spec hm
  obtain ⟨hw, rfl, ht'⟩ := linked hm hl
  obtain ⟨same, w5⟩ := foldW_wChunk chunk fl (0, f) (k, f') fr.nodup hw
  obtain ⟨sat0', e1, rem, keep0, kmark⟩ := ok.free t0 h0 ht0
  cases hfree.symm.trans e1
  obtain ⟨c1, c2, c3, _, _⟩ := link_fresh hm
  have fam := rem.grow t0 [] fl (some (headInt fl)) (.inr ⟨if_pos rfl, rfl⟩) (fun _ e => by cases e; exact c1)
    fr.wasFree (fun s l hl _ => c3 s l hl)
  refine ⟨ht', fr.len, fam.congr (fun t => by by_cases e : t = t0 <;> simp [e]), c1, fun t h l hne ht hl' => ?_,
    fun j v hj hv => c2 j v (kmark j v hj hv) (by omega), same, fun j hj => by simpa using w5 j hj⟩
  have h0' : chain sat0 h = some l := by rw [keep0 t h hne ht]; exact hl'
  exact ⟨c3 h l h0', fun x hx => same.sec x fun hmem => chain_not_fresh h0' x hx (fr.wasFree x hmem)⟩

/-- table sectors are listed as `Int`s; a sector number that is not listed is outside the footprint -/
theorem not_mem_map_toNat {l : List Int} (h0 : ∀ s ∈ l, 0 ≤ s) {x : Nat} (hx : (x : Int) ∉ l) : x ∉ l.map Int.toNat := by
  intro hm
  obtain ⟨y, hy, e⟩ := List.mem_map.mp hm
  have := h0 y hy
  exact hx ((by omega : (x : Int) = y) ▸ hy)

theorem wrote_cons {f f' : File} {s : Int} {rest : List Int} {ch : Nat → Bytes} (hs0 : 0 ≤ s) (hns : s ∉ rest)
    (same : SameOff (rest.map Int.toNat) (setSec f s.toNat (pad f.ss (ch 0))) f') (e4 : ∀ x ∈ rest, 0 ≤ x)
    (e6 : ∀ j (hj : j < rest.length), getSec f' (rest[j]).toNat = pad f.ss (ch (j + 1))) :
    SameOff ((s :: rest).map Int.toNat) f f' ∧ (∀ x ∈ s :: rest, 0 ≤ x) ∧
    ∀ j (hj : j < (s :: rest).length), getSec f' ((s :: rest)[j]).toNat = pad f.ss (ch j) := by
  refine ⟨(SameOff.setSec f (pad_length _ _)).cons same, ?_, ?_⟩
  · intro x hx
    rcases List.mem_cons.mp hx with rfl | hx
    · exact hs0
    · exact e4 x hx
  · intro j hj
    cases j with
    | zero =>
      rw [List.getElem_cons_zero, same.sec _ (not_mem_map_toNat e4 (by rw [Int.toNat_of_nonneg hs0]; exact hns)),
        getSec_setSec, if_pos rfl]
    | succ j => exact e6 j (by simpa using hj)

theorem writeSATB_spec (spb : Nat) (sat : List Int) (msat : List Int) (i : Nat) (f f' : File)
    (hn : msat.Nodup) (h : writeSATB spb sat msat i f = .ok f') :
    SameOff (msat.map Int.toNat) f f' ∧ (∀ s ∈ msat, 0 ≤ s) ∧
    (∀ j (hj : j < msat.length), getSec f' (msat[j]).toNat = pad f.ss (encInts ((sat.drop ((i + j) * spb)).take spb))) := by
  revert h hn
  fun_induction writeSATB spb sat msat i f
  case case1 =>
    rintro _ ⟨⟩
    exact ⟨.refl .., by simp, fun j hj => absurd hj (by simp)⟩
  case case4 s rest i f _ hs0 f1 hw ih =>
    intro hn h
    obtain ⟨hns, hnr⟩ := List.nodup_cons.mp hn
    obtain ⟨rfl, _⟩ := wSec_ok hw
    obtain ⟨same, e4, e6⟩ := ih hnr h
    refine wrote_cons (ch := fun j => encInts ((sat.drop ((i + j) * spb)).take spb)) (by omega) hns same e4 (fun j hj => ?_)
    rw [e6 j hj, setSec_ss, Nat.add_assoc, Nat.add_comm 1 j]
  all_goals nofun

theorem writeMSATB_spec (spb : Nat) (tail : List Int) (ml : List Int) (i : Nat) (f f' : File)
    (hn : ml.Nodup) (h : writeMSATB spb tail ml i f = .ok f') :
    SameOff (ml.map Int.toNat) f f' ∧ (∀ s ∈ ml, 0 ≤ s) ∧
    (∀ j (hj : j < ml.length), getSec f' (ml[j]).toNat =
      pad f.ss (encInts ((tail.drop ((i + j) * (spb - 1))).take (spb - 1) ++ [(ml.drop (j + 1)).headD EOC]))) := by
  revert h hn
  fun_induction writeMSATB spb tail ml i f
  case case1 =>
    rintro _ ⟨⟩
    exact ⟨.refl .., by simp, fun j hj => absurd hj (by simp)⟩
  case case4 s rest i f _ _ hs0 chunk f1 hw ih =>
    intro hn h
    obtain ⟨hns, hnr⟩ := List.nodup_cons.mp hn
    obtain ⟨rfl, _⟩ := wSec_ok hw
    obtain ⟨same, e4, e6⟩ := ih hnr h
    refine wrote_cons (ch := fun j => encInts ((tail.drop ((i + j) * (spb - 1))).take (spb - 1) ++
      [((s :: rest).drop (j + 1)).headD EOC])) (by omega) hns same e4 (fun j hj => ?_)
    rw [e6 j hj, setSec_ss, Nat.add_assoc, Nat.add_comm 1 j, List.drop_succ_cons]
  all_goals nofun

/-- name, class id, state bits and time stamps -/
def metaEq (e e' : DirEntry) : Prop :=
  e'.units = e.units ∧ e'.nameLen = e.nameLen ∧ e'.clsid = e.clsid ∧ e'.state = e.state ∧
  e'.ctime = e.ctime ∧ e'.mtime = e.mtime

theorem metaEq.refl (e : DirEntry) : metaEq e e := ⟨rfl, rfl, rfl, rfl, rfl, rfl⟩

theorem metaEq.trans {a b c : DirEntry} (h1 : metaEq a b) (h2 : metaEq b c) : metaEq a c :=
  ⟨h2.1.trans h1.1, h2.2.1.trans h1.2.1, h2.2.2.1.trans h1.2.2.1, h2.2.2.2.1.trans h1.2.2.2.1,
   h2.2.2.2.2.1.trans h1.2.2.2.2.1, h2.2.2.2.2.2.trans h1.2.2.2.2.2⟩

theorem getD_set_meta (ents : List DirEntry) (k : Nat) (e' : DirEntry) (h : metaEq (ents.getD k zeroEntry) e') (i : Nat) :
    metaEq (ents.getD i zeroEntry) ((ents.set k e').getD i zeroEntry) := by
  by_cases hk : k < ents.length
  · by_cases e : i = k
    · subst e; simp [List.getD_eq_getElem?_getD, hk] at h ⊢; exact h
    · simp only [List.getD_eq_getElem?_getD, List.getElem?_set_ne (Ne.symm e)]; exact metaEq.refl _
  · rw [List.set_eq_of_length_le (by omega)]; exact metaEq.refl _

theorem setLinks_meta : ∀ (l : List (Bool × Nat × Nat × Nat)) (ents : List DirEntry),
    ∀ i, metaEq (ents.getD i zeroEntry) ((setLinks ents l).getD i zeroEntry) := by
  intro l
  induction l with
  | nil => intro ents _; exact metaEq.refl _
  | cons p rest ih =>
    intro ents i
    obtain ⟨red, k, lft, rgt⟩ := p
    simp only [setLinks]
    have h2 := ih (ents.set k { ents.getD k zeroEntry with color := if red then 0 else 1, left := lft, right := rgt })
    exact (getD_set_meta ents k { ents.getD k zeroEntry with color := if red then 0 else 1, left := lft, right := rgt }
      ⟨rfl, rfl, rfl, rfl, rfl, rfl⟩ i).trans (h2 i)

theorem rebuildTree_meta (ents : List DirEntry) (root : Nat) (rf : List Nat) :
    ∀ i, metaEq (ents.getD i zeroEntry) ((rebuildTree ents root rf).getD i zeroEntry) := by
  unfold rebuildTree
  simp only
  have s1 := getD_set_meta ents root { ents.getD root zeroEntry with child := NOSTREAM } ⟨rfl, rfl, rfl, rfl, rfl, rfl⟩
  split
  · exact s1
  · rename_i red k lft rgt rest _
    have s2 := getD_set_meta (ents.set root { ents.getD root zeroEntry with child := NOSTREAM }) root
      { (ents.set root { ents.getD root zeroEntry with child := NOSTREAM }).getD root zeroEntry with child := k }
      ⟨rfl, rfl, rfl, rfl, rfl, rfl⟩
    have h2 := setLinks_meta ((red, k, lft, rgt) :: rest)
      ((ents.set root { ents.getD root zeroEntry with child := NOSTREAM }).set root
        { (ents.set root { ents.getD root zeroEntry with child := NOSTREAM }).getD root zeroEntry with child := k })
    exact fun i => ((s1 i).trans (s2 i)).trans (h2 i)

theorem getSec_pre (f : File) (p : Bytes) (s : Nat) : getSec { f with pre := p } s = getSec f s := rfl

theorem getSec_finalFile {f4 : File} {pre' : Bytes} {sat4 : List Int} {x : Nat} {v : Int}
    (hx : sat4[x]? = some v) (hv : v ≠ FREE) : getSec (finalFile f4 pre' (lastUsed sat4)) x = getSec f4 x := by
  unfold finalFile
  have := lastUsed_spec sat4 x v hx hv
  split
  · omega
  · rw [getSec_truncSecs this]; rfl

/-- the tail of `Close`: allocSectorTables, writeSAT, writeMSAT, the header rewrite, Truncate.  `sat`, `msat`, `ml`, `f2`
    are the tables and the file before it, `sat4`, `msat'`, `ml'` the tables after it, `f4` the file before the header
    rewrite and `F` the final file, whose bytes before sector 0 are `pre'`. -/
structure TailOK (ss : Nat) (sat msat ml sat4 msat' ml' tail : List Int) (f2 f4 : File) (pre' : Bytes) (F : File) :
    Prop where
  marks : MarksOK sat4 (msat' ++ ml')
  live : ∀ h l, chain sat h = some l → chain sat4 h = some l ∧ ∀ x ∈ l, getSec F x = getSec f2 x
  fat : ∀ j (hj : j < msat'.length), getSec F (msat'[j]).toNat = pad ss (encInts ((sat4.drop (j * (ss / 4))).take (ss / 4)))
  difat : ∀ j (hj : j < ml'.length), getSec F (ml'[j]).toNat =
    pad ss (encInts ((tail.drop (j * (ss / 4 - 1))).take (ss / 4 - 1) ++ [(ml'.drop (j + 1)).headD EOC]))
  pre4 : f4.pre = f2.pre
  pre : F.pre = pre'
  fss : F.ss = ss
  len : lastUsed sat4 ≠ 0 → F.secs.length = lastUsed sat4
  wf : pre'.length = ss → WF F
  grow : (∃ m, msat' = msat ++ m) ∧ (∃ m, ml' = ml ++ m)

theorem close_tail {ss : Nat} {sat msat ml sat4 msat' ml' tail : List Int} {fuel : Nat} {f2 f3 f4 : File}
    (hwf : WF f2) (hfs : f2.ss = ss) (mk : MarksOK sat (msat ++ ml))
    (hat : allocTables ss fuel sat msat ml = .ok (sat4, msat', ml'))
    (h3 : writeSATB (ss / 4) sat4 msat' 0 f2 = .ok f3)
    (h4 : writeMSATB (ss / 4) tail ml' 0 f3 = .ok f4) (pre' : Bytes) :
    TailOK ss sat msat ml sat4 msat' ml' tail f2 f4 pre' (finalFile f4 pre' (lastUsed sat4)) := by
  obtain ⟨mk4, k, hm1, hm2⟩ := allocTables_marks ss sat4 msat' ml' fuel sat msat ml hat mk
  have nd := mk4.nodup
  rw [List.nodup_append] at nd
  obtain ⟨nd1, nd2, nd3⟩ := nd
  obtain ⟨s3, _, a6⟩ := writeSATB_spec (ss / 4) sat4 msat' 0 f2 f3 nd1 h3
  obtain ⟨s4, b4, b6⟩ := writeMSATB_spec (ss / 4) tail ml' 0 f3 f4 nd2 h4
  have same : SameOff ((msat' ++ ml').map Int.toNat) f2 f4 :=
    (s3.mono (by simp +contextual)).trans (s4.mono (by simp +contextual))
  have nonneg : ∀ s ∈ msat' ++ ml', 0 ≤ s := fun s hs => (mk4.marked s hs).1
  have wf4 : WF f4 := same.wf hwf
  have ss4 : f4.ss = ss := same.ss.trans hfs
  refine ⟨mk4, ?_, ?_, ?_, same.pre, ?_, ?_, ?_, ?_, hm1, hm2⟩
  · intro h l hl
    have hl4 := k.chain hl (by simp)
    refine ⟨hl4, ?_⟩
    intro x hx
    obtain ⟨v, hv, hv'⟩ := (chain_iff.mp hl4).entry x hx
    rw [getSec_finalFile hv (by omega)]
    apply same.sec x (not_mem_map_toNat nonneg ?_)
    intro hmem
    obtain ⟨_, w, hw, hw'⟩ := mk4.marked _ hmem
    exact (chain_iff.mp hl4).not_mem (Or.inr ⟨w, by simpa using hw, by omega, by omega⟩) hx
  · intro j hj
    have hmem : msat'[j] ∈ msat' ++ ml' := List.mem_append_left _ (List.getElem_mem hj)
    obtain ⟨p, v, hv, hv'⟩ := mk4.marked _ hmem
    rw [getSec_finalFile hv (by omega)]
    have hnot : msat'[j].toNat ∉ ml'.map Int.toNat := by
      refine not_mem_map_toNat b4 ?_
      rw [Int.toNat_of_nonneg p]
      exact fun h => nd3 _ (List.getElem_mem hj) _ h rfl
    rw [s4.sec _ hnot, a6 j hj, hfs]; simp
  · intro j hj
    have hmem : ml'[j] ∈ msat' ++ ml' := List.mem_append_right _ (List.getElem_mem hj)
    obtain ⟨_, v, hv, hv'⟩ := mk4.marked _ hmem
    rw [getSec_finalFile hv (by omega), b6 j hj, s3.ss, hfs]; simp
  · unfold finalFile; split <;> rfl
  · unfold finalFile; split <;> simp [truncSecs, ss4]
  · intro hlu
    unfold finalFile
    simp only [hlu, if_false, truncSecs, List.length_take, List.length_append, List.length_replicate]
    omega
  · intro hp
    have w5 : WF { f4 with pre := pre' } := ⟨wf4.pos, by simp [hp, ss4], wf4.secs⟩
    unfold finalFile
    split
    · exact w5
    · exact truncSecs_WF w5 _

theorem writeShortSATB_spec {b b1 : BSt}
    (fam : FamOK b.st.a.sat (satHeads b.st.a.rootStart b.st.dirStart b.st.ssatStart b.st.cutoff b.st.files))
    (h : writeShortSATB b = .ok b1) :
    ∃ sat1 hd lS f1,
      b1 = { b with
             st := { b.st with a := { b.st.a with sat := sat1 }, ssatStart := hd, ssatCount := lS.length % 4294967296 },
             file := f1 } ∧
      FamOK sat1 (satHeads b.st.a.rootStart b.st.dirStart hd b.st.cutoff b.st.files) ∧ SameOff lS b.file f1 ∧
      (∀ t h l, t ≠ Tag.ssat → satHeads b.st.a.rootStart b.st.dirStart b.st.ssatStart b.st.cutoff b.st.files t = some h →
        chain b.st.a.sat h = some l → chain sat1 h = some l ∧ ∀ x ∈ l, getSec f1 x = getSec b.file x) ∧
      (∀ (j : Nat) (v : Int), b.st.a.sat[j]? = some v → v ≤ -3 → sat1[j]? = some v) ∧
      chain sat1 hd = some lS ∧ lS.length = b.st.a.ssat.length / (b.st.a.ss / 4) ∧
      ∀ j (hj : j < lS.length), getSec f1 lS[j] =
        pad b.file.ss (encInts ((b.st.a.ssat.drop (j * (b.st.a.ss / 4))).take (b.st.a.ss / 4))) := by
  revert h
  fun_cases writeShortSATB b
  case case2 st spb _ sat0 hf fl sat1 hm frst prev sat2 k f' hl sat3 ht =>
    rintro ⟨⟩
    obtain ⟨ht', hlen, r⟩ := realloc_phase fam .ssat b.st.ssatStart (by simp [satHeads]) hf hm hl
    cases ht'.symm.trans ht
    exact ⟨_, _, fl, _, rfl, r.fam.congr (fun t => by cases t <;> simp [satHeads]), r.same, r.live, r.marks, r.new,
      hlen, r.wrote⟩
  all_goals nofun

theorem writeDirStreamB_spec {b b2 : BSt}
    (fam : FamOK b.st.a.sat (satHeads b.st.a.rootStart b.st.dirStart b.st.ssatStart b.st.cutoff b.st.files))
    (h : writeDirStreamB b = .ok b2) :
    ∃ sat2 hd lD f2,
      b2 = { st := { b.st with
                     a := { b.st.a with sat := sat2 }, dirStart := hd,
                     dirCount := if b.st.version ≥ 4 then lD.length % 4294967296 else b.st.dirCount },
             ents := rebuildTree b.ents b.st.root b.st.rootFiles, file := f2 } ∧
      FamOK sat2 (satHeads b.st.a.rootStart hd b.st.ssatStart b.st.cutoff b.st.files) ∧ SameOff lD b.file f2 ∧
      (∀ t h l, t ≠ Tag.dir → satHeads b.st.a.rootStart b.st.dirStart b.st.ssatStart b.st.cutoff b.st.files t = some h →
        chain b.st.a.sat h = some l → chain sat2 h = some l ∧ ∀ x ∈ l, getSec f2 x = getSec b.file x) ∧
      (∀ (j : Nat) (v : Int), b.st.a.sat[j]? = some v → v ≤ -3 → sat2[j]? = some v) ∧
      b.st.a.ss / 128 ≠ 0 ∧ b.st.files.length % (b.st.a.ss / 128) = 0 ∧
      chain sat2 hd = some lD ∧ lD ≠ [] ∧ lD.length = b.st.files.length / (b.st.a.ss / 128) ∧
      ∀ j (hj : j < lD.length), getSec f2 lD[j] =
        pad b.file.ss ((List.range (b.st.a.ss / 128)).flatMap fun k =>
          encEntry (entryOut { b with ents := rebuildTree b.ents b.st.root b.st.rootFiles } (j * (b.st.a.ss / 128) + k))) := by
  revert h
  fun_cases writeDirStreamB b
  case case4 st per ents b1 sat0 hf hper hmod fl sat1 hm frst prev sat2 k f' hl hprev sat3 ht =>
    rintro ⟨⟩
    obtain ⟨ht', hlen, r⟩ := realloc_phase fam .dir b.st.dirStart (by simp [satHeads]) hf hm hl
    -- `previous` is a sector, so the unconditional write is the one `terminate` makes
    rw [terminate, if_neg (by omega)] at ht'
    cases (setChk_site _ ht').symm.trans ht
    -- `previous` is a sector, so the free list was not empty
    have hne : fl ≠ [] := by
      intro e
      rw [e, linkLoop] at hl
      cases hl
      omega
    exact ⟨_, _, fl, _, rfl, r.fam.congr (fun t => by cases t <;> simp [satHeads]), r.same, r.live, r.marks, hper,
      by simpa using hmod, r.new, hne, hlen, r.wrote⟩
  all_goals nofun

/-- block `j` of the directory as `writeDirStream` serialises it -/
def dirChunk (b : BSt) (j : Nat) : Bytes :=
  (List.range (b.st.a.ss / 128)).flatMap fun k => encEntry (entryOut b (j * (b.st.a.ss / 128) + k))

/-- what `Close` establishes.  Of the invariant it holds the FAT half for `b'` (`fam`, `marks`, `wf`, `fss`), not `Inv b'`. -/
structure Closed (b b' : BSt) : Prop where
  files : b'.st.files = b.st.files
  cutoff : b'.st.cutoff = b.st.cutoff
  ssat : b'.st.a.ssat = b.st.a.ssat
  ss : b'.st.a.ss = b.st.a.ss
  sss : b'.st.a.sss = b.st.a.sss
  rootStart : b'.st.a.rootStart = b.st.a.rootStart
  rootSize : b'.st.a.rootSize = b.st.a.rootSize
  root : b'.st.root = b.st.root
  version : b'.st.version = b.st.version
  ents : b'.ents = rebuildTree b.ents b.st.root b.st.rootFiles
  live : ∀ t h l, t ≠ Tag.ssat → t ≠ Tag.dir →
    satHeads b.st.a.rootStart b.st.dirStart b.st.ssatStart b.st.cutoff b.st.files t = some h →
    chain b.st.a.sat h = some l → chain b'.st.a.sat h = some l ∧ readChain b'.file l = readChain b.file l
  fam : FamOK b'.st.a.sat (satHeads b'.st.a.rootStart b'.st.dirStart b'.st.ssatStart b'.st.cutoff b'.st.files)
  marks : MarksOK b'.st.a.sat (b'.st.msat ++ b'.st.msatList)
  wf : WF b'.file
  fss : b'.file.ss = b'.st.a.ss
  miniFat : ∃ lS, chain b'.st.a.sat b'.st.ssatStart = some lS ∧ lS.length = b.st.a.ssat.length / (b.st.a.ss / 4) ∧
    b'.st.ssatCount = lS.length % 4294967296 ∧
    ∀ (j x : Nat), lS[j]? = some x → getSec b'.file x =
      pad b.st.a.ss (encInts ((b.st.a.ssat.drop (j * (b.st.a.ss / 4))).take (b.st.a.ss / 4)))
  dir : ∃ lD, chain b'.st.a.sat b'.st.dirStart = some lD ∧ lD.length = b.st.files.length / (b.st.a.ss / 128) ∧
    b.st.a.ss / 128 ≠ 0 ∧ b.st.files.length % (b.st.a.ss / 128) = 0 ∧ lD ≠ [] ∧
    b'.st.dirCount = (if b.st.version ≥ 4 then lD.length % 4294967296 else b.st.dirCount) ∧
    ∀ (j x : Nat), lD[j]? = some x → getSec b'.file x = pad b.st.a.ss (dirChunk b' j)
  fat : b'.st.msat.length * (b.st.a.ss / 4) ≤ b'.st.a.sat.length ∧
    ∀ (j : Nat) (s : Int), b'.st.msat[j]? = some s → getSec b'.file s.toNat =
      pad b.st.a.ss (encInts ((b'.st.a.sat.drop (j * (b.st.a.ss / 4))).take (b.st.a.ss / 4)))
  difat : ∀ (j : Nat) (s : Int), b'.st.msatList[j]? = some s → getSec b'.file s.toNat =
    pad b.st.a.ss (encInts ((((msatPadded (b.st.a.ss / 4) b'.st.msat b'.st.msatList).drop 109).drop (j * (b.st.a.ss / 4 - 1))).take
      (b.st.a.ss / 4 - 1) ++ [(b'.st.msatList.drop (j + 1)).headD EOC]))
  hdr : b'.file.pre = headerBytes b.file.pre b'.st ((msatPadded (b.st.a.ss / 4) b'.st.msat b'.st.msatList).take 109) ++
    b.file.pre.drop 512
  counts : b'.st.satSectors = b'.st.msat.length % 4294967296 ∧ b'.st.msatCount = b'.st.msatList.length % 4294967296 ∧
    b'.st.msatNext = b'.st.msatList.headD EOC
  len : lastUsed b'.st.a.sat ≠ 0 → b'.file.secs.length = lastUsed b'.st.a.sat
  grow : (∃ m, b'.st.msat = b.st.msat ++ m) ∧ (∃ m, b'.st.msatList = b.st.msatList ++ m)

theorem msatPadded_length (spb : Nat) (msat ml : List Int) :
    (msatPadded spb msat ml).length = 109 + ml.length * (spb - 1) := by
  simp only [msatPadded, List.length_append, List.length_take, List.length_replicate]
  omega

theorem encInts_length (l : List Int) : (encInts l).length = 4 * l.length := by
  induction l with
  | nil => rfl
  | cons x l ih =>
    simp only [encInts, List.flatMap_cons, List.length_append, le32, leBytes_length, List.length_cons] at ih ⊢
    omega

/-- 60 = 52 + 8 is the end of the last field `headerBytes` copies from `pre` -/
theorem headerBytes_length (pre : Bytes) (st : St) (m : List Int) (hp : 60 ≤ pre.length) (hm : m.length = 109) :
    (headerBytes pre st m).length = 512 := by
  simp only [headerBytes, List.length_append, List.length_take, List.length_drop, le32, leBytes_length, encInts_length, hm, magic,
    List.length_cons, List.length_nil]
  omega

theorem closeB_spec {b b' : BSt} (inv : Inv b) (hch : b.st.changed = true) (h : closeB b = .ok b') : Closed b b' := by
  revert h
  fun_cases closeB b
  case case1 hn =>
    simp [hch] at hn
  case case3 _ b1 h1 b2 h2 sat4 msat' ml' hat hfit f3 h3 f4 h4 =>
    rintro ⟨⟩
    -- the mini-FAT, then the directory: `b1`, `b2` are `b` with a new FAT, chain head, count and file
    obtain ⟨sat1, sS, lS, f1, rfl, famA, sameA, liveA, mkA, cS, lenS, secS⟩ := writeShortSATB_spec inv.t.big h1
    obtain ⟨sat2, sD, lD, f2, rfl, famB, sameB, liveB, mkB, hper, hmod, cD, neD, lenD, secD⟩ :=
      writeDirStreamB_spec famA h2
    have hfss2 : f2.ss = b.st.a.ss := by rw [sameB.ss, sameA.ss]; exact inv.fss
    have mkC : MarksOK sat2 (b.st.msat ++ b.st.msatList) := inv.marks.keep fun j v hv hv' => mkB j v (mkA j v hv hv') hv'
    obtain tl := close_tail (sameB.wf (sameA.wf inv.wf)) hfss2 mkC hat h3 h4
      (headerBytes f4.pre (closeState _ sat4 msat' ml') ((msatPadded (b.st.a.ss / 4) msat' ml').take 109) ++
        f4.pre.drop 512)
    have hpre4 : f4.pre = b.file.pre := by rw [tl.pre4, sameB.pre, sameA.pre]
    have hssChain : chain sat2 sS = some lS ∧ ∀ x ∈ lS, getSec f2 x = getSec f1 x :=
      liveB .ssat _ lS (by intro e; cases e) (by simp [satHeads]) cS
    refine {
      files := rfl, cutoff := rfl, ssat := rfl, ss := rfl, sss := rfl, rootStart := rfl, rootSize := rfl,
      root := rfl, version := rfl, ents := rfl,
      live := ?_, fam := famB.frame (fun _ hh l _ hl => (tl.live hh l hl).1) (fun _ _ hh => hh), marks := tl.marks,
      wf := ?_, fss := tl.fss, miniFat := ?_, dir := ?_, fat := ?_, difat := ?_, hdr := ?_,
      counts := ⟨rfl, rfl, rfl⟩, len := tl.len, grow := tl.grow }
    · intro t hh l hs hd ht hl
      obtain ⟨p1, p2⟩ := liveA t hh l hs ht hl
      have ht' : satHeads b.st.a.rootStart b.st.dirStart sS b.st.cutoff b.st.files t = some hh := by
        cases t <;> first | exact ht | exact absurd rfl hs
      obtain ⟨q1, q2⟩ := liveB t hh l hd ht' p1
      obtain ⟨r1, r2⟩ := tl.live hh l q1
      exact ⟨r1, readChain_congr (fun x hx => by rw [r2 x hx, q2 x hx, p2 x hx])⟩
    · apply tl.wf
      have hpl : b.file.pre.length = b.st.a.ss := by rw [inv.wf.pre]; exact inv.fss
      have hpadl : ((msatPadded (b.st.a.ss / 4) msat' ml').take 109).length = 109 := by
        rw [List.length_take, msatPadded_length]
        exact Nat.min_eq_left (Nat.le_add_right _ _)
      rw [List.length_append, headerBytes_length _ _ _ (by rw [hpre4, hpl]; exact Nat.le_trans (by decide) inv.ssBig) hpadl,
        List.length_drop, hpre4, hpl]
      exact Nat.add_sub_cancel' inv.ssBig
    · refine ⟨lS, (tl.live _ _ hssChain.1).1, lenS, rfl, ?_⟩
      intro j x hx
      obtain ⟨hj, rfl⟩ := List.getElem?_eq_some_iff.mp hx
      have hmem : lS[j] ∈ lS := List.getElem_mem hj
      rw [(tl.live _ _ hssChain.1).2 _ hmem, hssChain.2 _ hmem, secS j hj, inv.fss]
    · refine ⟨lD, (tl.live _ _ cD).1, lenD, hper, hmod, neD, rfl, ?_⟩
      intro j x hx
      obtain ⟨hj, rfl⟩ := List.getElem?_eq_some_iff.mp hx
      rw [(tl.live _ _ cD).2 _ (List.getElem_mem hj), secD j hj, sameA.ss, inv.fss]
      rfl
    · refine ⟨Nat.le_of_not_lt hfit, fun j s hs => ?_⟩
      obtain ⟨hj, rfl⟩ := List.getElem?_eq_some_iff.mp hs
      exact tl.fat j hj
    · intro j s hs
      obtain ⟨hj, rfl⟩ := List.getElem?_eq_some_iff.mp hs
      exact tl.difat j hj
    · rw [tl.pre, hpre4]
      rfl
  all_goals nofun

theorem Closed.dataKept {b b' : BSt} (cl : Closed b b') :
    DataKept b.st.a b.file b'.st.a b'.file b.st.cutoff b.st.files b'.st.files where
  big i sl h l hi _ hh hl := cl.live (.slot i) h l nofun nofun (by simp [satHeads, hi, hh]) hl
  mini i sl h l C _ _ _ hl hC _ := by
    refine ⟨cl.ssat ▸ hl, C, ?_⟩
    rw [cl.rootStart]
    rcases hC with ⟨hn, rfl⟩ | ⟨hp, hC⟩
    · exact ⟨.inl ⟨hn, rfl⟩, fun _ _ => rfl⟩
    · obtain ⟨p1, p2⟩ := cl.live .cont b.st.a.rootStart C nofun nofun (by simp [satHeads, hp]) (chain_iff.mpr hC)
      exact ⟨.inr ⟨hp, chain_iff.mp p1⟩, fun _ _ => by rw [p2]⟩

theorem closeB_streams {b b' : BSt} (inv : Inv b) (hch : b.st.changed = true) (h : closeB b = .ok b') :
    b'.st.files = b.st.files ∧
    (∀ i, metaEq (b.ents.getD i zeroEntry) (b'.ents.getD i zeroEntry)) ∧
    ∀ (i : Nat) (sl : Slot), b.st.files[i]? = some sl → sl.typ = 2 → slotData b' i = slotData b i := by
  have cl := closeB_spec inv hch h
  exact ⟨cl.files, fun i => by rw [cl.ents]; exact rebuildTree_meta b.ents b.st.root b.st.rootFiles i,
    fun i sl hi htyp => cl.dataKept.reads inv cl.cutoff cl.sss hi (cl.files ▸ hi) htyp⟩

end Relic.CfbB
