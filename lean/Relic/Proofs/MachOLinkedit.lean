/- the arithmetic of re-signing histories: what `PatchSignature` does to the signature slot and to __LINKEDIT.Filesz,
   round after round -/
import Relic.Model.MachO
namespace Relic.MachO

/-- the quantities `scanFile` reads and `PatchSignature` rewrites -/
structure LState where
  leOffset : Nat      -- __LINKEDIT.Offset (never rewritten)
  leFilesz : Nat      -- __LINKEDIT.Filesz
  sigStart : Nat      -- LC_CODE_SIGNATURE.dataoff (0 = no such command)
  sigLen : Nat        -- LC_CODE_SIGNATURE.datasize
  fileLen : Nat
  deriving Repr, DecidableEq

/-- `codeSize` as `scanFile` sets it -/
def LState.codeSize (s : LState) : Nat := if s.sigLen ≠ 0 then s.sigStart else s.leOffset + s.leFilesz

/-- one signing round with size estimate `est`: in place when the slot is big enough, else a new slot of
    `align(est, 8)` bytes at the old position (or at the aligned end of __LINKEDIT), `__LINKEDIT.Filesz` recomputed
    ABSOLUTELY from the end of the slot, the old slot replaced -/
def LState.resign (est : Nat) (s : LState) : LState :=
  if s.sigLen ≥ est then s else
  let sigSize := align est 8
  let start := if s.sigStart = 0 then align s.codeSize 8 else s.sigStart
  { s with leFilesz := start + sigSize - s.leOffset, sigStart := start, sigLen := sigSize,
           fileLen := s.fileLen - s.sigLen + (start - s.codeSize) + sigSize }

/-- the well-formedness the next `scanFile` (and dyld) insists on: the signature slot, __LINKEDIT and the file end
    together; the slot is 8-aligned inside __LINKEDIT -/
structure LState.Coterminous (s : LState) : Prop where
  signed : s.sigLen ≠ 0
  start : s.sigStart ≠ 0
  inside : s.leOffset ≤ s.sigStart
  sigEnd : s.sigStart + s.sigLen = s.leOffset + s.leFilesz
  eof : s.leOffset + s.leFilesz = s.fileLen

/-- an unsigned image whose __LINKEDIT ends at the end of the file -/
structure LState.Unsigned (s : LState) : Prop where
  nosig : s.sigLen = 0 ∧ s.sigStart = 0
  pos : 0 < s.leOffset                          -- __LINKEDIT lies behind the Mach-O header
  eof : s.leOffset + s.leFilesz = s.fileLen

theorem align_ge (a : Nat) : a ≤ align a 8 := by
  unfold align; split <;> omega

theorem align_mod (a : Nat) : align a 8 % 8 = 0 := by
  unfold align; split <;> omega

theorem resign_unsigned (est : Nat) (hest : 0 < est) (s : LState) (h : s.Unsigned) : (s.resign est).Coterminous := by
  obtain ⟨lo, lf, ss, sl, fl⟩ := s
  obtain ⟨⟨h1, h2⟩, h0, h3⟩ := h
  simp only at h1 h2 h3 h0
  subst h1 h2
  have hge := align_ge (lo + lf)
  have hpos : 0 < align est 8 := Nat.lt_of_lt_of_le hest (align_ge est)
  have hlt : ¬ 0 ≥ est := by omega
  constructor <;> simp only [LState.resign, LState.codeSize, hlt, ↓reduceIte, ne_eq, not_true_eq_false] <;> omega

theorem resign_coterminous (est : Nat) (s : LState) (h : s.Coterminous) : (s.resign est).Coterminous := by
  obtain ⟨lo, lf, ss, sl, fl⟩ := s
  obtain ⟨h1, h2, h3, h4, h5⟩ := h
  simp only at h1 h2 h3 h4 h5
  by_cases hlt : sl ≥ est
  · constructor <;> simp only [LState.resign, hlt, ↓reduceIte] <;> assumption
  · have hge := align_ge est
    constructor <;> simp only [LState.resign, LState.codeSize, hlt, ↓reduceIte, h2, h1, ne_eq, not_false_eq_true] <;> omega

theorem resign_slot (est : Nat) (s : LState) (h : s.Coterminous) :
    (s.resign est).sigStart = s.sigStart ∧ s.sigLen ≤ (s.resign est).sigLen ∧ est ≤ (s.resign est).sigLen ∧
    (s.resign est).codeSize = s.codeSize := by
  obtain ⟨lo, lf, ss, sl, fl⟩ := s
  obtain ⟨h1, h2, h3, h4, h5⟩ := h
  simp only at h1 h2 h3 h4 h5
  by_cases hlt : sl ≥ est
  · refine ⟨?_, ?_, ?_, ?_⟩ <;> simp only [LState.resign, hlt, ↓reduceIte] <;> first | rfl | omega
  · have hge := align_ge est
    have hne : ¬ align est 8 = 0 := by omega
    refine ⟨?_, ?_, ?_, ?_⟩ <;>
      simp only [LState.resign, LState.codeSize, hlt, ↓reduceIte, h2, hne, h1, ne_eq, not_false_eq_true] <;>
      first | rfl | omega

def LState.history (s : LState) : List Nat → LState
  | [] => s
  | est :: rest => (s.resign est).history rest

theorem history_coterminous (ests : List Nat) : ∀ (s : LState), s.Coterminous → (s.history ests).Coterminous := by
  induction ests with
  | nil => intro s h; exact h
  | cons e _ ih => intro s h; exact ih _ (resign_coterminous e s h)

/-- the check of `scanFile` on the file a round wrote: "old signature is not coterminous with __LINKEDIT segment" -/
def LState.scanRefuses (s : LState) : Bool :=
  s.sigLen ≠ 0 ∧ (s.sigStart + s.sigLen > s.leOffset + s.leFilesz ∨ s.sigStart + s.sigLen + 16 < s.leOffset + s.leFilesz)

theorem coterminous_not_refused (s : LState) (h : s.Coterminous) : s.scanRefuses = false := by
  obtain ⟨_, _, _, h4, _⟩ := h
  simp [LState.scanRefuses]
  omega

def LState.ofMarkers (m : Markers) (fileLen : Nat) : LState := ⟨m.leOffset, m.leFilesz, m.sigStart, m.sigLen, fileLen⟩

end Relic.MachO
