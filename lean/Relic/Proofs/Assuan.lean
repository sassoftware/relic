/-
  Proofs about Relic.Model.Assuan: the escaping round trip, the response reader, what no client write can change about the
  connection, the S-expression parser, the walks of Learn / CheckPin / Public over what the daemon sent, and the honest
  daemon on the two lines of a Sign.

  Four ways a client function can be well behaved, from weak to strong, and their suffixes:
    `_no_panic`  `(f …).2.isPanic = false`   for functions that read from the connection (they may block on a silent daemon);
    `_clean`     `Out.Clean o`               a value or a Go error: neither a panic nor a block (walks over data already read);
    `_returns`   `Out.Returns o P`           always a value, and it satisfies `P`;
    `_total`     `Res.Errs (· = "csexp")`    for the `Res`-valued S-expression parser: a tree or InvalidCsExp.
  `Returns → Clean → isPanic = false`.
-/
import Relic.Model.Assuan
import Relic.Proofs.Codec
import Relic.Proofs.Splice
import Relic.Proofs.Delim
import Relic.Proofs.Merkle
import Relic.Proofs.Res
namespace Relic.Assuan

theorem hex_facts (c : UInt8) : unhex (hexU (c >>> 4)) = some (c >>> 4) ∧ unhex (hexU (c &&& 15)) = some (c &&& 15) ∧
    ((c >>> 4) <<< 4 ||| (c &&& 15)) = c ∧ hexU (c >>> 4) ≠ 10 ∧ hexU (c &&& 15) ≠ 10 := by
  revert c
  apply forall_u8
  decide +kernel

theorem hexU_no_nl (c : UInt8) : hexU (c >>> 4) ≠ 10 ∧ hexU (c &&& 15) ≠ 10 := (hex_facts c).2.2.2

/-- so a chunk of escaped data is always ONE line -/
theorem escByte_no_nl (c : UInt8) : ∀ x ∈ escByte c, x ≠ 10 := by
  unfold escByte
  split
  · intro x hx
    obtain ⟨h1, h2⟩ := hexU_no_nl c
    rcases List.mem_cons.mp hx with rfl | hx
    · decide
    rcases List.mem_cons.mp hx with rfl | hx
    · exact h1
    · exact List.mem_singleton.mp hx ▸ h2
  · rename_i hs
    intro x hx
    rw [List.mem_singleton.mp hx]
    rintro rfl
    exact hs (by decide)

theorem unescape_escByte (c : UInt8) (rest : Bytes) :
    pathUnescape (escByte c ++ rest) = (pathUnescape rest).map (c :: ·) := by
  unfold escByte
  by_cases h : shouldEscape c = true
  · obtain ⟨h1, h2, h3, -, -⟩ := hex_facts c
    simp only [h, if_true, List.cons_append, List.nil_append]
    rw [pathUnescape.eq_def]
    simp only [if_true, h1, h2, h3]
  · have hf : shouldEscape c = false := by simpa using h
    -- `%` itself is escaped
    have hne : c ≠ 37 := by rintro rfl; exact absurd hf (by decide)
    simp only [hf, Bool.false_eq_true, if_false, List.cons_append, List.nil_append]
    rw [pathUnescape.eq_def]
    simp [hne]

theorem escape_roundtrip (b : Bytes) : pathUnescape (pathEscape b) = some b := by
  induction b with
  | nil => simp [pathEscape, pathUnescape]
  | cons c rest ih =>
    have : pathEscape (c :: rest) = escByte c ++ pathEscape rest := by simp [pathEscape]
    rw [this, unescape_escByte, show pathUnescape (pathEscape rest) = some rest from ih]
    rfl

theorem pathEscape_no_nl (b : Bytes) : ∀ x ∈ pathEscape b, x ≠ 10 := by
  intro x hx
  simp only [pathEscape, List.mem_flatMap] at hx
  obtain ⟨c, _, hc⟩ := hx
  exact escByte_no_nl c x hc

theorem chunks512_join (fuel : Nat) (b : Bytes) (h : b.length ≤ fuel) : (chunks512 fuel b).flatten = b := by
  rw [Merkle.chunks_of_fuel 512 (by decide) chunks512 (fun _ => rfl) (fun k b => by cases b <;> simp [chunks512]) fuel b h]
  exact Merkle.chunks_flatten 512 b (by decide)

theorem chunks512_le : ∀ (fuel : Nat) (b : Bytes), ∀ ch ∈ chunks512 fuel b, ch.length ≤ 512 ∧ ch ≠ []
  | 0, _, ch, h => by simp [chunks512] at h
  | f + 1, b, ch, h => by
    unfold chunks512 at h
    by_cases he : b.isEmpty
    · simp [he] at h
    · simp only [he, Bool.false_eq_true, if_false, List.mem_cons] at h
      rcases h with h | h
      · subst h
        refine ⟨by simp [List.length_take]; omega, ?_⟩
        cases b with
        | nil => simp at he
        | cons x xs => simp
      · exact chunks512_le f _ ch h

/-- `ReadString('\n')` cuts the buffer behind a non-empty line -/
theorem readString_split : ∀ (b l r : Bytes), readString b = some (l, r) → b = l ++ r ∧ 0 < l.length ∧ r.length < b.length
  | [], l, r, h => by simp [readString] at h
  | x :: rest, l, r, h => by
    unfold readString at h
    by_cases hx : x = 10
    · simp [hx] at h
      rw [← h.1, ← h.2]
      simp [hx]
    · simp only [hx, if_false] at h
      cases hr : readString rest with
      | none => simp [hr] at h
      | some p =>
        obtain ⟨l', r'⟩ := p
        simp [hr] at h
        obtain ⟨h1, -, h3⟩ := readString_split rest l' r' hr
        rw [← h.1, ← h.2, h1]
        simp
        simp [h1] at h3
        omega

theorem splitN2_ne_nil (l : Bytes) : splitN2 l ≠ [] := by
  unfold splitN2
  split <;> simp

/-- on a line that `ReadString` returned, `line[:len-1]` and `parts[0]` are in range -/
theorem parseLine_returns (line : Bytes) (h : 0 < line.length) :
    ∃ st m, parseLine line = .ok (st, m) ∧
      ((splitN2 (line.take (line.length - 1)) = [st] ∧ m = []) ∨ ∃ tl, splitN2 (line.take (line.length - 1)) = st :: m :: tl) := by
  unfold parseLine
  rw [if_neg (by omega)]
  have hne := splitN2_ne_nil (line.take (line.length - 1))
  dsimp only
  generalize splitN2 (line.take (line.length - 1)) = parts at hne ⊢
  obtain _ | ⟨p0, _ | ⟨p1, tl⟩⟩ := parts
  · exact absurd rfl hne
  · exact ⟨p0, [], rfl, .inl ⟨rfl, rfl⟩⟩
  · exact ⟨p0, p1, by simp [idx, Out.bind], .inr ⟨tl, rfl⟩⟩

theorem readLine_no_panic {σ} (c : Conn σ) : (readLine c).2.isPanic = false := by
  unfold readLine
  cases h : readString c.inbuf with
  | none => by_cases hc : c.closed <;> simp [hc, Out.isPanic]
  | some p =>
    obtain ⟨st, m, hp, -⟩ := parseLine_returns p.1 (readString_split _ _ _ h).2.1
    simp only [hp]
    rfl

section
variable {σ} (dm : Daemon σ) {P : Conn σ → Prop} (hd : ∀ c l, P c → P (deliverLine dm c l))
include hd

/-- whatever a delivered line cannot change about the connection, no write of the client can change -/
theorem write_inv (c : Conn σ) (s : Bytes) (h : P c) : P (write dm c s).1 := by
  unfold write
  split
  · exact h
  · exact List.foldlRecOn _ _ h fun c hc l _ => hd c l hc

theorem writeChunks_inv : ∀ (chs : List Bytes) (c : Conn σ), P c → P (writeChunks dm c chs).1
  | [], _, h => h
  | ch :: rest, c, h => by
    have h1 := write_inv dm hd c (sD ++ ch ++ [10]) h
    unfold writeChunks
    generalize write dm c (sD ++ ch ++ [10]) = w at h1 ⊢
    obtain ⟨c', _ | _⟩ := w
    · exact h1
    · exact writeChunks_inv rest c' h1

theorem sendData_inv (c : Conn σ) (d : Bytes) (h : P c) : P (sendData dm c d).1 := by
  have h1 := writeChunks_inv dm hd (chunks512 (pathEscape d).length (pathEscape d)) c h
  unfold sendData
  dsimp only
  generalize writeChunks dm c (chunks512 (pathEscape d).length (pathEscape d)) = w at h1 ⊢
  obtain ⟨c', _ | _⟩ := w
  · exact h1
  · exact write_inv dm hd c' _ h1
end

theorem deliverLine_closed {σ} (dm : Daemon σ) (b : Bytes) (c : Conn σ) (l : Bytes) (h : c.closed = true ∧ c.inbuf = b) :
    (deliverLine dm c l).closed = true ∧ (deliverLine dm c l).inbuf = b := by
  unfold deliverLine
  by_cases he : l.isEmpty <;> simp [he, h.1, h.2]

/-- `Conn.read` never panics, and once the daemon has ended its output it returns: it can only block on a daemon that stays
    silent with the connection open. -/
theorem readLoop_safe {σ} (dm : Daemon σ) (q : Inquire) :
    ∀ (fuel : Nat) (c : Conn σ) (quoted : Bytes) (lines : List Bytes) (saved : Bool),
      (readLoop dm q fuel c quoted lines saved).2.isPanic = false ∧
      (c.closed = true → c.inbuf.length < fuel → (readLoop dm q fuel c quoted lines saved).2.isBlock = false)
  | 0, _, _, _, _ => ⟨rfl, fun _ h => absurd h (Nat.not_lt_zero _)⟩
  | fuel + 1, c, quoted, lines, saved => by
    unfold readLoop readLine
    cases hrs : readString c.inbuf with
    | none => cases c.closed <;> exact ⟨rfl, by simp [Out.isBlock]⟩
    | some p =>
      obtain ⟨l, r⟩ := p
      obtain ⟨status, m, hp, -⟩ := parseLine_returns l (readString_split _ _ _ hrs).2.1
      simp only [hp]
      -- the loop goes on with a connection that holds the same unread input and is still closed if it was
      have hrec : ∀ (c' : Conn σ) q' l' s', (c.closed = true → c'.closed = true ∧ c'.inbuf = r) →
          (readLoop dm q fuel c' q' l' s').2.isPanic = false ∧
          (c.closed = true → c.inbuf.length < fuel + 1 → (readLoop dm q fuel c' q' l' s').2.isBlock = false) := by
        intro c' q' l' s' h
        refine ⟨(readLoop_safe dm q fuel c' q' l' s').1, fun hc hf => ?_⟩
        obtain ⟨h1, h2⟩ := h hc
        have := (readString_split _ _ _ hrs).2.2
        exact (readLoop_safe dm q fuel c' q' l' s').2 h1 (by rw [h2]; omega)
      have hend : ∀ (c' : Conn σ) (o : Out Response), o.isPanic = false → o.isBlock = false →
          (c', o).2.isPanic = false ∧ (c.closed = true → c.inbuf.length < fuel + 1 → (c', o).2.isBlock = false) :=
        fun _ _ h1 h2 => ⟨h1, fun _ _ => h2⟩
      by_cases h1 : status = sDstatus
      · rw [if_pos h1]
        exact hrec _ _ _ _ fun hc => ⟨hc, rfl⟩
      rw [if_neg h1]
      by_cases h2 : status = sS
      · rw [if_pos h2]
        cases pathUnescape m with
        | none => exact hend _ _ rfl rfl
        | some u => exact hrec _ _ _ _ fun hc => ⟨hc, rfl⟩
      rw [if_neg h2]
      by_cases h3 : status = sINQUIRE
      · rw [if_pos h3]
        rcases q.answer m with ⟨_ | d, sv⟩
        · exact hrec _ _ _ _ fun hc => write_inv dm (deliverLine_closed dm r) { c with inbuf := r } _ ⟨hc, rfl⟩
        · dsimp only
          have hsd := fun hc => sendData_inv dm (deliverLine_closed dm r) { c with inbuf := r } d ⟨hc, rfl⟩
          revert hsd
          rcases sendData dm { c with inbuf := r } d with ⟨c', _ | _⟩
          · exact fun _ => hend c' (.fail .io) rfl rfl
          · exact hrec c' _ _ _
      rw [if_neg h3]
      by_cases h4 : status = sHash
      · rw [if_pos h4]
        exact hrec _ _ _ _ fun hc => ⟨hc, rfl⟩
      rw [if_neg h4]
      cases saved <;> cases pathUnescape quoted <;> split <;> exact hend _ _ rfl rfl

theorem transact_no_panic {σ} (dm : Daemon σ) (c : Conn σ) (cmd : Bytes) (q : Inquire) :
    (transact dm c cmd q).2.isPanic = false := by
  fun_cases transact dm c cmd q
  case case5 c1 _ c2 o _ h =>
    have := (readLoop_safe dm q (c1.inbuf.length + dm.slack + 1) c1 [] [] false).1
    rwa [h] at this
  all_goals rfl

theorem indexColon_lt : ∀ (b : Bytes) (n : Nat), indexColon b = some n → n < b.length
  | [], n, h => by simp [indexColon] at h
  | x :: rest, n, h => by
    unfold indexColon at h
    by_cases hx : x = 58
    · simp [hx] at h; subst h; simp
    · simp only [hx, if_false] at h
      cases hr : indexColon rest with
      | none => simp [hr] at h
      | some m =>
        simp [hr] at h; subst h
        have := indexColon_lt rest m hr
        simp; omega

/-- a tree or InvalidCsExp: neither a panic (slice out of range) nor fuel exhaustion.  Every round consumes at least one
    byte, so fuel above the length of the blob never runs out; each of the three slices follows the test that guards it
    (`n < |blob|` from `indexColon_lt`, `length ≤ |blob| - n - 1` from the comparison just before). -/
theorem csLoop_total : ∀ (fuel : Nat) (blob : Bytes) (stack : List (List CsExp)),
    blob.length < fuel → stack ≠ [] → Res.Errs (· = "csexp") (csLoop fuel blob stack)
  | 0, blob, stack, h, _ => by omega
  | fuel + 1, blob, stack, h, hs => by
    unfold csLoop
    cases blob with
    | nil =>
      cases stack with
      | nil => exact absurd rfl hs
      | cons root tl =>
        cases tl with
        | nil => exact trivial
        | cons _ _ => exact rfl
    | cons c rest =>
      have hrest : rest.length < fuel := by simp at h; omega
      dsimp only
      by_cases h40 : c = 40
      · rw [if_pos h40]
        exact csLoop_total fuel rest _ hrest (by simp)
      · rw [if_neg h40]
        by_cases h41 : c = 41
        · rw [if_pos h41]
          cases stack with
          | nil => exact absurd rfl hs
          | cons top tl =>
            cases tl with
            | nil => exact rfl
            | cons parent more => exact csLoop_total fuel rest _ hrest (by simp)
        · rw [if_neg h41]
          cases hi : indexColon (c :: rest) with
          | none => exact rfl
          | some n =>
            have hlt := indexColon_lt _ _ hi
            dsimp only
            by_cases hn : n < 1
            · rw [if_pos hn]; exact rfl
            · rw [if_neg hn]
              rw [slice?_some _ 0 n (by omega) (by omega)]
              simp only
              cases hp : parseUint (List.take (n - 0) (List.drop 0 (c :: rest))) with
              | none => exact rfl
              | some length =>
                simp only
                by_cases hl : length > (c :: rest).length - n - 1
                · rw [if_pos hl]; exact rfl
                · rw [if_neg hl]
                  rw [slice?_some _ (n + 1) (c :: rest).length (by omega) (Nat.le_refl _)]
                  simp only
                  generalize hb1 : List.take ((c :: rest).length - (n + 1)) (List.drop (n + 1) (c :: rest)) = b1
                  have hb1len : b1.length = (c :: rest).length - n - 1 := by
                    rw [← hb1]; simp; omega
                  rw [slice?_some b1 0 length (by omega) (by omega), slice?_some b1 length b1.length (by omega) (Nat.le_refl _)]
                  simp only
                  cases stack with
                  | nil => exact absurd rfl hs
                  | cons top more =>
                    simp only
                    apply csLoop_total fuel _ _ _ (by simp)
                    simp only [List.length_take, List.length_drop]
                    simp only [List.length_cons] at hb1len hlt
                    omega

theorem parseCsExp_total (blob : Bytes) : Res.Errs (· = "csexp") (parseCsExp blob) :=
  csLoop_total (blob.length + 1) blob [[]] (by omega) (by simp)

theorem idx_lt {α} (l : List α) (i : Nat) (site : String) (h : i < l.length) : idx l i site = .ok l[i] := by
  simp [idx, h]

def Out.Clean {α} (o : Out α) : Prop := o.isPanic = false ∧ o.isBlock = false

theorem Out.Clean.bind {α β} {r : Out α} {f : α → Out β} (hr : r.Clean) (hf : ∀ a, (f a).Clean) : (r.bind f).Clean := by
  cases r with
  | ok a => exact hf a
  | fail e => exact ⟨rfl, rfl⟩
  | panic s => exact absurd hr.1 (by simp [Out.isPanic])
  | block => exact absurd hr.2 (by simp [Out.isBlock])

def Out.Returns {α} (o : Out α) (P : α → Prop) : Prop := ∃ a, o = .ok a ∧ P a

theorem Out.Returns.bind {α β} {r : Out α} {f : α → Out β} {P : α → Prop} {Q : β → Prop} (hr : r.Returns P)
    (hf : ∀ a, P a → (f a).Returns Q) : (r.bind f).Returns Q := by
  obtain ⟨a, rfl, ha⟩ := hr
  exact hf a ha

theorem Out.Clean.guard {α} {c : Prop} [Decidable c] {e : Err} {x : Out α} (h : ¬ c → x.Clean) :
    (if c then .fail e else x).Clean := by
  split
  · exact ⟨rfl, rfl⟩
  · exact h ‹_›

theorem Out.Returns.ite {α} {c : Prop} [Decidable c] {x y : Out α} {P : α → Prop} (hx : c → x.Returns P)
    (hy : ¬ c → y.Returns P) : (if c then x else y).Returns P := by
  split
  · exact hx ‹_›
  · exact hy ‹_›

theorem Out.Returns.clean {α} {o : Out α} {P : α → Prop} (h : o.Returns P) : o.Clean := by
  obtain ⟨a, rfl, -⟩ := h
  exact ⟨rfl, rfl⟩

theorem idx_returns {α} {l : List α} {i : Nat} (h : i < l.length) (site : String) :
    (idx l i site).Returns fun _ => True :=
  ⟨l[i], idx_lt l i site h, trivial⟩

theorem idx_clean {α} {l : List α} {i : Nat} (h : i < l.length) (site : String) : (idx l i site).Clean :=
  (idx_returns h site).clean

theorem pubValues_clean : ∀ (l : List CsExp) (acc : List (Bytes × Option Bytes)), (pubValues l acc).Clean
  | [], acc => ⟨rfl, rfl⟩
  | item :: rest, acc => by
    unfold pubValues
    exact .guard fun h => (idx_clean (by omega) _).bind fun i0 => (idx_clean (by omega) _).bind fun i1 => pubValues_clean rest _

/-- `ScdKey.Public`: each `Items[i]` follows a test of the length -/
theorem publicOfBlob_clean (blob : Bytes) : (publicOfBlob blob).Clean := by
  unfold publicOfBlob
  rcases (parseCsExp_total blob).ok_or_err with ⟨items, h⟩ | ⟨_, h, rfl⟩ <;> rw [h]
  · exact .guard fun h1 => (idx_clean (by omega) _).bind fun e1 => .guard fun h2 => (idx_clean (by omega) _).bind fun tag =>
      .guard fun _ => (idx_clean (by omega) _).bind fun e2 => .guard fun h4 => (idx_clean (by omega) _).bind fun kt =>
        (pubValues_clean _ _).bind fun vals => by
          split
          · split <;> exact ⟨rfl, rfl⟩
          · exact ⟨rfl, rfl⟩
  · exact ⟨rfl, rfl⟩

theorem splitSp_pos : ∀ (b : Bytes), 0 < (splitSp b).length
  | [] => by simp [splitSp]
  | x :: rest => by
    unfold splitSp
    cases h : splitSp rest with
    | nil => simp
    | cons l ls => by_cases hx : x = 32 <;> simp [hx]

theorem learnLine_returns (a : LearnAcc) (line : Bytes) :
    (learnLine a line).Returns fun a' => a.grips.length = a.ids.length → a'.grips.length = a'.ids.length := by
  have same : (Out.ok a).Returns fun a' => a.grips.length = a.ids.length → a'.grips.length = a'.ids.length := ⟨a, rfl, id⟩
  unfold learnLine
  refine (idx_returns (splitSp_pos line) _).bind fun p0 _ => ?_
  -- the three keywords in turn; each `parts[i]` follows the test of `len(parts)`
  exact .ite
    (fun _ => .ite (fun _ => same) fun h => (idx_returns (by omega) _).bind fun p1 _ => ⟨_, rfl, id⟩) fun _ => .ite
    (fun _ => .ite (fun _ => same) fun h => (idx_returns (by omega) _).bind fun p1 _ => .ite (fun _ => same) fun _ =>
      (idx_returns (by omega) _).bind fun p2 _ => ⟨_, rfl, fun h => by simp [h]⟩) fun _ => .ite
    (fun _ => .ite (fun _ => same) fun h => (idx_returns (by omega) _).bind fun p1 _ =>
      (idx_returns (by omega) _).bind fun p2 _ => ⟨_, rfl, id⟩) fun _ => same

theorem learnLines_returns : ∀ (lines : List Bytes) (a : LearnAcc),
    (learnLines a lines).Returns fun a' => a.grips.length = a.ids.length → a'.grips.length = a'.ids.length
  | [], a => ⟨a, rfl, id⟩
  | l :: ls, a => (learnLine_returns a l).bind fun a1 h1 =>
    let ⟨a2, h2, hp2⟩ := learnLines_returns ls a1
    ⟨a2, h2, fun h => hp2 (h1 h)⟩

theorem mkInfos_returns (serial : Bytes) (a : LearnAcc) : ∀ (rest : List Bytes) (i : Nat), i + rest.length ≤ a.grips.length →
    (mkInfos serial a i rest).Returns fun l => l.length = rest.length
  | [], i, _ => ⟨[], rfl, rfl⟩
  | kid :: rest, i, h => by
    simp only [List.length_cons] at h
    exact (idx_returns (by omega) _).bind fun g _ =>
      (mkInfos_returns serial a rest (i + 1) (by omega)).bind fun tl hl => ⟨_, rfl, by simp [hl]⟩

theorem learn_spec {σ} (dm : Daemon σ) (s : ScdConn σ) :
    (learn dm s).2.isPanic = false ∧ ∀ infos, (learn dm s).2 = .ok infos → 0 < infos.length := by
  fun_cases learn dm s
  case case2 h => exact nomatch h ▸ transact_no_panic dm _ _ _
  case case5 _ res _ a ha _ h0 =>
    -- the parallel slices are equally long (`learnLines_returns`), so every `keygrips[i]` is in range
    obtain ⟨a', ha', hp⟩ := learnLines_returns res.lines { serial := s.serial, grips := [], ids := [], fprs := [] }
    cases ha.symm.trans ha'
    obtain ⟨l, hl, hlen⟩ := mkInfos_returns a.serial a a.ids 0 (by have := hp rfl; omega)
    dsimp only
    rw [hl]
    exact ⟨rfl, fun infos hi => by cases hi; omega⟩
  case case7 res _ p h =>
    obtain ⟨a', ha', _⟩ := learnLines_returns res.lines { serial := s.serial, grips := [], ids := [], fprs := [] }
    cases h.symm.trans ha'
  all_goals exact ⟨rfl, nofun⟩

theorem checkPin_no_panic {σ} (dm : Daemon σ) (s : ScdConn σ) (pin : Bytes) : (checkPin dm s pin).2.isPanic = false := by
  fun_cases checkPin dm s pin
  case case3 h => exact nomatch h ▸ transact_no_panic dm _ _ _
  case case6 pre s' p h =>
    -- the serial number is taken from the first key that Learn returned, and Learn returns at least one
    exfalso
    revert h
    dsimp only [pre]
    split
    · have hl := learn_spec dm s
      revert hl
      rcases learn dm s with ⟨s1, _ | _ | _ | _⟩
      · intro hl
        dsimp only
        rw [idx_lt _ 0 _ (hl.2 _ rfl)]
        nofun
      · nofun
      · intro hl; exact absurd hl.1 (by simp [Out.isPanic])
      · nofun
    · nofun
  all_goals rfl

theorem pinErr_cases (ctx : String) (e : Err) :
    (∃ st m, e = .resp st m ∧ containsSub kBadPIN m = true ∧ pinErr ctx e = .msg "badpin") ∨ pinErr ctx e = .wrap ctx e := by
  fun_cases pinErr ctx e
  case case1 st m h => exact .inl ⟨st, m, rfl, h, rfl⟩
  all_goals exact .inr rfl

theorem scdPublic_no_panic {σ} (dm : Daemon σ) (c : Conn σ) (k : ScdKey) : (scdPublic dm c k).2.isPanic = false := by
  fun_cases scdPublic dm c k
  case case1 => exact (publicOfBlob_clean _).1
  case case3 h => exact nomatch h ▸ transact_no_panic dm _ _ _
  all_goals rfl

theorem scdSign_no_panic {σ} (dm : Daemon σ) (c : Conn σ) (k : ScdKey) (d : Bytes) (o : SignOpts) (pin : Bytes) :
    (scdSign dm c k d o pin).2.isPanic = false := by
  fun_cases scdSign dm c k d o pin
  case case6 h => exact nomatch h ▸ transact_no_panic dm _ _ _
  case case10 h => exact nomatch h ▸ transact_no_panic dm _ _ _
  all_goals rfl

theorem cmdWord_split (a b : Bytes) (h : ∀ x ∈ a, x ≠ 32) : cmdWord (a ++ [32] ++ b) = (a, b) := by
  unfold cmdWord
  rw [show a ++ [32] ++ b = a ++ 32 :: b by simp, span_stop (· != 32) a 32 b (fun c hc => by simpa using h c hc) (by decide)]

theorem cmdWord_setdata (x : Bytes) : cmdWord (cSETDATA ++ x) = (ascii "SETDATA", x) := by
  rw [show cSETDATA = ascii "SETDATA" ++ [32] by decide +kernel, cmdWord_split (ascii "SETDATA") _ (by decide +kernel)]

theorem fromHexU_hexUpper (d : Bytes) : fromHexU (hexUpper d) = some d := by
  induction d with
  | nil => rfl
  | cons c rest ih =>
    have : hexUpper (c :: rest) = hexU (c >>> 4) :: hexU (c &&& 15) :: hexUpper rest := by simp [hexUpper]
    rw [this, fromHexU]
    obtain ⟨h1, h2, h3, -, -⟩ := hex_facts c
    simp only [h1, h2, ih, h3]

theorem honest_recv_setdata (h : Honest) (d : Bytes) (hi : h.awaiting = none) :
    honest.recv h (setdataCmd d) = ({ h with data := some d }, okLine, false) := by
  simp only [honest, hi, setdataCmd, cmdWord_setdata, fromHexU_hexUpper]
  have e1 : (ascii "SETDATA" = ascii "LEARN") = False := by simp; decide +kernel
  have e2 : (ascii "SETDATA" = ascii "CHECKPIN") = False := by simp; decide +kernel
  have e3 : (ascii "SETDATA" = ascii "READKEY") = False := by simp; decide +kernel
  simp [e1, e2, e3]

/-- the line the daemon receives for `PKSIGN --hash=<hash> <keyid>` (the client's extra newline is an empty line, dropped) -/
def pksignLine (hash keyId : Bytes) : Bytes := cPKSIGN ++ hash ++ [32] ++ keyId

theorem cmdWord_pksignLine (hash kid : Bytes) :
    cmdWord (pksignLine hash kid) = (ascii "PKSIGN", ascii "--hash=" ++ hash ++ [32] ++ kid) := by
  unfold pksignLine
  rw [show cPKSIGN = ascii "PKSIGN" ++ [32] ++ ascii "--hash=" by decide +kernel]
  simp only [List.append_assoc]
  exact cmdWord_split (ascii "PKSIGN") _ (by decide +kernel)

theorem pksignArgs_eq (hash kid : Bytes) (hh : ∀ x ∈ hash, x ≠ 32) :
    pksignArgs (ascii "--hash=" ++ hash ++ [32] ++ kid) = (hash, kid) := by
  have hopt : ∀ y ∈ ascii "--hash=", y ≠ 32 := by decide +kernel
  unfold pksignArgs
  rw [cmdWord_split (ascii "--hash=" ++ hash) kid fun x hx => (List.mem_append.mp hx).elim (hopt x) (hh x)]
  exact congrArg (·, kid) (List.drop_left' (show (ascii "--hash=").length = 7 by decide +kernel))

theorem honest_recv_pksign (h : Honest) (hash kid : Bytes) (hi : h.awaiting = none) (hq : h.inqSign = false)
    (hh : ∀ x ∈ hash, x ≠ 32) :
    honest.recv h (pksignLine hash kid) = (h, honestSign h hash kid, false) := by
  have h1 := cmdWord_pksignLine hash kid
  have h2 := pksignArgs_eq hash kid hh
  have e1 : (ascii "PKSIGN" = ascii "LEARN") = False := by simp; decide +kernel
  have e2 : (ascii "PKSIGN" = ascii "CHECKPIN") = False := by simp; decide +kernel
  have e3 : (ascii "PKSIGN" = ascii "READKEY") = False := by simp; decide +kernel
  have e4 : (ascii "PKSIGN" = ascii "SETDATA") = False := by simp; decide +kernel
  simp only [honest, hi, hq, h1, honestRun, h2]
  simp [e1, e2, e3, e4]

theorem honestSign_signs_stored (h : Honest) (hash kid : Bytes) (s : Slot) (d : Bytes)
    (hs : findSlot h kid = some s) (hk : s.kind = 0) (hd : h.data = some d) (hl : hashLen hash = some d.length) :
    honestSign h hash kid = blobLines (h.sigOf s.n hash d) ++ okLine := by
  simp [honestSign, hs, hk, hd, hl]

end Relic.Assuan
