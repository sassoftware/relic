/- Relic.Model.CodeDir: windows of a list of equal blocks, field extraction from the marshalled header (`HdrView`), `render` of
   appended segments, the inversion of `signBlob` -/
import Relic.Model.CodeDir
import Relic.Proofs.Codec
import Relic.Proofs.Splice
namespace Relic.CodeDir

theorem block_window (hs : Nat) (bs : List Bytes) (buf rest : Bytes) (base : Nat) (hb : buf.drop base = bs.flatten ++ rest)
    (h : ∀ b ∈ bs, b.length = hs) (i : Nat) (hi : i < bs.length) : (buf.drop (base + i * hs)).take hs = bs[i] := by
  rw [← List.drop_drop, hb, take_drop_flatten_blocks hs bs i rest h hi]

theorem block_window_rev (hs : Nat) (bs : List Bytes) (buf rest : Bytes) (base : Nat) (hb : buf.drop base = bs.flatten ++ rest)
    (h : ∀ b ∈ bs, b.length = hs) (k : Nat) (hk1 : 1 ≤ k) (hk : k ≤ bs.length) :
    (buf.drop (base + bs.length * hs - k * hs)).take hs = bs[bs.length - k]'(by omega) := by
  have e0 : bs.length * hs = (bs.length - k) * hs + k * hs := by rw [← Nat.add_mul]; congr 1; omega
  rw [show base + bs.length * hs - k * hs = base + (bs.length - k) * hs by omega]
  exact block_window hs bs buf rest base hb h _ (by omega)

def offsetOf (fs : List (Nat × Nat)) (k : Nat) : Nat := ((fs.take k).map (·.1)).sum

theorem encFields_length (fs : List (Nat × Nat)) : (encFields fs).length = (fs.map (·.1)).sum := by
  induction fs with
  | nil => rfl
  | cons p t _ => simp [encFields, List.flatMap_cons] at *

theorem field_at : ∀ (fs : List (Nat × Nat)) (k w v : Nat) (rest : Bytes), fs[k]? = some (w, v) →
    ((encFields fs ++ rest).drop (offsetOf fs k)).take w = beBytes w v := by
  intro fs
  induction fs with
  | nil => intro k w v rest h; simp at h
  | cons p t ih =>
    intro k w v rest h
    cases k with
    | zero =>
      simp only [List.getElem?_cons_zero, Option.some.injEq] at h
      subst h
      simp only [offsetOf, List.take_zero, List.map_nil, List.sum_nil, List.drop_zero, encFields, List.flatMap_cons, List.append_assoc]
      exact List.take_left' (by simp)
    | succ j =>
      simp only [List.getElem?_cons_succ] at h
      have e : offsetOf (p :: t) (j + 1) = (beBytes p.1 p.2).length + offsetOf t j := by
        simp [offsetOf]
      have e2 : encFields (p :: t) = beBytes p.1 p.2 ++ encFields t := by simp [encFields, List.flatMap_cons]
      rw [e, e2, List.append_assoc, List.drop_length_add_append]
      exact ih j w v rest h

theorem field_read (fs : List (Nat × Nat)) (k w v : Nat) (rest : Bytes) (hk : fs[k]? = some (w, v)) :
    beVal (((encFields fs ++ rest).drop (offsetOf fs k)).take w) = v % 256 ^ w := by
  rw [field_at fs k w v rest hk, beVal_beBytes]

theorem Header.enc_length (h : Header) : h.enc.length = 88 := by
  simp [Header.enc, encFields_length, Header.fields]

theorem hdr_field (h : Header) (rest : Bytes) (k w v off : Nat) (hk : h.fields[k]? = some (w, v)) (ho : offsetOf h.fields k = off) :
    beVal (((h.enc ++ rest).drop off).take w) = v % 256 ^ w := by
  rw [← ho, Header.enc]; exact field_read h.fields k w v rest hk

theorem be32_field (blob rest : Bytes) (base : Nat) (fs : List (Nat × Nat)) (k v off : Nat)
    (h : blob.drop base = encFields fs ++ rest) (hk : fs[k]? = some (4, v)) (ho : offsetOf fs k = off) :
    be32 blob (base + off) = v % 2 ^ 32 := by
  unfold be32
  rw [← ho, ← List.drop_drop, h]; exact field_read fs k 4 v rest hk

/-- every fixed field of the marshalled header, read back at its offset -/
structure HdrView (raw : Bytes) (h : Header) : Prop where
  magic : beVal ((raw.drop 0).take 4) = h.magic % 2 ^ 32
  length : beVal ((raw.drop 4).take 4) = h.length % 2 ^ 32
  version : beVal ((raw.drop 8).take 4) = h.version % 2 ^ 32
  flags : beVal ((raw.drop 12).take 4) = h.flags % 2 ^ 32
  hashOffset : beVal ((raw.drop 16).take 4) = h.hashOffset % 2 ^ 32
  identOffset : beVal ((raw.drop 20).take 4) = h.identOffset % 2 ^ 32
  nSpecial : beVal ((raw.drop 24).take 4) = h.nSpecial % 2 ^ 32
  nCode : beVal ((raw.drop 28).take 4) = h.nCode % 2 ^ 32
  codeLimit : beVal ((raw.drop 32).take 4) = h.codeLimit % 2 ^ 32
  hashSize : beVal ((raw.drop 36).take 1) = h.hashSize % 2 ^ 8
  hashType : beVal ((raw.drop 37).take 1) = h.hashType % 2 ^ 8
  platform : beVal ((raw.drop 38).take 1) = 0
  pageShift : beVal ((raw.drop 39).take 1) = h.pageShift % 2 ^ 8
  spare2 : beVal ((raw.drop 40).take 4) = 0
  scatter : beVal ((raw.drop 44).take 4) = h.scatterOffset % 2 ^ 32
  teamOffset : beVal ((raw.drop 48).take 4) = h.teamOffset % 2 ^ 32
  spare3 : beVal ((raw.drop 52).take 4) = 0
  codeLimit64 : beVal ((raw.drop 56).take 8) = h.codeLimit64 % 2 ^ 64
  execBase : beVal ((raw.drop 64).take 8) = h.execBase % 2 ^ 64
  execLimit : beVal ((raw.drop 72).take 8) = h.execLimit % 2 ^ 64
  execFlags : beVal ((raw.drop 80).take 8) = h.execFlags % 2 ^ 64

theorem enc_view (h : Header) (rest : Bytes) : HdrView (h.enc ++ rest) h where
  magic := hdr_field h rest 0 4 _ 0 (by simp [Header.fields]) (by simp [offsetOf, Header.fields])
  length := hdr_field h rest 1 4 _ 4 (by simp [Header.fields]) (by simp [offsetOf, Header.fields])
  version := hdr_field h rest 2 4 _ 8 (by simp [Header.fields]) (by simp [offsetOf, Header.fields])
  flags := hdr_field h rest 3 4 _ 12 (by simp [Header.fields]) (by simp [offsetOf, Header.fields])
  hashOffset := hdr_field h rest 4 4 _ 16 (by simp [Header.fields]) (by simp [offsetOf, Header.fields])
  identOffset := hdr_field h rest 5 4 _ 20 (by simp [Header.fields]) (by simp [offsetOf, Header.fields])
  nSpecial := hdr_field h rest 6 4 _ 24 (by simp [Header.fields]) (by simp [offsetOf, Header.fields])
  nCode := hdr_field h rest 7 4 _ 28 (by simp [Header.fields]) (by simp [offsetOf, Header.fields])
  codeLimit := hdr_field h rest 8 4 _ 32 (by simp [Header.fields]) (by simp [offsetOf, Header.fields])
  hashSize := hdr_field h rest 9 1 _ 36 (by simp [Header.fields]) (by simp [offsetOf, Header.fields])
  hashType := hdr_field h rest 10 1 _ 37 (by simp [Header.fields]) (by simp [offsetOf, Header.fields])
  platform := hdr_field h rest 11 1 0 38 (by simp [Header.fields]) (by simp [offsetOf, Header.fields])
  pageShift := hdr_field h rest 12 1 _ 39 (by simp [Header.fields]) (by simp [offsetOf, Header.fields])
  spare2 := hdr_field h rest 13 4 0 40 (by simp [Header.fields]) (by simp [offsetOf, Header.fields])
  scatter := hdr_field h rest 14 4 _ 44 (by simp [Header.fields]) (by simp [offsetOf, Header.fields])
  teamOffset := hdr_field h rest 15 4 _ 48 (by simp [Header.fields]) (by simp [offsetOf, Header.fields])
  spare3 := hdr_field h rest 16 4 0 52 (by simp [Header.fields]) (by simp [offsetOf, Header.fields])
  codeLimit64 := hdr_field h rest 17 8 _ 56 (by simp [Header.fields]) (by simp [offsetOf, Header.fields])
  execBase := hdr_field h rest 18 8 _ 64 (by simp [Header.fields]) (by simp [offsetOf, Header.fields])
  execLimit := hdr_field h rest 19 8 _ 72 (by simp [Header.fields]) (by simp [offsetOf, Header.fields])
  execFlags := hdr_field h rest 20 8 _ 80 (by simp [Header.fields]) (by simp [offsetOf, Header.fields])

theorem contains_zero (s rest : Bytes) : (s ++ 0 :: rest).contains 0 = true := by
  simp

theorem render_append (H : Bytes → Bytes) (hs : Nat) (a b : List Seg) : render H hs (a ++ b) = render H hs a ++ render H hs b := by
  simp [render]

theorem render_lit (H : Bytes → Bytes) (hs : Nat) (b : Bytes) : render H hs [.lit b] = b := by
  simp [render, Seg.render]

theorem render_length (H : Bytes → Bytes) (hs : Nat) (hH : ∀ s, (H s).length = hs) (l : List Seg) :
    (render H hs l).length = segsLen hs l := by
  induction l with
  | nil => rfl
  | cons s t ih =>
    have : render H hs (s :: t) = Seg.render H hs s ++ render H hs t := by simp [render]
    rw [this, List.length_append, ih]
    cases s <;> simp [segsLen, Seg.render, Seg.len, hH]

theorem render_blocks (H : Bytes → Bytes) (hs : Nat) (l : List Seg) :
    render H hs l = (l.map (Seg.render H hs)).flatten := by
  simp [render, List.flatMap_def]

theorem reqItem_form (v : Bytes) (i : Item) (h : reqItem v = .ok i) : ∃ payload, i = newSuperItem 0xfade0c01 payload := by
  revert h
  fun_cases reqItem v <;> intro h
  all_goals first
    | (cases h; done)
    | (cases h; exact ⟨_, rfl⟩)

/-- `rp`: the requirements item, when there is one, is a re-wrapped requirement set -/
theorem signBlob_inv (sp : SignParams) (stream : Bytes) (s : Signed) (e : signBlob sp stream = .ok s) :
    ∃ (rp : Option Bytes),
      newCodeDirectory
        { flags := sp.flags, ident := sp.ident, team := sp.team, execBase := sp.execBase, execLimit := sp.execLimit,
          execFlags := sp.execFlags,
          specials := trimSpecials [(sp.entitlementDER.map (newSuperItem 0xfade7172)).map litOf, sp.repSpecific,
            (sp.entitlement.map (newSuperItem 0xfade7171)).map litOf, none, sp.resources,
            (rp.map (newSuperItem 0xfade0c01)).map litOf, sp.infoPlist],
          codeSlots := (hashPages stream sp.repSpecific.isSome).slots, codeSlotCount := (hashPages stream sp.repSpecific.isSome).count,
          hash := sp.hash, codeLimit := (hashPages stream sp.repSpecific.isSome).limit, single := sp.repSpecific.isSome } = .ok s.cd ∧
      s.pages = hashPages stream sp.repSpecific.isSome ∧
      s.hashed = (rp.map (newSuperItem 0xfade0c01)).toList ++ (sp.entitlement.map (newSuperItem 0xfade7171)).toList ++
        (sp.entitlementDER.map (newSuperItem 0xfade7172)).toList := by
  revert e
  fun_cases signBlob sp stream <;> intro e
  case case4 _ req hreq _ _ _ _ cd hcd =>
    cases e
    have hrp : ∃ rp : Option Bytes, req = rp.map (newSuperItem 0xfade0c01) := by
      cases hr : sp.requirements with
      | none => rw [hr] at hreq; exact ⟨none, (Res.ok.inj hreq).symm⟩
      | some v =>
        rw [hr] at hreq
        dsimp only at hreq
        cases hv : reqItem v with
        | ok i =>
          obtain ⟨payload, rfl⟩ := reqItem_form v i hv
          rw [hv] at hreq
          exact ⟨some payload, (Res.ok.inj hreq).symm⟩
        | err x => rw [hv] at hreq; cases hreq
        | panic x => rw [hv] at hreq; cases hreq
        | diverge => rw [hv] at hreq; cases hreq
    obtain ⟨rp, rfl⟩ := hrp
    exact ⟨rp, hcd, rfl, rfl⟩
  all_goals cases e

theorem signBlob_limit (p : SignParams) (stream : Bytes) (sg : Signed) (h : signBlob p stream = .ok sg) :
    sg.pages.limit = stream.length := by
  obtain ⟨_, _, hp, _⟩ := signBlob_inv p stream sg h
  rw [hp]; unfold hashPages; split <;> rfl

end Relic.CodeDir
