/- concrete thin Mach-O images, the witnesses and non-vacuity instances of the Mach-O property files (outside the Props
   files: every `theorem` there is audited under its top-level name) -/
import Relic.Proofs.MachOGuards
import Relic.Proofs.SuperBlob
namespace Relic.Props.C01
open Relic.MachO Relic.CodeDir

namespace Demo

def le32 (v : Nat) : Bytes := leBytes 4 v
def le64 (v : Nat) : Bytes := leBytes 8 v
/-- "__LINKEDIT" -/
def leName : Bytes := [95, 95, 76, 73, 78, 75, 69, 68, 73, 84]

/-- LC_SEGMENT_64 `__LINKEDIT`, no sections, file range `[off, off+sz)` -/
def leSeg (off sz : Nat) : Bytes :=
  le32 0x19 ++ le32 72 ++ leName ++ zeros 6 ++ le64 0 ++ le64 0 ++ le64 off ++ le64 sz ++ le32 0 ++ le32 0 ++ le32 0 ++ le32 0

/-- a minimal regular 64-bit little-endian image: header, one __LINKEDIT segment command, 16 bytes of link-edit data -/
def fGood : Bytes :=
  le32 0xfeedfacf ++ le32 0 ++ le32 0 ++ le32 2 ++ le32 1 ++ le32 72 ++ le32 0 ++ le32 0 ++ leSeg 104 16 ++ zeros 16

/-- the same with an (empty) LC_SYMTAB command in front: accepted by `scanFile`, by the real `debug/macho`, but
    "unmodelled" for the model's `loadLoop` -/
def fSym : Bytes :=
  le32 0xfeedfacf ++ le32 0 ++ le32 0 ++ le32 2 ++ le32 2 ++ le32 96 ++ le32 0 ++ le32 0 ++
    (le32 2 ++ le32 24 ++ zeros 16) ++ leSeg 128 16 ++ zeros 16

/-- SHA-256, identifier "A", nothing else -/
def p0 : SignParams := ⟨5, 0, [65], [], 0, 0, 0, none, none, none, none, none, none⟩

def mGood : Markers := ⟨false, 0xfeedfacf, 0, 0, 0, 32, 104, 16, 104, 2 ^ 63 - 1, 120, 104⟩
def mSym : Markers := ⟨false, 0xfeedfacf, 0, 0, 0, 56, 128, 16, 128, 2 ^ 63 - 1, 144, 128⟩

/-- an empty embedded-signature superblob -/
def emptySuper : Bytes := [0xfa, 0xde, 0x0c, 0xc0, 0, 0, 0, 12, 0, 0, 0, 0]

/-- a signed image: __LINKEDIT, LC_CODE_SIGNATURE (offset 136, length `n`), 16 bytes of link-edit data and an old
    signature region of `n ≥ 12` bytes holding an empty superblob -/
def fSigned (n : Nat) : Bytes :=
  le32 0xfeedfacf ++ le32 0 ++ le32 0 ++ le32 2 ++ le32 2 ++ le32 88 ++ le32 0 ++ le32 0 ++ leSeg 120 (16 + n) ++
    (le32 0x1d ++ le32 16 ++ le32 136 ++ le32 n) ++ zeros 16 ++ emptySuper ++ zeros (n - 12)

def mSigned (n : Nat) : Markers := ⟨false, 0xfeedfacf, 136, n, 104, 32, 120, 16 + n, 120, 2 ^ 63 - 1, 136, 120⟩

theorem fSigned_length (n : Nat) (h : 12 ≤ n) : (fSigned n).length = 136 + n := by
  simp only [fSigned, leSeg, le32, le64, leName, emptySuper, zeros, List.length_append, leBytes_length, List.length_replicate,
    List.length_cons, List.length_nil]
  omega

/-- `scanOrig` on a small concrete image: the five things to evaluate, as one decidable statement -/
theorem scanOrig_of (f : Bytes) (m : Markers)
    (h : readMagic f = some (false, 0xfeedfacf) ∧ 28 ≤ f.length ∧ hdrEndOf 0xfeedfacf + rd32 false f 20 ≤ f.length ∧
      rd32 false f 20 ≠ 0 ∧
      (match cmdLoopL leName false f (hdrEndOf 0xfeedfacf + rd32 false f 20) (rd32 false f 16) (hdrEndOf 0xfeedfacf) {} with
        | .ok st => scanFinish false 0xfeedfacf (hdrEndOf 0xfeedfacf + rd32 false f 20) st
        | .err e => .err e
        | .panic p => .panic p
        | .diverge => .diverge) = .ok m) : scanOrig f = .ok m := by
  rw [scanOrig_eq f false 0xfeedfacf h.1 h.2.1 h.2.2.1 h.2.2.2.1]
  exact h.2.2.2.2

theorem scanOrig_fOld : scanOrig (fSigned 16) = .ok (mSigned 16) := scanOrig_of _ _ (by decide +kernel)
theorem sign_fOld_ok : (signOrig (fSigned 16) p0).isOk = true :=
  (congrArg Res.isOk (signOrig_of_scan _ p0 _ scanOrig_fOld)).trans (by decide +kernel)
theorem scanOrig_fReuse : scanOrig (fSigned 16392) = .ok (mSigned 16392) := by
  rw [scanOrig_eq _ false 0xfeedfacf (by decide +kernel) (by rw [fSigned_length _ (by decide)]; decide)
    (by rw [fSigned_length _ (by decide)]; decide +kernel) (by decide +kernel)]
  decide +kernel
/-- the reuse branch on the 16.5 kB image: nothing is patched, the old region holds an empty superblob, which leaves the
    parameters alone; stated through the lemmas about a variable image, so that only the header and the first twelve bytes of
    the old region are ever evaluated -/
theorem sign_fReuse_ok : (signOrig (fSigned 16392) p0).isOk = true := by
  have hlen := fSigned_length 16392 (by decide)
  rw [signOrig_of_scan _ p0 _ scanOrig_fReuse, planFrom_reuse _ _ _ _ _ (by decide) (by rw [hlen]; decide) (by decide)]
  refine signFrom_isOk p0 p0 _ false (defaults_empty p0 _ _ (parseSuper_empty _ ?_ ?_ ?_) ?_) ?_
  · simp only [List.length_take, List.length_drop, hlen]; decide
  · rw [be32, take_drop_take _ _ _ _ (by decide)]
    simp only [List.length_take, List.length_drop, hlen]
    decide +kernel
  · rw [be32, take_drop_take _ _ _ _ (by decide)]
    simp only [List.length_take, List.length_drop, hlen]
    decide +kernel
  · rw [be32, take_drop_take _ _ _ _ (by decide)]
    simp only [List.length_take, List.length_drop, hlen]
    decide +kernel
  · decide +kernel

/-- `fGood` with `sizeofcmds = 80`: 8 zero bytes of slack behind the only (72-byte) command -/
def fSlack : Bytes :=
  le32 0xfeedfacf ++ le32 0 ++ le32 0 ++ le32 2 ++ le32 1 ++ le32 80 ++ le32 0 ++ le32 0 ++ leSeg 112 16 ++ zeros 8 ++ zeros 16
def mSlack : Markers := ⟨false, 0xfeedfacf, 0, 0, 0, 32, 112, 16, 112, 2 ^ 63 - 1, 128, 112⟩
theorem scanOrig_fSlack : scanOrig fSlack = .ok mSlack := scanOrig_of _ _ (by decide +kernel)
theorem sign_fSlack_ok : (signOrig fSlack p0).isOk = true :=
  (congrArg Res.isOk (signOrig_of_scan fSlack p0 mSlack scanOrig_fSlack)).trans (by decide +kernel)

theorem scanOrig_fGood : scanOrig fGood = .ok mGood := scanOrig_of _ _ (by decide +kernel)
theorem scanOrig_fSym : scanOrig fSym = .ok mSym := scanOrig_of _ _ (by decide +kernel)

theorem sign_fGood_ok : (signOrig fGood p0).isOk = true :=
  (congrArg Res.isOk (signOrig_of_scan fGood p0 mGood scanOrig_fGood)).trans (by decide +kernel)
theorem sign_fSym_ok : (signOrig fSym p0).isOk = true :=
  (congrArg Res.isOk (signOrig_of_scan fSym p0 mSym scanOrig_fSym)).trans (by decide +kernel)

theorem scanNew_fGood : scan fGood = .ok mGood := (scan_ok_iff _ _).mpr ⟨scanOrig_fGood, by decide +kernel⟩
theorem scanNew_fSym : scan fSym = .ok mSym := (scan_ok_iff _ _).mpr ⟨scanOrig_fSym, by decide +kernel⟩
theorem scanNew_fOld : scan (fSigned 16) = .ok (mSigned 16) := scan_of_orig_signed _ _ scanOrig_fOld (by decide)
theorem scanNew_fReuse : scan (fSigned 16392) = .ok (mSigned 16392) := scan_of_orig_signed _ _ scanOrig_fReuse (by decide)
/-- the witness of F-MACHO-4 is refused by the current `scanFile` -/
theorem scanNew_fSlack : scan fSlack = .err "slack" :=
  scan_slack_refused fSlack mSlack scanOrig_fSlack rfl (by decide +kernel)

theorem signNew_of (f : Bytes) (m : Markers) (so : SignOut) (hso : signOrig f p0 = .ok so) (ho : scanOrig f = .ok m)
    (hn : scan f = .ok m) (hr : ¬ estRange m (hashSizeOf p0.hash))
    (hg : ¬ sizeGuard m (estI m (hashSizeOf p0.hash) ((p0.entitlement.map (·.length)).getD 0)
      ((p0.requirements.map (·.length)).getD 0))) : sign f p0 = .ok so := by
  have hm := (sign_patch_of_scan f p0 so m hso ho).1
  exact sign_of_orig f p0 so hso (by rw [hm]; exact hn) (by rw [hm]; exact hr) (by rw [hm]; exact hg)

end Demo

end Relic.Props.C01
