/- Relic.Model.CompressHttp: the executable toy codecs (run by Driver/CHttp) with their laws, so that `Codec` is inhabited
   by a self-delimiting and by a frame-sequence instance; the `responseCompressor` state machine (the header of the answer
   is decided by the handler's first operation, the body by what reaches the compressor after it); the four answers of
   the middleware; the client's decoding; the compressing writer refines the plain one -/
import Relic.Model.CompressHttp
import Relic.Proofs.Transport
import Relic.Proofs.Merkle
namespace Relic.CompressHttp
open Relic.Transport

theorem parseG_stuff (d : Bytes) (y : UInt8) (rest : Bytes) :
    parseG (stuff d ++ y :: rest) = (parseG (y :: rest)).map (d ++ ·) := by
  induction d with
  | nil => simp [stuff]
  | cons x d ih =>
    have e : stuff (x :: d) ++ y :: rest = 1 :: x :: (stuff d ++ y :: rest) := by simp [stuff]
    rw [e]
    cases h : stuff d ++ y :: rest with
    | nil => cases d <;> simp [stuff] at h
    | cons z zs =>
      rw [← h]
      have : parseG (1 :: x :: (stuff d ++ y :: rest)) = (parseG (stuff d ++ y :: rest)).map (x :: ·) := by
        rw [h]; simp [parseG]
      rw [this, ih]
      cases parseG (y :: rest) <;> simp

theorem parseG_sync (y : UInt8) (rest : Bytes) : parseG (2 :: y :: rest) = parseG (y :: rest) := by
  simp [parseG]

theorem parseG_segs (ws : List WOp) : parseG (ws.flatMap segG ++ [0]) = some (plainOf ws) := by
  induction ws with
  | nil => simp [parseG, plainOf]
  | cons w ws ih =>
    have hne : ∃ y rest, ws.flatMap segG ++ [0] = y :: rest := by
      cases h : ws.flatMap segG ++ [0] with
      | nil => simp at h
      | cons y rest => exact ⟨y, rest, rfl⟩
    obtain ⟨y, rest, hy⟩ := hne
    cases w with
    | write d =>
      simp only [List.flatMap_cons, segG, List.append_assoc, plainOf]
      rw [hy, parseG_stuff, ← hy, ih]; simp
    | flush =>
      simp only [List.flatMap_cons, segG, List.append_assoc, plainOf]
      rw [hy]
      show parseG (2 :: y :: rest) = _
      rw [parseG_sync, ← hy, ih]

theorem decG_encG (ws : List WOp) : decG (encG ws) = some (plainOf ws) := by
  simp [decG, encG, gzMagic, parseG_segs]

theorem opensG_of_decG (w p : Bytes) (h : decG w = some p) : opensG w = true := by
  unfold decG at h
  split at h
  · next a b r =>
    split at h
    · next hab => simp [opensG, hab.1, hab.2]
    · simp at h
  · simp at h

def toyGzip : Codec := ⟨encG, decG, opensG, decG_encG, opensG_of_decG, fun _ h => by simp [decG] at h⟩

theorem parseG_append_none (p s : Bytes) (hs : s ≠ []) : ∀ b, parseG (p ++ s) = some b → parseG p = none := by
  fun_induction parseG p with
  | case1 => intros; rfl
  | case2 =>
    intro b h
    obtain ⟨x, r, rfl⟩ := List.exists_cons_of_ne_nil hs
    simp [parseG] at h
  | case3 t _ => intros; simp
  | case4 x r => intros; simp
  | case5 x r _ ih => exact fun b h => by simpa using ih b (by simpa [parseG] using h)
  | case6 x r _ _ ih =>
    intro b h
    cases hr : parseG (r ++ s) with
    | none => simp [parseG, hr] at h
    | some b' => simp [ih b' hr]
  | case7 t x r _ _ _ => intros; simp

theorem toyGzip_selfDelimiting : SelfDelimiting toyGzip := by
  intro ws p hp hne
  show decG p = none
  have henc : toyGzip.enc ws = 0x1f :: 0x8b :: (ws.flatMap segG ++ [0]) := rfl
  rw [henc] at hp hne
  match p with
  | [] => rfl
  | [a] => rfl
  | a :: b :: p' =>
    obtain ⟨s, hs⟩ := hp
    simp at hs
    obtain ⟨ha, hb, hs⟩ := hs
    subst ha; subst hb
    simp only [decG]
    simp only [and_self, if_true]
    refine parseG_append_none p' s (fun h0 => hne ?_) _ (hs ▸ parseG_segs ws)
    rw [← hs, h0, List.append_nil]

theorem parseS_stuff (f : Bytes) (rest : Bytes) :
    parseS true (stuff f ++ 0 :: rest) = (parseS false rest).map (f ++ ·) := by
  induction f with
  | nil =>
    cases rest with
    | nil => simp [stuff, parseS]
    | cons x r => simp [stuff, parseS]
  | cons y f ih =>
    have e : stuff (y :: f) ++ 0 :: rest = 1 :: y :: (stuff f ++ 0 :: rest) := by simp [stuff]
    rw [e]
    have : parseS true (1 :: y :: (stuff f ++ 0 :: rest)) = (parseS true (stuff f ++ 0 :: rest)).map (y :: ·) := by
      simp [parseS]
    rw [this, ih]
    cases parseS false rest <;> simp

theorem parseS_frames (fs : List Bytes) : parseS false (fs.flatMap frame) = some fs.flatten := by
  induction fs with
  | nil => simp [parseS]
  | cons f fs ih =>
    have e : (f :: fs).flatMap frame = 3 :: (stuff f ++ 0 :: fs.flatMap frame) := by
      simp [frame, List.flatMap_cons]
    rw [e]
    have : parseS false (3 :: (stuff f ++ 0 :: fs.flatMap frame)) = parseS true (stuff f ++ 0 :: fs.flatMap frame) := by
      simp [parseS]
    rw [this, parseS_stuff, ih]; simp

theorem decS_encFrames (fs : List Bytes) : decS (encFrames fs) = some fs.flatten := by
  unfold encFrames
  by_cases h : fs = []
  · simp [h, decS]
  · simp only [h, if_false, snMagic]
    show decS (0xff :: 0x06 :: fs.flatMap frame) = _
    simp [decS, parseS_frames]

theorem framesOf_flatten (B : Nat) (hB : 0 < B) (ws : List WOp) : (framesOf B ws).flatten = plainOf ws := by
  induction ws with
  | nil => simp [framesOf, plainOf]
  | cons w ws ih =>
    cases w with
    | write d => simp [framesOf, plainOf, List.flatten_append, Merkle.chunks_flatten B d hB, ih]
    | flush => simp [framesOf, plainOf, ih]

theorem decS_encS (B : Nat) (hB : 0 < B) (ws : List WOp) : decS (encS B ws) = some (plainOf ws) := by
  rw [encS, decS_encFrames, framesOf_flatten B hB]

def toySnappy (B : Nat) (hB : 0 < B) : Codec :=
  ⟨encS B, decS, fun _ => true, decS_encS B hB, fun _ _ _ => rfl, fun _ h => by simp [decS] at h; exact h⟩

/-- x-snappy-framed has no end marker: with a block size of one byte, the stream of `[7, 8]` cut after
    its first frame is a proper prefix and decodes to `[7]` -/
theorem toySnappy_not_selfDelimiting : ¬ SelfDelimiting (toySnappy 1 (by decide)) := by
  intro h
  have hc : Merkle.chunks 1 ([7, 8] : Bytes) = [[7], [8]] := by
    rw [Merkle.chunks_cons_of 1 _ (by decide) (by simp)]
    simp only [List.take, List.drop]
    rw [Merkle.chunks_cons_of 1 _ (by decide) (by simp)]
    simp [Merkle.chunks_nil]
  have he : (toySnappy 1 (by decide)).enc [.write [7, 8]] = encFrames [[7], [8]] := by
    show encS 1 [.write [7, 8]] = _
    simp [encS, framesOf, hc]
  have := h [.write [7, 8]] (encFrames [[7]]) (by rw [he]; decide) (by rw [he]; decide)
  revert this
  decide

/-- the codecs the native driver runs -/
def toyCodecs : Codecs := ⟨toyGzip, toySnappy 65536 (by decide)⟩

theorem selectEncoding_cases (a : Str) :
    selectEncoding a = [] ∨ selectEncoding a = gzip ∨ selectEncoding a = snappy := by
  rw [selectEncoding_eq]
  split
  · exact Or.inr (Or.inr rfl)
  · split
    · exact Or.inr (Or.inl rfl)
    · exact Or.inl rfl

theorem selectEncoding_mem (a : Str) (h : selectEncoding a ≠ []) : selectEncoding a ∈ tokens a := by
  rw [selectEncoding_eq] at h ⊢
  split
  · assumption
  · next h1 =>
    split
    · assumption
    · next h2 => simp [h1, h2] at h

theorem gzip_ne_nil : gzip ≠ [] := by decide
theorem snappy_ne_nil : snappy ≠ [] := by decide

theorem codingOf_nil : codingOf [] = some .identity := by decide
theorem codingOf_identity : codingOf identity = some .identity := by decide
theorem codingOf_gzip : codingOf gzip = some .gzip := by decide
theorem codingOf_snappy : codingOf snappy = some .snappy := by decide

theorem codingOf_name (k : Coding) : codingOf (codingName k) = some k := by
  cases k <;> decide

theorem codingOf_none_iff (v : Str) :
    codingOf v = none ↔ v ≠ [] ∧ v ≠ identity ∧ v ≠ gzip ∧ v ≠ snappy := by
  unfold codingOf
  by_cases h1 : v = [] ∨ v = identity
  · simp only [h1, if_true]
    rcases h1 with h | h <;> simp [h]
  · simp only [h1, if_false]
    have h1' : v ≠ [] ∧ v ≠ identity := by
      constructor
      · intro h; exact h1 (Or.inl h)
      · intro h; exact h1 (Or.inr h)
    by_cases h2 : v = gzip
    · simp [h2]
    · by_cases h3 : v = snappy
      · simp [h3, Ne.symm gzip_ne_snappy]
      · simp [h2, h3, h1'.1, h1'.2]

theorem RW.fold_of_sent (ops : List HOp) (w : RW) (x : Nat × Hdr) (h : w.sent = some x) :
    ops.foldl RW.step w = { w with body := w.body ++ plainOfOps ops } := by
  induction ops generalizing w with
  | nil => simp [plainOfOps]
  | cons o ops ih =>
    cases o with
    | header s =>
      have e : RW.step w (.header s) = w := by simp [RW.step, RW.writeHeader, h]
      simp only [List.foldl_cons, e, ih w h, plainOfOps]
    | write d =>
      have e : RW.step w (.write d) = { w with body := w.body ++ d } := by
        simp [RW.step, RW.write, RW.writeHeader, h]
      simp only [List.foldl_cons, e, plainOfOps]
      rw [ih _ (by simpa using h)]
      simp [List.append_assoc]
    | flush =>
      have e : RW.step w .flush = w := by simp [RW.step, RW.flush, RW.writeHeader, h]
      simp only [List.foldl_cons, e, ih w h, plainOfOps]

theorem RW.fold_fresh (ops : List HOp) (hd : Hdr) :
    (ops.foldl RW.step ⟨hd, none, []⟩).writeHeader 200 = ⟨hd, some (statusOfOps ops, hd), plainOfOps ops⟩ := by
  cases ops with
  | nil => simp [RW.writeHeader, statusOfOps, plainOfOps]
  | cons o ops =>
    cases o with
    | header s =>
      simp only [List.foldl_cons, RW.step]
      rw [RW.fold_of_sent ops _ (s, hd) (by simp [RW.writeHeader])]
      simp [RW.writeHeader, statusOfOps, plainOfOps]
    | write d =>
      simp only [List.foldl_cons, RW.step]
      rw [RW.fold_of_sent ops _ (200, hd) (by simp [RW.write, RW.writeHeader])]
      simp [RW.write, RW.writeHeader, statusOfOps, plainOfOps]
    | flush =>
      simp only [List.foldl_cons, RW.step]
      rw [RW.fold_of_sent ops _ (200, hd) (by simp [RW.flush, RW.writeHeader])]
      simp [RW.flush, RW.writeHeader, statusOfOps, plainOfOps]

def hasWrite : List HOp → Bool
  | [] => false
  | .write _ :: _ => true
  | _ :: r => hasWrite r

/-- what reaches the compressor: flushes before the first `Write` find `wc == nil` -/
def wopsFrom : Bool → List HOp → List WOp
  | _, [] => []
  | st, .header _ :: r => wopsFrom st r
  | _, .write d :: r => .write d :: wopsFrom true r
  | st, .flush :: r => if st then .flush :: wopsFrom st r else wopsFrom st r

theorem plainOf_append (a b : List WOp) : plainOf (a ++ b) = plainOf a ++ plainOf b := by
  induction a with
  | nil => simp [plainOf]
  | cons w a ih => cases w <;> simp [plainOf, ih]

theorem plainOf_wopsFrom (st : Bool) (ops : List HOp) : plainOf (wopsFrom st ops) = plainOfOps ops := by
  induction ops generalizing st with
  | nil => simp [wopsFrom, plainOf, plainOfOps]
  | cons o ops ih =>
    cases o with
    | header s => simp [wopsFrom, plainOfOps, ih]
    | write d => simp [wopsFrom, plainOf, plainOfOps, ih]
    | flush =>
      cases st <;> simp [wopsFrom, plainOf, plainOfOps, ih]

def RC.flushTail (c : RC) : RC :=
  let c1 : RC := if c.started then { c with sched := c.sched ++ [.flush] } else c
  { c1 with rw := c1.rw.flush }

theorem RC.step_flush (fx : Bool) (c : RC) :
    RC.step fx c .flush = RC.flushTail (if fx = true ∧ c.wroteHeader = false then c.headerStep 200 else c) := rfl

theorem RC.step_header (fx : Bool) (c : RC) (s : Nat) : RC.step fx c (.header s) = c.headerStep s := rfl

/-- once the header is out and `wroteHeader` holds, an operation only appends to `sched` -/
theorem RC.fold_of_sent (fx : Bool) (ops : List HOp) (c : RC) (x : Nat × Hdr) (hs : c.rw.sent = some x) (hw : c.wroteHeader = true) :
    ops.foldl (RC.step fx) c =
      { c with started := c.started || hasWrite ops, sched := c.sched ++ wopsFrom c.started ops } := by
  induction ops generalizing c with
  | nil => simp [hasWrite, wopsFrom]
  | cons o ops ih =>
    cases o with
    | header s =>
      have e : RC.step fx c (.header s) = c := by
        obtain ⟨rw, enc, wh, st, sc⟩ := c
        simp only at hs hw
        subst hw
        simp [RC.step, RC.headerStep, RW.writeHeader, hs]
      simp only [List.foldl_cons, e, ih c hs hw, hasWrite, wopsFrom]
    | write d =>
      have e : RC.step fx c (.write d) = { c with started := true, sched := c.sched ++ [.write d] } := by
        cases hst : c.started <;> simp [RC.step, hw, hst]
      simp only [List.foldl_cons, e, hasWrite, wopsFrom]
      rw [ih _ (by simpa using hs) (by simpa using hw)]
      simp [List.append_assoc]
    | flush =>
      have e0 : RC.step fx c .flush = RC.flushTail c := by
        rw [RC.step_flush]; simp [hw]
      cases hst : c.started with
      | false =>
        have e : RC.step fx c .flush = c := by
          rw [e0]
          obtain ⟨rw, enc, wh, st, sc⟩ := c
          simp only at hs hw hst
          subst hst
          simp [RC.flushTail, RW.flush, RW.writeHeader, hs]
        simp only [List.foldl_cons, e, ih c hs hw, hasWrite, wopsFrom, hst]
        simp
      | true =>
        have e : RC.step fx c .flush = { c with sched := c.sched ++ [.flush] } := by
          rw [e0]
          simp [RC.flushTail, hst, RW.flush, RW.writeHeader, hs]
        simp only [List.foldl_cons, e, hasWrite, wopsFrom]
        rw [ih _ (by simpa using hs) (by simpa using hw)]
        simp [hst, List.append_assoc]

/-- the compressor on a fresh writer -/
def rc0 (e : Str) : RC := ⟨⟨⟨none, none⟩, none, []⟩, e, false, false, []⟩

/-! Every first operation of a handler on a fresh compressor reaches `rw.WriteHeader`, and net/http ignores every later
  one: status and header of the answer are a function of the FIRST operation (`firstSent`), whatever follows.  What the
  answer's header can and cannot say (C09) is read off that table. -/

def firstSent (fx : Bool) (e : Str) : HOp → Nat × Hdr
  | .header s => (s, ⟨if s < 300 ∧ e ≠ [] ∧ e ≠ identity then some e else none, none⟩)
  | .write _ => (200, ⟨some e, none⟩)
  | .flush => (200, ⟨if fx = true ∧ e ≠ [] ∧ e ≠ identity then some e else none, none⟩)

/-- net/http: the first `WriteHeader` wins -/
theorem RW.writeHeader_of_sent (w : RW) (s : Nat) (x : Nat × Hdr) (h : w.sent = some x) : w.writeHeader s = w := by
  simp [RW.writeHeader, h]

theorem RW.writeHeader_keeps (w : RW) (s : Nat) (x : Nat × Hdr) (h : w.sent = some x) : (w.writeHeader s).sent = some x := by
  rw [RW.writeHeader_of_sent w s x h, h]

theorem RC.headerStep_keeps_sent (c : RC) (s : Nat) (x : Nat × Hdr) (h : c.rw.sent = some x) :
    (c.headerStep s).rw.sent = some x := by
  unfold RC.headerStep
  apply RW.writeHeader_keeps
  split
  · exact h
  · split
    · exact h
    · split <;> exact h

theorem RC.step_keeps_sent (fx : Bool) (c : RC) (o : HOp) (x : Nat × Hdr) (h : c.rw.sent = some x) :
    (c.step fx o).rw.sent = some x := by
  cases o with
  | header s => exact RC.headerStep_keeps_sent c s x h
  | write d =>
    dsimp only [RC.step]
    split
    · exact h
    · split
      · exact h
      · exact RW.writeHeader_keeps _ _ x h
  | flush =>
    rw [RC.step_flush]
    have : ∀ c' : RC, c'.rw.sent = some x → c'.flushTail.rw.sent = some x := by
      intro c' h'
      unfold RC.flushTail
      apply RW.writeHeader_keeps
      split <;> exact h'
    apply this
    split
    · exact RC.headerStep_keeps_sent c 200 x h
    · exact h

theorem RC.fold_keeps_sent (fx : Bool) (ops : List HOp) (c : RC) (x : Nat × Hdr) (h : c.rw.sent = some x) :
    (ops.foldl (RC.step fx) c).rw.sent = some x := by
  induction ops generalizing c with
  | nil => exact h
  | cons o _ ih => exact ih _ (RC.step_keeps_sent fx c o x h)

theorem RC.first_sent (fx : Bool) (e : Str) (o : HOp) : ((rc0 e).step fx o).rw.sent = some (firstSent fx e o) := by
  cases o with
  | header s =>
    by_cases h3 : s ≥ 300
    · have : ¬ s < 300 := by omega
      simp [RC.step, RC.headerStep, rc0, h3, this, RW.writeHeader, firstSent]
    · have : s < 300 := by omega
      by_cases he : e ≠ [] ∧ e ≠ identity <;> simp [RC.step, RC.headerStep, rc0, h3, this, he, RW.writeHeader, RW.setCE, firstSent]
  | write d => simp [RC.step, rc0, RW.writeHeader, RW.setCE, firstSent]
  | flush =>
    cases fx
    · simp [RC.step, rc0, RW.flush, RW.writeHeader, firstSent]
    · by_cases he : e ≠ [] ∧ e ≠ identity <;>
        simp [RC.step, RC.headerStep, rc0, he, RW.flush, RW.writeHeader, RW.setCE, firstSent]

theorem RC.run_sent (fx : Bool) (e : Str) (o : HOp) (rest : List HOp) :
    ((o :: rest).foldl (RC.step fx) (rc0 e)).rw.sent = some (firstSent fx e o) :=
  RC.fold_keeps_sent fx rest _ _ (RC.first_sent fx e o)

/-- the body the compressor leaves behind at `Close` -/
def RC.finalBody (fx : Bool) (C : Codecs) (c : RC) : Bytes :=
  if c.started then (C.ofStr c.encoding).enc c.sched
  else if fx = true ∧ c.wroteHeader = true ∧ c.encoding ≠ [] ∧ c.encoding ≠ identity then
    (C.ofStr c.encoding).enc (c.sched ++ [.write []])
  else []

theorem RC.finish_eq (fx : Bool) (C : Codecs) (c : RC) :
    c.finish fx C = ({ c.rw with body := c.finalBody fx C } : RW).writeHeader 200 := by
  unfold RC.finish RC.finalBody
  by_cases h : fx = true ∧ c.started = false ∧ c.wroteHeader = true ∧ c.encoding ≠ [] ∧ c.encoding ≠ identity
  · simp [h]
  · rw [if_neg h]
    cases hst : c.started with
    | true => simp [hst]
    | false =>
      have : ¬ (fx = true ∧ c.wroteHeader = true ∧ c.encoding ≠ [] ∧ c.encoding ≠ identity) := fun h' => h ⟨h'.1, hst, h'.2⟩
      simp [hst, this]

theorem RC.finish_of_sent (fx : Bool) (C : Codecs) (c : RC) (x : Nat × Hdr) (h : c.rw.sent = some x) :
    c.finish fx C = { c.rw with body := c.finalBody fx C } := by
  rw [RC.finish_eq, RW.writeHeader, h]

theorem ofStr_nil (C : Codecs) : C.ofStr [] = idCodec := by
  simp [Codecs.ofStr, codingOf_nil, Codecs.of]

theorem ofStr_gzip (C : Codecs) : C.ofStr gzip = C.gz := by
  simp [Codecs.ofStr, codingOf_gzip, Codecs.of]

theorem ofStr_snappy (C : Codecs) : C.ofStr snappy = C.sn := by
  simp [Codecs.ofStr, codingOf_snappy, Codecs.of]

theorem plainOfOps_of_not_hasWrite (ops : List HOp) (h : hasWrite ops = false) : plainOfOps ops = [] := by
  induction ops with
  | nil => rfl
  | cons o ops ih => cases o <;> simp_all [hasWrite, plainOfOps]

theorem RC.run_nil (fx : Bool) (C : Codecs) (e : Str) :
    (([] : List HOp).foldl (RC.step fx) (rc0 e)).finish fx C = ⟨⟨none, none⟩, some (200, ⟨none, none⟩), []⟩ := by
  simp [rc0, RC.finish, RW.writeHeader]

theorem RC.run_header_err (fx : Bool) (C : Codecs) (e : Str) (s : Nat) (rest : List HOp) (hs : 300 ≤ s) :
    ((HOp.header s :: rest).foldl (RC.step fx) (rc0 e)).finish fx C
      = ⟨⟨none, none⟩, some (s, ⟨none, none⟩), plainOfOps rest⟩ := by
  have h1 : RC.step fx (rc0 e) (.header s) = ⟨⟨⟨none, none⟩, some (s, ⟨none, none⟩), []⟩, [], true, false, []⟩ := by
    simp [RC.step, RC.headerStep, rc0, hs, RW.writeHeader]
  simp only [List.foldl_cons, h1]
  rw [RC.fold_of_sent fx rest _ (s, ⟨none, none⟩) rfl rfl, RC.finish_of_sent fx C _ (s, ⟨none, none⟩) rfl]
  simp only [RC.finalBody, Bool.false_or, List.nil_append, ofStr_nil]
  cases hw : hasWrite rest with
  | true => simp [idCodec, plainOf_wopsFrom]
  | false => simp [plainOfOps_of_not_hasWrite rest hw]

theorem RC.run_header_ok (fx : Bool) (C : Codecs) (e : Str) (s : Nat) (rest : List HOp) (hs : s < 300)
    (he : e ≠ [] ∧ e ≠ identity) :
    ((HOp.header s :: rest).foldl (RC.step fx) (rc0 e)).finish fx C
      = ⟨⟨some e, none⟩, some (s, ⟨some e, none⟩),
          if hasWrite rest then (C.ofStr e).enc (wopsFrom false rest)
          else if fx then (C.ofStr e).enc (wopsFrom false rest ++ [.write []]) else []⟩ := by
  have h3 : ¬ s ≥ 300 := by omega
  have h1 : RC.step fx (rc0 e) (.header s)
      = ⟨⟨⟨some e, none⟩, some (s, ⟨some e, none⟩), []⟩, e, true, false, []⟩ := by
    simp [RC.step, RC.headerStep, rc0, h3, he, RW.writeHeader, RW.setCE]
  simp only [List.foldl_cons, h1]
  rw [RC.fold_of_sent fx rest _ (s, ⟨some e, none⟩) rfl rfl, RC.finish_of_sent fx C _ (s, ⟨some e, none⟩) rfl]
  cases hw : hasWrite rest <;> cases fx <;> simp [RC.finalBody, he]

theorem RC.run_write (fx : Bool) (C : Codecs) (e : Str) (d : Bytes) (rest : List HOp) :
    ((HOp.write d :: rest).foldl (RC.step fx) (rc0 e)).finish fx C
      = ⟨⟨some e, none⟩, some (200, ⟨some e, none⟩), (C.ofStr e).enc (.write d :: wopsFrom true rest)⟩ := by
  have h1 : RC.step fx (rc0 e) (.write d)
      = ⟨⟨⟨some e, none⟩, some (200, ⟨some e, none⟩), []⟩, e, true, true, [.write d]⟩ := by
    simp [RC.step, rc0, RW.writeHeader, RW.setCE]
  simp only [List.foldl_cons, h1]
  rw [RC.fold_of_sent fx rest _ (200, ⟨some e, none⟩) rfl rfl, RC.finish_of_sent fx C _ (200, ⟨some e, none⟩) rfl]
  simp [RC.finalBody]

/-- F-chttp-flush, the code before the repair: after a first `Flush()` the header went out without Content-Encoding, the
    body is compressed all the same -/
theorem RC.run_flush_write (C : Codecs) (e : Str) (d : Bytes) (rest : List HOp) :
    ((HOp.flush :: HOp.write d :: rest).foldl (RC.step false) (rc0 e)).finish false C
      = ⟨⟨some e, none⟩, some (200, ⟨none, none⟩), (C.ofStr e).enc (.write d :: wopsFrom true rest)⟩ := by
  have h1 : RC.step false (RC.step false (rc0 e) .flush) (.write d)
      = ⟨⟨⟨some e, none⟩, some (200, ⟨none, none⟩), []⟩, e, true, true, [.write d]⟩ := by
    simp [RC.step, rc0, RW.writeHeader, RW.setCE, RW.flush]
  simp only [List.foldl_cons, h1]
  rw [RC.fold_of_sent false rest _ (200, ⟨none, none⟩) rfl rfl, RC.finish_of_sent false C _ (200, ⟨none, none⟩) rfl]
  simp [RC.finalBody]

/-- after the repair of F-chttp-flush a first `Flush()` acts like `WriteHeader(200)` -/
theorem RC.run_flush_fixed (C : Codecs) (e : Str) (rest : List HOp) (he : e ≠ [] ∧ e ≠ identity) :
    ((HOp.flush :: rest).foldl (RC.step true) (rc0 e)).finish true C
      = ((HOp.header 200 :: rest).foldl (RC.step true) (rc0 e)).finish true C := by
  have h1 : RC.step true (rc0 e) .flush = RC.step true (rc0 e) (.header 200) := by
    simp [RC.step, RC.headerStep, rc0, he, RW.writeHeader, RW.setCE, RW.flush]
  simp only [List.foldl_cons, h1]

theorem middleware_refuse (fx : Bool) (C : Codecs) (next : Handler) (preCL : Option Nat) (r : Req)
    (h : requestCoding r = none) : middlewareG fx C next preCL r = httpError 415 msg415 := by
  simp [middlewareG, h]

theorem middleware_badopen (fx : Bool) (C : Codecs) (next : Handler) (preCL : Option Nat) (r : Req) (k : Coding)
    (h : requestCoding r = some k) (ho : (C.of k).opens r.body.1 = false) :
    middlewareG fx C next preCL r = httpError 400 msg400 := by
  simp [middlewareG, h, ho]

theorem middleware_plain (fx : Bool) (C : Codecs) (next : Handler) (preCL : Option Nat) (r : Req) (k : Coding)
    (h : requestCoding r = some k) (ho : (C.of k).opens r.body.1 = true)
    (he : responseEncoding r = []) :
    middlewareG fx C next preCL r =
      ⟨statusOfOps (next (readAll (C.of k) r.body)), none, acceptedEncodings, preCL,
        plainOfOps (next (readAll (C.of k) r.body)), some (readAll (C.of k) r.body)⟩ := by
  simp [middlewareG, h, ho, he, RW.fold_fresh, respOf]

theorem middleware_compressed (fx : Bool) (C : Codecs) (next : Handler) (preCL : Option Nat) (r : Req) (k : Coding)
    (h : requestCoding r = some k) (ho : (C.of k).opens r.body.1 = true)
    (he : responseEncoding r ≠ []) :
    middlewareG fx C next preCL r =
      respOf (((next (readAll (C.of k) r.body)).foldl (RC.step fx) (rc0 (responseEncoding r))).finish fx C)
        (some (readAll (C.of k) r.body)) := by
  have hne : responseEncoding r ≠ identity := by
    rcases selectEncoding_cases (headerGet r.ae) with h1 | h1 | h1
    · exact absurd h1 he
    · show selectEncoding _ ≠ identity; rw [h1]; decide
    · show selectEncoding _ ≠ identity; rw [h1]; decide
  simp [middlewareG, h, ho, he, hne, rc0, RW.setCL]

theorem respOf_ran (w : RW) (ran : Option Read) : (respOf w ran).ran = ran := by
  unfold respOf; split <;> rfl

theorem middleware_ran (fx : Bool) (C : Codecs) (next : Handler) (preCL : Option Nat) (r : Req) (k : Coding)
    (h : requestCoding r = some k) (ho : (C.of k).opens r.body.1 = true) :
    (middlewareG fx C next preCL r).ran = some (readAll (C.of k) r.body) := by
  by_cases he : responseEncoding r = []
  · rw [middleware_plain fx C next preCL r k h ho he]
  · rw [middleware_compressed fx C next preCL r k h ho he, respOf_ran]

/-- the three ways the middleware answers: 415 and 400 without running the handler, or the handler run on the decoded body -/
theorem middleware_gate (fx : Bool) (C : Codecs) (next : Handler) (pre : Option Nat) (r : Req) :
    (requestCoding r = none ∧ middlewareG fx C next pre r = httpError 415 msg415) ∨
    (∃ k, requestCoding r = some k ∧ (C.of k).opens r.body.1 = false ∧ middlewareG fx C next pre r = httpError 400 msg400) ∨
    (∃ k, requestCoding r = some k ∧ (C.of k).opens r.body.1 = true ∧
      (middlewareG fx C next pre r).ran = some (readAll (C.of k) r.body)) := by
  cases hk : requestCoding r with
  | none => exact Or.inl ⟨rfl, middleware_refuse fx C next pre r hk⟩
  | some k =>
    cases ho : (C.of k).opens r.body.1 with
    | false => exact Or.inr (Or.inl ⟨k, rfl, ho, middleware_badopen fx C next pre r k hk ho⟩)
    | true => exact Or.inr (Or.inr ⟨k, rfl, ho, middleware_ran fx C next pre r k hk ho⟩)

theorem readAll_eof (c : Codec) (w p : Bytes) (h : c.dec w = some p) : readAll c (w, .eof) = .complete p := by
  simp [readAll, h]

theorem readAll_error (c : Codec) (w : Bytes) (t : Bool) : readAll c (w, .error t) = .failed := by
  simp [readAll]

theorem clientRead_plain (C : Codecs) (explicit chunked : Bool) (s : Nat) (ae : Str) (cl : Option Nat) (w : Bytes)
    (ran : Option Read) : clientRead C explicit chunked ⟨s, none, ae, cl, w, ran⟩ .eof = .body s (.complete w) := by
  simp [clientRead, codingOf_nil, Codecs.of, idCodec, readAll]

theorem clientRead_encoded (C : Codecs) (explicit chunked : Bool) (e : Str) (he : e = gzip ∨ e = snappy) (s : Nat)
    (ae : Str) (cl : Option Nat) (w p : Bytes) (ran : Option Read) (hdec : (C.ofStr e).dec w = some p) :
    clientRead C explicit chunked ⟨s, some e, ae, cl, w, ran⟩ .eof = .body s (.complete p) := by
  rcases he with he | he
  · subst he
    rw [ofStr_gzip] at hdec
    have ho := C.gz.opens_of_dec w p hdec
    -- an empty gzip body is the one place where the two decoders differ: the transport's own layer (no explicit
    -- Accept-Encoding, chunked framing) turns it into a clean end at once, relic's `gzip.NewReader` has to open it
    by_cases hw : w = []
    · subst hw
      have := C.gz.dec_nil p hdec
      subst this
      by_cases hc : explicit = false ∧ chunked = true
      · simp [clientRead, hc.1, hc.2]
      · have : ¬ (explicit = false ∧ some gzip = some gzip ∧ (([] : Bytes) ≠ [] ∨ chunked = true)) := by
          intro h; exact hc ⟨h.1, by simpa using h.2.2⟩
        rw [clientRead, if_neg this]
        simp [codingOf_gzip, Codecs.of, ho, readAll, hdec]
    · cases explicit with
      | false => simp [clientRead, readAll, hdec, hw]
      | true => simp [clientRead, codingOf_gzip, Codecs.of, ho, readAll, hdec]
  · subst he
    rw [ofStr_snappy] at hdec
    have ho := C.sn.opens_of_dec w p hdec
    have hne : snappy ≠ gzip := Ne.symm gzip_ne_snappy
    simp [clientRead, codingOf_snappy, Codecs.of, ho, readAll, hdec, hne]

theorem responseEncoding_cases (r : Req) :
    responseEncoding r = [] ∨ responseEncoding r = gzip ∨ responseEncoding r = snappy :=
  selectEncoding_cases _

theorem requestCoding_name (k : Coding) (ae : List Str) (b : Stream) :
    requestCoding ⟨[codingName k], ae, b⟩ = some k := by
  show codingOf (headerGet [codingName k]) = some k
  cases k <;> decide

theorem respOf_finish (fx : Bool) (C : Codecs) (c : RC) (ran : Option Read) :
    respOf (c.finish fx C) ran =
      match c.rw.sent with
      | some (s, h) => ⟨s, h.ce, acceptedEncodings, h.cl, c.finalBody fx C, ran⟩
      | none => ⟨200, c.rw.hdr.ce, acceptedEncodings, c.rw.hdr.cl, c.finalBody fx C, ran⟩ := by
  rw [RC.finish_eq]
  cases hs : c.rw.sent <;> simp [respOf, RW.writeHeader, hs]

/-- the four answers of the middleware.  With a response encoding, whatever the handler does, the header that goes
    out has no Content-Length, names no coding but the negotiated one, and none at all from status 300 on; its status
    is the one a plain `ResponseWriter` would have sent. -/
theorem middleware_cases (fx : Bool) (C : Codecs) (next : Handler) (pre : Option Nat) (r : Req) :
    middlewareG fx C next pre r = httpError 415 msg415 ∨ middlewareG fx C next pre r = httpError 400 msg400 ∨
    (∃ rd, responseEncoding r = [] ∧ middlewareG fx C next pre r =
      ⟨statusOfOps (next rd), none, acceptedEncodings, pre, plainOfOps (next rd), some rd⟩) ∨
    (∃ rd ce body, responseEncoding r ≠ [] ∧
      middlewareG fx C next pre r = ⟨statusOfOps (next rd), ce, acceptedEncodings, none, body, some rd⟩ ∧
      (ce = none ∨ ce = some (responseEncoding r)) ∧ (300 ≤ statusOfOps (next rd) → ce = none)) := by
  rcases middleware_gate fx C next pre r with ⟨_, h0⟩ | ⟨_, _, _, h0⟩ | ⟨k, hk, ho, _⟩
  · exact .inl h0
  · exact .inr (.inl h0)
  · by_cases he : responseEncoding r = []
    · exact .inr (.inr (.inl ⟨_, he, middleware_plain fx C next pre r k hk ho he⟩))
    · refine .inr (.inr (.inr ⟨readAll (C.of k) r.body, ?_⟩))
      rw [middleware_compressed fx C next pre r k hk ho he, respOf_finish]
      cases hops : next (readAll (C.of k) r.body) with
      | nil => exact ⟨none, _, he, rfl, .inl rfl, fun _ => rfl⟩
      | cons o rest =>
        rw [RC.run_sent]
        cases o with
        | header s =>
          refine ⟨_, _, he, rfl, ?_, fun (h : 300 ≤ s) => if_neg fun h' => by omega⟩
          dsimp only; split <;> simp
        | write d => exact ⟨_, _, he, rfl, .inr rfl, fun (h : 300 ≤ 200) => by omega⟩
        | flush =>
          refine ⟨_, _, he, rfl, ?_, fun (h : 300 ≤ 200) => by omega⟩
          dsimp only; split <;> simp

/-- an answer whose body is what the handler wrote, as it is or under the coding its header names -/
def Carries (C : Codecs) (e : Str) (resp : Resp) (s : Nat) (p : Bytes) : Prop :=
  resp.status = s ∧ (resp.ce = none ∧ resp.body = p ∨ resp.ce = some e ∧ (C.ofStr e).dec resp.body = some p)

theorem clientRead_carries (C : Codecs) (explicit chunked : Bool) (e : Str) (he : e = gzip ∨ e = snappy) (resp : Resp)
    (s : Nat) (p : Bytes) (h : Carries C e resp s p) : clientRead C explicit chunked resp .eof = .body s (.complete p) := by
  obtain ⟨s', ce, ae, cl, w, ran⟩ := resp
  obtain ⟨rfl, ⟨rfl, rfl⟩ | ⟨rfl, hd⟩⟩ := h
  · exact clientRead_plain C explicit chunked _ ae cl _ ran
  · exact clientRead_encoded C explicit chunked e he _ ae cl w p ran hd

/-- the compressing writer refines the plain one: the answer carries the status a plain `ResponseWriter` would have sent
    and the bytes the handler wrote.  Before the repair (`fx = false`) unless the handler flushes first (`h1`) or announces
    a status below 300 and never writes, to a codec that does not accept an empty stream (`h2`). -/
theorem RC.run_carries (fx : Bool) (C : Codecs) (e : Str) (hne : e ≠ [] ∧ e ≠ identity) (ops : List HOp) (ran : Option Read)
    (h1 : fx = true ∨ ops.head? ≠ some .flush)
    (h2 : hasWrite ops = true ∨ 300 ≤ statusOfOps ops ∨ ops = [] ∨ (C.ofStr e).dec [] = some [] ∨ fx = true) :
    Carries C e (respOf ((ops.foldl (RC.step fx) (rc0 e)).finish fx C) ran) (statusOfOps ops) (plainOfOps ops) := by
  have hdr : ∀ s rest, (hasWrite rest = true ∨ 300 ≤ s ∨ (C.ofStr e).dec [] = some [] ∨ fx = true) →
      Carries C e (respOf (((HOp.header s :: rest).foldl (RC.step fx) (rc0 e)).finish fx C) ran) s (plainOfOps rest) := by
    intro s rest h
    by_cases hs : 300 ≤ s
    · rw [RC.run_header_err fx C e s rest hs]
      exact ⟨rfl, .inl ⟨rfl, rfl⟩⟩
    · rw [RC.run_header_ok fx C e s rest (by omega) hne]
      refine ⟨rfl, .inr ⟨rfl, ?_⟩⟩
      show (C.ofStr e).dec (if hasWrite rest = true then _ else if fx = true then _ else []) = _
      cases hw : hasWrite rest with
      | true => rw [if_pos rfl, (C.ofStr e).roundtrip, plainOf_wopsFrom]
      | false =>
        rw [if_neg (by simp), plainOfOps_of_not_hasWrite rest hw]
        cases fx with
        | true =>
          rw [if_pos rfl, (C.ofStr e).roundtrip, plainOf_append, plainOf_wopsFrom, plainOfOps_of_not_hasWrite rest hw]
          rfl
        | false =>
          -- announced and never written to: the empty body must be a stream of the coding
          rw [if_neg (by simp)]
          rcases h with h | h | h | h
          · rw [hw] at h; cases h
          · exact absurd h hs
          · exact h
          · cases h
  cases ops with
  | nil => rw [RC.run_nil]; exact ⟨rfl, .inl ⟨rfl, rfl⟩⟩
  | cons o rest =>
    cases o with
    | header s => exact hdr s rest (h2.imp id (Or.imp id fun h => h.resolve_left (List.cons_ne_nil _ _)))
    | write d =>
      rw [RC.run_write]
      refine ⟨rfl, .inr ⟨rfl, ?_⟩⟩
      show (C.ofStr e).dec ((C.ofStr e).enc _) = _
      rw [(C.ofStr e).roundtrip]
      simp [plainOf, plainOf_wopsFrom, plainOfOps]
    | flush =>
      -- only after the repair: a first `Flush()` acts like `WriteHeader(200)`
      obtain rfl := h1.resolve_right (fun h => h rfl)
      rw [RC.run_flush_fixed C e rest hne]
      exact hdr 200 rest (.inr (.inr (.inr rfl)))

theorem middleware_roundtrip (fx : Bool) (C : Codecs) (next : Handler) (pre : Option Nat) (r : Req) (k : Coding)
    (explicit chunked : Bool) (hk : requestCoding r = some k) (ho : (C.of k).opens r.body.1 = true)
    (h1 : fx = true ∨ (next (readAll (C.of k) r.body)).head? ≠ some .flush)
    (h2 : hasWrite (next (readAll (C.of k) r.body)) = true ∨ 300 ≤ statusOfOps (next (readAll (C.of k) r.body)) ∨
      next (readAll (C.of k) r.body) = [] ∨ (C.ofStr (responseEncoding r)).dec [] = some [] ∨ fx = true) :
    clientRead C explicit chunked (middlewareG fx C next pre r) .eof =
      .body (statusOfOps (next (readAll (C.of k) r.body))) (.complete (plainOfOps (next (readAll (C.of k) r.body)))) := by
  by_cases he : responseEncoding r = []
  · rw [middleware_plain fx C next pre r k hk ho he, clientRead_plain]
  · have hgs : responseEncoding r = gzip ∨ responseEncoding r = snappy := (responseEncoding_cases r).resolve_left he
    have hne : responseEncoding r ≠ [] ∧ responseEncoding r ≠ identity :=
      ⟨he, by rcases hgs with h | h <;> rw [h] <;> decide⟩
    rw [middleware_compressed fx C next pre r k hk ho he]
    exact clientRead_carries C explicit chunked _ hgs _ _ _ (RC.run_carries fx C _ hne _ _ h1 h2)

theorem clientRequest_read (C : Codecs) (accept : Str) (sched : List WOp) :
    ∃ k, requestCoding (clientRequest C accept sched .eof) = some k ∧
      (C.of k).opens (clientRequest C accept sched .eof).body.1 = true ∧
      readAll (C.of k) (clientRequest C accept sched .eof).body = .complete (plainOf sched) := by
  have key : ∀ (e : Str) (k : Coding), selectEncoding accept = e → codingOf e = some k → (e = [] ∨ httpTrim e = e) →
      requestCoding (clientRequest C accept sched .eof) = some k ∧
      (C.of k).opens (clientRequest C accept sched .eof).body.1 = true ∧
      readAll (C.of k) (clientRequest C accept sched .eof).body = .complete (plainOf sched) := by
    intro e k he hk ht
    have hreq : requestCoding (clientRequest C accept sched .eof) = some k := by
      unfold requestCoding clientRequest headerGet
      simp only [he]
      by_cases hn : e = []
      · subst hn; simpa using hk
      · simp only [hn, if_false, List.map_cons, List.map_nil, List.headD_cons]
        rw [ht.resolve_left hn]; exact hk
    have hbody : (clientRequest C accept sched .eof).body = ((C.of k).enc sched, .eof) := by
      simp [clientRequest, he, Codecs.ofStr, hk]
    have hdec := (C.of k).roundtrip sched
    rw [hbody]
    exact ⟨hreq, (C.of k).opens_of_dec _ _ hdec, readAll_eof _ _ _ hdec⟩
  rcases selectEncoding_cases accept with h | h | h
  · exact ⟨_, key [] .identity h codingOf_nil (Or.inl rfl)⟩
  · exact ⟨_, key gzip .gzip h codingOf_gzip (Or.inr (by decide))⟩
  · exact ⟨_, key snappy .snappy h codingOf_snappy (Or.inr (by decide))⟩

end Relic.CompressHttp
