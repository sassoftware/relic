/-
  Relic.Proofs.ZipAgree — agreement of the two ZIP readers (C17): the model of lib/zipslicer (`Relic.Model.Zip`) against
  the specification (`Relic.Spec.Zip`): one central record in both directions (with the two ways of resolving the ZIP64
  markers), the directory, and `read` vs `parse`.
-/
import Relic.Proofs.ZipEnds
namespace Relic.Zip
open Relic.SpecZip

/-- what `ReadWithDirectory` does with the payload of the first ZIP64 extra field -/
def applyZ64 (needU : Bool) (st : Z64State) (e : Bytes) : Z64State :=
  let st := if needU ∧ e.length ≥ 8 then { st with usize := fld e 0 8 } else st
  let st := if st.needC ∧ e.length ≥ 16 then { st with csize := fld e 8 8, needC := false } else st
  let st := if st.needO ∧ e.length ≥ 24 then { st with offset := fld e 16 8, needO := false } else st
  st

/-- both sides walk the extra block in the same way and stop at the same (first) tag-1 field -/
theorem scanExtra_eq (needU : Bool) (st : Z64State) : ∀ (fuel : Nat) (extra : Bytes),
    scanExtra needU st fuel extra =
      match zip64Field fuel extra with
      | none => st
      | some p => applyZ64 needU st p := by
  intro fuel
  induction fuel with
  | zero => intro extra; rfl
  | succ fuel ih =>
    intro extra
    unfold scanExtra zip64Field
    by_cases c1 : extra.length < 4
    · rw [if_pos c1, if_pos c1]
    · rw [if_neg c1, if_neg c1]
      have e0 : fld extra 0 2 = leVal (extra.take 2) := rfl
      have e2 : fld extra 2 2 = leVal ((extra.drop 2).take 2) := rfl
      simp only [e0, e2]
      generalize leVal (extra.take 2) = tag
      generalize leVal ((extra.drop 2).take 2) = sz
      by_cases c2 : extra.length - 4 < sz
      · rw [if_pos c2, if_pos c2]
      · rw [if_neg c2, if_neg c2]
        by_cases c3 : tag = 1
        · rw [if_pos c3, if_pos c3]
          have hl : ((extra.drop 4).take sz).length = sz := by
            rw [List.length_take, List.length_drop]; omega
          simp only [applyZ64, hl]
        · rw [if_neg c3, if_neg c3]
          exact ih _

/-- **the fixed-position reading (`ReadWithDirectory`) in closed form**: field `j` is taken from offset `8 j` when it is
    marked and the payload reaches behind it; exactly then its marker is cleared (the one on the uncompressed size is
    never looked at again) -/
theorem applyZ64_eq (nu : Bool) (u c o : Nat) (nc no : Bool) (p : Bytes) :
    applyZ64 nu ⟨u, c, o, nc, no⟩ p =
      ⟨if nu = true ∧ 8 ≤ p.length then fld p 0 8 else u, if nc = true ∧ 16 ≤ p.length then fld p 8 8 else c,
       if no = true ∧ 24 ≤ p.length then fld p 16 8 else o,
       if nc = true ∧ 16 ≤ p.length then false else nc, if no = true ∧ 24 ≤ p.length then false else no⟩ := by
  by_cases h8 : nu = true ∧ 8 ≤ p.length <;> by_cases h16 : nc = true ∧ 16 ≤ p.length <;>
    by_cases h24 : no = true ∧ 24 ≤ p.length <;> simp [applyZ64, h8, h16, h24]

theorem applyZ64_0 (nu : Bool) (st : Z64State) (p : Bytes) (hc : st.needC = false) (ho : st.needO = false)
    (h : nu = false ∨ p.length < 8) : applyZ64 nu st p = st := by
  obtain ⟨u, c, o, nc, no⟩ := st
  subst hc ho
  rw [applyZ64_eq]
  rcases h with rfl | h
  · simp
  · simp [Nat.not_le.mpr h]

theorem resolve64_scan {us cs off : Nat} {extra : Bytes} {r : Nat × Nat × Nat}
    (h : resolve64 us cs off extra = some r)
    (hf : fixedNeed (decide (us = 0xffffffff), decide (cs = 0xffffffff), decide (off = 0xffffffff)) = true) :
    scanExtra (decide (us = u32Max)) ⟨us, cs, off, decide (cs = u32Max), decide (off = u32Max)⟩ extra.length extra
      = ⟨r.1, r.2.1, r.2.2, false, false⟩ := by
  rw [scanExtra_eq]
  rw [resolve64_eq_some] at h
  simp only [fixedNeed, u32Max, Bool.and_eq_true, Bool.or_eq_true, Bool.not_eq_true', decide_eq_true_eq, decide_eq_false_iff_not] at *
  split at h
  · next hn =>
    subst h
    simp only [hn.1, hn.2.1, hn.2.2, decide_false]
    cases zip64Field extra.length extra with
    | none => rfl
    | some p => simp [applyZ64_eq]
  · obtain ⟨p, hz, g1, g2, g3, rfl⟩ := h
    simp only [hz, applyZ64_eq]
    -- the marked fields are a prefix of (usize, csize, offset): cursor positions and fixed positions are the same
    by_cases nu : us = 4294967295 <;> by_cases nc : cs = 4294967295 <;> by_cases no : off = 4294967295 <;>
      simp [nu, nc, no] at hf g1 g2 g3 ⊢ <;> omega

/-- `readEntry` in closed form on a suffix of `z` that holds the whole record: no panic, and the only
    failure is a ZIP64 marker left unresolved -/
theorem readEntry_eq (z : Bytes) (at_ : Nat)
    (hb : at_ + 46 + fld (z.drop at_) 28 2 + fld (z.drop at_) 30 2 + fld (z.drop at_) 32 2 ≤ z.length) :
    readEntry (z.drop at_) =
      let cd := z.drop at_
      let n := fld cd 28 2
      let e := fld cd 30 2
      let c := fld cd 32 2
      let extra := (z.drop (at_ + 46 + n)).take e
      let st := scanExtra (decide (fld cd 24 4 = u32Max))
        ⟨fld cd 24 4, fld cd 20 4, fld cd 42 4, decide (fld cd 20 4 = u32Max), decide (fld cd 42 4 = u32Max)⟩
        extra.length extra
      if st.needC ∨ st.needO then .err "missingzip64" else
      .ok ({ creator := fld cd 4 2, reader := fld cd 6 2, flags := fld cd 8 2, method := fld cd 10 2,
             mtime := fld cd 12 2, mdate := fld cd 14 2, crc := fld cd 16 4, csize := st.csize, usize := st.usize,
             name := (z.drop (at_ + 46)).take n, extra := extra, comment := (z.drop (at_ + 46 + n + e)).take c,
             iattrs := fld cd 36 2, eattrs := fld cd 38 4, offset := st.offset,
             raw := (z.drop at_).take (46 + n + e + c) }, z.drop (at_ + 46 + n + e + c)) := by
  unfold readEntry
  generalize hN : fld (z.drop at_) 28 2 = n at *
  generalize hE : fld (z.drop at_) 30 2 = e at *
  generalize hC : fld (z.drop at_) 32 2 = c at *
  have l0 : ¬ (z.drop at_).length < 46 := by rw [List.length_drop]; omega
  rw [if_neg l0]
  simp only [List.drop_drop]
  have l1 : ¬ (z.drop (at_ + 46)).length < n := by rw [List.length_drop]; omega
  have l2 : ¬ (z.drop (at_ + 46 + n)).length < e := by rw [List.length_drop]; omega
  have l3 : ¬ (z.drop (at_ + 46 + n + e)).length < c := by rw [List.length_drop]; omega
  rw [if_neg l1, if_neg l2, if_neg l3]
  subst hN hE hC
  rfl

/-- **entry agreement.** Where the specification reads a central record whose ZIP64 markers obey the
    fixed-layout clause, zipslicer reads the same record: every field, and the same next position. -/
theorem readEntry_of_entryAt {z : Bytes} {at_ lim : Nat} {en : Entry} (h : entryAt z at_ lim = some en)
    (hf : fixedNeed en.need = true) :
    readEntry (z.drop at_) = .ok (fileOf z at_ en, z.drop (at_ + en.len)) := by
  obtain ⟨-, h2, -, h4, r, hr, rfl⟩ := entryAt_some h
  rw [readEntry_eq z at_ (by omega)]
  have hs := resolve64_scan hr hf
  simp only [u32Max] at hs ⊢
  simp only [hs]
  simp [fileOf, specEntry, Nat.add_assoc]

/-- a marker is cleared by the fixed-position reading iff the payload reaches behind its field -/
theorem flag_cleared (b : Bool) (q : Prop) [Decidable q] : (if b = true ∧ q then false else b) = false ↔ (b = true → q) := by
  cases b <;> simp

/-- zipslicer resolves the ZIP64 markers (no marker left) ⇒ the specification resolves them too, except
    in one case: only the uncompressed size is marked and there is no ZIP64 field with an 8-byte payload —
    zipslicer then keeps 0xffffffff as the size. -/
theorem scan_resolve64 (us cs off : Nat) (extra : Bytes)
    (h : (scanExtra (decide (us = u32Max)) ⟨us, cs, off, decide (cs = u32Max), decide (off = u32Max)⟩
            extra.length extra).needC = false ∧
         (scanExtra (decide (us = u32Max)) ⟨us, cs, off, decide (cs = u32Max), decide (off = u32Max)⟩
            extra.length extra).needO = false) :
    (∃ r, resolve64 us cs off extra = some r) ∨
    (resolve64 us cs off extra = none ∧ us = 0xffffffff ∧ cs ≠ 0xffffffff ∧ off ≠ 0xffffffff ∧
      (∀ p, zip64Field extra.length extra = some p → p.length < 8) ∧
      scanExtra (decide (us = u32Max)) ⟨us, cs, off, decide (cs = u32Max), decide (off = u32Max)⟩
        extra.length extra = ⟨us, cs, off, false, false⟩) := by
  rw [scanExtra_eq] at h ⊢
  simp only [u32Max] at *
  -- the specification succeeds unless it finds a marker and no payload, or a payload too short for the marked fields
  by_cases hs : ∃ r, resolve64 us cs off extra = some r
  · exact Or.inl hs
  right
  have hnone : resolve64 us cs off extra = none := by
    cases hr : resolve64 us cs off extra with
    | none => rfl
    | some r => exact absurd ⟨r, hr⟩ hs
  simp only [resolve64_eq_some, not_exists] at hs
  have hm : ¬ (¬ us = 4294967295 ∧ ¬ cs = 4294967295 ∧ ¬ off = 4294967295) := fun hm => hs _ (by rw [if_pos hm])
  cases hz : zip64Field extra.length extra with
  | none =>
    simp only [hz] at h ⊢
    have nc := of_decide_eq_false h.1
    have no := of_decide_eq_false h.2
    exact ⟨hnone, Decidable.byContradiction fun nu => hm ⟨nu, nc, no⟩, nc, no, nofun, by simp [nc, no]⟩
  | some p =>
    simp only [hz, applyZ64_eq, flag_cleared] at h ⊢
    obtain ⟨hc, ho⟩ := h
    have key : ¬ ((us = 4294967295 → 8 ≤ p.length) ∧ (cs = 4294967295 → (if us = 4294967295 then 8 else 0) + 8 ≤ p.length) ∧
        (off = 4294967295 → (if us = 4294967295 then 8 else 0) + (if cs = 4294967295 then 8 else 0) + 8 ≤ p.length)) :=
      fun g => hs _ (by rw [if_neg hm]; exact ⟨p, hz, g.1, g.2.1, g.2.2, rfl⟩)
    -- a payload that reaches behind the fixed positions of the marked sizes is long enough for them in order
    have fact : us = 4294967295 ∧ ¬ cs = 4294967295 ∧ ¬ off = 4294967295 ∧ p.length < 8 := by
      by_cases nu : us = 4294967295 <;> by_cases nc : cs = 4294967295 <;> by_cases no : off = 4294967295 <;>
        simp [nu, nc, no] at hm key hc ho ⊢ <;> omega
    obtain ⟨nu, nc, no, l8⟩ := fact
    refine ⟨hnone, nu, nc, no, fun q hq => by cases hq; exact l8, ?_⟩
    simp [nc, no, Nat.not_le.mpr l8]

/-- **entry agreement, converse.** zipslicer reads a record that carries the central signature and ends
    before `lim`: then the specification reads it too — and, under the fixed-layout clause, reads the same
    record — except when only the uncompressed size is marked 0xffffffff and no ZIP64 field with an 8-byte
    payload exists (zipslicer keeps 0xffffffff, the specification refuses the record). -/
theorem entryAt_of_readEntry {z : Bytes} {at_ lim : Nat} {f : File} {rest : Bytes}
    (hr : readEntry (z.drop at_) = .ok (f, rest)) (hs : hasSig z at_ 0x50 0x4b 0x01 0x02 = true)
    (hb : at_ + 46 + fld (z.drop at_) 28 2 + fld (z.drop at_) 30 2 + fld (z.drop at_) 32 2 ≤ lim)
    (hz : lim ≤ z.length) :
    (∃ en, entryAt z at_ lim = some en ∧ rest = z.drop (at_ + en.len) ∧
      (fixedNeed en.need = true → f = fileOf z at_ en)) ∨
    (entryAt z at_ lim = none ∧ fld (z.drop at_) 24 4 = 0xffffffff ∧ fld (z.drop at_) 20 4 ≠ 0xffffffff ∧
      fld (z.drop at_) 42 4 ≠ 0xffffffff ∧ f.usize = 0xffffffff ∧
      ∀ p, zip64Field (fld (z.drop at_) 30 2)
          ((z.drop (at_ + 46 + fld (z.drop at_) 28 2)).take (fld (z.drop at_) 30 2)) = some p → p.length < 8) := by
  have hP : at_ + 46 ≤ lim ∧ lim ≤ z.length ∧ hasSig z at_ 0x50 0x4b 0x01 0x02 = true ∧
      at_ + 46 + fld (z.drop at_) 28 2 + fld (z.drop at_) 30 2 + fld (z.drop at_) 32 2 ≤ lim :=
    ⟨by omega, hz, hs, hb⟩
  have hel : ((z.drop (at_ + 46 + fld (z.drop at_) 28 2)).take (fld (z.drop at_) 30 2)).length =
      fld (z.drop at_) 30 2 := by
    rw [List.length_take, List.length_drop]; omega
  rw [readEntry_eq z at_ (by omega)] at hr
  simp only at hr
  split at hr
  · cases hr
  next hneed =>
  obtain ⟨rfl, rfl⟩ := Prod.mk.inj (Res.ok.inj hr)
  have hn := not_or.mp hneed
  rcases scan_resolve64 _ _ _ _ ⟨Bool.eq_false_iff.mpr hn.1, Bool.eq_false_iff.mpr hn.2⟩ with
    ⟨r, hres⟩ | ⟨hnone, hu, hc, ho, hp, hst⟩
  · refine Or.inl ⟨specEntry z at_ r, by rw [entryAt_eq, if_pos hP, hres]; rfl, by simp [specEntry, Nat.add_assoc],
      fun hfix => ?_⟩
    have hsc := resolve64_scan hres hfix
    simp only [u32Max] at hsc ⊢
    simp only [hsc]
    simp [fileOf, specEntry, Nat.add_assoc]
  · refine Or.inr ⟨by rw [entryAt_eq, if_pos hP, hnone]; rfl, hu, hc, ho, ?_, by rwa [hel] at hp⟩
    show (scanExtra _ _ _ _).usize = _
    rw [hst]; exact hu

/-- **directory agreement.** Where the specification reads `count` records filling `[at_, lim)`, all
    with fixed-layout ZIP64 markers, and what follows at `lim` is not another central record,
    zipslicer's loop reads the same records and stops at `lim`. -/
theorem readEntries_of_entries {z : Bytes} {lim : Nat} (hl : lim + 4 ≤ z.length)
    (hs : fld (z.drop lim) 0 4 ≠ sigDir) : ∀ (count at_ : Nat) (es : List Entry) (fuel : Nat),
    entries z count at_ lim = some es → (es.all fun e => fixedNeed e.need) = true → count < fuel →
    readEntries fuel (z.drop at_) = .ok (filesOf z at_ es, z.drop lim) := by
  intro count
  induction count with
  | zero =>
    intro at_ es fuel h _ hfuel
    unfold entries at h
    split at h
    · next heq =>
      cases h; subst heq
      obtain ⟨fuel, rfl⟩ : ∃ k, fuel = k + 1 := ⟨fuel - 1, by omega⟩
      unfold readEntries
      rw [if_neg (by rw [List.length_drop]; omega), if_pos hs]
      rfl
    · cases h
  | succ count ih =>
    intro at_ es fuel h hfix hfuel
    unfold entries at h
    simp only [Option.bind_eq_bind, Option.bind_eq_some_iff] at h
    obtain ⟨e, he, es', hes, h⟩ := h
    cases h
    simp only [List.all_cons, Bool.and_eq_true] at hfix
    obtain ⟨fuel, rfl⟩ : ∃ k, fuel = k + 1 := ⟨fuel - 1, by omega⟩
    have hsome := entryAt_some he
    unfold readEntries
    rw [if_neg (by rw [List.length_drop]; omega), hasSig_fld hsome.2.2.1,
      if_neg (by decide), readEntry_of_entryAt he hfix.1]
    simp only
    rw [ih _ _ _ hes hfix.2 (by omega)]
    rfl

theorem takeStruct_ok (rd : Bytes) (n : Nat) (h : n ≤ rd.length) : takeStruct rd n = (some (rd.take n), rd.drop n) := by
  unfold takeStruct; rw [if_pos h]

theorem takeStruct_left (a b : Bytes) (n : Nat) (h : a.length = n) : takeStruct (a ++ b) n = (some a, b) := by
  rw [takeStruct_ok _ _ (by simp [h]), List.take_left' h, List.drop_left' h]

/-- **`Read` on an archive the specification parses**, without comment, at least 42 bytes long, addressable by an
    `int64`, and whose ZIP64 markers obey the fixed-layout clause: everything it returns.  The records are those of the
    specification at the same directory offset, the size is that of the file, and the end records it keeps are the
    ones found at `first`, which are the last 98 resp. 22 bytes. -/
theorem read_parsed {z : Bytes} {a : Archive} (h : parse z = some a) (hc : a.ends.comment = [])
    (h42 : 42 ≤ z.length) (h63 : z.length < 2 ^ 63)
    (hfix : (a.members.all fun m => fixedNeed m.entry.need) = true) :
    ∃ d, read ⟨z, false, 0⟩ = .ok d ∧ d.files = filesOf z a.ends.cdOff (a.members.map (·.entry)) ∧
      d.dirLoc = a.ends.cdOff ∧ d.size = z.length ∧
      (if a.ends.zip64 = true then
        d.end64 = parseEnd64 ((z.drop a.ends.first).take 56) ∧ d.loc64 = parseLoc64 ((z.drop (a.ends.first + 56)).take 20) ∧
        d.endr = parseEnd ((z.drop (a.ends.first + 76)).take 22) ∧ a.ends.first + 98 = z.length
       else d.end64 = {} ∧ d.loc64 = {} ∧ d.endr = parseEnd ((z.drop a.ends.first).take 22) ∧ a.ends.first + 22 = z.length) := by
  obtain ⟨hen, hsum, hes, -, -⟩ := parse_some h
  have hfd := findDirectory_of_ends hen hc h42 h63
  have hfsig := ends_first hen
  rw [hc, List.length_nil, Nat.add_zero, Nat.add_zero] at hfsig
  have hcnt := (entries_count_le z _ _ _ _ hes).1
  have hsgn : fld (z.drop a.ends.first) 0 4 ≠ sigDir := by
    rcases hfsig with ⟨-, e, -⟩ | ⟨-, e, -⟩ <;> rw [e] <;> decide
  have hre := readEntries_of_entries (z := z) (lim := a.ends.first) (by omega) hsgn _ _ _ (z.length - a.ends.cdOff + 1) hes
    (by simpa [List.all_map] using hfix) (by omega)
  unfold read
  rw [hfd]
  simp only
  rw [if_neg (by omega), if_neg (by omega), readAt_ra z _ _ (by omega) (by omega) h63]
  simp only
  have e1 : (z.drop a.ends.cdOff).take (z.length - a.ends.cdOff) = z.drop a.ends.cdOff :=
    List.take_of_length_le (by rw [List.length_drop]; omega)
  rw [e1]
  unfold readWithDirectory
  rw [List.length_drop, hre]
  simp only
  have hdl : (z.drop a.ends.first).length = z.length - a.ends.first := List.length_drop
  rcases hfsig with ⟨hz, e, hl98⟩ | ⟨hz, e, hl22⟩
  · rw [e, if_pos rfl]
    rw [takeStruct_ok _ 56 (by rw [hdl]; omega)]
    simp only
    rw [takeStruct_ok _ 20 (by rw [List.length_drop, hdl]; omega)]
    simp only
    rw [takeStruct_ok _ 22 (by rw [List.length_drop, List.length_drop, hdl]; omega)]
    refine ⟨_, rfl, rfl, by simp only; omega, rfl, ?_⟩
    rw [if_pos hz]
    simp only [Option.map_some, Option.getD_some, List.drop_drop]
    exact ⟨trivial, trivial, trivial, hl98⟩
  · rw [e, if_neg (by decide), if_pos rfl]
    rw [takeStruct_ok _ 22 (by rw [hdl]; omega)]
    refine ⟨_, rfl, rfl, by simp only; omega, rfl, ?_⟩
    rw [if_neg (by rw [hz]; simp)]
    simp only [Option.map_some, Option.getD_some]
    exact ⟨trivial, trivial, trivial, hl22⟩

end Relic.Zip
