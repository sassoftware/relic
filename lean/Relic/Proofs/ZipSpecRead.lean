/-
  What the specification's reader (`Relic.Spec.Zip`) returns, in the model's accessors: `entryAt` in closed form (`specEntry`),
  the in-order ZIP64 reading (`resolve64_eq_some`), `memberOf` and `parse` inverted; and the notions that the statements about a
  parsed archive use (`fileOf`, `filesOf`, `fixedNeed`, `widthOK`, `Readable`).
-/
import Relic.Proofs.ZipCodec
namespace Relic.Zip
open Relic.SpecZip

theorem num_eq {z : Bytes} {off w : Nat} (h : off + w ≤ z.length) :
    num z off w = some (leVal ((z.drop off).take w)) := if_pos h

theorem num_some {z : Bytes} {off w v : Nat} (h : num z off w = some v) :
    off + w ≤ z.length ∧ v = leVal ((z.drop off).take w) := by
  unfold num at h
  by_cases c : off + w ≤ z.length
  · rw [if_pos c] at h; exact ⟨c, (Option.some.inj h).symm⟩
  · rw [if_neg c] at h; cases h

theorem bytesAt_eq {z : Bytes} {off n : Nat} (h : off + n ≤ z.length) :
    bytesAt z off n = some ((z.drop off).take n) := if_pos h

theorem num_fld {z : Bytes} {p k w : Nat} (h : p + k + w ≤ z.length) :
    num z (p + k) w = some (fld (z.drop p) k w) := by
  rw [fld_drop]; exact num_eq h

/-- the central record the specification reads at `at_` (given the resolved ZIP64 triple), written with
    the model's accessors -/
def specEntry (z : Bytes) (at_ : Nat) (r : Nat × Nat × Nat) : Entry :=
  let cd := z.drop at_
  let n := fld cd 28 2
  let e := fld cd 30 2
  let c := fld cd 32 2
  { verMade := fld cd 4 2, verNeeded := fld cd 6 2, flags := fld cd 8 2, method := fld cd 10 2, mtime := fld cd 12 2,
    mdate := fld cd 14 2, crc := fld cd 16 4, csize := r.2.1, usize := r.1, name := (z.drop (at_ + 46)).take n,
    extra := (z.drop (at_ + 46 + n)).take e, comment := (z.drop (at_ + 46 + n + e)).take c,
    iattrs := fld cd 36 2, eattrs := fld cd 38 4, hoff := r.2.2, len := 46 + n + e + c,
    need := (decide (fld cd 24 4 = 0xffffffff), decide (fld cd 20 4 = 0xffffffff), decide (fld cd 42 4 = 0xffffffff)) }

/-- `entryAt` in closed form: bounds, signature, then the ZIP64 resolution is the only way to fail -/
theorem entryAt_eq (z : Bytes) (at_ lim : Nat) :
    entryAt z at_ lim =
      if at_ + 46 ≤ lim ∧ lim ≤ z.length ∧ hasSig z at_ 0x50 0x4b 0x01 0x02 = true ∧
        at_ + 46 + fld (z.drop at_) 28 2 + fld (z.drop at_) 30 2 + fld (z.drop at_) 32 2 ≤ lim then
        (resolve64 (fld (z.drop at_) 24 4) (fld (z.drop at_) 20 4) (fld (z.drop at_) 42 4)
          ((z.drop (at_ + 46 + fld (z.drop at_) 28 2)).take (fld (z.drop at_) 30 2))).map (specEntry z at_)
      else none := by
  unfold entryAt
  have hn : at_ + 46 ≤ z.length → ∀ k w, k + w ≤ 46 → num z (at_ + k) w = some (fld (z.drop at_) k w) :=
    fun h k w hk => num_fld (by omega)
  by_cases hP : at_ + 46 ≤ lim ∧ lim ≤ z.length ∧ hasSig z at_ 0x50 0x4b 0x01 0x02 = true ∧
      at_ + 46 + fld (z.drop at_) 28 2 + fld (z.drop at_) 30 2 + fld (z.drop at_) 32 2 ≤ lim
  · rw [if_pos hP]
    obtain ⟨h1, h2, h3, h4⟩ := hP
    have hn := hn (by omega)
    have c1 : ¬ (at_ + 46 > lim ∨ lim > z.length) := by omega
    simp only [c1, h3, Bool.not_true, if_false, Bool.false_eq_true, hn 28 2 (by omega), hn 30 2 (by omega),
      hn 32 2 (by omega), Option.bind_eq_bind, Option.bind_some]
    generalize hN : fld (z.drop at_) 28 2 = n at *
    generalize hE : fld (z.drop at_) 30 2 = e at *
    generalize hC : fld (z.drop at_) 32 2 = c at *
    have c3 : ¬ at_ + 46 + n + e + c > lim := by omega
    simp only [c3, if_false, hn 24 4 (by omega), hn 20 4 (by omega), hn 42 4 (by omega), hn 4 2 (by omega),
      hn 6 2 (by omega), hn 8 2 (by omega), hn 10 2 (by omega), hn 12 2 (by omega), hn 14 2 (by omega),
      hn 16 4 (by omega), hn 36 2 (by omega), hn 38 4 (by omega), Option.bind_some,
      bytesAt_eq (z := z) (off := at_ + 46 + n) (n := e) (by omega),
      bytesAt_eq (z := z) (off := at_ + 46) (n := n) (by omega),
      bytesAt_eq (z := z) (off := at_ + 46 + n + e) (n := c) (by omega)]
    subst hN hE hC
    cases resolve64 (fld (z.drop at_) 24 4) (fld (z.drop at_) 20 4) (fld (z.drop at_) 42 4)
      ((z.drop (at_ + 46 + fld (z.drop at_) 28 2)).take (fld (z.drop at_) 30 2)) <;> rfl
  · rw [if_neg hP]
    -- one of the three tests in front of the ZIP64 resolution fails
    by_cases c1 : at_ + 46 > lim ∨ lim > z.length
    · simp [c1]
    by_cases c2 : hasSig z at_ 80 75 1 2 = true
    · have hn := hn (by omega)
      have c3 : at_ + 46 + fld (z.drop at_) 28 2 + fld (z.drop at_) 30 2 + fld (z.drop at_) 32 2 > lim :=
        Decidable.byContradiction fun h => hP ⟨by omega, by omega, c2, by omega⟩
      simp only [c1, c2, Bool.not_true, if_false, Bool.false_eq_true, hn 28 2 (by omega), hn 30 2 (by omega),
        hn 32 2 (by omega), Option.bind_eq_bind, Option.bind_some, c3, if_true, Option.bind_none]
    · simp [c1, c2]

/-- the layout clause F7e: a needed compressed size comes with a needed uncompressed size, a needed
    offset with both (so that in-order = fixed positions) -/
def fixedNeed (need : Bool × Bool × Bool) : Bool :=
  (!need.2.1 || need.1) && (!need.2.2 || (need.1 && need.2.1))

theorem zip64Fixed_eq (a : SpecZip.Archive) : SpecZip.zip64Fixed a = a.members.all fun m => fixedNeed m.entry.need := rfl

def step64 (need : Prop) [Decidable need] (v : Nat) (p : Bytes) : Option (Nat × Bytes) :=
  if need then (if p.length ≥ 8 then some (leVal (p.take 8), p.drop 8) else none) else some (v, p)

/-- `resolve64` is three such steps over the payload of the ZIP64 field, in the order usize, csize, offset -/
theorem resolve64_eq (us cs off : Nat) (extra : Bytes) :
    resolve64 us cs off extra =
      if ¬ us = 0xffffffff ∧ ¬ cs = 0xffffffff ∧ ¬ off = 0xffffffff then some (us, cs, off) else
      (zip64Field extra.length extra).bind fun p => (step64 (us = 0xffffffff) us p).bind fun a =>
        (step64 (cs = 0xffffffff) cs a.2).bind fun b => (step64 (off = 0xffffffff) off b.2).bind fun c =>
          some (a.1, b.1, c.1) := by
  unfold resolve64 step64
  by_cases nu : us = 0xffffffff <;> by_cases nc : cs = 0xffffffff <;> by_cases no : off = 0xffffffff <;>
    simp only [nu, nc, no, not_true_eq_false, not_false_eq_true, and_self, and_true, and_false, if_true, if_false] <;>
    cases zip64Field extra.length extra <;> rfl

/-- one step of the in-order reading with the cursor written as an offset into the payload: a marked field takes the
    eight bytes at the cursor and moves it on -/
theorem step64_at {need : Prop} [Decidable need] {v : Nat} {p : Bytes} {j : Nat} {a : Nat × Bytes} :
    step64 need v (p.drop j) = some a ↔
      (need → j + 8 ≤ p.length) ∧ a = (if need then fld p j 8 else v, p.drop (j + if need then 8 else 0)) := by
  unfold step64
  by_cases c : need
  · simp only [c, if_true, List.length_drop, List.drop_drop, forall_const, ge_iff_le]
    by_cases l : j + 8 ≤ p.length
    · rw [if_pos (by omega)]; simp [l, fld, eq_comm]
    · rw [if_neg (by omega)]; simp [l]
  · simp [c, eq_comm]

/-- **the in-order reading (APPNOTE 4.5.3) in closed form**: `resolve64` succeeds iff no field is marked, or the payload of
    the ZIP64 field reaches behind every marked field at its cursor position; the values are the words found there -/
theorem resolve64_eq_some {us cs off : Nat} {extra : Bytes} {r : Nat × Nat × Nat} :
    resolve64 us cs off extra = some r ↔
      if ¬ us = 0xffffffff ∧ ¬ cs = 0xffffffff ∧ ¬ off = 0xffffffff then r = (us, cs, off) else
      ∃ p, zip64Field extra.length extra = some p ∧
        (us = 0xffffffff → 8 ≤ p.length) ∧ (cs = 0xffffffff → (if us = 0xffffffff then 8 else 0) + 8 ≤ p.length) ∧
        (off = 0xffffffff → (if us = 0xffffffff then 8 else 0) + (if cs = 0xffffffff then 8 else 0) + 8 ≤ p.length) ∧
        r = (if us = 0xffffffff then fld p 0 8 else us, if cs = 0xffffffff then fld p (if us = 0xffffffff then 8 else 0) 8 else cs,
          if off = 0xffffffff then fld p ((if us = 0xffffffff then 8 else 0) + (if cs = 0xffffffff then 8 else 0)) 8 else off) := by
  rw [resolve64_eq]
  split
  · exact ⟨fun h => (Option.some.inj h).symm, fun h => by rw [h]⟩
  · simp only [Option.bind_eq_some_iff]
    constructor
    · rintro ⟨p, hz, a, ha, b, hb, c, hc, hr⟩
      cases hr
      obtain ⟨g1, rfl⟩ := (step64_at (j := 0)).mp ha
      obtain ⟨g2, rfl⟩ := step64_at.mp hb
      obtain ⟨g3, rfl⟩ := step64_at.mp hc
      simp only [Nat.zero_add] at g1 g2 g3
      exact ⟨p, hz, g1, g2, g3, by simp only [Nat.zero_add]⟩
    · rintro ⟨p, hz, g1, g2, g3, rfl⟩
      exact ⟨p, hz, _, (step64_at (j := 0)).mpr ⟨by simpa using g1, rfl⟩, _, step64_at.mpr ⟨by simpa using g2, rfl⟩, _,
        step64_at.mpr ⟨by simpa using g3, rfl⟩, by simp⟩

/-- the `File` zipslicer builds from the record the specification reads at `at_` -/
def fileOf (z : Bytes) (at_ : Nat) (en : Entry) : File :=
  { creator := en.verMade, reader := en.verNeeded, flags := en.flags, method := en.method, mtime := en.mtime,
    mdate := en.mdate, crc := en.crc, csize := en.csize, usize := en.usize, name := en.name, extra := en.extra,
    comment := en.comment, iattrs := en.iattrs, eattrs := en.eattrs, offset := en.hoff,
    raw := (z.drop at_).take en.len }

theorem entryAt_some {z : Bytes} {at_ lim : Nat} {en : Entry} (h : entryAt z at_ lim = some en) :
    at_ + 46 ≤ lim ∧ lim ≤ z.length ∧ hasSig z at_ 0x50 0x4b 0x01 0x02 = true ∧
    at_ + 46 + fld (z.drop at_) 28 2 + fld (z.drop at_) 30 2 + fld (z.drop at_) 32 2 ≤ lim ∧
    ∃ r, resolve64 (fld (z.drop at_) 24 4) (fld (z.drop at_) 20 4) (fld (z.drop at_) 42 4)
          ((z.drop (at_ + 46 + fld (z.drop at_) 28 2)).take (fld (z.drop at_) 30 2)) = some r ∧
      en = specEntry z at_ r := by
  rw [entryAt_eq] at h
  split at h
  · next hc =>
    obtain ⟨r, hr, he⟩ := Option.map_eq_some_iff.mp h
    exact ⟨hc.1, hc.2.1, hc.2.2.1, hc.2.2.2, r, hr, he.symm⟩
  · cases h

theorem hasSig_fld {z : Bytes} {off : Nat} {a b c d : UInt8} (h : hasSig z off a b c d = true) :
    fld (z.drop off) 0 4 = leVal [a, b, c, d] := by
  unfold hasSig at h
  have := eq_of_beq h
  unfold fld
  rw [List.drop_zero, this]

/-- the files zipslicer builds from consecutive records starting at `at_` -/
def filesOf (z : Bytes) : Nat → List Entry → List File
  | _, [] => []
  | at_, e :: es => fileOf z at_ e :: filesOf z (at_ + e.len) es

theorem filesOf_length (z : Bytes) : ∀ (es : List Entry) (at_ : Nat), (filesOf z at_ es).length = es.length := by
  intro es
  induction es with
  | nil => intro _; rfl
  | cons e es ih => intro at_; simp [filesOf, ih]

theorem filesOf_map {β : Type} (z : Bytes) (g : File → β) (k : SpecZip.Member → β) :
    ∀ (ms : List SpecZip.Member) (at_ : Nat),
    (∀ at_ m, m ∈ ms → g (fileOf z at_ m.entry) = k m) →
    (filesOf z at_ (ms.map (·.entry))).map g = ms.map k := by
  intro ms
  induction ms with
  | nil => intro _ _; rfl
  | cons m ms ih =>
    intro at_ h
    simp only [filesOf, List.map_cons]
    rw [h at_ m (List.mem_cons_self ..), ih _ (fun a x hx => h a x (List.mem_cons_of_mem _ hx))]

theorem entries_count_le (z : Bytes) (lim : Nat) : ∀ (count at_ : Nat) (es : List Entry),
    entries z count at_ lim = some es → at_ + 46 * count ≤ lim ∧ es.length = count := by
  intro count
  induction count with
  | zero =>
    intro at_ es h
    unfold entries at h
    split at h
    · cases h; exact ⟨by omega, rfl⟩
    · cases h
  | succ count ih =>
    intro at_ es h
    unfold entries at h
    simp only [Option.bind_eq_bind, Option.bind_eq_some_iff] at h
    obtain ⟨e, he, es', hes, h⟩ := h
    cases h
    obtain ⟨-, -, -, -, r, -, rfl⟩ := entryAt_some he
    have := ih _ _ hes
    simp only [specEntry] at this
    simp only [List.length_cons]
    omega

theorem hasSig_of_not {z : Bytes} {off : Nat} {a b c d : UInt8} (h : ¬ (!hasSig z off a b c d) = true) :
    hasSig z off a b c d = true := by
  cases hh : hasSig z off a b c d
  · rw [hh] at h; exact absurd rfl h
  · rfl

theorem bytesAt_some {z : Bytes} {off n : Nat} {b : Bytes} (h : bytesAt z off n = some b) :
    off + n ≤ z.length ∧ (z.drop off).take n = b := by
  unfold bytesAt at h
  split at h
  · exact ⟨by assumption, Option.some.inj h⟩
  · cases h

theorem memberOf_entry {z : Bytes} {cdOff : Nat} {e : Entry} {m : SpecZip.Member}
    (h : memberOf z cdOff e = some m) : m.entry = e := by
  unfold memberOf at h
  simp only [Option.bind_eq_bind, Option.bind_none] at h
  simp only [Option.ite_none_left_eq_some, Option.bind_eq_some_iff] at h
  obtain ⟨-, -, lflags, -, ln, -, le, -, lname, -, -, -, -, -, -, -, -, -, -, -, h⟩ := h
  split at h
  · simp only [Option.ite_none_left_eq_some] at h
    obtain ⟨-, h⟩ := h
    cases h; rfl
  · cases h; rfl

theorem mapM_memberOf_entries {z : Bytes} {cdOff : Nat} : ∀ (es : List Entry) (ms : List SpecZip.Member),
    es.mapM (memberOf z cdOff) = some ms → ms.map (·.entry) = es := by
  intro es
  induction es with
  | nil => intro ms h; simp at h; subst h; rfl
  | cons e es ih =>
    intro ms h
    simp only [List.mapM_cons, Option.bind_eq_bind, Option.bind_eq_some_iff, Option.pure_def] at h
    obtain ⟨m, hm, ms', hms, h⟩ := h
    cases h
    simp [memberOf_entry hm, ih _ hms]

theorem mapM_memberOf_mem {z : Bytes} {cdOff : Nat} : ∀ (es : List Entry) (ms : List SpecZip.Member),
    es.mapM (memberOf z cdOff) = some ms → ∀ m ∈ ms, memberOf z cdOff m.entry = some m := by
  intro es
  induction es with
  | nil => intro ms h; simp at h; subst h; intro m hm; cases hm
  | cons e es ih =>
    intro ms h
    simp only [List.mapM_cons, Option.bind_eq_bind, Option.bind_eq_some_iff, Option.pure_def] at h
    obtain ⟨m, hm, ms', hms, h⟩ := h
    cases h
    intro x hx
    rcases List.mem_cons.mp hx with rfl | hx
    · rw [memberOf_entry hm]; exact hm
    · exact ih _ hms x hx

theorem parse_some {z : Bytes} {a : Archive} (h : parse z = some a) :
    ends z = some a.ends ∧ a.ends.cdOff + a.ends.cdSize = a.ends.first ∧
    entries z a.ends.count a.ends.cdOff a.ends.first = some (a.members.map (·.entry)) ∧
    (a.members.map (·.entry)).mapM (memberOf z a.ends.cdOff) = some a.members ∧
    ordered 0 a.members = true := by
  unfold parse at h
  simp only [Option.bind_eq_bind, Option.bind_eq_some_iff] at h
  obtain ⟨en, hen, h⟩ := h
  split at h
  · simp at h
  next hsum =>
  simp only [Option.bind_eq_some_iff] at h
  obtain ⟨es, hes, ms, hms, h⟩ := h
  split at h
  · simp at h
  next hord =>
  simp at h
  subst h
  have := mapM_memberOf_entries _ _ hms
  simp only at this ⊢
  rw [this]
  refine ⟨hen, Decidable.of_not_not hsum, hes, hms, ?_⟩
  simpa using hord

theorem memberOf_some {z : Bytes} {cdOff : Nat} {e : Entry} {m : SpecZip.Member}
    (h : memberOf z cdOff e = some m) :
    e.hoff + 30 ≤ cdOff ∧ hasSig z e.hoff 0x50 0x4b 0x03 0x04 = true ∧
    e.hoff + 30 + fld (z.drop e.hoff) 26 2 ≤ z.length ∧
    (z.drop (e.hoff + 30)).take (fld (z.drop e.hoff) 26 2) = e.name ∧
    fld (z.drop e.hoff) 6 2 % 16 / 8 = e.flags % 16 / 8 ∧
    m.entry = e ∧ m.lflags = fld (z.drop e.hoff) 6 2 ∧
    m.dataOff = e.hoff + 30 + fld (z.drop e.hoff) 26 2 + fld (z.drop e.hoff) 28 2 ∧
    m.dataOff + e.csize ≤ cdOff ∧
    (if e.flags % 16 / 8 = 1 then
      m.descWidths = descWidthsAt z (m.dataOff + e.csize) cdOff e ∧ m.descWidths ≠ []
     else m.descWidths = []) := by
  unfold memberOf at h
  simp only [Option.bind_eq_bind, Option.bind_none] at h
  simp only [Option.ite_none_left_eq_some, Option.bind_eq_some_iff] at h
  obtain ⟨c1, c2, lflags, hlf, ln, hln, le, hle, lname, hname, c3, c4, -, -, -, -, -, -, -, c5, h⟩ := h
  have hz : e.hoff + 30 ≤ z.length := by
    have := (num_some hle).1; omega
  rw [num_fld (by omega)] at hlf hln hle
  cases hlf; cases hln; cases hle
  have hnb : e.hoff + 30 + fld (z.drop e.hoff) 26 2 ≤ z.length := by
    unfold bytesAt at hname
    split at hname
    · assumption
    · cases hname
  rw [bytesAt_eq hnb] at hname
  cases hname
  refine ⟨by omega, hasSig_of_not c2, hnb, Decidable.of_not_not c3, Decidable.of_not_not c4, ?_⟩
  split at h
  · next hd =>
    simp only [Option.ite_none_left_eq_some] at h
    obtain ⟨hne, h⟩ := h
    cases h
    exact ⟨rfl, rfl, rfl, by simp only; omega, by rw [if_pos hd]; exact ⟨rfl, hne⟩⟩
  · next hd =>
    cases h
    exact ⟨rfl, rfl, rfl, by simp only; omega, by rw [if_neg hd]⟩

/-- data offset and extent of a member under the contiguous reading of the specification -/
def specExtent (a : Archive) (m : SpecZip.Member) : Option (Nat × Nat) :=
  match m.descWidths, trueWidth a m with
  | [], _ => some (m.dataOff, m.dataOff + m.entry.csize - m.entry.hoff)
  | _, some w => some (m.dataOff, m.dataOff + m.entry.csize + w - m.entry.hoff)
  | _, none => none

/-- data offset and extent zipslicer assigns (`GetTotalSize`) -/
def modelExtent (z : Bytes) (f : File) : Option (Nat × Nat) :=
  match getTotalSize ⟨z, false, 0⟩ f with
  | .ok (m, _) => some (m.dataOff, m.total)
  | _ => none

/-- the width decision of `readDataDesc` is right for `m` (decidable; each conjunct is necessary):
    the end of the descriptor is located by the next structure; a 16-byte descriptor does not come with
    the uncompressed size 0xffffffff; a 24-byte one is recognised as such by the inference. -/
def widthOK (a : Archive) (m : SpecZip.Member) : Bool :=
  m.descWidths.isEmpty ||
  match trueWidth a m with
  | none => false
  | some w =>
    (w != 16 || m.entry.usize != 0xffffffff) &&
    (w != 24 || decide (m.entry.usize ≥ 0xffffffff) ||
      m.entry.csize / 2 ^ 32 % 2 ^ 32 != m.entry.usize % 2 ^ 32)

/-- **the archives relic reads as the specification does**: the specification parses `z` as `a`; no archive
    comment, at least 42 bytes and a size that is an `int64`; ZIP64 markers in the fixed layout (`fixedNeed`);
    every descriptor signed, and its width the one `readDataDesc` infers (`widthOK`).  What `Read` does with the
    directory needs the first five (`read_parsed`), what `GetTotalSize` does with one member `parsed`, `len63` and
    the last two (`measured_member`); the theorems on whole archives take the structure. -/
structure Readable (z : Bytes) (a : Archive) : Prop where
  parsed : parse z = some a
  nocomment : a.ends.comment = []
  len42 : 42 ≤ z.length
  len63 : z.length < 2 ^ 63
  fixed : (a.members.all fun m => fixedNeed m.entry.need) = true
  signed : descSigned a = true
  widths : (a.members.all (widthOK a)) = true

end Relic.Zip
