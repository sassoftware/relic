/-
  Relic.Model.AuthzPolicy (C04 in policy mode): the views and the key listing generic in `Allowed`
  (certificate mode is the instance `al = allowed c`), the central case analysis of `authenticated` (`AuthCase`), `bearerToken`.

  There is no case table for the answers of a view at a key endpoint (in the style of `AuthCase`): every row would have to
  repeat `getKey cfg n = .ok kc → al kc = true → …`.  The views are walked once per conclusion.

  The lemmas stand in `namespace Relic.Proofs.AuthzPolicy`, not in the model's `Relic.Policy`.
-/
import Relic.Model.AuthzPolicy
import Relic.Proofs.Authz
namespace Relic.Proofs.AuthzPolicy
open Relic.Authz Relic.RealIP Relic.Policy Relic.Proofs.Authz

theorem pallowed_iff (u : PUser) (k : Key) :
    pallowed u k = true ↔ k.name ∈ u.allowedKeys ∨ ∃ r, r ∈ k.roles ∧ r ∈ u.roles := by
  simp [pallowed, List.any_eq_true]

theorem listed_eq_listedWith (cfg : Config) (c : Client) (k : Key) : listed cfg c k = listedWith (allowed c) cfg k := rfl

theorem listKeys_eq_listKeysWith (cfg : Config) (c : Client) : listKeys cfg c = listKeysWith (allowed c) cfg := rfl

theorem view_eq_viewWith (cfg : Config) (c : Client) (user ip : String) (ep : Endpoint) :
    view true cfg c user ip ep = viewWith (allowed c) cfg user ip ep := by
  cases ep <;> rfl

/-- every leaf other than the two granted ones is non-2xx with no events; the granted ones carry the entry `GetKey` returned -/
theorem viewWith_entitled {al : Key → Bool} {cfg : Config} {user ip : String} {ep : Endpoint} {n : String}
    (hn : ep.keyName = some n)
    (hs : (viewWith al cfg user ip ep).is2xx = true ∨ (viewWith al cfg user ip ep).events ≠ []) :
    ∃ t, resolve cfg n = some t ∧ al t = true ∧ ∀ e ∈ (viewWith al cfg user ip ep).events, e.token = t.token ∧ e.key = t.name := by
  rcases keyName_cases hn with rfl | ⟨hasFile, sigOK, rfl⟩
  · unfold viewWith at hs ⊢
    cases hg : getKey cfg n with
    | ok kc =>
      simp only [hg] at hs ⊢
      by_cases ha : al kc = true
      · refine ⟨kc, (getKeyWith_ok hg).1, ha, ?_⟩
        simp only [ha, ↓reduceIte]
        split <;> simp [Outcome.events]
      · simp [ha, forbidden, Outcome.is2xx, Outcome.events] at hs
    | err e => simp [hg, forbidden, Outcome.is2xx, Outcome.events] at hs
    | panic s => simp [hg, Outcome.is2xx, Outcome.events] at hs
    | diverge => simp [hg, forbidden, Outcome.is2xx, Outcome.events] at hs
  · unfold viewWith at hs ⊢
    by_cases hm : n = ""
    · simp [hm, Outcome.is2xx, Outcome.events] at hs
    · by_cases hf : hasFile = true
      · simp only [hm, ↓reduceIte, hf, Bool.not_true, Bool.false_eq_true] at hs ⊢
        cases hg : getKey cfg n with
        | ok kc =>
          simp only [hg] at hs ⊢
          by_cases ha : al kc = true
          · refine ⟨kc, (getKeyWith_ok hg).1, ha, ?_⟩
            simp only [ha, ↓reduceIte]
            split
            · simp [Outcome.events]
            · split <;> simp [Outcome.events]
          · simp [ha, forbidden, Outcome.is2xx, Outcome.events] at hs
        | err e => simp [hg, forbidden, Outcome.is2xx, Outcome.events] at hs
        | panic s => simp [hg, Outcome.is2xx, Outcome.events] at hs
        | diverge => simp [hg, forbidden, Outcome.is2xx, Outcome.events] at hs
      · simp [hm, hf, Outcome.is2xx, Outcome.events] at hs

theorem viewWith_granted {al : Key → Bool} {cfg : Config} {user ip : String} {ep : Endpoint} {n : String} {kc : Key}
    (hn : ep.keyName = some n) (hg : getKey cfg n = .ok kc) (ha : al kc = true) (ht : tokenOpen cfg kc.token = true)
    (hw : ∀ m f s, ep = .sign m f s → m ≠ "" ∧ f = true ∧ s = true) :
    (viewWith al cfg user ip ep).is2xx = true ∧ (viewWith al cfg user ip ep).events ≠ [] := by
  rcases keyName_cases hn with rfl | ⟨f, s, rfl⟩
  · simp [viewWith, hg, ha, ht, Outcome.is2xx, Outcome.events]
  · obtain ⟨h1, h2, h3⟩ := hw n f s rfl
    subst h2 h3
    simp [viewWith, h1, hg, ha, ht, Outcome.is2xx, Outcome.events]

theorem viewWith_no_panic (al : Key → Bool) (cfg : Config) (user ip : String) (ep : Endpoint) :
    (viewWith al cfg user ip ep).isPanic = false := by
  -- the only `panic` leaves are those where `GetKey` panicked, and it does not
  fun_cases viewWith al cfg user ip ep
  case case8 n s h => exact absurd h (getKey_no_panic cfg n s)
  case case16 n _ _ _ _ s h => exact absurd h (getKey_no_panic cfg n s)
  all_goals rfl

/-- certificate mode, tree as found or fixed: a panic neither answers 2xx nor reaches a token, and otherwise the view is
    the generic one for `al = allowed c` -/
theorem view_entitled {fixed : Bool} {cfg : Config} {c : Client} {user ip : String} {ep : Endpoint} {n : String}
    (hn : ep.keyName = some n)
    (hs : (view fixed cfg c user ip ep).is2xx = true ∨ (view fixed cfg c user ip ep).events ≠ []) :
    ∃ t, resolve cfg n = some t ∧ allowed c t = true ∧ ∀ e ∈ (view fixed cfg c user ip ep).events, e.token = t.token ∧ e.key = t.name := by
  have ht : view fixed cfg c user ip ep = viewWith (allowed c) cfg user ip ep := by
    rw [← view_eq_viewWith]
    cases fixed
    · rcases view_false cfg c user ip ep with h | ⟨s, h⟩
      · exact h
      · simp [h, Outcome.is2xx, Outcome.events] at hs
    · rfl
  rw [ht] at hs ⊢
  exact viewWith_entitled hn hs

theorem view_no_panic (cfg : Config) (c : Client) (user ip : String) (ep : Endpoint) :
    (view true cfg c user ip ep).isPanic = false :=
  view_eq_viewWith cfg c user ip ep ▸ viewWith_no_panic ..

/-- the five ways `Authenticate` + view can go, with the result in each.  To use `hc : AuthCase … (handlePolicy cfg url opa req)`:
    first `generalize handlePolicy cfg url opa req = r at hc ⊢`, then `cases hc` (the index must be a variable, else the
    elimination fails as dependent). -/
inductive AuthCase (cfg : Config) (url : String) (opa : Opa) (req : PReq) (ip : String) : PResult → Prop where
  | certErr : (∀ cs, presentedCerts cfg req ≠ .ok cs) → req.sslCert = .bad →
      AuthCase cfg url opa req ip { out := unhandled 500 ip }
  | noCred : presentedCerts cfg req = .ok [] → bearerToken req.authz = "" →
      AuthCase cfg url opa req ip { out := .resp { status := 401, problem := "token-required", ip } }
  | fetchFail (certs : List String) (st : Nat) : presentedCerts cfg req = .ok certs →
      ¬ (bearerToken req.authz = "" ∧ certs = []) → fetched opa (mkPost url req certs) = none → (st = 500 ∨ st = 504) →
      AuthCase cfg url opa req ip { out := unhandled st ip, post := some (mkPost url req certs) }
  | deny (certs : List String) (d : Decision) : presentedCerts cfg req = .ok certs →
      ¬ (bearerToken req.authz = "" ∧ certs = []) → fetched opa (mkPost url req certs) = some d → d.allow = false →
      AuthCase cfg url opa req ip
        { out := .resp { status := denyStatus d.errors, problem := "token-authorization-failed", ip, user := d.sub },
          post := some (mkPost url req certs), errors := d.errors }
  | allow (certs : List String) (d : Decision) : presentedCerts cfg req = .ok certs →
      ¬ (bearerToken req.authz = "" ∧ certs = []) → fetched opa (mkPost url req certs) = some d → d.allow = true →
      AuthCase cfg url opa req ip
        { out := viewWith (pallowed d.user) cfg d.sub ip req.ep, post := some (mkPost url req certs) }

theorem ppeerCerts_cases (proxied : Bool) (req : PReq) :
    (∃ cs, ppeerCerts proxied req = .ok cs) ∨ (ppeerCerts proxied req = .err "ssl-client-cert" ∧ req.sslCert = .bad) := by
  unfold ppeerCerts
  cases proxied
  · simp
  · cases hs : req.sslCert <;> simp

theorem authenticated_case (cfg : Config) (url : String) (opa : Opa) (req : PReq) (ip : String) :
    AuthCase cfg url opa req ip (authenticated cfg url opa req ip) := by
  unfold authenticated
  rcases ppeerCerts_cases (ptransport cfg req).2 req with ⟨cs, hcs⟩ | ⟨herr, hbad⟩
  · have hpc : presentedCerts cfg req = .ok cs := hcs
    simp only [hpc]
    by_cases hnc : bearerToken req.authz = "" ∧ cs = []
    · simp only [hnc, and_self, ↓reduceIte]
      obtain ⟨h1, h2⟩ := hnc
      subst h2
      exact .noCred hpc h1
    · simp only [hnc, ↓reduceIte]
      cases hop : opa (mkPost url req cs) with
      | transport dl =>
        simp only
        refine .fetchFail cs _ hpc hnc (by simp [fetched, hop]) ?_
        cases dl <;> simp
      | http st body =>
        simp only
        by_cases hst : st ≥ 300
        · simp only [hst, ↓reduceIte]
          refine .fetchFail cs 500 hpc hnc ?_ (Or.inl rfl)
          have : ¬ st < 300 := by omega
          cases body <;> simp [fetched, hop, this]
        · simp only [hst, ↓reduceIte]
          have hlt : st < 300 := by omega
          cases body with
          | bad => exact .fetchFail cs 500 hpc hnc (by simp [fetched, hop]) (Or.inl rfl)
          | dec d =>
            simp only
            have hf : fetched opa (mkPost url req cs) = some d := by simp [fetched, hop, hlt]
            cases ha : d.allow with
            | false => simpa [ha] using AuthCase.deny cs d hpc hnc hf ha
            | true => simpa [ha] using AuthCase.allow cs d hpc hnc hf ha
  · have hpc : presentedCerts cfg req = .err "ssl-client-cert" := herr
    simp only [hpc]
    exact .certErr (by intro cs; simp [hpc]) hbad

theorem handlePolicy_auth {cfg : Config} (url : String) (opa : Opa) {req : PReq}
    (hst : startCheck cfg = none) (hp : req.ep.isPublic = false) :
    handlePolicy cfg url opa req = authenticated cfg url opa req (ptransport cfg req).1 := by
  simp [handlePolicy, hst, hp]

theorem handlePolicy_case {cfg : Config} (url : String) (opa : Opa) {req : PReq}
    (hst : startCheck cfg = none) (hp : req.ep.isPublic = false) :
    AuthCase cfg url opa req (ptransport cfg req).1 (handlePolicy cfg url opa req) :=
  handlePolicy_auth url opa hst hp ▸ authenticated_case ..

theorem handlePolicy_cases (cfg : Config) (url : String) (opa : Opa) (req : PReq) :
    (∃ o, handlePolicy cfg url opa req = { out := o } ∧
      ((∃ e, o = .startErr e) ∨ (req.ep.isPublic = true ∧ ∃ ip, o = .resp { status := 200, ip }))) ∨
    (startCheck cfg = none ∧ req.ep.isPublic = false ∧
      AuthCase cfg url opa req (ptransport cfg req).1 (handlePolicy cfg url opa req)) := by
  cases hst : startCheck cfg with
  | some e => exact .inl ⟨_, by simp only [handlePolicy, hst], .inl ⟨e, rfl⟩⟩
  | none =>
    cases hp : req.ep.isPublic with
    | true => exact .inl ⟨_, by simp only [handlePolicy, hst, hp, if_true]; rfl, .inr ⟨rfl, _, rfl⟩⟩
    | false => exact .inr ⟨rfl, rfl, handlePolicy_case url opa hst hp⟩

theorem denyStatus_cases (es : List String) :
    (denyStatus es = 401 ∧ ∃ e, e ∈ es ∧ e ∈ should401) ∨ (denyStatus es = 403 ∧ ∀ e ∈ es, e ∉ should401) := by
  unfold denyStatus
  by_cases h : es.any (fun e => should401.contains e) = true
  · left
    simp only [h, ↓reduceIte, true_and]
    simpa [List.any_eq_true] using h
  · right
    simp only [h, Bool.false_eq_true, ↓reduceIte, true_and]
    simpa [List.any_eq_true] using h

theorem bearerTokenL_nil_iff (a : List Char) :
    bearerTokenL a = [] ↔ a.length ≤ 7 ∨ (a.take 7).map lowerAscii ≠ bearerPrefix := by
  unfold bearerTokenL
  by_cases h1 : a.length < 7
  · rw [if_pos h1]
    exact ⟨fun _ => Or.inl (by omega), fun _ => rfl⟩
  · rw [if_neg h1]
    by_cases h2 : (a.take 7).map lowerAscii = bearerPrefix
    · rw [if_pos h2, List.drop_eq_nil_iff]
      exact ⟨fun h => Or.inl h, fun h => h.elim id (fun h' => absurd h2 h')⟩
    · rw [if_neg h2]
      exact ⟨fun _ => Or.inr h2, fun _ => rfl⟩

theorem pallowed_has_token {cfg : Config} {u : PUser} {t : Key} (hst : startCheck cfg = none)
    (hnt : "" ∉ cfg.tokens) (hak : namedHaveTokens cfg u = true) (ht : t ∈ cfg.keys) (ha : pallowed u t = true) :
    t.token ≠ "" := by
  rcases (pallowed_iff u t).1 ha with hname | ⟨r, hr1, -⟩
  · unfold namedHaveTokens at hak
    rw [List.all_eq_true] at hak
    have := hak t ht
    simpa [hname] using this
  · exact served_has_token hst hnt ht hr1

theorem listedWith_eq_spec {al : Key → Bool} {cfg : Config} {k : Key}
    (htok : ∀ t ∈ cfg.keys, al t = true → t.token ≠ "") (hk : k ∈ cfg.keys) (hd : lookupKey cfg k.name = some k) :
    listedWith al cfg k = (!hidden cfg k && psignAuthorised al cfg k.name) := by
  unfold listedWith hidden psignAuthorised getKey getKeyWith
  simp only [hd]
  by_cases hh : k.hide = true
  · simp [hh]
  · simp only [hh, Bool.false_eq_true, ↓reduceIte, Bool.false_or]
    by_cases ha : k.alias = ""
    · simp only [ha, ne_eq, not_true_eq_false, ↓reduceIte, Bool.not_false, Bool.true_and]
      by_cases hal : al k = true
      · simp [htok k hk hal, hal]
      · simp only [Bool.not_eq_true] at hal
        by_cases ht : k.token = "" <;> simp [ht, hal]
    · simp only [ne_eq, ha, not_false_eq_true, ↓reduceIte]
      cases hl : lookupKey cfg k.alias with
      | none => simp
      | some t =>
        simp only
        by_cases hal : al t = true
        · simp [htok t (lookupKey_mem hl).1 hal, hal]
        · simp only [Bool.not_eq_true] at hal
          by_cases ht : t.token = "" <;> simp [ht, hal]

/-- `al` is the user's `Allowed` (either mode); `hd` says that `Keys` is a map -/
theorem listWith_exact (al : Key → Bool) (cfg : Config) (htok : ∀ t ∈ cfg.keys, al t = true → t.token ≠ "")
    (hd : ∀ k ∈ cfg.keys, lookupKey cfg k.name = some k) :
    listKeysWith al cfg = specListWith al cfg ∧ (listKeysWith al cfg).Pairwise (· ≤ ·) ∧
    ∀ n, n ∈ listKeysWith al cfg ↔
      ∃ k ∈ cfg.keys, k.name = n ∧ hidden cfg k = false ∧ psignAuthorised al cfg n = true := by
  have heq : listKeysWith al cfg = specListWith al cfg := by
    unfold listKeysWith specListWith
    rw [List.filter_congr fun k hk => listedWith_eq_spec htok hk (hd k hk)]
  refine ⟨heq, sorted_sortStrings _, fun n => ?_⟩
  rw [heq]
  simp only [specListWith, mem_sortStrings, List.mem_map, List.mem_filter, Bool.and_eq_true, Bool.not_eq_eq_eq_not,
    Bool.not_true]
  exact ⟨fun ⟨k, ⟨hk, hh, hs⟩, e⟩ => ⟨k, hk, e, hh, e ▸ hs⟩, fun ⟨k, hk, e, hh, hs⟩ => ⟨k, ⟨hk, hh, e ▸ hs⟩, e⟩⟩

theorem ptransport_untrusted (cfg : Config) (req : PReq)
    (hu : hopTrusted cfg.inNets (stripPort req.remoteAddr) = false) :
    ptransport cfg req = (stripPort (stripPort req.remoteAddr), false) := by
  simp [ptransport, trustedClient_untrusted _ _ _ hu]

end Relic.Proofs.AuthzPolicy
