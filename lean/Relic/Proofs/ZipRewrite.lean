/-
  Relic.Proofs.ZipRewrite — the ZIP rewriters of `Relic.Model.ZipRewrite` (C03): what the shared loop (`walk`)
  computes, what the cut ranges leave of the input (`applyDels`), and where each kept and each added
  member ends up in the output.
-/
import Relic.Model.ZipRewrite
import Relic.Proofs.ZipReader
namespace Relic.Zip

/-- the bytes of a member as relic measured it: local header, name, extra, data, descriptor -/
def extent (z : Bytes) (m : Member) : Bytes := (z.drop m.file.offset).take m.total

/-- members laid out back to back from `pos` up to `e` (relic's own measure: `GetTotalSize`) -/
def contigMs : Nat → List Member → Nat → Prop
  | pos, [], e => pos = e
  | pos, m :: ms, e => m.file.offset = pos ∧ contigMs (pos + m.total) ms e

instance : (pos : Nat) → (ms : List Member) → (e : Nat) → Decidable (contigMs pos ms e)
  | pos, [], e => by unfold contigMs; infer_instance
  | pos, m :: ms, e => by
    unfold contigMs
    have := instDecidableContigMs (pos + m.total) ms e
    infer_instance

/-- the directory entry `AddFile` makes for member `m` at running offset `o` -/
def placed (o : Nat) (m : Member) : File :=
  { m.file with raw := if m.file.offset ≠ o then [] else m.file.raw, offset := o }

/-- kept members with the offsets the running `DirLoc` gives them, in input order -/
def assign (keep : File → Bool) : List Member → Nat → List (Nat × Member)
  | [], _ => []
  | m :: ms, o => if keep m.file then (o, m) :: assign keep ms (o + m.total) else assign keep ms o

def keptLen (keep : File → Bool) : List Member → Nat
  | [] => 0
  | m :: ms => (if keep m.file then m.total else 0) + keptLen keep ms

def totalLen : List Member → Nat
  | [] => 0
  | m :: ms => m.total + totalLen ms

def delRanges (keep : File → Bool) : List Member → List (Nat × Nat)
  | [] => []
  | m :: ms => if keep m.file then delRanges keep ms else (m.file.offset, m.total) :: delRanges keep ms

/-- the kept members' extents, concatenated -/
def keptBytes (z : Bytes) (keep : File → Bool) : List Member → Bytes
  | [] => []
  | m :: ms => (if keep m.file then extent z m else []) ++ keptBytes z keep ms

/-- the fields of a directory entry that measuring a member (`GetTotalSize`) never changes -/
def fileMeta (f : File) : Bytes × Nat × Nat × Nat × Nat × Bytes × Bytes × Nat × Nat × Nat × Nat × Nat :=
  (f.name, f.method, f.flags, f.csize, f.usize, f.extra, f.comment, f.offset, f.creator, f.reader, f.iattrs, f.eattrs)

theorem getTotalSize_meta (r : Rd) (f : File) (m : Member) (r' : Rd) (h : getTotalSize r f = .ok (m, r')) :
    fileMeta m.file = fileMeta f := by
  obtain ⟨l, r1, ddb, crc, -, -, rfl⟩ := getTotalSize_ok_iff.mp h
  rfl

theorem passMember_meta (r : Rd) (f : File) (b : Bool) (m : Member) (r' : Rd) (h : passMember r f b = .ok (m, r')) :
    fileMeta m.file = fileMeta f := by
  unfold passMember at h
  split at h
  · simp only at h
    split at h
    · split at h
      · exact (getTotalSize_meta _ _ _ _ h).trans rfl
      all_goals cases h
    · exact (getTotalSize_meta _ _ _ _ h).trans rfl
  all_goals cases h

/-- The forward pass returns one measured member per directory entry, in
    directory order, with name, method, flags, sizes, extra, comment and offset as in the directory. -/
theorem passMembers_meta (rd : File → Bool) : ∀ (fs : List File) (r : Rd) (ms : List Member),
    passMembers rd r fs = .ok ms → ms.map (fun m => fileMeta m.file) = fs.map fileMeta := by
  intro fs
  induction fs with
  | nil => intro r ms h; simp [passMembers] at h; simp [h]
  | cons f fs ih =>
    intro r ms h
    unfold passMembers at h
    split at h
    · rename_i m r' hm
      split at h
      · rename_i ms' hms
        simp only [Res.ok.injEq] at h
        subst h
        simp [passMember_meta _ _ _ _ _ hm, ih _ _ hms]
      all_goals cases h
    all_goals cases h

theorem addFile_files (nd : Directory) (f : File) (t : Nat) :
    (addFile nd f t).files = nd.files ++ [{ f with raw := if f.offset ≠ nd.dirLoc then [] else f.raw, offset := nd.dirLoc }] ∧
    (addFile nd f t).dirLoc = nd.dirLoc + t := by
  simp [addFile]

theorem walk_spec (fixed limit : Bool) (keep : File → Bool) :
    ∀ (ms : List Member) (pos : Nat) (nd : Directory) (dels : List (Nat × Nat)) (nd' : Directory)
      (dels' : List (Nat × Nat)) (pos' : Nat),
      walk fixed limit keep ms pos nd dels = .ok (nd', dels', pos') →
      nd'.files = nd.files ++ (assign keep ms nd.dirLoc).map (fun p => placed p.1 p.2) ∧
      nd'.dirLoc = nd.dirLoc + keptLen keep ms ∧
      dels' = dels ++ delRanges keep ms ∧
      pos' = pos + totalLen ms ∧
      (fixed = true → contigMs pos ms pos') := by
  intro ms
  induction ms with
  | nil =>
    intro pos nd dels nd' dels' pos' h
    simp only [walk, Res.ok.injEq, Prod.mk.injEq] at h
    obtain ⟨rfl, rfl, rfl⟩ := h
    simp [assign, keptLen, delRanges, totalLen, contigMs]
  | cons m ms ih =>
    intro pos nd dels nd' dels' pos' h
    unfold walk at h
    split at h
    · cases h
    · rename_i hfix
      split at h
      · rename_i hk
        obtain ⟨h1, h2, h3, h4, h5⟩ := ih _ _ _ _ _ _ h
        have ha := addFile_files nd m.file m.total
        refine ⟨?_, ?_, ?_, ?_, ?_⟩
        · rw [h1, ha.1, ha.2]
          simp [assign, hk, placed]
        · rw [h2, ha.2]; simp [keptLen, hk]; omega
        · rw [h3]; simp [delRanges, hk]
        · rw [h4]; simp [totalLen]; omega
        · intro hf
          have h5' := h5 hf
          simp [hf] at hfix
          rw [h4] at h5'
          simp only [contigMs]
          refine ⟨hfix, ?_⟩
          rw [h4]
          exact h5'
      · rename_i hk
        split at h
        · cases h
        · obtain ⟨h1, h2, h3, h4, h5⟩ := ih _ _ _ _ _ _ h
          refine ⟨?_, ?_, ?_, ?_, ?_⟩
          · rw [h1]; simp [assign, hk]
          · rw [h2]; simp [keptLen, hk]
          · rw [h3]; simp [delRanges, hk]
          · rw [h4]; simp [totalLen]; omega
          · intro hf
            have h5' := h5 hf
            simp [hf] at hfix
            simp only [contigMs]
            exact ⟨hfix, h5'⟩

theorem take_split (z : Bytes) (p q r : Nat) (h1 : p ≤ q) (h2 : q ≤ r) :
    (z.drop p).take (r - p) = (z.drop p).take (q - p) ++ (z.drop q).take (r - q) := by
  have := (take_drop_append z p (q - p) (r - q)).symm
  rwa [show p + (q - p) = q by omega, show q - p + (r - q) = r - p by omega] at this

def firstStart (ds : List (Nat × Nat)) (e : Nat) : Nat :=
  match ds with
  | [] => e
  | (o, _) :: _ => o

theorem applyDels_split (z : Bytes) (p q : Nat) (ds : List (Nat × Nat)) (e : Nat) (h1 : p ≤ q) (h2 : q ≤ firstStart ds e) :
    applyDels z p ds e = (z.drop p).take (q - p) ++ applyDels z q ds e := by
  cases ds with
  | nil =>
    simp only [applyDels, firstStart] at *
    exact take_split z p q e h1 h2
  | cons d ds =>
    obtain ⟨o, n⟩ := d
    simp only [applyDels, firstStart] at *
    rw [take_split z p q o h1 h2, List.append_assoc]

theorem contig_le : ∀ (ms : List Member) (pos e : Nat), contigMs pos ms e → pos ≤ e := by
  intro ms
  induction ms with
  | nil => intro pos e h; simp [contigMs] at h; omega
  | cons m ms ih =>
    intro pos e h
    have := ih _ _ h.2
    omega

theorem firstStart_ge (keep : File → Bool) : ∀ (ms : List Member) (pos e : Nat), contigMs pos ms e →
    pos ≤ firstStart (delRanges keep ms) e := by
  intro ms
  induction ms with
  | nil => intro pos e h; simp [contigMs] at h; simp [delRanges, firstStart, h]
  | cons m ms ih =>
    intro pos e h
    obtain ⟨h1, h2⟩ := h
    by_cases hk : keep m.file = true
    · have := ih _ _ h2
      simp [delRanges, hk]
      omega
    · simp [delRanges, hk, firstStart, h1]

theorem applyDels_contig (z : Bytes) (keep : File → Bool) : ∀ (ms : List Member) (pos e : Nat), contigMs pos ms e →
    applyDels z pos (delRanges keep ms) e = keptBytes z keep ms := by
  intro ms
  induction ms with
  | nil => intro pos e h; simp [contigMs] at h; simp [delRanges, applyDels, keptBytes, h]
  | cons m ms ih =>
    intro pos e h
    obtain ⟨h1, h2⟩ := h
    by_cases hk : keep m.file = true
    · have hs := applyDels_split z pos (pos + m.total) (delRanges keep ms) e (by omega) (firstStart_ge keep ms _ _ h2)
      simp only [delRanges, hk, if_true, keptBytes]
      rw [hs, ih _ _ h2, extent, h1]
      congr 2
      omega
    · have hk' : keep m.file = false := by simpa using hk
      simp only [delRanges, hk', keptBytes, Bool.false_eq_true, if_false, applyDels, h1]
      rw [Nat.sub_self, List.take_zero, List.nil_append, ih _ _ h2]
      simp

theorem keptBytes_length (z : Bytes) (keep : File → Bool) : ∀ (ms : List Member) (pos e : Nat), contigMs pos ms e →
    e ≤ z.length → (keptBytes z keep ms).length = keptLen keep ms := by
  intro ms
  induction ms with
  | nil => intro pos e _ _; simp [keptBytes, keptLen]
  | cons m ms ih =>
    intro pos e h he
    obtain ⟨h1, h2⟩ := h
    have hle := contig_le ms _ _ h2
    by_cases hk : keep m.file = true
    · simp only [keptBytes, keptLen, hk, if_true, List.length_append, ih _ _ h2 he, extent, List.length_take, List.length_drop]
      omega
    · simp [keptBytes, keptLen, hk, ih _ _ h2 he]

/-- every pair (offset, member) of the list: the output holds the member's extent at that offset -/
def locatedAt (z out : Bytes) (shift : Nat) (l : List (Nat × Member)) : Prop :=
  ∀ p ∈ l, (out.drop (p.1 + shift)).take p.2.total = extent z p.2

theorem drop_take_mid (pre x post : Bytes) : ((pre ++ x ++ post).drop pre.length).take x.length = x := by
  rw [List.append_assoc, List.drop_left, List.take_left]

/-- With `pre.length = L + shift`, the i-th kept member's extent sits at the
    offset `assign` gives it (plus `shift`) in `pre ++ keptBytes ++ post`. -/
theorem assign_located (z : Bytes) (keep : File → Bool) (shift : Nat) :
    ∀ (ms : List Member) (pos e : Nat) (pre post : Bytes) (L : Nat), contigMs pos ms e → e ≤ z.length →
      pre.length = L + shift →
      locatedAt z (pre ++ keptBytes z keep ms ++ post) shift (assign keep ms L) := by
  intro ms
  induction ms with
  | nil => intro pos e pre post L _ _ _ p hp; simp [assign] at hp
  | cons m ms ih =>
    intro pos e pre post L h he hpre
    obtain ⟨h1, h2⟩ := h
    have hle := contig_le ms _ _ h2
    have hext : (extent z m).length = m.total := by
      simp only [extent, List.length_take, List.length_drop]; omega
    by_cases hk : keep m.file = true
    · simp only [assign, hk, if_true, keptBytes]
      intro p hp
      rcases List.mem_cons.mp hp with rfl | hp
      · simp only
        have := drop_take_mid pre (extent z m) (keptBytes z keep ms ++ post)
        rw [hext, hpre] at this
        simpa [List.append_assoc] using this
      · have := ih _ _ (pre ++ extent z m) post (L + m.total) h2 he (by simp [hext, hpre]; omega) p hp
        simpa [List.append_assoc] using this
    · simp only [assign, hk, keptBytes]
      intro p hp
      have := ih _ _ pre post L h2 he hpre p hp
      simpa using this

/-- local header `NewFile` writes -/
def newLfh (mt md : Nat) (n : NewMember) : Lfh :=
  { reader := if n.useDesc then 45 else 20, flags := if n.useDesc then 8 else 0, method := if n.deflate then 8 else 0,
    mtime := mt, mdate := md, crc := if n.useDesc then 0 else n.crc,
    csize := if n.useDesc then 0 else n.compd.length % 2 ^ 32, usize := if n.useDesc then 0 else n.usize % 2 ^ 32,
    nameLen := n.name.length % 2 ^ 16, extraLen := n.extra.length % 2 ^ 16, name := n.name, extra := n.extra }

def newDdb (n : NewMember) : Bytes :=
  if n.useDesc then leBytes 4 sigDesc ++ leBytes 4 n.crc ++ leBytes 8 n.compd.length ++ leBytes 8 n.usize else []

/-- the bytes `NewFile` writes for a requested member -/
def newBytes (mt md : Nat) (n : NewMember) : Bytes :=
  encLfh (newLfh mt md n) ++ n.name ++ n.extra ++ n.compd ++ newDdb n

/-- the directory entry `NewFile` makes for a requested member written at offset `o` -/
def newEntryAt (mt md : Nat) (n : NewMember) (o : Nat) : File :=
  { creator := 45, reader := if n.useDesc then 45 else 20, flags := if n.useDesc then 8 else 0,
    method := if n.deflate then 8 else 0, mtime := mt, mdate := md, crc := n.crc, csize := n.compd.length, usize := n.usize,
    name := n.name, extra := n.extra, comment := [], iattrs := 0, eattrs := 0, offset := o, raw := [],
    lfh := some (newLfh mt md n), ddb := newDdb n, compd := some n.compd }

theorem newBytes_length (mt md : Nat) (n : NewMember) :
    (newBytes mt md n).length = 30 + (n.name.length + n.extra.length + (newDdb n).length) + n.compd.length := by
  simp only [newBytes, List.length_append, encLfh_length]
  omega

theorem newBytes_parts (mt md : Nat) (n : NewMember) :
    (newBytes mt md n).take 30 = encLfh (newLfh mt md n) ∧
    ((newBytes mt md n).drop 30).take n.name.length = n.name ∧
    ((newBytes mt md n).drop (30 + n.name.length)).take n.extra.length = n.extra ∧
    ((newBytes mt md n).drop (30 + n.name.length + n.extra.length)).take n.compd.length = n.compd ∧
    (newBytes mt md n).drop (30 + n.name.length + n.extra.length + n.compd.length) = newDdb n := by
  have hl := encLfh_length (newLfh mt md n)
  refine ⟨?_, ?_, ?_, ?_, ?_⟩
  · simp only [newBytes, List.append_assoc]; exact List.take_left' hl
  · simp only [newBytes, List.append_assoc]; rw [List.drop_left' hl]; exact List.take_left' rfl
  · simp only [newBytes, List.append_assoc]
    rw [← List.drop_drop, List.drop_left' hl, List.drop_left' rfl]; exact List.take_left' rfl
  · simp only [newBytes, List.append_assoc]
    rw [Nat.add_assoc, ← List.drop_drop, List.drop_left' hl, ← List.drop_drop, List.drop_left' rfl, List.drop_left' rfl]
    exact List.take_left' rfl
  · simp only [newBytes, List.append_assoc]
    rw [Nat.add_assoc, Nat.add_assoc, ← List.drop_drop, List.drop_left' hl, ← List.drop_drop, List.drop_left' rfl,
      ← List.drop_drop, List.drop_left' rfl, List.drop_left' rfl]

theorem newFile_eq (mt md : Nat) (d : Directory) (n : NewMember) :
    newFile d n.name n.extra n.compd n.usize n.crc mt md n.deflate n.useDesc =
      (newBytes mt md n, { d with dirLoc := d.dirLoc + (newBytes mt md n).length,
                                  files := d.files ++ [newEntryAt mt md n d.dirLoc] }) := by
  rw [newBytes_length]
  simp only [newFile, addFile, newBytes, newEntryAt, newLfh, newDdb]
  refine Prod.ext rfl ?_
  simp

/-- entries and bytes of consecutive `NewFile` calls starting at offset `o` -/
def newEntries (mt md : Nat) : List NewMember → Nat → List File × Bytes
  | [], _ => ([], [])
  | n :: ns, o =>
    let r := newEntries mt md ns (o + (newBytes mt md n).length)
    (newEntryAt mt md n o :: r.1, newBytes mt md n ++ r.2)

theorem newEntries_fst_length (mt md : Nat) : ∀ (news : List NewMember) (o : Nat), (newEntries mt md news o).1.length = news.length := by
  intro news
  induction news with
  | nil => intro o; rfl
  | cons n ns ih => intro o; simp [newEntries, ih]

/-- Consecutive `NewFile` calls append the requested entries, each at the offset
    where its bytes were written, and advance `DirLoc` by the bytes written. -/
theorem addNews_spec (mt md : Nat) : ∀ (news : List NewMember) (body : Bytes) (d : Directory),
    (addNews mt md news (body, d)).1 = body ++ (newEntries mt md news d.dirLoc).2 ∧
    (addNews mt md news (body, d)).2.files = d.files ++ (newEntries mt md news d.dirLoc).1 ∧
    (addNews mt md news (body, d)).2.dirLoc = d.dirLoc + (newEntries mt md news d.dirLoc).2.length ∧
    (addNews mt md news (body, d)).2.size = d.size := by
  intro news
  induction news with
  | nil => intro body d; simp [addNews, newEntries]
  | cons n ns ih =>
    intro body d
    simp only [addNews, newEntries, newFile_eq]
    obtain ⟨i1, i2, i3, i4⟩ := ih (body ++ newBytes mt md n)
      { d with dirLoc := d.dirLoc + (newBytes mt md n).length, files := d.files ++ [newEntryAt mt md n d.dirLoc] }
    refine ⟨?_, ?_, ?_, ?_⟩
    · rw [i1]; simp [List.append_assoc]
    · rw [i2]; simp [List.append_assoc]
    · rw [i3]; simp [List.length_append]; omega
    · rw [i4]

/-- every added member: its bytes are in `body` at the offset its entry carries (relative to `o`) -/
theorem newEntries_located (mt md : Nat) : ∀ (news : List NewMember) (o : Nat) (pre post : Bytes), pre.length = o →
    ∀ p ∈ (newEntries mt md news o).1.zip news,
      ((pre ++ (newEntries mt md news o).2 ++ post).drop p.1.offset).take (newBytes mt md p.2).length = newBytes mt md p.2 ∧
      p.1 = newEntryAt mt md p.2 p.1.offset := by
  intro news
  induction news with
  | nil => intro o pre post _ p hp; simp [newEntries] at hp
  | cons n ns ih =>
    intro o pre post hpre p hp
    simp only [newEntries, List.zip_cons_cons] at hp
    rcases List.mem_cons.mp hp with rfl | hp
    · refine ⟨?_, rfl⟩
      simp only [newEntries, newEntryAt]
      have := drop_take_mid pre (newBytes mt md n) ((newEntries mt md ns (o + (newBytes mt md n).length)).2 ++ post)
      rw [hpre] at this
      simpa [List.append_assoc] using this
    · have := ih (o + (newBytes mt md n).length) (pre ++ newBytes mt md n) post (by simp [hpre]) p hp
      simpa [newEntries, List.append_assoc] using this

theorem jarRead_ok {z : Bytes} {d : Directory} {ms : List Member} (h : jarRead z = .ok (d, ms)) :
    ∃ loc, findDirectory ⟨z, false, 0⟩ = .ok loc ∧ loc ≤ z.length ∧ readWithDirectory z.length (z.drop loc) = .ok d ∧
      passMembers jarReads ⟨z, true, 0⟩ d.files = .ok ms ∧ (d.files.any fun f => f.name == sManifest) = true := by
  unfold jarRead at h
  cases hf : findDirectory ⟨z, false, 0⟩ with
  | ok loc =>
    rw [hf] at h
    by_cases hle : loc > z.length
    · simp only [if_pos hle] at h; cases h
    simp only [if_neg hle] at h
    cases hr : readWithDirectory z.length (z.drop loc) with
    | ok d' =>
      rw [hr] at h
      simp only at h
      cases hp : passMembers jarReads ⟨z, true, 0⟩ d'.files with
      | ok ms' =>
        rw [hp] at h
        simp only at h
        by_cases hm : (d'.files.any fun f => f.name == sManifest) = true
        · simp only [if_pos hm, Res.ok.injEq, Prod.mk.injEq] at h
          obtain ⟨rfl, rfl⟩ := h
          exact ⟨loc, rfl, Nat.le_of_not_lt hle, hr, hp, hm⟩
        · simp only [if_neg hm] at h; cases h
      | err | panic | diverge => rw [hp] at h; cases h
    | err | panic | diverge => rw [hr] at h; cases h
  | err | panic | diverge => rw [hf] at h; cases h

theorem manglerRead_ok {z : Bytes} {d : Directory} {ms : List Member} (h : manglerRead z = .ok (d, ms)) :
    ∃ loc, findDirectory ⟨z, false, 0⟩ = .ok loc ∧ loc ≤ z.length ∧ readWithDirectory z.length (z.drop loc) = .ok d ∧
      passMembers vsixReads ⟨z, true, 0⟩ d.files = .ok ms := by
  unfold manglerRead at h
  cases hf : findDirectory ⟨z, false, 0⟩ with
  | ok loc =>
    rw [hf] at h
    by_cases hle : loc > z.length
    · simp only [if_pos hle] at h; cases h
    simp only [if_neg hle] at h
    cases hr : readWithDirectory z.length (z.drop loc) with
    | ok d' =>
      rw [hr] at h
      simp only at h
      cases hp : passMembers vsixReads ⟨z, true, 0⟩ d'.files with
      | ok ms' =>
        rw [hp] at h
        simp only [Res.ok.injEq, Prod.mk.injEq] at h
        obtain ⟨rfl, rfl⟩ := h
        exact ⟨loc, rfl, Nat.le_of_not_lt hle, hr, hp⟩
      | err | panic | diverge => rw [hp] at h; cases h
    | err | panic | diverge => rw [hr] at h; cases h
  | err | panic | diverge => rw [hf] at h; cases h

theorem jarAssemble_ok {fixed : Bool} {z : Bytes} {d : Directory} {ms : List Member} {news : List NewMember} {mt md : Nat}
    {out : Bytes} (h : jarAssemble fixed z d ms news mt md = .ok out) :
    ∃ nd dels pos,
      walk fixed true jarKeep ms 0 (addNews mt md news ([], { files := [], size := 0, dirLoc := 0 })).2 [] = .ok (nd, dels, pos) ∧
      (fixed = true → pos = d.dirLoc) ∧ headersOK nd.files = true ∧
      out = (addNews mt md news ([], { files := [], size := 0, dirLoc := 0 })).1 ++ applyDels z 0 dels d.dirLoc ++
        (writeDirectory nd false).1 ++ (writeDirectory nd false).2.1 := by
  unfold jarAssemble at h
  generalize addNews mt md news ([], { files := [], size := 0, dirLoc := 0 }) = P at h ⊢
  obtain ⟨body, nd0⟩ := P
  simp only at h ⊢
  cases hwk : walk fixed true jarKeep ms 0 nd0 [] with
  | ok y =>
    obtain ⟨nd, dels, pos⟩ := y
    rw [hwk] at h
    simp only at h
    by_cases c1 : (fixed && decide (pos ≠ d.dirLoc)) = true
    · rw [if_pos c1] at h; cases h
    · rw [if_neg c1] at h
      cases hH : headersOK nd.files
      · rw [hH] at h; cases h
      · rw [hH] at h
        refine ⟨nd, dels, pos, rfl, fun hf => ?_, hH, (Res.ok.inj h).symm⟩
        simpa [hf] using c1
  | err | panic | diverge => rw [hwk] at h; cases h

theorem manglerAssemble_ok {fixed : Bool} {z : Bytes} {d : Directory} {ms : List Member} {news : List NewMember} {mt md : Nat}
    {force : Bool} {out : Bytes} (h : manglerAssemble fixed z d ms news mt md force = .ok out) :
    ∃ nd1 dels pos,
      walk fixed false vsixKeep ms 0 { files := [], size := 0, dirLoc := 0 } [] = .ok (nd1, dels, pos) ∧
      (fixed = true → pos = d.dirLoc) ∧ headersOK (addNews mt md news ([], nd1)).2.files = true ∧
      out = applyDels z 0 dels d.dirLoc ++ (addNews mt md news ([], nd1)).1 ++
        (writeDirectory (addNews mt md news ([], nd1)).2 force).1 ++ (writeDirectory (addNews mt md news ([], nd1)).2 force).2.1 := by
  unfold manglerAssemble at h
  cases hwk : walk fixed false vsixKeep ms 0 { files := [], size := 0, dirLoc := 0 } [] with
  | ok y =>
    obtain ⟨nd1, dels, pos⟩ := y
    rw [hwk] at h
    simp only at h
    by_cases c1 : (fixed && decide (pos ≠ d.dirLoc)) = true
    · rw [if_pos c1] at h; cases h
    · rw [if_neg c1] at h
      refine ⟨nd1, dels, pos, rfl, fun hf => by simpa [hf] using c1, ?_⟩
      generalize addNews mt md news ([], nd1) = P at h ⊢
      obtain ⟨body, nd⟩ := P
      simp only at h ⊢
      cases hH : headersOK nd.files
      · rw [hH] at h; cases h
      · rw [hH] at h
        exact ⟨rfl, (Res.ok.inj h).symm⟩
  | err | panic | diverge => rw [hwk] at h; cases h

theorem jarRewriteWith_ok {fixed : Bool} {z : Bytes} {news : List NewMember} {mt md : Nat} {out : Bytes}
    (h : jarRewriteWith fixed z news mt md = .ok out) :
    ∃ d ms, jarRead z = .ok (d, ms) ∧ jarAssemble fixed z d ms news mt md = .ok out := by
  unfold jarRewriteWith at h
  cases hr : jarRead z with
  | ok x => rw [hr] at h; exact ⟨x.1, x.2, rfl, h⟩
  | err | panic | diverge => rw [hr] at h; cases h

theorem manglerRewriteWith_ok {fixed : Bool} {z : Bytes} {news : List NewMember} {mt md : Nat} {force : Bool} {out : Bytes}
    (h : manglerRewriteWith fixed z news mt md force = .ok out) :
    ∃ d ms, manglerRead z = .ok (d, ms) ∧ manglerAssemble fixed z d ms news mt md force = .ok out := by
  unfold manglerRewriteWith at h
  cases hr : manglerRead z with
  | ok x => rw [hr] at h; exact ⟨x.1, x.2, rfl, h⟩
  | err | panic | diverge => rw [hr] at h; cases h

end Relic.Zip
