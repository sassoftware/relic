/-
  The end records: what a successful `ends` says in the model's accessors (`ends_some`), that the record it takes is the first
  one a search from the end meets (`ends_first`), `FindDirectory` on such a file, and the bound on the directory of a parsed archive.
-/
import Relic.Proofs.ZipSpecRead
namespace Relic.Zip
open Relic.SpecZip

theorem num_at {z : Bytes} {p k w v : Nat} (h : num z (p + k) w = some v) :
    p + k + w ≤ z.length ∧ v = fld (z.drop p) k w := by
  rw [fld_drop]; exact num_some h

theorem lastEocd_some (z : Bytes) : ∀ (i p : Nat), lastEocd z i = some p →
    p ≤ i ∧ hasSig z p 0x50 0x4b 0x05 0x06 = true := by
  intro i
  induction i with
  | zero =>
    intro p h
    unfold lastEocd at h
    split at h
    · next hs => cases h; exact ⟨Nat.le_refl _, hs⟩
    · cases h
  | succ i ih =>
    intro p h
    unfold lastEocd at h
    split at h
    · next hs => cases h; exact ⟨Nat.le_refl _, hs⟩
    · have := ih p h; exact ⟨by omega, this.2⟩

/-- what a successful `ends` says, in the model's accessors: where the end record is, and every check made
    on the way (`L` = the ZIP64 locator 20 bytes before the end record, `en.first` = the ZIP64 end record) -/
theorem ends_some {z : Bytes} {en : Ends} (h : ends z = some en) :
    ∃ p, p + 22 ≤ z.length ∧ hasSig z p 0x50 0x4b 0x05 0x06 = true ∧ en.eocd = p ∧
      p + 22 + fld (z.drop p) 20 2 = z.length ∧ en.comment = (z.drop (p + 22)).take (fld (z.drop p) 20 2) ∧
      if fld (z.drop p) 10 2 = 0xffff ∨ fld (z.drop p) 12 4 = 0xffffffff ∨ fld (z.drop p) 16 4 = 0xffffffff then
        76 ≤ p ∧ en.zip64 = true ∧ en.first + 76 = p ∧
        hasSig z (p - 20) 0x50 0x4b 0x06 0x07 = true ∧ fld (z.drop (p - 20)) 4 4 = 0 ∧
        fld (z.drop (p - 20)) 8 8 = en.first ∧ fld (z.drop (p - 20)) 16 4 = 1 ∧
        hasSig z en.first 0x50 0x4b 0x06 0x06 = true ∧ fld (z.drop en.first) 4 8 = 44 ∧
        fld (z.drop en.first) 16 4 = 0 ∧ fld (z.drop en.first) 20 4 = 0 ∧
        fld (z.drop en.first) 24 8 = fld (z.drop en.first) 32 8 ∧
        en.count = fld (z.drop en.first) 32 8 ∧ en.cdSize = fld (z.drop en.first) 40 8 ∧
        en.cdOff = fld (z.drop en.first) 48 8
      else
        en.zip64 = false ∧ en.first = p ∧ fld (z.drop p) 4 2 = 0 ∧ fld (z.drop p) 6 2 = 0 ∧
        fld (z.drop p) 8 2 = fld (z.drop p) 10 2 ∧
        en.count = fld (z.drop p) 10 2 ∧ en.cdSize = fld (z.drop p) 12 4 ∧ en.cdOff = fld (z.drop p) 16 4 := by
  unfold ends at h
  simp only [Option.bind_eq_bind, Option.bind_none, Option.ite_none_left_eq_some, Option.bind_eq_some_iff] at h
  obtain ⟨-, p, hp, disk, hdisk, diskCD, hdcd, nThis, hn, total, htot, size, hsize, off, hoff, cl, hcl, hend,
    comment, hcom, h⟩ := h
  obtain ⟨-, hsig⟩ := lastEocd_some z _ _ hp
  obtain ⟨-, rfl⟩ := num_at hdisk
  obtain ⟨-, rfl⟩ := num_at hdcd
  obtain ⟨-, rfl⟩ := num_at hn
  obtain ⟨-, rfl⟩ := num_at htot
  obtain ⟨-, rfl⟩ := num_at hsize
  obtain ⟨-, rfl⟩ := num_at hoff
  obtain ⟨-, rfl⟩ := num_at hcl
  obtain ⟨-, rfl⟩ := bytesAt_some hcom
  refine ⟨p, by omega, hsig, ?_⟩
  by_cases hbig : fld (z.drop p) 10 2 = 0xffff ∨ fld (z.drop p) 12 4 = 0xffffffff ∨ fld (z.drop p) 16 4 = 0xffffffff
  · rw [if_pos hbig] at h ⊢
    simp only [Option.ite_none_left_eq_some, Option.bind_eq_some_iff] at h
    obtain ⟨h76, hloc, ldisk, hld, q, hq, nd, hnd, hchk, h64, rs, hrs, d1, hd1, d2, hd2, n1, hn1, n, hn', s64, hs64,
      o64, ho64, hfix, h⟩ := h
    rw [show p - 16 = (p - 20) + 4 by omega] at hld
    rw [show p - 12 = (p - 20) + 8 by omega] at hq
    rw [show p - 4 = (p - 20) + 16 by omega] at hnd
    -- the fields of the record at `q` first, while `q` is still a variable and `num_at` matches `q + k` as it stands
    obtain ⟨-, rfl⟩ := num_at hrs
    obtain ⟨-, rfl⟩ := num_at hd1
    obtain ⟨-, rfl⟩ := num_at hd2
    obtain ⟨-, rfl⟩ := num_at hn1
    obtain ⟨-, rfl⟩ := num_at hn'
    obtain ⟨-, rfl⟩ := num_at hs64
    obtain ⟨-, rfl⟩ := num_at ho64
    obtain ⟨-, rfl⟩ := num_at hld
    obtain ⟨-, rfl⟩ := num_at hnd
    obtain ⟨-, hq⟩ := num_at hq
    cases h
    dsimp only
    simp only [ne_eq, not_or, Decidable.not_not] at hchk hfix
    exact ⟨rfl, Decidable.of_not_not hend, rfl, Nat.le_of_not_lt h76, rfl, by omega, hasSig_of_not hloc, hchk.1, hq.symm,
      hchk.2.1, hasSig_of_not h64, hfix.1, hfix.2.1, hfix.2.2.1, hfix.2.2.2, rfl, rfl, rfl⟩
  · rw [if_neg hbig] at h ⊢
    simp only [Option.ite_none_left_eq_some] at h
    obtain ⟨hfix, h⟩ := h
    cases h
    dsimp only
    simp only [ne_eq, not_or, Decidable.not_not] at hfix
    exact ⟨rfl, Decidable.of_not_not hend, rfl, rfl, rfl, hfix.1, hfix.2.1, hfix.2.2, rfl, rfl, rfl⟩

theorem ends_first {z : Bytes} {en : Ends} (h : ends z = some en) :
    (en.zip64 = true ∧ fld (z.drop en.first) 0 4 = sigEnd64 ∧ en.first + 98 + en.comment.length = z.length) ∨
    (en.zip64 = false ∧ fld (z.drop en.first) 0 4 = sigEnd ∧ en.first + 22 + en.comment.length = z.length) := by
  obtain ⟨p, hp22, hsig, -, hcl, hcom, hrest⟩ := ends_some h
  have hlen : en.comment.length = fld (z.drop p) 20 2 := by
    rw [hcom, List.length_take, List.length_drop]; omega
  split at hrest
  · obtain ⟨-, hz, hf, -, -, -, -, h64, -⟩ := hrest
    exact Or.inl ⟨hz, hasSig_fld h64, by omega⟩
  · obtain ⟨hz, hf, -⟩ := hrest
    exact Or.inr ⟨hz, hf ▸ hasSig_fld hsig, by omega⟩

theorem findDirectory_of_ends {z : Bytes} {en : Ends} (h : ends z = some en) (hc : en.comment = [])
    (h42 : 42 ≤ z.length) (h63 : z.length < 2 ^ 63) :
    findDirectory ⟨z, false, 0⟩ = .ok en.cdOff := by
  obtain ⟨p, hp22, hsig, -, hcl, hcom, hrest⟩ := ends_some h
  have hcl0 : fld (z.drop p) 20 2 = 0 := by
    have := congrArg List.length (hc ▸ hcom)
    rw [List.length_take, List.length_drop] at this
    simp only [List.length_nil] at this
    omega
  have hp : z.length - 42 + 20 = p := by omega
  unfold findDirectory
  simp only
  rw [if_neg (by omega), readAt_ra z _ 42 (by omega) (by omega) h63]
  simp only
  have e1 : (z.drop (z.length - 42)).take 42 = z.drop (z.length - 42) :=
    List.take_of_length_le (by rw [List.length_drop]; omega)
  rw [e1, List.drop_drop, hp]
  have hp20 : z.length - 42 = p - 20 := by omega
  rw [hp20]
  simp only [parseEnd, parseLoc64, fld_take _ 20 0 4 (by omega), fld_take _ 20 8 8 (by omega)]
  rw [hasSig_fld hsig, if_neg (by decide)]
  simp only [u16Max, u32Max]
  split at hrest
  · next hbig =>
    obtain ⟨-, -, hf, hloc, -, hq, -, h64, -, -, -, -, -, -, hoff⟩ := hrest
    simp only [hbig, ↓reduceIte]
    rw [hasSig_fld hloc, if_neg (by decide), hq]
    rw [readAt_ra z en.first 56 (by omega) (by omega) h63]
    simp only [parseEnd64, fld_take _ 56 0 4 (by omega), fld_take _ 56 48 8 (by omega)]
    rw [hasSig_fld h64, if_neg (by decide), hoff]
  · next hbig =>
    simp only [hbig, ↓reduceIte]
    rw [hrest.2.2.2.2.2.2.2]

theorem parse_dir_le {z : Bytes} {a : Archive} (h : parse z = some a) :
    a.ends.cdOff + a.ends.cdSize + 22 ≤ z.length := by
  obtain ⟨hen, hsum, -⟩ := parse_some h
  rcases ends_first hen with ⟨-, -, hl⟩ | ⟨-, -, hl⟩ <;> omega

end Relic.Zip
