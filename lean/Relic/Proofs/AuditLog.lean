/- lemmas about `Relic.Model.AuditLog`: an interleaving is a permutation, the payloads a run
   appends to the file, `splitLines` on newline-terminated records -/
import Relic.Model.AuditLog
namespace Relic.AuditLog

theorem Interleaving.perm {α : Type} {ls : List (List α)} {m : List α} (h : Interleaving ls m) :
    m.Perm ls.flatten := by
  induction h with
  | done ls hn => rw [List.flatten_eq_nil_iff.2 hn]
  | step l1 x t l2 m _ ih =>
    have e1 : (l1 ++ (x :: t) :: l2).flatten = l1.flatten ++ x :: (t ++ l2.flatten) := by simp
    have e2 : (l1 ++ t :: l2).flatten = l1.flatten ++ (t ++ l2.flatten) := by simp
    rw [e1]
    rw [e2] at ih
    exact (List.Perm.cons x ih).trans List.perm_middle.symm

theorem payloads_append (a b : List Step) : payloads (a ++ b) = payloads a ++ payloads b := by
  induction a with
  | nil => rfl
  | cons x t ih => cases x <;> simp [payloads, ih]

theorem payloads_perm {a b : List Step} (h : a.Perm b) : (payloads a).Perm (payloads b) := by
  induction h with
  | nil => exact List.Perm.refl _
  | cons x _ ih => cases x <;> simp [payloads, ih]
  | swap x y l => cases x <;> cases y <;> simp [payloads, List.Perm.swap]
  | trans _ _ ih1 ih2 => exact ih1.trans ih2

theorem payloads_appenders (recs : List Bytes) :
    payloads (recs.map appender).flatten = recs.map (· ++ [nl]) := by
  induction recs with
  | nil => rfl
  | cons r t ih => simp [appender, payloads, ih]

theorem runFile_eq (f : Bytes) (m : List Step) : runFile f m = f ++ (payloads m).flatten := by
  induction m generalizing f with
  | nil => simp [runFile, payloads]
  | cons x t ih =>
    have : runFile f (x :: t) = runFile (stepFile f x) t := rfl
    rw [this, ih]
    cases x <;> simp [stepFile, payloads]

theorem splitLines_line (r rest : Bytes) (h : nl ∉ r) :
    splitLines (r ++ nl :: rest) = (r :: (splitLines rest).1, (splitLines rest).2) := by
  induction r with
  | nil => simp [splitLines]
  | cons b t ih =>
    have hb : b ≠ nl := fun e => h (by simp [e])
    have ht : nl ∉ t := fun e => h (by simp [e])
    have : (b :: t) ++ nl :: rest = b :: (t ++ nl :: rest) := rfl
    rw [this, splitLines, ih ht]
    simp [hb]

theorem splitLines_ofLines (ls : List Bytes) (h : ∀ r ∈ ls, nl ∉ r) : splitLines (ofLines ls) = (ls, []) := by
  induction ls with
  | nil => rfl
  | cons r t ih =>
    have e : ofLines (r :: t) = r ++ nl :: ofLines t := by simp [ofLines]
    rw [e, splitLines_line r _ (h r (by simp)), ih (fun x hx => h x (by simp [hx]))]

theorem ofLines_append (a b : List Bytes) : ofLines (a ++ b) = ofLines a ++ ofLines b := by
  simp [ofLines]

end Relic.AuditLog
