/-
  Relic.Proofs.MsiSort — facts about the insertion sort of `Relic.Model.MsiDigest` (`insR`, `sortFold`,
  `sortRes`) that do not depend on the comparator: permutation, totality when no comparison fails,
  sortedness and uniqueness under a strict total order of the keys (`StrictTotal`), parametricity in the payload
  (`RelRes`, with its bind lemmas).
-/
import Relic.Model.MsiDigest
import Relic.Proofs.Res
import Relic.Proofs.InsertSort
namespace Relic.MsiDigest

theorem Res.bind_ok' {α β} (a : α) (f : α → Res β) : (Res.ok a >>= f) = f a := rfl
theorem Res.bind_err' {α β} (e : String) (f : α → Res β) : (Res.err e >>= f) = Res.err e := rfl
theorem Res.bind_panic' {α β} (e : String) (f : α → Res β) : (Res.panic e >>= f) = Res.panic e := rfl
theorem Res.bind_diverge' {α β} (f : α → Res β) : ((Res.diverge : Res α) >>= f) = Res.diverge := rfl
theorem Res.pure_eq {α} (a : α) : (pure a : Res α) = Res.ok a := rfl
-- simp lemmas wherever `Relic.MsiDigest` is open, not globally: a DER or CMS proof that imports an MSI file keeps its `simp`
attribute [scoped simp] Res.bind_ok' Res.bind_err' Res.bind_panic' Res.bind_diverge' Res.pure_eq

variable {α : Type}

def insP (lt : α → α → Bool) (x : α) : List α → List α
  | [] => [x]
  | y :: rest => if lt x y then y :: insP lt x rest else x :: y :: rest

def foldP (lt : α → α → Bool) : List α → List α → List α
  | acc, [] => acc
  | acc, x :: rest => foldP lt (insP lt x acc) rest

def sortP (lt : α → α → Bool) (l : List α) : List α := (foldP lt [] l).reverse

/-- `insP lt` is an insertion in the sense of `Relic.Insert`: `x` walks past the elements it is `lt` -/
theorem insP_insert (lt : α → α → Bool) : Insert lt (insP lt) := ⟨fun _ => rfl, fun _ _ _ => rfl⟩

theorem insP_perm (lt : α → α → Bool) (x : α) (acc : List α) : (insP lt x acc).Perm (x :: acc) :=
  (insP_insert lt).ins_perm x acc

theorem foldP_perm (lt : α → α → Bool) : ∀ l acc, (foldP lt acc l).Perm (acc ++ l)
  | [], acc => by simp [foldP]
  | x :: rest, acc =>
    (foldP_perm lt rest _).trans (((insP_perm lt x acc).append_right rest).trans List.perm_middle.symm)

theorem sortP_perm (lt : α → α → Bool) (l : List α) : (sortP lt l).Perm l :=
  (List.reverse_perm _).trans (by simpa using foldP_perm lt l [])

theorem insR_ok (c : α → α → Res Bool) (lt : α → α → Bool) (x : α) :
    ∀ acc, (∀ y ∈ acc, c x y = .ok (lt x y)) → insR c x acc = .ok (insP lt x acc)
  | [], _ => rfl
  | y :: rest, h => by
    rw [insR, insP, h y (by simp), insR_ok c lt x rest (fun z hz => h z (by simp [hz]))]
    cases lt x y <;> rfl

theorem sortFold_ok (c : α → α → Res Bool) (lt : α → α → Bool) :
    ∀ l acc, (∀ x ∈ l, ∀ y ∈ acc, c x y = .ok (lt x y)) →
      l.Pairwise (fun a b => c b a = .ok (lt b a)) →
      sortFold c acc l = .ok (foldP lt acc l)
  | [], _, _, _ => rfl
  | x :: rest, acc, h1, h2 => by
    rw [sortFold, foldP, insR_ok c lt x acc (fun y hy => h1 x (by simp) y hy)]
    apply sortFold_ok c lt rest
    · intro z hz y hy
      rcases List.mem_cons.mp ((insP_perm lt x acc).subset hy) with rfl | hy'
      · exact (List.pairwise_cons.mp h2).1 z hz
      · exact h1 z (by simp [hz]) y hy'
    · exact (List.pairwise_cons.mp h2).2

theorem sortRes_ok (c : α → α → Res Bool) (lt : α → α → Bool) (l : List α)
    (h : l.Pairwise (fun a b => c b a = .ok (lt b a))) : sortRes c l = .ok (sortP lt l) := by
  unfold sortRes sortP
  rw [sortFold_ok c lt l [] (by simp) h]
  rfl

theorem insR_perm (c : α → α → Res Bool) (x : α) : ∀ acc r, insR c x acc = .ok r → r.Perm (x :: acc)
  | [], r, h => by cases h; exact .refl _
  | y :: rest, r, h => by
    rw [insR] at h
    obtain ⟨b, -, h⟩ := Res.bind_eq_ok.mp h
    cases b
    · cases h; exact .refl _
    · obtain ⟨r', hr, h⟩ := Res.bind_eq_ok.mp h
      cases h
      exact ((insR_perm c x rest r' hr).cons y).trans (List.Perm.swap x y rest)

theorem sortFold_perm (c : α → α → Res Bool) : ∀ l acc r, sortFold c acc l = .ok r → r.Perm (acc ++ l)
  | [], acc, r, h => by cases h; simp
  | x :: rest, acc, r, h => by
    rw [sortFold] at h
    obtain ⟨a', hi, h⟩ := Res.bind_eq_ok.mp h
    exact (sortFold_perm c rest a' r h).trans
      (((insR_perm c x acc a' hi).append_right rest).trans List.perm_middle.symm)

theorem sortRes_perm (c : α → α → Res Bool) (l r : List α) (h : sortRes c l = .ok r) : r.Perm l := by
  obtain ⟨a, hf, h⟩ := Res.bind_eq_ok.mp h
  cases h
  exact (List.reverse_perm _).trans (by simpa using sortFold_perm c l [] a hf)

variable {κ : Type} {klt : κ → κ → Bool}

/-- the prefix of `foldP`, held right to left: keys never increase from the head on (equal keys allowed) -/
def SortedR (klt : κ → κ → Bool) (key : α → κ) (acc : List α) : Prop :=
  acc.Pairwise (fun r l => klt (key r) (key l) = false)

theorem insP_sortedR (ko : StrictTotal klt) (key : α → κ) (x : α) (acc : List α) (h : SortedR klt key acc) :
    SortedR klt key (insP (fun a b => klt (key a) (key b)) x acc) := by
  -- "not below" is transitive (`negtrans`); `x` goes behind `y` only when below it, in front only when not below
  refine (insP_insert _).ins_pairwise (R := fun r l => klt (key r) (key l) = false)
    (fun _ _ _ h1 h2 => ko.negtrans h1 h2) x acc h (fun y _ => ?_)
  cases hxy : klt (key x) (key y)
  · simp
  · simpa using ko.asymm hxy

theorem foldP_sortedR (ko : StrictTotal klt) (key : α → κ) :
    ∀ l acc, SortedR klt key acc → SortedR klt key (foldP (fun a b => klt (key a) (key b)) acc l)
  | [], _, h => h
  | x :: rest, acc, h => foldP_sortedR ko key rest _ (insP_sortedR ko key x acc h)

theorem sortP_sorted (ko : StrictTotal klt) (key : α → κ) (l : List α) (hd : l.Pairwise (fun a b => key a ≠ key b)) :
    (sortP (fun a b => klt (key a) (key b)) l).Pairwise (fun u v => klt (key u) (key v) = true) := by
  unfold sortP
  rw [List.pairwise_reverse]
  have hd' := (foldP_perm (fun a b => klt (key a) (key b)) l []).symm.pairwise hd (fun h e => h e.symm)
  refine ((foldP_sortedR ko key l [] List.Pairwise.nil).and hd').imp ?_
  intro r l' ⟨hle, hne⟩
  cases h : klt (key l') (key r) with
  | false => exact absurd (ko.tri _ _ hle h) hne
  | true => rfl

theorem sorted_unique (ko : StrictTotal klt) (key : α → κ) (s t : List α)
    (hs : s.Pairwise (fun u v => klt (key u) (key v) = true))
    (ht : t.Pairwise (fun u v => klt (key u) (key v) = true)) (hp : s.Perm t) : s = t :=
  Relic.sorted_unique_of_asymm (fun _ _ hab hba => by rw [ko.asymm hab] at hba; cases hba) hs ht hp

/-- results related constructor by constructor (for: the sort only looks at what the comparator looks at) -/
def RelRes {β γ : Type} (P : β → γ → Prop) : Res β → Res γ → Prop
  | .ok a, .ok b => P a b
  | .err e, .err e' => e = e'
  | .panic e, .panic e' => e = e'
  | .diverge, .diverge => True
  | _, _ => False

theorem RelRes.refl {β : Type} : ∀ r : Res β, RelRes Eq r r
  | .ok _ => rfl
  | .err _ => rfl
  | .panic _ => rfl
  | .diverge => trivial

theorem RelRes.bind {β γ β' γ' : Type} {P : β → γ → Prop} {Q : β' → γ' → Prop} {r1 : Res β} {r2 : Res γ}
    {f1 : β → Res β'} {f2 : γ → Res γ'} (h : RelRes P r1 r2) (hf : ∀ a b, P a b → RelRes Q (f1 a) (f2 b)) :
    RelRes Q (r1 >>= f1) (r2 >>= f2) := by
  cases r1 <;> cases r2 <;> first | exact hf _ _ h | exact h | exact h.elim

theorem RelRes.ok_left {β γ : Type} {P : β → γ → Prop} {a : β} {r : Res γ} (h : RelRes P (.ok a) r) :
    ∃ b, r = .ok b ∧ P a b := by
  cases r <;> first | exact ⟨_, rfl, h⟩ | exact h.elim

theorem RelRes.ok_right {β γ : Type} {P : β → γ → Prop} {r : Res β} {b : γ} (h : RelRes P r (.ok b)) :
    ∃ a, r = .ok a ∧ P a b := by
  cases r <;> first | exact ⟨_, rfl, h⟩ | exact h.elim

theorem RelRes.bind_right {β γ γ' : Type} {P : β → γ → Prop} {Q : β → γ' → Prop} {r1 : Res β} {r2 : Res γ}
    {f2 : γ → Res γ'} (h : RelRes P r1 r2) (hf : ∀ a b, P a b → RelRes Q (.ok a) (f2 b)) :
    RelRes Q r1 (r2 >>= f2) := by
  have := RelRes.bind (f1 := Res.ok) h hf
  cases r1 <;> exact this

variable {β : Type}

inductive All2 (R : α → β → Prop) : List α → List β → Prop
  | nil : All2 R [] []
  | cons {a b l1 l2} : R a b → All2 R l1 l2 → All2 R (a :: l1) (b :: l2)

theorem All2.append {R : α → β → Prop} : ∀ {l1 l2 m1 m2}, All2 R l1 l2 → All2 R m1 m2 → All2 R (l1 ++ m1) (l2 ++ m2) := by
  intro l1 l2 m1 m2 h hm
  induction h with
  | nil => exact hm
  | cons hx _ ih => exact All2.cons hx ih

theorem All2.reverse {R : α → β → Prop} {l1 l2} (h : All2 R l1 l2) : All2 R l1.reverse l2.reverse := by
  induction h with
  | nil => exact All2.nil
  | cons hx _ ih =>
    simp only [List.reverse_cons]
    exact All2.append ih (All2.cons hx All2.nil)

theorem insR_rel (R : α → β → Prop) (c1 : α → α → Res Bool) (c2 : β → β → Res Bool)
    (hc : ∀ a1 a2 b1 b2, R a1 a2 → R b1 b2 → c1 a1 b1 = c2 a2 b2) (x1 : α) (x2 : β) (hx : R x1 x2) :
    ∀ acc1 acc2, All2 R acc1 acc2 → RelRes (All2 R) (insR c1 x1 acc1) (insR c2 x2 acc2)
  | _, _, .nil => All2.cons hx All2.nil
  | y1 :: r1, y2 :: r2, .cons hy hr => by
    rw [insR, insR, hc x1 x2 y1 y2 hx hy]
    refine RelRes.bind (RelRes.refl _) ?_
    rintro b _ rfl
    cases b
    · exact All2.cons hx (All2.cons hy hr)
    · exact RelRes.bind (insR_rel R c1 c2 hc x1 x2 hx r1 r2 hr) (fun _ _ h => All2.cons hy h)

theorem sortFold_rel (R : α → β → Prop) (c1 : α → α → Res Bool) (c2 : β → β → Res Bool)
    (hc : ∀ a1 a2 b1 b2, R a1 a2 → R b1 b2 → c1 a1 b1 = c2 a2 b2) :
    ∀ l1 l2 acc1 acc2, All2 R l1 l2 → All2 R acc1 acc2 →
      RelRes (All2 R) (sortFold c1 acc1 l1) (sortFold c2 acc2 l2)
  | _, _, _, _, .nil, ha => ha
  | x1 :: r1, x2 :: r2, acc1, acc2, .cons hx hr, ha => by
    rw [sortFold, sortFold]
    exact RelRes.bind (insR_rel R c1 c2 hc x1 x2 hx acc1 acc2 ha) (fun _ _ h => sortFold_rel R c1 c2 hc r1 r2 _ _ hr h)

theorem sortRes_rel (R : α → β → Prop) (c1 : α → α → Res Bool) (c2 : β → β → Res Bool)
    (hc : ∀ a1 a2 b1 b2, R a1 a2 → R b1 b2 → c1 a1 b1 = c2 a2 b2) (l1 : List α) (l2 : List β)
    (hl : All2 R l1 l2) : RelRes (All2 R) (sortRes c1 l1) (sortRes c2 l2) :=
  RelRes.bind (sortFold_rel R c1 c2 hc l1 l2 [] [] hl All2.nil) (fun _ _ h => h.reverse)

end Relic.MsiDigest
