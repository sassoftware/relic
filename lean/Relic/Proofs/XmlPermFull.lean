/-
  `walkE` (hence `canon`) is invariant under permuting the attribute list of every element of the tree (`PermEq`),
  provided attribute names are pairwise distinct on every element (`AllOK`); and, without any condition on the children,
  `walk` is invariant under the swap of two neighbouring attributes of which one is no declaration (`walk_swap`).
-/
import Relic.Proofs.XmlEnv
namespace Relic.Xml

mutual
def AllOK : Node → Prop
  | .elem _ _ as ks => AttrsOK as ∧ AllOKL ks
  | _ => True
def AllOKL : List Node → Prop
  | [] => True
  | n :: ns => AllOK n ∧ AllOKL ns
end

mutual
/-- the same tree up to the order of the attributes of each element -/
def PermEq : Node → Node → Prop
  | .elem sp tag as ks, m => ∃ as' ks', m = .elem sp tag as' ks' ∧ as.Perm as' ∧ PermEqL ks ks'
  | .text d c, m => m = .text d c
  | .comment d, m => m = .comment d
  | .procinst a b, m => m = .procinst a b
  | .directive d, m => m = .directive d
def PermEqL : List Node → List Node → Prop
  | [], ms => ms = []
  | n :: ns, ms => ∃ m ms', ms = m :: ms' ∧ PermEq n m ∧ PermEqL ns ms'
end

theorem EnvOK_perm {ds ds' : Env} (hp : ds.Perm ds') (h : EnvOK ds) : EnvOK ds' :=
  ⟨(hp.pairwise_iff (fun {_ _} h => fun e => h e.symm)).mp h.1, fun e he => h.2 e (hp.mem_iff.mpr he)⟩

theorem selectAttr_perm (name : Bytes × Bytes) {l l' : List Attr} (hp : l.Perm l') :
    selectAttr name l = selectAttr name l' := by
  unfold selectAttr; rw [hp.any_eq]

theorem usesSpace_perm (esp s : Bytes) {l l' : List Attr} (hp : l.Perm l') : usesSpace esp l s = usesSpace esp l' s := by
  unfold usesSpace
  rw [hp.any_eq]

theorem keepP_perm (sp : Bytes) {l l' : List Attr} (hp : l.Perm l') : keepP sp l = keepP sp l' :=
  (keepP_dropF_congr sp fun s => usesSpace_perm sp s hp).1

theorem dropF_perm (sp : Bytes) {l l' : List Attr} (hp : l.Perm l') : dropF sp l = dropF sp l' :=
  (keepP_dropF_congr sp fun s => usesSpace_perm sp s hp).2

theorem takenHere_perm (sp : Bytes) {l l' : List Attr} (hp : l.Perm l') : takenHere sp l = takenHere sp l' := by
  funext e; unfold takenHere; rw [selectAttr_perm _ hp, usesSpace_perm sp e.1 hp]

theorem passedOn_perm (sp : Bytes) {l l' : List Attr} (hp : l.Perm l') : passedOn sp l = passedOn sp l' := by
  funext e; unfold passedOn; rw [selectAttr_perm _ hp, usesSpace_perm sp e.1 hp]

theorem keepAttrs_perm (sp : Bytes) {l l' : List Attr} (hp : l.Perm l') : (keepAttrs sp l).Perm (keepAttrs sp l') := by
  unfold keepAttrs; rw [keepP_perm sp hp]; exact hp.filter _

theorem dropped_perm (sp : Bytes) {l l' : List Attr} (hp : l.Perm l') : (dropped sp l).Perm (dropped sp l') := by
  unfold dropped; rw [dropF_perm sp hp]; exact hp.filterMap _

theorem created_perm (sp : Bytes) {l l' : List Attr} {ds ds' : Env} (hp : l.Perm l') (hd : ds.Perm ds') :
    (created sp l ds).Perm (created sp l' ds') := by
  unfold created; rw [takenHere_perm sp hp]; exact (hd.filter _).map _

theorem permEq_keeps {n m : Node} (h : PermEq n m) : keeps n = keeps m := by
  cases n <;> simp only [PermEq] at h
  · obtain ⟨as', ks', rfl, _, _⟩ := h
    rfl
  all_goals rw [h]

mutual
theorem walkE_perm : ∀ (n n' : Node) (ds ds' : Env), EnvOK ds → ds.Perm ds' → PermEq n n' → AllOK n →
    walkE ds n = walkE ds' n'
  | .elem sp tag attrs kids, n', ds, ds', hd, hp, he, hok => by
    simp only [PermEq] at he
    obtain ⟨attrs', kids', rfl, hpa, hk⟩ := he
    simp only [AllOK] at hok
    have hd' := EnvOK_perm hp hd
    simp only [walkE]
    rw [localStep_closed sp ds attrs hd, localStep_closed sp ds' attrs' hd']
    simp only
    have hA : (attrs ++ created sp attrs ds).Perm (attrs' ++ created sp attrs' ds') :=
      List.Perm.append hpa (created_perm sp hpa hp)
    have hOKA := AttrsOK_step sp attrs ds hok.1 hd
    have e1 : sortAttrs (keepAttrs sp (attrs ++ created sp attrs ds)) =
        sortAttrs (keepAttrs sp (attrs' ++ created sp attrs' ds')) := by
      apply sortAttrs_perm_invariant _ _ (keepAttrs_perm sp hA)
      exact List.Pairwise.sublist List.filter_sublist hOKA.1
    have hE : (ds.filter (passedOn sp attrs) ++ dropped sp (attrs ++ created sp attrs ds)).Perm
        (ds'.filter (passedOn sp attrs') ++ dropped sp (attrs' ++ created sp attrs' ds')) := by
      apply List.Perm.append
      · rw [passedOn_perm sp hpa]; exact hp.filter _
      · exact dropped_perm sp hA
    rw [e1, walkKidsE_perm kids kids' _ _ (EnvOK_kids sp attrs ds hok.1 hd) hE hk hok.2]
  | .text d c, n', ds, ds', _, _, he, _ => by simp only [PermEq] at he; subst he; simp [walkE]
  | .comment d, n', ds, ds', _, _, he, _ => by simp only [PermEq] at he; subst he; simp [walkE]
  | .procinst a b, n', ds, ds', _, _, he, _ => by simp only [PermEq] at he; subst he; simp [walkE]
  | .directive d, n', ds, ds', _, _, he, _ => by simp only [PermEq] at he; subst he; simp [walkE]
theorem walkKidsE_perm : ∀ (ns ns' : List Node) (ds ds' : Env), EnvOK ds → ds.Perm ds' → PermEqL ns ns' → AllOKL ns →
    walkKidsE ds ns = walkKidsE ds' ns'
  | [], ns', ds, ds', _, _, he, _ => by simp only [PermEqL] at he; subst he; simp [walkKidsE]
  | n :: rest, ns', ds, ds', hd, hp, he, hok => by
    simp only [PermEqL] at he
    obtain ⟨m, ms, rfl, hm, hms⟩ := he
    simp only [AllOKL] at hok
    rw [walkKidsE_cons, walkKidsE_cons, permEq_keeps hm, walkE_perm n m ds ds' hd hp hm hok.1,
      walkKidsE_perm rest ms ds ds' hd hp hms hok.2]
end

mutual
theorem PermEq_refl : ∀ n, PermEq n n
  | .elem sp tag as ks => by simp only [PermEq]; exact ⟨as, ks, rfl, List.Perm.refl _, PermEqL_refl ks⟩
  | .text _ _ => by simp [PermEq]
  | .comment _ => by simp [PermEq]
  | .procinst _ _ => by simp [PermEq]
  | .directive _ => by simp [PermEq]
theorem PermEqL_refl : ∀ ns, PermEqL ns ns
  | [] => by simp [PermEqL]
  | n :: ns => by simp only [PermEqL]; exact ⟨n, ns, rfl, PermEq_refl n, PermEqL_refl ns⟩
end

/-- the loop keeps the same attributes, as a multiset, and pushes the same declarations down in the same order -/
theorem walk_swap (sp tag : Bytes) (pre post : List Attr) (a b : Attr) (kids : List Node)
    (ha : getDecl a = none) (hn : NamesNodup (pre ++ a :: b :: post)) :
    walk (.elem sp tag (pre ++ a :: b :: post) kids) = walk (.elem sp tag (pre ++ b :: a :: post) kids) := by
  have hp : (pre ++ a :: b :: post).Perm (pre ++ b :: a :: post) := (List.Perm.swap b a post).append_left pre
  have hd : ∀ l, dropF sp l a = none := fun l => by simp [dropF, ha]
  rw [walk, walk, walkLoop_closed, walkLoop_closed]
  simp only [List.nil_append]
  rw [← keepP_perm sp hp, ← dropF_perm sp hp,
    sortAttrs_perm_invariant _ _ (hp.filter _) (List.Pairwise.sublist List.filter_sublist hn)]
  simp only [List.filterMap_append, List.filterMap_cons, hd]

end Relic.Xml
