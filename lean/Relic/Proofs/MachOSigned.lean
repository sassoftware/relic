/- from `signOrig f p = .ok so` to the signed file and the verifier's locator on it.
   Which tree.  The model has every signing function twice: `scanOrig` / `planOrig` / `signOrig` are relic before the fixes
   F-MACHO-3 and F-MACHO-4, `scan` / `plan` / `sign` are relic as it stands, the same code behind two more refusals.  Everything in
   MachOWalk and in this file is proved for the `…Orig` functions (`signFrom_inv` inverts `signOrig` and `sign` alike);
   Proofs/MachOGuards carries it to the current functions: a current success is an old success with the same result. -/
import Relic.Proofs.MachOWalk
import Relic.Proofs.MachOPatch
import Relic.Proofs.MachOLinkedit
import Relic.Proofs.CodeDir
import Relic.Proofs.Lists
import Relic.Proofs.Binpatch
namespace Relic.MachO
open Relic.Binpatch Relic.CodeDir

def freshSigStart (m : Markers) : Nat := if m.sigStart = 0 then align m.codeSize.toNat 8 else m.sigStart

def lcOf (m : Markers) : Nat := if m.loadCsStart ≠ 0 then m.loadCsStart else m.nextLc

/-- the buffer after `patchNcmd` -/
def h1Of (m : Markers) (hdr : Bytes) : Bytes :=
  if m.loadCsStart ≠ 0 then hdr else
    let h := if hdr.length < m.nextLc + 16 then hdr ++ zeros (m.nextLc + 16 - hdr.length) else hdr
    let h := put h 16 (wr32 m.be ((rd32 m.be h 16 + 1) % 2 ^ 32))
    put h 20 (wr32 m.be ((rd32 m.be h 20 + 16) % 2 ^ 32))

def fileszOf (m : Markers) (sigStart sigSize : Nat) : Nat := (sigStart + sigSize + 2 ^ 64 - m.leOffset % 2 ^ 64) % 2 ^ 64

/-- the buffer after `patchLinkEdit` -/
def h2Of (m : Markers) (h1 : Bytes) (filesz : Nat) : Bytes :=
  if m.is64 then put (put h1 (m.lePos + 32) (wr64 m.be (align filesz 4096))) (m.lePos + 48) (wr64 m.be filesz)
  else put (put h1 (m.lePos + 28) (wr32 m.be (align filesz 4096))) (m.lePos + 36) (wr32 m.be filesz)

def csCmd (m : Markers) (sigStart sigSize : Nat) : Bytes :=
  wr32 m.be 0x1d ++ wr32 m.be 16 ++ wr32 m.be sigStart ++ wr32 m.be sigSize

/-- the recorded header ranges, in the order of the `patch.Add` calls -/
def hdrRanges (m : Markers) : List (Nat × Nat) :=
  (if m.loadCsStart ≠ 0 then [] else [(16, 8)]) ++
  [(if m.is64 then (m.lePos + 32, 24) else (m.lePos + 28, 12)), (lcOf m, 16)]

/-- `patchSignature m hdr sigSize0 = .ok po` on the fresh-region branch, read off `patchSignature_fresh_eq`: the refusals that
    were passed (`csNonneg` … `csRoom`: the panic sites and error exits in the order of the code) and the result (`newHeader` …
    `patches`), the header as the three writes `h1Of` (counts), `h2Of` (__LINKEDIT sizes), `csCmd` at `lcOf m` -/
structure Fresh (m : Markers) (hdr : Bytes) (sigSize0 : Int) (po : PatchOut) : Prop where
  csNonneg : 0 ≤ m.codeSize
  startGe : m.codeSize.toNat ≤ freshSigStart m
  room : m.loadCsStart = 0 → m.nextLc + 16 ≤ m.firstSh
  filesz : fileszOf m (freshSigStart m) (align sigSize0.toNat 8) < 2 ^ 62
  leRoom : (if m.is64 then m.lePos + 56 else m.lePos + 40) ≤ (h1Of m hdr).length
  csRoom : lcOf m + 16 ≤ (h1Of m hdr).length
  newHeader : po.newHeader = put (h2Of m (h1Of m hdr) (fileszOf m (freshSigStart m) (align sigSize0.toNat 8))) (lcOf m)
                (csCmd m (freshSigStart m) (align sigSize0.toNat 8))
  sigBufLen : po.sigBufLen = align sigSize0.toNat 8
  sigStart : po.sigStart = freshSigStart m
  padding : po.padding = freshSigStart m - m.codeSize.toNat
  patches : po.patches = hdrPatches po.newHeader (hdrRanges m) ++
              [⟨m.codeSize.toNat, m.sigLen, zeros (po.padding + po.sigBufLen)⟩]

theorem h2Of_length (m : Markers) (h1 : Bytes) (filesz : Nat)
    (h : (if m.is64 then m.lePos + 56 else m.lePos + 40) ≤ h1.length) : (h2Of m h1 filesz).length = h1.length := by
  unfold h2Of
  cases hb : m.is64
  · simp only [hb, Bool.false_eq_true, ↓reduceIte] at h ⊢
    rw [put_length _ _ _ (by rw [put_length _ _ _ (by simp; omega)]; simp; omega), put_length _ _ _ (by simp; omega)]
  · simp only [hb, ↓reduceIte] at h ⊢
    rw [put_length _ _ _ (by rw [put_length _ _ _ (by simp; omega)]; simp; omega), put_length _ _ _ (by simp; omega)]

theorem h2Of_reads (m : Markers) (h1 : Bytes) (filesz : Nat)
    (h : (if m.is64 then m.lePos + 56 else m.lePos + 40) ≤ h1.length) :
    (m.is64 = true → rd64 m.be (h2Of m h1 filesz) (m.lePos + 48) = filesz % 2 ^ 64 ∧
      rd64 m.be (h2Of m h1 filesz) (m.lePos + 32) = align filesz 4096 % 2 ^ 64) ∧
    (m.is64 = false → rd32 m.be (h2Of m h1 filesz) (m.lePos + 36) = filesz % 2 ^ 32 ∧
      rd32 m.be (h2Of m h1 filesz) (m.lePos + 28) = align filesz 4096 % 2 ^ 32) := by
  unfold h2Of
  refine ⟨fun h64 => ?_, fun h64 => ?_⟩
  · rw [if_pos h64] at h ⊢
    have L1 := put_length h1 (m.lePos + 32) (wr64 m.be (align filesz 4096)) (by rw [wr64_length]; omega)
    exact ⟨rd64_put_same _ _ _ _ (by rw [L1]; omega),
      by rw [rd64_put_other _ _ _ _ _ (by rw [wr64_length, L1]; omega) (by omega), rd64_put_same _ _ _ _ (by omega)]⟩
  · have h64' : ¬ m.is64 = true := by rw [h64]; decide
    rw [if_neg h64'] at h ⊢
    have L1 := put_length h1 (m.lePos + 28) (wr32 m.be (align filesz 4096)) (by rw [wr32_length]; omega)
    exact ⟨rd32_put_same _ _ _ _ (by rw [L1]; omega),
      by rw [rd32_put_other _ _ _ _ _ (by rw [wr32_length, L1]; omega) (by omega), rd32_put_same _ _ _ _ (by omega)]⟩

theorem patchSignature_fresh_eq (m : Markers) (hdr : Bytes) (sigSize0 : Int) (hn : ¬ (m.sigLen : Int) ≥ sigSize0) :
    patchSignature m hdr sigSize0 =
      if m.codeSize < 0 ∨ m.codeSize > 2 ^ 40 then .err "range" else
      if freshSigStart m < m.codeSize.toNat then .panic "machos.PatchSignature" else
      if m.loadCsStart = 0 ∧ m.nextLc + 16 > m.firstSh then .err "overflow" else
      let filesz := fileszOf m (freshSigStart m) (align sigSize0.toNat 8)
      if filesz ≥ 2 ^ 62 then .err "range" else
      if (h1Of m hdr).length < (if m.is64 then m.lePos + 32 + 24 else m.lePos + 28 + 12) then .panic "machos.PatchSignature" else
      if (h2Of m (h1Of m hdr) filesz).length < lcOf m + 16 then .panic "machos.PatchSignature" else
      let h3 := put (h2Of m (h1Of m hdr) filesz) (lcOf m) (csCmd m (freshSigStart m) (align sigSize0.toNat 8))
      .ok ⟨h3, align sigSize0.toNat 8, freshSigStart m, freshSigStart m - m.codeSize.toNat,
           hdrPatches h3 (hdrRanges m) ++
             [⟨m.codeSize.toNat, m.sigLen, zeros (freshSigStart m - m.codeSize.toNat + align sigSize0.toNat 8)⟩]⟩ := by
  unfold patchSignature
  rw [if_neg hn]
  by_cases hr : m.codeSize < 0 ∨ m.codeSize > 2 ^ 40
  · rw [if_pos hr, if_pos hr]
  rw [if_neg hr, if_neg hr]
  show (if freshSigStart m < m.codeSize.toNat then _ else _) = _
  by_cases hp : freshSigStart m < m.codeSize.toNat
  · rw [if_pos hp, if_pos hp]
  rw [if_neg hp, if_neg hp]
  -- `patchNcmd` appends a command or not, `patchLinkEdit` picks the field layout by the magic
  by_cases hl : m.loadCsStart = 0
  · by_cases ho : m.nextLc + 16 > m.firstSh
    · simp only [hl, ho, ne_eq, not_true_eq_false, and_self, ↓reduceIte]
    · cases hb : m.is64 <;>
        simp only [h1Of, h2Of, lcOf, csCmd, fileszOf, hdrRanges, hdrPatches, freshSigStart, hl, ho, hb, ne_eq, not_true_eq_false,
          and_false, Bool.false_eq_true, ↓reduceIte, List.map_cons, List.map_nil, List.cons_append, List.nil_append]
  · cases hb : m.is64 <;>
      simp only [h1Of, h2Of, lcOf, csCmd, fileszOf, hdrRanges, hdrPatches, freshSigStart, hl, hb, ne_eq, not_false_eq_true,
        false_and, Bool.false_eq_true, ↓reduceIte, List.map_cons, List.map_nil, List.cons_append, List.nil_append]

theorem patchSignature_fresh (m : Markers) (hdr : Bytes) (sigSize0 : Int) (po : PatchOut)
    (hn : ¬ (m.sigLen : Int) ≥ sigSize0) (h : patchSignature m hdr sigSize0 = .ok po) : Fresh m hdr sigSize0 po := by
  rw [patchSignature_fresh_eq m hdr sigSize0 hn] at h
  simp only [Res.errGuard_eq_ok, Res.panicGuard_eq_ok] at h
  obtain ⟨hr, hp, ho, hf, hle, hcs, h⟩ := h
  have leRoom : (if m.is64 then m.lePos + 56 else m.lePos + 40) ≤ (h1Of m hdr).length := by
    revert hle; cases m.is64 <;> simp only [Bool.false_eq_true, ↓reduceIte] <;> omega
  rw [h2Of_length m _ _ leRoom] at hcs
  injection h with h
  subst h
  exact ⟨by omega, by omega, fun c => by omega, by omega, leRoom, by omega, rfl, rfl, rfl, rfl, rfl⟩

theorem patchSignature_reuse (m : Markers) (hdr : Bytes) (sigSize0 : Int) (po : PatchOut)
    (hn : (m.sigLen : Int) ≥ sigSize0) (h : patchSignature m hdr sigSize0 = .ok po) :
    po = ⟨hdr, m.sigLen, m.sigStart, 0, [⟨m.sigStart, m.sigLen, zeros m.sigLen⟩]⟩ := by
  unfold patchSignature at h
  rw [if_pos hn] at h
  injection h with h
  exact h.symm

theorem patchSignature_sigBufLen (m : Markers) (hdr : Bytes) (sigSize : Int) (po : PatchOut)
    (h : patchSignature m hdr sigSize = .ok po) :
    ((m.sigLen : Int) ≥ sigSize ∧ po.sigBufLen = m.sigLen) ∨ (¬ (m.sigLen : Int) ≥ sigSize ∧ po.sigBufLen = align sigSize.toNat 8) := by
  by_cases hc : (m.sigLen : Int) ≥ sigSize
  · exact Or.inl ⟨hc, by rw [patchSignature_reuse m hdr sigSize po hc h]⟩
  · exact Or.inr ⟨hc, (patchSignature_fresh m hdr sigSize po hc h).sigBufLen⟩

theorem h2Of_getElem? (m : Markers) (h1 : Bytes) (filesz : Nat)
    (h : (if m.is64 then m.lePos + 56 else m.lePos + 40) ≤ h1.length) (i : Nat) :
    (h2Of m h1 filesz)[i]? =
      if m.is64 then
        if m.lePos + 48 ≤ i ∧ i < m.lePos + 56 then (wr64 m.be filesz)[i - (m.lePos + 48)]?
        else if m.lePos + 32 ≤ i ∧ i < m.lePos + 40 then (wr64 m.be (align filesz 4096))[i - (m.lePos + 32)]?
        else h1[i]?
      else
        if m.lePos + 36 ≤ i ∧ i < m.lePos + 40 then (wr32 m.be filesz)[i - (m.lePos + 36)]?
        else if m.lePos + 28 ≤ i ∧ i < m.lePos + 32 then (wr32 m.be (align filesz 4096))[i - (m.lePos + 28)]?
        else h1[i]? := by
  unfold h2Of
  cases hb : m.is64
  · simp only [hb, Bool.false_eq_true, ↓reduceIte] at h ⊢
    rw [put_getElem? _ _ _ (by rw [put_length _ _ _ (by simp; omega)]; simp; omega), put_getElem? _ _ _ (by simp; omega)]
    simp only [wr32_length]
  · simp only [hb, ↓reduceIte] at h ⊢
    rw [put_getElem? _ _ _ (by rw [put_length _ _ _ (by simp; omega)]; simp; omega), put_getElem? _ _ _ (by simp; omega)]
    simp only [wr64_length]

theorem csCmd_length (m : Markers) (a b : Nat) : (csCmd m a b).length = 16 := by
  simp [csCmd]

theorem csCmd_put_length (m : Markers) (h1 : Bytes) (filesz a b : Nat)
    (hle : (if m.is64 then m.lePos + 56 else m.lePos + 40) ≤ h1.length) (hlc : lcOf m + 16 ≤ h1.length) :
    (put (h2Of m h1 filesz) (lcOf m) (csCmd m a b)).length = h1.length := by
  rw [put_length _ _ _ (by rw [h2Of_length m h1 filesz hle, csCmd_length]; exact hlc), h2Of_length m h1 filesz hle]

theorem csCmd_put_untouched (m : Markers) (h1 : Bytes) (filesz a b : Nat)
    (hle : (if m.is64 then m.lePos + 56 else m.lePos + 40) ≤ h1.length) (hlc : lcOf m + 16 ≤ h1.length) (i : Nat)
    (h1' : ¬ leField m.is64 m.lePos i) (h2' : ¬ (lcOf m ≤ i ∧ i < lcOf m + 16)) :
    (put (h2Of m h1 filesz) (lcOf m) (csCmd m a b))[i]? = h1[i]? := by
  rw [put_getElem? _ _ _ (by rw [h2Of_length m h1 filesz hle, csCmd_length]; exact hlc), csCmd_length, if_neg h2',
    h2Of_getElem? m h1 filesz hle]
  unfold leField at h1'
  cases hb : m.is64
  · simp only [hb, Bool.false_eq_true, ↓reduceIte] at h1' ⊢
    rw [if_neg (by omega), if_neg (by omega)]
  · simp only [hb, ↓reduceIte] at h1' ⊢
    rw [if_neg (by omega), if_neg (by omega)]

theorem csCmd_put_reads (m : Markers) (h : Bytes) (lc a b : Nat) (hlc : lc + 16 ≤ h.length) :
    rd32 m.be (put h lc (csCmd m a b)) lc = 0x1d ∧ rd32 m.be (put h lc (csCmd m a b)) (lc + 4) = 16 ∧
    rd32 m.be (put h lc (csCmd m a b)) (lc + 8) = a % 2 ^ 32 ∧ rd32 m.be (put h lc (csCmd m a b)) (lc + 12) = b % 2 ^ 32 := by
  have l4 := wr32_length m.be
  have hl : lc + (csCmd m a b).length ≤ h.length := by rw [csCmd_length]; exact hlc
  unfold csCmd at hl ⊢
  refine ⟨?_, ?_, ?_, ?_⟩
  · have := rd32_put_sub m.be h lc [] 0x1d (wr32 m.be 16 ++ wr32 m.be a ++ wr32 m.be b)
      (by simpa only [List.nil_append, List.append_assoc] using hl)
    simpa only [List.nil_append, List.append_assoc, List.length_nil, Nat.add_zero] using this
  · have := rd32_put_sub m.be h lc (wr32 m.be 0x1d) 16 (wr32 m.be a ++ wr32 m.be b)
      (by simpa only [List.append_assoc] using hl)
    simpa only [List.append_assoc, l4] using this
  · have := rd32_put_sub m.be h lc (wr32 m.be 0x1d ++ wr32 m.be 16) a (wr32 m.be b) hl
    simpa only [List.length_append, l4] using this
  · have := rd32_put_sub m.be h lc (wr32 m.be 0x1d ++ wr32 m.be 16 ++ wr32 m.be a) b []
      (by simpa only [List.append_nil] using hl)
    simpa only [List.append_nil, List.length_append, l4] using this

theorem getElem?_append_zeros_lt (hdr : Bytes) (n i : Nat) (h : i < hdr.length) : (hdr ++ zeros n)[i]? = hdr[i]? :=
  List.getElem?_append_left h

theorem h1Of_new (m : Markers) (hdr : Bytes) (hl0 : m.loadCsStart = 0) (hlen : hdr.length = m.nextLc) (h24 : 24 ≤ hdr.length) :
    (h1Of m hdr).length = m.nextLc + 16 ∧
    (∀ i, ¬ (16 ≤ i ∧ i < 24) → (h1Of m hdr)[i]? = (hdr ++ zeros 16)[i]?) ∧
    rd32 m.be (h1Of m hdr) 16 = (rd32 m.be hdr 16 + 1) % 2 ^ 32 ∧ rd32 m.be (h1Of m hdr) 20 = (rd32 m.be hdr 20 + 16) % 2 ^ 32 := by
  have e0 : (if hdr.length < m.nextLc + 16 then hdr ++ zeros (m.nextLc + 16 - hdr.length) else hdr) = hdr ++ zeros 16 := by
    rw [if_pos (by omega)]; congr 2; omega
  have hl : (hdr ++ zeros 16).length = m.nextLc + 16 := by simp [zeros]; omega
  have r16 : rd32 m.be (hdr ++ zeros 16) 16 = rd32 m.be hdr 16 :=
    rd32_congr _ _ _ _ (fun i h1 h2 => List.getElem?_append_left (by omega))
  have r20 : rd32 m.be (hdr ++ zeros 16) 20 = rd32 m.be hdr 20 :=
    rd32_congr _ _ _ _ (fun i h1 h2 => List.getElem?_append_left (by omega))
  have b1 : 16 + (wr32 m.be ((rd32 m.be hdr 16 + 1) % 2 ^ 32)).length ≤ (hdr ++ zeros 16).length := by rw [hl, wr32_length]; omega
  have pl := put_length _ _ _ b1
  have b2 : 20 + (wr32 m.be ((rd32 m.be hdr 20 + 16) % 2 ^ 32)).length ≤
      (put (hdr ++ zeros 16) 16 (wr32 m.be ((rd32 m.be hdr 16 + 1) % 2 ^ 32))).length := by rw [pl, hl, wr32_length]; omega
  have e1 : h1Of m hdr = put (put (hdr ++ zeros 16) 16 (wr32 m.be ((rd32 m.be hdr 16 + 1) % 2 ^ 32))) 20
      (wr32 m.be ((rd32 m.be hdr 20 + 16) % 2 ^ 32)) := by
    unfold h1Of
    rw [if_neg (by omega)]
    have d : 16 + (wr32 m.be ((rd32 m.be hdr 16 + 1) % 2 ^ 32)).length ≤ 20 := by rw [wr32_length]; omega
    simp only [e0, r16, rd32_put_other _ _ _ _ _ b1 (Or.inr d), r20]
  rw [e1]
  refine ⟨by rw [put_length _ _ _ b2, pl, hl], fun i hi => ?_, ?_, ?_⟩
  · rw [put_getElem? _ _ _ b2, put_getElem? _ _ _ b1, wr32_length, wr32_length, if_neg (by omega), if_neg (by omega)]
  · rw [rd32_put_other _ _ _ _ _ b2 (Or.inl (Nat.le_refl _)), rd32_put_same _ _ _ _ (by omega), Nat.mod_mod]
  · rw [rd32_put_same _ _ _ _ (by rw [pl]; omega), Nat.mod_mod]

theorem h1Of_old (m : Markers) (hdr : Bytes) (hl : m.loadCsStart ≠ 0) : h1Of m hdr = hdr := by
  unfold h1Of; rw [if_pos hl]

/-- the header buffer `patchSignature` returns against the input file, by what is read from it: the LC_CODE_SIGNATURE command
    names the region `(a, b)`, the counts are raised when a command was added, the 64-bit file size of __LINKEDIT stays
    non-negative as int64, everything else is the input's.  Both branches satisfy it (`fresh_hdrSpec`, `reuse_hdrSpec`). -/
structure HdrSpec (f : Bytes) (m : Markers) (x : Bytes) (a b : Nat) : Prop where
  len : x.length = if m.loadCsStart = 0 then m.nextLc + 16 else m.nextLc
  same : ∀ i, i < m.nextLc → ¬ (m.loadCsStart = 0 ∧ 16 ≤ i ∧ i < 24) → ¬ leField m.is64 m.lePos i →
    ¬ (lcOf m ≤ i ∧ i < lcOf m + 16) → x[i]? = f[i]?
  cs : rd32 m.be x (lcOf m) = 0x1d ∧ rd32 m.be x (lcOf m + 4) = 16 ∧ rd32 m.be x (lcOf m + 8) = a % 2 ^ 32 ∧
    rd32 m.be x (lcOf m + 12) = b % 2 ^ 32
  -- premise: the LC_CODE_SIGNATURE command does not overlap the Filesz field (it may lie in front of __LINKEDIT and is written last)
  fsz : m.is64 = true → (m.lePos + 56 ≤ lcOf m ∨ lcOf m + 16 ≤ m.lePos + 48) → rd64 m.be x (m.lePos + 48) < 2 ^ 63
  cnt : m.loadCsStart = 0 →
    rd32 m.be x 16 = (rd32 m.be f 16 + 1) % 2 ^ 32 ∧ rd32 m.be x 20 = (rd32 m.be f 20 + 16) % 2 ^ 32
  leRoom : (if m.is64 then m.lePos + 56 else m.lePos + 40) ≤ x.length
  csRoom : lcOf m + 16 ≤ x.length

theorem fresh_hdrSpec (f : Bytes) (m : Markers) (sigSize0 : Int) (po : PatchOut)
    (hstop : m.nextLc ≤ f.length) (h28 : 28 ≤ m.nextLc)
    (F : Fresh m (f.take m.nextLc) sigSize0 po) :
    HdrSpec f m po.newHeader (freshSigStart m) (align sigSize0.toNat 8) := by
  have hlen : (f.take m.nextLc).length = m.nextLc := by rw [List.length_take]; omega
  have htk : ∀ i, i < m.nextLc → (f.take m.nextLc)[i]? = f[i]? := fun i hi => List.getElem?_take_of_lt hi
  have r16 : rd32 m.be (f.take m.nextLc) 16 = rd32 m.be f 16 := rd32_congr _ _ _ _ (fun i h1 h2 => htk i (by omega))
  have r20 : rd32 m.be (f.take m.nextLc) 20 = rd32 m.be f 20 := rd32_congr _ _ _ _ (fun i h1 h2 => htk i (by omega))
  have h2l := h2Of_length m (h1Of m (f.take m.nextLc)) (fileszOf m (freshSigStart m) (align sigSize0.toNat 8)) F.leRoom
  have hcl : lcOf m + (csCmd m (freshSigStart m) (align sigSize0.toNat 8)).length ≤
      (h2Of m (h1Of m (f.take m.nextLc)) (fileszOf m (freshSigStart m) (align sigSize0.toNat 8))).length := by
    rw [csCmd_length, h2l]; exact F.csRoom
  have hxl := csCmd_put_length m _ (fileszOf m (freshSigStart m) (align sigSize0.toNat 8)) (freshSigStart m)
    (align sigSize0.toNat 8) F.leRoom F.csRoom
  rw [← F.newHeader] at hxl
  have h1len : (h1Of m (f.take m.nextLc)).length = if m.loadCsStart = 0 then m.nextLc + 16 else m.nextLc := by
    by_cases c : m.loadCsStart = 0
    · rw [if_pos c]; exact (h1Of_new m _ c hlen (by omega)).1
    · rw [if_neg c, h1Of_old m _ c, hlen]
  -- outside the two written places the buffer is the one `patchNcmd` left
  have out : ∀ i, ¬ leField m.is64 m.lePos i → ¬ (lcOf m ≤ i ∧ i < lcOf m + 16) →
      po.newHeader[i]? = (h1Of m (f.take m.nextLc))[i]? := fun i hf hc => by
    rw [F.newHeader]; exact csCmd_put_untouched m _ _ _ _ F.leRoom F.csRoom i hf hc
  refine ⟨by rw [hxl, h1len], ?_, ?_, ?_, ?_, by rw [hxl]; exact F.leRoom, by rw [hxl]; exact F.csRoom⟩
  · intro i hi hn hf hc
    rw [out i hf hc]
    by_cases c : m.loadCsStart = 0
    · rw [(h1Of_new m _ c hlen (by omega)).2.1 i (fun h => hn ⟨c, h⟩), List.getElem?_append_left (by omega), htk i hi]
    · rw [h1Of_old m _ c, htk i hi]
  · rw [F.newHeader]; exact csCmd_put_reads m _ _ _ _ (by rw [h2l]; exact F.csRoom)
  · intro hb hd
    have hle := F.leRoom
    rw [if_pos hb] at hle
    rw [F.newHeader, rd64_put_other _ _ _ _ _ hcl (by rw [csCmd_length]; omega), ((h2Of_reads m _ _ F.leRoom).1 hb).1,
      Nat.mod_eq_of_lt (Nat.lt_trans F.filesz (by decide))]
    exact Nat.lt_trans F.filesz (by decide)
  · intro c
    have hlc : lcOf m = m.nextLc := by unfold lcOf; rw [if_neg (by omega)]
    have N := h1Of_new m _ c hlen (by omega)
    rw [r16, r20] at N
    have cg : ∀ off, off + 4 ≤ 24 → 16 ≤ off → rd32 m.be po.newHeader off = rd32 m.be (h1Of m (f.take m.nextLc)) off :=
      fun off h1 h2 => rd32_congr _ _ _ _ (fun i a b => out i (by unfold leField; cases m.is64 <;> simp <;> omega) (by omega))
    exact ⟨(cg 16 (by omega) (by omega)).trans N.2.2.1, (cg 20 (by omega) (by omega)).trans N.2.2.2⟩

/-- `readSigBlob`'s answer once the command is found -/
def sigAnswer (a b : Nat) : Res (Nat × Nat) := if b > 10000000 then .err "toolarge" else .ok (a, b)

theorem readMagic_congr (f g : Bytes) (h : ∀ i, i < 4 → g[i]? = f[i]?) : readMagic g = readMagic f := by
  have : g.take 4 = f.take 4 := by
    have := take_drop_congr f g 0 4 (fun i _ hi => h i (by omega))
    simpa using this
  unfold readMagic; rw [this]

theorem newFile_eq (g : Bytes) (be : Bool) (magic : Nat) (hm : readMagic g = some (be, magic)) (h28 : 28 ≤ g.length)
    (hlen : hdrEndOf magic + rd32 be g 20 ≤ g.length) :
    newFile g = match loadLoop be g (hdrEndOf magic + rd32 be g 20) (rd32 be g 16) (hdrEndOf magic) with
      | .ok l => .ok (be, l)
      | .err e => .err e
      | .panic p => .panic p
      | .diverge => .diverge := by
  unfold newFile
  rw [if_neg (by omega), hm]
  dsimp only
  rw [if_neg (by omega), hdrEndOf_eq, if_neg (by omega)]
  cases loadLoop be g (hdrEndOf magic + rd32 be g 20) (rd32 be g 16) (hdrEndOf magic) <;> rfl

theorem newFile_of_buffer (g x : Bytes) (be : Bool) (magic : Nat) (G : ∀ i, i < x.length → g[i]? = x[i]?)
    (hxg : x.length ≤ g.length) (hm : readMagic x = some (be, magic))
    (hlen : hdrEndOf magic + rd32 be x 20 = x.length) : newFile g = newFile x := by
  have hge := hdrEndOf_ge magic
  have r : ∀ off, off + 4 ≤ x.length → rd32 be g off = rd32 be x off :=
    fun off ho => rd32_congr be x g off (fun i _ h2 => G i (by omega))
  rw [newFile_eq x be magic hm (by omega) (by omega),
    newFile_eq g be magic (by rw [readMagic_congr x g (fun i hi => G i (by omega))]; exact hm) (by omega)
      (by rw [r 20 (by omega)]; omega),
    r 20 (by omega), r 16 (by omega), hlen, loadLoop_congr be x g x.length _ _ (fun i _ h2 => G i h2)]

theorem locate_of_newFile (g : Bytes) (be : Bool) (loads : List Load) (lc a b : Nat) (nf : newFile g = .ok (be, loads))
    (hf : loads.find? (fun e => e.2.1 = 0x1d) = some (lc, 0x1d, 16))
    (ha : rd32 be g (lc + 8) = a) (hb : rd32 be g (lc + 12) = b) (hin : a + b ≤ g.length) :
    locate g = sigAnswer a b := by
  unfold locate sigAnswer
  rw [nf]
  dsimp only
  rw [hf]
  dsimp only
  rw [if_neg (by simp), ha, hb]
  by_cases c : b > 10000000
  · rw [if_pos c, if_pos c]
  · rw [if_neg c, if_neg c, if_neg (by omega)]

theorem locate_of_newFile_err (g : Bytes) (e : String) (nf : newFile g = .err e) : locate g = .err e := by
  unfold locate; rw [nf]

theorem inRanges_hdrRanges (m : Markers) (i : Nat) :
    inRanges (hdrRanges m) i = false ↔
      (m.loadCsStart = 0 → ¬ (16 ≤ i ∧ i < 24)) ∧
      ¬ ((if m.is64 then m.lePos + 32 else m.lePos + 28) ≤ i ∧ i < (if m.is64 then m.lePos + 56 else m.lePos + 40)) ∧
      ¬ (lcOf m ≤ i ∧ i < lcOf m + 16) := by
  unfold inRanges hdrRanges
  by_cases c : m.loadCsStart = 0 <;> cases hb : m.is64 <;>
    simp [c] <;> omega

theorem spec_layout (f : Bytes) (m : Markers) (x : Bytes) (a b : Nat) (S : HdrSpec f m x a b) (cs : Nat)
    (h28 : 28 ≤ m.nextLc) (hbel : x.length ≤ cs) (ho : cs + m.sigLen ≤ f.length) :
    Layout f x (hdrRanges m) cs m.sigLen := by
  have hxl := S.len
  refine ⟨?_, ?_, hbel, ho⟩
  · intro r hr
    have hle := S.leRoom
    have hcs := S.csRoom
    unfold hdrRanges at hr
    rcases List.mem_append.mp hr with h | h
    · by_cases c : m.loadCsStart = 0
      · simp [c] at h; subst h; simp only; split at hxl <;> omega
      · simp [c] at h
    · simp only [List.mem_cons, List.mem_nil_iff, or_false] at h
      rcases h with h | h
      · subst h; cases hb : m.is64 <;> simp only [hb, Bool.false_eq_true, ↓reduceIte] at hle ⊢ <;> omega
      · subst h; exact hcs
  · intro i hi hr
    obtain ⟨h1, h2, h3⟩ := (inRanges_hdrRanges m i).mp hr
    refine S.same i ?_ (fun h => h1 h.1 h.2) ?_ h3
    · by_cases c : m.loadCsStart = 0
      · have : lcOf m = m.nextLc := by unfold lcOf; rw [if_neg (by omega)]
        rw [if_pos c] at hxl; omega
      · rw [if_neg c] at hxl; omega
    · unfold leField
      cases hb : m.is64 <;> simp only [hb, Bool.false_eq_true, ↓reduceIte] at h2 ⊢ <;> omega

/-- what the scanner's markers mean in terms of the list the verifier's walk returns on the input -/
structure Marks (f : Bytes) (m : Markers) (loads : List Load) : Prop where
  walk : loadLoop m.be f m.nextLc (rd32 m.be f 16) (hdrEndOf m.magic) = .ok loads
  le : ∃ c s, (m.lePos, c, s) ∈ loads ∧ (c = 1 ∨ c = 0x19)
  csNone : m.loadCsStart = 0 → ∀ e ∈ loads, e.2.1 ≠ 0x1d
  csZero : m.loadCsStart = 0 → m.sigLen = 0
  sigStartLt : m.sigStart < 2 ^ 32
  sigLenLt : m.sigLen < 2 ^ 32
  csSome : m.loadCsStart ≠ 0 → ∃ s, (m.loadCsStart, 0x1d, s) ∈ loads ∧ m.sigStart = rd32 m.be f (m.loadCsStart + 8) ∧
    m.sigLen = rd32 m.be f (m.loadCsStart + 12)

theorem marks_of_scan (f : Bytes) (m : Markers) (st : ScanSt) (S : ScanInv f m st) (loads : List Load)
    (hnf : newFile f = .ok (m.be, loads)) : Marks f m loads := by
  obtain ⟨magic', hm', _, hl⟩ := newFile_inv f m.be loads hnf
  have : magic' = m.magic := by
    have := S.magic; rw [hm'] at this; injection this with this; injection this
  subst this
  rw [← S.nextLc] at hl
  obtain ⟨_, b, _⟩ := loadLoop_sound _ _ _ _ _ _ hl
  obtain ⟨i1, i2⟩ := cmdLoop_loads _ _ _ _ _ _ _ _ S.loop hl
  have hge := hdrEndOf_ge m.magic
  refine ⟨hl, ?_, ?_, ?_, ?_, ?_, ?_⟩
  · rcases i1 with h | h
    · exact absurd (S.lePos.trans h) S.lePos0
    · rw [S.lePos]; exact h
  · intro h0 e he
    rcases i2 with ⟨_, _, _, h⟩ | ⟨s, hm, _, _⟩
    · exact h e he
    · have := (chain_mem loads _ b _ hm).1
      rw [← S.loadCsStart, h0] at this
      simp only at this; omega
  · intro h0
    rcases i2 with ⟨_, _, h, _⟩ | ⟨s, hm, _, _⟩
    · rw [S.sigLen, h]
    · have := (chain_mem loads _ b _ hm).1
      rw [← S.loadCsStart, h0] at this
      simp only at this; omega
  · rcases i2 with ⟨_, h, _, _⟩ | ⟨s, _, h, _⟩
    · rw [S.sigStart, h]; decide
    · rw [S.sigStart, h]; exact rd32_lt _ _ _
  · rcases i2 with ⟨_, _, h, _⟩ | ⟨s, _, _, h⟩
    · rw [S.sigLen, h]; decide
    · rw [S.sigLen, h]; exact rd32_lt _ _ _
  · intro hne
    rcases i2 with ⟨h, _, _, _⟩ | ⟨s, hm, h1, h2⟩
    · exact absurd (S.loadCsStart.trans h) hne
    · rw [S.loadCsStart, S.sigStart, S.sigLen]; exact ⟨s, hm, h1, h2⟩

theorem locate_of_buffer (g x : Bytes) (be : Bool) (magic : Nat) (loads : List Load) (lc a b : Nat)
    (G : ∀ i, i < x.length → g[i]? = x[i]?) (hxg : x.length ≤ g.length)
    (hm : readMagic x = some (be, magic)) (hlen : hdrEndOf magic + rd32 be x 20 = x.length)
    (hw : loadLoop be x x.length (rd32 be x 16) (hdrEndOf magic) = .ok loads)
    (hf : loads.find? (fun e => e.2.1 = 0x1d) = some (lc, 0x1d, 16)) (hlc : lc + 16 ≤ x.length)
    (ha : rd32 be x (lc + 8) = a) (hb : rd32 be x (lc + 12) = b) (hin : a + b ≤ g.length) :
    locate g = sigAnswer a b := by
  have hge := hdrEndOf_ge magic
  have nf : newFile g = .ok (be, loads) := by
    rw [newFile_of_buffer g x be magic G hxg hm hlen, newFile_eq x be magic hm (by omega) (by omega), hlen, hw]
  refine locate_of_newFile g be loads lc a b nf hf ?_ ?_ hin
  · rw [rd32_congr be x g _ (fun i _ h2 => G i (by omega))]; exact ha
  · rw [rd32_congr be x g _ (fun i _ h2 => G i (by omega))]; exact hb

theorem locate_written_err (f x : Bytes) (rs : List (Nat × Nat)) (cs sigLen padding : Nat) (sigBuf : Bytes)
    (L : Layout f x rs cs sigLen) (be : Bool) (magic : Nat) (e : String) (hm : readMagic x = some (be, magic))
    (hlen : hdrEndOf magic + rd32 be x 20 = x.length) (he : newFile x = .err e) :
    locate (written f x rs cs sigLen padding sigBuf) = .err e := by
  have hxg : x.length ≤ (written f x rs cs sigLen padding sigBuf).length := by
    rw [written_length f x rs cs sigLen padding sigBuf L]
    have := L.hdrBelow; have := L.oldInside; omega
  exact locate_of_newFile_err _ e
    ((newFile_of_buffer _ x be magic (written_header f x rs cs sigLen padding sigBuf L) hxg hm hlen).trans he)

/-- the LC_CODE_SIGNATURE command that gets written lies behind the recorded __LINKEDIT command (always so when it is appended)
    or, an existing command only, in front of it -/
theorem cs_position (f : Bytes) (m : Markers) (loads : List Load) (M : Marks f m loads)
    (oneSig : ∀ e ∈ loads, e.2.1 = 0x1d → e.1 = m.loadCsStart ∧ e.2.2 = 16) :
    28 ≤ m.lePos ∧ (m.lePos + 56 ≤ lcOf m ∨ (m.loadCsStart ≠ 0 ∧ lcOf m + 16 ≤ m.lePos ∧ 28 ≤ lcOf m)) := by
  have hge := hdrEndOf_ge m.magic
  obtain ⟨_, hch, hok⟩ := loadLoop_sound _ _ _ _ _ _ M.walk
  have hpos : ∀ e ∈ loads, 0 < e.2.2 := fun e he => by have := (hok e he).2.2.1; omega
  obtain ⟨cLe, sLe, hle, hcle⟩ := M.le
  obtain ⟨a1, a2, a3, a4, a5⟩ := hok _ hle
  simp only at a1 a2 a3 a4 a5
  have hsz := stepChk_size _ _ _ _ _ a5
  have h56 : 56 ≤ sLe := by
    rcases hcle with h | h
    · exact hsz.1 h
    · have := (hsz.2 h).1; omega
  have hleGe := (chain_mem loads _ hch _ hle).1
  simp only at hleGe
  refine ⟨by omega, ?_⟩
  unfold lcOf
  by_cases c : m.loadCsStart ≠ 0
  · rw [if_pos c]
    obtain ⟨s, hm, _⟩ := M.csSome c
    have hs16 : s = 16 := (oneSig _ hm rfl).2
    subst hs16
    have hcsGe := (chain_mem loads _ hch _ hm).1
    simp only at hcsGe
    rcases chain_disjoint loads _ hch hpos _ hle _ hm with h | h | h
    · injection h with _ h; injection h with h _
      rcases hcle with _ | _ <;> omega
    · simp only at h; left; omega
    · simp only at h; right; exact ⟨c, h, by omega⟩
  · rw [if_neg c]; left; omega

theorem reuse_hdrSpec (f : Bytes) (m : Markers) (st : ScanSt) (S : ScanInv f m st) (loads : List Load) (M : Marks f m loads)
    (oneSig : ∀ e ∈ loads, e.2.1 = 0x1d → e.1 = m.loadCsStart ∧ e.2.2 = 16) (hsl : m.sigLen ≠ 0)
    (leKind : rd32 m.be f m.lePos = 0x19 ↔ m.is64 = true) :
    HdrSpec f m (f.take m.nextLc) m.sigStart m.sigLen := by
  have hstop := S.stopLe
  have hxl : (f.take m.nextLc).length = m.nextLc := by rw [List.length_take]; omega
  have X : ∀ i, i < m.nextLc → (f.take m.nextLc)[i]? = f[i]? := fun i hi => List.getElem?_take_of_lt hi
  have r : ∀ off, off + 4 ≤ m.nextLc → rd32 m.be (f.take m.nextLc) off = rd32 m.be f off :=
    fun off ho => rd32_congr _ _ _ _ (fun i _ h2 => X i (by omega))
  have c : m.loadCsStart ≠ 0 := fun h => hsl (M.csZero h)
  have hlc : lcOf m = m.loadCsStart := by unfold lcOf; rw [if_pos c]
  obtain ⟨s, hm, e1, e2⟩ := M.csSome c
  have hs16 : s = 16 := (oneSig _ hm rfl).2
  subst hs16
  obtain ⟨_, _, hok⟩ := loadLoop_sound _ _ _ _ _ _ M.walk
  obtain ⟨k1, k2, _, hcsIn, _⟩ := hok _ hm
  obtain ⟨cLe, sLe, hle, hcle⟩ := M.le
  obtain ⟨a1, _, _, hleIn, a5⟩ := hok _ hle
  have hsz := stepChk_size _ _ _ _ _ a5
  simp only at k1 k2 hcsIn hleIn hsz a1
  have s56 : 56 ≤ sLe := by rcases hcle with h | h; exact hsz.1 h; exact Nat.le_trans (by omega) (hsz.2 h).1
  refine ⟨by rw [hxl, if_neg c], fun i hi _ _ _ => X i hi, ?_, ?_, fun h => absurd h c, ?_, by rw [hxl, hlc]; exact hcsIn⟩
  · rw [hlc, r _ (by omega), r _ (by omega), r _ (by omega), r _ (by omega), ← e1, ← e2,
      Nat.mod_eq_of_lt M.sigStartLt, Nat.mod_eq_of_lt M.sigLenLt]
    exact ⟨k1, k2, rfl, rfl⟩
  · intro hb _
    rw [rd64_congr _ _ _ _ (fun i _ h2 => X i (by omega))]
    exact (hsz.2 (a1.symm.trans (leKind.mpr hb))).2.2
  · rw [hxl]; split <;> omega

/-- the verifier's walk over a buffer satisfying `HdrSpec` succeeds, ends at the end of the buffer, and its first
    LC_CODE_SIGNATURE is the command at `lcOf m` naming `(a, b)` mod 2^32; `hx32` keeps `ncmds + 1` and `sizeofcmds + 16` from
    wrapping -/
theorem walk_hdrSpec (f : Bytes) (m : Markers) (st : ScanSt) (S : ScanInv f m st) (loads : List Load)
    (M : Marks f m loads)
    (oneSig : ∀ e ∈ loads, e.2.1 = 0x1d → e.1 = m.loadCsStart ∧ e.2.2 = 16)
    (noSlack : m.loadCsStart = 0 → chainEnd (hdrEndOf m.magic) loads = m.nextLc)
    (leKind : rd32 m.be f m.lePos = 0x19 ↔ m.is64 = true)
    (x : Bytes) (a b : Nat) (HS : HdrSpec f m x a b) (hx32 : x.length < 2 ^ 32) :
    ∃ loads', readMagic x = some (m.be, m.magic) ∧ hdrEndOf m.magic + rd32 m.be x 20 = x.length ∧
      loadLoop m.be x x.length (rd32 m.be x 16) (hdrEndOf m.magic) = .ok loads' ∧
      loads'.find? (fun e => e.2.1 = 0x1d) = some (lcOf m, 0x1d, 16) ∧
      rd32 m.be x (lcOf m + 8) = a % 2 ^ 32 ∧ rd32 m.be x (lcOf m + 12) = b % 2 ^ 32 := by
  have hge := hdrEndOf_ge m.magic
  have hl := M.walk
  obtain ⟨hlen, hch, hok⟩ := loadLoop_sound _ _ _ _ _ _ hl
  obtain ⟨cLe, sLe, hle, hcle⟩ := M.le
  have hord := (cs_position f m loads M oneSig).2
  have hk : (cLe = 0x19 ∧ m.is64 = true) ∨ (cLe = 1 ∧ m.is64 = false) := by
    have a1 : rd32 m.be f m.lePos = cLe := (hok _ hle).1
    rcases hcle with h | h
    · right; refine ⟨h, ?_⟩
      cases hb : m.is64
      · rfl
      · have := leKind.mpr hb; omega
    · left; exact ⟨h, leKind.mp (by omega)⟩
  have hleGe : hdrEndOf m.magic ≤ m.lePos := (chain_mem loads _ hch _ hle).1
  have hnext := S.nextLc
  have hxl := HS.len
  have notLe : ∀ i, i < 28 → ¬ leField m.is64 m.lePos i := by
    intro i hi; unfold leField; split <;> omega
  -- two cases, instances of `walk_patched_new` / `walk_patched_old` with `HS.same` as the frame and `cs_position` for the
  -- premise of `HS.fsz`
  by_cases c : m.loadCsStart = 0
  · have hlc : lcOf m = m.nextLc := by unfold lcOf; rw [if_neg (by omega)]
    rw [if_pos c] at hxl
    have hend := noSlack c
    have hcnt := chainEnd_ge loads (hdrEndOf m.magic) (fun e he => (hok e he).2.2.1)
    have r16 : rd32 m.be x 16 = rd32 m.be f 16 + 1 := by rw [(HS.cnt c).1, Nat.mod_eq_of_lt (by omega)]
    have r20 : rd32 m.be x 20 = rd32 m.be f 20 + 16 := by rw [(HS.cnt c).2, Nat.mod_eq_of_lt (by omega)]
    have W := walk_patched_new m.be f x m.nextLc (hdrEndOf m.magic) (rd32 m.be f 16) loads m.is64 m.lePos cLe sLe hl hend hle hk
      (fun i h1 h2 h3 => HS.same i h2 (by omega) h3 (by omega))
      (fun hb64 => HS.fsz hb64 (hord.imp_right fun h => absurd c h.1))
      (by rw [← hlc]; exact HS.cs.1) (by rw [← hlc]; exact HS.cs.2.1)
    refine ⟨loads ++ [(m.nextLc, 0x1d, 16)], ?_, by rw [r20]; omega, by rw [r16, hxl]; exact W, ?_, HS.cs.2.2.1, HS.cs.2.2.2⟩
    · rw [readMagic_congr f x (fun i hi => HS.same i (by omega) (by omega) (notLe i (by omega)) (by omega))]
      exact S.magic
    · rw [hlc]; exact find?_concat_of_none _ loads _ (fun e he => decide_eq_false (M.csNone c e he)) (decide_eq_true rfl)
  · have hlc : lcOf m = m.loadCsStart := by unfold lcOf; rw [if_pos c]
    rw [if_neg c] at hxl
    obtain ⟨s, hm, _, _⟩ := M.csSome c
    have hs16 : s = 16 := (oneSig _ hm rfl).2
    subst hs16
    have hcsGe : hdrEndOf m.magic ≤ m.loadCsStart := (chain_mem loads _ hch _ hm).1
    have hcsIn : m.loadCsStart + 16 ≤ m.nextLc := (hok _ hm).2.2.2.1
    have same24 : ∀ i, i < 28 → x[i]? = f[i]? :=
      fun i h2 => HS.same i (by omega) (fun h => c h.1) (notLe i (by omega)) (by omega)
    have r16 : rd32 m.be x 16 = rd32 m.be f 16 := rd32_congr _ _ _ _ (fun i h1 h2 => same24 i (by omega))
    have r20 : rd32 m.be x 20 = rd32 m.be f 20 := rd32_congr _ _ _ _ (fun i h1 h2 => same24 i (by omega))
    have W := walk_patched_old m.be f x m.nextLc (hdrEndOf m.magic) (rd32 m.be f 16) loads m.is64 m.lePos cLe sLe
      m.loadCsStart hl hm hle hk
      (fun i _ h2 h3 h4 => HS.same i h2 (fun h => c h.1) h3 (by rw [hlc]; exact h4))
      (fun hb64 => HS.fsz hb64 (hord.imp_right fun h => by omega))
      (by rw [← hlc]; exact HS.cs.1) (by rw [← hlc]; exact HS.cs.2.1)
    refine ⟨loads, ?_, by rw [r20]; omega, by rw [r16, hxl]; exact W, ?_, HS.cs.2.2.1, HS.cs.2.2.2⟩
    · rw [readMagic_congr f x (fun i hi => same24 i (by omega))]; exact S.magic
    · rw [hlc]
      exact find?_eq_some_of_unique _ hm (decide_eq_true rfl) (fun e he h => by
        have h := of_decide_eq_true h
        obtain ⟨h1, h2⟩ := oneSig e he h
        obtain ⟨p, q, r⟩ := e
        simp only at h h1 h2
        rw [h, h1, h2])

theorem locate_written (f : Bytes) (m : Markers) (st : ScanSt) (S : ScanInv f m st) (loads : List Load)
    (M : Marks f m loads)
    (oneSig : ∀ e ∈ loads, e.2.1 = 0x1d → e.1 = m.loadCsStart ∧ e.2.2 = 16)
    (noSlack : m.loadCsStart = 0 → chainEnd (hdrEndOf m.magic) loads = m.nextLc)
    (leKind : rd32 m.be f m.lePos = 0x19 ↔ m.is64 = true)
    (x : Bytes) (a b : Nat) (HS : HdrSpec f m x a b) (ha : a < 2 ^ 32) (hb : b < 2 ^ 32)
    (rs : List (Nat × Nat)) (cs padding : Nat) (sigBuf : Bytes) (L : Layout f x rs cs m.sigLen)
    (hsum : cs + padding = a) (hbuf : sigBuf.length = b) :
    locate (written f x rs cs m.sigLen padding sigBuf) = sigAnswer a b := by
  have hbel := L.hdrBelow
  have hold := L.oldInside
  have glen := written_length f x rs cs m.sigLen padding sigBuf L
  obtain ⟨loads', hm, h20, hw, hf, ra, rb⟩ :=
    walk_hdrSpec f m st S loads M oneSig noSlack leKind x a b HS (by omega)
  rw [Nat.mod_eq_of_lt ha] at ra
  rw [Nat.mod_eq_of_lt hb] at rb
  exact locate_of_buffer _ x m.be m.magic loads' (lcOf m) a b (written_header f x rs cs m.sigLen padding sigBuf L)
    (by rw [glen]; omega) hm h20 hw hf HS.csRoom ra rb (by rw [glen]; omega)

theorem wirePatches_concat (po : PatchOut) (A : List Patch) (off old n : Nat) (sigBuf : Bytes)
    (hp : po.patches = A ++ [⟨off, old, zeros (n + po.sigBufLen)⟩]) :
    wirePatches po sigBuf = sortByOff (build 4294967295 (A ++ [⟨off, old, zeros n ++ sigBuf⟩])) := by
  unfold wirePatches
  rw [hp]
  simp only [List.getLast?_concat, List.dropLast_concat]
  have : (zeros (n + po.sigBufLen)).take ((zeros (n + po.sigBufLen)).length - po.sigBufLen) = zeros n := by
    simp [zeros]
  rw [this]

theorem signedFile_of_constructible (f : Bytes) (po : PatchOut) (blob : Bytes) (x : Bytes) (rs : List (Nat × Nat))
    (cs sigLen n : Nat) (hb : blob.length ≤ po.sigBufLen)
    (hp : po.patches = hdrPatches x rs ++ [⟨cs, sigLen, zeros (n + po.sigBufLen)⟩])
    (hc : wfFrom f.length 0 (hdrPatches x rs ++ [⟨cs, sigLen, zeros n ++ (blob ++ zeros (po.sigBufLen - blob.length))⟩]) = true) :
    signedFile f po blob = .ok (written f x rs cs sigLen n (blob ++ zeros (po.sigBufLen - blob.length))) := by
  unfold signedFile
  rw [if_neg (by omega), wirePatches_concat po _ cs sigLen n _ hp,
    sortByOff_id f.length 0 _ (wf_build _ _ _ hc)]
  exact Binpatch.applyRewrite_build _ f _ hc

/-- the patch set when the existing LC_CODE_SIGNATURE command lies IN FRONT of the __LINKEDIT command: the `Add`
    calls come out of order (`le` first), nothing coalesces, `Dump` sorts, the result is the reference result for
    the ranges in ascending order -/
theorem signedFile_swapped (f : Bytes) (po : PatchOut) (blob : Bytes) (x : Bytes) (le : Nat × Nat)
    (lc cs sigLen n : Nat) (hb : blob.length ≤ po.sigBufLen)
    (hp : po.patches = hdrPatches x [le, (lc, 16)] ++ [⟨cs, sigLen, zeros (n + po.sigBufLen)⟩])
    (h0 : 0 < le.2) (h1 : lc + 16 ≤ le.1) (h2 : le.1 + le.2 ≤ cs) (h3 : cs + sigLen ≤ f.length)
    (hM1 : le.2 ≤ 4294967295) (hM2 : sigLen ≤ 4294967295) :
    signedFile f po blob = .ok (written f x [(lc, 16), le] cs sigLen n (blob ++ zeros (po.sigBufLen - blob.length))) := by
  unfold signedFile
  rw [if_neg (by omega), wirePatches_concat po _ cs sigLen n _ hp]
  have a1 : ¬ lc = le.1 + le.2 := by omega
  have a2 : ¬ cs = lc + 16 := by omega
  have hbuild : build 4294967295 (hdrPatches x [le, (lc, 16)] ++
      [⟨cs, sigLen, zeros n ++ (blob ++ zeros (po.sigBufLen - blob.length))⟩]) =
      [⟨le.1, le.2, (x.drop le.1).take le.2⟩, ⟨lc, 16, (x.drop lc).take 16⟩,
       ⟨cs, sigLen, zeros n ++ (blob ++ zeros (po.sigBufLen - blob.length))⟩] := by
    simp only [hdrPatches, List.map_cons, List.map_nil, build, List.cons_append, List.nil_append, List.foldl_cons,
      List.foldl_nil]
    have s1 : add 4294967295 [] ⟨le.1, le.2, (x.drop le.1).take le.2⟩ = [⟨le.1, le.2, (x.drop le.1).take le.2⟩] := by
      simp only [add, List.getLast?_nil, List.nil_append]; exact addSplit_small _ _ _ _ hM1
    have s2 : add 4294967295 [⟨le.1, le.2, (x.drop le.1).take le.2⟩] ⟨lc, 16, (x.drop lc).take 16⟩ =
        [⟨le.1, le.2, (x.drop le.1).take le.2⟩, ⟨lc, 16, (x.drop lc).take 16⟩] := by
      simp only [add, List.getLast?_singleton]
      rw [if_neg (fun h => a1 h.1), addSplit_small _ _ _ _ (by omega)]; rfl
    have s3 : add 4294967295 [⟨le.1, le.2, (x.drop le.1).take le.2⟩, ⟨lc, 16, (x.drop lc).take 16⟩]
        ⟨cs, sigLen, zeros n ++ (blob ++ zeros (po.sigBufLen - blob.length))⟩ =
        [⟨le.1, le.2, (x.drop le.1).take le.2⟩, ⟨lc, 16, (x.drop lc).take 16⟩,
         ⟨cs, sigLen, zeros n ++ (blob ++ zeros (po.sigBufLen - blob.length))⟩] := by
      simp only [add, List.getLast?_cons_cons, List.getLast?_singleton]
      rw [if_neg (fun h => a2 h.1), addSplit_small _ _ _ _ hM2]; rfl
    rw [s1, s2, s3]
  rw [hbuild]
  have hsort : sortByOff [⟨le.1, le.2, (x.drop le.1).take le.2⟩, ⟨lc, 16, (x.drop lc).take 16⟩,
       ⟨cs, sigLen, zeros n ++ (blob ++ zeros (po.sigBufLen - blob.length))⟩] =
      [⟨lc, 16, (x.drop lc).take 16⟩, ⟨le.1, le.2, (x.drop le.1).take le.2⟩,
       ⟨cs, sigLen, zeros n ++ (blob ++ zeros (po.sigBufLen - blob.length))⟩] := by
    simp [sortByOff, insertByOff, show ¬ le.1 ≤ lc by omega, show le.1 ≤ cs by omega, show lc ≤ cs by omega]
  rw [hsort]
  rw [applyRewrite_sem f _ (by simp [wfFrom]; omega)]
  rfl

theorem layout_perm (f x : Bytes) (rs rs' : List (Nat × Nat)) (cs sigLen : Nat) (L : Layout f x rs cs sigLen)
    (h : ∀ r, r ∈ rs' ↔ r ∈ rs) : Layout f x rs' cs sigLen := by
  refine ⟨fun r hr => L.ranges r ((h r).mp hr), fun i hi hr => L.agree i hi ?_, L.hdrBelow, L.oldInside⟩
  cases c : inRanges rs i with
  | false => rfl
  | true =>
    simp only [inRanges, List.any_eq_true, decide_eq_true_eq] at c
    obtain ⟨r, hr', hc⟩ := c
    have : inRanges rs' i = true := by
      simp only [inRanges, List.any_eq_true, decide_eq_true_eq]
      exact ⟨r, (h r).mpr hr', hc⟩
    rw [this] at hr; cases hr

theorem constructible_fresh (f : Bytes) (m : Markers) (x : Bytes) (cs sigLen : Nat) (blob : Bytes)
    (hle : 28 ≤ m.lePos) (hord : (if m.is64 then m.lePos + 56 else m.lePos + 40) ≤ lcOf m)
    (hcs : lcOf m + 16 ≤ cs) (hin : cs + sigLen ≤ f.length) :
    wfFrom f.length 0 (hdrPatches x (hdrRanges m) ++ [⟨cs, sigLen, blob⟩]) = true := by
  unfold hdrPatches hdrRanges
  by_cases c : m.loadCsStart = 0 <;> cases hb : m.is64 <;>
    simp only [hb, Bool.false_eq_true, ↓reduceIte] at hord <;>
    simp [c, wfFrom] <;> omega

theorem written_slice (f h3 : Bytes) (rs : List (Nat × Nat)) (cs sigLen padding : Nat) (sigBuf : Bytes)
    (L : Layout f h3 rs cs sigLen) :
    sliceOf (written f h3 rs cs sigLen padding sigBuf) (cs + padding) sigBuf.length = sigBuf := by
  unfold sliceOf
  apply take_drop_eq_of_getElem?
  intro j hj
  rw [Nat.add_assoc, written_behind f h3 rs cs sigLen padding sigBuf L, if_neg (by omega), if_pos (by omega)]
  congr 1; omega

/- `planFrom` / `signFrom` are `planOrig` behind the scan and `signOrig` behind the plan (`sign` is `signFrom` of `plan`), so
that a concrete image is evaluated stage by stage (`scanOrig_eq` first). -/

/-- the size estimate of `machos.Sign`: `codeSize·(20 + hashSize)/4096 + |entitlements| + |requirements| + 16384` (Go's truncating
    division on `int64`) -/
def estI (m : Markers) (hashSize entLen reqLen : Nat) : Int :=
  Int.tdiv (m.codeSize * (20 + hashSize : Nat)) 4096 + (entLen + reqLen : Nat) + 16384

def estOf (m : Markers) (p : SignParams) : Int :=
  Int.tdiv (m.codeSize * (20 + hashSizeOf p.hash : Nat)) 4096 +
    ((p.entitlement.map (·.length)).getD 0 + (p.requirements.map (·.length)).getD 0 : Nat) + 16384

def planFrom (f : Bytes) (m : Markers) (hashSize entLen reqLen : Nat) : Res Plan :=
  match patchSignature m (f.take m.consumed) (estI m hashSize entLen reqLen) with
  | .err e => .err e
  | .panic p => .panic p
  | .diverge => .diverge
  | .ok po =>
    let extended := po.newHeader.length - m.consumed
    if f.length - m.consumed < extended then .err "eof" else
    let rest := (f.drop (m.consumed + extended)).take (m.codeSize - (po.newHeader.length : Int)).toNat
    let stream := (po.newHeader ++ rest ++ zeros po.padding).take po.sigStart
    let fromR := min rest.length (po.sigStart - po.newHeader.length)
    .ok ⟨m, po, stream, if m.sigLen ≠ 0 then some (((f.drop (m.consumed + extended)).drop fromR).take m.sigLen) else none⟩

theorem planOrig_of_scan (f : Bytes) (m : Markers) (hashSize entLen reqLen : Nat) (h : scanOrig f = .ok m) :
    planOrig f hashSize entLen reqLen = planFrom f m hashSize entLen reqLen := by
  unfold planOrig planFrom; rw [h]; rfl

def signFrom (p : SignParams) (r : Res Plan) : Res SignOut :=
  match r with
  | .err e => .err e
  | .panic s => .panic s
  | .diverge => .diverge
  | .ok pl =>
    match defaults p pl.oldSig with
    | .err e => .err e
    | .panic s => .panic s
    | .diverge => .diverge
    | .ok (p', opq) =>
      match signBlob p' pl.stream with
      | .ok s => .ok ⟨pl, s, opq⟩
      | .err e => .err e
      | .panic s => .panic s
      | .diverge => .diverge

theorem signOrig_of_scan (f : Bytes) (p : SignParams) (m : Markers) (h : scanOrig f = .ok m) :
    signOrig f p = signFrom p (planFrom f m (hashSizeOf p.hash) ((p.entitlement.map (·.length)).getD 0)
      ((p.requirements.map (·.length)).getD 0)) := by
  rw [← planOrig_of_scan f m _ _ _ h]; rfl

theorem planOrig_inv (f : Bytes) (hashSize entLen reqLen : Nat) (pl : Plan) (h : planOrig f hashSize entLen reqLen = .ok pl) :
    scanOrig f = .ok pl.m ∧
    patchSignature pl.m (f.take pl.m.consumed) (estI pl.m hashSize entLen reqLen) = .ok pl.po ∧
    pl.po.newHeader.length - pl.m.consumed ≤ f.length - pl.m.consumed ∧
    pl.stream = (pl.po.newHeader ++
        (f.drop (pl.m.consumed + (pl.po.newHeader.length - pl.m.consumed))).take
          (pl.m.codeSize - (pl.po.newHeader.length : Int)).toNat ++ zeros pl.po.padding).take pl.po.sigStart := by
  revert h
  fun_cases planOrig f hashSize entLen reqLen <;> intro h
  case case8 m hs _ po hp ext hlen _ _ _ =>
    cases h
    exact ⟨hs, hp, by show po.newHeader.length - m.consumed ≤ f.length - m.consumed; unfold ext at hlen; omega, rfl⟩
  all_goals cases h

theorem signFrom_inv (p : SignParams) (r : Res Plan) (so : SignOut) (h : signFrom p r = .ok so) :
    r = .ok so.plan ∧ ∃ p', defaults p so.plan.oldSig = .ok (p', so.cmsOpaque) ∧ signBlob p' so.plan.stream = .ok so.signed := by
  revert h
  fun_cases signFrom p r <;> intro h
  case case7 _ _ _ hd _ hb => cases h; exact ⟨rfl, _, hd, hb⟩
  all_goals cases h

theorem signOrig_patch (f : Bytes) (p : SignParams) (so : SignOut) (h : signOrig f p = .ok so) :
    scanOrig f = .ok so.plan.m ∧
    patchSignature so.plan.m (f.take so.plan.m.consumed) (estI so.plan.m (hashSizeOf p.hash)
      ((p.entitlement.map (·.length)).getD 0) ((p.requirements.map (·.length)).getD 0)) = .ok so.plan.po := by
  obtain ⟨hpl, _⟩ := signFrom_inv p _ so h
  obtain ⟨hs, hp, _⟩ := planOrig_inv f _ _ _ so.plan hpl
  exact ⟨hs, hp⟩

theorem planFrom_reuse (f : Bytes) (m : Markers) (hashSize entLen reqLen : Nat)
    (hre : (m.sigLen : Int) ≥ estI m hashSize entLen reqLen)
    (hlen : m.consumed ≤ f.length) (hsl : m.sigLen ≠ 0) :
    planFrom f m hashSize entLen reqLen =
      .ok ⟨m, ⟨f.take m.consumed, m.sigLen, m.sigStart, 0, [⟨m.sigStart, m.sigLen, zeros m.sigLen⟩]⟩,
        (f.take m.consumed ++ (f.drop m.consumed).take (m.codeSize - (m.consumed : Int)).toNat ++ zeros 0).take m.sigStart,
        some (((f.drop m.consumed).drop (min ((f.drop m.consumed).take (m.codeSize - (m.consumed : Int)).toNat).length
          (m.sigStart - m.consumed))).take m.sigLen)⟩ := by
  have hl : (f.take m.consumed).length = m.consumed := by rw [List.length_take]; omega
  unfold planFrom patchSignature
  simp only [if_pos hre, hl, Nat.sub_self, Nat.not_lt_zero, ↓reduceIte, Nat.add_zero, if_pos hsl]

theorem defaults_empty (p : SignParams) (blob : Bytes) (mg : Nat) (hps : parseSuper blob = .ok (mg, []))
    (hmg : mg = 0xfade0cc0 ∨ mg = 0xfade0cc1) : defaults p (some blob) = .ok (p, false) := by
  have hm : ¬ (mg ≠ 0xfade0cc0 ∧ mg ≠ 0xfade0cc1) := by omega
  simp [defaults, parseSignature, hps, hm, sigItems, bestDir]

theorem signFrom_isOk (p p' : SignParams) (pl : Plan) (o : Bool) (hd : defaults p pl.oldSig = .ok (p', o))
    (hb : (signBlob p' pl.stream).isOk = true) : (signFrom p (.ok pl)).isOk = true := by
  unfold signFrom
  simp only [hd]
  cases hs : signBlob p' pl.stream with
  | ok s => rfl
  | err e => rw [hs] at hb; cases hb
  | panic e => rw [hs] at hb; cases hb
  | diverge => rw [hs] at hb; cases hb

theorem sign_inv (f : Bytes) (p : SignParams) (so : SignOut) (h : signOrig f p = .ok so) :
    ∃ hashSize entLen reqLen, planOrig f hashSize entLen reqLen = .ok so.plan ∧ so.signed.pages.limit = so.plan.stream.length ∧
      hashSize = hashSizeOf p.hash ∧ entLen = (p.entitlement.map (·.length)).getD 0 ∧
      reqLen = (p.requirements.map (·.length)).getD 0 := by
  obtain ⟨hpl, p', _, hb⟩ := signFrom_inv p _ so h
  exact ⟨_, _, _, hpl, signBlob_limit _ _ _ hb, rfl, rfl, rfl⟩

/-- a reserved region of at most 10^7 bytes forces the end of code below 2^32 − 8: `uint32(sigStart)` cannot truncate
    before `readSigBlob`'s size limit strikes -/
theorem cs_lt_of_small (cs k e : Nat) (c : Int) (hc : c = (cs : Int)) (hk : 20 ≤ k)
    (h : align (Int.tdiv (c * (k : Nat)) 4096 + (e : Nat) + 16384).toNat 8 ≤ 10000000) : cs + 8 < 2 ^ 32 := by
  subst hc
  have h1 : Int.tdiv ((cs : Int) * (k : Nat)) 4096 = ((cs * k / 4096 : Nat) : Int) := by
    rw [← Int.natCast_mul]; exact (Int.ofNat_tdiv _ _).symm
  rw [h1] at h
  have h2 : cs * 20 ≤ cs * k := Nat.mul_le_mul_left _ hk
  have := align_ge (((cs * k / 4096 : Nat) : Int) + (e : Nat) + 16384).toNat
  omega

theorem fresh_signedFile (f : Bytes) (m : Markers) (sigSize0 : Int) (po : PatchOut) (blob : Bytes)
    (F : Fresh m (f.take m.nextLc) sigSize0 po)
    (HS : HdrSpec f m po.newHeader (freshSigStart m) (align sigSize0.toNat 8))
    (h28 : 28 ≤ m.nextLc) (hle : 28 ≤ m.lePos) (hord : m.lePos + 56 ≤ lcOf m)
    (hbel : po.newHeader.length ≤ m.codeSize.toNat) (hin : m.codeSize.toNat + m.sigLen ≤ f.length)
    (hb : blob.length ≤ po.sigBufLen) :
    Layout f po.newHeader (hdrRanges m) m.codeSize.toNat m.sigLen ∧
    signedFile f po blob = .ok (written f po.newHeader (hdrRanges m) m.codeSize.toNat m.sigLen po.padding
      (blob ++ zeros (po.sigBufLen - blob.length))) := by
  have L := spec_layout f m po.newHeader _ _ HS m.codeSize.toNat h28 hbel hin
  exact ⟨L, signedFile_of_constructible f po blob po.newHeader (hdrRanges m) m.codeSize.toNat m.sigLen po.padding hb
    F.patches (constructible_fresh f m _ _ _ _ hle (by split <;> omega) (by have := HS.csRoom; omega) hin)⟩

theorem fresh_located (f : Bytes) (m : Markers) (st : ScanSt) (S : ScanInv f m st) (loads : List Load)
    (M : Marks f m loads)
    (oneSig : ∀ e ∈ loads, e.2.1 = 0x1d → e.1 = m.loadCsStart ∧ e.2.2 = 16)
    (noSlack : m.loadCsStart = 0 → chainEnd (hdrEndOf m.magic) loads = m.nextLc)
    (leKind : rd32 m.be f m.lePos = 0x19 ↔ m.is64 = true)
    (est : Int) (po : PatchOut) (blob : Bytes) (F : Fresh m (f.take m.nextLc) est po)
    (hbel : po.newHeader.length ≤ m.codeSize.toNat) (hin : m.codeSize.toNat + m.sigLen ≤ f.length)
    (off32 : po.sigStart < 2 ^ 32) (len32 : po.sigBufLen < 2 ^ 32) (hb : blob.length ≤ po.sigBufLen) :
    ∃ rs, Layout f po.newHeader rs m.codeSize.toNat m.sigLen ∧
      signedFile f po blob = .ok (written f po.newHeader rs m.codeSize.toNat m.sigLen po.padding
        (blob ++ zeros (po.sigBufLen - blob.length))) ∧
      locate (written f po.newHeader rs m.codeSize.toNat m.sigLen po.padding (blob ++ zeros (po.sigBufLen - blob.length))) =
        sigAnswer po.sigStart po.sigBufLen := by
  have hge := hdrEndOf_ge m.magic
  have hnext := S.nextLc
  have HS := fresh_hdrSpec f m _ po S.stopLe (by omega) F
  have L0 := spec_layout f m po.newHeader _ _ HS m.codeSize.toNat (by omega) hbel hin
  have hord := cs_position f m loads M oneSig
  have hsb : (blob ++ zeros (po.sigBufLen - blob.length)).length = align est.toNat 8 := by
    rw [← F.sigBufLen]; simp [zeros]; omega
  have hsum : m.codeSize.toNat + po.padding = freshSigStart m := by
    rw [F.padding]; have := F.startGe; omega
  -- the patch set, in whichever order the header ranges come
  obtain ⟨rs, L, hsf⟩ : ∃ rs, Layout f po.newHeader rs m.codeSize.toNat m.sigLen ∧
      signedFile f po blob = .ok (written f po.newHeader rs m.codeSize.toNat m.sigLen po.padding
        (blob ++ zeros (po.sigBufLen - blob.length))) := by
    rcases hord.2 with hasc | ⟨hne, hdesc, _⟩
    · exact ⟨hdrRanges m, fresh_signedFile f m est po blob F HS (by omega) hord.1 hasc hbel hin hb⟩
    · have hr : hdrRanges m = [(if m.is64 then (m.lePos + 32, 24) else (m.lePos + 28, 12)), (lcOf m, 16)] := by
        unfold hdrRanges; rw [if_pos hne]; rfl
      have hp := F.patches
      rw [hr] at hp
      have hroom := HS.leRoom
      have hsl := M.sigLenLt
      refine ⟨[(lcOf m, 16), (if m.is64 then (m.lePos + 32, 24) else (m.lePos + 28, 12))],
        layout_perm _ _ _ _ _ _ L0 (by intro r; rw [hr]; simp only [List.mem_cons, List.mem_nil_iff, or_false]; exact Or.comm),
        signedFile_swapped f po blob po.newHeader _ (lcOf m) m.codeSize.toNat m.sigLen po.padding hb hp ?_ ?_ ?_ hin ?_
          (by omega)⟩
      · cases hb64 : m.is64 <;> simp
      · cases hb64 : m.is64 <;> simp <;> omega
      · cases hb64 : m.is64 <;> simp only [hb64, Bool.false_eq_true, ↓reduceIte] at hroom ⊢ <;> omega
      · cases hb64 : m.is64 <;> simp
  refine ⟨rs, L, hsf, ?_⟩
  rw [F.sigStart] at off32
  rw [F.sigBufLen] at len32
  rw [show sigAnswer po.sigStart po.sigBufLen = sigAnswer (freshSigStart m) (align est.toNat 8) by rw [F.sigStart, F.sigBufLen]]
  exact locate_written f m st S loads M oneSig noSlack leKind po.newHeader _ _ HS off32 len32
    rs m.codeSize.toNat po.padding _ L hsum hsb

/-- both branches of `patchSignature`; the hypotheses are the fields of
    `Relic.Props.C01.RegularImage`, and `noSlack` and `small`, which the current `scanFile` / `Sign` test themselves
    (`C01.regular_noSlack`, `C01.regular_small`) -/
theorem sign_then_locate_core (f : Bytes) (p : SignParams) (so : SignOut) (blob : Bytes) (loads : List Load)
    (hs : signOrig f p = .ok so)
    (accepts : newFile f = .ok (so.plan.m.be, loads))
    (oneSig : ∀ e ∈ loads, e.2.1 = 0x1d → e.1 = so.plan.m.loadCsStart ∧ e.2.2 = 16)
    (noSlack : so.plan.m.loadCsStart = 0 →
      hdrEndOf so.plan.m.magic + (loads.map (fun e => e.2.2)).sum = so.plan.m.nextLc)
    (leKind : rd32 so.plan.m.be f so.plan.m.lePos = 0x19 ↔ so.plan.m.is64 = true)
    (hdrBelow : (so.plan.po.newHeader.length : Int) ≤ so.plan.m.codeSize)
    (oldInside : so.plan.m.codeSize + so.plan.m.sigLen ≤ f.length)
    (small : so.plan.po.sigBufLen ≤ 10000000 ∨ (so.plan.po.sigStart < 2 ^ 32 ∧ so.plan.po.sigBufLen < 2 ^ 32))
    (hb : blob.length ≤ so.plan.po.sigBufLen) :
    ∃ g, signedFile f so.plan.po blob = .ok g ∧
      locate g = sigAnswer so.plan.po.sigStart so.plan.po.sigBufLen ∧
      g.take so.plan.po.sigStart = so.plan.stream ∧
      sliceOf g so.plan.po.sigStart so.plan.po.sigBufLen = blob ++ zeros (so.plan.po.sigBufLen - blob.length) ∧
      so.signed.pages.limit = so.plan.po.sigStart := by
  obtain ⟨hashSize, entLen, reqLen, hpl, hlim, _, _, _⟩ := sign_inv f p so hs
  generalize so.plan = pl at *
  obtain ⟨hscan, hpatch, hext, hstream⟩ := planOrig_inv f hashSize entLen reqLen pl hpl
  obtain ⟨m, po, stream, oldSig⟩ := pl
  simp only at *
  obtain ⟨st, S⟩ := scanOrig_inv f m hscan
  have M := marks_of_scan f m st S loads accepts
  have hge := hdrEndOf_ge m.magic
  have hnext := S.nextLc
  have hstop := S.stopLe
  rw [S.consumed] at hpatch hext hstream
  have hsb : (blob ++ zeros (po.sigBufLen - blob.length)).length = po.sigBufLen := by
    simp [zeros]; omega
  -- both branches: the written file, the locator on it, the region against the end of code `cs`
  obtain ⟨rs, cs, L, hsf, hloc, hsum, hxn, hcs⟩ : ∃ rs cs, Layout f po.newHeader rs cs m.sigLen ∧
      signedFile f po blob = .ok (written f po.newHeader rs cs m.sigLen po.padding (blob ++ zeros (po.sigBufLen - blob.length))) ∧
      locate (written f po.newHeader rs cs m.sigLen po.padding (blob ++ zeros (po.sigBufLen - blob.length))) =
        sigAnswer po.sigStart po.sigBufLen ∧
      cs + po.padding = po.sigStart ∧ m.nextLc ≤ po.newHeader.length ∧ m.codeSize = (cs : Int) := by
    by_cases hre : (m.sigLen : Int) ≥ estI m hashSize entLen reqLen
    · -- the old region is reused
      have hpo := patchSignature_reuse m _ _ po hre hpatch
      subst hpo
      simp only at *
      have hxl : (f.take m.nextLc).length = m.nextLc := by rw [List.length_take]; omega
      have hsl : m.sigLen ≠ 0 := by
        intro h0
        have h1 : 0 ≤ Int.tdiv (m.codeSize * (20 + hashSize : Nat)) 4096 :=
          Int.tdiv_nonneg (Int.mul_nonneg (by omega) (by omega)) (by omega)
        rw [h0] at hre
        unfold estI at hre
        omega
      have hcs := S.codeSize hsl
      have L : Layout f (f.take m.nextLc) [] m.sigStart m.sigLen :=
        ⟨fun r hr => (by cases hr), fun i hi _ => List.getElem?_take_of_lt (by omega), by omega, by omega⟩
      exact ⟨[], m.sigStart, L, signedFile_of_constructible f _ blob (f.take m.nextLc) [] m.sigStart m.sigLen 0 hb
        (by simp [hdrPatches]) (by simp [hdrPatches, wfFrom]; omega),
        locate_written f m st S loads M oneSig (fun h => absurd (M.csZero h) hsl) leKind _ _ _
          (reuse_hdrSpec f m st S loads M oneSig hsl leKind) M.sigStartLt M.sigLenLt [] _ 0 _ L rfl hsb, rfl, by omega, hcs⟩
    · -- a fresh region
      have F := patchSignature_fresh m _ _ po hre hpatch
      have hcs0 := F.csNonneg
      have off32 : po.sigStart < 2 ^ 32 := by
        rcases small with small | ⟨h, _⟩
        · have h1 := cs_lt_of_small m.codeSize.toNat (20 + hashSize) (entLen + reqLen) m.codeSize
            (Int.toNat_of_nonneg hcs0).symm (by omega)
            (by show align (estI m hashSize entLen reqLen).toNat 8 ≤ _; rw [← F.sigBufLen]; exact small)
          have h2 := M.sigStartLt
          rw [F.sigStart]; unfold freshSigStart
          split
          · have : align m.codeSize.toNat 8 < m.codeSize.toNat + 8 := by unfold align; split <;> omega
            omega
          · exact h2
        · exact h
      have len32 : po.sigBufLen < 2 ^ 32 := by
        rcases small with small | ⟨_, h⟩
        · omega
        · exact h
      obtain ⟨rs, L, hsf, hloc⟩ := fresh_located f m st S loads M oneSig (fun c => by rw [chainEnd_eq_sum]; exact noSlack c)
        leKind _ po blob F (by omega) (by omega) off32 len32 hb
      have hxl := (fresh_hdrSpec f m _ po hstop (by omega) F).len
      exact ⟨rs, _, L, hsf, hloc, by rw [F.padding, F.sigStart]; have := F.startGe; omega, by split at hxl <;> omega,
        (Int.toNat_of_nonneg hcs0).symm⟩
  have hbel := L.hdrBelow
  have hold := L.oldInside
  have hW := written_take_stream f po.newHeader rs cs m.sigLen po.padding (blob ++ zeros (po.sigBufLen - blob.length)) L
  have e1 : m.nextLc + (po.newHeader.length - m.nextLc) = po.newHeader.length := by omega
  have e2 : (m.codeSize - (po.newHeader.length : Int)).toNat = cs - po.newHeader.length := by omega
  rw [e1, e2, ← hsum, ← hW] at hstream
  refine ⟨_, hsf, hloc, by rw [hstream, hsum], ?_, ?_⟩
  · have := written_slice f po.newHeader rs cs m.sigLen po.padding (blob ++ zeros (po.sigBufLen - blob.length)) L
    rw [hsum, hsb] at this
    exact this
  · rw [hlim, hstream, List.length_take, written_length f po.newHeader rs cs m.sigLen po.padding _ L, hsb]
    omega

theorem sigAnswer_small (a b : Nat) (h : b ≤ 10000000) : sigAnswer a b = .ok (a, b) := by
  unfold sigAnswer; rw [if_neg (by omega)]

theorem sigAnswer_large (a b : Nat) (h : 10000000 < b) : sigAnswer a b = .err "toolarge" := by
  unfold sigAnswer; rw [if_pos h]

/-- relic before fix F-MACHO-3 (`signOrig`): `Sign` reserved without upper limit, `readSigBlob` refuses more than 10^7 bytes.
    The hypotheses are the fields of `Relic.Props.C01.RegularImage`; everything else goes through — the signed file exists and
    its prefix is the hashed stream — but the locator refuses it.  With SHA-256 and no entitlements this is every image with
    `codeSize ≥ 786401832`. -/
theorem large_signature_refused (f : Bytes) (p : SignParams) (so : SignOut) (blob : Bytes) (loads : List Load)
    (hs : signOrig f p = .ok so)
    (accepts : newFile f = .ok (so.plan.m.be, loads))
    (oneSig : ∀ e ∈ loads, e.2.1 = 0x1d → e.1 = so.plan.m.loadCsStart ∧ e.2.2 = 16)
    (noSlack : so.plan.m.loadCsStart = 0 →
      hdrEndOf so.plan.m.magic + (loads.map (fun e => e.2.2)).sum = so.plan.m.nextLc)
    (leKind : rd32 so.plan.m.be f so.plan.m.lePos = 0x19 ↔ so.plan.m.is64 = true)
    (hdrBelow : (so.plan.po.newHeader.length : Int) ≤ so.plan.m.codeSize)
    (oldInside : so.plan.m.codeSize + so.plan.m.sigLen ≤ f.length)
    (hbig : 10000000 < so.plan.po.sigBufLen)
    (h32 : so.plan.po.sigStart < 2 ^ 32 ∧ so.plan.po.sigBufLen < 2 ^ 32)
    (hb : blob.length ≤ so.plan.po.sigBufLen) :
    ∃ g, signedFile f so.plan.po blob = .ok g ∧ locate g = .err "toolarge" ∧
      g.take so.plan.po.sigStart = so.plan.stream := by
  obtain ⟨g, h1, h2, h3, _⟩ := sign_then_locate_core f p so blob loads hs accepts oneSig noSlack leKind
    hdrBelow oldInside (Or.inr h32) hb
  exact ⟨g, h1, by rw [h2, sigAnswer_large _ _ hbig], h3⟩

theorem sign_patch_of_scan (f : Bytes) (p : SignParams) (so : SignOut) (m : Markers) (hs : signOrig f p = .ok so)
    (hscan : scanOrig f = .ok m) :
    so.plan.m = m ∧ patchSignature m (f.take m.nextLc) (estOf m p) = .ok so.plan.po := by
  obtain ⟨hscan', hpatch⟩ := signOrig_patch f p so hs
  have hm : so.plan.m = m := by rw [hscan] at hscan'; injection hscan' with h; exact h.symm
  obtain ⟨st, S⟩ := scanOrig_inv f m hscan
  rw [hm, S.consumed] at hpatch
  exact ⟨hm, hpatch⟩

theorem sign_fresh_facts (f : Bytes) (p : SignParams) (so : SignOut) (m : Markers) (hs : signOrig f p = .ok so)
    (hscan : scanOrig f = .ok m) (hn : ¬ (m.sigLen : Int) ≥ estOf m p) :
    so.plan.m = m ∧ Fresh m (f.take m.nextLc) (estOf m p) so.plan.po ∧
    HdrSpec f m so.plan.po.newHeader (freshSigStart m) (align (estOf m p).toNat 8) := by
  obtain ⟨hm, hpatch⟩ := sign_patch_of_scan f p so m hs hscan
  obtain ⟨st, S⟩ := scanOrig_inv f m hscan
  have F := patchSignature_fresh m _ _ so.plan.po hn hpatch
  have hge := hdrEndOf_ge m.magic
  have := S.nextLc
  exact ⟨hm, F, fresh_hdrSpec f m _ so.plan.po S.stopLe (by omega) F⟩

theorem sign_reuse_facts (f : Bytes) (p : SignParams) (so : SignOut) (m : Markers) (hs : signOrig f p = .ok so)
    (hscan : scanOrig f = .ok m) (hn : (m.sigLen : Int) ≥ estOf m p) :
    so.plan.m = m ∧ so.plan.po = ⟨f.take m.nextLc, m.sigLen, m.sigStart, 0, [⟨m.sigStart, m.sigLen, zeros m.sigLen⟩]⟩ := by
  obtain ⟨hm, hpatch⟩ := sign_patch_of_scan f p so m hs hscan
  exact ⟨hm, patchSignature_reuse m _ _ so.plan.po hn hpatch⟩

end Relic.MachO
