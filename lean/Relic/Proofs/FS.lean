/-
  The soundness of the trace shape of Relic.Model.FS (C13).  Before the commit a trace accepted by `stepA` keeps the
  invariant `RelA`: nothing that existed at the start is touched, so `dest` and `input` read as they did.  The commit is
  one `rename` onto `dest`; after it only calls that change neither content nor the two names are allowed.  At the end:
  what a run of writes through one descriptor does (`run_writes`, `shape_writes`); with them Props/C13 says what the
  commit protocol's own programs leave on disk (`commit_final`).
-/
import Relic.Model.FS
import Relic.Proofs.Lists
namespace Relic.FS

@[simp] theorem setOff_data (s fd e o) : (setOff s fd e o).data = s.data := rfl
@[simp] theorem setOff_names (s fd e o) : (setOff s fd e o).names = s.names := rfl
@[simp] theorem setOff_next (s fd e o) : (setOff s fd e o).next = s.next := rfl
@[simp] theorem setOff_fds (s fd e o) : (setOff s fd e o).fds = upd s.fds fd (some { e with off := o }) := rfl
@[simp] theorem putAt_data (s i o b) : (putAt s i o b).data = upd s.data i (Binpatch.writeAt (s.data i) o b) := rfl
@[simp] theorem putAt_names (s i o b) : (putAt s i o b).names = s.names := rfl
@[simp] theorem putAt_next (s i o b) : (putAt s i o b).next = s.next := rfl
@[simp] theorem putAt_fds (s i o b) : (putAt s i o b).fds = s.fds := rfl

theorem lookup_congr {s t : State} {p : String} (hn : t.names p = s.names p) (hd : t.data = s.data) :
    lookup t p = lookup s p := by
  simp [lookup, hn, hd]

theorem quiet_step (dest input : String) (s : State) (op : Op) (h : quiet dest input op = true) :
    (step s op).data = s.data ∧ (step s op).names dest = s.names dest ∧
    (step s op).names input = s.names input := by
  revert h
  fun_cases quiet dest input op
  case case1 p fd c e t =>
    intro h
    simp at h
    obtain ⟨hc, ht⟩ := h
    subst hc; subst ht
    simp only [step]
    cases s.names p <;> simp
  case case2 fd n => intro _; simp only [step]; cases s.fds fd <;> simp
  case case3 fd r => intro _; simp only [step]; cases s.fds fd <;> simp
  case case4 fd => intro _; simp [step]
  case case5 p =>
    intro h
    simp at h
    simp [step, upd, Ne.symm h.1, Ne.symm h.2]
  case case6 a b =>
    intro h
    simp at h
    obtain ⟨⟨⟨h1, h2⟩, h3⟩, h4⟩ := h
    simp only [step]
    cases s.names a with
    | none => simp
    | some i =>
      by_cases hab : a = b
      · simp [hab]
      · simp [hab, upd, Ne.symm h1, Ne.symm h2, Ne.symm h3, Ne.symm h4]
  -- every other call is not quiet
  case case7 => nofun

theorem quiet_run (dest input : String) (tr : List Op) (s : State)
    (h : tr.all (quiet dest input) = true) :
    (run tr s).data = s.data ∧ (run tr s).names dest = s.names dest ∧
    (run tr s).names input = s.names input := by
  induction tr generalizing s with
  | nil => simp [run]
  | cons op rest ih =>
    simp only [List.all_cons, Bool.and_eq_true] at h
    obtain ⟨a, b, c⟩ := quiet_step dest input s op h.1
    obtain ⟨a', b', c'⟩ := ih (step s op) h.2
    simp only [run]
    exact ⟨a'.trans a, b'.trans b, c'.trans c⟩

/-- what the shape promises about one entry of the descriptor table: an open descriptor is listed, and one the trace
    created itself points at an inode that did not exist in `s0` -/
def FdOk (s0 : State) (sh : Sh) (fd : Nat) (x : Option FdEnt) : Prop :=
  ∀ e, x = some e → fd ∈ sh.opened ∧ (fd ∈ sh.owned → s0.next ≤ e.ino)

/-- The invariant of phase A: inodes that existed in `s0` keep their data, `dest` and `input` keep their inode, and every
    descriptor the trace created itself points at an inode `≥ s0.next` — so writes through owned descriptors cannot touch
    old data. -/
structure RelA (dest input : String) (s0 : State) (sh : Sh) (s : State) : Prop where
  next_le : s0.next ≤ s.next
  old : ∀ i, i < s0.next → s.data i = s0.data i
  nd : s.names dest = s0.names dest
  ni : s.names input = s0.names input
  fds : ∀ fd, FdOk s0 sh fd (s.fds fd)

theorem RelA.lookup_old {dest input s0 sh s} (r : RelA dest input s0 sh s)
    (wf0 : ∀ p i, s0.names p = some i → i < s0.next) (p : String) (hp : s.names p = s0.names p) :
    lookup s p = lookup s0 p := by
  simp only [lookup, hp]
  cases h : s0.names p with
  | none => rfl
  | some i => simp [r.old i (wf0 p i h)]

theorem RelA.inv {dest input s0 sh s} (r : RelA dest input s0 sh s) (wf0 : ∀ p i, s0.names p = some i → i < s0.next)
    (sfin : State) : Inv dest input s0 s sfin :=
  ⟨Or.inl (r.lookup_old wf0 dest r.nd), fun h0 => by rw [r.lookup_old wf0 dest r.nd]; exact h0, r.lookup_old wf0 input r.ni⟩

theorem relA_init (dest input : String) (s0 : State) (h : Init s0) : RelA dest input s0 ⟨[], []⟩ s0 :=
  ⟨Nat.le_refl _, fun _ _ => rfl, rfl, rfl, fun fd e he => by simp [h.nofd fd] at he⟩

theorem upd_old (data : Nat → Bytes) (ino : Nat) (x : Bytes) {n : Nat} (h : n ≤ ino) :
    ∀ i, i < n → upd data ino x i = data i := by
  intro i hi
  have : i ≠ ino := by omega
  simp [upd, this]

theorem FdOk.mono {s0 sh sh' fd x} (h : FdOk s0 sh fd x) (ho : fd ∈ sh.opened → fd ∈ sh'.opened)
    (hw : fd ∈ sh'.owned → fd ∈ sh.owned) : FdOk s0 sh' fd x :=
  fun e he => ⟨ho (h e he).1, fun hfd => (h e he).2 (hw hfd)⟩

theorem fdOk_upd {s0 sh sh'} {f : Nat → Option FdEnt} {fd x} (h : ∀ fd', FdOk s0 sh fd' (f fd')) (hx : FdOk s0 sh' fd x)
    (ho : ∀ fd', fd' ≠ fd → fd' ∈ sh.opened → fd' ∈ sh'.opened)
    (hw : ∀ fd', fd' ≠ fd → fd' ∈ sh'.owned → fd' ∈ sh.owned) :
    ∀ fd', FdOk s0 sh' fd' (upd f fd x fd') := by
  intro fd'
  by_cases hf : fd' = fd
  · rw [hf, upd_same]
    exact hx
  · rw [upd_other _ _ _ _ hf]
    exact (h fd').mono (ho fd' hf) (hw fd' hf)

theorem fdOk_list {s0 sh sh'} {f : Nat → Option FdEnt} {fd} (h : ∀ fd', FdOk s0 sh fd' (f fd')) (hn : f fd = none)
    (ho : ∀ fd', fd' ≠ fd → fd' ∈ sh.opened → fd' ∈ sh'.opened)
    (hw : ∀ fd', fd' ≠ fd → fd' ∈ sh'.owned → fd' ∈ sh.owned) :
    ∀ fd', FdOk s0 sh' fd' (f fd') := by
  intro fd'
  by_cases hf : fd' = fd
  · rw [hf, hn]
    exact nofun
  · exact (h fd').mono (ho fd' hf) (hw fd' hf)

/-- a call on the open descriptor `fd` that leaves names and `next` alone, changes data at most at the descriptor's inode
    (and then the descriptor is one the trace created), and at most moves the descriptor's offset -/
theorem RelA.at_fd {dest input s0 sh s} (r : RelA dest input s0 sh s) {fd : Nat} {e0 : FdEnt} (hq : s.fds fd = some e0)
    (t : State) (hnames : t.names = s.names) (hnext : t.next = s.next)
    (hdata : t.data = s.data ∨ (fd ∈ sh.owned ∧ ∀ i, i ≠ e0.ino → t.data i = s.data i))
    (hfds : t.fds = s.fds ∨ ∃ o, t.fds = upd s.fds fd (some { e0 with off := o })) : RelA dest input s0 sh t := by
  refine ⟨hnext ▸ r.next_le, fun i hi => ?_, hnames ▸ r.nd, hnames ▸ r.ni, ?_⟩
  · rcases hdata with hd | ⟨hown, hd⟩
    · exact hd ▸ r.old i hi
    · have := (r.fds fd e0 hq).2 hown
      exact (hd i (by omega)).trans (r.old i hi)
  · rcases hfds with hf | ⟨o, hf⟩
    · exact hf ▸ r.fds
    · exact hf ▸ fdOk_upd r.fds (fun e he => by cases he; exact r.fds fd e0 hq) (fun _ _ => id) (fun _ _ => id)

/-- `stepA`'s guard gives that the descriptor is fresh or owned, or that the path is neither `dest` nor `input`; then the
    fields are unchanged or `RelA.at_fd` applies -/
theorem relA_step {dest input : String} {s0 : State} {sh sh' : Sh} {s : State} {op : Op}
    (r : RelA dest input s0 sh s) (h : stepA dest input sh op = some sh') :
    RelA dest input s0 sh' (step s op) := by
  cases op with
  | openF p fd c e t =>
    simp only [stepA] at h
    split at h
    · cases h
    next hno =>
      have hfd : s.fds fd = none := by
        cases hq : s.fds fd with
        | none => rfl
        | some e0 => exact absurd ((r.fds fd e0 hq).1) (by simpa using hno)
      split at h
      next hce =>
        simp only [Bool.and_eq_true] at hce
        obtain ⟨rfl, rfl⟩ := hce
        split at h
        next hp =>
          simp at hp
          cases h
          have ho : ∀ fd', fd' ≠ fd → fd' ∈ sh.opened → fd' ∈ fd :: sh.opened := fun _ _ => List.mem_cons_of_mem _
          have hw : ∀ fd', fd' ≠ fd → fd' ∈ fd :: sh.owned → fd' ∈ sh.owned :=
            fun _ hf hm => (List.mem_cons.mp hm).resolve_left hf
          simp only [step]
          cases hn : s.names p with
          | some i => exact ⟨r.next_le, r.old, r.nd, r.ni, fdOk_list r.fds hfd ho hw⟩
          | none =>
            refine ⟨Nat.le_succ_of_le r.next_le, fun i hi => ?_, ?_, ?_,
              fdOk_upd r.fds (fun e he => by cases he; exact ⟨List.mem_cons_self, fun _ => r.next_le⟩) ho hw⟩
            · exact (upd_old _ _ _ r.next_le i hi).trans (r.old i hi)
            · exact (upd_other _ _ _ _ (Ne.symm hp.1)).trans r.nd
            · exact (upd_other _ _ _ _ (Ne.symm hp.2)).trans r.ni
        · cases h
      next hce =>
        split at h
        next hct =>
          simp at hct
          obtain ⟨rfl, rfl⟩ := hct
          cases h
          have ho : ∀ fd', fd' ≠ fd → fd' ∈ sh.opened → fd' ∈ fd :: sh.opened := fun _ _ => List.mem_cons_of_mem _
          have hw : ∀ fd', fd' ≠ fd → fd' ∈ sh.owned.filter (· ≠ fd) → fd' ∈ sh.owned :=
            fun _ _ hm => (List.mem_filter.mp hm).1
          simp only [step]
          cases hn : s.names p with
          | none => exact ⟨r.next_le, r.old, r.nd, r.ni, fdOk_list r.fds hfd ho hw⟩
          | some i =>
            exact ⟨r.next_le, r.old, r.nd, r.ni,
              fdOk_upd r.fds (fun e _ => ⟨List.mem_cons_self, fun hm => by simp at hm⟩) ho hw⟩
        · cases h
  | close fd =>
    simp only [stepA] at h
    cases h
    exact ⟨r.next_le, r.old, r.nd, r.ni, fdOk_upd r.fds nofun
      (fun fd' hf hm => List.mem_filter.mpr ⟨hm, by simpa using hf⟩) (fun fd' _ hm => (List.mem_filter.mp hm).1)⟩
  | write fd b =>
    simp only [stepA] at h
    split at h
    next hown =>
      cases h
      simp only [step]
      cases hq : s.fds fd with
      | none => exact r
      | some e0 =>
        exact r.at_fd hq _ rfl rfl (.inr ⟨by simpa using hown, fun i hi => upd_other _ _ _ _ hi⟩) (.inr ⟨_, rfl⟩)
    · cases h
  | pwrite fd _ _ | ftruncate fd _ =>
    simp only [stepA] at h
    split at h
    next hown =>
      cases h
      simp only [step]
      cases hq : s.fds fd with
      | none => exact r
      | some e0 =>
        exact r.at_fd hq _ rfl rfl (.inr ⟨by simpa using hown, fun i hi => upd_other _ _ _ _ hi⟩) (.inl rfl)
    · cases h
  | fchmod fd m =>
    simp only [stepA] at h
    split at h
    · cases h
      simp only [step]
      cases hq : s.fds fd with
      | none => exact r
      | some e0 => exact r.at_fd hq _ rfl rfl (.inl rfl) (.inl rfl)
    · cases h
  | read fd _ | lseek fd _ =>
    cases h
    simp only [step]
    cases hq : s.fds fd with
    | none => exact r
    | some e0 => exact r.at_fd hq _ rfl rfl (.inl rfl) (.inr ⟨_, rfl⟩)
  | copy fin fout n =>
    simp only [stepA] at h
    split at h
    next hown =>
      cases h
      simp only [step]
      cases hi : s.fds fin with
      | none => exact r
      | some ei =>
        cases ho : s.fds fout with
        | none => exact r
        | some eo =>
          -- a write through `fout`, then (another descriptor) a read through `fin`
          have r1 := r.at_fd ho (setOff (putAt s eo.ino eo.off (readAt (s.data ei.ino) ei.off n)) fout eo
              (eo.off + (readAt (s.data ei.ino) ei.off n).length)) rfl rfl
            (.inr ⟨by simpa using hown, fun i hi => upd_other _ _ _ _ hi⟩) (.inr ⟨_, rfl⟩)
          simp only
          split
          · exact r1
          next hff => exact r1.at_fd (e0 := ei) (by simp [upd_other _ _ _ _ hff, hi]) _ rfl rfl (.inl rfl) (.inr ⟨_, rfl⟩)
    · cases h
  | unlink p =>
    simp only [stepA] at h
    split at h
    next hp =>
      cases h
      simp at hp
      exact ⟨r.next_le, r.old, (upd_other _ _ _ _ (Ne.symm hp.1)).trans r.nd, (upd_other _ _ _ _ (Ne.symm hp.2)).trans r.ni, r.fds⟩
    · cases h
  | rename a b =>
    simp only [stepA] at h
    split at h
    next hp =>
      cases h
      simp at hp
      obtain ⟨⟨⟨h1, h2⟩, h3⟩, h4⟩ := hp
      simp only [step]
      cases hn : s.names a with
      | none => exact r
      | some i =>
        simp only
        split
        · exact r
        · exact ⟨r.next_le, r.old, by simp [upd, Ne.symm h1, Ne.symm h3, r.nd], by simp [upd, Ne.symm h2, Ne.symm h4, r.ni], r.fds⟩
    · cases h

theorem isCommit_inv {dest input : String} {op : Op} (h : isCommit dest input op = true) :
    ∃ a, op = .rename a dest ∧ a ≠ dest ∧ a ≠ input := by
  revert h
  fun_cases isCommit dest input op
  case case1 a b =>
    intro h
    simp only [Bool.and_eq_true, decide_eq_true_eq] at h
    exact ⟨a, by rw [h.1.1], h.1.2, h.2⟩
  case case2 => nofun

/-- the commit call itself: `dest` now holds a complete file (or the call failed and nothing changed) -/
theorem commit_step {dest input : String} (hne : dest ≠ input) {s0 : State} {sh : Sh} {s : State} {op : Op}
    (wf0 : ∀ p i, s0.names p = some i → i < s0.next)
    (r : RelA dest input s0 sh s) (h : isCommit dest input op = true) :
    (lookup s0 dest ≠ none → lookup (step s op) dest ≠ none) ∧
    lookup (step s op) input = lookup s0 input := by
  obtain ⟨a, rfl, had, hai⟩ := isCommit_inv h
  simp only [step]
  cases hn : s.names a with
  | none =>
    simp only
    exact ⟨fun h0 => by rw [r.lookup_old wf0 dest r.nd]; exact h0, r.lookup_old wf0 input r.ni⟩
  | some i =>
    simp only [had, if_false]
    constructor
    · intro _
      simp [lookup, upd, Ne.symm had]
    · have hin : (upd (upd s.names dest (some i)) a none) input = s.names input := by
        simp [upd, Ne.symm hai, Ne.symm hne]
      rw [← r.lookup_old wf0 input r.ni]
      exact lookup_congr hin rfl

theorem shape_sound_from (dest input : String) (hne : dest ≠ input) (s0 : State)
    (wf0 : ∀ p i, s0.names p = some i → i < s0.next) :
    ∀ (tr : List Op) (sh : Sh) (s : State), RelA dest input s0 sh s → shapeFrom dest input sh tr = true →
      ∀ k, Inv dest input s0 (run (tr.take k) s) (run tr s) := by
  intro tr
  induction tr with
  | nil =>
    intro sh s r _ k
    simp only [List.take_nil, run]
    exact r.inv wf0 s
  | cons op rest ih =>
    intro sh s r hs k
    cases k with
    | zero =>
      simp only [List.take_zero, run]
      exact r.inv wf0 _
    | succ k =>
      simp only [List.take_succ_cons, run]
      simp only [shapeFrom] at hs
      split at hs
      next hc =>
        obtain ⟨d1, n1, i1⟩ := quiet_run dest input (rest.take k) (step s op) (all_take _ _ k hs)
        obtain ⟨d2, n2, -⟩ := quiet_run dest input rest (step s op) hs
        obtain ⟨hex, hin⟩ := commit_step hne wf0 r hc
        have e1 : lookup (run (rest.take k) (step s op)) dest = lookup (step s op) dest := lookup_congr n1 d1
        have e2 : lookup (run rest (step s op)) dest = lookup (step s op) dest := lookup_congr n2 d2
        have e3 : lookup (run (rest.take k) (step s op)) input = lookup (step s op) input := lookup_congr i1 d1
        refine ⟨Or.inr (e1.trans e2.symm), fun h0 => by rw [e1]; exact hex h0, e3.trans hin⟩
      next hc =>
        split at hs
        · cases hs
        next sh' hst => exact ih sh' (step s op) (relA_step r hst) hs k

theorem relA_run {dest input : String} {s0 : State} :
    ∀ (tr : List Op) (sh : Sh) (s : State), RelA dest input s0 sh s → shapeFrom dest input sh tr = true →
      (∀ op ∈ tr, isCommit dest input op = false) → ∃ sh', RelA dest input s0 sh' (run tr s) := by
  intro tr
  induction tr with
  | nil => intro sh s r _ _; exact ⟨sh, r⟩
  | cons op rest ih =>
    intro sh s r hs hnc
    simp only [shapeFrom, hnc op (List.mem_cons_self), Bool.false_eq_true, if_false] at hs
    split at hs
    · cases hs
    next sh' hst =>
      exact ih sh' (step s op) (relA_step r hst) hs (fun o ho => hnc o (List.mem_cons_of_mem _ ho))

theorem writeAt_end (c b : Bytes) : Binpatch.writeAt c c.length b = c ++ b := by
  unfold Binpatch.writeAt
  split
  next h => simp at h; simp [h]
  · simp

/-- writes through one descriptor at the end of its inode append there and move its offset along; names, modes, `next`,
    every other inode and every other descriptor stay -/
theorem run_writes (fd i : Nat) (chunks : List Bytes) (s : State)
    (h : s.fds fd = some ⟨i, (s.data i).length⟩) :
    (run (chunks.map (Op.write fd)) s).data i = s.data i ++ chunks.flatten ∧
    (run (chunks.map (Op.write fd)) s).fds fd = some ⟨i, (s.data i ++ chunks.flatten).length⟩ ∧
    (run (chunks.map (Op.write fd)) s).names = s.names ∧
    (∀ fd', fd' ≠ fd → (run (chunks.map (Op.write fd)) s).fds fd' = s.fds fd') ∧
    (∀ j, j ≠ i → (run (chunks.map (Op.write fd)) s).data j = s.data j) ∧
    (run (chunks.map (Op.write fd)) s).mode = s.mode ∧
    (run (chunks.map (Op.write fd)) s).next = s.next := by
  induction chunks generalizing s with
  | nil => simp [run, h]
  | cons c cs ih =>
    simp only [List.map_cons, run]
    have hs : step s (Op.write fd c) =
        setOff (putAt s i (s.data i).length c) fd ⟨i, (s.data i).length⟩ ((s.data i).length + c.length) := by
      simp [step, h]
    have hd : (step s (Op.write fd c)).data i = s.data i ++ c := by
      rw [hs]; simp [writeAt_end]
    have hf : (step s (Op.write fd c)).fds fd = some ⟨i, ((step s (Op.write fd c)).data i).length⟩ := by
      rw [hd]; rw [hs]; simp
    obtain ⟨a, b, c', d, e, m, n⟩ := ih (step s (Op.write fd c)) hf
    refine ⟨?_, ?_, ?_, ?_, ?_, ?_, ?_⟩
    · rw [a, hd]; simp
    · rw [b, hd]; simp
    · rw [c', hs]; simp
    · intro fd' hne
      rw [d fd' hne, hs]
      simp [upd_other _ _ _ _ hne]
    · intro j hne
      rw [e j hne, hs]
      simp [upd_other _ _ _ _ hne]
    · rw [m, hs]; rfl
    · rw [n, hs]; simp

theorem shape_writes (dest input : String) (fd : Nat) (chunks : List Bytes) (tail : List Op) (sh : Sh) (h : fd ∈ sh.owned) :
    shapeFrom dest input sh (chunks.map (Op.write fd) ++ tail) = shapeFrom dest input sh tail := by
  induction chunks with
  | nil => simp
  | cons c cs ih => simp [shapeFrom, isCommit, stepA, ih, h]

end Relic.FS
