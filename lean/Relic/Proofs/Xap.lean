/-
  Lemmas about `Relic.Model.Xap`: the framing bytes (`framed`), `frameSize` / `removeSignature` in both directions, the two
  directions of the locator of `Verify` (what it finds on a framed file; what a success implies), and that the readers, the
  locator and the tar walk return a value or an error.
-/
import Relic.Model.Xap
import Relic.Proofs.Codec
import Relic.Proofs.Res
import Relic.Proofs.Splice
namespace Relic.Xap

@[simp] theorem header_length (u1 u2 n : Nat) : (header u1 u2 n).length = 8 := by simp [header]
@[simp] theorem trailer_length (u t : Nat) : (trailer u t).length = 10 := by simp [trailer]
@[simp] theorem sigBlock_length (s : Bytes) : (sigBlock s).length = s.length + 18 := by
  simp [sigBlock]; omega

theorem trailer_magic (u t : Nat) : leVal ((trailer u t).take 4) = trailerMagic := by
  unfold trailer
  rw [List.append_assoc, List.take_left' (by simp), leVal_leBytes]
  decide

theorem trailer_unknown (u t : Nat) : leVal (((trailer u t).drop 4).take 2) = u % 65536 := by
  unfold trailer
  rw [List.append_assoc, List.drop_left' (by simp), List.take_left' (by simp), leVal_leBytes]

theorem trailer_size (u t : Nat) : leVal (((trailer u t).drop 6).take 4) = t % 4294967296 := by
  unfold trailer
  rw [List.drop_left' (by simp), List.take_of_length_le (by simp), leVal_leBytes]

theorem header_u1 (u1 u2 n : Nat) : leVal ((header u1 u2 n).take 2) = u1 % 65536 := by
  unfold header
  rw [List.append_assoc, List.take_left' (by simp), leVal_leBytes]

theorem header_u2 (u1 u2 n : Nat) : leVal (((header u1 u2 n).drop 2).take 2) = u2 % 65536 := by
  unfold header
  rw [List.append_assoc, List.drop_left' (by simp), List.take_left' (by simp), leVal_leBytes]

theorem header_size (u1 u2 n : Nat) : leVal (((header u1 u2 n).drop 4).take 4) = n % 4294967296 := by
  unfold header
  rw [List.drop_left' (by simp), List.take_of_length_le (by simp), leVal_leBytes]

theorem w64_id (x : Int) (h1 : -9223372036854775808 ≤ x) (h2 : x < 9223372036854775808) : w64 x = x := by
  unfold w64; omega

/-- `size - 10` has not wrapped when ten bytes could be read there from a file below 2^63 bytes: a wrapped value lies in
    the last ten `int64`s -/
theorem w64_sub_ten {size : Int} {L : Nat} (hL : L < 9223372036854775808) (hs1 : -9223372036854775808 ≤ size)
    (hs2 : size < 9223372036854775808) (h0 : 0 ≤ w64 (size - 10)) (h1 : (w64 (size - 10)).toNat + 10 ≤ L) :
    w64 (size - 10) = size - 10 := by
  unfold w64 at h0 h1 ⊢; omega

/-- `ReadAt` and the section reader differ in one error string -/
theorem readAt_eq_ok {f : Bytes} {off : Int} {n : Nat} {b : Bytes} : readAt f off n = .ok b ↔ readSection f off n = .ok b := by
  simp only [readAt, readSection, Res.errGuard_eq_ok]

theorem readSection_of_eq (f pre mid post : Bytes) (hf : f = pre ++ (mid ++ post)) (hm : 0 < (mid ++ post).length)
    (off : Int) (ho : off = pre.length) (n : Nat) (hn : n = mid.length) : readSection f off n = .ok mid := by
  subst hf ho hn
  unfold readSection
  have h1 : ¬ ((pre.length : Int) < 0) := by omega
  have h2 : ¬ ((pre ++ (mid ++ post)).length ≤ (pre.length : Int).toNat) := by
    simp only [List.length_append, Int.toNat_natCast] at *; omega
  have h3 : ¬ ((pre ++ (mid ++ post)).length < (pre.length : Int).toNat + mid.length) := by simp
  rw [if_neg h1, if_neg h2, if_neg h3]
  simp

/-- `base`, then a header, a blob and a trailer whose two size fields agree with the blob -/
def framed (base : Bytes) (u1 u2 u3 : Nat) (blob : Bytes) : Bytes :=
  base ++ (header u1 u2 blob.length ++ (blob ++ trailer u3 (blob.length + 8)))

theorem framed_length (base : Bytes) (u1 u2 u3 : Nat) (blob : Bytes) :
    (framed base u1 u2 u3 blob).length = base.length + blob.length + 18 := by
  simp [framed]; omega

theorem append_sigBlock (base s : Bytes) : base ++ sigBlock s = framed base 1 1 1 s := by
  simp [sigBlock, framed]

/-- On a file that ends in header ++ blob ++ trailer with `SignatureSize = |blob|`, `TrailerSize = |blob| + 8`
    (no `uint32` wrap, file below 2^63 bytes) the locator returns exactly the blob and the length of what precedes the
    header – whatever the three `Unknown` fields hold. -/
theorem locate_framed (base blob : Bytes) (u1 u2 u3 : Nat) (hb : blob.length + 8 < 4294967296)
    (hl : (framed base u1 u2 u3 blob).length < 9223372036854775808) :
    locate (framed base u1 u2 u3 blob) ((framed base u1 u2 u3 blob).length : Int) =
      .ok ⟨blob, base.length, u1 % 65536, u2 % 65536, u3 % 65536⟩ := by
  have hlen := framed_length base u1 u2 u3 blob
  rw [hlen] at hl
  have p1 : (base ++ (header u1 u2 blob.length ++ blob)).length = base.length + 8 + blob.length := by
    simp; omega
  have r1 : readSection (framed base u1 u2 u3 blob) (w64 (((framed base u1 u2 u3 blob).length : Int) - 10)) 10 =
      .ok (trailer u3 (blob.length + 8)) := by
    apply readSection_of_eq _ (base ++ (header u1 u2 blob.length ++ blob)) _ []
    · simp [framed]
    · simp
    · rw [p1, hlen, w64_id] <;> omega
    · simp
  have r2 : readSection (framed base u1 u2 u3 blob) (base.length : Int) 8 = .ok (header u1 u2 blob.length) := by
    apply readSection_of_eq _ base _ (blob ++ trailer u3 (blob.length + 8))
    · simp [framed]
    · simp; omega
    · rfl
    · simp
  have r3 : readAt (framed base u1 u2 u3 blob) (w64 ((base.length : Int) + 8)) blob.length = .ok blob := by
    apply readAt_eq_ok.2
    apply readSection_of_eq _ (base ++ header u1 u2 blob.length) _ (trailer u3 (blob.length + 8))
    · simp [framed]
    · simp
    · rw [w64_id] <;> (try simp only [List.length_append, header_length, Int.natCast_add]) <;> omega
    · rfl
  have hm : (blob.length + 8) % 4294967296 = blob.length + 8 := Nat.mod_eq_of_lt hb
  have hs : w64 (((framed base u1 u2 u3 blob).length : Int) - (((blob.length + 8 : Nat) : Int) + 10)) = (base.length : Int) := by
    rw [hlen, w64_id] <;> omega
  unfold locate
  rw [r1, Res.bind_ok, if_neg (by rw [trailer_magic]; exact fun h => h rfl)]
  simp only [trailer_size, trailer_unknown, hm, hs]
  unfold locateHdr
  rw [r2, Res.bind_ok]
  simp only [header_size, header_u1, header_u2]
  have hn : blob.length % 4294967296 = blob.length := Nat.mod_eq_of_lt (by omega)
  have hc : (blob.length + 8 + 4294967296 - 8) % 4294967296 = blob.length := by omega
  rw [hn, hc, if_neg (fun h => h rfl), r3, Res.bind_ok, Int.toNat_natCast]

theorem removeSignatureOrig_cases (cd : Bytes) :
    (removeSignatureOrig cd = cd ∧ ¬ (10 ≤ cd.length ∧ trMagic cd = trailerMagic ∧ trSize cd + 10 ≤ cd.length)) ∨
    (removeSignatureOrig cd = cd.take (cd.length - (trSize cd + 10)) ∧
      10 ≤ cd.length ∧ trMagic cd = trailerMagic ∧ trSize cd + 10 ≤ cd.length) := by
  unfold removeSignatureOrig
  by_cases h1 : cd.length < 10
  · left; rw [if_pos h1]; exact ⟨rfl, by omega⟩
  · rw [if_neg h1]
    by_cases h2 : trMagic cd = trailerMagic
    · rw [if_pos h2]
      by_cases h3 : cd.length < trSize cd + 10
      · left; rw [if_pos h3]; exact ⟨rfl, by omega⟩
      · right; rw [if_neg h3]; exact ⟨rfl, by omega, h2, by omega⟩
    · left; rw [if_neg h2]; exact ⟨rfl, fun h => h2 h.2.1⟩

theorem removeSignatureOrig_take (cd : Bytes) : removeSignatureOrig cd = cd.take (removeSignatureOrig cd).length := by
  rcases removeSignatureOrig_cases cd with ⟨h, _⟩ | ⟨h, _⟩
  · rw [h]; simp
  · rw [h]; simp

theorem trMagic_append_trailer (c : Bytes) (u t : Nat) : trMagic (c ++ trailer u t) = trailerMagic := by
  unfold trMagic
  rw [List.drop_left' (by simp)]
  exact trailer_magic u t

theorem trSize_append_trailer (c : Bytes) (u t : Nat) : trSize (c ++ trailer u t) = t % 4294967296 := by
  unfold trSize
  rw [List.drop_left' (by simp)]
  exact trailer_size u t

theorem frameSize_pos (f : Bytes) (h : frameSize f ≠ 0) :
    18 ≤ f.length ∧ trMagic f = trailerMagic ∧ 8 ≤ trSize f ∧ trSize f + 10 ≤ f.length ∧
    leVal ((f.drop (f.length - (trSize f + 10) + 4)).take 4) = trSize f - 8 ∧ frameSize f = trSize f + 10 := by
  unfold frameSize at h ⊢
  by_cases h1 : f.length < 18
  · rw [if_pos h1] at h; exact absurd rfl h
  rw [if_neg h1] at h ⊢
  by_cases h2 : trMagic f ≠ trailerMagic ∨ trSize f < 8
  · rw [if_pos h2] at h; exact absurd rfl h
  rw [if_neg h2] at h ⊢
  by_cases h3 : f.length < trSize f + 10
  · rw [if_pos h3] at h; exact absurd rfl h
  rw [if_neg h3] at h ⊢
  by_cases h4 : leVal ((f.drop (f.length - (trSize f + 10) + 4)).take 4) ≠ trSize f - 8
  · rw [if_pos h4] at h; exact absurd rfl h
  rw [if_neg h4]
  have hm : trMagic f = trailerMagic := Classical.byContradiction fun c => h2 (Or.inl c)
  exact ⟨by omega, hm, by omega, by omega, Classical.not_not.mp h4, rfl⟩

theorem frameSize_le (f : Bytes) : frameSize f ≤ f.length := by
  by_cases h : frameSize f = 0
  · omega
  · obtain ⟨_, _, _, h4, _, h6⟩ := frameSize_pos f h; omega

theorem removeSignature_take (cd : Bytes) : removeSignature cd = cd.take (removeSignature cd).length := by
  unfold removeSignature; simp

theorem removeSignature_length (cd : Bytes) : (removeSignature cd).length = cd.length - frameSize cd := by
  unfold removeSignature; simp

theorem removeSignature_length_le (cd : Bytes) : (removeSignature cd).length ≤ cd.length := by
  rw [removeSignature_length]; omega

theorem frameSize_framed (c : Bytes) (u1 u2 u3 : Nat) (blob : Bytes) (hb : blob.length + 8 < 4294967296) :
    frameSize (framed c u1 u2 u3 blob) = blob.length + 18 := by
  have e : framed c u1 u2 u3 blob = (c ++ (header u1 u2 blob.length ++ blob)) ++ trailer u3 (blob.length + 8) := by
    simp [framed]
  have e2 : framed c u1 u2 u3 blob =
      (c ++ leBytes 2 u1 ++ leBytes 2 u2) ++ (leBytes 4 blob.length ++ (blob ++ trailer u3 (blob.length + 8))) := by
    simp [framed, header]
  have hl := framed_length c u1 u2 u3 blob
  have hm : trMagic (framed c u1 u2 u3 blob) = trailerMagic := by rw [e]; exact trMagic_append_trailer _ _ _
  have hs : trSize (framed c u1 u2 u3 blob) = blob.length + 8 := by
    rw [e, trSize_append_trailer, Nat.mod_eq_of_lt hb]
  have hd : leVal (((framed c u1 u2 u3 blob).drop (c.length + 4)).take 4) = blob.length := by
    rw [e2, List.drop_left' (by simp), List.take_left' (by simp), leVal_leBytes]
    exact Nat.mod_eq_of_lt (by omega)
  unfold frameSize
  rw [if_neg (by omega), hm, hs, if_neg (by omega), if_neg (by omega), hl]
  have : c.length + blob.length + 18 - (blob.length + 8 + 10) + 4 = c.length + 4 := by omega
  rw [this, hd, if_neg (by omega)]

theorem removeSignature_framed (c : Bytes) (u1 u2 u3 : Nat) (blob : Bytes) (hb : blob.length + 8 < 4294967296) :
    removeSignature (framed c u1 u2 u3 blob) = c := by
  unfold removeSignature
  rw [frameSize_framed c u1 u2 u3 blob hb, framed_length]
  have : c.length + blob.length + 18 - (blob.length + 18) = c.length := by omega
  rw [this]
  simp [framed]

theorem eq_leBytes (x : Bytes) (n : Nat) (h : x.length = n) : x = leBytes n (leVal x) := by
  subst h; exact (leBytes_leVal x).symm

theorem eq_header (H : Bytes) (h : H.length = 8) :
    H = header (leVal (H.take 2)) (leVal ((H.drop 2).take 2)) (leVal (H.drop 4)) := by
  unfold header
  rw [← eq_leBytes (H.take 2) 2 (by simp [h]), ← eq_leBytes ((H.drop 2).take 2) 2 (by simp [h]),
    ← eq_leBytes (H.drop 4) 4 (by simp [h]), List.append_assoc, ← List.drop_drop (i := 2) (j := 2),
    List.take_append_drop, List.take_append_drop]

theorem eq_trailer (T : Bytes) (h : T.length = 10) (hm : leVal (T.take 4) = trailerMagic) :
    T = trailer (leVal ((T.drop 4).take 2)) (leVal (T.drop 6)) := by
  unfold trailer
  rw [← hm, ← eq_leBytes (T.take 4) 4 (by simp [h]), ← eq_leBytes ((T.drop 4).take 2) 2 (by simp [h]),
    ← eq_leBytes (T.drop 6) 4 (by simp [h]), List.append_assoc, ← List.drop_drop (i := 2) (j := 4),
    List.take_append_drop, List.take_append_drop]

/-- whenever `frameSize f ≠ 0`, the last `frameSize f` bytes of `f` are a header, a blob and a trailer whose size fields agree
    with the blob: nothing but a complete signature frame is ever cut off by the repaired `removeSignature` -/
theorem frameSize_pos_framed (f : Bytes) (h : frameSize f ≠ 0) :
    ∃ u1 u2 u3 : Nat, ∃ blob : Bytes, f = framed (f.take (f.length - frameSize f)) u1 u2 u3 blob ∧
      frameSize f = blob.length + 18 ∧ blob.length + 8 < 4294967296 := by
  obtain ⟨h18, hm, h8, hfit, hsz, hk⟩ := frameSize_pos f h
  unfold trMagic at hm
  have hts : leVal ((f.drop (f.length - 10 + 6)).take 4) = trSize f := by unfold trSize; rw [List.drop_drop]
  generalize trSize f = ts at h8 hfit hsz hk hts
  obtain ⟨n, hn⟩ : ∃ n, f.length = n + (ts + 10) := ⟨f.length - (ts + 10), by omega⟩
  rw [show f.length - (ts + 10) = n by omega] at hsz
  rw [hk, show f.length - (ts + 10) = n by omega]
  rw [show f.length - 10 = n + ts by omega] at hm
  rw [show f.length - 10 + 6 = n + ts + 6 by omega] at hts
  have hH : ((f.drop n).take 8).length = 8 := by rw [List.length_take, List.length_drop]; omega
  have hB : ((f.drop (n + 8)).take (ts - 8)).length = ts - 8 := by rw [List.length_take, List.length_drop]; omega
  have hT : (f.drop (n + ts)).length = 10 := by rw [List.length_drop]; omega
  have hsplit : f = f.take n ++ ((f.drop n).take 8 ++ ((f.drop (n + 8)).take (ts - 8) ++ f.drop (n + ts))) := by
    rw [show n + ts = n + 8 + (ts - 8) by omega, ← List.drop_drop (i := ts - 8), List.take_append_drop,
      ← List.drop_drop (i := 8), List.take_append_drop, List.take_append_drop]
  have hts32 : ts < 4294967296 := hts ▸ leVal_take_lt (f.drop (n + ts + 6)) 4
  have e1 := eq_header _ hH
  rw [show ((f.drop n).take 8).drop 4 = (f.drop (n + 4)).take 4 by rw [List.drop_take, List.drop_drop], hsz] at e1
  have e2 := eq_trailer _ hT hm
  rw [show (f.drop (n + ts)).drop 6 = (f.drop (n + ts + 6)).take 4 by
    rw [List.drop_drop, List.take_of_length_le (by rw [List.length_drop]; omega)], hts] at e2
  obtain ⟨u1, u2, e1⟩ : ∃ u1 u2, (f.drop n).take 8 = header u1 u2 (ts - 8) := ⟨_, _, e1⟩
  obtain ⟨u3, e2⟩ : ∃ u3, f.drop (n + ts) = trailer u3 ts := ⟨_, e2⟩
  refine ⟨u1, u2, u3, (f.drop (n + 8)).take (ts - 8), ?_, by omega, by omega⟩
  unfold framed
  rw [hB, show ts - 8 + 8 = ts by omega, ← e1, ← e2]
  exact hsplit

theorem removeSignature_eq_or (cd : Bytes) : removeSignature cd = cd ∨ removeSignature cd = removeSignatureOrig cd := by
  by_cases h : frameSize cd = 0
  · left; unfold removeSignature; rw [h]; simp
  · right
    obtain ⟨h18, hm, -, hfit, _, hk⟩ := frameSize_pos cd h
    rcases removeSignatureOrig_cases cd with ⟨_, hn⟩ | ⟨e, _⟩
    · exact absurd ⟨by omega, hm, hfit⟩ hn
    · rw [e]; unfold removeSignature; rw [hk]

theorem readSection_ok {f : Bytes} {off : Int} {n : Nat} {b : Bytes} (h : readSection f off n = .ok b) :
    0 ≤ off ∧ off.toNat < f.length ∧ off.toNat + n ≤ f.length ∧ b = (f.drop off.toNat).take n := by
  unfold readSection at h
  simp only [Res.errGuard_eq_ok, Res.ok.injEq] at h
  exact ⟨by omega, by omega, by omega, h.2.2.2.symm⟩

/-- the byte at index `i` (0 beyond the end) as a number -/
def byteAt (f : Bytes) (i : Nat) : Nat := (f.getD i 0).toNat

theorem byteAt_lt (f : Bytes) (i : Nat) : byteAt f i < 256 := UInt8.toNat_lt _

theorem leVal_take_succ (l : Bytes) (k : Nat) :
    leVal (l.take (k + 1)) = (l.headD 0).toNat + 256 * leVal (l.tail.take k) := by
  cases l with
  | nil => simp [leVal]
  | cons a t => simp [leVal]

theorem headD_drop (f : Bytes) (i : Nat) : ((f.drop i).headD 0).toNat = byteAt f i := by
  unfold byteAt
  simp [List.headD_eq_head?_getD, List.head?_drop, List.getD_eq_getElem?_getD]

theorem leVal_drop_take4 (f : Bytes) (i : Nat) :
    leVal ((f.drop i).take 4) =
      byteAt f i + 256 * byteAt f (i + 1) + 65536 * byteAt f (i + 2) + 16777216 * byteAt f (i + 3) := by
  rw [leVal_take_succ, headD_drop, List.tail_drop, leVal_take_succ, headD_drop, List.tail_drop,
    leVal_take_succ, headD_drop, List.tail_drop, leVal_take_succ, headD_drop]
  simp only [Nat.add_assoc, Nat.reduceAdd, leVal, List.take_zero, Nat.mul_zero, Nat.add_zero]
  omega

theorem le4_digits {a0 a1 a2 a3 v : Nat} (h0 : a0 < 256) (h1 : a1 < 256) (h2 : a2 < 256)
    (h : a0 + 256 * a1 + 65536 * a2 + 16777216 * a3 = v) :
    a0 = v % 256 ∧ a1 = v / 256 % 256 ∧ a2 = v / 65536 % 256 ∧ a3 = v / 16777216 := by
  omega

/-- `hdr.SignatureSize != tr.TrailerSize-8` is a `uint32` comparison, so a `TrailerSize` below 8 asks
    for a `SignatureSize` of `2^32 - 8 + TrailerSize`.  The header is then read from a range that overlaps the trailer
    itself (it starts `TrailerSize` bytes before it), and the trailer's own bytes – "XapS", then `TrailerSize` as the last
    four – cannot spell that value: the test always fails, for every file. -/
theorem hdr_wrap_excluded (f : Bytes) (k ts : Nat) (hts : ts < 8) (hk : ts ≤ k)
    (hm : leVal ((f.drop k).take 4) = trailerMagic) (hsz : leVal ((f.drop (k + 6)).take 4) = ts) :
    leVal ((f.drop (k - ts + 4)).take 4) ≠ ts + 4294967296 - 8 := by
  intro hsig
  obtain ⟨j, rfl⟩ : ∃ j, k = j + ts := ⟨k - ts, by omega⟩
  rw [Nat.add_sub_cancel, leVal_drop_take4] at hsig
  rw [leVal_drop_take4] at hm hsz
  -- byte by byte: the header field is `F8+ts FF FF FF`, the trailer is `X a p S ? ? ts 0 0 0`, and they overlap
  have S := le4_digits (byteAt_lt f _) (byteAt_lt f _) (byteAt_lt f _) hsig
  have M := le4_digits (byteAt_lt f _) (byteAt_lt f _) (byteAt_lt f _) hm
  have Z := le4_digits (byteAt_lt f _) (byteAt_lt f _) (byteAt_lt f _) hsz
  clear hsig hm hsz
  unfold trailerMagic at M
  have hcases : ts = 0 ∨ ts = 1 ∨ ts = 2 ∨ ts = 3 ∨ ts = 4 ∨ ts = 5 ∨ ts = 6 ∨ ts = 7 := by omega
  rcases hcases with rfl | rfl | rfl | rfl | rfl | rfl | rfl | rfl <;>
    simp only [Nat.add_assoc, Nat.reduceAdd, Nat.add_zero] at S M Z <;> omega

/-- What the two reads in front of the blob establish (file below 2^63 bytes, `size` an `int64`), once the trailer
    carries the magic and `hdr.SignatureSize != tr.TrailerSize-8` has not fired: `size` lies inside the file, no `int64`
    operation wrapped, `TrailerSize` is at least 8 and fits, and the header `TrailerSize + 10` bytes before `size` carries
    `SignatureSize = TrailerSize - 8`.  Both `locate` and `verifyAlloc` go through these reads. -/
theorem trailer_header_ok (f : Bytes) (size : Int) (tr hd : Bytes) (hf : f.length < 9223372036854775808)
    (hs1 : -9223372036854775808 ≤ size) (hs2 : size < 9223372036854775808)
    (htr : readSection f (w64 (size - 10)) 10 = .ok tr) (hm : leVal (tr.take 4) = trailerMagic)
    (hhd : readSection f (w64 (size - ((leVal ((tr.drop 6).take 4) : Nat) + 10))) 8 = .ok hd)
    (hc : leVal ((hd.drop 4).take 4) = (leVal ((tr.drop 6).take 4) + 4294967296 - 8) % 4294967296) :
    ∃ N ts : Nat, size = (N : Int) ∧ N ≤ f.length ∧ ts + 10 ≤ N ∧ 8 ≤ ts ∧
      leVal ((tr.drop 6).take 4) = ts ∧ tr = (f.drop (N - 10)).take 10 ∧ hd = (f.drop (N - 10 - ts)).take 8 ∧
      w64 ((N : Int) - ((ts : Nat) + 10)) = ((N - 10 - ts : Nat) : Int) ∧
      leVal ((f.drop (N - 10)).take 4) = trailerMagic ∧
      leVal ((f.drop (N - 4)).take 4) = ts ∧
      leVal ((f.drop (N - 10 - ts + 4)).take 4) = ts - 8 := by
  obtain ⟨o1, o2, o3, rfl⟩ := readSection_ok htr
  have hw := w64_sub_ten hf hs1 hs2 o1 o3
  rw [hw] at o1 o2 o3 hm hhd hc ⊢
  obtain ⟨N, rfl⟩ : ∃ N : Nat, size = (N : Int) := ⟨size.toNat, (Int.toNat_of_nonneg (by omega)).symm⟩
  have hN10 : 10 ≤ N := by omega
  clear hs1 hs2 hw o1
  have hN : ((N : Int) - 10).toNat = N - 10 := by omega
  rw [hN] at o2 o3 hm hhd hc ⊢
  clear hN
  have e6 : (((f.drop (N - 10)).take 10).drop 6).take 4 = (f.drop (N - 4)).take 4 := by
    rw [take_drop_take _ 10 6 4 (by omega), List.drop_drop]
    congr 2; omega
  rw [e6] at hhd hc ⊢
  rw [List.take_take] at hm
  generalize hts : leVal ((f.drop (N - 4)).take 4) = ts at hhd hc
  have hts32 : ts < 4294967296 := hts ▸ leVal_take_lt (f.drop (N - 4)) 4
  obtain ⟨p1, p2, p3, rfl⟩ := readSection_ok hhd
  have hw2 : w64 ((N : Int) - ((ts : Int) + 10)) = (N : Int) - ((ts : Int) + 10) := w64_id _ (by omega) (by omega)
  rw [hw2] at p1 p2 p3 hc ⊢
  have hfit : ts + 10 ≤ N := by omega
  clear p1
  have hoff : ((N : Int) - ((ts : Int) + 10)).toNat = N - 10 - ts := by omega
  rw [hoff] at p2 p3 hc ⊢
  clear hoff
  rw [take_drop_take _ 8 4 4 (by omega), List.drop_drop] at hc
  have h8 : 8 ≤ ts := by
    refine Classical.byContradiction fun hlt => ?_
    rw [Nat.mod_eq_of_lt (by omega)] at hc
    refine hdr_wrap_excluded f (N - 10) ts (by omega) (by omega) hm ?_ hc
    rw [show N - 10 + 6 = N - 4 by omega]
    exact hts
  rw [show (ts + 4294967296 - 8) % 4294967296 = ts - 8 by omega] at hc
  exact ⟨N, ts, rfl, by omega, hfit, h8, rfl, rfl, rfl, hw2.trans (by omega), hm, hts, hc⟩

/-- What `Verify` has established when it reaches `pkcs7.Unmarshal` (file below 2^63 bytes, `size` an
    `int64`): `size` lies inside the file, the ten bytes before `size` are a trailer with the magic, its `TrailerSize`
    is at least 8 and fits, the eight bytes `TrailerSize + 10` before `size` carry `SignatureSize = TrailerSize - 8`, the
    blob is the `SignatureSize` bytes between that header and the trailer, and the digest covers everything in front of
    the header. -/
theorem locate_ok (f : Bytes) (size : Int) (l : Located) (hf : f.length < 9223372036854775808)
    (hs1 : -9223372036854775808 ≤ size) (hs2 : size < 9223372036854775808) (h : locate f size = .ok l) :
    ∃ N ts : Nat, size = (N : Int) ∧ N ≤ f.length ∧ ts + 10 ≤ N ∧ 8 ≤ ts ∧
      leVal ((f.drop (N - 10)).take 4) = trailerMagic ∧
      leVal ((f.drop (N - 4)).take 4) = ts ∧
      l.n = N - 10 - ts ∧
      leVal ((f.drop (l.n + 4)).take 4) = ts - 8 ∧
      l.blob = (f.drop (l.n + 8)).take (ts - 8) ∧ l.blob.length = ts - 8 := by
  unfold locate at h
  obtain ⟨tr, htr, h⟩ := Res.bind_eq_ok.mp h
  by_cases hm : leVal (tr.take 4) ≠ trailerMagic
  · rw [if_pos hm] at h
    obtain ⟨m, _, h2⟩ := Res.bind_eq_ok.mp h
    split at h2 <;> cases h2
  rw [if_neg hm] at h
  unfold locateHdr at h
  obtain ⟨hd, hhd, h⟩ := Res.bind_eq_ok.mp h
  by_cases hc : leVal ((hd.drop 4).take 4) ≠ (leVal ((tr.drop 6).take 4) + 4294967296 - 8) % 4294967296
  · rw [if_pos hc] at h; cases h
  rw [if_neg hc] at h
  obtain ⟨N, ts, rfl, hN, hfit, h8, hts, -, rfl, hw, hm', hts', hsz⟩ :=
    trailer_header_ok f size tr hd hf hs1 hs2 htr (Classical.not_not.mp hm) hhd (Classical.not_not.mp hc)
  rw [hts, hw, Int.toNat_natCast] at h
  obtain ⟨blob, hblob, h⟩ := Res.bind_eq_ok.mp h
  obtain ⟨-, q2, q3, rfl⟩ := readSection_ok (readAt_eq_ok.1 hblob)
  have hw3 : w64 (((N - 10 - ts : Nat) : Int) + 8) = ((N - 10 - ts + 8 : Nat) : Int) := by
    unfold w64; omega
  rw [hw3, Int.toNat_natCast] at q2 q3 h
  cases h
  rw [take_drop_take _ 8 4 4 (by omega), List.drop_drop, hsz] at q3 ⊢
  refine ⟨N, ts, rfl, hN, hfit, h8, hm', hts', rfl, rfl, rfl, ?_⟩
  rw [List.length_take, List.length_drop]
  exact Nat.min_eq_left (Nat.le_sub_of_add_le' q3)

/-! The readers, the locator and the verifier return a value or an error, whatever the bytes and the size: one walk through each
    function; that it reaches no panic site and leaves no loop running are both read off it (`Res.Errs.ne_panic`,
    `Res.Errs.ne_diverge`). -/

theorem readSection_errs (f : Bytes) (off : Int) (n : Nat) : Res.Errs (fun _ => True) (readSection f off n) :=
  .ite trivial (.ite trivial (.ite trivial trivial))

theorem readAt_errs (f : Bytes) (off : Int) (n : Nat) : Res.Errs (fun _ => True) (readAt f off n) :=
  .ite trivial (.ite trivial (.ite trivial trivial))

theorem locateHdr_errs (f : Bytes) (sz : Int) (ts tu : Nat) : Res.Errs (fun _ => True) (locateHdr f sz ts tu) :=
  (readSection_errs _ _ _).bind fun _ _ => .ite trivial ((readAt_errs _ _ _).bind fun _ _ => trivial)

theorem locate_errs (f : Bytes) (size : Int) : Res.Errs (fun _ => True) (locate f size) :=
  (readSection_errs _ _ _).bind fun _ _ =>
    .ite ((readSection_errs _ _ _).bind fun _ _ => .ite trivial trivial) (locateHdr_errs _ _ _ _)

theorem verify_errs (parse : Bytes → Option Bytes) (H : Bytes → Bytes) (f : Bytes) (size : Int) (skip : Bool) :
    Res.Errs (fun _ => True) (verify parse H f size skip) :=
  (locate_errs f size).bind fun l _ => by
    cases parse l.blob with
    | none => trivial
    | some dg => exact .ite trivial (.ite trivial trivial)

theorem walk_errs (clean : Bool) : ∀ (ms : List Member) (cd : Bytes), Res.Errs (fun _ => True) (walk cd clean ms)
  | [], _ => .ite trivial trivial
  | _ :: ms, cd => .ite (.ite trivial (walk_errs clean ms _)) (.ite trivial (.ite trivial (walk_errs clean ms cd)))

theorem digestTarWith_errs (rm : Bytes → Bytes) (ms : List Member) (clean : Bool) :
    Res.Errs (fun _ => True) (digestTarWith rm ms clean) :=
  (walk_errs clean ms []).bind fun _ _ => .ite trivial trivial

end Relic.Xap
