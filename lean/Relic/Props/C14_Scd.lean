/-
  C14 — concurrent signing through ONE scdaemon token (token/scdtoken over lib/assuan).

  scdaemon keeps, per connection, the value of the last SETDATA; PKSIGN signs whatever is stored with the key it names.  relic
  has one connection per token, so a signature is two transactions whose pairing must survive every schedule.  What pairs
  them is `scdToken.mu`, held by `scdKey.Sign` from before SETDATA until PKSIGN has returned.

  The lock spans of scdKey.Sign, of the other token methods and of Conn.Transact, and the transaction list of ScdKey.Sign, are
  re-extracted from the source on every run (tools/extractscd → Relic.Generated.ScdLocks); the `_generated` obligations evaluate them.
-/
import Relic.Proofs.ScdToken
import Relic.Generated.ScdLocks
namespace Relic.Props.C14
open Relic.ScdToken Relic.ScdToken.Sched

/-- **scd_sign_pair_atomic.**  Any schedule, any calls: under the lock discipline of the source every Sign call whose PKSIGN
    has run holds the signature over its own digest under its own key, and a completed Sign call has such a result. -/
theorem scd_sign_pair_atomic (calls : Nat → Call) (sched : List Nat) (s' : State)
    (h : run .locked calls init sched = some s') (i : Nat) (k : KeyId) (d : Digest) (hc : calls i = .sign k d) :
    (∀ r, s'.res i = some r → r = some ⟨k, d⟩) ∧
    (done .locked calls s' i → s'.res i = some (some ⟨k, d⟩)) := by
  have hi := inv_run sched (inv_init calls) h
  have hr := hi.res i k d hc
  constructor
  · intro r hres
    by_cases h3 : 3 ≤ s'.pc i
    · have := hr.1 h3; rw [this] at hres; exact (Option.some.inj hres).symm
    · have := hr.2 (by omega); rw [this] at hres; cases hres
  · intro hd
    have : s'.pc i = 4 := by
      unfold done at hd; rw [hd, hc]; rfl
    exact hr.1 (by omega)

/-- no schedule makes two threads hold the token mutex, and whoever is inside a Sign between SETDATA and PKSIGN finds its own
    digest stored in the daemon -/
theorem scd_stored_digest_is_holders (calls : Nat → Call) (sched : List Nat) (s' : State)
    (h : run .locked calls init sched = some s') (i : Nat) (k : KeyId) (d : Digest) (hc : calls i = .sign k d)
    (hh : s'.holder = some i) (hp : s'.pc i = 2) : s'.data = some d :=
  (inv_run sched (inv_init calls) h).mid i k d hh hc hp

/-- the statement is not vacuous: three concurrent signs, a GetKey and a Ping, interleaved as far as the mutex allows, all complete -/
def scdDemoCalls : Nat → Call := ofList [.sign 1 [0xAA], .sign 2 [0xBB], .getKey, .sign 1 [0xCC], .ping]
def scdDemoSched : List Nat := [1, 1, 1, 1, 4, 4, 0, 0, 0, 0, 2, 2, 2, 3, 3, 3, 3]
example : ((run .locked scdDemoCalls init scdDemoSched).map fun s => (s.res 0, s.res 1, s.res 3, s.holder)) =
    some (some (some ⟨1, [0xAA]⟩), some (some ⟨2, [0xBB]⟩), some (some ⟨1, [0xCC]⟩), none) := by decide +kernel
/-- a schedule that tries to enter while the mutex is held is not admitted (that is what "respects the lock" means) -/
example : run .locked scdDemoCalls init [0, 1] = none := by decide +kernel

/-- **scd_sign_pair_not_atomic_without_lock.**  A: SETDATA dA; B: SETDATA dB; A: PKSIGN → the signature over dB. -/
theorem scd_sign_pair_not_atomic_without_lock :
    ∃ (calls : Nat → Call) (sched : List Nat) (s' : State) (kA : KeyId) (dA dB : Digest),
      run .unlocked calls init sched = some s' ∧ calls 0 = .sign kA dA ∧ dA ≠ dB ∧
      done .unlocked calls s' 0 ∧ done .unlocked calls s' 1 ∧
      s'.res 0 = some (some ⟨kA, dB⟩) := by
  refine ⟨ofList [.sign 1 [0xAA], .sign 2 [0xBB]], [0, 0, 1, 1, 0, 1, 0, 1], ?_⟩
  have hv : (run .unlocked (ofList [.sign 1 [0xAA], .sign 2 [0xBB]]) init [0, 0, 1, 1, 0, 1, 0, 1]).map
      (fun s => (s.pc 0, s.pc 1, s.res 0)) = some (4, 4, some (some ⟨1, [0xBB]⟩)) := by decide +kernel
  cases h : run .unlocked (ofList [.sign 1 [0xAA], .sign 2 [0xBB]]) init [0, 0, 1, 1, 0, 1, 0, 1] with
  | none => rw [h] at hv; cases hv
  | some s' =>
    rw [h] at hv
    obtain ⟨h0, h1, hr⟩ : s'.pc 0 = 4 ∧ s'.pc 1 = 4 ∧ s'.res 0 = some (some ⟨1, [0xBB]⟩) := by simpa using hv
    exact ⟨s', 1, [0xAA], [0xBB], rfl, rfl, by decide, h0, h1, hr⟩

/-- the same schedule is simply not admitted under the lock discipline -/
example : run .locked (ofList [.sign 1 [0xAA], .sign 2 [0xBB]]) init [0, 0, 1, 1, 0, 1, 0, 1] = none := by decide +kernel

open Relic.Assuan in
/-- **scd_daemon_refines_protocol.**  On an idle connection of the honest daemon (Relic.Assuan.honest, the behaviour the fake
    scdaemon of the harness implements): the line `SETDATA <HEX d>` that `ScdKey.Sign` sends makes `d` the stored value
    (`daemonStep _ (.setdata d)`), and `PKSIGN --hash=<h> <keyid>` answers with the signature of the key named over the value
    stored AT THAT MOMENT, whoever stored it (`daemonStep data (.pksign k)`), leaving it stored. -/
theorem scd_daemon_refines_protocol (h : Honest) (hi : h.awaiting = none) :
    (∀ d, honest.recv h (setdataCmd d) = ({ h with data := some d }, okLine, false) ∧
          daemonStep h.data (.setdata d) = (some d, none)) ∧
    (h.inqSign = false → ∀ (hash kid : Bytes) (s : Slot) (d : Bytes), (∀ x ∈ hash, x ≠ 32) →
        findSlot h kid = some s → s.kind = 0 → h.data = some d → hashLen hash = some d.length →
        honest.recv h (pksignLine hash kid) = (h, blobLines (h.sigOf s.n hash d) ++ okLine, false) ∧
        daemonStep h.data (.pksign s.n) = (h.data, some (some ⟨s.n, d⟩))) := by
  refine ⟨fun d => ⟨honest_recv_setdata h d hi, rfl⟩, ?_⟩
  intro hq hash kid s d hh hs hk hd hl
  refine ⟨?_, by simp [daemonStep, hd]⟩
  rw [honest_recv_pksign h hash kid hi hq hh, honestSign_signs_stored h hash kid s d hs hk hd hl]

def scdDemoPub (n _kind : Nat) : Bytes := Relic.Assuan.ascii "(10:public-key(3:rsa(1:n1:" ++ [UInt8.ofNat n] ++ Relic.Assuan.ascii ")(1:e1:" ++ [3] ++ Relic.Assuan.ascii ")))"
def scdDemoSig (n : Nat) (hash d : Bytes) : Bytes := [UInt8.ofNat n] ++ hash ++ d
def scdDemoHonest : Relic.Assuan.Honest :=
  { serial := Relic.Assuan.ascii "D276", pin := Relic.Assuan.ascii "123456", inqSign := true, slots := [⟨1, 0⟩, ⟨2, 0⟩], data := none,
    awaiting := none, answer := [], pubBlob := scdDemoPub, sigOf := scdDemoSig }

def scdDemoConf : TokenConf :=
  { serial := [], pin := some (Relic.Assuan.ascii "123456"), getter := none,
    keys := [⟨"k1", Relic.Assuan.ascii "OPENPGP.1"⟩, ⟨"k2", Relic.Assuan.ascii "OPENPGP.2"⟩] }

/-- line level, end to end against the honest daemon: Open (LEARN, CHECKPIN), GetKey (READKEY), two Signs with different digests
    and keys: each signature is over the call's own digest by the call's own key, and the daemon saw whole SETDATA/PKSIGN pairs -/
example :
    (match openToken Relic.Assuan.honest scdDemoHonest scdDemoConf with
     | (_, .ok t) =>
       match getKey Relic.Assuan.honest t "k1" with
       | (t, .ok k1) =>
         match getKey Relic.Assuan.honest t "k2" with
         | (t, .ok k2) =>
           match keySign Relic.Assuan.honest t k1 (List.replicate 20 0xAA) (.named (Relic.Assuan.ascii "sha1")) with
           | (t, .ok s1) =>
             match keySign Relic.Assuan.honest t k2 (List.replicate 32 0xBB) (.named (Relic.Assuan.ascii "sha256")) with
             | (t, .ok s2) => (s1 == scdDemoSig 1 (Relic.Assuan.ascii "sha1") (List.replicate 20 0xAA) &&
                 s2 == scdDemoSig 2 (Relic.Assuan.ascii "sha256") (List.replicate 32 0xBB), (t.sock.conn.log.drop 6).map fun l => l.take 7)
             | _ => (false, [])
           | _ => (false, [])
         | _ => (false, [])
       | _ => (false, [])
     | _ => (false, [])) =
    (true, [Relic.Assuan.ascii "SETDATA", Relic.Assuan.ascii "PKSIGN ", Relic.Assuan.ascii "D 12345", Relic.Assuan.ascii "END",
            Relic.Assuan.ascii "SETDATA", Relic.Assuan.ascii "PKSIGN ", Relic.Assuan.ascii "D 12345", Relic.Assuan.ascii "END"]) := by
  decide +kernel

open Relic.ScdToken.Extract Relic.Generated.ScdLocks

/-- scdKey.Sign: first statement takes `key.token.mu`, second defers its release, no other lock operation, no goroutine or
    closure, and the card operation `key.key.Sign` is called inside -/
theorem scd_sign_holds_token_lock_generated : signDiscipline scdKeySign = .locked := by decide +kernel

/-- SignContext only delegates to Sign (so it inherits the lock span) -/
theorem scd_sign_context_delegates_generated : scdKeySignContext.calls = ["key.Sign"] ∧ scdKeySignContext.spawns = 0 := by decide +kernel

/-- GetKey, ListKeys, Ping, Close hold the same token mutex throughout -/
theorem scd_methods_hold_token_lock_generated :
    atomicBody tokGetKey = true ∧ atomicBody tokListKeys = true ∧ atomicBody tokPing = true ∧ atomicBody tokClose = true ∧
    mutexOf tokGetKey = "tok.mu" ∧ mutexOf tokListKeys = "tok.mu" ∧ mutexOf tokPing = "tok.mu" ∧ mutexOf tokClose = "tok.mu" := by decide +kernel

/-- Conn.Transact and Conn.Close hold `c.mu` throughout: one transaction is one atomic step of the connection -/
theorem assuan_transact_atomic_generated : atomicBody connTransact = true ∧ atomicBody connClose = true ∧
    mutexOf connTransact = "c.mu" ∧ connTransact.calls = ["errors.New", "c.write", "c.read"] := by decide +kernel

/-- ScdKey.Sign is exactly the two transactions of the model's `body (.sign k d)`, on the key's connection, and takes no lock itself -/
theorem scd_sign_two_transactions_generated :
    scdSignTransacts = ["k.conn|SETDATA %X|hashValue", "k.conn|PKSIGN --hash=%s %s\n|hashName,k.KeyId"] ∧ scdSignLockCalls = [] := by decide +kernel

/-- the check discriminates: a body that releases the mutex before the card operation (lock, read the pin, unlock, then sign)
    is classified `unlocked` -/
example : signDiscipline { scdKeySign with span := { scdKeySign.span with
    top := [.lock "key.token.mu", .other, .other, .other],
    lockCalls := [("key.token.mu", "Lock"), ("key.token.mu", "Unlock")] } } = .unlocked := by decide +kernel
example : signDiscipline { scdKeySign with spawns := 1 } = .unlocked := by decide +kernel
example : signDiscipline { scdKeySign with calls := [] } = .unlocked := by decide +kernel

/-! token/p11token: the same two-phase shape (code reading + T-gen; the package needs cgo and a PKCS#11 module to run)

  `(*Key).Sign` holds `key.token.mutex` and calls `signRSA` / `signECDSA`, each of which is `C_SignInit(session, mechanism, key)`
  followed by `C_Sign(session, digest)` on the token's ONE session handle: a PKCS#11 session has one active signing operation, so
  the pair must not interleave with another caller's.  `Sched` applies with the roles of the two components exchanged (phase one
  stores the key, phase two supplies the digest): `scd_sign_pair_atomic` is symmetric in them.  What is CHECKED here is the source
  shape, re-extracted on every run; there is no dynamic tie for this package. -/

def ctxCalls (m : Method) : List String := m.calls.filter fun c => c.startsWith "key.token.ctx."

/-- Key.Sign holds the token mutex across signRSA / signECDSA; SignContext only delegates -/
theorem p11_sign_holds_token_lock_generated :
    atomicBody p11KeySign = true ∧ mutexOf p11KeySign = "key.token.mutex" ∧
    p11KeySign.calls.contains "key.signRSA" = true ∧ p11KeySign.calls.contains "key.signECDSA" = true ∧
    p11KeySignContext.calls = ["key.Sign"] ∧ p11KeySignContext.spawns = 0 := by decide +kernel

/-- signRSA and signECDSA are SignInit then Sign on the session, take no lock themselves, start no goroutine -/
theorem p11_sign_two_phase_generated :
    ctxCalls p11SignRSA = ["key.token.ctx.SignInit", "key.token.ctx.Sign"] ∧
    ctxCalls p11SignECDSA = ["key.token.ctx.SignInit", "key.token.ctx.Sign"] ∧
    p11SignRSA.span.lockCalls = [] ∧ p11SignECDSA.span.lockCalls = [] ∧ p11SignRSA.spawns = 0 ∧ p11SignECDSA.spawns = 0 := by decide +kernel

/-- **the theorem about the code as extracted**: with the discipline read off the current source -/
theorem scd_sign_pair_atomic_generated (calls : Nat → Call) (sched : List Nat) (s' : State)
    (h : run (signDiscipline scdKeySign) calls init sched = some s') (i : Nat) (k : KeyId) (d : Digest) (hc : calls i = .sign k d)
    (hd : done (signDiscipline scdKeySign) calls s' i) : s'.res i = some (some ⟨k, d⟩) := by
  rw [scd_sign_holds_token_lock_generated] at h hd
  exact (scd_sign_pair_atomic calls sched s' h i k d hc).2 hd

end Relic.Props.C14
