/-
  C19 (identity fields): the `Publisher` attribute of an APPX / MSIX manifest (and of a bundle manifest) is the formatted
  subject of the signing certificate.  The formatting itself — `x509tools.FormatPkixName(RawSubject, NameStyleMsOsco)` — is
  `Relic.Ident.formatPkixName .msosco` (theorems in `Relic.Props.C19` / `C19_Ident`: `publisher_is_spec`, `publisher_ne_spec_*`,
  `dn_format_*`, `format_total`); this fragment adds where the string is written and what the verifier compares (model
  `Relic.Model.AppxPkg`; stated together as `C01.appx_publisher_is_signers`).
-/
import Relic.Props.C01_AppxPkg
namespace Relic.Props.C19
open Relic.AppxPkg

/-- the same function as `Driver.AppxPkg.fmtName`, which the native driver instantiates the APPX model with: relic's
    `FormatPkixName` in the MS-OSCO style -/
def appxFmtName (der : Bytes) : Bytes :=
  match Ident.formatPkixName .msosco der with
  | .ok n => n
  | _ => Ident.invalidName

/-- **appx_publisher_written_is_subject.** After signing, the unprefixed `Publisher` attribute of the first `Identity` element
    (document element `Package`) is the formatted subject of the signing certificate. -/
theorem appx_publisher_written_is_subject (fx : Fx) (S : SignEnv) (ms : List InMember) (subject : Bytes) (r : SignedPkg) (d' : MDoc)
    (hs : signParts fx S ms subject = .ok r) (hm : r.manifest = some d') :
    ∃ d, d' = setPublisher (S.fmtName subject) d ∧
      (d.rootNamed = true → d.ids ≠ [] → visiblePublisher d' = some (S.fmtName subject)) := by
  obtain ⟨_, d0, _, e, _⟩ := C01.signParts_manifest hs hm
  exact ⟨d0, e, fun hr hi => by rw [e]; exact visiblePublisher_set _ d0 hr hi⟩

/-- **appx_publisher_accepted_is_signers.** An accepted package's Publisher, as the verifier reads it, is the formatted subject of
    the certificate that made the signature; with the repair (`Fx.pub`) it is the attribute a conformant reader sees. -/
theorem appx_publisher_accepted_is_signers (H : Nat → Bytes → Bytes) (fx : Fx) (E : Env) (n : Nat) (v : View) (hb : v.isBundle = false)
    (ha : run H (verifySteps fx E n v) = .ok ()) :
    ∃ s m blob d, readSig E v = .ok s ∧ v.find Appx.sManifest = some m ∧ m.content = .ok blob ∧ E.parseManifest blob = some d ∧
      readPublisher fx.pub d = E.fmtName s.cert.subject ∧
      (fx.pub = true → E.fmtName s.cert.subject ≠ [] → d.rootNamed = true ∧ visiblePublisher d = some (E.fmtName s.cert.subject)) := by
  obtain ⟨s, hs, _, _, _, _, _, _, h7⟩ := (verify_package_ok hb).1 ha
  obtain ⟨m, blob, d, h1, h2, h3, h4⟩ := manifestSteps_ok.1 h7
  exact ⟨s, m, blob, d, hs, h1, h2, h3, h4, fun hp hne => readPublisher_fixed (hp ▸ h4) hne⟩

/-- non-vacuity: a written manifest with the attribute in place -/
example : visiblePublisher (setPublisher [67, 78, 61, 97] ⟨true, [[⟨[], sPublisher, [111]⟩]]⟩) = some [67, 78, 61, 97] := by decide

end Relic.Props.C19
