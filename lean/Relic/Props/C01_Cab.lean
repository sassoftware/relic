/-
  C01 — Every signature relic produces verifies.   CAB part (model `Relic.Model.Cab`): the chain
  digest → patch → apply → (verifier) locate + re-digest.  The cryptographic step is outside the model.
-/
import Relic.Props.C08_Cab
namespace Relic.Props.C01
open Relic Relic.Cab

/-- **cab_sign_then_verify.** For every cabinet `cabfile.Digest` accepts (regular layout, < 4 GiB − 24) and every
    non-empty signature blob: the file `Sign → Apply` writes (through the real patch path) is `signedBytes d sig`; on it
    the verifier's `Parse` finds exactly the embedded blob (zero-padded to a multiple of 8 as `MakePatch` stores it),
    and the verifier's re-digest succeeds and hashes exactly the stream that was signed – so for every hash function
    the imprint inside the signature equals the recomputed one. -/
theorem cab_sign_then_verify (H : Bytes → Bytes) (f : Bytes) (d : Digest) (sig : Bytes) (e : DigestCab f = .ok d)
    (R : Regular d) (W : NoWrap d) (hne : sig ≠ []) (hs : (padded sig).length < 2 ^ 32) (M : Nat) :
    Binpatch.applyRewrite f (Binpatch.build M (makePatch d sig)) = .ok (signedBytes d sig) ∧
    locate (signedBytes d sig) = .ok (padded sig) ∧
    ∃ d', DigestCab (signedBytes d sig) = .ok d' ∧ H d'.hashed = H d.hashed := by
  have e' := DigestCab_signed f d sig (DigestCab_spec f d e) R W hs
  refine ⟨C08.cab_signed_file f d sig e R W M, ?_, resigned d sig, e', rfl⟩
  unfold locate
  rw [e']
  have : (resigned d sig).signature = padded sig := rfl
  simp only [this]
  have : (padded sig).isEmpty = false := by
    cases sig with
    | nil => exact absurd rfl hne
    | cons x xs => rfl
  rw [this]
  rfl

/-- **cab_unsigned_not_located.** A cabinet without signature header is reported as unsigned by the locator. -/
theorem cab_unsigned_not_located (f : Bytes) (d : Digest) (e : DigestCab f = .ok d) (h : d.oldSigSize = 0) :
    locate f = .err "notsigned" := by
  have H := DigestCab_spec f d e
  unfold locate
  rw [e]
  have : d.signature = [] := by
    rw [H.sig]
    have := H.stop
    rw [h, Nat.add_zero] at this
    rw [this, PE.seg_self]
  simp [this]

set_option maxRecDepth 100000 in
example : C08.cabOk C08.minimalCab = true ∧ locate C08.minimalCab = .err "notsigned" := ⟨C08.cab_facts.1, C08.cab_facts.2.2⟩

end Relic.Props.C01
