/-
  C11 (PE part) — which inputs make the PE readers of lib/authenticode panic, and that none of them diverges:
  `align32` and `fixSections` (division by a zero FileAlignment), `readHeaders` (exact characterisation of both panic
  sites: `readOptHeader`'s `buf[:2]` and `align32`), `DigestPE`, the verifier's locator (`findSignatures`, the
  certificate-table walk), the page-hash table (`zeroPage[:needzero]`), and the allocation `VerifyPE` makes from an
  unchecked header field; concrete files reaching each panic site at the end.  The model follows the code as it was
  before these sites were repaired.
-/
import Relic.Proofs.PEPages
namespace Relic.Props.C11
open Relic Relic.PE

theorem align32_none_iff (a al : Nat) : align32 a al = none ↔ al = 0 := by
  unfold align32
  by_cases h0 : al = 0
  · simp [h0]
  · rw [if_neg h0]
    split <;> simp [h0]

example : align32 7 0 = none := by decide
example : align32 7 4 = some 8 := by decide

/-- after skipping leading sections without raw data, the first section with raw data starts at or
    after the section table end and is not the last one of the list: the only place where
    `fixSections` calls `align32` -/
def AlignReached (secTblEnd : Nat) : List Section → Prop
  | [] => False
  | s :: rest => if s.size = 0 then AlignReached secTblEnd rest else secTblEnd ≤ s.ptr ∧ rest ≠ []

theorem fixSections_crash_iff (secTblEnd fa : Nat) (ss : List Section) (soh : Nat) (k : Crash) :
    fixSections secTblEnd fa ss soh = Res.crash k ↔
      k = .panic "align32:divide-by-zero" ∧ fa = 0 ∧ AlignReached secTblEnd ss := by
  induction ss generalizing soh with
  | nil => simp [fixSections, AlignReached]
  | cons s rest ih =>
    by_cases hz : s.size = 0
    · simp only [fixSections, AlignReached, if_pos hz, ← ih soh]
      cases fixSections secTblEnd fa rest soh <;> simp
    · simp only [fixSections, AlignReached, if_neg hz, Res.errGuard_eq_crash, Res.okGuard_eq_crash, Nat.not_lt,
        List.isEmpty_iff]
      cases hal : align32 s.size fa with
      | none =>
        have hfa := (align32_none_iff _ _).1 hal
        simp only [hfa, true_and, Res.panic_eq_crash]
        constructor
        · rintro ⟨a, b, rfl⟩; exact ⟨rfl, a, b⟩
        · rintro ⟨rfl, a, b⟩; exact ⟨a, b, rfl⟩
      | some sz =>
        -- `align32` answered, so FileAlignment is not 0, and the rest of the table cannot crash either
        have hfa : fa ≠ 0 := fun h0 => by rw [(align32_none_iff _ _).2 h0] at hal; cases hal
        have hrest := mt (ih (if s.ptr < soh then s.ptr else soh)).1 (fun h => hfa h.2.1)
        simp only [hfa, false_and, and_false, iff_false, not_and]
        intro _ _
        split <;> simp_all

theorem fixSections_panic_iff (secTblEnd fa : Nat) (ss : List Section) (soh : Nat) (p : String) :
    fixSections secTblEnd fa ss soh = .panic p ↔
      p = "align32:divide-by-zero" ∧ fa = 0 ∧ AlignReached secTblEnd ss := by
  simpa using fixSections_crash_iff secTblEnd fa ss soh (.panic p)

theorem fixSections_no_panic (secTblEnd fa : Nat) (ss : List Section) (soh : Nat) (p : String)
    (h : fa ≠ 0) : fixSections secTblEnd fa ss soh ≠ .panic p := by
  intro e
  exact h ((fixSections_panic_iff _ _ _ _ _).1 e).2.1

theorem fixSections_not_diverge (secTblEnd fa : Nat) (ss : List Section) (soh : Nat) :
    fixSections secTblEnd fa ss soh ≠ .diverge := by
  intro h
  simpa using (fixSections_crash_iff secTblEnd fa ss soh .diverge).1 h

-- non-vacuity: two sections with raw data after the table, FileAlignment 0
example : fixSections 100 0 [⟨200, 16⟩, ⟨300, 16⟩] 400 = .panic "align32:divide-by-zero" := by decide
example : AlignReached 100 [⟨0, 0⟩, ⟨200, 16⟩, ⟨300, 16⟩] := by simp [AlignReached]
example : ¬ AlignReached 100 [⟨0, 0⟩, ⟨200, 16⟩] := by simp [AlignReached]

/-- file offset at which the COFF header is read (`e_lfanew`, or 64 when `e_lfanew < 64`) -/
def hdrOff (f : Bytes) : Nat := if 64 ≤ u32 f 0x3c then u32 f 0x3c else 64

def SizeOfOptionalHeader (f : Bytes) : Nat := u16 f (hdrOff f + 20)

/-- every check of `readHeaders` before `readOptHeader` looks at `buf[:2]` passes -/
def ReachesOptHeader (f : Bytes) : Prop :=
  64 ≤ f.length ∧ seg f 0 2 = [0x4d, 0x5a] ∧ hdrOff f ≤ f.length ∧ hdrOff f + 4 ≤ f.length ∧
  seg f (hdrOff f) (hdrOff f + 4) = [0x50, 0x45, 0, 0] ∧ hdrOff f + 24 ≤ f.length ∧
  hdrOff f + 24 + SizeOfOptionalHeader f ≤ f.length

def NumberOfSections (f : Bytes) : Nat := u16 f (hdrOff f + 6)
def FileAlignment (f : Bytes) : Nat := u32 f (hdrOff f + 24 + 36)
/-- end of the section table as `readSections` computes it (from `e_lfanew`, not from the read position) -/
def SecTblEnd (f : Bytes) : Nat := u32 f 0x3c + 24 + SizeOfOptionalHeader f + NumberOfSections f * 40

/-- every check of `readHeaders` before the section loop passes -/
def ReachesSections (f : Bytes) : Prop :=
  ReachesOptHeader f ∧ 2 ≤ SizeOfOptionalHeader f ∧
  ((u16 f (hdrOff f + 24) = 0x10b ∧ 224 ≤ SizeOfOptionalHeader f ∧ 5 ≤ u32 f (hdrOff f + 24 + 92)) ∨
   (u16 f (hdrOff f + 24) = 0x20b ∧ 240 ≤ SizeOfOptionalHeader f ∧ 5 ≤ u32 f (hdrOff f + 24 + 108))) ∧
  SecTblEnd f ≤ u32 f (hdrOff f + 24 + 60) ∧
  hdrOff f + 24 + SizeOfOptionalHeader f + NumberOfSections f * 40 ≤ f.length

theorem readHeaders_crash_iff (f : Bytes) (k : Crash) :
    readHeaders f = Res.crash k ↔
      (k = .panic "readOptHeader:buf[:2]" ∧ ReachesOptHeader f ∧ SizeOfOptionalHeader f < 2) ∨
      (k = .panic "align32:divide-by-zero" ∧ ReachesSections f ∧ FileAlignment f = 0 ∧
        AlignReached (SecTblEnd f)
          (rawSections f (hdrOff f + 24 + SizeOfOptionalHeader f) (NumberOfSections f))) := by
  unfold readHeaders
  simp only [ReachesSections, ReachesOptHeader, SecTblEnd, FileAlignment, NumberOfSections,
    SizeOfOptionalHeader, hdrOff, Res.errGuard_eq_crash, Res.panicGuard_eq_crash, ne_eq, Decidable.not_not,
    Nat.not_lt]
  generalize u32 f 60 = P
  generalize (if 64 ≤ P then P else 64) = C
  generalize u16 f (C + 20) = S
  generalize u16 f (C + 6) = N
  constructor
  · rintro ⟨a, b, c, d, e, g, i, ⟨hs, hp⟩ | ⟨hs, h⟩⟩
    · exact Or.inl ⟨hp, ⟨a, b, c, d, e, g, i⟩, hs⟩
    · split at h
      · simp at h
      · rename_i need nrva dd4 hv
        simp only [Res.errGuard_eq_crash, Nat.not_lt] at h
        obtain ⟨d1, d2, d3, d4, h⟩ := h
        -- past the checks only the section loop can crash
        have hfix : fixSections (P + 24 + S + N * 40) (u32 f (C + 24 + 36)) (rawSections f (C + 24 + S) N)
            (u32 f (C + 24 + 60)) = Res.crash k := by
          generalize fixSections _ _ _ _ = r at h ⊢
          cases r <;> simp_all [Res.errGuard_eq_crash]
        obtain ⟨hq, hfa, hr⟩ := (fixSections_crash_iff _ _ _ _ _).1 hfix
        refine Or.inr ⟨hq, ⟨⟨a, b, c, d, e, g, i⟩, hs, ?_, d3, d4⟩, hfa, hr⟩
        rcases optVariant_eq_some.1 hv with ⟨m, rfl, rfl, rfl⟩ | ⟨m, rfl, rfl, rfl⟩
        · exact Or.inl ⟨m, d1, d2⟩
        · exact Or.inr ⟨m, d1, d2⟩
  · rintro (⟨hp, ⟨a, b, c, d, e, g, i⟩, hs⟩ | ⟨hp, ⟨⟨a, b, c, d, e, g, i⟩, hs, hv, d3, d4⟩, hfa, hr⟩)
    · exact ⟨a, b, c, d, e, g, i, Or.inl ⟨hs, hp⟩⟩
    · refine ⟨a, b, c, d, e, g, i, Or.inr ⟨hs, ?_⟩⟩
      have hfix := (fixSections_crash_iff _ (u32 f (C + 24 + 36)) _ (u32 f (C + 24 + 60)) _).2 ⟨hp, hfa, hr⟩
      subst hp
      rw [Res.crash_panic] at hfix
      rcases hv with ⟨m, d1, d2⟩ | ⟨m, d1, d2⟩
      · simp only [m, reduceIte, Res.errGuard_eq_crash, Nat.not_lt, hfix]
        exact ⟨d1, d2, d3, d4, rfl⟩
      · simp only [m, Nat.reduceEqDiff, reduceIte, Res.errGuard_eq_crash, Nat.not_lt, hfix]
        exact ⟨d1, d2, d3, d4, rfl⟩

theorem readHeaders_panic_iff (f : Bytes) (p : String) :
    readHeaders f = .panic p ↔
      (p = "readOptHeader:buf[:2]" ∧ ReachesOptHeader f ∧ SizeOfOptionalHeader f < 2) ∨
      (p = "align32:divide-by-zero" ∧ ReachesSections f ∧ FileAlignment f = 0 ∧
        AlignReached (SecTblEnd f)
          (rawSections f (hdrOff f + 24 + SizeOfOptionalHeader f) (NumberOfSections f))) := by
  simpa using readHeaders_crash_iff f (.panic p)

theorem readHeaders_not_diverge (f : Bytes) : readHeaders f ≠ .diverge := by
  intro h
  simpa using (readHeaders_crash_iff f .diverge).1 h

theorem readHeaders_panic_sites (f : Bytes) (p : String) (h : readHeaders f = .panic p) :
    p = "readOptHeader:buf[:2]" ∨ p = "align32:divide-by-zero" := by
  rcases (readHeaders_panic_iff f p).1 h with h | h
  · exact Or.inl h.1
  · exact Or.inr h.1

theorem readHeaders_optHeader_panic_iff (f : Bytes) :
    readHeaders f = .panic "readOptHeader:buf[:2]" ↔ ReachesOptHeader f ∧ SizeOfOptionalHeader f < 2 := by
  simp [readHeaders_panic_iff]

theorem readHeaders_align_panic_iff (f : Bytes) :
    readHeaders f = .panic "align32:divide-by-zero" ↔
      ReachesSections f ∧ FileAlignment f = 0 ∧
        AlignReached (SecTblEnd f)
          (rawSections f (hdrOff f + 24 + SizeOfOptionalHeader f) (NumberOfSections f)) := by
  simp [readHeaders_panic_iff]

/-- an optional header of at least 2 bytes and a non-zero FileAlignment exclude every panic -/
theorem readHeaders_no_panic_partial (f : Bytes) (p : String)
    (h1 : 2 ≤ SizeOfOptionalHeader f) (h2 : u32 f (hdrOff f + 24 + 36) ≠ 0) :
    readHeaders f ≠ .panic p := by
  intro h
  rcases (readHeaders_panic_iff f p).1 h with h | h
  · have := h.2.2; omega
  · exact h2 h.2.2.1

theorem readSectionData_no_panic (flen : Nat) (ss : List Section) (i cur next : Nat) (p : String) :
    readSectionData flen ss i cur next ≠ .panic p :=
  readSectionData_ne_crash flen ss i cur next (.panic p)

theorem readSectionData_not_diverge (flen : Nat) (ss : List Section) (i cur next : Nat) :
    readSectionData flen ss i cur next ≠ .diverge :=
  readSectionData_ne_crash flen ss i cur next .diverge

theorem DigestPE_of_headers_ne_crash (f : Bytes) (h : Headers) (hh : readHeaders f = .ok h) (k : Crash) :
    DigestPE f ≠ Res.crash k := by
  unfold DigestPE
  rw [hh]
  simp only [ne_eq, Res.errGuard_eq_crash]
  intro ⟨_, e⟩
  split at e
  · simp at e
  · exact readSectionData_ne_crash _ _ _ _ _ (.panic _) (by assumption)
  · exact readSectionData_ne_crash _ _ _ _ _ .diverge (by assumption)
  · simp only [Res.okGuard_eq_crash, Res.errGuard_eq_crash, Res.ok_eq_crash, and_false] at e

theorem DigestPE_crash_iff (f : Bytes) (k : Crash) : DigestPE f = Res.crash k ↔ readHeaders f = Res.crash k := by
  cases hh : readHeaders f with
  | ok h => simp [DigestPE_of_headers_ne_crash f h hh k]
  | _ => simp [DigestPE, hh]

theorem DigestPE_of_headers_ok (f : Bytes) (h : Headers) (hh : readHeaders f = .ok h) :
    (∀ p, DigestPE f ≠ .panic p) ∧ DigestPE f ≠ .diverge :=
  ⟨fun p => DigestPE_of_headers_ne_crash f h hh (.panic p), DigestPE_of_headers_ne_crash f h hh .diverge⟩

theorem DigestPE_panic_iff_readHeaders (f : Bytes) (p : String) :
    DigestPE f = .panic p ↔ readHeaders f = .panic p :=
  DigestPE_crash_iff f (.panic p)

theorem DigestPE_not_diverge (f : Bytes) : DigestPE f ≠ .diverge :=
  fun h => readHeaders_not_diverge f ((DigestPE_crash_iff f .diverge).1 h)

theorem DigestPE_panic_sites (f : Bytes) (p : String) (h : DigestPE f = .panic p) :
    p = "readOptHeader:buf[:2]" ∨ p = "align32:divide-by-zero" :=
  readHeaders_panic_sites f p ((DigestPE_panic_iff_readHeaders f p).1 h)

theorem DigestPE_no_panic_partial (f : Bytes) (p : String)
    (h1 : 2 ≤ SizeOfOptionalHeader f) (h2 : u32 f (hdrOff f + 24 + 36) ≠ 0) :
    DigestPE f ≠ .panic p := by
  intro h
  exact readHeaders_no_panic_partial f p h1 h2 ((DigestPE_panic_iff_readHeaders f p).1 h)

/-- every check of `findSignatures` before `readOptHeader` looks at `buf[:2]` passes
    (`findSignatures` seeks to `e_lfanew`, so there is no clamping to 64 here) -/
def FindSigReachesOptHeader (f : Bytes) : Prop :=
  64 ≤ f.length ∧ seg f 0 2 = [0x4d, 0x5a] ∧ u32 f 0x3c + 4 ≤ f.length ∧
  seg f (u32 f 0x3c) (u32 f 0x3c + 4) = [0x50, 0x45, 0, 0] ∧ u32 f 0x3c + 24 ≤ f.length ∧
  u32 f 0x3c + 24 + u16 f (u32 f 0x3c + 20) ≤ f.length

theorem findSignatures_crash_iff (f : Bytes) (k : Crash) :
    findSignatures f = Res.crash k ↔
      k = .panic "readOptHeader:buf[:2]" ∧ FindSigReachesOptHeader f ∧ u16 f (u32 f 0x3c + 20) < 2 := by
  unfold findSignatures
  simp only [FindSigReachesOptHeader, Res.errGuard_eq_crash, Res.panicGuard_eq_crash, ne_eq, Decidable.not_not,
    Nat.not_lt]
  constructor
  · rintro ⟨a, b, c, d, e, g, ⟨hs, hp⟩ | ⟨_, h⟩⟩
    · exact ⟨hp, ⟨a, b, c, d, e, g⟩, hs⟩
    · split at h
      · simp at h
      · simp [Res.errGuard_eq_crash] at h
  · rintro ⟨hp, ⟨a, b, c, d, e, g⟩, hs⟩
    exact ⟨a, b, c, d, e, g, Or.inl ⟨hs, hp⟩⟩

theorem findSignatures_panic_iff (f : Bytes) (p : String) :
    findSignatures f = .panic p ↔
      p = "readOptHeader:buf[:2]" ∧ FindSigReachesOptHeader f ∧ u16 f (u32 f 0x3c + 20) < 2 := by
  simpa using findSignatures_crash_iff f (.panic p)

theorem findSignatures_not_diverge (f : Bytes) : findSignatures f ≠ .diverge := by
  intro h
  simpa using (findSignatures_crash_iff f .diverge).1 h

theorem walkCerts_ne_crash (fuel : Nat) (b : Bytes) (k : Crash) : walkCerts fuel b ≠ Res.crash k := by
  fun_induction walkCerts fuel b <;> simp_all

theorem locate_crash_iff (f : Bytes) (k : Crash) : locate f = Res.crash k ↔ findSignatures f = Res.crash k := by
  unfold locate
  cases findSignatures f with
  | ok v => simp [Res.errGuard_eq_crash, walkCerts_ne_crash]
  | _ => simp

theorem walkCerts_no_panic (fuel : Nat) (b : Bytes) (p : String) : walkCerts fuel b ≠ .panic p :=
  walkCerts_ne_crash fuel b (.panic p)

theorem walkCerts_not_diverge (fuel : Nat) (b : Bytes) : walkCerts fuel b ≠ .diverge :=
  walkCerts_ne_crash fuel b .diverge

theorem locate_panic_iff (f : Bytes) (p : String) :
    locate f = .panic p ↔ findSignatures f = .panic p :=
  locate_crash_iff f (.panic p)

theorem locate_not_diverge (f : Bytes) : locate f ≠ .diverge :=
  fun h => findSignatures_not_diverge f ((locate_crash_iff f .diverge).1 h)

/-- `zeroPage[:needzero]` panics exactly when `SizeOfHeaders` (after the fix-ups) exceeds a page:
    `needzero = pageSize - hdrLen - (sizeOfHdr - hdrLen) = pageSize - sizeOfHdr`, and the other way
    for the slice to fail, `needzero > len(zeroPage) = pageSize`, would need `sizeOfHdr < 0` -/
theorem pageHashInputs_none_iff (f : Bytes) (d : Digest) :
    pageHashInputs f d = none ↔ d.m.pageSize < d.m.sizeOfHdr :=
  pageHashInputs_eq_none f d

theorem leVal_lt (b : Bytes) : leVal b < 256 ^ b.length :=
  Relic.leVal_lt b

theorem u32_lt (f : Bytes) (off : Nat) : u32 f off < 2 ^ 32 :=
  PE.u32_lt f off

/-- bytes requested by `make([]byte, certSize)` in `VerifyPE`, before anything is read -/
def verifyPEAlloc (f : Bytes) : Nat :=
  match findSignatures f with
  | .ok (_, certSize) => certSize
  | _ => 0

/-- whatever `findSignatures` returns as the size is a 32-bit field of the file -/
theorem verifyPEAlloc_lt (f : Bytes) : verifyPEAlloc f < 2 ^ 32 := by
  unfold verifyPEAlloc
  split
  · rename_i cs sz heq
    obtain ⟨dd, _, rfl⟩ := findSignatures_ok heq
    exact u32_lt _ _
  · exact Nat.two_pow_pos 32

/-- a 312-byte file: DOS header, `e_lfanew = 64`, PE32 optional header of 224 bytes,
    `NumberOfRvaAndSizes = 16`, certificate table entry (0, 0x80000000) -/
def allocWitness : Bytes :=
  [0x4d, 0x5a] ++ List.replicate 58 0 ++ [64, 0, 0, 0] ++
  [0x50, 0x45, 0, 0] ++ List.replicate 16 0 ++ [224, 0] ++ List.replicate 2 0 ++
  [0x0b, 0x01] ++ List.replicate 90 0 ++ [16, 0, 0, 0] ++
  List.replicate 32 0 ++ [0, 0, 0, 0] ++ [0, 0, 0, 0x80] ++ List.replicate 88 0

theorem allocWitness_spec : allocWitness.length = 312 ∧ verifyPEAlloc allocWitness = 2 ^ 31 := by
  decide +kernel

/-- the allocation is not bounded by the input size: 312 bytes of input request 2 GiB -/
theorem verifyPEAlloc_unbounded_by_input : ∃ f : Bytes, f.length < 400 ∧ verifyPEAlloc f ≥ 2 ^ 31 :=
  ⟨allocWitness, by rw [allocWitness_spec.1, allocWitness_spec.2]; decide⟩

/-- the same request when the bounds check `certStart + certSize ≤ len(file)` is made first -/
def verifyPEAllocFixed (f : Bytes) : Nat :=
  match findSignatures f with
  | .ok (certStart, certSize) => if certStart + certSize ≤ f.length then certSize else 0
  | _ => 0

theorem verifyPEAllocFixed_le (f : Bytes) : verifyPEAllocFixed f ≤ f.length := by
  unfold verifyPEAllocFixed
  split
  · split <;> omega
  · omega

/-- 88 bytes: DOS header, `e_lfanew = 64`, COFF header with `SizeOfOptionalHeader = 0` -/
def optHdrWitness : Bytes :=
  [0x4d, 0x5a] ++ List.replicate 58 0 ++ [64, 0, 0, 0] ++ [0x50, 0x45, 0, 0] ++ List.replicate 20 0

/-- 392 bytes: PE32 header, `FileAlignment = 0`, `SizeOfHeaders = 392`, two sections with
    16 bytes of raw data at 392 -/
def alignWitness : Bytes :=
  [0x4d, 0x5a] ++ List.replicate 58 0 ++ [64, 0, 0, 0] ++
  [0x50, 0x45, 0, 0] ++ [0, 0] ++ [2, 0] ++ List.replicate 12 0 ++ [224, 0] ++ List.replicate 2 0 ++
  [0x0b, 0x01] ++ List.replicate 58 0 ++ [0x88, 0x01, 0, 0] ++ List.replicate 28 0 ++ [16, 0, 0, 0] ++
  List.replicate 128 0 ++
  List.replicate 16 0 ++ [16, 0, 0, 0] ++ [0x88, 0x01, 0, 0] ++ List.replicate 16 0 ++
  List.replicate 16 0 ++ [16, 0, 0, 0] ++ [0x88, 0x01, 0, 0] ++ List.replicate 16 0

theorem optHdrWitness_readHeaders : readHeaders optHdrWitness = .panic "readOptHeader:buf[:2]" := by
  decide +kernel

theorem optHdrWitness_findSignatures : findSignatures optHdrWitness = .panic "readOptHeader:buf[:2]" := by
  decide +kernel

theorem alignWitness_readHeaders : readHeaders alignWitness = .panic "align32:divide-by-zero" := by
  decide +kernel

example : ReachesOptHeader optHdrWitness ∧ SizeOfOptionalHeader optHdrWitness < 2 :=
  (readHeaders_optHeader_panic_iff _).1 optHdrWitness_readHeaders
example : DigestPE optHdrWitness = .panic "readOptHeader:buf[:2]" :=
  (DigestPE_panic_iff_readHeaders _ _).2 optHdrWitness_readHeaders
example : locate optHdrWitness = .panic "readOptHeader:buf[:2]" :=
  (locate_panic_iff _ _).2 optHdrWitness_findSignatures
example : FindSigReachesOptHeader optHdrWitness :=
  ((findSignatures_panic_iff _ _).1 optHdrWitness_findSignatures).2.1
example : ReachesSections alignWitness ∧ FileAlignment alignWitness = 0 ∧
    AlignReached (SecTblEnd alignWitness)
      (rawSections alignWitness (hdrOff alignWitness + 24 + SizeOfOptionalHeader alignWitness)
        (NumberOfSections alignWitness)) :=
  (readHeaders_align_panic_iff _).1 alignWitness_readHeaders
example : DigestPE alignWitness = .panic "align32:divide-by-zero" :=
  (DigestPE_panic_iff_readHeaders _ _).2 alignWitness_readHeaders

-- header larger than a page: the slice `zeroPage[:needzero]` panics
example : pageHashInputs []
    { hashed := [], origSize := 0, certStart := 0, extents := [], hdrLen := 400,
      m := { peStart := 64, hdrOff := 64, soh := 224, dd4Start := 128, posDDCert := 216,
             secTblStart := 312, sizeOfHdr := 5000, pageSize := 4096, fileAlign := 512,
             certStart := 0, certSize := 0, nsec := 0 } } = none :=
  (pageHashInputs_none_iff _ _).2 (by decide)

end Relic.Props.C11
