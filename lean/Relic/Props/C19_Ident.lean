/-
  C19, last clause — "the identity fields written into a manifest (public-key token, publisher) are those of the signing
  key".  Model `Relic.Model.Ident` (lib/appmanifest/publictoken.go, signmanifest.go, verify.go; lib/x509tools/names.go,
  util.go), specification side `Relic.Spec.Ident`.  Hashing stays outside Lean: statements are about the byte string fed
  to SHA-1 and about the selection of digest bytes, for every 20-byte digest; `sha1` is a parameter elsewhere.
-/
import Relic.Proofs.IdentToken
import Relic.Proofs.IdentInj
import Relic.Proofs.IdentSign
import Relic.Proofs.IdentTotal
import Relic.Proofs.Der
namespace Relic.Props.C19
open Relic.Ident

/-- **token_is_spec.**  For every RSA key the byte string relic hashes is the strong-name `PublicKeyBlob` of the
    specification (SigAlgID, HashAlgID, cbPublicKey, CAPI PUBLICKEYBLOB of (e, n)), and for every 20-byte digest the token
    is the specification's selection (low 64 bits of the digest, most significant byte first). -/
theorem token_is_spec :
    (∀ n e, snkRsa n e = Spec.Ident.strongNameBlob n e) ∧
    (∀ d : Bytes, d.length = 20 → tokenSel d = .ok (Spec.Ident.tokenOfDigest d)) :=
  ⟨snkRsa_eq_spec, tokenSel_eq_spec⟩

/-- non-vacuity: the blob of the key (n = 0x0103, e = 65537), byte for byte -/
example : snkRsa 259 65537 =
    [0x00, 0x24, 0, 0, 0x04, 0x80, 0, 0, 22, 0, 0, 0, 0x06, 0x02, 0, 0, 0x00, 0x24, 0, 0, 0x52, 0x53, 0x41, 0x31, 16, 0, 0, 0,
     1, 0, 1, 0, 3, 1] := by
  have h : natLE 259 = [3, 1] := by
    rw [natLE_pos 259 (by decide), natLE_pos (259 / 256) (by decide)]
    have : 259 / 256 / 256 = 0 := by decide +kernel
    rw [this, natLE_zero]; decide
  simp only [snkRsa, bigIntToLE_eq, h]
  decide

example : tokenSel (List.range 20 |>.map UInt8.ofNat) = .ok [19, 18, 17, 16, 15, 14, 13, 12] := by decide +kernel

/-- whatever is handed over as a digest, a short one makes the loop panic (SHA-1 always gives 20 bytes) -/
theorem token_sel_short_panics (d : Bytes) (h : d.length < 20) :
    tokenSel d = .panic "publictoken.go:PublicKeyToken:sum[19-i]" := tokenSel_short d h

/-- **token_blob_injective.**  Different (n, e) give different blobs, so the token identifies the key up to SHA-1
    (exponent within the DWORD the format has for it; Go's crypto/rsa only works with e < 2^31). -/
theorem token_blob_injective (n e n' e' : Nat) (he : e < 2 ^ 32) (he' : e' < 2 ^ 32)
    (h : snkRsa n e = snkRsa n' e') : n = n' ∧ e = e' := by
  obtain ⟨p, hp, e1⟩ := snkRsa_split n e
  obtain ⟨p', hp', e2⟩ := snkRsa_split n' e'
  rw [e1, e2] at h
  have h1 := List.append_inj h (by rw [hp, hp'])
  have h2 := List.append_inj h1.2 (by simp)
  refine ⟨natLE_injective _ _ h2.2, ?_⟩
  have := congrArg leVal h2.1
  rwa [leVal_leBytes_of_lt 4 e (by simpa using he), leVal_leBytes_of_lt 4 e' (by simpa using he')] at this

example : (65537 : Nat) < 2 ^ 32 ∧ (3 : Nat) < 2 ^ 32 := by decide +kernel

def token_blob_injective_full : Prop := ∀ n e n' e', snkRsa n e = snkRsa n' e' → n = n' ∧ e = e'

/-- the exact exception: `uint32(k.E)` – exponents that differ by a multiple of 2^32 share a blob -/
theorem token_blob_injective_full_false : ¬ token_blob_injective_full := by
  intro h
  have := (h 1 1 1 (2 ^ 32 + 1) (by rw [snkRsa_exponent_mod 1 (2 ^ 32 + 1)])).2
  exact absurd this (by decide)

/-- non-RSA keys: for one curve the blob still determines the point (coordinates below 2^528) … -/
theorem ecdsa_blob_injective (m x y x' y' : Nat) (hx : x < 256 ^ 66) (hx' : x' < 256 ^ 66)
    (h : snkEcdsa m x y = snkEcdsa m x' y') : x = x' ∧ y = y' := by
  obtain ⟨p, hp, e1⟩ := snkEcdsa_split m x y
  obtain ⟨p', hp', e2⟩ := snkEcdsa_split m x' y'
  rw [e1, e2] at h
  have h1 := List.append_inj h (by rw [hp, hp'])
  have h2 := List.append_inj h1.2 (by simp)
  have l1 := natBE_length_le x 66 hx
  have l2 := natBE_length_le x' 66 hx'
  have hl : (natBE x).length = (natBE x').length := by
    have := congrArg leVal h2.1
    rwa [leVal_leBytes_of_lt 4 _ (by omega), leVal_leBytes_of_lt 4 _ (by omega)] at this
  have h3 := List.append_inj h2.2 hl
  exact ⟨natBE_injective _ _ h3.1, natBE_injective _ _ h3.2⟩

/-- … but it is no documented layout: coordinates are written at their minimal length and the size field counts
    `12 + 2·|X|` where `16 + |X| + |Y|` bytes follow (exact only if |X| = |Y| + 4) -/
theorem ecdsa_blob_size_field (m x y : Nat) :
    (snkEcdsa m x y).length = 12 + (16 + (natBE x).length + (natBE y).length) := by
  simp [snkEcdsa, snkHeader]; omega

/-- no key blob for a key that is neither RSA nor ECDSA, nor for the curve P-224 -/
theorem token_other_keys_refused : publicKeyToSnk .other = .err "unsupported-key" ∧
    publicKeyToSnk (.ec 224 1 1) = .err "unsupported-curve" := by decide +kernel

/-- **publisher_is_spec.**  On the decidable class `Spec.Ident.Agree` (every value a character string; no apostrophe
    in a value; no leading / trailing TAB, VT, FF, CR; attribute type none of UID, X21Address, dnQualifier) relic's
    MS-OSCO string is the documented `CertNameToStr(CERT_X500_NAME_STR | CERT_NAME_STR_REVERSE_FLAG)` string. -/
theorem publisher_is_spec (n : Name) (h : Spec.Ident.Agree n = true) :
    formatParsed .msosco n = Spec.Ident.certNameToStr n := formatParsed_msosco_eq_spec n h

def cn : List Nat := [2, 5, 4, 3]
def org : List Nat := [2, 5, 4, 10]
def country : List Nat := [2, 5, 4, 6]

/-- C=US, O=Acme #1 Widgets, CN=Demo Publisher (encoded order) -/
def demoName : Name :=
  [[⟨country, .str (ascii "US")⟩], [⟨org, .str (ascii "Acme #1 Widgets")⟩], [⟨cn, .str (ascii "Demo Publisher")⟩]]

example : Spec.Ident.Agree demoName = true := by decide +kernel

/-- '#' anywhere in a value forces quotes -/
example : formatParsed .msosco demoName = ascii "CN=Demo Publisher, O=\"Acme #1 Widgets\", C=US" := by decide +kernel

def publisher_is_spec_full : Prop :=
  ∀ n : Name, (∀ r ∈ n, ∀ a ∈ r, Spec.Ident.isStr a.val = true) → formatParsed .msosco n = Spec.Ident.certNameToStr n

/-- exact exceptions (1): an apostrophe makes relic quote, the documented rule does not -/
theorem publisher_ne_spec_apostrophe :
    formatParsed .msosco [[⟨org, .str (ascii "a'b")⟩]] = ascii "O=\"a'b\"" ∧
    Spec.Ident.certNameToStr [[⟨org, .str (ascii "a'b")⟩]] = ascii "O=a'b" := by decide +kernel

/-- (2): leading / trailing white space other than the space character -/
theorem publisher_ne_spec_edge_white :
    formatParsed .msosco [[⟨org, .str [9, 97]⟩]] = [79, 61, 9, 97] ∧
    Spec.Ident.certNameToStr [[⟨org, .str [9, 97]⟩]] = [79, 61, 34, 9, 97, 34] := by decide +kernel

/-- (3): key names – UID has a name only in relic's table, X21Address / dnQualifier only in the documented one -/
theorem publisher_ne_spec_key_name :
    (formatParsed .msosco [[⟨uid, .str [97]⟩]]).head? = some 85 ∧
    (Spec.Ident.certNameToStr [[⟨uid, .str [97]⟩]]).head? = some 79 ∧
    (formatParsed .msosco [[⟨Spec.Ident.dnqOid, .str [97]⟩]]).head? = some 79 ∧
    Spec.Ident.certNameToStr [[⟨Spec.Ident.dnqOid, .str [97]⟩]] = ascii "dnQualifier=a" ∧
    (formatParsed .msosco [[⟨Spec.Ident.x21Oid, .str [97]⟩]]).head? = some 79 ∧
    Spec.Ident.certNameToStr [[⟨Spec.Ident.x21Oid, .str [97]⟩]] = ascii "X21Address=a" := by decide +kernel

theorem publisher_is_spec_full_false : ¬ publisher_is_spec_full := by
  intro h
  have := h [[⟨org, .str (ascii "a'b")⟩]] (by decide)
  rw [publisher_ne_spec_apostrophe.1, publisher_ne_spec_apostrophe.2] at this
  exact absurd this (by decide)

/-- **dn_format_injective_partial.**  In the LDAP and the MS-OSCO style, two names whose RDNs are non-empty and whose
    values are character strings have the same string only if they are the same name (separators, quoting and
    attribute names never make two such names collide). -/
theorem dn_format_injective_partial (s : NameStyle) (hs : s = .ldap ∨ s = .msosco) (n n' : Name)
    (hn : InjClass n) (hn' : InjClass n') (h : formatParsed s n = formatParsed s n') : n = n' :=
  formatParsed_injective s hs n n' hn hn' h

example : InjClass demoName := by
  intro r hr
  simp only [demoName, List.mem_cons, List.not_mem_nil, or_false] at hr
  rcases hr with h | h | h <;> subst h <;> exact ⟨by simp, by intro a ha; simp at ha; subst ha; exact ⟨_, rfl⟩⟩

def dn_format_injective_full : Prop :=
  ∀ (s : NameStyle) (n n' : Name), formatParsed s n = formatParsed s n' → n = n'

/-- exact collisions outside the class (1): an empty SET is invisible -/
theorem dn_format_collision_empty_rdn : formatParsed .msosco [] = formatParsed .msosco [[]] ∧ ([] : Name) ≠ [[]] := by decide +kernel

/-- (2): values that are not character strings all print as `<invalid>` -/
theorem dn_format_collision_nonstring :
    formatParsed .ldap [[⟨cn, .other⟩]] = ascii "CN=<invalid>" ∧
    (⟨cn, .other⟩ : ATV) ≠ ⟨cn, .str (ascii "<invalid>")⟩ ∧
    formatParsed .ldap [[⟨cn, .str (ascii "<invalid>")⟩]] = ascii "CN=\"<invalid>\"" := by decide +kernel

/-- (3): the OpenSSL style (audit attribute `client.dn`) escapes '/' but not the backslash, and flattens
    multi-valued RDNs: distinct subjects with the same string -/
theorem openssl_style_not_injective :
    formatParsed .openssl [[⟨cn, .str (ascii "a/CN=b")⟩]] = formatParsed .openssl [[⟨cn, .str (ascii "a\\")⟩], [⟨cn, .str (ascii "b")⟩]] ∧
    formatParsed .openssl [[⟨cn, .str [97]⟩, ⟨cn, .str [98]⟩]] = formatParsed .openssl [[⟨cn, .str [97]⟩], [⟨cn, .str [98]⟩]] := by
  decide +kernel

theorem dn_format_injective_full_false : ¬ dn_format_injective_full := by
  intro h
  exact dn_format_collision_empty_rdn.2 (h .msosco [] [[]] dn_format_collision_empty_rdn.1)

/-- `FormatPkixName` has an answer for every byte string: never a panic, never a loop
    (`err` only for inputs outside the model: a time value or a multi-byte tag in the value position) -/
theorem format_total (style : NameStyle) (der : Bytes) : safe (formatPkixName style der) = true :=
  formatPkixName_safe style der

/-- the DER `30 0c 31 0a 30 08 06 03 55 04 03 0c 01 61` is read as CN=a and printed in the three styles -/
def derCNa : Bytes := [0x30, 0x0c, 0x31, 0x0a, 0x30, 0x08, 0x06, 0x03, 0x55, 0x04, 0x03, 0x0c, 0x01, 0x61]

/-- `Der.splitTLVs` is defined by well-founded recursion and does not reduce, so `decide` cannot evaluate `parseName` on a
    closed term: the two `splitTLVs` calls are rewritten with `splitTLVs_cons`/`_nil`, the rest is evaluated -/
theorem parse_example : parseName derCNa = .ok [[⟨cn, .str [97]⟩]] := by
  have e1 : derCNa = Der.tlv 0x30 (Der.tlv 0x31 (Der.tlv 0x30 (Der.tlv 0x06 [0x55, 0x04, 0x03] ++ Der.tlv 0x0c [0x61]))) ++ [] := by
    decide +kernel
  have u1 := Der.untlv_tlv 0x30 (Der.tlv 0x31 (Der.tlv 0x30 (Der.tlv 0x06 [0x55, 0x04, 0x03] ++ Der.tlv 0x0c [0x61]))) []
    (by decide) (by decide)
  have s1 : Der.splitTLVs (Der.tlv 0x31 (Der.tlv 0x30 (Der.tlv 0x06 [0x55, 0x04, 0x03] ++ Der.tlv 0x0c [0x61])) ++ []) =
      .ok [⟨Der.tlv 0x31 (Der.tlv 0x30 (Der.tlv 0x06 [0x55, 0x04, 0x03] ++ Der.tlv 0x0c [0x61])), 0x31,
        Der.tlv 0x30 (Der.tlv 0x06 [0x55, 0x04, 0x03] ++ Der.tlv 0x0c [0x61])⟩] := by
    rw [Der.splitTLVs_cons _ _ _ (by decide) (by decide), Der.splitTLVs_nil]
  have s2 : Der.splitTLVs (Der.tlv 0x30 (Der.tlv 0x06 [0x55, 0x04, 0x03] ++ Der.tlv 0x0c [0x61]) ++ []) =
      .ok [⟨Der.tlv 0x30 (Der.tlv 0x06 [0x55, 0x04, 0x03] ++ Der.tlv 0x0c [0x61]), 0x30,
        Der.tlv 0x06 [0x55, 0x04, 0x03] ++ Der.tlv 0x0c [0x61]⟩] := by
    rw [Der.splitTLVs_cons _ _ _ (by decide) (by decide), Der.splitTLVs_nil]
  have a1 : parseATV (Der.tlv 0x06 [0x55, 0x04, 0x03] ++ Der.tlv 0x0c [0x61]) = .ok ⟨cn, .str [97]⟩ := by decide +kernel
  rw [e1]
  simp only [parseName, u1, liftTLV]
  simp only [List.append_nil] at s1 s2
  simp only [parseElems, s1, s2, liftTLV, parseEach, a1]
  decide

theorem format_demo : formatPkixName .msosco derCNa = .ok (ascii "CN=a") := by
  simp only [formatPkixName, parse_example]; decide

example : formatPkixName .msosco derCNa = .ok (ascii "CN=a") := format_demo

/-- **identity_fields_are_signers.**  When `Sign` succeeds, the manifest carries exactly one top-level
    `publisherIdentity`, whose name and issuerKeyHash are those derived from the signing certificate, the licence names the
    same subject, every other part of the manifest is untouched; the unprefixed `publicKeyToken` attribute of
    `assemblyIdentity` – the one `Sign` reports, audits and `Verify` reads – is the signing key's token whatever else the
    element carries, all other attributes keep their values; and signing again with any other certificate gives exactly
    what signing the original with that certificate gives. -/
theorem identity_fields_are_signers {α} (sha1 : Bytes → Bytes) (m m' : Manifest α) (c : Loaded)
    (h : signIdent sha1 m c = .ok m') :
    ∃ id attrs, identOf sha1 c = .ok id ∧ m.asi = some attrs ∧
      m'.publishers = [(id.name, id.issuerKeyHash)] ∧ m'.licSubject = some id.name ∧ m'.others = m.others ∧
      m'.asi.map (attrValue "publicKeyToken") = some id.token ∧
      (∀ k, k ≠ "publicKeyToken" → m'.asi.map (attrValue k) = some (attrValue k attrs)) ∧
      (∀ c2, signIdent sha1 m' c2 = signIdent sha1 m c2) := by
  obtain ⟨id, attrs, hid, ha, hm⟩ := signIdent_inv sha1 m m' c h
  refine ⟨id, attrs, hid, ha, ?_, ?_, ?_, ?_, ?_, ?_⟩
  · rw [hm]
  · rw [hm]
  · rw [hm]
  · rw [hm]; simp [attrValue_createAttr]
  · intro k hk; rw [hm]; simp [attrValue_createAttr_other _ _ _ _ hk]
  · intro c2; exact signIdent_resign sha1 m m' c c2 h

/-- … where the derived identity is: token = hex of the selected bytes of SHA-1 over the key blob; issuerKeyHash = hex
    of SHA-1 over the subjectPublicKey bits of the first loaded certificate whose subject equals the leaf's issuer;
    name = the MS-OSCO string of the leaf's subject -/
theorem identity_is_derived_from_certificate (sha1 : Bytes → Bytes) (c : Loaded) (id : Ident) (h : identOf sha1 c = .ok id) :
    ∃ snk t iss s n, publicKeyToSnk c.leaf.key = .ok snk ∧ tokenSel (sha1 snk) = .ok t ∧ id.token = hexStr t ∧
      issuerCert c = some iss ∧ skidStream iss.key = .ok s ∧ id.issuerKeyHash = hexStr (sha1 s) ∧
      formatPkixName .msosco c.leaf.subject = .ok n ∧ id.name = bytesToString n := by
  obtain ⟨ht, iss, s, n, h1, h2, h3, h4, h5⟩ := identOf_inv sha1 c id h
  obtain ⟨snk, t, hs, hsel, e⟩ := (publicKeyToken_ok sha1 _ _).mp ht
  exact ⟨snk, t, iss, s, n, hs, hsel, e, h1, h2, h3, h4, h5⟩

/-- non-vacuity: a self-signed P-256 certificate with subject CN=a, a hash that answers twenty 7s, a manifest with a
    stale token, a shadowing prefixed attribute and two stale publishers: `Sign` succeeds -/
def demoCert : Loaded := ⟨⟨.ec 256 1 2, derCNa, derCNa⟩, [⟨derCNa, derCNa, .ec 256 1 2, true⟩]⟩
def demoManifest : Manifest Unit :=
  ⟨some [⟨"", "name", "App.exe"⟩, ⟨"q", "publicKeyToken", "shadow"⟩, ⟨"", "publicKeyToken", "0000000000000000"⟩],
   [("CN=Old", "00"), ("CN=Older", "01")], none, ()⟩

def demoHash : Bytes → Bytes := fun _ => List.replicate 20 7

theorem demo_token : publicKeyToken demoHash demoCert.leaf.key = .ok (hexStr (List.replicate 8 7)) := by
  have t : ∀ b : Bytes, tokenSel (demoHash b) = .ok (List.replicate 8 7) := by
    intro b; show tokenSel (List.replicate 20 7) = _; decide
  simp [publicKeyToken, demoCert, publicKeyToSnk, ecMagic, t]

theorem demo_publisher :
    publisherIdentity demoHash demoCert = .ok (bytesToString (ascii "CN=a"), hexStr (List.replicate 20 7)) := by
  simp [publisherIdentity, issuerOf, issuerCert, demoCert, skidStream, ecMagic, format_demo, demoHash]

example : ∃ m', signIdent demoHash demoManifest demoCert = .ok m' := by
  rw [signIdent_eq, demo_token, demo_publisher]
  exact ⟨_, rfl⟩

/-- before the repair `Sign` and `Verify` looked the token up by local name (`SelectAttrValue`): a namespace-prefixed
    attribute of the same local name that comes first shadowed the token just written -/
theorem identity_token_prefixed_exception_orig :
    attrValueOrig "publicKeyToken" (createAttr "publicKeyToken" "0123456789abcdef" [⟨"q", "publicKeyToken", "x"⟩]) = "x" ∧
    attrValue "publicKeyToken" (createAttr "publicKeyToken" "0123456789abcdef" [⟨"q", "publicKeyToken", "x"⟩]) = "0123456789abcdef" ∧
    ¬ NoPrefixedBefore "publicKeyToken" [⟨"q", "publicKeyToken", "x"⟩] := by decide +kernel

/-- **verify_accepts_signed.**  The identity comparisons of the repaired `Verify` accept what `Sign` wrote (`Sign` puts
    `Chain()` into the licence signature), for every manifest and every certificate for which `Issuer()` and `Chain()`
    agree: the certificate whose key hash was written is carried, or no certificate named like the issuer is carried
    (then the field is not judged).  (Both XML signatures are C19's other clauses.  What the XML writer does to a name
    it cannot carry is `verify_rejects_rewritten_name`.) -/
theorem verify_accepts_signed {α} (sha1 : Bytes → Bytes) (m m' : Manifest α) (c : Loaded)
    (h : signIdent sha1 m c = .ok m') (hc : IssuerAgrees c) : verifyIdent sha1 m' c.leaf.key (chainOf c) = .ok () :=
  verifyIdent_signed sha1 m m' c h hc

theorem demo_agrees : IssuerAgrees demoCert := by
  intro iss h
  left
  exact ⟨⟨derCNa, derCNa, .ec 256 1 2, true⟩, by simp [chainOf, demoCert], rfl, by
    have : issuerCert demoCert = some ⟨derCNa, derCNa, .ec 256 1 2, true⟩ := by decide +kernel
    rw [this] at h; cases h; rfl⟩

example : verifyIdent demoHash
    ⟨some [⟨"", "publicKeyToken", hexStr (List.replicate 8 7)⟩], [(bytesToString (ascii "CN=a"), hexStr (List.replicate 20 7))],
     some (bytesToString (ascii "CN=a")), ()⟩ demoCert.leaf.key (chainOf demoCert) = .ok () := by
  have h : signIdent demoHash (⟨some [], [], none, ()⟩ : Manifest Unit) demoCert = .ok
      ⟨some [⟨"", "publicKeyToken", hexStr (List.replicate 8 7)⟩], [(bytesToString (ascii "CN=a"), hexStr (List.replicate 20 7))],
       some (bytesToString (ascii "CN=a")), ()⟩ := by
    rw [signIdent_eq, demo_token, demo_publisher]; rfl
  exact verify_accepts_signed demoHash _ _ demoCert h demo_agrees

/-- the usual layouts agree: a CA-issued leaf whose (self-signed) CA `Chain()` leaves out – nothing named like the issuer
    is carried – and the same with an intermediate that is carried -/
example : IssuerAgrees ⟨⟨.ec 256 1 2, [1], [2]⟩, [⟨[1], [2], .ec 256 1 2, true⟩, ⟨[2], [2], .ec 256 3 4, false⟩]⟩ := by
  intro iss _
  right
  intro y hy
  simp [chainOf, chainRest] at hy
  subst hy; decide

/-- the exact exception: `Issuer()` picks the first certificate named like the issuer (here a self-signed one that
    `Chain()` leaves out), `Chain()` carries another certificate of that name with another key – relic's `Verify` then
    refuses relic's own manifest -/
theorem verify_accepts_signed_needs_agreement :
    ¬ IssuerAgrees ⟨⟨.ec 256 1 2, [1], [2]⟩,
      [⟨[1], [2], .ec 256 1 2, true⟩, ⟨[2], [2], .ec 256 3 4, false⟩, ⟨[2], [9], .ec 256 5 6, false⟩]⟩ := by
  intro h
  have := h ⟨[2], [2], .ec 256 3 4, false⟩ (by decide)
  rcases this with ⟨y, hy, _, hk⟩ | hn
  · simp [chainOf, chainRest] at hy
    rcases hy with hy | hy <;> subst hy <;> simp at hk
  · exact hn ⟨[2], [9], .ec 256 5 6, false⟩ (by simp [chainOf, chainRest]) rfl

/-- **verify_checks_identity.**  Whatever manifest and whatever certificates a signature carries: if the repaired
    `Verify` accepts under key `k`, then the unprefixed `publicKeyToken` is the token of `k`, there is exactly one
    `publisherIdentity`, its name (and the licence's X509SubjectName) is the MS-OSCO string of the subject of the signing
    certificate (the first carried certificate with key `k`), and – if the signature carries a certificate named like that
    certificate's issuer – its issuerKeyHash is the key hash of such a carried certificate. -/
theorem verify_checks_identity {α} (sha1 : Bytes → Bytes) (m : Manifest α) (k : PubKey) (carried : List LCert)
    (h : verifyIdent sha1 m k carried = .ok ()) :
    ∃ attrs token leaf n ikh,
      m.asi = some attrs ∧ publicKeyToken sha1 k = .ok token ∧ attrValue "publicKeyToken" attrs = token ∧
      carried.find? (fun c => c.key = k) = some leaf ∧ formatPkixName .msosco leaf.subject = .ok n ∧
      m.publishers = [(bytesToString n, ikh)] ∧ m.licSubject = some (bytesToString n) ∧
      ((∃ x ∈ carried, x.subject = leaf.issuer) →
        ∃ cand s, cand ∈ carried ∧ cand.subject = leaf.issuer ∧ skidStream cand.key = .ok s ∧ ikh = hexStr (sha1 s)) := by
  obtain ⟨attrs, leaf, ha, ht, hl, hc⟩ := (verifyIdent_ok sha1 m k carried).mp h
  obtain ⟨n, ikh, hf, hp, hs, hi⟩ := (checkPublisher_ok sha1 m leaf carried).mp hc
  refine ⟨attrs, _, leaf, n, ikh, ha, ht, rfl, hl, hf, hp, hs, ?_⟩
  rintro ⟨x, hx, hxs⟩
  rcases hi with hemp | hany
  · have : x ∈ carried.filter (fun c => c.subject = leaf.issuer) := List.mem_filter.mpr ⟨hx, by simpa using hxs⟩
    rw [List.isEmpty_iff.mp hemp] at this
    cases this
  · obtain ⟨cand, hc, hm⟩ := List.any_eq_true.mp hany
    have hc2 := List.mem_filter.mp hc
    obtain ⟨s, hs, hm⟩ := (issuerHashMatches_iff _ _ _).mp hm
    exact ⟨cand, s, hc2.1, by simpa using hc2.2, hs, hm.symm⟩

/-- full strength would be: an accepted manifest carries the issuerKeyHash `Sign` would have written for the signer's
    certificate, whatever the signature carries -/
def verify_checks_identity_full : Prop :=
  ∀ (sha1 : Bytes → Bytes) (m : Manifest Unit) (c : Loaded) (id : Ident) (carried : List LCert),
    identOf sha1 c = .ok id → carried.find? (fun x => x.key = c.leaf.key) = some ⟨c.leaf.subject, c.leaf.issuer, c.leaf.key, true⟩ →
    verifyIdent sha1 m c.leaf.key carried = .ok () → m.publishers = [(id.name, id.issuerKeyHash)]

/-- **remaining gap (F-ident-verify-publisher-issuer).**  When the signature carries no certificate named like the
    signing certificate's issuer, the issuerKeyHash cannot be judged and any value is accepted. -/
theorem verify_accepts_foreign_issuer_hash :
    verifyIdent demoHash
      (⟨some [⟨"", "publicKeyToken", hexStr (List.replicate 8 7)⟩], [(bytesToString (ascii "CN=a"), "abab")],
        some (bytesToString (ascii "CN=a")), ()⟩ : Manifest Unit)
      (.ec 256 1 2) [⟨derCNa, [0x30, 0], .ec 256 1 2, true⟩] = .ok () := by
  have t := demo_token
  simp only [demoCert] at t
  simp [verifyIdent, t, attrValue, checkPublisher, format_demo]
  decide

/-- a certificate like `demoCert` but issued by a CA (subject `30 00`) that is loaded and whose key hash `Sign` writes -/
def caIssued : Loaded :=
  ⟨⟨.ec 256 1 2, derCNa, [0x30, 0]⟩, [⟨derCNa, [0x30, 0], .ec 256 1 2, true⟩, ⟨[0x30, 0], [0x30, 0], .ec 256 3 4, false⟩]⟩

theorem verify_checks_identity_full_false : ¬ verify_checks_identity_full := by
  intro h
  have t : publicKeyToken demoHash caIssued.leaf.key = .ok (hexStr (List.replicate 8 7)) := demo_token
  have hid : identOf demoHash caIssued =
      .ok ⟨hexStr (List.replicate 8 7), bytesToString (ascii "CN=a"), hexStr (List.replicate 20 7)⟩ := by
    have hp : publisherIdentity demoHash caIssued = .ok (bytesToString (ascii "CN=a"), hexStr (List.replicate 20 7)) := by
      simp [publisherIdentity, issuerOf, issuerCert, caIssued, skidStream, ecMagic, format_demo, demoHash]
      decide
    simp [identOf, t, hp]
  have := h demoHash _ caIssued _ [⟨derCNa, [0x30, 0], .ec 256 1 2, true⟩] hid (by decide) verify_accepts_foreign_issuer_hash
  simp at this
  exact absurd this (by decide)

/-- a publisher name other than the one recomputed from the certificate is refused (this is also what happens to relic's
    own output when the XML writer had to replace a character of the name: F-ident-t61-bytes) -/
theorem verify_rejects_rewritten_name {α} (sha1 : Bytes → Bytes) (m : Manifest α) (k : PubKey) (carried : List LCert)
    (attrs : List XAttr) (token : String) (leaf : LCert) (n : Bytes) (name ikh : String)
    (ha : m.asi = some attrs) (ht : publicKeyToken sha1 k = .ok token) (htok : attrValue "publicKeyToken" attrs = token)
    (hl : carried.find? (fun c => c.key = k) = some leaf) (hf : formatPkixName .msosco leaf.subject = .ok n)
    (hp : m.publishers = [(name, ikh)]) (hne : name ≠ bytesToString n) :
    verifyIdent sha1 m k carried = .err "publisher-name-mismatch" := by
  simp [verifyIdent, ha, ht, htok, hl, checkPublisher, hp, hf, hne]

/-- a foreign issuerKeyHash is refused as soon as a certificate named like the issuer is carried -/
example : verifyIdent demoHash
      (⟨some [⟨"", "publicKeyToken", hexStr (List.replicate 8 7)⟩], [(bytesToString (ascii "CN=a"), "abab")],
        some (bytesToString (ascii "CN=a")), ()⟩ : Manifest Unit)
      (.ec 256 1 2) (chainOf demoCert) = .err "publisher-ikh-mismatch" := by
  have t := demo_token
  simp only [demoCert] at t
  simp [verifyIdent, t, attrValue, checkPublisher, format_demo, chainOf, chainRest, demoCert, issuerHashMatches, skidStream,
    ecMagic, demoHash]
  decide

/-- **stated gap of the original.**  The original `Verify` compared the token with the key of the signature and nothing
    else: whatever the `publisherIdentity` elements and the licence said (or if there was none), the outcome was the same. -/
theorem verify_ignores_publisher_orig {α} (sha1 : Bytes → Bytes) (m : Manifest α) (pubs : List (String × String))
    (lic : Option String) (k : PubKey) :
    verifyIdentOrig sha1 { m with publishers := pubs, licSubject := lic } k = verifyIdentOrig sha1 m k := by
  simp [verifyIdentOrig]

def verify_checks_identity_orig : Prop :=
  ∀ (sha1 : Bytes → Bytes) (m : Manifest Unit) (c : Loaded) (id : Ident),
    identOf sha1 c = .ok id → verifyIdentOrig sha1 m c.leaf.key = .ok () → m.publishers = [(id.name, id.issuerKeyHash)]

theorem verify_checks_identity_orig_false : ¬ verify_checks_identity_orig := by
  intro h
  have hid : identOf demoHash demoCert =
      .ok ⟨hexStr (List.replicate 8 7), bytesToString (ascii "CN=a"), hexStr (List.replicate 20 7)⟩ := by
    simp [identOf, demo_token, demo_publisher]
  have hv : verifyIdentOrig demoHash (⟨some [⟨"", "publicKeyToken", hexStr (List.replicate 8 7)⟩], [], none, ()⟩ : Manifest Unit)
      demoCert.leaf.key = .ok () := by
    simp [verifyIdentOrig, demo_token, attrValueOrig]
  have := h demoHash _ demoCert _ hid hv
  simp at this

/-- … and the same manifest is refused by the repaired comparison -/
example : verifyIdent demoHash (⟨some [⟨"", "publicKeyToken", hexStr (List.replicate 8 7)⟩], [], none, ()⟩ : Manifest Unit)
    demoCert.leaf.key (chainOf demoCert) = .err "publisher-missing" := by
  simp [verifyIdent, demo_token, attrValue, chainOf_find_leaf, checkPublisher]

/-- RSA exponents of 31 bits: accepted by crypto/rsa and written by `xmldsig.Sign`, refused by the original
    `xmldsig.parseKey` … -/
theorem rsa_exponent_gap_orig : rsaUsable (.rsa 35 (2 ^ 31 - 1)) = true ∧ xmlKeyValueOkOrig (.rsa 35 (2 ^ 31 - 1)) = false := by
  decide +kernel

/-- … the repaired one accepts every exponent crypto/rsa can sign with -/
theorem rsa_exponent_no_gap (k : PubKey) (h : rsaUsable k = true) : xmlKeyValueOk k = true :=
  xmlKeyValueOk_of_rsaUsable k h

example : rsaUsable (.rsa 35 (2 ^ 31 - 1)) = true := by decide +kernel

end Relic.Props.C19
