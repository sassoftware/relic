/-
  C01 — Every signature relic produces verifies.   Apple disk image, the end-to-end statement through the superblob:
  `dmg_sign_then_verify_full` (Props/C01_Dmg.lean) proved.  The composition is
    container layer   C01.dmg_sign_then_verify           (`verify (written …) = verifyBlob blob rep stream`)
    superblob         CodeDir.parseSuper_marshal          (`parseSuper ∘ marshalSuperBlob`: every item found where it was written)
    code directory    CodeDir.parse_newCodeDirectory      (`parseCodeDirectory ∘ newCodeDirectory`: slots, page size, code limit)
    signature         CodeDir.parseSignature_own          (one directory of type 0, the hashed items byte for byte, a CMS item)
    verifier          Dmg.verifyBlob_own                  (every special-slot comparison and the single page comparison hold)
-/
import Relic.Props.C01_Dmg
import Relic.Proofs.DmgFull
namespace Relic.Props.C01
open Relic.Dmg Relic.CodeDir

/-- **dmg_sign_then_verify_end_to_end** = `dmg_sign_then_verify_full`.  For every hash function `H` with values of the size the
    code directory advertises, every trailer/image pair `dmg.Sign` accepts, every signing parameter set and every CMS blob of
    more than 8 bytes, as long as the embedded signature stays below the verifier's 10 MB limit: `dmg.Open` + `Verify` on the
    written image yields a plan whose final verdict is `ok` and in which every comparison `H(stream) = expected slot`
    holds — the rep-specific slot −6 over the re-serialised trailer, the requirement / entitlement slots over the items
    found in the blob, and the single code slot over `image[0 : XMLOffset+XMLLength]`. -/
theorem dmg_sign_then_verify_end_to_end : dmg_sign_then_verify_full := by
  intro H t f p so cms hH hcms hsign blob hmax
  obtain ⟨p', hplan, hsb, hfit, hhash, hrep⟩ := Dmg.sign_inv t f p so hsign
  have hH' : ∀ x, (H x).length = hashSizeOf p'.hash := by rw [hhash]; exact hH
  have hblob : blob = render H (hashSizeOf p'.hash) (superblob (hashSizeOf p'.hash) so.signed cms) := by rw [hhash]
  have h32 : blob.length < 2 ^ 32 := by have : maxSig = 10000000 := rfl; omega
  -- the blob is not empty: it starts with a 12-byte header
  have hne : blob ≠ [] := by
    intro h0
    have := render_marshal H (hashSizeOf p.hash) 0xfade0cc0
      ([⟨0xfade0c02, 0, so.signed.cd⟩] ++ so.signed.hashed ++ [newSuperItem 0xfade0b01 cms])
    have hl := congrArg List.length this
    simp only [List.length_append, beBytes_length] at hl
    have : blob.length = 0 := by rw [h0]; rfl
    have hb : blob = render H (hashSizeOf p.hash) (marshalSuperBlob (hashSizeOf p.hash) 0xfade0cc0
      ([⟨0xfade0c02, 0, so.signed.cd⟩] ++ so.signed.hashed ++ [newSuperItem 0xfade0b01 cms])) := rfl
    rw [hb] at this
    omega
  obtain ⟨_, hv, hlen⟩ := dmg_sign_then_verify t f so.plan blob false hplan hfit hne hmax
  have hlim : so.plan.stream.length < 2 ^ 63 := by
    have := planOrig_bundle_lt t f so.plan (plan_ok t f so.plan hplan).1
    omega
  rw [hblob] at h32
  obtain ⟨vp, hvb, hfin, hchk⟩ := verifyBlob_own H p' so.plan.stream so.signed cms so.plan.rep hH' hcms hsb hrep hlim h32
  refine ⟨vp, ?_, hfin, hchk⟩
  rw [hv, hblob]
  exact hvb

def sampleParams : SignParams :=
  { hash := 5, flags := 0, ident := [97], team := [], execBase := 0, execLimit := 0, execFlags := 0, requirements := none,
    entitlement := some [1, 2, 3], entitlementDER := none, infoPlist := none, resources := none, repSpecific := none }

set_option maxRecDepth 100000 in
example : (Dmg.sign (sampleKoly 3 5 0 0).enc sampleImage sampleParams).isOk = true := by decide +kernel

/-- the stand-in `H x = 32 copies of (length of x mod 256)` has the advertised size -/
example : ∀ x : Bytes, ((fun s : Bytes => List.replicate 32 (UInt8.ofNat s.length)) x).length = hashSizeOf sampleParams.hash := by
  intro x; simp [sampleParams, hashSizeOf]

def sampleH : Bytes → Bytes := fun s => List.replicate 32 (UInt8.ofNat s.length)

set_option maxRecDepth 100000 in
/-- the theorem applied: the sample image signed with SHA-256 parameters, a 9-byte CMS blob and the stand-in hash function,
    written and verified, every comparison holding -/
example : ∃ so vp, Dmg.sign (sampleKoly 3 5 0 0).enc sampleImage sampleParams = .ok so ∧
    verify (written sampleImage so.plan (render sampleH 32 (superblob 32 so.signed (List.replicate 9 7)))) false = .ok vp ∧
    vp.final = .ok () ∧ ∀ c ∈ vp.checks, sampleH c.stream = c.expected := by
  have hb : (match Dmg.sign (sampleKoly 3 5 0 0).enc sampleImage sampleParams with
      | .ok so => decide ((render sampleH 32 (superblob 32 so.signed (List.replicate 9 7))).length ≤ maxSig)
      | _ => false) = true := by decide +kernel
  cases hs : Dmg.sign (sampleKoly 3 5 0 0).enc sampleImage sampleParams with
  | ok so =>
    rw [hs] at hb
    simp only [decide_eq_true_eq] at hb
    obtain ⟨vp, a, b, c⟩ := dmg_sign_then_verify_end_to_end sampleH _ _ sampleParams so (List.replicate 9 7)
      (by intro x; simp [sampleH, sampleParams, hashSizeOf]) (by decide +kernel) hs hb
    exact ⟨so, vp, rfl, a, b, c⟩
  | err x => rw [hs] at hb; cases hb
  | panic x => rw [hs] at hb; cases hb
  | diverge => rw [hs] at hb; cases hb

end Relic.Props.C01
