/-
  C06 — the audit record names what was signed.   RPM part: the attributes rpm.nevra / rpm.md5 / rpm.sha1 (model `Relic.Model.Rpm`).
-/
import Relic.Props.C01_Rpm
import Relic.Props.C03_Rpm
namespace Relic.Props.C06
open Relic.Rpm

/-- **rpm_audit_nevra_of_stream.** `rpm.nevra` is computed from the general header of the stream that was signed (the header whose
    bytes both packets cover). -/
theorem rpm_audit_nevra_of_stream (H : Nat → Bytes → Bytes) (mk : Bool → Bytes → Bytes) (f : Bytes) (o : SignOut)
    (hs : sign H mk f = .ok o) : ∃ p, readBoth H f = .ok p ∧ nevraOf p.gen.ents = .ok o.nevra ∧
      get tagRSA (withReserved (signedSig mk p)) = some ⟨7, (mk true p.gen.orig).length, mk true p.gen.orig⟩ := by
  obtain ⟨p, hp, _, _, _, hn⟩ := C03.rpm_sign_ok H mk f o hs
  exact ⟨p, hp, hn, (C01.rpm_signed_slots mk p).1⟩

/-- **rpm_audit_md5_unverified** (finding F-RPM-5).  When the general header carries a payload digest the library never looks at
    SIG_MD5: `digestPayload` gives the same verdict for every signature header — yet `sign` copies that tag into `rpm.md5`. -/
theorem rpm_audit_md5_unverified (H : Nat → Bytes → Bytes) (sig sig' : EMap) (gen : Hdr) (pl d : Bytes) (a : Nat)
    (hpd : payloadDigest gen.ents = .ok (some (d, a))) : digestPayload H sig gen pl = digestPayload H sig' gen pl := by
  unfold digestPayload
  rw [hpd]

example : payloadDigest [(5092, ⟨8, 1, [97, 0]⟩), (5093, ⟨4, 1, [0, 0, 0, 8]⟩)] = .ok (some ([97], 8)) := by decide +kernel

/-- likewise SIG_SHA1 is not compared when a non-empty SIG_SHA256 is present (`getHashAndType` prefers it) -/
theorem rpm_audit_sha1_unverified (m : EMap) (h : Bytes) (hne : h ≠ []) (h256 : getSha m tagSHA256 = .ok h) :
    headerCheck m = .ok (if h.length > 1 then some (8, h) else none) := by
  unfold headerCheck
  rw [h256]
  simp [hne]

end Relic.Props.C06
