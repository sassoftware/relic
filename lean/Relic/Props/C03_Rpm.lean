/-
  C03 — Signing never corrupts or alters the payload.   RPM part (model `Relic.Model.Rpm`).
  The signer emits ONE patch: `[0, OriginalSignatureHeaderSize())` is replaced by lead ++ the re-written signature header.
-/
import Relic.Proofs.Rpm
import Relic.Props.C12
namespace Relic.Props.C03
open Relic.Rpm

theorem rpm_sign_ok (H : Nat → Bytes → Bytes) (mk : Bool → Bytes → Bytes) (f : Bytes) (o : SignOut)
    (hs : sign H mk f = .ok o) :
    ∃ p, readBoth H f = .ok p ∧ digestPayload H p.sig.ents p.gen p.payload = .ok () ∧ o.old = sigAreaLen p ∧
      o.blob = dumpSig p.lead (signedSig mk p) ∧ nevraOf p.gen.ents = .ok o.nevra := by
  obtain ⟨p, h1, h2, h3, h4, h5⟩ := signWith_ok nevraOf H mk f o ((recovered_eq_ok _ o).mp hs)
  exact ⟨p, h1, h2, h4, h5, h3⟩

/-- **rpm_patch_is_signature_area.** The range the patch replaces is exactly the lead plus the signature header as it was read,
    its padding to 8 included: the first byte behind it is the first byte of the general header. -/
theorem rpm_patch_is_signature_area (H : Nat → Bytes → Bytes) (mk : Bool → Bytes → Bytes) (f : Bytes) (o : SignOut)
    (hs : sign H mk f = .ok o) :
    ∃ p, readBoth H f = .ok p ∧ f.take o.old = p.lead ++ p.sig.orig ∧ f.drop o.old = p.gen.orig ++ p.payload ∧
      o.old = 96 + p.sig.orig.length ∧ o.old ≤ f.length := by
  obtain ⟨p, hp, _, ho, _, _⟩ := rpm_sign_ok H mk f o hs
  obtain ⟨hl, h96, _⟩ := readBoth_layout H f p hp
  have hlen : (p.lead ++ p.sig.orig).length = o.old := by
    rw [ho]; simp [sigAreaLen, h96]
  have hf : f = (p.lead ++ p.sig.orig) ++ (p.gen.orig ++ p.payload) := by
    rw [hl]; simp [List.append_assoc]
  refine ⟨p, hp, ?_, ?_, ?_, ?_⟩
  · rw [← hlen]; conv => lhs; rw [hf]
    exact List.take_left
  · rw [← hlen]; conv => lhs; rw [hf]
    exact List.drop_left
  · rw [ho]; rfl
  · rw [← hlen]; conv => rhs; rw [hf]
    simp

/-- **rpm_patch_constructible.** The patch lies inside the file, so C12's exactness theorems apply: whatever strategy `Apply`
    picks, the file written is `signedFile f o` = new lead + signature header followed by the untouched rest. -/
theorem rpm_patch_constructible (H : Nat → Bytes → Bytes) (mk : Bool → Bytes → Bytes) (f : Bytes) (o : SignOut)
    (hs : sign H mk f = .ok o) :
    C12.Constructible f.length [⟨0, o.old, o.blob⟩] ∧ applyPatch f o = .ok (signedFile f o) := by
  obtain ⟨p, _, _, _, _, hle⟩ := rpm_patch_is_signature_area H mk f o hs
  have hc : C12.Constructible f.length [⟨0, o.old, o.blob⟩] := by
    simp [C12.Constructible, Binpatch.wfFrom]; exact hle
  refine ⟨hc, ?_⟩
  unfold applyPatch
  rw [C12.add_spec 4294967295 f _ hc]
  simp [Binpatch.sem, signedFile, splice]

/-- **rpm_payload_preserved.** Every byte from the start of the general header on is unchanged and in place: the output is the
    new signature area followed by exactly the general header and the payload of the input. -/
theorem rpm_payload_preserved (H : Nat → Bytes → Bytes) (mk : Bool → Bytes → Bytes) (f : Bytes) (o : SignOut)
    (hs : sign H mk f = .ok o) :
    ∃ p, readBoth H f = .ok p ∧ signedFile f o = o.blob ++ (p.gen.orig ++ p.payload) ∧
      (signedFile f o).drop o.blob.length = f.drop o.old ∧ (signedFile f o).take 96 = f.take 96 := by
  obtain ⟨p, hp, _, _, hb, _⟩ := rpm_sign_ok H mk f o hs
  obtain ⟨p', hp', _, hd, _, _⟩ := rpm_patch_is_signature_area H mk f o hs
  obtain rfl : p = p' := Res.ok.inj (hp.symm.trans hp')
  obtain ⟨_, h96, hlead⟩ := readBoth_layout H f p hp
  refine ⟨p, hp, ?_, ?_, ?_⟩
  · unfold signedFile; rw [hd]
  · unfold signedFile; simp
  · unfold signedFile
    rw [hb]
    unfold dumpSig
    rw [List.append_assoc, List.take_append_of_le_length (by omega), ← hlead]
    simp [List.take_of_length_le, h96]

/-- **rpm_refusal_is_clean.** When `sign` does not succeed it returns no patch (the patch exists only inside `.ok`): the
    statement is this reading of the result and no more; that nothing is written without a patch is `Generated.SignFlow`'s part. -/
theorem rpm_refusal_is_clean (H : Nat → Bytes → Bytes) (mk : Bool → Bytes → Bytes) (f : Bytes)
    (h : ∀ o, sign H mk f ≠ .ok o) : (match sign H mk f with | .ok o => some o | _ => none) = none := by
  cases hs : sign H mk f with
  | ok o => exact absurd hs (h o)
  | err _ => rfl
  | panic _ => rfl
  | diverge => rfl

/-- a package too short for its lead is refused (non-vacuity of the refusal statement) -/
example : ∀ o, sign (fun _ _ => []) (fun _ _ => []) [0xed, 0xab, 0xee, 0xdb] ≠ .ok o := by
  intro o h; simp [sign, signWith, recovered, readBoth] at h

end Relic.Props.C03
