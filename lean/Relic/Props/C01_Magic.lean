/-
  C01 (fragment): file-type detection — which type `magic.Detect` assigns to a file, exactly: the decision list as a
  first-match list; one characterisation per verdict with the overlaps resolved (which earlier rules can pre-empt it);
  what the repairs of FM3 (big-endian Mach-O magics) and FM1 (65540-byte buffer) change, exactly; witnesses of which type
  wins when two patterns match.  The ZIP family is in Props/C01_MagicWf.  Model: Relic.Model.Magic.
-/
import Relic.Proofs.MagicTable
namespace Relic.Props.C01
open Relic.Magic

/-- `magic.Detect`'s decision list is a first-match list, for every byte string -/
theorem detect_table_exact (bs : Bytes) (t : FileType) :
    detect bs = t ↔
      (∃ pre r post, rules = pre ++ r :: post ∧ (∀ q ∈ pre, q.fires bs = false) ∧ r.fires bs = true ∧ runAction bs r.act = t) ∨
      ((∀ q ∈ rules, q.fires bs = false) ∧ t = .unknown) := detectWith_eq_iff rules bs t

example : detect [0xed, 0xab, 0xee, 0xdb, 3] = .rpm := by decide

theorem detect_rpm_iff (bs : Bytes) : detect bs = .rpm ↔ isRpm bs = true := by
  rw [detect_unfold]; simp only [ite_eq_iff]; simp

theorem detect_deb_iff (bs : Bytes) : detect bs = .deb ↔ isDebHdr bs = true := by
  rw [detect_unfold]; simp only [ite_eq_iff]; simp
  intro h
  simp [prefix_excl h]

/-- PGP: ASCII armour at offset 0, or — unless an OID, `ustar` or `…assembly` pre-empts it — a first byte 0x89 / 0xC2 / 0xC4
    (old-format signature packet with 2-byte length, new-format signature, one-pass signature).  Every other first
    byte of a binary OpenPGP stream (0x88, 0x8A, 0x99, 0xC6, …) is Unknown. -/
theorem detect_pgp_iff (bs : Bytes) : detect bs = .pgp ↔
    isArmor bs = true ∨
    (hasCtl bs = false ∧ hasSignedData bs = false ∧ isTar bs = false ∧ hasAsm bs = false ∧ isPgpBin bs = true) := by
  rw [detect_unfold]; simp only [ite_eq_iff]; simp
  constructor
  · rintro ⟨_, _, h | h⟩
    · exact Or.inl h
    · exact Or.inr (by simp [h])
  · rintro (h | ⟨h3, h4, h5, h9, (h | h) | h⟩) <;> simp [prefix_excl h, *]

/-- a catalog: the certTrustList OID within the first 256 bytes, unless the file starts like an RPM, a Debian archive or
    PGP armour -/
theorem detect_cat_iff (bs : Bytes) : detect bs = .cat ↔
    isRpm bs = false ∧ isDebHdr bs = false ∧ isArmor bs = false ∧ hasCtl bs = true := by
  rw [detect_unfold]; simp only [ite_eq_iff]; simp

theorem detect_pkcs7_iff (bs : Bytes) : detect bs = .pkcs7 ↔
    isRpm bs = false ∧ isDebHdr bs = false ∧ isArmor bs = false ∧ hasCtl bs = false ∧ hasSignedData bs = true := by
  rw [detect_unfold]; simp only [ite_eq_iff]; simp

/-- PE/COFF: `MZ`, a complete 62-byte header, `PE\0\0` at the 16-bit `e_lfanew`, all of it inside the 65540-byte buffer —
    and neither OID in the first 256 bytes, nor `ustar` at 257 -/
theorem detect_pecoff_iff (bs : Bytes) : detect bs = .pecoff ↔
    hasCtl bs = false ∧ hasSignedData bs = false ∧ isTar bs = false ∧ isMZ bs = true ∧ mzProbe bs = true :=
  Magic.detect_pecoff_iff bs

/-- what the probe accepts, spelled out: at least 62 bytes, `e_lfanew` (low 16 bits) + 4 ≤ min(65540, length),
    `PE\0\0` there -/
theorem mzProbe_iff (bs : Bytes) : mzProbe bs = true ↔
    0x3e ≤ bs.length ∧ reloc bs + 4 ≤ bufSize ∧ reloc bs + 4 ≤ bs.length ∧ (bs.drop (reloc bs)).take 4 = pPE :=
  Magic.mzProbe_iff bs

theorem detect_msi_iff (bs : Bytes) : detect bs = .msi ↔
    hasCtl bs = false ∧ hasSignedData bs = false ∧ isTar bs = false ∧ isCfb bs = true := by
  rw [detect_unfold]; simp only [ite_eq_iff]; simp
  exact ⟨fun h => by simp [h], fun h => by simp [prefix_excl h.2.2.2, h]⟩

theorem detect_cab_iff (bs : Bytes) : detect bs = .cab ↔
    hasCtl bs = false ∧ hasSignedData bs = false ∧ isTar bs = false ∧ isCabHdr bs = true := by
  rw [detect_unfold]; simp only [ite_eq_iff]; simp
  refine ⟨fun h => by simp [h], fun h => ?_⟩
  have hmz : isMZ bs = false := by
    cases hm : isMZ bs
    · rfl
    · rw [mz_cab_excl hm] at h
      simp at h
  simp [prefix_excl h.2.2.2, hmz, h]

/-- an application manifest: `<assembly` or `:assembly` within the first 256 bytes, and nothing earlier in the list -/
theorem detect_appManifest_iff (bs : Bytes) : detect bs = .appManifest ↔
    isRpm bs = false ∧ isDebHdr bs = false ∧ isArmor bs = false ∧ hasCtl bs = false ∧ hasSignedData bs = false ∧ isTar bs = false ∧
    isMZ bs = false ∧ isCfb bs = false ∧ isCabHdr bs = false ∧ hasAsm bs = true := by
  rw [detect_unfold]; simp only [ite_eq_iff]; simp

/-- Mach-O in either byte order (`CF FA ED FE`, `CE FA ED FE`, `FE ED FA CF`, `FE ED FA CE`); `…assembly` in the first 256
    bytes, an OID or `ustar` pre-empts it -/
theorem detect_machO_iff (bs : Bytes) : detect bs = .machO ↔
    hasCtl bs = false ∧ hasSignedData bs = false ∧ isTar bs = false ∧ hasAsm bs = false ∧ isMacho bs = true := by
  rw [detect_unfold]; simp only [ite_eq_iff]; simp
  constructor
  · intro h
    simp [h]
  · rintro ⟨h3, h4, h5, h9, (h | h) | (h | h)⟩ <;> simp [prefix_excl h, *]

theorem detect_machOFat_iff (bs : Bytes) : detect bs = .machOFat ↔
    hasCtl bs = false ∧ hasSignedData bs = false ∧ isTar bs = false ∧ hasAsm bs = false ∧ isFat bs = true := by
  rw [detect_unfold]; simp only [ite_eq_iff]; simp
  exact ⟨fun h => by simp [h], fun h => by simp [prefix_excl h.2.2.2.2, h]⟩

theorem detect_xar_iff (bs : Bytes) : detect bs = .xar ↔
    hasCtl bs = false ∧ hasSignedData bs = false ∧ isTar bs = false ∧ hasAsm bs = false ∧ isXar bs = true := by
  rw [detect_unfold]; simp only [ite_eq_iff]; simp
  exact ⟨fun h => by simp [h], fun h => by simp [prefix_excl h.2.2.2.2, h]⟩

/-- Unknown is everything else: a tar archive (`ustar` at 257) whatever it starts with, an `MZ` file whose probe fails
    (even if a later pattern would match), or no rule at all -/
theorem detect_unknown_iff (bs : Bytes) : detect bs = .unknown ↔
    isRpm bs = false ∧ isDebHdr bs = false ∧ isArmor bs = false ∧ hasCtl bs = false ∧ hasSignedData bs = false ∧
      (isTar bs = true ∨ isTar bs = false ∧
        (isMZ bs = true ∧ mzProbe bs = false ∨
         isMZ bs = false ∧ isCfb bs = false ∧ isCabHdr bs = false ∧ hasAsm bs = false ∧ isMacho bs = false ∧
           isFat bs = false ∧ isXar bs = false ∧ isPgpBin bs = false)) :=
  Magic.detect_unknown_iff bs

/-- `Detect` never answers with a ZIP-family type: those come from `DetectCompressed` → `detectZip` only -/
theorem detect_never_zip_family (bs : Bytes) :
    detect bs ≠ .jar ∧ detect bs ≠ .appx ∧ detect bs ≠ .vsix ∧ detect bs ≠ .xap ∧ detect bs ≠ .apk ∧ detect bs ≠ .ipa := by
  have h := detect_mem bs
  refine ⟨?_, ?_, ?_, ?_, ?_, ?_⟩ <;> (intro e; rw [e] at h; revert h; decide)

/-- What the repair of FM3 (big-endian Mach-O magics added to the Mach-O rule) changes, exactly.  The two new patterns are
    prefix patterns with first byte `FE`; no other prefix pattern of the list starts with `FE`, so
    they are disjoint from every prefix rule.  They can coincide only with the window / position tests (the two OIDs, `ustar`
    at 257, `…assembly`), all of which come earlier in the list and keep winning.  Hence: the verdict changes for a file
    iff it starts with a big-endian magic and was Unknown; it then becomes Mach-O.  Nothing that was detected as some type
    before is detected differently now.  (For ALL byte strings.) -/
theorem macho_be_only_reclassifies_unknown (bs : Bytes) :
    detect bs = detectOrigFM3 bs ∨ (detectOrigFM3 bs = .unknown ∧ detect bs = .machO ∧ isMachoBE bs = true) := by
  -- the two lists share the ten rules in front of the Mach-O rule and the three behind it
  have e1 : detect bs = detectWith (rules.take 10 ++ rules.drop 10) bs := rfl
  have e2 : detectOrigFM3 bs = detectWith (rules.take 10 ++ rulesOrigFM3.drop 10) bs := rfl
  rcases detectWith_append_cases (rules.take 10) (rules.drop 10) (rulesOrigFM3.drop 10) bs with h | ⟨h1, h2⟩
  · exact Or.inl (e1.trans (h.trans e2.symm))
  · rw [e1, e2, h1, h2]
    simp only [rules, rulesOrigFM3, List.drop, detectWith, Rule.fires, Test.eval, runAction, List.any_cons, List.any_nil, Bool.or_false]
    by_cases cle : (atPos bs pMacho64 0 || atPos bs pMacho32 0) = true
    · left
      simp [cle, ← Bool.or_assoc]
    by_cases cbe : isMachoBE bs = true
    · right
      rcases (by simpa using cbe : atPos bs pMacho64BE 0 = true ∨ atPos bs pMacho32BE 0 = true) with h | h <;>
        simp [prefix_excl h, h]
    · left
      have : atPos bs pMacho64BE 0 = false ∧ atPos bs pMacho32BE 0 = false := by simpa using cbe
      simp [this]

/-- no prefix pattern of the list before the repair starts with `FE` (the first byte of both new patterns) -/
theorem macho_be_patterns_disjoint : ∀ r ∈ rulesOrigFM3, ∀ t ∈ r.tests, t.prefixByte 0xfe = false := by decide

/-- the original probe is the present one restricted to `e_lfanew + 4 ≤ 4096` -/
theorem mzProbeOrig_eq (bs : Bytes) : mzProbeOrig bs = (mzProbe bs && decide (reloc bs + 4 ≤ bufSizeOrig)) := by
  unfold mzProbeOrig mzProbe
  have hr : leVal ((peekAny bs 0x3e).drop 0x3c) = reloc bs := rfl
  by_cases hl : (peekAny bs 0x3e).length = 0x3e
  · simp only [hl, if_true, hr]
    unfold peekOkOrig peekOk
    by_cases h1 : reloc bs + 4 ≤ bufSizeOrig
    · have h2 : reloc bs + 4 ≤ bufSize := Nat.le_trans h1 (by decide)
      simp [h1, h2]
    · simp [h1]
  · simp [hl]

/-- What the repair of FM1 (`Detect` reads through a 65540-byte buffer instead of 4096) changes, exactly.  Only the `MZ` probe
    looks beyond 262 bytes, so only it can tell the buffer sizes apart: the verdict changes for a file
    iff it was Unknown because its PE signature lies beyond byte 4096; it then becomes PE/COFF.  Nothing that was detected as
    some type before is detected differently now.  (For ALL byte strings.) -/
theorem pe_deep_only_reclassifies_unknown (bs : Bytes) :
    detect bs = detectOrigFM1 bs ∨
    (detectOrigFM1 bs = .unknown ∧ detect bs = .pecoff ∧ bufSizeOrig < reloc bs + 4) := by
  -- the two lists differ in the action of the `MZ` rule only
  have e1 : detect bs = detectWith (rules.take 6 ++ rules.drop 6) bs := rfl
  have e2 : detectOrigFM1 bs = detectWith (rules.take 6 ++ rulesOrigFM1.drop 6) bs := rfl
  rcases detectWith_append_cases (rules.take 6) (rules.drop 6) (rulesOrigFM1.drop 6) bs with h | ⟨h1, h2⟩
  · exact Or.inl (e1.trans (h.trans e2.symm))
  · rw [e1, e2, h1, h2,
      show rules.drop 6 = ⟨[.at 0 pMZ], .mzpe⟩ :: rules.drop 7 from rfl,
      show rulesOrigFM1.drop 6 = ⟨[.at 0 pMZ], .mzpeOrig⟩ :: rules.drop 7 from rfl, detectWith, detectWith]
    have f : ∀ a, Rule.fires bs ⟨[.at 0 pMZ], a⟩ = isMZ bs := fun a => by simp [Rule.fires, Test.eval]
    rw [f, f]
    by_cases c6 : isMZ bs = true
    · rw [if_pos c6, if_pos c6]
      simp only [runAction, mzProbeOrig_eq]
      by_cases cp : mzProbe bs = true
      · by_cases cb : reloc bs + 4 ≤ bufSizeOrig
        · left
          simp [cp, cb]
        · right
          simp [cp, cb]
          omega
      · left
        simp [cp]
    · rw [if_neg c6, if_neg c6]
      exact Or.inl rfl

/-- which type wins when two patterns match (this and the next two witnesses are replayed on the real code by the
    correspondence): a PNG image is "PGP"; a Java class file is a fat Mach-O -/
theorem overlap_png_class :
    detect [0x89, 80, 78, 71, 13, 10, 26, 10] = .pgp ∧ detect [0xca, 0xfe, 0xba, 0xbe, 0, 0, 0, 52] = .machOFat := by decide +kernel

/-- `:assembly` early in any file that is not RPM/DEB/armour/OID/tar/MZ/CFB/CAB makes it an application manifest:
    a PowerShell script, a Mach-O image with such a segment name, a binary PGP signature -/
theorem overlap_assembly :
    detect ([36, 115, 99, 114, 105, 112, 116] ++ pAsm2 ++ [32, 61, 32, 49, 10]) = .appManifest ∧
    detect (pMacho64 ++ List.replicate 28 0 ++ pAsm1) = .appManifest ∧
    detect ([0x89, 1] ++ pAsm2) = .appManifest := by decide +kernel

/-- a tar archive is Unknown even when it starts with `MZ…PE`; an `MZ` file without a PE header is Unknown even when it
    says `<assembly` -/
theorem overlap_tar_mz :
    detect ([77, 90] ++ List.replicate 255 0 ++ pUstar) = .unknown ∧ detect ([77, 90, 32] ++ pAsm1) = .unknown := by decide +kernel

end Relic.Props.C01
