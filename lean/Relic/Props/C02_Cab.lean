/-
  C02 — Any change to signed content or to the signature makes verification fail.   CAB part: the hashed stream
  determines every protected field (injectivity of the digest input).
-/
import Relic.Props.C08_Cab
namespace Relic.Props.C02
open Relic Relic.Cab
open Relic.PE (seg)

/-- **cab_hashed_injective.** Two cabinets whose digests succeed with the same hashed stream agree on everything the
    format protects: Magic, Reserved2, Reserved3, Version, NumFolders, NumFiles, SetID, Unknown3, the *canonical*
    TotalSize and OffsetFiles (as they are in the signed layout), every folder header (offset rebased to the signed
    layout) and every data byte.  Not protected (and absent from the conclusion): Reserved1, CabNumber, the reserve
    header, Unknown1/Unknown2, the signature blob. -/
theorem cab_hashed_injective (a b : Bytes) (da db : Digest) (ea : DigestCab a = .ok da) (eb : DigestCab b = .ok db)
    (hs : da.hashed = db.hashed) :
    seg a 0 4 = seg b 0 4 ∧ seg a 12 16 = seg b 12 16 ∧ seg a 20 26 = seg b 20 26 ∧ seg a 26 28 = seg b 26 28 ∧
    seg a 28 30 = seg b 28 30 ∧ seg a 32 34 = seg b 32 34 ∧ da.hdr.u3 = db.hdr.u3 ∧
    rebase da.delta da.total = rebase db.delta db.total ∧ rebase da.delta da.offFiles = rebase db.delta db.offFiles ∧
    da.nFolders = db.nFolders ∧
    rebaseFolders a da.delta da.foldersStart da.nFolders = rebaseFolders b db.delta db.foldersStart db.nFolders ∧
    seg a (da.foldersStart + 8 * da.nFolders) da.dataEnd = seg b (db.foldersStart + 8 * db.nFolders) db.dataEnd := by
  have A := DigestCab_spec a da ea
  have B := DigestCab_spec b db eb
  obtain ⟨h1, h2, h3, h4, h5, h6⟩ := hashed_inj a b da db A B hs
  obtain ⟨g1, _, g3, _, g5, g6, g7, _, g9, g10⟩ := sigBlob_inj _ _ (hdr_lens a da A) (hdr_lens b db B) h1
  have ha := A.hdr; have hb := B.hdr
  refine ⟨?_, ?_, ?_, ?_, ?_, ?_, g10, h5, h6, h4, ?_, ?_⟩
  · exact (congrArg Hdr60.magic ha).symm.trans (g1.trans (congrArg Hdr60.magic hb))
  · exact (congrArg Hdr60.r2 ha).symm.trans (g3.trans (congrArg Hdr60.r2 hb))
  · exact (congrArg Hdr60.r3ver ha).symm.trans (g5.trans (congrArg Hdr60.r3ver hb))
  · exact (congrArg Hdr60.nf ha).symm.trans (g6.trans (congrArg Hdr60.nf hb))
  · exact (congrArg Hdr60.nfiles ha).symm.trans (g7.trans (congrArg Hdr60.nfiles hb))
  · exact (congrArg Hdr60.setid ha).symm.trans (g9.trans (congrArg Hdr60.setid hb))
  · rw [← A.folders, ← B.folders]; exact h2
  · rw [← A.data, ← B.data]; exact h3

/-- consequence under collision-freeness of the hash *on these two streams*: equal imprints ⇒ equal data and folders -/
theorem cab_tamper_evident (H : Bytes → Bytes) (a b : Bytes) (da db : Digest) (ea : DigestCab a = .ok da)
    (eb : DigestCab b = .ok db) (collisionFree : H da.hashed = H db.hashed → da.hashed = db.hashed)
    (himp : H da.hashed = H db.hashed) :
    seg a (da.foldersStart + 8 * da.nFolders) da.dataEnd = seg b (db.foldersStart + 8 * db.nFolders) db.dataEnd ∧
    rebaseFolders a da.delta da.foldersStart da.nFolders = rebaseFolders b db.delta db.foldersStart db.nFolders :=
  let r := cab_hashed_injective a b da db ea eb (collisionFree himp)
  ⟨r.2.2.2.2.2.2.2.2.2.2.2, r.2.2.2.2.2.2.2.2.2.2.1⟩

/-- **cab_no_trailing.** A cabinet that digests successfully ends exactly where the hashed data (and the old
    signature, if any) ends: appended payloads are refused ("trailing garbage after cabinet"). -/
theorem cab_no_trailing (f : Bytes) (d : Digest) (e : DigestCab f = .ok d) : f.length = d.dataEnd + d.oldSigSize :=
  (DigestCab_spec f d e).stop

set_option maxRecDepth 100000 in
example : (DigestCab C08.minimalCab).isOk = true ∧ (DigestCab (C08.minimalCab ++ [0])) = .err "trailing" := by decide

end Relic.Props.C02
