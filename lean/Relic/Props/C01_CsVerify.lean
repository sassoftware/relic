/-
  C01 — Every signature relic produces verifies.   Apple code signatures, decision level: the superblob `csblob.Sign`
  assembles — ONE code directory in slot 0 whose special slots are the digests of the items it embeds, a CMS with one
  signer info over that directory carrying messageDigest, CDHashes2 = [(alg, digest)] and the cdhashes plist =
  [digest[:20]] — satisfies every conjunct of the verifier's acceptance condition (`C02.csblob_accept_iff`), for every
  hash family, every parameter set and every directory; with one non-zero slot per page of the hashed image,
  `machos.Verify` accepts too.  (That the slots ARE those digests is C05.codedir_hashes_eq_spec / sign_codedir_eq_spec;
  that the hashed image is the prefix of the written file is `macho_sign_then_verify_partial`.)
-/
import Relic.Proofs.CsVerify
namespace Relic.Props.C01
open Relic.CodeDir Relic.CsVerify

theorem lastWithAlg_single (d : CD) : lastWithAlg [d] d.alg = some d := by
  simp [lastWithAlg, List.filter]

theorem csblob_sign_then_verify (H : Nat → Bytes → Bytes) (fx : Fixes) (P : CsVerify.Params) (s : Sig) (d : CD) (c : CmsV) (sv : SignerV) (a : Nat)
    (hd : s.dirs = [d]) (hslots : DirOk H P s d)
    (hc : s.cms = some c) (hemb : c.embedded = none) (hs : c.signers = [sv]) (hts : c.tsOk = true)
    (ha : sv.digestAlg = some a) (hmd : sv.md = some (H a d.raw)) (hr : sv.restOk = true)
    (hcdh : sv.cdhashes = .val [(some d.alg, H d.alg d.raw)]) (hpl : sv.plist = .val [(H d.alg d.raw).take 20]) :
    (verifyPlan fx P s).run H = .ok () := by
  rw [verifyPlan_ok]
  refine ⟨?_, d, [], hd, c, hc, ⟨?_, ?_, ?_⟩, sv, ?_, ?_, ?_, ?_, hts⟩
  · intro x hx
    rw [hd] at hx
    rcases List.mem_singleton.mp hx with rfl
    exact hslots
  · intro e he; rw [hemb] at he; cases he
  · rw [hs]; simp
  · intro x hx
    rw [hs] at hx
    rcases List.mem_singleton.mp hx with rfl
    exact ⟨a, ha, fun _ => ⟨_, hmd, rfl⟩, hr⟩
  · rw [hs]; rfl
  · rw [hcdh, hd]
    intro p hp
    rcases List.mem_singleton.mp hp with rfl
    exact ⟨d.alg, d, rfl, lastWithAlg_single d, rfl⟩
  · rw [hpl, hd]
    show [(H d.alg d.raw).take 20] = [d].map (computedAt H [d])
    simp [computedAt, lastRaw, lastWithAlg_single]
  · intro _ _; rw [hpl]; simp

/-- the same with the page stage: with one non-zero slot per page of the reader's content, each the digest of its page -/
theorem macho_sign_then_verify_decision (H : Nat → Bytes → Bytes) (fx : Fixes) (P : CsVerify.Params) (s : Sig) (d : CD) (file : Bytes)
    (hd : s.dirs = [d]) (hacc : (verifyPlan fx P s).run H = .ok ())
    (hk : 0 < d.d.hdr.pageShift ∧ d.d.hdr.pageShift ≤ 24) (hlim : codeSize d.d.hdr = ((codeReader d file).length : Int))
    (hslots : d.d.code = (pages (2 ^ d.d.hdr.pageShift) (codeReader d file)).map (H d.alg))
    (hz : ∀ e ∈ d.d.code, allZero e = false) :
    (machoPlan fx P s file false).run H = .ok () := by
  unfold machoPlan
  rw [run_seq]
  refine ⟨hacc, ?_⟩
  have hb : bestDir s.dirs = some d := by rw [hd]; rfl
  simp only [Bool.false_eq_true, ↓reduceIte, hb]
  rw [pagesPlan_paged d _ hk, hlim]
  exact (pageLoop_ok H d.alg _ (Nat.two_pow_pos _) d.d.code (codeReader d file) (by rw [hslots, List.length_map]) hz).mpr hslots

/-- the full-strength, byte-level statement that is NOT proved here: for every parameter set and page stream the
    superblob `csblob.Sign` marshals (model: `CodeDir.signBlob` / `superblob`, rendered with `H`), read back by
    `parseSignature` (model: `parseSig`) with the CMS table of the signer, is accepted together with the signed image.
    Needs `parseSuper ∘ marshalSuperBlob` and `parseCodeDirectory ∘ newCodeDirectory` round trips on rendered bytes;
    hash values must have their nominal length and must not be all zero (an all-zero slot reads back as "absent").
    Executed on every run: `none` / `resign-same` ops (really signed images through model and code). -/
def csblob_sign_then_verify_bytes_full : Prop :=
  ∀ (H : Nat → Bytes → Bytes) (p : SignParams) (stream cms : Bytes) (sg : Signed) (c : CmsV) (sv : SignerV),
    (∀ a x, (H a x).length = hashSizeOf a ∧ allZero (H a x) = false) →
    signBlob p stream = .ok sg →
    c.embedded = none → c.signers = [sv] → c.tsOk = true → sv.digestAlg = some p.hash → sv.hasAttrs = true → sv.restOk = true →
    (let cd := render (H p.hash) (hashSizeOf p.hash) sg.cd
     sv.md = some (H p.hash cd) ∧ sv.cdhashes = .val [(some p.hash, H p.hash cd)] ∧ sv.plist = .val [(H p.hash cd).take 20]) →
    ∃ s, parseSig (fun _ => .ok c) (render (H p.hash) (hashSizeOf p.hash) (superblob (hashSizeOf p.hash) sg cms)) = .ok s ∧
      (machoPlan tree ⟨p.infoPlist, p.resources, p.repSpecific⟩ s stream false).run H = .ok ()

end Relic.Props.C01
