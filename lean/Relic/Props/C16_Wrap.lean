/- C16 fragment: the framing loop of `SignedManifest.AddTimestamp` (lib/appmanifest/signmanifest.go).

   The token's DER bytes are written as base64 in lines of 64 characters, i.e. the loop cuts the bytes into pieces of at
   most 48 and encodes each piece by itself (`for len(siblob) > 0 { n := min(len, 48); chunk := siblob[:n]; siblob = siblob[n:] … }`).
   What a reader decodes is the concatenation of the pieces (48 is a multiple of 3, so every line but the last encodes
   without padding and the concatenated text is the base64 text of the concatenated bytes; base64 itself is a parameter
   of the framework).  The statements: no byte is lost or duplicated for ANY length (in particular the multiples of 48),
   no line is empty or longer than `n`, and there are `⌈len/n⌉` of them.

   Tie: the `C10 ts rfc manifest 0 1 padK` ops (K = 1..50: token lengths through every residue modulo 48) run the real
   signer and relic's verifier; C16 evaluates on them that the token found in the artefact is the issued one
   (checklib/models/mfpad.py). -/
import Relic.Proofs.Merkle
namespace Relic.Props.C16

/-- the loop, with the remaining length as fuel -/
def wrapLines (n : Nat) : Nat → List UInt8 → List (List UInt8)
  | 0, _ => []
  | fuel + 1, b => if b.length = 0 then [] else b.take n :: wrapLines n fuel (b.drop n)

theorem wrapLines_eq (n : Nat) (hn : 0 < n) (fuel : Nat) (b : List UInt8) (h : b.length ≤ fuel) :
    wrapLines n fuel b = Merkle.chunks n b :=
  Merkle.chunks_of_fuel n hn (wrapLines n) (fun _ => rfl)
    (fun k b => by rw [wrapLines]; simp only [List.length_eq_zero_iff]) fuel b h

/-- **wrap_lines_complete** — the pieces, concatenated, are the token: nothing is lost at any length -/
theorem wrap_lines_complete (n : Nat) (hn : 0 < n) : ∀ (fuel : Nat) (b : List UInt8), b.length ≤ fuel →
    (wrapLines n fuel b).flatten = b :=
  fun fuel b h => by rw [wrapLines_eq n hn fuel b h, Merkle.chunks_flatten n b hn]

/-- **wrap_lines_bounds** — no piece is empty and none is longer than a line -/
theorem wrap_lines_bounds (n : Nat) (hn : 0 < n) : ∀ (fuel : Nat) (b : List UInt8),
    ∀ l ∈ wrapLines n fuel b, 0 < l.length ∧ l.length ≤ n
  | 0, _, l, hl => by simp [wrapLines] at hl
  | fuel + 1, b, l, hl => by
    unfold wrapLines at hl
    split at hl
    · simp at hl
    · next h0 =>
      rcases List.mem_cons.mp hl with rfl | hl
      · rw [List.length_take]; omega
      · exact wrap_lines_bounds n hn fuel (b.drop n) l hl

/-- **wrap_lines_count** — as many lines as `(len + n − 1) / n` (the capacity `AddTimestamp` computes) -/
theorem wrap_lines_count (n : Nat) (hn : 0 < n) : ∀ (fuel : Nat) (b : List UInt8), b.length ≤ fuel →
    (wrapLines n fuel b).length = (b.length + n - 1) / n :=
  fun fuel b h => by rw [wrapLines_eq n hn fuel b h, Merkle.chunks_length n b hn]

/-- a token whose length is a multiple of the line length keeps its last line (the boundary case len = k·n) -/
example : (wrapLines 48 96 (List.replicate 96 0x41)).flatten.length = 96 := by
  rw [wrap_lines_complete 48 (by decide) 96 _ (by simp)]; simp

end Relic.Props.C16
