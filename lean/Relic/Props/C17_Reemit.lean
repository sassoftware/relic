/-
  C17 (re-emission half) — re-serialising the directory of an unmodified archive.

  * `reemit_original_directory`: `GetOriginalDirectory(false)` as repaired (fix-F7b; `originalDirectorySpec`)
    returns the original central directory and end records byte for byte, for EVERY `relicReadable` archive
    (the general form of `reemit_spec_reproduces`, which evaluates two samples).
  * `reemit_unmodified_readable`: `WriteDirectory(wcd, weod, false)` on the directory `Read` returned: the central
    records are always the original bytes (raw re-emission); the end records are the original bytes
    EXACTLY on `canonEnds` — ZIP64 records present iff `WriteDirectory` would emit them (count ≥ 0xffff, size or
    offset ≥ 0xffffffff, or some member asks for version exactly 4.5), and then version-made-by =
    version-needed = 4.5 and every field of the classic end record at its maximum.
  * witnesses for both ways of leaving the class (`reemit_noncanonical`).
-/
import Relic.Props.C17
import Relic.Proofs.ZipReemit
namespace Relic.Props.C17
open Relic.Zip

/-- On every `relicReadable` archive `GetOriginalDirectory` as repaired (fix-F7b, `originalDirectorySpec`) returns the bytes
    that stand in the file from the directory on. -/
theorem reemit_original_directory : ∀ z, SpecZip.valid z → relicReadable z →
    ∃ d cd eod, read (rd z) = .ok d ∧ originalDirectorySpec d = .ok (cd, eod) ∧ cd ++ eod = z.drop d.dirLoc := by
  intro z _ hr
  obtain ⟨a, hR⟩ := relicReadable_elim hr
  obtain ⟨d, cd, eod, hd, hs, -, -, hj⟩ := originalDirectory_reproduces hR.parsed hR.nocomment hR.len42 hR.len63 hR.fixed
  exact ⟨d, cd, eod, hd, hs, hj⟩

/-- On every `relicReadable` archive `WriteDirectory` on the directory just read reproduces the central records byte for
    byte, and the end records exactly when those of the input are canonical (`canonEnds`). -/
theorem reemit_unmodified_readable : ∀ z a, SpecZip.parse z = some a → relicReadable z →
    ∃ d, read (rd z) = .ok d ∧
      (writeDirectory d false).1 = (z.drop a.ends.cdOff).take (a.ends.first - a.ends.cdOff) ∧
      ((writeDirectory d false).2.1 = z.drop a.ends.first ↔ canonEnds z a (maxReader d.files)) ∧
      ((writeDirectory d false).1 ++ (writeDirectory d false).2.1 = z.drop d.dirLoc ↔ canonEnds z a (maxReader d.files)) := by
  intro z a ha hr
  have hR := relicReadable_of_parse hr ha
  obtain ⟨d, hd, hfiles, hloc, hcd, hle, -⟩ := read_ends ha hR.nocomment hR.len42 hR.len63 hR.fixed
  obtain ⟨-, hsum, hes, -, -⟩ := parse_some ha
  have hcount : d.files.length = a.ends.count := by
    have := (entries_count_le z _ _ _ _ hes).2
    rw [hfiles]
    rw [filesOf_length, this]
  have hcdl : (headersOf d.files).1.length = a.ends.cdSize := by
    rw [hcd, List.length_take, List.length_drop]
    have := parse_dir_le ha
    omega
  have hw1 : (writeDirectory d false).1 = (headersOf d.files).1 := rfl
  have hw2 : (writeDirectory d false).2.1 =
      endRecords a.ends.count a.ends.cdSize a.ends.cdOff false (maxReader d.files) := by
    show endRecords d.files.length (headersOf d.files).1.length d.dirLoc false (maxReader d.files) = _
    rw [hcount, hcdl, hloc]
  have hiff := endRecords_eq_iff ha hR.nocomment (maxReader d.files)
  refine ⟨d, hd, by rw [hw1, hcd], by rw [hw2]; exact hiff, ?_⟩
  rw [hw1, hcd, hw2, hloc, ← hiff]
  have hjoin := take_drop_append_tail z hle
  constructor
  · intro h
    exact List.append_cancel_left (h.trans hjoin.symm)
  · intro h; rw [h, hjoin]

set_option maxRecDepth 1000000

/-- `zPlain` with "version needed" 4.5 in its (only) central record: a standard 22-byte end record, but `WriteDirectory`
    writes ZIP64 records for it -/
def zNeed45 : Bytes := [80, 75, 3, 4, 20, 0, 0, 0, 0, 0, 0, 0, 0, 0, 131, 22, 220, 140, 1, 0, 0, 0, 1, 0, 0, 0, 1, 0, 0, 0, 97, 120, 80, 75, 1, 2, 20, 0, 45, 0, 0, 0, 0, 0, 0, 0, 0, 0, 131, 22, 220, 140, 1, 0, 0, 0, 1, 0, 0, 0, 1, 0, 0, 0, 0, 0, 0, 0, 0, 0, 0, 0, 0, 0, 0, 0, 0, 0, 97, 80, 75, 5, 6, 0, 0, 0, 0, 1, 0, 1, 0, 47, 0, 0, 0, 32, 0, 0, 0, 0, 0]

/-- Two valid, `relicReadable` archives outside `canonEnds`: `zNeed45` (a member asking for version 4.5
    and no ZIP64 records: 22 bytes become 98); what relic itself writes for `zOne24` (a member asks for version 4.5, so
    ZIP64 records are written) is canonical and reproduced, whereas the same archive with version-made-by 6.3 in
    the ZIP64 end record (as other writers put it) is valid, readable, and not reproduced.  (An archive written
    with `forceZip64` is not canonical either: without the flag the records are dropped.) -/
theorem reemit_noncanonical :
    SpecZip.valid zNeed45 ∧
    okAnd (read (rd zNeed45)) (fun d => someAnd (SpecZip.parse zNeed45) fun a =>
      !decide (canonEnds zNeed45 a (maxReader d.files)) && decide ((writeDirectory d false).2.1.length = 98) &&
      decide ((writeDirectory d false).1 = (zNeed45.drop a.ends.cdOff).take (a.ends.first - a.ends.cdOff))) = true ∧
    okAnd (rewriteKeep zOne24 [] false) (fun z2 => okAnd (read (rd z2)) fun d => someAnd (SpecZip.parse z2) fun a =>
      decide (canonEnds z2 a (maxReader d.files)) && decide ((writeDirectory d false).2.1 = z2.drop a.ends.first) &&
      -- version made by 6.3 at offset 12 of the ZIP64 end record
      (let z3 := z2.take (a.ends.first + 12) ++ [63, 0] ++ z2.drop (a.ends.first + 14)
       decide (SpecZip.valid z3) && okAnd (read (rd z3)) fun d3 => someAnd (SpecZip.parse z3) fun a3 =>
         !decide (canonEnds z3 a3 (maxReader d3.files)) && !decide ((writeDirectory d3 false).2.1 = z3.drop a3.ends.first))) = true := by
  decide +kernel

example : relicReadable zNeed45 := by
  have h : someAnd (SpecZip.parse zNeed45) (fun a => SpecZip.noComment a zNeed45 && SpecZip.descSigned a &&
      SpecZip.zip64Fixed a && a.members.all (widthOK a)) = true := by
    decide +kernel
  obtain ⟨a, ha, hr⟩ := someAnd_elim h
  simp only [Bool.and_eq_true] at hr
  exact ⟨a, ha, hr.1.1.1, hr.1.1.2, hr.1.2, hr.2, by decide⟩

end Relic.Props.C17
