/-
  C01 fragment — MSI: what relic's msi signer writes, relic's `VerifyMSI` accepts.
  Model `Relic.Model.MsiSign` (signers/msi/signer.go, lib/authenticode/msisign.go + msiverify.go, lib/comdoc
  `AddFile`/`DeleteFile`) on top of the digest model `Relic.Model.MsiDigest`; `Reread` = what `Close` + `ReadFile` may change.
-/
import Relic.Proofs.MsiSign
import Relic.Props.C05_Msi
import Relic.Driver.MsiSign
import Relic.Proofs.Codec
namespace Relic.Props.C01
open Relic.MsiDigest Relic.MsiSign

/-- **msi_insert_then_locate.** For every document of the class `DocOk`, every blob and every extended-signature value
    (empty = none): `InsertMSISignature` succeeds, and in every document that `ReadFile` may deliver after `Close` (any
    `ListDir` order, any tree links) `VerifyMSI`'s scan finds exactly that blob and exactly that value, both walks feed
    the hash the bytes they fed it before the insertion, and the document is again of the class. -/
theorem msi_insert_then_locate (d : Node) (hd : DocOk d) (pkcs ex : Bytes) (s₁ s₂ : Nat) :
    ∃ d₁, insertMSISignature d pkcs ex s₁ s₂ = .ok d₁ ∧ ∀ d', Reread d₁ d' →
      locate d'.kids [] none = .ok (pkcs, if ex.length > 0 then some ex else none) ∧
      hashMsiDir d' = hashMsiDir d ∧ prehashMsiDir d' = prehashMsiDir d ∧ DocOk d' := by
  refine ⟨_, hd.insertOk pkcs ex s₁ s₂, ?_⟩
  intro d' h
  obtain ⟨w1, w2⟩ := hd.walks pkcs ex s₁ s₂ d' h
  refine ⟨?_, ?_, ?_, (hd.afterInsert pkcs ex s₁ s₂).reread h⟩
  · exact locate_reread_inserted d.meta d.content d.kids pkcs ex s₁ s₂ hd.streams hd.noAlias d' h
  · rw [w1, hashMsiDir_eq d hd.ok]
  · rw [w2, prehashMsiDir_eq d hd.ok hd.root]

/-- **msi_sign_class_then_verify.** For every hash family `H`, every CMS layer that gives back what was signed
    (`cms (mk a x) = (a, x)`, blobs not empty), every document of the class `DocOk` without a reserved tar name in the
    root storage (`tarRootOkB`, what `checkMsiTarNames` tests), either value of `--no-extended-sig`, every digest
    algorithm: the signer module succeeds (totality), and on every re-reading of its output `VerifyMSI` locates exactly
    the blob that was made, the extended-signature stream is present exactly if an extended signature was asked for (and
    `H` is not empty-valued) and holds the pre-hash, `DigestMSI` recomputes the imprint that was signed – the hash of
    (pre-hash digest ++) the specification's stream of the *unsigned* document – and `VerifyMSI` accepts, with and
    without digest checking. -/
theorem msi_sign_class_then_verify (H : Nat → Bytes → Bytes) (mk : Nat → Bytes → Bytes) (cms : Bytes → Res CmsInfo)
    (hcms : ∀ a x, cms (mk a x) = .ok ⟨a, x⟩) (hne : ∀ a x, (mk a x).length ≠ 0)
    (d : Node) (hd : DocOk d) (hsafe : tarRootOkB d.kids = true) (alg : Nat) (noExt : Bool) (s₁ s₂ : Nat) :
    ∃ d₁, signMSI H mk alg noExt d s₁ s₂ = .ok d₁ ∧ ∀ d', Reread d₁ d' →
      let e := if noExt then [] else H alg (Spec.MsiDigest.prehashInput d)
      let imprint := H alg (e ++ Spec.MsiDigest.hashInput d)
      locate d'.kids [] none = .ok (mk alg imprint, if e.length > 0 then some e else none) ∧
      digestMSI2 (H alg) d' (decide (e.length > 0)) = .ok (imprint, e) ∧
      verifyMSI H cms d' false = .ok (mk alg imprint, ⟨alg, imprint⟩) ∧
      verifyMSI H cms d' true = .ok (mk alg imprint, ⟨alg, imprint⟩) :=
  ⟨_, sign_eq H mk d hd hsafe alg noExt s₁ s₂, verify_signed H mk cms alg (hcms alg) (hne alg) d hd noExt s₁ s₂⟩

/-- **msi_sign_then_verify.** The conclusions of `msi_sign_class_then_verify` WHENEVER the signer module succeeds, for
    every document with well-formed, pairwise distinct names in each storage (`Node.okAt`) and a root entry of type
    root: aliases, reserved tar names and the type of signature-named entries are tested by the signer module itself
    (`msi_sign_ok_iff` says when it refuses).  What remains excluded is what `okAt` excludes: malformed name fields and
    two siblings of one name (C11's and C18's business). -/
theorem msi_sign_then_verify (H : Nat → Bytes → Bytes) (mk : Nat → Bytes → Bytes) (cms : Bytes → Res CmsInfo)
    (hcms : ∀ a x, cms (mk a x) = .ok ⟨a, x⟩) (hne : ∀ a x, (mk a x).length ≠ 0)
    (d : Node) (hok : Node.okAt true d) (hr : d.meta.typ = typRoot) (alg : Nat) (noExt : Bool) (s₁ s₂ : Nat)
    (d₁ : Node) (hs : signMSI H mk alg noExt d s₁ s₂ = .ok d₁) : ∀ d', Reread d₁ d' →
      let e := if noExt then [] else H alg (Spec.MsiDigest.prehashInput d)
      let imprint := H alg (e ++ Spec.MsiDigest.hashInput d)
      locate d'.kids [] none = .ok (mk alg imprint, if e.length > 0 then some e else none) ∧
      digestMSI2 (H alg) d' (decide (e.length > 0)) = .ok (imprint, e) ∧
      verifyMSI H cms d' false = .ok (mk alg imprint, ⟨alg, imprint⟩) ∧
      verifyMSI H cms d' true = .ok (mk alg imprint, ⟨alg, imprint⟩) := by
  obtain ⟨c1, c2, c3⟩ := sign_ok_class H mk alg noExt d d₁ s₁ s₂ hs
  obtain ⟨x, hx, hall⟩ := msi_sign_class_then_verify H mk cms hcms hne d ⟨hok, hr, c1, c2⟩ c3 alg noExt s₁ s₂
  rw [hs] at hx
  injection hx with hx
  subst hx
  exact hall

/-- **msi_sign_ok_iff.** On such a document the signer module succeeds exactly if (a) no entry of the root storage
    differs from a signature stream name only by case (`CheckMSISignatureNames`), (b) no entry of the root storage has a
    reserved tar name (`checkMsiTarNames`), (c) the entries carrying a signature name are streams (`DeleteFile`). -/
theorem msi_sign_ok_iff (H : Nat → Bytes → Bytes) (mk : Nat → Bytes → Bytes) (d : Node) (hok : Node.okAt true d)
    (hr : d.meta.typ = typRoot) (alg : Nat) (noExt : Bool) (s₁ s₂ : Nat) :
    (∃ d₁, signMSI H mk alg noExt d s₁ s₂ = .ok d₁) ↔
      (noAliasB d.kids = true ∧ sigsAreStreamsB d.kids = true ∧ tarRootOkB d.kids = true) := by
  constructor
  · rintro ⟨d₁, h⟩; exact sign_ok_class H mk alg noExt d d₁ s₁ s₂ h
  · rintro ⟨c1, c2, c3⟩; exact ⟨_, sign_eq H mk d ⟨hok, hr, c1, c2⟩ c3 alg noExt s₁ s₂⟩

/-- **msi_alias_refused.** A case-folding alias of a signature name in the root storage: the repaired signer refuses
    before anything is hashed or signed, and so does `InsertMSISignature`. -/
theorem msi_alias_refused (H : Nat → Bytes → Bytes) (mk : Nat → Bytes → Bytes) (d : Node) (h : noAliasB d.kids = false)
    (alg : Nat) (noExt : Bool) (pkcs ex : Bytes) (s₁ s₂ : Nat) :
    signMSI H mk alg noExt d s₁ s₂ = .err "alias" ∧ insertMSISignature d pkcs ex s₁ s₂ = .err "alias" := by
  unfold signMSI insertMSISignature
  simp [h]

/-- a toy hash family and CMS layer; they meet the hypotheses at every algorithm number below 256 (the theorems are for
    every `H`, `mk`, `cms`) -/
def toyH (a : Nat) (x : Bytes) : Bytes :=
  [UInt8.ofNat a, UInt8.ofNat x.length, x.foldl (· + ·) 0, x.foldl (fun acc b => acc * 3 + b) 7]

def toyMk (a : Nat) (x : Bytes) : Bytes := UInt8.ofNat a :: x

def toyCms (b : Bytes) : Res CmsInfo :=
  match b with
  | [] => .err "cms"
  | a :: x => .ok ⟨a.toNat, x⟩

theorem toyCms_toyMk (x : Bytes) : toyCms (toyMk 5 x) = .ok ⟨5, x⟩ := rfl
theorem toyMk_ne (x : Bytes) : (toyMk 5 x).length ≠ 0 := nofun

/-- the toy signer (algorithm 5) on a document of the class, by `sign_eq` and `verify_signed`: its output verifies, is of
    the class again, and carries one signature stream and the extended one exactly if asked for -/
theorem toy_signed_ok (d : Node) (hd : DocOk d) (hsafe : tarRootOkB d.kids = true) (noExt : Bool) :
    ∃ d₁, signMSI toyH toyMk 5 noExt d 0 0 = .ok d₁ ∧ (verifyMSI toyH toyCms d₁ false).isOk = true ∧
      DocOk d₁ ∧ tarRootOkB d₁.kids = true ∧ sigCount d₁.kids = 1 ∧ exCount d₁.kids = (if noExt then 0 else 1) := by
  refine ⟨_, sign_eq toyH toyMk d hd hsafe 5 noExt 0 0, ?_, hd.afterInsert _ _ 0 0,
    tarRootOk_inserted d.kids _ _ 0 0 hsafe, ?_⟩
  · rw [(verify_signed toyH toyMk toyCms 5 toyCms_toyMk toyMk_ne d hd noExt 0 0 _ (Reread.refl _)).2.2.1]
    rfl
  · obtain ⟨c1, c2⟩ := counts_inserted d.kids (toyMk 5 (imprintOf toyH 5 noExt d)) (exValue toyH 5 noExt d) 0 0
    refine ⟨c1, c2.trans ?_⟩
    cases noExt
    · exact if_pos (Nat.succ_pos _)
    · rfl

/-- the sample tree of C05 (streams "b", "a", "ab", a garbage signature stream, a sub-storage) is of the class and has no
    reserved tar name in its root storage: the one evaluation behind the closed statements about it -/
theorem sampleRoot_ok : DocOk C05.sampleRoot ∧ tarRootOkB C05.sampleRoot.kids = true :=
  ⟨DocOk.of_checks (by decide +kernel), by decide +kernel⟩

example : DocOk C05.sampleRoot :=
  sampleRoot_ok.1
example : tarRootOkB C05.sampleRoot.kids = true := sampleRoot_ok.2
example : ∀ a x, a < 256 → toyCms (toyMk a x) = .ok ⟨a, x⟩ := by
  intro a x h; simp [toyCms, toyMk, Nat.mod_eq_of_lt h]

set_option maxRecDepth 100000 in
/-- signing the sample extended, then without: one signature stream each time, the Ex stream only the first time -/
example : (match signMSI toyH toyMk 5 false C05.sampleRoot 0 0 with
    | .ok d => (sigCount d.kids, exCount d.kids, (verifyMSI toyH toyCms d false).isOk)
    | _ => (0, 0, false)) = (1, 1, true) := by
  obtain ⟨d₁, h, v, _, _, c1, c2⟩ := toy_signed_ok C05.sampleRoot sampleRoot_ok.1 sampleRoot_ok.2 false
  rw [h]
  exact congr (congrArg Prod.mk c1) (congr (congrArg Prod.mk c2) v)

set_option maxRecDepth 100000 in
example : (match signMSI toyH toyMk 5 true C05.sampleRoot 0 0 with
    | .ok d => (sigCount d.kids, exCount d.kids, (verifyMSI toyH toyCms d false).isOk)
    | _ => (0, 0, false)) = (1, 0, true) := by
  obtain ⟨d₁, h, v, _, _, c1, c2⟩ := toy_signed_ok C05.sampleRoot sampleRoot_ok.1 sampleRoot_ok.2 true
  rw [h]
  exact congr (congrArg Prod.mk c1) (congr (congrArg Prod.mk c2) v)

/-- a root holding the payload stream "\005digitalsignature" (lower case) and the stream "B" -/
def aliasRoot : Node :=
  .mk (C05.mkMeta [82] 4 5) []
    [C05.leaf [5, 100, 105, 103, 105, 116, 97, 108, 115, 105, 103, 110, 97, 116, 117, 114, 101] [1, 2, 3], C05.leaf [66] [9]]

/-- **msi_fold_alias_breaks_verify.** FINDING Fmsi-fold (repaired), a statement about the ORIGINAL code.  `DeleteFile`
    compares names with `strings.EqualFold`, the digest code with `==`: the stream "\005digitalsignature" was payload for
    `PrehashMSI` / `DigestMsiTar` / `DigestMSI` and was deleted by `InsertMSISignature`.  The document satisfies every
    digest hypothesis (`okAt`, `tarSafeB`); the original signing succeeded; the payload stream was gone; the original
    `VerifyMSI` rejected relic's own output (extended: the pre-hash differs; plain: the imprint).  The repaired code
    refuses the document (`msi_alias_refused`). -/
theorem msi_fold_alias_breaks_verify :
    Node.okAt true aliasRoot ∧ tarSafeB [] aliasRoot.kids = true ∧ noAliasB aliasRoot.kids = false ∧
    (∃ d, signMSIOrig toyH toyMk 5 false aliasRoot 0 0 = .ok d ∧ verifyMSIOrig toyH toyCms d = .err "exmismatch" ∧
      (payload d.kids).length = 1) ∧
    (∃ d, signMSIOrig toyH toyMk 5 true aliasRoot 0 0 = .ok d ∧ verifyMSIOrig toyH toyCms d = .err "mismatch" ∧
      (payload d.kids).length = 1) ∧
    (payload aliasRoot.kids).length = 2 ∧
    signMSI toyH toyMk 5 false aliasRoot 0 0 = .err "alias" := by
  refine ⟨okAtB_sound true _ (by decide +kernel), by decide +kernel, by decide +kernel,
    ⟨_, Res.eq_ok_of_isOk aliasRoot _ (by decide +kernel), by decide +kernel⟩,
    ⟨_, Res.eq_ok_of_isOk aliasRoot _ (by decide +kernel), by decide +kernel⟩, by decide +kernel, by rfl⟩

/-- a storage carrying the signature name: `DeleteFile` refuses ("can't delete or replace storages"), nothing is written -/
def sigStorageRoot : Node :=
  .mk (C05.mkMeta [82] 4 5) [] [C05.dir sigName [C05.leaf [120] [1]], C05.leaf [66] [9]]

/-- **msi_sign_refuses_storage.** An entry of the root storage whose name folds to a signature name and that is not a
    stream makes `InsertMSISignature` fail, for every blob: with the storage error ("can't delete or replace storages")
    when no entry is a mere case variant of a signature name, with the alias error otherwise. -/
theorem msi_sign_refuses_storage (d : Node) (pkcs ex : Bytes) (s₁ s₂ : Nat) (n : Node) (hn : n ∈ d.kids)
    (hf : equalFold (goName n.meta) sigName = true ∨ equalFold (goName n.meta) sigExName = true)
    (ht : n.meta.typ ≠ typStream) :
    (noAliasB d.kids = true → insertMSISignature d pkcs ex s₁ s₂ = .err "storage") ∧
    (noAliasB d.kids = false → insertMSISignature d pkcs ex s₁ s₂ = .err "alias") := by
  unfold insertMSISignature
  constructor
  · intro h
    simp only [h, Bool.not_true, Bool.false_eq_true, if_false]
    exact insertOrig_err_of_nonstream d pkcs ex s₁ s₂ n hn hf ht
  · intro h; simp [h]

example : ∃ n ∈ sigStorageRoot.kids, equalFold (goName n.meta) sigName = true ∧ n.meta.typ ≠ typStream :=
  ⟨_, List.mem_cons_self, by decide +kernel, by decide +kernel⟩
example : noAliasB sigStorageRoot.kids = true := by decide +kernel
example : insertMSISignature sigStorageRoot [1] [2] 0 0 = .err "storage" := by rfl

/-- **driver_hash_injective.** The "hash" the native driver instantiates the model with (marker, algorithm byte, length,
    pre-image) is injective: the verdicts it computes are those of any hash family that does not collide on the strings
    hashed in one op. -/
theorem driver_hash_injective (a b : Nat) (x y : Bytes) (h : Driver.MsiSign.Hsym a x = Driver.MsiSign.Hsym b y) :
    UInt8.ofNat a = UInt8.ofNat b ∧ x = y := by
  unfold Driver.MsiSign.Hsym at h
  have hl : (Driver.MsiSign.MARK ++ [UInt8.ofNat a] ++ leBytes 4 x.length).length =
      (Driver.MsiSign.MARK ++ [UInt8.ofNat b] ++ leBytes 4 y.length).length := by simp
  obtain ⟨h1, h2⟩ := List.append_inj h hl
  refine ⟨?_, h2⟩
  simp only [List.append_assoc] at h1
  have h3 := (List.append_inj h1 rfl).2
  simp only [List.cons_append, List.nil_append, List.cons.injEq] at h3
  exact h3.1

/-- **driver_cms_sound.** The CMS term of the driver gives back what was signed and is never empty, for an algorithm
    number below 256 and a digest below 4 GiB (the hypotheses of `verify_signed` at such an algorithm).  The offsets
    16 / 17 / 21 / 22 are the layout of `Driver.MsiSign.mkSym`: a 16-byte marker, the algorithm byte, a 4-byte length,
    the payload, one check byte. -/
theorem driver_cms_sound (a : Nat) (x : Bytes) (ha : a < 256) (hx : x.length < 256 ^ 4) :
    Driver.MsiSign.cmsSym (Driver.MsiSign.mkSym a x) = .ok ⟨a, x⟩ ∧ (Driver.MsiSign.mkSym a x).length ≠ 0 := by
  have hm : Driver.MsiSign.CMARK.length = 16 := by decide
  have e : Driver.MsiSign.mkSym a x = Driver.MsiSign.CMARK ++ (UInt8.ofNat a :: (leBytes 4 x.length ++ (x ++ [Driver.MsiSign.chk x]))) := by
    unfold Driver.MsiSign.mkSym; simp
  refine ⟨?_, by rw [e]; simp⟩
  unfold Driver.MsiSign.cmsSym
  have t16 : (Driver.MsiSign.mkSym a x).take 16 = Driver.MsiSign.CMARK := by
    rw [e, List.take_left' hm]
  have d16 : (Driver.MsiSign.mkSym a x).drop 16 = UInt8.ofNat a :: (leBytes 4 x.length ++ (x ++ [Driver.MsiSign.chk x])) := by
    rw [e, List.drop_left' hm]
  have d17 : (Driver.MsiSign.mkSym a x).drop 17 = leBytes 4 x.length ++ (x ++ [Driver.MsiSign.chk x]) := by
    have : (17 : Nat) = 16 + 1 := rfl
    rw [this, ← List.drop_drop, d16]; rfl
  have d21 : (Driver.MsiSign.mkSym a x).drop 21 = x ++ [Driver.MsiSign.chk x] := by
    have : (21 : Nat) = 17 + 4 := rfl
    rw [this, ← List.drop_drop, d17, List.drop_left' (leBytes_length 4 _)]
  have len : (Driver.MsiSign.mkSym a x).length = x.length + 22 := by rw [e]; simp [hm]; omega
  have l1 : (Driver.MsiSign.mkSym a x).getLast? = some (Driver.MsiSign.chk x) := by
    have e2 : Driver.MsiSign.mkSym a x =
        (Driver.MsiSign.CMARK ++ [UInt8.ofNat a] ++ leBytes 4 x.length ++ x) ++ [Driver.MsiSign.chk x] := rfl
    rw [e2]; apply List.getLast?_concat
  rw [t16, d16, d17, d21, len, l1]
  have tk : (x ++ [Driver.MsiSign.chk x]).take (x.length + 22 - 22) = x := by
    rw [Nat.add_sub_cancel, List.take_left' rfl]
  have lv : leVal ((leBytes 4 x.length ++ (x ++ [Driver.MsiSign.chk x])).take 4) = x.length := by
    rw [List.take_left' (leBytes_length 4 _), leVal_leBytes_of_lt 4 _ hx]
  rw [tk, lv]
  simp [UInt8.toNat_ofNat', Nat.mod_eq_of_lt ha]

end Relic.Props.C01
