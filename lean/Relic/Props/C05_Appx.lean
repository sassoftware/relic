/-
  C05 (APPX): the five byte streams relic hashes into `AppxSignature.p7x` are those of the format's description
  (`Relic.Spec.AppxDigest`, layout form): AXPC = the package from offset 0 up to the signature part's record, AXCD = the
  central directory and end records the package would have without the signature part, AXCT / AXBM / AXCI = the
  uncompressed content types, block map and catalog.
-/
import Relic.Proofs.AppxSign
import Relic.Spec.AppxDigest
namespace Relic.Props.C05
open Relic.Zip Relic.Appx

theorem headersOf_append : ∀ (a b : List File),
    (headersOf (a ++ b)).1 = (headersOf a).1 ++ (headersOf b).1 ∧ (headersOf (a ++ b)).2 = (headersOf a).2 ++ (headersOf b).2 :=
  ZipOwn.headersOf_app

/-- an entry that carries its raw record, or needs no ZIP64 extra field (sizes and offset below 4 GiB).  `getDirectoryHeader`
    returns the entry whatever it is (`ZipOwn.getDirectoryHeader_file`), so `Plain` is not needed as a hypothesis: the two
    lemmas below hold without it. -/
def Plain (f : File) : Prop := f.raw ≠ [] ∨ (f.csize < u32Max ∧ f.usize < u32Max ∧ f.offset < u32Max)

theorem getDirectoryHeader_plain {f : File} (h : Plain f) : (getDirectoryHeader f).2 = f :=
  ZipOwn.getDirectoryHeader_file f

theorem headersOf_plain : ∀ (fs : List File), (∀ f ∈ fs, Plain f) → (headersOf fs).2 = fs :=
  fun fs _ => ZipOwn.headersOf_files fs

theorem headersOf_length : ∀ (fs : List File), (headersOf fs).2.length = fs.length
  | [] => rfl
  | f :: fs => by simp [headersOf, headersOf_length fs]

/-- `WriteDirectory(…, forceZip64 = true)` writes the end records of the description, versions 4.5 -/
theorem endRecords_force (count size off minV : Nat) :
    Zip.endRecords count size off true minV = SpecAppx.endRecords 45 45 count size off := by
  have e1 : leBytes 4 sigEnd64 = [0x50, 0x4b, 0x06, 0x06] := by decide
  have e2 : leBytes 4 sigLoc64 = [0x50, 0x4b, 0x06, 0x07] := by decide
  have e3 : leBytes 4 sigEnd = [0x50, 0x4b, 0x05, 0x06] := by decide
  unfold Zip.endRecords needZip64 SpecAppx.endRecords
  simp only [Bool.or_true, Bool.true_or, if_true, encEnd64, encLoc64, encEnd, e1, e2, e3, u16Max, u32Max, List.append_assoc]

/-- the regenerated parts need no ZIP64 extra field.  In `appx_digest_eq_spec` this hypothesis is idle (see `Plain`): the
    three equations behind it hold for every size of the parts. -/
def PartsPlain (g : Digested) (ps : Parts) : Prop :=
  (∀ f ∈ (newEntries ps.mt ps.md (partMembers g.p.hasPE ps) g.p.outz.dirLoc).1, Plain f)

/-- **appx_digest_eq_spec.** For every package and every content of the regenerated parts: if relic signs, the file it
    writes is a package cut as the description says (`SpecAppx.Cut.file`), and the streams it hashed are the description's:
    AXPC = all local file records before the signature part's = the file up to that record, AXCD = the directory
    records of the other parts followed by ZIP64 end records adjusted as if the signature part were absent, AXCT/AXBM/AXCI
    = the uncompressed parts.  Moreover the body starts with the untouched payload prefix of the input. -/
theorem appx_digest_eq_spec (c : Codec) (z : Bytes) (ps : Parts) (r : Signed) (h : sign c z ps = .ok r) :
    ∃ (g : Digested) (cut : SpecAppx.Cut), digest c z = .ok g ∧
      (PartsPlain g ps →
        r.out = cut.file ∧ r.streams.axpc = cut.axpc ∧ r.streams.axcd = cut.axcd) ∧
      cut.body = z.take g.patchStart ++ partsBytes g ps ∧ cut.body.length = r.sigOff ∧ cut.vm = 45 ∧ cut.vn = 45 ∧
      cut.n = g.p.members.length + (partMembers g.p.hasPE ps).length ∧
      r.streams.axct = ps.ctypes.plain ∧ r.streams.axbm = ps.blockmap.plain ∧
      r.streams.axci = (if g.p.hasPE then some ps.catalog.plain else none) := by
  obtain ⟨g, hg, h⟩ := sign_ok.1 h
  obtain ⟨s1, s2, s3, s4, _, s6⟩ := digest_spec hg
  obtain ⟨_, a2, a3, a4, _⟩ := assemble_eq h
  let sigE := newEntryAt ps.mt ps.md (sigMember ps) (d4Of g ps).dirLoc
  refine ⟨g, ⟨z.take g.patchStart ++ partsBytes g ps, sigBytes ps, (headersOf (d4Of g ps).files).1, (d4Of g ps).files.length,
              (getDirectoryHeader sigE).1, 45, 45⟩, hg, ?_, rfl, ?_, rfl, rfl, ?_, ?_, ?_, ?_⟩
  · intro hp
    have hplain : ∀ f ∈ (d4Of g ps).files, Plain f := by
      intro f hf
      simp only [d4Of, List.mem_append] at hf
      rcases hf with hf | hf
      · exact Or.inl (s6 f hf)
      · exact hp f hf
    have hfix := headersOf_plain _ hplain
    have hloc : (d4Of g ps).dirLoc = (z.take g.patchStart ++ partsBytes g ps).length := by
      simp [d4Of, s2, List.length_take, Nat.min_eq_left s3]
    refine ⟨?_, ?_, ?_⟩
    · rw [a2]
      simp only [SpecAppx.Cut.file, writeDirectory, endRecords_force, d5Of, hfix]
      obtain ⟨q1, _⟩ := headersOf_append (d4Of g ps).files [sigE]
      simp only [sigE] at q1
      rw [q1]
      simp [headersOf, List.append_assoc, hloc]
      simp only [sigE, hloc, List.length_append, List.length_take]
    · rw [a3]; simp [SpecAppx.Cut.axpc, s1]
    · rw [a3]; simp [SpecAppx.Cut.axcd, writeDirectory, endRecords_force, hloc]
  · rw [a4]; simp [d4Of, s2, List.length_take, Nat.min_eq_left s3]
  · simp [d4Of, s4, Zip.newEntries_fst_length]
  · rw [a3]
  · rw [a3]
  · rw [a3]

/-- witness package: one stored payload member `a` and a stored `AppxManifest.xml`, 32-bit end record -/
def zEx : Bytes := [80, 75, 3, 4, 20, 0, 0, 0, 0, 0, 0, 0, 0, 0, 153, 40, 230, 143, 2, 0, 0, 0, 2, 0, 0, 0, 1, 0, 0, 0, 97, 120, 121, 80, 75, 3, 4, 20, 0, 0, 0, 0, 0, 0, 0, 0, 0, 115, 147, 120, 36, 4, 0, 0, 0, 4, 0, 0, 0, 16, 0, 0, 0, 65, 112, 112, 120, 77, 97, 110, 105, 102, 101, 115, 116, 46, 120, 109, 108, 60, 80, 47, 62, 80, 75, 1, 2, 20, 0, 20, 0, 0, 0, 0, 0, 0, 0, 0, 0, 153, 40, 230, 143, 2, 0, 0, 0, 2, 0, 0, 0, 1, 0, 0, 0, 0, 0, 0, 0, 0, 0, 0, 0, 0, 0, 0, 0, 0, 0, 97, 80, 75, 1, 2, 20, 0, 20, 0, 0, 0, 0, 0, 0, 0, 0, 0, 115, 147, 120, 36, 4, 0, 0, 0, 4, 0, 0, 0, 16, 0, 0, 0, 0, 0, 0, 0, 0, 0, 0, 0, 0, 0, 33, 0, 0, 0, 65, 112, 112, 120, 77, 97, 110, 105, 102, 101, 115, 116, 46, 120, 109, 108, 80, 75, 5, 6, 0, 0, 0, 0, 2, 0, 2, 0, 109, 0, 0, 0, 83, 0, 0, 0, 0, 0]

def cEx : Codec := { inflate := fun _ => none, peOk := fun _ => true, manifestOk := fun _ => true, blockMap := fun _ => none, ctypesOk := fun _ => true }
def psEx : Parts := ⟨⟨[60, 81, 47, 62], [60, 81, 47, 62], 7⟩, ⟨[66], [3, 0], 1⟩, ⟨[67], [3, 1], 2⟩, ⟨[], [], 0⟩, ⟨[80, 75, 67, 88], [9, 9], 3⟩, 0, 33⟩

def okAnd {α} (r : Res α) (p : α → Bool) : Bool := match r with | .ok a => p a | _ => false

set_option maxRecDepth 8000 in
/-- non-vacuity: the model signs the witness package (payload prefix of 33 bytes kept, AXPC = the output up to the
    signature part's record) -/
example : okAnd (sign cEx zEx psEx) (fun r => r.out.take 33 == zEx.take 33 && r.streams.axpc == r.out.take r.sigOff &&
    decide (33 < r.sigOff)) = true := by decide +kernel

end Relic.Props.C05
