/-
  C01 — Every signature relic produces verifies.   Mach-O part (models `Relic.Model.MachO`, `Relic.Model.CodeDir`).
  The crux is an ORDER: `machos.Sign` patches the load commands (LC_CODE_SIGNATURE, __LINKEDIT sizes, ncmds/sizeofcmds)
  BEFORE it hashes, feeds the patched header buffer to the page hasher, and cuts the patch blobs from that same
  buffer.  So the image that was hashed is the prefix of the file that gets written, and the verifier's pages are the
  signer's pages.  CMS is a parameter; so is the hash function.
-/
import Relic.Proofs.MachOPatch
import Relic.Proofs.CodeDirVerify
import Relic.Props.C12
namespace Relic.Props.C01
open Relic.MachO Relic.CodeDir Relic.Binpatch

/-- The production path (Add … Dump/Load … rewrite) applied to the patch set
    `PatchSignature` builds yields the reference result `written`, whenever the calls come in ascending order
    (header fields, then __LINKEDIT fields, then LC_CODE_SIGNATURE, then the signature: the regular command order). -/
theorem macho_written_is_reference (M : Nat) (f h3 : Bytes) (rs : List (Nat × Nat)) (cs sigLen padding : Nat) (sigBuf : Bytes)
    (hc : C12.Constructible f.length (hdrPatches h3 rs ++ [⟨cs, sigLen, zeros padding ++ sigBuf⟩])) :
    applyRewrite f (build M (hdrPatches h3 rs ++ [⟨cs, sigLen, zeros padding ++ sigBuf⟩])) =
      .ok (written f h3 rs cs sigLen padding sigBuf) :=
  C12.add_spec M f _ hc

/-- The ordering crux, proved at the level of the patch set.  `h3` is the header buffer after `PatchSignature` (it differs
    from the file's header only inside the recorded ranges `rs`), `cs` the end of code, `padding` the alignment gap, `sigBuf`
    the signature buffer; `hreg`: nothing but an old signature lies behind `cs` when padding is inserted.  `VerifyPages`, run
    on the first `cs + padding` bytes (= `codeLimit`) of the WRITTEN file against one slot per page, performs exactly the
    comparisons `(page_i hashed at signing, slot_i)`; hence with `slot_i = H(page_i)` (C05.codedir_hashes_eq_spec) every
    comparison succeeds for every `H`. -/
theorem macho_sign_then_verify_partial (ps : Nat) (hps : 0 < ps) (f h3 : Bytes) (rs : List (Nat × Nat))
    (cs sigLen padding : Nat) (sigBuf : Bytes) (L : Layout f h3 rs cs sigLen) (hreg : padding = 0 ∨ f.length = cs)
    (slots : List Bytes) (hslots : slots.length = (pages ps (hashedImage f h3 cs padding)).length) :
    let g := written f h3 rs cs sigLen padding sigBuf
    pages ps (g.take (cs + padding)) = pages ps (hashedImage f h3 cs padding) ∧
    verifyLoop ps slots (g.take (cs + padding)) ((cs + padding : Nat) : Int) ps =
      (zipChecks (pages ps (hashedImage f h3 cs padding)) slots, .ok ()) := by
  intro g
  have hp := hashed_eq_written_prefix f h3 rs cs sigLen padding sigBuf L hreg
  have hlen : (hashedImage f h3 cs padding).length = cs + padding := by
    rw [← hp]
    have := written_length f h3 rs cs sigLen padding sigBuf L
    simp only [List.length_take, this]
    have := L.oldInside; omega
  refine ⟨by rw [hp], ?_⟩
  show verifyLoop ps slots (g.take (cs + padding)) _ ps = _
  rw [hp]
  have := verifyLoop_pages ps hps slots (hashedImage f h3 cs padding) hslots
  rw [hlen] at this
  exact this

/-- the end-to-end statement over the executable model (`sign`, `signedFile`, `locate`): for every regular thin image
    and every blob that fits, the written file exists, the verifier's locator finds exactly the signature region, and
    the verifier's pages are the signer's pages.  Not proved as one theorem (the load-command walk of `scan`/`newFile`
    on an arbitrary header is not characterised); its three links are `macho_written_is_reference`,
    `macho_sign_then_verify_partial` and C05.sign_codedir_eq_spec, and it is exercised on every run by the `sign` op
    (model prediction `verify=ok` against `machos.Verify` on the really signed file).
    AS WRITTEN THIS STATEMENT IS FALSE IN THE MODEL (`not_macho_sign_then_verify_full`, Props/C01_MachOLocate.lean: an image
    with an LC_SYMTAB command is signed, but the model's partial `loadLoop` answers "unmodelled" on the signed file — a gap
    of the statement, not of relic).  With the regularity bundle `RegularImage` (Props/C01_MachOLocate.lean: the parser
    accepts the input, one 16-byte LC_CODE_SIGNATURE at most, __LINKEDIT command kind = file magic, header below the end of
    code, old signature inside the file) it is proved for both branches of `PatchSignature` as `macho_sign_then_locate`
    (plus `macho_sign_then_verify_regular` = the three conjuncts below).  The hypotheses `lePos ≠ 0` and
    `lePos + 56 ≤ nextLc` are derivable (`macho_markers_derivable`); `padding = 0 ∨ f.length = codeSize` is not needed.
    The whole chain up to `machos.Verify`'s verdict (superblob / code-directory round trips, special slots, `VerifyPages`) is
    `macho_sign_then_verify_end_to_end` in Props/C01_MachOFull.lean. -/
def macho_sign_then_verify_full : Prop :=
  ∀ (f : Bytes) (p : SignParams) (so : SignOut) (blob : Bytes),
    sign f p = .ok so → so.plan.m.lePos ≠ 0 → so.plan.m.lePos + 56 ≤ so.plan.m.nextLc →
    (so.plan.po.padding = 0 ∨ (f.length : Int) = so.plan.m.codeSize) → blob.length ≤ so.plan.po.sigBufLen →
    ∃ g, signedFile f so.plan.po blob = .ok g ∧ locate g = .ok (so.plan.po.sigStart, so.plan.po.sigBufLen) ∧
      pages 4096 (g.take so.signed.pages.limit) = pages 4096 so.plan.stream

/-- the statement without any regularity hypothesis ("whatever `machos.Sign` accepts, it signs into something its own
    verifier accepts; everything else is refused").  It was false of relic before the fixes F44 (an image without __LINKEDIT was
    accepted and the signature written at offset 0, corpus/C01/macho_no_linkedit.ops; `scan` now answers "nolinkedit") and F45
    (bytes behind an unaligned end of __LINKEDIT were hashed in place of the padding, `macho_trailing_bytes_break`,
    corpus/C01/macho_trailing_bytes.ops; `plan` now cuts the stream at the end of code).  In the model it is
    false a fortiori: it implies `macho_sign_then_verify_full` (fewer hypotheses, same conclusion).  The check evaluates this statement on
    the real code for every `sign` op. -/
def macho_irregular_refused_full : Prop :=
  ∀ (f : Bytes) (p : SignParams) (so : SignOut) (blob : Bytes),
    sign f p = .ok so → blob.length ≤ so.plan.po.sigBufLen →
    ∃ g, signedFile f so.plan.po blob = .ok g ∧ locate g = .ok (so.plan.po.sigStart, so.plan.po.sigBufLen) ∧
      pages 4096 (g.take so.signed.pages.limit) = pages 4096 so.plan.stream

/-- Finding F45, about the stream relic hashed before that fix (`hashedImage`): without the hypothesis
    `padding = 0 ∨ f.length = cs` the hashed image is NOT the prefix of the written file — bytes behind an unaligned
    end of code are hashed where the output has zero padding.  (Concrete replay on the real code:
    corpus/C01/macho_trailing_bytes.ops.) -/
theorem macho_trailing_bytes_break :
    ∃ (f h3 : Bytes) (cs padding : Nat) (sigBuf : Bytes), Layout f h3 [] cs 0 ∧
      (written f h3 [] cs 0 padding sigBuf).take (cs + padding) ≠ hashedImage f h3 cs padding := by
  refine ⟨[1, 2, 3, 4, 5, 9, 9, 9], [1, 2, 3, 4], 5, 3, [7], ⟨by simp, ?_, by decide, by decide⟩, by decide⟩
  intro i hi _
  have : i < 4 := hi
  match i, this with
  | 0, _ => rfl
  | 1, _ => rfl
  | 2, _ => rfl
  | 3, _ => rfl

/-- a regular instance: 8-byte "file", 4-byte header buffer with bytes 2..3 patched, end of code 8 -/
example : Layout [1, 2, 3, 4, 5, 6, 7, 8] [1, 2, 30, 40] [(2, 2)] 8 0 ∧
    written [1, 2, 3, 4, 5, 6, 7, 8] [1, 2, 30, 40] [(2, 2)] 8 0 0 [99] = [1, 2, 30, 40, 5, 6, 7, 8, 99] := by
  refine ⟨⟨by decide, ?_, by decide, by decide⟩, by decide⟩
  intro i hi hr
  have : i < 4 := hi
  match i, this with
  | 0, _ => rfl
  | 1, _ => rfl
  | 2, _ => exact absurd hr (by decide)
  | 3, _ => exact absurd hr (by decide)

end Relic.Props.C01
