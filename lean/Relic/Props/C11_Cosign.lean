/-
  C11 — Malformed input yields an error, never a crash or runaway resource use.   signers/cosign on arbitrary bytes:
  the uploaded manifest and the `optional` flag both go through encoding/json (model `Relic.Model.Json`: one fold over the
  bytes, so it terminates by construction), the upload is read through `io.LimitReader(r, 4 MiB + 1)`.
-/
import Relic.Model.Cosign
import Relic.Proofs.Res
namespace Relic.Props.C11
open Relic.Json Relic.Cosign Relic.Res

theorem finish_total (s : St) : (∃ v, finish s = .ok v) ∨ finish s = .err "syntax" := by
  unfold finish
  split
  · exact Or.inr rfl
  · split
    · split
      · exact Or.inl ⟨_, rfl⟩
      · exact Or.inr rfl
    · exact Or.inr rfl

/-- **json_scan_total**: `checkValid` + decode answer a value or a syntax error on every byte string -/
theorem json_scan_total (bs : Bytes) : (∃ v, scan bs = .ok v) ∨ scan bs = .err "syntax" := finish_total _

theorem scan_errs (bs : Bytes) : Errs (· = "syntax") (scan bs) := by
  rcases json_scan_total bs with ⟨v, h⟩ | h <;> rw [h] <;> first | trivial | rfl

theorem unmarshalMap_errs (cvt : Cvt) (t : Bytes) : Errs (fun _ => True) (unmarshalMap cvt t) := by
  unfold unmarshalMap
  refine Errs.cases (scan t) (scan_errs t) (fun v => ?_) (fun e _ => trivial)
  split
  · trivial
  · split <;> trivial
  · trivial
  all_goals (rename_i h; cases h)

theorem unmarshalMap_total (cvt : Cvt) (t : Bytes) : (∃ m, unmarshalMap cvt t = .ok m) ∨ (∃ e, unmarshalMap cvt t = .err e) :=
  (unmarshalMap_errs cvt t).value_or_err

theorem unmarshalMediaType_errs (t : Bytes) : Errs (fun _ => True) (unmarshalMediaType t) := by
  unfold unmarshalMediaType
  refine Errs.cases (scan t) (scan_errs t) (fun v => ?_) (fun e _ => trivial)
  split
  · trivial
  · exact Errs.ite trivial trivial
  · trivial
  all_goals (rename_i h; cases h)

theorem unmarshalMediaType_total (t : Bytes) : (∃ m, unmarshalMediaType t = .ok m) ∨ (∃ e, unmarshalMediaType t = .err e) :=
  (unmarshalMediaType_errs t).value_or_err

theorem digestManifest_errs (H : Bytes → Bytes) (h : Hash) (blob : Bytes) : Errs (fun _ => True) (digestManifest H h blob) := by
  unfold digestManifest
  split
  · trivial
  · refine Errs.cases (unmarshalMediaType blob) (unmarshalMediaType_errs blob) (fun mt => ?_) (fun _ _ => trivial)
    exact Errs.ite trivial (Errs.ite trivial trivial)

theorem digestManifest_total (H : Bytes → Bytes) (h : Hash) (blob : Bytes) :
    (∃ r, digestManifest H h blob = .ok r) ∨ (∃ e, digestManifest H h blob = .err e) :=
  (digestManifest_errs H h blob).value_or_err

theorem newPayload_errs (cvt : Cvt) (creator d : List Nat) (opt : Bytes) :
    Errs (· = "invalid-annotations") (newPayload cvt creator d opt) := by
  unfold newPayload
  split
  · trivial
  · exact Errs.cases (unmarshalMap cvt opt) (unmarshalMap_errs cvt opt) (fun _ => trivial) (fun _ _ => rfl)

theorem newPayload_total (cvt : Cvt) (creator d : List Nat) (opt : Bytes) :
    (∃ p, newPayload cvt creator d opt = .ok p) ∨ newPayload cvt creator d opt = .err "invalid-annotations" :=
  (newPayload_errs cvt creator d opt).ok_or_err.imp_right fun ⟨_, he, h⟩ => h ▸ he

/-- **cosign_sign_no_panic.**  For every upload, every `optional` flag value, hash, key behaviour and number table: `sign`
    answers a value or an error – no panic, no divergence. -/
theorem cosign_sign_no_panic {Sig : Type} (H : Bytes → Bytes) (signer : Bytes → Option Sig) (cvt : Cvt) (creator : List Nat)
    (h : Hash) (upload optional : Bytes) :
    (∃ out, sign H signer cvt creator h upload optional = .ok out) ∨ (∃ e, sign H signer cvt creator h upload optional = .err e) := by
  refine Errs.value_or_err (E := fun _ => True) ?_
  unfold sign
  refine Errs.ite trivial ?_
  refine Errs.cases (digestManifest H h _) (digestManifest_errs H h _) (fun r => ?_) (fun _ _ => trivial)
  obtain ⟨d, mt⟩ := r
  simp only []
  refine Errs.cases (newPayload cvt creator d optional) (newPayload_errs cvt creator d optional) (fun p => ?_) (fun e _ => trivial)
  simp only []
  split <;> trivial

/-- **cosign_sign_alloc_le.**  What `sign` reads of the upload is bounded by a constant, whatever the upload's length -/
theorem cosign_sign_alloc_le (upload : Bytes) : signAlloc upload ≤ maxSize + 1 := by
  unfold signAlloc
  simp only [List.length_take]
  omega

/-- the bound is attained (uploads of more than 4 MiB are cut at 4 MiB + 1 and refused) -/
example (upload : Bytes) (h : maxSize < upload.length) : signAlloc upload = maxSize + 1 := by
  unfold signAlloc
  simp only [List.length_take]
  omega

/-- the depth limit of the scanner: 10000 open brackets are accepted as a prefix, the next one is a syntax error -/
theorem json_depth_limit (s : St) (hs : s.stack.length = maxNestingDepth)
    (hm : s.mode = .beginValue) : (step s 0x5B).mode.isError = true := by
  unfold step
  rw [hm]
  simp only [beginValue]
  rw [if_neg (by decide), if_neg (by decide), if_pos (by decide)]
  unfold push
  rw [if_neg (by rw [hs]; omega)]
  rfl

end Relic.Props.C11
