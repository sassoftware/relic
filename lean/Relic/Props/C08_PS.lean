/-
  C08 — Re-signing replaces the signature; digests ignore existing signatures.
  PowerShell part, over `Relic.Model.PS` (model of lib/authenticode/powershell.go after fixes F8a, F8b, F8c, F-ps-eol).
-/
import Relic.Proofs.PSFrame
import Relic.Props.C12
namespace Relic.Props.C08
open Relic Relic.PS

/-- **ps_signed_file.** What `Sign → Apply` writes for a script whose digest succeeded: the script text (the file up to
    `TextSize`: an old signature block and the line break in front of it are dropped) followed by the new block;
    obtained through the *real* patch path (`Add`, `Dump`-order, rewrite loop). -/
theorem ps_signed_file (f : Bytes) (style : Nat) (d : Digest) (sig : Bytes) (ps : List Binpatch.Patch) (st en : Bytes)
    (e : DigestPS f style = .ok d) (hs : styleOf style = some (st, en)) (hm : makePatch d sig = .ok ps) (M : Nat) :
    Binpatch.applyRewrite f (Binpatch.build M ps) = .ok (signedBytes f d st en sig) := by
  obtain ⟨h1, h2⟩ := sem_makePatch f style d sig ps st en (DigestPS_spec f style d e) hs hm
  rw [C12.add_spec M f ps h2, h1]

/-- one signing round on the model: digest, build the patch, apply it (reference semantics of the patch set;
    `ps_signed_file` ties it to the real patch path) -/
def psSignRound (style : Nat) (f sig : Bytes) : Res Bytes :=
  match DigestPS f style with
  | .ok d => match makePatch d sig with
    | .ok ps => .ok (Binpatch.sem f ps)
    | .err e => .err e
    | .panic p => .panic p
    | .diverge => .diverge
  | .err e => .err e
  | .panic p => .panic p
  | .diverge => .diverge

/-- The side conditions under which the verifier finds the block again where `MakePatch` put it (all decidable on the
    input, all violated only by contrived scripts – the correspondence exercises those):
    * UTF-16 text keeps its BOM and its alignment (`TextSize` even and ≥ 2);
    * the unterminated last line of the text does not turn into the begin marker when the block's leading CRLF is
      appended to it (it would then BE a marker line for every reader; since fix F-ps-eol `DigestPowershell` checks that
      the two/four bytes it strips in front of a marker are CRLF, which the block's own leading CRLF always is). -/
def NoFalseMarker (f : Bytes) (d : Digest) (st en : Bytes) : Prop :=
  (d.utf16 = true → d.textSize % 2 = 0 ∧ 2 ≤ d.textSize) ∧
  ∀ l, l ++ (if d.utf16 then widen crlf else crlf) = firstLine st en d.utf16 → ¬ l <:+ f.take d.textSize

/-- the side conditions in the form the lemmas about a `Mode` take them, for the mode of the file's encoding -/
theorem NoFalseMarker.mode {f : Bytes} {style : Nat} {d : Digest} {st en : Bytes} (nf : NoFalseMarker f d st en)
    (e : DigestPS f style = .ok d) :
    (modeOf d.utf16).Fits f d st en := by
  have hu := modeOf_u16 d.utf16
  refine ⟨((DigestPS_spec f style d e).utf16.symm.trans hu.symm), (modeOf_ok _ _).2 fun h => (nf.1 h).1,
    fun h => (nf.1 (hu.symm.trans h)).2, ?_⟩
  rw [modeOf_enc, hu]
  exact nf.2

/-- **ps_digest_ignores_signature.** Full statement, success included: digesting the signed script succeeds, finds the
    same text (same `TextSize`, same encoding) and feeds the hash exactly the stream hashed for the input.  (Rests on the
    frame property of the digest loop, `Relic.PS.digestLoop_frame`.) -/
theorem ps_digest_ignores_signature (f : Bytes) (style : Nat) (d : Digest) (st en sig : Bytes) (e : DigestPS f style = .ok d)
    (hs : styleOf style = some (st, en)) (nf : NoFalseMarker f d st en) :
    ∃ d', DigestPS (signedBytes f d st en sig) style = .ok d' ∧ d'.hashed = d.hashed ∧ d'.textSize = d.textSize ∧
      d'.utf16 = d.utf16 :=
  DigestPS_signed (modeOf d.utf16) f style d st en sig e hs (nf.mode e)

/-- **ps_digest_ignores_signature (partial).** What is proved in general: the text in front of the block is the same in
    the signed file as in the input, and for UTF-16 scripts the hashed stream *is* that text; so whenever re-digesting
    the signed file succeeds with the same `TextSize`, it hashes the same stream. -/
theorem ps_digest_ignores_signature_partial (f : Bytes) (style : Nat) (d d' : Digest) (st en sig : Bytes)
    (e : DigestPS f style = .ok d) (e' : DigestPS (signedBytes f d st en sig) style = .ok d')
    (hu : d.utf16 = true) (hu' : d'.utf16 = true) (ht : d'.textSize = d.textSize) : d'.hashed = d.hashed := by
  have H := DigestPS_spec f style d e
  have H' := DigestPS_spec _ style d' e'
  rw [H.stream16 hu, H'.stream16 hu', ht, signedBytes_take f style d st en sig H]

/-- **ps_resign_replaces (partial).** If re-digesting relic's own output finds the text where the first round left it,
    the second round writes exactly what signing the original with the new blob writes. -/
theorem ps_resign_replaces_partial (f : Bytes) (style : Nat) (d d' : Digest) (st en s1 s2 : Bytes)
    (e : DigestPS f style = .ok d) (hs : styleOf style = some (st, en))
    (e' : DigestPS (signedBytes f d st en s1) style = .ok d') (ht : d'.textSize = d.textSize) (hu : d'.utf16 = d.utf16) :
    psSignRound style (signedBytes f d st en s1) s2 = .ok (signedBytes f d st en s2) := by
  have H := DigestPS_spec f style d e
  have H' := DigestPS_spec _ style d' e'
  unfold psSignRound
  rw [e']
  have hm : makePatch d' s2 = .ok [⟨d'.textSize, d'.sigSize, block st en d'.utf16 s2⟩] := by
    unfold makePatch; rw [H'.styleEq, hs]
  simp only [hm]
  obtain ⟨h1, _⟩ := sem_makePatch _ style d' s2 _ st en H' hs hm
  rw [h1, signedBytes, ht, hu, signedBytes_take f style d st en s1 H, signedBytes]

/-- **ps_resign_replaces.** A second signing round on relic's own output succeeds and writes exactly what signing the
    original with the new blob writes: the earlier block is gone, the text did not move. -/
theorem ps_resign_replaces (f : Bytes) (style : Nat) (d : Digest) (st en s1 s2 : Bytes) (e : DigestPS f style = .ok d)
    (hs : styleOf style = some (st, en)) (nf : NoFalseMarker f d st en) :
    psSignRound style (signedBytes f d st en s1) s2 = .ok (signedBytes f d st en s2) := by
  obtain ⟨d', e', _, ht, hu⟩ := ps_digest_ignores_signature f style d st en s1 e hs nf
  exact ps_resign_replaces_partial f style d d' st en s1 s2 e hs e' ht hu

/-- **ps_history_total.** Every history of signing rounds `s₁ … sₙ` applied to relic's own output succeeds, and the script
    after the last round is the original text followed by the block of the last blob only. -/
theorem ps_history_total (f : Bytes) (style : Nat) (d : Digest) (st en : Bytes) (e : DigestPS f style = .ok d)
    (hs : styleOf style = some (st, en)) (nf : NoFalseMarker f d st en) :
    ∀ (sigs : List Bytes) (last : Bytes),
      sigs.foldlM (psSignRound style) (signedBytes f d st en last) = .ok (signedBytes f d st en ((last :: sigs).getLast (by simp))) :=
  fun sigs last => Res.foldlM_replace (psSignRound style) (signedBytes f d st en) (fun _ => True)
    (fun a s _ => ps_resign_replaces f style d st en a s e hs nf) sigs last trivial fun _ _ => trivial

/-- `Write-Host 1` + CRLF + `上` (U+4E0A: a code unit containing a 0x0A byte) -/
def scriptText : Bytes := [0x57, 0x72, 0x69, 0x74, 0x65, 0x2d, 0x48, 0x6f, 0x73, 0x74, 0x20, 0x31, 13, 10, 0xe4, 0xb8, 0x8a]

def script16 : Bytes := [0xff, 0xfe] ++ widen [0x57, 0x72, 0x69, 0x74, 0x65, 13, 10] ++ [0x0a, 0x4e, 0x0a, 0x01]

/-- digest, sign, re-digest (same stream, same text size), locate (the base64 lines of the blob), sign again (replaced) -/
def chainOk (f : Bytes) (style : Nat) (sig sig2 : Bytes) : Bool :=
  match DigestPS f style, styleOf style with
  | .ok d, some (st, en) =>
    d.sigSize == 0 && d.textSize == f.length &&
    (match psSignRound style f sig with
     | .ok g => g == signedBytes f d st en sig &&
        (match DigestPS g style with
         | .ok d' => d'.hashed == d.hashed && d'.textSize == d.textSize && d'.sigSize + d'.textSize == g.length
         | _ => false) &&
        locate g style == .ok (chunks64 (base64 sig).length (base64 sig)) &&
        psSignRound style g sig2 == .ok (signedBytes f d st en sig2)
     | _ => false)
  | _, _ => false

/-- the test vectors, evaluated once; the non-vacuity examples of C01, C03 and C08 are its parts -/
theorem chain_facts : chainOk scriptText 1 [1, 2, 3, 4] [9] = true ∧ chainOk scriptText 2 [1, 2, 3, 4] [9] = true ∧
    chainOk scriptText 3 (List.replicate 50 7) [9] = true ∧ chainOk script16 1 [1, 2, 3, 4] [9] = true ∧
    chainOk script16 2 [1, 2, 3, 4] [9] = true ∧ chainOk script16 3 (List.replicate 50 7) [9] = true ∧
    chainOk script16 3 [1, 2, 3, 4] [9] = true := by decide +kernel

set_option maxRecDepth 1000000 in
example : chainOk scriptText 1 [1, 2, 3, 4] [9] = true ∧ chainOk scriptText 2 [1, 2, 3, 4] [9] = true ∧
    chainOk scriptText 3 (List.replicate 50 7) [9] = true ∧ chainOk script16 1 [1, 2, 3, 4] [9] = true ∧
    chainOk script16 2 [1, 2, 3, 4] [9] = true ∧ chainOk script16 3 (List.replicate 50 7) [9] = true :=
  ⟨chain_facts.1, chain_facts.2.1, chain_facts.2.2.1, chain_facts.2.2.2.1, chain_facts.2.2.2.2.1, chain_facts.2.2.2.2.2.1⟩

end Relic.Props.C08
