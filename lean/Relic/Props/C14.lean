/-
  C14 — Concurrent requests are isolated and race-free.

  Property theorems about `Relic.Model.Server` (abstract server: shared components guarded by one
  lock each, per-request records, executions = all merges of the threads' step lists, with
  clock ticks / limiter refills / health-check iterations / shutdown as environment threads), and
  the obligation `inventory_closed` on the inventory of shared mutable state that
  `tools/extractshared` regenerates from the Go source on every run
  (`Relic.Generated.SharedState.entries`).

  NOT modelled: Go-memory-model data races (an unsynchronised access that happens to read the right
  value), scheduler fairness, real limiter timing, lock hand-over below the granularity of one
  critical section.  The `-race` run of the harness supports the search; it is not a theorem.
-/
import Relic.Proofs.Server
import Relic.Generated.SharedState
namespace Relic.Props.C14
open Relic.Server

/-- observations made while running alone (the head of each step's contribution is `Server.obsAt w st s` written out) -/
def obsSeq (w : World) (r : Req) : List Step → State → Local → List Bool
  | [], _, _ => []
  | st :: rest, s, l =>
    (if stateDep st then [observe w st s] else []) ++ obsSeq w r rest (exec w r st s l).1 (exec w r st s l).2

theorem runSeq_local (w : World) (r : Req) (rest : List Step) :
    ∀ (s : State) (l : Local), Inv w s →
      (runSeq w r rest s l).2 = localRun w r (obsSeq w r rest s l) rest l := by
  induction rest with
  | nil => intro s l _; rfl
  | cons st rest ih =>
    intro s l hinv
    simp only [runSeq, obsSeq]
    rw [ih _ _ (inv_exec w r st s l hinv)]
    exact (localRun_step w r st rest s hinv _ l).symm

theorem prog_head (r : Req) (hk : r.kind ≠ .env) : prog r = .accept :: (prog r).tail := by
  unfold prog
  cases hkind : r.kind <;> first | rfl | exact absurd hkind hk

/-- after `accept`, only `/health` looks at the shared state again: once, at the health flag -/
theorem justified_tail (R : State → Prop) (w : World) (r : Req) (obs : List Bool) (hk : r.kind ≠ .env)
    (hJ : Justified R w (prog r).tail obs) :
    (r.kind ≠ .health → obs = []) ∧ (r.kind = .health → ∃ s', R s' ∧ obs = [healthy w s']) := by
  unfold prog at hJ
  cases hkind : r.kind <;> rw [hkind] at hJ
  · exact ⟨fun _ => hJ, nofun⟩
  · exact ⟨fun _ => hJ, nofun⟩
  · exact ⟨fun _ => hJ, nofun⟩
  · obtain ⟨b, obs', rfl, ⟨s', hs', rfl⟩, rfl⟩ := hJ
    exact ⟨fun h => absurd rfl h, fun _ => ⟨s', hs', rfl⟩⟩
  · exact absurd hkind hk

theorem justified_prog (P : State → Prop) (w : World) (r : Req) (obs : List Bool)
    (hk : r.kind ≠ .env) (hsd : ∀ s, P s → s.shutdown = false) (hJ : Justified P w (prog r) obs) :
    (r.kind ≠ .health → obs = [false]) ∧ (r.kind = .health → ∃ s', P s' ∧ obs = [false, healthy w s']) := by
  rw [prog_head r hk] at hJ
  obtain ⟨b, obs', rfl, ⟨s, hs, rfl⟩, hrest⟩ := hJ
  obtain ⟨h1, h2⟩ := justified_tail P w r obs' hk hrest
  rw [show observe w .accept s = false from hsd s hs]
  refine ⟨fun h => by rw [h1 h], fun h => ?_⟩
  obtain ⟨s', hs', rfl⟩ := h2 h
  exact ⟨s', hs', rfl⟩

/-- symbolic run of the request's fixed program (at most eight steps) per kind, splitting on `valid`, the token's key, `wantTs`
    and the timestamper in the order the program meets them -/
theorem localRun_prog (w : World) (r : Req) (b : Bool) (hk : r.kind ≠ .env) :
    (localRun w r (if r.kind = .health then [false, b] else [false]) (prog r) {}).resp = some (expected w r b) := by
  unfold prog expected
  cases hkind : r.kind
  · cases hv : r.valid
    · simp [localRun, nextView, stateDep, stepL, skip, stepLocal, response, hv]
    cases hkey : w.tokenKey r.key
    · simp [localRun, nextView, stateDep, stepL, skip, stepLocal, canon, response, hv, hkey]
    cases hts : r.wantTs
    · simp [hkind, localRun, nextView, stateDep, stepL, skip, stepLocal, canon, response, hv, hkey, hts]
    cases htn : w.tsNew <;>
      simp [hkind, localRun, nextView, stateDep, stepL, skip, stepLocal, canon, response, hv, hkey, hts, htn]
  · cases hv : r.valid <;> cases hkey : w.tokenKey r.key <;>
      simp [hkind, localRun, nextView, stateDep, stepL, skip, stepLocal, canon, response, hv, hkey]
  · cases hv : r.valid <;>
      simp [hkind, localRun, nextView, stateDep, stepL, skip, stepLocal, response, hv]
  · simp [hkind, localRun, nextView, stateDep, stepL, skip, stepLocal, response]
  · exact absurd hkind hk

theorem auditOf_env (w : World) (r : Req) (rest : List Step) (henv : ∀ st ∈ rest, isEnvStep st = true) :
    ∀ (obs : List Bool) (l : Local), auditOf w r obs rest l = [] := by
  induction rest with
  | nil => intro _ _; rfl
  | cons st rest ih =>
    intro obs l
    simp only [auditOf]
    rw [ih (fun st' h => henv st' (List.mem_cons_of_mem _ h))]
    have : isEnvStep st = true := henv st List.mem_cons_self
    cases st <;> simp [isEnvStep] at this <;> simp [emit]

theorem auditOf_prog (w : World) (r : Req) (b : Bool) :
    auditOf w r (if r.kind = .health then [false, b] else [false]) (prog r) {} =
      if succeeds w r then [record r] else [] := by
  cases hkind : r.kind
  · unfold succeeds expected
    cases hv : r.valid
    · simp [prog, hkind, auditOf, nextView, stateDep, stepL, skip, stepLocal, emit, hv]
    cases hkey : w.tokenKey r.key
    · simp [prog, hkind, auditOf, nextView, stateDep, stepL, skip, stepLocal, canon, emit, hv, hkey]
    cases hts : r.wantTs
    · simp [prog, hkind, auditOf, nextView, stateDep, stepL, skip, stepLocal, canon, emit, record, hv, hkey, hts]
    cases htn : w.tsNew <;>
      simp [prog, hkind, auditOf, nextView, stateDep, stepL, skip, stepLocal, canon, emit, record, hv, hkey, hts, htn]
  · simp [prog, hkind, auditOf, emit, succeeds]
  · simp [prog, hkind, auditOf, emit, succeeds]
  · simp [prog, hkind, auditOf, emit, succeeds]
  · rw [auditOf_env w r (prog r) (by simp [prog, hkind])]
    simp [succeeds, hkind]

/-- Alone, from any state satisfying `Inv` and not shutting down, a request gets
    `expected`: for a sign request the signature made with the token's key *for the requested
    name* over the digest of *its* body with *its* options. -/
theorem solo_response (w : World) (r : Req) (s : State) (hk : r.kind ≠ .env) (hinv : Inv w s)
    (hsd : s.shutdown = false) : solo w r s = some (expected w r (healthy w s)) := by
  have hobs : obsSeq w r (prog r) s {} = if r.kind = .health then [false, healthy w s] else [false] := by
    cases hkind : r.kind <;> simp [hkind] at hk ⊢ <;>
      simp [prog, hkind, obsSeq, stateDep, observe, hsd, exec, skip, stepShared]
  rw [solo, runSeq_local w r (prog r) s {} hinv, hobs]
  exact localRun_prog w r (healthy w s) hk

example : ∀ s, Inv ⟨fun n => if n = 7 then some 70 else none, none, 5, 3, 30, false, fun k d o _ => k + d + o,
      fun h b => h * 1000 + b, fun _ => [7]⟩ s → s.shutdown = false →
    solo ⟨fun n => if n = 7 then some 70 else none, none, 5, 3, 30, false, fun k d o _ => k + d + o,
      fun h b => h * 1000 + b, fun _ => [7]⟩ { kind := .sign, key := 7, hash := 2, body := 9, opts := 1 } s
      = some (.signed (70 + 2009 + 1)) := by
  intro s hi hs
  rw [solo_response _ _ s (by decide) hi hs]
  rfl

/-- the states before the shutdown step -/
def PIso (w : World) (s : State) : Prop := Inv w s ∧ s.shutdown = false

theorem PIso_step (w : World) (s : State) (r : Req) (st : Step) (l : Local) (hne : st ≠ .shutdown)
    (h : PIso w s) : PIso w (exec w r st s l).1 :=
  ⟨inv_exec w r st s l h.1, by rw [exec_shutdown w r st s l hne]; exact h.2⟩

/-- `N` threads: requests of any kinds (sign / key info / key list / health) and
    environment threads made of clock ticks (cache expiry), limiter refills and health-check
    iterations with arbitrary outcomes.  For EVERY interleaving `σ` of their step lists, started
    in any state satisfying `Inv`:
    * `Inv` holds afterwards;
    * every request's response equals the response it gets when run alone (`solo`) from some state
      satisfying `Inv`; for every kind but `/health` it equals the solo response from *every* such
      state and is `expected`, i.e. a function of that request's own key name, hash, body and options
      and the static token contents only (cache hit or miss, other requests, time make no difference);
    * the audit log is the old log plus a permutation of exactly the records of
      the requests that were answered with a signature. -/
theorem isolation (w : World) (N : Nat) (reqs : Nat → Req) (ls : Nat → List Step) (σ : List Event) (c : Cfg)
    (hreq : ∀ i, i < N → ls i = prog (reqs i)) (hN : ∀ i, N ≤ i → ls i = [])
    (hns : ∀ i, i < N → Step.shutdown ∉ prog (reqs i))
    (hm : Merges ls σ) (hinv : Inv w c.shared) (hsd : c.shared.shutdown = false)
    (hl : ∀ i, c.locals i = {}) :
    Inv w (run w reqs c σ).shared ∧
    (∀ i, i < N → (reqs i).kind ≠ .env →
      (∃ s', Inv w s' ∧ s'.shutdown = false ∧ ((run w reqs c σ).locals i).resp = solo w (reqs i) s') ∧
      ((reqs i).kind ≠ .health →
        ((run w reqs c σ).locals i).resp = some (expected w (reqs i) false) ∧
        ∀ s', Inv w s' → s'.shutdown = false → ((run w reqs c σ).locals i).resp = solo w (reqs i) s')) ∧
    List.Perm (run w reqs c σ).shared.audit
      (c.shared.audit ++ (List.range N).flatMap (fun i => if succeeds w (reqs i) then [record (reqs i)] else [])) := by
  -- `run_merges` at the invariant `PIso`; `justified_prog` turns each thread's observations into `[false]` or
  -- `[false, healthy s']`; `localRun_prog` gives the response from them
  have hA : ∀ i st, st ∈ ls i → st ≠ .shutdown := by
    intro i st hmem heq
    by_cases hi : i < N
    · rw [hreq i hi] at hmem
      exact hns i hi (heq ▸ hmem)
    · rw [hN i (by omega)] at hmem
      cases hmem
  obtain ⟨hPfin, obs, hloc, haud⟩ :=
    run_merges w reqs (PIso w) (fun st => st ≠ .shutdown) N (fun s h => h.1)
      (fun s r st l hne h => PIso_step w s r st l hne h) hm c ⟨hinv, hsd⟩ hA hN
  have hobs : ∀ i, i < N → (reqs i).kind ≠ .env →
      ∃ s', PIso w s' ∧ obs i = (if (reqs i).kind = .health then [false, healthy w s'] else [false]) := by
    intro i hi hk
    have := justified_prog (PIso w) w (reqs i) (obs i) hk (fun s h => h.2) (hreq i hi ▸ (hloc i).1)
    by_cases hh : (reqs i).kind = .health
    · obtain ⟨s', hs', ho⟩ := this.2 hh
      exact ⟨s', hs', by simp [hh, ho]⟩
    · exact ⟨c.shared, ⟨hinv, hsd⟩, by simp [hh, this.1 hh]⟩
  refine ⟨hPfin.1, ?_, ?_⟩
  · intro i hi hk
    obtain ⟨s', hs', ho⟩ := hobs i hi hk
    have hr : ((run w reqs c σ).locals i).resp = some (expected w (reqs i) (healthy w s')) := by
      rw [(hloc i).2, hreq i hi, hl i, ho]
      exact localRun_prog w (reqs i) (healthy w s') hk
    refine ⟨⟨s', hs'.1, hs'.2, ?_⟩, ?_⟩
    · rw [hr, solo_response w (reqs i) s' hk hs'.1 hs'.2]
    · intro hh
      have hexp : ∀ b, expected w (reqs i) b = expected w (reqs i) false := by
        intro b
        cases hkind : (reqs i).kind <;> simp [hkind] at hh ⊢ <;> simp [expected, hkind]
      refine ⟨by rw [hr, hexp], ?_⟩
      intro s2 hi2 hs2
      rw [hr, solo_response w (reqs i) s2 hk hi2 hs2, hexp, hexp (healthy w s2)]
  · refine List.perm_iff_count.mpr (fun x => ?_)
    rw [haud x, List.count_append, count_flatMap_range]
    congr 1
    refine sumTo_congr N _ _ fun m hi => ?_
    congr 1
    rw [hreq m hi, hl m]
    by_cases hk : (reqs m).kind = .env
    · rw [auditOf_env w (reqs m) (prog (reqs m)) (by simp [prog, hk])]
      simp [succeeds, hk]
    · obtain ⟨s', _, ho⟩ := hobs m hi hk
      rw [ho, auditOf_prog]

/- non-vacuity of `isolation`: two concurrent requests and an environment thread -/

namespace Ex
def w : World := ⟨fun n => if n = 7 then some 70 else if n = 8 then some 80 else none, none, 5, 3, 30, false,
  fun k d o _ => k * 10000 + d * 10 + o, fun h b => h * 100 + b, fun _ => [7, 8]⟩

def reqs : Nat → Req
  | 0 => { kind := .sign, key := 7, hash := 1, body := 5, opts := 1, file := 0 }
  | 1 => { kind := .sign, key := 8, hash := 2, body := 6, opts := 2, file := 1 }
  | 2 => { kind := .health }
  | _ => { kind := .env, env := [.tick, .healthCheck false, .tick, .refill] }

def s0 : State := ⟨0, fun _ => none, 1, 3, 0, none, [], 0, false⟩
/-- an interleaving in which request 1 fetches its key between request 0's key fetch and signature,
    the clock ticks past the cache expiry and a health check fails in between -/
def σ : List Event :=
  [(0, .accept), (1, .accept), (0, .parse), (0, .getKey), (3, .tick), (1, .parse), (1, .getKey), (2, .accept),
   (3, .healthCheck false), (0, .metric), (1, .metric), (1, .getTs), (1, .sign), (0, .getTs), (2, .readHealth),
   (3, .tick), (0, .sign), (1, .audit), (0, .audit), (3, .refill), (1, .respond), (0, .respond), (2, .respond)]

def fin : Cfg := run w reqs ⟨s0, fun _ => {}⟩ σ

example : (fin.locals 0).resp = some (.signed (70 * 10000 + 105 * 10 + 1)) := by decide +kernel
example : (fin.locals 1).resp = some (.signed (80 * 10000 + 206 * 10 + 2)) := by decide +kernel
example : (fin.locals 2).resp = some (.health true) := by decide +kernel
example : fin.shared.audit = [⟨8, 2, 2, 1⟩, ⟨7, 1, 1, 0⟩] := by decide +kernel
example : succeeds w (reqs 0) = true ∧ succeeds w (reqs 1) = true := by decide +kernel

end Ex

/-- what the model excludes: were the cache to store entries under a constant name (so that `Inv`
    fails: the entry for name 8 holds the key of name 7), request 1 would be signed with the wrong key. -/
example :
    let bad : State := { Ex.s0 with cache := fun _ => some ⟨70, 100⟩ }
    ¬ Inv Ex.w bad ∧ solo Ex.w (Ex.reqs 1) bad = some (.signed (70 * 10000 + 206 * 10 + 2)) := by
  refine ⟨?_, by decide +kernel⟩
  intro h
  have := h.1 8 ⟨70, 100⟩ rfl
  simp [Ex.w] at this

/-- Every step acquires at most one mutex, plus possibly a limiter token
    while holding the cache mutex; within a step locks are taken in strictly increasing rank, and
    all are released before the step ends: the lock order is acyclic. -/
theorem lock_order_acyclic (st : Step) :
    ((locks st).filter (· ≠ .limiter)).length ≤ 1 ∧ (locks st).length ≤ 2 ∧
    List.Pairwise (fun a b => a.rank < b.rank) (locks st) := by
  cases st with
  | healthCheck ok => simp [locks]
  | _ => decide

example : locks .getKey = [.cacheMu, .limiter] := rfl

/-- schedules with limiter refills (`none`) interleaved -/
def execOpt (w : World) (reqs : Nat → Req) (c : Cfg) : Option Event → Cfg
  | none => { c with shared := { c.shared with limiter := c.shared.limiter + 1 } }
  | some e => execEv w reqs c e

/-- every step of the schedule is enabled when its turn comes -/
def Feasible (w : World) (reqs : Nat → Req) : Cfg → List (Option Event) → Prop
  | _, [] => True
  | c, none :: σ => Feasible w reqs (execOpt w reqs c none) σ
  | c, some e :: σ => Enabled c.shared e.2 (c.locals e.1) = true ∧ Feasible w reqs (execEv w reqs c e) σ

theorem sumTo_pos (n : Nat) (f : Nat → Nat) (h : 0 < sumTo n f) : ∃ i, i < n ∧ 0 < f i := by
  induction n with
  | zero => simp [sumTo] at h
  | succ n ih =>
    simp only [sumTo] at h
    by_cases h0 : 0 < f n
    · exact ⟨n, by omega, h0⟩
    · obtain ⟨i, hi, hf⟩ := ih (by omega)
      exact ⟨i, by omega, hf⟩

theorem sumTo_zero_inv (n : Nat) (f : Nat → Nat) (h : sumTo n f = 0) : ∀ i, i < n → f i = 0 := by
  induction n with
  | zero => intro i hi; omega
  | succ n ih =>
    simp only [sumTo] at h
    intro i hi
    by_cases hin : i = n
    · subst hin; omega
    · exact ih (by omega) i (by omega)

/-- From EVERY configuration (any shared state, any remaining step lists of `N`
    threads, hence every reachable one) there is a schedule that completes all threads in which
    every step is enabled when it runs, provided the limiter refills (`none` events).  No step blocks
    forever: between steps every mutex is free (`lock_order_acyclic`), so the only thing a step can
    wait for is a limiter token. -/
theorem deadlock_free (w : World) (reqs : Nat → Req) (N : Nat) :
    ∀ (m : Nat) (ls : Nat → List Step) (c : Cfg), (∀ i, N ≤ i → ls i = []) →
      sumTo N (fun i => (ls i).length) = m →
      ∃ σ : List (Option Event), Merges ls (σ.filterMap id) ∧ Feasible w reqs c σ := by
  intro m
  induction m with
  | zero =>
    intro ls c hN hm
    refine ⟨[], Merges.done (fun i => ?_), trivial⟩
    by_cases hi : i < N
    · exact List.eq_nil_of_length_eq_zero (sumTo_zero_inv N _ hm i hi)
    · exact hN i (by omega)
  | succ m ih =>
    intro ls c hN hm
    obtain ⟨i, hi, hpos⟩ := sumTo_pos N _ (by rw [hm]; omega)
    match hls : ls i with
    | [] => rw [hls] at hpos; simp at hpos
    | st :: rest =>
      have hN' : ∀ j, N ≤ j → upd ls i rest j = [] := by
        intro j hj
        rw [upd_other _ _ _ _ (by omega)]
        exact hN j hj
      have hm' : sumTo N (fun j => (upd ls i rest j).length) = m := by
        have := sumTo_change N (fun j => (ls j).length) (fun j => (upd ls i rest j).length) i 1 hi
          (fun j hj => by simp only [upd_other _ _ _ _ hj]) (by simp [hls]; omega)
        omega
      by_cases hen : Enabled c.shared st (c.locals i) = true
      · obtain ⟨σ, hmg, hf⟩ := ih (upd ls i rest) (execEv w reqs c (i, st)) hN' hm'
        exact ⟨some (i, st) :: σ, Merges.pick i st rest hls hmg, hen, hf⟩
      · let c' := execOpt w reqs c none
        have hen' : Enabled c'.shared st (c'.locals i) = true := by
          simp [Enabled, c', execOpt]
        obtain ⟨σ, hmg, hf⟩ := ih (upd ls i rest) (execEv w reqs c' (i, st)) hN' hm'
        exact ⟨none :: some (i, st) :: σ, Merges.pick i st rest hls hmg, hen', hf⟩

example : Enabled { Ex.s0 with limiter := 0 } .sign {} = false ∧ Enabled { Ex.s0 with limiter := 1 } .sign {} = true := by
  decide +kernel

theorem merges_split (σ₁ σ₂ : List Event) : ∀ (ls : Nat → List Step), Merges ls (σ₁ ++ σ₂) →
    ∃ ls1 ls2 : Nat → List Step, (∀ i, ls i = ls1 i ++ ls2 i) ∧ Merges ls1 σ₁ ∧ Merges ls2 σ₂ := by
  induction σ₁ with
  | nil =>
    intro ls hm
    exact ⟨fun _ => [], ls, fun i => rfl, Merges.done (fun _ => rfl), hm⟩
  | cons e σ₁ ih =>
    intro ls hm
    cases hm with
    | pick i st rest hi hm' =>
      obtain ⟨ls1, ls2, hsplit, h1, h2⟩ := ih _ hm'
      refine ⟨upd ls1 i (st :: ls1 i), ls2, fun j => ?_, ?_, h2⟩
      · have := hsplit j
        by_cases hj : j = i <;> simp_all [upd]
      · refine Merges.pick i st (ls1 i) (upd_same _ _ _) ?_
        have : upd (upd ls1 i (st :: ls1 i)) i (ls1 i) = ls1 := by
          funext j
          by_cases hj : j = i <;> simp [upd, hj]
        rwa [this]

theorem justified_append (P Q R : State → Prop) (w : World) (hP : ∀ s, P s → R s) (hQ : ∀ s, Q s → R s)
    (a b : List Step) (o2 : List Bool) (hb : Justified Q w b o2) :
    ∀ o1, Justified P w a o1 → Justified R w (a ++ b) (o1 ++ o2) :=
  fun o1 h1 => (hb.mono hQ _ _).append a o1 (h1.mono hP _ _)

theorem localRun_append (P : State → Prop) (w : World) (r : Req) (post : List Step) (o2 : List Bool) (pre : List Step) :
    ∀ (o1 : List Bool) (l : Local), Justified P w pre o1 →
      localRun w r (o1 ++ o2) (pre ++ post) l = localRun w r o2 post (localRun w r o1 pre l) := by
  induction pre with
  | nil =>
    intro o1 l h
    simp only [Justified] at h
    subst h
    rfl
  | cons st pre ih =>
    intro o1 l h
    simp only [Justified] at h
    by_cases hd : stateDep st = true
    · simp only [hd, if_true] at h
      obtain ⟨x, o', rfl, _, hrest⟩ := h
      simp only [List.cons_append, localRun, nextView, hd, if_true, List.headD_cons, List.tail_cons]
      exact ih o' _ hrest
    · simp only [hd] at h
      simp only [List.cons_append, localRun, nextView, hd]
      exact ih o1 _ h

theorem localRun_refused (w : World) (r : Req) (obs : List Bool) (hk : r.kind ≠ .env) :
    (localRun w r (true :: obs) (prog r) {}).resp = some .refused := by
  cases hkind : r.kind <;> simp [hkind] at hk <;>
    simp [prog, hkind, localRun, nextView, stateDep, stepL, skip, stepLocal, response]

/-- the states after the shutdown step -/
def PSd (w : World) (s : State) : Prop := Inv w s ∧ s.shutdown = true

/-- Model of `Daemon.Close` (`http.Server.Shutdown` inside the errgroup, then
    `Wait`): the shutdown step (thread `d`) arrives at an arbitrary moment of an arbitrary
    interleaving – by `merges_split` every merge containing it has the form
    `σ₁ ++ (d, shutdown) :: σ₂` with `σ₁` a merge of the prefixes `ls1 i` the threads had executed and
    `σ₂` a merge of what remained – and `Close` returns when the schedule is complete
    (ASSUMPTION: that is `http.Server.Shutdown`'s contract; it is not modelled).  Then every
    request whose first step preceded the shutdown step (`ls1 i ≠ []`) completes with the response
    it gets alone from a state satisfying `Inv` (`expected`, cf. `solo_response`); every later
    arrival is refused. -/
theorem shutdown_drains (w : World) (N d : Nat) (reqs : Nat → Req) (ls1 ls2 : Nat → List Step)
    (σ₁ σ₂ : List Event) (c : Cfg)
    (hprog : ∀ i, i < N → prog (reqs i) = ls1 i ++ ls2 i)
    (hns : ∀ i, i < N → Step.shutdown ∉ prog (reqs i))
    (hN1 : ∀ i, N ≤ i → ls1 i = []) (hN2 : ∀ i, N ≤ i → ls2 i = []) (hd : N ≤ d)
    (hm1 : Merges ls1 σ₁) (hm2 : Merges ls2 σ₂)
    (hinv : Inv w c.shared) (hsd : c.shared.shutdown = false) (hl : ∀ i, c.locals i = {}) :
    ∀ i, i < N → (reqs i).kind ≠ .env →
      (ls1 i ≠ [] → ∃ s', Inv w s' ∧
          ((run w reqs c (σ₁ ++ (d, Step.shutdown) :: σ₂)).locals i).resp = some (expected w (reqs i) (healthy w s'))) ∧
      (ls1 i = [] → ((run w reqs c (σ₁ ++ (d, Step.shutdown) :: σ₂)).locals i).resp = some .refused) := by
  intro i hi hk
  have hA1 : ∀ j st, st ∈ ls1 j → st ≠ .shutdown := by
    intro j st hmem heq
    by_cases hj : j < N
    · exact hns j hj (by rw [hprog j hj]; exact List.mem_append_left _ (heq ▸ hmem))
    · rw [hN1 j (by omega)] at hmem; cases hmem
  obtain ⟨hP1, obs1, hloc1, _⟩ :=
    run_merges w reqs (PIso w) (fun st => st ≠ .shutdown) N (fun s h => h.1)
      (fun s r st l hne h => PIso_step w s r st l hne h) hm1 c ⟨hinv, hsd⟩ hA1 hN1
  let c1 := run w reqs c σ₁
  have hc1d : c1.locals d = {} := by
    rw [(hloc1 d).2, hN1 d hd, hl d]
    rfl
  let c2 := execEv w reqs c1 (d, .shutdown)
  have hP2 : PSd w c2.shared := by
    refine ⟨inv_exec w _ _ _ _ hP1.1, ?_⟩
    simp [c2, execEv, exec, hc1d, skip, stepShared]
  have hc2 : c2.locals i = c1.locals i := by
    simp [c2, execEv, upd_other _ _ _ _ (show i ≠ d by omega)]
  obtain ⟨_, obs2, hloc2, _⟩ :=
    run_merges w reqs (PSd w) (fun _ => True) N (fun s h => h.1)
      (fun s r st l _ h => ⟨inv_exec w r st s l h.1, exec_shutdown_mono w r st s l h.2⟩) hm2 c2 hP2
      (fun _ _ _ => trivial) hN2
  have hrun : run w reqs c (σ₁ ++ (d, Step.shutdown) :: σ₂) = run w reqs c2 σ₂ := by
    rw [run_append, run_cons]
  have hfin : (run w reqs c (σ₁ ++ (d, Step.shutdown) :: σ₂)).locals i =
      localRun w (reqs i) (obs1 i ++ obs2 i) (prog (reqs i)) {} := by
    rw [hrun, (hloc2 i).2, hc2, (hloc1 i).2, hl i, hprog i hi]
    exact (localRun_append (PIso w) w (reqs i) (ls2 i) (obs2 i) (ls1 i) (obs1 i) {} (hloc1 i).1).symm
  have hJ1 := (hloc1 i).1
  have hJ2 := (hloc2 i).1
  constructor
  · intro hne
    obtain ⟨st, pre, hpre⟩ := List.exists_cons_of_ne_nil hne
    -- what ran before the shutdown begins with `accept`
    obtain ⟨rfl, htail⟩ : Step.accept = st ∧ (prog (reqs i)).tail = pre ++ ls2 i :=
      List.cons.inj (by rw [← prog_head (reqs i) hk, hprog i hi, hpre]; rfl)
    rw [hpre] at hJ1
    obtain ⟨b, o1', ho1, ⟨s1, hs1, rfl⟩, hJpre⟩ := hJ1
    have ht := justified_tail (Inv w) w (reqs i) (o1' ++ obs2 i) hk
      (htail ▸ justified_append (PIso w) (PSd w) (Inv w) w (fun s h => h.1) (fun s h => h.1) pre (ls2 i) (obs2 i) hJ2 o1' hJpre)
    rw [hfin, ho1, List.cons_append, show observe w .accept s1 = false from hs1.2]
    by_cases hh : (reqs i).kind = .health
    · obtain ⟨s', hs', ho⟩ := ht.2 hh
      exact ⟨s', hs', by simpa [hh, ho] using localRun_prog w (reqs i) (healthy w s') hk⟩
    · exact ⟨c.shared, hinv, by simpa [hh, ht.1 hh] using localRun_prog w (reqs i) (healthy w c.shared) hk⟩
  · intro hnil
    rw [hnil] at hJ1
    rw [show ls2 i = prog (reqs i) by rw [hprog i hi, hnil]; rfl, prog_head (reqs i) hk] at hJ2
    obtain ⟨b, o2', ho2, ⟨s2, hs2, rfl⟩, _⟩ := hJ2
    rw [hfin, show obs1 i = [] from hJ1, List.nil_append, ho2, show observe w .accept s2 = true from hs2.2]
    exact localRun_refused w (reqs i) o2' hk

/-- non-vacuity: request 0 is accepted before the shutdown and gets its signature, request 1 arrives
    after it and is refused -/
example :
    let σ₁ : List Event := [(0, .accept), (0, .parse), (0, .getKey)]
    let σ₂ : List Event := [(1, .accept), (0, .metric), (0, .getTs), (1, .parse), (0, .sign), (0, .audit), (1, .getKey),
                            (1, .metric), (1, .getTs), (1, .sign), (1, .audit), (0, .respond), (1, .respond)]
    let fin := run Ex.w Ex.reqs ⟨Ex.s0, fun _ => {}⟩ (σ₁ ++ (9, Step.shutdown) :: σ₂)
    (fin.locals 0).resp = some (.signed (70 * 10000 + 105 * 10 + 1)) ∧ (fin.locals 1).resp = some .refused ∧
    fin.shared.audit = [⟨7, 1, 1, 0⟩] := by decide +kernel

/-- Every package-level variable (and every receiver field of the
    infrastructure packages) that the current Go source writes outside `init` is a shared
    component of the model written under the lock the model assigns to it, or an allow-listed
    write-once / registration-time / per-request write.  New request-dependent package-level
    state, or a write moved outside its mutex, falsifies this. -/
theorem inventory_closed : inventoryOk Relic.Generated.SharedState.entries = true := by decide +kernel

/-- the model's shared components are all still present in the source -/
theorem inventory_live : tableLive Relic.Generated.SharedState.entries = true := by decide +kernel

example : inventoryOk [⟨"server", "healthStatus", "Server.healthCheck", none⟩] = false := by decide +kernel
example : inventoryOk [⟨"server", "hash", "Server.serveSign", none⟩] = false := by decide +kernel

end Relic.Props.C14
