/-
  C01 — Every signature relic produces verifies.   Security catalogs (signers/cat, verifier signers/pkcs.Verify).
-/
import Relic.Props.C08_Cat
namespace Relic.Props.C01
open Relic.CatSign

/-- what `pkcs.Verify` (no `--content`) digests for a file: `pkcs7.Unmarshal`, then `ContentInfo.Bytes()`; a detached
    structure is "pkcs7: missing content" -/
def verifyInput (blob : Bytes) : Res Bytes :=
  match unmarshalCI blob with
  | .ok ci =>
    match ciBytes ci with
    | .ok (some c) => .ok c
    | .ok none => .err "missing-content"
    | .err e => .err e
    | .panic s => .panic s
    | .diverge => .diverge
  | .err e => .err e
  | .panic s => .panic s
  | .diverge => .diverge

/-- **cat_sign_then_verify** (file level).  The verifier, run on the file `cat.sign` wrote, parses it, finds the catalog's
    ContentInfo and digests exactly the octets the signature was made over. -/
theorem cat_sign_then_verify (H : Bytes → Bytes) (k : Signer) (x : Bytes) (s : Signed) (h : sign H k x = .ok s)
    (hk : k.WF) (hfit : C08.Fits k s.ci) :
    verifyInput s.out = .ok s.content ∧ s.sig = k.sign (H s.content) := by
  obtain ⟨_, _, hc, hs, _⟩ := sign_inv H k x s h
  have hu := unmarshalCI_signed H k x s h hk hfit
  exact ⟨by simp [verifyInput, hu, hc], hs⟩

example (H : Bytes → Bytes) : verifyInput (emitSD C08.demoKey C08.demoCI [0xAA, 0xBB]) = .ok [0x05, 0x00] := by
  have h := C08.demo_signable H
  exact (cat_sign_then_verify H C08.demoKey _ _ h C08.demoKey_wf C08.demoKey_fits).1

/-- the signer info `SignatureBuilder.Sign` builds when no authenticated attribute was added: it names the leaf by issuer and
    serial and carries the requested digest algorithm -/
def builtSI (C : Cms.Crypto) (leaf : Cms.Cert C) (alg : Cms.Alg) (sa : Cms.SigAlg) (sig : C.Sig) : Cms.SignerInfo C :=
  { id := 0, issuer := leaf.issuer, serial := leaf.serial, digestAlg := some alg, attrs := none, attrsBytes := [], sigAlg := sa, sig := sig }

/-- the SignedData value `cat.sign` builds, as `SignedData.Verify` sees it after parsing: eContentType CTL, the content
    attached, the leaf first among the certificates, that one signer info -/
def builtSD (C : Cms.Crypto) (leaf : Cms.Cert C) (more : List (Cms.Cert C)) (alg : Cms.Alg) (sa : Cms.SigAlg) (content : Bytes)
    (sig : C.Sig) : Cms.SignedData C :=
  { contentType := oidCTL, content := some content, certs := leaf :: more, badCerts := false, signers := [builtSI C leaf alg sa sig] }

open Relic.Cms in
theorem findCert_head {C : Cms.Crypto} (leaf : Cms.Cert C) (more : List (Cms.Cert C)) :
    findCert (leaf :: more) leaf.issuer leaf.serial = some leaf := by
  unfold findCert
  rw [List.find?_cons]
  simp

open Relic.Cms in
/-- **cat_sign_then_verify_cms** (value level, over `Relic.Model.Cms`).  `SignedData.Verify(nil, false)` accepts what
    `cat.sign` built and reports the configured leaf, whenever the signature primitive accepts the key's signature over
    `H alg content` – which the next theorem shows for every sound scheme. -/
theorem cat_sign_then_verify_cms {C : Crypto} (H : Alg → Bytes → Bytes) (alg : Alg) (sa : SigAlg) (leaf : Cert C)
    (more : List (Cert C)) (content : Bytes) (sig : C.Sig)
    (hv : verifySig C leaf.pub alg sa (H alg content) sig = .ok ()) :
    verifySignedData H (builtSD C leaf more alg sa content sig) none false = .ok (leaf, builtSI C leaf alg sa sig) := by
  have hf := findCert_head leaf more
  simp [verifySignedData, verifySignedDataWith, resolveContent, builtSD, builtSI, verifyAll, verifyOne, verifySignerInfo, mdStage,
    hf, hv, ctypeStage]

open Relic.Cms in
/-- the hypothesis of `cat_sign_then_verify_cms` for every signature scheme: RSA key with `rsaEncryption`, EC key with
    `id-ecPublicKey` (what `x509tools.PkixAlgorithms` writes), any digest algorithm -/
theorem cat_signature_accepted (S : KeyMatch.SigScheme) (kind : S.Pub → KeyKind) (priv : S.Priv) (alg : Alg) (d : Bytes) :
    (kind (S.pub priv) = .rsa → verifySig (Crypto.ofScheme S kind) (S.pub priv) alg (.rsa none) d (S.sign priv d) = .ok ()) ∧
    (kind (S.pub priv) = .ecdsa → verifySig (Crypto.ofScheme S kind) (S.pub priv) alg (.ecdsa none) d (S.sign priv d) = .ok ()) := by
  constructor <;> intro hk <;> simp [verifySig, SigAlg.hash, Crypto.ofScheme, hk, S.sound]

end Relic.Props.C01
