/-
  C15 — the scdaemon token: failures are reported faithfully and logins are bounded.

  `scdtoken.Open` logs in through `token.Login`: with a configured PIN exactly ONE `CHECKPIN` (a wrong PIN is reported as
  PinIncorrectError, never retried: a smart card locks after three wrong PINs); without one, `passprompt.Login` asks the
  PasswordGetter and makes one attempt per password supplied, stopping at the first success, at a non-PIN error, or when the getter
  gives up.  "An operation reports success only if some attempt succeeded": the PIN kept in the token is one that CHECKPIN accepted.
-/
import Relic.Proofs.ScdToken
import Relic.Generated.ScdLocks
namespace Relic.Props.C15
open Relic.Assuan Relic.ScdToken

/-- **scd_login_single_attempt**: a configured PIN is tried exactly once, whatever the daemon answers -/
theorem scd_login_single_attempt {σ} (dm : Daemon σ) (s : ScdConn σ) (tc : TokenConf) (p : Bytes) (h : tc.pin = some p) :
    (tokenLogin dm s tc).2.1 = 1 := (tokenLogin_spec dm s tc).2.1 p h

/-- **scd_prompt_attempts_bounded**: at most one attempt per password the getter supplied; none without a getter -/
theorem scd_prompt_attempts_bounded {σ} (dm : Daemon σ) (s : ScdConn σ) (tc : TokenConf) (h : tc.pin = none) :
    (∀ answers, tc.getter = some answers → (tokenLogin dm s tc).2.1 ≤ answers.length) ∧
    (tc.getter = none → (tokenLogin dm s tc).2.1 = 0) :=
  ⟨(tokenLogin_spec dm s tc).2.2.1 h, (tokenLogin_spec dm s tc).2.2.2.1 h⟩

/-- **scd_login_success_needs_right_pin**: login reports success only if a CHECKPIN with the PIN it keeps succeeded -/
theorem scd_login_success_needs_right_pin {σ} (dm : Daemon σ) (s : ScdConn σ) (tc : TokenConf) (p : Bytes)
    (h : (tokenLogin dm s tc).2.2 = .ok p) : ∃ s0, (checkPin dm s0 p).2 = .ok () := (tokenLogin_spec dm s tc).2.2.2.2 p h

/-- **scd_bad_pin_classified**: the error is PinIncorrectError exactly for a response whose message contains "Bad PIN";
    every other error comes back wrapped, unchanged -/
theorem scd_bad_pin_classified (ctx : String) (e : Err) :
    (pinErr ctx e = .msg "badpin" ↔ ∃ st m, e = .resp st m ∧ containsSub kBadPIN m = true) ∧
    (pinErr ctx e ≠ .msg "badpin" → pinErr ctx e = .wrap ctx e) := by
  rcases pinErr_cases ctx e with ⟨st, m, he, hb, hp⟩ | hw
  · exact ⟨⟨fun _ => ⟨st, m, he, hb⟩, fun _ => hp⟩, fun h => absurd hp h⟩
  · refine ⟨⟨fun h => ?_, ?_⟩, fun _ => hw⟩
    · rw [hw] at h
      cases h
    · rintro ⟨st, m, rfl, hb⟩
      simp [pinErr, hb]

example : pinErr "sign" (.resp (ascii "ERR") (ascii "100663383 Bad PIN <SCD>")) = .msg "badpin" := by decide +kernel
example : pinErr "sign" (.resp (ascii "ERR") (ascii "100663404 Card error <SCD>")) = .wrap "sign" (.resp (ascii "ERR") (ascii "100663404 Card error <SCD>")) := by
  decide +kernel

/-- the full statement: a Sign returns (with an error at the latest when the caller's context ends) -/
def scd_sign_context_honours_cancel_full : Prop :=
  ∀ (t : Token Script) (k : Key) (d : Bytes) (o : SignOpts), (keySign scripted t k d o).2.isBlock = false

def scdTcDemo : TokenConf := { serial := [], pin := some (ascii "123456"), getter := none, keys := [⟨"k1", ascii "OPENPGP.1"⟩] }
def scdDemoScript : Script := ⟨[(ascii "OK ready\n", false), (ascii "S SERIALNO D276\nS KEYPAIRINFO G1 OPENPGP.1\nOK\n", false),
  (ascii "INQUIRE NEEDPIN\nOK\n", false), (ascii "D (10:public-key(3:rsa(1:n2:%C3%01)(1:e3:%01%00%01)))\nOK\n", false),
  (ascii "OK\n", false), (ascii "INQUIRE NEEDPIN\n", false)]⟩

/-- refuted (finding F-SCD-3): the card never answers the PKSIGN: Sign blocks; the model has no context because the code drops it -/
theorem scd_sign_blocks_on_silent_card :
    (match openToken scripted scdDemoScript scdTcDemo with
     | (_, .ok t) =>
       match getKey scripted t "k1" with
       | (t, .ok k) => (keySign scripted t k (List.replicate 32 7) (.named (ascii "sha256"))).2.isBlock
       | _ => false
     | _ => false) = true := by decide +kernel

theorem scd_sign_context_honours_cancel_full_false : ¬ scd_sign_context_honours_cancel_full := by
  intro h
  have hw := scd_sign_blocks_on_silent_card
  split at hw
  · split at hw
    · rw [h] at hw; cases hw
    · cases hw
  · cases hw

/-- generated: SignContext is `return key.Sign(rand.Reader, digest, opts)`: the context does not reach the connection -/
theorem scd_sign_context_drops_ctx_generated : Generated.ScdLocks.scdKeySignContext.calls = ["key.Sign"] := by decide

end Relic.Props.C15
