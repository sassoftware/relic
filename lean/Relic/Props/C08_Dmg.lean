/-
  C08 — Re-signing replaces the signature; digests ignore existing signatures.   Apple disk image (UDIF) part.
  The two digests of a disk image are the hash of `image[0:bundle]` (code slot) and the hash of the trailer with
  SignatureOffset := bundle, SignatureLength := 0 and zero blank ranges (special slot −6).  Neither depends on whether
  a signature is present.  The patch replaces everything from `bundle` to the end, so an earlier signature is gone.
-/
import Relic.Proofs.Dmg
namespace Relic.Props.C08
open Relic.Dmg Relic.CodeDir

/-- **dmg_digest_ignores_signature.** Two images whose trailers agree outside SignatureOffset, SignatureLength and the
    blank ranges, and which agree in front of the bundle size, are hashed identically (page stream and rep-specific
    bytes), whatever signature either of them carries. -/
theorem dmg_digest_ignores_signature (t t' f f' : Bytes) (pl pl' : Plan) (h : plan t f = .ok pl) (h' : plan t' f' = .ok pl')
    (hA : sl t 0 232 = sl t' 0 232) (hB : sl t 352 148 = sl t' 352 148)
    (hf : f.take pl.bundle.toNat = f'.take pl.bundle.toNat) :
    pl.bundle = pl'.bundle ∧ pl.stream = pl'.stream ∧ pl.rep = pl'.rep :=
  plan_digest_inputs t t' f f' pl pl' (plan_ok t f pl h).1 (plan_ok t' f' pl' h').1 hA hB hf

theorem bundle_le_of_fits (t f : Bytes) (pl : Plan) (h : plan t f = .ok pl) (hfit : pl.fits f.length = true) :
    0 ≤ pl.bundle ∧ pl.bundle.toNat + 512 ≤ f.length := by
  exact plan_fits t f pl h hfit

/-- **dmg_resign_replaces.** Signing relic's own output `g = written f pl b1` again (the trailer `transform` sends is
    the last 512 bytes of `g`): accepted by the guards and the `fits` test; same bundle size, page stream and rep-specific
    bytes as the first time; the old signature handed on for defaults is exactly `b1`; and the result with blob `b2` is
    what signing the original input with `b2` gives — image part, `b2`, trailer: nothing of `b1` survives. -/
theorem dmg_resign_replaces (t f : Bytes) (pl : Plan) (b1 b2 : Bytes) (h : plan t f = .ok pl)
    (hfit : pl.fits f.length = true) (hn : b1.length < 2 ^ 63) :
    let g := written f pl b1
    ∃ pl2, plan (g.drop (g.length - 512)) g = .ok pl2 ∧ pl2.fits g.length = true ∧ pl2.bundle = pl.bundle ∧
      pl2.stream = pl.stream ∧ pl2.rep = pl.rep ∧
      pl2.oldSig = (if pl.bundle = 0 then none else some b1) ∧ written g pl2 b2 = written f pl b2 := by
  intro g
  obtain ⟨h0, hb⟩ := bundle_le_of_fits t f pl h hfit
  have h1 : pl.bundle.toNat ≤ f.length := by omega
  have ho := (plan_ok t f pl h).1
  have hp := plan_written_fixed t f pl b1 h h1 hn
  have hpo := planOrig_written t f pl b1 ho h0 h1 hn
  have hlen : g.length = pl.bundle.toNat + b1.length + 512 := written_length f pl b1 (planOrig_koly_wf t f pl ho) h1
  refine ⟨_, hp, ?_, rfl, rfl, rfl, rfl, written_written t f pl _ b1 b2 ho h0 h1 hn hpo⟩
  show decide (pl.bundle ≤ ((g.length : Nat) : Int) - 512) = true
  rw [hlen]; simp only [decide_eq_true_eq]; omega

theorem signRound_first (f : Bytes) (pl : Plan) (b : Bytes) (hl : 512 ≤ f.length)
    (h : plan (f.drop (f.length - 512)) f = .ok pl) (hfit : pl.fits f.length = true) :
    signRound f b = .ok (written f pl b) := by
  have : ¬ f.length < 512 := by omega
  simp [signRound, this, h, hfit]

theorem signRound_written (t f : Bytes) (pl : Plan) (b1 b2 : Bytes) (h : plan t f = .ok pl)
    (hfit : pl.fits f.length = true) (hn : b1.length < 2 ^ 63) :
    signRound (written f pl b1) b2 = .ok (written f pl b2) := by
  obtain ⟨pl2, hp, hf2, _, _, _, _, hw⟩ := dmg_resign_replaces t f pl b1 b2 h hfit hn
  have hlen : 512 ≤ (written f pl b1).length := by
    have := (plan_fits _ _ pl2 hp hf2).2
    omega
  have c : ¬ (written f pl b1).length < 512 := by omega
  simp only [signRound, c, ↓reduceIte, hp, hf2]
  rw [hw]

/-- **dmg_history.** `sign^n` for every `n ≥ 1` and every sequence of blobs on an image the repaired `Sign` accepts: the
    result is the image part of the ORIGINAL input, the LAST blob, and the trailer for that blob — every earlier
    signature has been replaced, the image part never changes, every round is accepted again, and
    (C01.`dmg_sign_then_verify`, applicable to `written f pl last`) the result opens and is verified against the same
    page stream and rep-specific bytes as after the first round. -/
theorem dmg_history (f : Bytes) (pl : Plan) (hl : 512 ≤ f.length) (h : plan (f.drop (f.length - 512)) f = .ok pl)
    (hfit : pl.fits f.length = true) :
    ∀ (bs : List Bytes) (last : Bytes), (∀ b ∈ bs, b.length < 2 ^ 63) →
      history f (bs ++ [last]) = .ok (written f pl last) := by
  -- generalise over the current state: either the input or an output.  (`Res.foldlM_replace` has this induction for folds
  -- whose every step starts from an output and whose every element meets the side condition; here the first round starts
  -- from the input and the last blob has no length bound, so it would cover only the rounds between.)
  have step : ∀ (bs : List Bytes) (b0 last : Bytes), b0.length < 2 ^ 63 → (∀ b ∈ bs, b.length < 2 ^ 63) →
      history (written f pl b0) (bs ++ [last]) = .ok (written f pl last) := by
    intro bs
    induction bs with
    | nil =>
      intro b0 last hb0 _
      simp [history, signRound_written _ f pl b0 last h hfit hb0, Res.bind]
    | cons b bs ih =>
      intro b0 last hb0 hbs
      simp only [List.cons_append, history, signRound_written _ f pl b0 b h hfit hb0, Res.bind]
      exact ih b last (hbs b (by simp)) (fun x hx => hbs x (by simp [hx]))
  intro bs last hbs
  cases bs with
  | nil => simp [history, signRound_first f pl last hl h hfit, Res.bind]
  | cons b bs =>
    simp only [List.cons_append, history, signRound_first f pl b hl h hfit, Res.bind]
    exact step bs b last (hbs b (by simp)) (fun x hx => hbs x (by simp [hx]))

/-- **dmg_probe_unsigned.** The is-signed probe (`Verify` without digests) on an image with the koly magic and a zero
    SignatureLength answers "not signed", whatever SignatureOffset says. -/
theorem dmg_probe_unsigned (f : Bytes) (skip : Bool) (hl : 512 ≤ f.length)
    (hm : (decode (f.drop (f.length - 512))).magic = kolyMagic) (hz : (decode (f.drop (f.length - 512))).sigLength = 0) :
    verify f skip = .err "notsigned" := by
  have : ¬ f.length < 512 := by omega
  simp [verify, verifyG, openFileG, this, hm, hz, verifyBlob]

/-- the probe on relic's output reaches `csblob.Verify` with the new blob: it is not answered "not signed" by the
    container layer -/
theorem dmg_probe_signed (t f : Bytes) (pl : Plan) (blob : Bytes) (h : plan t f = .ok pl)
    (hfit : pl.fits f.length = true) (hne : blob ≠ []) (hmax : blob.length ≤ maxSig) :
    ∃ o, openFile (written f pl blob) = .ok o ∧ o.sigBlob = blob ∧ o.sigBlob ≠ [] := by
  obtain ⟨h0, hb⟩ := bundle_le_of_fits t f pl h hfit
  exact ⟨_, (verify_written t f pl blob true (plan_ok t f pl h).1 (plan_safe t f pl h).1.magic h0 (by omega) hne hmax).1, rfl, hne⟩

/-- **dmg_offset_without_length** (observation).  `Sign` takes "SignatureOffset ≠ 0" as "signed", `Open` takes
    "SignatureLength ≠ 0": an image with the offset set and a zero length is unsigned for the probe, yet `Sign` hands
    an EMPTY old signature to `csblob.Sign` (which refuses it: "parsing old signature: short read"). -/
theorem dmg_offset_without_length (t f : Bytes) (pl : Plan) (h : plan t f = .ok pl)
    (hso : (decode t).sigOffset ≠ 0) (hz : (decode t).sigLength = 0) : pl.oldSig = some [] := by
  obtain ⟨_, rfl, _⟩ := planOrig_ok t f pl (plan_ok t f pl h).1
  simp [planOf, hso, hz, toI64]

set_option maxRecDepth 100000 in
example : sampleImage.drop (sampleImage.length - 512) = (sampleKoly 3 5 0 0).enc := by decide +kernel

set_option maxRecDepth 100000 in
example : history sampleImage [[9, 9], [7], [5, 5, 5]] = .ok (written sampleImage samplePlan [5, 5, 5]) :=
  dmg_history sampleImage samplePlan (by decide +kernel) (by decide +kernel) (by decide +kernel) [[9, 9], [7]] [5, 5, 5] (by decide +kernel)

set_option maxRecDepth 100000 in
example : verify sampleImage true = .err "notsigned" := dmg_probe_unsigned _ _ (by decide +kernel) (by decide +kernel) (by decide +kernel)

end Relic.Props.C08
