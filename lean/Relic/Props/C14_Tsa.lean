/-
  Property C14, fragment "shared time-stamper": internal/signinit keeps ONE time-stamper per process
  (GetTimestamper under its mutex); its rate limiter and its memcache client are shared by all concurrent signing
  requests, `namedTimestamper` works on a copy of the request.  Theorems about `Relic.Model.TsaPool` section 4: the
  only shared state is (limiter bucket, cache content); requests with different cache keys do not influence each
  other's outcome, and the limiter changes nothing but the time.  Tied by the TSX `conc` ops (2..24 goroutines
  through one client, three pools, each result checked against that request's own signature value and pool).
-/
import Relic.Props.C10_Rate
import Relic.Proofs.TsaPool
namespace Relic.Props.C14
open Relic.Tsa Relic.TsaX

/-- what the cache returns depends on the store only through the entry under the request's key -/
theorem cachedX_fst_congr (D : Nat → List Char) (up : Bool) (st1 st2 : StoreX) (r : XReq) (inner : Outcome)
    (h : lookupX st1 (cacheKey D r) = lookupX st2 (cacheKey D r)) :
    (cachedX D up st1 r inner).1 = (cachedX D up st2 r inner).1 := by
  have : hitX D up st1 r = hitX D up st2 r := by unfold hitX; rw [h]
  rw [cachedX_eq, cachedX_eq, this]
  cases hitX D up st2 r <;> rfl

/-- the outcome of a call depends on the shared store only through what is found under the request's own key -/
theorem stamperCall_store_congr (D : Nat → List Char) (H : Nat → Nat) (c : Cfg) (conf : TsConf) (name : Name)
    (memcache up : Bool) (st1 st2 : StoreX) (lim : Option Lim) (now : Nat) (ctx : Ctx) (world : Url → Wire)
    (legacy : Bool) (hash nonce ed : Nat)
    (h : lookupX st1 (cacheKey D ⟨legacy, name, hash, ed⟩) = lookupX st2 (cacheKey D ⟨legacy, name, hash, ed⟩)) :
    (stamperCall D H c conf name memcache up ⟨st1, lim⟩ now ctx world legacy hash nonce ed).1 =
    (stamperCall D H c conf name memcache up ⟨st2, lim⟩ now ctx world legacy hash nonce ed).1 := by
  cases memcache with
  | false => simp [stamperCall]
  | true =>
    have hh : hitX D up st1 ⟨legacy, name, hash, ed⟩ = hitX D up st2 ⟨legacy, name, hash, ed⟩ := by unfold hitX; rw [h]
    rw [stamperCall_eq, stamperCall_eq, hh]
    cases hitX D up st2 ⟨legacy, name, hash, ed⟩ <;> rfl

/-- what the cache can do to the store: nothing, or one entry under the request's key -/
theorem cachedX_store (D : Nat → List Char) (up : Bool) (st : StoreX) (r : XReq) (inner : Outcome) :
    (cachedX D up st r inner).2 = st ∨ ∃ v, (cachedX D up st r inner).2 = (cacheKey D r, v) :: st := by
  rw [cachedX_eq]
  cases hitX D up st r with
  | some t => exact .inl rfl
  | none =>
    rcases putX_cases D up r inner with h | ⟨v, h⟩
    · exact .inl (by simp [h])
    · exact .inr ⟨v, by simp [h]⟩

/-- what a call can do to the shared store: nothing, or one entry under its own key -/
theorem stamperCall_store (D : Nat → List Char) (H : Nat → Nat) (c : Cfg) (conf : TsConf) (name : Name)
    (memcache up : Bool) (sh : Shared) (now : Nat) (ctx : Ctx) (world : Url → Wire) (legacy : Bool) (hash nonce ed : Nat) :
    (stamperCall D H c conf name memcache up sh now ctx world legacy hash nonce ed).2.store = sh.store ∨
    ∃ v, (stamperCall D H c conf name memcache up sh now ctx world legacy hash nonce ed).2.store
      = (cacheKey D ⟨legacy, name, hash, ed⟩, v) :: sh.store := by
  cases memcache with
  | false => exact .inl (by simp [stamperCall])
  | true =>
    rw [stamperCall_eq]
    cases hitX D up sh.store ⟨legacy, name, hash, ed⟩ with
    | some t => exact .inl rfl
    | none =>
      rcases putX_cases D up ⟨legacy, name, hash, ed⟩
        (limitedOpt sh.lim now ctx fun t =>
          clientTs c conf name ⟨legacy, nonce, if legacy then ed else H ed⟩ (ctx.errAt t).isSome world).1.outcome with h | ⟨v, h⟩
      · exact .inl (by simp [h])
      · exact .inr ⟨v, by simp [h]⟩

/-- Two requests with different cache keys (another signature value, pool, style
or hash) through one shared time-stamper without a limiter: the second gets exactly what it would get alone, whether
or not the first ran before it (cache on or off, memcached up or down, any cache content).  With a limiter the same
holds up to the time of the call (`shared_limiter_only_delays`). -/
theorem shared_stamper_order_irrelevant (D : Nat → List Char) (H : Nat → Nat) (c : Cfg) (conf : TsConf)
    (memcache up : Bool) (st : StoreX) (now1 now2 : Nat) (ctx1 ctx2 : Ctx) (world1 world2 : Url → Wire)
    (name1 name2 : Name) (legacy1 legacy2 : Bool) (hash1 hash2 nonce1 nonce2 ed1 ed2 : Nat)
    (hk : cacheKey D ⟨legacy1, name1, hash1, ed1⟩ ≠ cacheKey D ⟨legacy2, name2, hash2, ed2⟩) :
    (stamperCall D H c conf name2 memcache up
        ⟨(stamperCall D H c conf name1 memcache up ⟨st, none⟩ now1 ctx1 world1 legacy1 hash1 nonce1 ed1).2.store, none⟩
        now2 ctx2 world2 legacy2 hash2 nonce2 ed2).1
    = (stamperCall D H c conf name2 memcache up ⟨st, none⟩ now2 ctx2 world2 legacy2 hash2 nonce2 ed2).1 := by
  apply stamperCall_store_congr
  rcases stamperCall_store D H c conf name1 memcache up ⟨st, none⟩ now1 ctx1 world1 legacy1 hash1 nonce1 ed1 with h | ⟨v, h⟩
  · rw [h]
  · rw [h]; exact lookupX_cons_ne _ _ _ _ hk

/-- The shared bucket couples concurrent requests in time only: whatever state the
other requests left it in, a request gets what the client gives it at some later time, or its own context's error,
or (non-positive rate) waits for ever; never another request's result -/
theorem shared_limiter_only_delays (D : Nat → List Char) (H : Nat → Nat) (c : Cfg) (conf : TsConf) (name : Name)
    (up : Bool) (st : StoreX) (l : Lim) (now : Nat) (ctx : Ctx) (world : Url → Wire) (legacy : Bool) (hash nonce ed : Nat) :
    let out := (stamperCall D H c conf name false up ⟨st, some l⟩ now ctx world legacy hash nonce ed).1.outcome
    (∃ t, now ≤ t ∧ out = clientTs c conf name ⟨legacy, nonce, if legacy then ed else H ed⟩ (ctx.errAt t).isSome world) ∨
    (∃ e, Relic.Props.C10.CtxErrClass e ∧ out = ⟨.err e, [], []⟩) ∨ out = ⟨.diverge, [], []⟩ := by
  simp only [stamperCall, Bool.false_eq_true, if_false, limitedOpt]
  rcases Relic.Props.C10.rate_limit_preserves_outcome l now ctx
      (fun t => clientTs c conf name ⟨legacy, nonce, if legacy then ed else H ed⟩ (ctx.errAt t).isSome world)
    with ⟨t, hle, he⟩ | ⟨e, t, hc, _, he⟩ | ⟨he, _, _⟩
  · exact Or.inl ⟨t, hle, by rw [he]⟩
  · exact Or.inr (Or.inl ⟨e, hc, by rw [he]⟩)
  · exact Or.inr (Or.inr he)

/-- non-vacuity: a request for pool b after a request for pool a with the same signature value: served by b's
authority, not from a's cache entry -/
example :
    let D : Nat → List Char := fun n => List.replicate 61 'x' ++ Nat.toDigits 10 (n % 1000)
    let conf : TsConf := ⟨[], [], [(['a'], [1]), (['b'], [2])]⟩
    let tok (i : Nat) : Token := ⟨i, true, 1, true, .tst ⟨some 7, 1100, true, some 0⟩, none, 1, true⟩
    let world : Url → Wire := fun u => .http 200 (.der 0 (tok u) false)
    let s1 := (stamperCall D (· + 1000) Cfg.fixed conf ['a'] true true ⟨[], none⟩ 0 Ctx.background world false 5 7 100).2
    (stamperCall D (· + 1000) Cfg.fixed conf ['b'] true true s1 0 Ctx.background world false 5 7 100).1.outcome.res
      = .ok (.url 2, tok 2) := by decide

end Relic.Props.C14
