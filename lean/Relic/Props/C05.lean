/-
  C05 — Signatures are accepted by each ecosystem's reference verifier: the reference-computation half.
  "relic's digests and encodings are what the specifications prescribe, not merely what relic's own verifier
  expects" is a model-vs-specification statement.  This file: the Authenticode PE image hash.
  Other digests and encodings: `C05_*.lean` (PE checksum, page hashes, CAB, …).
  The external-verifier half (jarsigner, openssl, gpgv, dpkg) cannot be addressed by this technique (DESIGN.md).
-/
import Relic.Proofs.PEPages
import Relic.Props.C08
namespace Relic.Props.C05
open Relic Relic.PE

/-- **pe_hash_eq_spec.** Whenever relic's digester accepts a PE image (`e_lfanew ≥ 64`), the byte stream it feeds to
    the hash is exactly the specification's image-hash input: the whole file except the CheckSum field, the
    Certificate Table directory entry and the attribute certificate table, zero-padded to a multiple of 8.
    (relic walks the section table and refuses non-contiguous layouts; for every layout it accepts, the result
    coincides with the flat definition.) -/
theorem pe_hash_eq_spec (f : Bytes) (d : Digest) (hp : 64 ≤ u32 f 0x3c) (e : DigestPE f = .ok d) :
    Spec.Authenticode.imageHashInput f = some d.hashed := by
  have H := DigestPE_spec f d hp e
  unfold Spec.Authenticode.imageHashInput
  rw [certDirOffset_eq H.pe H.dd H.dd4]
  simp only
  have hstop : f.length - u32 f (d.m.posDDCert + 4) = d.origSize := by
    have := H.fileEnd
    rw [← H.certSize]
    omega
  have hpad : (if d.origSize % 8 = 0 then 0 else 8 - d.origSize % 8) = d.certStart - d.origSize := by
    have a := H.padLe; have b := H.padLt; have c := H.aligned
    split <;> omega
  rw [hstop, hpad, H.hashed, ← H.pe]

/-- the C08 half of "signed file and input have the same specification input": the signed file digests to the stream of the
    input; `pe_hash_eq_spec` on both files gives the rest -/
theorem pe_signed_hash_eq_spec (f : Bytes) (d : Digest) (sig : Bytes) (hp : 64 ≤ u32 f 0x3c)
    (e : DigestPE f = .ok d) (hcs : d.certStart < 2 ^ 32) (hsig : 8 + ceil8 sig.length < 2 ^ 32) :
    ∃ d', DigestPE (signedBytes f d sig) = .ok d' ∧ d'.hashed = d.hashed :=
  C08.pe_digest_ignores_signature f d sig hp e hcs hsig

set_option maxRecDepth 100000 in
example : 64 ≤ u32 C08.minimalPE 0x3c ∧ (DigestPE C08.minimalPE).isOk = true :=
  ⟨C08.minimalPE_facts.1, C08.minimalPE_facts.2.2.2⟩

end Relic.Props.C05
