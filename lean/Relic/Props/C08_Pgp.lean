/-
  C08 — Re-signing.   OpenPGP part: clear-signing a document that already is a cleartext signature (relic's own output, a
  Debian InRelease file) wraps it: the inner document – armor header lines, dash-escaped text, signature block – becomes
  the text of the outer one; its lines starting with '-' are escaped once more and come back by one unescape.
-/
import Relic.Props.C03_Pgp
namespace Relic.Props.C08
open Relic.Pgp Relic.Spec.OpenPgp

/-- **pgp_reclearsign_covers_inner.** For every document `doc` (in particular `clearSign h t a`, relic's own output): the
    outer signature is computed over the lines of `doc` without trailing whitespace joined by CR LF, and dash-unescaping
    the outer text gives exactly those lines – every line of the inner document, including its "- " escapes, its
    BEGIN/END armor lines and its signature block, is recovered (nested escapes are peeled one level per unwrap). -/
theorem pgp_reclearsign_covers_inner (doc : Bytes) :
    hashed doc = joinCRLF ((rawTokens doc).map stripWs) ∧
    (C01.writtenLines doc).map dashUnescape = (rawTokens doc).map stripWs := by
  refine ⟨?_, (C03.pgp_clearsign_payload_preserved doc).1⟩
  unfold hashed EscSt.init
  rw [esc_spec, hashLines_true]

/-- inner = relic's output for the text "-a" with a dummy signature block; outer lines, unescaped, are the inner lines -/
example :
    (C01.writtenLines (clearSign [88] [45, 97] (Pgp.sigHeader ++ [10, 120]))).map dashUnescape =
      [Pgp.beginSigned, [72, 97, 115, 104, 58, 32, 88], [], [45, 32, 45, 97], Pgp.sigHeader, [120]] := by decide +kernel

/-- unwrapping is stable: the recovered inner document (lines joined by CR LF, as `VerifyClearSign` hands it out) parses to
    the same text lines and the same signed octets as the inner document as written.  Statement only; exercised by the
    `reclear` ops (1..4 levels, alternating ClearSign and DetachClearSign+MergeClearSign, Debian InRelease as innermost). -/
def pgp_reclearsign_unwraps_full : Prop :=
  ∀ (h t a : Bytes) c, parseCleartext (clearSign h t a) = some c →
    ∃ c', parseCleartext (hashed (clearSign h t a)) = some c' ∧ c'.text = c.text ∧ c'.hashes = c.hashes

end Relic.Props.C08
