/-
  C05 fragment — the Authenticode PE *page hashes* table relic computes (`imageHasher.section`, `addPageHash`,
  `finish` in lib/authenticode/pedigest.go; model `pageHashInputs`) equals the table prescribed by the public
  description (`Relic.Spec.PageHashes`, written from the description of signtool's `/ph` output as reproduced by
  osslsigncode's `pe_calc_page_hash`), on the decidable class `Spec.PageHashes.regular` of images on which relic's
  section-table fix-ups are the identity; outside that class the two differ (witnesses below).
-/
import Relic.Proofs.PEPages
namespace Relic.Props.C05
open Relic Relic.PE

/-- the table `pageHashInputs` with `PE.mChunks`, `PE.mPage`, `PE.mLast` for its three `let`s (definitional; the form
    the proofs use is `PE.pageHashInputs_eq`, where `needzero` is computed) -/
theorem pageHashInputs_unfold (f : Bytes) (d : Digest) :
    pageHashInputs f d =
      (let removed : Int := (d.m.sizeOfHdr : Int) - d.hdrLen
       let needzero : Int := (d.m.pageSize : Int) - d.hdrLen - removed
       if needzero < 0 ∨ (d.m.pageSize : Int) < needzero then none else
       some ((0, d.hashed.take d.hdrLen ++ List.replicate needzero.toNat 0) ::
         (mChunks d.m.pageSize d.extents).map (mPage d.m.pageSize f) ++ [(mLast (mChunks d.m.pageSize d.extents), [])])) := rfl

theorem hashed_le (f : Bytes) (h : Headers) (HH : HeadersOk f h) : h.hashed.length ≤ h.m.sizeOfHdr := by
  rw [HH.hashed, List.length_append, List.length_append]
  have c1 := HH.curLe; have c2 := HH.tblLe; have c3 := HH.ddIn; have c4 := HH.dd; have c5 := HH.cur
  have c6 := HH.dd4
  rw [seg_length f _ _ (by omega), seg_length f _ _ (by omega), seg_length f _ _ (by omega)]
  omega

/-- **pe_page_hashes_closed.**  Without any regularity assumption: the table relic computes is the description's table
    evaluated on relic's FIXED-UP view of the image (`SizeOfHeaders` lowered to the first section, raw sizes of all
    sections but the last rounded up to FileAlignment). -/
theorem pe_page_hashes_closed (f : Bytes) (d : Digest) (l : List (Nat × Bytes)) (hp : 64 ≤ u32 f 0x3c)
    (e : DigestPE f = .ok d) (hl : pageHashInputs f d = some l) :
    ∃ h, readHeaders f = .ok h ∧ Spec.Authenticode.certDirOffset f = some h.m.posDDCert ∧
      Spec.PageHashes.tableOf (Spec.PageHashes.archPageSize f) f h.m.posDDCert h.m.sizeOfHdr (h.sections.map toPair) = some l := by
  obtain ⟨h, HP⟩ := DigestPE_pages f d hp e
  have F := readHeaders_full f h hp HP.hdrs
  have HH := F.ok
  have hps : h.m.pageSize = Spec.PageHashes.archPageSize f := by rw [F.page, F.pe]; rfl
  have hpos : 0 < h.m.pageSize := by rw [F.page]; split <;> omega
  have hdd := certDirOffset_eq HH.pe HH.dd HH.dd4
  refine ⟨h, HP.hdrs, hdd, ?_⟩
  rw [pageHashInputs_eq, HP.m, HP.hdrLen, HP.extents] at hl
  by_cases hc : h.m.pageSize < h.m.sizeOfHdr
  · rw [if_pos hc] at hl; contradiction
  rw [if_neg hc] at hl
  obtain rfl := Option.some.inj hl
  unfold Spec.PageHashes.tableOf Spec.PageHashes.headerEntry
  rw [← hps]
  have hne : ¬ (h.m.pageSize = 0 ∨ h.m.pageSize < h.m.sizeOfHdr) := by omega
  simp only [hne, if_false]
  have hext : (List.map (fun s => (s.ptr, s.ptr, s.size)) (List.filter (fun s => decide (s.size ≠ 0)) h.sections)) =
      extOf h.sections := rfl
  have hlast := last_eq _ hpos h.sections
  have hpre := HP.prefix_
  rw [HP.hdrLen] at hpre
  rw [hext, pages_eq _ hpos, hlast, hpre, HH.hashed, HH.cur, ← HH.pe]

/-- **pe_page_hashes_eq_spec.**  Whenever relic's digester accepts a PE image (`e_lfanew ≥ 64`) on which its
    section-table fix-ups change nothing (`regular`: raw sizes of all sections but the last table entry are multiples
    of FileAlignment, no non-empty section starts below SizeOfHeaders) and produces a page-hash table, that table —
    offsets and hash inputs, entry by entry — is the one the public description prescribes for the architecture's
    page size. -/
theorem pe_page_hashes_eq_spec (f : Bytes) (d : Digest) (l : List (Nat × Bytes)) (hp : 64 ≤ u32 f 0x3c)
    (e : DigestPE f = .ok d) (hreg : Spec.PageHashes.regular f = true) (hl : pageHashInputs f d = some l) :
    Spec.PageHashes.pageHashes f = some l := by
  obtain ⟨h, hh, hdd, ht⟩ := pe_page_hashes_closed f d l hp e hl
  have F := readHeaders_full f h hp hh
  have hfix := F.fix
  rw [F.soh, F.nsec, F.pe, Nat.add_assoc _ 24 36, Nat.add_assoc _ 24 60] at hfix
  have htbl : Spec.PageHashes.sectionTable f =
      (rawSections f (u32 f 0x3c + 24 + u16 f (u32 f 0x3c + 20)) (u16 f (u32 f 0x3c + 6))).map toPair :=
    (rawSections_eq f _ _).symm
  simp only [Spec.PageHashes.regular, Bool.and_eq_true, List.all_eq_true, Bool.or_eq_true, decide_eq_true_eq] at hreg
  obtain ⟨hal, hhd⟩ := hreg
  rw [htbl] at hal hhd
  obtain ⟨hsec, hsoh⟩ := fixSections_regular _ _ _ _ _ _ hfix hal (by
    intro s hs
    exact hhd (toPair s) (List.mem_map_of_mem hs))
  have hsoh' : Spec.PageHashes.sizeOfHeaders f = h.m.sizeOfHdr := hsoh.symm
  unfold Spec.PageHashes.pageHashes Spec.PageHashes.pageHashesWith
  rw [hdd, hsoh', htbl, ← hsec]
  exact ht

/-- on images with the default SectionAlignment (= the architecture's page size) the table is also the one
    osslsigncode computes (`pagesize = SectionAlignment`) -/
theorem pe_page_hashes_eq_spec_section_alignment (f : Bytes) (d : Digest) (l : List (Nat × Bytes)) (hp : 64 ≤ u32 f 0x3c)
    (e : DigestPE f = .ok d) (hreg : Spec.PageHashes.regular f = true)
    (hsa : Spec.PageHashes.sectionAlignment f = Spec.PageHashes.archPageSize f)
    (hl : pageHashInputs f d = some l) :
    Spec.PageHashes.pageHashesSA f = some l := by
  unfold Spec.PageHashes.pageHashesSA
  rw [hsa]
  exact pe_page_hashes_eq_spec f d l hp e hreg hl

/-- relic produces a table exactly when the (fixed-up) headers fit into one page; otherwise the slice
    `zeroPage[:needzero]` in `addPageHash` panics (finding F-pagehash-hdr, model outcome `pages=PANIC`).
    Holds of every `f` and `d`: the hypotheses `hp` and `e` are not used (`PE.pageHashInputs_eq_none`). -/
theorem pe_page_hashes_defined_iff (f : Bytes) (d : Digest) (hp : 64 ≤ u32 f 0x3c) (e : DigestPE f = .ok d) :
    (pageHashInputs f d).isSome = true ↔ d.m.sizeOfHdr ≤ d.m.pageSize := by
  rw [Option.isSome_iff_ne_none, ne_eq, pageHashInputs_eq_none, Nat.not_lt]

/-- PE32 headers (`e_lfanew = 64`, 224-byte optional header, 16 data directories): 312 bytes -/
def peHdr (nsec fa soh : Nat) : Bytes :=
  [0x4d, 0x5a] ++ List.replicate 58 0 ++ [64, 0, 0, 0] ++
  [0x50, 0x45, 0, 0] ++ [0x4c, 0x01] ++ leBytes 2 nsec ++ List.replicate 12 0 ++ [224, 0] ++ [0, 0] ++
  [0x0b, 0x01] ++ List.replicate 34 0 ++ leBytes 4 fa ++ List.replicate 20 0 ++ leBytes 4 soh ++
  List.replicate 28 0 ++ [16, 0, 0, 0] ++ List.replicate 128 0

def secHdr (ptr size : Nat) : Bytes :=
  List.replicate 16 0 ++ leBytes 4 size ++ leBytes 4 ptr ++ List.replicate 16 0

/-- regular: FileAlignment 32, SizeOfHeaders 416, sections [416, 448) and [448, 464) -/
def pagePE : Bytes :=
  peHdr 2 32 416 ++ secHdr 416 32 ++ secHdr 448 16 ++ List.replicate 24 0 ++ List.replicate 32 0x11 ++ List.replicate 16 0x33

/-- as `pagePE` but the first section's SizeOfRawData is 16 (not a multiple of FileAlignment); the slack [432, 448)
    holds non-zero bytes.  relic rounds the size up to 32 and hashes the slack; the description hashes 16 bytes. -/
def unalignedPE : Bytes :=
  peHdr 2 32 416 ++ secHdr 416 16 ++ secHdr 448 16 ++ List.replicate 24 0 ++ List.replicate 16 0x11 ++
  List.replicate 16 0x22 ++ List.replicate 16 0x33

/-- as `pagePE` but SizeOfHeaders = 448 reaches into the first section, which starts at 416.  relic lowers
    SizeOfHeaders to 416 for the header page; the description hashes [0, 448). -/
def overlapPE : Bytes :=
  peHdr 2 32 448 ++ secHdr 416 32 ++ secHdr 448 16 ++ List.replicate 24 0 ++ List.replicate 32 0x11 ++ List.replicate 16 0x33

def digestOf (f : Bytes) : Digest :=
  match DigestPE f with
  | .ok d => d
  | _ => ⟨[], 0, 0, ⟨0, 0, 0, 0, 0, 0, 0, 0, 0, 0, 0, 0⟩, [], 0⟩

def headersOf (f : Bytes) : Headers :=
  match readHeaders f with
  | .ok h => h
  | _ => ⟨⟨0, 0, 0, 0, 0, 0, 0, 0, 0, 0, 0, 0⟩, [], [], 0⟩

set_option maxRecDepth 100000 in
/-- the hypotheses of `pe_page_hashes_eq_spec` are satisfiable by an image with two sections -/
example : 64 ≤ u32 pagePE 0x3c ∧ DigestPE pagePE = .ok (digestOf pagePE) ∧ Spec.PageHashes.regular pagePE = true ∧
    (digestOf pagePE).m.sizeOfHdr ≤ (digestOf pagePE).m.pageSize ∧
    (Spec.PageHashes.sectionTable pagePE = [(416, 32), (448, 16)]) := by decide +kernel

set_option maxRecDepth 100000 in
example : (pageHashInputs pagePE (digestOf pagePE)).isSome = true :=
  have ev : 64 ≤ u32 pagePE 0x3c ∧ DigestPE pagePE = .ok (digestOf pagePE) ∧
      (digestOf pagePE).m.sizeOfHdr ≤ (digestOf pagePE).m.pageSize := by decide +kernel
  (pe_page_hashes_defined_iff pagePE (digestOf pagePE) ev.1 ev.2.1).2 ev.2.2

/-- byte `j` of the hash input of entry `i` of a table -/
def probe (i j : Nat) (t : Option (List (Nat × Bytes))) : Option UInt8 :=
  t.map fun l => (l.getD i (0, [])).2.getD j 0

/-- relic's table is the description's table on the fixed-up view (`pe_page_hashes_closed`): one observation `pr`
    that tells that table from the description's own suffices; `ev` and `hne` are evaluations -/
theorem pe_page_hashes_differ_of_probe {β : Type} (f : Bytes) (pr : Option (List (Nat × Bytes)) → β)
    (ev : 64 ≤ u32 f 0x3c ∧ DigestPE f = .ok (digestOf f) ∧
      (digestOf f).m.sizeOfHdr ≤ (digestOf f).m.pageSize ∧ Spec.PageHashes.regular f = false)
    (hne : pr (Spec.PageHashes.tableOf (Spec.PageHashes.archPageSize f) f (headersOf f).m.posDDCert
        (headersOf f).m.sizeOfHdr ((headersOf f).sections.map toPair)) ≠ pr (Spec.PageHashes.pageHashes f)) :
    ∃ f d l, 64 ≤ u32 f 0x3c ∧ DigestPE f = .ok d ∧ pageHashInputs f d = some l ∧
      Spec.PageHashes.regular f = false ∧ Spec.PageHashes.pageHashes f ≠ some l := by
  obtain ⟨hp, hd, hfit, hreg⟩ := ev
  obtain ⟨l, hl⟩ := Option.isSome_iff_exists.1 ((pe_page_hashes_defined_iff f _ hp hd).2 hfit)
  refine ⟨f, _, l, hp, hd, hl, hreg, fun heq => ?_⟩
  obtain ⟨h, hh, _, ht⟩ := pe_page_hashes_closed f _ l hp hd hl
  have hh' : headersOf f = h := by unfold headersOf; rw [hh]
  rw [hh', ht, heq] at hne
  exact hne rfl

/-- **outside the class (1): SizeOfRawData of a non-last section not a multiple of FileAlignment.**  relic accepts
    `unalignedPE`, produces a table, and that table is NOT the description's: entry 1 (first section) covers 32 file
    bytes in relic's table and 16 in the description's. -/
theorem pe_page_hashes_differ_unaligned :
    ∃ f d l, 64 ≤ u32 f 0x3c ∧ DigestPE f = .ok d ∧ pageHashInputs f d = some l ∧
      Spec.PageHashes.regular f = false ∧ Spec.PageHashes.pageHashes f ≠ some l :=
  pe_page_hashes_differ_of_probe unalignedPE (probe 1 16) (by decide +kernel) (by decide +kernel)

/-- **outside the class (2): SizeOfHeaders reaching past the start of the first section.**  relic hashes the headers up
    to the first section only; the description hashes `[0, SizeOfHeaders)`. -/
theorem pe_page_hashes_differ_header_overlap :
    ∃ f d l, 64 ≤ u32 f 0x3c ∧ DigestPE f = .ok d ∧ pageHashInputs f d = some l ∧
      Spec.PageHashes.regular f = false ∧ Spec.PageHashes.pageHashes f ≠ some l :=
  pe_page_hashes_differ_of_probe overlapPE (probe 0 404) (by decide +kernel) (by decide +kernel)

/-- `pagePE` with SectionAlignment = 0x2000 (regular, x86: architectural page size 4096) -/
def sa8kPE : Bytes := pagePE.take 120 ++ leBytes 4 0x2000 ++ pagePE.drop 124

/-- length of the hash input of entry `i` -/
def probeLen (i : Nat) (t : Option (List (Nat × Bytes))) : Option Nat :=
  t.map fun l => (l.getD i (0, [])).2.length

/-- **the uncertain clause matters:** on a regular image whose SectionAlignment is not the architectural page size,
    relic's table (4096-byte pages, = `pageHashes`) is not the table of osslsigncode's reading (`pageHashesSA`,
    pages of SectionAlignment bytes). -/
theorem pe_page_hashes_differ_section_alignment :
    ∃ f d l, 64 ≤ u32 f 0x3c ∧ DigestPE f = .ok d ∧ pageHashInputs f d = some l ∧
      Spec.PageHashes.regular f = true ∧ Spec.PageHashes.pageHashes f = some l ∧ Spec.PageHashes.pageHashesSA f ≠ some l := by
  have ⟨hp, hd, hfit, hr⟩ : 64 ≤ u32 sa8kPE 0x3c ∧ DigestPE sa8kPE = .ok (digestOf sa8kPE) ∧
      (digestOf sa8kPE).m.sizeOfHdr ≤ (digestOf sa8kPE).m.pageSize ∧ Spec.PageHashes.regular sa8kPE = true := by
    decide +kernel
  obtain ⟨l, hl⟩ := Option.isSome_iff_exists.1 ((pe_page_hashes_defined_iff sa8kPE _ hp hd).2 hfit)
  have hspec := pe_page_hashes_eq_spec sa8kPE _ l hp hd hr hl
  refine ⟨sa8kPE, _, l, hp, hd, hl, hr, hspec, fun heq => ?_⟩
  exact absurd (congrArg (probeLen 0) (hspec.trans heq.symm)) (by decide +kernel)

end Relic.Props.C05
