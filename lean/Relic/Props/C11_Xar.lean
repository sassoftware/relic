/-
  C11 — Malformed input yields an error, never a crash or runaway resource use.   xar / flat package part (model
  `Relic.Model.Xar`: `Open`, `Verify`, `Sign` with every `make`, `ReadAt`, `ParseInt` and int64 addition explicit; `fx = true`
  the current tree, `fx = false` the tree before the fixes a62cce4 / 5d6eee4).

  Current tree: `xar_open_never_panics` (a `<size>` that is negative or larger than the file is refused before `make`),
  `xar_verify_no_new_panic`, `xar_sign_no_panic`, `xar_open_no_diverge` — every entry point returns ok or err;
  `xar_alloc_bounded`: what `Open` asks for is at most the declared uncompressed size (≤ 10^8, and the inflater stops one byte
  behind it) plus sizes bounded by the file; `xar_sign_patch_entries_le`: `Sign`'s patch has at most
  `(10^6·(3k+1)+27)/(2^32−1)+1` entries for a TOC with `k` children (1 below 1431 signature elements).
  Tree before the fixes: `xar_open_panic_iff_orig` (exact trigger of the `makeslice` panic, F12-panic-xar.Open),
  `xar_alloc_request_not_bounded_by_file_orig` (F13-alloc-xar.Open), `xar_patch_entries_unbounded_orig` (F13-alloc-xar.Sign).
-/
import Relic.Props.C01_Xar
namespace Relic.Props.C11
open Relic.Xar

/-- `make([]byte, n)` followed by `ReadAt` panicked exactly when `n` was negative or above the allocation limit -/
theorem xar_allocRead_panic_iff_orig (site cls : String) (f : Bytes) (n off : Int) (s : String) :
    allocRead false site cls f n off = .panic s ↔ s = site ∧ (n < 0 ∨ n > maxAlloc) := by
  simpa using allocRead_crash_iff false site cls f n off (.panic s)

/-- the current tree tests the size first: no panic, whatever the number -/
theorem xar_allocRead_no_panic (site cls : String) (f : Bytes) (n off : Int) (s : String) :
    allocRead true site cls f n off ≠ .panic s := by
  simpa using allocRead_crash_iff true site cls f n off (.panic s)

/-- a `<size>` that made `make` panic -/
def xarBadSize (s : Option XSig) : Prop := ∃ x, s = some x ∧ (x.size < 0 ∨ x.size > maxAlloc)

theorem xar_res_bind_panic_iff {α β} (r : Res α) (g : α → Res β) (s : String) :
    r.bind g = .panic s ↔ r = .panic s ∨ ∃ a, r = .ok a ∧ g a = .panic s := Res.bind_eq_panic

theorem xar_readSig_panic_iff_orig (E : Env) (f : Bytes) (base : Int) (sg : Option XSig) (s : String) :
    readSig false E f base sg = .panic s ↔ s = "xar.Open:makeslice" ∧ xarBadSize sg := by
  simpa [xarBadSize] using readSig_crash_iff false E f base sg (.panic s)

theorem xar_readXSig_panic_iff_orig (f : Bytes) (base : Int) (sg : Option XSig) (s : String) :
    readXSig false f base sg = .panic s ↔ s = "xar.Open:makeslice" ∧ xarBadSize sg := by
  simpa [xarBadSize] using readXSig_crash_iff false f base sg (.panic s)

theorem xar_readSig_no_panic (E : Env) (f : Bytes) (base : Int) (sg : Option XSig) (s : String) : readSig true E f base sg ≠ .panic s := by
  simpa using readSig_crash_iff true E f base sg (.panic s)

theorem xar_readXSig_no_panic (f : Bytes) (base : Int) (sg : Option XSig) (s : String) : readXSig true f base sg ≠ .panic s := by
  simpa using readXSig_crash_iff true f base sg (.panic s)

theorem xar_readTicket_no_panic (f : Bytes) (fs : List XFile) (base : Int) (s : String) : readTicket f fs base ≠ .panic s := by
  simpa using readTicket_ne_crash f fs base (.panic s)

/-- **xar_openRest_panic_iff_orig** (the part of `Open` behind the checksum read, before the fix).  `Open` panicked exactly when
    the `<size>` of `<signature>` was negative or above 2^48, or that element was fine (absent, or its bytes and certificates
    could be read) and the `<size>` of `<x-signature>` was negative or above 2^48.  The site is the `make` in `xar.Open`. -/
theorem xar_openRest_panic_iff_orig (E : Env) (f : Bytes) (k : HK) (stored : Bytes) (toc : XToc) (base : Int) (n : Nat) (s : String) :
    openRest false E f k stored toc base n = .panic s ↔
      s = "xar.Open:makeslice" ∧ (xarBadSize toc.sig ∨ ((∃ sg, readSig false E f base toc.sig = .ok sg) ∧ xarBadSize toc.xsig)) := by
  simpa [xarBadSize] using openRest_crash_iff false E f k stored toc base n (.panic s)

/-- **xar_open_panic_iff_orig.**  The whole of `Open` before fix a62cce4: a panic happened only in `openRest` (header, zlib,
    `encoding/xml`, checksum size and read return errors), i.e. exactly under the trigger of `xar_openRest_panic_iff_orig`, once
    the header names a supported hash, the TOC region decodes, `encoding/xml` accepts it, the checksum `<size>` is the hash
    size and the checksum bytes could be read. -/
theorem xar_open_panic_iff_orig (E : Env) (f : Bytes) (s : String) :
    (openPlanOrig E f).final = .panic s ↔
      ∃ hd k root n toc stored, parseHeader f = .ok (hd, k) ∧ E.decode (regionSR f hd.hsize hd.clen) = some (root, n) ∧
        unmarshal E.num root = some toc ∧ toc.ck.size = k.size ∧
        readAt f (w64 (w64 (hd.hsize + hd.clen) + toc.ck.offset)) k.size = some stored ∧
        s = "xar.Open:makeslice" ∧
        (xarBadSize toc.sig ∨ ((∃ sg, readSig false E f (w64 (hd.hsize + hd.clen)) toc.sig = .ok sg) ∧ xarBadSize toc.xsig)) := by
  have := openPlanG_crash_iff false E f (.panic s)
  simp only [Res.crash, xar_openRest_panic_iff_orig] at this
  rw [openPlanOrig, this]
  constructor
  · rintro ⟨hd, k, root, n, toc, stored, ⟨h1, _, h3, h4, h5, h6⟩, h7, h8⟩
    exact ⟨hd, k, root, n, toc, stored, h1, h3, h4, h5, h6, h7, h8⟩
  · rintro ⟨hd, k, root, n, toc, stored, h1, h3, h4, h5, h6, h7, h8⟩
    exact ⟨hd, k, root, n, toc, stored, ⟨h1, nofun, h3, h4, h5, h6⟩, h7, h8⟩

/-- a failing comparison is an error, so the run of a plan panics only where its final outcome does -/
theorem xar_run_panic (C : Crypto) {α} (p : Plan α) (s : String) (h : p.run C = .panic s) : p.final = .panic s :=
  run_eq_crash C p (.panic s) h

example : xarBadSize (some ⟨"RSA", 20, -1, []⟩) := ⟨_, rfl, Or.inl (by decide)⟩

/-- **xar_open_never_panics.**  `Open` of the current tree returns ok or err on every input: header, the size test in front
    of `parseTOC`, zlib / `encoding/xml` (parameters), checksum size and read, both signature blobs (sizes tested against
    the file size before `make`), the notary ticket. -/
theorem xar_open_never_panics (E : Env) (f : Bytes) (s : String) : (openPlan E f).final ≠ .panic s := by
  intro h
  obtain ⟨_, _, _, _, _, _, _, hr⟩ := (openPlanG_crash_iff true E f (.panic s)).mp h
  cases ((openRest_crash_iff ..).mp hr).1

theorem xar_checkFileAt_final (f : Bytes) (base : Int) (r : Ref) : (∃ e, (checkFileAt f base r).final = .err e) ∨ (checkFileAt f base r).final = .ok () := by
  fun_cases checkFileAt f base r
  case case4 => exact Or.inr rfl
  all_goals exact Or.inl ⟨_, rfl⟩

theorem xar_checkAllAt_final (f : Bytes) (base : Int) : ∀ rs, (∃ e, (checkAllAt f base rs).final = .err e) ∨ (checkAllAt f base rs).final = .ok ()
  | [] => Or.inr rfl
  | r :: rs => by
    simp only [checkAllAt, Plan.bind]
    rcases xar_checkFileAt_final f base r with ⟨e, h⟩ | h
    · rw [h]; exact Or.inl ⟨e, rfl⟩
    · rw [h]; exact xar_checkAllAt_final f base rs

/-- **xar_verify_no_new_panic.**  `Verify` (signature dispatch, `gatherDataFiles`, sort, `checkFile` per member) adds no panic
    and no divergence to what `Open` can do: whatever `Open` + `Verify` ends in other than ok / err, `Open` ended in.  With
    `xar_open_never_panics` / `xar_open_no_diverge`: on the current tree `Open` + `Verify` returns ok or err. -/
theorem xar_verify_no_new_panic (fx : Bool) (E : Env) (f : Bytes) (skip : Bool) :
    (∀ s, (verifyPlanG fx E f skip).final = .panic s → (openPlanG fx E f).final = .panic s) ∧
    ((verifyPlanG fx E f skip).final = .diverge → (openPlanG fx E f).final = .diverge) := by
  -- `verifyOpened` is comparisons and tests that answer with an error: its final outcome is no crash
  have hfin : ∀ o c, (verifyOpened f (tocRegion f) o skip).final ≠ Res.crash c := by
    intro o c
    unfold verifyOpened
    simp only [final_bind, ne_eq, Res.bind_eq_crash, not_or, not_exists, not_and]
    refine ⟨?_, fun _ _ => ⟨?_, fun _ _ => by simp [Plan.pure]⟩⟩
    · split
      · simp
      · split <;> simp [Plan.fail]
    · split
      · simp [Plan.pure]
      · rcases xar_checkAllAt_final f o.base (sortRefs ((gather o.toc.files).map XFile.ref)) with ⟨e, h⟩ | h <;> rw [h] <;> simp
  have key : ∀ c, (verifyPlanG fx E f skip).final = Res.crash c → (openPlanG fx E f).final = Res.crash c := by
    intro c h
    rw [verifyPlanG, final_bind, Res.bind_eq_crash] at h
    rcases h with h | ⟨o, _, h⟩
    · exact h
    · exact absurd h (hfin o c)
  exact ⟨fun s => key (.panic s), key .diverge⟩

theorem xar_res_bind_diverge_iff {α β} (r : Res α) (g : α → Res β) :
    r.bind g = .diverge ↔ r = .diverge ∨ ∃ a, r = .ok a ∧ g a = .diverge := Res.bind_eq_diverge

theorem xar_allocRead_no_diverge (fx : Bool) (site cls : String) (f : Bytes) (n off : Int) : allocRead fx site cls f n off ≠ .diverge := by
  simpa using allocRead_crash_iff fx site cls f n off .diverge

theorem xar_readSig_no_diverge (fx : Bool) (E : Env) (f : Bytes) (base : Int) (sg : Option XSig) : readSig fx E f base sg ≠ .diverge := by
  simpa using readSig_crash_iff fx E f base sg .diverge

theorem xar_readXSig_no_diverge (fx : Bool) (f : Bytes) (base : Int) (sg : Option XSig) : readXSig fx f base sg ≠ .diverge := by
  simpa using readXSig_crash_iff fx f base sg .diverge

theorem xar_readTicket_no_diverge (f : Bytes) (fs : List XFile) (base : Int) : readTicket f fs base ≠ .diverge := by
  simpa using readTicket_ne_crash f fs base .diverge

/-- `Open` never diverges: every loop runs over the element tree or the file list (structural recursion in the model) -/
theorem xar_open_no_diverge (fx : Bool) (E : Env) (f : Bytes) : (openPlanG fx E f).final ≠ .diverge := by
  intro h
  obtain ⟨_, _, _, _, _, _, _, hr⟩ := (openPlanG_crash_iff fx E f .diverge).mp h
  cases ((openRest_crash_iff ..).mp hr).2.1

/-- **xar_sign_no_panic.**  `Sign` up to the signature computation returns ok or err on every input, on both trees: header,
    size limits, zlib / etree (parameters), `/xar/toc`, the tests of the repaired `removeSigs` / `checkFiles`, the member
    check on the forward-only heap.  (`hashType.Size()` of an unregistered hash and `certs[0]` of an empty chain are
    configuration, not input.) -/
theorem xar_sign_no_panic (fx : Bool) (E : Env) (f : Bytes) (hk : HK) (ki : KeyInfo) :
    (∀ s, (signPlanG fx E f hk ki).final ≠ .panic s) ∧ (signPlanG fx E f hk ki).final ≠ .diverge := by
  rcases signPlanG_final fx E f hk ki with ⟨so, h⟩ | ⟨e, h⟩ <;> rw [h] <;> simp

/-- before fix a62cce4 `make([]byte, n)` was executed for every `0 ≤ n ≤ 2^48` from the XML; only `ReadAt` afterwards noticed
    that the file does not hold that many bytes: the request was not bounded by the input length (F13-alloc-xar.Open) -/
theorem xar_alloc_request_not_bounded_by_file_orig (site cls : String) (f : Bytes) (n : Int) (h0 : 0 < n) (h1 : n ≤ maxAlloc)
    (hf : (f.length : Int) < n) : allocRead false site cls f n 0 = .err cls := by
  unfold allocRead readAt
  have a : ¬ (n < 0 ∨ n > maxAlloc) := by omega
  have b : ¬ n.toNat = 0 := by omega
  have c : ¬ n ≤ (f.length : Int) := by omega
  simp [a, b, c]

/-- the current tree makes a buffer only for a size between 0 and the file size, and what is read into it are that many bytes of
    the file -/
theorem xar_allocRead_bounded (site cls : String) (f : Bytes) (n off : Int) (b : Bytes) (h : allocRead true site cls f n off = .ok b) :
    0 ≤ n ∧ n ≤ f.length ∧ b.length = n.toNat :=
  allocRead_ok site cls f n off b h

/-- **xar_alloc_bounded.**  What a successful `Open` of the current tree has requested from the allocator — the inflated table
    of contents, the checksum, both signature blobs, the notary ticket — is at most `UncompressedSize ≤ 10^8` (a constant,
    and `decompress` stops one byte behind what was declared) `+ 64 + 2·len(file) + 10^6`.  Before the fix neither the
    inflated size nor the two blob sizes were bounded (`xar_alloc_request_not_bounded_by_file_orig`). -/
theorem xar_alloc_bounded (E : Env) (f : Bytes) (o : Opened) (h : (openPlan E f).final = .ok o) :
    o.alloc ≤ 100000000 + 64 + 2 * f.length + 1000000 := by
  rcases openPlanG_cases true E f with ⟨e, he⟩ | ⟨hd, k, root, n, toc, stored, hF, he⟩
  · rw [openPlan, he] at h; cases h
  · rw [openPlan, he] at h
    obtain ⟨sg, x, tk, h1, h2, h3, rfl⟩ := (openRest_ok_iff ..).mp h
    have hk := k.size_le
    have hn : n ≤ 100000000 := by
      have h2 := of_decide_eq_true (hF.sizes rfl).1
      have := (hF.sizes rfl).2
      simp only [maxTOCSize] at h2
      omega
    have b1 := readSig_ok_len _ _ _ _ _ h1
    have b2 := readXSig_ok_len _ _ _ _ h2
    have b3 := readTicket_ok_len _ _ _ _ h3
    simp only
    omega

theorem xar_addSplit_length (M : Nat) (hM : 0 < M) : ∀ (old off : Nat) (blob : Bytes), 0 < old →
    (Binpatch.addSplit M off old blob).length = (old - 1) / M + 1 := by
  intro old
  induction old using Nat.strongRecOn with
  | _ old ih =>
    intro off blob hpos
    rw [Binpatch.addSplit]
    by_cases h : 0 < M ∧ M < old
    · simp only [h, and_self, ↓reduceDIte, List.length_cons]
      rw [ih (old - M) (by omega) _ _ (by omega)]
      have : old - 1 = (old - M - 1) + M := by omega
      rw [this, Nat.add_div_right _ hM]
    · simp only [h, ↓reduceDIte, List.length_cons, List.length_nil]
      have : (old - 1) / M = 0 := Nat.div_eq_of_lt (by omega)
      omega

/-- **xar_patch_entries_eq.**  The patch set `Sign` returns has `⌈origTotal / (2^32−1)⌉` entries for a positive `origTotal` … -/
theorem xar_patch_entries_eq (ot : Int) (h : 0 < ot) (body : Bytes) :
    (patchSet ot body).length = ((ot.toNat - 1) / 4294967295) + 1 := by
  unfold patchSet
  have : ¬ ot < 0 := by omega
  simp only [this, ↓reduceIte, Binpatch.build, List.foldl_cons, List.foldl_nil, Binpatch.add, List.getLast?_nil, List.nil_append]
  exact xar_addSplit_length 4294967295 (by decide) ot.toNat 0 body (by omega)

/-- … and before fix 5d6eee4 `origTotal = 28 + CompressedSize + Σ <size>` was whatever the XML said: **the number of entries
    (16 bytes of header each, plus the loop that builds them) was not bounded by the length of the input** (F13-alloc-xar.Sign). -/
theorem xar_patch_entries_unbounded_orig (n : Nat) (hn : n < 2 ^ 30) :
    ∃ ot : Int, 0 < ot ∧ ot < 2 ^ 63 ∧ ∀ body, n < (patchSet ot body).length := by
  refine ⟨(n : Int) * 4294967295 + 1, by omega, by omega, ?_⟩
  intro body
  rw [xar_patch_entries_eq _ (by omega)]
  have : (((n : Int) * 4294967295 + 1).toNat - 1) / 4294967295 = n := by
    have e : ((n : Int) * 4294967295 + 1).toNat - 1 = n * 4294967295 := by omega
    rw [e]
    exact Nat.mul_div_cancel n (by omega)
  omega

theorem xar_areasOfKey_length (N : Num) (key : String) : ∀ (ks : List Xml) (as : List (Int × Int)), areasOfKey N key ks = some as →
    as.length ≤ ks.length ∧ ∀ a ∈ as, a.2 ≤ 1000000 :=
  fun ks as h => ⟨(areasOfKey_some N key ks as h).1, fun a ha => ((areasOfKey_some N key ks as h).2 a ha).2⟩

theorem xar_length_insertArea (a : Int × Int) : ∀ l, (insertArea a l).length = l.length + 1 :=
  fun l => (insertArea_insert.ins_perm a l).length_eq

theorem xar_length_sortAreas (as : List (Int × Int)) : (sortAreas as).length = as.length :=
  (sortAreas_perm as).length_eq

theorem xar_tile_le : ∀ (as : List (Int × Int)) (s0 s : Int), tile s0 as = some s → (∀ a ∈ as, a.2 ≤ 1000000) →
    s ≤ s0 + 1000000 * as.length :=
  fun as s0 s h hn => by
    have := sumA_le as hn
    rw [tile_sum as s0 s h]; omega

/-- the old signature area the repaired `Sign` works with is at most 10^6 bytes per signature element -/
theorem xar_origSig_le (N : Num) (ks : List Xml) (s : Int) (h : checkSigAreas N ks = .ok s) : s ≤ 1000000 * (3 * ks.length) := by
  obtain ⟨as, hl, hb, rfl⟩ := checkSigAreas_areas N ks s h
  have := sumA_le as fun a ha => (hb a ha).2
  omega

/-- `CompressedSize` of the header (0 when there is no header) -/
def xarHeaderClen (f : Bytes) : Int := match parseHeader f with | .ok (hd, _) => hd.clen | .error _ => 0

/-- **xar_sign_patch_entries_le** (current tree).  Whatever `Sign` accepts: `origTotal ≤ 28 + 10^6 + 3·10^6·k` for a `<toc>` with
    `k` children, so the patch set has at most `(10^6·(3k+1)+27)/(2^32−1)+1` entries — one for every TOC with fewer than
    1431 children, and never more than the TOC's own size allows (F13-alloc-xar.Sign, entry-count part).  (`k < 10^12` keeps
    the int64 sum from wrapping; the tree comes out of at most 10^7 inflated bytes, but the decoder is a parameter here.) -/
theorem xar_sign_patch_entries_le (C : Crypto) (E : Env) (f : Bytes) (hk : HK) (ki : KeyInfo) (so : SignOut)
    (h : (signPlan E f hk ki).run C = .ok so) :
    ∃ t n tks, E.decode (region f 28 (xarHeaderClen f)) = some (t, n) ∧ tocKids t = some tks ∧
      so.origSig ≤ 1000000 * (3 * tks.length) ∧
      (tks.length < 1000000000000 → 0 < so.origTotal ∧ so.origTotal ≤ 28 + 1000000 + 1000000 * (3 * tks.length) ∧
        ∀ body, (patchSet so.origTotal body).length ≤ (1000027 + 1000000 * (3 * tks.length)) / 4294967295 + 1) := by
  obtain ⟨hd, k0, t, n, p0, tks, hph, g1, g2, _, _, hdec, _, _, htk, hck, g0, _, hso, _⟩ := C01.xar_sign_guards C E f hk ki so h
  have hle := xar_origSig_le E.num tks so.origSig hck
  refine ⟨t, n, tks, by simpa [xarHeaderClen, hph] using hdec, htk, hle, ?_⟩
  intro hk3
  have hot : so.origTotal = 28 + hd.clen + so.origSig := by
    rw [hso]
    simp only
    exact w64_id (by unfold inI64; omega)
  refine ⟨by omega, by omega, ?_⟩
  intro body
  rw [xar_patch_entries_eq _ (by omega)]
  have : (so.origTotal.toNat - 1) / 4294967295 ≤ (1000027 + 1000000 * (3 * tks.length)) / 4294967295 :=
    Nat.div_le_div_right (by omega)
  omega

end Relic.Props.C11
