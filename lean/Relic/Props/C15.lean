/-
  C15 — Token failures are retried only when safe and reported faithfully.
  Property theorems about `Relic.Model.Retry` (token/worker/retry.go, internal/httperror,
  cmdline/workercmd/handler.go) and `Relic.Model.KeyCache` (token/tokencache/cache.go).
-/
import Relic.Proofs.Retry
import Relic.Model.KeyCache
namespace Relic.Props.C15
open Relic.Retry

/-- the number of `doOnce` calls of a run -/
abbrev attempts (r : Result × List Event) : Nat := (attemptsOf r.2).length

/-- **success_iff_some_attempt_succeeded.** For every attempt bound `n`, script and cancellation:
    the loop reports success with value `v` exactly when some attempt `i < n` succeeded with `v`
    and every earlier attempt failed with an error `httperror.Temporary` accepts.  (An attempt
    "succeeds" only if the caller's context did not end before or during it: `attemptResult`.) -/
theorem success_iff_some_attempt_succeeded (n : Nat) (outs : List Outcome) (c : Cancel) (v : Nat) :
    (doRetry n outs c).1 = .ok v ↔
      ∃ i, i < n ∧ attemptResult c outs i = .ok v ∧ ∀ j, j < i → TempFail c outs j := by
  unfold doRetry
  rw [go_ok_iff]
  constructor
  · rintro ⟨k, _, h2, h3, h4⟩
    exact ⟨k, by omega, h3, fun j hj => h4 j (Nat.zero_le _) hj⟩
  · rintro ⟨k, h2, h3, h4⟩
    exact ⟨k, Nat.zero_le _, by omega, h3, fun j _ hj => h4 j hj⟩

example : (doRetry 3 [.status 503 none, .refused, .reply ⟨7, false, false, false⟩] ⟨.never, .canceled⟩).1 = .ok 7 := by
  decide +kernel

/-- in terms of the script itself: a successful attempt is a 200 reply with empty `Err`, made
    while the caller's context was live -/
theorem attempt_ok_iff (c : Cancel) (outs : List Outcome) (i v : Nat) :
    attemptResult c outs i = .ok v ↔
      cancelledBy c i = false ∧ ∃ r, outcomeAt outs i = .reply r ∧ r.errSet = false ∧ r.value = v := by
  unfold attemptResult
  cases hc : cancelledBy c i
  · simp only [Bool.false_eq_true, if_false, true_and]
    cases ho : outcomeAt outs i with
    | reply r =>
      cases r with
      | mk value errSet retryable usage =>
        cases errSet <;> cases usage <;> simp [doOnce]
    | status code p => cases p <;> simp [doOnce]
    | _ => simp [doOnce]
  · simp

/-- **success_with_configured_retries.** The same for the configured value (repaired reading of
    `Retries`: non-positive ⇒ 5), which is what the worker token runs. -/
theorem success_with_configured_retries (r : Int) (outs : List Outcome) (c : Cancel) (v : Nat) :
    (doRetryCfg r outs c).1 = .ok v ↔
      ∃ i, i < effRetries r ∧ attemptResult c outs i = .ok v ∧ ∀ j, j < i → TempFail c outs j :=
  success_iff_some_attempt_succeeded _ outs c v

/-- a run never reports "no response, no error" (the repaired loop always makes an attempt) -/
theorem never_nilnil (r : Int) (outs : List Outcome) (c : Cancel) :
    (doRetryCfg r outs c).1 ≠ .nilnil := by
  have hpos : 0 < effRetries r := by
    unfold effRetries defaultRetries
    split <;> omega
  unfold doRetryCfg doRetry
  -- whatever the first iteration does, `last` is set before the loop can run out
  suffices h : ∀ (fuel i : Nat) (last : Option AErr), (fuel = 0 → last ≠ none) →
      (go c outs fuel i last).1 ≠ .nilnil from h _ 0 none (by omega)
  intro fuel
  induction fuel with
  | zero => intro i last h; cases last <;> simp_all [go_zero, lastResult]
  | succ fuel ih =>
    intro i last _
    rcases go_cases c outs fuel i last with ⟨_, _, hg⟩ | ⟨_, ⟨v', _, hg⟩ | ⟨e, _, _, hg⟩ | ⟨e, _, _, hg⟩⟩
    · rw [hg]; intro h; cases h
    · rw [hg]; intro h; cases h
    · rw [hg]; intro h; cases h
    · rw [hg]; exact ih (i + 1) (some e) (fun _ => by simp)

/-- **attempts_bounded.** At most `n` attempts, numbered `0, 1, …` without gaps or repeats. -/
theorem attempts_bounded (n : Nat) (outs : List Outcome) (c : Cancel) :
    attempts (doRetry n outs c) ≤ n ∧
    attemptsOf (doRetry n outs c).2 = List.range (attempts (doRetry n outs c)) := by
  obtain ⟨m, hm, hr⟩ := go_attempts c outs n 0 none
  unfold attempts doRetry
  rw [hr]
  simp [List.range_eq_range', hm]

example : attempts (doRetry 2 [.status 503 none, .status 503 none, .status 503 none] ⟨.never, .canceled⟩) = 2 := by
  decide +kernel

/-- **permanent_at_once.** If attempt `i < n` is reached (all earlier ones failed temporarily) and
    fails with an error that is not temporary, the loop returns exactly that error and attempt `i`
    is the last one made. -/
theorem permanent_at_once (n : Nat) (outs : List Outcome) (c : Cancel) (i : Nat) (e : AErr)
    (hi : i < n) (hreach : ∀ j, j < i → TempFail c outs j)
    (he : attemptResult c outs i = .error e) (hp : temporary e = false) :
    (doRetry n outs c).1 = .errAttempt e ∧ attemptsOf (doRetry n outs c).2 = List.range (i + 1) := by
  have := go_permanent c outs i e he hp n 0 none (Nat.zero_le _) (by omega) (fun j _ h => hreach j h)
  simpa [doRetry, List.range_eq_range'] using this

example : (doRetry 5 [.status 500 none, .reply ⟨0, true, false, true⟩, .reply ⟨1, false, false, false⟩] ⟨.never, .canceled⟩)
    = (.errAttempt .usage, [.attempt 0, .wait 1000000000, .attempt 1]) := by decide +kernel

/-- the classes that end the loop at once, and those that do not -/
theorem temporary_table :
    (∀ s, temporary (.http s) = true ↔ s = 500 ∨ s = 502 ∨ s = 503 ∨ s = 504 ∨ s = 507) ∧
    temporary .usage = false ∧ temporary (.token false) = false ∧ temporary (.token true) = true ∧
    temporary .malformed = false ∧ temporary .eof = false ∧
    temporary .syscall = true ∧ temporary .timeout = true ∧ temporary .unexpectedEOF = true ∧
    (∀ k, temporary (.ctx k) = true) := by
  refine ⟨?_, rfl, rfl, rfl, rfl, rfl, rfl, rfl, rfl, fun _ => rfl⟩
  intro s
  simp only [temporary, statusIsTemporary, Bool.or_eq_true, beq_iff_eq, or_assoc, or_comm, or_left_comm]

/-- **exhausted.** If all `n ≥ 1` attempts fail temporarily (and the caller does not give up), the
    loop makes exactly `n` attempts and returns the error of the last one. -/
theorem exhausted (n : Nat) (outs : List Outcome) (c : Cancel) (hn : 0 < n)
    (hlive : ∀ j, j < n → j ≠ 0 → doneAtStart c j = false)
    (hall : ∀ j, j < n → TempFail c outs j) :
    ∃ e, attemptResult c outs (n - 1) = .error e ∧ (doRetry n outs c).1 = .errAttempt e ∧
      attempts (doRetry n outs c) = n := by
  obtain ⟨e, h1, h2, h3⟩ := go_exhausted c outs n 0 none (fun j _ h => hlive j (by omega))
    (fun j _ h => hall j (by omega)) hn
  exact ⟨e, by simpa using h1, h2, by simp [attempts, doRetry, h3]⟩

/-- **delays.** The wait before attempt `k+1` is `delaySeq k` nanoseconds – float32 arithmetic as in
    the Go code: 1 s, then ×float32(2.718) each time, capped at float32(30 s). -/
theorem delays :
    (List.range 6).map delaySeq =
      [1000000000, 2717999872, 7387523584, 20079288320, 30000001024, 30000001024] := by
  decide +kernel

/-- a run has waited exactly `delaySeq 0 … delaySeq (attempts-2)` (a wait cut short by the caller is a `cut`, not a wait) -/
theorem waits_follow_schedule (n : Nat) (outs : List Outcome) (c : Cancel) :
    waitsOf (doRetry n outs c).2 = (List.range (attempts (doRetry n outs c) - 1)).map delaySeq := by
  -- from iteration `i` on: every attempt but the very first (`i = 0`) is preceded by its wait `delaySeq (i - 1)`
  suffices h : ∀ (fuel i : Nat) (last : Option AErr),
      waitsOf (go c outs fuel i last).2 =
        (List.range' (i - 1) ((attemptsOf (go c outs fuel i last).2).length - (if i = 0 then 1 else 0))).map delaySeq by
    have := h n 0 none
    simpa [doRetry, attempts, List.range_eq_range'] using this
  intro fuel
  induction fuel with
  | zero => intro i last; simp [go_zero, waitsOf, attemptsOf]
  | succ fuel ih =>
    intro i last
    have wpre : ∀ (x : List Event), waitsOf (pre i ++ x) = (if i = 0 then [] else [delaySeq (i - 1)]) ++ waitsOf x := by
      intro x; unfold pre; split <;> simp [waitsOf]
    have apre : ∀ (x : List Event), attemptsOf (pre i ++ x) = attemptsOf x := by
      intro x; simp [attemptsOf_append, attemptsOf_pre]
    rcases go_cases c outs fuel i last with ⟨_, _, hg⟩ | ⟨_, ⟨v', _, hg⟩ | ⟨e, _, _, hg⟩ | ⟨e, _, _, hg⟩⟩
    · rw [hg]; simp [waitsOf, attemptsOf]
    · rw [hg]; simp only [wpre, apre]
      by_cases h0 : i = 0 <;> simp [h0, waitsOf, attemptsOf]
    · rw [hg]; simp only [wpre, apre]
      by_cases h0 : i = 0 <;> simp [h0, waitsOf, attemptsOf]
    · rw [hg]; simp only [wpre, apre, waitsOf, attemptsOf, ih (i + 1) (some e)]
      by_cases h0 : i = 0
      · simp [h0]
      · have : i - 1 + 1 = i := by omega
        simp [h0, List.range', this]

/-- **cancel_prompt.** Whenever the caller's context ends, no further attempt is started: every
    attempt after the first was started with the context live, and an attempt before or during
    which the context ended is the last attempt of the run.  (The first attempt is made
    unconditionally; `cancel_before_call` shows it fails at once without reaching the worker.) -/
theorem cancel_prompt (n : Nat) (outs : List Outcome) (c : Cancel) :
    ∀ a ∈ attemptsOf (doRetry n outs c).2,
      (a ≠ 0 → doneAtStart c a = false) ∧
      (cancelledBy c a = true → ∀ b ∈ attemptsOf (doRetry n outs c).2, b ≤ a) :=
  go_cancel c outs n 0 none

/-- context ends while attempt `k` is in flight: the run ends with that attempt; the caller gets
    the context's own error, or – when `k` was the last permitted attempt – the attempt's error,
    which wraps it.  Never success, never a wait. -/
theorem cancel_during (n : Nat) (outs : List Outcome) (kind : CtxErr) (k : Nat) (hk : k < n)
    (hreach : ∀ j, j < k → TempFail ⟨.during k, kind⟩ outs j) :
    (doRetry n outs ⟨.during k, kind⟩).1 = (if k + 1 < n then .errCtx kind else .errAttempt (.ctx kind)) ∧
    attempts (doRetry n outs ⟨.during k, kind⟩) = k + 1 := by
  have hc : cancelledBy ⟨.during k, kind⟩ k = true := by simp [cancelledBy, doneAtStart]
  have hl : Started ⟨.during k, kind⟩ k := Or.inr (by simp [doneAtStart])
  obtain ⟨r1, r2⟩ := go_cancel_at _ outs k hc hl n 0 none (Nat.zero_le _) (by omega) (fun j _ h => hreach j h)
  exact ⟨by simpa [doRetry] using r1, by simp [attempts, doRetry, r2]⟩

/-- context already done when the operation is called: one attempt is made, which fails at once
    (and does not reach the worker: `arrives … 0 = false`); no second attempt. -/
theorem cancel_before_call (n : Nat) (outs : List Outcome) (kind : CtxErr) (hn : 0 < n) :
    (doRetry n outs ⟨.before 0, kind⟩).1 = (if 1 < n then .errCtx kind else .errAttempt (.ctx kind)) ∧
    attempts (doRetry n outs ⟨.before 0, kind⟩) = 1 ∧
    arrives ⟨.before 0, kind⟩ outs 0 = false := by
  have hc : cancelledBy ⟨.before 0, kind⟩ 0 = true := by simp [cancelledBy, doneAtStart]
  obtain ⟨r1, r2⟩ := go_cancel_at _ outs 0 hc (Or.inl rfl) n 0 none (Nat.zero_le _) (by omega) (fun j _ h => by omega)
  exact ⟨by simpa [doRetry] using r1, by simp [attempts, doRetry, r2], by simp [arrives, doneAtStart]⟩

/-- context ends during the back-off wait before attempt `k ≥ 1`: the wait is cut, attempt `k` is
    not made, the caller gets the context's error. -/
theorem cancel_in_backoff (n : Nat) (outs : List Outcome) (kind : CtxErr) (k : Nat) (hk0 : 0 < k) (hk : k < n)
    (hreach : ∀ j, j < k → TempFail ⟨.before k, kind⟩ outs j) :
    (doRetry n outs ⟨.before k, kind⟩).1 = .errCtx kind ∧
    attempts (doRetry n outs ⟨.before k, kind⟩) = k := by
  have hc : doneAtStart ⟨.before k, kind⟩ k = true := by simp [doneAtStart]
  have hl : ∀ j, j < k → cancelledBy ⟨.before k, kind⟩ j = false := by
    intro j hj; simp [cancelledBy, doneAtStart]; omega
  obtain ⟨r1, r2⟩ := go_cancel_before _ outs k hk0 hc hl n 0 none (Nat.zero_le _) (by omega) (fun j _ h => hreach j h)
  exact ⟨by simpa [doRetry] using r1, by simp [attempts, doRetry, r2]⟩

example : doRetry 3 [.status 500 none, .reply ⟨1, false, false, false⟩] ⟨.before 1, .deadline⟩
    = (.errCtx .deadline, [.attempt 0, .cut]) := by decide +kernel

/-- **retries_nonpositive (F5).** Before relic commit c06bd26 a negative `retries` made the loop body never
    run: the function returns `(nil, nil)` – no error, no response – without any attempt, whatever
    the worker would have answered.  `Ping` then reports success; `GetKey`/`SignContext` dereference
    the nil response.  Witness `retries = -1`; the repaired reading never does this. -/
theorem retries_nonpositive :
    (∀ (r : Int) outs c, r < 0 → doRetryCfgOrig r outs c = (.nilnil, [])) ∧
    doRetryCfgOrig (-1) [.status 403 none] ⟨.never, .canceled⟩ = (.nilnil, []) ∧
    ¬ (∀ (r : Int) outs c, (doRetryCfgOrig r outs c).1 = .nilnil → 0 < attempts (doRetryCfgOrig r outs c)) := by
  have h : ∀ (r : Int) outs c, r < 0 → doRetryCfgOrig r outs c = (.nilnil, []) := by
    intro r outs c hr
    have : effRetriesOrig r = 0 := by
      unfold effRetriesOrig
      have : r ≠ 0 := by omega
      simp [this]; omega
    simp [doRetryCfgOrig, doRetry, this, go_zero, lastResult]
  refine ⟨h, h _ _ _ (by decide), ?_⟩
  intro hall
  have := hall (-1) [] ⟨.never, .canceled⟩ (by rw [h _ _ _ (by decide)])
  rw [h _ _ _ (by decide)] at this
  simp [attempts, attemptsOf] at this

/-- both readings agree on every positive value and on 0 -/
theorem effRetries_agree (r : Int) (h : 0 ≤ r) : effRetries r = effRetriesOrig r := by
  unfold effRetries effRetriesOrig
  by_cases h0 : r = 0
  · simp [h0]
  · have : ¬ r ≤ 0 := by omega
    simp [h0, this]

/-- **classification.** The `switch` of `handler.ServeHTTP`, by cases:
    key-usage ⇒ not retryable, `Usage` set, key name set; not-implemented ⇒ not retryable;
    PKCS#11 code in `fatalErrors` ⇒ retryable and the worker shuts down; other PKCS#11 codes ⇒ not
    retryable; anything else – including a *wrapped* key-usage error, which a type switch does not
    see – ⇒ retryable. -/
theorem classification :
    (∀ ie, (classify (.keyUsage ie)).retryable = false ∧ (classify (.keyUsage ie)).usage = true ∧
           (classify (.keyUsage ie)).keySet = true ∧ (classify (.keyUsage ie)).shutdown = false) ∧
    ((classify .notImplemented).retryable = false ∧ (classify .notImplemented).usage = false) ∧
    (∀ code me, isFatal code = true →
        (classify (.pkcs11 code me)).retryable = true ∧ (classify (.pkcs11 code me)).shutdown = true) ∧
    (∀ code me, isFatal code = false →
        (classify (.pkcs11 code me)).retryable = false ∧ (classify (.pkcs11 code me)).shutdown = false) ∧
    ((classify .other).retryable = true ∧ (classify .other).usage = false) ∧
    ((classify .wrappedKeyUsage).retryable = true ∧ (classify .wrappedKeyUsage).usage = false) ∧
    (∀ e, (classify e).usage = true ↔ ∃ ie, e = .keyUsage ie) := by
  refine ⟨fun ie => ⟨rfl, rfl, rfl, rfl⟩, ⟨rfl, rfl⟩, ?_, ?_, ⟨rfl, rfl⟩, ⟨rfl, rfl⟩, ?_⟩
  · intro code me h; simp [classify, h]
  · intro code me h; simp [classify, h]
  · intro e
    cases e with
    | pkcs11 code me => simp only [classify]; split <;> simp
    | keyUsage ie => simp [classify]
    | _ => simp [classify]

/-- **classification_end_to_end.** What the client's `doOnce` makes of the worker's reply, provided
    the error text is not empty: a key-usage error arrives as a key-usage error (permanent), a
    not-implemented or non-fatal PKCS#11 error as a non-retryable token error (permanent), a fatal
    PKCS#11 or unknown error as a retryable token error. -/
theorem classification_end_to_end :
    doOnce (.reply (replyOf (classify (.keyUsage false)))) = .error .usage ∧
    doOnce (.reply (replyOf (classify .notImplemented))) = .error (.token false) ∧
    (∀ code, doOnce (.reply (replyOf (classify (.pkcs11 code false)))) = .error (.token (isFatal code))) ∧
    doOnce (.reply (replyOf (classify .other))) = .error (.token true) ∧
    (∀ e, doOnce (.reply (replyOf (classify e))) = .error .usage ↔ e = .keyUsage false) := by
  refine ⟨rfl, rfl, ?_, rfl, ?_⟩
  · intro code; cases h : isFatal code <;> simp [classify, replyOf, doOnce, h]
  · intro e
    cases e with
    | pkcs11 code me => cases h : isFatal code <;> cases me <;> simp [classify, replyOf, doOnce, h]
    | keyUsage ie => cases ie <;> simp [classify, replyOf, doOnce]
    | _ => simp [classify, replyOf, doOnce]

/-- the hypothesis above is needed: with an empty error text the reply has `Err == ""` and the client
    takes it for a success (reachable only with errors whose text is empty) -/
theorem empty_error_text_reads_as_success :
    doOnce (.reply (replyOf (classify (.keyUsage true)))) = .ok 0 := rfl

/-- **cookie_gate.** A request whose `Auth-Cookie` differs from the per-process secret is answered
    403 and `handle` is not consulted (the result does not depend on it); with the right cookie the
    request is served. -/
theorem cookie_gate (secret cookie : List Nat) :
    (cookie ≠ secret → ∀ h, serve secret cookie h = .forbidden) ∧
    (cookie = secret → ∀ h, serve secret cookie h ≠ .forbidden) := by
  constructor
  · intro hne h; simp [serve, hne]
  · intro he h
    subst he
    cases h <;> simp [serve]

example : serve [97, 98] [97] (.ok ()) = .forbidden ∧ serve [97, 98] [] (.ok ()) = .forbidden := by decide +kernel

open Relic.KeyCache in
/-- **pinned_key_never_stale.** `Cache.GetKey` hands out a cached key only if it has not expired and
    either no key id is pinned in the context or the cached key has exactly the pinned id; a key
    fetched under a pin is never stored; and whatever is not served from the cache is the wrapped
    token's answer for that very pin. -/
theorem pinned_key_never_stale (expiry : Nat) (fetch : Nat → KeyId → Option KeyId) (s : State)
    (now : Nat) (want : KeyId) (name : Nat) :
    (∀ id, (getKey expiry fetch s now want name).1 = some (id, .cache) →
        (want = [] ∨ id = want) ∧ ∃ e, lookup s name = some e ∧ e.id = id ∧ now < e.expires) ∧
    (want ≠ [] → (getKey expiry fetch s now want name).2 = s) ∧
    (∀ id, (getKey expiry fetch s now want name).1 = some (id, .backend) → fetch name want = some id) ∧
    ((getKey expiry fetch s now want name).1 = none → fetch name want = none) := by
  unfold getKey
  cases hl : lookup s name with
  | some e =>
    by_cases hh : e.expires > now ∧ (want = [] ∨ want = e.id)
    · simp only [hh, and_self, if_true]
      refine ⟨?_, fun _ => trivial, nofun, nofun⟩
      rintro _ ⟨⟩
      exact ⟨hh.2.imp id Eq.symm, e, rfl, rfl, hh.1⟩
    · simp only [hh, if_false]
      cases hf : fetch name want with
      | none => simp
      | some id' => by_cases hc : expiry > 0 ∧ want = [] <;> simp [hc]
  | none =>
    simp only
    cases hf : fetch name want with
    | none => simp
    | some id' => by_cases hc : expiry > 0 ∧ want = [] <;> simp [hc]

open Relic.KeyCache in
/-- non-vacuity: after a rotation a request pinning the old id is not served the cached new key -/
example : simulate 1 initSim [.get, .rot, .exp, .get, .pin 1, .pin 2, .get] = ["b1", "r", "e", "b2", "b1", "c2", "c2"] := by
  decide +kernel

end Relic.Props.C15
