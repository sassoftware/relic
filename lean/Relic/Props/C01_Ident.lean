/-
  C01 — "The accepted signature names the certificate … that was configured for the key".
  `signers.Signature.SignerName` prints the LDAP-style string of the certificate the verifier found; the appmanifest
  verifier accepts relic's own output when the identity comparison it makes (publicKeyToken) succeeds.
  Model `Relic.Model.Ident`; tied by the IDENT `sign` ops (real appmanifest signer and verifier) and `dn ldap` ops.
-/
import Relic.Proofs.IdentInj
import Relic.Proofs.IdentSign
namespace Relic.Props.C01
open Relic.Ident

/-- `SignerName` = "`" + LDAP string + "`" -/
def signerName (n : Name) : Bytes := 96 :: (formatParsed .ldap n ++ [96])

/-- **signer_name_names_certificate_partial.**  Distinct subjects (non-empty RDNs, string values) have distinct signer names. -/
theorem signer_name_names_certificate_partial (n n' : Name) (hn : InjClass n) (hn' : InjClass n')
    (h : signerName n = signerName n') : n = n' := by
  have h2 : formatParsed .ldap n = formatParsed .ldap n' := by
    simp only [signerName, List.cons.injEq, true_and] at h
    exact List.append_cancel_right h
  exact formatParsed_injective .ldap (Or.inl rfl) n n' hn hn' h2

example : signerName [[⟨[2, 5, 4, 3], .str (ascii "a")⟩]] = ascii "`CN=a`" := by decide +kernel

/-- **appmanifest_identity_sign_then_verify.**  For every manifest, hash and certificate for which `Issuer()` and
    `Chain()` agree (`IssuerAgrees`: the issuer whose key hash is written is carried, or nothing of that name is): the
    identity comparisons of (the repaired) `appmanifest.Verify` accept what `appmanifest.Sign` wrote, and every RSA key
    crypto/rsa can sign with passes `xmldsig.parseKey`.  (The two XML signatures themselves: XSIG model.) -/
theorem appmanifest_identity_sign_then_verify {α} (sha1 : Bytes → Bytes) (m m' : Manifest α) (c : Loaded)
    (h : signIdent sha1 m c = .ok m') (hc : IssuerAgrees c) :
    verifyIdent sha1 m' c.leaf.key (chainOf c) = .ok () ∧ (rsaUsable c.leaf.key = true → xmlKeyValueOk c.leaf.key = true) :=
  ⟨verifyIdent_signed sha1 m m' c h hc, xmlKeyValueOk_of_rsaUsable c.leaf.key⟩

/-- hypotheses are satisfiable: a one-certificate loader whose leaf is its own issuer -/
example : issuerCert ⟨⟨.ec 256 1 2, [0x30, 0], [0x30, 0]⟩, [⟨[0x30, 0], [0x30, 0], .ec 256 1 2, true⟩]⟩
    = some ⟨[0x30, 0], [0x30, 0], .ec 256 1 2, true⟩ := by decide +kernel

/-- the original looked the token up by local name: a prefixed attribute shadowed the one just written -/
theorem appmanifest_identity_shadowed_token_orig :
    attrValueOrig "publicKeyToken" (createAttr "publicKeyToken" "0123456789abcdef" [⟨"q", "publicKeyToken", "x"⟩]) = "x" ∧
    attrValue "publicKeyToken" (createAttr "publicKeyToken" "0123456789abcdef" [⟨"q", "publicKeyToken", "x"⟩]) = "0123456789abcdef" := by
  decide +kernel

/-- a 31-bit RSA exponent signed but did not verify before the repair (more than 30 bits were refused) -/
theorem appmanifest_exponent_gap_orig : xmlKeyValueOkOrig (.rsa 35 (2 ^ 31 - 1)) = false ∧ xmlKeyValueOk (.rsa 35 (2 ^ 31 - 1)) = true := by
  decide +kernel

end Relic.Props.C01
