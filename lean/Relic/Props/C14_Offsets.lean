/-
  C14 / C09 — the upload transform's goroutine and Apply use the same *os.File.  A consumer may stop reading before the
  stream ends (the XAP digester never reads the directory part of the second tar member; any digester with nothing left
  to read returns while the producer's final read is still to come), after which the caller rewinds the file and copies
  it in Apply.  If the goroutine reads through the file OFFSET, its read can run between Apply's seek and Apply's
  reads: Apply then copies from the wrong position (F28 for dmg / mach-o, F51 for every zip-based type).
  * `positional_noninterference`: in the offset model below, a thread that only performs positional reads never changes
    what the other thread's seek/read sequence observes, for EVERY interleaving.
  * `offset_reader_interferes`: one offset-using read in the other thread and an interleaving exists where Apply reads
    other bytes.
  * `transform_goroutines_positional_generated`: the four producer functions, re-extracted from the Go source on every
    run (tools/extractlocks), only use the shared file positionally.
-/
import Relic.Base.Bytes
import Relic.Model.LockSpan
import Relic.Generated.Locks
namespace Relic.Props.C14
open Relic.LockSpan

namespace Offset

/-- file operations of one descriptor shared by two threads -/
inductive Op
  | seek (n : Nat)            -- absolute seek
  | read (k : Nat)            -- read k bytes at the offset, advance it
  | readAt (off k : Nat)      -- positional read: the offset is not involved
  deriving Repr, DecidableEq

def Op.isPositional : Op → Bool
  | .readAt _ _ => true
  | _ => false

/-- one step: new offset and the bytes returned -/
def step (file : Bytes) (off : Nat) : Op → Nat × Bytes
  | .seek n => (n, [])
  | .read k => (off + k, (file.drop off).take k)
  | .readAt o k => (off, (file.drop o).take k)

/-- what thread `true` (Apply) observes along a schedule of (thread, op) pairs -/
def obs (file : Bytes) : Nat → List (Bool × Op) → List Bytes
  | _, [] => []
  | off, (t, op) :: rest =>
    let (off', data) := step file off op
    if t then data :: obs file off' rest else obs file off' rest

end Offset

open Offset in
theorem positional_noninterference (file : Bytes) (sched : List (Bool × Offset.Op)) (off : Nat)
    (h : ∀ x ∈ sched, x.1 = false → x.2.isPositional = true) :
    obs file off sched = obs file off (sched.filter (·.1)) := by
  induction sched generalizing off with
  | nil => rfl
  | cons x rest ih =>
    obtain ⟨t, op⟩ := x
    have hr : ∀ y ∈ rest, y.1 = false → y.2.isPositional = true := fun y hy => h y (List.mem_cons_of_mem _ hy)
    cases t with
    | true =>
      simp only [obs, List.filter_cons_of_pos]
      simp [ih _ hr]
    | false =>
      have hp := h (false, op) (by simp) rfl
      cases op with
      | readAt o k => simp [obs, step, ih _ hr]
      | seek n => simp [Op.isPositional] at hp
      | read k => simp [Op.isPositional] at hp

open Offset in
/-- Apply seeks to 0 and reads 2 bytes; the producer's offset-using read in between makes it
    read the NEXT two bytes. -/
theorem offset_reader_interferes :
    obs [1, 2, 3, 4] 0 [(true, .seek 0), (false, .read 2), (true, .read 2)] = [[], [3, 4]] ∧
    obs [1, 2, 3, 4] 0 [(true, .seek 0), (true, .read 2)] = [[], [1, 2]] := by decide +kernel

/-- generated obligation: every use the producer functions make of the shared file is positional -/
theorem transform_goroutines_positional_generated :
    positional Generated.Locks.zipToTar = true ∧ positional Generated.Locks.dmgSend = true ∧
    positional Generated.Locks.machoSend = true ∧ positional Generated.Locks.xapWriteTar = true := by decide +kernel

/-- the check discriminates: relic's ZipToTar before it read positionally (Seek to the directory, Seek to 0, the file handed
    to tarAddStream) -/
def zipToTarOrig : FileUse :=
  { name := "ZipToTar"
    methods := [("Seek", "0, io.SeekEnd"), ("Seek", "dirLoc, 0"), ("Seek", "0, 0")]
    passedTo := ["FindDirectory", "tarAddStream", "tarAddStream"]
    escapes := [] }

def sendOrig : FileUse :=
  { name := "send"
    methods := [("Seek", "0, io.SeekEnd"), ("Seek", "0, 0")]
    passedTo := ["io.Copy"]
    escapes := [] }

example : positional zipToTarOrig = false ∧ positional sendOrig = false := by decide +kernel

end Relic.Props.C14
