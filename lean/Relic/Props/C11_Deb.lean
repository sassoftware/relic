/-
  C11 — Malformed input yields an error, never a crash.   DEB part: the panic sites of `signdeb.Sign` / `signdeb.Verify`
  and of the `ar` reader under them, characterised on the model `Relic.Model.Deb`.
-/
import Relic.Proofs.DebSign
namespace Relic.Props.C11
open Relic.Deb

/-- **deb_sign_panic_iff.** `Sign` panics exactly when (a) the first member on which its loop body fails is a digested member
    (cleaned name not `_gpg…`) with a negative size field (`ar.Reader.Read` slices `b[0:nb]`), or (b) no member fails and the walk
    stops at a header whose mode field has fewer than three significant bytes (`ar.Reader.octal` slices `b[3:i+1]`). -/
theorem deb_sign_panic_iff (H1 H2 cs ctl) (mt signer date role f : Bytes) :
    (∃ s, sign H1 H2 cs ctl mt signer date role f = .panic s) ↔
      signFail ctl (entries f).1 = some .read ∨ (signFail ctl (entries f).1 = none ∧ (entries f).2 = .octal) := by
  constructor
  · rintro ⟨s, h⟩
    rcases (sign_crash_iff H1 H2 cs ctl mt signer date role f (.panic s)).mp h with ⟨a, -⟩ | ⟨a, ⟨b, -⟩ | ⟨-, c⟩⟩
    · exact .inl a
    · exact .inr ⟨a, b⟩
    · cases c
  · rintro (a | ⟨a, b⟩)
    · exact ⟨_, (sign_crash_iff H1 H2 cs ctl mt signer date role f (.panic _)).mpr (.inl ⟨a, rfl⟩)⟩
    · exact ⟨_, (sign_crash_iff H1 H2 cs ctl mt signer date role f (.panic _)).mpr (.inr ⟨a, .inl ⟨b, rfl⟩⟩)⟩

/-- **deb_verify_panic_iff.** The walk of `Verify` (digests on) panics exactly when some member has a negative size field
    (every member is read) or the walk stops at a header whose mode field has fewer than three significant bytes.
    (Per-role: `checkSig` panics on a validly signed line of ≥ 76 bytes with fewer than four fields — `checkLines`.) -/
theorem deb_verify_panic_iff (H1 H2 : Bytes → Bytes) (pgp : Bytes → Option Bytes) (f : Bytes) :
    (∃ s, verify H1 H2 pgp f = .panic s) ↔ verifyFail (entries f).1 = true ∨ (entries f).2 = .octal := by
  constructor
  · rintro ⟨s, h⟩
    rcases (verify_crash_iff H1 H2 pgp f (.panic s)).mp h with ⟨a, -⟩ | ⟨-, ⟨b, -⟩ | ⟨-, c⟩⟩
    · exact .inl a
    · exact .inr b
    · cases c
  · intro h
    cases hv : verifyFail (entries f).1 with
    | true => exact ⟨_, (verify_crash_iff H1 H2 pgp f (.panic _)).mpr (.inl ⟨hv, rfl⟩)⟩
    | false => exact ⟨_, (verify_crash_iff H1 H2 pgp f (.panic _)).mpr
        (.inr ⟨hv, .inl ⟨h.resolve_left (by rw [hv]; simp), rfl⟩⟩)⟩

/-- neither function loops: the reader consumes at least 60 bytes per member -/
theorem deb_no_diverge (H1 H2 cs ctl) (pgp : Bytes → Option Bytes) (mt signer date role f : Bytes) :
    sign H1 H2 cs ctl mt signer date role f ≠ .diverge ∧ verify H1 H2 pgp f ≠ .diverge := by
  have hnf : (entries f).2 ≠ .fuel := parse_no_fuel _ _ (by simp [List.length_drop]; omega)
  constructor <;> intro h
  · rcases (sign_crash_iff H1 H2 cs ctl mt signer date role f .diverge).mp h with ⟨-, c⟩ | ⟨-, ⟨-, c⟩ | ⟨b, -⟩⟩
    · cases c
    · cases c
    · exact hnf b
  · rcases (verify_crash_iff H1 H2 pgp f .diverge).mp h with ⟨-, c⟩ | ⟨-, ⟨-, c⟩ | ⟨b, -⟩⟩
    · cases c
    · cases c
    · exact hnf b

/-- `ext := name[11:]` cannot panic: the slice is taken only under `strings.HasPrefix(name, "control.tar")` -/
theorem deb_ctl_ext_in_range (n : Bytes) (h : isCtlName n = true) : 11 ≤ n.length := by
  have := Deb.isPrefix_eq ctlPrefix n h
  rw [this]
  simp [ctlPrefix]

/-- `role := hdr.Name[4:]` in `Verify` cannot panic either -/
theorem deb_role_slice_in_range (n : Bytes) (h : isGpgName n = true) : 4 ≤ n.length := by
  have := Deb.isPrefix_eq gpg n h
  rw [this]
  simp [gpg]

/-- `patchOffset == 0` is used for "no old signature found": a found member never has offset 0 (the reader starts at 8) -/
theorem deb_patch_offset_pos (role : Bytes) (es : List Entry) (off : Nat) (len : Int) (h : sigSlot role 8 es = some (off, len)) :
    8 ≤ off := by
  obtain ⟨_, _, _, _, _, _, h4, _⟩ := sigSlot_some role es 8 off len h
  omega

def hdrShortMode : Bytes :=
  [120, 32, 32, 32, 32, 32, 32, 32, 32, 32, 32, 32, 32, 32, 32, 32, 49, 32, 32, 32, 32, 32, 32, 32, 32, 32, 32, 32, 48, 32, 32, 32, 32, 32,
   48, 32, 32, 32, 32, 32, 54, 52, 32, 32, 32, 32, 32, 32, 48, 32, 32, 32, 32, 32, 32, 32, 32, 32, 96, 10]

def hdrNegSize : Bytes :=
  [120, 32, 32, 32, 32, 32, 32, 32, 32, 32, 32, 32, 32, 32, 32, 32, 49, 32, 32, 32, 32, 32, 32, 32, 32, 32, 32, 32, 48, 32, 32, 32, 32, 32,
   48, 32, 32, 32, 32, 32, 49, 48, 48, 54, 52, 52, 32, 32, 45, 49, 32, 32, 32, 32, 32, 32, 32, 32, 96, 10]

/-- both panic sites are reachable with 68 bytes: mode field "64", size field "-1" (replayed: corpus/C01/deb-panics.ops) -/
theorem deb_panics_reachable :
    verify (fun _ => []) (fun _ => []) (fun _ => none) (List.replicate 8 0 ++ hdrShortMode) = .panic "ar.octal" ∧
    verify (fun _ => []) (fun _ => []) (fun _ => none) (List.replicate 8 0 ++ hdrNegSize) = .panic "ar.Read" ∧
    sign (fun _ => []) (fun _ => []) (fun _ => []) (fun _ _ => true) [] [] [] [] (List.replicate 8 0 ++ hdrNegSize) = .panic "ar.Read" := by
  decide +kernel

end Relic.Props.C11
