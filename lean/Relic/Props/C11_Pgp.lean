/-
  C11 — no panic, no hang.   OpenPGP part: relic's framing code (lib/pgptools inline.go / clearsign.go) has no panic site
  (no indexing beyond `filename[:255]` under its guard, `buf[:n]` with n ≤ 6); its scanner stops with an error at a line
  of 64 KiB or more – which `DetachClearSign` turned into a deadlock before e51bb1f (finding F43); the model is the repaired code.
-/
import Relic.Proofs.PgpClear
namespace Relic.Props.C11
open Relic.Pgp

/-- **pgp_framing_no_panic.** for all inputs the modelled functions return a value or an error class, never a panic -/
theorem pgp_framing_no_panic (i : SigInfo) (sig body filename hashName text : Bytes) (s : String) :
    serializeLiteral body filename ≠ .panic s ∧ mergeSignature i sig body filename ≠ .panic s ∧
    headClearSign text ≠ .panic s ∧ tailClearSign text ≠ .panic s ∧ mergeClearSign hashName text sig ≠ .panic s := by
  have hl : Res.Errs (fun _ => True) (serializeLiteral body filename) := by
    unfold serializeLiteral
    exact Res.Errs.ite trivial trivial
  have hh := headToks_errs (rawTokens (clearSign hashName text fakeArmor))
  refine ⟨hl.ne_panic s, ?_, (headToks_errs _).ne_panic s, (tailToks_errs _ false).ne_panic s, ?_⟩
  · unfold mergeSignature
    split
    · simp
    · exact Res.Errs.cases (serializeLiteral body filename) hl (fun _ => by simp) (fun _ _ => by simp)
  · unfold mergeClearSign headClearSign
    exact Res.Errs.cases (headToks (rawTokens (clearSign hashName text fakeArmor))) hh (fun _ => by simp) (fun _ _ => by simp)

/-- **pgp_scanner_stops_at_long_line.** `tailClearSign`'s scanner gives up (ErrTooLong) at the first line of
    `bufio.MaxScanTokenSize` = 65536 bytes or more, whatever comes before (shorter lines) and after -/
theorem pgp_scanner_stops_at_long_line (c : Bool) (pre : List Bytes) (t : Bytes) (post : List Bytes)
    (hp : ∀ p ∈ pre, p.length < maxTok) (ht : t.length ≥ maxTok) :
    tailToks c (pre ++ t :: post) = .err "toolong" :=
  tailToks_long c pre t post hp ht

example : tailToks false [[1], List.replicate 65536 120] = .err "toolong" :=
  pgp_scanner_stops_at_long_line false [[1]] _ [] (by intro p hp; simp at hp; subst hp; decide)
    (by rw [List.length_replicate]; decide)

theorem tailToks_no_diverge (ts : List Bytes) : ∀ c, tailToks c ts ≠ .diverge :=
  fun c => (tailToks_errs ts c).ne_diverge

/-- **pgp_detach_terminates.** (the code as repaired by e51bb1f, F43) `DetachClearSign` returns for every document: the
    scanner's error is handed back instead of parking both goroutines -/
theorem pgp_detach_terminates (h t a : Bytes) : detachClearSign h t a ≠ .diverge :=
  tailToks_no_diverge _ false

end Relic.Props.C11
