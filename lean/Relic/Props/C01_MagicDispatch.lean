/-
  C01 (fragment): signer dispatch — the module that signs a file is the same whether `relic sign` runs standalone or
  through the server.

  Model: Relic.Model.Magic (`byFile`, `signDispatch` = the first lines of both `signCmd`s, `serverDispatch` = what
  `serveSign` does with the query, `remoteDispatch` = the client's query handed to the server, `verifyDispatch` =
  `verifyOne`).  The tables are re-extracted from the Go source on every run (Relic.Generated.Magic).
-/
import Relic.Proofs.MagicDispatch
import Relic.Proofs.MagicExpected
import Relic.Generated.Magic
namespace Relic.Props.C01
open Relic.Magic

/-- the decision list of `Detect` in the source is the model's (same tests, same order, same verdicts), nothing was left
    unparsed, the constants are declared in the order the model numbers them -/
theorem generated_rules_eq :
    Generated.Magic.rules = rules ∧ Generated.Magic.unknown = [] ∧
    Generated.Magic.detectOther = ["br := bufio.NewReaderSize(r, 0x10000+4)", "return FileTypeUnknown"] ∧
    Generated.Magic.typeNames = ["FileTypeUnknown", "FileTypeRPM", "FileTypeDEB", "FileTypePGP", "FileTypeJAR", "FileTypePKCS7",
      "FileTypePECOFF", "FileTypeMSI", "FileTypeCAB", "FileTypeAppManifest", "FileTypeCAT", "FileTypeAPPX", "FileTypeVSIX",
      "FileTypeXAP", "FileTypeAPK", "FileTypeMachO", "FileTypeMachOFat", "FileTypeIPA", "FileTypeXAR"] ∧
    Generated.Magic.compNames = ["CompressedNone", "CompressedGzip", "CompressedXz"] :=
  -- closed terms on both sides: by `rfl` the kernel compares the string literals as literals, not character by character
  ⟨rfl, rfl, rfl, rfl, rfl⟩

/-- the member names `detectZip` reacts to are the model's -/
theorem generated_zip_eq :
    Generated.Magic.zipMarkers = markers ∧ Generated.Magic.zipFlagNames = [nManifest] ∧
    Generated.Magic.zipIpaSuffixes = ipaSuffixes ∧ Generated.Magic.zipOther = [] :=
  ⟨rfl, rfl, rfl, rfl⟩

/-- the `signers.Signer{…}` literals under signers/ are exactly the rows of the model's table (in some order: the order is
    read back from the running binary by the `table` op, and `dispatch_order_independent` shows it does not matter);
    `psExtMap` has the model's keys -/
theorem generated_signers_eq :
    Generated.Magic.signers.length = registered.length ∧ (∀ s ∈ Generated.Magic.signers, s ∈ registered) ∧
    (Generated.Magic.signers.map (·.name)).Nodup ∧
    Generated.Magic.psExts.length = psExts.length ∧ (∀ e ∈ Generated.Magic.psExts, e ∈ psExts) ∧ Generated.Magic.psExts.Nodup := by
  decide +kernel

/-- the hand-modelled functions still read as they did when the model was written -/
theorem generated_sources_eq :
    Generated.Magic.mzBody = Expected.mzBody ∧ Generated.Magic.helpers = Expected.helpers ∧
    Generated.Magic.lookups = Expected.lookups ∧ Generated.Magic.getSigStyle = Expected.getSigStyle :=
  ⟨rfl, rfl, rfl, rfl⟩

/-- both sign commands pick the module with `signers.ByFile(argFile, argSigType)` and refuse a module without `Sign`; the
    remote client sends `mod.Name` as `sigtype` and the base name as `filename`; the server looks up
    `ByName(query.Get("sigtype"))` and nothing else, and answers "unknown signature type" exactly when that is nil or has
    no `Sign` (the repair of FM5); `verifyOne` uses
    `DetectCompressed`, `ByMagic`, then `ByFileName` -/
theorem generated_frontends_ok :
    Generated.Magic.tokenMod = ["signers.ByFile(argFile, argSigType)"] ∧
    Generated.Magic.remoteMod = ["signers.ByFile(argFile, argSigType)"] ∧
    Generated.Magic.tokenNilTest = true ∧ Generated.Magic.remoteNilTest = true ∧
    Generated.Magic.serverRefuse = ["mod == nil || mod.Sign == nil"] ∧
    Generated.Magic.remoteSigtype = ["mod.Name"] ∧ Generated.Magic.remoteFilename = ["filepath.Base(argFile)"] ∧
    Generated.Magic.serverMod = ["signers.ByName(sigType)"] ∧ Generated.Magic.serverSigType = ["query.Get(\"sigtype\")"] ∧
    Generated.Magic.serverFilename = ["query.Get(\"filename\")"] ∧
    Generated.Magic.verifyMod = ["signers.ByMagic(fileType)", "signers.ByFileName(path)"] ∧
    Generated.Magic.verifyDetect = ["magic.DetectCompressed(f)"] ∧
    Generated.Magic.verifyStreamTest = true ∧ Generated.Magic.verifyCompressedTest = true :=
  ⟨rfl, rfl, rfl, rfl, rfl, rfl, rfl, rfl, rfl, rfl, rfl, rfl, rfl, rfl⟩

/-- For ALL file names, `--sig-type` values, contents and ZIP member lists: when the sign command (standalone or remote
    client — they share the code) resolves to module `m`, the server, handed the client's query (`sigtype = m.Name`, any
    non-empty `filename`), enters `m.Sign`: the same module signs. -/
theorem dispatch_standalone_eq_server (name sigtype bs base : Bytes) (zn : Option (List Bytes)) (m : Signer)
    (hb : base ≠ []) (h : signDispatch name sigtype bs zn = .ok m) : serverDispatch m.name base = .sign m := by
  obtain ⟨hf, hs⟩ := signDispatchIn_ok h
  have hm : m ∈ registered := byFileIn_mem hf
  have hn : byNameIn registered m.name = some m := byName_self m hm
  simp [serverDispatch, serverDispatchIn, hb, hn, hs]

/-- the remote path as a whole: the client's outcome, and behind it the server entering that very module -/
theorem remote_eq_standalone (name sigtype bs base : Bytes) (zn : Option (List Bytes)) (hb : base ≠ []) :
    remoteDispatch name sigtype bs zn base =
      match signDispatch name sigtype bs zn with
      | .error e => .error e
      | .ok m => .ok (.sign m) := by
  unfold remoteDispatch remoteDispatchIn
  cases h : signDispatchIn registered name sigtype bs zn with
  | error e => simp [signDispatch, h]
  | ok m =>
    have := dispatch_standalone_eq_server name sigtype bs base zn m hb h
    simp [signDispatch, h, serverDispatch] at this ⊢
    exact this

example : signDispatch [102] [109, 115, 105, 45, 116, 97, 114] [] none = .ok sMsi ∧
    remoteDispatch [102] [109, 115, 105, 45, 116, 97, 114] [] none [102] = .ok (.sign sMsi) := by decide +kernel

/-- the server never looks at the file name (beyond requiring one), nor at the content: `sigtype` alone decides -/
theorem server_dispatch_ignores_filename (sigtype f1 f2 : Bytes) (h1 : f1 ≠ []) (h2 : f2 ≠ []) :
    serverDispatch sigtype f1 = serverDispatch sigtype f2 := by
  simp [serverDispatch, serverDispatchIn, h1, h2]

/-- The three look-ups do not depend on the order in which the modules registered (Go package initialisation order): no two
    modules share a name or alias, a magic, or accept a common file name.  Hence every dispatch function of the model is
    the same for every permutation of the table. -/
theorem dispatch_order_independent (l : List Signer) (h : l.Perm registered) :
    (∀ n, byNameIn l n = byName n) ∧ (∀ t, byMagicIn l t = byMagic t) ∧ (∀ p, byFileNameIn l p = byFileName p) := by
  refine ⟨?_, ?_, ?_⟩
  · intro n
    unfold byName byNameIn
    symm
    apply find?_perm_unique _ h.symm
    intro a ha b hb pa pb
    by_cases hab : a = b
    · exact hab
    · exact absurd ((answers_iff b n).mp pb) (keys_disjoint a ha b hb hab n ((answers_iff a n).mp pa))
  · intro t
    unfold byMagic byMagicIn
    by_cases ht : t = .unknown
    · simp [ht]
    · simp only [ht, if_false]
      symm
      apply find?_perm_unique _ h.symm
      intro a ha b hb pa pb
      have ea : a.magic = t := by simpa using pa
      have eb : b.magic = t := by simpa using pb
      exact magics_distinct a ha b hb (ea.trans eb.symm) (by rw [ea]; exact ht)
  · intro p
    unfold byFileName byFileNameIn
    symm
    apply find?_perm_unique _ h.symm
    intro a ha b hb pa pb
    cases hta : a.testPath with
    | none => simp [hta] at pa
    | some ta =>
      cases htb : b.testPath with
      | none => simp [htb] at pb
      | some tb =>
        simp only [hta, htb] at pa pb
        exact testPaths_distinct a ha b hb (by simp [hta]) (by simp [htb]) (by rw [hta, htb, pathTest_unique pa pb])

example : registered.reverse.Perm registered := List.reverse_perm _

/-- hence: whatever the registration order, the sign commands, the server and `verify` pick the same modules -/
theorem dispatch_functions_order_independent (l : List Signer) (h : l.Perm registered) (name sigtype bs base : Bytes)
    (zn : Option (List Bytes)) :
    signDispatchIn l name sigtype bs zn = signDispatch name sigtype bs zn ∧
    serverDispatchIn l sigtype base = serverDispatch sigtype base ∧
    verifyDispatchIn l name bs zn = verifyDispatch name bs zn := by
  obtain ⟨h1, h2, h3⟩ := dispatch_order_independent l h
  have e1 : byNameIn l = byNameIn registered := funext h1
  have e2 : byMagicIn l = byMagicIn registered := funext h2
  have e3 : byFileNameIn l = byFileNameIn registered := funext h3
  unfold signDispatch serverDispatch verifyDispatch signDispatchIn serverDispatchIn verifyDispatchIn byFileIn
  rw [e1, e2, e3]
  exact ⟨rfl, rfl, rfl⟩

/-- the statement, for a server dispatch function `srv`: whenever the sign command refuses an explicit `--sig-type`
    ("no signer with that name", "can't sign files of type"), the server answers that `sigtype` with the error response
    "unknown signature type" (or "missing parameter" when no file name was sent) — it neither signs nor panics -/
def ServerRefusesWhatStandaloneRefuses (srv : Bytes → Bytes → SrvOut) : Prop :=
  ∀ (name sigtype bs fn : Bytes) (zn : Option (List Bytes)), sigtype ≠ [] →
    (∃ e, signDispatch name sigtype bs zn = .error e) → srv sigtype fn = .unknownSigtype ∨ srv sigtype fn = .missingParameter

/-- with an explicit type the server and the commands agree completely: same module entered, or refused on both sides -/
theorem server_eq_standalone_for_explicit_sigtype (name sigtype bs fn : Bytes) (zn : Option (List Bytes))
    (hs : sigtype ≠ []) (hf : fn ≠ []) :
    serverDispatch sigtype fn =
      match signDispatch name sigtype bs zn with
      | .ok m => .sign m
      | .error _ => .unknownSigtype := by
  simp only [serverDispatch, serverDispatchIn, signDispatch, signDispatchIn, byFileIn, hs, hf, ne_eq, not_false_eq_true, if_true, if_false]
  cases hb : byNameIn registered sigtype with
  | none => rfl
  | some m =>
    simp only
    cases hsn : m.hasSign <;> simp

/-- Full strength, the code as repaired: for ALL names, types, contents: what the sign command refuses, the server
    refuses with an error response. -/
theorem server_refuses_what_standalone_refuses : ServerRefusesWhatStandaloneRefuses serverDispatch := by
  intro name sigtype bs fn zn hs ⟨e, he⟩
  by_cases hf : fn = []
  · right; simp [serverDispatch, serverDispatchIn, hf]
  · left
    rw [server_eq_standalone_for_explicit_sigtype name sigtype bs fn zn hs hf, he]

/-- the repaired handler never calls a nil `Sign` -/
theorem server_never_panics (sigtype fn : Bytes) (m : Signer) : serverDispatch sigtype fn ≠ .panicNilSign m := by
  unfold serverDispatch
  fun_cases serverDispatchIn registered sigtype fn
  all_goals nofun

example : signDispatch [102] sPkcs7.name [] none = .error (.cantsign sPkcs7.name) ∧
    serverDispatch sPkcs7.name [102] = .unknownSigtype := by decide

/-- The original code (finding FM5): `sigtype=pkcs7` (likewise `mach-o-fat`, `ipa`: modules that only verify) made
    `serveSign` call the nil `mod.Sign`; the commands answer "can't sign files of type: pkcs7". -/
theorem server_nil_sign_panic :
    signDispatch [102] sPkcs7.name [] none = .error (.cantsign sPkcs7.name) ∧
    serverDispatchOrig sPkcs7.name [102] = .panicNilSign sPkcs7 ∧
    serverDispatchOrig sFat.name [102] = .panicNilSign sFat ∧ serverDispatchOrig sIpa.name [102] = .panicNilSign sIpa := by
  decide

theorem server_refuses_what_standalone_refuses_orig_false : ¬ ServerRefusesWhatStandaloneRefuses serverDispatchOrig := by
  intro h
  have := h [102] sPkcs7.name [] [102] none (by decide) ⟨_, server_nil_sign_panic.1⟩
  rw [server_nil_sign_panic.2.1] at this
  rcases this with h | h <;> cases h

/-- the original code panicked on exactly the names of modules without `Sign` -/
theorem server_orig_panics_only_for_verify_only_modules (sigtype fn : Bytes) (m : Signer)
    (h : serverDispatchOrig sigtype fn = .panicNilSign m) : m ∈ [sFat, sIpa, sPkcs7] ∧ m.answers sigtype = true := by
  have key : ∀ s ∈ registered, s.hasSign = false → s ∈ [sFat, sIpa, sPkcs7] := by decide
  unfold serverDispatchOrig at h
  revert h
  fun_cases serverDispatchOrigIn registered sigtype fn
  case case4 x hs =>
    intro h
    cases h
    exact ⟨key m (List.mem_of_find?_eq_some x) (by simpa using hs), List.find?_some (p := fun y : Signer => y.answers sigtype) x⟩
  all_goals nofun

/-- no dispatched module lacks both verifiers (only `cosign` does, and nothing detects as cosign) -/
theorem verify_never_nil (name bs : Bytes) (zn : Option (List Bytes)) (m : Signer) :
    verifyDispatch name bs zn ≠ .panicNil m := by
  have key : ∀ s ∈ registered, (s.magic ≠ .unknown ∨ s.testPath.isSome) → s.hasVerifyStream = true ∨ s.hasVerify = true := by
    decide
  unfold verifyDispatch
  fun_cases verifyDispatchIn registered name bs zn
  case case5 =>
    rename_i x hvs _ hv
    intro e
    cases e
    obtain ⟨hm, hk⟩ := verifyMod_some x
    rcases key m hm (hk.elim (fun h => Or.inl (by rw [h.1]; exact h.2)) (fun h => Or.inr h.2)) with k | k
    · exact hvs k
    · exact hv k
  all_goals nofun

/-- a compressed file never reaches a stream verifier: `Decompress` is only ever called with `CompressedNone` (so the
    `return err` slip after it in `verifyOne` cannot be reached) -/
theorem verify_stream_uncompressed (name bs : Bytes) (zn : Option (List Bytes)) (m : Signer) (c : Compression)
    (h : verifyDispatch name bs zn = .stream m c) : c = .none := by
  have key : ∀ s ∈ registered, s.testPath.isSome → s.hasVerifyStream = false := by decide
  -- a compressed stream is of Unknown type
  have hc : (detectCompressed bs zn).2 ≠ .none → (detectCompressed bs zn).1 = .unknown := by
    fun_cases detectCompressed bs zn
    all_goals simp
  unfold verifyDispatch at h
  revert h
  fun_cases verifyDispatchIn registered name bs zn
  case case2 =>
    rename_i hd _ _ x hvs
    intro e
    cases e
    rw [hd] at hc
    by_cases hcn : c = .none
    · exact hcn
    · obtain ⟨hm, hk⟩ := verifyMod_some x
      rcases hk with ⟨_, hk⟩ | ⟨_, hk⟩
      · exact absurd (hc hcn) hk
      · rw [key m hm hk] at hvs
        cases hvs
  all_goals nofun

/-- for a file that is not gzip/xz and not named `-`: `verify` enters a verifier of module `m` exactly when `sign`
    (without `--sig-type`) resolves to `m` -/
theorem verify_dispatch_eq_sign_dispatch (name bs : Bytes) (zn : Option (List Bytes)) (m : Signer)
    (hn : name ≠ [45]) (hc : (detectCompressed bs zn).2 = .none) :
    byFile name [] bs zn = .ok m ↔ (verifyDispatch name bs zn = .stream m .none ∨ verifyDispatch name bs zn = .file m) := by
  have hnil := verify_never_nil name bs zn
  unfold byFile byFileIn verifyDispatch verifyDispatchIn at *
  simp only [hn, hc, ne_eq, not_true_eq_false, if_false] at *
  cases hbm : byMagicIn registered (detectCompressed bs zn).1 with
  | some x =>
    simp only [hbm] at hnil ⊢
    by_cases hvs : x.hasVerifyStream = true
    · simp [hvs]
    · by_cases hv : x.hasVerify = true
      · simp [hvs, hv]
      · exact absurd (by simp [hvs, hv]) (hnil x)
  | none =>
    simp only [hbm] at hnil ⊢
    cases hfn : byFileNameIn registered name with
    | none => simp
    | some x =>
      simp only [hfn] at hnil ⊢
      by_cases hvs : x.hasVerifyStream = true
      · simp [hvs]
      · by_cases hv : x.hasVerify = true
        · simp [hvs, hv]
        · exact absurd (by simp [hvs, hv]) (hnil x)

example : byFile [97, 46, 112, 115, 49] [] [120] none = .ok sPs ∧ verifyDispatch [97, 46, 112, 115, 49] [120] none = .file sPs := by
  decide

end Relic.Props.C01
