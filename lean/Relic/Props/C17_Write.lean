/-
  C17 (write half) — archives relic WRITES from a readable input are valid, and a standard reader sees in
  them exactly the kept members followed by the added ones.  Model: `Relic.Zip.rewriteWith`
  (Model/ZipWrite.lean: `Read`, per member `GetTotalSize` + `AddFile` or a cut range, `NewFile` per added
  member, `WriteDirectory` — what the harness drives on lib/zipslicer), `rewriteKeep` (no additions) and the
  Mangler-style rewriter of Model/ZipRewrite.lean.

  The proof goes all the way to the independent reader: `Relic.Spec.Zip.parse` of the written bytes is
  computed (end records — both forms —, every central record — raw re-emission and re-synthesis incl. the
  ZIP64 extra —, every local header and descriptor, the ordering clause).

  Exact class: input `Spec.Zip`-valid, `relicReadable`, members contiguous from offset 0 (`contigFrom`).  The code as it
  stands (fix-F7g) REFUSES — error of `GetDirectoryHeader`, nothing written — exactly when a kept member that moves and
  needs the ZIP64 field has an extra block of more than 65507 bytes (`rewrite_refuses_iff`, `keptRoomS`); in every other
  case the statements below hold, so `write_read_roundtrip_readable` is a theorem at full strength.  Before fix-F7g the
  16-bit length was truncated silently and the directory written was unreadable: `extraRoom_necessary_orig`.
-/
import Relic.Props.C17
import Relic.Proofs.ZipMangle
import Relic.Proofs.ZipRewriteFull
namespace Relic.Props.C17
open Relic.Zip

theorem contigFrom_eq (a : SpecZip.Archive) : ∀ (ms : List SpecZip.Member) (pos : Nat), contigFrom a pos ms = contigSpec a pos ms := by
  intro ms
  induction ms with
  | nil => intro _; rfl
  | cons m ms ih =>
    intro pos
    simp only [contigFrom, contigSpec]
    congr 1
    cases m.descWidths with
    | nil => exact ih _
    | cons _ _ =>
      simp only
      cases SpecZip.trueWidth a m with
      | none => rfl
      | some w => exact ih _

/-- the extra-field clause: every member's extra block leaves room for the 28-byte ZIP64 field -/
def extraRoom (a : SpecZip.Archive) : Prop := ∀ sm ∈ a.members, sm.entry.extra.length + 28 < 2 ^ 16

instance (a : SpecZip.Archive) : Decidable (extraRoom a) := by unfold extraRoom; infer_instance

/-- The general statement for the rewrite the harness drives (`rewriteWith`: delete mask,
    added members, `forceZip64`): for every readable, contiguous input, every list
    of well-formed requests (`NewOK`: lengths that fit their fields, stored ⇒ sizes equal, directory entry ⇒ empty)
    and every DOS time/date, if relic produces an output (below 2^64 bytes when something is added) then
    that output is a valid archive and a standard reader sees exactly: the kept members in input order —
    name, method, flags, CRC, sizes, comment and data bytes as in the input, extra field as in the input
    except for the ZIP64 field a ≥ 4 GiB entry gets when it moves (`movedExtra`) — followed by the added
    members as requested (`newViews`).  And the output is again in the class `relicReadable` — so that relic reads it
    back as the specification does (`read_agrees_spec_readable`); that it is again contiguous, the other hypothesis a
    second rewrite needs, is not stated — provided no added member
    carries a descriptor `readDataDesc` will misjudge (`NewReadable`: false exactly for the EMPTY member written with
    a descriptor, F7a — `rewrite_after_empty24_breaks`), the output is at least 42 bytes long (F7c-tiny: deleting
    everything leaves the 22-byte empty archive) and below 2^63 bytes. -/
theorem rewrite_roundtrip (z : Bytes) (a : SpecZip.Archive) (mask : List Bool) (force : Bool) (mt md : Nat)
    (news : List NewMember) (out : Bytes)
    (ha : SpecZip.parse z = some a) (hc : contigFrom a 0 a.members = true) (hr : relicReadable z)
    (hmt : mt < 2 ^ 16) (hmd : md < 2 ^ 16) (hnews : ∀ n ∈ news, NewOK n)
    (hbound : news = [] ∨ out.length < 2 ^ 64)
    (h : rewriteWith z mask force mt md news = .ok out) :
    SpecZip.valid out ∧
    specView out = some (keptViewsS z a mask a.members 0 ++ newViews mt md news (keptLenS a mask a.members)) ∧
    ((∀ n ∈ news, NewReadable n) → 42 ≤ out.length → out.length < 2 ^ 63 → relicReadable out) := by
  have hR := relicReadable_of_parse hr ha
  rw [contigFrom_eq] at hc
  obtain ⟨kms, a', hM, hsm, hA⟩ := rewriteWith_parses hR hc mask force mt md hmt hmd
    news hnews out h hbound
  refine ⟨by unfold SpecZip.valid; rw [hA.parse]; rfl, ?_, ?_⟩
  · obtain ⟨e1, e2⟩ := keptViews_S kms mask _ 0 hM
    rw [hA.view, e1, e2, hsm]
  · intro hnr h42 ho63
    obtain ⟨r1, r2, r3, r4⟩ := hA.readable hnr h42
    exact ⟨a', hA.parse, r1, r2, r3, r4, ho63⟩

/-- (Full strength, code with fix-F7g.)  What `Mangle` + `MakePatch` write from a readable,
    contiguous archive — whatever is deleted, ZIP64 records forced or not — is a valid archive. -/
theorem write_read_roundtrip_readable : ∀ z a mask force out, SpecZip.parse z = some a → contigFrom a 0 a.members = true →
    relicReadable z → rewriteKeep z mask force = .ok out → SpecZip.valid out := by
  intro z a mask force out ha hc hr h
  rw [rewriteKeep_eq] at h
  exact (rewrite_roundtrip z a mask force 0 0 [] out ha hc hr (by omega) (by omega) (fun _ h => by cases h) (Or.inl rfl) h).1

/-- … and it holds exactly the kept members; it is again `relicReadable` unless it is
    the 22-byte empty archive (or beyond 2^63). -/
theorem write_read_roundtrip_readable_views : ∀ z a mask force out, SpecZip.parse z = some a → contigFrom a 0 a.members = true →
    relicReadable z → rewriteKeep z mask force = .ok out →
    specView out = some (keptViewsS z a mask a.members 0) ∧ (42 ≤ out.length → out.length < 2 ^ 63 → relicReadable out) := by
  intro z a mask force out ha hc hr h
  rw [rewriteKeep_eq] at h
  have := rewrite_roundtrip z a mask force 0 0 [] out ha hc hr (by omega) (by omega) (fun _ h => by cases h) (Or.inl rfl) h
  exact ⟨by simpa [newViews] using this.2.1, fun h42 h63 => this.2.2 (fun _ h => by cases h) h42 h63⟩

/-- When does the code with fix-F7g refuse?  For every readable contiguous input and well-formed
    requests the rewrite ends in exactly one of two ways: an output, or the error of `GetDirectoryHeader` — the latter
    iff some kept member that moves and needs the ZIP64 field (a size, or its new offset, ≥ 0xffffffff) has more than
    65507 bytes of extra field (`keptRoomS` false).  The refusal is clean: the result carries no bytes (`MakePatch` /
    `WriteDirectory` return the error before any patch exists). -/
theorem rewrite_refuses_iff (z : Bytes) (a : SpecZip.Archive) (mask : List Bool) (force : Bool) (mt md : Nat) (news : List NewMember)
    (ha : SpecZip.parse z = some a) (hc : contigFrom a 0 a.members = true) (hr : relicReadable z)
    (hnews : ∀ n ∈ news, NewOK n) :
    (rewriteWith z mask force mt md news = .err "extratoolong" ↔ keptRoomS a mask a.members 0 = false) ∧
    ((∃ out, rewriteWith z mask force mt md news = .ok out) ↔ keptRoomS a mask a.members 0 = true) ∧
    (extraRoom a → ∃ out, rewriteWith z mask force mt md news = .ok out) := by
  have hR := relicReadable_of_parse hr ha
  rw [contigFrom_eq] at hc
  obtain ⟨kms0, hM0, hsm0, -, -, heq⟩ := rewriteWith_eq hR hc mask force mt md news
  have hk : headersOK (rewriteFiles z (setMask mask kms0) mt md news) = keptRoomS a mask a.members 0 := by
    unfold rewriteFiles
    rw [headersOK_append, keptRoom_S kms0 mask _ 0 hM0, hsm0, newFiles_ok mt md news _ hnews, Bool.and_true]
  rw [heq, hk]
  cases hkr : keptRoomS a mask a.members 0
  · refine ⟨by simp, by simp, ?_⟩
    intro hx
    have := keptRoomS_of_room a a.members mask 0 hx
    rw [hkr] at this; cases this
  · exact ⟨by simp, by simp, fun _ => ⟨_, rfl⟩⟩

/-- the refusal is clean: no output exists beside the error -/
theorem rewrite_refusal_clean (z : Bytes) (mask : List Bool) (force : Bool) (mt md : Nat) (news : List NewMember) (e : String)
    (h : rewriteWith z mask force mt md news = .err e) : ∀ out, rewriteWith z mask force mt md news ≠ .ok out := by
  intro out h'; rw [h] at h'; cases h'

/-- Below 4 GiB (every kept size and the whole output) nothing is re-synthesised with a
    ZIP64 extra: the standard reader sees the input's views of the kept members, unchanged, then the requested
    members (`newView`). -/
theorem rewrite_roundtrip_small (z : Bytes) (a : SpecZip.Archive) (mask : List Bool) (force : Bool) (mt md : Nat)
    (news : List NewMember) (out : Bytes) (vin : List View)
    (hv : specView z = some vin) (ha : SpecZip.parse z = some a) (hc : contigFrom a 0 a.members = true)
    (hr : relicReadable z) (hmt : mt < 2 ^ 16) (hmd : md < 2 ^ 16) (hnews : ∀ n ∈ news, NewOK n)
    (hsmall : ∀ sm ∈ a.members, sm.entry.csize < u32Max ∧ sm.entry.usize < u32Max)
    (hnsmall : ∀ n ∈ news, n.compd.length < u32Max ∧ n.usize < u32Max) (hout : out.length < u32Max)
    (h : rewriteWith z mask force mt md news = .ok out) :
    ∃ kept, specView out = some (kept ++ news.map newView) ∧ kept.Sublist vin ∧
      kept = keptViewsS z a mask a.members 0 := by
  have hR := relicReadable_of_parse hr ha
  rw [contigFrom_eq] at hc
  obtain ⟨kms, a', hM, hsm, hA⟩ := rewriteWith_parses hR hc mask force
    mt md hmt hmd news hnews out h (Or.inr (by simp only [u32Max] at hout; omega))
  have hp' := hA.parse
  have hview := hA.view
  have hcd := hA.cdOff
  obtain ⟨e1, e2⟩ := keptViews_S kms mask _ 0 hM
  have hcdlt : a'.ends.cdOff < u32Max := by
    have := parse_dir_le hp'
    omega
  have hmemk : ∀ q ∈ setMask mask kms, q.1 = true → q.2.1.entry.csize < u32Max ∧ q.2.1.entry.usize < u32Max := by
    intro q hq _
    apply hsmall
    rw [← hsm, ← setMask_members kms mask]
    exact List.mem_map.mpr ⟨q, hq, rfl⟩
  have hks := keptViews_small z (setMask mask kms) 0 hmemk (by omega)
  have hns := newViews_small mt md news (keptLenK (setMask mask kms)) hnsmall (by omega)
  refine ⟨keptViews z (setMask mask kms) 0, by rw [hview, hns], ?_, e1.trans (by rw [hsm])⟩
  rw [hks, specView_eq ha] at *
  cases hv
  rw [← hsm, ← setMask_members kms mask, List.map_map]
  have : (fun q : KM => viewOf z q.2.1) = (viewOf z ∘ fun x => x.2.1) := rfl
  rw [this, ← List.map_map, ← List.map_map]
  exact (List.filter_sublist).map _ |>.map _

/-- `Mangle` (with the layout check) + `Mangler.NewFile` + `MakePatch` — the way VSIX
    and AppX signing rewrite — on a readable archive: if it produces an output
    (below 2^64 bytes), the input was contiguous in relic's measure, the output is a valid archive, and a
    standard reader sees the kept members (views as in the input up to `movedExtra`) followed by the added
    ones.  `kms` pairs every member of the input, as the specification sees it, with relic's measurement. -/
theorem write_read_roundtrip_own_output (z : Bytes) (a : SpecZip.Archive) (mt md : Nat) (news : List NewMember) (force : Bool)
    (out : Bytes) (ha : SpecZip.parse z = some a) (hr : relicReadable z)
    (hmt : mt < 2 ^ 16) (hmd : md < 2 ^ 16) (hnews : ∀ n ∈ news, NewOK n) (hbound : out.length < 2 ^ 64)
    (h : manglerRewrite z news mt md force = .ok out) :
    ∃ kms, MeasuredL z a a.ends.cdOff kms ∧ kms.map (·.2.1) = a.members ∧ contigK 0 kms a.ends.cdOff ∧
      SpecZip.valid out ∧
      specView out = some (keptViews z (setKeep vsixKeep kms) 0 ++ newViews mt md news (keptLenK (setKeep vsixKeep kms))) ∧
      ((∀ n ∈ news, NewReadable n) → 42 ≤ out.length → out.length < 2 ^ 63 → relicReadable out ∧ ReadsAsSpec out) := by
  have hR := relicReadable_of_parse hr ha
  obtain ⟨kms, a', hM, hsm, hck, hA⟩ := manglerRewrite_parses hR mt md hmt hmd
    news hnews force out h hbound
  have hv : SpecZip.valid out := by unfold SpecZip.valid; rw [hA.parse]; rfl
  refine ⟨kms, hM, hsm, hck, hv, hA.view, ?_⟩
  intro hnr h42 ho63
  obtain ⟨r1, r2, r3, r4⟩ := hA.readable hnr h42
  have hrd : relicReadable out := ⟨a', hA.parse, r1, r2, r3, r4, ho63⟩
  exact ⟨hrd, read_agrees_spec_readable out hv hrd⟩

/-- (F7g, the code BEFORE fix-F7g = the unguarded synthesis `getDirectoryHeader`.)  Without the
    guard the extra-field clause could not be dropped: when `GetDirectoryHeader` synthesises a ZIP64 record
    (`synthBig`) and the extra block with the prepended ZIP64 field reaches 65536 bytes, the 16-bit length it writes
    is short of the bytes it emits, and NO central record at all is decoded from what it wrote that fills it — a
    reader loses the directory behind this record.  (Replayed on the real code: `C17 wdx 65508 5 4294967296 9`.) -/
theorem extraRoom_necessary_orig (f : File) (hraw : f.raw = []) (hover : 2 ^ 16 ≤ (synthExtra f).length) : ∀ en, ¬ Emits f en := by
  intro en ⟨he, hl⟩
  rw [getDirectoryHeader_synth f hraw] at he hl
  generalize (if synthBig f then 45 else f.reader) = rv at he hl
  generalize (if synthBig f then u32Max else f.csize) = cs at he hl
  generalize (if synthBig f then u32Max else f.usize) = us at he hl
  generalize (if synthBig f then u32Max else f.offset) = off at he hl
  have hlen : (encFields (cdhFields f rv cs us off f.name.length (synthExtra f).length f.comment.length) ++
      (f.name ++ (synthExtra f ++ f.comment))).length = 46 + f.name.length + (synthExtra f).length + f.comment.length := by
    simp only [List.length_append, cdh_length]; omega
  have F := fld_cdh f rv cs us off f.name.length (synthExtra f).length f.comment.length (f.name ++ (synthExtra f ++ f.comment))
  simp only at F
  obtain ⟨-, -, -, -, -, -, -, -, -, -, F28, F30, F32, -⟩ := F
  obtain ⟨-, -, -, -, r, -, hen⟩ := entryAt_some he
  have : en.len = 46 + f.name.length % 2 ^ 16 + (synthExtra f).length % 2 ^ 16 + f.comment.length % 2 ^ 16 := by
    rw [hen]
    simp only [specEntry, List.drop_zero, F28, F30, F32]
  rw [hlen, this] at hl
  have h1 := Nat.mod_le f.name.length (2 ^ 16)
  have h2 := Nat.mod_le f.comment.length (2 ^ 16)
  omega

def bigExtra : Bytes := List.replicate 65508 0x41
theorem bigExtra_length : bigExtra.length = 65508 := List.length_replicate

/-- a 4 GiB member with an extra block of 65508 bytes -/
def fBig : File :=
  { creator := 45, reader := 20, flags := 0, method := 0, mtime := 0, mdate := 0, crc := 0, csize := 5, usize := 2 ^ 32, name := [97],
    extra := bigExtra, comment := [], iattrs := 0, eattrs := 0, offset := 9, raw := [] }

/-- The code as it stands refuses exactly those entries (and synthesises every other one as before). -/
theorem dirHeader_refuses_iff (f : File) :
    (getDirectoryHeaderFx f = .err "extratoolong" ↔ (f.raw = [] ∧ synthBig f ∧ 2 ^ 16 ≤ (synthExtra f).length)) ∧
    (getDirectoryHeaderFx f ≠ .err "extratoolong" → getDirectoryHeaderFx f = .ok (getDirectoryHeader f)) := by
  unfold getDirectoryHeaderFx
  have key : dirHeaderOK f = false ↔ (f.raw = [] ∧ synthBig f ∧ 2 ^ 16 ≤ (synthExtra f).length) := by
    unfold dirHeaderOK synthBig synthExtra
    by_cases hr : f.raw = []
    · by_cases hb : f.csize ≥ u32Max ∨ f.usize ≥ u32Max ∨ f.offset ≥ u32Max
      · have hb' : synthBig f := hb
        simp only [hr, hb, decide_true, Bool.not_true, Bool.false_or, beq_self_eq_true, decide_eq_false_iff_not, true_and]
        rw [if_pos hb']
        simp only [List.length_append, z64Extra_length]
        omega
      · simp [hr, hb, synthBig]
    · simp [hr]
  cases h : dirHeaderOK f
  · simp only [Bool.false_eq_true, if_false, true_iff, ne_eq, not_true_eq_false, false_implies, and_true]
    exact key.mp h
  · simp only [if_true]
    refine ⟨⟨fun c => (by cases c), fun c => ?_⟩, fun _ => trivial⟩
    rw [key.mpr c] at h; cases h

example : fBig.raw = [] ∧ synthBig fBig ∧ 2 ^ 16 ≤ (synthExtra fBig).length := by
  have hb : synthBig fBig := Or.inr (Or.inl (by show (2 : Nat) ^ 32 ≥ u32Max; decide))
  refine ⟨rfl, hb, ?_⟩
  have : synthExtra fBig = z64Extra fBig.usize fBig.csize fBig.offset ++ fBig.extra := by
    unfold synthExtra; rw [if_pos hb]
  have hx : fBig.extra = bigExtra := rfl
  rw [this, List.length_append, z64Extra_length, hx, bigExtra_length]
  decide +kernel

/-- the exclusion `NewReadable` is exactly F7a: a member written with a descriptor passes iff it is not empty (sizes
    below 4 GiB) -/
theorem newReadable_iff (n : NewMember) (hu : n.useDesc = true) (hc : n.compd.length < 2 ^ 32) (hs : n.usize < 2 ^ 32 - 1) :
    NewReadable n ↔ n.usize ≠ 0 := by
  unfold NewReadable
  have h0 : n.compd.length / 2 ^ 32 = 0 := Nat.div_eq_of_lt hc
  constructor
  · intro h
    rcases h hu with h | h
    · omega
    · rw [h0] at h; omega
  · intro h _
    right; rw [h0]; omega

set_option maxRecDepth 1000000

example : someAnd (SpecZip.parse zOne24) (fun a => contigFrom a 0 a.members && decide (extraRoom a)) = true := by
  decide +kernel

/-- an added member `c` = "y" (stored, 24-byte descriptor as `Mangler.NewFile` writes it) -/
def nC : NewMember := ⟨[99], [], [121], 1, 0xfbdbd73d, false, true⟩

example : NewOK nC := ⟨by decide, by decide, by decide, by decide, by decide, by decide, by decide, by decide⟩
example : NewReadable nC := by intro _; right; decide

example : okAnd (rewriteWith zOne24 [true] true 100 200 [nC]) (fun out => decide (SpecZip.valid out) &&
    decide ((specView out).map (fun v => v.map (·.name)) = some [[98], [99]]) &&
    decide (specView out = (SpecZip.parse zOne24).map fun a =>
      keptViewsS zOne24 a [true] a.members 0 ++ newViews 100 200 [nC] (keptLenS a [true] a.members))) = true := by decide +kernel

end Relic.Props.C17
