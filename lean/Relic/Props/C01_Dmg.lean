/-
  C01 — Every signature relic produces verifies.   Apple disk image (UDIF) part (model `Relic.Model.Dmg`).
  `dmg.Sign` hashes `image[0 : XMLOffset+XMLLength]` into the single code slot and the trailer (signature offset set,
  signature length and the blank ranges zero) into special slot −6; the patch replaces everything from that offset to
  the end of the file by `signature ++ rewritten trailer`.  The verifier reads the trailer from the end, takes the
  blob named by SignatureOffset/Length, re-serialises the trailer with a zero length and hashes the same prefix.
  The theorems below show these are the same bytes for every image, every blob and every hash function; the
  superblob / code-directory layer is `Relic.Model.CodeDir` (C05.codedir_serialisation_eq_spec).
  `plan` / `sign` are the current tree (with the layout guards of fix-sign), `planOrig` the planning step of the tree before it
  (the model also has `signOrig`; the theorems about that tree are stated on `planOrig`).
-/
import Relic.Proofs.Dmg
import Relic.Proofs.Binpatch
import Relic.Props.C12
namespace Relic.Props.C01
open Relic.Dmg Relic.CodeDir Relic.Binpatch

/-- **dmg_written_is_reference.** Whenever the signature offset lies inside the input (`0 ≤ bundle ≤ len`), the
    production path (Add → Dump/Load → Apply, in place or by rewrite) yields `image[0:bundle] ++ blob ++ trailer'`. -/
theorem dmg_written_is_reference (f : Bytes) (pl : Plan) (blob : Bytes) (canOverwrite : Bool)
    (h0 : 0 ≤ pl.bundle) (h1 : pl.bundle.toNat ≤ f.length) :
    ∃ strategy, signedFile f pl blob canOverwrite = .ok (written f pl blob, strategy) := by
  have hc : C12.Constructible f.length [⟨pl.bundle.toNat, f.length - pl.bundle.toNat, blob ++ (pl.newKoly blob.length).enc⟩] := by
    simp [C12.Constructible, wfFrom]; omega
  obtain ⟨st, hst⟩ := C12.apply_exact uint32Max f _ hc canOverwrite
  refine ⟨st, ?_⟩
  have hn : ¬ pl.bundle < 0 := by omega
  simp only [signedFile, Plan.patchSet, hn, h1, ↓reduceIte]
  rw [sortByOff_id f.length 0 _ (wf_build uint32Max f.length _ hc), hst]
  have : pl.bundle.toNat + (f.length - pl.bundle.toNat) = f.length := by omega
  simp [sem, splice, written, this]

/-- **dmg_sign_then_verify** (container layer, every image, every blob).  Let the repaired `dmg.Sign` accept trailer `t`
    for image `f` and let the plist end in front of the last 512 bytes (`fits`, the test behind `csblob.Sign`).  For
    every non-empty blob of at most 10^7 bytes the written image is opened by `dmg.Open` with exactly that blob as
    signature, and `Verify` is `csblob.Verify` + `VerifyPages` run on: the blob, the signer's rep-specific bytes, the
    signer's page stream.  With the code slot `H(stream)` and special slot −6 `H(rep)` that `csblob.Sign` wrote
    (`dmg_signed_slots`), both comparisons succeed for every `H` (`dmg_verify_single_slot`, `dmg_verify_rep_slot`).
    (The magic and the sign of the bundle size are not hypotheses: the guards provide them.) -/
theorem dmg_sign_then_verify (t f : Bytes) (pl : Plan) (blob : Bytes) (skip : Bool) (h : plan t f = .ok pl)
    (hfit : pl.fits f.length = true) (hne : blob ≠ []) (hmax : blob.length ≤ maxSig) :
    openFile (written f pl blob) = .ok ⟨pl.newKoly blob.length, pl.bundle.toNat + blob.length, blob, blob.length⟩ ∧
    verify (written f pl blob) skip = verifyBlob blob pl.rep pl.stream skip ∧
    (pl.stream.length : Int) = pl.bundle := by
  obtain ⟨ho, _, _⟩ := plan_ok t f pl h
  obtain ⟨h0, h1⟩ := plan_fits t f pl h hfit
  obtain ⟨a, b⟩ := verify_written t f pl blob skip ho (plan_safe t f pl h).1.magic h0 (by omega) hne hmax
  refine ⟨a, b, ?_⟩
  rw [planOrig_stream t f pl ho, List.length_take]
  omega

/-- the same for the tree before fix-sign, where magic and range had to be assumed -/
theorem dmg_sign_then_verify_orig (t f : Bytes) (pl : Plan) (blob : Bytes) (skip : Bool) (h : planOrig t f = .ok pl)
    (hm : pl.koly.magic = kolyMagic) (h0 : 0 ≤ pl.bundle) (h1 : pl.bundle.toNat ≤ f.length)
    (hne : blob ≠ []) (hmax : blob.length ≤ maxSig) :
    openFile (written f pl blob) = .ok ⟨pl.newKoly blob.length, pl.bundle.toNat + blob.length, blob, blob.length⟩ ∧
    verify (written f pl blob) skip = verifyBlob blob pl.rep pl.stream skip :=
  verify_written t f pl blob skip h hm h0 h1 hne hmax

/-- **dmg_signed_slots.** What `csblob.Sign` puts into the code directory of a disk image: one code slot over the whole
    page stream, `codeLimit` = its length, page size 0, and the rep-specific bytes in special slot −6 (whether or not
    a DER entitlement slot −7 precedes it). -/
theorem dmg_signed_slots (p : SignParams) (rep stream : Bytes) (s : Signed) (hrep : p.repSpecific = some rep)
    (e : signBlob p stream = .ok s) :
    s.pages = ⟨[.hash stream], 1, stream.length⟩ ∧
    ∃ cdp : Params, newCodeDirectory cdp = .ok s.cd ∧ cdp.codeSlots = [.hash stream] ∧ cdp.codeSlotCount = 1 ∧
      cdp.codeLimit = stream.length ∧ cdp.single = true ∧ cdp.hash = p.hash ∧
      cdp.specials[cdp.specials.length - 6]? = some (some rep) := by
  unfold signBlob at e
  simp only [hrep, Option.isSome_some] at e
  split at e
  · cases e
  · cases e
  · cases e
  · rename_i req _
    split at e
    · rename_i cd hcd
      simp only [Res.ok.injEq] at e
      subst e
      refine ⟨rfl, _, hcd, rfl, rfl, rfl, rfl, rfl, ?_⟩
      cases hd : p.entitlementDER <;> simp [trimSpecials]
    · cases e
    · cases e
    · cases e

/-- **dmg_verify_single_slot.** `VerifyPages` on a single-slot directory: exactly one comparison, the whole section
    against the slot, provided the section has the signed length. -/
theorem dmg_verify_single_slot (d : Dir) (page c : Bytes) (hps : d.hdr.pageShift = 0) (hc : d.code = [c])
    (hl : codeSize d.hdr = page.length) : verifyPagesOn d page = ⟨[⟨page, c⟩], .ok ()⟩ := by
  rw [verifyPagesOn_single d page c hps hc, if_pos hl]

/-- **dmg_verify_rep_slot.** A directory with a non-zero special slot −6 makes `csblob.Verify` compare the hash of the
    re-serialised trailer with that slot. -/
theorem dmg_verify_rep_slot (d : Dir) (entDER ent req : Option Bytes) (rep s6 : Bytes) (h : d.special[5]? = some s6)
    (hnz : s6.all (· = 0) = false) : ⟨d.hdr.hashType, rep, s6⟩ ∈ specialChecks d entDER ent req rep := by
  simp [specialChecks, h, hnz]

/-- a wrong section length is refused before any comparison -/
theorem dmg_verify_wrong_length (d : Dir) (page c : Bytes) (hps : d.hdr.pageShift = 0) (hc : d.code = [c])
    (hl : codeSize d.hdr ≠ page.length) : verifyPagesOn d page = ⟨[], .err "size"⟩ := by
  rw [verifyPagesOn_single d page c hps hc, if_neg hl]

/-- the end-to-end statement through the superblob: for every hash function `H` with values of the advertised size and
    every CMS blob, the verifier's plan on the written image consists of comparisons that all succeed.
    Proved as `dmg_sign_then_verify_end_to_end` in Props/C01_DmgFull.lean (its head lists the layers); the container-layer link is
    `dmg_sign_then_verify` above; also executed on every `sign` / `realsign` op with real keys. -/
def dmg_sign_then_verify_full : Prop :=
  ∀ (H : Bytes → Bytes) (t f : Bytes) (p : SignParams) (so : SignOut) (cms : Bytes),
    (∀ x, (H x).length = hashSizeOf p.hash) → 8 < cms.length →
    Dmg.sign t f p = .ok so →
    let blob := render H (hashSizeOf p.hash) (superblob (hashSizeOf p.hash) so.signed cms)
    blob.length ≤ maxSig →
    ∃ vp, verify (written f so.plan blob) false = .ok vp ∧ vp.final = .ok () ∧ ∀ c ∈ vp.checks, H c.stream = c.expected

/-- **dmg_sign_ignores_magic** (part of finding F-DMG-1; about the tree BEFORE fix-sign).  `dmg.Sign` never tested the koly
    magic: any 512 bytes whose SignatureOffset field is zero were accepted as a trailer, and what was written cannot be
    opened by relic's own `dmg.Open` unless the magic happens to be there.  (Repaired: `dmg_sign_tests_magic`.) -/
theorem dmg_sign_ignores_magic (t f : Bytes) (h : 512 ≤ t.length) (hso : (decode t).sigOffset = 0) :
    ∃ pl, planOrig t f = .ok pl ∧ pl.koly = decode t ∧
      ((decode t).magic ≠ kolyMagic → 0 ≤ pl.bundle → pl.bundle.toNat ≤ f.length →
        ∀ blob, openFile (written f pl blob) = .err "magic") := by
  refine ⟨planOf t f, by rw [planOrig_eq t f h, if_neg (fun c => c.1 hso)], rfl, ?_⟩
  intro hm _ _ blob
  have wf := decode_wf t h
  exact openFile_magic (f.take (decode t).bundle.toNat ++ blob) _ wf.head wf.tail wf.magic hm

/-- **dmg_sign_tests_magic** (repaired code): a trailer without the koly magic is refused, whatever else it says. -/
theorem dmg_sign_tests_magic (t f : Bytes) (h : 512 ≤ t.length) (hm : (decode t).magic ≠ kolyMagic) : plan t f = .err "magic" := by
  rw [plan_eq t f h, guards, if_pos hm]; rfl

set_option maxRecDepth 100000 in
example : ∃ st, signedFile sampleImage samplePlan [9, 9] true = .ok (written sampleImage samplePlan [9, 9], st) :=
  dmg_written_is_reference _ _ _ _ (by decide +kernel) (by decide +kernel)

set_option maxRecDepth 100000 in
example : written sampleImage samplePlan [9, 9] = [1, 2, 3, 4, 5, 6, 7, 8, 9, 9] ++ (sampleKoly 3 5 8 2).enc := by decide +kernel

set_option maxRecDepth 100000 in
example : verify (written sampleImage samplePlan [9, 9]) false = verifyBlob [9, 9] samplePlan.rep samplePlan.stream false :=
  (dmg_sign_then_verify _ _ _ [9, 9] false samplePlan_ok_fixed (by decide +kernel) (by decide +kernel) (by decide +kernel)).2.1

-- SHA-512 has no code-directory hash type: refused
set_option maxRecDepth 100000 in
example : Dmg.sign (sampleKoly 3 5 0 0).enc sampleImage
    { hash := 7, flags := 0, ident := [97], team := [], execBase := 0, execLimit := 0, execFlags := 0, requirements := none,
      entitlement := none, entitlementDER := none, infoPlist := none, resources := none, repSpecific := none } = .err "hashtype" := by
  decide +kernel

end Relic.Props.C01
