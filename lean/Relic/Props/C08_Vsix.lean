/-
  C08 — Re-signing replaces the signature; digests ignore existing signatures.   VSIX / OPC part:
  `keepFile` refuses every part a previous signing wrote, so signing relic's own output keeps exactly the payload the first
  signing kept, digests exactly what signing the original package digests, and ends with one signature part, one
  origin part, one set of relationship parts — whatever key, hash or `--detach-certs` setting either round used.
  (On the real tree the second signing is first stopped by the ZIP reader: listed finding F7a; the ops re-sign through
  a plain archive/zip rewrite of the first result.)
-/
import Relic.Proofs.VsixSign
import Relic.Proofs.VsixDemo
namespace Relic.Props.C08
open Relic.Xml Relic.Vsix

theorem keptOf_idem (pkg : Pkg) : keptOf (keptOf pkg) = keptOf pkg := by
  simp [keptOf, List.filter_filter]

theorem keptOf_append (a b : Pkg) : keptOf (a ++ b) = keptOf a ++ keptOf b := by
  simp [keptOf]

theorem keptOf_news {c : Cfg} (F : CfgFacts c) (E : Env) (obj : Node) (ct : CT) : keptOf (newsOf E c obj ct) = [] :=
  keptOf_newsOf F E obj ct

/-- what a signing digests depends on the kept parts only -/
theorem refs_of_kept {fx : Bool} {E : Env} {c : Cfg} {pkg : Pkg} {s : Vsix.Signed} (hs : Vsix.sign fx E c pkg = .ok s) :
    s.kept = keptOf pkg ∧
    s.refs.map (fun r => (r.name, r.stream)) =
      sortMap (addDigests ((keptOf pkg).foldl (fun d p => mset d p.name p.data) []) (fixedNews E c)) :=
  ⟨(sign_shape hs).1, (sign_shape hs).2.2.2⟩

/-- **vsix_resign_replaces** (before and after the repairs).  `s1` = a signing of `pkg`, `s2` = a signing (any configuration)
    of `s1`'s output.  Then
    * `s2` keeps exactly the parts the first signing kept = the `keepFile` parts of `pkg`;
    * `s2`'s output is those parts followed by the second signer's own parts (`newNames c2`): nothing the first signing wrote
      survives, and exactly one part carries the signature part's name;
    * the Manifest of `s2` lists the same (part, bytes) pairs as a signing of the original package with `c2` would. -/
theorem vsix_resign_replaces (fx : Bool) (E : Env) (c1 c2 : Cfg) (pkg : Pkg) (s1 s2 : Vsix.Signed)
    (h1 : Vsix.sign fx E c1 pkg = .ok s1) (hc1 : cfgOk c1 = true) (h2 : Vsix.sign fx E c2 s1.parts = .ok s2) (hc2 : cfgOk c2 = true) :
    s2.kept = s1.kept ∧ s2.kept = pkg.filter (fun p => keepFile p.name) ∧
    s2.parts = s2.kept ++ newsOf E c2 s2.obj s2.ctOut ∧
    s2.parts.filter (fun p => p.name = sigName c2) = [⟨sigName c2, E.xsign c2.hash c2.detach s2.obj⟩] ∧
    (∀ s0, Vsix.sign fx E c2 pkg = .ok s0 →
      s2.kept = s0.kept ∧ s2.refs.map (fun r => (r.name, r.stream)) = s0.refs.map (fun r => (r.name, r.stream))) := by
  have F2 := cfgFacts_of_cfgOk hc2
  obtain ⟨hk1, hparts1, -, -⟩ := sign_shape h1
  obtain ⟨hk2, hparts2, -, hrefs2⟩ := sign_shape h2
  -- the first signer's own parts are not kept a second time
  have hkk : keptOf s1.parts = keptOf pkg := hparts1 ▸ keptOf_signed (cfgFacts_of_cfgOk hc1) E pkg _ _
  rw [digested_congr E c2 hkk] at hrefs2
  rw [hkk] at hk2 hparts2
  refine ⟨hk2.trans hk1.symm, hk2, by rw [hparts2, hk2], ?_, ?_⟩
  · have hin : (⟨sigName c2, E.xsign c2.hash c2.detach s2.obj⟩ : Part) ∈ newsOf E c2 s2.obj s2.ctOut :=
      mem_newsOf.mpr (.inr (.inr (.inl rfl)))
    rw [hparts2, List.filter_append, filter_name_of_nodup (by rw [newsOf_names]; exact F2.nodup) hin,
      List.filter_eq_nil_iff.mpr, List.nil_append]
    intro p hp hpn
    have hkeep := keptOf_keep hp
    have hsig := F2.notKept_news hin
    rw [of_decide_eq_true hpn] at hkeep
    exact Bool.noConfusion (hkeep.symm.trans hsig)
  · intro s0 h0
    obtain ⟨hk0, -, -, hrefs0⟩ := sign_shape h0
    exact ⟨hk2.trans hk0.symm, hrefs2.trans hrefs0.symm⟩

/-- the second signing cannot fail when the first succeeded and `[Content_Types].xml` reads back as written.  Proved in
    `Relic.Props.C08_VsixTotal` (`vsix_resign_total : vsix_resign_total_full`; lemmas in `Relic.Proofs.VsixResign`: the
    `Marshal`/`Parse` round trip of the content type tables through the sorted lists, and the independence of the repair
    check `uriPath (Ref.uri r) = r.name` from the content type).  Every `resign` op also executes it on the real code and
    on the model. -/
def vsix_resign_total_full : Prop :=
  ∀ (E : Env) (c1 c2 : Cfg) (pkg : Pkg) (s1 : Vsix.Signed), Vsix.sign true E c1 pkg = .ok s1 → cfgOk c1 = true →
    (∀ a b, E.parseCT (E.marshalCT a b) = some (a, b)) → ∃ s2, Vsix.sign true E c2 s1.parts = .ok s2

/-- the hypotheses are satisfiable: the demo package signed with embedded certificates, then again with detached ones:
    one signature part, `a.txt` still the only payload part, four references as before -/
example : ∃ s2, Vsix.sign true (demoE (demoCfg true) demoPkg) (demoCfg true) (demoSigned true (demoCfg false) demoPkg).parts = .ok s2 ∧
    s2.kept = (demoSigned true (demoCfg false) demoPkg).kept ∧ s2.parts.length = 8 ∧ s2.refs.length = 4 := by
  exact ⟨_, Res.eq_ok_of_isOk noSigned _ (by decide +kernel), by decide +kernel⟩

end Relic.Props.C08
