/-
  C01 — Every signature relic produces verifies.   DEB part, the full statement: archive layer (`deb_sign_then_verify`,
  C01_Deb.lean) + text layer (`checkSig_canonText_message`, Proofs/DebText.lean).
-/
import Relic.Props.C01_Deb
import Relic.Proofs.DebText
namespace Relic.Props.C01
open Relic.Deb

/-- **deb_sign_then_verify_text** (= `deb_sign_then_verify_full`).  With a PGP layer that accepts the document it produced
    and hands back the canonical text (`clearsign`: trailing white space of every line dropped, lines joined by CRLF), hex
    digests of the right widths, member names that survive the text form (`plainName`; that they are non-empty follows from
    the `ar` reader) and are pairwise distinct, and a role that is read back as written: after `Sign` + patch application
    `Verify`'s outcome for the role is success. -/
theorem deb_sign_then_verify_text : deb_sign_then_verify_full := by
  intro H1 H2 cs ctl pgp mt signer date role f o es h8 he ht hpn hdn hrr hH hsd hpgp hs hrb
  have hp : ∀ x ∈ es, isGpgName x.name = isGpgName (pathClean x.name) :=
    fun x hx => (plainName_spec x.name (hpn x hx)).2.2.2
  obtain ⟨hc, hrole⟩ := roleRegular_spec role hrr
  have main := (deb_sign_then_verify H1 H2 cs ctl pgp mt signer date role f o es h8 he ht hp hdn hc hs hrb).2.2.2.2
  rw [main, hpgp]
  simp only
  apply checkSig_canonText_message H1 H2 signer date role (linesOf es)
  · intro l _
    obtain ⟨a, b, c⟩ := hH l.body
    exact ⟨a, b, fun x hx => ⟨(c x hx).1, (c x hx).2.2.1⟩⟩
  · exact hsd
  · exact hrole
  · intro l hl
    obtain ⟨e, hee, rfl⟩ := linesOf_mem es l hl
    obtain ⟨a, b, c, _⟩ := plainName_spec e.name (hpn e hee)
    have hne : e.name ≠ [] := parse_names_ne _ _ es .eof he e hee
    refine ⟨hne, fun x hx => (a x hx).1, b, c, ?_⟩
    intro h13
    exact (a 13 (List.mem_of_getLast? h13)).2 rfl
  · rw [linesOf_names es hp]
    apply pairwise_of_eraseDups
    simpa [distinctNames] using hdn

set_option maxRecDepth 100000 in
/-- non-vacuity: every hypothesis of the full statement holds for the signed sample archive (two digested members and an old
    signature member), role "builder", with stand-ins for the hashes that depend on the stream and a transparent PGP layer;
    the theorem then gives the verdict `ok` for the role. -/
example :
    let H1 : Bytes → Bytes := fun b => List.replicate 32 (48 + UInt8.ofNat (b.length % 10))
    let H2 : Bytes → Bytes := fun b => List.replicate 40 (97 + UInt8.ofNat (b.length % 6))
    let cs : Bytes → Bytes := fun m => m
    let pgp : Bytes → Option Bytes := fun s => some (canonText s)
    let role : Bytes := [98, 117, 105, 108, 100, 101, 114]
    let f := C03.sampleSigned
    let es := (entries f).1
    ∃ o, 8 ≤ f.length ∧ entries f = (es, .eof) ∧ Tight (f.drop 8) es ∧
      (∀ x ∈ es, plainName x.name = true) ∧ distinctNames es = true ∧ roleRegular role = true ∧
      (∀ b, (H1 b).length = 32 ∧ (H2 b).length = 40 ∧ ∀ c ∈ H1 b ++ H2 b, c ≠ 32 ∧ c ≠ 9 ∧ c ≠ 10 ∧ c ≠ 13) ∧
      (∀ c ∈ ([65] : Bytes) ++ [64], c ≠ 10) ∧ (∀ m, pgp (cs m) = some (canonText m)) ∧
      sign H1 H2 cs (fun _ _ => true) [49] [65] [64] role f = .ok o ∧
      ReadsBack (gpg ++ role) [49] (cs (message H1 H2 [65] [64] role (linesOf es))) ∧
      (linesOf es).length = 2 ∧ es.length = 3 ∧
      checkRole pgp (digestsOf H1 H2 (entries (C03.signedBytes f o)).1) (sigsOf (entries (C03.signedBytes f o)).1) role = .ok () := by
  intro H1 H2 cs pgp role f es
  have ht := C03.tight_of_tightB f (by decide +kernel)
  have he : entries f = (es, .eof) := Prod.ext rfl ht.2.1
  have hpn : ∀ x ∈ es, plainName x.name = true := by decide +kernel
  have hdn : distinctNames es = true := by decide +kernel
  have hrr : roleRegular role = true := by decide +kernel
  have hH : ∀ b, (H1 b).length = 32 ∧ (H2 b).length = 40 ∧ ∀ c ∈ H1 b ++ H2 b,
      c ≠ 32 ∧ c ≠ 9 ∧ c ≠ 10 ∧ c ≠ 13 := by
    intro b
    refine ⟨by simp [H1], by simp [H2], ?_⟩
    intro c hc
    simp only [H1, H2, List.mem_append, List.mem_replicate] at hc
    rcases hc with ⟨_, rfl⟩ | ⟨_, rfl⟩
    · have h : b.length % 10 < 10 := by omega
      revert h
      generalize b.length % 10 = k
      revert k
      decide +kernel
    · have h : b.length % 6 < 6 := by omega
      revert h
      generalize b.length % 6 = k
      revert k
      decide +kernel
  have hsd : ∀ c ∈ ([65] : Bytes) ++ [64], c ≠ 10 := by decide +kernel
  have hpgp : ∀ m, pgp (cs m) = some (canonText m) := fun _ => rfl
  have hrb : ReadsBack (gpg ++ role) [49] (cs (message H1 H2 [65] [64] role (linesOf es))) :=
    .of_rsize (by decide +kernel) (by decide +kernel)
  have hs : sign H1 H2 cs (fun _ _ => true) [49] [65] [64] role f =
      .ok (signOf H1 H2 cs [49] [65] [64] role f.length es) := by decide +kernel
  refine ⟨_, ht.1, he, ht.2.2, hpn, hdn, hrr, hH, hsd, hpgp, hs, hrb, by decide +kernel, by decide +kernel, ?_⟩
  exact deb_sign_then_verify_text H1 H2 cs (fun _ _ => true) pgp [49] [65] [64] role f _ es ht.1 he ht.2.2 hpn hdn hrr hH hsd hpgp
    hs hrb

end Relic.Props.C01
