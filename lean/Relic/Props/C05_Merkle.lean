/- C05 — the APK v2 chunked digest computed by relic's streaming hasher equals the specification's. -/
import Relic.Props.C09
import Relic.Spec.ApkV2
namespace Relic.Props.C05
open Relic.Merkle

theorem split_eq_chunks (n : Nat) (l : Bytes) (fuel : Nat) (hf : l.length ≤ fuel) :
    Spec.ApkV2.split n fuel l = chunks n l := by
  by_cases hn : n = 0
  · subst hn
    rw [chunks]
    cases fuel <;> simp [Spec.ApkV2.split]
  · exact chunks_of_fuel n (by omega) (Spec.ApkV2.split n) (fun _ => rfl)
      (fun k b => by simp only [Spec.ApkV2.split, hn, false_or]) fuel l hf

/-- **apk_digest_eq_spec.** For every block size `B > 0` (the Go constant is 2^20), every way the ZIP contents are
    delivered to `merkleHasher.Write`, and every central directory / end-of-directory blob, the blocks that relic
    hashes are the specification's chunk list (sections 1, 3, 4 chunked separately, in order), hence the top-level
    digests agree for every hash function `H`. -/
theorem apk_digest_eq_spec (H : Bytes → Bytes) (B : Nat) (hB : 0 < B) (ws : List Bytes) (cdir eod : Bytes) :
    finishBlocks B (run B init ws) cdir eod = Spec.ApkV2.chunkList B ws.flatten cdir eod ∧
    topDigest H (finishBlocks B (run B init ws) cdir eod) = Spec.ApkV2.digest H B ws.flatten cdir eod := by
  have hb : finishBlocks B (run B init ws) cdir eod = Spec.ApkV2.chunkList B ws.flatten cdir eod := by
    rw [C09.merkle_finish B hB ws cdir eod]
    unfold Spec.ApkV2.chunkList
    rw [split_eq_chunks B _ _ (Nat.le_refl _), split_eq_chunks B _ _ (Nat.le_refl _), split_eq_chunks B _ _ (Nat.le_refl _)]
  refine ⟨hb, ?_⟩
  rw [hb]
  rfl

example : Spec.ApkV2.chunkList 2 [1, 2, 3] [4] [] = [[1, 2], [3], [4]] := by decide

end Relic.Props.C05
