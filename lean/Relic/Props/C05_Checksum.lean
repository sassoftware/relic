/-
  C05 (PE checksum part) — the value relic's streaming `peChecksum` produces, and the four bytes
  `FixPEChecksum` stores, equal the declarative PE checksum `Relic.Spec.peChecksum`
  (Relic/Spec/PEChecksum.lean, written without reference to the code).
  Model: Relic.Model.PEChecksum (lib/authenticode/checksum.go after fix F20).
-/
import Relic.Proofs.PEChecksum
namespace Relic.Props.C05
open Relic Relic.PEChecksum

/-- **pe_checksum_eq_spec.** For every file, every *even* offset `P` of the checksum field and every
    delivery of the file as even-sized writes followed by a last write of any size, `Sum` is the
    declarative PE checksum: little-endian 16-bit words, the four field bytes read as zero, an odd
    final byte zero-extended, carry folded after every addition, final fold, plus the length mod 2^32. -/
theorem pe_checksum_eq_spec (P : Nat) (hP : P % 2 = 0) (file : Bytes) (ws : List Bytes) (last : Bytes)
    (hev : ∀ w ∈ ws, w.length % 2 = 0) (hfile : ws.flatten ++ last = file) :
    ∃ s, writes ⟨some P, 0, 0, 0, false⟩ (ws ++ [last]) = .ok s ∧ sumVal s = Spec.peChecksum file P := by
  rw [writes_append_last _ ws last rfl hev, hfile]
  exact oneshot_even P file hP

/-- the instance for `NewPEChecksum(peStart)` with `peStart > 0` even (PE headers are at least
    4-byte aligned, so `peStart + 88` is even for every loadable image) -/
theorem pe_checksum_eq_spec_new (peStart : Nat) (h0 : 0 < peStart) (hP : peStart % 2 = 0) (file : Bytes)
    (ws : List Bytes) (last : Bytes) (hev : ∀ w ∈ ws, w.length % 2 = 0) (hfile : ws.flatten ++ last = file) :
    ∃ s, writes (new peStart) (ws ++ [last]) = .ok s ∧ sumVal s = Spec.peChecksum file (peStart + 88) := by
  rw [new_pos peStart (by omega)]
  exact pe_checksum_eq_spec (peStart + 88) (by omega) file ws last hev hfile

example : ∃ s, writes (new 2) [[1, 2], [3, 4, 5, 6], [7]] = .ok s ∧
    sumVal s = Spec.peChecksum [1, 2, 3, 4, 5, 6, 7] 90 :=
  pe_checksum_eq_spec_new 2 (by omega) rfl _ [[1, 2], [3, 4, 5, 6]] [7] (by simp) rfl

/-- **pe_checksum_odd_pos.** With an *odd* field offset (odd `peStart`), or with no field
    (`peStart ≤ 0`), the code never excludes anything: the words it compares against start at even
    offsets, so `i == ckpos` is never true.  The result is the plain word sum — the field bytes are
    included.  (Not reachable for well-formed images; stated so that it is not mistaken for the
    specification.) -/
theorem pe_checksum_odd_pos (ck : Option Nat) (hck : ∀ p, ck = some p → p % 2 = 1) (file : Bytes)
    (ws : List Bytes) (last : Bytes) (hev : ∀ w ∈ ws, w.length % 2 = 0) (hfile : ws.flatten ++ last = file) :
    ∃ s, writes ⟨ck, 0, 0, 0, false⟩ (ws ++ [last]) = .ok s ∧ sumVal s = Spec.peChecksumPlain file := by
  rw [writes_append_last _ ws last rfl hev, hfile]
  exact oneshot_plain ck file hck

example : ∃ s, writes (new 1) [[1, 2], [3]] = .ok s ∧ sumVal s = Spec.peChecksumPlain [1, 2, 3] :=
  pe_checksum_odd_pos (some 89) (by intro p h; injection h with h; omega) _ [[1, 2]] [3] (by simp) rfl

/-- the plain sum differs from the specification as soon as the field holds a non-zero word -/
example : Spec.peChecksumPlain (List.replicate 8 1) ≠ Spec.peChecksum (List.replicate 8 1) 2 := by decide

/-- **fix_pe_checksum_eq_spec.** What `FixPEChecksum` stores at `e_lfanew + 88` is the declarative
    checksum of the file, for every file it accepts whose `e_lfanew` is even and non-zero — whatever
    even-sized pieces `io.Copy` reads the file in (`checksum_even_splits`). -/
theorem fix_pe_checksum_eq_spec (file : Bytes) (pos v : Nat) (h : fixPE file = .ok (pos, v))
    (hpos : pos % 2 = 0) (h88 : 88 < pos) : v = Spec.peChecksum file pos := by
  obtain ⟨_, _, rfl, s, hs, rfl⟩ := fixPE_ok h
  obtain ⟨s', hs', hv⟩ := oneshot_even _ file hpos
  rw [new_pos _ (by omega), hs'] at hs
  cases hs
  exact hv

end Relic.Props.C05
