/-
  Property C10, fragment "rate limiter": lib/pkcs9/ratelimit only delays.

  Theorems about `Relic.Model.TsaPool` section 2 (ratelimit.New, limiter.Timestamp over rate.Limiter.WaitN for one
  event).  Tied to the real code by the TSX `rate`, `wire` and `conc` ops: real ratelimit.New around a scripted inner
  time-stamper under background, pre-cancelled, deadline and cancelled-while-waiting contexts; return times are
  compared with the model's.
-/
import Relic.Proofs.TsaPool
namespace Relic.Props.C10
open Relic.Tsa Relic.TsaX

/-- the errors the limiter itself can produce: all of them come from the caller's context -/
def CtxErrClass (e : String) : Prop := e = "canceled" ∨ e = "deadline" ∨ e = "rate-deadline"

theorem errAt_class {c : Ctx} {t : Nat} {e : String} (h : c.errAt t = some e) :
    (e = "canceled" ∨ e = "deadline") ∧ (c.cancelAt ≠ none ∨ c.deadline ≠ none) := by
  unfold Ctx.errAt at h
  cases hc : c.cancelAt with
  | none =>
    cases hd : c.deadline with
    | none => simp [hc, hd] at h
    | some d =>
      simp only [hc, hd] at h
      split at h <;> simp at h
      exact ⟨Or.inr h.symm, Or.inr (by simp)⟩
  | some k =>
    simp only [hc] at h
    split at h
    · exact ⟨Or.inl (by simpa using h.symm), Or.inl (by simp)⟩
    · cases hd : c.deadline with
      | none => simp [hd] at h
      | some d =>
        simp only [hd] at h
        split at h <;> simp at h
        exact ⟨Or.inr h.symm, Or.inr (by simp)⟩

/-- what `Wait` can do: let the call through at some time not before it was made; refuse with a context error (only
under a context that can be cancelled or has a deadline); or, for a non-positive rate only, never return -/
theorem wait_cases (l : Lim) (now : Nat) (ctx : Ctx) :
    (∃ t, (l.wait now ctx).1 = .proceed t ∧ now ≤ t) ∨
    (∃ e t, (l.wait now ctx).1 = .refused e t ∧ CtxErrClass e ∧ (ctx.cancelAt ≠ none ∨ ctx.deadline ≠ none)) ∨
    ((l.wait now ctx).1 = .forever ∧ l.period = none ∧ ctx.cancelAt = none) := by
  have hw := l.wait_case now ctx
  generalize l.wait now ctx = w at hw
  cases hw with
  | ctxErr e he =>
    obtain ⟨h1, h2⟩ := errAt_class he
    exact .inr (.inl ⟨e, now, rfl, h1.elim .inl (.inr ∘ .inl), h2⟩)
  | tooLate hd => exact .inr (.inl ⟨_, now, rfl, .inr (.inr rfl), .inr hd⟩)
  | go k hk => exact .inl ⟨_, rfl, Nat.le_add_right ..⟩
  | cancelled c hc => exact .inr (.inl ⟨_, c, rfl, .inl rfl, .inl (by simp [hc])⟩)
  | forever hk hc => exact .inr (.inr ⟨rfl, Lim.waitDur_none hk, hc⟩)

/-- **rate_limit_preserves_outcome** — `limiter.Timestamp` returns either exactly what the wrapped time-stamper
returns (entered at some time not before the call: the limiter only delays), or a context error of the caller
without the wrapped time-stamper being entered, or (non-positive rate) it never returns.  It never answers on the
wrapped time-stamper's behalf. -/
theorem rate_limit_preserves_outcome (l : Lim) (now : Nat) (ctx : Ctx) (inner : Nat → Outcome) :
    (∃ t, now ≤ t ∧ (limited l now ctx inner).1 = ⟨inner t, t⟩) ∨
    (∃ e t, CtxErrClass e ∧ (ctx.cancelAt ≠ none ∨ ctx.deadline ≠ none) ∧ (limited l now ctx inner).1 = ⟨⟨.err e, [], []⟩, t⟩) ∨
    ((limited l now ctx inner).1.outcome = ⟨.diverge, [], []⟩ ∧ l.period = none ∧ ctx.cancelAt = none) := by
  unfold limited
  have hc := wait_cases l now ctx
  generalize l.wait now ctx = x at hc ⊢
  obtain ⟨w, l'⟩ := x
  rcases hc with ⟨t, rfl, hle⟩ | ⟨e, t, rfl, hc, hx⟩ | ⟨rfl, hp, hc⟩
  · exact Or.inl ⟨t, hle, rfl⟩
  · exact Or.inr (Or.inl ⟨e, t, hc, hx, rfl⟩)
  · exact Or.inr (Or.inr ⟨rfl, hp, hc⟩)

/-- **rate_limit_never_skips** — a success that comes out of the limiter is a success of the wrapped time-stamper
(with its token, its source and the authorities it contacted): the limiter cannot skip the authority or the checks -/
theorem rate_limit_never_skips (l : Lim) (now : Nat) (ctx : Ctx) (inner : Nat → Outcome) (p : Src × Token)
    (h : (limited l now ctx inner).1.outcome.res = .ok p) :
    ∃ t, now ≤ t ∧ (limited l now ctx inner).1.outcome = inner t := by
  rcases rate_limit_preserves_outcome l now ctx inner with ⟨t, hle, he⟩ | ⟨e, t, _, _, he⟩ | ⟨he, _, _⟩
  · exact ⟨t, hle, by rw [he]⟩
  · rw [he] at h; simp at h
  · rw [he] at h; simp at h

/-- a refusal reaches no authority -/
theorem rate_limit_refusal_contacts_nobody (l : Lim) (now : Nat) (ctx : Ctx) (inner : Nat → Outcome)
    (h : ∀ t, (limited l now ctx inner).1.outcome ≠ inner t) : (limited l now ctx inner).1.outcome.contacted = [] := by
  rcases rate_limit_preserves_outcome l now ctx inner with ⟨t, _, he⟩ | ⟨e, t, _, _, he⟩ | ⟨he, _, _⟩
  · exact absurd (by rw [he]) (h t)
  · rw [he]
  · rw [he]

/-- under a context that is never cancelled and has no deadline (and a positive rate) the call always goes through -/
theorem rate_limit_background_serves (l : Lim) (now : Nat) (inner : Nat → Outcome) (p : Nat) (hp : l.period = some p) :
    ∃ t, now ≤ t ∧ (limited l now Ctx.background inner).1 = ⟨inner t, t⟩ := by
  rcases rate_limit_preserves_outcome l now Ctx.background inner with h | ⟨e, t, _, hx, _⟩ | ⟨_, hn, _⟩
  · exact h
  · simp [Ctx.background] at hx
  · rw [hp] at hn; simp at hn

/-- **no_limiter_when_rate_zero** — `ratelimit.New` with rate 0 returns the wrapped time-stamper itself -/
theorem no_limiter_when_rate_zero (period : Option Nat) (burst : Int) (t0 now : Nat) (ctx : Ctx) (inner : Nat → Outcome) :
    limitedOpt (mkLim true period burst t0) now ctx inner = (⟨inner now, now⟩, none) := by
  simp [mkLim, limitedOpt]

/-- the bucket never holds more than the burst -/
def Capped (l : Lim) : Prop := l.level ≤ ((l.burst * l.unit : Nat) : Int)

theorem ite_le_cap (x cap : Int) : (if x > cap then cap else x) ≤ cap := by
  split <;> omega

theorem advance_le_cap (l : Lim) (now : Nat) : l.advance now ≤ ((l.burst * l.unit : Nat) : Int) := by
  unfold Lim.advance
  simp only
  split <;> omega

theorem advance_ge_level (l : Lim) (now : Nat) (hc : Capped l) : l.level ≤ l.advance now := by
  unfold Lim.advance
  unfold Capped at hc
  simp only
  split <;> omega

theorem mkLim_capped (period : Option Nat) (burst : Int) (now : Nat) (l : Lim) (h : mkLim false period burst now = some l) :
    Capped l ∧ l.level = ((l.burst * l.unit : Nat) : Int) ∧ 1 ≤ l.burst := by
  simp only [mkLim, Bool.false_eq_true, if_false] at h
  have := (Option.some.inj h).symm
  subst this
  refine ⟨by simp [Capped, Lim.unit], by simp [Lim.unit], ?_⟩
  simp only
  split <;> omega

/-- the reservation keeps the bucket capped, whatever `Wait` answers -/
theorem wait_capped (l : Lim) (now : Nat) (ctx : Ctx) (hc : Capped l) : Capped (l.wait now ctx).2 := by
  have hres : Capped (l.reserved now) := by
    have := advance_le_cap l now
    simp only [Capped, Lim.reserved, Lim.after, Lim.unit] at *
    omega
  have hcan : ∀ c, Capped (l.cancelled now c) := fun c => ite_le_cap _ _
  have hw := l.wait_case now ctx
  generalize l.wait now ctx = w at hw
  cases hw with
  | ctxErr | tooLate => exact hc
  | go | forever => exact hres
  | cancelled c => exact hcan c

/-- **rate_limit_wait_bounded** — with a positive rate a call let through waits at most what the bucket owes plus
one token: `unit - level` ticks (so at most one period when the bucket is not in debt, nothing while it holds a token) -/
theorem rate_limit_wait_bounded (l : Lim) (now : Nat) (ctx : Ctx) (t : Nat) (hc : Capped l)
    (h : (l.wait now ctx).1 = .proceed t) : ((t - now : Nat) : Int) ≤ max 0 ((l.unit : Int) - l.level) := by
  have hadv := advance_ge_level l now hc
  have hw := l.wait_case now ctx
  generalize l.wait now ctx = w at hw h
  cases hw with
  | go k hk =>
    cases h
    -- the wait is what the bucket owes after taking one token
    unfold Lim.waitDur Lim.after at hk
    split at hk
    · split at hk
      · have : k = (-(l.advance now - (l.unit : Int))).toNat := by simpa using hk.symm
        omega
      · simp at hk
    · have : k = 0 := by simpa using hk.symm
      omega
  | ctxErr | tooLate | cancelled | forever => cases h

/-- **burst_free** — while the bucket holds a whole token the call goes through at once -/
theorem burst_free (l : Lim) (now : Nat) (hl : (l.unit : Int) ≤ l.advance now) :
    l.wait now Ctx.background = (.proceed now, l.reserved now) := by
  have hw : l.waitDur now = some 0 := by
    unfold Lim.waitDur Lim.after
    have : ¬ (l.advance now - (l.unit : Int) < 0) := by omega
    simp [this]
  simp [Lim.wait, Ctx.background, Ctx.errAt, hw, withinDeadline]

/-- **rate_limit_waits** — a bucket without a whole token makes the call wait for the missing part (positive rate) -/
theorem rate_limit_waits (l : Lim) (now p : Nat) (hp : l.period = some p) (hl : l.advance now < (l.unit : Int)) :
    (l.wait now Ctx.background).1 = .proceed (now + ((l.unit : Int) - l.advance now).toNat) := by
  have hpos : 0 < ((l.unit : Int) - l.advance now).toNat := by omega
  have hw : l.waitDur now = some ((l.unit : Int) - l.advance now).toNat := by
    unfold Lim.waitDur Lim.after
    have h1 : l.advance now - (l.unit : Int) < 0 := by omega
    have h2 : -(l.advance now - (l.unit : Int)) = (l.unit : Int) - l.advance now := by omega
    simp [h1, hp, h2]
  obtain ⟨k, hk⟩ : ∃ k, ((l.unit : Int) - l.advance now).toNat = k + 1 := ⟨_, (Nat.succ_pred_eq_of_pos hpos).symm⟩
  rw [hk] at hw
  simp [Lim.wait, Ctx.background, Ctx.errAt, hw, withinDeadline, hk]

/-- **nonpositive_rate_starves** — a `ratelimit` ≤ 0 in the configuration (other than exactly 0) builds a limiter whose
bucket never refills: once the burst is used up a call under a plain context never returns (under a deadline it is
refused at once, see `wait_cases`); nothing is ever signed without its timestamp because of it -/
theorem nonpositive_rate_starves (l : Lim) (now : Nat) (inner : Nat → Outcome) (hp : l.period = none)
    (hl : l.level < (l.unit : Int)) (hc : Capped l) :
    (limited l now Ctx.background inner).1.outcome = ⟨.diverge, [], []⟩ := by
  have hadv : l.advance now = l.level := by
    unfold Lim.advance
    unfold Capped at hc
    simp only [hp, Option.isSome_none, Bool.false_eq_true, if_false]
    split <;> omega
  have hw : l.waitDur now = none := by
    unfold Lim.waitDur Lim.after
    have : l.advance now - (l.unit : Int) < 0 := by omega
    simp [this, hp]
  simp [limited, Lim.wait, Ctx.background, Ctx.errAt, hw, withinDeadline]

/-- non-vacuity: 10 per second in milliseconds (period 100), burst 2: the first two calls at once, the third after 100 -/
example :
    let l0 : Lim := ⟨some 100, 2, 200, 0⟩
    let w1 := l0.wait 0 Ctx.background
    let w2 := w1.2.wait 0 Ctx.background
    let w3 := w2.2.wait 0 Ctx.background
    (w1.1, w2.1, w3.1) = (.proceed 0, .proceed 0, .proceed 100) := by decide

/-- non-vacuity: a deadline shorter than the wait refuses at once and leaves the bucket alone; a cancellation during
the wait gives the token back -/
example :
    let l0 : Lim := ⟨some 100, 1, 0, 0⟩
    (l0.wait 0 ⟨none, some 20⟩ = (.refused "rate-deadline" 0, l0)) ∧
    (l0.wait 0 ⟨some 20, none⟩).1 = .refused "canceled" 20 ∧ (l0.wait 0 ⟨some 20, none⟩).2.level = 20 := by decide

end Relic.Props.C10
