/-
  C01 — Every signature relic produces verifies.   Container-image signatures (signers/cosign; models `Relic.Model.Json`,
  `Relic.Model.Cosign`).  relic has no verifier for this type: "verifies" = the emitted signature value is the key's signature
  over the digest of exactly the payload bytes emitted, and the descriptors describe what they carry.

  The cosign model has no `Proofs` file; its lemmas stand in three `Props` files: what a successful `Cosign.sign` and
  `digestManifest` went through (`sign_inv`, `digestManifest_ok`) here, the totality walks in Props/C11_Cosign, what the
  payload injectivity needs in Props/C02_Cosign.
-/
import Relic.Model.Cosign
import Relic.Model.KeyMatch
import Relic.Proofs.JsonNorm
import Relic.Proofs.Res
namespace Relic.Props.C01
open Relic.Json Relic.Cosign

/-- **cosign_payload_deterministic.**  The payload is one byte string per (digest, optional map): whatever order the Go
    runtime iterates the maps in while `json.Marshal` runs – `σ`, an arbitrary permutation applied to every map at every
    depth, the `optional` map after `creator` was set included – and hence whatever order the members were inserted in. -/
theorem cosign_payload_deterministic (σ : List Member → List Member) (hσ : ∀ l, (σ l).Perm l) (creator digest : List Nat)
    (m : Option (List Member)) (h : KeysDistinct (.obj (withCreator creator m))) :
    enc (payloadVal digest (σ (shuffleM σ (withCreator creator m)))) = payloadBytes creator digest m := by
  unfold payloadBytes payloadVal
  have := canon_shuffle σ hσ (.obj (withCreator creator m)) h
  simp only [shuffle] at this
  rw [this]

/-- the hypothesis holds for every map that came out of `json.Unmarshal` (distinct keys at every depth) -/
theorem withCreator_keysDistinct (creator : List Nat) (m : Option (List Member)) (h : KeysDistinct (.obj (m.getD []))) :
    KeysDistinct (.obj (withCreator creator m)) := by
  simp only [KeysDistinct] at h ⊢
  exact ⟨setKey_nodup _ _ _ h.1, KeysDistinctM_setKey _ _ _ (by simp [KeysDistinct]) h.2⟩

/-- **cosign_payload_deterministic_on_parsed**: for every `optional` flag text that `json.Unmarshal` accepts, whatever the
    iteration order of the maps – the hypothesis of `cosign_payload_deterministic` always holds in `newPayload` -/
theorem cosign_payload_deterministic_on_parsed (σ : List Member → List Member) (hσ : ∀ l, (σ l).Perm l) (cvt : Cvt) (hcvt : CvtOK cvt)
    (creator digest : List Nat) (t : Bytes) (m : Option (List Member)) (ht : unmarshalMap cvt t = .ok m) :
    enc (payloadVal digest (σ (shuffleM σ (withCreator creator m)))) = payloadBytes creator digest m :=
  cosign_payload_deterministic σ hσ creator digest m (withCreator_keysDistinct creator m (unmarshalMap_wf cvt hcvt t m ht).2)

/-- two members, iterated in the other order: same bytes -/
example : enc (payloadVal (ascii "sha256:00") [(ascii "creator", .str (ascii "relic/x")), (ascii "a", .num [0x31])]) =
    payloadBytes (ascii "relic/x") (ascii "sha256:00") (some [(ascii "a", .num [0x31])]) := by decide +kernel

set_option maxRecDepth 8000 in
/-- the text of the payload for an empty optional map -/
example : payloadBytes (ascii "r") (ascii "sha256:ab") none =
    asciiB "{\"critical\":{\"image\":{\"docker-manifest-digest\":\"sha256:ab\"},\"type\":\"cosign container image signature\"},\"optional\":{\"creator\":\"r\"}}" := by
  decide +kernel

theorem sign_inv {Sig : Type} (H : Bytes → Bytes) (signer : Bytes → Option Sig) (cvt : Cvt) (creator : List Nat) (h : Hash)
    (upload optional : Bytes) (out : Out Sig) (hs : sign H signer cvt creator h upload optional = .ok out) :
    ∃ alg, algName h = some alg ∧ upload.length ≤ maxSize ∧
      digestManifest H h upload = .ok (out.subjectDigest, out.subjectMediaType) ∧
      newPayload cvt creator out.subjectDigest optional = .ok out.payload ∧
      signer (H out.payload) = some out.sig ∧
      out.subjectSize = upload.length ∧ out.layerDigest = fmtDigest alg (H out.payload) ∧ out.layerSize = out.payload.length := by
  unfold sign at hs
  simp only at hs
  split at hs
  · cases hs
  · rename_i hlen
    have hle : upload.length ≤ maxSize := by
      simp only [List.length_take] at hlen
      omega
    have htake : upload.take (maxSize + 1) = upload := List.take_of_length_le (by omega)
    rw [htake] at hs
    split at hs
    · rename_i d mt hd
      split at hs
      · rename_i p hp
        split at hs
        · rename_i alg s ha hsig
          simp only [Res.ok.injEq] at hs
          subst hs
          exact ⟨alg, ha, hle, hd, hp, hsig, rfl, rfl, rfl⟩
        · cases hs
      all_goals cases hs
    all_goals cases hs

theorem digestManifest_ok (H : Bytes → Bytes) (h : Hash) (blob : Bytes) (d mt : List Nat)
    (hd : digestManifest H h blob = .ok (d, mt)) :
    ∃ alg, algName h = some alg ∧ d = fmtDigest alg (H blob) ∧ allowedManifestTypes.contains mt = true := by
  unfold digestManifest at hd
  cases ha : algName h with
  | none => rw [ha] at hd; cases hd
  | some alg =>
    rw [ha] at hd
    simp only at hd
    split at hd
    · simp only [Res.errGuard_eq_ok, Res.ok.injEq, Prod.mk.injEq] at hd
      obtain ⟨_, hc, rfl, rfl⟩ := hd
      exact ⟨alg, rfl, rfl, by simpa using hc⟩
    all_goals cases hd

/-- **cosign_sign_then_verify.**  For every signature scheme, key, hash, upload and `optional` flag on which `sign` succeeds:
    the signature annotation verifies with the configured key over `H(payload)` for exactly the payload bytes carried in the
    layer; the layer descriptor is the digest and length of those bytes; the subject descriptor is the digest, length and
    media type of the uploaded manifest (which was not larger than 4 MiB); and the payload is `newPayload` of that very digest. -/
theorem cosign_sign_then_verify (S : KeyMatch.SigScheme) (priv : S.Priv) (H : Bytes → Bytes) (cvt : Cvt) (creator : List Nat)
    (h : Hash) (upload optional : Bytes) (out : Out S.Sig)
    (hs : sign H (fun d => some (S.sign priv d)) cvt creator h upload optional = .ok out) :
    S.verify (S.pub priv) (H out.payload) out.sig = true ∧
    (∃ alg, algName h = some alg ∧ out.layerDigest = fmtDigest alg (H out.payload) ∧ out.subjectDigest = fmtDigest alg (H upload)) ∧
    out.layerSize = out.payload.length ∧ out.subjectSize = upload.length ∧ upload.length ≤ maxSize ∧
    allowedManifestTypes.contains out.subjectMediaType = true ∧
    newPayload cvt creator out.subjectDigest optional = .ok out.payload := by
  obtain ⟨alg, ha, hle, hd, hp, hsig, h1, h2, h3⟩ := sign_inv H _ cvt creator h upload optional out hs
  obtain ⟨alg', ha', hdig, hmt⟩ := digestManifest_ok H h upload _ _ hd
  rw [ha] at ha'
  cases ha'
  simp only [Option.some.injEq] at hsig
  exact ⟨by rw [← hsig]; exact S.sound _ _, ⟨alg, ha, h2, hdig⟩, h3, h1, hle, hmt, hp⟩

/-- the hypotheses are satisfiable: a small manifest, no optional flag (a toy hash, the digest itself as "signature") -/
example : (match sign (Sig := Bytes) (fun b => b.take 2) (fun d => some d) some (ascii "r") .sha256
      (asciiB "{\"mediaType\":\"application/vnd.oci.image.index.v1+json\"}") [] with
    | .ok out => decide (out.subjectDigest = ascii "sha256:7b22" ∧ out.subjectSize = 55 ∧ out.sig = [0x7b, 0x22])
    | _ => false) = true := by decide +kernel

/-- **cosign_refusals**: what is refused, with which error, before anything is signed -/
theorem cosign_refusals {Sig : Type} (H : Bytes → Bytes) (signer : Bytes → Option Sig) (cvt : Cvt) (creator : List Nat)
    (upload optional : Bytes) :
    (maxSize < upload.length → ∀ h, sign H signer cvt creator h upload optional = .err "too-large") ∧
    (upload.length ≤ maxSize → sign H signer cvt creator .other upload optional = .err "unsupported-digest") := by
  constructor
  · intro hl h
    unfold sign
    simp only
    rw [if_pos (by simp only [List.length_take]; omega)]
  · intro hl
    unfold sign
    simp only
    rw [if_neg (by simp only [List.length_take]; omega)]
    simp [digestManifest, algName]

end Relic.Props.C01
