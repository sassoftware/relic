/-
  C04 (fragment) — which authentication paths exist per listener kind (server/daemon/daemon.go: TLS listener with
  ClientAuth = RequestClientCert, plaintext `listen_http` listener).  `Relic.Daemon.toReq` is the only place where the
  listener kind enters; everything behind it is Relic.Model.Authz (tied by the C04 ops).  Tie here: DAEMON mx ops.
-/
import Relic.Model.Daemon
import Relic.Props.C04
namespace Relic.Props.C04
open Relic.Authz Relic.RealIP Relic.Daemon

theorem plain_listener_never_sees_client_cert (c : Conn) : (toReq .plain c).tls = none := rfl

/-- The TLS listener requests a certificate but does not require one. -/
theorem tls_without_cert_is_anonymous (c : Conn) (h : c.clientCert = none) : (toReq .tls c).tls = none := by
  simp [toReq, h]

/-- the TLS listener hands the handler whatever certificate the client presented (unverified: RequestClientCert) -/
theorem tls_listener_passes_cert (c : Conn) : (toReq .tls c).tls = c.clientCert := rfl

/-- A peer that is not a trusted proxy and reaches the handler without a TLS certificate – every
    request on the plaintext listener, and a certificate-less one on the TLS listener – gets exactly `401
    certificate-required` on every endpoint that is not public, whatever headers it sends. -/
theorem anonymous_gets_401 (cfg : Config) (l : Listener) (c : Conn) (hs : startCheck cfg = none)
    (hu : hopTrusted cfg.inNets (stripPort c.remoteAddr) = false) (hanon : l = .plain ∨ c.clientCert = none)
    (hp : c.ep.isPublic = false) :
    serveOn cfg l c = [.resp { status := 401, problem := "certificate-required", ip := stripPort (stripPort c.remoteAddr) }] := by
  have htls : (toReq l c).tls = none := by
    rcases hanon with h | h
    · subst h; rfl
    · cases l <;> simp [toReq, h]
  have tv : transportView cfg (toReq l c) = (stripPort (stripPort c.remoteAddr), .ok none) :=
    (Proofs.Authz.transportView_untrusted cfg (toReq l c) hu).trans (by rw [htls]; rfl)
  simp only [serveOn, handle, handleWith, hs, tv]
  have : (toReq l c).ep.isPublic = false := by simpa [toReq] using hp
  simp [this]

example : startCheck { clients := [], keys := [], tokens := [], proxiesOK := true, inNets := fun _ => false } = none := by decide

/-- the public endpoints are exactly /health and /directory (`/` is behind the authentication middleware) -/
theorem public_endpoints (e : Endpoint) : e.isPublic = true ↔ e = .health ∨ e = .directory := by
  cases e <;> simp [Endpoint.isPublic]

/-- On the plaintext listener the certificates the authenticator sees are `none`
    unless the direct peer is a trusted proxy: the only authentication path there is `Ssl-Client-Cert` from a trusted proxy. -/
theorem plain_auth_only_via_trusted_proxy (cfg : Config) (c : Conn) (ch : Chain)
    (h : (transportView cfg (toReq .plain c)).2 = .ok (some ch)) :
    hopTrusted cfg.inNets (stripPort c.remoteAddr) = true ∧ c.sslCert = .certs (some ch) := by
  by_cases hu : hopTrusted cfg.inNets (stripPort c.remoteAddr) = true
  · refine ⟨hu, ?_⟩
    simp only [transportView, toReq] at h
    generalize trustedClient cfg.inNets c.remoteAddr c.xff = tc at h
    obtain ⟨a, p⟩ := tc
    cases p <;> simp only [peerCerts] at h
    · simp at h
    · cases hc : c.sslCert <;> simp_all
  · have hu' : hopTrusted cfg.inNets (stripPort c.remoteAddr) = false := by simpa using hu
    rw [Proofs.Authz.transportView_untrusted cfg (toReq .plain c) hu'] at h
    simp [toReq] at h

end Relic.Props.C04
