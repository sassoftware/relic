/-
  C02 — Any change to signed content makes verification fail.   Mach-O part: the code pages.
  What is protected: every byte of the image below `codeLimit` (through the page slots of the CMS-signed code
  directory) — in particular the Mach-O header and all load commands.  What is NOT protected, stated explicitly below:
  bytes at or behind `codeLimit` other than the code directory / hashed items themselves, i.e. the zero padding
  behind the superblob inside the signature region and anything behind the signature (`macho_outside_codeLimit`).
-/
import Relic.Proofs.CodeDirVerify
namespace Relic.Props.C02
open Relic.CodeDir

/-- For a directory with one slot per page (`nCodeSlots = ⌈codeLimit/2^k⌉`, which is what
    relic's signer writes, see C05) and a file at least `codeLimit` long, the byte strings `VerifyPages` hashes are
    exactly the pages of `file[0:codeLimit]`, compared slot by slot, and it accepts iff all of them match. -/
theorem macho_verify_streams (ps : Nat) (hps : 0 < ps) (slots : List Bytes) (file : Bytes) (limit : Nat)
    (hfile : limit ≤ file.length) (hslots : slots.length = (pages ps (file.take limit)).length) :
    verifyLoop ps slots (file.take limit) (limit : Nat) ps = (zipChecks (pages ps (file.take limit)) slots, .ok ()) := by
  have hl : (file.take limit).length = limit := by simp [List.length_take]; omega
  have := verifyLoop_pages ps hps slots (file.take limit) hslots
  rw [hl] at this
  exact this

/-- Injectivity of the page decomposition, with locality: if two images of the same
    length differ at a position `p`, the page stream number `p / ps` differs — so for every hash function that does
    not collide on these two page streams the recomputed slot differs from the signed one, and `VerifyPages` fails
    with "digest mismatch: page p/ps". -/
theorem macho_tamper_evident (ps : Nat) (hps : 0 < ps) (a b : Bytes) (hl : a.length = b.length) (p : Nat)
    (hp : a[p]? ≠ b[p]?) : (pages ps a)[p / ps]? ≠ (pages ps b)[p / ps]? :=
  pages_differ_at ps hps a b hl p hp

/-- the global form: equal page streams ⇒ equal images (nothing below `codeLimit` escapes the pages) -/
theorem macho_pages_injective (ps : Nat) (hps : 0 < ps) (a b : Bytes) (h : pages ps a = pages ps b) : a = b :=
  pages_inj ps hps a b h

/-- consequence for a verifier run under collision-freeness on the streams involved: if the original `a` passes
    against `slots` and the mutant `b` (same length, differing at `p < limit`) is checked against the same slots,
    then some comparison of the mutant's plan hashes a stream different from the original's at the same index -/
theorem macho_mutant_plan_differs (ps : Nat) (hps : 0 < ps) (slots : List Bytes) (a b : Bytes) (limit p : Nat)
    (hla : limit ≤ a.length) (hlb : limit ≤ b.length) (hp : p < limit) (hdiff : a[p]? ≠ b[p]?)
    (hslots : slots.length = (pages ps (a.take limit)).length) :
    ∃ ca cb, (verifyLoop ps slots (a.take limit) (limit : Nat) ps).1[p / ps]? = some ca ∧
             (verifyLoop ps slots (b.take limit) (limit : Nat) ps).1[p / ps]? = some cb ∧
             ca.expected = cb.expected ∧ ca.stream ≠ cb.stream := by
  have hta : (a.take limit).length = limit := by simp [List.length_take]; omega
  have htb : (b.take limit).length = limit := by simp [List.length_take]; omega
  have hlen : (pages ps (a.take limit)).length = (pages ps (b.take limit)).length := by
    rw [pages_length ps hps, pages_length ps hps, hta, htb]
  rw [macho_verify_streams ps hps slots a limit hla hslots,
      macho_verify_streams ps hps slots b limit hlb (hslots.trans hlen)]
  have hd : (a.take limit)[p]? ≠ (b.take limit)[p]? := by
    rw [List.getElem?_take_of_lt hp, List.getElem?_take_of_lt hp]; exact hdiff
  obtain ⟨x, y, hx, hy, hxy⟩ := pages_differ_within ps hps (a.take limit) (b.take limit) (hta.trans htb.symm) p (by omega) hd
  have hqs : p / ps < slots.length := hslots ▸ (List.getElem?_eq_some_iff.mp hx).1
  refine ⟨⟨x, slots[p / ps]⟩, ⟨y, slots[p / ps]⟩, ?_, ?_, rfl, hxy⟩
  · simp [zipChecks, List.getElem?_zip_eq_some, hx, hqs]
  · simp [zipChecks, List.getElem?_zip_eq_some, hy, hqs]

/-- What is NOT protected by the page slots: the verifier's page checks depend on the
    file only through `file[0:codeLimit]`.  Bytes behind `codeLimit` – the signature's zero padding, anything
    appended after the signature – never reach a hash. -/
theorem macho_outside_codeLimit (d : Dir) (f g : Bytes) (h : f.take (codeSize d.hdr).toNat = g.take (codeSize d.hdr).toNat) :
    verifyPages d f = verifyPages d g := by
  unfold verifyPages
  simp only [h]

example : (pages 4 [1, 2, 3, 4, 5, 6])[1]? ≠ (pages 4 [1, 2, 3, 4, 9, 6])[1]? := by decide
example : (verifyLoop 4 [[7], [8]] [1, 2, 3, 4, 5] 5 4) = ([⟨[1, 2, 3, 4], [7]⟩, ⟨[5], [8]⟩], .ok ()) := by decide
/-- too few slots for the indicated size are NOT an error at the end of the loop: the tail is unchecked
    (the slot count is under the CMS signature, so this is the signer's responsibility) -/
example : (verifyLoop 4 [[7]] [1, 2, 3, 4, 5] 5 4) = ([⟨[1, 2, 3, 4], [7]⟩], .ok ()) := by decide

end Relic.Props.C02
