/-
  C03 (APPX): signing leaves every payload member (everything before the first part relic regenerates) untouched:
  the bytes `[0, patchStart)` of the output are those of the input, the members lie back to back in that range, and the
  directory entries `AddFile` re-emits are the input's own entries (same offsets, raw records kept), in order.
-/
import Relic.Props.C05_Appx
namespace Relic.Props.C03
open Relic.Zip Relic.Appx

/-- what the head comment says, conjunct by conjunct; the last one: the signature part lies behind the payload -/
theorem appx_payload_preserved (c : Codec) (z : Bytes) (ps : Parts) (r : Signed) (h : sign c z ps = .ok r) :
    ∃ g : Digested, digest c z = .ok g ∧ g.patchStart ≤ z.length ∧
      r.out.take g.patchStart = z.take g.patchStart ∧
      contigMs 0 g.p.members g.patchStart ∧
      (d4Of g ps).files.take g.p.members.length = g.p.members.map (·.file) ∧
      (∀ f ∈ g.p.members.map (·.file), f.raw ≠ []) ∧
      g.patchStart ≤ r.sigOff := by
  obtain ⟨g, hg, h⟩ := sign_ok.1 h
  obtain ⟨_, s2, s3, s4, s5, s6⟩ := digest_spec hg
  obtain ⟨_, a2, _, a4, _⟩ := assemble_eq h
  refine ⟨g, hg, s3, ?_, s5, ?_, ?_, ?_⟩
  · rw [a2, List.take_append_of_le_length (by simp [List.length_take]; omega)]
    simp [List.take_take]
  · simp [d4Of, s4]
  · rw [← s4]; exact s6
  · rw [a4]; simp [d4Of, s2]

/-- `newf.Block[j].Size = oldblock.Size` runs off the end when the old block map lists more blocks than the file has -/
theorem setSizes_none : ∀ (bs : List (Bytes × Nat)) (ns : List Nat), bs.length < ns.length → setSizes bs ns = none
  | [], _ :: _, _ => rfl
  | [], [], h => by simp at h
  | _ :: _, [], h => by simp at h
  | (s, k) :: bs, n :: ns, h => by
    simp only [setSizes]
    rw [setSizes_none bs ns (by simpa using h)]
    rfl

/-- **appx_copySizes_refuses (fix-F42).** A package whose old block map lists, for the file at the current index, more
    `Block` elements than the file has 64 KiB blocks is refused (before the fix: index-out-of-range panic). -/
theorem appx_copySizes_refuses (i : Nat) (bm : List BmFile) (nf : BmFile) (name : Bytes) (sizes : List Nat)
    (rest : List (Bytes × List Nat)) (hm : (dosToZip name == Appx.sManifest || dosToZip name == sBundle) = false)
    (hi : bm[i]? = some nf) (hn : nf.name = name) (hb : nf.blocks.length < sizes.length) :
    copySizes i bm ((name, sizes) :: rest) = .err "bmmismatch" := by
  unfold copySizes
  simp only [hm, hi, hn, setSizes_none _ _ hb]
  simp

example : copySizes 0 [⟨[97], 1, 31, [([120], 0)]⟩] [([97], [5, 6])] = .err "bmmismatch" := by decide

end Relic.Props.C03
