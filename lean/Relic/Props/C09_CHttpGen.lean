/-
  C09 — T-gen obligations for the compression layer: the tables Relic.Model.CompressHttp / Transport were
  written from are re-extracted from /repo on every run (tools/extractchttp → Relic.Generated.CompressHttp)
  and compared here.  A change of a coding name, of the preference order, of a `case` label, of a status
  code or of the client's fall-back condition falsifies one of these by `decide`.
-/
import Relic.Generated.CompressHttp
import Relic.Model.CompressHttp
namespace Relic.Props.C09
open Relic.Transport Relic.CompressHttp

/-- the `prefs` map is exactly {gzip ↦ 1, x-snappy-framed ↦ 2} and the model's `pref` agrees with it -/
theorem generated_prefs_eq :
    Generated.CompressHttp.prefs = [("gzip", 1), ("x-snappy-framed", 2)] ∧
    (∀ p ∈ Generated.CompressHttp.prefs, pref p.1.toList = p.2) ∧
    pref identity = 0 ∧ pref [] = 0 := ⟨rfl, by decide +kernel⟩

theorem generated_consts_eq :
    Generated.CompressHttp.consts =
      [("acceptEncoding", "Accept-Encoding"), ("contentEncoding", "Content-Encoding"), ("contentLength", "Content-Length"),
       ("EncodingIdentity", String.ofList identity), ("EncodingGzip", String.ofList gzip),
       ("EncodingSnappy", String.ofList snappy), ("AcceptedEncodings", String.ofList acceptedEncodings)] := rfl

/-- `decompress` and `setupCompression` switch on the same labels as `codingOf`: identity or empty, gzip,
    x-snappy-framed, anything else = ErrUnacceptableEncoding; gzip's reader is constructed eagerly with
    `gzip.NewReader(r)` (so `Codec.opens` matters for gzip only) -/
theorem generated_switch_eq :
    Generated.CompressHttp.decompressCases =
      [(["=identity", "="], "ioutil.NopCloser(r)"), (["=gzip"], "gzip.NewReader(r)"),
       (["=x-snappy-framed"], "snappy.NewReader(r)"), (["default"], "nil / ErrUnacceptableEncoding")] ∧
    Generated.CompressHttp.setupCases.map (·.1) = Generated.CompressHttp.decompressCases.map (·.1) ∧
    (∀ c ∈ Generated.CompressHttp.decompressCases, ∀ l ∈ c.1, l.toList.head? = some '=' →
        (codingOf l.toList.tail).isSome = true) := ⟨rfl, rfl, by decide +kernel⟩

/-- the statuses: 415 for an unknown coding, 400 for any other decoding error, errors (≥ 300) are not
    compressed; the client falls back on 406 and (since the repair of F-chttp-415) on 415, with encodings in
    force only, and decodes answers below 300 -/
theorem generated_statuses_eq :
    Generated.CompressHttp.middlewareErrors =
      [("err == ErrUnacceptableEncoding", "http.StatusUnsupportedMediaType"), ("err != nil", "http.StatusBadRequest")] ∧
    Generated.CompressHttp.errorSkip = "status >= 300" ∧
    Generated.CompressHttp.clientFallback =
      "response != nil && encodings != \"\" && (response.StatusCode == http.StatusNotAcceptable || response.StatusCode == http.StatusUnsupportedMediaType)" ∧
    Generated.CompressHttp.clientBelow = "300" := ⟨rfl, rfl, rfl, rfl⟩

end Relic.Props.C09
