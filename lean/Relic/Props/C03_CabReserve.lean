/-
  C03 — CAB: the reserve sizes a standard reader uses to walk the folder headers and the CFDATA blocks.

  `Digest` writes the CFRESERVE header of the output from scratch: cbCFHeader = 20, cbCFFolder = 0, cbCFData = 0.  That is only
  right because a cabinet announcing a per-folder or per-datablock reserve is refused beforehand: the CFDATA blocks are copied
  as they are, reserve bytes included, and a reader strides over them with the cbCFData of the header.  The check walks the
  blocks of the real output independently (checklib/models/cab.py `walk`) and reports under `cab_payload_preserved`.
-/
import Relic.Props.C03_Cab
namespace Relic.Props.C03
open Relic Relic.Cab
open Relic.PE (u16 u32)

/-- **cab_reserve_sizes_refused.**  A cabinet with the reserve flag whose CFRESERVE announces a per-folder or a
    per-datablock reserve is refused ("unknown reserved data"): nothing is written. -/
theorem cab_reserve_sizes_refused (f : Bytes) (h40 : 40 ≤ f.length) (hm : u32 f 0 = 0x4643534d)
    (hflag : u16 f 30 / 4 % 2 = 1) (hres : u8 f 38 ≠ 0 ∨ u8 f 39 ≠ 0) : DigestCab f = .err "reserved" := by
  unfold DigestCab
  rw [if_neg (by omega), if_neg (by simp [hm])]
  simp only [hflag, if_true]
  have : readReserve f (u32 f 8) = .err "reserved" := by
    unfold readReserve
    rw [if_neg (by omega)]
    simp only
    rw [if_pos (by rcases hres with h | h <;> simp [h])]
  rw [this]

/-- **cab_block_stride_preserved.**  For every cabinet the digester accepts, the reserve sizes in the header it writes
    (bytes 38 and 39 of `Patched`: cbCFFolder, cbCFData = 0) are the ones of the input: zero when the input has a
    CFRESERVE header, absent (= zero) when it has none.  So a reader walks the folder headers and the data blocks of the
    signed file with the strides of the input. -/
theorem cab_block_stride_preserved (f : Bytes) (d : Digest) (e : DigestCab f = .ok d) :
    d.hdr.fsz = [0] ∧ d.hdr.dsz = [0] ∧ (u16 f 30 / 4 % 2 = 1 → u8 f 38 = 0 ∧ u8 f 39 = 0) := by
  obtain ⟨rv, hr, _, _, _, _, rfl⟩ := DigestCab_ok f d e
  refine ⟨rfl, rfl, fun hflag => ?_⟩
  rw [reserveOf, if_pos hflag] at hr
  obtain ⟨_, h38, h39, _⟩ := readReserve_ok f _ rv hr
  exact ⟨h38, h39⟩

/-- non-vacuous: the minimal cabinet of C08 is accepted; a 40-byte header with cbCFData = 4 is refused -/
example : C08.cabOk C08.minimalCab = true := C08.cab_facts.1

example : DigestCab ([0x4d, 0x53, 0x43, 0x46] ++ List.replicate 26 0 ++ [4, 0] ++ List.replicate 4 0 ++ [32, 0, 0, 4]) = .err "reserved" := by
  decide

end Relic.Props.C03
