/-
  C18 (fragment) — the comdoc writer, `Close` at table level: the fixed point of `allocSectorTables`.

  `Close` is modelled (`Relic.CfbW.close`: writeShortSAT, writeDirStream, allocSectorTables, header
  counts, truncation) and tied to the real code on every history, including what relic's READER finds
  after re-opening the written file.  Proved here: when `allocSectorTables` returns, the number of FAT
  sectors it lists equals the number of blocks of the FAT – so the reader, which sizes its table as
  `SATSectors * (SectorSize/4)`, finds a table of exactly the written length – and enough DIFAT sectors
  are listed; tables only grow.  That `allocSectorTables` returns is a hypothesis (`allocTables … = .ok …`;
  the model runs the loop on fuel), not a conclusion.  The sector contents `Close` writes are in the byte
  model `Relic.Model.CfbBytes`: `tables_roundtrip`, `fat_parses_back`, `difat_parses_back` in
  `Props/C18_Bytes` are these counts read back from the written sectors.  NOT proved: `close_counts_full`
  below, the same for the reader model `Relic.Cfb` run on the bytes the real code wrote.
-/
import Relic.Proofs.CfbWriter
import Relic.Model.Cfb
namespace Relic.Props.C18
open Relic.CfbW

theorem makeFree_one {spb : Nat} {sat : List Int} {x : Nat} {rest : List Nat} {sat1 : List Int}
    (h : makeFree spb sat 1 = .ok (x :: rest, sat1)) :
    x < sat1.length ∧ ∃ k, sat1.length = sat.length + k * spb := by
  have f := makeFree_spec h
  obtain ⟨k, hk⟩ := f.ext
  exact ⟨f.lt x List.mem_cons_self, k, by rw [hk]; simp⟩

theorem allocTables_counts (ss : Nat) : ∀ (fuel : Nat) (sat msat ml sat' msat' ml' : List Int),
    msat.length ≤ sat.length / (ss / 4) →
    allocTables ss fuel sat msat ml = .ok (sat', msat', ml') →
    msat'.length = sat'.length / (ss / 4) ∧ sat'.length % (ss / 4) = 0 ∧
    Int.tdiv ((msat'.length : Int) - 109 + ((ss / 4 - 1 : Nat) : Int) - 1) ((ss / 4 - 1 : Nat) : Int) ≤ (ml'.length : Int) ∧
    (∃ k, sat'.length = sat.length + k * (ss / 4)) ∧ (∃ m, msat' = msat ++ m) ∧ (∃ m, ml' = ml ++ m) := by
  intro fuel sat msat ml sat' msat' ml' hinv h
  revert hinv
  apply allocTables_induct ?_ ?_ ?_ fuel sat msat ml h
  · -- a new FAT sector: the FAT grows by `k` blocks, the list of its sectors by one
    intro sat msat ml x rest sat1 hspb _ hlt hm ih _
    obtain ⟨_, k, hk⟩ := makeFree_one hm
    have hdiv : (sat1.set x FATSECT).length / (ss / 4) = sat.length / (ss / 4) + k := by
      rw [List.length_set, hk, Nat.add_mul_div_right _ _ (Nat.pos_of_ne_zero hspb)]
    obtain ⟨r1, r2, r3, ⟨k', r4⟩, ⟨m, r5⟩, r6⟩ := ih (by rw [hdiv, List.length_append, List.length_singleton]; omega)
    refine ⟨r1, r2, r3, ⟨k + k', ?_⟩, ⟨(x : Int) :: m, by simp [r5]⟩, r6⟩
    rw [r4, List.length_set, hk, Nat.add_mul]; omega
  · intro sat msat ml x rest sat1 hspb _ hle _ hm ih hinv
    obtain ⟨_, k, hk⟩ := makeFree_one hm
    have hdiv : (sat1.set x DIFSECT).length / (ss / 4) = sat.length / (ss / 4) + k := by
      rw [List.length_set, hk, Nat.add_mul_div_right _ _ (Nat.pos_of_ne_zero hspb)]
    obtain ⟨r1, r2, r3, ⟨k', r4⟩, r5, ⟨m, r6⟩⟩ := ih (by rw [hdiv]; omega)
    refine ⟨r1, r2, r3, ⟨k + k', ?_⟩, r5, ⟨(x : Int) :: m, by simp [r6]⟩⟩
    rw [r4, List.length_set, hk, Nat.add_mul]; omega
  · intro sat msat ml _ hmod hle hneed e hinv
    cases e
    exact ⟨by omega, hmod, hneed, ⟨0, by simp⟩, ⟨[], by simp⟩, ⟨[], by simp⟩⟩

example : allocTables 16 20 [EOC, 0, FATSECT, FREE] [2] [] = .ok ([EOC, 0, FATSECT, FREE], [2], []) := by decide +kernel
example : allocTables 16 20 [EOC, 0, 1, 2, 3, 4, 5, 6] [] [] =
    .ok ([EOC, 0, 1, 2, 3, 4, 5, 6, FATSECT, FATSECT, FATSECT, FREE], [8, 9, 10], []) := by decide +kernel

/-- the statement against the byte-level reader (NOT proved; checked on every run: the tables relic's reader
    finds after re-opening the written file are compared with the model's tables after `close`) -/
def close_counts_full (written : St → Option Cfb.Buf) : Prop :=
  ∀ st st' b, close st = .ok st' → st.changed = true → written st' = some b →
    ∃ h, Cfb.readHeader b = .ok h ∧ h.numFatSectors = st'.msat.length ∧ h.numDifat = st'.msatList.length ∧
      h.numMiniFat = st'.ssatCount ∧ h.firstDir = (st'.dirStart.toNat) ∧ b.size = (st'.fileSectors + 1) * st'.a.ss

end Relic.Props.C18
