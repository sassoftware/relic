/-
  C02 — Any change to signed content or to the signature makes verification fail.   VSIX / OPC part (model `Relic.Model.Vsix`
  of signers/vsix `verify`, `readSignature`, `checkManifest`), for the verifier before (`fx = false`) and after (`fx = true`) the
  repairs of findings FV3 (unlisted parts) and FV4 (two members of one name).

  What stays unprotected, exactly (`vsix_verify_depends_only_on_lookups`): the verdict is a function of the members stored
  under the names in `lookups`, of whether some name occurs twice, and of which payload names occur.  Members whose names
  `keepFile` refuses and that the verifier does not look up (`[Content_Types].xml`: `vsix_content_types_unchecked`, listed FV5;
  foreign `*.rels` / `*.psdor` / `*.psdsxs` and anything below `package/services/digital-signature/`: listed FV6) and the
  order of the members are free.
-/
import Relic.Proofs.VsixCover
import Relic.Props.C01_Vsix
namespace Relic.Props.C02
open Relic.Vsix Relic.Props.C01

/-- the Manifest of a signed package lists exactly the kept parts of the input and three of the parts the signer adds
    (`_rels/.rels`, the origin's relationship part, the origin part) -/
theorem vsix_part_covered_iff (fx : Bool) (E : Env) (c : Cfg) (pkg : Pkg) (s : Vsix.Signed) (hs : Vsix.sign fx E c pkg = .ok s) (n : Bytes) :
    n ∈ s.refs.map (·.name) ↔
      (∃ p ∈ pkg, p.name = n ∧ keepFile n = true) ∨ n = relPath [] ∨ n = relPath sOrigin ∨ n = sOrigin :=
  refs_names_iff hs n

theorem verify_ok_inv (fx : Bool) (E : Env) (q : Pkg) (v : Verdict) (hv : Vsix.verify fx E q = .ok v) :
    (fx = true → (q.map (·.name)).Nodup) ∧
    ∃ sc o, readSignature E (findLast q) = .ok sc ∧ E.xopen sc.1 sc.2 = .ok o ∧
      checkRefs E (findLast q) (decodeManifest o.reference) = .ok v.checked ∧ o.ts = none ∧ v.hash = o.hash ∧ v.key = o.key ∧
      v.key ∈ sc.2 ++ o.embedded ∧ (fx = true → uncovered (q.map (·.name)) v.checked = false) :=
  verify_inv fx E q v hv

/-- **vsix_tamper_evident_partial** (before and after the repairs).  `s` = a signing of `pkg` whose part names survive the URI
    round trip; `q` = any package that `verify` accepts and whose signature part the XML layer opens to the Object of `s`
    (what the XML-DSig layer guarantees for a valid signature by the same key: `xml_tamper_evident_partial`).  If the digest
    comparison is collision-free on the streams involved, every part the Manifest covers is present in `q` and its last
    member of that name carries exactly the digested bytes. -/
theorem vsix_tamper_evident_partial (fx fx' : Bool) (E : Env) (c : Cfg) (pkg : Pkg) (s : Vsix.Signed) (q : Pkg) (v : Verdict)
    (hs : Vsix.sign fx E c pkg = .ok s) (hr : refsOk s.refs = true) (hv : Vsix.verify fx' E q = .ok v)
    (hobj : ∀ sc o, readSignature E (findLast q) = .ok sc → E.xopen sc.1 sc.2 = .ok o → o.reference = s.obj)
    (hcoll : ∀ a b, E.digestCmp c.hash a (E.dtext c.hash b) = .ok → a = b) :
    ∀ r ∈ s.refs, findLast q r.name = some ⟨r.name, r.stream⟩ := by
  obtain ⟨-, sc, o, h1, h2, h3, -⟩ := verify_ok_inv fx' E q v hv
  obtain ⟨-, -, hobjeq, -⟩ := sign_shape hs
  rw [hobj sc o h1 h2, hobjeq, decodeManifest_objectNode] at h3
  intro r hrm
  obtain ⟨f, h, hf, hh, hd, -⟩ := checkRefs_ok_inv E _ _ _ h3 (refInfoOf E c.hash r) (List.mem_map_of_mem hrm)
  rw [refsOk_iff] at hr
  simp only [refInfoOf, hr r hrm, hashOfName_hashUri, Option.some.injEq] at hf hh hd
  subst hh
  have hdata := hcoll _ _ hd
  obtain ⟨-, hname⟩ := findLast_some hf
  rw [hf]
  cases f
  simp only at hname hdata
  rw [hname, hdata]

/-- **vsix_accept_covers_all** (repaired verifier).  An accepted package has no two members of one name, and every member whose
    name `keepFile` keeps — everything that is not relationship / origin / signature / content-types metadata — is named by a
    Reference whose digest was recomputed. -/
theorem vsix_accept_covers_all (E : Env) (q : Pkg) (v : Verdict) (hv : Vsix.verify true E q = .ok v) :
    (q.map (·.name)).Nodup ∧ ∀ p ∈ q, keepFile p.name = true → p.name ∈ v.checked.map (·.1) := by
  obtain ⟨hnd, sc, o, -, -, -, -, -, -, -, hunc⟩ := verify_ok_inv true E q v hv
  exact ⟨hnd rfl, fun p hp hk => uncovered_false_iff.mp (hunc rfl) p.name (List.mem_map_of_mem hp) hk⟩

/-- **vsix_tamper_evident** (repaired signer and verifier).  `s` = a signing of `pkg`; `q` = any package `verify` accepts whose
    signature part opens to the Object of `s`; digest comparison collision-free.  Then the payload members of `q` are exactly
    the payload members that were signed, byte for byte (`p ∈ q ∧ keepFile p.name ↔ p ∈ s.kept`), no name occurs twice in
    `q`, and the three covered parts the signer added are unchanged.  Not covered: the order of the members, and members
    whose names `keepFile` refuses other than those three (`vsix_verify_depends_only_on_lookups`). -/
theorem vsix_tamper_evident (E : Env) (c : Cfg) (pkg : Pkg) (s : Vsix.Signed) (q : Pkg) (v : Verdict)
    (hs : Vsix.sign true E c pkg = .ok s) (hc : cfgOk c = true) (hv : Vsix.verify true E q = .ok v)
    (hobj : ∀ sc o, readSignature E (findLast q) = .ok sc → E.xopen sc.1 sc.2 = .ok o → o.reference = s.obj)
    (hcoll : ∀ a b, E.digestCmp c.hash a (E.dtext c.hash b) = .ok → a = b) :
    (q.map (·.name)).Nodup ∧ (∀ p, (p ∈ q ∧ keepFile p.name = true) ↔ p ∈ s.kept) ∧
    (∀ r ∈ s.refs, findLast q r.name = some ⟨r.name, r.stream⟩) := by
  have F := cfgFacts_of_cfgOk hc
  obtain ⟨hrok, hkn⟩ := sign_true_refsOk_nodup hs
  have hpart := vsix_tamper_evident_partial true true E c pkg s q v hs hrok hv hobj hcoll
  obtain ⟨hnd, hcov⟩ := vsix_accept_covers_all E q v hv
  obtain ⟨-, sc, o, h1, h2, h3, -⟩ := verify_ok_inv true E q v hv
  obtain ⟨hkept, hparts, hobjeq, -⟩ := sign_shape hs
  have hnames := checkRefs_names E _ _ _ h3
  rw [hobj sc o h1 h2, hobjeq, decodeManifest_objectNode] at hnames
  have hres := refs_resolve true E c pkg s F hs
  rw [refsOk_iff] at hrok
  refine ⟨hnd, ?_, hpart⟩
  intro p
  constructor
  · rintro ⟨hp, hkeep⟩
    have hin := hcov p hp hkeep
    rw [hnames] at hin
    simp only [refLookups, List.map_map, List.mem_map, Function.comp] at hin
    obtain ⟨r, hr, hrn⟩ := hin
    simp only [refInfoOf] at hrn
    rw [hrok r hr] at hrn
    have h1' := hpart r hr
    have h2' := findLast_of_nodup hnd hp
    rw [← hrn, h1'] at h2'
    simp only [Option.some.injEq] at h2'
    -- the signed package holds that very part among its kept members
    have h3' := hres r hr
    rw [hparts] at h3'
    obtain ⟨hmem, -⟩ := findLast_some h3'
    rw [hkept, ← h2']
    rcases List.mem_append.mp hmem with h | h
    · exact h
    · have := F.notKept_news h
      rw [← hrn, this] at hkeep
      cases hkeep
  · intro hp
    rw [hkept] at hp
    have hkeep := keptOf_keep hp
    refine ⟨?_, hkeep⟩
    have hpk : p ∈ pkg := by simp only [keptOf, List.mem_filter] at hp; exact hp.1
    have hin := (refs_names_iff hs p.name).mpr (Or.inl ⟨p, hpk, rfl, hkeep⟩)
    obtain ⟨r, hr, hrn⟩ := List.mem_map.mp hin
    have h1' := hres r hr
    have h4 : findLast s.parts r.name = some p := by
      rw [hparts, hrn, look_kept F _ hkeep, findLast_of_nodup hkn hp]
    rw [h1'] at h4
    simp only [Option.some.injEq] at h4
    have h2' := hpart r hr
    rw [h4] at h2'
    exact (findLast_some h2').1

/-- the statement one would want: an accepted package is the signed package -/
def vsix_tamper_evident_full : Prop :=
  ∀ (E : Env) (c : Cfg) (pkg : Pkg) (s : Vsix.Signed) (pk : Bytes) (q : Pkg) (v : Verdict), Vsix.sign true E c pkg = .ok s → cfgOk c = true →
    VsixSound E c s.obj pk → Vsix.verify true E q = .ok v → q = s.parts

theorem mem_names_iff (q : Pkg) (n : Bytes) : n ∈ q.map (·.name) ↔ findLast q n ≠ none :=
  Vsix.mem_names_iff q n

/-- **vsix_verify_depends_only_on_lookups.** The verdict — whatever it is — depends on the package only through the members
    stored under the names in `lookups` (relationship chain, signature part, certificate parts, one name per Reference)
    and, for the repaired verifier, through whether some name occurs twice and which payload names occur. -/
theorem vsix_verify_depends_only_on_lookups (fx : Bool) (E : Env) (q q' : Pkg)
    (h : ∀ n ∈ lookups E (findLast q), findLast q' n = findLast q n)
    (hd : fx = true → hasDup q' = hasDup q)
    (hn : fx = true → ∀ n, keepFile n = true → (n ∈ q'.map (·.name) ↔ n ∈ q.map (·.name))) :
    Vsix.verify fx E q' = Vsix.verify fx E q := by
  unfold Vsix.verify
  cases fx with
  | false => simp only [Bool.false_and, Bool.false_eq_true, if_false]; exact verifyF_congr false E h (fun h => nomatch h)
  | true =>
    rw [hd rfl]
    split
    · rfl
    · exact verifyF_congr true E h hn

theorem findLast_insert_other (q1 q2 : Pkg) (p : Part) (n : Bytes) (h : n ≠ p.name) :
    findLast (q1 ++ p :: q2) n = findLast (q1 ++ q2) n := by
  rw [findLast_append, findLast_append]
  have : findLast (p :: q2) n = findLast q2 n := by
    simp only [findLast]
    cases findLast q2 n with
    | some x => rfl
    | none => simp [show ¬ p.name = n from fun e => h e.symm]
  rw [this]

/-- **vsix_unlisted_part_accepted** (finding FV3; verifier before the repair).  A part inserted anywhere under a name the verifier
    does not look up leaves the verdict unchanged — an accepted package stays accepted with any number of added parts. -/
theorem vsix_unlisted_part_accepted (E : Env) (q1 q2 : Pkg) (p : Part) (h : p.name ∉ lookups E (findLast (q1 ++ q2))) :
    Vsix.verify false E (q1 ++ p :: q2) = Vsix.verify false E (q1 ++ q2) :=
  vsix_verify_depends_only_on_lookups false E _ _ (fun n hn => findLast_insert_other q1 q2 p n (fun e => h (e ▸ hn)))
    (fun h => nomatch h) (fun h => nomatch h)

/-- **vsix_shadowed_member_accepted** (finding FV4; verifier before the repair).  A member inserted *before* a member of the same
    name is never seen: `files[f.Name] = f` keeps the last one. -/
theorem vsix_shadowed_member_accepted (E : Env) (q1 q2 : Pkg) (p : Part) (h : findLast q2 p.name ≠ none) :
    Vsix.verify false E (q1 ++ p :: q2) = Vsix.verify false E (q1 ++ q2) := by
  unfold Vsix.verify
  simp only [Bool.false_and, Bool.false_eq_true, if_false]
  have : findLast (q1 ++ p :: q2) = findLast (q1 ++ q2) := by
    funext n
    rw [findLast_append, findLast_append, findLast_cons_shadow p q2 h]
  rw [this]
  exact verifyF_congr false E (fun _ _ => rfl) (fun h => nomatch h)

/-- **vsix_shadowed_member_rejected** (repaired verifier).  A package holding two members of one name — wherever they are — is
    rejected. -/
theorem vsix_shadowed_member_rejected (E : Env) (q1 q2 : Pkg) (p : Part) (h : ∃ x ∈ q1 ++ q2, x.name = p.name) :
    Vsix.verify true E (q1 ++ p :: q2) = .err "duplicate" := by
  have hd : hasDup (q1 ++ p :: q2) = true := by
    simp only [hasDup, Bool.not_eq_true', decide_eq_false_iff_not]
    intro hnd
    obtain ⟨x, hx, hxn⟩ := h
    exact (List.nodup_cons.mp (((List.perm_middle.map _).nodup_iff).mp hnd)).1 (hxn ▸ List.mem_map_of_mem hx)
  simp [Vsix.verify, hd]

/-- **vsix_unlisted_part_rejected** (repaired verifier).  A payload part (a name `keepFile` keeps) inserted anywhere into an
    accepted package under a name that is neither a member name nor looked up is rejected: "part is not covered by the
    signature". -/
theorem vsix_unlisted_part_rejected (E : Env) (q1 q2 : Pkg) (p : Part) (v : Verdict) (hv : Vsix.verify true E (q1 ++ q2) = .ok v)
    (hk : keepFile p.name = true) (hfresh : p.name ∉ (q1 ++ q2).map (·.name)) (h : p.name ∉ lookups E (findLast (q1 ++ q2))) :
    Vsix.verify true E (q1 ++ p :: q2) = .err "uncovered" := by
  obtain ⟨hnd, sc, o, h1, h2, h3, -, -, -, -, -⟩ := verify_ok_inv true E _ v hv
  have hnd' : ((q1 ++ p :: q2).map (·.name)).Nodup :=
    ((List.perm_middle.map _).nodup_iff).mpr (List.nodup_cons.mpr ⟨hfresh, hnd rfl⟩)
  have hcore := verifyCore_congr E (files := findLast (q1 ++ q2)) (files' := findLast (q1 ++ p :: q2))
    (fun n hn => findLast_insert_other q1 q2 p n (fun e => h (e ▸ hn)))
  have hc0 : verifyCore E (findLast (q1 ++ q2)) = .ok (sc, o, v.checked) := by
    unfold verifyCore
    simp only [h1, h2, h3]
  have hnot : p.name ∉ v.checked.map (·.1) := by
    rw [checkRefs_names E _ _ _ h3]
    intro hm
    exact h (by simp [lookups, manifestLookups, h1, h2, hm])
  have hunc : uncovered ((q1 ++ p :: q2).map (·.name)) v.checked = true := uncovered_iff.mpr ⟨p.name, by simp, hk, hnot⟩
  have hdup : hasDup (q1 ++ p :: q2) = false := (hasDup_false_iff _).mpr hnd'
  unfold Vsix.verify verifyF
  simp only [hdup, Bool.and_false, Bool.false_eq_true, if_false, hcore, hc0, Bool.true_and, hunc, if_true]

theorem certLookups_certRels : ∀ {xs : List (Bytes × Bytes)} {tail : List Rel}, CertRels xs tail →
    certLookups tail = xs.map fun x => cleanRel (pathClean (47 :: certPath x.1))
  | _, _, .nil => rfl
  | _, _, .cons hr ht => by simp [certLookups, hr.1, hr.2, certLookups_certRels ht]

/-- `lookups` on a package relic signed: the four names of the relationship chain, the certificate parts with `--detach-certs`, and
    one name per Reference -/
theorem lookups_signed (fx : Bool) (E : Env) (c : Cfg) (pkg : Pkg) (s : Vsix.Signed) (pk : Bytes)
    (hs : Vsix.sign fx E c pkg = .ok s) (hc : cfgOk c = true) (S : VsixSound E c s.obj pk) :
    ∀ n ∈ lookups E (findLast s.parts),
      n ∈ [relPath [], relPath sOrigin, sigName c, relPath (sigName c)] ∨ (c.detach = true ∧ n ∈ c.chain.map (fun x => certPath x.1)) ∨
      n ∈ s.refs.map (fun r => uriPath r.uri) := by
  have F := cfgFacts_of_cfgOk hc
  obtain ⟨-, hparts, hobj, -⟩ := sign_shape hs
  obtain ⟨emb, hx, -⟩ := S.xml
  have hrs := readSignature_signed E c pkg s.obj s.ctOut pk F S
  rw [hparts]
  have r1 : relsOrNil E (findLast (keptOf pkg ++ newsOf E c s.obj s.ctOut)) (relPath []) = appendRel E [] sOrigin sigOriginType := by
    simp [relsOrNil, parseRelsAt, readZip, files_top F, S.relsTop]
  have r2 : relsOrNil E (findLast (keptOf pkg ++ newsOf E c s.obj s.ctOut)) (relPath sOrigin) = appendRel E [] (sigName c) sigType := by
    simp [relsOrNil, parseRelsAt, readZip, files_originRels F, S.relsOrigin]
  have hsl : sigLookups E (findLast (keptOf pkg ++ newsOf E c s.obj s.ctOut)) =
      [relPath [], relPath sOrigin, sigName c, relPath (sigName c)] ++
        certLookups (relsOrNil E (findLast (keptOf pkg ++ newsOf E c s.obj s.ctOut)) (relPath (sigName c))) := by
    unfold sigLookups
    rw [r1, find_origin]
    simp only
    rw [r2, find_sig F]
    rfl
  have hrl : manifestLookups E (findLast (keptOf pkg ++ newsOf E c s.obj s.ctOut)) = s.refs.map (fun r => uriPath r.uri) := by
    unfold manifestLookups
    rw [hrs]
    simp only
    rw [hx]
    simp only
    rw [hobj, decodeManifest_objectNode]
    simp [refLookups, refInfoOf, Function.comp_def]
  intro n hn
  unfold lookups at hn
  rw [hsl, hrl, List.mem_append, List.mem_append] at hn
  rcases hn with (h | h) | h
  · exact Or.inl h
  · cases hd : c.detach with
    | false =>
      have : findLast (keptOf pkg ++ newsOf E c s.obj s.ctOut) (relPath (sigName c)) = none :=
        look_absent F.sigRelsNotKept (F.sigRelsAbsent hd)
      simp [relsOrNil, parseRelsAt, readZip, this, certLookups] at h
    | true =>
      have r3 : relsOrNil E (findLast (keptOf pkg ++ newsOf E c s.obj s.ctOut)) (relPath (sigName c)) = certRels E c.chain [] := by
        simp [relsOrNil, parseRelsAt, readZip, files_sigRels F _ _ _ _ hd, S.relsCerts hd]
      obtain ⟨tail, ht, hf⟩ := certRels_append E c.chain []
      simp only [List.nil_append] at ht
      rw [r3, ht, certLookups_certRels hf, List.mem_map] at h
      obtain ⟨x, hx', rfl⟩ := h
      have hmem : certPath x.1 ∈ c.chain.map (fun x => certPath x.1) := List.mem_map.mpr ⟨x, hx', rfl⟩
      rw [F.certBack x hx']
      exact Or.inr (Or.inl ⟨rfl, hmem⟩)
  · exact Or.inr (Or.inr h)

/-- **vsix_content_types_unchecked** (finding FV5, listed).  In a package relic signed, the verifier — before and after the
    repairs — never opens `[Content_Types].xml`: every package that differs from the signed one only under that name (the part
    replaced by anything, or removed; for the repaired verifier: without doubling a name) gets the same verdict, i.e. is
    accepted.  The content type inside each Reference URI is not compared with anything. -/
theorem vsix_content_types_unchecked (fx : Bool) (E : Env) (c : Cfg) (pkg : Pkg) (s : Vsix.Signed) (pk : Bytes) (q' : Pkg)
    (hs : Vsix.sign fx E c pkg = .ok s) (hc : cfgOk c = true) (hr : refsOk s.refs = true) (S : VsixSound E c s.obj pk)
    (hnd : fx = true → ((keptOf pkg).map (·.name)).Nodup)
    (h : ∀ n, n ≠ sContentTypes → findLast q' n = findLast s.parts n) (hq : fx = true → (q'.map (·.name)).Nodup) :
    Vsix.verify fx E q' = .ok ⟨c.hash, pk, s.refs.map fun r => (r.name, r.stream)⟩ := by
  have hgood := vsix_sign_then_verify_guarded fx E c pkg s pk hs hc hr S hnd
  rw [← hgood]
  apply vsix_verify_depends_only_on_lookups fx E
  rotate_left
  · intro hfx
    subst hfx
    rw [(hasDup_false_iff _).mpr (hq rfl), (hasDup_false_iff _).mpr ((verify_ok_inv true E _ _ hgood).1 rfl)]
  · intro _ n hk
    have hne : n ≠ sContentTypes := fun e => by rw [e, keepFile_ctypes] at hk; cases hk
    rw [mem_names_iff, mem_names_iff, h n hne]
  intro n hn
  apply h
  intro hne
  subst hne
  have F := cfgFacts_of_cfgOk hc
  have hct : sContentTypes ∈ newNames c := by simp [newNames]
  have hnk := F.notKept _ hct
  -- `[Content_Types].xml` is the last of the signer's names, which are pairwise different
  have hsplit : newNames c = ([relPath [], relPath sOrigin, sOrigin] ++
      (if c.detach then c.chain.map (fun x => certPath x.1) ++ [relPath (sigName c)] else []) ++ [sigName c]) ++ [sContentTypes] := by
    simp [newNames]
  have hfront : sContentTypes ∉ [relPath [], relPath sOrigin, sOrigin] ++
      (if c.detach then c.chain.map (fun x => certPath x.1) ++ [relPath (sigName c)] else []) ++ [sigName c] := by
    have hnd := F.nodup
    rw [hsplit, List.nodup_append] at hnd
    intro hmem
    exact hnd.2.2 _ hmem _ List.mem_cons_self rfl
  rcases lookups_signed fx E c pkg s pk hs hc S _ hn with h1 | ⟨hd, h2⟩ | h3
  · simp only [List.mem_cons, List.not_mem_nil, or_false] at h1
    rcases h1 with h1 | h1 | h1 | h1
    · exact hfront (by rw [h1]; simp)
    · exact hfront (by rw [h1]; simp)
    · exact hfront (by rw [h1]; simp)
    · cases hd : c.detach with
      | false => exact F.sigRelsAbsent hd (h1 ▸ hct)
      | true => exact hfront (by rw [h1, hd]; simp)
  · exact hfront (by
      rw [hd]
      simp only [if_true, List.mem_append]
      exact Or.inl (Or.inr (Or.inl h2)))
  · rw [refsOk_iff] at hr
    obtain ⟨r, hrm, hre⟩ := List.mem_map.mp h3
    rw [hr r hrm] at hre
    have hcov := (vsix_part_covered_iff fx E c pkg s hs r.name).mp (List.mem_map_of_mem (f := (·.name)) hrm)
    rw [hre] at hcov
    rcases hcov with ⟨p, -, -, hk⟩ | h' | h' | h'
    · rw [hnk] at hk; cases hk
    · exact hfront (by rw [h']; simp)
    · exact hfront (by rw [h']; simp)
    · exact hfront (by rw [h']; simp)

theorem demoObj_eq (fx : Bool) : demoObj (demoCfg false) demoPkg = (demoSigned fx (demoCfg false) demoPkg).obj :=
  demoObj_signed fx false

/-- "a.txt" -/
def aTxt : Bytes := [0x61, 0x2e, 0x74, 0x78, 0x74]

/-- "evil.dll" -/
def evilDll : Bytes := [0x65, 0x76, 0x69, 0x6c, 0x2e, 0x64, 0x6c, 0x6c]

/-- the signed demo package with `evil.dll` appended, `a.txt` shadowed by a member in front, and `[Content_Types].xml`
    replaced by one byte -/
def tamperedDemo : Pkg :=
  (⟨aTxt, [0x66, 0x66]⟩ :: ((demoSigned false (demoCfg false) demoPkg).parts.filter fun p => p.name ≠ sContentTypes)) ++
    [⟨evilDll, [0x4d, 0x5a]⟩, ⟨sContentTypes, [0]⟩]

/-- before the repairs: accepted, with the same four digests recomputed -/
theorem vsix_gaps_witness :
    Vsix.verify false (demoE (demoCfg false) demoPkg) tamperedDemo =
      Vsix.verify false (demoE (demoCfg false) demoPkg) (demoSigned false (demoCfg false) demoPkg).parts ∧
    (Vsix.verify false (demoE (demoCfg false) demoPkg) tamperedDemo).isOk = true ∧ tamperedDemo ≠ (demoSigned false (demoCfg false) demoPkg).parts := by
  have h : Vsix.verify false (demoE (demoCfg false) demoPkg) tamperedDemo =
        .ok ⟨.sha256, [7], (demoSigned false (demoCfg false) demoPkg).refs.map fun r => (r.name, r.stream)⟩ ∧
      tamperedDemo ≠ (demoSigned false (demoCfg false) demoPkg).parts ∧
      refsOk (demoSigned false (demoCfg false) demoPkg).refs = true := by
    decide +kernel
  have h2 := vsix_sign_then_verify_guarded false _ (demoCfg false) demoPkg _ [7] (demo_signed false false)
    (demo_facts false false).2 h.2.2 (demo_sound false false) (fun h => nomatch h)
  exact ⟨h.1.trans h2.symm, by rw [h.1]; rfl, h.2.1⟩

/-- after the repairs: the shadowing member alone, and the added part alone, are rejected -/
theorem vsix_repaired_witness :
    Vsix.verify true (demoE (demoCfg false) demoPkg) (⟨aTxt, [0x66, 0x66]⟩ :: (demoSigned true (demoCfg false) demoPkg).parts) = .err "duplicate" ∧
    Vsix.verify true (demoE (demoCfg false) demoPkg) ((demoSigned true (demoCfg false) demoPkg).parts ++ [⟨evilDll, [0x4d, 0x5a]⟩]) = .err "uncovered" ∧
    Vsix.verify true (demoE (demoCfg false) demoPkg) tamperedDemo = .err "duplicate" := by
  decide +kernel

/-- what the repaired verifier still accepts: `[Content_Types].xml` replaced (FV5), a part added under a name `keepFile` refuses
    (`package/services/digital-signature/evil.dll`, FV6), the members in another order -/
def residualDemo : Pkg :=
  ((demoSigned true (demoCfg false) demoPkg).parts.filter fun p => p.name ≠ sContentTypes).reverse ++
    [⟨sDigSigSlash ++ evilDll, [0x4d, 0x5a]⟩, ⟨sContentTypes, [0]⟩]

theorem vsix_residual_witness :
    Vsix.verify true (demoE (demoCfg false) demoPkg) residualDemo =
      Vsix.verify true (demoE (demoCfg false) demoPkg) (demoSigned true (demoCfg false) demoPkg).parts ∧
    (Vsix.verify true (demoE (demoCfg false) demoPkg) residualDemo).isOk = true ∧ residualDemo ≠ (demoSigned true (demoCfg false) demoPkg).parts := by
  -- one evaluation of the verifier, on `residualDemo`; its verdict on the signed package is C01
  have h : Vsix.verify true (demoE (demoCfg false) demoPkg) residualDemo =
        .ok ⟨.sha256, [7], (demoSigned true (demoCfg false) demoPkg).refs.map fun r => (r.name, r.stream)⟩ ∧
      residualDemo ≠ (demoSigned true (demoCfg false) demoPkg).parts := by
    decide +kernel
  have h2 := vsix_sign_then_verify _ (demoCfg false) demoPkg _ [7] (demo_signed true false) (demo_facts true false).2
    (demo_sound true false)
  exact ⟨h.1.trans h2.symm, by rw [h.1]; rfl, h.2⟩

theorem vsix_tamper_evident_full_false : ¬ vsix_tamper_evident_full := by
  intro h
  cases hv : Vsix.verify true (demoE (demoCfg false) demoPkg) residualDemo with
  | ok v =>
    exact vsix_residual_witness.2.2 (h _ _ _ _ [7] _ v (demo_signed true false) (demo_facts true false).2 (demo_sound true false) hv)
  | _ => have := vsix_residual_witness.2.1; rw [hv] at this; cases this

/-- a changed payload byte is noticed: `a.txt` of the signed demo package with one other byte -/
example : Vsix.verify true (demoE (demoCfg false) demoPkg)
    ((demoSigned true (demoCfg false) demoPkg).parts.map fun p => if p.name = aTxt then ⟨p.name, [1, 3]⟩ else p) =
    .err "digest-mismatch" := by decide +kernel

/-- the hypotheses of `vsix_tamper_evident` are satisfiable (the toy digest is the identity, hence collision-free) -/
example : ∀ p, (p ∈ (demoSigned true (demoCfg false) demoPkg).parts ∧ keepFile p.name = true) ↔ p ∈ (demoSigned true (demoCfg false) demoPkg).kept := by
  have hs := demo_signed true false
  have hc := (demo_facts true false).2
  have hv := vsix_sign_then_verify _ (demoCfg false) demoPkg _ [7] hs hc (demo_sound true false)
  refine (vsix_tamper_evident _ (demoCfg false) demoPkg _ _ _ hs hc hv ?_ ?_).2.1
  · intro sc o h1 h2
    have hrs := readSignature_signed (demoE (demoCfg false) demoPkg) (demoCfg false) demoPkg (demoSigned true (demoCfg false) demoPkg).obj
      (demoSigned true (demoCfg false) demoPkg).ctOut [7] (cfgFacts_of_cfgOk hc) (demo_sound true false)
    rw [(sign_shape hs).2.1, hrs] at h1
    cases h1
    simp only [demoE, demoEnv] at h2
    simp at h2
    rw [← h2]
    exact demoObj_eq true
  · intro a b h
    simp only [demoE, demoEnv] at h
    by_cases hab : b = a
    · exact hab.symm
    · simp [hab] at h

end Relic.Props.C02
