/-
  C08 — Re-signing relic's own output.   XML-DSig part: `Sign` first removes every child of the parent whose tag is
  `Signature` (`RemoveElements`), so signing an already signed tree gives exactly what signing the unsigned tree gives,
  and exactly one Signature child afterwards.
-/
import Relic.Props.C01_XmlSig
namespace Relic.Props.C08
open Relic.Xml Relic.XmlSig

/-- After `RemoveElements(parent, tag)` no child with that tag remains, every other child
    is kept, in the original order: the result is the largest sublist of the children without such an element. -/
theorem removeElements_removes_all (tag : Bytes) (ks : List Node) :
    (∀ k ∈ removeElements tag ks, isElemTag tag k = false) ∧
    (∀ k ∈ ks, isElemTag tag k = false → k ∈ removeElements tag ks) ∧
    (removeElements tag ks).Sublist ks ∧
    (∀ l : List Node, l.Sublist ks → (∀ k ∈ l, isElemTag tag k = false) → l.Sublist (removeElements tag ks)) := by
  refine ⟨removeElements_none tag ks, ?_, List.filter_sublist, ?_⟩
  · intro k hk ht
    simp [removeElements, List.mem_filter, hk, ht]
  · intro l hl hnone
    have h1 : l.filter (fun n => !isElemTag tag n) = l := by
      apply List.filter_eq_self.mpr
      intro k hk
      simp [hnone k hk]
    rw [← h1]
    exact hl.filter _

/-- two adjacent Signature children and one more at the end (the shape on which a removal loop that always advances
    its index leaves one behind) -/
example : removeElements sSignature [el sSignature [] [], el sSignature [] [], txt [1], el [98] [] [], el sSignature [] []] =
    [txt [1], el [98] [] []] := by simp +decide [removeElements, el, txt, isElemTag]

theorem isSig_signatureNode (S : Scheme) (o : SignOptions) (si : Node) (sv : Bytes) :
    isElemTag sSignature (signatureNode S o si sv) = true := by
  simp [signatureNode, el, isElemTag]

/-- Signing (with any hash, key type, options) the tree a previous `Sign` returned gives exactly
    what signing the original tree gives: the old Signature is removed before digesting, the reference stream is the
    same, and the parent ends up with exactly one Signature child. -/
theorem xml_resign_replaces (S : Scheme) (ctx0 : List (List Attr)) (sp tag : Bytes) (as : List Attr) (ks : List Node)
    (h h2 : HashId) (kt kt2 : KeyType) (o o2 : SignOptions) :
    sign S ctx0 (sign S ctx0 (.elem sp tag as ks) [] h kt o).out [] h2 kt2 o2 = sign S ctx0 (.elem sp tag as ks) [] h2 kt2 o2 ∧
    ((kidsOf (sign S ctx0 (.elem sp tag as ks) [] h kt o).out).filter (isElemTag sSignature)).length = 1 := by
  constructor
  · simp only [sign, mapKidsAt, removeElements_append, removeElements_idem]
    have : ∀ n, isElemTag sSignature n = true → removeElements sSignature [n] = [] := by
      intro n hn
      simp [removeElements, hn]
    rw [this _ (isSig_signatureNode S o _ _), List.append_nil]
  · simp only [sign, mapKidsAt, kidsOf, List.filter_append]
    have h0 : (removeElements sSignature ks).filter (isElemTag sSignature) = [] := by
      apply List.filter_eq_nil_iff.mpr
      intro k hk
      simp [removeElements_none sSignature ks k hk]
    rw [h0]
    simp [List.filter, isSig_signatureNode]

/-- an input already carrying two adjacent stale Signature children: both are gone, one fresh one is appended -/
example (S : Scheme) : ((kidsOf (sign S [] (el [97] [] [el sSignature [] [], el sSignature [] [], txt [1]]) [] .sha256 .rsa
    ⟨false, false, false, true⟩).out).filter (isElemTag sSignature)).length = 1 :=
  (xml_resign_replaces S [] [] [97] [] _ .sha256 .sha256 .rsa .rsa _ ⟨false, false, false, true⟩).2

end Relic.Props.C08
