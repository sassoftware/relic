/-
  C03 — Signing never corrupts or alters the payload.   PowerShell part (model `Relic.Model.PS`, code after fixes F8 and
  F-ps-eol; whether `TextSize` itself is right in front of an existing block: C03_PSEol.lean).
-/
import Relic.Props.C08_PS
namespace Relic.Props.C03
open Relic Relic.PS

/-- **ps_payload_preserved.** In the file `Sign → Apply` writes, the script text – every byte of the input up to
    `TextSize` – is where it was; it is followed by exactly the signature block for the blob, and nothing else.  For an
    unsigned input `TextSize` is the whole file. -/
theorem ps_payload_preserved (f : Bytes) (style : Nat) (d : Digest) (st en sig : Bytes) (e : DigestPS f style = .ok d) :
    let g := signedBytes f d st en sig
    g.take d.textSize = f.take d.textSize ∧ g.drop d.textSize = block st en d.utf16 sig ∧
    d.textSize + d.sigSize = f.length ∧ (d.sigSize = 0 → f.take d.textSize = f) := by
  have H := DigestPS_spec f style d e
  have hz := H.sizes
  have lt : (f.take d.textSize).length = d.textSize := by simp [List.length_take]; omega
  refine ⟨signedBytes_take f style d st en sig H, ?_, hz, ?_⟩
  · show (f.take d.textSize ++ _).drop d.textSize = _
    rw [List.drop_append_of_le_length (by omega), List.drop_eq_nil_of_le (by omega)]; simp
  · intro h0
    exact List.take_of_length_le (by omega)

/-- **ps_refusal_is_clean.** When the digest refuses a script no patch exists, so nothing is written. -/
theorem ps_refusal_is_clean (f sig : Bytes) (style : Nat) (h : (DigestPS f style).isOk = false) :
    (C08.psSignRound style f sig).isOk = false := by
  unfold C08.psSignRound
  cases hd : DigestPS f style with
  | ok d => simp [hd, Res.isOk] at h
  | err _ => rfl
  | panic _ => rfl
  | diverge => rfl

/-- **ps_digest_no_panic** (C11 fact, code after fix F8b). `DigestPowershell` never panics; before the fix it did
    (`C01.ps_orig_marker_first_panics`). -/
theorem ps_digest_no_panic (f : Bytes) (style : Nat) (s : String) : DigestPS f style ≠ .panic s :=
  DigestPS_ne_crash f style (.panic s)

/-- the patch handed to `binpatch` is constructible, so C12's exactness theorems apply to it -/
theorem ps_patch_constructible (f : Bytes) (style : Nat) (d : Digest) (sig : Bytes) (ps : List Binpatch.Patch) (st en : Bytes)
    (e : DigestPS f style = .ok d) (hs : styleOf style = some (st, en)) (hm : makePatch d sig = .ok ps) :
    C12.Constructible f.length ps :=
  (sem_makePatch f style d sig ps st en (DigestPS_spec f style d e) hs hm).2

set_option maxRecDepth 1000000 in
example : C08.chainOk C08.scriptText 2 [1, 2, 3, 4] [9] = true := C08.chain_facts.2.1

end Relic.Props.C03
