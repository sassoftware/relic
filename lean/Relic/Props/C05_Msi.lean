/-
  C05 fragment — MSI: the byte stream relic feeds to the hash (`hashMsiDir`, `prehashMsiDir`, `DigestMSI`;
  model `Relic.Model.MsiDigest`) is what the specification prescribes (`Relic.Spec.MsiDigest`, transcribed
  from osslsigncode 2.x `msi.c`: `dirent_cmp_hash`, `msi_hash_dir`, `msi_prehash_dir`).
-/
import Relic.Proofs.MsiTree
namespace Relic.Props.C05
open Relic.MsiDigest

/-- **msi_order_eq_spec.** For every directory tree in which, in each storage, the children's name fields are
    well formed and their names pairwise distinct (since the repair of Fmsi-tar entries below the root may carry the
    signature names: an embedded signed package; the original walk skipped them, `C18.tar_differs_nested_signature_name`),
    relic's walk neither panics nor fails, and the bytes it feeds to the hash are exactly the specification's: children
    in `dirent_cmp_hash` order, signature streams of the root left out, sub-storages recursively, each storage's CLSID
    after its children. -/
theorem msi_order_eq_spec (root : Node) (h : Node.okAt true root) :
    hashMsiDir root = .ok (Spec.MsiDigest.hashInput root) :=
  hashMsiDir_eq root h

/-- **msi_prehash_eq_spec.** Same for the MsiDigitalSignatureEx pre-hash (names without terminator, CLSID or
    size, state bits, the two times; the root without name and times), root entry of type 5. -/
theorem msi_prehash_eq_spec (root : Node) (h : Node.okAt true root) (hr : root.meta.typ = typRoot) :
    prehashMsiDir root = .ok (Spec.MsiDigest.prehashInput root) :=
  prehashMsiDir_eq root h hr

/-- **msi_digest_eq_spec.** `DigestMSI`, plain and extended, for any hash function `H`. -/
theorem msi_digest_eq_spec (H : Bytes → Bytes) (root : Node) (ext : Bool) (h : Node.okAt true root)
    (hr : root.meta.typ = typRoot) :
    digestMSI H root ext = .ok (Spec.MsiDigest.digestInput H root ext) := by
  unfold digestMSI Spec.MsiDigest.digestInput
  rw [hashMsiDir_eq root h, prehashMsiDir_eq root h hr]
  cases ext <;> rfl

/-- **msi_cmp_eq_spec.** On two well-formed, different names the comparison loop of `sortMsiFiles` (bound:
    `NameLength` bytes used as a count of code units) and `dirent_cmp_hash` (`memcmp` over `NameLength` bytes,
    then "the longer wins") both decide by the first differing byte of the names, a proper prefix first:
    neither ever reaches its tie-break, and the padding after the terminator is never looked at. -/
theorem msi_cmp_eq_spec (a b : Meta) (ha : wfNameB a = true) (hb : wfNameB b = true)
    (hne : Spec.MsiDigest.specName a ≠ Spec.MsiDigest.specName b) :
    less a b = .ok (Spec.MsiDigest.specBefore a b) ∧
    Spec.MsiDigest.specBefore a b = RedBlack.lexLt (nameKey a) (nameKey b) :=
  ⟨by rw [less_eq_key a b (wfName_of_B a ha) (wfName_of_B b hb) hne,
        specBefore_eq_key a b (wfName_of_B a ha) (wfName_of_B b hb) hne],
   specBefore_eq_key a b (wfName_of_B a ha) (wfName_of_B b hb) hne⟩

/-! outside the hypotheses the two comparators differ: an embedded NUL (the shorter name *with* its terminator
    is a prefix of the longer name) – the specification says "the longer wins", relic goes on into the padding -/

def mkMeta (units : List Nat) (nameLen typ : Nat) : Meta :=
  { slots := units ++ List.replicate (32 - units.length) 0, nameLen := nameLen, typ := typ, color := 1,
    left := 0xFFFFFFFF, right := 0xFFFFFFFF, child := 0xFFFFFFFF, clsid := List.replicate 16 0,
    state := 0, ctime := 0, mtime := 0, start := 0, size := 0 }

/-- **msi_cmp_differs_embedded_nul.** "a" vs "a\0b" (NameLength 4 and 8): `dirent_cmp_hash` puts the longer
    first, relic's loop the shorter. Only names with an embedded NUL are affected. -/
theorem msi_cmp_differs_embedded_nul :
    less (mkMeta [97] 4 2) (mkMeta [97, 0, 98] 8 2) = .ok true ∧
    Spec.MsiDigest.specBefore (mkMeta [97] 4 2) (mkMeta [97, 0, 98] 8 2) = false := by
  decide +kernel

def leaf (units : List Nat) (content : Bytes) : Node := .mk (mkMeta units (2 * (units.length + 1)) 2) content []

def dir (units : List Nat) (kids : List Node) : Node := .mk (mkMeta units (2 * (units.length + 1)) 1) [] kids

/-- root with streams "b", "a", "ab", a signature stream and a sub-storage "S" holding "z", "y" -/
def sampleRoot : Node :=
  .mk (mkMeta [82] 4 5) [] [leaf [98] [1], leaf sigName [9, 9], leaf [97] [2], leaf [97, 98] [3],
    dir [83] [leaf [122] [4], leaf [121] [5]]]

example : wfNameB (mkMeta sigName 36 2) = true := by decide +kernel

/-- the hypothesis of the theorems holds for the sample tree (`okAtB` is its executable form, evaluated by the
    driver on every generated tree) -/
example : Node.okAt true sampleRoot := okAtB_sound true sampleRoot (by decide +kernel)
example : hashMsiDir sampleRoot =
    .ok ([5, 4] ++ List.replicate 16 0 ++ [2, 3, 1] ++ List.replicate 16 0) := by decide +kernel
example : Spec.MsiDigest.hashInput sampleRoot =
    [5, 4] ++ List.replicate 16 0 ++ [2, 3, 1] ++ List.replicate 16 0 := by decide +kernel

end Relic.Props.C05
