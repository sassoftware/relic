/-
  C01 — Every signature relic produces verifies.   XAP (Silverlight) part, over `Relic.Model.Xap`
  (lib/signxap/{sign,verify,structs}.go, zipslicer.ZipToTar, signers/xap): the chain
  tar framing → DigestXapTar → XapDigest.Sign → binpatch → Verify's locator and digest range.
  The PKCS#7 step is a parameter (`parse`), the hash is a parameter (`H`).
-/
import Relic.Proofs.XapSign
namespace Relic.Props.C01
open Relic.Xap

/-- **xap_sign_then_verify.** For every file `z`, every split point `loc ≤ |z|` (the directory offset `FindDirectory`
    answered), every PKCS#7 blob `s` with `|s| + 8 < 2^32` (output below 2^63 bytes):
    * `DigestXapTar` on the two-member framing succeeds and hashes `base z loc` = the bytes up to the directory followed
      by the directory blob as `removeSignature` leaves it;
    * the file written through the real patch path (`Add`, rewrite loop) is `base z loc ++ header ++ s ++ trailer`;
    * on it, `Verify`'s locator finds exactly `s`, and the range it hashes, the first `|base z loc|` bytes, is exactly
      the stream that was signed – so for every hash `H` and every PKCS#7 layer `parse` that accepts `s` as a signature
      over `H (hashed stream)`, `Verify` (digests on) accepts the file. -/
theorem xap_sign_then_verify (parse : Bytes → Option Bytes) (H : Bytes → Bytes) (z : Bytes) (loc : Nat) (s : Bytes)
    (hloc : loc ≤ z.length) (hs : s.length + 8 < 4294967296) (hl : z.length + s.length + 18 < 9223372036854775808) :
    ∃ d, digestTar (zipToTar z loc) true = .ok d ∧ d.hashed = base z loc ∧
      signRound z loc s = .ok (base z loc ++ sigBlock s) ∧
      locate (base z loc ++ sigBlock s) ((base z loc ++ sigBlock s).length : Int) = .ok ⟨s, (base z loc).length, 1, 1, 1⟩ ∧
      (base z loc ++ sigBlock s).take (base z loc).length = d.hashed ∧
      (parse s = some (H d.hashed) →
        verifyFile parse H (base z loc ++ sigBlock s) false = .ok ⟨s, (base z loc).length, 1, 1, 1⟩) := by
  have hle := base_length_le z loc hloc
  have hlen : (framed (base z loc) 1 1 1 s).length < 9223372036854775808 := by
    rw [framed_length]; omega
  have hloc' : locate (base z loc ++ sigBlock s) ((base z loc ++ sigBlock s).length : Int) =
      .ok ⟨s, (base z loc).length, 1, 1, 1⟩ := by
    rw [append_sigBlock]
    exact locate_framed (base z loc) s 1 1 1 hs hlen
  have htake : (base z loc ++ sigBlock s).take (base z loc).length = base z loc := List.take_left' rfl
  refine ⟨_, digestTar_zipToTar z loc hloc, rfl, signRound_eq z loc s hloc, hloc', htake, ?_⟩
  intro hp
  unfold verifyFile verify
  rw [hloc', Res.bind_ok]
  simp only []
  rw [hp]
  simp only [Bool.false_eq_true, if_false]
  rw [htake, if_pos rfl]

/-- **xap_base_cases.** What `base` is, exactly (repaired `removeSignature`): either the whole file – when the directory blob does
    not end in a complete, consistent frame – or the file is `base z loc` followed by exactly one header ++ blob ++ trailer
    whose two size fields agree with the blob.  A trailer look-alike without a matching header is left alone (before the
    repair of FX1 it was cut off: `C03.xap_lookalike_not_preserved`). -/
theorem xap_base_cases (z : Bytes) (loc : Nat) (hloc : loc ≤ z.length) :
    (base z loc = z ∧ frameSize (z.drop loc) = 0) ∨
    (∃ u1 u2 u3 : Nat, ∃ blob : Bytes, z = framed (base z loc) u1 u2 u3 blob ∧ blob.length + 8 < 4294967296 ∧
      frameSize (z.drop loc) = blob.length + 18) := by
  by_cases h : frameSize (z.drop loc) = 0
  · left
    exact ⟨base_of_noframe z loc h, h⟩
  · right
    obtain ⟨u1, u2, u3, blob, e, hk, hb⟩ := frameSize_pos_framed (z.drop loc) h
    refine ⟨u1, u2, u3, blob, ?_, hb, hk⟩
    have : z = z.take loc ++ z.drop loc := (List.take_append_drop loc z).symm
    conv => lhs; rw [this, e]
    rw [framed_append]
    rfl

/-- an input whose directory blob does not end in a signature frame is signed into `z ++ header ++ s ++ trailer` -/
theorem xap_sign_unsigned (z : Bytes) (loc : Nat) (s : Bytes) (hloc : loc ≤ z.length) (hn : frameSize (z.drop loc) = 0) :
    signRound z loc s = .ok (z ++ sigBlock s) := by
  rcases xap_base_cases z loc hloc with ⟨h, _⟩ | ⟨_, _, _, _, _, _, h⟩
  · rw [signRound_eq z loc s hloc, h]
  · omega

/-- **xap_sign_then_verify_module.** The same through the signer module (repaired transform): for an input without a trailing
    frame whose directory `FindDirectory` locates inside the file, `signFile` writes `z ++ header ++ s ++ trailer`, on which
    `Verify` finds `s` and hashes exactly `z`. -/
theorem xap_sign_then_verify_module (z s : Bytes) (loc : Nat) (hu : frameSize z = 0)
    (hfd : Zip.findDirectory ⟨z, false, 0⟩ = .ok loc) (hloc : loc ≤ z.length)
    (hs : s.length + 8 < 4294967296) (hl : z.length + s.length + 18 < 9223372036854775808) :
    signFile z s = .ok (z ++ sigBlock s) ∧
    locate (z ++ sigBlock s) ((z ++ sigBlock s).length : Int) = .ok ⟨s, z.length, 1, 1, 1⟩ := by
  constructor
  · rw [signFile_eq z s loc (by rw [hu, Nat.sub_zero, List.take_length]; exact hfd) hloc, base_of_unsigned z loc hu]
  · rw [append_sigBlock]
    exact locate_framed z s 1 1 1 hs (by rw [framed_length]; omega)

/-- **xap_sign_wraps_at_2_32.** At the `uint32` boundary: `Sign` writes `uint32(len(s))` and `uint32(len(s)+8)`.  When
    `|s| + 8 ≥ 2^32` the trailer records `(|s| + 8) mod 2^32`, and whatever `Verify`'s locator then returns on the signed
    file, the range it would hash starts the digest range at least 2^32 bytes too late: it is never the signed stream. -/
theorem xap_sign_wraps_at_2_32 (b s : Bytes) (hs : 4294967296 ≤ s.length + 8)
    (hl : (b ++ sigBlock s).length < 9223372036854775808) (l : Located)
    (h : locate (b ++ sigBlock s) ((b ++ sigBlock s).length : Int) = .ok l) :
    b.length + 4294967296 ≤ l.n := by
  obtain ⟨N, ts, hN, _, hfit, _, _, hts, hn, _⟩ := locate_ok _ _ l hl (by omega) (by omega) h
  have hN' : N = (b ++ sigBlock s).length := by omega
  have hlen : (b ++ sigBlock s).length = b.length + s.length + 18 := by simp; omega
  have e : b ++ sigBlock s = (b ++ (header 1 1 s.length ++ s)) ++ trailer 1 (s.length + 8) := by simp [sigBlock]
  have hsz : leVal (((b ++ sigBlock s).drop (N - 4)).take 4) = (s.length + 8) % 4294967296 := by
    have := trSize_append_trailer (b ++ (header 1 1 s.length ++ s)) 1 (s.length + 8)
    unfold trSize at this
    rw [List.drop_drop, ← e] at this
    have e2 : (b ++ sigBlock s).length - 10 + 6 = N - 4 := by omega
    rw [e2] at this
    exact this
  rw [hsz] at hts
  omega

/-- the smallest archive: an end-of-central-directory record alone -/
def emptyZip : Bytes := [0x50, 0x4b, 5, 6] ++ List.replicate 18 0

/-- one stored member "a" holding "hi", directory at offset 33 -/
def oneMemberZip : Bytes :=
  [0x50, 0x4b, 3, 4, 20, 0, 0, 0, 0, 0, 0, 0, 0, 0, 0xd8, 0x2c, 0x75, 0xac, 2, 0, 0, 0, 2, 0, 0, 0, 1, 0, 0, 0, 0x61, 0x68, 0x69] ++
  [0x50, 0x4b, 1, 2, 20, 0, 20, 0, 0, 0, 0, 0, 0, 0, 0, 0, 0xd8, 0x2c, 0x75, 0xac, 2, 0, 0, 0, 2, 0, 0, 0, 1, 0, 0, 0, 0, 0, 0, 0, 0, 0,
   0, 0, 0, 0, 0, 0, 0, 0, 0x61] ++
  [0x50, 0x4b, 5, 6, 0, 0, 0, 0, 1, 0, 1, 0, 47, 0, 0, 0, 33, 0, 0, 0, 0, 0]

set_option maxRecDepth 100000 in
example : (33 : Nat) ≤ oneMemberZip.length ∧ ([9, 9, 9] : Bytes).length + 8 < 4294967296 ∧
    base oneMemberZip 33 = oneMemberZip ∧
    locate (oneMemberZip ++ sigBlock [9, 9, 9]) (oneMemberZip ++ sigBlock [9, 9, 9] : Bytes).length = .ok ⟨[9, 9, 9], 102, 1, 1, 1⟩ ∧
    Zip.findDirectory ⟨oneMemberZip, false, 0⟩ = .ok 33 := by decide +kernel

set_option maxRecDepth 100000 in
example : signRound oneMemberZip 33 [9, 9, 9] = .ok (oneMemberZip ++ sigBlock [9, 9, 9]) ∧
    signFile oneMemberZip [9, 9, 9] = .ok (oneMemberZip ++ sigBlock [9, 9, 9]) :=
  ⟨xap_sign_unsigned _ _ _ (by decide +kernel) (by decide +kernel),
   (xap_sign_then_verify_module oneMemberZip [9, 9, 9] 33 (by decide +kernel) (by decide +kernel) (by decide +kernel)
      (by decide +kernel) (by decide +kernel)).1⟩

end Relic.Props.C01
