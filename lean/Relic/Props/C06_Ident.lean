/-
  C06 — "… naming the key, signature type, digest, *certificate*, client identity … actually used".
  The record names the certificate by `sig.x509.subject` / `sig.x509.issuer` = `FormatPkixName(…, NameStyleLdap)`
  (lib/audit/audit.go SetX509Cert, called by internal/signinit for every X509 signer) plus a SHA-1 fingerprint of the
  whole certificate, and names the client by `client.dn` = the OpenSSL-style string (internal/authmodel).
  Model `Relic.Model.Ident`; tied by the IDENT ops (`dn ldap|openssl`, and `sign`, which reads the attribute off the
  real audit record next to the real signer).
-/
import Relic.Proofs.IdentInj
import Relic.Proofs.IdentTotal
namespace Relic.Props.C06
open Relic.Ident

/-- **audit_subject_identifies_certificate_partial.**  Two certificates whose subjects differ (RDNs non-empty, values
    character strings – the only subjects crypto/x509 lets through) never get the same `sig.x509.subject`: the attribute
    names the subject actually used. -/
theorem audit_subject_identifies_certificate_partial (n n' : Name) (hn : InjClass n) (hn' : InjClass n')
    (h : formatParsed .ldap n = formatParsed .ldap n') : n = n' :=
  formatParsed_injective .ldap (Or.inl rfl) n n' hn hn' h

example : InjClass [[⟨[2, 5, 4, 3], .str (ascii "signer")⟩]] := by
  intro r hr
  simp only [List.mem_cons, List.not_mem_nil, or_false] at hr
  subst hr
  exact ⟨by simp, by intro a ha; simp at ha; subst ha; exact ⟨_, rfl⟩⟩

example : formatParsed .ldap [[⟨[2, 5, 4, 6], .str (ascii "US")⟩], [⟨[2, 5, 4, 3], .str (ascii "a, b")⟩]] = ascii "CN=\"a, b\", C=US" := by
  decide +kernel

def audit_subject_identifies_certificate_full : Prop :=
  ∀ n n' : Name, formatParsed .ldap n = formatParsed .ldap n' → n = n'

/-- outside the class the string is ambiguous: an empty SET leaves no trace -/
theorem audit_subject_identifies_certificate_full_false : ¬ audit_subject_identifies_certificate_full := by
  intro h
  exact absurd (h [] [[]] (by decide)) (by decide)

/-- `client.dn` (OpenSSL style) does *not* identify the client certificate's subject: the backslash is not escaped
    and multi-valued RDNs are flattened (the fingerprint-based `client.name` is what authorisation uses) -/
theorem client_dn_not_injective :
    formatParsed .openssl [[⟨[2, 5, 4, 3], .str (ascii "a/CN=b")⟩]]
      = formatParsed .openssl [[⟨[2, 5, 4, 3], .str (ascii "a\\")⟩], [⟨[2, 5, 4, 3], .str (ascii "b")⟩]] := by
  decide +kernel

/-- writing the attribute never panics, whatever bytes the certificate carries as a name -/
theorem audit_subject_total (der : Bytes) : safe (formatPkixName .ldap der) = true := formatPkixName_safe .ldap der

end Relic.Props.C06
