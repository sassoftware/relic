/-
  C02 — Tamper evidence.   XML-DSig part.

  What `Verify` binds, read off the definition of `verify` in Model/XmlSig (no theorem inverts `verify`): it accepts only
  if (1) the one Signature element found at `sigpath` has exactly one `SignedInfo` child and the signature value
  verifies over its canonical form, and (2) the DigestValue that `xml.Unmarshal` read
  equals the digest of the canonical form of the root without that Signature element.  (2) makes every change of the
  canonical form of the signed content visible (C19's `canon_sensitive_*`) because the DigestValue compared is the one
  inside the SignedInfo that was hashed: `xml.Unmarshal` keeps the value of the *last*
  `SignedInfo>Reference>DigestValue` under the Signature element, and before relic's fix afa6c0e (finding F37) `Verify`
  hashed the *first* `SignedInfo`, so that an additional `<SignedInfo><Reference><DigestValue>…` appended inside
  `<Signature>` replaced the signed digest; `Verify` now refuses a Signature with more than one `SignedInfo`
  ("invalid"; `wForged` below is such a document, replayed on the real code by corpus/C02/xmldsig_forge.ops).
  What is proved, `xml_tamper_evident_partial`, is the digest comparison of (2) alone, for single edits, and does not mention
  `verify`; `xml_tamper_evident_full`, which does, is stated and neither proved nor refuted.
-/
import Relic.Props.C01_XmlSig
import Relic.Proofs.XmlSens
namespace Relic.Props.C02
open Relic.Xml Relic.XmlSig Relic.Xml.Sens

/-- an ideal scheme: the digest text of a stream is the stream itself behind a tag byte (collision-free), a signature
    text is accepted only for exactly the stream it was issued for (unforgeable) -/
def ideal : Scheme where
  dtext := fun _ s => 0x44 :: s
  rtext := fun _ s => 0x52 :: s
  sigtext := fun _ s => 0x53 :: s
  keyInfo := fun _ => [el sKeyValue [] [el sRSAKeyValue [] [el sModulus [] [txt [77]], el sExponent [] [txt [69]]]]]
  b64ok := fun _ => true
  digestLen := fun _ _ => true
  digestOk := fun _ s t => t = 0x44 :: s
  parseKey := fun _ kv => if kv.modulus = [77] then some [75] else none
  parseCert := fun _ => some [75]
  sigOk := fun k _ _ s sv => k = [75] ∧ sv = 0x53 :: s

theorem ideal_correct (kt : KeyType) : C01.Correct ideal [75] kt :=
  ⟨fun _ _ => rfl, fun _ _ => rfl, fun _ _ => rfl, fun _ _ => by simp [ideal], fun _ _ => by simp [ideal]⟩

theorem ideal_keyBack (o : SignOptions) (kt : KeyType) : C01.KeyBack ideal o kt [75] := by
  refine ⟨by simp +decide [ideal, plainL, plain, plainAttrs, el, txt],
    ⟨{ modulus := [77], exponent := [69] }, ?_, ?_⟩, ⟨[], ?_⟩⟩
  · simp +decide [ideal, decKeyInfoKids, decKeyValue, foldTag, el, txt, textOf]
  · simp [ideal]
  · simp +decide [ideal, decKeyInfoKids, decKeyValue, foldTag, el, txt, textOf, parseCerts]

/-- non-vacuity of `C01.xml_sign_then_verify`: the ideal scheme satisfies its hypotheses -/
example (h : HashId) (kt : KeyType) (o : SignOptions) (sp tag : Bytes) (as : List Attr) (ks : List Node) :
    (verify ideal (sign ideal [] (.elem sp tag as ks) [] h kt o).out [sSignature]).isOk = true := by
  rw [C01.xml_sign_then_verify ideal [75] kt h o (ideal_correct kt) (ideal_keyBack o kt) [] (by simp) sp tag as ks]
  rfl

/-- The full statement (not proved): under the ideal scheme, whatever `Verify` accepts on the strength of a signature value
    issued for the SignedInfo stream of `Sign(root)` has the reference stream `Sign(root)` digested – the canonical form of
    the signed content is unchanged. -/
def xml_tamper_evident_full : Prop :=
  ∀ (root t' : Node) (h : HashId) (kt : KeyType) (o : SignOptions) (v : Verified),
    verify ideal t' [sSignature] = .ok v → v.siStream = (sign ideal [] root [] h kt o).siStream →
    v.refStream = (sign ideal [] root [] h kt o).refStream

def opts0 : SignOptions := ⟨false, false, false, true⟩

/-- the signed document `<a/>` -/
def wSigned : Signed := sign ideal [] (el [97] [] []) [] .sha256 .rsa opts0

/-- the document of finding F37: `<a><Signature>…same SignedInfo, SignatureValue, KeyInfo…<SignedInfo><Reference><DigestValue>
    digest of <a>E</a></DigestValue></Reference></SignedInfo></Signature>E</a>`; `verify` answers "invalid" (two `SignedInfo`) -/
def wForged : Node :=
  match wSigned.out with
  | .elem sp tag as [.elem s2 t2 a2 sigKids] =>
    .elem sp tag as [.elem s2 t2 a2 (sigKids ++ [el sSignedInfo [] [el sReference [] [el sDigestValue [] [txt (0x44 :: canon [] (el [97] [] [txt [69]]))]]]]),
      txt [69]]
  | n => n

/-- Under a collision-free digest the DigestValue issued for a content `t` is not accepted for any content `t'` that differs
    from `t` in one text node or in one (non-declaration) attribute value.  The statement is about `canon` and the scheme's
    `digestOk` only: that `Verify` makes this comparison, on `canon [] (removeAt p root)` and against the DigestValue of the one
    `SignedInfo` it hashed, is the definition of `verify` (see the head) and is stated by no theorem. -/
theorem xml_tamper_evident_partial (hsh : HashId) (ctx : List (List Attr)) (t t' : Node) :
    (∀ d d', d ≠ d' → TextEdit d d' t t' → ideal.digestOk hsh (canon ctx t') (ideal.dtext hsh (canon ctx t)) = false) ∧
    (∀ s k v v', getDecl ⟨s, k, v⟩ = none → v ≠ v' → AttrEdit s k v v' t t' →
      ideal.digestOk hsh (canon ctx t') (ideal.dtext hsh (canon ctx t)) = false) := by
  constructor
  · intro d d' hd h
    have := canon_text_sensitive ctx d d' t t' hd h
    simp [ideal, this]
  · intro s k v v' hnd hv h
    have := canon_attrval_sensitive ctx s k v v' t t' hnd hv h
    simp [ideal, this]

/-- non-vacuity: `<a>x</a>` vs `<a>y</a>` -/
example : TextEdit [120] [121] (el [97] [] [txt [120]]) (el [97] [] [txt [121]]) := by
  simp [el, txt, TextEdit, TextEditL]

end Relic.Props.C02
