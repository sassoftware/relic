/-
  C02 fragment — MSI: which changes of a signed document `VerifyMSI` detects.
  The hashed stream of the plain signature is the concatenation of the stream contents in digest order followed by the
  storages' CLSIDs: no names, no lengths.  The extended signature adds the pre-hash (names, sizes, state bits, times,
  CLSIDs).  What each protects, and what neither does, is stated here; the witnesses are replayed on the real code by
  the `mut` ops of the MSIS harness (kinds boundary, ex-downgrade, confusion, …).
-/
import Relic.Props.C01_Msi
import Relic.Proofs.MsiTamper
namespace Relic.Props.C02
open Relic.MsiDigest Relic.MsiSign

/-- a stream entry whose size field is the length of its content -/
def stream (units : List Nat) (content : Bytes) : Node :=
  .mk { C05.mkMeta units (2 * (units.length + 1)) 2 with size := content.length } content []

def rootMeta : Meta := C05.mkMeta [82] 4 5

/-- root storage holding the streams "a" and "b" -/
def docAB (a b : Bytes) : Node := .mk rootMeta [] [stream [97] a, stream [98] b]

/-- the signature streams of `s` put onto the payload of `d` -/
def withSigsOf (s d : Node) : Node := .mk d.meta d.content (payload d.kids ++ s.kids.filter (fun n => isSig n.meta))

def signed (noExt : Bool) (d : Node) : Node :=
  match signMSI C01.toyH C01.toyMk 5 noExt d 0 0 with
  | .ok x => x
  | _ => d

def accepts (d : Node) : Bool := (verifyMSI C01.toyH C01.toyCms d false).isOk

/-- **msi_boundary_migration_accepted.** The format's definition, not a relic defect: WITHOUT the extended signature the
    hashed stream does not determine the streams.  Moving a byte from the end of "a" to the front of "b" leaves the
    hashed stream as it is (the pre-hash changes: the sizes are in it); the plain signature made for the one document
    is accepted on the other, the extended one is rejected ("MSI extended digest mismatch").  Both documents satisfy
    every hypothesis of the digest theorems. -/
theorem msi_boundary_migration_accepted :
    Spec.MsiDigest.hashInput (docAB [1, 2, 3] [4, 5]) = Spec.MsiDigest.hashInput (docAB [1, 2] [3, 4, 5]) ∧
    Spec.MsiDigest.prehashInput (docAB [1, 2, 3] [4, 5]) ≠ Spec.MsiDigest.prehashInput (docAB [1, 2] [3, 4, 5]) ∧
    accepts (signed true (docAB [1, 2, 3] [4, 5])) = true ∧
    accepts (withSigsOf (signed true (docAB [1, 2, 3] [4, 5])) (docAB [1, 2] [3, 4, 5])) = true ∧
    accepts (signed false (docAB [1, 2, 3] [4, 5])) = true ∧
    verifyMSI C01.toyH C01.toyCms (withSigsOf (signed false (docAB [1, 2, 3] [4, 5])) (docAB [1, 2] [3, 4, 5])) false =
      .err "exmismatch" := by
  decide +kernel

example : DocOk (docAB [1, 2, 3] [4, 5]) ∧ DocOk (docAB [1, 2] [3, 4, 5]) :=
  ⟨DocOk.of_checks (by decide +kernel), DocOk.of_checks (by decide +kernel)⟩

/-- the extended-signed document with its extended-signature stream removed and the stream's value placed, under a name
    that sorts first, in front of the hashed stream -/
def downgraded (s : Node) (a b : Bytes) : Node :=
  let ex := ((s.kids.filter (fun n => goName n.meta == sigExName)).map Node.content).headD []
  .mk s.meta s.content ([stream [1] ex, stream [97] a, stream [98] b] ++ s.kids.filter (fun n => goName n.meta == sigName))

/-- **msi_ex_downgrade_accepted.** The format's definition again: the imprint does not say whether it was computed with
    the pre-hash in front.  Take a document signed WITH the extended signature, delete the extended-signature stream and
    add a stream that sorts first and holds the old pre-hash: the hashed stream of the plain form is the one that was
    signed, `VerifyMSI` accepts, and from then on the document is protected only as a plainly signed one (bytes migrate,
    names and times change unnoticed).  So the extended signature protects metadata only against an editor who keeps
    the extended-signature stream. -/
theorem msi_ex_downgrade_accepted :
    exCount (signed false (docAB [1, 2, 3] [4, 5])).kids = 1 ∧
    exCount (downgraded (signed false (docAB [1, 2, 3] [4, 5])) [1, 2, 3] [4, 5]).kids = 0 ∧
    accepts (downgraded (signed false (docAB [1, 2, 3] [4, 5])) [1, 2, 3] [4, 5]) = true ∧
    accepts (downgraded (signed false (docAB [1, 2, 3] [4, 5])) [1, 2] [3, 4, 5]) = true := by
  decide +kernel

/-- a CLSID whose last four bytes read "16" as a little-endian size and whose first twelve are six non-zero code units -/
def trickClsid : Bytes := [1, 1, 2, 2, 3, 3, 4, 4, 5, 5, 6, 6, 16, 0, 0, 0]

/-- root holding the *empty storage* "S" with that CLSID -/
def asStorage : Node :=
  .mk rootMeta [] [.mk { C05.mkMeta [83] 4 1 with clsid := trickClsid, state := 7, ctime := 8, mtime := 9 } [] []]

/-- root holding the *stream* "S" ++ (the first six units of the CLSID), 16 bytes long, whose content is the CLSID -/
def asStream : Node :=
  .mk rootMeta [] [.mk { C05.mkMeta [83, 0x0101, 0x0202, 0x0303, 0x0404, 0x0505, 0x0606] 16 2 with
    size := 16, state := 7, ctime := 8, mtime := 9 } trickClsid []]

/-- the statement of tamper evidence WITH the extended signature and no further hypothesis: equal pre-hash input and
    equal hashed stream force the same payload entries (types, names, contents) -/
def msi_tamper_evident_full : Prop :=
  ∀ d d' : Node, DocOk d → DocOk d' →
    Spec.MsiDigest.prehashInput d = Spec.MsiDigest.prehashInput d' → Spec.MsiDigest.hashInput d = Spec.MsiDigest.hashInput d' →
    (payload d.kids).map (fun n => (Spec.MsiDigest.specName n.meta, n.meta.typ, n.content)) =
    (payload d'.kids).map (fun n => (Spec.MsiDigest.specName n.meta, n.meta.typ, n.content))

/-- **msi_storage_stream_confusion.** The full statement is FALSE (format level): the pre-hash writes a storage as
    name ++ CLSID ++ state ++ times and a stream as name ++ size ++ state ++ times, without type or length marks, and the
    hashed stream writes a storage as its CLSID and a stream as its content.  An empty storage whose CLSID ends in
    `10 00 00 00` and a 16-byte stream holding that CLSID, named by the storage's name followed by the first twelve CLSID
    bytes, have the same pre-hash input and the same hashed stream. -/
theorem msi_storage_stream_confusion : ¬ msi_tamper_evident_full := by
  intro h
  have := h asStorage asStream (DocOk.of_checks (by decide +kernel)) (DocOk.of_checks (by decide +kernel))
    (by decide +kernel) (by decide +kernel)
  revert this
  decide +kernel

/-- the same on the flow: the extended signature made for the one is accepted on the other -/
theorem msi_storage_stream_confusion_accepted :
    accepts (withSigsOf (signed false asStorage) asStream) = true ∧
    accepts (withSigsOf (signed false asStream) asStorage) = true := by
  decide +kernel

/-- what `VerifyMSI` compares once the signature is located and its CMS layer checked -/
def expectedVerdict (H : Nat → Bytes → Bytes) (d : Node) (sig : Bytes) (ci : CmsInfo) : Option Bytes → Res (Bytes × CmsInfo)
  | some e =>
    if e ≠ H ci.alg (Spec.MsiDigest.prehashInput d) then .err "exmismatch"
    else if H ci.alg (e ++ Spec.MsiDigest.hashInput d) ≠ ci.digest then .err "mismatch" else .ok (sig, ci)
  | none => if H ci.alg (Spec.MsiDigest.hashInput d) ≠ ci.digest then .err "mismatch" else .ok (sig, ci)

/-- **msi_verify_ok_iff.** On a document of the digest class with a located non-empty signature whose CMS layer checks:
    `VerifyMSI` (digests on) accepts exactly if (a) the extended-signature stream, when there is one, equals the hash of
    the specification's pre-hash input and (b) the imprint in the signature equals the hash of (that digest ++) the
    specification's hashed stream; (a) is tested first.  Stated as an equation: the verdict is `expectedVerdict`. -/
theorem msi_verify_ok_iff (H : Nat → Bytes → Bytes) (cms : Bytes → Res CmsInfo) (d : Node) (hok : Node.okAt true d)
    (hr : d.meta.typ = typRoot) (sig : Bytes) (ex : Option Bytes) (ci : CmsInfo)
    (hloc : locate d.kids [] none = .ok (sig, ex)) (hsig : sig.length ≠ 0) (hcms : cms sig = .ok ci) :
    verifyMSI H cms d false = expectedVerdict H d sig ci ex := by
  unfold verifyMSI
  rw [hloc]
  simp only [Res.bind_ok']
  unfold verdictOf
  simp only [hsig, if_false, hcms, Res.bind_ok', Bool.false_eq_true]
  unfold digestMSI2 expectedVerdict
  rw [hashMsiDir_eq d hok, prehashMsiDir_eq d hok hr]
  cases ex with
  | none => simp
  | some e =>
    simp only [Option.isSome_some, if_true, Res.bind_ok', Res.pure_eq, true_and, ne_eq, Option.some.injEq]
    by_cases he : e = H ci.alg (Spec.MsiDigest.prehashInput d)
    · subst he; simp
    · have : ¬ H ci.alg (Spec.MsiDigest.prehashInput d) = e := fun h => he h.symm
      simp [he, this]

set_option maxRecDepth 100000 in
example : ∃ sig ex ci, locate (signed false (docAB [1] [2])).kids [] none = .ok (sig, ex) ∧ sig.length ≠ 0 ∧
    C01.toyCms sig = .ok ci ∧ ex.isSome = true := ⟨_, _, _, rfl, by decide +kernel, rfl, by decide +kernel⟩

/-- **msi_tamper_evident_partial.** WITH the extended signature the two digest inputs together determine the document,
    provided the two documents have walks of the same *shape* (the same sequence of streams, storage openings and
    closings in digest order, with name fields of the same length): equal pre-hash input and equal hashed stream then
    force the same name, size, state word, creation and modification time and the same content of every stream, the same
    name, CLSID, state word and times of every storage, at every depth, and the same CLSID and state word of the root.
    So any change to a stream's bytes, name (keeping its length and the order), size or covered metadata changes the
    hashed stream or the pre-hash.  Hypotheses, all executable: every numeric field fits its width, CLSIDs have 16
    bytes, a stream's content has the length its size field says (`itemOkB`).  Without the shape hypothesis the
    statement is false (`msi_storage_stream_confusion`). -/
theorem msi_tamper_evident_partial (d d' : Node) (hw : (walk d).all itemOkB = true) (hw' : (walk d').all itemOkB = true)
    (hc : d.meta.clsid.length = 16) (hc' : d'.meta.clsid.length = 16)
    (hr : d.meta.typ = typRoot) (hr' : d'.meta.typ = typRoot)
    (hst : d.meta.state < 256 ^ 4) (hst' : d'.meta.state < 256 ^ 4)
    (hs : (walk d).map shapeOf = (walk d').map shapeOf)
    (hp : Spec.MsiDigest.prehashInput d = Spec.MsiDigest.prehashInput d')
    (hm : Spec.MsiDigest.hashInput d = Spec.MsiDigest.hashInput d') :
    (walk d).map viewOf = (walk d').map viewOf ∧ d.meta.clsid = d'.meta.clsid ∧ d.meta.state = d'.meta.state := by
  rw [prehashInput_walk, prehashInput_walk] at hp
  rw [hashInput_walk, hashInput_walk] at hm
  have h2 : d.meta.typ ≠ 2 := by rw [hr]; decide
  have h2' : d'.meta.typ ≠ 2 := by rw [hr']; decide
  have hroot : Spec.MsiDigest.metaInput d.meta true = d.meta.clsid ++ leBytes 4 d.meta.state := by
    unfold Spec.MsiDigest.metaInput; simp [h2]
  have hroot' : Spec.MsiDigest.metaInput d'.meta true = d'.meta.clsid ++ leBytes 4 d'.meta.state := by
    unfold Spec.MsiDigest.metaInput; simp [h2']
  rw [hroot, hroot'] at hp
  simp only [List.append_assoc] at hp
  obtain ⟨e1, hp⟩ := List.append_inj hp (by rw [hc, hc'])
  obtain ⟨e2, hp⟩ := List.append_inj hp (by simp)
  have hp' : (walk d).flatMap preB ++ [] = (walk d').flatMap preB ++ [] := by simpa using hp
  obtain ⟨r1, _, _⟩ := walk_inj (walk d) (walk d')
    (fun x hx => itemOkB_sound x (List.all_eq_true.mp hw x hx))
    (fun x hx => itemOkB_sound x (List.all_eq_true.mp hw' x hx)) hs [] [] _ _ hp' hm
  exact ⟨r1, e1, leBytes_inj 4 _ _ hst hst' e2⟩

set_option maxRecDepth 100000 in
/-- non-vacuity: two documents of the same shape (same names, other split of the bytes) satisfy the hypotheses except
    equality of the pre-hash inputs – and indeed differ there (`msi_boundary_migration_accepted`) -/
example : (walk (docAB [1, 2, 3] [4, 5])).all itemOkB = true ∧ (walk (docAB [1, 2] [3, 4, 5])).all itemOkB = true ∧
    (walk (docAB [1, 2, 3] [4, 5])).map shapeOf = (walk (docAB [1, 2] [3, 4, 5])).map shapeOf ∧
    (walk (docAB [1, 2, 3] [4, 5])).length = 2 ∧ rootMeta.clsid.length = 16 := by decide +kernel

set_option maxRecDepth 100000 in
/-- the confusion pair has walks of different shape: a stream against an opening and a closing -/
example : (walk asStorage).map shapeOf = [(1, 4), (3, 0)] ∧ (walk asStream).map shapeOf = [(2, 16)] := by decide +kernel

theorem expected_ok_some (H : Nat → Bytes → Bytes) (d : Node) (sig e : Bytes) (ci : CmsInfo)
    (h : (expectedVerdict H d sig ci (some e)).isOk = true) :
    e = H ci.alg (Spec.MsiDigest.prehashInput d) ∧ H ci.alg (e ++ Spec.MsiDigest.hashInput d) = ci.digest := by
  unfold expectedVerdict at h
  by_cases h1 : e = H ci.alg (Spec.MsiDigest.prehashInput d)
  · by_cases h2 : H ci.alg (e ++ Spec.MsiDigest.hashInput d) = ci.digest
    · exact ⟨h1, h2⟩
    · subst h1
      simp [h2, Res.isOk] at h
  · simp [h1, Res.isOk] at h

theorem expected_ok_none (H : Nat → Bytes → Bytes) (d : Node) (sig : Bytes) (ci : CmsInfo)
    (h : (expectedVerdict H d sig ci none).isOk = true) : H ci.alg (Spec.MsiDigest.hashInput d) = ci.digest := by
  unfold expectedVerdict at h
  by_cases h2 : H ci.alg (Spec.MsiDigest.hashInput d) = ci.digest
  · exact h2
  · simp [h2, Res.isOk] at h

/-- **msi_tamper_evident_verify_partial.** The same on the verifier: two documents of the digest class, both carrying
    an extended-signature stream, both accepted by `VerifyMSI` under signatures with the same CMS content (algorithm and
    imprint), walks of the same shape.  With a hash of fixed output length that does not collide on the two pairs of
    strings in question (hypotheses `hcf₁`, `hcf₂`, visible here), the documents have the same walk. -/
theorem msi_tamper_evident_verify_partial (H : Nat → Bytes → Bytes) (cms : Bytes → Res CmsInfo) (d d' : Node)
    (hok : Node.okAt true d) (hok' : Node.okAt true d')
    (hw : (walk d).all itemOkB = true) (hw' : (walk d').all itemOkB = true)
    (hc : d.meta.clsid.length = 16) (hc' : d'.meta.clsid.length = 16)
    (hr : d.meta.typ = typRoot) (hr' : d'.meta.typ = typRoot)
    (hst : d.meta.state < 256 ^ 4) (hst' : d'.meta.state < 256 ^ 4)
    (hs : (walk d).map shapeOf = (walk d').map shapeOf)
    (sig sig' e e' : Bytes) (ci : CmsInfo)
    (hloc : locate d.kids [] none = .ok (sig, some e)) (hloc' : locate d'.kids [] none = .ok (sig', some e'))
    (hsig : sig.length ≠ 0) (hsig' : sig'.length ≠ 0) (hcms : cms sig = .ok ci) (hcms' : cms sig' = .ok ci)
    (hv : (verifyMSI H cms d false).isOk = true) (hv' : (verifyMSI H cms d' false).isOk = true)
    (hlen : ∀ x y, (H ci.alg x).length = (H ci.alg y).length)
    (hcf₁ : H ci.alg (e ++ Spec.MsiDigest.hashInput d) = H ci.alg (e' ++ Spec.MsiDigest.hashInput d') →
      e ++ Spec.MsiDigest.hashInput d = e' ++ Spec.MsiDigest.hashInput d')
    (hcf₂ : H ci.alg (Spec.MsiDigest.prehashInput d) = H ci.alg (Spec.MsiDigest.prehashInput d') →
      Spec.MsiDigest.prehashInput d = Spec.MsiDigest.prehashInput d') :
    (walk d).map viewOf = (walk d').map viewOf ∧ d.meta.clsid = d'.meta.clsid ∧ d.meta.state = d'.meta.state := by
  rw [msi_verify_ok_iff H cms d hok hr sig (some e) ci hloc hsig hcms] at hv
  rw [msi_verify_ok_iff H cms d' hok' hr' sig' (some e') ci hloc' hsig' hcms'] at hv'
  obtain ⟨a1, a2⟩ := expected_ok_some H d sig e ci hv
  obtain ⟨b1, b2⟩ := expected_ok_some H d' sig' e' ci hv'
  have hcat := hcf₁ (a2.trans b2.symm)
  have hl : e.length = e'.length := by rw [a1, b1]; exact hlen _ _
  obtain ⟨ee, hm⟩ := List.append_inj hcat hl
  have hp := hcf₂ (by rw [← a1, ← b1, ee])
  exact msi_tamper_evident_partial d d' hw hw' hc hc' hr hr' hst hst' hs hp hm

set_option maxRecDepth 100000 in
/-- non-vacuity: an extended-signed document that `VerifyMSI` accepts, with a walk satisfying `itemOkB`; the toy hash has
    fixed output length (taking `d' = d` the two collision hypotheses are trivially true) -/
example : accepts (signed false (docAB [1] [2])) = true ∧ (walk (signed false (docAB [1] [2]))).all itemOkB = true ∧
    exCount (signed false (docAB [1] [2])).kids = 1 ∧ (∀ x y, (C01.toyH 5 x).length = (C01.toyH 5 y).length) :=
  ⟨by decide +kernel, by decide +kernel, by decide +kernel, fun _ _ => rfl⟩

/-- **msi_plain_binds_stream_only.** WITHOUT the extended-signature stream acceptance under the same CMS content says
    exactly that the hashed streams are equal (given no collision on that pair) – the concatenation of the contents in
    digest order and the CLSIDs, nothing else (`msi_boundary_migration_accepted` shows that nothing more follows). -/
theorem msi_plain_binds_stream_only (H : Nat → Bytes → Bytes) (cms : Bytes → Res CmsInfo) (d d' : Node)
    (hok : Node.okAt true d) (hok' : Node.okAt true d') (hr : d.meta.typ = typRoot) (hr' : d'.meta.typ = typRoot)
    (sig sig' : Bytes) (ci : CmsInfo)
    (hloc : locate d.kids [] none = .ok (sig, none)) (hloc' : locate d'.kids [] none = .ok (sig', none))
    (hsig : sig.length ≠ 0) (hsig' : sig'.length ≠ 0) (hcms : cms sig = .ok ci) (hcms' : cms sig' = .ok ci)
    (hv : (verifyMSI H cms d false).isOk = true) (hv' : (verifyMSI H cms d' false).isOk = true)
    (hcf : H ci.alg (Spec.MsiDigest.hashInput d) = H ci.alg (Spec.MsiDigest.hashInput d') →
      Spec.MsiDigest.hashInput d = Spec.MsiDigest.hashInput d') :
    Spec.MsiDigest.hashInput d = Spec.MsiDigest.hashInput d' := by
  rw [msi_verify_ok_iff H cms d hok hr sig none ci hloc hsig hcms] at hv
  rw [msi_verify_ok_iff H cms d' hok' hr' sig' none ci hloc' hsig' hcms'] at hv'
  exact hcf ((expected_ok_none H d sig ci hv).trans (expected_ok_none H d' sig' ci hv').symm)

end Relic.Props.C02
