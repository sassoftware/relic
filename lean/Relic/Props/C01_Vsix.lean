/-
  C01 — Every signature relic produces verifies.   VSIX / OPC part (model `Relic.Model.Vsix` of signers/vsix):
  for every package (list of parts, whatever it contains: stale signature parts, foreign relationship parts, duplicate
  names, several or no `[Content_Types].xml`), every hash, with or without `--detach-certs`, `verify` on the package `sign`
  returns follows the relationship chain to the signature part the signer wrote, reads back the Manifest it wrote, maps every
  Reference URI back to the part it was made from and recomputes exactly the digests the signer stored — provided the
  decidable condition `cfgOk` (the signer's own part names; true for every name `calcFileName` returns) holds and the
  environment (XML-DSig layer, `encoding/xml`, digests) is sound on what the signer wrote.  Since the repair of finding FV1 the
  signer refuses (error, nothing written) exactly the inputs with a part name that does not survive
  `path.Join("./"+URI)` cut at the first `?` (`refsOk`; `vsix_sign_refuses_iff`), and since the repair of FV4 inputs with two
  kept members of one name; before, it signed them into packages relic's own verifier rejects (`vsix_uri_roundtrip_gap`).
-/
import Relic.Proofs.VsixSign
import Relic.Proofs.VsixDemo
import Relic.Proofs.VsixPath
namespace Relic.Props.C01
open Relic.Xml Relic.Vsix

/-- the environment is sound on what this signing wrote: relationship parts parse back, a digest compares equal to
    itself, the detached certificates parse, the enveloping XML signature over `obj` verifies and hands back `obj` and the
    signer's key `pk`, which one of the certificates carries -/
structure VsixSound (E : Env) (c : Cfg) (obj : Node) (pk : Bytes) : Prop where
  relsTop : E.parseRels (marshalRels (appendRel E [] sOrigin sigOriginType)) = some (appendRel E [] sOrigin sigOriginType)
  relsOrigin : E.parseRels (marshalRels (appendRel E [] (sigName c) sigType)) = some (appendRel E [] (sigName c) sigType)
  relsCerts : c.detach = true → E.parseRels (marshalRels (certRels E c.chain [])) = some (certRels E c.chain [])
  digest : ∀ s, E.digestCmp c.hash s (E.dtext c.hash s) = .ok
  certs : c.detach = true → ∀ x ∈ c.chain, ∃ ks, E.parseCerts x.2 = some ks
  xml : ∃ emb, (∀ extra, E.xopen (E.xsign c.hash c.detach obj) extra = .ok ⟨obj, c.hash, pk, emb, none⟩) ∧
          (c.detach = false → pk ∈ emb)
  leaf : c.detach = true → pk ∈ chainKeys E c.chain

/-- `readSignature` on the signer's output: the signature part and the keys of the detached certificates -/
theorem readSignature_signed (E : Env) (c : Cfg) (pkg : Pkg) (obj : Node) (ct : CT) (pk : Bytes) (F : CfgFacts c)
    (S : VsixSound E c obj pk) :
    readSignature E (findLast (keptOf pkg ++ newsOf E c obj ct)) =
      .ok (E.xsign c.hash c.detach obj, if c.detach then chainKeys E c.chain else []) := by
  have ftop := files_top F E obj ct (keptOf pkg)
  have forg := files_originRels F E obj ct (keptOf pkg)
  have fsig := files_sig F E obj ct (keptOf pkg)
  have find1 := find_origin E
  have find2 := find_sig F E
  unfold readSignature
  simp only [ftop, Option.isNone_some, Bool.false_eq_true, if_false, parseRelsAt, readZip, S.relsTop, find1, forg, S.relsOrigin,
    find2, fsig]
  cases hd : c.detach with
  | false =>
    have fabs : findLast (keptOf pkg ++ newsOf E c obj ct) (relPath (sigName c)) = none :=
      look_absent F.sigRelsNotKept (F.sigRelsAbsent hd)
    simp [fabs]
  | true =>
    have frel := files_sigRels F E obj ct (keptOf pkg) hd
    obtain ⟨tail, ht, hf⟩ := certRels_append E c.chain []
    simp only [List.nil_append] at ht
    have hcerts : readCerts E (findLast (keptOf pkg ++ newsOf E c obj ct)) (certRels E c.chain []) = .ok (chainKeys E c.chain) := by
      rw [ht]
      apply readCerts_chain E _ c.chain tail hf
      intro x hx
      refine ⟨?_, F.certBack x hx, S.certs hd x hx⟩
      exact files_cert F E obj ct (keptOf pkg) hd hx
    simp [frel, S.relsCerts hd, hcerts]

/-- every stored reference resolves, in the signed package, to the part whose bytes were digested -/
theorem refs_resolve (fx : Bool) (E : Env) (c : Cfg) (pkg : Pkg) (s : Vsix.Signed) (F : CfgFacts c) (hs : Vsix.sign fx E c pkg = .ok s) :
    ∀ r ∈ s.refs, findLast s.parts r.name = some ⟨r.name, r.stream⟩ :=
  refs_found F hs

/-- the guarded form, for the signer and verifier before (`fx = false`) and after (`fx = true`) the repairs -/
theorem vsix_sign_then_verify_guarded (fx : Bool) (E : Env) (c : Cfg) (pkg : Pkg) (s : Vsix.Signed) (pk : Bytes)
    (hs : Vsix.sign fx E c pkg = .ok s) (hc : cfgOk c = true) (hr : refsOk s.refs = true) (S : VsixSound E c s.obj pk)
    (hnd : fx = true → ((keptOf pkg).map (·.name)).Nodup) :
    Vsix.verify fx E s.parts = .ok ⟨c.hash, pk, s.refs.map fun r => (r.name, r.stream)⟩ := by
  have F := cfgFacts_of_cfgOk hc
  have hres := refs_resolve fx E c pkg s F hs
  obtain ⟨-, hparts, hobj, -⟩ := sign_shape hs
  obtain ⟨emb, hx, hemb⟩ := S.xml
  have hrs := readSignature_signed E c pkg s.obj s.ctOut pk F S
  have hck : checkRefs E (findLast s.parts) (decodeManifest s.obj) = .ok (s.refs.map fun r => (r.name, r.stream)) := by
    rw [hobj, decodeManifest_objectNode]
    apply checkRefs_written E _ c.hash S.digest
    intro r hrm
    rw [refsOk_iff] at hr
    exact ⟨hr r hrm, hres r hrm⟩
  have hcore : verifyCore E (findLast s.parts) =
      .ok ((E.xsign c.hash c.detach s.obj, if c.detach then chainKeys E c.chain else []),
           ⟨s.obj, c.hash, pk, emb, none⟩, s.refs.map fun r => (r.name, r.stream)) := by
    unfold verifyCore
    rw [hparts] at hck ⊢
    rw [hrs]
    simp only [hx, hck]
  have hnames : s.parts.map (·.name) = (keptOf pkg).map (·.name) ++ newNames c := by
    rw [hparts, List.map_append, newsOf_names]
  -- no two members of one name, no payload member outside the Manifest
  have hdup : fx = true → hasDup s.parts = false := fun hfx => by
    rw [hasDup_false_iff, hnames, List.nodup_append]
    refine ⟨hnd hfx, F.nodup, fun a ha b hb hab => ?_⟩
    obtain ⟨p, hp, rfl⟩ := List.mem_map.mp ha
    exact absurd (keptOf_keep hp) (by rw [hab, F.notKept b hb]; simp)
  have hunc : uncovered (s.parts.map (·.name)) (s.refs.map fun r => (r.name, r.stream)) = false := by
    rw [uncovered_false_iff, hnames, List.map_map]
    intro n hn hkeep
    rcases List.mem_append.mp hn with hn | hn
    · obtain ⟨p, hp, rfl⟩ := List.mem_map.mp hn
      exact (refs_names_iff hs p.name).mpr (.inl ⟨p, (List.mem_filter.mp hp).1, rfl, hkeep⟩)
    · exact absurd hkeep (by rw [F.notKept n hn]; simp)
  unfold Vsix.verify verifyF
  cases fx with
  | false =>
    simp only [Bool.false_and, Bool.false_eq_true, if_false, hcore]
    cases hd : c.detach with
    | false => simp [hemb hd]
    | true => simp [S.leaf hd]
  | true =>
    simp only [hdup rfl, Bool.and_false, Bool.false_eq_true, if_false, hcore, hunc]
    cases hd : c.detach with
    | false => simp [hemb hd]
    | true => simp [S.leaf hd]

/-- **vsix_sign_then_verify** (full strength, repaired code).  For every package — whatever it holds — every configuration passing
    `cfgOk` and every environment sound on what this signing wrote: if `sign` returns a package, `verify` accepts it under the
    signer's key and hash, having looked up and hashed, Reference by Reference and in Manifest order, exactly the
    (part, bytes) pairs whose digests the signer stored.  What `sign` refuses instead is characterised by
    `vsix_sign_refuses_iff`. -/
theorem vsix_sign_then_verify (E : Env) (c : Cfg) (pkg : Pkg) (s : Vsix.Signed) (pk : Bytes)
    (hs : Vsix.sign true E c pkg = .ok s) (hc : cfgOk c = true) (S : VsixSound E c s.obj pk) :
    Vsix.verify true E s.parts = .ok ⟨c.hash, pk, s.refs.map fun r => (r.name, r.stream)⟩ :=
  vsix_sign_then_verify_guarded true E c pkg s pk hs hc (sign_true_refsOk_nodup hs).1 S (fun _ => (sign_true_refsOk_nodup hs).2)

/-- **vsix_sign_refuses_iff.** Relative to the signer before the repairs: on an input it signed into `s₀` and that has no two
    kept members of one name, the repaired signer returns the same `s₀` exactly when every part name survives the Reference
    URI (`refsOk`), and refuses with the error `unreferencable` exactly when one does not. -/
theorem vsix_sign_refuses_iff (E : Env) (c : Cfg) (pkg : Pkg) (s₀ : Vsix.Signed) (h0 : Vsix.sign false E c pkg = .ok s₀)
    (hnd : ((keptOf pkg).map (·.name)).Nodup) :
    (Vsix.sign true E c pkg = .ok s₀ ↔ refsOk s₀.refs = true) ∧
    (Vsix.sign true E c pkg = .err "unreferencable" ↔ refsOk s₀.refs = false) := by
  obtain ⟨h1, h2⟩ := sign_true_of_false h0 hnd
  cases hr : refsOk s₀.refs with
  | true => simp [h1 hr]
  | false => simp [h2 hr]

/-- a second kept member of a name is refused -/
theorem vsix_sign_refuses_duplicates (E : Env) (c : Cfg) (pkg : Pkg) (s : Vsix.Signed) (hs : Vsix.sign true E c pkg = .ok s) :
    ((pkg.filter fun p => keepFile p.name).map (·.name)).Nodup :=
  (sign_true_refsOk_nodup hs).2

theorem demo_sign (fx d : Bool) (pkg : Pkg) (h : (Vsix.sign fx (demoE (demoCfg d) pkg) (demoCfg d) pkg).isOk = true) :
    Vsix.sign fx (demoE (demoCfg d) pkg) (demoCfg d) pkg = .ok (demoSigned fx (demoCfg d) pkg) := by
  unfold demoSigned
  cases hs : Vsix.sign fx (demoE (demoCfg d) pkg) (demoCfg d) pkg with
  | ok s => rfl
  | _ => rw [hs] at h; cases h

/-- what the closed statements about the demo package rest on, evaluated once: the signer before and after the repairs accepts it,
    with embedded and with detached certificates, and both configurations pass `cfgOk` -/
theorem demo_facts : ∀ fx d : Bool,
    (Vsix.sign fx (demoE (demoCfg d) demoPkg) (demoCfg d) demoPkg).isOk = true ∧ cfgOk (demoCfg d) = true := by
  decide +kernel

theorem demo_signed (fx d : Bool) :
    Vsix.sign fx (demoE (demoCfg d) demoPkg) (demoCfg d) demoPkg = .ok (demoSigned fx (demoCfg d) demoPkg) :=
  demo_sign fx d demoPkg (demo_facts fx d).1

/-- the search `(demoE c pkg).parseRels` unfolds to, on the three relationship parts a signing with `demoCfg d` writes
    (the package does not occur) -/
theorem demo_cands : ∀ d : Bool,
    ((demoCands (demoCfg d)).find? fun rs => marshalRels rs = marshalRels (appendRel (demoEnv [] noNode) [] sOrigin sigOriginType)) =
      some (appendRel (demoEnv [] noNode) [] sOrigin sigOriginType) ∧
    ((demoCands (demoCfg d)).find? fun rs =>
        marshalRels rs = marshalRels (appendRel (demoEnv [] noNode) [] (sigName (demoCfg d)) sigType)) =
      some (appendRel (demoEnv [] noNode) [] (sigName (demoCfg d)) sigType) ∧
    ((demoCands (demoCfg d)).find? fun rs => marshalRels rs = marshalRels (certRels (demoEnv [] noNode) (demoCfg d).chain [])) =
      some (certRels (demoEnv [] noNode) (demoCfg d).chain []) := by
  decide +kernel

theorem demo_rels (d : Bool) (pkg : Pkg) :
    (demoE (demoCfg d) pkg).parseRels (marshalRels (appendRel (demoE (demoCfg d) pkg) [] sOrigin sigOriginType)) =
      some (appendRel (demoE (demoCfg d) pkg) [] sOrigin sigOriginType) ∧
    (demoE (demoCfg d) pkg).parseRels (marshalRels (appendRel (demoE (demoCfg d) pkg) [] (sigName (demoCfg d)) sigType)) =
      some (appendRel (demoE (demoCfg d) pkg) [] (sigName (demoCfg d)) sigType) ∧
    (demoE (demoCfg d) pkg).parseRels (marshalRels (certRels (demoE (demoCfg d) pkg) (demoCfg d).chain [])) =
      some (certRels (demoE (demoCfg d) pkg) (demoCfg d).chain []) := by
  -- the toy `relId` is constant, so the relationship lists do not depend on the candidates and the Object
  have a : ∀ x t, appendRel (demoE (demoCfg d) pkg) [] x t = appendRel (demoEnv [] noNode) [] x t := fun _ _ => rfl
  have b : certRels (demoE (demoCfg d) pkg) (demoCfg d).chain [] = certRels (demoEnv [] noNode) (demoCfg d).chain [] := rfl
  have e : ∀ x, (demoE (demoCfg d) pkg).parseRels x = (demoCands (demoCfg d)).find? fun rs => marshalRels rs = x :=
    fun _ => rfl
  rw [e, e, e, a, a, b]
  exact demo_cands d

/-- the Object the toy environment opens the signature part to is the one this signing built -/
theorem demoObj_signed (fx d : Bool) : demoObj (demoCfg d) demoPkg = (demoSigned fx (demoCfg d) demoPkg).obj := by
  cases fx <;> cases d <;> rfl

theorem demo_sound (fx d : Bool) : VsixSound (demoE (demoCfg d) demoPkg) (demoCfg d) (demoSigned fx (demoCfg d) demoPkg).obj [7] := by
  obtain ⟨r1, r2, r3⟩ := demo_rels d demoPkg
  refine ⟨r1, r2, fun _ => r3, fun s => by simp [demoE, demoEnv], ?_, ⟨[[7]], ?_, fun _ => by decide⟩, fun _ => ?_⟩
  · intro _ x hx
    simp only [demoCfg, List.mem_singleton] at hx
    subst hx
    exact ⟨[[7]], rfl⟩
  · intro _
    rw [← demoObj_signed]
    rfl
  · cases d <;> decide

/-- the hypotheses are satisfiable, with embedded and with detached certificates, on a package that holds a payload part,
    a content types part, a foreign relationship part and a stale origin part: the verifier recomputes four digests -/
example (d : Bool) : Vsix.verify true (demoE (demoCfg d) demoPkg) (demoSigned true (demoCfg d) demoPkg).parts =
    .ok ⟨.sha256, [7], (demoSigned true (demoCfg d) demoPkg).refs.map fun r => (r.name, r.stream)⟩ ∧
    (demoSigned true (demoCfg d) demoPkg).refs.length = 4 := by
  have h : ∀ d : Bool, (demoSigned true (demoCfg d) demoPkg).refs.length = 4 := by decide +kernel
  exact ⟨vsix_sign_then_verify _ (demoCfg d) demoPkg _ [7] (demo_signed true d) (demo_facts true d).2 (demo_sound true d), h d⟩

/-- the statement for the code before the repairs, without the `refsOk` guard -/
def vsix_sign_then_verify_full_orig : Prop :=
  ∀ (E : Env) (c : Cfg) (pkg : Pkg) (s : Vsix.Signed) (pk : Bytes), Vsix.sign false E c pkg = .ok s → cfgOk c = true → VsixSound E c s.obj pk →
    ∃ v, Vsix.verify false E s.parts = .ok v

theorem query_sound : VsixSound (demoE (demoCfg false) queryPkg) (demoCfg false) (demoSigned false (demoCfg false) queryPkg).obj [7] :=
  ⟨(demo_rels false queryPkg).1, (demo_rels false queryPkg).2.1, by decide, fun s => by simp [demoE, demoEnv], (fun h => nomatch h),
    ⟨[[7]], fun _ => rfl, fun _ => by decide⟩, by decide⟩

/-- **vsix_uri_roundtrip_gap** (finding FV1, repaired).  A part named `a?b.txt`.  Before the repair: signing succeeds, and relic's
    verifier rejects the result ("file not found: a": `checkManifest` cuts the cleaned URI at the first `?`, which here is
    inside the part name).  After it: signing is refused. -/
theorem vsix_uri_roundtrip_gap :
    Vsix.sign false (demoE (demoCfg false) queryPkg) (demoCfg false) queryPkg = .ok (demoSigned false (demoCfg false) queryPkg) ∧
    refsOk (demoSigned false (demoCfg false) queryPkg).refs = false ∧
    Vsix.verify false (demoE (demoCfg false) queryPkg) (demoSigned false (demoCfg false) queryPkg).parts = .err "file-not-found" ∧
    Vsix.sign true (demoE (demoCfg false) queryPkg) (demoCfg false) queryPkg = .err "unreferencable" :=
  have h : (Vsix.sign false (demoE (demoCfg false) queryPkg) (demoCfg false) queryPkg).isOk = true ∧
      refsOk (demoSigned false (demoCfg false) queryPkg).refs = false ∧
      Vsix.verify false (demoE (demoCfg false) queryPkg) (demoSigned false (demoCfg false) queryPkg).parts = .err "file-not-found" := by
    decide +kernel
  have hs := demo_sign false false queryPkg h.1
  ⟨hs, h.2.1, h.2.2, ((vsix_sign_refuses_iff _ _ _ _ hs (by decide)).2).mpr h.2.1⟩

theorem vsix_sign_then_verify_full_orig_false : ¬ vsix_sign_then_verify_full_orig := by
  intro h
  obtain ⟨v, hv⟩ := h _ _ _ _ [7] vsix_uri_roundtrip_gap.1 (demo_facts false false).2 query_sound
  rw [vsix_uri_roundtrip_gap.2.2.1] at hv
  cases hv

/-- **vsix_refsOk_of_simple.** A syntactic class on which the `refsOk` guard holds: part names made of slash-separated
    segments that are non-empty, not `.` or `..` and free of `?` (what OPC part names look like), content types without a
    `..` segment after their first slash. -/
theorem vsix_refsOk_of_simple (refs : List Ref) (h : ∀ r ∈ refs, SimpleName r.name ∧ CtOk r.ctype) : refsOk refs = true := by
  rw [refsOk_iff]
  intro r hr
  have := uriPath_simple r.name r.ctype (h r hr).1 (h r hr).2
  simpa [Ref.uri, List.append_assoc] using this

/-- the three digested parts the signer adds are in the class, with their built-in content types -/
example : SimpleName (relPath []) ∧ SimpleName (relPath sOrigin) ∧ SimpleName sOrigin ∧ CtOk ctRels ∧ CtOk ctPsdor ∧ CtOk defaultContentType := by
  refine ⟨⟨[sRelsSeg], extRels, by decide, by decide, by decide⟩,
    ⟨[[0x70, 0x61, 0x63, 0x6b, 0x61, 0x67, 0x65], [0x73, 0x65, 0x72, 0x76, 0x69, 0x63, 0x65, 0x73],
       [0x64, 0x69, 0x67, 0x69, 0x74, 0x61, 0x6c, 0x2d, 0x73, 0x69, 0x67, 0x6e, 0x61, 0x74, 0x75, 0x72, 0x65], sRelsSeg],
      [0x6f, 0x72, 0x69, 0x67, 0x69, 0x6e, 0x2e, 0x70, 0x73, 0x64, 0x6f, 0x72, 0x2e, 0x72, 0x65, 0x6c, 0x73],
      by decide, by decide, by decide⟩,
    ⟨[[0x70, 0x61, 0x63, 0x6b, 0x61, 0x67, 0x65], [0x73, 0x65, 0x72, 0x76, 0x69, 0x63, 0x65, 0x73],
       [0x64, 0x69, 0x67, 0x69, 0x74, 0x61, 0x6c, 0x2d, 0x73, 0x69, 0x67, 0x6e, 0x61, 0x74, 0x75, 0x72, 0x65]],
      [0x6f, 0x72, 0x69, 0x67, 0x69, 0x6e, 0x2e, 0x70, 0x73, 0x64, 0x6f, 0x72], by decide, by decide, by decide⟩,
    by decide, by decide, by decide⟩

/-- **vsix_manifest_sorted.** The Manifest lists every covered part exactly once, in strictly ascending byte order of the
    part names (`sort.Strings` over the keys of `m.digests`), whatever the order or multiplicity of the members. -/
theorem vsix_manifest_sorted (fx : Bool) (E : Env) (c : Cfg) (pkg : Pkg) (s : Vsix.Signed) (hs : Vsix.sign fx E c pkg = .ok s) :
    (s.refs.map (·.name)).Pairwise (fun a b => bytesLt a b = true) :=
  refs_sorted hs

example : ((demoSigned true (demoCfg false) demoPkg).refs.map (·.name)).Pairwise (fun a b => bytesLt a b = true) :=
  vsix_manifest_sorted true _ _ _ _ (demo_signed true false)

end Relic.Props.C01
