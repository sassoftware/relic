/-
  C11 (fragment) — hostile environment values at start-up (internal/activation: LISTEN_FDS / LISTEN_PID / EINHORN_*), the
  listener plan of daemon.New, and what a panic inside the handler chain becomes (internal/zhttp/recovery.go).
  Tie: DAEMON act ops (a child process per op with the scripted environment and inherited sockets), DAEMON panic ops.
-/
import Relic.Proofs.Daemon
namespace Relic.Props.C11
open Relic.Daemon

theorem fdListener_no_panic (w : World) (fd : Int) : ∀ s, fdListener w fd ≠ .panic s ∧ fdListener w fd ≠ .diverge :=
  fun s => ⟨fdListener_no_crash w fd (.panic s), fdListener_no_crash w fd .diverge⟩

theorem popEnvInt_no_panic (e : Env) (n : String) : (∀ s, popEnvInt e n ≠ .panic s) ∧ popEnvInt e n ≠ .diverge :=
  ⟨fun s => popEnvInt_no_crash e n (.panic s), popEnvInt_no_crash e n .diverge⟩

theorem systemd_total (w : World) (i : Nat) : (∀ s, systemdListener w i ≠ .panic s) ∧ systemdListener w i ≠ .diverge :=
  ⟨fun s => systemdListener_no_crash w i (.panic s), systemdListener_no_crash w i .diverge⟩

/-- the index expression `fds[index]` of socketmasterListener is guarded by the length test before it -/
theorem socketmaster_index_in_range (w : World) (i : Nat) : ∀ s, socketmasterListener w i ≠ .panic s := by
  intro s
  unfold socketmasterListener
  simp only
  split
  · simp
  · split
    · simp
    · rename_i hlen
      split
      · rename_i hnone
        have := List.getElem?_eq_none_iff.mp hnone
        omega
      · split
        · simp
        · exact (fdListener_no_panic w _ s).1

/-- for the systemd variables: with no EINHORN_* variable set, GetListener ends in a listener, a
    fall-back to net.Listen or an error – never a panic, never a loop – whatever LISTEN_FDS / LISTEN_PID contain. -/
theorem listen_fds_parse_total (w : World) (i : Nat)
    (h1 : w.env.get "EINHORN_MASTER_PID" = "") (h2 : w.env.get "EINHORN_FD_COUNT" = "") (h3 : w.env.get "EINHORN_FDS" = "") :
    (∀ s, getListener w i ≠ .panic s) ∧ getListener w i ≠ .diverge := by
  have e : einhornListener w i = .ok none := by
    simp only [einhornListener, popEnvInt, h1, h2, if_true]
    have : (-1 : Int) < (i : Int) + 1 := by omega
    simp [this]
  have sm : socketmasterListener w i = .ok none := by simp [socketmasterListener, h3]
  -- with the two einhorn sources silent, `GetListener` crashes only where `systemdListener` does
  have key : ∀ c : Crash, getListener w i ≠ Res.crash c := fun c => by
    have st := systemdListener_no_crash w i c
    unfold getListener
    rw [e, sm]
    simp only
    split <;> simp_all
  exact ⟨fun s => key (.panic s), key .diverge⟩

example : (⟨[("LISTEN_FDS", "garbage")], 1, 0, fun _ => .bad⟩ : World).env.get "EINHORN_FDS" = "" := by decide +kernel

/-- what systemdListener hands out is fd 3 + index, and only if index < LISTEN_FDS and
    LISTEN_PID is unset, "-1", or this process. -/
theorem systemd_fd_is_3_plus_index (w : World) (i : Nat) (g : Got) (h : systemdListener w i = .ok (some g)) :
    ∃ k, g = .inherited (3 + (i : Int)) k ∧ w.fds (3 + (i : Int)) = k ∧ k ≠ .bad := by
  unfold systemdListener at h
  split at h
  · split at h
    · cases h
    · split at h
      · split at h
        · cases h
        · unfold fdListener at h
          split at h
          · cases h
          · rename_i k hk
            simp only [Res.ok.injEq, Option.some.injEq] at h
            exact ⟨w.fds (3 + (i : Int)), h.symm, rfl, by intro hb; exact hk hb⟩
      all_goals cases h
  all_goals cases h

theorem wrong_pid_ignored (w : World) (i : Nat) (p : Int) (h : popEnvInt w.env "LISTEN_PID" = .ok p) (h1 : p ≠ -1) (h2 : p ≠ w.pid) :
    systemdListener w i = .ok none := by
  simp [systemdListener, h, h1, h2]

theorem index_ge_count_falls_back (w : World) (i : Nat) (n : Int) (hp : popEnvInt w.env "LISTEN_PID" = .ok (-1))
    (h : popEnvInt w.env "LISTEN_FDS" = .ok n) (hn : n ≤ i) : systemdListener w i = .ok none := by
  have : n < (i : Int) + 1 := by omega
  simp [systemdListener, hp, h, this]

/-- a value strconv.Atoi rejects is an error of daemon.New, not a crash and not a silent fall-back -/
theorem garbage_count_is_error (w : World) (i : Nat) (hp : w.env.get "LISTEN_PID" = "") (hv : w.env.get "LISTEN_FDS" ≠ "")
    (ha : atoi (w.env.get "LISTEN_FDS") = none) : systemdListener w i = .err "atoi:LISTEN_FDS" := by
  simp [systemdListener, popEnvInt, hp, hv, ha]

/-- quirk: LISTEN_PID=-1 is indistinguishable from "unset" (popEnvInt returns -1 for both) -/
theorem listen_pid_minus_one_is_wildcard : popEnvInt [("LISTEN_PID", "-1")] "LISTEN_PID" = popEnvInt [] "LISTEN_PID" := by decide +kernel

example : atoi "12" = some 12 ∧ atoi "+7" = some 7 ∧ atoi "-0" = some 0 ∧ atoi "" = none ∧ atoi "1 " = none ∧ atoi "0x1" = none ∧
    atoi "9223372036854775807" = some 9223372036854775807 ∧ atoi "9223372036854775808" = none ∧
    atoi "-9223372036854775808" = some (-9223372036854775808) ∧ atoi "--1" = none := by decide +kernel

/-- The activation indices New uses are 0, 1, 2, … in the order TLS, plaintext, metrics over the
    configured listeners: the metrics listener's index is the number of main listeners (the commented-out `index++` after
    it is dead code: nothing is opened afterwards). -/
theorem metrics_listener_index (c : Cfg) : (plan c).map (·.2) = List.range (plan c).length := by
  cases c with
  | mk a b m => cases a <;> cases b <;> cases m <;> decide

/-- A panic on the request's goroutine never ends the process: it becomes a generic 500
    (504 / 499 when the request context is already done), or – for http.ErrAbortHandler, which RecoveryMiddleware
    re-panics – an aborted connection; if the headers are already out, the body is cut short. -/
theorem handler_panic_is_contained (v : PanicVal) (hs : Option Nat) (ctx : Nat) : onPanic .handlerGoroutine v hs ctx ≠ .processDies := by
  cases v <;> cases hs <;> simp [onPanic]

/-- … while a panic in a goroutine the handler (or a signer) spawned is outside every `recover`: the process dies -/
theorem spawned_goroutine_panic_kills_process (v : PanicVal) (hs : Option Nat) (ctx : Nat) : onPanic .spawnedGoroutine v hs ctx = .processDies := rfl

example : onPanic .handlerGoroutine .other none 0 = .status 500 true := rfl
example : onPanic .handlerGoroutine .abortHandler none 0 = .connAborted := rfl

end Relic.Props.C11
