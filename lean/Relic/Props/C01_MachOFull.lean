/-
  C01 — Every signature relic produces verifies.   Thin Mach-O, the verifier half of the end-to-end statement:
  given where the locator finds the signature region in the written file, `machos.Verify` accepts it.  The composition is
    superblob         CodeDir.parseSuper_marshal_tail     (`parseSuper ∘ marshalSuperBlob`, zero padding of the reserved region behind it)
    code directory    CodeDir.parse_newCodeDirectory      (`parseCodeDirectory ∘ newCodeDirectory`)
    signature         CodeDir.parseSignature_own_tail     (one directory of type 0, the hashed items byte for byte, a CMS item)
    pages             CodeDir.verifyLoop_pages            (the verifier's page loop = the page decomposition)
    verifier          MachO.verifyFile_own
  The locator half (scan / PatchSignature / debug/macho's load-command walk on the patched header) is C01_MachOLocate.lean.
-/
import Relic.Props.C01_MachOLocate
import Relic.Proofs.MachOVerify
namespace Relic.Props.C01
open Relic.MachO Relic.CodeDir

/-- The verifier half.  `hloc`, `hslice`, `hpre`: `readSigBlob` finds the region `(sigStart, sigBufLen)` in `g`, that region
    holds the embedded signature followed by zeros, and the bytes in front of it are the image that was hashed — the three
    facts `machos.Sign` + `ApplyBinPatch` establish for a regular image (C01_MachOLocate).  `hrep`: thin Mach-O, no
    rep-specific slot.  Then `machos.Verify g` yields a plan whose final verdict is `ok` and in which every comparison holds:
    the requirement / entitlement slots over the items found in the blob and one comparison `H(page_i) = slot_i` per
    4096-byte page. -/
theorem macho_verify_of_locate (H : Bytes → Bytes) (f : Bytes) (p : SignParams) (so : SignOut) (cms g : Bytes)
    (hH : ∀ x, (H x).length = hashSizeOf p.hash) (hcms : 8 < cms.length) (hrep : p.repSpecific = none)
    (hsign : sign f p = .ok so)
    (hfit : (render H (hashSizeOf p.hash) (superblob (hashSizeOf p.hash) so.signed cms)).length ≤ so.plan.po.sigBufLen)
    (hloc : locate g = .ok (so.plan.po.sigStart, so.plan.po.sigBufLen))
    (hpre : g.take so.plan.po.sigStart = so.plan.stream)
    (hslice : sliceOf g so.plan.po.sigStart so.plan.po.sigBufLen =
      render H (hashSizeOf p.hash) (superblob (hashSizeOf p.hash) so.signed cms) ++
        zeros (so.plan.po.sigBufLen - (render H (hashSizeOf p.hash) (superblob (hashSizeOf p.hash) so.signed cms)).length)) :
    ∃ vp, verifyFile g = .ok vp ∧ vp.sigOff = so.plan.po.sigStart ∧ vp.sigLen = so.plan.po.sigBufLen ∧
      vp.final = .ok () ∧ ∀ c ∈ vp.checks, H c.stream = c.expected := by
  obtain ⟨_, p', hd, hsb⟩ := signFrom_inv p _ so (sign_orig_of_sign f p so hsign)
  obtain ⟨hhash, hrep'⟩ := MachO.defaults_keeps _ _ _ _ hd
  rw [← hhash] at hH hfit hslice
  obtain ⟨hoff, _, _⟩ := locate_bounds g _ _ hloc
  have hpre' := take_length_of_take g _ _ hpre
  have hlim : so.plan.stream.length < 2 ^ 63 := by
    have : so.plan.stream.length ≤ so.plan.po.sigStart := by
      rw [← hpre, List.length_take]; omega
    omega
  exact verifyFile_own H p' so.plan.stream so.signed cms g _ _ hH hcms hsb (by rw [hrep', hrep]) hlim hloc hfit hslice hpre'

/-- The end-to-end statement for thin Mach-O images, closing `macho_sign_then_verify_full` in its corrected form
    (`macho_sign_then_verify_full` itself is false as written: `not_macho_sign_then_verify_full`).  The image is `Regular`
    (C01_MachOLocate: the verifier's parser reads the input's load commands, at most one LC_CODE_SIGNATURE of size 16,
    __LINKEDIT command kind matches the magic, header below the end of code, old signature inside the file); that the commands
    fill sizeofcmds when one is added (F-MACHO-4) and that the signature region, fresh or reused, is ≤ 10^7 bytes (F-MACHO-3,
    F-MACHO-3b) is not assumed: `scanFile` / `Sign` test it (`regular_noSlack` / `regular_small`).  Then the patch set applies,
    and `machos.Verify` on the written file — `debug/macho`'s load-command walk over the patched header, `readSigBlob`,
    `parseSignature`, the special slots, `VerifyPages` — ends in `ok` with every comparison `H(stream) = expected slot` true,
    one per 4096-byte page of the image plus the hashed items. -/
theorem macho_sign_then_verify_end_to_end (H : Bytes → Bytes) (f : Bytes) (p : SignParams) (so : SignOut) (cms : Bytes)
    (hH : ∀ x, (H x).length = hashSizeOf p.hash) (hcms : 8 < cms.length) (hrep : p.repSpecific = none)
    (hsign : sign f p = .ok so) (R : Regular f so)
    (hfit : (render H (hashSizeOf p.hash) (superblob (hashSizeOf p.hash) so.signed cms)).length ≤ so.plan.po.sigBufLen) :
    ∃ g vp, signedFile f so.plan.po (render H (hashSizeOf p.hash) (superblob (hashSizeOf p.hash) so.signed cms)) = .ok g ∧
      verifyFile g = .ok vp ∧ vp.sigOff = so.plan.po.sigStart ∧ vp.sigLen = so.plan.po.sigBufLen ∧
      vp.final = .ok () ∧ ∀ c ∈ vp.checks, H c.stream = c.expected := by
  obtain ⟨g, hg, hloc, hpre, hslice⟩ := macho_sign_then_locate f p so _ hsign R hfit
  obtain ⟨vp, hv, a, b, c, d⟩ := macho_verify_of_locate H f p so cms g hH hcms hrep hsign hfit hloc hpre hslice
  exact ⟨g, vp, hg, hv, a, b, c, d⟩

/-- stand-in hash function: 32 copies of the stream length mod 256 -/
def machoH : Bytes → Bytes := fun s => List.replicate 32 (UInt8.ofNat s.length)

open Demo in
/-- non-vacuity: the theorem applied to the minimal regular image (120 bytes, a load command is added, 16392 bytes reserved
    at offset 120), SHA-256 parameters, a 9-byte CMS blob: signed, written, located, parsed and verified -/
example : ∃ so g vp, sign fGood p0 = .ok so ∧
    signedFile fGood so.plan.po (render machoH 32 (superblob 32 so.signed (List.replicate 9 7))) = .ok g ∧
    verifyFile g = .ok vp ∧ vp.sigOff = 120 ∧ vp.final = .ok () ∧ ∀ c ∈ vp.checks, machoH c.stream = c.expected := by
  obtain ⟨so, hs, R, e1, e2⟩ := macho_regular_demo
  have hx := (signOrig_of_scan fGood p0 mGood scanOrig_fGood).symm.trans (sign_orig_of_sign fGood p0 so hs)
  have hb : (match signFrom p0 (planFrom fGood mGood (hashSizeOf p0.hash) ((p0.entitlement.map (·.length)).getD 0)
        ((p0.requirements.map (·.length)).getD 0)) with
      | .ok so => decide ((render machoH 32 (superblob 32 so.signed (List.replicate 9 7))).length ≤ 16392)
      | _ => false) = true := by decide +kernel
  rw [hx] at hb
  simp only [decide_eq_true_eq] at hb
  obtain ⟨g, vp, a, b, c, _, d, e⟩ := macho_sign_then_verify_end_to_end machoH fGood p0 so (List.replicate 9 7)
    (by intro x; simp [machoH, p0, hashSizeOf]) (by decide) rfl hs R (by rw [e2]; exact hb)
  exact ⟨so, g, vp, hs, a, b, by rw [c, e1], d, e⟩

/-- The region `machos.Sign` reserves for the signature is the old signature region when that is at
    least as large as the estimate `codeSize·(20+hashSize)/4096 + |entitlement| + |requirements| + 16384`, and the estimate
    rounded up to a multiple of 8 otherwise. -/
theorem macho_reserved_size (f : Bytes) (p : SignParams) (so : SignOut) (hsign : sign f p = .ok so) :
    let est : Int := Int.tdiv (so.plan.m.codeSize * (20 + hashSizeOf p.hash : Nat)) 4096 +
      (((p.entitlement.map (·.length)).getD 0) + ((p.requirements.map (·.length)).getD 0) : Nat) + 16384
    ((so.plan.m.sigLen : Int) ≥ est ∧ so.plan.po.sigBufLen = so.plan.m.sigLen) ∨
    (¬ (so.plan.m.sigLen : Int) ≥ est ∧ so.plan.po.sigBufLen = align est.toNat 8) := by
  obtain ⟨_, hpo⟩ := signOrig_patch f p so (sign_orig_of_sign f p so hsign)
  exact patchSignature_sigBufLen _ _ _ _ hpo

/-- Finding F-MACHO-3, fixed in /repo 5805b39; about the tree BEFORE the fix (`signOrig`).
    Whenever the reserved region exceeded the 10^7 bytes `readSigBlob` is willing to read — any image without a big-enough
    old region whose code exceeds about `(10^7 − 16384)·4096/(20+hashSize)` bytes, 786 MB for SHA-256 — NO file is located
    with that region, whatever the patch application produced: what `machos.Sign` wrote with exit status 0 was refused by
    `machos.Verify` ("unreasonably large LC_CODE_SIGNATURE").  Replayed on the real code with an 800 MiB image
    (harness/cmd/machobig).  (`MachO.large_signature_refused` is the constructive form: the file exists and `locate` answers
    `err "toolarge"`.) -/
theorem macho_oversize_refused_orig (f : Bytes) (p : SignParams) (so : SignOut) (_hsign : signOrig f p = .ok so)
    (hbig : 10000000 < so.plan.po.sigBufLen) (g : Bytes) :
    locate g ≠ .ok (so.plan.po.sigStart, so.plan.po.sigBufLen) := by
  intro h
  have := (locate_bounds g _ _ h).2.1
  omega

/-- Current tree, fixes F-MACHO-3 and F-MACHO-3b; both branches of `PatchSignature`.
    Let `regionOf` be the size of the region `PatchSignature` is going to use: the image's old signature region when it is at
    least as large as the estimate, the estimate rounded up to a multiple of 8 otherwise.  When it exceeds the 10^7 bytes
    `readSigBlob` reads, `machos.Sign` refuses (`image too large`): nothing is written.  (`hr`: the int64 product
    `codeSize·(20+hashSize)` does not wrap, i.e. `codeSize < 2^63/(20+hashSize)`.) -/
theorem macho_sign_refuses_oversize_region (f : Bytes) (p : SignParams) (m : Markers) (hs : scan f = .ok m)
    (hr : ¬ estRange m (hashSizeOf p.hash))
    (hbig : regionOf m (estI m (hashSizeOf p.hash) ((p.entitlement.map (·.length)).getD 0)
      ((p.requirements.map (·.length)).getD 0)) > 10000000) :
    sign f p = .err "signtoolarge" :=
  sign_refuses_oversize f p m hs hr hbig

/-- the fresh-region branch, fix F-MACHO-3: the old region (if any) is smaller than the
    estimate and the estimate rounded up to a multiple of 8 exceeds 10^7 -/
theorem macho_sign_refuses_oversize (f : Bytes) (p : SignParams) (m : Markers) (hs : scan f = .ok m)
    (hr : ¬ estRange m (hashSizeOf p.hash))
    (hlt : (m.sigLen : Int) < estI m (hashSizeOf p.hash) ((p.entitlement.map (·.length)).getD 0) ((p.requirements.map (·.length)).getD 0))
    (hbig : align (estI m (hashSizeOf p.hash) ((p.entitlement.map (·.length)).getD 0)
      ((p.requirements.map (·.length)).getD 0)).toNat 8 > 10000000) :
    sign f p = .err "signtoolarge" :=
  macho_sign_refuses_oversize_region f p m hs hr (by unfold regionOf; rw [if_pos hlt]; exact hbig)

/-- the reuse branch, fix F-MACHO-3b: the old region is at least as large as the
    estimate and larger than 10^7 bytes -/
theorem macho_sign_refuses_oversize_reuse (f : Bytes) (p : SignParams) (m : Markers) (hs : scan f = .ok m)
    (hr : ¬ estRange m (hashSizeOf p.hash))
    (hge : ¬ (m.sigLen : Int) < estI m (hashSizeOf p.hash) ((p.entitlement.map (·.length)).getD 0) ((p.requirements.map (·.length)).getD 0))
    (hbig : m.sigLen > 10000000) :
    sign f p = .err "signtoolarge" :=
  macho_sign_refuses_oversize_region f p m hs hr (by unfold regionOf; rw [if_neg hge]; exact hbig)

/-- current tree: the region a successful `machos.Sign` names in LC_CODE_SIGNATURE is at most 10^7
    bytes, fresh or reused — no hypothesis (= `regular_small`) -/
theorem macho_region_small (f : Bytes) (p : SignParams) (so : SignOut) (hsign : sign f p = .ok so) :
    so.plan.po.sigBufLen ≤ 10000000 :=
  regular_small f p so hsign

/-- Finding F-MACHO-3b, fixed in /repo e678460; about the trees BEFORE that fix: the original one, `signOrig`, and the
    intermediate one of /repo 5805b39, whose guard `sizeGuardMid` — only a fresh region was tested — does not fire on these
    inputs (first conjunct).  An image with the regular layout (the fields of
    `RegularImage` plus `noSlack`) whose own old signature region is at least as large as the estimate AND larger than 10^7
    bytes (offsets within 32 bits, as they are when read from the 32-bit fields of LC_CODE_SIGNATURE): `machos.Sign`
    succeeded, the region was reused as it was, the signed file exists, its prefix is the hashed stream — and the locator
    refuses it ("unreasonably large LC_CODE_SIGNATURE").  Replayed on the real code before the fix:
    harness/cmd/machobig reuse.  The current `Sign` refuses such an image: `macho_sign_refuses_oversize_reuse`. -/
theorem macho_reused_oversize_region_refused_orig (f : Bytes) (p : SignParams) (so : SignOut) (blob : Bytes)
    (hs : signOrig f p = .ok so) (R : RegularImage f so)
    (noSlack : so.plan.m.loadCsStart = 0 →
      hdrEndOf so.plan.m.magic + ((loadsOf f).map (fun e => e.2.2)).sum = so.plan.m.nextLc)
    (hge : ¬ (so.plan.m.sigLen : Int) < estI so.plan.m (hashSizeOf p.hash) ((p.entitlement.map (·.length)).getD 0)
      ((p.requirements.map (·.length)).getD 0))
    (hbig : 10000000 < so.plan.m.sigLen) (h32 : so.plan.po.sigStart < 2 ^ 32 ∧ so.plan.po.sigBufLen < 2 ^ 32)
    (hb : blob.length ≤ so.plan.po.sigBufLen) :
    ¬ sizeGuardMid so.plan.m (estI so.plan.m (hashSizeOf p.hash) ((p.entitlement.map (·.length)).getD 0)
      ((p.requirements.map (·.length)).getD 0)) ∧
    so.plan.po.sigBufLen = so.plan.m.sigLen ∧
    ∃ g, signedFile f so.plan.po blob = .ok g ∧ locate g = .err "toolarge" ∧ g.take so.plan.po.sigStart = so.plan.stream := by
  obtain ⟨_, hpo⟩ := signOrig_patch f p so hs
  have hbl : so.plan.po.sigBufLen = so.plan.m.sigLen := by
    rcases patchSignature_sigBufLen _ _ _ _ hpo with ⟨_, h2⟩ | ⟨h1, _⟩
    · exact h2
    · omega
  refine ⟨fun c => hge c.1, hbl, ?_⟩
  exact large_signature_refused f p so blob (loadsOf f) hs R.accepts R.oneSig noSlack R.leKind R.hdrBelow R.oldInside
    (by rw [hbl]; exact hbig) h32 hb

/-- the threshold in numbers: an estimate above 10^7 is reached by 800 MiB of code with SHA-256 (32-byte slots), not by 700 MiB;
    so the hypotheses `hlt`, `hbig` of `macho_sign_refuses_oversize` are satisfiable (an unsigned image, `sigLen = 0`, with
    800 MiB of code), and `hr` holds for every code size below 2^57 -/
example : align (Int.tdiv ((800 * 2 ^ 20 : Int) * (20 + 32 : Nat)) 4096 + (0 : Nat) + 16384).toNat 8 > 10000000 ∧
    align (Int.tdiv ((700 * 2 ^ 20 : Int) * (20 + 32 : Nat)) 4096 + (0 : Nat) + 16384).toNat 8 ≤ 10000000 := by decide

/-- hypotheses of `macho_sign_refuses_oversize_region` on concrete markers, both branches: an unsigned 64-bit image with
    800 MiB of code, SHA-256 (fresh region: the guard fires; with 700 MiB it does not); a small image that carries a region of
    10000008 bytes (reused: the guard fires, the intermediate guard `sizeGuardMid` did not; with 10000000 bytes neither does) -/
example :
    let m (cs : Int) (sl : Nat) : Markers := ⟨false, 0xfeedfacf, if sl = 0 then 0 else 12288, sl, 0, 32, 0, 0, 104, 2 ^ 63 - 1, cs, 104⟩
    ¬ estRange (m (800 * 2 ^ 20) 0) 32 ∧ sizeGuard (m (800 * 2 ^ 20) 0) (estI (m (800 * 2 ^ 20) 0) 32 0 0) ∧
    ¬ sizeGuard (m (700 * 2 ^ 20) 0) (estI (m (700 * 2 ^ 20) 0) 32 0 0) ∧
    sizeGuard (m 12288 10000008) (estI (m 12288 10000008) 32 0 12) ∧
    ¬ sizeGuardMid (m 12288 10000008) (estI (m 12288 10000008) 32 0 12) ∧
    ¬ sizeGuard (m 12288 10000000) (estI (m 12288 10000000) 32 0 12) := by decide

end Relic.Props.C01
