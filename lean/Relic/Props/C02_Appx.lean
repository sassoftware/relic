/-
  C02 (APPX): what the digests bind.  AXPC is the output up to the signature part's record, so every byte before it is
  hashed; the block map's block streams determine the contents of every hashed part.
  Stated gap (not covered by any of the five digests, by design of the format): the signature part's own local record and
  directory entry, and the count / size / offset fields of the end records (recomputed by every verifier).
-/
import Relic.Props.C05_Appx
namespace Relic.Props.C02
open Relic.Appx

/-- **appx_axpc_binds_prefix.** For a package relic signed (the hypothesis `hp`, regenerated parts below 4 GiB, is idle: see
    `C05.PartsPlain`): the AXPC stream is the file
    from offset 0 to the signature part's record — two signed packages with the same AXPC stream agree on every byte
    before their signature parts. -/
theorem appx_axpc_binds_prefix (c : Codec) (z : Bytes) (ps : Parts) (r : Signed) (h : sign c z ps = .ok r)
    (hp : ∀ g, digest c z = .ok g → C05.PartsPlain g ps) : r.streams.axpc = r.out.take r.sigOff := by
  obtain ⟨g, cut, hg, h1, _, h3, _⟩ := C05.appx_digest_eq_spec c z ps r h
  obtain ⟨e1, e2, _⟩ := h1 (hp g hg)
  rw [e2, e1, ← h3]
  simp [SpecAppx.Cut.file, SpecAppx.Cut.axpc, List.append_assoc]

/-- **appx_blockmap_binds_content.** The block streams of a `File` element determine the part's contents. -/
theorem appx_blockmap_binds_content (p q : Bytes) (h : blocksOf p = blocksOf q) : p = q := by
  have := congrArg (fun l => (l.map (·.1)).flatten) h
  simpa [blocksOf_flatten] using this

example : blocksOf [1, 2, 3] = [([1, 2, 3], 0)] := by decide

end Relic.Props.C02
