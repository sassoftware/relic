/-
  C03 (ZIP family) — JAR-style rewriting (`insertSignature`: added members in front, kept members
  re-emitted with `AddFile`, deleted members cut out, directory rewritten) preserves every kept member.
  Model: Relic.Model.ZipRewrite.

  `zip_rewrite_preserves_members` is proved at the level of relic's own layout bookkeeping, for every
  method / descriptor / ZIP64 variant relic can measure: the directory that is serialised lists the
  requested members followed by the kept members in input order with unchanged metadata, and every
  offset in it points at the member's original bytes (header, name, extra, data, descriptor) in the
  output.  The last step to the independent reader — that `Relic.Spec.Zip.parse` of the serialised
  directory returns exactly these entries — is stated here (`zip_rewrite_preserves_members_full`) and
  evaluated on concrete archives; as stated it is false (F7e), and it holds on the class `Readable`:
  both in Relic/Props/C03_ZipFull.lean.

  F9: on the tree without fix-F9 the loop does not check the layout; `zip_prefix_breaks`.
-/
import Relic.Proofs.ZipRewrite
namespace Relic.Props.C03
open Relic.Zip

/-- members laid out back to back from offset 0 up to the central directory, as relic measures
    them (`GetTotalSize`): the layout `AddFile`'s running offsets assume -/
def contiguous0 (ms : List Member) (d : Directory) : Prop := contigMs 0 ms d.dirLoc

instance (ms : List Member) (d : Directory) : Decidable (contiguous0 ms d) := by unfold contiguous0; infer_instance

/-- relic-readable (JAR path): the directory is found and parsed, the single forward pass measures
    every member (local header present, descriptor carries its signature and consistent sizes) and
    there is a manifest.  `ms` = the members as measured. -/
def relicReadable (z : Bytes) (d : Directory) (ms : List Member) : Prop := jarRead z = .ok (d, ms)

theorem readWithDirectory_dirLoc (size : Nat) (cd : Bytes) (d : Directory) (h : readWithDirectory size cd = .ok d) :
    d.dirLoc ≤ size := by
  unfold readWithDirectory at h
  split at h
  · simp only at h
    split at h
    · simp only [Res.ok.injEq] at h; subst h; exact Nat.sub_le _ _
    · split at h
      · simp only [Res.ok.injEq] at h; subst h; exact Nat.sub_le _ _
      · cases h
  all_goals cases h

/-- What was read: the directory lies inside the file, and the forward pass
    measured one member per directory entry, in directory order, with name, method, flags, sizes,
    extra, comment and offset as the directory has them. -/
theorem relicReadable_meta (z : Bytes) (d : Directory) (ms : List Member) (hr : relicReadable z d ms) :
    d.dirLoc ≤ z.length ∧ ms.map (fun m => fileMeta m.file) = d.files.map fileMeta := by
  obtain ⟨loc, _, _, hd, hms, _⟩ := jarRead_ok hr
  exact ⟨readWithDirectory_dirLoc _ _ _ hd, passMembers_meta _ _ _ _ hms⟩

/-- `AddFile` changes nothing of an entry but its offset (and the raw-re-emission marker) -/
theorem placed_meta (o : Nat) (m : Member) :
    (placed o m).name = m.file.name ∧ (placed o m).method = m.file.method ∧ (placed o m).flags = m.file.flags ∧
    (placed o m).crc = m.file.crc ∧ (placed o m).csize = m.file.csize ∧ (placed o m).usize = m.file.usize ∧
    (placed o m).extra = m.file.extra ∧ (placed o m).comment = m.file.comment ∧ (placed o m).offset = o := by
  simp [placed]

/-- what the rewrite is claimed to produce, with the kept members `shift` bytes further than the
    directory says (`shift = 0`: correct) -/
def Layout (z : Bytes) (ms : List Member) (news : List NewMember) (mt md : Nat) (shift : Nat) (out : Bytes) : Prop :=
  ∃ (nd : Directory),
    let added := newEntries mt md news 0
    let kept := assign jarKeep ms added.2.length
    -- the bytes: added members, (retained leading bytes), the kept members' extents back to back, the new directory
    out = added.2 ++ z.take shift ++ keptBytes z jarKeep ms ++ (writeDirectory nd false).1 ++ (writeDirectory nd false).2.1 ∧
    -- the directory that is serialised: requested members first, then the kept members in input order,
    -- each with the metadata it had (only `offset` and the raw-re-emission marker change)
    nd.files = added.1 ++ kept.map (fun p => placed p.1 p.2) ∧
    kept.map (·.2) = ms.filter (fun m => jarKeep m.file) ∧
    -- the recorded directory offset, against where the directory really starts
    nd.dirLoc + shift = (added.2 ++ z.take shift ++ keptBytes z jarKeep ms).length ∧
    -- every kept entry: the member's original bytes are at its offset (+ shift)
    locatedAt z out shift kept ∧
    -- every added entry is the requested one and its offset points at the requested bytes
    (∀ p ∈ added.1.zip news, (out.drop p.1.offset).take (newBytes mt md p.2).length = newBytes mt md p.2 ∧
      p.1 = newEntryAt mt md p.2 p.1.offset) ∧
    added.1.length = news.length

theorem assign_members (keep : File → Bool) : ∀ (ms : List Member) (o : Nat),
    (assign keep ms o).map (·.2) = ms.filter (fun m => keep m.file) := by
  intro ms
  induction ms with
  | nil => intro o; simp [assign]
  | cons m ms ih =>
    intro o
    by_cases hk : keep m.file = true
    · simp [assign, hk, ih]
    · simp [assign, hk, ih]

theorem newEntries_length (mt md : Nat) : ∀ (news : List NewMember) (o : Nat), (newEntries mt md news o).1.length = news.length :=
  newEntries_fst_length mt md

/-- the common part: whatever variant of the loop ran, if the members are laid out back to back
    from `p` up to the directory, the result has the layout with shift `p` -/
theorem assemble_layout (fixed : Bool) (z : Bytes) (d : Directory) (ms : List Member) (news : List NewMember) (mt md p : Nat)
    (out : Bytes) (hlen : d.dirLoc ≤ z.length) (hc : contigMs p ms d.dirLoc)
    (h : jarAssemble fixed z d ms news mt md = .ok out) : Layout z ms news mt md p out := by
  obtain ⟨nd, dels, pos, hw, _, _, rfl⟩ := jarAssemble_ok h
  obtain ⟨a1, a2, a3, _⟩ := addNews_spec mt md news [] { files := [], size := 0, dirLoc := 0 }
  simp only [List.nil_append, Nat.zero_add] at a1 a2 a3
  obtain ⟨w1, w2, w3, _, _⟩ := walk_spec fixed true jarKeep ms 0 _ [] nd dels pos hw
  have hp : p ≤ d.dirLoc := contig_le ms p _ hc
  have hk : applyDels z 0 dels d.dirLoc = z.take p ++ keptBytes z jarKeep ms := by
    rw [w3, List.nil_append, applyDels_split z 0 p _ _ (Nat.zero_le _) (firstStart_ge jarKeep ms p _ hc),
      applyDels_contig z jarKeep ms p _ hc]
    simp
  have hkl := keptBytes_length z jarKeep ms p _ hc hlen
  have htl : (z.take p).length = p := by simp; omega
  refine ⟨nd, ?_, ?_, assign_members jarKeep ms _, ?_, ?_, ?_, newEntries_length mt md news 0⟩
  · rw [hk, a1]; simp [List.append_assoc]
  · rw [w1, a2, a3]
  · rw [w2, a3]; simp only [List.length_append, hkl, htl]; omega
  · rw [hk, a1]
    have := assign_located z jarKeep p ms p d.dirLoc ((newEntries mt md news 0).2 ++ z.take p)
      ((writeDirectory nd false).1 ++ (writeDirectory nd false).2.1) (newEntries mt md news 0).2.length hc hlen
      (by simp only [List.length_append, htl])
    simpa [List.append_assoc] using this
  · rw [hk, a1]
    intro q hq
    have := newEntries_located mt md news 0 [] (z.take p ++ keptBytes z jarKeep ms ++ (writeDirectory nd false).1 ++
      (writeDirectory nd false).2.1) rfl q hq
    simpa [List.append_assoc] using this

/-- the code with fix-F9 only succeeds on contiguous input -/
theorem assemble_fixed_contig (z : Bytes) (d : Directory) (ms : List Member) (news : List NewMember) (mt md : Nat) (out : Bytes)
    (h : jarAssemble true z d ms news mt md = .ok out) : contiguous0 ms d := by
  obtain ⟨nd, dels, pos, hw, hpos, _⟩ := jarAssemble_ok h
  obtain ⟨_, _, _, _, w5⟩ := walk_spec true true jarKeep ms 0 _ [] nd dels pos hw
  unfold contiguous0
  rw [← hpos rfl]
  exact w5 rfl

/-- JAR-style rewrite, code as it stands (with fix-F9).
    Hypotheses: the input was read by relic (`relicReadable z d ms`: directory parsed, every member
    measured in the forward pass, manifest present) and signing succeeded.  Conclusion: the input was
    `contiguous0`, and the output consists of exactly the requested members, then the kept members'
    original bytes in input order, then a directory that lists the requested members followed by
    the kept ones with unchanged metadata, every offset pointing at the member's bytes. -/
theorem zip_rewrite_preserves_members (z : Bytes) (d : Directory) (ms : List Member) (news : List NewMember) (mt md : Nat)
    (out : Bytes) (hr : relicReadable z d ms)
    (h : jarRewrite z news mt md = .ok out) :
    contiguous0 ms d ∧ Layout z ms news mt md 0 out := by
  have hlen := (relicReadable_meta z d ms hr).1
  have h' : jarAssemble true z d ms news mt md = .ok out := by
    unfold relicReadable at hr
    simpa [jarRewrite, jarRewriteWith, hr] using h
  have hc := assemble_fixed_contig z d ms news mt md out h'
  exact ⟨hc, assemble_layout true z d ms news mt md 0 out hlen hc h'⟩

/-- the same for the loop without the check (the tree before fix-F9), under the layout hypothesis of
    DESIGN.md: valid for `contiguous0` input -/
theorem zip_rewrite_preserves_members_orig (z : Bytes) (d : Directory) (ms : List Member) (news : List NewMember) (mt md : Nat)
    (out : Bytes) (hr : relicReadable z d ms) (hc : contiguous0 ms d)
    (h : jarRewriteOrig z news mt md = .ok out) : Layout z ms news mt md 0 out := by
  have hlen := (relicReadable_meta z d ms hr).1
  have h' : jarAssemble false z d ms news mt md = .ok out := by
    unfold relicReadable at hr
    simpa [jarRewriteOrig, jarRewriteWith, hr] using h
  exact assemble_layout false z d ms news mt md 0 out hlen hc h'

/-- Tree before fix-F9, for every prefix length: if the members are laid out back to back
    starting at `p` (launcher prefix of `p` bytes, directory offsets adjusted), the rewrite succeeds
    whenever it would without the prefix, retains the prefix *after* the added members, and every kept
    member — and the directory itself — lies exactly `p` bytes after the offset recorded for it. -/
theorem zip_prefix_breaks (z : Bytes) (d : Directory) (ms : List Member) (news : List NewMember) (mt md p : Nat)
    (out : Bytes) (hr : relicReadable z d ms) (hc : contigMs p ms d.dirLoc)
    (h : jarRewriteOrig z news mt md = .ok out) : Layout z ms news mt md p out := by
  have hlen := (relicReadable_meta z d ms hr).1
  have h' : jarAssemble false z d ms news mt md = .ok out := by
    unfold relicReadable at hr
    simpa [jarRewriteOrig, jarRewriteWith, hr] using h
  exact assemble_layout false z d ms news mt md p out hlen hc h'

/-- Code as it stands: such an input (`p > 0`) is refused. -/
theorem zip_prefix_refused (z : Bytes) (d : Directory) (ms : List Member) (news : List NewMember) (mt md p : Nat)
    (hr : relicReadable z d ms) (hp : p > 0) (hne : ms ≠ [] ∨ d.dirLoc ≠ 0) (hc : contigMs p ms d.dirLoc) :
    ∀ out, jarRewrite z news mt md ≠ .ok out := by
  intro out h
  have h' : jarAssemble true z d ms news mt md = .ok out := by
    unfold relicReadable at hr
    simpa [jarRewrite, jarRewriteWith, hr] using h
  have h0 := assemble_fixed_contig z d ms news mt md out h'
  unfold contiguous0 at h0
  cases ms with
  | nil =>
    simp only [contigMs] at h0 hc
    rcases hne with hne | -
    · exact hne rfl
    · omega
  | cons m ms =>
    simp only [contigMs] at h0 hc
    omega

/-- The full statement: for every `Spec.Zip`-valid input that relic reads and finds contiguous, the
    standard-reader view of the output is the requested members followed by the input's view
    restricted to the kept members.  False as stated (F7e: `not_zip_rewrite_preserves_members_full`
    in Relic/Props/C03_ZipFull.lean); true on the class `Readable`
    (`zip_rewrite_preserves_members_readable`, `…_small` there). -/
def zip_rewrite_preserves_members_full : Prop :=
  ∀ (z : Bytes) (d : Directory) (ms : List Member) (news : List NewMember) (mt md : Nat) (out : Bytes) (vin : List View),
    specView z = some vin → relicReadable z d ms → contiguous0 ms d →
    (∀ n ∈ news, n.name.length < 2 ^ 16 ∧ n.extra.length < 2 ^ 16 ∧ n.compd.length < 2 ^ 32 - 1 ∧ n.usize < 2 ^ 32 - 1 ∧
      n.crc < 2 ^ 32 ∧ (n.deflate = false → n.usize = n.compd.length)) →
    jarRewrite z news mt md = .ok out →
    specView out = some (news.map newView ++ vin.filter (fun v => jarKeepName v.name))

set_option maxRecDepth 1000000

/-- a small JAR: manifest, payload `a`, an old signature file, a directory entry -/
def zJar : Bytes := [80, 75, 3, 4, 20, 0, 0, 0, 0, 0, 0, 0, 0, 0, 160, 210, 111, 218, 1, 0, 0, 0, 1, 0, 0, 0, 20, 0, 0, 0, 77, 69, 84, 65, 45, 73, 78, 70, 47, 77, 65, 78, 73, 70, 69, 83, 84, 46, 77, 70, 77, 80, 75, 3, 4, 20, 0, 0, 0, 0, 0, 0, 0, 0, 0, 131, 22, 220, 140, 1, 0, 0, 0, 1, 0, 0, 0, 1, 0, 0, 0, 97, 120, 80, 75, 3, 4, 20, 0, 0, 0, 0, 0, 0, 0, 0, 0, 11, 207, 14, 27, 1, 0, 0, 0, 1, 0, 0, 0, 15, 0, 0, 0, 77, 69, 84, 65, 45, 73, 78, 70, 47, 79, 76, 68, 46, 83, 70, 115, 80, 75, 3, 4, 20, 0, 0, 0, 0, 0, 0, 0, 0, 0, 0, 0, 0, 0, 0, 0, 0, 0, 0, 0, 0, 0, 2, 0, 0, 0, 98, 47, 80, 75, 1, 2, 20, 0, 20, 0, 0, 0, 0, 0, 0, 0, 0, 0, 160, 210, 111, 218, 1, 0, 0, 0, 1, 0, 0, 0, 20, 0, 0, 0, 0, 0, 0, 0, 0, 0, 0, 0, 0, 0, 0, 0, 0, 0, 77, 69, 84, 65, 45, 73, 78, 70, 47, 77, 65, 78, 73, 70, 69, 83, 84, 46, 77, 70, 80, 75, 1, 2, 20, 0, 20, 0, 0, 0, 0, 0, 0, 0, 0, 0, 131, 22, 220, 140, 1, 0, 0, 0, 1, 0, 0, 0, 1, 0, 0, 0, 0, 0, 0, 0, 0, 0, 0, 0, 0, 0, 51, 0, 0, 0, 97, 80, 75, 1, 2, 20, 0, 20, 0, 0, 0, 0, 0, 0, 0, 0, 0, 11, 207, 14, 27, 1, 0, 0, 0, 1, 0, 0, 0, 15, 0, 0, 0, 0, 0, 0, 0, 0, 0, 0, 0, 0, 0, 83, 0, 0, 0, 77, 69, 84, 65, 45, 73, 78, 70, 47, 79, 76, 68, 46, 83, 70, 80, 75, 1, 2, 20, 0, 20, 0, 0, 0, 0, 0, 0, 0, 0, 0, 0, 0, 0, 0, 0, 0, 0, 0, 0, 0, 0, 0, 2, 0, 0, 0, 0, 0, 0, 0, 0, 0, 0, 0, 0, 0, 129, 0, 0, 0, 98, 47, 80, 75, 5, 6, 0, 0, 0, 0, 4, 0, 4, 0, 222, 0, 0, 0, 161, 0, 0, 0, 0, 0]
/-- the same behind the 3-byte prefix `#!\n`, directory offsets adjusted (`zip -A`) -/
def zJarPre : Bytes := [35, 33, 10, 80, 75, 3, 4, 20, 0, 0, 0, 0, 0, 0, 0, 0, 0, 160, 210, 111, 218, 1, 0, 0, 0, 1, 0, 0, 0, 20, 0, 0, 0, 77, 69, 84, 65, 45, 73, 78, 70, 47, 77, 65, 78, 73, 70, 69, 83, 84, 46, 77, 70, 77, 80, 75, 3, 4, 20, 0, 0, 0, 0, 0, 0, 0, 0, 0, 131, 22, 220, 140, 1, 0, 0, 0, 1, 0, 0, 0, 1, 0, 0, 0, 97, 120, 80, 75, 3, 4, 20, 0, 0, 0, 0, 0, 0, 0, 0, 0, 11, 207, 14, 27, 1, 0, 0, 0, 1, 0, 0, 0, 15, 0, 0, 0, 77, 69, 84, 65, 45, 73, 78, 70, 47, 79, 76, 68, 46, 83, 70, 115, 80, 75, 3, 4, 20, 0, 0, 0, 0, 0, 0, 0, 0, 0, 0, 0, 0, 0, 0, 0, 0, 0, 0, 0, 0, 0, 2, 0, 0, 0, 98, 47, 80, 75, 1, 2, 20, 0, 20, 0, 0, 0, 0, 0, 0, 0, 0, 0, 160, 210, 111, 218, 1, 0, 0, 0, 1, 0, 0, 0, 20, 0, 0, 0, 0, 0, 0, 0, 0, 0, 0, 0, 0, 0, 3, 0, 0, 0, 77, 69, 84, 65, 45, 73, 78, 70, 47, 77, 65, 78, 73, 70, 69, 83, 84, 46, 77, 70, 80, 75, 1, 2, 20, 0, 20, 0, 0, 0, 0, 0, 0, 0, 0, 0, 131, 22, 220, 140, 1, 0, 0, 0, 1, 0, 0, 0, 1, 0, 0, 0, 0, 0, 0, 0, 0, 0, 0, 0, 0, 0, 54, 0, 0, 0, 97, 80, 75, 1, 2, 20, 0, 20, 0, 0, 0, 0, 0, 0, 0, 0, 0, 11, 207, 14, 27, 1, 0, 0, 0, 1, 0, 0, 0, 15, 0, 0, 0, 0, 0, 0, 0, 0, 0, 0, 0, 0, 0, 86, 0, 0, 0, 77, 69, 84, 65, 45, 73, 78, 70, 47, 79, 76, 68, 46, 83, 70, 80, 75, 1, 2, 20, 0, 20, 0, 0, 0, 0, 0, 0, 0, 0, 0, 0, 0, 0, 0, 0, 0, 0, 0, 0, 0, 0, 0, 2, 0, 0, 0, 0, 0, 0, 0, 0, 0, 0, 0, 0, 0, 132, 0, 0, 0, 98, 47, 80, 75, 5, 6, 0, 0, 0, 0, 4, 0, 4, 0, 222, 0, 0, 0, 164, 0, 0, 0, 0, 0]

def wNews : List NewMember :=
  [⟨[77, 69, 84, 65, 45, 73, 78, 70, 47], [0xfe, 0xca, 0, 0], [], 0, 0, false, false⟩,
   ⟨[77, 69, 84, 65, 45, 73, 78, 70, 47, 77, 65, 78, 73, 70, 69, 83, 84, 46, 77, 70], [0xfe, 0xca, 0, 0], [78, 10], 2, 7, false, false⟩,
   ⟨[77, 69, 84, 65, 45, 73, 78, 70, 47, 82, 46, 83, 70], [], [83], 1, 9, false, false⟩,
   ⟨[77, 69, 84, 65, 45, 73, 78, 70, 47, 82, 46, 69, 67], [], [1, 2, 3], 3, 11, false, false⟩]

def okAnd {α} (r : Res α) (p : α → Bool) : Bool := match r with | .ok a => p a | _ => false

/-- On `zJar` the statement holds all the way to the independent reader:
    input and output are `Spec.Zip`-valid and the output's view is added ++ kept. -/
theorem zip_rewrite_witness :
    SpecZip.valid zJar ∧
    okAnd (jarRewrite zJar wNews 100 200) (fun out => decide (SpecZip.valid out) &&
      decide (specView out = (specView zJar).map fun vin => wNews.map newView ++ vin.filter (fun v => jarKeepName v.name)) &&
      decide (((specView out).map fun v => v.map (·.name)) =
        some (wNews.map (·.name) ++ [[97], [98, 47]]))) = true := by decide +kernel

/-- F9, the witness: `zJarPre` is a valid archive for the independent reader;
    the tree before fix-F9 rewrites it (no error) into something that is not a valid archive and that
    relic itself cannot read back; the code as it stands refuses it. -/
theorem zip_prefix_breaks_witness :
    SpecZip.valid zJarPre ∧
    okAnd (jarRewriteOrig zJarPre wNews 100 200) (fun out => !decide (SpecZip.valid out) &&
      !(jarRead out).isOk) = true ∧
    jarRewrite zJarPre wNews 100 200 = .err "notcontig" := by decide +kernel

/-- the unfixed loop does not have the property: negation of "success ⇒ valid output" with the witness -/
theorem not_orig_refuse_or_preserve :
    ¬ (∀ z news mt md out, SpecZip.valid z → jarRewriteOrig z news mt md = .ok out → SpecZip.valid out) := by
  intro hall
  have hw := zip_prefix_breaks_witness
  obtain ⟨hv, ho, _⟩ := hw
  cases hr : jarRewriteOrig zJarPre wNews 100 200 with
  | ok out =>
    rw [hr] at ho
    have := hall zJarPre wNews 100 200 out hv hr
    simp [okAnd, this] at ho
  | err | panic | diverge => rw [hr] at ho; simp [okAnd] at ho

example : okAnd (jarRead zJar) (fun p => decide (contiguous0 p.2 p.1) && decide (p.1.dirLoc ≤ zJar.length) &&
    decide (p.2.length = 4)) = true := by decide +kernel
example : okAnd (jarRead zJarPre) (fun p => decide (contigMs 3 p.2 p.1.dirLoc) && !decide (contiguous0 p.2 p.1)) = true := by decide +kernel

end Relic.Props.C03
