/-
  C11 — Malformed input yields an error, never a crash.   VSIX / OPC part (model `Relic.Model.Vsix`).
  Signing, before the repair: `makeSignature` indexed `ext[0]` of `path.Ext(path.Base(name))` when the content type lookup came
  back empty; for a part name without extension that is an index into the empty string (finding
  F12-panic-vsix.(*mangler).makeSignature).  `vsix_sign_panic_iff` is the exact condition, `vsix_sign_panics_without_extension` the
  witness.  After it: `vsix_sign_no_panic` — `sign` returns a package or an error, for every input.
  Verification: the VSIX layer itself has no panic site, before or after; a panic of `verify` is a panic of the XML layer on
  the signature part (`vsix_verify_panic_only_from_xml`, `vsix_verify_no_panic`).  The instance found — a signature part without
  root element, `root.Copy()` on nil in `xmldsig.Verify` — is repaired in lib/xmldsig; what remains there is an enveloped
  Signature as document root (`sigEl.Parent()` nil), reached by the crafted `c-enveloped-root` ops.
-/
import Relic.Proofs.VsixCover
import Relic.Proofs.VsixDemo
namespace Relic.Props.C11
open Relic.Vsix

def panicSite : String := "vsix_(*mangler)_makeSignature"

/-- the content type lookup either answers or hits its only panic site: no content type and no extension -/
theorem refCType_cases (c : CT) (n : Bytes) :
    ((∃ ct, refCType false c n = .ok ct) ∧ ¬ (ctFind c n = [] ∧ pathExt (pathBase n) = [])) ∨
    (refCType false c n = .panic panicSite ∧ ctFind c n = [] ∧ pathExt (pathBase n) = []) := by
  unfold refCType
  by_cases h : ctFind c n = []
  · cases he : pathExt (pathBase n) with
    | nil => right; simp [h, panicSite]
    | cons d rest =>
      left
      by_cases hd : d = 46 <;> by_cases hb : builtinCT rest = [] <;> simp [h, hd, hb]
  · left; simp [h]

/-- the loop of `makeSignature` over the sorted names -/
theorem mkRefs_cases (c : CT) : ∀ (l : SMap),
    ((∃ refs, mkRefs false c l = .ok refs) ∧ ∀ e ∈ l, ¬ (ctFind c e.1 = [] ∧ pathExt (pathBase e.1) = [])) ∨
    (mkRefs false c l = .panic panicSite ∧ ∃ e ∈ l, ctFind c e.1 = [] ∧ pathExt (pathBase e.1) = []) := by
  intro l
  induction l with
  | nil => left; exact ⟨⟨[], rfl⟩, fun e he => by cases he⟩
  | cons e es ih =>
    simp only [mkRefs]
    rcases refCType_cases c e.1 with ⟨⟨ct, hc⟩, hno⟩ | ⟨hc, hyes⟩
    · rw [hc]
      rcases ih with ⟨⟨refs, hr⟩, hall⟩ | ⟨hr, x, hx, hh⟩
      · rw [hr]
        left
        refine ⟨⟨_, rfl⟩, ?_⟩
        intro e' he'
        rcases List.mem_cons.mp he' with rfl | h'
        · exact hno
        · exact hall _ h'
      · rw [hr]
        right
        exact ⟨rfl, x, List.mem_cons_of_mem _ hx, hh⟩
    · rw [hc]
      right
      exact ⟨rfl, e, List.mem_cons_self, hyes⟩

theorem mangle_no_panic (fx : Bool) (E : Env) : ∀ (pkg : Pkg) (m0 : Mangled) (site : String), mangle fx E pkg m0 ≠ .panic site :=
  fun pkg m0 => (mangle_errs fx E pkg m0).ne_panic

/-- **vsix_sign_panic_iff.** `sign` panics exactly when the callback pass succeeds and some digested part — a kept part of the
    input — has neither a content type (Override or Default) nor an extension; the site is `makeSignature`.  (The three
    digested parts the signer adds have extensions.) -/
theorem vsix_sign_panic_iff (E : Env) (c : Cfg) (pkg : Pkg) (site : String) :
    Vsix.sign false E c pkg = .panic site ↔
      ∃ m, mangle false E pkg {} = .ok m ∧
        (∃ e ∈ sortMap (addDigests m.digests (fixedNews E c)), ctFind m.ct e.1 = [] ∧ pathExt (pathBase e.1) = []) ∧
        site = panicSite := by
  simp only [Vsix.sign, bindMangled, bindRefs, Res.bind_eq_panic, reduceCtorEq, and_false, exists_false, or_false]
  constructor
  · rintro (h | ⟨m, hm, h⟩)
    · exact absurd h (mangle_no_panic false E pkg {} site)
    · rcases mkRefs_cases m.ct (sortMap (addDigests m.digests (fixedNews E c))) with ⟨⟨refs, hr⟩, -⟩ | ⟨hr, x, hx, hh⟩
      · rw [hr] at h; cases h
      · rw [hr] at h; cases h; exact ⟨m, hm, ⟨x, hx, hh⟩, rfl⟩
  · rintro ⟨m, hm, ⟨x, hx, hh⟩, rfl⟩
    rcases mkRefs_cases m.ct (sortMap (addDigests m.digests (fixedNews E c))) with ⟨-, hall⟩ | ⟨hr, -⟩
    · exact absurd hh (hall x hx)
    · exact .inr ⟨m, hm, hr⟩

/-- "LICENSE" -/
def licensePkg : Pkg := [⟨[0x4c, 0x49, 0x43, 0x45, 0x4e, 0x53, 0x45], [1]⟩]

/-- **vsix_sign_panics_without_extension** (finding F12-panic-vsix.(*mangler).makeSignature, repaired).  A package holding a
    part `LICENSE` and no content type for it: a panic before the repair, the error `no-content-type` after it. -/
theorem vsix_sign_panics_without_extension :
    (∃ site, Vsix.sign false (demoEnv [] noNode) (demoCfg false) licensePkg = .panic site) ∧
    Vsix.sign true (demoEnv [] noNode) (demoCfg false) licensePkg = .err "no-content-type" :=
  ⟨⟨_, by rfl⟩, by rfl⟩

/-- **vsix_sign_no_panic_partial** (code before the repair).  If every kept part has an extension, `sign` does not panic. -/
theorem vsix_sign_no_panic_partial (E : Env) (c : Cfg) (pkg : Pkg) (h : ∀ p ∈ pkg, keepFile p.name = true → pathExt (pathBase p.name) ≠ [])
    (site : String) : Vsix.sign false E c pkg ≠ .panic site := by
  intro hp
  obtain ⟨m, hm, ⟨e, he, -, hext⟩, -⟩ := (vsix_sign_panic_iff E c pkg site).mp hp
  obtain ⟨-, hdig, -⟩ := (mangle_eq_ok false E pkg {} m).mp hm
  have he' : (e.1, e.2) ∈ digested E c pkg := by rw [digested, ← hdig]; exact he
  rw [mem_digested] at he'
  obtain ⟨hmem, hname⟩ := findLast_some he'
  rcases List.mem_append.mp hmem with hk | hn
  · simp only [keptOf, List.mem_filter] at hk
    exact h _ hk.1 hk.2 hext
  · simp only [fixedNews, List.mem_cons, List.not_mem_nil, or_false] at hn
    rcases hn with hn | hn | hn
    · rw [Part.mk.injEq] at hn; rw [hn.1] at hext; revert hext; decide
    · rw [Part.mk.injEq] at hn; rw [hn.1] at hext; revert hext; decide
    · rw [Part.mk.injEq] at hn; rw [hn.1] at hext; revert hext; decide

/-- all parts of the demo package have extensions -/
example : ∀ p ∈ demoPkg, keepFile p.name = true → pathExt (pathBase p.name) ≠ [] := by decide +kernel

/-- **vsix_verify_panic_only_from_xml.** The VSIX layer of `verify` has no panic site of its own. -/
theorem vsix_verify_panic_only_from_xml (fx : Bool) (E : Env) (q : Pkg) (site : String) (h : Vsix.verify fx E q = .panic site) :
    ∃ sc, readSignature E (findLast q) = .ok sc ∧ E.xopen sc.1 sc.2 = .panic site := by
  simp only [Vsix.verify, Res.errGuard_eq_panic, verifyF, bindCore, Res.bind_eq_panic] at h
  rcases h.2 with hc | ⟨r, -, -, hr⟩
  · simp only [verifyCore, bindSig, bindOpened, bindChecked, Res.bind_eq_panic] at hc
    rcases hc with hc | ⟨sc, hsc, hc | ⟨o, -, hc | ⟨_, -, hc⟩⟩⟩
    · exact absurd hc ((readSignature_errs E _).ne_panic _)
    · exact ⟨sc, hsc, hc⟩
    · exact absurd hc ((checkRefs_errs E _ _).ne_panic _)
    · cases hc
  · -- what follows the reference loop returns a verdict or an error
    split at hr
    · cases hr
    · split at hr <;> cases hr

/-- **vsix_verify_no_panic.** If the XML layer does not panic on any signature part, `verify` does not panic on any package. -/
theorem vsix_verify_no_panic (fx : Bool) (E : Env) (hx : ∀ b cs site, E.xopen b cs ≠ .panic site) (q : Pkg) (site : String) :
    Vsix.verify fx E q ≠ .panic site := by
  intro h
  obtain ⟨sc, -, hp⟩ := vsix_verify_panic_only_from_xml fx E q site h
  exact hx _ _ _ hp

theorem refCType_true_no_panic (c : CT) (n : Bytes) (site : String) : refCType true c n ≠ .panic site :=
  (refCType_true_errs c n).ne_panic site

theorem mkRefs_true_no_panic (c : CT) : ∀ (l : SMap) (site : String), mkRefs true c l ≠ .panic site :=
  fun l => (mkRefs_true_errs c l).ne_panic

/-- **vsix_sign_no_panic** (repaired code).  For every environment, configuration and package, `sign` does not panic. -/
theorem vsix_sign_no_panic (E : Env) (c : Cfg) (pkg : Pkg) (site : String) : Vsix.sign true E c pkg ≠ .panic site :=
  (sign_true_errs E c pkg).ne_panic site

/-- the toy environment's XML layer never panics: the hypothesis of `vsix_verify_no_panic` is satisfiable -/
example : ∀ b cs site, (demoEnv [] noNode).xopen b cs ≠ .panic site := by
  intro b cs site
  simp only [demoEnv]
  split <;> simp

end Relic.Props.C11
