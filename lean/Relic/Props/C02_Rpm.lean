/-
  C02 — Any change to signed content makes verification fail.   RPM part (model `Relic.Model.Rpm`).
-/
import Relic.Proofs.Rpm
namespace Relic.Props.C02
open Relic.Rpm

theorem collect_mem (pgp : Bytes → Res SigInfo) (sig : EMap) (s : Bytes) (ts : List Int) (l : List Found) (t : Int) (e : Entry)
    (hc : collect pgp sig s ts = .ok l) (ht : t ∈ ts) (hg : get t sig = some e) : ∃ i, (⟨t, e.contents, i, s⟩ : Found) ∈ l :=
  Rpm.collect_mem pgp sig s ts l t e hc ht hg

theorem validateAll_mem (valid : Bytes → Bytes → Bool) (ks : List Nat) (l : List Found) (x : Found)
    (hv : validateAll valid (some ks) l = .ok ()) (hx : x ∈ l) : valid x.blob x.stream = true ∧ ks.contains x.info.keyid = true :=
  Rpm.validateAll_mem valid ks l x hv hx

/-- **rpm_tamper_evident.** Two packages with the same signature header that relic's verifier (keyring given) both accepts, the
    header carrying a header+payload packet (slot 1002 or 1005): if a packet verifies over one stream only (unforgeability +
    collision-freeness of the hash, the hypothesis `hinj`), then the bytes from the start of the general header to the end of
    the file are identical.  With a header-only packet (slot 268 / 267) the general header bytes are identical. -/
theorem rpm_tamper_evident (H : Nat → Bytes → Bytes) (pgp : Bytes → Res SigInfo) (valid : Bytes → Bytes → Bool) (ks : List Nat) (nc : Bool)
    (sig gen1 gen2 : Hdr) (pl1 pl2 : Bytes) (v1 v2 : VerifyOut)
    (hinj : ∀ b s s', valid b s = true → valid b s' = true → s = s')
    (h1 : verifyCore H pgp valid (some ks) nc sig gen1 pl1 = .ok v1)
    (h2 : verifyCore H pgp valid (some ks) nc sig gen2 pl2 = .ok v2) :
    (∀ t e, (t = tagPGP ∨ t = tagGPG) → get t sig.ents = some e → gen1.orig ++ pl1 = gen2.orig ++ pl2) ∧
    (∀ t e, (t = tagRSA ∨ t = tagDSA) → get t sig.ents = some e → gen1.orig = gen2.orig) := by
  constructor <;> intro t e ht hg
  · have hm : t ∈ [tagPGP, tagGPG] := by rcases ht with h | h <;> simp [h]
    exact hinj _ _ _ ((verifyCore_accepts H pgp valid ks nc sig gen1 pl1 v1 h1 t e hg).2 hm)
      ((verifyCore_accepts H pgp valid ks nc sig gen2 pl2 v2 h2 t e hg).2 hm)
  · have hm : t ∈ [tagRSA, tagDSA] := by rcases ht with h | h <;> simp [h]
    exact hinj _ _ _ ((verifyCore_accepts H pgp valid ks nc sig gen1 pl1 v1 h1 t e hg).1 hm)
      ((verifyCore_accepts H pgp valid ks nc sig gen2 pl2 v2 h2 t e hg).1 hm)

/-- `hinj` is satisfiable: the transparent scheme in which a packet is the stream it was made over -/
example : ∀ (b s s' : Bytes), (b == s) = true → (b == s') = true → s = s' := by
  intro b s s' h1 h2; simp at h1 h2; rw [← h1, ← h2]

/-- **rpm_lead_unprotected** (stated gap).  Behind the 4 magic bytes the 96-byte lead (name, architecture, OS, signature type) is
    covered by nothing: two files that agree from offset 96 on and in the magic get the same verdict. -/
theorem rpm_lead_unprotected (H : Nat → Bytes → Bytes) (pgp : Bytes → Res SigInfo) (valid : Bytes → Bytes → Bool) (known : Option (List Nat))
    (nc : Bool) (f f' : Bytes) (hl : 96 ≤ f.length) (hl' : 96 ≤ f'.length) (hm : f'.take 4 = f.take 4) (hb : f'.drop 96 = f.drop 96) :
    verify H pgp valid known nc f' = verify H pgp valid known nc f := by
  have key : verifyWith nevraOf H pgp valid known nc f' = verifyWith nevraOf H pgp valid known nc f := by
    unfold verifyWith readBoth
    have a : ¬ f.length < 96 := by omega
    have a' : ¬ f'.length < 96 := by omega
    simp only [a, a', if_false, hm, hb]
    by_cases hmg : beVal (f.take 4) ≠ magicLead
    · rw [if_pos hmg, if_pos hmg]
    · rw [if_neg hmg, if_neg hmg]
      cases readBody H (f.drop 96) with
      | ok x => obtain ⟨s, g, p⟩ := x; rfl
      | err _ => rfl
      | panic _ => rfl
      | diverge => rfl
  unfold verify
  rw [key]

/-- **rpm_header_only_payload_unprotected** (stated gap).  Under a header-only signature (slot 268 / 267 alone) and a general
    header without PAYLOADDIGEST, the payload is compared with the legacy MD5 of the UNSIGNED signature header only: whoever
    exchanges the payload and that tag gets the same verdict from the signature layer — `validateAll` sees the same streams. -/
theorem rpm_header_only_payload_unprotected (pgp : Bytes → Res SigInfo) (sig sig' : EMap) (gen : Hdr) (pl' : Bytes)
    (hsame : ∀ t, t ≠ tagMD5 → get t sig' = get t sig) (hno1 : get tagPGP sig = none) (hno2 : get tagGPG sig = none) :
    collect pgp sig' (gen.orig ++ pl') [tagPGP, tagGPG] = .ok [] ∧
    collect pgp sig' gen.orig [tagRSA, tagDSA] = collect pgp sig gen.orig [tagRSA, tagDSA] := by
  have e1 := hsame tagPGP (by decide)
  have e2 := hsame tagGPG (by decide)
  have e3 := hsame tagRSA (by decide)
  have e4 := hsame tagDSA (by decide)
  constructor
  · simp [collect, e1, e2, hno1, hno2]
  · simp [collect, e3, e4]

/-- the full statement (false: `rpm_lead_unprotected` and `rpm_header_only_payload_unprotected` above) -/
def rpm_every_byte_protected_full : Prop :=
  ∀ (H : Nat → Bytes → Bytes) (pgp : Bytes → Res SigInfo) (valid : Bytes → Bytes → Bool) (ks : List Nat) (f f' : Bytes),
    verifyOk H pgp valid (some ks) f = true → verifyOk H pgp valid (some ks) f' = true → f.length = f'.length → f = f'

end Relic.Props.C02
