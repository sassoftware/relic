/-
  C03 — Signing never alters the payload.   OpenPGP part: the message inside an inline signature is byte-identical; the
  text inside a cleartext signature is the input up to the canonicalisation stated here exactly.
-/
import Relic.Props.C01_Pgp
namespace Relic.Props.C03
open Relic.Pgp Relic.Spec.OpenPgp

/-- **pgp_inline_payload_preserved.** the literal packet of an inline-signed message holds exactly the input bytes
    (binary mode: no conversion), for every message up to `maxLiteralSize` -/
theorem pgp_inline_payload_preserved (i : SigInfo) (sig sb body filename : Bytes)
    (hs : parsePacket sig = some (⟨2, sb⟩, [])) (hb : body.length ≤ maxLiteralSize) :
    ∃ out m, mergeSignature i sig body filename = .ok out ∧ parseSignedMessage out = some m ∧ m.literal.data = body := by
  obtain ⟨out, h1, h2⟩ := C01.pgp_inline_sign_then_parse i sig sb body filename hs hb
  exact ⟨out, _, h1, h2, rfl⟩

/-- **pgp_clearsign_payload_preserved.** For every text, dash-unescaping (RFC 4880 §7.1) the lines relic writes gives back
    the lines of the input without their trailing blanks, tabs and carriage returns – nothing else changes: no line is
    added, dropped, merged or reordered.  Canonicalisation applied by relic, exactly: (1) trailing ' ', '\t', '\r' of
    every line removed, (2) every line ending becomes a single LF (CR LF → LF), (3) a final line without line feed gets
    one, (4) lines starting with '-' get "- " in front ("From " is not escaped). -/
theorem pgp_clearsign_payload_preserved (text : Bytes) :
    (C01.writtenLines text).map dashUnescape = (rawTokens text).map stripWs ∧
    escaped text = (C01.writtenLines text).flatMap (· ++ [10]) := by
  refine ⟨?_, C01.pgp_clearsign_lines text⟩
  unfold C01.writtenLines
  rw [List.map_map]
  apply List.map_congr_left
  intro l _
  simp only [Function.comp, dashUnescape_escLine]

example : (C01.writtenLines ([45, 32, 120, 32, 10, 45, 45, 45, 45, 45, 66, 69, 71, 73, 78, 32, 80, 71, 80, 32, 83, 73, 71, 78, 65, 84, 85, 82, 69, 45, 45, 45, 45, 45, 10, 70, 114, 111, 109, 32, 121] : Bytes)  /- - x \n-----BEGIN PGP SIGNATURE-----\nFrom y -/).map dashUnescape =
    [([45, 32, 120] : Bytes), ([45, 45, 45, 45, 45, 66, 69, 71, 73, 78, 32, 80, 71, 80, 32, 83, 73, 71, 78, 65, 84, 85, 82, 69, 45, 45, 45, 45, 45] : Bytes)  /- -----BEGIN PGP SIGNATURE----- -/, ([70, 114, 111, 109, 32, 121] : Bytes)  /- From y -/] := by decide +kernel

/-- **pgp_clearsign_not_byte_identical.** the embedded text is *not* the input byte for byte: trailing whitespace and the
    carriage returns of CR LF line ends are gone (witness) – cleartext signatures cover the canonical text only -/
theorem pgp_clearsign_not_byte_identical : ∃ text, escaped text ≠ text ∧ escaped text = ([97, 10, 98, 10] : Bytes)  /- a\nb\n -/ :=
  ⟨([97, 32, 13, 10, 98] : Bytes)  /- a \r\nb -/, by decide, by decide⟩

/-- **pgp_clearsign_no_false_signature_header.** no line relic writes for the text equals the signature header line, so
    the first such line of the output is the real signature block (what `headClearSign` / `tailClearSign` and every
    reader rely on) -/
theorem pgp_clearsign_no_false_signature_header (text : Bytes) : ∀ l ∈ C01.writtenLines text, l ≠ sigHeader := by
  intro l hl
  unfold C01.writtenLines at hl
  obtain ⟨t, _, rfl⟩ := List.mem_map.mp hl
  intro e
  have h := dashUnescape_escLine (stripWs t)
  rw [e] at h
  -- dashUnescape sigHeader = sigHeader (it does not start with "- "), hence stripWs t = sigHeader, whose escape differs
  have h2 : dashUnescape sigHeader = sigHeader := by decide +kernel
  rw [h2] at h
  rw [← h] at e
  exact absurd e (by decide)

example : C01.writtenLines sigHeader = [[45, 32] ++ sigHeader] := by decide +kernel

end Relic.Props.C03
