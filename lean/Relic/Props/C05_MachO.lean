/-
  C05 — digests and encodings are what the specifications prescribe.   Apple code directory part
  (model `Relic.Model.CodeDir` of lib/fruit/csblob/{pagehash,codedir}.go; specification `Relic.Spec.CodeDirectory`,
  written as the READER's view of Apple's published layout plus the page rule).
-/
import Relic.Proofs.CodeDirSpec
import Relic.Proofs.CodeDirVerify
namespace Relic.Props.C05
open Relic.CodeDir
open Relic.Spec.CodeDirectory (Describes Content)

/-- For every hash function and every image stream: `hashPages` produces exactly
    `⌈len/4096⌉` slots, sets `codeLimit = len`, and slot `i` is `H` of the bytes `[4096·i, min(4096·(i+1), len))` —
    the list the specification prescribes for page size 2^12 (last page short, no slot for an empty tail). -/
theorem codedir_hashes_eq_spec (H : Bytes → Bytes) (hs : Nat) (img : Bytes) :
    (hashPages img false).count = Spec.CodeDirectory.nCodeSlots img.length 12 ∧
    (hashPages img false).limit = img.length ∧
    (hashPages img false).slots.map (Seg.render H hs) = Spec.CodeDirectory.codeSlots H img img.length 12 := by
  have h12 : (2 : Nat) ^ 12 = 4096 := by decide
  have hlen := pages_length 4096 (by decide) img
  refine ⟨?_, rfl, ?_⟩
  · show (pages 4096 img).length = _
    rw [hlen]; simp [Spec.CodeDirectory.nCodeSlots, h12]
  · show ((pages 4096 img).map Seg.hash).map (Seg.render H hs) = _
    apply List.ext_getElem?
    intro i
    simp only [List.map_map, List.getElem?_map, pages_getElem? 4096 (by decide) img i, Spec.CodeDirectory.codeSlots,
      Spec.CodeDirectory.nCodeSlots, h12]
    by_cases c : i * 4096 < img.length
    · have c2 : i < (img.length + 4095) / 4096 := by omega
      simp [c, List.getElem?_range c2, Seg.render, Spec.CodeDirectory.page, h12]
    · have c2 : (img.length + 4095) / 4096 ≤ i := by omega
      have : (List.range ((img.length + 4095) / 4096))[i]? = none := by
        rw [List.getElem?_eq_none_iff]; simpa using c2
      simp [c, this]

/-- the single-slot form used for disk images: one slot over the whole stream -/
theorem codedir_single_slot (img : Bytes) :
    hashPages img true = ⟨[.hash img], 1, img.length⟩ := rfl

/-- Whenever `newCodeDirectory` succeeds on parameters that fit the field widths
    (`Fits`: hash values of the advertised size, one stored slot per counted slot, NUL-free identifiers, total size
    below 4 GiB), the bytes it marshals are — read back by Apple's layout — a CodeDirectory with magic 0xfade0c02, its
    own length, version 0x20300 (0x20400 with exec-segment data), the flags, slot counts, code limit (32- or 64-bit
    field), hash size/type, page size, identifier, team identifier, and slot `i` / special slot `−k` at
    `hashOffset ± i·hashSize` holding exactly the intended values, all inside the blob. -/
theorem codedir_serialisation_eq_spec (H : Bytes → Bytes) (p : Params) (ht : Nat) (segs : List Seg)
    (hht : hashTypeOf p.hash = some ht) (F : Fits H p) (e : newCodeDirectory p = .ok segs) :
    Describes (render H (hashSizeOf p.hash) segs) (contentOf H p ht) :=
  newCodeDirectory_describes H p ht segs hht F e

/-- `newCodeDirectory` refuses exactly the hash functions without a code-directory hash type (e.g. SHA-512) -/
theorem codedir_refuses_iff (p : Params) : (∃ segs, newCodeDirectory p = .ok segs) ↔ (hashTypeOf p.hash).isSome := by
  unfold newCodeDirectory
  cases h : hashTypeOf p.hash <;> simp

/-- The two composed, as `csblob.Sign` composes them for a Mach-O image (no rep-specific
    slot): the code directory describes `⌈len/4096⌉` code slots with `codeLimit = len` and page size 2^12, and code
    slot `i` holds `H(page_i)` of the stream that was hashed. -/
theorem sign_codedir_eq_spec (H : Bytes → Bytes) (sp : SignParams) (stream : Bytes) (s : Signed) (ht : Nat)
    (hrep : sp.repSpecific = none) (e : signBlob sp stream = .ok s) (hht : hashTypeOf sp.hash = some ht) :
    s.pages = hashPages stream false ∧
    ∃ p : Params, newCodeDirectory p = .ok s.cd ∧ p.codeSlotCount = Spec.CodeDirectory.nCodeSlots stream.length 12 ∧
      p.codeLimit = stream.length ∧ p.single = false ∧ p.hash = sp.hash ∧
      (∀ i, i < p.codeSlotCount →
        (contentOf H p ht).code i = H (Spec.CodeDirectory.page stream stream.length 12 i)) ∧
      (Fits H p → Describes (render H (hashSizeOf sp.hash) s.cd) (contentOf H p ht)) := by
  obtain ⟨rp, hcd, hpages, _⟩ := signBlob_inv sp stream s e
  simp only [hrep, Option.isSome_none] at hcd hpages
  refine ⟨hpages, _, hcd, ?_, rfl, rfl, rfl, ?_, ?_⟩
  · exact (codedir_hashes_eq_spec H 0 stream).1
  · intro i hi
    have h3 := (codedir_hashes_eq_spec H (hashSizeOf sp.hash) stream).2.2
    have hi' : i < ((hashPages stream false).slots.map (Seg.render H (hashSizeOf sp.hash))).length := by
      simpa [hashPages] using hi
    have := congrArg (fun l => l[i]?) h3
    simp only [List.getElem?_map] at this
    have hn : i < Spec.CodeDirectory.nCodeSlots stream.length 12 := by
      have := (codedir_hashes_eq_spec H 0 stream).1
      simpa [this] using hi
    simp only [Spec.CodeDirectory.codeSlots, List.getElem?_map, List.getElem?_range hn, Option.map_some] at this
    have hi2 : i < (hashPages stream false).slots.length := by simpa using hi'
    simp only [contentOf, List.getD, List.getElem?_eq_getElem hi2, Option.getD_some]
    rw [List.getElem?_eq_getElem hi2] at this
    simpa using this
  · intro F
    exact newCodeDirectory_describes H _ ht _ hht F hcd

/-- pages of a 5-byte stream with page size 4: one full page and a short one -/
example : pages 4 [1, 2, 3, 4, 5] = [[1, 2, 3, 4], [5]] := by decide

/-- an empty stream has no page (and no slot) -/
example : (hashPages [] false).count = 0 := by decide

def sampleParams : Params :=
  { flags := 0x10000, ident := [97, 46, 98], team := [84], execBase := 0, execLimit := 0, execFlags := 0,
    specials := [none, none, none, some [1, 2], none], codeSlots := [.hash [1, 2, 3], .hash [4]], codeSlotCount := 2,
    hash := 5, codeLimit := 4097, single := false }

def sampleH : Bytes → Bytes := fun s => List.replicate 32 (UInt8.ofNat s.length)

example : (newCodeDirectory sampleParams).isOk = true ∧ hashTypeOf sampleParams.hash = some 2 := by decide

example : Fits sampleH sampleParams where
  hashLen := by intro s; simp [sampleH, sampleParams, hashSizeOf]
  slotLen := by
    intro s hs
    simp only [sampleParams, List.mem_cons, List.mem_nil_iff, or_false] at hs
    rcases hs with rfl | rfl <;> simp [Seg.render, sampleH, sampleParams, hashSizeOf]
  count := rfl
  identNoNul := by decide
  teamNoNul := by decide
  flags := by decide
  size := by decide
  limit := by decide
  execBase := by decide
  execLimit := by decide
  execFlags := by decide

/-- SHA-512 (crypto.Hash 7) has no code-directory hash type: refused -/
example : newCodeDirectory { sampleParams with hash := 7 } = .err "hashtype" := by decide

end Relic.Props.C05
