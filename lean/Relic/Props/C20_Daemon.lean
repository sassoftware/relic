/-
  C20 (fragment) — "closing the server ends its background checking", at the daemon layer:
  Daemon.Close → (Shutdown) → server.Close → close(s.closeCh) → healthCheckLoop takes `<-s.Closed` and returns
  (the loop itself: Relic.Model.HealthLoop, term regenerated from source, Relic.Props.C20.relic_health_loop_exits_on_close).
  Also: the paths on which the health goroutine is left running (Serve fails by itself; daemon.New fails after server.New).
-/
import Relic.Proofs.Daemon
import Relic.Props.C20
namespace Relic.Props.C20
open Relic.Daemon

/-- In every interleaving (within the Shutdown bound): as soon as any Close() goroutine is past
    the `if s.closeCh != nil` of server.Close – in particular when a Close() has returned – the Closed channel is closed. -/
theorem close_closes_channel (n : Nat) (evs : List Ev) (h : NoExpire evs) (c : CSt) (hc : c ∈ (run (init n) evs).closers)
    (hl : c.late = true) : (run (init n) evs).closedCh = true :=
  (inv_run evs (init n) h (inv_init n)).late (List.any_eq_true.mpr ⟨c, hc, hl⟩)

example : CSt.late (.returned false) = true := rfl

/-- the channel is closed even when Shutdown timed out (Close goes on to server.Close) -/
theorem close_closes_channel_after_timeout :
    (run (init 1) [Ev.serve, .lstart 0, .accept 0 1, .close, .expire 0, .shutdownRet 0, .chk 0, .closeCh 0]).closedCh = true := by decide

/-- Once the channel is closed the loop's `<-s.Closed` case is enabled for ever (the machine
    takes it: `healthExit`), and for the loop regenerated from the current `healthCheckLoop` that case returns from the
    function without another health check, in the very iteration that picks it – for every schedule before and after. -/
theorem close_ends_health_loop (s : St) (h : s.closedCh = true) :
    (step s .healthExit).healthRunning = false ∧
    ∃ i, HealthLoop.closedIdx HealthLoop.closedChan Relic.Generated.HealthLoop.term = some i ∧
      ∀ (sched : List Nat) (calls : List String), HealthLoop.run Relic.Generated.HealthLoop.term sched = (.running, calls) →
        ∀ rest : List Nat, ∃ more, HealthLoop.run Relic.Generated.HealthLoop.term (sched ++ i :: rest) = (.exited, calls ++ more) ∧
          HealthLoop.hcName ∉ more :=
  ⟨by simp [step, h], loop_exits_on_close _ _ _ relic_health_loop_exits_on_close⟩

/-- the loop cannot end before the channel is closed -/
theorem health_loop_runs_until_close (s : St) (h : s.closedCh = false) : step s .healthExit = s := by
  simp [step, h]

/-- a complete Close() in the machine: the loop has ended -/
example : (settle (run (init 1) [Ev.serve, .lstart 0, .close])).healthRunning = false := by decide

/-- FULL statement wanted: whenever Serve returns an error the server has been closed. -/
def serve_error_closes_server_full : Prop :=
  ∀ (n : Nat) (evs : List Ev) (e : String), (run (init n) evs).serveRet = some (some e) → (run (init n) evs).closedCh = true

/-- (refutes it): when every listener fails by itself, Serve returns the first error
    while nobody has called Close: the tokens stay open and the health goroutine keeps running (`relic serve` then exits
    the process, which is what ends it). -/
theorem serve_error_leaves_server_open : ¬ serve_error_closes_server_full := by
  intro h
  have := h 2 [Ev.serve, .lstart 0, .lstart 1, .lfail 0, .lfail 1, .serveRet] "accept" (by decide)
  exact absurd this (by decide)

/-- Every error return of daemon.New after server.New succeeded (TLS configuration,
    any listener, "no listeners configured") leaves the server open: tokens opened, health goroutine running, and
    the listeners opened so far stay open. Only `test` mode closes it. -/
theorem new_error_after_server_new_leaks (i : NewIn) (e : String) (h : (new i).res = .err e) (hl : i.loggingOk = true) (hs : i.serverOk = true) :
    (new i).serverOpen = true := by
  revert h
  fun_cases new i
  case case1 h => simp [hl] at h
  case case2 h => simp [hs] at h
  all_goals first | exact fun _ => rfl | exact nofun

theorem new_test_closes_server (i : NewIn) (h : (new i).res = .testOk) : (new i).serverOpen = false := by
  revert h
  fun_cases new i <;> first | exact fun _ => rfl | exact nofun

/-- witness: plaintext listener only, net.Listen fails -/
def leakWitness : NewIn :=
  { cfg := ⟨false, true, false⟩, test := false, loggingOk := true, serverOk := true, tlsOk := true,
    netListenOk := fun _ => false, world := ⟨[], 1, 0, fun _ => .bad⟩ }

example : new leakWitness = ⟨.err "listen", true, 0⟩ := by decide

end Relic.Props.C20
