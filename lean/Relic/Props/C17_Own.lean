/-
  C17 (own output): `zipslicer.Read` applied to an archive relic itself wrote — local records, then the central directory and
  the forced ZIP64 end records of `WriteDirectory(…, forceZip64 = true)`, no comment, nothing behind the end record — returns
  the directory that was written, as a reader sees it.  This is the round trip `Read ∘ WriteDirectory` that the APPX signer
  relies on (`Sign` writes such an archive, `Verify` and a second `Sign` read it).
-/
import Relic.Proofs.ZipOwn
namespace Relic.Props.C17
open Relic.Zip Relic.ZipOwn

/-- Let `d` be a directory whose entries are `Writable`: each one either carries raw
    central-header bytes that read back as the entry (`RawOk`: what `ReadWithDirectory` produced, possibly measured by
    `GetTotalSize` since), or has none and its name, extra (+28 for a ZIP64 field), comment fit 16 bits and its sizes and
    offset 64 bits (`Synth`: what `NewFile` builds).  Let `body` be the `DirLoc` bytes in front of the directory and
    `(cd, eod, _) = WriteDirectory(d, true)` (ZIP64 end records forced).  If the archive `body ++ cd ++ eod` is shorter
    than 2^63 bytes, `Read` on it (random access) returns the entries `d.files` as `seen` describes them (what a reader of
    the central header just written sees; nothing read from the member yet), `DirLoc`, the size, and the three end
    records as `endRecords` wrote them. -/
theorem read_write_directory_own_output (body : Bytes) (d : Directory) (hloc : d.dirLoc = body.length)
    (hw : ∀ f ∈ d.files, Writable f)
    (h63 : (body ++ ((writeDirectory d true).1 ++ (writeDirectory d true).2.1)).length < 2 ^ 63) :
    Zip.read ⟨body ++ ((writeDirectory d true).1 ++ (writeDirectory d true).2.1), false, 0⟩ =
      .ok { files := d.files.map seen,
            size := (body ++ ((writeDirectory d true).1 ++ (writeDirectory d true).2.1)).length,
            dirLoc := d.dirLoc,
            end64 := own64 d.files.length (headersOf d.files).1.length d.dirLoc,
            loc64 := ownLoc (headersOf d.files).1.length d.dirLoc, endr := ownEnd } :=
  write_read_roundtrip_own body d hloc hw h63

/-- The three records are read back field by field as they were encoded. -/
theorem end_records_parse_back (count size cdoff : Nat) (h1 : count < 2 ^ 64) (h2 : size < 2 ^ 64) (h3 : cdoff + size < 2 ^ 64) :
    parseEnd64 (encEnd64 (own64 count size cdoff)) = own64 count size cdoff ∧
    parseLoc64 (encLoc64 (ownLoc size cdoff)) = ownLoc size cdoff ∧ parseEnd (encEnd ownEnd) = ownEnd :=
  ⟨parse_own64 count size cdoff h1 h2 (by omega), parse_ownLoc size cdoff h3, parse_ownEnd⟩

/-- `FindDirectory` follows the ZIP64 locator of the forced end records to the directory. -/
theorem find_directory_own_output (pre : Bytes) (count size cdoff minV : Nat) (hpre : pre.length = cdoff + size)
    (h63 : pre.length + 98 < 2 ^ 63) (hc : count < 2 ^ 64) :
    findDirectory ⟨pre ++ endRecords count size cdoff true minV, false, 0⟩ = .ok cdoff :=
  findDirectory_own pre count size cdoff minV hpre h63 hc

/-- One synthesised central header, whatever follows it. -/
theorem central_header_reads_back (f : File) (hs : Synth f) (rest : Bytes) :
    readEntry ((getDirectoryHeader f).1 ++ rest) = .ok (seen f, rest) := readEntry_synth f hs rest

/-- An entry that `ReadWithDirectory` produced (signature checked by its loop) is `RawOk`
    and is seen as itself; measuring it (`GetTotalSize` fills CRC, local header, descriptor) keeps that. -/
theorem reread_entry_reads_back {cd rest : Bytes} {f : File} (h : readEntry cd = .ok (f, rest)) (hs : fld cd 0 4 = sigDir)
    (crc : Nat) (l : Option Lfh) (ddb : Bytes) :
    RawOk f ∧ seen f = f ∧ RawOk { f with crc := crc, lfh := l, ddb := ddb } ∧ seen { f with crc := crc, lfh := l, ddb := ddb } = f :=
  ⟨(readEntry_rawOk h hs).1, (readEntry_rawOk h hs).2, (rawOk_measured (readEntry_rawOk h hs).1 (readEntry_rawOk h hs).2 crc l ddb).1,
   (rawOk_measured (readEntry_rawOk h hs).1 (readEntry_rawOk h hs).2 crc l ddb).2⟩

/-- `GetTotalSize` on the re-read entry of a member `NewFile` wrote returns the member's true extent
    (`30 + name + extra + data + descriptor`), with either reader, provided the 24-byte descriptor is recognised
    (`descWideOk`: F7a excluded) and the lengths fit their fields. -/
theorem own_member_extent (mt md : Nat) (n : NewMember) (hn : NewOk n) (r : Rd) (f : File) (hl : f.lfh = none) (hd : f.ddb = [])
    (hcs : f.csize = n.compd.length) (hus : f.usize = n.usize)
    (hz : (r.z.drop f.offset).take (newBytes mt md n).length = newBytes mt md n)
    (hlen : f.offset + (newBytes mt md n).length ≤ r.z.length) (h63 : r.z.length < 2 ^ 63) (hb : r.before f.offset) :
    ∃ m r', getTotalSize r f = .ok (m, r') ∧ m.total = (newBytes mt md n).length :=
  let ⟨m, r', h1, h2, _⟩ := getTotalSize_new mt md n hn r f hl hd hcs hus hz hlen h63 hb
  ⟨m, r', h1, h2⟩

/-- the request of the non-vacuity example: one deflated member `a` with a 24-byte descriptor -/
def nEx : NewMember := ⟨[97], [], [1, 2, 3], 5, 7, true, true⟩

set_option maxRecDepth 20000 in
/-- non-vacuity: the directory `NewFile` makes for `nEx` on an empty archive, behind the record it wrote, satisfies the
    hypotheses of the round trip (and `NewFile` produces exactly this pair) -/
example :
    newFile { files := [], size := 0, dirLoc := 0 } [97] [] [1, 2, 3] 5 7 0 33 true true =
      (newBytes 0 33 nEx, { files := [newEntryAt 0 33 nEx 0], size := 0, dirLoc := (newBytes 0 33 nEx).length }) ∧
    (∀ f ∈ [newEntryAt 0 33 nEx 0], Writable f) ∧
    (newBytes 0 33 nEx ++ ((writeDirectory { files := [newEntryAt 0 33 nEx 0], size := 0, dirLoc := (newBytes 0 33 nEx).length } true).1 ++
      (writeDirectory { files := [newEntryAt 0 33 nEx 0], size := 0, dirLoc := (newBytes 0 33 nEx).length } true).2.1)).length < 2 ^ 63 := by
  refine ⟨by have := newFile_eq 0 33 { files := [], size := 0, dirLoc := 0 } nEx; simpa [nEx] using this, ?_, by decide⟩
  intro f hf
  rw [List.mem_singleton.mp hf]
  exact Or.inr (synth_new _ _ _ _ (by decide) (by decide) (by decide) (by decide) (by decide))

/-- the entry `NewFile` makes for `nEx` written at offset 0xffffffff -/
def fBigOwn : File := newEntryAt 0 33 nEx 0xffffffff

/-- (Code as it stands.)  `WriteDirectory` leaves the directory as it was — `GetDirectoryHeader`
    synthesises the ZIP64 field into a copy — so a second `WriteDirectory` (same flag) on the directory it returns writes
    the same bytes, for EVERY directory (entries at or beyond 4 GiB included): what `AppxDigest.Sign` hashes for AXCD
    (`writeSignature`) is what it then writes. -/
theorem write_directory_idempotent (d : Directory) (force : Bool) :
    (writeDirectory d force).2.2 = d ∧
    writeDirectory (writeDirectory d force).2.2 force = writeDirectory d force := by
  have h : (writeDirectory d force).2.2 = d := by
    show { d with files := (headersOf d.files).2 } = d
    rw [headersOf_files]
  exact ⟨h, by rw [h]⟩

/-- (F-APPX-ZIP64, the code BEFORE fix 7d5f1c2: `writeDirectoryOrig`.)  `GetDirectoryHeader`
    stored the extra block it synthesised (ZIP64 field in front) back into the entry, so a second `WriteDirectory` on the same
    directory prepended the 28-byte field again: the second central directory was 28 bytes longer per ZIP64 entry.
    `AppxDigest.Sign` calls `WriteDirectory` twice on the same directory (`writeSignature` for AXCD, then the final one): for
    a package whose regenerated parts lay at or beyond 0xffffffff the hashed AXCD was not the directory that was written. -/
theorem write_directory_twice_prepends_twice_orig :
    (writeDirectoryOrig (writeDirectoryOrig { files := [fBigOwn], size := 0, dirLoc := 0x100000040 } true).2.2 true).1.length =
      (writeDirectoryOrig { files := [fBigOwn], size := 0, dirLoc := 0x100000040 } true).1.length + 28 ∧
    (writeDirectory (writeDirectory { files := [fBigOwn], size := 0, dirLoc := 0x100000040 } true).2.2 true).1.length =
      (writeDirectory { files := [fBigOwn], size := 0, dirLoc := 0x100000040 } true).1.length := by decide

end Relic.Props.C17
