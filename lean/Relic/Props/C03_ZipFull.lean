/-
  C03 (ZIP family) — the last step of `zip_rewrite_preserves_members`: what an INDEPENDENT reader
  (`Relic.Spec.Zip`) sees of a JAR-style rewritten archive (`insertSignature`: added members in front, kept
  members re-emitted with `AddFile`, directory rewritten).

  * `zip_rewrite_preserves_members_readable`: on the class of C17 (`Spec.Zip`-valid, no archive comment, ≥ 42 bytes,
    below 2^63, signed descriptors, fixed-layout ZIP64 markers, inferable descriptor widths), the output — whenever
    there is one: with fix-F7g a kept ≥ 4 GiB entry whose extra block cannot take the ZIP64 field makes signing fail
    cleanly instead — is a valid archive whose view is the requested members followed by the input's
    view of the kept members — below 4 GiB verbatim (`…_small`, the conclusion of
    `zip_rewrite_preserves_members_full`), in general up to the ZIP64 extra field a ≥ 4 GiB entry gets when moved.
  * `not_zip_rewrite_preserves_members_full`: WITHOUT the fixed-layout clause the full statement is false: a record
    whose compressed size alone carries the ZIP64 marker, with a 16-byte ZIP64 payload, is read differently by
    relic (fixed positions) and by the standard readers (in order) — F7e of C17 —; relic re-synthesises the
    record with ITS value of the compressed size.  Witness `zSwapJar`.
-/
import Relic.Props.C03_Zip
import Relic.Proofs.ZipRewriteFull
namespace Relic.Props.C03
open Relic.Zip

/-- the class of C17 (`Props.C17.relicReadable` spelled out on a parsed archive; with `parse z = some a` it is
    `Zip.Readable z a`: `Readable.toZip`).  (It has no clause on the extra fields: with fix-F7g `insertSignature` fails —
    `jarRewrite = .err "extratoolong"`, nothing written — instead of truncating the 16-bit extra length of a
    re-synthesised ZIP64 record; every SUCCESSFUL rewrite is covered.) -/
structure Readable (z : Bytes) (a : SpecZip.Archive) : Prop where
  nocomment : a.ends.comment = []
  len42 : 42 ≤ z.length
  len63 : z.length < 2 ^ 63
  fixed : (a.members.all fun m => fixedNeed m.entry.need) = true
  signed : SpecZip.descSigned a = true
  widths : (a.members.all (widthOK a)) = true

theorem Readable.toZip {z : Bytes} {a : SpecZip.Archive} (hr : Readable z a) (ha : SpecZip.parse z = some a) :
    Zip.Readable z a := ⟨ha, hr.nocomment, hr.len42, hr.len63, hr.fixed, hr.signed, hr.widths⟩

/-- On the class `Readable`, whenever `insertSignature` (`jarRewrite`) produces an output, that output is a valid archive in
    which a standard reader sees the requested members followed by the kept members of the input (`keptViews`: the view
    they had, up to the ZIP64 extra field a member of 4 GiB or more gets when it moves). -/
theorem zip_rewrite_preserves_members_readable (z : Bytes) (a : SpecZip.Archive) (news : List NewMember) (mt md : Nat) (out : Bytes)
    (ha : SpecZip.parse z = some a) (hr : Readable z a) (hmt : mt < 2 ^ 16) (hmd : md < 2 ^ 16)
    (hnews : ∀ n ∈ news, NewOK n) (hbound : out.length < 2 ^ 64) (h : jarRewrite z news mt md = .ok out) :
    ∃ kms, MeasuredL z a a.ends.cdOff kms ∧ kms.map (·.2.1) = a.members ∧ contigK 0 kms a.ends.cdOff ∧
      SpecZip.valid out ∧
      specView out = some (newViews mt md news 0 ++ keptViews z (setKeep jarKeep kms) (newEntries mt md news 0).2.length) := by
  obtain ⟨kms, a', hM, hsm, hck, hA⟩ := jarRewrite_parses (hr.toZip ha) mt md hmt hmd news hnews out h hbound
  exact ⟨kms, hM, hsm, hck, by unfold SpecZip.valid; rw [hA.parse]; rfl, hA.view⟩

/-- Below 4 GiB: the conclusion of `zip_rewrite_preserves_members_full`. -/
theorem zip_rewrite_preserves_members_small (z : Bytes) (a : SpecZip.Archive) (news : List NewMember) (mt md : Nat) (out : Bytes)
    (vin : List View) (hv : specView z = some vin) (ha : SpecZip.parse z = some a) (hr : Readable z a)
    (hmt : mt < 2 ^ 16) (hmd : md < 2 ^ 16) (hnews : ∀ n ∈ news, NewOK n)
    (hsmall : ∀ sm ∈ a.members, sm.entry.csize < u32Max ∧ sm.entry.usize < u32Max)
    (hnsmall : ∀ n ∈ news, n.compd.length < u32Max ∧ n.usize < u32Max) (hout : out.length < u32Max)
    (h : jarRewrite z news mt md = .ok out) :
    specView out = some (news.map newView ++ vin.filter (fun v => jarKeepName v.name)) := by
  obtain ⟨kms, a', hM, hsm, -, hA⟩ :=
    jarRewrite_parses (hr.toZip ha) mt md hmt hmd news hnews out h (by simp only [u32Max] at hout; omega)
  have hp' := hA.parse
  have hview := hA.view
  have hcd := hA.cdOff
  have hcdlt : a'.ends.cdOff < u32Max := by
    have := parse_dir_le hp'
    omega
  have hmemk : ∀ q ∈ setKeep jarKeep kms, q.1 = true → q.2.1.entry.csize < u32Max ∧ q.2.1.entry.usize < u32Max := by
    intro q hq _
    apply hsmall
    rw [← hsm, ← setKeep_members jarKeep]
    exact List.mem_map.mpr ⟨q, hq, rfl⟩
  have hks := keptViews_small z (setKeep jarKeep kms) (newEntries mt md news 0).2.length hmemk (by omega)
  have hns := newViews_small mt md news 0 hnsmall (by omega)
  rw [hview, hks, hns, filter_views jarKeep jarKeepName (fun _ => rfl) kms _ hM, hsm]
  rw [specView_eq ha] at hv
  cases hv
  rfl

set_option maxRecDepth 1000000

/-- manifest, then a deflated member `a` whose central record marks only the compressed size (0xffffffff) and carries a
    16-byte ZIP64 payload (1, 3): APPNOTE order gives compressed size 1, zipslicer's fixed positions give 3 — the
    member's data occupies 3 bytes, so the archive is contiguous in relic's measure -/
def zSwapJar : Bytes := [80, 75, 3, 4, 20, 0, 0, 0, 0, 0, 0, 0, 0, 0, 160, 210, 111, 218, 1, 0, 0, 0, 1, 0, 0, 0, 20, 0, 0, 0, 77, 69, 84, 65, 45, 73, 78, 70, 47, 77, 65, 78, 73, 70, 69, 83, 84, 46, 77, 70, 77, 80, 75, 3, 4, 20, 0, 0, 0, 8, 0, 0, 0, 0, 0, 7, 0, 0, 0, 3, 0, 0, 0, 5, 0, 0, 0, 1, 0, 0, 0, 97, 1, 2, 3, 80, 75, 1, 2, 20, 0, 20, 0, 0, 0, 0, 0, 0, 0, 0, 0, 160, 210, 111, 218, 1, 0, 0, 0, 1, 0, 0, 0, 20, 0, 0, 0, 0, 0, 0, 0, 0, 0, 0, 0, 0, 0, 0, 0, 0, 0, 77, 69, 84, 65, 45, 73, 78, 70, 47, 77, 65, 78, 73, 70, 69, 83, 84, 46, 77, 70, 80, 75, 1, 2, 20, 0, 45, 0, 0, 0, 8, 0, 0, 0, 0, 0, 7, 0, 0, 0, 255, 255, 255, 255, 5, 0, 0, 0, 1, 0, 20, 0, 0, 0, 0, 0, 0, 0, 0, 0, 0, 0, 51, 0, 0, 0, 97, 1, 0, 16, 0, 1, 0, 0, 0, 0, 0, 0, 0, 3, 0, 0, 0, 0, 0, 0, 0, 80, 75, 5, 6, 0, 0, 0, 0, 2, 0, 2, 0, 133, 0, 0, 0, 85, 0, 0, 0, 0, 0]

/-- (F7e, the consequence for rewriting.)  `zSwapJar` is valid for the independent reader
    (compressed size 1), relic reads it (compressed size 3), finds it contiguous, rewrites it without error — and the
    output, valid again, lists `a` with compressed size 3: the view of a kept member changed. -/
theorem zip_rewrite_swapped_zip64 :
    SpecZip.valid zSwapJar ∧
    okAnd (jarRead zSwapJar) (fun p => decide (contiguous0 p.2 p.1)) = true ∧
    okAnd (jarRewrite zSwapJar wNews 100 200) (fun out => decide (SpecZip.valid out) &&
      !decide (specView out = (specView zSwapJar).map fun vin => wNews.map newView ++ vin.filter (fun v => jarKeepName v.name)) &&
      decide (((specView zSwapJar).map fun v => v.map (·.csize)) = some [1, 1]) &&
      decide (((specView out).map fun v => v.map (·.csize)) = some [0, 2, 1, 3, 3])) = true := by decide +kernel

/-- The full statement is false: `zSwapJar` (F7e) is valid, read by relic and contiguous, and is rewritten into a valid
    archive in which a kept member has another compressed size than in the input (`zip_rewrite_swapped_zip64`). -/
theorem not_zip_rewrite_preserves_members_full : ¬ zip_rewrite_preserves_members_full := by
  intro hall
  obtain ⟨hv, hr, ho⟩ := zip_rewrite_swapped_zip64
  cases hjr : jarRead zSwapJar with
  | ok p =>
    obtain ⟨d, ms⟩ := p
    rw [hjr] at hr
    simp only [okAnd, decide_eq_true_eq] at hr
    cases hjw : jarRewrite zSwapJar wNews 100 200 with
    | ok out =>
      rw [hjw] at ho
      simp only [okAnd, Bool.and_eq_true, Bool.not_eq_true', decide_eq_false_iff_not, decide_eq_true_eq] at ho
      cases hsv : specView zSwapJar with
      | none =>
        unfold specView at hsv
        unfold SpecZip.valid at hv
        cases hp : SpecZip.parse zSwapJar with
        | none => rw [hp] at hv; cases hv
        | some a => rw [hp] at hsv; cases hsv
      | some vin =>
        have := hall zSwapJar d ms wNews 100 200 out vin hsv hjr hr (by decide) hjw
        apply ho.1.1.2
        rw [this, hsv]
        rfl
    | err | panic | diverge => rw [hjw] at ho; simp [okAnd] at ho
  | err | panic | diverge => rw [hjr] at hr; simp [okAnd] at hr

example : (match SpecZip.parse zJar with
    | some a => decide (a.ends.comment = []) && decide (42 ≤ zJar.length) &&
      (a.members.all fun m => fixedNeed m.entry.need) && SpecZip.descSigned a && a.members.all (widthOK a) &&
      true
    | none => false) = true := by decide +kernel
example : ∀ n ∈ wNews, NewOK n := by
  intro n hn
  simp only [wNews, List.mem_cons, List.mem_nil_iff, or_false] at hn
  rcases hn with rfl | rfl | rfl | rfl <;>
    exact ⟨by decide, by decide, by decide, by decide, by decide, by decide, by decide, by decide⟩

end Relic.Props.C03
