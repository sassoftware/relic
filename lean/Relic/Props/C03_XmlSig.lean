/-
  C03 — Signing preserves the payload.   XML-DSig part, at tree level (relic re-serialises the tree with etree):
  the tree `Sign` returns is the input tree with the parent's `Signature`-tagged children removed and one Signature
  element appended as last child; nothing else changes.  Taking that last child away gives back the input (minus old
  signatures), so its canonical form – the reference stream – is the one that was signed.
-/
import Relic.Props.C08_XmlSig
namespace Relic.Props.C03
open Relic.Xml Relic.XmlSig

/-- `sig` is the appended Signature element; taking it away again (`removeAt`) gives the element whose canonical form is the
    reference stream. -/
theorem xml_payload_preserved (S : Scheme) (ctx0 : List (List Attr)) (sp tag : Bytes) (as : List Attr) (ks : List Node)
    (h : HashId) (kt : KeyType) (o : SignOptions) :
    ∃ sig, isElemTag sSignature sig = true ∧
      (sign S ctx0 (.elem sp tag as ks) [] h kt o).out = .elem sp tag as (removeElements sSignature ks ++ [sig]) ∧
      removeAt [(removeElements sSignature ks).length] (sign S ctx0 (.elem sp tag as ks) [] h kt o).out =
        .elem sp tag as (removeElements sSignature ks) ∧
      (sign S ctx0 (.elem sp tag as ks) [] h kt o).refStream = canon ctx0 (.elem sp tag as (removeElements sSignature ks)) := by
  refine ⟨_, C08.isSig_signatureNode S o _ _, rfl, ?_, rfl⟩
  simp [sign, mapKidsAt, removeAt, C01.eraseIdx_append_last]

/-- an unsigned input (no Signature-tagged child of the parent) is a prefix of the output, unchanged -/
theorem xml_payload_preserved_unsigned (S : Scheme) (ctx0 : List (List Attr)) (sp tag : Bytes) (as : List Attr) (ks : List Node)
    (h : HashId) (kt : KeyType) (o : SignOptions) (hun : ∀ k ∈ ks, isElemTag sSignature k = false) :
    removeAt [ks.length] (sign S ctx0 (.elem sp tag as ks) [] h kt o).out = .elem sp tag as ks := by
  have e : removeElements sSignature ks = ks := by
    apply List.filter_eq_self.mpr
    intro k hk
    simp [hun k hk]
  have := (xml_payload_preserved S ctx0 sp tag as ks h kt o).choose_spec.2.2.1
  rw [e] at this
  exact this

example (S : Scheme) : removeAt [1] (sign S [] (el [97] [] [txt [104]]) [] .sha1 .ecdsa ⟨true, false, true, true⟩).out =
    el [97] [] [txt [104]] :=
  xml_payload_preserved_unsigned S [] [] [97] [] [txt [104]] .sha1 .ecdsa _ (by decide)

end Relic.Props.C03
