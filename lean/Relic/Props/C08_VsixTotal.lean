/-
  C08 — Re-signing replaces the signature: the VSIX second signing is total.
  `vsix_resign_total_full` of `Relic.Props.C08_Vsix`: a second signing (any key, hash, `--detach-certs` setting) of what the
  repaired signer wrote cannot fail, provided `[Content_Types].xml` reads back as written.  Two things could have gone wrong
  and do not: a part could lose its content type (the table read back answers like the one of the first round, except that
  `cer` / `psdor` / `psdsxs` / `rels` now have the builtin types), and the changed content type could break the repair check
  "the verifier's URI mapping gives the name back" — it cannot, because that check does not depend on the content type as
  long as the new one has no `..` element (`vsix_uri_ct_independent`).
-/
import Relic.Props.C08_Vsix
import Relic.Props.C01_Vsix
import Relic.Proofs.VsixResign
namespace Relic.Props.C08
open Relic.Vsix

/-- the Reference URI mapping of `checkManifest` gives a name back behind one content type ⇒ it gives it back behind every
    content type without a `..` element after its first slash -/
theorem vsix_uri_ct_independent (n ct1 ct2 : Bytes) (h : uriPath (Ref.uri ⟨n, ct1, []⟩) = n) (hc : CtOk ct2) :
    uriPath (Ref.uri ⟨n, ct2, []⟩) = n :=
  uriPath_change_ct n ct1 ct2 h hc

/-- the content type hypothesis is needed: "a", found again behind "x/../a", is lost behind "x/../.." -/
example : uriPath (Ref.uri ⟨[0x61], [0x78, 0x2f, 0x2e, 0x2e, 0x2f, 0x61], []⟩) = [0x61] ∧
    uriPath (Ref.uri ⟨[0x61], [0x78, 0x2f, 0x2e, 0x2e, 0x2f, 0x2e, 0x2e], []⟩) ≠ [0x61] := by decide +kernel

/-- **vsix_resign_total**: the second signing cannot fail when the first succeeded -/
theorem vsix_resign_total : vsix_resign_total_full := by
  intro E c1 c2 pkg s1 h1 hc1 hrt
  exact sign_resign c2 h1 hc1 hrt

/-- … and what it returns is described by `vsix_resign_replaces` -/
theorem vsix_resign_total_replaces (E : Env) (c1 c2 : Cfg) (pkg : Pkg) (s1 : Vsix.Signed)
    (h1 : Vsix.sign true E c1 pkg = .ok s1) (hc1 : cfgOk c1 = true) (hc2 : cfgOk c2 = true)
    (hrt : ∀ a b, E.parseCT (E.marshalCT a b) = some (a, b)) :
    ∃ s2, Vsix.sign true E c2 s1.parts = .ok s2 ∧ s2.kept = s1.kept ∧ s2.kept = pkg.filter (fun p => keepFile p.name) ∧
      s2.parts = s2.kept ++ newsOf E c2 s2.obj s2.ctOut ∧
      s2.parts.filter (fun p => p.name = sigName c2) = [⟨sigName c2, E.xsign c2.hash c2.detach s2.obj⟩] := by
  obtain ⟨s2, h2⟩ := vsix_resign_total E c1 c2 pkg s1 h1 hc1 hrt
  obtain ⟨a, b, c, d, -⟩ := vsix_resign_replaces true E c1 c2 pkg s1 s2 h1 hc1 h2 hc2
  exact ⟨s2, h2, a, b, c, d⟩

/-- the hypotheses are satisfiable, in the case that is not trivial: the environment's content types codec has the round
    trip; the package declares `Default cer = "x/y"`, `Default rels = "r"`; the first signing (detached certificates) writes
    these types into the Reference URIs of `a.cer` and of the two relationship parts; the second signing reads the
    builtin types back for both extensions and succeeds with different URIs -/
example : ∃ s1 s2, Vsix.sign true (toyE (demoCfg true) toyPkg) (demoCfg true) toyPkg = .ok s1 ∧ cfgOk (demoCfg true) = true ∧
    (∀ a b, (toyE (demoCfg true) toyPkg).parseCT ((toyE (demoCfg true) toyPkg).marshalCT a b) = some (a, b)) ∧
    Vsix.sign true (toyE (demoCfg true) toyPkg) (demoCfg false) s1.parts = .ok s2 ∧
    s1.refs.map (·.name) = s2.refs.map (·.name) ∧
    s1.refs.map (·.ctype) = [[0x72], [0x78, 0x2f, 0x79], [0x72], ctPsdor] ∧
    s2.refs.map (·.ctype) = [ctRels, ctCer, ctRels, ctPsdor] := by
  have h1 := Res.eq_ok_of_isOk noSigned (Vsix.sign true (toyE (demoCfg true) toyPkg) (demoCfg true) toyPkg) (by decide +kernel)
  have hc := (C01.demo_facts true true).2
  refine ⟨_, _, h1, hc, toy_roundtrip, Res.eq_ok_of_isOk noSigned _ ?_, by decide +kernel⟩
  -- that the second signing succeeds is the theorem; only what it wrote is evaluated
  obtain ⟨s2, h2⟩ := vsix_resign_total _ (demoCfg true) (demoCfg false) toyPkg _ h1 hc toy_roundtrip
  rw [h2]
  rfl

end Relic.Props.C08
