/-
  C18 (fragment) — the comdoc writer at FILE-BYTE level (model `Relic.Model.CfbBytes`: the file is header + sectors;
  `openFile`, `addStream` data placement with zero padding, `writeShortSector` inside the mini-stream container,
  `AddFile` / `DeleteFile`, `Close` = `writeShortSAT`, `rebuildTree` + `writeDirStream`, `allocSectorTables`,
  `writeSAT`, `writeMSAT`, header rewrite, `Truncate`).  Tied to lib/comdoc byte for byte (`C18 wb` ops).

  Proved here, for every state that satisfies the invariant `Inv` (live chains valid and pairwise disjoint, FAT / DIFAT
  sectors marked and listed once, mini sectors of live short streams inside the container, sectors all of the sector size):
  what a write changes; a successful byte-level operation is the table-level operation on the tables; any history of
  AddFile / DeleteFile followed by Close keeps every stream it does not name and an added stream reads back as its
  contents; the sectors Close wrote hold the serialised tables of the final state and parse back with the SPEC's reader
  functions `Spec.Cfb.walk` / `Spec.Cfb.sectorBytes` / `Cfb.u32s?`; the root storage Close writes is the tree of
  `rb_insert_valid`.
  NOT proved, and together with the above what `add_preserves_valid_full` needs: (a) `Spec.Cfb.validate buf = .ok _ → Inv (openFile buf)`
  (checked on every generated input by the executable `invB` in the driver), (b) that the facts above imply
  `Spec.Cfb.validate (bytes out) = .ok _` (the validator's own traversal: claims, counts, red-black shape of the root
  storage via `rb_insert_valid`, unchanged sub-storages).
-/
import Relic.Proofs.CfbBytesClose
import Relic.Proofs.CfbBytesInvB
import Relic.Proofs.CfbBytesDecode
import Relic.Spec.Cfb
import Relic.Props.C18
namespace Relic.Props.C18
open Relic.CfbW Relic.CfbB Relic.Cfb

/-- **write_sector_frame.** `writeSector(s, content)` sets sector `s` to the content zero-padded to the sector size and
    changes no other sector, nor anything before sector 0. -/
theorem write_sector_frame (f f' : File) (s : Nat) (c : Bytes) (h : wSec f s c = .ok f') :
    getSec f' s = pad f.ss c ∧ (∀ t, t ≠ s → getSec f' t = getSec f t) ∧ f'.pre = f.pre ∧ f'.ss = f.ss ∧ (WF f → WF f') := by
  obtain ⟨same, hs⟩ := wSec_same h
  exact ⟨hs, fun t ht => same.sec t (by simpa using ht), same.pre, same.ss, same.wf⟩

example : wSec ⟨4, [9, 9, 9, 9], [[1, 1, 1, 1]]⟩ 2 [7, 8] = .ok ⟨4, [9, 9, 9, 9], [[1, 1, 1, 1], [0, 0, 0, 0], [7, 8, 0, 0]]⟩ := by
  decide

/-- **stream_content_placed.** `addStream(contents, false)`: the sectors handed out by `makeFreeSectors` are the new chain;
    read back through that chain the file holds the contents followed by zeros up to the end of the last sector; every
    other sector is untouched. -/
theorem stream_content_placed (a : Alloc) (c : Bytes) (f : File) (first : Int) (a' : Alloc) (f' : File)
    (hss : f.ss = a.ss) (h : addStreamB a c false f = .ok (first, a', f')) :
    ∃ fl, chain a'.sat first = some fl ∧ readChain f' fl = c ++ zeros (fl.length * a.ss - c.length) ∧
      (∀ t, t ∉ fl → getSec f' t = getSec f t) ∧ f'.pre = f.pre := by
  obtain ⟨_, fl, _, _, hch, hrd, hlen, same⟩ := addStreamB_big hss h
  refine ⟨fl, hch, ?_, same.sec, same.pre⟩
  rw [hrd, pad, List.take_of_length_le hlen]

/-- **short_stream_content_placed.** `addStream(contents, true)`: the mini-stream container grows at its end from `C` to
    `C ++ E`; read through the grown container the mini sectors of the new chain hold the contents followed by zeros,
    every other mini sector holds what it held, no sector outside the container changed. -/
theorem short_stream_content_placed (a : Alloc) (c : Bytes) (f : File) (first : Int) (a' : Alloc) (f' : File)
    (C : List Nat) (q : Nat) (hq : a.ss = q * a.sss) (hs : 0 < a.sss) (hfs : f.ss = a.ss) (hwf : WF f)
    (hC : Cont a.sat a.rootStart C) (h : addStreamB a c true f = .ok (first, a', f')) :
    ∃ fl E, chain a'.ssat first = some fl ∧ Cont a'.sat a'.rootStart (C ++ E) ∧
      miniData a.sss (readChain f' (C ++ E)) fl = c ++ zeros (fl.length * a.sss - c.length) ∧
      (∀ m, m ∉ fl → miniSec a.sss (readChain f' (C ++ E)) m = miniSec a.sss (readChain f (C ++ E)) m) ∧
      (∀ t, t ∉ C ++ E → getSec f' t = getSec f t) := by
  obtain ⟨_, fl, E, hch, g, same, _, _, ms, md, hlen⟩ := addStreamB_short hq hs hfs hwf hC h
  refine ⟨fl, E, hch, g.cont, ?_, ms, same.sec⟩
  rw [md, pad, List.take_of_length_le hlen]

example : addStreamB ⟨8, 4, [EOC, FREE, FREE], [FREE, FREE], EOC, 0⟩ [1, 2, 3, 4, 5] true ⟨8, [0, 0, 0, 0, 0, 0, 0, 0], [[9, 9, 9, 9, 9, 9, 9, 9]]⟩ =
    .ok (0, ⟨8, 4, [EOC, EOC, FREE], [1, EOC], 1, 8⟩,
         ⟨8, [0, 0, 0, 0, 0, 0, 0, 0], [[9, 9, 9, 9, 9, 9, 9, 9], [1, 2, 3, 4, 5, 0, 0, 0]]⟩) := by decide +kernel

/-- **bytes_refine_tables.** The byte-level model refines the table model that is tied to lib/comdoc entry by entry:
    the table component of `addFileB` / `deleteFileB` / `closeB` is `addFile` / `deleteFile` / `close`. -/
theorem bytes_refine_tables :
    (∀ b b' units c, addFileB b units c = .ok b' → addFile b.st (nameKey units) units.length c.length = .ok b'.st) ∧
    (∀ b b' key, deleteFileB b key = .ok b' → deleteFile b.st key = .ok b'.st) ∧
    (∀ b b', closeB b = .ok b' → close b.st = .ok b'.st) :=
  ⟨fun _ _ _ _ h => addFileB_proj h, fun _ _ _ h => (deleteFileB_proj h).1, fun _ _ h => closeB_proj h⟩

/-- **streams_preserved.** Any history of AddFile / DeleteFile (contents below 2^32 bytes) followed by Close, from a
    state satisfying `Inv`: every slot that is not a root-level entry carrying one of the names used keeps its record
    (type, name class, start, size), its raw entry keeps name, class id, state bits and time stamps, and – for a stream –
    the bytes read back through the tables of the final state from the final file are the bytes read back before. -/
theorem streams_preserved (b b1 b2 : BSt) (ops : List Op) (inv : Inv b) (hok : ∀ op ∈ ops, opOk op)
    (hrun : run b ops = .ok b1) (hch : b1.st.changed = true) (hclose : closeB b1 = .ok b2) :
    ∀ (i : Nat) (sl : Slot), b.st.files[i]? = some sl → sl.typ ≠ 0 →
      (∀ op ∈ ops, ¬ (i ∈ b.st.rootFiles ∧ sl.key = opKey op)) →
      b2.st.files[i]? = some sl ∧ metaEq (b.ents.getD i zeroEntry) (b2.ents.getD i zeroEntry) ∧
      (sl.typ = 2 → slotData b2 i = slotData b i) := by
  obtain ⟨inv1, keep⟩ := run_spec ops b b1 inv hok hrun
  obtain ⟨c1, c3, c4⟩ := closeB_streams inv1 hch hclose
  intro i sl hi hty hn
  obtain ⟨p1, p2, p3, _⟩ := keep i sl hi hty hn
  refine ⟨by rw [c1]; exact p1, ?_, fun ht => (c4 i sl p1 ht).trans (p3 ht)⟩
  have : b1.ents.getD i zeroEntry = b.ents.getD i zeroEntry := by
    simp only [List.getD_eq_getElem?_getD, p2]
  rw [← this]; exact c3 i

/-- **added_stream_reads_back.** The stream stored by an `AddFile` that no later step of the history names reads back,
    after Close, as exactly the contents given. -/
theorem added_stream_reads_back (b b0 b1 b2 : BSt) (name : List Nat) (data : Bytes) (post : List Op) (inv : Inv b)
    (hlen : data.length < 4294967296) (hadd : addFileB b name data = .ok b0)
    (hok : ∀ op ∈ post, opOk op) (hpost : ∀ op ∈ post, opKey op ≠ nameKey name)
    (hrun : run b0 post = .ok b1) (hch : b1.st.changed = true) (hclose : closeB b1 = .ok b2) :
    ∃ j first, b2.st.files[j]? = some ⟨2, nameKey name, first, data.length⟩ ∧ slotData b2 j = some data ∧
      metaEq (newEntry name) (b2.ents.getD j zeroEntry) := by
  obtain ⟨inv0, _, j, first, s1, s2, s3, _⟩ := addFileB_step inv hlen hadd
  have sp := streams_preserved b0 b1 b2 post inv0 hok hrun hch hclose j _ s1 (by simp)
    (fun op ho hc => hpost op ho hc.2.symm)
  refine ⟨j, first, sp.1, (sp.2.2 rfl).trans s3, ?_⟩
  have : b0.ents.getD j zeroEntry = newEntry name := by simp [List.getD_eq_getElem?_getD, s2]
  rw [← this]; exact sp.2.1

/-- **tables_roundtrip** (sector level).  After Close the file holds, in the sectors named by the final tables, the
    serialisation of those tables: block `j` of the FAT in FAT sector `j`, the DIFAT blocks with their next pointers in the
    DIFAT sectors, block `j` of the mini-FAT in the `j`-th sector of the mini-FAT chain, block `j` of the directory in the
    `j`-th sector of the directory chain, the header fields in the first 512 bytes; the header counts are the lengths of
    the lists; the FAT / DIFAT sectors are marked as such in the FAT and listed once; all live chains stay valid and
    pairwise disjoint; the file ends after the last sector in use. -/
theorem tables_roundtrip (b b' : BSt) (inv : Inv b) (hch : b.st.changed = true) (h : closeB b = .ok b') : Closed b b' :=
  closeB_spec inv hch h

/-- **inv_checkable.** The invariant the theorems above assume is implied by the executable check `invB`, which the
    driver evaluates on the state `openFile` builds from every generated input. -/
theorem inv_checkable (b : BSt) (h : invB b = true) : Inv b := invB_sound b h

/-- a small state: 512-byte sectors, directory in sector 0, mini-FAT in 1, container in 2, FAT sector 3; one short
    stream of 100 bytes in mini sectors 0, 1 -/
def exampleState : BSt :=
  { st := { a := { ss := 512, sss := 64, sat := [EOC, EOC, EOC, FATSECT], ssat := [1, EOC], rootStart := 2, rootSize := 128 }
            cutoff := 4096, version := 3, files := [⟨5, 1, 0, 0⟩, ⟨2, 7, 0, 100⟩], root := 0, rootFiles := [1], changed := false
            dirStart := 0, dirCount := 0, ssatStart := 1, ssatCount := 1, msat := [3], msatList := []
            satSectors := 1, msatCount := 0, msatNext := EOC, fileSectors := 0 }
    ents := [zeroEntry, zeroEntry]
    file := { ss := 512, pre := List.replicate 512 0, secs := List.replicate 4 (List.replicate 512 0) } }

set_option maxRecDepth 100000 in
example : Inv exampleState := inv_checkable _ (by decide +kernel)

/-- **session_streams_preserved.** The same from file bytes: open, any history, Close. -/
theorem session_streams_preserved (buf : Buf) (ops : List Op) (b b1 b2 : BSt) (hopen : openFile buf = .ok b)
    (hinv : invB b = true) (hok : ∀ op ∈ ops, opOk op) (hrun : run b ops = .ok b1) (hch : b1.st.changed = true)
    (hclose : closeB b1 = .ok b2) :
    session buf ops = .ok (bytes b2.file) ∧
    ∀ (i : Nat) (sl : Slot), b.st.files[i]? = some sl → sl.typ ≠ 0 →
      (∀ op ∈ ops, ¬ (i ∈ b.st.rootFiles ∧ sl.key = opKey op)) →
      b2.st.files[i]? = some sl ∧ metaEq (b.ents.getD i zeroEntry) (b2.ents.getD i zeroEntry) ∧
      (sl.typ = 2 → slotData b2 i = slotData b i) := by
  refine ⟨by simp [session, hopen, hrun, hclose, hch], ?_⟩
  exact streams_preserved b b1 b2 ops (invB_sound b hinv) hok hrun hch hclose

theorem used_sector_in_file {b b' : BSt} (cl : Closed b b') {x : Nat} {v : Int} (hx : b'.st.a.sat[x]? = some v)
    (hv : v ≠ FREE) : x < b'.file.secs.length := by
  have := lastUsed_spec _ x v hx hv
  rw [cl.len (by omega)]; exact this

theorem closed_sector_parses_back {b b' : BSt} (cl : Closed b b') (h4 : b.st.a.ss % 4 = 0) {x : Nat} {v : Int}
    (hx : b'.st.a.sat[x]? = some v) (hv : v ≠ FREE) {vals : List Int} (hlen : vals.length = b.st.a.ss / 4)
    (hsec : getSec b'.file x = pad b.st.a.ss (encInts vals)) :
    u32s? (bytes b'.file).toArray (sectorOffset b.st.a.ss x) (b.st.a.ss / 4) = some (vals.map enc32) := by
  have hfss : b'.file.ss = b.st.a.ss := cl.fss.trans cl.ss
  rw [← hfss] at h4 hlen hsec ⊢
  exact sector_parses_back cl.wf (used_sector_in_file cl hx hv) hlen h4 hsec

/-- **fat_parses_back.** After Close the SPEC's reader (`Cfb.u32s?` on the bytes of the file at the offset of the
    sector) reads from the `j`-th FAT sector block `j` of the final FAT, and from the `j`-th sector of the mini-FAT chain
    block `j` of the mini-FAT (entries as uint32: `enc32`). -/
theorem fat_parses_back (b b' : BSt) (inv : Inv b) (hch : b.st.changed = true) (h : closeB b = .ok b')
    (h4 : b.st.a.ss % 4 = 0) :
    (∀ (j : Nat) (s : Int), b'.st.msat[j]? = some s →
      u32s? (bytes b'.file).toArray (sectorOffset b.st.a.ss s.toNat) (b.st.a.ss / 4) =
        some (((b'.st.a.sat.drop (j * (b.st.a.ss / 4))).take (b.st.a.ss / 4)).map enc32)) ∧
    (∃ lS, chain b'.st.a.sat b'.st.ssatStart = some lS ∧ ∀ (j x : Nat), lS[j]? = some x →
      u32s? (bytes b'.file).toArray (sectorOffset b.st.a.ss x) (b.st.a.ss / 4) =
        some (((b.st.a.ssat.drop (j * (b.st.a.ss / 4))).take (b.st.a.ss / 4)).map enc32)) := by
  have cl := closeB_spec inv hch h
  -- block `j` of `m` entries is a full block when the list has `j + 1` of them
  have full : ∀ (l : List Int) (j m : Nat), (j + 1) * m ≤ l.length → ((l.drop (j * m)).take m).length = m := by
    intro l j m hl
    rw [Nat.add_mul] at hl
    rw [List.length_take, List.length_drop]
    omega
  refine ⟨?_, ?_⟩
  · intro j s hs
    obtain ⟨hj, _⟩ := List.getElem?_eq_some_iff.mp hs
    obtain ⟨_, v, hv, hv'⟩ := cl.marks.marked s (List.mem_append_left _ (List.mem_of_getElem? hs))
    exact closed_sector_parses_back cl h4 hv (by omega)
      (full _ j _ (Nat.le_trans (Nat.mul_le_mul_right _ hj) cl.fat.1)) (cl.fat.2 j s hs)
  · obtain ⟨lS, c1, c2, _, c4⟩ := cl.miniFat
    refine ⟨lS, c1, ?_⟩
    intro j x hx
    obtain ⟨hj, hxj⟩ := List.getElem?_eq_some_iff.mp hx
    obtain ⟨v, hv, hv'⟩ := (chain_iff.mp c1).entry x (List.mem_of_getElem? hx)
    rw [c2] at hj
    exact closed_sector_parses_back cl h4 hv (by omega)
      (full _ j _ (Nat.le_trans (Nat.mul_le_mul_right _ hj) (Nat.div_mul_le_self _ _))) (c4 j x hx)

/-- **difat_parses_back.** The `j`-th DIFAT sector parses back (`Cfb.u32s?`) to the `j`-th block of FAT sector numbers
    beyond the 109 header slots, unused slots FREESECT, followed by the number of the next DIFAT sector (ENDOFCHAIN in the
    last one). -/
theorem difat_parses_back (b b' : BSt) (inv : Inv b) (hch : b.st.changed = true) (h : closeB b = .ok b')
    (h4 : b.st.a.ss % 4 = 0) (hspb : 1 ≤ b.st.a.ss / 4) :
    ∀ (j : Nat) (s : Int), b'.st.msatList[j]? = some s →
      u32s? (bytes b'.file).toArray (sectorOffset b.st.a.ss s.toNat) (b.st.a.ss / 4) =
        some (((((msatPadded (b.st.a.ss / 4) b'.st.msat b'.st.msatList).drop 109).drop (j * (b.st.a.ss / 4 - 1))).take
          (b.st.a.ss / 4 - 1) ++ [(b'.st.msatList.drop (j + 1)).headD EOC]).map enc32) := by
  have cl := closeB_spec inv hch h
  intro j s hs
  obtain ⟨hj, _⟩ := List.getElem?_eq_some_iff.mp hs
  obtain ⟨_, v, hv, hv'⟩ := cl.marks.marked s (List.mem_append_right _ (List.mem_of_getElem? hs))
  refine closed_sector_parses_back cl h4 hv (by omega) ?_ (cl.difat j s hs)
  have h2 : (j + 1) * (b.st.a.ss / 4 - 1) ≤ b'.st.msatList.length * (b.st.a.ss / 4 - 1) := Nat.mul_le_mul_right _ hj
  rw [Nat.add_mul] at h2
  simp only [List.length_append, List.length_take, List.length_drop, msatPadded_length, List.length_cons, List.length_nil]
  omega

/-- **chain_walks_back.** On the FAT as the reader holds it (`uint32` entries), the SPEC's chain walk `Spec.Cfb.walk`
    returns the model's chain, and the SPEC's `sectorBytes` along it are the model's `readChain` – so what `slotData`
    says about a regular stream is what `Spec.Cfb.readStream` extracts from the bytes (tables shorter than 2^31). -/
theorem chain_walks_back (f : File) (hwf : WF f) (sat : List Int) (h : Int) (l : List Nat) (limit : Nat)
    (hc : chain sat h = some l) (hlim : limit ≤ 2147483648) (hb : ∀ x ∈ l, x < limit) (hin : ∀ x ∈ l, x < f.secs.length) :
    Relic.Spec.Cfb.walk (sat.map enc32).toArray limit "stream" (limit + 1) (enc32 h) [] = .ok l ∧
    l.flatMap (fun s => ((bytes f).toArray.extract (sectorOffset f.ss s) (sectorOffset f.ss s + f.ss)).toList) =
      readChain f l := by
  have hc' := chain_iff.mp hc
  have hlen : l.length ≤ limit + 1 := by
    have := nodup_length_le limit l hc'.nodup hb
    omega
  refine ⟨by simpa using walk_of_chain sat limit "stream" hlim l h (limit + 1) [] hc' hb hlen, ?_⟩
  unfold readChain
  clear hlen hc hc' hb
  induction l with
  | nil => rfl
  | cons x l ih =>
    simp only [List.flatMap_cons]
    rw [extract_sector hwf (hin x List.mem_cons_self), ih (fun y hy => hin y (List.mem_cons_of_mem _ hy))]

example : Relic.Spec.Cfb.walk ([1, 3, EOC, EOC].map enc32).toArray 4 "stream" 5 (enc32 0) [] = .ok [0, 1, 3] := by rfl

/-- **close_directory_tree.** What Close writes for the root storage: the raw entries are `rebuildTree` of the entries in
    memory, i.e. colours and links of the red-black tree obtained by inserting the root-level entries in `rootFiles` order
    with lib/redblack's insert under `lessDirEnt`; when those entries are pairwise comparable (distinct names) that tree
    is a valid red-black search tree holding exactly them (`rb_insert_valid`). -/
theorem close_directory_tree (b b' : BSt) (inv : Inv b) (hch : b.st.changed = true) (h : closeB b = .ok b')
    (hk : KeysOrdered (fun i j => lessEnt (b.ents.getD i zeroEntry) (b.ents.getD j zeroEntry)) b.st.rootFiles) :
    b'.ents = rebuildTree b.ents b.st.root b.st.rootFiles ∧
    RedBlack.validB (fun i j => lessEnt (b.ents.getD i zeroEntry) (b.ents.getD j zeroEntry))
      (RedBlack.insertAll (fun i j => lessEnt (b.ents.getD i zeroEntry) (b.ents.getD j zeroEntry)) true true .nil b.st.rootFiles) = true ∧
    (RedBlack.toList (RedBlack.insertAll (fun i j => lessEnt (b.ents.getD i zeroEntry) (b.ents.getD j zeroEntry)) true true
      .nil b.st.rootFiles)).Perm b.st.rootFiles := by
  have cl := closeB_spec inv hch h
  obtain ⟨_, _, hp, hv⟩ := rb_insert_valid _ b.st.rootFiles hk
  exact ⟨cl.ents, hv, hp⟩

/-- NOT proved: a file the validator accepts opens into a state that passes the executable invariant -/
def inv_of_valid_full : Prop :=
  ∀ (buf : Buf) (p : Relic.Spec.Cfb.Parsed) (b : BSt), Relic.Spec.Cfb.validate buf = .ok p → openFile buf = .ok b → invB b = true

/-- NOT proved: the bytes a session (open, history, Close) writes from a valid file are valid again -/
def valid_of_closed_full : Prop :=
  ∀ (buf : Buf) (ops : List Op) (out : Bytes), Relic.Spec.Cfb.validB buf = true → session buf ops = .ok out →
    Relic.Spec.Cfb.validB out.toArray = true

end Relic.Props.C18
