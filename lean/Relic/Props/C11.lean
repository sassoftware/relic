/-
  Property C11 — malformed input yields an error, never a crash or runaway resource use.
  This file: the small parser models (APK signing block, csblob.parseSuper, signxap.removeSignature, binpatch.Load).
  For each: the exact characterisation of the panic on the unchanged tree (`… = .panic site ↔ Trigger`), a concrete
  witness (the unchanged code violates the property), and panic-freedom of the guarded code for all inputs.
  The PE parser is in C11_PE.lean; `cabfile.Digest` and `DigestPowershell` in C03_Cab.lean and C03_PS.lean (`cab_digest_no_panic`,
  `ps_digest_no_panic`, instances of `Cab.DigestCab_ne_crash`, `PS.DigestPS_ne_crash`).
-/
import Relic.Model.ApkBlock
import Relic.Model.CsBlob
import Relic.Model.Binpatch
import Relic.Proofs.Codec
import Relic.Proofs.Res
namespace Relic.Props.C11

/-- In the vocabulary of `Proofs/Res`: `NoPanic r` is `∀ s, r ≠ Res.crash (.panic s)`; `Res.Errs (fun _ => True) r` says that and
    no divergence.  `bind_panic` is `Res.bind_eq_panic`, and `panic_eq_iff`, `ok_eq_panic_iff`, `err_eq_panic_iff` below are
    `Res.panic_eq_crash`, `ok_eq_crash`, `err_eq_crash` at `.panic`. -/
def NoPanic {α} (r : Res α) : Prop := ∀ s, r ≠ .panic s

theorem noPanic_ok {α} (a : α) : NoPanic (Res.ok a) := nofun
theorem noPanic_err {α} (e : String) : NoPanic (Res.err e : Res α) := nofun
theorem noPanic_diverge {α} : NoPanic (Res.diverge : Res α) := nofun

theorem noPanic_bind {α β} {r : Res α} {f : α → Res β} (h1 : NoPanic r) (h2 : ∀ a, r = .ok a → NoPanic (f a)) :
    NoPanic (r.bind f) := by
  cases r with
  | ok a => exact h2 a rfl
  | err e => exact noPanic_err e
  | panic s => exact absurd rfl (h1 s)
  | diverge => exact noPanic_diverge

theorem noPanic_ite {α} {c : Prop} [Decidable c] {x y : Res α} (hx : c → NoPanic x) (hy : ¬ c → NoPanic y) :
    NoPanic (if c then x else y) := by
  split
  · exact hx ‹_›
  · exact hy ‹_›

theorem bind_panic {α β} {r : Res α} {f : α → Res β} {s : String} (h : r.bind f = .panic s) :
    r = .panic s ∨ ∃ a, r = .ok a ∧ f a = .panic s :=
  Res.bind_eq_panic.1 h

theorem panic_eq_iff {α} (a s : String) : ((Res.panic a : Res α) = .panic s) ↔ s = a :=
  ⟨fun h => by cases h; rfl, fun h => h ▸ rfl⟩

theorem ok_eq_panic_iff {α} (a : α) (s : String) : ((Res.ok a : Res α) = .panic s) ↔ False :=
  ⟨nofun, nofun⟩

theorem err_eq_panic_iff {α} (e s : String) : ((Res.err e : Res α) = .panic s) ↔ False :=
  ⟨nofun, nofun⟩

section Apk
open Relic.ApkBlock

/-- **readPrefix_panic_iff** — `unmarshalR` on the unchanged tree panics exactly when the length prefix `size` lies in the
    window `len − 4 < size ≤ len + 4`: the length test `4+len(blob) < size` is written the wrong way round. -/
theorem readPrefix_panic_iff (blob : Bytes) (s : String) :
    readPrefix false blob = .panic s ↔
      s = "apk.unmarshalR:slice" ∧ 4 ≤ blob.length ∧ blob.length < 4 + u32 blob ∧ u32 blob ≤ 4 + blob.length := by
  simp only [readPrefix, ite_eq_iff, panic_eq_iff, Bool.false_eq_true, if_false, reduceCtorEq, and_false, false_or,
    or_false]
  constructor
  · rintro ⟨h1, h2, h3, rfl⟩
    exact ⟨rfl, by omega, h3, by omega⟩
  · rintro ⟨rfl, h1, h2, h3⟩
    exact ⟨by omega, by omega, h2, rfl⟩

example : readPrefix false [5, 0, 0, 0, 1, 2, 3] = .panic "apk.unmarshalR:slice" := by decide +kernel
example : readPrefix false [3, 0, 0, 0, 1, 2, 3] = .ok ([1, 2, 3], []) := by decide +kernel

/-- **readPrefix_fixed_no_panic** — with the test the right way round (`len(blob)-4 < size`) the slice cannot fail. -/
theorem readPrefix_fixed_no_panic (blob : Bytes) : NoPanic (readPrefix true blob) :=
  noPanic_ite (fun _ => noPanic_err _) fun _ => noPanic_ite (fun _ => noPanic_err _) fun h2 =>
    noPanic_ite (fun h3 => absurd h3 (by simpa using h2)) fun _ => noPanic_ok _

theorem readPrefix_no_panic_partial (blob : Bytes) (h : ¬ (blob.length < 4 + u32 blob ∧ u32 blob ≤ 4 + blob.length)) :
    NoPanic (readPrefix false blob) := by
  intro s hp
  have := (readPrefix_panic_iff blob s).mp hp
  exact h ⟨this.2.2.1, this.2.2.2⟩

theorem parseAttr_fixed_no_panic (blob : Bytes) : NoPanic (parseAttr true blob) :=
  noPanic_bind (readPrefix_fixed_no_panic blob) fun _ _ =>
    noPanic_ite (fun _ => noPanic_err _) fun _ =>
      noPanic_bind (readPrefix_fixed_no_panic _) fun _ _ => noPanic_ite (fun _ => noPanic_ok _) fun _ => noPanic_err _

theorem loopAttrs_fixed_no_panic (fuel : Nat) (blob : Bytes) : NoPanic (loopAttrs true fuel blob) := by
  induction fuel generalizing blob with
  | zero => exact noPanic_ite (fun _ => noPanic_ok _) fun _ => noPanic_diverge
  | succ n ih =>
    exact noPanic_ite (fun _ => noPanic_ok _) fun _ => noPanic_bind (parseAttr_fixed_no_panic blob) fun rest _ => ih rest

theorem parseSigner_fixed_no_panic (blob : Bytes) : NoPanic (parseSigner true blob) :=
  noPanic_bind (readPrefix_fixed_no_panic blob) fun _ _ =>
    noPanic_bind (readPrefix_fixed_no_panic _) fun _ _ =>
      noPanic_bind (readPrefix_fixed_no_panic _) fun _ _ =>
        noPanic_bind (loopAttrs_fixed_no_panic _ _) fun _ _ =>
          noPanic_bind (readPrefix_fixed_no_panic _) fun _ _ =>
            noPanic_ite (fun _ => noPanic_ok _) fun _ => noPanic_err _

theorem loopSigners_fixed_no_panic (fuel : Nat) (blob : Bytes) : NoPanic (loopSigners true fuel blob) := by
  induction fuel generalizing blob with
  | zero => exact noPanic_ite (fun _ => noPanic_ok _) fun _ => noPanic_diverge
  | succ n ih =>
    exact noPanic_ite (fun _ => noPanic_ok _) fun _ =>
      noPanic_bind (parseSigner_fixed_no_panic blob) fun rest _ => noPanic_bind (ih rest) fun _ _ => noPanic_ok _

theorem unmarshalSigners_fixed_no_panic (blob : Bytes) : NoPanic (unmarshalSigners true blob) :=
  noPanic_bind (readPrefix_fixed_no_panic blob) fun _ _ =>
    noPanic_bind (loopSigners_fixed_no_panic _ _) fun _ _ =>
      noPanic_ite (fun _ => noPanic_ok _) fun _ => noPanic_err _

theorem loopParts_fixed_no_panic (fuel : Nat) (block : Bytes) : NoPanic (loopParts true fuel block) := by
  induction fuel generalizing block with
  | zero => exact noPanic_ite (fun _ => noPanic_ok _) fun _ => noPanic_diverge
  | succ n ih =>
    exact noPanic_ite (fun _ => noPanic_ok _) fun _ => noPanic_ite (fun _ => noPanic_err _) fun _ =>
      noPanic_ite (fun _ => noPanic_err _) fun _ => noPanic_ite (fun _ => ih _) fun _ =>
        noPanic_bind (unmarshalSigners_fixed_no_panic _) fun _ _ => noPanic_ite (fun _ => noPanic_err _) fun _ => noPanic_err _

/-- **getSigBlock_panic_iff** — `getSigBlock` on the unchanged tree panics exactly when the bytes in front of the directory end in
    the magic and are shorter than 24 bytes (`blob[len(blob)-24:]`), or are 24..31 bytes long with both size fields equal to
    `len − 8` (`blob[8:len(blob)-24]`). -/
theorem getSigBlock_panic_iff (blob : Bytes) (s : String) :
    getSigBlock false blob = .panic s ↔
      s = "apk.getSigBlock:slice" ∧ hasMagic blob = true ∧
        (blob.length < 24 ∨ (blob.length < 32 ∧ u64 blob = blob.length - 8 ∧ u64 (blob.drop (blob.length - 24)) = blob.length - 8)) := by
  simp only [getSigBlock, ite_eq_iff, panic_eq_iff, Bool.false_eq_true, false_and, reduceCtorEq, and_false, false_or,
    or_false, not_false_eq_true, true_and, Classical.not_not]
  constructor
  · rintro ⟨hm, ⟨h1, rfl⟩ | ⟨_, h2, h3, rfl⟩⟩
    · exact ⟨rfl, hm, .inl h1⟩
    · exact ⟨rfl, hm, .inr (by omega)⟩
  · rintro ⟨rfl, hm, h1 | h1⟩
    · exact ⟨hm, .inl ⟨h1, rfl⟩⟩
    · by_cases h24 : blob.length < 24
      · exact ⟨hm, .inl ⟨h24, rfl⟩⟩
      · exact ⟨hm, .inr ⟨h24, by omega, by omega, rfl⟩⟩

example : getSigBlock false (List.replicate 4 0 ++ magic) = .panic "apk.getSigBlock:slice" := by decide +kernel

theorem getSigBlock_fixed_no_panic (blob : Bytes) : NoPanic (getSigBlock true blob) := by
  refine noPanic_ite (fun _ => noPanic_err _) fun h32 => noPanic_ite (fun _ => noPanic_err _) fun _ =>
    noPanic_ite (fun h => ?_) fun _ => noPanic_ite (fun _ => noPanic_err _) fun _ =>
      noPanic_ite (fun h => ?_) fun _ => noPanic_ok _
  all_goals exact absurd ⟨rfl, by omega⟩ h32

/-- **verifyGap_fixed_no_panic** — with the two guards, `apk.Verify`'s signing-block path (getSigBlock, part loop, unmarshalR on
    `[]apkSigner`) does not panic on any bytes. -/
theorem verifyGap_fixed_no_panic (gap : Bytes) : NoPanic (verifyGap true gap) :=
  noPanic_ite (fun _ => noPanic_err _) fun _ =>
    noPanic_bind (getSigBlock_fixed_no_panic gap) fun _ _ =>
      noPanic_bind (loopParts_fixed_no_panic _ _) fun _ _ => noPanic_err _

/-- the unchanged tree violates C11 here: a 51-byte signing block whose v2 part holds the prefix `05 00 00 00` in front of 3 bytes -/
def apkWitness : Bytes :=
  [43, 0, 0, 0, 0, 0, 0, 0] ++ ([11, 0, 0, 0, 0, 0, 0, 0] ++ [0x1a, 0x87, 0x09, 0x71] ++ [5, 0, 0, 0, 1, 2, 3]) ++
  [43, 0, 0, 0, 0, 0, 0, 0] ++ magic

/-- **verifyGap_panics_on_witness** — the negation of panic-freedom for the unchanged tree, by a concrete witness (replayed on the
    real code by the correspondence run: `APKBLK verify <hex of apkWitness>`). -/
theorem verifyGap_panics_on_witness : verifyGap false apkWitness = .panic "apk.unmarshalR:slice" := by decide +kernel

example : verifyGap true apkWitness = .err "eof" := by decide +kernel

end Apk

section Cs
open Relic.CsBlob

/-- **entry_panic_iff** — one index entry of a code-signature superblob: `parseSuper` on the unchanged tree panics exactly when the
    index offset is smaller than the data offset (`offset − dataOffset < 0`), except that for `−4 ≤ offset − dataOffset < 0` the
    length test may still reject first. -/
theorem entry_panic_iff (data : Bytes) (dataOffset offsetRaw : Nat) (s : String) :
    entry false data dataOffset offsetRaw = .panic s ↔
      s = "csblob.parseSuper:slice" ∧ offsetRaw < dataOffset ∧
        ((offsetRaw : Int) - dataOffset ≤ (data.length : Int) - 8) ∧
        ((offsetRaw : Int) - dataOffset + 4 < 0 ∨
          (offsetRaw : Int) - dataOffset + (be32 data ((offsetRaw : Int) - dataOffset + 4).toNat : Int) ≤ data.length) := by
  simp only [entry, ite_eq_iff, panic_eq_iff, Bool.false_eq_true, false_and, reduceCtorEq, and_false, false_or, or_false,
    not_false_eq_true, true_and]
  constructor
  · rintro ⟨h1, ⟨h2, rfl⟩ | ⟨h2, h3, h4, rfl⟩⟩
    · exact ⟨rfl, by omega, by omega, .inl h2⟩
    · exact ⟨rfl, by omega, by omega, .inr (by omega)⟩
  · rintro ⟨rfl, h1, h2, h3 | h3⟩
    · exact ⟨by omega, .inl ⟨h3, rfl⟩⟩
    · by_cases h4 : (offsetRaw : Int) - dataOffset + 4 < 0
      · exact ⟨by omega, .inl ⟨h4, rfl⟩⟩
      · exact ⟨by omega, .inr ⟨h4, by omega, by omega, rfl⟩⟩

theorem entry_fixed_no_panic (data : Bytes) (dataOffset offsetRaw : Nat) : NoPanic (entry true data dataOffset offsetRaw) := by
  refine noPanic_ite (fun _ => noPanic_err _) fun h0 => noPanic_ite (fun _ => noPanic_err _) fun _ =>
    noPanic_ite (fun h => ?_) fun _ => noPanic_ite (fun _ => noPanic_err _) fun _ =>
      noPanic_ite (fun h => ?_) fun _ => noPanic_ok _
  all_goals exact absurd ⟨rfl, by omega⟩ h0

theorem entry_no_panic_partial (data : Bytes) (dataOffset offsetRaw : Nat) (h : dataOffset ≤ offsetRaw) :
    NoPanic (entry false data dataOffset offsetRaw) := by
  intro s hp
  have := (entry_panic_iff data dataOffset offsetRaw s).mp hp
  omega

theorem entries_fixed_no_panic (data : Bytes) (dataOffset n : Nat) (idx : Bytes) : NoPanic (entries true data dataOffset n idx) := by
  induction n generalizing idx with
  | zero => exact noPanic_ok _
  | succ k ih => exact noPanic_bind (entry_fixed_no_panic _ _ _) fun _ _ => ih _

/-- **verifyBlob_fixed_no_panic** — with the guard `offset < 0 → errShort`, `parseSuper` does not panic on any bytes. -/
theorem verifyBlob_fixed_no_panic (blob : Bytes) : NoPanic (verifyBlob true blob) := by
  refine noPanic_bind ?_ fun _ _ => noPanic_ite (fun _ => noPanic_err _) fun _ => noPanic_err _
  exact noPanic_ite (fun _ => noPanic_err _) fun _ => noPanic_ite (fun _ => noPanic_err _) fun _ =>
    noPanic_ite (fun _ => noPanic_err _) fun _ => noPanic_bind (entries_fixed_no_panic _ _ _ _) fun _ _ => noPanic_ok _

/-- a 20-byte superblob with one index entry whose offset (0) lies before the data area: the unchanged code panics -/
example : verifyBlob false [0,0,0,0, 0,0,0,20, 0,0,0,1, 0,0,0,0, 0,0,0,0] = .panic "csblob.parseSuper:slice" := by decide +kernel

/-- **removeSignature_panic_iff** — `signxap.removeSignature` on the unchanged tree panics exactly when the directory blob is shorter
    than the 10-byte trailer, or the trailer magic matches and `TrailerSize + 10` exceeds the blob. -/
theorem removeSignature_panic_iff (cd : Bytes) (s : String) :
    removeSignature false cd = .panic s ↔
      s = "signxap.removeSignature:slice" ∧
        (cd.length < 10 ∨ (leVal ((cd.drop (cd.length - 10)).take 4) = 1399873880 ∧
          cd.length < leVal (((cd.drop (cd.length - 10)).drop 6).take 4) + 10)) := by
  unfold removeSignature
  by_cases h1 : cd.length < 10
  · simp only [h1, if_true, Bool.false_eq_true, if_false, true_or, and_true, panic_eq_iff]
  · by_cases h2 : leVal ((cd.drop (cd.length - 10)).take 4) = 1399873880
    · by_cases h3 : cd.length < leVal (((cd.drop (cd.length - 10)).drop 6).take 4) + 10
      · simp only [h1, h2, h3, if_true, if_false, Bool.false_eq_true, false_or, and_true, panic_eq_iff]
      · simp only [h1, h2, h3, if_true, if_false, false_or, and_false, ok_eq_panic_iff]
    · simp only [h1, h2, if_false, false_or, false_and, and_false, ok_eq_panic_iff]

theorem removeSignature_fixed_no_panic (cd : Bytes) : NoPanic (removeSignature true cd) :=
  noPanic_ite (fun _ => noPanic_ok _) fun _ =>
    noPanic_ite (fun _ => noPanic_ite (fun _ => noPanic_ok _) fun _ => noPanic_ok _) fun _ => noPanic_ok _

example : removeSignature false [1, 2, 3] = .panic "signxap.removeSignature:slice" := by decide +kernel

end Cs

section Bin
open Relic.Binpatch

theorem load_ok_or_err (b : Bytes) : (∃ ps, load b = .ok ps) ∨ ∃ e, load b = .err e := by
  unfold load
  split
  · exact Or.inr ⟨_, rfl⟩
  · split
    · exact Or.inr ⟨_, rfl⟩
    · split
      · exact Or.inr ⟨_, rfl⟩
      · split
        · exact Or.inr ⟨_, rfl⟩
        · exact Or.inl ⟨_, rfl⟩

/-- **load_no_panic** — `binpatch.Load` has no slice or index expression that can fail: the model is panic-free and total
    (structural recursion on the patch count and on the header list; no fuel). -/
theorem load_no_panic (b : Bytes) : NoPanic (load b) := by
  intro s
  rcases load_ok_or_err b with ⟨ps, h⟩ | ⟨e, h⟩ <;> rw [h] <;> nofun

theorem load_not_diverge (b : Bytes) : load b ≠ .diverge := by
  rcases load_ok_or_err b with ⟨ps, h⟩ | ⟨e, h⟩ <;> rw [h] <;> nofun

/-- bytes requested by `make` before anything is read from the body, on the unchanged tree:
    `make([]PatchHeader, num)` (16 bytes each) and `make([][]byte, num)` (24 bytes each) -/
def loadAlloc (b : Bytes) : Nat :=
  if b.length < 8 ∨ beVal (b.take 4) ≠ 1 then 0 else 40 * beVal ((b.drop 4).take 4)

/-- the same account with a guard `16*num ≤ remaining` in front of the two `make`s -/
def loadAllocFixed (b : Bytes) : Nat :=
  if b.length < 8 ∨ beVal (b.take 4) ≠ 1 then 0
  else if b.length - 8 < 16 * beVal ((b.drop 4).take 4) then 0 else 40 * beVal ((b.drop 4).take 4)

/-- **loadAlloc_unbounded** — on the unchanged tree an 8-byte input requests `40 · NumPatches` bytes, for any 32-bit count. -/
theorem loadAlloc_unbounded (n : Nat) (hn : n < 2 ^ 32) :
    ∃ b : Bytes, b.length = 8 ∧ loadAlloc b = 40 * n := by
  refine ⟨[0, 0, 0, 1] ++ beBytes 4 n, by simp, ?_⟩
  have h1 : beVal [(0 : UInt8), 0, 0, 1] = 1 := by decide
  have h2 : beVal ((beBytes 4 n).take 4) = n := by
    rw [List.take_of_length_le (by simp), beVal_beBytes_of_lt 4 n hn]
  simp [loadAlloc, h1, h2]

/-- **loadAllocFixed_le** — with the guard the request is at most 2.5 times the input length. -/
theorem loadAllocFixed_le (b : Bytes) : 2 * loadAllocFixed b ≤ 5 * b.length := by
  unfold loadAllocFixed
  split
  · omega
  · split <;> omega

end Bin
end Relic.Props.C11
