/-
  C02 fragment — JAR: what relic's verifier does and does not notice (model Relic.Model.Jar of lib/signjar/verify.go).
-/
import Relic.Proofs.Jar
namespace Relic.Props.C02
open Relic.Jar

theorem verifyFiles_congr (algs : Algs) (l1 l2 : Bytes → Option Bytes) : ∀ (fs : List (Bytes × Hdr)),
    (∀ kv ∈ fs, l1 kv.1 = l2 kv.1) → verifyFiles algs l1 fs = verifyFiles algs l2 fs
  | [], _ => rfl
  | (name, keys) :: rest, h => by
    have h1 : l1 name = l2 name := h (name, keys) (by simp)
    have ih := verifyFiles_congr algs l1 l2 rest (fun kv hkv => h kv (by simp [hkv]))
    unfold verifyFiles
    rw [h1, ih]

theorem collect_append_other (ms : List Member) (x : Member) (cls : Nat) (h : (classify x.name).1 ≠ cls) :
    collect (ms ++ [x]) cls = collect ms cls := by
  unfold collect
  rw [List.foldl_append]
  simp [h]

theorem lastMember_append_other (ms : List Member) (x : Member) (n : Bytes) (h : x.name ≠ n) :
    lastMember (ms ++ [x]) n = lastMember ms n := by
  unfold lastMember
  simp [List.reverse_append, h]

/-- **jar_unlisted_member_accepted** (F18, model level).  `signjar.Verify` iterates over the *manifest's* sections, not
    over the archive's members: for every archive `ms` and every member `x` that is not one of the files `Verify`
    classifies (manifest, .SF, signature block) and whose name the manifest does not list, the verification result
    of the archive with `x` added is the result without it – whatever `x` contains.  This is the negation of the
    "insert a member" clause of C02 for JAR; the witness is replayed on the real code by the `signx … add:` ops
    (known finding F18). -/
theorem jar_unlisted_member_accepted (algs : Algs) (cmsOk : Bytes → Bytes → Bool) (skip : Bool)
    (ms : List Member) (x : Member)
    (hcls : (classify x.name).1 = 0)
    (hunl : ∀ manifest fm, (collect ms 1).lookup [] = some manifest → parseManifestStrict manifest = .ok fm →
      ∀ kv ∈ fm.files, kv.1 ≠ x.name) :
    verify algs cmsOk skip (ms ++ [x]) = verify algs cmsOk skip ms := by
  unfold verify
  rw [collect_append_other ms x 1 (by omega), collect_append_other ms x 2 (by omega), collect_append_other ms x 3 (by omega)]
  cases hm : (collect ms 1).lookup [] with
  | none => rfl
  | some manifest =>
    simp only
    split
    · rfl
    · split
      · cases skip
        · simp only [Bool.false_eq_true, ↓reduceIte]
          unfold verifyManifest
          cases hp : parseManifestStrict manifest with
          | ok fm =>
            simp only
            apply verifyFiles_congr
            intro kv hkv
            exact lastMember_append_other ms x kv.1 (fun e => hunl manifest fm hm hp kv hkv e.symm)
          | _ => rfl
        · rfl
      · rfl

/-- non-vacuity: an archive whose manifest lists `a` only, and an extra member `evil.class` -/
example : (classify (asc "evil.class")).1 = 0 := by decide +kernel
example : (classify (asc "META-INF/services/x")).1 = 0 := by decide +kernel
example : (classify (asc "META-INF/RELIC.SF")).1 = 2 := by decide +kernel

/-- lower-case names are signature files for the verifier (but `keepFile` keeps them: finding F33) -/
example : (classify (asc "META-INF/old.sf")).1 = 2 ∧ keepFile (asc "META-INF/old.sf") = true := by decide +kernel

/-- **jar_listed_member_protected.** Conversely, for a member the manifest *does* list (without `Magic`), the loop
    compares every `…-Digest` attribute of its section with the digest of the member's content as found in the
    archive: a section whose digests do not all match makes `verifyFiles` fail. -/
theorem jar_listed_member_protected (algs : Algs) (lookup : Bytes → Option Bytes) (name : Bytes) (keys : Hdr)
    (rest : List (Bytes × Hdr)) (content : Bytes) (e : String)
    (hmagic : (hget keys kMagic).isEmpty = true) (hl : lookup name = some content)
    (hbad : hashFile algs keys content [] = .err e) :
    verifyFiles algs lookup ((name, keys) :: rest) = .err e := by
  unfold verifyFiles
  simp [hmagic, hl, hbad]

example : hashFile (fun n => if n == asc "sha256" then some (fun _ => asc "GOOD") else none)
    [(asc "Sha-256-Digest", asc "BAD")] [1, 2, 3] [] = .err "mismatch" := by decide +kernel

/-- **jar_manifest_append_rejected.**  When the signature file carries a whole-manifest digest (`…-Digest-Manifest`, i.e. it
    was not made with `--sections-only`) and that digest does not match the manifest found in the archive, `verifySigFile`
    fails; it does *not* fall back to the per-section digests (only the absence of every whole-manifest digest does).  So
    appending a section for a new member to a signed manifest is noticed (replayed on the real code by the
    `signx … mfadd:` ops). -/
theorem jar_manifest_append_rejected (algs : Algs) (sigfile manifest : Bytes) (sf : FilesMap)
    (hp : parseManifestStrict sigfile = .ok sf)
    (hbad : hashFile algs sf.main manifest (asc "-Manifest") = .err "mismatch") :
    verifySigFile algs sigfile manifest = .err "mismatch" := by
  unfold verifySigFile
  simp [hp, hbad]

/-- what "does not match" means: every whole-manifest digest names a known algorithm, there is at least one, and not all
    of them equal the digest of the manifest in the archive -/
theorem hashFile_mismatch (algs : Algs) (keys : Hdr) (content suffix : Bytes)
    (hknown : (keys.filter (fun kv => (asc "-Digest" ++ suffix).isSuffixOf kv.1)).any
        (fun kv => (algs (normalName (toUpper (kv.1.take (kv.1.length - (asc "-Digest" ++ suffix).length))))).isNone) = false)
    (hne : (keys.filter (fun kv => (asc "-Digest" ++ suffix).isSuffixOf kv.1)).isEmpty = false)
    (hbad : (keys.filter (fun kv => (asc "-Digest" ++ suffix).isSuffixOf kv.1)).all
        (fun kv => match algs (normalName (toUpper (kv.1.take (kv.1.length - (asc "-Digest" ++ suffix).length)))) with
          | some h => h content == kv.2
          | none => false) = false) :
    hashFile algs keys content suffix = .err "mismatch" := by
  unfold hashFile
  dsimp only
  rw [hknown, hne]
  simp only [Bool.false_eq_true, ↓reduceIte]
  split
  · next h => exact absurd (h.symm.trans hbad) (by decide)
  · rfl

/-- non-vacuity: a signature file with a stale whole-manifest digest -/
example : verifySigFile (fun n => if n == asc "sha256" then some (fun c => if c == asc "M\r\n\r\n" then asc "OLD" else asc "NEW") else none)
    (asc "Signature-Version: 1.0\r\nSHA-256-Digest-Manifest: OLD\r\n\r\n") (asc "M\r\n\r\nName: x\r\n\r\n") = .err "mismatch" := by
  decide +kernel

end Relic.Props.C02
