/-
  C05 — relic's encodings are what the specifications prescribe.   OpenPGP part (model `Relic.Model.Pgp` of
  lib/pgptools/inline.go, specification `Relic.Spec.OpenPgp` transcribed from RFC 4880 §4.2, §5.9).
-/
import Relic.Proofs.Pgp
namespace Relic.Props.C05
open Relic.Pgp Relic.Spec.OpenPgp

/-- **pgp_length_roundtrip.** For every length below 2^32 the octets `serializeHeader` writes behind the tag decode
    (RFC 4880 §4.2.2) to exactly that length, consume nothing else, and use the form the RFC's ranges prescribe:
    one octet up to 191, two octets for 192..8383, five octets above (never a partial length). -/
theorem pgp_length_roundtrip (n : Nat) (h : n < 2 ^ 32) (rest : Bytes) :
    decodeLength (serializeLength n ++ rest) = some (prescribedForm n, n, rest) :=
  decodeLength_serialize n h rest

example : serializeLength 191 = [191] ∧ serializeLength 192 = [192, 0] ∧ serializeLength 8383 = [223, 255] ∧
    serializeLength 8384 = [255, 0, 0, 32, 192] ∧ serializeLength 4294967295 = [255, 255, 255, 255, 255] := by decide +kernel

/-- **pgp_length_octets.** the number of length octets is 1, 2 or 5 exactly on the RFC's ranges
    (boundaries 191/192 and 8383/8384) -/
theorem pgp_length_octets (n : Nat) :
    (serializeLength n).length = if n ≤ 191 then 1 else if n ≤ 8383 then 2 else 5 :=
  serializeLength_length n

example : (serializeLength 8383).length = 2 ∧ (serializeLength 8384).length = 5 := by decide +kernel

/-- **pgp_length_wraps_at_2_32.** the bound of `pgp_length_roundtrip` is sharp: at 2^32 the four length octets wrap to 0
    (`serializeLiteral` refuses such sizes: `pgp_literal_too_big_refused`) -/
theorem pgp_length_wraps_at_2_32 : decodeLength (serializeLength (2 ^ 32)) = some (.five, 0, []) := by decide +kernel

/-- **pgp_packet_roundtrip.** a packet written as `serializeHeader tag len(body) ‖ body` is read back by the RFC's packet
    reader as that tag and that body, for every body below 4 GiB and whatever follows -/
theorem pgp_packet_roundtrip (tag : Nat) (ht : tag < 64) (body rest : Bytes) (h : body.length < 2 ^ 32) :
    parsePacket (serializeHeader tag body.length ++ body ++ rest) = some (⟨tag, body⟩, rest) :=
  parsePacket_serialize tag ht body rest h

example : parsePacket (serializeHeader 11 3 ++ [1, 2, 3] ++ [9]) = some (⟨11, [1, 2, 3]⟩, [9]) := by decide +kernel

/-- **pgp_literal_header_roundtrip.** For every body and file name (total below 4 GiB) `serializeLiteral` succeeds and its
    output is one literal data packet (tag 11) that reads back per RFC 4880 §5.9 as: binary format, the file name cut to its
    first 255 bytes, date 0, and exactly the body. -/
theorem pgp_literal_header_roundtrip (body filename rest : Bytes)
    (h : body.length + (6 + min 255 filename.length) < 2 ^ 32) :
    ∃ out, serializeLiteral body filename = .ok out ∧
      parsePacket (out ++ rest) = some (⟨11, literalMeta filename ++ body⟩, rest) ∧
      parseLiteral (literalMeta filename ++ body) = some ⟨0x62, filename.take 255, 0, body⟩ :=
  ⟨_, serializeLiteral_ok body filename h,
    parsePacket_serialize 11 (by omega) _ rest (by rw [List.length_append, literalMeta_length]; omega),
    parseLiteral_meta filename body⟩

example : serializeLiteral [104, 105] [102] = .ok [0xcb, 9, 0x62, 1, 102, 0, 0, 0, 0, 104, 105] := by decide +kernel

/-- **pgp_literal_name_kept_below_256.** a file name of at most 255 bytes is stored whole -/
theorem pgp_literal_name_kept_below_256 (body filename : Bytes) (h : filename.length ≤ 255) :
    parseLiteral (literalMeta filename ++ body) = some ⟨0x62, filename, 0, body⟩ := by
  rw [parseLiteral_meta, List.take_of_length_le h]

/-- **pgp_literal_long_filename_truncated.** at 256 bytes and above the stored name is the first 255 bytes – not the file
    name (the length octet cannot hold more); the body is unaffected -/
theorem pgp_literal_long_filename_truncated (body filename : Bytes) (h : filename.length ≥ 256) :
    ∃ l, parseLiteral (literalMeta filename ++ body) = some l ∧ l.filename.length = 255 ∧ l.filename ≠ filename ∧ l.data = body := by
  refine ⟨_, parseLiteral_meta filename body, ?_, ?_, rfl⟩
  · simp only [List.length_take]; omega
  · intro e
    have := congrArg List.length e
    simp only [List.length_take] at this
    omega

example : (List.replicate 256 (110 : UInt8)).length ≥ 256 := by rw [List.length_replicate]; omega

/-- **pgp_literal_too_big_refused.** sizes that do not fit the five-octet length are refused, not wrapped -/
theorem pgp_literal_too_big_refused (body filename : Bytes) (h : body.length + (6 + min 255 filename.length) > 2 ^ 32 - 1) :
    serializeLiteral body filename = .err "toobig" := by
  unfold serializeLiteral
  have : body.length + (literalMeta filename).length > 2 ^ 32 - 1 := by rw [literalMeta_length]; exact h
  simp only [this, if_true]

end Relic.Props.C05
