/-
  C02 — Any change to signed content or to the signature makes verification fail.   Security catalogs / pkcs.Verify.
  The container layer (what an accepted SignedData implies) is `Relic.Props.C02.cms_*` (C02_Cms.lean); here: which bytes of a
  catalog *file* reach the digest, and which do not.
-/
import Relic.Props.C01_Cat
import Relic.Props.C02_Cms
namespace Relic.Props.C02
open Relic.Der Relic.CatSign

/-- **cat_content_change_rejected.**  `s` = a signed catalog; `f` = any file in which the verifier finds other content octets
    `c' ≠ s.content` (a member hash changed, an entry added or removed, …).  If the hash does not collide on the two, the digest
    the verifier computes for `f` differs from the one the signature value was made over – so `f` is accepted only if the
    signature primitive accepts one signature value for two different digests (`cms_content_change_rejected` then says the
    same about `SignedData.Verify` as a whole).  The file `f` only names where `c'` comes from: the conclusion speaks of `c'`. -/
theorem cat_content_change_rejected (H : Bytes → Bytes) (k : Signer) (x : Bytes) (s : Signed) (f c' : Bytes)
    (h : sign H k x = .ok s) (hk : k.WF) (hfit : C08.Fits k s.ci)
    (hf : C01.verifyInput f = .ok c') (hne : c' ≠ s.content) (hcf : H c' = H s.content → c' = s.content) :
    C01.verifyInput s.out = .ok s.content ∧ s.sig = k.sign (H s.content) ∧ H c' ≠ H s.content := by
  obtain ⟨a, b⟩ := C01.cat_sign_then_verify H k x s h hk hfit
  exact ⟨a, b, fun e => hne (hcf e)⟩

theorem cat_verify_input_of_ci (f g : Bytes) (h : unmarshalCI f = unmarshalCI g) : C01.verifyInput f = C01.verifyInput g := by
  unfold C01.verifyInput; rw [h]

open Relic.Cms in
/-- **pkcs_verify_content_rule.**  `pkcs.Verify` and `--content`: with `--no-digests` the file is not even read; otherwise a
    structure with embedded content `c` and a content file holding other bytes is refused ("internal and external content were
    both provided but are not equal"), a detached structure without a content file is refused ("missing content"), and a
    detached structure is judged over the content file's bytes, whatever they are. -/
theorem pkcs_verify_content_rule {C : Crypto} (H : Alg → Bytes → Bytes) (sd : SignedData C) (c e : Bytes) :
    (∀ arg, externalContent true arg = none) ∧
    (sd.content = some c → e ≠ c → pkcsVerify H sd false (some e) = .err "content-mismatch") ∧
    (sd.content = none → pkcsVerify H sd false none = .err "missing-content") ∧
    (sd.content = none → pkcsVerify H sd false (some e) = verifyAll H (some sd.contentType) e false sd.certs sd.badCerts sd.signers none) := by
  refine ⟨fun _ => rfl, ?_, ?_, ?_⟩
  · intro hc hne
    exact cms_external_embedded_must_agree H sd c e hc hne
  · intro hc
    simp [pkcsVerify, externalContent, verifySignedData, verifySignedDataWith, resolveContent, hc]
  · intro hc
    simp [pkcsVerify, externalContent, verifySignedData, verifySignedDataWith, resolveContent, hc]

/-- **cat_inner_header_unprotected.**  What is not covered: PKCS#7 digests the content octets only, and relic's reader is
    lenient about what surrounds them.  Identifier and length octets of the element inside `[0]` are not digested (RFC 2315
    9.3) – and `ContentInfo.Bytes()` does not check the identifier either: a SEQUENCE re-tagged as SET yields the same digest input. -/
theorem cat_inner_header_unprotected :
    ciBytes [0x30, 0x11, 0x06, 0x09, 0x2b, 0x06, 0x01, 0x04, 0x01, 0x82, 0x37, 0x0a, 0x01, 0xA0, 0x04, 0x30, 0x02, 0x05, 0x00] = .ok (some [0x05, 0x00]) ∧
    ciBytes [0x30, 0x11, 0x06, 0x09, 0x2b, 0x06, 0x01, 0x04, 0x01, 0x82, 0x37, 0x0a, 0x01, 0xA0, 0x04, 0x31, 0x02, 0x05, 0x00] = .ok (some [0x05, 0x00]) := by
  decide

/-- **cat_wrapper_unchecked.**  Neither the wrapper's identifier (`[0]` is not required) nor bytes after the first element
    inside the wrapper, nor further elements after the wrapper, are looked at: all of these yield the digest input `05 00`. -/
theorem cat_wrapper_unchecked :
    ciBytes [0x30, 0x11, 0x06, 0x09, 0x2b, 0x06, 0x01, 0x04, 0x01, 0x82, 0x37, 0x0a, 0x01, 0x04, 0x04, 0x30, 0x02, 0x05, 0x00] = .ok (some [0x05, 0x00]) ∧
    ciBytes [0x30, 0x13, 0x06, 0x09, 0x2b, 0x06, 0x01, 0x04, 0x01, 0x82, 0x37, 0x0a, 0x01, 0xA0, 0x06, 0x30, 0x02, 0x05, 0x00, 0xFF, 0xFF] = .ok (some [0x05, 0x00]) ∧
    ciBytes [0x30, 0x13, 0x06, 0x09, 0x2b, 0x06, 0x01, 0x04, 0x01, 0x82, 0x37, 0x0a, 0x01, 0xA0, 0x04, 0x30, 0x02, 0x05, 0x00, 0x05, 0x00] = .ok (some [0x05, 0x00]) := by
  decide

open Relic.Cms in
/-- **cat_contenttype_unprotected.**  `cat.sign` adds no authenticated attributes, so nothing in the signed catalog names the
    eContentType: the verdict of `SignedData.Verify` on what it built is the same for every other content type
    (instance of `cms_contenttype_unprotected_without_attrs`; Microsoft's own catalogs carry signed attributes). -/
theorem cat_contenttype_unprotected {C : Crypto} (H : Alg → Bytes → Bytes) (alg : Alg) (sa : SigAlg) (leaf : Cert C)
    (more : List (Cert C)) (content : Bytes) (sig : C.Sig) (ct' : Bytes) (ext : Option Bytes) (skip : Bool) :
    verifySignedData H { C01.builtSD C leaf more alg sa content sig with contentType := ct' } ext skip =
      verifySignedData H (C01.builtSD C leaf more alg sa content sig) ext skip := by
  apply cms_contenttype_unprotected_without_attrs
  intro si hsi
  simp only [C01.builtSD, List.mem_singleton] at hsi
  subst hsi
  rfl

/-- **cat_trailing_zeros_accepted.**  `pkcs7.Unmarshal` trims NUL bytes after the structure: a signed catalog followed by
    zero bytes is the same catalog to the verifier; anything else after it is refused. -/
theorem cat_trailing_zeros_accepted (blob ci : Bytes) (n : Nat) (h : unmarshalCI blob = .ok ci)
    (hb : ∃ t c, blob = tlv t c ∧ highTag t = false ∧ c.length < 2 ^ 31) :
    unmarshalCI (blob ++ List.replicate n 0) = .ok ci := by
  obtain ⟨t, c, rfl, ht, hc⟩ := hb
  have h0 : untlv (tlv t c) = .ok (t, c, []) := untlv_one t c ht hc
  have h1 : untlv (tlv t c ++ List.replicate n 0) = .ok (t, c, List.replicate n 0) := untlv_tlv t c _ ht hc
  obtain ⟨c', rest, hu, hw, _⟩ := (unmarshalCI_ok _ ci).mp h
  rw [h0] at hu
  cases hu
  exact (unmarshalCI_ok _ ci).mpr ⟨c, _, h1, hw, by simp [allZero]⟩

end Relic.Props.C02
