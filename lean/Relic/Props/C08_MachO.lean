/-
  C08 — Re-signing replaces the signature; digests ignore existing signatures.   Mach-O part.
-/
import Relic.Proofs.MachOPatch
import Relic.Proofs.CodeDirVerify
namespace Relic.Props.C08
open Relic.MachO Relic.CodeDir

/-- The image that is hashed depends on the input only through its first `cs`
    bytes (`cs` = start of the existing signature = code limit): two inputs that differ only in the old signature
    region (or behind it) are hashed identically. -/
theorem macho_digest_ignores_signature (f f' h3 : Bytes) (cs : Nat)
    (h : f.take cs = f'.take cs) : hashedImage f h3 cs 0 = hashedImage f' h3 cs 0 := by
  unfold hashedImage
  simp only [zeros, List.replicate_zero, List.append_nil, Nat.add_zero]
  rw [List.take_append, List.take_append]
  congr 1
  -- (f.drop |h3|).take (cs − |h3|) is a slice of f.take cs
  have e : ∀ x : Bytes, (x.drop h3.length).take (cs - h3.length) = (x.take cs).drop h3.length := by
    intro x
    rw [List.drop_take]
  rw [e f, e f', h]

/-- Re-signing a signed image (old region `[cs, cs+sigLen)`, no padding): the code limit
    stays `cs`, the old region is replaced by the new buffer (nothing of it survives), what follows it is kept, and
    every code page that contains no byte of a patched load-command field has the same byte stream as before — so
    its digest is unchanged for every hash function. -/
theorem macho_resign_replaces (ps : Nat) (hps : 0 < ps) (f h3 : Bytes) (rs : List (Nat × Nat)) (cs sigLen : Nat) (sigBuf : Bytes)
    (L : Layout f h3 rs cs sigLen) :
    (∀ j, j < sigBuf.length → (written f h3 rs cs sigLen 0 sigBuf)[cs + j]? = sigBuf[j]?) ∧
    (∀ j, (written f h3 rs cs sigLen 0 sigBuf)[cs + sigBuf.length + j]? = f[cs + sigLen + j]?) ∧
    (∀ q, (∀ i, q * ps ≤ i → i < q * ps + ps → inRanges rs i = false) →
        (pages ps ((written f h3 rs cs sigLen 0 sigBuf).take cs))[q]? = (pages ps (f.take cs))[q]?) := by
  have B := written_behind f h3 rs cs sigLen 0 sigBuf L
  have hcs : cs ≤ f.length := by have := L.oldInside; omega
  have hgl : cs ≤ (written f h3 rs cs sigLen 0 sigBuf).length := by
    rw [written_length f h3 rs cs sigLen 0 sigBuf L]
    have := L.oldInside; omega
  refine ⟨fun j hj => ?_, fun j => ?_, fun q hq => ?_⟩
  · refine (B j).trans ?_
    rw [if_neg (by omega), if_pos (by omega)]; rfl
  · rw [Nat.add_assoc]
    refine (B (sigBuf.length + j)).trans ?_
    rw [if_neg (by omega), if_neg (by omega)]; congr 2; omega
  · apply pages_same_elsewhere ps hps
    · simp only [List.length_take]; omega
    · intro i h1 h2
      by_cases c : i < cs
      · rw [List.getElem?_take_of_lt c, List.getElem?_take_of_lt c, written_below f h3 rs cs sigLen 0 sigBuf L i c, hq i h1 h2]; rfl
      · rw [List.getElem?_eq_none_iff.mpr (by simp only [List.length_take]; omega),
            List.getElem?_eq_none_iff.mpr (by simp only [List.length_take]; omega)]

example : hashedImage [1, 2, 3, 4, 70, 71] [1, 9] 4 0 = hashedImage [1, 2, 3, 4, 80] [1, 9] 4 0 := by decide

end Relic.Props.C08
