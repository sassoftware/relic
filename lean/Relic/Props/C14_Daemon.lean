/-
  C14 (fragment) — "shutting the server down lets in-flight requests finish", at the daemon layer
  (server/daemon/daemon.go Serve / Close, server/server.go Close).  Model: Relic.Model.Daemon (small-step machine; every
  event list = one interleaving), invariants in Relic.Proofs.Daemon.  Tie: DAEMON sh ops (harness/daemon) against the REAL
  daemon.New / Serve / Close on 127.0.0.1:0 listeners with requests held inside a fake token.
-/
import Relic.Proofs.Daemon
namespace Relic.Props.C14
open Relic.Daemon

/-- FULL statement: in every interleaving whatsoever, every delivered response was computed with open tokens. -/
def shutdown_lets_inflight_finish_full : Prop :=
  ∀ (n : Nat) (evs : List Ev), ∀ p ∈ (run (init n) evs).responses, p.2 = Resp.good

/-- For EVERY interleaving in which no Shutdown context expires (the 5-minute
    bound of Daemon.Close): every delivered response was computed with open tokens, no request in flight has met a closed
    token, no token operation ever ran on a closed token, and whenever the tokens are closed nothing is in flight – i.e. the
    tokens are closed only after Shutdown returned, and Shutdown returns only when the last handler has answered. -/
theorem shutdown_lets_inflight_finish_partial (n : Nat) (evs : List Ev) (h : NoExpire evs) :
    (∀ p ∈ (run (init n) evs).responses, p.2 = Resp.good) ∧
    (∀ r ∈ (run (init n) evs).inflight, r.st ≠ RSt.tokClosed) ∧
    (run (init n) evs).tokenUseAfterClose = false ∧
    ((run (init n) evs).tokensOpen = false → (run (init n) evs).inflight = []) := by
  have i := inv_run evs (init n) h (inv_init n)
  exact ⟨i.good, i.noClosedUse, i.noUac, fun ht => i.drained (i.tok ht)⟩

example : NoExpire [Ev.serve, .lstart 0, .accept 0 1, .close, .token 1, .respond 1, .shutdownRet 0] := by
  intro c; simp

/-- the history of the example really exercises the claim: one request accepted before Close, answered after it -/
example : (run (init 1) [Ev.serve, .lstart 0, .accept 0 1, .close, .shutdownRet 0, .token 1, .respond 1, .shutdownRet 0, .chk 0,
    .closeCh 0, .nilCh 0, .closeTokens 0, .serveRet]).responses = [(1, Resp.good)] := by decide +kernel

/-- (refutes the FULL statement; stated gap, by design of the 5-minute
    bound): when the Shutdown context expires while a handler is still running, `Close` goes on to `server.Close()`, the
    tokens are closed under the running request, and that request is answered with an error. -/
theorem shutdown_timeout_closes_tokens_under_request : ¬ shutdown_lets_inflight_finish_full := by
  intro h
  have := h 1 [Ev.serve, .lstart 0, .accept 0 1, .close, .expire 0, .shutdownRet 0, .chk 0, .closeCh 0, .nilCh 0, .closeTokens 0,
    .token 1, .respond 1] (1, Resp.tokenClosed) (by decide)
  exact absurd this (by decide)

/-- … and Serve then returns `context deadline exceeded` while the request is still in flight (the process exits) -/
theorem shutdown_timeout_serve_returns_with_request_in_flight :
    let s := run (init 1) [Ev.serve, .lstart 0, .accept 0 1, .close, .expire 0, .shutdownRet 0, .chk 0, .closeCh 0, .nilCh 0,
      .closeTokens 0, .serveRet]
    s.serveRet = some (some "deadline") ∧ s.inflight.length = 1 ∧ s.tokensOpen = false := by decide +kernel

/-- Once Shutdown has begun (any Close() was called) no interleaving accepts another request. -/
theorem no_accept_after_shutdown (n : Nat) (before after : List Ev) (h : (run (init n) before).inShutdown = true) :
    (run (init n) (before ++ after)).accepted = (run (init n) before).accepted := by
  rw [run_append]
  exact (run_shutdown after _ h).2

example : (run (init 1) [Ev.serve, .lstart 0, .accept 0 1, .close]).inShutdown = true := by decide +kernel
example : (run (init 1) ([Ev.serve, .lstart 0, .accept 0 1, .close] ++ [.accept 0 2, .lstart 0, .accept 0 3])).accepted = [1] := by decide +kernel

/-- Close is what starts the shutdown, whatever happened before -/
theorem close_begins_shutdown (s : St) : (step s .close).inShutdown = true ∧ ∀ l ∈ (step s .close).lis, l ≠ LSt.serving := by
  refine ⟨rfl, ?_⟩
  intro l hl
  simp only [step, List.mem_map] at hl
  obtain ⟨x, _, rfl⟩ := hl
  split <;> simp_all

/-- A Shutdown whose context has not expired does not return while a request is in flight. -/
theorem shutdown_waits_for_inflight (s : St) (c : Nat) (hc : s.closers[c]? = some (.waiting false)) (hi : s.inflight ≠ []) :
    step s (.shutdownRet c) = s := by
  simp only [step, hc]
  have : s.inflight.isEmpty = false := by cases h : s.inflight <;> simp_all
  simp [this]

/-- (sequential): a second Close() after the first one has completed runs Shutdown again (a no-op),
    skips the `close(s.closeCh)` (the field is nil), closes the already closed tokens once more, and returns; Serve has
    returned nil; nothing crashes. -/
theorem close_twice_safe :
    let s := run (init 2) ([Ev.serve, .lstart 0, .lstart 1, .close] ++ closerSteps 0 ++ [.serveRet, .close] ++ closerSteps 1)
    s.crashed = none ∧ s.closedCh = true ∧ s.tokenCloses = 2 ∧ s.serveRet = some none ∧ s.closers = [.returned false, .returned false] := by
  decide +kernel

/-- Close before Serve: the listeners are not tracked yet, Shutdown returns at once, the server is closed; a later Serve
    finds the http.Server shut down: every listener goroutine returns ErrServerClosed ↦ nil and Serve returns nil. -/
theorem close_before_serve :
    let s := run (init 2) ([Ev.close] ++ closerSteps 0 ++ [.serve, .lstart 0, .lstart 1, .accept 0 1, .serveRet])
    s.serveRet = some none ∧ s.accepted = [] ∧ s.tokensOpen = false ∧ s.lis = [.closed, .closed] := by decide +kernel

/-- (latent; `relic serve` calls Close once, from watchSignals): `server.Close` tests and
    closes `s.closeCh` without a lock, and `Daemon.Close` runs it in one errgroup goroutine per call: two overlapping Close()
    calls can both see the channel non-nil, and the second `close` panics in a goroutine nobody recovers. -/
theorem concurrent_close_can_crash :
    (run (init 1) [Ev.serve, .lstart 0, .close, .close, .shutdownRet 0, .shutdownRet 1, .chk 0, .chk 1, .closeCh 0, .closeCh 1]).crashed
      = some "close of closed channel" := by decide +kernel

/-- the only step that crashes the process: `close(s.closeCh)` by a closer that found the channel non-nil, on a channel that is
    already closed (so some other closer closed it in between: a single Close() call cannot crash) -/
theorem crash_needs_channel_closed_before (s : St) (e : Ev) (h : s.crashed = none) (h2 : (step s e).crashed ≠ none) :
    s.closedCh = true ∧ ∃ c x, e = .closeCh c ∧ s.closers[c]? = some (.checked true x) := by
  revert h2
  fun_cases step s e
  -- the one leaf that sets `crashed`: `close(s.closeCh)` on a channel found non-nil and already closed
  case case23 c x hc hcc => exact fun _ => ⟨hcc, c, x, rfl, hc⟩
  case case12 => exact fun h2 => absurd h (by simpa using h2)
  case case29 => exact fun h2 => absurd h (by simpa +zetaDelta using h2)
  all_goals exact fun h2 => absurd h h2

/-- `errgroup.Group{}` (zero value, no context) only records the first error:
    `eg.Wait()` in Serve returns when ALL goroutines have returned.  A listener whose Accept fails permanently therefore
    ends silently; Serve keeps blocking and the other listener keeps accepting. -/
theorem listener_error_does_not_end_serve :
    let s := run (init 2) [Ev.serve, .lstart 0, .lstart 1, .lfail 0, .serveRet, .accept 1 7, .accept 0 8, .serveRet]
    s.serveRet = none ∧ s.accepted = [7] ∧ s.firstErr = some "accept" ∧ s.lis = [.failed, .serving] := by decide +kernel

/-- Serve returns only when every listener goroutine and every Close goroutine has returned -/
theorem serve_returns_only_when_all_done (s : St) (h : s.serveRet = none) (h2 : (step s .serveRet).serveRet ≠ none) : allDone s = true := by
  simp only [step] at h2
  split at h2
  · rename_i hg; exact hg.2.2
  · exact absurd h h2

/-- the recorded error surfaces when Close ends Serve -/
theorem first_listener_error_returned_after_close :
    let s := run (init 2) ([Ev.serve, .lstart 0, .lstart 1, .lfail 0, .close] ++ closerSteps 0 ++ [.serveRet])
    s.serveRet = some (some "accept") ∧ s.tokensOpen = false := by decide +kernel

/-- net/http's WriteTimeout is a deadline on the connection, set when the request
    header has been read; the handler is not interrupted.  When it passes while the token is signing (and the signer does
    not hand the request context to the token, or the token ignores it): the signature IS made and the audit record IS
    written, then the write of the response fails – the client has nothing, the record exists. -/
theorem write_timeout_bounds_response :
    signEffects false true false = [.tokenSign, .auditWritten] ∧
    signEffects true true false = [] ∧
    signEffects false false false = [.tokenSign, .auditWritten, .responseDelivered] := by decide +kernel

end Relic.Props.C14
