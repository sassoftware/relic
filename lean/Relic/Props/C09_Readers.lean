/-
  C09 (first half) — split independence of every streaming digester: what the server digests does not depend on how
  the upload is cut into reads.

  Theorems about the reader calculus Relic.Model.Reader (streams = chunk lists incl. empty reads, ending in io.EOF or an
  error, possibly delivered with the last data; Go's io.ReadFull / io.Copy / io.CopyN / io.ReadAll / bufio.Reader
  transcribed as the loops over `Read` that they are) and about the digester programs of Relic.Model.ReaderProgs
  (`digestPE` incl. the page-hash path, `digestCab`, `digestPS`; `raProg`, the tar layer with `digestXapTar` /
  `digestMsiTar` / `readZipTar`; `hashPages`; `digestDeb`).
  Then the refinement: for PE, CAB and PowerShell the program on any delivery computes what the whole-buffer model
  (Relic.Model.PE / Cab / PS) says (`*_reader_refines_model`).
  The tie to /repo: (1) the call inventory of the Go digesters is re-extracted on every run
  (Relic.Generated.Readers) and must equal the table the programs were written from (`readers_generated_ok`);
  (2) differential execution of the programs and the real digesters on scripted readers (ops `RD run`).
-/
import Relic.Proofs.ReaderProgs
import Relic.Proofs.ReaderPE
import Relic.Proofs.ReaderCab
import Relic.Proofs.ReaderPS
import Relic.Model.ReaderCalls
import Relic.Generated.Readers
namespace Relic.Props.C09
open Relic.Rd

/-- A program without a raw `Read` computes on any stream what it computes on the whole buffer:
    same result (value, error, panic), same bytes to every sink in the same order, same logical remainder.
    Side conditions, each needed (witnesses below): programs that use a `bufio.Reader` need a stream that never answers
    100 consecutive reads with `0, nil`; programs that probe for end of input with a one-byte `Read` need a stream
    without empty reads whose terminal error is not delivered together with data. -/
theorem run_eq_whole {α : Type} (p : Prog α) (hp : p.rawFree) (s : Stream)
    (hb : p.bufFree ∨ s.NoStall) (hq : p.probeFree ∨ s.Plain) :
    (run p (M.raw s)).1 = (runFlat p (Flat.raw s.data s.term)).1 ∧
    (run p (M.raw s)).2.1 = (runFlat p (Flat.raw s.data s.term)).2.1 ∧
    (run p (M.raw s)).2.2.abs = (runFlat p (Flat.raw s.data s.term)).2.2 := by
  have h := run_flat p hp (M.raw s) trivial (by
    rcases hb with h | h
    · exact Or.inr ⟨h, rfl⟩
    · exact Or.inl h) hq
  have e : (M.raw s).abs = Flat.raw s.data s.term := by simp [M.raw, M.abs, Flat.raw]
  rw [e] at h
  exact ⟨h.1, h.2.1, h.2.2.abs⟩

/-- Two streams with the same concatenation and the same terminal condition — however
    they are cut into reads, with or without empty reads, with the terminal error on its own or together with the last
    bytes — give the same result, the same sink contents and leave the same logical remainder, for every program
    built from `ReadFull`, `Copy`/`CopyN`/`ReadAll`/`Discard`, `bufio` (`Peek`, `ReadByte`, `ReadString`, `WriteTo`),
    the one-byte probe, sink writes and arbitrary pure computation. -/
theorem run_split_independent {α : Type} (p : Prog α) (hp : p.rawFree) (s s' : Stream)
    (hd : s.data = s'.data) (ht : s.term = s'.term)
    (hb : p.bufFree ∨ (s.NoStall ∧ s'.NoStall)) (hq : p.probeFree ∨ (s.Plain ∧ s'.Plain)) :
    (run p (M.raw s)).1 = (run p (M.raw s')).1 ∧
    (run p (M.raw s)).2.1 = (run p (M.raw s')).2.1 ∧
    (run p (M.raw s)).2.2.abs = (run p (M.raw s')).2.2.abs := by
  have h1 := run_eq_whole p hp s (hb.imp id (·.1)) (hq.imp id (·.1))
  have h2 := run_eq_whole p hp s' (hb.imp id (·.2)) (hq.imp id (·.2))
  rw [hd, ht] at h1
  exact ⟨h1.1.trans h2.1.symm, h1.2.1.trans h2.2.1.symm, h1.2.2.trans h2.2.2.symm⟩

-- non-vacuity: a program with all raw-free primitives of `io`, on two different deliveries (one with empty reads and
-- the error delivered with the last byte)
example :
    let p : Prog (Bytes × Nat) :=
      .readFull 3 fun r => .copy (some 2) schedCopy fun b _ => .emit 1 b <| .copy none schedReadAll fun c _ =>
        .ret ((match r with | .ok x => x | .short x _ => x), c.length)
    run p (M.raw ⟨[[1], [], [2, 3, 4], [5, 6], [], [7]], .eof, true⟩) =
      ((.ok ([1, 2, 3], 2)), [(1, [4, 5])], ⟨⟨[], .eof, true⟩, none⟩) ∧
    run p (M.raw ⟨[[1, 2, 3, 4, 5, 6, 7]], .eof, false⟩) =
      ((.ok ([1, 2, 3], 2)), [(1, [4, 5])], ⟨⟨[], .eof, false⟩, none⟩) := by
  decide +kernel

/-- the program of the counter-example: `n, _ := r.Read(make([]byte, 2)); return n` -/
def rawLen : Prog Nat := .rawRead 2 fun b _ => .ret b.length

/-- A primitive that exposes the length of a single `Read` is not split
    independent: the same two bytes delivered as `[1],[2]` and as `[1,2]`. -/
theorem raw_read_not_split_independent :
    ∃ (p : Prog Nat) (s s' : Stream), s.data = s'.data ∧ s.term = s'.term ∧ s.Plain ∧ s'.Plain ∧
      (run p (M.raw s)).1 ≠ (run p (M.raw s')).1 :=
  ⟨rawLen, ⟨[[1], [2]], .eof, false⟩, ⟨[[1, 2]], .eof, false⟩, rfl, rfl, by decide +kernel, by decide +kernel, by decide⟩

/-- `_, err := r.Read(make([]byte, 1)); return err == nil` — "is anything left?" -/
def probeLeft : Prog Bool := .probe fun e => .ret e.isNone

/-- The one-byte probe is not split independent outside `Plain` streams, in both
    directions: (a) nothing is left but an empty read is pending: the probe says "something left";
    (b) one byte is left and arrives together with io.EOF: the probe says "nothing left". -/
theorem probe_not_split_independent :
    (run probeLeft (M.raw ⟨[[]], .eof, false⟩)).1 = .ok true ∧ (runFlat probeLeft (Flat.raw [] .eof)).1 = .ok false ∧
    (run probeLeft (M.raw ⟨[[0x55]], .eof, true⟩)).1 = .ok false ∧ (runFlat probeLeft (Flat.raw [0x55] .eof)).1 = .ok true := by
  decide

/-- `br := bufio.NewReader(r); _, err := br.Peek(1)` -/
def peekOne : Prog (Option BErr) := .wrapBufio 4096 <| .peek 1 fun _ e => .ret e

/-- `bufio.Reader` gives up after 100 consecutive empty reads
    (io.ErrNoProgress): with 99 of them in front of a byte `Peek(1)` succeeds, with 100 it fails. -/
theorem bufio_stall_not_split_independent :
    (run peekOne (M.raw ⟨List.replicate 99 [] ++ [[7]], .eof, false⟩)).1 = .ok none ∧
    (run peekOne (M.raw ⟨List.replicate 100 [] ++ [[7]], .eof, false⟩)).1 = .ok (some .noProgress) := by
  decide +kernel

theorem free_split_independent {α : Type} (p : Prog α) (hf : p.Free true true true) (s s' : Stream)
    (hd : s.data = s'.data) (ht : s.term = s'.term) :
    (run p (M.raw s)).1 = (run p (M.raw s')).1 ∧ (run p (M.raw s)).2.1 = (run p (M.raw s')).2.1 := by
  have h := run_split_independent p hf.rawFree s s' hd ht (Or.inl hf.bufFree) (Or.inl hf.probeFree)
  exact ⟨h.1, h.2.1⟩

theorem free_eq_whole {α : Type} (p : Prog α) (hf : p.Free true true true) (s : Stream) :
    (run p (M.raw s)).1 = (runFlat p (Flat.raw s.data s.term)).1 ∧
    (run p (M.raw s)).2.1 = (runFlat p (Flat.raw s.data s.term)).2.1 := by
  have h := run_eq_whole p hf.rawFree s (Or.inl hf.bufFree) (Or.inl hf.probeFree)
  exact ⟨h.1, h.2.1⟩

/-- `authenticode.DigestPE` — headers, gap, sections (with `io.CopyN`, or page by
    page with `io.ReadFull` when page hashes are asked for), trailer — returns the same sizes, markers and page-hash
    table inputs and feeds the same bytes to the image hash for every two deliveries of the same bytes with the same
    end (EOF or error).  No side condition. -/
theorem pe_reader_split_independent (pg : Bool) (s s' : Stream) (hd : s.data = s'.data) (ht : s.term = s'.term) :
    (run (digestPE pg) (M.raw s)).1 = (run (digestPE pg) (M.raw s')).1 ∧
    sinkBytes (run (digestPE pg) (M.raw s)).2.1 hashSink = sinkBytes (run (digestPE pg) (M.raw s')).2.1 hashSink := by
  have h := free_split_independent _ (digestPE_free pg) s s' hd ht
  exact ⟨h.1, by rw [h.2]⟩

theorem pe_reader_eq_whole (pg : Bool) (s : Stream) :
    (run (digestPE pg) (M.raw s)).1 = (runFlat (digestPE pg) (Flat.raw s.data s.term)).1 ∧
    (run (digestPE pg) (M.raw s)).2.1 = (runFlat (digestPE pg) (Flat.raw s.data s.term)).2.1 :=
  free_eq_whole _ (digestPE_free pg) s

/-- `authenticode.DigestPowershell` (one `bufio.Reader`: `Peek(2)`, `ReadString`,
    pairs of `ReadByte`, `io.Copy(io.Discard, br)`) returns the same sizes and feeds the same bytes to the hash for every
    two deliveries of the same bytes, provided neither stalls for 100 consecutive reads. -/
theorem ps_reader_split_independent (style fuel : Nat) (s s' : Stream) (hd : s.data = s'.data) (ht : s.term = s'.term)
    (hs : s.NoStall) (hs' : s'.NoStall) :
    (run (digestPS style fuel) (M.raw s)).1 = (run (digestPS style fuel) (M.raw s')).1 ∧
    sinkBytes (run (digestPS style fuel) (M.raw s)).2.1 hashSink =
      sinkBytes (run (digestPS style fuel) (M.raw s')).2.1 hashSink := by
  have h := run_split_independent (digestPS style fuel) (digestPS_free style fuel).rawFree s s' hd ht
    (Or.inr ⟨hs, hs'⟩) (Or.inl (digestPS_free style fuel).probeFree)
  exact ⟨h.1, by rw [h.2.1]⟩

theorem ps_reader_eq_whole (style fuel : Nat) (s : Stream) (hs : s.NoStall) :
    (run (digestPS style fuel) (M.raw s)).1 = (runFlat (digestPS style fuel) (Flat.raw s.data s.term)).1 ∧
    (run (digestPS style fuel) (M.raw s)).2.1 = (runFlat (digestPS style fuel) (Flat.raw s.data s.term)).2.1 := by
  have h := run_eq_whole (digestPS style fuel) (digestPS_free style fuel).rawFree s
    (Or.inr hs) (Or.inl (digestPS_free style fuel).probeFree)
  exact ⟨h.1, h.2.1⟩

/-- `cabfile.Digest` (after fix F-rd-cab-tail: the rest of the input is drained with
    `io.Copy(io.Discard, r)` and the byte count decides about trailing garbage) returns the same result, hashes the same
    bytes and builds the same `Patched` header for every two deliveries of the same bytes with the same end.  No side
    condition. -/
theorem cab_reader_split_independent (s s' : Stream) (hd : s.data = s'.data) (ht : s.term = s'.term) :
    (run digestCab (M.raw s)).1 = (run digestCab (M.raw s')).1 ∧
    (run digestCab (M.raw s)).2.1 = (run digestCab (M.raw s')).2.1 :=
  free_split_independent _ digestCab_free s s' hd ht

theorem cab_reader_eq_whole (s : Stream) :
    (run digestCab (M.raw s)).1 = (runFlat digestCab (Flat.raw s.data s.term)).1 ∧
    (run digestCab (M.raw s)).2.1 = (runFlat digestCab (Flat.raw s.data s.term)).2.1 :=
  free_eq_whole _ digestCab_free s

/-- a minimal cabinet: 36-byte header (no folders, no files, no flags, TotalSize = OffsetFiles = 36) -/
def tinyCab : Bytes :=
  [0x4d, 0x53, 0x43, 0x46, 0, 0, 0, 0, 36, 0, 0, 0, 0, 0, 0, 0, 36, 0, 0, 0, 0, 0, 0, 0, 3, 1, 0, 0, 0, 0, 0, 0, 0, 0, 0, 0]

-- the two deliveries that fooled the original code
example : (run digestCab (M.raw ⟨[tinyCab ++ [0x55]], .eof, true⟩)).1 = .err "trailing" ∧
    (run digestCab (M.raw ⟨[tinyCab, []], .eof, false⟩)).1.isOk = true := by decide +kernel

/-- the statement, for the original code -/
def cab_orig_reader_split_independent_full : Prop :=
  ∀ (s s' : Stream), s.data = s'.data → s.term = s'.term →
    (run digestCabOrig (M.raw s)).1 = (run digestCabOrig (M.raw s')).1

/-- the original code was split independent over `Plain` streams only (no empty reads; the terminal error not delivered
    with data): its last act was a one-byte `r.Read` whose error alone decided between "trailing garbage" and success -/
theorem cab_orig_reader_split_independent_partial (s s' : Stream) (hd : s.data = s'.data) (ht : s.term = s'.term)
    (hp : s.Plain) (hp' : s'.Plain) :
    (run digestCabOrig (M.raw s)).1 = (run digestCabOrig (M.raw s')).1 ∧
    (run digestCabOrig (M.raw s)).2.1 = (run digestCabOrig (M.raw s')).2.1 := by
  have h := run_split_independent digestCabOrig digestCabOrig_free.rawFree s s' hd ht
    (Or.inl digestCabOrig_free.bufFree) (Or.inr ⟨hp, hp'⟩)
  exact ⟨h.1, h.2.1⟩

/-- Finding F-rd-cab-tail (repaired): the original `cabfile.Digest` depended on the delivery:
    (a) a cabinet followed by one byte of garbage was refused when read from a file, and accepted — the garbage
        ignored — when the reader returned io.EOF together with that byte (as net/http request bodies do);
    (b) a well-formed cabinet was refused ("trailing garbage") when the reader answered the final probe with `0, nil`. -/
theorem cab_reader_split_dependent :
    (run digestCabOrig (M.raw ⟨[tinyCab ++ [0x55]], .eof, false⟩)).1 = .err "trailing" ∧
    (run digestCabOrig (M.raw ⟨[tinyCab ++ [0x55]], .eof, true⟩)).1.isOk = true ∧
    (run digestCabOrig (M.raw ⟨[tinyCab], .eof, false⟩)).1.isOk = true ∧
    (run digestCabOrig (M.raw ⟨[tinyCab, []], .eof, false⟩)).1 = .err "trailing" := by
  decide +kernel

theorem cab_orig_reader_split_independent_full_false : ¬ cab_orig_reader_split_independent_full := by
  intro h
  have := h ⟨[tinyCab ++ [0x55]], .eof, false⟩ ⟨[tinyCab ++ [0x55]], .eof, true⟩ rfl rfl
  have c := cab_reader_split_dependent
  rw [c.1] at this
  have c2 := c.2.1
  rw [← this] at c2
  simp [Res.isOk] at c2

/-- `zipslicer.streamReaderAt` (`io.CopyN` to Discard + `io.ReadFull`) makes every
    consumer of a streamed ZIP split independent: whatever sequence of `ReadAt(len, off)` requests a client issues as a
    function of the answers it got (SectionReader, TeeReader, flate's own buffering, CRC and descriptor checks, the JAR
    manifest and AppX block-map logic are such clients), its result is the same for all deliveries of the same bytes. -/
theorem readAt_client_split_independent {α : Type} (c : RAClient α) (pos : Nat) (s s' : Stream)
    (hd : s.data = s'.data) (ht : s.term = s'.term) :
    (run (raProg c pos) (M.raw s)).1 = (run (raProg c pos) (M.raw s')).1 :=
  (free_split_independent _ (raProg_free c pos) s s' hd ht).1

-- a client that reads a 2-byte length at offset 1 and then that many bytes right behind it
example :
    let c : RAClient Bytes := .readAt 2 1 fun a => match a with
      | .ok b => .readAt (b.headD 0).toNat 3 fun a2 => match a2 with | .ok d => .done d | _ => .fail "short"
      | _ => .fail "short"
    (run (raProg c 0) (M.raw ⟨[[9, 2], [], [0, 7], [8, 9]], .eof, true⟩)).1 = .ok [7, 8] ∧
    (run (raProg c 0) (M.raw ⟨[[9, 2, 0, 7, 8, 9]], .eof, false⟩)).1 = .ok [7, 8] := by decide +kernel

/-- JAR, APK, AppX, VSIX (every digester that goes through `zipslicer.ReadZipTar`): the whole path from the upload stream to the ZIP reader — `archive/tar` framing (`tr.Next`, `ioutil.ReadAll(tr)` of
    `zipdir.bin`, the member reader of `contents.zip`), `zipTarReader.Read` with its `tr.Next()` check on the member's io.EOF,
    and `streamReaderAt.ReadAt` (`io.CopyN` to Discard + `io.ReadFull`, `pos` not advanced by a failed skip) — is split
    independent for EVERY consumer `mk cd size` of the resulting `io.ReaderAt`: whatever `ReadAt(len, off)` calls the consumer
    issues as a function of the directory blob, the size and the answers so far (SectionReader, TeeReader, flate with its own
    bufio, CRC / descriptor checks, `signjar`'s manifest logic, `signappx`'s block map, `apk`'s merkle hasher are such
    consumers), its result and everything it wrote to its sinks are the same for all deliveries of the same bytes.
    Tar layer: plain headers (as `ZipToTar` writes them), see `tarParse`.
    Scope of the tie: for uploads that fail with a transport error the program is tied to the code up to and including the
    first answer that carries that error (real consumers stop there): afterwards the Go code reports io.EOF or the transport
    error again depending on whether the error came together with the member's last byte (`zipTarReader` keeps `tr` when
    `tr.Read` returns a non-EOF error), which no program of the calculus can see. -/
theorem jar_reader_split_independent {α : Type} (mk : Bytes → Nat → ZClient α) (s s' : Stream)
    (hd : s.data = s'.data) (ht : s.term = s'.term) :
    (run (readZipTar mk) (M.raw s)).1 = (run (readZipTar mk) (M.raw s')).1 ∧
    (run (readZipTar mk) (M.raw s)).2.1 = (run (readZipTar mk) (M.raw s')).2.1 :=
  free_split_independent _ (readZipTar_free mk) s s' hd ht

theorem jar_reader_eq_whole {α : Type} (mk : Bytes → Nat → ZClient α) (s : Stream) :
    (run (readZipTar mk) (M.raw s)).1 = (runFlat (readZipTar mk) (Flat.raw s.data s.term)).1 :=
  (free_eq_whole _ (readZipTar_free mk) s).1

/-! What stays open for JAR/APK/AppX/VSIX (`jar_reader_refines_model_full`, no Lean statement): naming the concrete consumer — i.e.
    compress/flate, the CRC check and `updateManifest` as one `ZClient` — and its refinement to `Relic.Model.Jar` / `Appx` / `ApkSign`,
    which start from the parsed ZIP.  PAX/GNU tar records are outside `tarParse`. -/

/-- `signxap.DigestXapTar` over `archive/tar` restricted to plain headers
    (`tarNext`: CopyN-discard, tryReadFull of the padding, ReadFull of the 512-byte block(s); `tarCopy`: the limited
    pass-through reads of `regFileReader`): same patch offsets and same bytes hashed for all deliveries; `removeSig` is any
    function (the model's `Relic.Xap.removeSignature` in the tie). -/
theorem xap_reader_split_independent_partial (removeSig : Bytes → Bytes) (fuel : Nat) (s s' : Stream)
    (hd : s.data = s'.data) (ht : s.term = s'.term) :
    (run (digestXapTar removeSig fuel) (M.raw s)).1 = (run (digestXapTar removeSig fuel) (M.raw s')).1 ∧
    (run (digestXapTar removeSig fuel) (M.raw s)).2.1 = (run (digestXapTar removeSig fuel) (M.raw s')).2.1 :=
  free_split_independent _ (xapLoop_free _ _ _ _) s s' hd ht

/-- `authenticode.DigestMsiTar` (plain and extended) over the same tar layer:
    the sequence of writes to the hash, including the pre-hashed metadata blob, is the same for all deliveries. -/
theorem msi_reader_split_independent_partial (extended : Bool) (fuel : Nat) (s s' : Stream)
    (hd : s.data = s'.data) (ht : s.term = s'.term) :
    (run (digestMsiTar extended fuel) (M.raw s)).1 = (run (digestMsiTar extended fuel) (M.raw s')).1 ∧
    (run (digestMsiTar extended fuel) (M.raw s)).2.1 = (run (digestMsiTar extended fuel) (M.raw s')).2.1 :=
  free_split_independent _ (msiLoop_free _ _ _ _ _) s s' hd ht

/-! `xap_reader_split_independent_full` / `msi_reader_split_independent_full` — for every tar stream `archive/tar` accepts (PAX
    and GNU extension records, sparse members, base-256 sizes, header checksums) — have no Lean statement: `tarParse` reads plain
    headers only and trusts the block; also open is the refinement to the member-list models `Relic.Xap.digestTar` /
    `Relic.MsiDigest.digestMsiTar`, which start after archive/tar has parsed. -/

/-- `csblob.hashPages` (the code-directory slots of Mach-O and DMG signing:
    4096-byte pages read with `io.ReadFull`, the short last page hashed as it is): same pages and code limit for all
    deliveries, whatever the page size and fuel. -/
theorem macho_pages_reader_split_independent (pageSize fuel : Nat) (s s' : Stream)
    (hd : s.data = s'.data) (ht : s.term = s'.term) :
    (run (hashPages pageSize fuel) (M.raw s)).1 = (run (hashPages pageSize fuel) (M.raw s')).1 :=
  (free_split_independent _ (hashPagesLoop_free _ _ _ _) s s' hd ht).1

example : (run (hashPages 4 5) (M.raw ⟨[[1, 2, 3], [4, 5], [], [6, 7, 8, 9, 10]], .eof, true⟩)).1 =
    .ok ([[1, 2, 3, 4], [5, 6, 7, 8], [9, 10]], 10) := by decide

/-! `macho_reader_split_independent_full` has no Lean statement: `machos.Sign` reads the header through `io.TeeReader` + `scanFile`
    (binary.Read / ReadFull), then hashes `io.LimitReader(io.MultiReader(header, code, padding))` with `hashPages`; the load-command
    scan and the MultiReader / LimitReader composition have no reader program (all their calls are primitives: readers_generated_ok). -/

/-- The member walk of `signdeb.Sign` over `blakesmith/ar` and `readercounter`
    (8-byte global header discarded, per member CopyN-discard + ReadFull(60), the member copied to md5/sha1 through ar's limited
    pass-through Read, `counter.N` for the patch offset): the per-member (name, size, content) lines, the patch offset and
    length are the same for all deliveries.  Partial: the control tarball is also fed to a gzip/xz/tar parser through an
    io.Pipe (for the audit record), which is not modelled. -/
theorem deb_reader_split_independent_partial (clean : Bytes → Bytes) (role : Bytes) (fuel : Nat) (s s' : Stream)
    (hd : s.data = s'.data) (ht : s.term = s'.term) :
    (run (digestDeb clean role fuel) (M.raw s)).1 = (run (digestDeb clean role fuel) (M.raw s')).1 :=
  (free_split_independent _ (digestDeb_free _ _ _) s s' hd ht).1

/-! `deb_reader_split_independent_full` (including the `PackageInfo` parsed from the control tarball) has no Lean statement. -/

/- Refinement.  `obs` = (result, bytes written to the hash, bytes written to `patched`).  The right-hand sides of the three
   theorems below are the existing models of C01/C02/C03/C05/C08 (Relic.Model.PE / Cab / PS), which are functions of the file:
   so what the server digests from the upload is what the verifier's run of the same digester computes from the patched
   file on disk. -/

theorem obs_congr {α σ τ : Type} (x : Res α × Log × σ) (y : Res α × Log × τ) (h1 : x.1 = y.1) (h2 : x.2.1 = y.2.1) :
    obs x = obs y := by
  obtain ⟨a, b, c⟩ := x
  obtain ⟨a', b', c'⟩ := y
  simp only at h1 h2
  subst h1; subst h2
  rfl

/-- For every delivery of a file (any cuts, empty reads, io.EOF with or after the last
    bytes), `DigestPE` as the Go source reads it computes exactly what the whole-buffer model `Relic.PE.DigestPE` says:
    the same outcome class, `OrigSize`, `CertStart`, markers, the same bytes fed to the image hash, and — with page
    hashes — the page-hash table inputs of `Relic.PE.pageHashInputs` (read page by page with io.ReadFull).
    `peObs` maps the two panics of the model of the original code to the errors the repaired code returns and puts the
    "headers larger than a page" refusal first, as the code does. -/
theorem pe_reader_refines_model (pg : Bool) (s : Stream) (ht : s.term = .eof) :
    obs (run (digestPE pg) (M.raw s)) = peObs pg s.data := by
  have h := pe_reader_eq_whole pg s
  rw [obs_congr _ _ h.1 h.2, ht]
  exact pe_flat pg s.data

/-- For every delivery of a file: result, hashed stream and `Patched` of `Relic.Cab.DigestCab`. -/
theorem cab_reader_refines_model (s : Stream) (ht : s.term = .eof) :
    obs (run digestCab (M.raw s)) = cabObs s.data := by
  have h := cab_reader_eq_whole s
  rw [obs_congr _ _ h.1 h.2, ht]
  exact cab_flat s.data

/-- For deliveries that never stall for 100 reads (any fuel above the length): text size,
    signature size, UTF-16 flag and hashed stream of `Relic.PS.DigestPS`. -/
theorem ps_reader_refines_model (style fuel : Nat) (s : Stream) (ht : s.term = .eof) (hs : s.NoStall)
    (hf : s.data.length + 1 < fuel) :
    obs (run (digestPS style fuel) (M.raw s)) = psObs s.data style := by
  have h := ps_reader_eq_whole style fuel s hs
  rw [obs_congr _ _ h.1 h.2, ht]
  exact ps_flat s.data style fuel hf

-- non-vacuity of the refinements: a delivery with empty reads and io.EOF delivered with the last byte
example : (⟨[[0x4d], [], [0x5a, 1, 2]], .eof, true⟩ : Stream).term = .eof ∧
    (⟨[[0x23, 0x20], [0x78, 13, 10]], .eof, false⟩ : Stream).Plain ∧
    (⟨[[0x23], [], [], [0x78]], .eof, true⟩ : Stream).NoStall := by decide

/-- Every call that the digester functions of the current /repo make on their reader, and on
    readers derived from it, is the call (callee and arguments as written) that the reader programs were written
    from.  Replacing an `io.ReadFull` by a `Read` loop, a `CopyN` by a hand-written copy, or adding a call, changes the
    regenerated list and breaks this theorem. -/
theorem readers_generated_ok :
    Relic.Generated.Readers.calls = Calls.asGenerated Calls.expected :=
  -- two closed terms: by `rfl` the kernel compares the string literals as literals, not character by character
  rfl

/-- every listed call is a primitive of the calculus (none exposes the size of a single `Read`) -/
theorem readers_all_in_calculus : Calls.allInCalculus Calls.expected = true := by decide

/-- no listed function probes with a one-byte `Read` any more (cabfile.Digest: fix F-rd-cab-tail; pgptools.readOneSignature:
    its probe now is an `io.ReadFull`) -/
theorem readers_probes : Calls.probes Calls.expected = [] := by decide

end Relic.Props.C09
