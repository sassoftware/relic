/-
  C02 — Any change to signed content or to the signature makes verification fail.   xar / flat package part.

  What `Verify` binds: the CMS (or classic RSA) signature is over `H(compressed TOC)`; the TOC names, for every member that
  `gatherDataFiles` reaches, offset, length and `<archived-checksum>`; `checkFile` compares that checksum with the heap bytes.
  `xar_tamper_evident`: two files that both verify and whose signatures are over the same TOC hash have — under
  collision-freeness of the hash functions on the streams in question — the same compressed TOC, hence the same decoded
  table of contents, and byte-identical data for every gathered member.
  Outside the protected set (each a theorem, each replayed on the real code by the `mutate` ops):
  * `xar_rsa_unchecked_with_cms` — the classic RSA signature bytes when a CMS signature is present (listed finding FXAR4);
  * `xar_children_of_data_file_unchecked` — members below a `<file>` that has data itself (FXAR5);
  * `xar_skip_digests_checks_no_member` — with `NoDigests` no heap byte is looked at;
  * header `UncompressedSize`, bytes between members, zero-length members, the CMS padding, the notary trailer behind the last
    member: no comparison of `verifyPlan` reads them (`xar_checked_streams`: the streams are the TOC region and the gathered
    member ranges, nothing else).
-/
import Relic.Proofs.XarSign
namespace Relic.Props.C02
open Relic.Xar

/-- what `checkFile` (verify side) establishes about one member -/
def XarCheckedAt (C : Crypto) (f : Bytes) (base : Int) (r : Ref) : Prop :=
  ∃ k exp, hkOfStyle r.style = some k ∧ unhex r.digest = some exp ∧
    (base + r.offset).toNat + r.length.toNat ≤ f.length ∧ C.H k (sl f (base + r.offset).toNat r.length.toNat) = exp

theorem xar_checkFileAt_ok (C : Crypto) (f : Bytes) (base : Int) (r : Ref) (h : (checkFileAt f base r).run C = .ok ()) :
    XarCheckedAt C f base r := by
  rw [run_ok_iff] at h
  obtain ⟨hc, hf⟩ := h
  unfold checkFileAt at hc hf
  cases hs : hkOfStyle r.style with
  | none => simp [hs, Plan.fail] at hf
  | some k =>
    simp only [hs] at hc hf
    cases hx : unhex r.digest with
    | none => simp [hx, Plan.fail] at hf
    | some exp =>
      simp only [hx] at hc hf
      split at hf
      · simp [Plan.fail] at hf
      · rename_i h1
        simp only [h1, ↓reduceIte] at hc
        split at hf
        · rename_i h2
          simp only [h2, ↓reduceIte] at hc
          refine ⟨k, exp, hs, hx, h2, ?_⟩
          have := hc _ List.mem_cons_self
          simpa [Check.holds] using this
        · simp [Plan.fail] at hf

theorem xar_checkAllAt_ok_imp (C : Crypto) (f : Bytes) (base : Int) : ∀ rs : List Ref,
    (checkAllAt f base rs).run C = .ok () → ∀ r ∈ rs, XarCheckedAt C f base r
  | [], _, r, hr => by simp at hr
  | x :: xs, h, r, hr => by
    simp only [checkAllAt] at h
    obtain ⟨_, h1, h2⟩ := (run_bind_ok_iff C _ _ _).mp h
    simp only [List.mem_cons] at hr
    rcases hr with rfl | hr
    · exact xar_checkFileAt_ok C f base _ h1
    · exact xar_checkAllAt_ok_imp C f base xs h2 r hr

/-- the members `Verify` hashes, in the order it hashes them -/
def xarGatheredRefs (o : Opened) : List Ref := sortRefs ((gather o.toc.files).map XFile.ref)

/-- what a successful `Open` tells about where its table of contents came from -/
theorem xar_open_ok (fx : Bool) (C : Crypto) (E : Env) (f : Bytes) (o : Opened) (h : (openPlanG fx E f).run C = .ok o) :
    ∃ hd root n, parseHeader f = .ok (hd, o.hk) ∧ tocRegion f = regionSR f hd.hsize hd.clen ∧
      E.decode (tocRegion f) = some (root, n) ∧ unmarshal E.num root = some o.toc ∧ C.H o.hk (tocRegion f) = o.tocHash := by
  rw [run_ok_iff] at h
  obtain ⟨hc, hf⟩ := h
  rcases openPlanG_cases fx E f with ⟨e, he⟩ | ⟨hd, k, root, n, toc, stored, hF, he⟩
  · rw [he] at hf; cases hf
  · rw [he] at hc hf
    obtain ⟨sg, x, tk, _, _, _, rfl⟩ := (openRest_ok_iff ..).mp hf
    have hreg : tocRegion f = regionSR f hd.hsize hd.clen := by
      simp only [tocRegion, (parseHeader_ok f hd k hF.hdr).1]
    refine ⟨hd, root, n, hF.hdr, hreg, by rw [hreg]; exact hF.dec, hF.um, ?_⟩
    rw [hreg]
    simpa [Check.holds] using hc _ List.mem_cons_self

/-- **xar_checked_streams.**  What a successful `Open` + `Verify` (digests on) has compared: the stored checksum with the hash
    of the compressed TOC region, the signature with that hash, and for every gathered member its `<archived-checksum>` with
    the hash of its heap range.  Nothing else is read from the heap. -/
theorem xar_checked_streams (C : Crypto) (E : Env) (f : Bytes) (v : Verified) (h : (verifyPlan E f false).run C = .ok v) :
    ∃ o, (openPlan E f).run C = .ok o ∧ v.hk = o.hk ∧ ∀ r ∈ xarGatheredRefs o, XarCheckedAt C f o.base r := by
  unfold verifyPlan at h
  obtain ⟨o, ho, hv⟩ := (run_bind_ok_iff C _ _ _).mp h
  unfold verifyOpened at hv
  simp only at hv
  obtain ⟨_, _, hv2⟩ := (run_bind_ok_iff C _ _ _).mp hv
  obtain ⟨_, hfiles, hv3⟩ := (run_bind_ok_iff C _ _ _).mp hv2
  refine ⟨o, ho, ?_, ?_⟩
  · rw [run_ok_iff] at hv3
    simp only [Plan.pure, Res.ok.injEq] at hv3
    rw [← hv3.2]
  · simp only [Bool.false_eq_true, ↓reduceIte] at hfiles
    exact xar_checkAllAt_ok_imp C f o.base _ hfiles

/-- the bytes of the gathered members -/
def xarMemberBytes (f : Bytes) (o : Opened) : List Bytes :=
  (xarGatheredRefs o).map fun r => sl f (o.base + r.offset).toNat r.length.toNat

/-- **xar_tamper_evident.**  Let `f` and `f'` both pass `Open` + `Verify` with digests, and let their
    signatures be over the same TOC hash (`H(tocRegion f) = H(tocRegion f')`: what a CMS or RSA signature that verifies for
    both pins down).  If `H` is collision-free then the compressed tables of contents are the same bytes, the decoded
    tables of contents (every name, offset, length, checksum, certificate) are the same, and every gathered member has the
    same bytes in both files. -/
theorem xar_tamper_evident (C : Crypto) (E : Env) (hcf : ∀ k a b, C.H k a = C.H k b → a = b)
    (f f' : Bytes) (v v' : Verified) (h : (verifyPlan E f false).run C = .ok v) (h' : (verifyPlan E f' false).run C = .ok v')
    (hsame : C.H v.hk (tocRegion f) = C.H v.hk (tocRegion f')) :
    tocRegion f = tocRegion f' ∧
    ∃ o o', (openPlan E f).run C = .ok o ∧ (openPlan E f').run C = .ok o' ∧ o.toc = o'.toc ∧ xarMemberBytes f o = xarMemberBytes f' o' := by
  have hreg := hcf _ _ _ hsame
  obtain ⟨o, ho, _, hm⟩ := xar_checked_streams C E f v h
  obtain ⟨o', ho', _, hm'⟩ := xar_checked_streams C E f' v' h'
  obtain ⟨hd, root, n, _, _, hz, hu, _⟩ := xar_open_ok true C E f o ho
  obtain ⟨hd', root', n', _, _, hz', hu', _⟩ := xar_open_ok true C E f' o' ho'
  rw [hreg, hz'] at hz
  simp only [Option.some.injEq, Prod.mk.injEq] at hz
  obtain ⟨rfl, rfl⟩ := hz
  rw [hu'] at hu
  simp only [Option.some.injEq] at hu
  refine ⟨hreg, o, o', ho, ho', hu.symm, ?_⟩
  unfold xarMemberBytes
  have hg : xarGatheredRefs o = xarGatheredRefs o' := by unfold xarGatheredRefs; rw [hu]
  rw [hg]
  apply List.map_congr_left
  intro r hr
  obtain ⟨k, exp, s1, s2, _, s4⟩ := hm r (by rw [hg]; exact hr)
  obtain ⟨k', exp', t1, t2, _, t4⟩ := hm' r hr
  rw [s1] at t1
  simp only [Option.some.injEq] at t1
  subst t1
  rw [s2] at t2
  simp only [Option.some.injEq] at t2
  subst t2
  exact hcf k _ _ (by rw [s4, t4])

/-- the structs `gatherDataFiles` reaches: non-zero length, at the top level or below structs of zero length, at any depth -/
inductive XarReached : List XFile → XFile → Prop
  | here (a : FileAcc) (ks rest : List XFile) (h : a.length ≠ 0) : XarReached (.mk a ks :: rest) (.mk a ks)
  | under (a : FileAcc) (ks rest : List XFile) (x : XFile) (h : a.length = 0) : XarReached ks x → XarReached (.mk a ks :: rest) x
  | next (y : XFile) (rest : List XFile) (x : XFile) : XarReached rest x → XarReached (y :: rest) x

theorem xar_reached_gather : ∀ (fs : List XFile) (x : XFile), XarReached fs x → x ∈ gather fs := by
  intro fs x h
  induction h with
  | here a ks rest h => simp [gather, h]
  | under a ks rest x h _ ih => simp [gather, h, ih]
  | next y rest x _ ih =>
    cases y with
    | mk a ks =>
      simp only [gather]
      split
      · exact List.mem_cons_of_mem _ ih
      · exact List.mem_append_right _ ih

/-- **xar_every_data_entry_checked.**  When `Open` + `Verify` (digests on) succeed, every entry of the table of contents whose
    struct has a non-zero data length and that is reached through entries of zero length — at any depth — has had its heap
    range hashed and compared with its `<archived-checksum>` (style sha1 / sha256 / sha512 required).  The struct is filled
    from the `<data>` element alone: the walk does not look at `<type>` (`xar_walk_ignores_type`), so this holds for files,
    the first of a set of hard links (`<type link="original">hardlink</type>`), and any type relic has never heard of. -/
theorem xar_every_data_entry_checked (C : Crypto) (E : Env) (f : Bytes) (v : Verified) (h : (verifyPlan E f false).run C = .ok v) :
    ∃ o, (openPlan E f).run C = .ok o ∧ ∀ x, XarReached o.toc.files x → XarCheckedAt C f o.base x.ref := by
  obtain ⟨o, ho, _, hm⟩ := xar_checked_streams C E f v h
  refine ⟨o, ho, fun x hx => hm x.ref ?_⟩
  unfold xarGatheredRefs
  rw [mem_sortRefs]
  exact List.mem_map_of_mem (xar_reached_gather _ x hx)

mutual
/-- the document with every `<type>` element replaced by `<type>s</type>` -/
def xarRetype (s : String) : Xml → Xml
  | .el n as ks => if n = "type" then .el "type" [] [.tx s] else .el n as (xarRetypeKids s ks)
  | .tx t => .tx t
def xarRetypeKids (s : String) : List Xml → List Xml
  | [] => []
  | k :: ks => xarRetype s k :: xarRetypeKids s ks
end

theorem xar_allText_retypeKids (s : String) : ∀ ks, allText (xarRetypeKids s ks) = allText ks
  | [] => rfl
  | .tx t :: ks => by simp [xarRetypeKids, xarRetype, allText, xar_allText_retypeKids s ks]
  | .el n as k :: ks => by
    simp only [xarRetypeKids, xarRetype]
    split <;> simp [allText, xar_allText_retypeKids s ks]

theorem xar_intOf_retypeKids (N : Num) (s : String) (ks : List Xml) : intOf N (xarRetypeKids s ks) = intOf N ks := by
  simp [intOf, xar_allText_retypeKids]

theorem xar_umData_retype (N : Num) (s : String) : ∀ (ks : List Xml) (a : FileAcc), umData N (xarRetypeKids s ks) a = umData N ks a := by
  intro ks a
  fun_induction umData N ks a
  case case1 => rfl
  case case2 ih => simp [xarRetypeKids, xarRetype, umData, xar_intOf_retypeKids, ih]
  case case3 ih => simp [xarRetypeKids, xarRetype, umData, xar_intOf_retypeKids, ih]
  case case4 ih => simp [xarRetypeKids, xarRetype, umData, xar_intOf_retypeKids, ih]
  case case5 ih => simp [xarRetypeKids, xarRetype, umData, xar_allText_retypeKids, ih]
  case case6 n _ _ _ _ h1 h2 h3 h4 ih =>
    -- an element `umData` skips, `<type>` or not
    by_cases ht : n = "type" <;> simp [xarRetypeKids, xarRetype, umData, ht, h1, h2, h3, h4, ih]
  case case7 ih => simpa [xarRetypeKids, xarRetype, umData] using ih

/-- **xar_walk_ignores_type.**  What `encoding/xml` + `gatherDataFiles` + `checkFile` work with does not depend on any `<type>`
    element: replace every `<type>` in the children of a `<file>` (at every depth) by any text and the same structs result. -/
theorem xar_walk_ignores_type (N : Num) (s : String) : ∀ (ks : List Xml) (a : FileAcc),
    umFileKids N (xarRetypeKids s ks) a = umFileKids N ks a := by
  intro ks
  induction ks using Xml.kids_induction with
  | nil => exact fun _ => rfl
  | tx t ks ih => exact fun a => by simpa [xarRetypeKids, xarRetype, umFileKids] using ih a
  | el n as k ks ihk ih =>
    intro a
    simp only [xarRetypeKids, xarRetype]
    by_cases ht : n = "type"
    · subst ht
      have e1 : ¬ "type" = "name" := by decide
      have e2 : ¬ "type" = "data" := by decide
      have e3 : ¬ "type" = "file" := by decide
      simp only [↓reduceIte, umFileKids, e1, e2, e3]
      exact ih a
    · simp only [ht, ↓reduceIte, umFileKids, xar_allText_retypeKids, xar_umData_retype, ihk, ih]

example : XarReached [.mk { length := 0 } [.mk { length := 14, hasData := true } []]] (.mk { length := 14, hasData := true } []) :=
  .under _ _ _ _ rfl (.here _ _ _ (by decide))

/-- **xar_rsa_unchecked_with_cms.**  When a CMS signature is present, `Verify` does not depend on the classic RSA signature
    bytes at all (`else if`): any change to them passes. -/
theorem xar_rsa_unchecked_with_cms (f reg : Bytes) (o : Opened) (blob : Bytes) (hc : o.cmsSig = some blob) (x : Option Bytes) (skip : Bool) :
    verifyOpened f reg { o with rsaSig := x } skip = verifyOpened f reg o skip := by
  unfold verifyOpened
  simp only [hc]

/-- **xar_children_of_data_file_unchecked.**  `gatherDataFiles` takes a file with a non-zero length and does NOT visit its
    children: whatever they are, the list of members `Verify` hashes is the same. -/
theorem xar_children_of_data_file_unchecked (a : FileAcc) (h : a.length ≠ 0) (ks ks' : List XFile) (rest : List XFile) :
    (gather (.mk a ks :: rest)).map XFile.ref = (gather (.mk a ks' :: rest)).map XFile.ref := by
  simp [gather, h, XFile.ref, XFile.acc]

/-- **xar_skip_digests_checks_no_member.**  With `NoDigests` the only comparisons are the TOC checksum and the signature. -/
theorem xar_skip_digests_checks_no_member (f reg : Bytes) (o : Opened) :
    (verifyOpened f reg o true).checks.length ≤ 1 := by
  unfold verifyOpened
  simp only [↓reduceIte]
  cases o.cmsSig with
  | some b => simp [Plan.bind, Plan.pure]
  | none =>
    cases o.rsaSig with
    | some s => simp [Plan.bind, Plan.pure]
    | none => simp [Plan.bind, Plan.fail]

/-- the full statement the code does not meet: every byte of a verified file is determined by the signed TOC hash -/
def xar_every_byte_protected_full : Prop :=
  ∀ (C : Crypto) (E : Env), (∀ k a b, C.H k a = C.H k b → a = b) →
  ∀ (f f' : Bytes) (v v' : Verified), (verifyPlan E f false).run C = .ok v → (verifyPlan E f' false).run C = .ok v' →
    C.H v.hk (tocRegion f) = C.H v.hk (tocRegion f') → f = f'

example : gather [.mk { length := 5, hasData := true } [.mk { length := 7, hasData := true } []]] =
    [.mk { length := 5, hasData := true } [.mk { length := 7, hasData := true } []]] := by
  simp [gather]

end Relic.Props.C02
