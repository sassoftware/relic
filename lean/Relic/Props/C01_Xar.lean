/-
  C01 — Every signature relic produces verifies.   xar / flat package part (model `Relic.Model.Xar`).

  `Sign` works on the table of contents through etree (`/xar/toc`, `//file/data`, `//data/offset`), `Open` / `Verify` read
  what it wrote through `encoding/xml` structs: two readers with different rules (first vs last child, `Text()` vs all
  character data, untrimmed vs trimmed numbers).  `xar_sign_then_verify` (current tree) shows that on regular documents they
  agree and that the verifier then finds the signature, compares the hash of exactly the TOC bytes the signer wrote, and
  finds every member's bytes at the shifted offset.  Since fix 5d6eee4 the signer enforces the layout and checksum
  conditions itself (`xar_sign_guards`; exactly when it succeeds: `xar_sign_ok_iff`; otherwise a clean error:
  `xar_sign_refusal_is_clean`, `xar_sign_refuses_bad_layouts`); the hypotheses of `xar_sign_then_verify` are: the decoded
  document is regular (`regularDoc`) and `encoding/xml` accepts it, the old signature area ends inside the file (`h1`), the
  blobs fit the reserved space and verify, and size bounds (file below 2^60, new TOC below 2^40 / 10^8 bytes).
  The tree before the fix: `xar_sign_then_verify_orig` needs them as hypotheses, and `xar_verify_needs_archived_checksum`
  (a member without `<archived-checksum>` was skipped by `Sign` but is refused by `Verify`: finding FXAR1) and C03
  `xar_front_member_lost` (members in front of the old signature area: FXAR3) show that they were needed.
-/
import Relic.Proofs.XarSign
namespace Relic.Props.C01
open Relic.Xar

/-- **xar_sign_guards.**  What a successful run of the current `Sign` (fix 5d6eee4) has established itself: sizes of the
    header sane and the TOC no larger than declared; the old checksum / signature / x-signature areas valid
    (`0 ≤ size ≤ 10^6`, `0 ≤ offset`, numbers readable) and lying back to back from heap offset 0 (`checkSigAreas`), their
    total being the `origSigSize` it works with; every `//file/data` of non-zero length begins behind that area and has an
    `<archived-checksum>`.  Contrapositive: an archive violating one of these is refused (classes toolarge / toc /
    sigfield / sigtile / ffront / fnosum). -/
theorem xar_sign_guards (C : Crypto) (E : Env) (f : Bytes) (hk : HK) (ki : KeyInfo) (so : SignOut)
    (h : (signPlan E f hk ki).run C = .ok so) :
    ∃ hd k0 t n p0 tks, parseHeader f = .ok (hd, k0) ∧ 0 ≤ hd.clen ∧ hd.clen ≤ 1000000 ∧ 0 ≤ hd.ulen ∧ hd.ulen ≤ 10000000 ∧
      E.decode (region f 28 hd.clen) = some (t, n) ∧ (n : Int) ≤ hd.ulen ∧
      prep E.num hk ki t = some p0 ∧ tocKids t = some tks ∧ checkSigAreas E.num tks = .ok so.origSig ∧ 0 ≤ so.origSig ∧
      (∀ d ∈ dRefs E.num none p0.doc1, d.length ≠ 0 → so.origSig ≤ d.offset ∧ d.sum ≠ none) ∧
      so = ⟨hk, adjust E.num true (w64 (p0.newSig - so.origSig)) false p0.doc1, so.origSig, p0.newSig,
            w64 (28 + hd.clen + so.origSig), ki.rsaSize⟩ ∧
      (checkAllStream (f.drop (28 + hd.clen.toNat)) 0 (sortRefs (eRefs E.num p0.doc1))).run C = .ok () := by
  obtain ⟨hd, k0, t, n, p, hp, h1, h2, hdec, hfx, hso, hstream⟩ := signPlanG_ok true C E f hk ki so h
  simp only [↓reduceIte] at hfx
  obtain ⟨hprep, g1, g2, g3, hfc⟩ := hfx
  obtain ⟨p0, tks, s, e1, e2, e3, rfl⟩ := prepFx_ok E.num hk ki t p hprep
  subst hso
  exact ⟨hd, k0, t, n, p0, tks, hp, g1, h1, g2, h2, hdec, g3, e1, e2, e3, checkSigAreas_nonneg E.num tks s e3,
    frontCheck_none s _ hfc, rfl, hstream⟩

/-- **xar_sign_ok_iff** (current tree).  `Sign` succeeds exactly when: the header parses, both TOC sizes lie in
    `[0, 10^6]` / `[0, 10^7]`, the region behind byte 28 inflates (to at most the declared size) and parses, there is a
    `/xar/toc`, the old signature elements are readable and tile the start of the heap (`prepFx`), no member with bytes
    begins in front of the end of that area or lacks an `<archived-checksum>` (`frontCheck`), and every summed member
    checks out on the forward-only heap.  In every other case it returns an error (`xar_sign_refusal_is_clean`). -/
theorem xar_sign_ok_iff (C : Crypto) (E : Env) (f : Bytes) (hk : HK) (ki : KeyInfo) (so : SignOut) :
    (signPlan E f hk ki).run C = .ok so ↔
    ∃ hd k0 t n p, parseHeader f = .ok (hd, k0) ∧ 0 ≤ hd.clen ∧ hd.clen ≤ 1000000 ∧ 0 ≤ hd.ulen ∧ hd.ulen ≤ 10000000 ∧
      E.decode (region f 28 hd.clen) = some (t, n) ∧ (n : Int) ≤ hd.ulen ∧ prepFx E.num hk ki t = .ok p ∧
      frontCheck p.origSig (dRefs E.num none p.doc1) = none ∧
      (checkAllStream (f.drop (28 + hd.clen.toNat)) 0 (sortRefs (eRefs E.num p.doc1))).run C = .ok () ∧
      so = ⟨hk, p.tree E.num true, p.origSig, p.newSig, w64 (28 + hd.clen + p.origSig), ki.rsaSize⟩ := by
  constructor
  · intro h
    obtain ⟨hd, k0, t, n, p, hp, h1, h2, hdec, hfx, hso, hstream⟩ := signPlanG_ok true C E f hk ki so h
    simp only [↓reduceIte] at hfx
    obtain ⟨hprep, g1, g2, g3, hfc⟩ := hfx
    exact ⟨hd, k0, t, n, p, hp, g1, h1, g2, h2, hdec, g3, hprep, hfc, hstream, hso⟩
  · rintro ⟨hd, k0, t, n, p, hp, g1, h1, g2, h2, hdec, g3, hprep, hfc, hstream, hso⟩
    unfold signPlan signPlanG
    have c1 : ¬ (hd.clen > 1000000 ∨ hd.ulen > 10000000) := by omega
    have c2 : ¬ (hd.clen < 0 ∨ hd.ulen < 0) := by omega
    have c3 : ¬ ((n : Int) > hd.ulen) := by omega
    simp only [hp, c1, c2, c3, hdec, hprep, hfc, ↓reduceIte, Bool.true_and, decide_false, Bool.false_eq_true]
    refine (run_bind_ok_iff C _ _ _).mpr ⟨(), hstream, ?_⟩
    rw [hso]
    rfl

/-- **xar_sign_refusal_is_clean.**  `Sign` ends in ok or in an error, never in a panic, on both trees; when it does not end in
    ok there is no `SignOut`, hence no patch (signers/xar returns the error before `SetBinPatch`): the input is not touched. -/
theorem xar_sign_refusal_is_clean (fx : Bool) (C : Crypto) (E : Env) (f : Bytes) (hk : HK) (ki : KeyInfo) :
    (∃ so, (signPlanG fx E f hk ki).run C = .ok so) ∨ ∃ e, (signPlanG fx E f hk ki).run C = .err e := by
  cases hr : (signPlanG fx E f hk ki).run C with
  | ok so => exact Or.inl ⟨so, rfl⟩
  | err e => exact Or.inr ⟨e, rfl⟩
  | panic s =>
    have := run_eq_crash C _ (.panic s) hr
    rcases signPlanG_final fx E f hk ki with ⟨so, h⟩ | ⟨e, h⟩ <;> rw [h] at this <;> cases this
  | diverge =>
    have := run_eq_crash C _ .diverge hr
    rcases signPlanG_final fx E f hk ki with ⟨so, h⟩ | ⟨e, h⟩ <;> rw [h] at this <;> cases this

/-- **xar_sign_then_verify** (current tree).  For every hash function `H` of the right output length, every hash kind the
    format has a number for, every key (certificate texts that parse, any chain length, RSA or not), every classic signature
    `rsa` of modulus length and every CMS blob `cms` that fits the reserved space and verifies over `H(compressed TOC)`
    (trailing zero padding is ignored by the BER reader): let `Sign` succeed on input `f`, whose TOC at offset 28 decodes to a
    regular document (`regularDoc`: one `<toc>`; per `<file>` at most one `<data>`; per `<data>` one `<offset>`, at most one
    `<length>` / `<archived-checksum>`, numbers spelled as `ParseInt` accepts them) that `encoding/xml` accepts, and let the
    patch be applicable (the old signature area ends inside the file, `h1`; otherwise `Apply` fails).
    Then `Open` + `Verify` (digests on) on the patched file succeed and name the requested hash: the checksum comparison is
    over the compressed TOC bytes the signer wrote (`open_layout`), the CMS check over their hash, and every member check
    reads, at `newBase + offset + newSigSize − origSigSize`, the bytes `Sign` hashed at `base + offset` (`member_check_after`).
    No hypothesis on checksums, on where members lie, or on the old signature elements: the signer tests those itself. -/
theorem xar_sign_then_verify (C : Crypto) (E : Env) (hE : E.Laws) (hH : ∀ k b, (C.H k b).length = k.size)
    (f : Bytes) (hk : HK) (ki : KeyInfo) (hki : ki.small) (so : SignOut) (rsa cms body : Bytes)
    (hs : (signPlan E f hk ki).run C = .ok so)
    (hb : newBytes C E so rsa cms = some body)
    (hrsa : rsa.length = ki.rsaSize.getD 0)
    (hc1 : ki.certTexts ≠ []) (hc2 : ∀ c ∈ ki.certTexts, E.certOk c = true)
    (hcms : C.cmsOk (cms ++ zeros (so.newSig.toNat - (so.hk.size + rsa.length + cms.length))) (C.H hk (E.encode so.tree).1) = true)
    (hd : Hdr) (k0 : HK) (t : Xml) (n : Nat) (x0 : XToc)
    (hp : parseHeader f = .ok (hd, k0)) (hdec : E.decode (region f 28 hd.clen) = some (t, n))
    (hreg : regularDoc E.num t = true) (hu : unmarshal E.num t = some x0)
    (h1 : 28 + hd.clen + so.origSig ≤ f.length) (hfl : f.length < 2 ^ 60)
    (hzl : (E.encode so.tree).1.length < 2 ^ 40) (hul : (E.encode so.tree).2 ≤ 100000000) :
    ∃ v, (verifyPlan E (written f so.origTotal body) false).run C = .ok v ∧ v.hk = hk := by
  obtain ⟨p, _, _, hfx, hso, hstream⟩ := signPlanG_ok_at true C E f hk ki so hd k0 t n hp hdec hs
  simp only [↓reduceIte] at hfx
  obtain ⟨hpfx, g1, _, _, hfc⟩ := hfx
  obtain ⟨p0, tks, s, hprep, _, e3, rfl⟩ := prepFx_ok E.num hk ki t p hpfx
  subst hso
  simp only [Prep.tree] at hb hcms hzl hul h1 ⊢
  exact verify_written true C E hE hH f hk ki hki rsa cms body hd.clen t x0 p0 s hprep hstream hb hrsa hc1 hc2 hcms hreg hu
    (frontCheck_none s _ hfc) (checkSigAreas_nonneg E.num tks s e3) g1 h1 hfl hzl hul

/-- **xar_sign_then_verify_orig** (tree before 5d6eee4 / a62cce4): the same conclusion needed, as hypotheses, what the current signer
    tests itself: every `//file/data` of non-zero length behind the old signature area and with an `<archived-checksum>`, a
    non-negative `origSigSize`, a non-negative `CompressedSize`. -/
theorem xar_sign_then_verify_orig (C : Crypto) (E : Env) (hE : E.Laws) (hH : ∀ k b, (C.H k b).length = k.size)
    (f : Bytes) (hk : HK) (ki : KeyInfo) (hki : ki.small) (so : SignOut) (rsa cms body : Bytes)
    (hs : (signPlanOrig E f hk ki).run C = .ok so)
    (hb : newBytes C E so rsa cms = some body)
    (hrsa : rsa.length = ki.rsaSize.getD 0)
    (hc1 : ki.certTexts ≠ []) (hc2 : ∀ c ∈ ki.certTexts, E.certOk c = true)
    (hcms : C.cmsOk (cms ++ zeros (so.newSig.toNat - (so.hk.size + rsa.length + cms.length))) (C.H hk (E.encode so.tree).1) = true)
    (hd : Hdr) (k0 : HK) (t : Xml) (n : Nat) (x0 : XToc)
    (hp : parseHeader f = .ok (hd, k0)) (hdec : E.decode (region f 28 hd.clen) = some (t, n))
    (hreg : regularDoc E.num t = true) (hu : unmarshal E.num t = some x0)
    (hmem : ∀ p, prep E.num hk ki t = some p → ∀ d ∈ dRefs E.num none p.doc1, d.length ≠ 0 → so.origSig ≤ d.offset ∧ d.sum ≠ none)
    (h0 : 0 ≤ so.origSig) (hcl : 0 ≤ hd.clen)
    (h1 : 28 + hd.clen + so.origSig ≤ f.length) (hfl : f.length < 2 ^ 60)
    (hzl : (E.encode so.tree).1.length < 2 ^ 40) (hul : (E.encode so.tree).2 ≤ 100000000) :
    ∃ v, (verifyPlanOrig E (written f so.origTotal body) false).run C = .ok v ∧ v.hk = hk := by
  obtain ⟨p, _, _, hprep, hso, hstream⟩ := signPlanG_ok_at false C E f hk ki so hd k0 t n hp hdec hs
  simp only [Bool.false_eq_true, ↓reduceIte] at hprep
  subst hso
  simp only [Prep.tree] at hb hcms hzl hul hmem h0 h1 ⊢
  exact verify_written false C E hE hH f hk ki hki rsa cms body hd.clen t x0 p p.origSig hprep hstream hb hrsa hc1 hc2 hcms
    hreg hu (hmem p hprep) h0 hcl h1 hfl hzl hul

/-- **xar_sign_refuses_bad_layouts** (current tree).  An archive with a `//file/data` of non-zero length that has no
    `<archived-checksum>` (FXAR1), or that begins in front of the end of the old signature area however that area is
    computed (FXAR3), is refused. -/
theorem xar_sign_refuses_bad_layouts (C : Crypto) (E : Env) (f : Bytes) (hk : HK) (ki : KeyInfo)
    (hd : Hdr) (k0 : HK) (t : Xml) (n : Nat) (p0 : Prep)
    (hp : parseHeader f = .ok (hd, k0)) (hdec : E.decode (region f 28 hd.clen) = some (t, n)) (hprep : prep E.num hk ki t = some p0)
    (hbad : ∃ d ∈ dRefs E.num none p0.doc1, d.length ≠ 0 ∧ (d.sum = none ∨ ∀ s, checkSigAreas E.num ((tocKids t).getD []) = .ok s → d.offset < s)) :
    ∀ so, (signPlan E f hk ki).run C ≠ .ok so := by
  intro so h
  obtain ⟨q, _, _, hfx, _, _⟩ := signPlanG_ok_at true C E f hk ki so hd k0 t n hp hdec h
  simp only [↓reduceIte] at hfx
  obtain ⟨p0', tks, s, hprep', htk, hck, rfl⟩ := prepFx_ok E.num hk ki t q hfx.1
  obtain rfl : p0' = p0 := Option.some.inj (hprep'.symm.trans hprep)
  obtain ⟨d, hdm, hl, hor⟩ := hbad
  obtain ⟨m1, m2⟩ := frontCheck_none s _ hfx.2.2.2.2 d hdm hl
  rcases hor with hn | hf
  · exact m2 hn
  · have := hf s (by rw [htk]; exact hck)
    omega

/-- the statement without `regularDoc`: not true on either tree — a `<file>` with two `<data>` children, or a number the two
    readers read differently (`" 5"`), is shifted by etree where `encoding/xml` reads another element / another value
    (exercised by the `dup-*` and `num-text` ops of the malformed stream, where sign → verify is compared with the model) -/
def xar_sign_then_verify_full : Prop :=
  ∀ (C : Crypto) (E : Env), E.Laws → (∀ k b, (C.H k b).length = k.size) →
  ∀ (f : Bytes) (hk : HK) (ki : KeyInfo) (so : SignOut) (rsa cms body : Bytes),
    (signPlan E f hk ki).run C = .ok so → newBytes C E so rsa cms = some body →
    (∀ pad, C.cmsOk (cms ++ zeros pad) (C.H hk (E.encode so.tree).1) = true) →
    ∃ v, (verifyPlan E (written f so.origTotal body) false).run C = .ok v

/-- a regular document: one file with data and checksum, one directory with a nested file, white space, foreign elements -/
def xarSampleDoc (off1 off2 : String) : Xml :=
  .el "xar" [] [.tx "\n", .el "toc" [] [
    .el "creation-time" [] [.tx "2024-01-02T03:04:05"],
    .el "checksum" [("style", "sha1")] [.el "offset" [] [.tx "0"], .el "size" [] [.tx "20"]],
    .el "file" [("id", "1")] [.el "name" [] [.tx "a"], .tx " ",
      .el "data" [] [.el "length" [] [.tx "11"], .el "offset" [] [.tx off1], .el "encoding" [("style", "application/octet-stream")] [],
        .el "archived-checksum" [("style", "sha1")] [.tx "00"]]],
    .el "file" [("id", "2")] [.el "name" [] [.tx "d"], .el "type" [] [.tx "directory"],
      .el "file" [("id", "3")] [.el "ea" [] [.el "offset" [] [.tx "9"]],
        .el "data" [] [.el "offset" [] [.tx off2], .el "length" [] [.tx "0"]]]]]]

example (N : Num) (h1 : (N.atoi "20").2 = true) (h2 : (N.atoi "31").2 = true) (h3 : (N.atoi "11").2 = true) (h4 : (N.atoi "0").2 = true) :
    regularDoc N (xarSampleDoc "20" "31") = true := by
  simp [regularDoc, xarSampleDoc, splitFirst, regFileKids, regFile, regData, regDataKid, numOk, allTx, etext, count, named, h1, h2, h3, h4]

/-- `checkFiles` on the signing side never looks at a `<data>` without `<archived-checksum>` … -/
theorem xar_sign_skips_unsummed (d : DRef) (h : d.sum = none) : d.toRef? = none := by simp [DRef.toRef?, h]

/-- … **xar_verify_needs_archived_checksum**: while `Verify` hands every struct of non-zero length to `checkFile`, which
    refuses a style other than sha1 / sha256 / sha512 — the empty style of a missing element included — before it reads a
    byte.  So for such an archive `Sign` succeeds (exit 0) and relic's own verifier rejects the result, as it rejects the
    input's member check. -/
theorem xar_verify_needs_archived_checksum (C : Crypto) (f : Bytes) (base : Int) : ∀ (rs : List Ref),
    (∃ r ∈ rs, hkOfStyle r.style = none) → (checkAllAt f base rs).run C ≠ .ok ()
  | [], h => by obtain ⟨r, hr, _⟩ := h; simp at hr
  | x :: xs, h => by
    intro hok
    simp only [checkAllAt] at hok
    obtain ⟨u, h1, h2⟩ := (run_bind_ok_iff C _ _ _).mp hok
    obtain ⟨r, hr, hs⟩ := h
    simp only [List.mem_cons] at hr
    rcases hr with rfl | hr
    · rw [run_ok_iff] at h1
      unfold checkFileAt at h1
      simp [hs, Plan.fail] at h1
    · exact xar_verify_needs_archived_checksum C f base xs ⟨r, hr, hs⟩ h2

example : hkOfStyle "" = none := by decide

end Relic.Props.C01
