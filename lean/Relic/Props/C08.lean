/-
  C08 — Re-signing replaces the signature; digests ignore existing signatures.
  PE/COFF part, over `Relic.Model.PE` (model of lib/authenticode/pedigest.go, pesign.go).
  Other formats add their theorems in `Relic/Props/C08_*.lean`.
-/
import Relic.Proofs.PEFrame
import Relic.Props.C12
namespace Relic.Props.C08
open Relic Relic.PE

/-- **pe_signed_file.** What `Sign → Apply` writes for a PE whose digest succeeded: the original with the
    certificate-table directory entry rewritten and (padding +) the new certificate table appended in
    place of any old one; obtained through the *real* patch path (`Add`, `Dump`-order, rewrite loop). -/
theorem pe_signed_file (f : Bytes) (d : Digest) (sig : Bytes) (ps : List Binpatch.Patch)
    (hp : 64 ≤ u32 f 0x3c) (e : DigestPE f = .ok d) (hm : makePatch d sig = .ok ps) (M : Nat) :
    Binpatch.applyRewrite f (Binpatch.build M ps) = .ok (signedBytes f d sig) := by
  have H := DigestPE_spec f d hp e
  rw [C12.add_spec M f ps (makePatch_constructible f d sig ps H hm), sem_makePatch f d sig ps H hm]

/-- **pe_digest_ignores_signature (partial).** The stream hashed for the signed file equals the stream
    hashed for the input, whenever the re-digest succeeds. -/
theorem pe_digest_ignores_signature_partial (f : Bytes) (d d' : Digest) (sig : Bytes) (hp : 64 ≤ u32 f 0x3c)
    (e : DigestPE f = .ok d) (hcs : d.certStart < 2 ^ 32) (hsig : 8 + ceil8 sig.length < 2 ^ 32)
    (e' : DigestPE (signedBytes f d sig) = .ok d') : d'.hashed = d.hashed := by
  cases Res.ok.inj ((DigestPE_signed f d sig hp e hcs hsig).symm.trans e')
  rfl

/-- **pe_digest_ignores_signature.** The full statement, success of the re-digest included: for every file
    `DigestPE` accepts (with `e_lfanew ≥ 64`) and every signature blob `MakePatch` accepts, digesting the signed
    file succeeds and feeds the image hash exactly the stream hashed for the input.  (Success rests on the frame
    property of the header parser, `Relic.PE.readHeaders_frame`.) -/
theorem pe_digest_ignores_signature (f : Bytes) (d : Digest) (sig : Bytes) (hp : 64 ≤ u32 f 0x3c)
    (e : DigestPE f = .ok d) (hcs : d.certStart < 2 ^ 32) (hsig : 8 + ceil8 sig.length < 2 ^ 32) :
    ∃ d', DigestPE (signedBytes f d sig) = .ok d' ∧ d'.hashed = d.hashed :=
  ⟨_, DigestPE_signed f d sig hp e hcs hsig, rfl⟩

/-- **pe_resign_replaces.** Signing relic's own output again yields exactly what signing the original
    with the new signature yields: the earlier signature is gone, nothing else moved. -/
theorem pe_resign_replaces (f : Bytes) (d d' : Digest) (s1 s2 : Bytes) (hp : 64 ≤ u32 f 0x3c)
    (e : DigestPE f = .ok d) (hcs : d.certStart < 2 ^ 32) (hs1 : 8 + ceil8 s1.length < 2 ^ 32)
    (e' : DigestPE (signedBytes f d s1) = .ok d') :
    signedBytes (signedBytes f d s1) d' s2 = signedBytes f d s2 := by
  cases Res.ok.inj ((DigestPE_signed f d s1 hp e hcs hs1).symm.trans e')
  exact signedBytes_resigned f d s1 s2 (DigestPE_spec f d hp e)

/-- one signing round on the model: digest, build the patch, apply it (`signedBytes` stands for the applied patch:
    `PE.sem_makePatch`, `pe_signed_file`) -/
def signRound (f sig : Bytes) : Res Bytes :=
  match DigestPE f with
  | .ok d => match makePatch d sig with
    | .ok _ => .ok (signedBytes f d sig)
    | .err e => .err e
    | .panic p => .panic p
    | .diverge => .diverge
  | .err e => .err e
  | .panic p => .panic p
  | .diverge => .diverge

theorem signRound_signed (f : Bytes) (d : Digest) (last s : Bytes) (hp : 64 ≤ u32 f 0x3c) (e : DigestPE f = .ok d)
    (hcs : d.certStart < 2 ^ 32) (hl : 8 + ceil8 last.length < 2 ^ 32) :
    signRound (signedBytes f d last) s = .ok (signedBytes f d s) := by
  unfold signRound
  rw [DigestPE_signed f d last hp e hcs hl]
  have hmk : makePatch (resigned d last) s = .ok _ := if_neg (Nat.not_le.2 hcs)
  simp only [hmk, signedBytes_resigned f d last s (DigestPE_spec f d hp e)]

/-- **pe_history_total.** Every history of signing rounds `s₁ … sₙ` applied to relic's own output *succeeds*, and
    the artifact after the last round is the original signed once with the last signature. -/
theorem pe_history_total (f : Bytes) (d : Digest) (hp : 64 ≤ u32 f 0x3c) (e : DigestPE f = .ok d)
    (hcs : d.certStart < 2 ^ 32) :
    ∀ (sigs : List Bytes) (last : Bytes), 8 + ceil8 last.length < 2 ^ 32 →
      (∀ s ∈ sigs, 8 + ceil8 s.length < 2 ^ 32) →
      sigs.foldlM signRound (signedBytes f d last) = .ok (signedBytes f d ((last :: sigs).getLast (by simp))) :=
  Res.foldlM_replace signRound (signedBytes f d) (fun s => 8 + ceil8 s.length < 2 ^ 32)
    fun a s ha => signRound_signed f d a s hp e hcs ha

/-- **pe_history.** For every history of signing rounds `s₁ … sₙ` applied to relic's own output: as long as
    each round succeeds, the artifact after the last round is the original signed *once* with the last
    signature (so: one certificate table, original payload), whatever happened in between. -/
theorem pe_history (f : Bytes) (d : Digest) (hp : 64 ≤ u32 f 0x3c) (e : DigestPE f = .ok d)
    (hcs : d.certStart < 2 ^ 32) :
    ∀ (sigs : List Bytes) (cur : Bytes) (last : Bytes), cur = signedBytes f d last → 8 + ceil8 last.length < 2 ^ 32 →
      (∀ s ∈ sigs, 8 + ceil8 s.length < 2 ^ 32) →
      ∀ g, sigs.foldlM signRound cur = .ok g → g = signedBytes f d ((last :: sigs).getLast (by simp)) := by
  intro sigs cur last hc hl hs g hg
  rw [hc, pe_history_total f d hp e hcs sigs last hl hs] at hg
  exact (Res.ok.inj hg).symm

/-- a minimal PE32 image: DOS header (`e_lfanew = 64`), COFF header without sections, 224-byte optional
    header with 16 data directories, `SizeOfHeaders = 312`, 3 bytes of overlay -/
def minimalPE : Bytes :=
  [0x4d, 0x5a] ++ List.replicate 58 0 ++ [64, 0, 0, 0] ++
  [0x50, 0x45, 0, 0] ++ [0x4c, 0x01, 0, 0] ++ List.replicate 12 0 ++ [224, 0] ++ [0, 0] ++
  [0x0b, 0x01] ++ List.replicate 58 0 ++ [0x38, 0x01, 0, 0] ++ List.replicate 28 0 ++ [16, 0, 0, 0] ++
  List.replicate 128 0 ++ [1, 2, 3]

/-- digest succeeds, signing succeeds, the signed file digests again and its signature (zero-padded to 8,
    as `MakePatch` stores it) is located; a second round replaces it -/
def minimalPE_ok : Bool :=
  match DigestPE minimalPE with
  | .ok d => d.origSize == 315 && d.certStart == 320 &&
      (match signRound minimalPE [9, 9, 9] with
       | .ok g => (DigestPE g).isOk && (locate g == .ok [[9, 9, 9, 0, 0, 0, 0, 0]]) &&
           (match signRound g [7] with | .ok g2 => locate g2 == .ok [[7, 0, 0, 0, 0, 0, 0, 0]] | _ => false)
       | _ => false)
  | _ => false

/-- the hypotheses of `pe_digest_ignores_signature` / `pe_history_total` hold for `minimalPE` and a 3-byte blob -/
def minimalPE_hyps : Bool :=
  match DigestPE minimalPE with
  | .ok d => decide (d.certStart < 2 ^ 32) && decide (8 + ceil8 [9, 9, 9].length < 2 ^ 32)
  | _ => false

/-- the whole test vector, evaluated once; the non-vacuity examples of C01, C02, C03, C05 and C08 are its parts -/
theorem minimalPE_facts :
    64 ≤ u32 minimalPE 0x3c ∧ minimalPE_ok = true ∧ minimalPE_hyps = true ∧ (DigestPE minimalPE).isOk = true := by
  decide +kernel

set_option maxRecDepth 100000 in
example : 64 ≤ u32 minimalPE 0x3c ∧ minimalPE_ok = true := ⟨minimalPE_facts.1, minimalPE_facts.2.1⟩

set_option maxRecDepth 100000 in
example : minimalPE_hyps = true := minimalPE_facts.2.2.1

end Relic.Props.C08
