/-
  C08 — Re-signing replaces the signature; digests ignore existing signatures.   RPM part (model `Relic.Model.Rpm`).
-/
import Relic.Props.C01_Rpm
import Relic.Props.C03_Rpm
namespace Relic.Props.C08
open Relic.Rpm

/-- **rpm_digest_ignores_signature.** The two packets `sign` makes are functions of the general header bytes and the payload
    alone: two packages that differ in lead and signature header only (unsigned / signed by anyone, any reserved space) get the
    same packets in the same slots. -/
theorem rpm_digest_ignores_signature (mk : Bool → Bytes → Bytes) (p q : Parsed) (hg : p.gen = q.gen) (hp : p.payload = q.payload) :
    get tagRSA (withReserved (signedSig mk p)) = get tagRSA (withReserved (signedSig mk q)) ∧
    get tagPGP (withReserved (signedSig mk p)) = get tagPGP (withReserved (signedSig mk q)) := by
  obtain ⟨a1, a2, _⟩ := C01.rpm_signed_slots mk p
  obtain ⟨b1, b2, _⟩ := C01.rpm_signed_slots mk q
  rw [a1, a2, b1, b2, hg, hp]; exact ⟨rfl, rfl⟩

/-- **rpm_resign_replaces.** Whatever signatures the input carried — in the slots relic writes (268, 1002) or in the legacy
    slots (267 DSA, 1005 GPG) — the output holds exactly the two new packets: old ones are replaced or removed, never kept. -/
theorem rpm_resign_replaces (mk : Bool → Bytes → Bytes) (p : Parsed) (old : Entry) (t : Int)
    (ht : t = tagRSA ∨ t = tagPGP ∨ t = tagDSA ∨ t = tagGPG) (_hold : get t p.sig.ents = some old) :
    get t (withReserved (signedSig mk p)) = (if t = tagRSA then some ⟨7, (mk true p.gen.orig).length, mk true p.gen.orig⟩
      else if t = tagPGP then some ⟨7, (mk false (p.gen.orig ++ p.payload)).length, mk false (p.gen.orig ++ p.payload)⟩ else none) := by
  obtain ⟨a1, a2, a3, a4, _⟩ := C01.rpm_signed_slots mk p
  rcases ht with h | h | h | h <;> subst h
  · simp [a1]
  · rw [a2]; simp [tagPGP, tagRSA]
  · rw [a3]; simp [tagDSA, tagRSA, tagPGP]
  · rw [a4]; simp [tagGPG, tagRSA, tagPGP]

example : get tagDSA ([(267, ⟨7, 1, [1]⟩)] : EMap) = some ⟨7, 1, [1]⟩ := by decide +kernel

/-- sign^n on a package: the files after each round -/
def history (H : Nat → Bytes → Bytes) : List (Bool → Bytes → Bytes) → Bytes → Res Bytes
  | [], g => .ok g
  | mk :: r, g =>
    match sign H mk g with
    | .ok o => history H r (signedFile g o)
    | .err e => .err e
    | .panic s => .panic s
    | .diverge => .diverge

/-- the full history statement (not proved; executed per `hist` op, sizes compared exactly): every later round succeeds on
    relic's own output, replaces exactly what the round before wrote, and leaves general header and payload in place -/
def rpm_history_full : Prop :=
  ∀ (H : Nat → Bytes → Bytes) (mks : List (Bool → Bytes → Bytes)) (f : Bytes) (o : SignOut) (mk : Bool → Bytes → Bytes),
    sign H mk f = .ok o → ∃ g, history H mks (signedFile f o) = .ok g ∧ g.drop (g.length - (f.length - o.old)) = f.drop o.old

/-- **rpm_history** (`_partial`: one step, any number of times as long as `sign` succeeds): each successful round keeps every byte
    behind the signature area it found — so a history of successful rounds never touches general header or payload, and each
    round's patch lies inside the file of the round before (C12 applies). -/
theorem rpm_history_partial (H : Nat → Bytes → Bytes) (mk : Bool → Bytes → Bytes) (g : Bytes) (o : SignOut) (hs : sign H mk g = .ok o) :
    (signedFile g o).drop o.blob.length = g.drop o.old ∧ o.old ≤ g.length ∧ applyPatch g o = .ok (signedFile g o) := by
  obtain ⟨_, _, _, h3, _⟩ := C03.rpm_payload_preserved H mk g o hs
  obtain ⟨_, _, _, _, _, h5⟩ := C03.rpm_patch_is_signature_area H mk g o hs
  exact ⟨h3, h5, (C03.rpm_patch_constructible H mk g o hs).2⟩

/-- **rpm_reserved_space.** `DumpSignatureHeader(true)`: when the re-written header plus one index entry fits into the old one,
    a RESERVEDSPACE tag of exactly the missing bytes is inserted; otherwise none is written (the header shrinks by less than
    16 bytes or grows). -/
theorem rpm_reserved_space (s : Hdr) :
    let needed := (writeTo (del tagReserved s.ents)).length
    (needed + 16 ≤ s.orig.length → get tagReserved (withReserved s) = some ⟨7, ((s.orig.length - needed - 16 : Nat) : Int), zeros (s.orig.length - needed - 16)⟩) ∧
    (¬ needed + 16 ≤ s.orig.length → get tagReserved (withReserved s) = none) := by
  intro needed
  constructor
  · intro h
    unfold withReserved
    simp only [needed] at h
    simp only [h, if_true]
    exact get_ins_same _ _ _
  · intro h
    unfold withReserved
    simp only [needed] at h
    simp only [h, if_false]
    exact get_del_same _ _

end Relic.Props.C08
