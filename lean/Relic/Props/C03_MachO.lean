/-
  C03 — Signing never corrupts or alters the payload.   Mach-O part: which bytes of the image `PatchSignature` may
  change.  Everything outside the recorded header ranges and the signature region keeps its bytes and its order.
-/
import Relic.Proofs.MachOPatch
namespace Relic.Props.C03
open Relic.MachO

/-- In the written file
    * every byte below the end of code that is not in one of the recorded header ranges is the input's byte,
    * bytes inside a recorded range are the patched header buffer's,
    * the padding is zero, the signature buffer follows it,
    * everything behind the old signature region follows unchanged, in order.
    The recorded ranges are `[16,24)` (ncmds, sizeofcmds – only when a load command is added), the
    Memsz/Offset/Filesz triple of the __LINKEDIT command (24 or 12 bytes) and the 16 bytes of LC_CODE_SIGNATURE. -/
theorem macho_payload_preserved (f h3 : Bytes) (rs : List (Nat × Nat)) (cs sigLen padding : Nat) (sigBuf : Bytes)
    (L : Layout f h3 rs cs sigLen) :
    let g := written f h3 rs cs sigLen padding sigBuf
    (∀ i, i < cs → inRanges rs i = false → g[i]? = f[i]?) ∧
    (∀ i, inRanges rs i = true → g[i]? = h3[i]?) ∧
    (∀ j, j < padding → g[cs + j]? = some 0) ∧
    (∀ j, j < sigBuf.length → g[cs + padding + j]? = sigBuf[j]?) ∧
    (∀ j, g[cs + padding + sigBuf.length + j]? = f[cs + sigLen + j]?) := by
  intro g
  have B := written_behind f h3 rs cs sigLen padding sigBuf L
  refine ⟨fun i hi hr => ?_, fun i hr => ?_, fun j hj => ?_, fun j hj => ?_, fun j => ?_⟩
  · show (written f h3 rs cs sigLen padding sigBuf)[i]? = _
    rw [written_below f h3 rs cs sigLen padding sigBuf L i hi, hr]; rfl
  · show (written f h3 rs cs sigLen padding sigBuf)[i]? = _
    rw [written_getElem? f h3 rs cs sigLen padding sigBuf L, hr]; rfl
  · exact (B j).trans (if_pos hj)
  · rw [Nat.add_assoc]
    refine (B (padding + j)).trans ?_
    rw [if_neg (by omega), if_pos (by omega)]; congr 1; omega
  · rw [Nat.add_assoc, Nat.add_assoc]
    refine (B (padding + (sigBuf.length + j))).trans ?_
    rw [if_neg (by omega), if_neg (by omega)]; congr 2; omega

/-- When the existing signature region is large enough (`sigLen ≥ sigSize`) the header is not
    touched at all: the only patch replaces the old region by a buffer of the same size. -/
theorem patch_reuse (m : Markers) (hdr : Bytes) (sigSize : Int) (h : (m.sigLen : Int) ≥ sigSize) :
    patchSignature m hdr sigSize = .ok ⟨hdr, m.sigLen, m.sigStart, 0, [⟨m.sigStart, m.sigLen, zeros m.sigLen⟩]⟩ := by
  simp [patchSignature, h]

/-- refusal instead of rewriting: no room for LC_CODE_SIGNATURE in front of the first section -/
theorem patch_refuses_overflow (m : Markers) (hdr : Bytes) (sigSize : Int) (h1 : ¬ (m.sigLen : Int) ≥ sigSize)
    (h2 : 0 ≤ m.codeSize ∧ m.codeSize ≤ 2 ^ 40) (h3 : m.loadCsStart = 0) (h4 : m.nextLc + 16 > m.firstSh)
    (h5 : ¬ (if m.sigStart = 0 then align m.codeSize.toNat 8 else m.sigStart) < m.codeSize.toNat) :
    patchSignature m hdr sigSize = .err "overflow" := by
  have a1 : 0 ≤ m.codeSize := h2.1
  have a2 : m.codeSize ≤ 1099511627776 := by have := h2.2; omega
  simp [patchSignature, h1, a1, a2, h3, h4, h5]

/- `Layout` is inhabited by the regular instance in C01_MachO; below, `patch_reuse` on concrete markers -/

example : patchSignature ⟨false, 0xfeedfacf, 4096, 100, 200, 100, 4000, 196, 216, 300, 4096, 216⟩ [] 50 =
    .ok ⟨[], 100, 4096, 0, [⟨4096, 100, zeros 100⟩]⟩ := by decide +kernel

end Relic.Props.C03
