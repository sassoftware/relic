/-
  Property C10 — only genuine, matching timestamps are attached and they govern validity time.

  Theorems about `Relic.Model.Tsa` (tied to lib/pkcs9, tsclient, timestampcache, appmanifest by
  differential execution, see checklib/props/c10.py).  Digests (`H`), signature values, certificates and
  X.509 path validation (`chainOK`) are parameters: every statement holds for all of them.  The deviations of the
  unchanged tree proved at the end are each replayed on the real code by the harness.
-/
import Relic.Proofs.Tsa
namespace Relic.Props.C10
open Relic.Tsa

/-- The conjunction `tsClient.do` + `ParseResponse` + `SanityCheckToken` check on an RFC 3161 reply:
HTTP 200, well-formed without trailing bytes, status granted / grantedWithMods, token signed
(self-consistently: its messageDigest attribute matches its own content, `mdOK`, and the signature over the
attributes verifies, `sigOK`), nonce echoed, imprint equal to the request's (and, once `algChecked`, same algorithm). -/
def Genuine (c : Cfg) (r : Req) (w : Wire) (t : Token) : Prop :=
  ∃ st i, w = .http 200 (.der st t false) ∧ st ≤ 1 ∧ t.content = .tst i ∧ t.nSigners ≠ 0 ∧ t.mdOK = true ∧ t.sigOK = true ∧
    i.nonce = some r.nonce ∧ i.imprint = r.imprint ∧ (c.algChecked = true → i.algOK = true)

theorem Genuine.fixed {c : Cfg} {r : Req} {w : Wire} {t : Token} (h : Genuine c r w t) (ha : c.algChecked = true) :
    Genuine Cfg.fixed r w t := by
  obtain ⟨st, i, h1, h2, h3, h4, h5, h6, h7, h8, h9⟩ := h
  exact ⟨st, i, h1, h2, h3, h4, h5, h6, h7, h8, fun _ => h9 ha⟩

theorem accept_iff (c : Cfg) (r : Req) (w : Wire) (t : Token) (hr : r.legacy = false) :
    doOne c r w = .ok t ↔ Genuine c r w t := by
  unfold Genuine
  rcases w with _ | _ | _ | ⟨code, _ | ⟨st, t', tr⟩ | _ | _⟩ <;>
    simp [doOne, parseBody, hr, ite_eq_iff, sanityCheck_eq_ok, p7Verify_eq_ok]
  constructor
  · rintro ⟨rfl, rfl, hst, ⟨_, hns, hmd, hsig⟩, i, hc, hn, hi, ha, rfl⟩
    exact ⟨st, ⟨rfl, rfl, rfl, rfl⟩, hst, i, hc, hns, hmd, hsig, hn, hi, ha⟩
  · rintro ⟨_, ⟨rfl, rfl, rfl, rfl⟩, hst, i, hc, hns, hmd, hsig, hn, hi, ha⟩
    exact ⟨rfl, rfl, hst, ⟨by simp [hc], hns, hmd, hsig⟩, i, hc, hn, hi, ha, rfl⟩

/-- the legacy (Microsoft) style once the client verifies the reply (`legacyChecked`) -/
def GenuineLegacy (r : Req) (w : Wire) (t : Token) : Prop :=
  w = .http 200 (.b64 (some t)) ∧ t.content = .data r.imprint ∧ t.nSigners ≠ 0 ∧ t.mdOK = true ∧
    t.sigOK = true ∧ t.sigTime ≠ none

theorem accept_legacy_iff (c : Cfg) (r : Req) (w : Wire) (t : Token) (hr : r.legacy = true)
    (hc : c.legacyChecked = true) : doOne c r w = .ok t ↔ GenuineLegacy r w t := by
  unfold GenuineLegacy
  rw [← verifyMsToken_ok_iff]
  rcases w with _ | _ | _ | ⟨code, _ | _ | _ | t'⟩ <;> simp [doOne, parseBody, hr, hc, ite_eq_iff]
  constructor
  · rintro ⟨rfl, h⟩
    cases hv : verifyMsToken t' r.imprint <;> simp [hv] at h
    subst h
    exact ⟨⟨rfl, rfl⟩, _, hv⟩
  · rintro ⟨⟨rfl, rfl⟩, cs, hv⟩
    simp [hv]

example : Genuine Cfg.fixed ⟨false, 7, 1100⟩ (.http 200 (.der 0 ⟨1, true, 1, true, .tst ⟨some 7, 1100, true, some 0⟩, none, 1, true⟩ false))
    ⟨1, true, 1, true, .tst ⟨some 7, 1100, true, some 0⟩, none, 1, true⟩ :=
  ⟨0, ⟨some 7, 1100, true, some 0⟩, rfl, by decide, rfl, by decide, rfl, rfl, rfl, rfl, fun _ => rfl⟩

theorem attempts_le (c : Cfg) (r : Req) (ws : List Wire) : attempts c r ws ≤ ws.length := by
  induction ws with
  | nil => simp [attempts]
  | cons w ws ih => simp only [attempts, List.length_cons]; split <;> omega

/-- nobody is contacted after the first attempt that stops the loop -/
theorem attempts_stop (c : Cfg) (r : Req) (ws : List Wire) :
    ∀ k w, ws[k]? = some w → stops c r w = true → attempts c r ws ≤ k + 1 := by
  induction ws with
  | nil => intro k w h; simp at h
  | cons w0 ws ih =>
    intro k w h hs
    simp only [attempts]
    cases k with
    | zero =>
      have : w0 = w := by simpa using h
      subst this
      simp [hs]
    | succ k =>
      have h' : ws[k]? = some w := by simpa using h
      have := ih k w h' hs
      split <;> omega

/-- "otherwise the next configured authority is tried": URL `k` is contacted when no earlier attempt stopped -/
theorem attempts_ge (c : Cfg) (r : Req) (ws : List Wire) :
    ∀ k, k < ws.length → (∀ j w, j < k → ws[j]? = some w → stops c r w = false) → k + 1 ≤ attempts c r ws := by
  induction ws with
  | nil => intro k h; simp at h
  | cons w0 ws ih =>
    intro k hk hall
    simp only [attempts]
    cases k with
    | zero => split <;> omega
    | succ k =>
      have h0 : stops c r w0 = false := hall 0 w0 (by omega) (by simp)
      simp only [h0]
      have := ih k (by simpa using hk) (fun j w hj hw => hall (j + 1) w (by omega) (by simpa using hw))
      simp
      omega

/-- **failover_order** — the authorities that receive a request are exactly the first `attempts` configured
URLs, in configured order, each once; none at all when the caller had already cancelled. -/
theorem failover_order (c : Cfg) (r : Req) (pre : Bool) (ws : List Wire) :
    (timestamp c r pre ws).contacted = if pre then [] else List.range (attempts c r ws) := by
  cases ws with
  | nil => simp [timestamp, attempts]
  | cons w ws =>
    simp only [timestamp]
    cases pre with
    | true => simp
    | false => simp [tryFrom_contacted, List.range_eq_range']

example : (timestamp Cfg.fixed ⟨false, 7, 1100⟩ false
    [.http 500 .garbage, .reset, .http 200 (.der 0 ⟨1, true, 1, true, .tst ⟨some 7, 1100, true, some 0⟩, none, 1, true⟩ false), .reset]).contacted
    = [0, 1, 2] := by decide +kernel

/-- **countersig_binds** — a countersignature is reported only when the attached token covers the
`EncryptedDigest` of the enclosing signer info, for every one of the attribute kinds. -/
theorem countersig_binds (H : Nat → Nat) (g : Bool) (a : Artefact) (cs : CounterSig)
    (h : verifyAttach H g a = .ok (some cs)) :
    ∃ t, a.attach.token? = some t ∧ Covers H t a.encDigest ∧ cs.cert = t.tsa := by
  obtain ⟨t, ht, hv | hv | hv⟩ := verifyAttach_eq_some h
  · exact ⟨t, ht, (verifyRfc_covers hv).1, (verifyRfc_covers hv).2.1⟩
  · exact ⟨t, ht, verifyCs_covers hv⟩
  · exact ⟨t, ht, verifyMs_covers hv⟩

/-- corollary: a token issued for another signature value is rejected (for a digest that separates the two) -/
theorem moved_countersig_rejected (H : Nat → Nat) (g : Bool) (a : Artefact) (t : Token) (other : Nat)
    (hat : a.attach.token? = some t)
    (hsep : H other ≠ H a.encDigest) (hne : other ≠ a.encDigest)
    (hbound : (∃ i, t.content = .tst i ∧ i.imprint = H other) ∨ t.content = .data other) :
    ∀ cs, verifyAttach H g a ≠ .ok (some cs) := by
  intro cs h
  obtain ⟨t', ht', hcov, _⟩ := countersig_binds H g a cs h
  cases hat.symm.trans ht'
  rcases hcov.2.2 with ⟨i, hc, hi, _⟩ | hd
  · rcases hbound with ⟨i', hc', hi'⟩ | hd'
    · rw [hc] at hc'
      have : i = i' := by simpa using hc'
      subst this
      exact hsep (hi'.symm.trans hi)
    · rw [hc] at hd'; simp at hd'
  · rcases hbound with ⟨i', hc', _⟩ | hd'
    · rw [hd] at hc'; simp at hc'
    · rw [hd] at hd'
      have : a.encDigest = other := by simpa using hd'
      exact hne this.symm

example : verifyAttach (· + 1000) true ⟨100, 10, .tsToken ⟨1, true, 1, true, .tst ⟨some 7, 1100, true, some 0⟩, none, 1, true⟩⟩
    = .ok (some ⟨some 0, 1, 1⟩) := by decide +kernel
example : verifyAttach (· + 1000) true ⟨100, 10, .tsToken ⟨1, true, 1, true, .tst ⟨some 7, 1200, true, some 0⟩, none, 1, true⟩⟩
    = .err "imprint" := by decide +kernel

/-- **transplant_rejected** — a token whose messageDigest attribute does not match its embedded content (a
genuine legacy token issued for another value whose content was swapped) fails its own verification,
whatever signature value it is compared with: `SignedData.Verify` reports the digest mismatch before the
signature, the content comparison and the signing time are looked at. -/
theorem transplant_rejected (t : Token) (hm : t.mdOK = false) (hc : t.content ≠ .absent) (hns : t.nSigners ≠ 0) :
    ∀ ed, verifyMsToken t ed = .err "digest" := by
  intro ed
  simp [verifyMsToken, p7Verify, hm, hc, hns]

/-- hence no attribute kind yields a countersignature from such a token (by `countersig_binds`) -/
theorem transplant_never_countersig (H : Nat → Nat) (g : Bool) (a : Artefact) (t : Token)
    (hat : a.attach.token? = some t) (hm : t.mdOK = false) : ∀ cs, verifyAttach H g a ≠ .ok (some cs) := by
  intro cs h
  obtain ⟨t', ht', hcov, _⟩ := countersig_binds H g a cs h
  cases hat.symm.trans ht'
  rw [hcov.2.1] at hm
  exact absurd hm (by decide)

/-- and a client that verifies the legacy reply (`legacyChecked`) answers the transplanted token with an
ordinary error that does not stop the loop: the next configured authority is tried -/
theorem transplant_fails_over (c : Cfg) (r : Req) (t : Token) (hr : r.legacy = true) (hl : c.legacyChecked = true)
    (hm : t.mdOK = false) (hc : t.content ≠ .absent) (hns : t.nSigners ≠ 0) :
    doOne c r (.http 200 (.b64 (some t))) = .err "digest" ∧ stops c r (.http 200 (.b64 (some t))) = false := by
  have h : doOne c r (.http 200 (.b64 (some t))) = .err "digest" := by
    simp [doOne, parseBody, hr, hl, transplant_rejected t hm hc hns r.imprint]
  exact ⟨h, by simp [stops, h]⟩

/-- non-vacuity: the transplanted token names the right value and is correctly signed, and is still rejected;
with a second authority the signature carries the second one's token -/
example : verifyMsToken { (⟨1, false, 1, true, .data 100, some (some 0), 1, true⟩ : Token) with mdOK := false } 100
    = .err "digest" := by decide +kernel
example :
    let good : Token := ⟨2, false, 1, true, .data 100, some (some 0), 1, true⟩
    let so := sign (· + 1000) Cfg.fixed ⟨true, false, false, true⟩ .manifest true false 7 100 10
      [.http 200 (.b64 (some { good with serial := 1, mdOK := false })), .http 200 (.b64 (some good))]
    so.res = .ok ⟨100, 10, .manifestTs good⟩ ∧ so.outcome.contacted = [0, 1] ∧ so.outcome.errs = ["digest"] := by
  decide +kernel

/-- the self-check after attachment: a token that passes it covers this signature value -/
theorem selfcheck_covers {H : Nat → Nat} {g : Bool} {ed leaf : Nat} {flow : Flow} {t : Token} {cs : Option CounterSig}
    (hv : verifyAttach H g ⟨ed, leaf, mkAttach flow t⟩ = .ok cs) : Covers H t ed := by
  obtain ⟨cc, rfl⟩ := verifyAttach_ne_none hv
  obtain ⟨t', ht', hcov, _⟩ := countersig_binds H g _ cc hv
  cases (mkAttach_token flow t).symm.trans ht'
  exact hcov

/-- **attach_only_if_genuine** — a signing operation that succeeds with time-stamping wanted carries the
token of the *first* authority whose reply the client accepted; every authority before it was tried and
failed; for an RFC 3161 request "accepted" is exactly the conjunction `Genuine`; and (all styles, including
the legacy style whose reply the unchanged client does not inspect) the attached token covers this
signature value and is correctly signed, by the self-check that follows attachment. -/
theorem attach_only_if_genuine (H : Nat → Nat) (c : Cfg) (s : SignCfg) (flow : Flow) (legacy pre : Bool)
    (nonce ed leaf : Nat) (ws : List Wire) (a : Artefact) (hw : s.wanted = true)
    (h : (sign H c s flow legacy pre nonce ed leaf ws).res = .ok a) :
    ∃ k w t, ws[k]? = some w ∧ doOne c (reqOf H legacy nonce ed) w = .ok t ∧
      a = ⟨ed, leaf, mkAttach flow t⟩ ∧
      (∀ (j : Nat) (w' : Wire), j < k → ws[j]? = some w' → ∃ e, doOne c (reqOf H legacy nonce ed) w' = .err e) ∧
      (legacy = false → Genuine c (reqOf H legacy nonce ed) w t) ∧
      Covers H t ed := by
  unfold sign at h
  simp only [hw, if_true] at h
  split at h
  · simp at h
  · obtain ⟨src, t, cs, hres, ha, hv⟩ := signWith_ok h
    obtain ⟨k, w, _, hk, hok, hbefore⟩ := timestamp_ok (r := reqOf H legacy nonce ed) hres
    exact ⟨k, w, t, hk, hok, ha, hbefore, fun hl => (accept_iff c _ w t (by simp [reqOf, hl])).1 hok,
      selfcheck_covers (ha ▸ hv)⟩

/-- **never_silently_omitted** — time-stamping configured for the key and not disabled by the request:
a successful signature carries a timestamp, and if no authority gives an acceptable reply signing does not
succeed (it is an error; in the unguarded tree possibly a panic, see `absent_nonce_panics`). -/
theorem never_silently_omitted (H : Nat → Nat) (c : Cfg) (s : SignCfg) (flow : Flow) (legacy pre : Bool)
    (nonce ed leaf : Nat) (ws : List Wire) (hw : s.wanted = true) :
    (∀ a, (sign H c s flow legacy pre nonce ed leaf ws).res = .ok a → a.attach ≠ .none) ∧
    ((∀ w, w ∈ ws → ∀ t, doOne c (reqOf H legacy nonce ed) w ≠ .ok t) →
      ∀ a, (sign H c s flow legacy pre nonce ed leaf ws).res ≠ .ok a) := by
  constructor
  · intro a h
    obtain ⟨k, w, t, _, _, ha, _⟩ := attach_only_if_genuine H c s flow legacy pre nonce ed leaf ws a hw h
    rw [ha]
    cases flow <;> simp [mkAttach]
  · intro hall a h
    obtain ⟨k, w, t, hk, hok, _⟩ := attach_only_if_genuine H c s flow legacy pre nonce ed leaf ws a hw h
    exact hall w (List.mem_of_getElem? hk) t hok

/-- non-vacuity: one failed authority, then a genuine one: the signature carries the second one's token -/
example :
    let good : Token := ⟨2, true, 1, true, .tst ⟨some 7, 1100, true, some 0⟩, none, 1, true⟩
    (sign (· + 1000) Cfg.fixed ⟨true, false, false, true⟩ .p7 false false 7 100 10
      [.http 200 (.der 0 { good with content := .tst ⟨some 8, 1100, true, some 0⟩ } false), .http 200 (.der 0 good false)]).res
      = .ok ⟨100, 10, .tsToken good⟩ := by decide +kernel

/-- non-vacuity: every authority failing is an error, for the unchanged tree as well -/
example : (sign (· + 1000) Cfg.asIs ⟨true, false, false, true⟩ .p7ac false false 7 100 10
    [.http 500 .garbage, .reset, .http 200 .garbage]).res = .err "failed:unmarshal" := by decide +kernel

/-- non-vacuity: `no-timestamp` given -/
example : (⟨true, true, true, true⟩ : SignCfg).wanted = false := by decide

/-- with the guards in place and a client timeout configured the failure is an ordinary error -/
theorem all_fail_is_error (H : Nat → Nat) (c : Cfg) (s : SignCfg) (flow : Flow) (legacy pre : Bool)
    (nonce ed leaf : Nat) (ws : List Wire) (hw : s.wanted = true)
    (hall : ∀ w, w ∈ ws → ∃ e, doOne c (reqOf H legacy nonce ed) w = .err e) :
    ∃ e, (sign H c s flow legacy pre nonce ed leaf ws).res = .err e := by
  unfold sign
  simp only [hw, if_true]
  split
  · exact ⟨_, rfl⟩
  · have : ∃ e, (timestamp c (reqOf H legacy nonce ed) pre ws).res = .err e := by
      cases ws with
      | nil => exact ⟨_, rfl⟩
      | cons w0 ws0 =>
        simp only [timestamp]
        cases pre with
        | true => exact ⟨_, rfl⟩
        | false => simpa using tryFrom_all_fail c _ (w0 :: ws0) 0 "" hall
    obtain ⟨e, he⟩ := this
    refine ⟨e, ?_⟩
    show (signWith H c.guards flow ed leaf (timestamp c (reqOf H legacy nonce ed) pre ws)).res = .err e
    simp [signWith, he]

/-- without the key option, or with `no-timestamp`, nothing is contacted and nothing attached -/
theorem not_wanted_plain (H : Nat → Nat) (c : Cfg) (s : SignCfg) (flow : Flow) (legacy pre : Bool)
    (nonce ed leaf : Nat) (ws : List Wire) (hw : s.wanted = false) :
    sign H c s flow legacy pre nonce ed leaf ws = ⟨.ok ⟨ed, leaf, .none⟩, noOutcome⟩ := by
  simp [sign, hw]

/-- **validity_time** — chains are judged at the attested time: the authority's chain (time-stamping usage)
and the signer's chain at the countersignature's time; at the current time when there is none. -/
theorem validity_time (chainOK : Nat → Usage → Int → Bool) (now : Int) (leaf : Nat) (cs : Option CounterSig) :
    verifyChain chainOK now leaf cs = .ok () ↔
      match cs with
      | some c => chainOK c.cert .timestamping (c.time.getD now) = true ∧ chainOK leaf .requested (c.time.getD now) = true
      | none => chainOK leaf .requested now = true := by
  cases cs with
  | none => simp only [verifyChain]; split <;> simp_all
  | some c =>
    simp only [verifyChain]
    split
    · simp_all
    · split <;> simp_all

/-- corollary: a signer certificate that is no longer acceptable now is accepted iff a countersignature with
a valid authority chain attests a time at which the signer's chain was acceptable. -/
theorem expired_leaf (chainOK : Nat → Usage → Int → Bool) (now : Int) (leaf : Nat) (cs : Option CounterSig)
    (hexp : chainOK leaf .requested now = false) :
    verifyChain chainOK now leaf cs = .ok () ↔
      ∃ c t, cs = some c ∧ c.time = some t ∧ chainOK c.cert .timestamping t = true ∧ chainOK leaf .requested t = true := by
  rw [validity_time]
  cases cs with
  | none => simp [hexp]
  | some c =>
    cases ht : c.time with
    | none => simp [ht, hexp]
    | some t => simp [ht]

example : verifyChain (fun cert u t => match u with | .timestamping => cert = 1 | .requested => decide (-30 ≤ t ∧ t ≤ -10))
    0 10 (some ⟨some (-20), 1, 9⟩) = .ok () := by decide +kernel
example : verifyChain (fun cert u t => match u with | .timestamping => cert = 1 | .requested => decide (-30 ≤ t ∧ t ≤ -10))
    0 10 none = .err "chain" := by decide +kernel

/-- a cache hit is returned as found: no authority is contacted and the token is *not* checked by the cache
(the self-check of `attach_only_if_genuine` still applies to it, see `signWith_ok`) -/
theorem cache_hit (st : Store) (k : Key) (t : Token) (inner : Outcome) (h : lookup st k = some (.tok t)) :
    cachedTimestamp true st k inner = (⟨.ok (.cache, t), [], []⟩, st) := by
  simp [cachedTimestamp, h]

theorem cache_miss_stores (st : Store) (k : Key) (s : Src) (t : Token) (inner : Outcome)
    (hm : lookup st k = none) (hi : inner.res = .ok (s, t)) :
    (cachedTimestamp true st k inner).1 = inner ∧ lookup (cachedTimestamp true st k inner).2 k = some (.tok t) := by
  simp [cachedTimestamp, hm, hi, lookup]

theorem cache_failure_not_stored (up : Bool) (st : Store) (k : Key) (inner : Outcome)
    (hm : lookup st k = none) (hi : ∀ p, inner.res ≠ .ok p) :
    cachedTimestamp up st k inner = (inner, st) := by
  unfold cachedTimestamp
  cases up <;> simp only [hm, if_true, Bool.false_eq_true, if_false]
  all_goals (split <;> first | rfl | (rename_i p h; exact absurd h (hi _)))

/-- non-vacuity: second request for the same key is served from the cache -/
example :
    let t : Token := ⟨2, true, 1, true, .tst ⟨some 7, 1100, true, some 0⟩, none, 1, true⟩
    let k : Key := ⟨false, 0, 5, 100⟩
    let inner : Outcome := ⟨.ok (.url 0, t), [0], []⟩
    (cachedTimestamp true (cachedTimestamp true [] k inner).2 k inner).1 = ⟨.ok (.cache, t), [], []⟩ := by decide +kernel

/-- a poisoned cache entry (a token for another signature) cannot end up in a signature -/
theorem cached_token_still_checked (H : Nat → Nat) (g : Bool) (flow : Flow) (ed leaf : Nat) (t : Token) (a : Artefact)
    (h : (signWith H g flow ed leaf ⟨.ok (.cache, t), [], []⟩).res = .ok a) : Covers H t ed := by
  obtain ⟨s, t', cs, hres, ha, hv⟩ := signWith_ok h
  cases hres
  exact selfcheck_covers (ha ▸ hv)

/-- **absent_nonce_panics** (F11) — a granted, correctly signed reply whose TSTInfo omits the optional nonce
reaches `req.Nonce.Cmp(nil)`: nil dereference instead of an error; the next authority is never tried. -/
theorem absent_nonce_panics (r : Req) (hr : r.legacy = false) (t : Token) (i : TstInfo)
    (hc : t.content = .tst i) (hn : i.nonce = none) (hm : t.mdOK = true) (hs : t.sigOK = true) (hns : t.nSigners ≠ 0)
    (ws : List Wire) :
    (timestamp Cfg.asIs r false (.http 200 (.der 0 t false) :: ws)).res = .panic "nil-deref" := by
  simp [timestamp, tryFrom, doOne, parseBody, hr, sanityCheck, p7Verify, unpack, hc, hn, hm, hs, hns, Cfg.asIs]

/-- (F11, second site) zero-length eContent: `unpackTokenInfo` indexes byte 0 -/
theorem empty_content_panics (r : Req) (hr : r.legacy = false) (t : Token)
    (hc : t.content = .empty) (hm : t.mdOK = true) (hs : t.sigOK = true) (hns : t.nSigners ≠ 0) (ws : List Wire) :
    (timestamp Cfg.asIs r false (.http 200 (.der 0 t false) :: ws)).res = .panic "index" := by
  simp [timestamp, tryFrom, doOne, parseBody, hr, sanityCheck, p7Verify, unpack, hc, hm, hs, hns, Cfg.asIs]

/-- the same zero-length content in an *attached* token crashes the verifier (`pkcs9.Verify`) -/
theorem empty_content_panics_verifier (H : Nat → Nat) (t : Token) (ed leaf : Nat)
    (hc : t.content = .empty) (hns : t.nSigners = 1) :
    verifyAttach H false ⟨ed, leaf, .tsToken t⟩ = .panic "index" := by
  simp [verifyAttach, verifyRfcToken, unpack, hc, hns]

/-- with the guards of fix-F11 no reply makes the client panic -/
theorem no_panic_with_guards (c : Cfg) (r : Req) (w : Wire) (hg : c.guards = true) (s : String) :
    doOne c r w ≠ .panic s := by
  intro h
  cases w with
  | reset => simp [doOne] at h
  | hang => simp only [doOne] at h; split at h <;> simp at h
  | cancel => simp [doOne] at h
  | http code b =>
    -- `timeout` only matters for a hanging authority (settled above): with it set, `doOne_errs` applies
    have h2 : doOne { c with timeout := true } r (.http code b) = .panic s := h
    exact (doOne_errs { c with timeout := true } r (.http code b) hg rfl).ne_panic s h2

/-- the property's notion of an acceptable reply, independent of what a given tree checks -/
def Acceptable (r : Req) (w : Wire) : Prop :=
  ∃ t, if r.legacy = true then GenuineLegacy r w t else Genuine Cfg.fixed r w t

/-- the full-strength failover statement: as long as no acceptable reply has arrived (and the caller has
not cancelled) the next configured authority is tried -/
def failover_total_full (c : Cfg) : Prop :=
  ∀ (r : Req) (ws : List Wire) (k : Nat), k < ws.length →
    (∀ j w, j < k → ws[j]? = some w → ¬ Acceptable r w ∧ w ≠ .cancel) →
    k ∈ (timestamp c r false ws).contacted

/-- it holds for a tree whose client performs every check before the failover decision -/
theorem failover_total (c : Cfg) (hg : c.guards = true) (hl : c.legacyChecked = true) (ha : c.algChecked = true)
    (ht : c.timeout = true) : failover_total_full c := by
  intro r ws k hk hbefore
  rw [failover_order]
  simp only [Bool.false_eq_true, if_false, List.mem_range]
  have := attempts_ge c r ws k hk (by
    intro j w hj hw
    obtain ⟨hna, hnc⟩ := hbefore j w hj hw
    cases hs : stops c r w with
    | false => rfl
    | true =>
      exfalso
      rcases (stops_iff c r w hg ht).1 hs with ⟨t, hok⟩ | hc
      · apply hna
        refine ⟨t, ?_⟩
        cases hleg : r.legacy with
        | true => simpa using (accept_legacy_iff c r w t hleg hl).1 hok
        | false =>
          simp only [Bool.false_eq_true, if_false]
          exact ((accept_iff c r w t hleg).1 hok).fixed ha
      · exact hnc hc)
  omega

/-- the unchanged tree violates it in the legacy (Microsoft) style: the reply is not inspected by the client,
the mismatch is only found by the self-check after attachment, and signing fails although the second
authority would have served (URL 1 is never contacted). -/
theorem legacy_unverified_no_failover :
    let bad : Token := ⟨1, false, 1, true, .data 101, some (some 0), 1, true⟩
    let good : Token := ⟨2, false, 1, true, .data 100, some (some 0), 1, true⟩
    let so := sign (· + 1000) Cfg.asIs ⟨true, false, false, true⟩ .manifest true false 7 100 10
      [.http 200 (.b64 (some bad)), .http 200 (.b64 (some good))]
    so.res = .err "selfcheck:imprint" ∧ so.outcome.contacted = [0] := by
  decide +kernel

theorem failover_total_fails_asIs : ¬ failover_total_full Cfg.asIs := by
  intro h
  have h1 := h ⟨true, 7, 100⟩
    [.http 200 (.b64 (some ⟨1, false, 1, true, .data 101, some (some 0), 1, true⟩)),
     .http 200 (.b64 (some ⟨2, false, 1, true, .data 100, some (some 0), 1, true⟩))] 1 (by decide)
    (by
      intro j w hj hw
      obtain rfl : j = 0 := by omega
      cases hw
      refine ⟨?_, by decide⟩
      rintro ⟨t, hw1, hc, _⟩
      cases hw1
      cases hc)
  revert h1
  decide +kernel

def validTok (n imp : Nat) : Token := ⟨1, true, 1, true, .tst ⟨some n, imp, true, some 0⟩, none, 1, true⟩

/-- same for an RFC 3161 reply whose imprint names another hash algorithm (bytes equal): `SanityCheckToken`
compares only the bytes; `MessageImprint.Verify` in the self-check then fails and no other authority is tried -/
theorem alg_unchecked_no_failover :
    let so := sign (· + 1000) Cfg.asIs ⟨true, false, false, true⟩ .p7 false false 7 100 10
      [.http 200 (.der 0 ⟨1, true, 1, true, .tst ⟨some 7, 1100, false, some 0⟩, none, 1, true⟩ false),
       .http 200 (.der 0 (validTok 7 1100) false)]
    so.res = .err "selfcheck:imprint" ∧ so.outcome.contacted = [0] := by
  decide +kernel

end Relic.Props.C10
