/-
  C01 — option table (which signer type accepts which key type × digest × flag).
  The table is `Relic.Model.Options.verdict`; it is compared exhaustively with the real signers on every run.
-/
import Relic.Model.Options
import Relic.Proofs.Res
namespace Relic.Props.C01
open Relic.Options

/-- For every X.509-based signer type the verdict does not depend on the key
    type: RSA and all three ECDSA curves are accepted or refused alike. -/
theorem option_table_key_independent (t : SigType) (k k' : KeyKind) (h : Hash) (p : Bool) (hx : needsPgp t = false) :
    verdict t k h p = verdict t k' h p := by
  simp [verdict, hx]

/-- Every combination is either accepted or refused with one of the two
    explicit classes; PGP-based types refuse exactly the non-RSA keys (no PGP certificate exists for them). -/
theorem option_table_refusal_is_classified (t : SigType) (k : KeyKind) (h : Hash) (p : Bool) :
    (verdict t k h p = .refusedKey ↔ (needsPgp t = true ∧ k ≠ .rsa)) ∧
    (verdict t k h p = .ok → hashOk t h = true) := by
  -- by the order of the tests in `verdict`: only the first refuses the key, and `ok` lies behind the test of `hashOk`
  unfold verdict
  by_cases c1 : (needsPgp t && k != .rsa) = true
  · rw [if_pos c1]
    exact ⟨⟨fun _ => by simpa using c1, fun _ => rfl⟩, fun e => nomatch e⟩
  · rw [if_neg c1]
    refine ⟨⟨fun e => by simp [Relic.ite_eq_iff] at e, fun e => absurd (by simpa using e) c1⟩, fun e => ?_⟩
    by_cases c2 : (!hashOk t h) = true
    · rw [if_pos c2] at e
      cases e
    · simpa using c2

/-- every type accepts SHA-256 with an RSA key (the default configuration is never refused) -/
theorem option_table_default_accepted (t : SigType) (p : Bool) : verdict t .rsa .sha256 p = .ok := by
  cases t <;> cases p <;> decide

example : verdict .apk .p256 .sha1 false = .refusedHash ∧ verdict .deb .p256 .sha256 false = .refusedKey ∧
    verdict .pecoff .rsa .sha512 true = .refusedHash ∧ verdict .pecoff .rsa .sha512 false = .ok := by decide

end Relic.Props.C01
