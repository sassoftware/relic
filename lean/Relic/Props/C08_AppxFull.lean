/-
  C08 (APPX), end to end: signing relic's own output again with the same parts reproduces the file and the five hashed
  streams (`appx_resign_idempotent`).  The statement `appx_resign_replaces_full` of C08_Appx.lean is provable but says
  nothing (`appx_resign_replaces_vacuous`).
-/
import Relic.Props.C08_Appx
import Relic.Props.C01_AppxFull
import Relic.Proofs.AppxResign
namespace Relic.Props.C08
open Relic.ZipOwn Relic.Appx

/-- **appx_resign_replaces_vacuous.** `appx_resign_replaces_full` holds VACUOUSLY: it asks for SOME codec `c'` under which
    every successful second signing reproduces the file, and a codec whose manifest parser always fails never signs
    anything (`DigestAppxTar` ends with "missing manifest").  The statement therefore carries no information about relic; the
    meaningful statement is `appx_resign_idempotent` below (same codec, the second signing SUCCEEDS). -/
theorem appx_resign_replaces_vacuous : appx_resign_replaces_full := by
  intro c z ps r _ _
  refine ⟨{ c with manifestOk := fun _ => false }, fun r' h' => ?_⟩
  exact absurd h' (sign_needs_manifestOk (fun _ => rfl) _ _ _)

/-- **appx_resign_idempotent.** For every codec, package and parts: if relic signs (`sign c z ps = .ok r`), then signing the
    output again with the SAME codec and the SAME parts succeeds and returns the same file and the same five streams,
    provided that
    * the deflated parts are coherent with the codec (block map, content types, signature, and the catalog when one is
      written; the manifest is stored), and the codec's parsers accept the parts relic wrote: manifest, content types, and
      the block map part parses to the block map this signing marshalled (`r.bm`: names and `Size` attributes);
    * sizes as in `C01.appx_sign_then_verify_zip`: manifest not empty, block map descriptor recognised (F7a), part sizes and
      signature length < 2^64 (8-byte size fields), output < 2^63; no 4 GiB limit (`WriteDirectory` is idempotent).
    No hypothesis about `*.appx` members (F41 concerns the verifier only) nor about the payload otherwise: the second forward
    pass re-reads, at the same offsets of an identical prefix, what the first one read. -/
theorem appx_resign_idempotent (c : Codec) (z : Bytes) (ps : Parts) (r : Signed) (hsign : sign c z ps = .ok r)
    (hbm : c.inflate ps.blockmap.compd = some ps.blockmap.plain)
    (hct : c.inflate ps.ctypes.compd = some ps.ctypes.plain)
    (hcat : r.streams.axci.isSome = true → c.inflate ps.catalog.compd = some ps.catalog.plain)
    (hsg : c.inflate ps.signature.compd = some ps.signature.plain)
    (hmo : c.manifestOk ps.manifest.plain = true) (hcto : c.ctypesOk ps.ctypes.plain = true)
    (hold : c.blockMap ps.blockmap.plain = some (r.bm.map fun f => (f.name, f.blocks.map (·.2))))
    (hman : ps.manifest.plain ≠ [] ∧ ps.manifest.plain.length < 2 ^ 64)
    (hbms : descWideOk ps.blockmap.compd.length ps.blockmap.plain.length ∧
      ps.blockmap.compd.length < 2 ^ 64 ∧ ps.blockmap.plain.length < 2 ^ 64)
    (hcts : ps.ctypes.compd.length < 2 ^ 64 ∧ ps.ctypes.plain.length < 2 ^ 64)
    (hcats : r.streams.axci.isSome = true → ps.catalog.compd.length < 2 ^ 64 ∧ ps.catalog.plain.length < 2 ^ 64)
    (hsigs : ps.signature.plain.length < 2 ^ 64)
    (h63 : r.out.length < 2 ^ 63) :
    ∃ r', sign c r.out ps = .ok r' ∧ r'.out = r.out ∧ r'.streams = r.streams := by
  have hsmall : ∀ g, digest c z = .ok g → PartsSmall g.p.hasPE ps := fun g hg =>
    partsSmall_of hman.2 hbms.2 hcts fun hb => hcats (by rw [C01.sign_digest_unique hsign hg, hb])
  exact resign_same ⟨hsign, hman.1, hbms.1, hsmall, hsigs, h63⟩ hbm hct
    (fun g hg hb => hcat (by rw [C01.sign_digest_unique hsign hg, hb])) hsg hmo hcto hold

/-- a codec that inflates the deflated parts of `C05.psEx` and parses its block map part `[66]` as the block map the
    signing of `C05.zEx` marshals (payload member `a`, one block; the manifest, one block) -/
def cR : Codec :=
  { inflate := fun x => if x = [3, 0] then some [66] else if x = [3, 1] then some [67]
      else if x = [9, 9] then some [80, 75, 67, 88] else none,
    peOk := fun _ => true, manifestOk := fun _ => true,
    blockMap := fun x => if x = [66] then some [([97], [0]), (zipToDos Appx.sManifest, [0])] else none,
    ctypesOk := fun _ => true }

set_option maxRecDepth 20000 in
/-- the hypotheses of `appx_resign_idempotent` hold for the witness package of C05: its signed form is signed again into
    the same file -/
example : ∃ r r', sign cR C05.zEx C05.psEx = .ok r ∧ sign cR r.out C05.psEx = .ok r' ∧ r'.out = r.out ∧ r'.streams = r.streams := by
  have h : C05.okAnd (sign cR C05.zEx C05.psEx) (fun r => r.streams.axci.isNone &&
      decide (r.out.length < 2 ^ 63) &&
      decide (cR.blockMap C05.psEx.blockmap.plain = some (r.bm.map fun f => (f.name, f.blocks.map (·.2))))) = true := by decide +kernel
  obtain ⟨r, hr, hp⟩ := C01.okAnd_ok h
  simp only [Bool.and_eq_true, decide_eq_true_eq] at hp
  obtain ⟨⟨h1, h3⟩, h4⟩ := hp
  have hnone : ¬ r.streams.axci.isSome = true := by
    cases hx : r.streams.axci <;> simp [hx] at h1 ⊢
  obtain ⟨r', e1, e2, e3⟩ := appx_resign_idempotent cR C05.zEx C05.psEx r hr (by decide) (by decide) (fun hc => absurd hc hnone)
    (by decide) (by decide) (by decide) h4 (by decide) ⟨by unfold descWideOk; decide, by decide, by decide⟩ (by decide)
    (fun hc => absurd hc hnone) (by decide) h3
  exact ⟨r, r', hr, e1, e2, e3⟩

end Relic.Props.C08
