/-
  C08 — Re-signing replaces the signature; digests ignore existing signatures.   Security catalogs (signers/cat).
-/
import Relic.Proofs.CatSign
namespace Relic.Props.C08
open Relic.Der Relic.CatSign

/-- the new SignedData stays below the 2^31-byte limit of encoding/asn1's length reader -/
def Fits (k : Signer) (ci : Bytes) : Prop := ∀ d, (emitSD k ci (k.sign d)).length < 2 ^ 31

/-- **cat_resign_preserves_content.**  Re-signing relic's own output finds the ContentInfo of the original catalog again,
    byte for byte, and digests the same content octets: the digest ignores the existing signature. -/
theorem cat_resign_preserves_content (H : Bytes → Bytes) (k1 k2 : Signer) (x : Bytes) (s1 : Signed)
    (h1 : sign H k1 x = .ok s1) (hk : k1.WF) (hfit : Fits k1 s1.ci) :
    ∃ s2, sign H k2 s1.out = .ok s2 ∧ s2.ci = s1.ci ∧ s2.content = s1.content ∧ s2.ci <:+: x := by
  obtain ⟨hu, ho, hc, _, _⟩ := sign_inv H k1 x s1 h1
  have hu2 := unmarshalCI_signed H k1 x s1 h1 hk hfit
  refine ⟨_, sign_of_ci H k2 s1.out s1.ci s1.content hu2 ho hc, rfl, rfl, ?_⟩
  exact (unmarshalCI_inv x s1.ci hu).choose_spec.2.2

/-- **cat_resign_replaces.**  Signing an already signed catalog gives exactly what signing the original with the second key
    gives: one signer info, the second identity's chain, nothing of the first signature. -/
theorem cat_resign_replaces (H : Bytes → Bytes) (k1 k2 : Signer) (x : Bytes) (s1 : Signed)
    (h1 : sign H k1 x = .ok s1) (hk : k1.WF) (hfit : Fits k1 s1.ci) :
    sign H k2 s1.out = sign H k2 x := by
  have hu := (sign_inv H k1 x s1 h1).1
  have hu2 := unmarshalCI_signed H k1 x s1 h1 hk hfit
  exact sign_congr H k2 _ _ (by rw [hu2, hu])

/-- **cat_history.**  Any number of further signings: every round succeeds, and the final file is what the last key alone
    would have produced from the original catalog. -/
theorem cat_history (H : Bytes → Bytes) (x : Bytes) (k0 : Signer) (s0 : Signed) (h0 : sign H k0 x = .ok s0) :
    ∀ (ks : List Signer) (k : Signer), (∀ j ∈ k0 :: ks, j.WF ∧ Fits j s0.ci) →
      history H (ks ++ [k]) s0.out = (sign H k x).bind (fun s => .ok s.out) := by
  obtain ⟨hu, ho, hc, _, _⟩ := sign_inv H k0 x s0 h0
  -- invariant: the current file yields the original ContentInfo
  have key : ∀ (ks : List Signer) (k : Signer) (b : Bytes), unmarshalCI b = .ok s0.ci → (∀ j ∈ ks, j.WF ∧ Fits j s0.ci) →
      history H (ks ++ [k]) b = (sign H k x).bind (fun s => .ok s.out) := by
    intro ks
    induction ks with
    | nil =>
      intro k b hb _
      have e : sign H k b = sign H k x := sign_congr H k _ _ (by rw [hb, hu])
      simp only [List.nil_append, history, e]
      cases sign H k x <;> rfl
    | cons j js ih =>
      intro k b hb hall
      have hj := sign_of_ci H j b s0.ci s0.content hb ho hc
      simp only [List.cons_append, history, hj]
      refine ih k _ ?_ (fun i hi => hall i (by simp [hi]))
      -- `have` first: the application must be elaborated without the goal as expected type
      have := unmarshalCI_signed H j b _ hj (hall j (by simp)).1 (hall j (by simp)).2
      exact this
  intro ks k hall
  refine key ks k s0.out ?_ (fun j hj => hall j (by simp [hj]))
  exact unmarshalCI_signed H k0 x s0 h0 (hall k0 (by simp)).1 (hall k0 (by simp)).2

/-- a small catalog on which the hypotheses hold: ContentInfo { szOID_CTL, [0] { SEQUENCE { NULL } } } in a SignedData
    without signer infos, and an identity with an empty chain -/
def demoKey : Signer := ⟨[0x30, 0x00], [0x01], [], [0x30, 0x00], [0x30, 0x00], fun _ => [0xAA, 0xBB]⟩
def demoCI : Bytes := [0x30, 0x11, 0x06, 0x09, 0x2b, 0x06, 0x01, 0x04, 0x01, 0x82, 0x37, 0x0a, 0x01, 0xA0, 0x04, 0x30, 0x02, 0x05, 0x00]

/-- `splitTLVs` is defined by well-founded recursion and does not reduce, so `decide` cannot evaluate it even on the
    empty chain: its equation `splitTLVs_nil` is used instead -/
theorem demoKey_wf : demoKey.WF := by
  unfold Signer.WF demoKey
  show (splitTLVs []).isOk = true
  rw [splitTLVs_nil]; rfl

theorem demoKey_fits : Fits demoKey demoCI := by
  intro d
  show (emitSD demoKey demoCI [0xAA, 0xBB]).length < 2 ^ 31
  decide

example : demoKey.WF := demoKey_wf
example : Fits demoKey demoCI := demoKey_fits

/-- the demo catalog is signable, and so is every output of signing it -/
theorem demo_signable (H : Bytes → Bytes) :
    sign H demoKey (emitSD demoKey demoCI [0xAA, 0xBB]) = .ok ⟨emitSD demoKey demoCI [0xAA, 0xBB], demoCI, [0x05, 0x00], [0xAA, 0xBB]⟩ := by
  have e : demoCI = tlv 0x30 (demoCI.drop 2) := by decide
  have hu : unmarshalCI (emitSD demoKey demoCI [0xAA, 0xBB]) = .ok demoCI := by
    have := unmarshalCI_emitSD demoKey (demoCI.drop 2) [0xAA, 0xBB] demoKey_wf
      (by decide) (by rw [← e]; decide)
    rwa [← e] at this
  exact sign_of_ci H demoKey _ demoCI [0x05, 0x00] hu (by decide) (by decide)

end Relic.Props.C08
