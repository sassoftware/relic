/-
  C03 fragment — MSI: signing never alters the payload (streams and storages other than the two signature streams,
  the root entry), and a refusal has exactly one cause.
-/
import Relic.Props.C01_Msi
namespace Relic.Props.C03
open Relic.MsiDigest Relic.MsiSign

/-- **msi_payload_preserved.** `InsertMSISignature` on a document of the class, for every blob and every
    extended-signature value: the entries of the root storage other than the two signature streams are exactly what they
    were – same order, every field, content and whole sub-tree – and so are the root entry and its content; after
    `Close` and `ReadFile` they are the same up to tree links, start sectors and `ListDir` order (`PayloadSame`). -/
theorem msi_payload_preserved (d : Node) (hd : DocOk d) (pkcs ex : Bytes) (s₁ s₂ : Nat) :
    ∃ d₁, insertMSISignature d pkcs ex s₁ s₂ = .ok d₁ ∧
      payload d₁.kids = payload d.kids ∧ d₁.meta = d.meta ∧ d₁.content = d.content ∧
      ∀ d', Reread d₁ d' → PayloadSame d d' :=
  ⟨_, hd.insertOk pkcs ex s₁ s₂, payload_inserted d.kids pkcs ex s₁ s₂, rfl, rfl,
    fun _ h => (payloadSame_inserted d pkcs ex s₁ s₂).trans (payloadSame_reread h)⟩

theorem msi_sign_payload_preserved (H : Nat → Bytes → Bytes) (mk : Nat → Bytes → Bytes) (d : Node) (hd : DocOk d)
    (hsafe : tarRootOkB d.kids = true) (alg : Nat) (noExt : Bool) (s₁ s₂ : Nat) :
    ∃ d₁, signMSI H mk alg noExt d s₁ s₂ = .ok d₁ ∧ payload d₁.kids = payload d.kids ∧ d₁.meta = d.meta ∧
      ∀ d', Reread d₁ d' → PayloadSame d d' :=
  ⟨_, sign_eq H mk d hd hsafe alg noExt s₁ s₂, payload_inserted d.kids _ _ s₁ s₂, rfl,
    fun _ h => (payloadSame_inserted d _ _ s₁ s₂).trans (payloadSame_reread h)⟩

example : DocOk C05.sampleRoot := C01.sampleRoot_ok.1
example : (payload C05.sampleRoot.kids).length = 4 := by decide +kernel

/-- **msi_fold_alias_deleted.** FINDING Fmsi-fold (repaired; see `Relic.Props.C01.msi_fold_alias_breaks_verify`), a
    statement about the ORIGINAL code: outside the class – a payload stream whose name folds to a signature name –
    signing deleted a payload stream.  The repaired `InsertMSISignature` refuses. -/
theorem msi_fold_alias_deleted :
    noAliasB C01.aliasRoot.kids = false ∧ (payload C01.aliasRoot.kids).length = 2 ∧
    (∃ d, insertMSISignatureOrig C01.aliasRoot [1] [] 0 0 = .ok d ∧ (payload d.kids).length = 1) ∧
    insertMSISignature C01.aliasRoot [1] [] 0 0 = .err "alias" :=
  ⟨by decide +kernel, by decide +kernel, ⟨_, Res.eq_ok_of_isOk C01.aliasRoot _ (by decide +kernel), by decide +kernel⟩, by rfl⟩

/-- the body of `InsertMSISignature` after the name test: on *any* document it either succeeds or fails with the storage
    error, and it fails only if an entry of the root storage whose name folds to one of the two signature names is not
    a stream -/
theorem insertOrig_fails_only_on_storage (d : Node) (pkcs ex : Bytes) (s₁ s₂ : Nat) :
    (∃ d₁, insertMSISignatureOrig d pkcs ex s₁ s₂ = .ok d₁) ∨
    (insertMSISignatureOrig d pkcs ex s₁ s₂ = .err "storage" ∧
      ∃ n ∈ d.kids, (equalFold (goName n.meta) sigName = true ∨ equalFold (goName n.meta) sigExName = true) ∧
        n.meta.typ ≠ typStream) := by
  rw [insertOrig_eq]
  cases h1 : d.kids.all (deletable sigExName) with
  | false =>
    obtain ⟨n, hn, hq⟩ := List.all_eq_false.mp h1
    exact Or.inr ⟨rfl, n, hn, Or.inr (not_deletable hq).1, (not_deletable hq).2⟩
  | true =>
    cases h2 : (d.kids.filter (fun n => !equalFold (goName n.meta) sigExName)).all (deletable sigName) with
    | false =>
      obtain ⟨n, hn, hq⟩ := List.all_eq_false.mp h2
      exact Or.inr ⟨rfl, n, (List.mem_filter.mp hn).1, Or.inl (not_deletable hq).1, (not_deletable hq).2⟩
    | true => exact Or.inl ⟨_, rfl⟩

/-- **msi_insert_fails_only_on_storage.** On *any* document `InsertMSISignature` either succeeds, or refuses a mere
    case variant of a signature name (alias error, exactly when there is one), or fails with the storage error, and
    that only if an entry of the root storage carrying a signature name is not a stream.  (It returns before `Close`, so
    the directory on disk is not rewritten.) -/
theorem msi_insert_fails_only_on_storage (d : Node) (pkcs ex : Bytes) (s₁ s₂ : Nat) :
    (∃ d₁, insertMSISignature d pkcs ex s₁ s₂ = .ok d₁) ∨
    (insertMSISignature d pkcs ex s₁ s₂ = .err "alias" ∧ noAliasB d.kids = false) ∨
    (insertMSISignature d pkcs ex s₁ s₂ = .err "storage" ∧
      ∃ n ∈ d.kids, (equalFold (goName n.meta) sigName = true ∨ equalFold (goName n.meta) sigExName = true) ∧
        n.meta.typ ≠ typStream) := by
  unfold insertMSISignature
  cases ha : noAliasB d.kids with
  | false => right; left; simp
  | true =>
    simp only [Bool.not_true, Bool.false_eq_true, if_false]
    rcases insertOrig_fails_only_on_storage d pkcs ex s₁ s₂ with h | h
    · left; exact h
    · right; right; exact h

example : insertMSISignature C01.sigStorageRoot [1] [2] 0 0 = .err "storage" := by rfl

end Relic.Props.C03
