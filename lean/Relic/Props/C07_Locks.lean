/-
  C07 — "a key lookup that resolves to a different key than requested … results in an error": the worker's Sign request
  pins the id of the key whose certificate the client embedded; token/tokencache answers a pinned lookup with that id or
  not at all, from every cache state and hence under every interleaving of atomic lookups (C15: pinned_lookup_returns_pinned;
  atomicity = the generated obligation on Cache.GetKey's lock span).
-/
import Relic.Props.C15_Locks
namespace Relic.Props.C07
open Relic.LockSpan Relic.KeyCache

theorem key_lookup_atomic_generated : heldThroughout Generated.Locks.cacheGetKey = true :=
  Relic.Props.C15.cache_getKey_atomic_generated

theorem key_lookup_resolves_to_requested (expiry : Nat) (fetch : Nat → KeyId → Option KeyId) (s : State)
    (now : Nat) (want : KeyId) (name : Nat) (hw : want ≠ [])
    (hf : ∀ i, fetch name want = some i → i = want) (id : KeyId) (src : Src)
    (h : (getKey expiry fetch s now want name).1 = some (id, src)) : id = want :=
  Relic.Props.C15.pinned_lookup_returns_pinned expiry fetch s now want name hw hf id src h

end Relic.Props.C07
