/-
  C02 (APPX / MSIX packages and bundles, part level): what `signappx.Verify` protects.

  The verifier is the list of steps `verifySteps` (model `Relic.Model.AppxPkg`); `run H steps = .ok ()` is acceptance under the
  hash family `H`.  Collision-freeness is never assumed: the conclusions hold *or an explicit collision of `H` exists*
  (`Collision H`).
-/
import Relic.Proofs.AppxPkg
namespace Relic.Props.C02
open Relic.Appx Relic.AppxPkg

/-- **appx_verify_ok_iff.** `Verify` accepts a package (no bundle manifest) iff the signature part opens, the block map, the
    catalog and the content types are present exactly when their digest is and hash to it, the covered members match the block
    map, the catalog (if any) is signed with the same certificate, the two ZIP-level streams hash to AXPC and AXCD, and the
    Publisher read from the manifest is the formatted subject of the signing certificate. -/
theorem appx_verify_ok_iff (H : Nat → Bytes → Bytes) (fx : Fx) (E : Env) (n : Nat) (v : View) (hb : v.isBundle = false) :
    run H (verifySteps fx E n v) = .ok () ↔
      ∃ s, readSig E v = .ok s ∧
        run H (fileSteps v s tAXBM sBlockMap "axbm") = .ok () ∧ run H (fileSteps v s tAXCI sCatalog "axci") = .ok () ∧
        run H (fileSteps v s tAXCT sCTypes "axct") = .ok () ∧ run H (bmSteps E v) = .ok () ∧ run H (catSteps E v s) = .ok () ∧
        run H (metaSteps v s) = .ok () ∧ run H (manifestSteps fx E v s) = .ok () :=
  verify_package_ok hb

/-- **appx_unsigned_is_notsigned.** A package without a member named `AppxSignature.p7x` is reported as not signed (never as
    valid), whatever else it holds. -/
theorem appx_unsigned_is_notsigned (H : Nat → Bytes → Bytes) (fx : Fx) (E : Env) (n : Nat) (v : View) (h : v.find sSignature = none) :
    run H (verifySteps fx E n v) = .err "notsigned" := by
  cases n <;> simp [verifySteps, verifyCore, readSig, h, stopOf, run]

/-- a signature part that does not start with "PKCX" is an invalid signature -/
theorem appx_bad_prefix_rejected (H : Nat → Bytes → Bytes) (fx : Fx) (E : Env) (n : Nat) (v : View) (m : Entry) (blob : Bytes)
    (h : v.find sSignature = some m) (hc : m.content = .ok blob) (hp : blob.take 4 ≠ tPKCX) :
    run H (verifySteps fx E n v) = .err "badsig" := by
  cases n <;> simp [verifySteps, verifyCore, readSig, h, hc, hp, stopOf, run]

/-- **appx_member_covered_iff.** The members `verifyBlockMap` does *not* look up in the block map are exactly the signature
    part, the catalog, `[Content_Types].xml`, the block map itself and — in a bundle only — members named `*.appx`. -/
theorem appx_member_covered_iff (isBundle : Bool) (n : Bytes) :
    covered isBundle n = false ↔
      n = sSignature ∨ n = sCatalog ∨ n = sCTypes ∨ n = sBlockMap ∨ (isBundle = true ∧ Zip.endsWith n sAppx = true) := by
  simp only [covered, noHash, isAppxName, Bool.not_eq_false', Bool.or_eq_true, Bool.and_eq_true, beq_iff_eq, or_assoc]

/-- **appx_covered_members_matched.** In an accepted package every other member, in directory order, is matched with the
    `File` element at the same position: same name (slashes as backslashes), same size, as many blocks as 64 KiB pieces, and
    every piece hashes to its block. -/
theorem appx_covered_members_matched (H : Nat → Bytes → Bytes) (fx : Fx) (E : Env) (n : Nat) (v : View) (hb : v.isBundle = false)
    (ha : run H (verifySteps fx E n v) = .ok ()) :
    ∃ m blob bm alg pre rest, v.find sBlockMap = some m ∧ m.content = .ok blob ∧ E.parseBM blob = some bm ∧ bm.alg = some alg ∧
      bm.files = pre ++ rest ∧ All2 (Match H alg) (v.entries.filter fun f => covered false f.name) pre := by
  obtain ⟨s, _, _, _, _, h4, _⟩ := (appx_verify_ok_iff H fx E n v hb).1 ha
  obtain ⟨m, blob, bm, alg, h1, h2, h3, h5, h6⟩ := bmSteps_ok.1 h4
  rw [hb] at h6
  obtain ⟨pre, rest, e, hall⟩ := bmLoop_ok.1 h6
  exact ⟨m, blob, bm, alg, pre, rest, h1, h2, h3, h5, e, hall⟩

/-- `archive/zip` delivers exactly `UncompressedSize64` bytes or an error -/
def WF (v : View) : Prop := ∀ f ∈ v.entries, ∀ p, f.content = .ok p → p.length = f.usize

/-- what `files[name]` holds, as the verifier reads it -/
def part (v : View) (name : Bytes) : Option (Res Bytes) := (v.find name).map (·.content)

/-- the covered members of a package, in directory order -/
def coveredMembers (v : View) : List Entry := v.entries.filter fun f => covered v.isBundle f.name

/-- two member lists agree position by position as far as both go -/
def AgreeCommon (a b : List Entry) : Prop :=
  ∀ (i : Nat) (f g : Entry), a[i]? = some f → b[i]? = some g → zipToDos f.name = zipToDos g.name ∧ f.usize = g.usize ∧ f.content = g.content

theorem fileSteps_agree {H : Nat → Bytes → Bytes} {v v' : View} {s : Sig} {tag name : Bytes} {c c' : String}
    (h : run H (fileSteps v s tag name c) = .ok ()) (h' : run H (fileSteps v' s tag name c') = .ok ()) :
    part v name = part v' name ∨ Collision H := by
  rcases fileSteps_ok.1 h with ⟨f1, t1⟩ | ⟨m, p, e, f1, c1, t1, e1⟩
  · rcases fileSteps_ok.1 h' with ⟨f2, _⟩ | ⟨m', p', e', _, _, t2, _⟩
    · left; simp [part, f1, f2]
    · rw [t1] at t2; cases t2
  · rcases fileSteps_ok.1 h' with ⟨_, t2⟩ | ⟨m', p', e', f2, c2, t2, e2⟩
    · rw [t1] at t2; cases t2
    · rw [t1] at t2; cases t2
      by_cases hp : p = p'
      · left; simp [part, f1, f2, c1, c2, hp]
      · right; exact ⟨s.alg, p, p', hp, e1.trans e2.symm⟩

theorem all2_get {α β : Type} {R : α → β → Prop} : ∀ {a : List α} {b : List β}, All2 R a b → ∀ (i : Nat) (x : α), a[i]? = some x →
    ∃ y, b[i]? = some y ∧ R x y
  | _, _, .nil, i, x, h => by simp at h
  | _, _, .cons h0 _, 0, x, h => by simp at h; subst h; exact ⟨_, by simp, h0⟩
  | _, _, .cons _ ht, i + 1, x, h => by
    simp only [List.getElem?_cons_succ] at h ⊢
    exact all2_get ht i x h

theorem nblocks_mul_ge (u : Nat) : u ≤ nblocks u * blockSize := by
  unfold nblocks blockSize; omega

/-- **appx_tamper_evident.** Two packages accepted under the same signature (`readSig` gives the same certificate and digest
    list, e.g. because they carry the same signature part) agree on everything a digest covers, or `H` has a collision:
    `[Content_Types].xml` (AXCT), the block map (AXBM), the catalog incl. its presence (AXCI), the stream of local records
    before the signature part and the directory stream (`zmeta`: AXPC, AXCD), and — through the block map — name, size and
    contents of the covered members, position by position. -/
theorem appx_tamper_evident (H : Nat → Bytes → Bytes) (fx : Fx) (E : Env) (n : Nat) (v v' : View)
    (hb : v.isBundle = false) (hb' : v'.isBundle = false) (hwf : WF v) (hwf' : WF v')
    (hsig : readSig E v = readSig E v')
    (ha : run H (verifySteps fx E n v) = .ok ()) (ha' : run H (verifySteps fx E n v') = .ok ()) :
    Collision H ∨
      (part v sCTypes = part v' sCTypes ∧ part v sBlockMap = part v' sBlockMap ∧ part v sCatalog = part v' sCatalog ∧
       v.zmeta = v'.zmeta ∧ AgreeCommon (coveredMembers v) (coveredMembers v')) := by
  obtain ⟨s, hs, a1, a2, a3, a4, _, a6, _⟩ := (appx_verify_ok_iff H fx E n v hb).1 ha
  obtain ⟨s', hs', b1, b2, b3, b4, _, b6, _⟩ := (appx_verify_ok_iff H fx E n v' hb').1 ha'
  rw [hsig, hs'] at hs; cases hs
  by_cases hcol : Collision H
  · exact Or.inl hcol
  right
  have nc : ∀ {P : Prop}, P ∨ Collision H → P := fun h => h.resolve_right hcol
  have eBM := nc (fileSteps_agree a1 b1)
  refine ⟨nc (fileSteps_agree a3 b3), eBM, nc (fileSteps_agree a2 b2), ?_, ?_⟩
  · obtain ⟨pc, cd, z1, p1, c1⟩ := metaSteps_ok.1 a6
    obtain ⟨pc', cd', z2, p2, c2⟩ := metaSteps_ok.1 b6
    have e1 : pc = pc' := Classical.byContradiction fun h => hcol ⟨s.alg, pc, pc', h, p1.trans p2.symm⟩
    have e2 : cd = cd' := Classical.byContradiction fun h => hcol ⟨s.alg, cd, cd', h, c1.trans c2.symm⟩
    rw [z1, z2, e1, e2]
  · obtain ⟨m, blob, bm, alg, f1, c1, p1, g1, l1⟩ := bmSteps_ok.1 a4
    obtain ⟨m', blob', bm', alg', f2, c2, p2, g2, l2⟩ := bmSteps_ok.1 b4
    have : blob = blob' := by
      have := eBM
      simp only [part, f1, f2, Option.map_some, Option.some.injEq, c1, c2, Res.ok.injEq] at this
      exact this
    subst this
    rw [p1] at p2; cases p2
    rw [g1] at g2; cases g2
    obtain ⟨pre, rest, e, hall⟩ := bmLoop_ok.1 l1
    obtain ⟨pre', rest', e', hall'⟩ := bmLoop_ok.1 l2
    show AgreeCommon _ _
    unfold AgreeCommon coveredMembers
    intro i f g hf hg
    obtain ⟨b, hb1, hm⟩ := all2_get hall i f hf
    obtain ⟨b', hb2, hm'⟩ := all2_get hall' i g hg
    -- both are the `File` element at position `i`
    have key : ∀ {pre rest : List AppxPkg.BmFile} {x : AppxPkg.BmFile}, bm.files = pre ++ rest → pre[i]? = some x →
        bm.files[i]? = some x :=
      fun e hx => by rw [e, List.getElem?_append_left (List.getElem?_eq_some_iff.1 hx).1]; exact hx
    have : b = b' := Option.some.inj ((key e hb1).symm.trans (key e' hb2))
    subst this
    obtain ⟨n1, s1, k1, p, cp, rp⟩ := hm
    obtain ⟨n2, s2, _, q, cq, rq⟩ := hm'
    have hu : f.usize = g.usize := s1.symm.trans s2
    refine ⟨n1.symm.trans n2, hu, ?_⟩
    have fm : f ∈ v.entries := (List.mem_filter.1 (List.mem_of_getElem? hf)).1
    have gm : g ∈ v'.entries := (List.mem_filter.1 (List.mem_of_getElem? hg)).1
    have lp := hwf f fm p cp
    have lq := hwf' g gm q cq
    rw [← hu] at rq
    rcases blockSteps_inj b.blocks p q f.usize rp rq with h | h
    · have hge : f.usize ≤ b.blocks.length * blockSize := by rw [k1]; exact nblocks_mul_ge _
      rw [Nat.min_eq_left hge, List.take_of_length_le (by omega), List.take_of_length_le (by omega)] at h
      rw [cp, cq, h]
    · exact absurd h hcol

/-- toy hash: the first byte -/
def xH : Nat → Bytes → Bytes := fun _ b => b.take 1

def xE : Env :=
  { openSig := fun b => if b = [1] then .ok ⟨⟨[7], [83]⟩, 0, 1, tAPPX ++ tAXPC ++ [1] ++ tAXCD ++ [2] ++ tAXBM ++ [98]⟩ else .err "badsig",
    parseBM := fun b => if b = [98] then some ⟨some 0, [⟨[97], 1, [some [7]]⟩, ⟨zipToDos Appx.sManifest, 1, [some [77]]⟩]⟩ else none,
    openCat := fun _ => .err "catalog",
    parseManifest := fun b => if b = [77] then some ⟨true, [[⟨[], sPublisher, [83]⟩]]⟩ else none,
    parseBundle := fun _ => none, fmtName := id, unzip := fun _ => none, mapOrder := id }

def xView (payload : Bytes) : View :=
  ⟨[⟨[97], true, payload.length, 0, .ok payload, payload⟩, ⟨Appx.sManifest, true, 1, 0, .ok [77], [77]⟩,
    ⟨sBlockMap, false, 1, 0, .ok [98], [98]⟩, ⟨sSignature, false, 5, 0, .ok (tPKCX ++ [1]), tPKCX ++ [1]⟩], .ok ([1], [2])⟩

set_option maxRecDepth 20000 in
/-- a concrete accepted package (non-vacuity of the hypotheses above) and what happens to it when a member changes -/
example : run xH (verifySteps Fx.orig xE 0 (xView [7])) = .ok () ∧ (xView [7]).isBundle = false ∧
    run xH (verifySteps Fx.orig xE 0 (xView [8])) = .err "bm-digest" ∧
    run xH (verifySteps Fx.orig xE 0 (xView [7, 7])) = .err "bm-mismatch" := by decide +kernel

example : WF (xView [7]) := by
  intro f hf p hp
  simp only [xView, List.mem_cons, List.not_mem_nil, or_false] at hf
  rcases hf with rfl | rfl | rfl | rfl <;> (simp at hp; subst hp; rfl)

/-- a member's contents changed (same position, everything else as it may be): rejected, or a collision -/
theorem appx_member_change_rejected (H : Nat → Bytes → Bytes) (fx : Fx) (E : Env) (n : Nat) (v v' : View)
    (hb : v.isBundle = false) (hb' : v'.isBundle = false) (hwf : WF v) (hwf' : WF v') (hsig : readSig E v = readSig E v')
    (ha : run H (verifySteps fx E n v) = .ok ())
    (i : Nat) (f g : Entry) (hf : (coveredMembers v)[i]? = some f) (hg : (coveredMembers v')[i]? = some g)
    (hne : f.content ≠ g.content) :
    run H (verifySteps fx E n v') ≠ .ok () ∨ Collision H := by
  by_cases ha' : run H (verifySteps fx E n v') = .ok ()
  · rcases appx_tamper_evident H fx E n v v' hb hb' hwf hwf' hsig ha ha' with h | ⟨_, _, _, _, h⟩
    · exact Or.inr h
    · exact absurd (h i f g hf hg).2.2 hne
  · exact Or.inl ha'

/-- `[Content_Types].xml`, the block map or the catalog changed, added or removed: rejected, or a collision -/
theorem appx_part_change_rejected (H : Nat → Bytes → Bytes) (fx : Fx) (E : Env) (n : Nat) (v v' : View)
    (hb : v.isBundle = false) (hb' : v'.isBundle = false) (hwf : WF v) (hwf' : WF v') (hsig : readSig E v = readSig E v')
    (ha : run H (verifySteps fx E n v) = .ok ())
    (hne : part v sCTypes ≠ part v' sCTypes ∨ part v sBlockMap ≠ part v' sBlockMap ∨ part v sCatalog ≠ part v' sCatalog ∨
      v.zmeta ≠ v'.zmeta) :
    run H (verifySteps fx E n v') ≠ .ok () ∨ Collision H := by
  by_cases ha' : run H (verifySteps fx E n v') = .ok ()
  · rcases appx_tamper_evident H fx E n v v' hb hb' hwf hwf' hsig ha ha' with h | ⟨h1, h2, h3, h4, _⟩
    · exact Or.inr h
    · rcases hne with h | h | h | h
      · exact absurd h1 h
      · exact absurd h2 h
      · exact absurd h3 h
      · exact absurd h4 h
  · exact Or.inl ha'

/-- **appx_blockmap_trailing_files_accepted (gap).** `File` elements after the ones the members use up are ignored: a block map
    that lists members the package does not have passes `verifyBlockMap` (replayed: corpus/C02/appxv-gaps.ops, bm-trailing-file). -/
theorem appx_blockmap_trailing_files_accepted (H : Nat → Bytes → Bytes) (alg : Nat) (isBundle : Bool) (es : List Entry)
    (bms extra : List AppxPkg.BmFile) (h : run H (bmLoop alg isBundle es bms) = .ok ()) :
    run H (bmLoop alg isBundle es (bms ++ extra)) = .ok () := by
  obtain ⟨pre, rest, e, hall⟩ := bmLoop_ok.1 h
  exact bmLoop_ok.2 ⟨pre, rest ++ extra, by rw [e, List.append_assoc], hall⟩

example : run (fun _ b => b) (bmLoop 256 false [⟨[97], true, 1, 0, .ok [7], [7]⟩] [⟨[97], 1, [some [7]]⟩, ⟨[103], 5, []⟩]) = .ok () := by
  decide

/-- **appx_publisher_shadow_accepted_orig (gap, unrepaired code).** Whatever the manifest's `Identity` elements say, a further
    `Identity` element (or, in the last one, a further attribute with local name `Publisher` and any prefix — `x:Publisher`,
    `xmlns:Publisher`) decides what `checkManifest` compares with the certificate; the attribute a conformant reader sees is
    not looked at (replayed: corpus/C02/appxv-gaps.ops, publisher-*). -/
theorem appx_publisher_shadow_accepted_orig (root : Bool) (ids : List (List Xml.Attr)) (a : List Xml.Attr) (space y : Bytes) :
    readPublisher false ⟨root, ids ++ [a ++ [⟨space, sPublisher, y⟩]]⟩ = y ∧
    (ids ≠ [] → visiblePublisher ⟨root, ids ++ [a ++ [⟨space, sPublisher, y⟩]]⟩ = visiblePublisher ⟨root, ids⟩) := by
  constructor
  · simp [readPublisher, readAttr, List.foldl_append]
  · intro h
    cases ids with
    | nil => exact absurd rfl h
    | cons x r => rfl

/-- a manifest whose visible Publisher is `CN=Visible` is accepted for a certificate named `CN=Signer` -/
example : readPublisher false ⟨true, [[⟨[], sPublisher, [86]⟩], [⟨[], sPublisher, [83]⟩]]⟩ = [83] ∧
    visiblePublisher ⟨true, [[⟨[], sPublisher, [86]⟩], [⟨[], sPublisher, [83]⟩]]⟩ = some [86] := by decide

/-- **appx_publisher_visible_fixed.** With the repair the Publisher that is compared is the attribute `SetPublisher` writes: an
    accepted manifest's document element is called `Package` and the unprefixed `Publisher` attribute of its first `Identity`
    element is the formatted subject (or that name is empty and there is no such attribute). -/
theorem appx_publisher_visible_fixed (d : MDoc) (name : Bytes) (h : readPublisher true d = name) (hn : name ≠ []) :
    d.rootNamed = true ∧ visiblePublisher d = some name :=
  readPublisher_fixed h hn

/-- **appx_catalog_unrelated_to_members (gap).** `verifyCatalog` looks at the catalog part only: which members the package has,
    and what they contain, does not enter (the `TODO` in verify.go).  The catalog's bytes are bound by AXCI. -/
theorem appx_catalog_unrelated_to_members (E : Env) (v v' : View) (s : Sig) (h : v.find sCatalog = v'.find sCatalog) :
    catSteps E v s = catSteps E v' s := by
  unfold catSteps; rw [h]

theorem run_map_wrap (H : Nat → Bytes → Bytes) : ∀ (l : List Step), run H (l.map wrapStep) = .ok () ↔ run H l = .ok ()
  | [] => by simp [run]
  | .cmp cls alg s e :: r => by
    simp only [List.map_cons, wrapStep, run_cmp_ok, run_map_wrap H r]
  | .stop (.ok u) :: r => by
    simp only [List.map_cons, wrapStep, run, run_map_wrap H r]
  | .stop (.err e) :: r => by simp [wrapStep, run]
  | .stop (.panic e) :: r => by simp [wrapStep, run]
  | .stop .diverge :: r => by simp [wrapStep, run]

/-- what `verifyBundle` established for one `*.appx` member -/
def NestedOK (H : Nat → Bytes → Bytes) (E : Env) (nested : View → List Step) (s : Sig) (pk : List BPkg) (f : Entry) : Prop :=
  f.stored = true ∧ (∃ p ∈ pk, p.offset = (f.dataOff : Int) ∧ p.size = f.usize) ∧
    ∃ nv, E.unzip f.region = some nv ∧ run H (nested nv) = .ok () ∧ ∀ ns, readSig E nv = .ok ns → ns.cert.raw = s.cert.raw

theorem bundleLoop_ok {H : Nat → Bytes → Bytes} {fx : Fx} {E : Env} {nested : View → List Step} {s : Sig} {pk : List BPkg} :
    ∀ (es : List Entry) (seen : Seen), run H (bundleLoop fx E nested s pk es seen) = .ok () →
      ∀ f ∈ es, isAppxName f.name = true → NestedOK H E nested s pk f := by
  intro es seen
  fun_induction bundleLoop fx E nested s pk es seen
  case case2 => exact fun _ _ hf => nomatch hf
  case case3 e fs seen h0 ih =>
    intro h f hf ha
    rcases List.mem_cons.1 hf with rfl | hf'
    · rw [ha] at h0
      cases h0
    · exact ih h f hf' ha
  case case12 e fs seen _ h1 dn idx _ _ p hp h3 h4 nv hu ih =>
    intro h f hf ha
    simp only [run_append_ok, run_map_wrap] at h
    obtain ⟨⟨hn, hc⟩, hrest⟩ := h
    rcases List.mem_cons.1 hf with rfl | hf'
    · refine ⟨by simpa using h1, ⟨p, List.mem_of_getElem? hp, Decidable.of_not_not h3, Decidable.of_not_not h4⟩, nv, hu, hn, ?_⟩
      intro ns hns
      rw [hns] at hc
      by_cases hcr : ns.cert.raw = s.cert.raw
      · exact hcr
      · simp [hcr, run] at hc
    · exact ih hrest f hf' ha
  all_goals nofun

/-- **bundle_accept_implies.** An accepted bundle: the Publisher read from the bundle manifest is the formatted subject of the
    signing certificate, and every member named `*.appx` (last of its name) is stored, is listed in the bundle manifest with
    exactly its data offset and size, is itself accepted by `Verify` (as a package or bundle, one level down) and is signed
    with the same certificate. -/
theorem bundle_accept_implies (H : Nat → Bytes → Bytes) (fx : Fx) (E : Env) (n : Nat) (v : View) (hb : v.isBundle = true)
    (hperm : ∀ l : List Entry, ∀ f, f ∈ E.mapOrder l ↔ f ∈ l)
    (ha : run H (verifySteps fx E (n + 1) v) = .ok ()) :
    ∃ s m blob d, readSig E v = .ok s ∧ v.find sBundle = some m ∧ m.content = .ok blob ∧ E.parseBundle blob = some d ∧
      readPublisher fx.pub ⟨true, d.ids⟩ = E.fmtName s.cert.subject ∧
      ∀ f ∈ uniqLast v.entries, isAppxName f.name = true → NestedOK H E (verifySteps fx E n) s d.packages f := by
  simp only [verifySteps] at ha
  obtain ⟨s, hs, _, _, _, _, _, _, hbun⟩ := verifyCore_ok.1 ha
  rw [hb, if_pos rfl] at hbun
  obtain ⟨m, blob, d, hf, hc, hp, hpub, hloop⟩ := bundleSteps_ok.1 hbun
  exact ⟨s, m, blob, d, hs, hf, hc, hp, hpub, fun f hfm hax => bundleLoop_ok _ _ hloop f ((hperm _ f).2 hfm) hax⟩

/-- 'n.appx' -/
def xN : Bytes := [110, 46, 97, 112, 112, 120]

/-- the toy world with a bundle: the member `n.appx` (region [5]) unzips to the accepted package `xView [7]` -/
def xE2 : Env :=
  { xE with
    openSig := fun b => if b = [2] then .ok ⟨⟨[7], [83]⟩, 0, 1, tAPPX ++ tAXPC ++ [3] ++ tAXCD ++ [4] ++ tAXBM ++ [99]⟩ else xE.openSig b,
    parseBM := fun b => if b = [99] then some ⟨some 0, [⟨zipToDos sBundle, 1, [some [66]]⟩]⟩ else xE.parseBM b,
    parseBundle := fun b => if b = [66] then some ⟨[[⟨[], sPublisher, [83]⟩]], [⟨xN, 30, 1⟩]⟩ else none,
    unzip := fun b => if b = [5] then some (xView [7]) else none }

def xBundle (off : Nat) : View :=
  ⟨[⟨xN, true, 1, off, .ok [5], [5]⟩, ⟨sBundle, true, 1, 0, .ok [66], [66]⟩, ⟨sBlockMap, false, 1, 0, .ok [99], [99]⟩,
    ⟨sSignature, false, 5, 0, .ok (tPKCX ++ [2]), tPKCX ++ [2]⟩], .ok ([3], [4])⟩

set_option maxRecDepth 40000 in
/-- non-vacuity of `bundle_accept_implies`: an accepted bundle; the same bundle with another data offset is refused -/
example : run xH (verifySteps Fx.orig xE2 1 (xBundle 30)) = .ok () ∧ (xBundle 30).isBundle = true ∧
    run xH (verifySteps Fx.orig xE2 1 (xBundle 31)) = .err "bundle-offset" := by decide +kernel

/-- **bundle_duplicate_dosname_panics_orig (listed finding F-appx-bundle-dupname-panic).** Once a package name is marked as
    seen, a further stored `*.appx` member mapping to the same DOS name makes the unrepaired `verifyBundle` index
    `bundle.Packages[-1]`. -/
theorem bundle_duplicate_dosname_panics_orig (fx : Fx) (hfx : fx.dup = false) (E : Env) (nested : View → List Step) (s : Sig)
    (pk : List BPkg) (f : Entry) (fs : List Entry) (seen : Seen)
    (h1 : isAppxName f.name = true) (h2 : f.stored = true) (h3 : seenGet seen (zipToDos f.name) = some (-1)) :
    bundleLoop fx E nested s pk (f :: fs) seen = [.stop (.panic "verifyBundle:Packages[-1]")] := by
  unfold bundleLoop
  simp [h1, h2, h3, hfx]

/-- **bundle_duplicate_dosname_refused_fixed.** The repaired code refuses that member with an error. -/
theorem bundle_duplicate_dosname_refused_fixed (fx : Fx) (hfx : fx.dup = true) (E : Env) (nested : View → List Step) (s : Sig)
    (pk : List BPkg) (f : Entry) (fs : List Entry) (seen : Seen)
    (h1 : isAppxName f.name = true) (h2 : f.stored = true) (h3 : seenGet seen (zipToDos f.name) = some (-1)) :
    bundleLoop fx E nested s pk (f :: fs) seen = [.stop (.err "bundle-duplicate")] := by
  unfold bundleLoop
  simp [h1, h2, h3, hfx]

/-- the mark is reached: after `x/a.appx` has been accepted, `x\a.appx` finds it (`zipToDos` identifies the two names) -/
example : zipToDos [120, 47, 97] = zipToDos [120, 92, 97] ∧ seenGet (seenSet (seenInit [⟨[120, 92, 97], 5, 1⟩] 0 []) [120, 92, 97] (-1)) (zipToDos [120, 47, 97]) = some (-1) := by
  decide

/-- **bundle_msix_members_not_verified (limit).** Only names ending in `.appx` are treated as nested packages: a member named
    `*.msix` is skipped by the bundle loop (it is an ordinary, block-mapped member; if the manifest lists it, the bundle is
    refused as "bundle missing file"). -/
theorem bundle_msix_members_not_verified (fx : Fx) (E : Env) (nested : View → List Step) (s : Sig) (pk : List BPkg) (f : Entry)
    (fs : List Entry) (seen : Seen) (h : isAppxName f.name = false) :
    bundleLoop fx E nested s pk (f :: fs) seen = bundleLoop fx E nested s pk fs seen := by
  rw [bundleLoop]; simp [h]

example : isAppxName [97, 46, 109, 115, 105, 120] = false := by decide

end Relic.Props.C02
