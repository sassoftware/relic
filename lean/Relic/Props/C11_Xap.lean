/-
  C11 — Malformed input yields an error, never a crash or runaway resource use.   XAP part, over `Relic.Model.Xap`:
  `signxap.Verify` on arbitrary bytes and arbitrary `int64` sizes, `DigestXapTar` on arbitrary member lists,
  `removeSignature` on arbitrary blobs.  Line by line:
    * `size-10`, `size-22`, `size -= int64(tr.TrailerSize)+10` going negative: a negative offset reaches
      `io.NewSectionReader`, whose `ReadAt` refuses it ("negative offset") – an error, not a panic (`xap_verify_negative_offset`);
    * `int64` wrap-around of those subtractions for sizes near −2^63: offsets beyond any file, `io.EOF`;
    * `tr.TrailerSize-8` (`uint32` wrap for `TrailerSize < 8`): the comparison can never succeed, because the header is
      then read from bytes that overlap the trailer itself (`xap_trailerSize_lt8_rejected`);
    * `make([]byte, hdr.SignatureSize)`: reached only when `SignatureSize = TrailerSize − 8` and header and trailer were
      both read from inside the file, hence at most `len(file)` bytes (`xap_verify_alloc_le`);
    * `removeSignature` (repaired for FX1: defined through `SignatureFrameSize`): every read lies inside the blob, the frame
      never exceeds it, so `cd[:len(cd)-frame]` is in range (`xap_removeSignature_total`);
      `CsBlob.removeSignature true` is the same function as `removeSignatureOrig`, the code before that repair, and the
      repaired function strips only where that one did.
-/
import Relic.Proofs.Xap
import Relic.Props.C11
namespace Relic.Props.C11
open Relic.Xap

theorem readSection_no_panic (f : Bytes) (off : Int) (n : Nat) : NoPanic (readSection f off n) :=
  (readSection_errs f off n).ne_panic

theorem readAt_no_panic (f : Bytes) (off : Int) (n : Nat) : NoPanic (Xap.readAt f off n) :=
  (readAt_errs f off n).ne_panic

theorem locateHdr_no_panic (f : Bytes) (sz : Int) (ts tu : Nat) : NoPanic (locateHdr f sz ts tu) :=
  (locateHdr_errs f sz ts tu).ne_panic

/-- **xap_verify_no_panic.** `Verify` never panics, for every byte string, every `int64` size (indeed every integer), every
    PKCS#7 layer that does not panic itself (`parse` is total) and with digests on or off. -/
theorem xap_verify_no_panic (parse : Bytes → Option Bytes) (H : Bytes → Bytes) (f : Bytes) (size : Int) (skip : Bool) :
    NoPanic (locate f size) ∧ NoPanic (verify parse H f size skip) :=
  ⟨(locate_errs f size).ne_panic, (verify_errs parse H f size skip).ne_panic⟩

theorem bind_ne_diverge {α β} {r : Res α} {f : α → Res β} (h1 : r ≠ .diverge) (h2 : ∀ a, f a ≠ .diverge) :
    r.bind f ≠ .diverge := by
  cases r with
  | ok a => exact h2 a
  | err e => intro h; cases h
  | panic s => intro h; cases h
  | diverge => exact absurd rfl h1

theorem readSection_ne_diverge (f : Bytes) (off : Int) (n : Nat) : readSection f off n ≠ .diverge :=
  (readSection_errs f off n).ne_diverge

theorem readAt_ne_diverge (f : Bytes) (off : Int) (n : Nat) : Xap.readAt f off n ≠ .diverge :=
  (readAt_errs f off n).ne_diverge

/-- the locator always returns: there is no loop in it -/
theorem xap_verify_not_diverge (f : Bytes) (size : Int) : locate f size ≠ .diverge :=
  (locate_errs f size).ne_diverge

/-- **xap_verify_negative_offset.** `size-10` negative (and no `int64` wrap): the first read is refused with "negative
    offset".  In particular every file shorter than ten bytes is an error, not a slice panic. -/
theorem xap_verify_negative_offset (f : Bytes) (size : Int) (h1 : -9223372036854775798 ≤ size) (h2 : size < 10) :
    locate f size = .err "negoff" := by
  unfold locate
  have hw : w64 (size - 10) = size - 10 := w64_id _ (by omega) (by omega)
  have : readSection f (w64 (size - 10)) 10 = .err "negoff" := by
    unfold readSection; rw [hw, if_pos (by omega)]
  rw [this]; rfl

/-- **xap_trailerSize_lt8_rejected.** `hdr.SignatureSize != tr.TrailerSize-8` with `TrailerSize < 8`: the right-hand side
    wraps to `2^32 − 8 + TrailerSize`, but no file makes the test pass – whenever the locator succeeds, `TrailerSize ≥ 8`
    (and so no 4 GiB allocation can be provoked through the wrap). -/
theorem xap_trailerSize_lt8_rejected (f : Bytes) (size : Int) (l : Located) (hf : f.length < 9223372036854775808)
    (hs1 : -9223372036854775808 ≤ size) (hs2 : size < 9223372036854775808) (h : locate f size = .ok l) :
    8 ≤ leVal ((f.drop (size.toNat - 4)).take 4) ∧ l.blob.length + 8 = leVal ((f.drop (size.toNat - 4)).take 4) := by
  obtain ⟨N, ts, hN, _, _, h8, _, hts, _, _, _, hbl⟩ := locate_ok f size l hf hs1 hs2 h
  subst hN
  rw [Int.toNat_natCast, hts]
  exact ⟨h8, by omega⟩

/-- **xap_verify_alloc_le.** The only allocation sized by an input field, `make([]byte, hdr.SignatureSize)`, never asks for
    more bytes than the file holds – for every file below 2^63 bytes and every `int64` size, reachable or not through
    the signer (which passes the true file size). -/
theorem xap_verify_alloc_le (f : Bytes) (size : Int) (hf : f.length < 9223372036854775808)
    (hs1 : -9223372036854775808 ≤ size) (hs2 : size < 9223372036854775808) : verifyAlloc f size ≤ f.length := by
  unfold verifyAlloc
  cases h1 : readSection f (w64 (size - 10)) 10 with
  | ok tr =>
    simp only []
    by_cases hm : leVal (tr.take 4) ≠ trailerMagic
    · rw [if_pos hm]; exact Nat.zero_le _
    rw [if_neg hm]
    cases h2 : readSection f (w64 (size - ((leVal ((tr.drop 6).take 4) : Nat) + 10))) 8 with
    | ok hd =>
      simp only []
      by_cases hc : leVal ((hd.drop 4).take 4) ≠ (leVal ((tr.drop 6).take 4) + 4294967296 - 8) % 4294967296
      · rw [if_pos hc]; exact Nat.zero_le _
      rw [if_neg hc]
      obtain ⟨N, ts, -, hN, hfit, h8, hts, -, -, -, -, -, -⟩ :=
        trailer_header_ok f size tr hd hf hs1 hs2 h1 (Classical.not_not.mp hm) h2 (Classical.not_not.mp hc)
      rw [Classical.not_not.mp hc, hts]
      omega
    | _ => exact Nat.zero_le _
  | _ => exact Nat.zero_le _

/-- `DigestXapTar`'s member loop never panics and always stops -/
theorem walk_no_panic (cd : Bytes) (clean : Bool) (ms : List Member) : NoPanic (walk cd clean ms) ∧ walk cd clean ms ≠ .diverge :=
  ⟨(walk_errs clean ms cd).ne_panic, (walk_errs clean ms cd).ne_diverge⟩

/-- **xap_digest_no_panic.** `DigestXapTar` never panics, for every member list and ending – including a directory member
    longer than the zip member (`bodySize` negative: `io.CopyN` copies nothing) and directory blobs of every length. -/
theorem xap_digest_no_panic (ms : List Member) (clean : Bool) : NoPanic (digestTar ms clean) :=
  (digestTarWith_errs removeSignature ms clean).ne_panic

/-- **xap_removeSignature_total.** `removeSignature` as repaired is a total function returning a prefix of its argument: the
    frame length `SignatureFrameSize` reports never exceeds the blob, so the slice expression is in range.  It changes its
    argument only where the code before the repair did, and then in the same way; that earlier code is
    `CsBlob.removeSignature true`. -/
theorem xap_removeSignature_total (cd : Bytes) :
    frameSize cd ≤ cd.length ∧
    Xap.removeSignature cd = cd.take (Xap.removeSignature cd).length ∧
    (Xap.removeSignature cd = cd ∨ Xap.removeSignature cd = removeSignatureOrig cd) ∧
    CsBlob.removeSignature true cd = .ok (removeSignatureOrig cd) ∧
    (cd.length < trSize cd + 10 ∨ trSize cd < 8 → Xap.removeSignature cd = cd) := by
  refine ⟨frameSize_le cd, removeSignature_take cd, removeSignature_eq_or cd, ?_, ?_⟩
  · unfold CsBlob.removeSignature removeSignatureOrig trMagic trSize trailerMagic
    by_cases h1 : cd.length < 10
    · rw [if_pos h1, if_pos h1]; rfl
    · rw [if_neg h1, if_neg h1]
      simp only []
      by_cases h2 : leVal ((cd.drop (cd.length - 10)).take 4) = 1399873880
      · rw [if_pos h2, if_pos h2]
        by_cases h3 : cd.length < leVal (((cd.drop (cd.length - 10)).drop 6).take 4) + 10
        · rw [if_pos h3, if_pos h3]; rfl
        · rw [if_neg h3, if_neg h3]
      · rw [if_neg h2, if_neg h2]
  · intro h
    have h0 : frameSize cd = 0 := by
      refine Classical.byContradiction fun hne => ?_
      obtain ⟨_, _, h8, hfit, _, _⟩ := frameSize_pos cd hne
      omega
    unfold Xap.removeSignature
    rw [h0, Nat.sub_zero, List.take_length]

set_option maxRecDepth 100000 in
example :
    -- files shorter than the trailer / than the EOCD window
    locate [] 0 = .err "negoff" ∧ locate (List.replicate 9 0) 9 = .err "negoff" ∧ locate (List.replicate 21 0) 21 = .err "negoff" ∧
    locate (List.replicate 22 0) 22 = .err "invalid" ∧
    -- a trailer whose TrailerSize sends `size` below zero
    locate (List.replicate 30 0xff ++ trailer 1 4294967295) 40 = .err "negoff" ∧
    locate (List.replicate 30 0xff ++ trailer 1 31) 40 = .err "negoff" ∧
    -- TrailerSize < 8 with the bytes in front of the trailer spelling 2^32-8+T: still rejected
    locate (List.replicate 30 0xff ++ header 1 1 (4294967296 - 8 + 3) ++ trailer 65535 3) 48 = .err "invalid" ∧
    verifyAlloc (List.replicate 30 0xff ++ header 1 1 (4294967296 - 8 + 3) ++ trailer 65535 3) 48 = 0 ∧
    -- sizes at the int64 extremes: offsets wrap to beyond the file
    locate [1, 2, 3] (-9223372036854775808) = .err "eof" ∧ locate [1, 2, 3] (-9223372036854775798) = .err "negoff" ∧
    locate [1, 2, 3] 9223372036854775807 = .err "eof" ∧
    -- a directory blob whose trailer claims more than the blob holds is left alone; one without a matching header too
    -- (the code before the repair cut it off); a complete frame is removed
    Xap.removeSignature (List.replicate 5 1 ++ trailer 1 6) = List.replicate 5 1 ++ trailer 1 6 ∧
    Xap.removeSignature (List.replicate 5 1 ++ trailer 1 5) = List.replicate 5 1 ++ trailer 1 5 ∧
    removeSignatureOrig (List.replicate 5 1 ++ trailer 1 5) = [] ∧
    Xap.removeSignature ([1, 2] ++ sigBlock [3, 4, 5]) = [1, 2] := by decide +kernel

end Relic.Props.C11
