/-
  C08 — Re-signing replaces the signature; digests ignore existing signatures.   DEB part (model `Relic.Model.Deb`).
-/
import Relic.Props.C03_Deb
namespace Relic.Props.C08
open Relic.Deb

theorem isPrefix_append (a b : Bytes) : isPrefix a (a ++ b) = true := Deb.isPrefix_append a b

/-- **deb_digest_ignores_signature.** The `Files:` section of the message, the refusals of the signing loop and the
    "has a control.tar" test do not depend on members whose cleaned name starts with `_gpg`: inserting or removing such a
    member anywhere changes none of them. -/
theorem deb_digest_ignores_signature (es1 es2 : List Entry) (x : Entry) (hx : isGpgName (pathClean x.name) = true) :
    linesOf (es1 ++ x :: es2) = linesOf (es1 ++ es2) ∧
    (∀ ctl, signFail ctl (es1 ++ x :: es2) = signFail ctl (es1 ++ es2)) ∧
    hasCtl (es1 ++ x :: es2) = hasCtl (es1 ++ es2) := by
  refine ⟨?_, ?_, ?_⟩
  · simp [linesOf, List.filter_append, hx]
  · intro ctl
    induction es1 with
    | nil => simp [signFail, hx]
    | cons a es1 ih => simp only [List.cons_append, signFail, ih]
  · simp [hasCtl, List.any_append, hx]

example : isGpgName (pathClean [46, 47, 95, 103, 112, 103, 120]) = true := by decide   -- "./_gpgx"

theorem newEntry_gpg (role mt S : Bytes) (hc : pathClean (gpg ++ role) = gpg ++ role) :
    isGpgName (pathClean (newEntry (gpg ++ role) mt S).name) = true := by
  simp only [newEntry, hc, isGpgName]
  exact isPrefix_append gpg role

/-- **deb_resign_replaces.** Signing a tight archive that already holds a member for the role (`e`, the last one whose
    cleaned name is `_gpg<role>`): the patch covers exactly that member (header, data, padding byte), the result holds the
    new member at the same position between the same neighbours `es1`, `es2`, the new member is again the slot of the role
    (so the next round replaces it in turn: by induction any number of rounds keeps `es1` and `es2` and exactly one
    member in between), and the `Files:` lines of the message are the ones signed before. -/
theorem deb_resign_replaces (H1 H2 cs ctl) (mt signer date role f : Bytes) (o : SignOut) (es1 es2 : List Entry) (e : Entry)
    (h8 : 8 ≤ f.length) (he : entries f = (es1 ++ e :: es2, .eof)) (ht : Tight (f.drop 8) (es1 ++ e :: es2))
    (hm : pathClean e.name = gpg ++ role) (hn : ∀ x ∈ es2, pathClean x.name ≠ gpg ++ role)
    (hc : pathClean (gpg ++ role) = gpg ++ role)
    (hs : sign H1 H2 cs ctl mt signer date role f = .ok o)
    (hrb : ReadsBack (gpg ++ role) mt (cs (message H1 H2 signer date role (linesOf (es1 ++ e :: es2))))) :
    let ne := newEntry (gpg ++ role) mt (cs (message H1 H2 signer date role (linesOf (es1 ++ e :: es2))))
    let g := C03.signedBytes f o
    o.off = 8 + advSum es1 ∧ o.old = adv e.size ∧
    entries g = (es1 ++ ne :: es2, .eof) ∧ Tight (g.drop 8) (es1 ++ ne :: es2) ∧
    pathClean ne.name = gpg ++ role ∧
    linesOf (entries g).1 = linesOf (es1 ++ e :: es2) := by
  intro ne g
  obtain ⟨h1, h2, h3, h4⟩ := sign_replaces H1 H2 cs ctl mt signer date role f o es1 e es2 h8 he ht hm hn hs hrb
  refine ⟨h1, h2, h3, h4, hc, ?_⟩
  rw [show entries g = _ from h3]
  exact ((deb_digest_ignores_signature es1 es2 ne (newEntry_gpg role mt _ hc)).1).trans
    (deb_digest_ignores_signature es1 es2 e (by rw [hm]; exact isPrefix_append gpg role)).1.symm

/-- **deb_resign_other_role_appends.** Signing a tight archive for a role that has no member yet appends the new member
    behind everything; every existing member — the signature members of other roles included — stays where it is, byte for byte. -/
theorem deb_resign_other_role_appends (H1 H2 cs ctl) (mt signer date role f : Bytes) (o : SignOut) (es : List Entry)
    (h8 : 8 ≤ f.length) (he : entries f = (es, .eof)) (ht : Tight (f.drop 8) es)
    (hn : ∀ x ∈ es, pathClean x.name ≠ gpg ++ role)
    (hs : sign H1 H2 cs ctl mt signer date role f = .ok o)
    (hrb : ReadsBack (gpg ++ role) mt (cs (message H1 H2 signer date role (linesOf es)))) :
    C03.signedBytes f o = f ++ o.blob ∧
    entries (C03.signedBytes f o) = (es ++ [newEntry (gpg ++ role) mt (cs (message H1 H2 signer date role (linesOf es)))], .eof) := by
  obtain ⟨-, -, h3, h4, -⟩ := sign_appends H1 H2 cs ctl mt signer date role f o es h8 he ht
    ((sigSlot_none role es 8).mpr hn) hs hrb
  exact ⟨h3, (show C03.signedBytes f o = _ from h3) ▸ h4⟩

/-- **deb_history_total.** The output of a successful signing of a tight archive is again a tight archive on which `Sign`
    succeeds, for every role, key, date and clear-signer: histories of any length stay inside the class the theorems cover. -/
theorem deb_history_total (H1 H2 cs ctl) (mt signer date role f : Bytes) (o : SignOut) (es : List Entry)
    (h8 : 8 ≤ f.length) (he : entries f = (es, .eof)) (ht : Tight (f.drop 8) es)
    (hc : pathClean (gpg ++ role) = gpg ++ role)
    (hs : sign H1 H2 cs ctl mt signer date role f = .ok o)
    (hrb : ReadsBack (gpg ++ role) mt (cs (message H1 H2 signer date role (linesOf es))))
    (H1' H2' cs' : Bytes → Bytes) (mt' signer' date' role' : Bytes) :
    8 ≤ (C03.signedBytes f o).length ∧ (entries (C03.signedBytes f o)).2 = .eof ∧
    Tight ((C03.signedBytes f o).drop 8) (entries (C03.signedBytes f o)).1 ∧
    ∃ o2, sign H1' H2' cs' ctl mt' signer' date' role' (C03.signedBytes f o) = .ok o2 := by
  obtain ⟨_, hf, hctl⟩ := C03.deb_sign_ok H1 H2 cs ctl mt signer date role f o es he hs
  obtain ⟨k8, k, kt⟩ := C03.deb_payload_preserved H1 H2 cs ctl mt signer date role f o es h8 he ht hs hrb
  have hne := newEntry_gpg role mt (cs (message H1 H2 signer date role (linesOf es))) hc
  have hlen : 8 ≤ (C03.signedBytes f o).length := by
    have := congrArg List.length k8
    simp [List.length_take] at this
    omega
  have main : ∀ es', entries (C03.signedBytes f o) = (es', .eof) → signFail ctl es' = none → hasCtl es' = true →
      ∃ o2, sign H1' H2' cs' ctl mt' signer' date' role' (C03.signedBytes f o) = .ok o2 := by
    intro es' h1 h2 h3
    refine ⟨signOf H1' H2' cs' mt' signer' date' role' (C03.signedBytes f o).length es', (sign_ok_iff ..).mpr ?_⟩
    rw [h1]
    exact ⟨h2, rfl, h3, rfl⟩
  rcases k with ⟨_, _, c⟩ | ⟨es1, e, es2, a, b, _, _, _, c⟩
  · refine ⟨hlen, by rw [c], kt, main _ c ?_ ?_⟩
    · have := (deb_digest_ignores_signature es [] _ hne).2.1 ctl
      simp only [List.append_nil] at this
      rw [this]; exact hf
    · have := (deb_digest_ignores_signature es [] _ hne).2.2
      simp only [List.append_nil] at this
      rw [this]; exact hctl
  · have hge : isGpgName (pathClean e.name) = true := by rw [b]; exact isPrefix_append gpg role
    subst a
    refine ⟨hlen, by rw [c], kt, main _ c ?_ ?_⟩
    · rw [(deb_digest_ignores_signature es1 es2 _ hne).2.1 ctl, ← (deb_digest_ignores_signature es1 es2 e hge).2.1 ctl]; exact hf
    · rw [(deb_digest_ignores_signature es1 es2 _ hne).2.2, ← (deb_digest_ignores_signature es1 es2 e hge).2.2]; exact hctl

set_option maxRecDepth 100000 in
/-- non-vacuity: the sample carries a `_gpgbuilder` member behind two others, and `path.Clean` leaves that name alone -/
example : sigSlot [98, 117, 105, 108, 100, 101, 114] 8 (entries C03.sampleSigned).1 = some (136, 64) ∧
    (entries C03.sampleSigned).1.length = 3 ∧
    pathClean (gpg ++ [98, 117, 105, 108, 100, 101, 114]) = gpg ++ [98, 117, 105, 108, 100, 101, 114] := by decide +kernel

set_option maxRecDepth 100000 in
/-- the writer's header for "builder" reads back: name, size 937, mode field -/
example : hdrName (arHeader (gpg ++ [98, 117, 105, 108, 100, 101, 114]) [49, 55] 937) = gpg ++ [98, 117, 105, 108, 100, 101, 114] ∧
    hdrSize (arHeader (gpg ++ [98, 117, 105, 108, 100, 101, 114]) [49, 55] 937) = 937 ∧
    octalPanics (arHeader (gpg ++ [98, 117, 105, 108, 100, 101, 114]) [49, 55] 937) = false := by decide +kernel

-- makes `∃ o, sign … = .ok o ∧ …` decidable by running `sign`, so that `decide +kernel` takes the whole statement
attribute [local instance] Res.decExistsOk

/-- **deb_long_role_not_replaced.** A role of 13 bytes: the name written is cut to 16 bytes, so the member is never found
    again under `_gpg<role>`; a second signing appends a second member instead of replacing the first. -/
theorem deb_long_role_not_replaced :
    let role : Bytes := [116, 104, 105, 114, 116, 101, 101, 110, 45, 99, 104, 97, 114]   -- "thirteen-char"
    roleRegular role = false ∧
    ∃ o1 o2, sign (fun _ => [48]) (fun _ => [49]) (fun _ => [7]) (fun _ _ => true) [49] [65] [64] role C03.sampleUnsigned = .ok o1 ∧
      sign (fun _ => [48]) (fun _ => [49]) (fun _ => [7]) (fun _ _ => true) [49] [65] [64] role (C03.signedBytes C03.sampleUnsigned o1) = .ok o2 ∧
      o2.old = 0 ∧ (sigsOf (entries (C03.signedBytes (C03.signedBytes C03.sampleUnsigned o1) o2)).1).length = 2 := by
  simp only [exists_and_left]
  decide +kernel

end Relic.Props.C08
