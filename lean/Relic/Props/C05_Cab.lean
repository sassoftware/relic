/-
  C05 fragment — the Authenticode digest relic computes for a cabinet (`cabfile.Digest`, lib/cabfile/cabfile.go; model
  `Relic.Cab.DigestCab`) equals the digest prescribed by the public description (`Relic.Spec.CabDigest`), on cabinets with
  the regular layout (`Cab.Regular`: OffsetFiles = end of the folder headers ≤ TotalSize, which `Digest` does not check —
  finding F35); outside it relic accepts and digests files for which the description has no digest (witness below).
-/
import Relic.Spec.CabDigest
import Relic.Props.C08_Cab
namespace Relic.Props.C05
open Relic Relic.Cab
open Relic.PE (seg u16 u32 seg_append)

/-- **cab_digest_eq_spec_signed** (verification side).  Whenever relic's digester accepts a cabinet that carries a
    signature header and has the regular layout, the stream it feeds to the hash is the specification's digest input of
    that file: bytes 0–3, 8–33, 56–59 and everything from byte 60 up to the signature. -/
theorem cab_digest_eq_spec_signed (g : Bytes) (d : Digest) (e : DigestCab g = .ok d) (hsig : d.hasSig = true)
    (R : Regular d) : Spec.CabDigest.digestInput g = some d.hashed := by
  -- a signature header was found, so the file has the description's `signedLayout` (`DigestSig`); then the stream is matched
  -- piece by piece: the header fields (`sigBlob`), the folder headers (`delta = 0`: nothing is rebased), the data up to `u32 g 44`
  have H := DigestCab_spec g d e
  have S := DigestCab_hasSig g d e hsig
  have W : NoWrap d := by intro h; rw [S.delta] at h; omega
  obtain ⟨e1, _, _, _, _⟩ := regular_arith g d H R W
  obtain ⟨r1, r2⟩ := R
  rw [S.fs] at r1
  have ht : d.total < 2 ^ 32 := by rw [H.total]; exact u32_lt g 8
  have ho : d.offFiles < 2 ^ 32 := by rw [H.off]; exact u32_lt g 16
  have hstop := H.stop
  have hlen := S.len
  have hlay : Spec.CabDigest.signedLayout g = true := by
    unfold Spec.CabDigest.signedLayout
    have a1 := H.magic; have a2 := S.flags; have a3 := S.hs
    have a4 : Spec.CabDigest.u8 g 38 = 0 := S.fsz
    have a5 : Spec.CabDigest.u8 g 39 = 0 := S.dsz
    have a6 : u32 g 16 = 60 + 8 * u16 g 26 := by rw [← H.off, ← H.nf]; exact r1
    have a7 : u32 g 16 ≤ u32 g 44 := by rw [S.cabSize, ← H.off]; exact r2
    have a8 : u32 g 44 + u32 g 48 = g.length := by rw [S.cabSize, ← S.sigSize]; omega
    simp [a1, a2, a3, a4, a5, a6, a8, hlen]
    rw [← a6]; exact a7
  unfold Spec.CabDigest.digestInput
  rw [hlay, if_pos rfl]
  congr 1
  have hb : d.hdr.sigBlob = seg g 0 4 ++ seg g 8 34 ++ seg g 56 60 := by
    rw [H.hdr]
    simp only [Hdr60.sigBlob, outHdr]
    rw [S.delta, rebase_zero _ ht, rebase_zero _ ho, H.total, H.off, leBytes4_u32 g 8 (by omega), leBytes4_u32 g 16 (by omega), S.u3]
    have : leBytes 2 4 = seg g 30 32 := by rw [← S.flags]; exact leBytes2_u16 g 30 (by omega)
    rw [this]
    rw [← seg_append g 8 12 34 (by omega) (by omega), ← seg_append g 12 16 34 (by omega) (by omega),
      ← seg_append g 16 20 34 (by omega) (by omega), ← seg_append g 20 26 34 (by omega) (by omega),
      ← seg_append g 26 28 34 (by omega) (by omega), ← seg_append g 28 30 34 (by omega) (by omega),
      ← seg_append g 30 32 34 (by omega) (by omega)]
    simp only [List.append_assoc]
  have hf : d.folders = seg g 60 (60 + 8 * d.nFolders) := by
    rw [H.folders, S.delta, S.fs]
    exact rebaseFolders_zero g 60 d.nFolders (by omega)
  have hd : d.data = seg g (60 + 8 * d.nFolders) (u32 g 44) := by
    rw [H.data, S.fs, e1, S.cabSize]
  unfold Digest.hashed
  rw [hb, hf, hd, List.append_assoc (seg g 0 4 ++ seg g 8 34 ++ seg g 56 60),
    seg_append g 60 _ _ (by omega) (by rw [S.cabSize]; omega)]

/-- **cab_digest_eq_spec** (signing side).  For every cabinet relic accepts with the regular layout — unsigned, with a
    zero-filled reserve area, or already signed — the stream relic hashes (and signs) is the specification's digest input
    of the file that signing writes (`signedBytes`, which is what the real patch path produces:
    `C08.cab_signed_file`).  In particular that file has the signed layout of the specification. -/
theorem cab_digest_eq_spec (f : Bytes) (d : Digest) (sig : Bytes) (e : DigestCab f = .ok d) (R : Regular d) (W : NoWrap d)
    (hs : (padded sig).length < 2 ^ 32) :
    Spec.CabDigest.digestInput (signedBytes d sig) = some d.hashed := by
  have H := DigestCab_spec f d e
  have e' := DigestCab_signed f d sig H R W hs
  have R' := (resigned_regular f d sig H R W).1
  exact cab_digest_eq_spec_signed (signedBytes d sig) (resigned d sig) e' rfl R'

/-- end to end: the file written by the real patch path (`Add`, `Dump` order, rewrite loop) has, under the
    specification, exactly the digest input relic signed -/
theorem cab_written_file_digest_eq_spec (f : Bytes) (d : Digest) (sig g : Bytes) (M : Nat) (e : DigestCab f = .ok d)
    (R : Regular d) (W : NoWrap d) (hs : (padded sig).length < 2 ^ 32)
    (hg : Binpatch.applyRewrite f (Binpatch.build M (makePatch d sig)) = .ok g) :
    Spec.CabDigest.digestInput g = some d.hashed := by
  have h1 := C08.cab_signed_file f d sig e R W M
  have h2 : Res.ok (signedBytes d sig) = Res.ok g := h1.symm.trans hg
  have h3 : signedBytes d sig = g := Res.ok.inj h2
  rw [← h3]
  exact cab_digest_eq_spec f d sig e R W hs

def cabDigestOf (f : Bytes) : Digest :=
  match DigestCab f with
  | .ok d => d
  | _ => ⟨⟨[], [], [], [], [], [], [], [], [], [], [], [], [], [], [], [], [], [], []⟩, [], [], 0, 0, 0, 0, false, 0, [], 0, 0⟩

/-- `C08.minimalCab` signed with the blob [9, 9, 9] -/
def signedCab : Bytes := signedBytes (cabDigestOf C08.minimalCab) [9, 9, 9]

set_option maxRecDepth 100000 in
/-- the hypotheses of `cab_digest_eq_spec` hold for `minimalCab` and `paddedCab`, those of `cab_digest_eq_spec_signed`
    for `signedCab`; the specification's digest input of `signedCab` is 34 + 8 + 5 bytes long -/
example : DigestCab C08.minimalCab = .ok (cabDigestOf C08.minimalCab) ∧ DigestCab C08.paddedCab = .ok (cabDigestOf C08.paddedCab) ∧
    (cabDigestOf C08.minimalCab).offFiles = (cabDigestOf C08.minimalCab).foldersStart + 8 * (cabDigestOf C08.minimalCab).nFolders ∧
    (cabDigestOf C08.paddedCab).offFiles = (cabDigestOf C08.paddedCab).foldersStart + 8 * (cabDigestOf C08.paddedCab).nFolders ∧
    DigestCab signedCab = .ok (cabDigestOf signedCab) ∧ (cabDigestOf signedCab).hasSig = true ∧
    (Spec.CabDigest.digestInput signedCab).map List.length = some 47 := by decide +kernel

/-- a cabinet in signed layout except that OffsetFiles (70) is not the end of the folder headers (68): relic hashes the
    folder header and `TotalSize - OffsetFiles = 3` bytes, and takes the rest of the file as the signature -/
def irregularSignedCab : Bytes :=
  [0x4d, 0x53, 0x43, 0x46, 0, 0, 0, 0, 73, 0, 0, 0, 0, 0, 0, 0, 70, 0, 0, 0, 0, 0, 0, 0, 3, 1, 1, 0, 1, 0, 4, 0, 0x34, 0x12, 0, 0] ++
  [20, 0, 0, 0] ++ [0, 0, 0x10, 0, 73, 0, 0, 0, 10, 0, 0, 0, 0, 0, 0, 0, 0, 0, 0, 0] ++
  [60, 0, 0, 0, 1, 0, 0, 0] ++ [1, 2, 3, 4, 5] ++ [9, 9, 9, 0, 0, 0, 0, 0]

/-- **outside the class (F35 seen from the specification):** relic's digester — hence `VerifyCab` — accepts a signed
    cabinet whose OffsetFiles is not the end of the folder headers and digests it, while the description rejects the
    file (no digest: "corrupt coffFiles").  The bytes relic hashes are not even the ones the description would hash if the
    layout check were dropped (`seg g 60 sigpos`). -/
theorem cab_digest_irregular_differs :
    ∃ g d, DigestCab g = .ok d ∧ d.hasSig = true ∧ ¬ Regular d ∧ Spec.CabDigest.digestInput g = none ∧
      d.hashed ≠ seg g 0 4 ++ seg g 8 34 ++ seg g 56 60 ++ seg g 60 (u32 g 44) := by
  refine ⟨irregularSignedCab, cabDigestOf irregularSignedCab, by decide +kernel, by decide +kernel, ?_, by decide +kernel,
    by decide +kernel⟩
  unfold Regular
  decide

end Relic.Props.C05
