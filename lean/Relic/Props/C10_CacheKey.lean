/-
  Property C10, fragment "cache": what the memcache key of lib/pkcs9/timestampcache determines, and what a cache
  hit is worth.

  Theorems about `Relic.Model.TsaPool` section 3.  Tied to the real code by the TSX `ckeys`, `wire`, `cachert` and
  `site … miss|foreign` ops: a fake memcached records the keys relic asks for and stores under.
-/
import Relic.Proofs.TsaPool
import Relic.Proofs.Delim
import Relic.Proofs.Codec
namespace Relic.Props.C10
open Relic.Tsa Relic.TsaX

/-- **cache_key_injective** — the key `prefix+name-hash-sha256(value)` determines the request style, the pool name and
the hash number exactly, and the signature value up to SHA-256 (pool names may contain dashes and digits: the digest
has a fixed length and the hash number is dash-free, so the text parses uniquely from the right) -/
theorem cache_key_injective (D : Nat → List Char) (hD : ∀ x, (D x).length = 64) (r1 r2 : XReq)
    (h : cacheKey D r1 = cacheKey D r2) :
    r1.legacy = r2.legacy ∧ r1.name = r2.name ∧ r1.hash = r2.hash ∧ D r1.ed = D r2.ed := by
  unfold cacheKey at h
  -- cut off the digest (fixed length) ...
  have h' : ((if r1.legacy then pfxMs else pfxRfc) ++ r1.name ++ '-' :: Nat.toDigits 10 r1.hash) ++ ('-' :: D r1.ed)
      = ((if r2.legacy then pfxMs else pfxRfc) ++ r2.name ++ '-' :: Nat.toDigits 10 r2.hash) ++ ('-' :: D r2.ed) := by
    simpa [List.append_assoc] using h
  have hcut := List.append_inj' h' (by simp [hD])
  have hdig : D r1.ed = D r2.ed := by simpa using hcut.2
  -- ... then the hash number (dash-free) at the last dash
  have hl := split_last_eq '-' (dash_not_digit _) (dash_not_digit _) hcut.1
  have hp := prefix_inj hl.1
  exact ⟨hp.1, hp.2, toDigits_inj hl.2, hdig⟩

/-- **cache_key_binds_request** — two requests that get the same cache key are the same request as far as any check
on a token goes (style, pool, hash, signature value), hence a token fits one iff it fits the other, at every attach
site.  `hsep`: SHA-256 separates the two signature values (the only cryptographic hypothesis).  Not part of the key,
and not needed: the nonce (never looked at after arrival) and the time of the request (a hit re-uses a token that
attests an earlier time for the same signature value, which is still true). -/
theorem cache_key_binds_request (D : Nat → List Char) (hD : ∀ x, (D x).length = 64) (H : Nat → Nat) (r1 r2 : XReq)
    (hsep : D r1.ed = D r2.ed → r1.ed = r2.ed) (h : cacheKey D r1 = cacheKey D r2) :
    r1 = r2 ∧ ∀ t, Covers H t r1.ed ↔ Covers H t r2.ed := by
  obtain ⟨h1, h2, h3, h4⟩ := cache_key_injective D hD r1 r2 h
  have h5 := hsep h4
  have : r1 = r2 := by
    cases r1; cases r2; simp_all
  exact ⟨this, by intro t; rw [h5]⟩

/-- look-alike concatenations are told apart: pool "a-5" with hash 4 against pool "a" with hash 5 -/
example (D : Nat → List Char) (hD : ∀ x, (D x).length = 64) :
    cacheKey D ⟨false, ['a', '-', '5'], 4, 1⟩ ≠ cacheKey D ⟨false, ['a'], 5, 1⟩ := by
  intro h
  have := (cache_key_injective D hD _ _ h).2.1
  simp at this

example : cacheKey (fun _ => ['d']) ⟨true, ['a'], 5, 1⟩ = ['m', 's', 'f', 't', 'a', '-', '5', '-', 'd'] := by decide +kernel

/-- **cache_never_changes_outcome** — the cache either hands back a parseable entry found under the request's key or
returns exactly what the wrapped time-stamper returns -/
theorem cache_never_changes_outcome (D : Nat → List Char) (up : Bool) (st : StoreX) (r : XReq) (inner : Outcome) :
    (cachedX D up st r inner).1 = inner ∨
    (∃ t, up = true ∧ legalKey (cacheKey D r) = true ∧ lookupX st (cacheKey D r) = some (.tok t) ∧
      cachedX D up st r inner = (⟨.ok (.cache, t), [], []⟩, st)) := by
  rw [cachedX_eq]
  cases h : hitX D up st r with
  | none => exact .inl rfl
  | some t => obtain ⟨h1, h2, h3⟩ := hitX_some.mp h; exact .inr ⟨t, h1, h2, h3, rfl⟩

/-- **illegal_key_bypasses** — a pool name that makes the key illegal for memcached (more than 250 bytes, a blank or a
control character) or a memcached that is down: the cache is a no-op, the authorities are asked every time -/
theorem illegal_key_bypasses (D : Nat → List Char) (up : Bool) (st : StoreX) (r : XReq) (inner : Outcome)
    (h : up = false ∨ legalKey (cacheKey D r) = false) : cachedX D up st r inner = (inner, st) := by
  have hu : (up && legalKey (cacheKey D r)) = false := by
    rcases h with h | h <;> simp [h]
  rw [cachedX_eq, hitX_unusable hu, putX_unusable hu]
  rfl

-- memcached's limit is 250 bytes: 5 (`pkcs9`) + name + `-` + 1 digit + `-` + 64, so a name of 178 characters is the longest legal one
example : legalKey (cacheKey (fun _ => List.replicate 64 'd') ⟨false, ['x', ' ', 'y'], 5, 1⟩) = false := by decide +kernel
set_option maxRecDepth 20000 in
example : legalKey (cacheKey (fun _ => List.replicate 64 'd') ⟨false, List.replicate 178 'k', 5, 1⟩) = true := by decide +kernel
set_option maxRecDepth 20000 in
example : legalKey (cacheKey (fun _ => List.replicate 64 'd') ⟨false, List.replicate 179 'k', 5, 1⟩) = false := by decide +kernel

/-- a miss (or an entry that does not parse) on a usable cache stores the wrapped time-stamper's token under the key -/
theorem cache_miss_stores_x (D : Nat → List Char) (st : StoreX) (r : XReq) (inner : Outcome) (s : Src) (t : Token)
    (hk : legalKey (cacheKey D r) = true) (hm : ∀ t', lookupX st (cacheKey D r) ≠ some (.tok t'))
    (hi : inner.res = .ok (s, t)) :
    (cachedX D true st r inner).1 = inner ∧ lookupX (cachedX D true st r inner).2 (cacheKey D r) = some (.tok t) := by
  have hh : hitX D true st r = none := by
    cases h : hitX D true st r with
    | none => rfl
    | some t' => exact absurd (hitX_some.mp h).2.2 (hm t')
  rw [cachedX_eq, hh, putX_ok hk hi]
  exact ⟨rfl, lookupX_cons_eq st _ _⟩

/-- a store in which every token really covers every request that maps to its key: what relic itself writes -/
def HonestStore (D : Nat → List Char) (H : Nat → Nat) (st : StoreX) : Prop :=
  ∀ k t, (k, CacheVal.tok t) ∈ st → ∀ r : XReq, cacheKey D r = k → Covers H t r.ed

/-- **honest_store_preserved** — if the wrapped time-stamper only returns tokens that cover the request's signature
value (what `accept_iff` gives for the client), the cache only ever stores entries that cover every request mapping to
their key -/
theorem honest_store_preserved (D : Nat → List Char) (hD : ∀ x, (D x).length = 64) (H : Nat → Nat) (up : Bool)
    (st : StoreX) (r : XReq) (inner : Outcome) (hsep : ∀ r' : XReq, D r'.ed = D r.ed → r'.ed = r.ed)
    (hst : HonestStore D H st) (hin : ∀ s t, inner.res = .ok (s, t) → Covers H t r.ed) :
    HonestStore D H (cachedX D up st r inner).2 := by
  rw [cachedX_eq]
  cases hitX D up st r with
  | some t => exact hst
  | none =>
    intro k t' hm r' hk
    rcases List.mem_append.mp hm with hm | hm
    · -- the entry just stored: equal keys name the same signature value
      obtain ⟨s, t, hi, heq⟩ := mem_putX hm
      cases heq
      rw [hsep r' (cache_key_injective D hD r' r hk).2.2.2]
      exact hin s t' hi
    · exact hst k t' hm r' hk

/-- **cache_hit_honest** — on an honest store whatever the cache returns (hit or miss) covers THIS request's
signature value: the composition "cache key binds the request" + "the client only accepts genuine replies" -/
theorem cache_hit_honest (D : Nat → List Char) (H : Nat → Nat) (up : Bool) (st : StoreX) (r : XReq) (inner : Outcome)
    (hst : HonestStore D H st) (hin : ∀ s t, inner.res = .ok (s, t) → Covers H t r.ed) (s : Src) (t : Token)
    (h : (cachedX D up st r inner).1.res = .ok (s, t)) : Covers H t r.ed := by
  rcases cache_never_changes_outcome D up st r inner with he | ⟨t', _, _, hl, he⟩
  · rw [he] at h; exact hin s t h
  · rw [he] at h
    have : t' = t := by
      have : (Src.cache, t') = (s, t) := by simpa using h
      exact (Prod.mk.inj this).2
    subst this
    exact hst _ _ (lookupX_mem hl) r rfl

/-- **cache_returns_unverified** — but the cache itself checks nothing: ANY parseable entry under the key comes back,
whatever it was issued for.  What protects the signature is the attach site's own check (`cached_token_still_checked_sites`);
the VSIX site had none before fix a163120 (`attach_site_vsix_unchecked_orig`). -/
theorem cache_returns_unverified (D : Nat → List Char) (st : StoreX) (r : XReq) (inner : Outcome) (t : Token)
    (hk : legalKey (cacheKey D r) = true) (h : lookupX st (cacheKey D r) = some (.tok t)) :
    cachedX D true st r inner = (⟨.ok (.cache, t), [], []⟩, st) := by
  rw [cachedX_eq, hitX_some.mpr ⟨rfl, hk, h⟩]

/-- non-vacuity: second request for the same key is served from the cache, a request for another pool is not -/
example :
    let D : Nat → List Char := fun n => List.replicate 63 'x' ++ Nat.toDigits 10 (n % 10)
    let t : Token := ⟨2, true, 1, true, .tst ⟨some 7, 1100, true, some 0⟩, none, 1, true⟩
    let inner : Outcome := ⟨.ok (.url 0, t), [0], []⟩
    let st := (cachedX D true [] ⟨false, ['a'], 5, 100⟩ inner).2
    (cachedX D true st ⟨false, ['a'], 5, 100⟩ inner).1 = ⟨.ok (.cache, t), [], []⟩ ∧
    (cachedX D true st ⟨false, ['b'], 5, 100⟩ inner).1 = inner := by decide +kernel

end Relic.Props.C10
