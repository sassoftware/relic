/-
  C11 — Malformed input yields an error, never a crash.   Mach-O / code-directory part: where the modelled fruit code
  can panic and where it cannot.
  * `scanFile` (header and load-command walk): no panic site at all (`scan_no_panic`).
  * `parseCodeDirectory`: the only panic is the slot slicing; it happens exactly when the slot table named by
    HashOffset / HashSize / nCodeSlots / nSpecialSlots does not lie inside the capacity of the blob
    (`parseCodeDirectory_panic_only_if`, witnesses below).  Listed finding F12-panic-csblob.parseCodeDirectory.
  * `PatchSignature`: panics when the __LINKEDIT / LC_CODE_SIGNATURE fields to patch lie outside the header buffer
    (no __LINKEDIT command and a short header) or when the recorded signature offset lies before the end of code
    (witnesses below).  Listed finding F12-panic-machos.PatchSignature.
  * `VerifyPages`: page shifts above 24 are refused ("pagesize", witness below); before that fix PageSizeLog2 = 63 made
    `make([]byte, 1<<63)` panic and 31 ≤ k ≤ 62 was an allocation sized by an unchecked (but CMS-signed) header field.
-/
import Relic.Proofs.MachOWalk
namespace Relic.Props.C11
open Relic.MachO Relic.CodeDir

theorem cmdLoop_no_panic (be : Bool) (f : Bytes) (stop : Nat) : ∀ (n pos : Nat) (st : ScanSt) (s : String),
    cmdLoop be f stop n pos st ≠ .panic s :=
  MachO.cmdLoop_no_panic be f stop

/-- `scanFile` returns markers or an error on every byte string. -/
theorem scan_no_panic (f : Bytes) (s : String) : scan f ≠ .panic s := by
  -- the loop is the only place a panic could come from: every other exit is `ok` or `err`
  fun_cases scan f <;> intro h
  case case6 hc => cases h; exact MachO.cmdLoop_no_panic _ _ _ _ _ _ _ hc
  all_goals cases h

/-- the slot table lies inside the capacity -/
def slotsFit (h : Header) (hs cap : Nat) : Prop :=
  (h.nCode = 0 ∨ h.hashOffset + h.nCode * hs ≤ cap) ∧ (h.nSpecial = 0 ∨ (h.hashOffset ≤ cap ∧ h.nSpecial * hs ≤ h.hashOffset))

/-- If `parseCodeDirectory` panics then the header was complete, both
    identifiers were readable, there is no scatter table, the hash type/size pair is a supported one, and the slot
    table does not fit: those are exactly the inputs on which Go slices out of range. -/
theorem parseCodeDirectory_panic_only_if (blob extra : Bytes) (s : String) (h : parseCodeDirectory blob extra = .panic s) :
    s = "csblob.parseCodeDirectory:slice" ∧ 88 ≤ blob.length ∧
    ∃ hs, hashFuncOf (readHeader blob).hashType (readHeader blob).hashSize = some hs ∧
      ¬ slotsFit (readHeader blob) hs (blob.length + extra.length) := by
  revert h
  fun_cases parseCodeDirectory blob extra <;> intro h
  case case6 h88 hd _ _ _ _ _ hs hhs cap c =>
    cases h
    simp only [hd, cap] at hhs c
    refine ⟨rfl, by omega, hs, hhs, fun hf => ?_⟩
    rcases hf.1 with z | z
    · exact c.1 z
    · omega
  case case7 h88 hd _ _ _ _ _ hs hhs cap _ c =>
    cases h
    simp only [hd, cap] at hhs c
    refine ⟨rfl, by omega, hs, hhs, fun hf => ?_⟩
    rcases hf.2 with z | z
    · exact c.1 z
    · rcases c.2 with c2 | c2 <;> omega
  all_goals cases h

/-- and conversely a fitting slot table never panics -/
theorem parseCodeDirectory_no_panic_of_fit (blob extra : Bytes)
    (hfit : ∀ hs, hashFuncOf (readHeader blob).hashType (readHeader blob).hashSize = some hs →
      slotsFit (readHeader blob) hs (blob.length + extra.length)) (s : String) :
    parseCodeDirectory blob extra ≠ .panic s := by
  intro h
  obtain ⟨_, _, hs, hhs, hn⟩ := parseCodeDirectory_panic_only_if blob extra s h
  exact hn (hfit hs hhs)

/-- the full statement for the fruit entry points: false on this tree (witnesses below, listed findings F12-*) -/
def macho_no_panic_full : Prop :=
  (∀ blob extra s, parseCodeDirectory blob extra ≠ .panic s) ∧
  (∀ m hdr sz s, patchSignature m hdr sz ≠ .panic s) ∧
  (∀ d f s, (verifyPages d f).final ≠ .panic s)

def hdr88 (nCode hashOffset pageShift : Nat) : Bytes :=
  (Header.enc { magic := 0xfade0c02, length := 88, version := 0x20300, flags := 0, hashOffset, identOffset := 0, nSpecial := 0,
                nCode, codeLimit := 0, hashSize := 32, hashType := 2, pageShift, scatterOffset := 0, teamOffset := 0,
                codeLimit64 := 0, execBase := 0, execLimit := 0, execFlags := 0 })

/-- one code slot announced at the end of an 88-byte blob: Go slices `blob[88:120]` out of range -/
example : parseCodeDirectory (hdr88 1 88 12) [] = .panic "csblob.parseCodeDirectory:slice" := by decide +kernel

/-- the same blob followed by 32 bytes of another item inside the slice's capacity is accepted: the slot is read from
    the neighbouring item -/
example : (parseCodeDirectory (hdr88 1 88 12) (List.replicate 32 7)).isOk = true := by decide +kernel

/-- PageSizeLog2 = 63 -/
example : ∃ d, parseCodeDirectory (hdr88 0 88 63) [] = .ok d ∧ (verifyPages d []).final = .err "pagesize" :=
  ⟨_, rfl, by decide⟩

/-- a 64-bit header without __LINKEDIT whose buffer is 48 bytes long: `patchLinkEdit` writes at offset 0+48 -/
example : patchSignature ⟨false, 0xfeedfacf, 0, 0, 32, 0, 0, 0, 48, 2 ^ 63 - 1, 0, 48⟩ (List.replicate 48 0) 16384 =
    .panic "machos.PatchSignature" := by decide +kernel

/-- LC_CODE_SIGNATURE with offset 8 and size 0 in an image whose __LINKEDIT ends at 4096: `padded[padding:]` with a
    negative padding -/
example : patchSignature ⟨false, 0xfeedfacf, 8, 0, 176, 104, 4000, 96, 192, 300, 4096, 192⟩ (List.replicate 192 0) 16384 =
    .panic "machos.PatchSignature" := by decide +kernel

example : ¬ macho_no_panic_full := by
  intro h
  have := h.1 (hdr88 1 88 12) [] "csblob.parseCodeDirectory:slice"
  exact this (by decide)

end Relic.Props.C11
