/-
  C11 — Malformed input yields an error, never a crash.   ZIP central directory entries (`zipslicer.ReadWithDirectory`),
  over `Relic.Model.Zip` (tied to lib/zipslicer by C17's differential run, panics included).

  The ZIP64 extended-information record (extra tag 0x0001) is read at fixed positions, and every read is guarded by the record's
  own size field (`size >= 8`, `>= 16`, `>= 24`): a record that is shorter than what the 32-bit fields of the entry announce
  leaves the marker unresolved and the entry is refused ("missing ZIP64 header").  So as soon as the entry itself lies
  inside the directory blob, NO content of its extra field can make the parser panic: `zip_entry_no_panic_of_whole`.
  (The listed panics F12-panic-zipslicer.ReadWithDirectory are the complement: a blob shorter than the entry.)
  The sweep of harness/c11/zipsyn.go runs every subset of announced fields against record sizes 0..28 on the real code.
-/
import Relic.Proofs.ZipAgree
namespace Relic.Props.C11
open Relic.Zip

/-- A central header whose name, extra field and comment lie inside the blob is parsed
    without a panic, whatever the extra field holds: the outcome is an entry or the error "missing ZIP64 header". -/
theorem zip_entry_no_panic_of_whole (cd : Bytes)
    (hb : 46 + fld cd 28 2 + fld cd 30 2 + fld cd 32 2 ≤ cd.length) :
    (∃ f rest, readEntry cd = .ok (f, rest)) ∨ readEntry cd = .err "missingzip64" := by
  have h := readEntry_eq cd 0 (by simpa using hb)
  simp only [List.drop_zero] at h
  rw [h]
  split
  · exact Or.inr rfl
  · exact Or.inl ⟨_, _, rfl⟩

theorem zip_entry_no_panic (cd : Bytes) (hb : 46 + fld cd 28 2 + fld cd 30 2 + fld cd 32 2 ≤ cd.length) (s : String) :
    readEntry cd ≠ .panic s := by
  rcases zip_entry_no_panic_of_whole cd hb with ⟨f, rest, h⟩ | h <;> rw [h] <;> simp

/-- a 46-byte header, name "a", both sizes 0xFFFFFFFF, a ZIP64 record of `n` bytes (zero filled) -/
def z64Entry (n : Nat) : Bytes :=
  [0x50, 0x4b, 1, 2] ++ List.replicate 16 0 ++ [0xff, 0xff, 0xff, 0xff, 0xff, 0xff, 0xff, 0xff] ++ [1, 0] ++ [UInt8.ofNat (4 + n), 0] ++
    List.replicate 14 0 ++ [97] ++ [1, 0, UInt8.ofNat n, 0] ++ List.replicate n 0

/-- non-vacuous, and the boundary the guards sit on: with both sizes announced, records of 0 and 8 bytes are refused, a record of
    16 bytes resolves both -/
example : readEntry (z64Entry 0) = .err "missingzip64" ∧ readEntry (z64Entry 8) = .err "missingzip64" ∧
    (match readEntry (z64Entry 16) with | .ok (f, rest) => f.csize == 0 && f.usize == 0 && rest.isEmpty | _ => false) = true := by
  decide

end Relic.Props.C11
