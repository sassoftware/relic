/-
  C01 — Every signature relic produces verifies.   XML-DSig part (model `Relic.Model.XmlSig` of lib/xmldsig Sign/Verify):
  for every element tree, every hash, key type and option set and every *correct* abstract scheme, `Verify` on the tree
  `Sign` returns finds exactly the appended Signature, reads back the algorithms `Sign` wrote, recomputes the same
  SignedInfo stream and the same reference stream, and accepts.
-/
import Relic.Proofs.XmlSig
namespace Relic.Props.C01
open Relic.Xml Relic.XmlSig

/-- the scheme is correct for the signer's key `pk` of type `kt` -/
structure Correct (S : Scheme) (pk : Bytes) (kt : KeyType) : Prop where
  b64sig : ∀ h s, S.b64ok (S.sigtext h s) = true
  b64dig : ∀ h s, S.b64ok (S.dtext h s) = true
  diglen : ∀ h s, S.digestLen h (S.dtext h s) = true
  digok : ∀ h s, S.digestOk h s (S.dtext h s) = true
  sigok : ∀ h s, S.sigOk pk kt h s (S.sigtext h s) = true

/-- the KeyInfo the signer writes is plain (no attributes: RSA KeyValue, X509Data) and carries a KeyValue that the
    verifier maps back to the signer's key; the certificates in it parse -/
structure KeyBack (S : Scheme) (o : SignOptions) (kt : KeyType) (pk : Bytes) : Prop where
  plain : plainL (S.keyInfo o) = true
  kv : ∃ kv, (decKeyInfoKids {} (S.keyInfo o)).keyValue = some kv ∧ S.parseKey kt kv = some pk
  certs : ∃ cs, parseCerts S (decKeyInfoKids {} (S.keyInfo o)).certs = some cs

theorem parseAlgs_hashAlgs (h : HashId) (kt : KeyType) (o : SignOptions) :
    parseAlgs (hashAlgs h kt o).1 (hashAlgs h kt o).2 = .ok (h, kt) := by
  obtain ⟨ms, ur, x5, kv⟩ := o
  have e : hashAlgs h kt ⟨ms, ur, x5, kv⟩ = hashAlgs h kt ⟨ms, false, false, false⟩ := rfl
  rw [e]
  cases h <;> cases kt <;> cases ms <;> decide +kernel

theorem isC14n_c14nNs (o : SignOptions) : isC14n (c14nNs o) = true := by
  unfold c14nNs
  cases o.useRec <;> decide

/-- ancestors without attributes (the etree Document) contribute nothing -/
theorem collectSpaces_append_empty (x ctx0 : List (List Attr)) (h : ∀ c ∈ ctx0, c = []) :
    collectSpaces (x ++ ctx0) = collectSpaces x := by
  unfold collectSpaces
  rw [List.foldl_append]
  generalize List.foldl collectAttrs [] x = m
  induction ctx0 generalizing m with
  | nil => rfl
  | cons c cs ih =>
    have hc : c = [] := h c List.mem_cons_self
    subst hc
    simp only [List.foldl_cons, collectAttrs]
    exact ih (fun c hc => h c (List.mem_cons_of_mem _ hc)) m

theorem canon_append_empty (x ctx0 : List (List Attr)) (h : ∀ c ∈ ctx0, c = []) (n : Node) :
    canon (x ++ ctx0) n = canon x n := by
  unfold canon pullDown
  rw [collectSpaces_append_empty x ctx0 h]

theorem plain_signedInfo (o : SignOptions) (a b d : Bytes) : plain (signedInfo o [] a b d) = true := by
  simp [signedInfo, el, at_, txt, plain, plainL, plainAttrs]
  exact ⟨by decide, by decide, by decide⟩

theorem eraseIdx_append_last {α} (x : α) : ∀ l : List α, (l ++ [x]).eraseIdx l.length = l
  | [] => rfl
  | a :: l => by simp [eraseIdx_append_last x l]

/-- what the decoder has read when it reaches `<KeyInfo>` -/
def sigInfo0 (o : SignOptions) (h : HashId) (kt : KeyType) (dv sv : Bytes) : SigInfo :=
  { c14nAlg := c14nNs o, sigAlg := (hashAlgs h kt o).2,
    ref := { uri := [], transforms := [algEnveloped, c14nNs o], digestAlg := (hashAlgs h kt o).1, digestValue := dv },
    sigValue := sv }

/-- `Verify` on the parent's other children followed by the Signature element `Sign` builds -/
theorem verify_signed (S : Scheme) (pk : Bytes) (kt : KeyType) (h : HashId) (o : SignOptions) (K : KeyBack S o kt pk)
    (sp tag : Bytes) (as : List Attr) (clean : List Node) (hc : ∀ k ∈ clean, isElemTag sSignature k = false)
    (dv sv : Bytes)
    (hb1 : S.b64ok sv = true)
    (hs : S.sigOk pk kt h (canon [[xmlnsAttr], as] (signedInfo o [] (hashAlgs h kt o).1 (hashAlgs h kt o).2 dv)) sv = true)
    (hb2 : S.b64ok dv = true) (hl : S.digestLen h dv = true)
    (hd : S.digestOk h (canon [] (.elem sp tag as clean)) dv = true) :
    verify S (.elem sp tag as (clean ++ [signatureNode S o (signedInfo o [] (hashAlgs h kt o).1 (hashAlgs h kt o).2 dv) sv]))
      [sSignature] =
    .ok { hash := h, keyType := kt, key := pk,
          siStream := canon [[xmlnsAttr], as] (signedInfo o [] (hashAlgs h kt o).1 (hashAlgs h kt o).2 dv),
          refStream := canon [] (.elem sp tag as clean) } := by
  obtain ⟨kv, hkv, hpk⟩ := K.kv
  obtain ⟨cs, hcs⟩ := K.certs
  have hne : (S.keyInfo o).isEmpty = false := by
    cases hki : S.keyInfo o with
    | nil => rw [hki] at hkv; simp [decKeyInfoKids] at hkv
    | cons _ _ => rfl
  -- `si` is generalised so that `simp` does not unfold `signedInfo` inside the two `canon` arguments
  generalize hsi : signedInfo o [] (hashAlgs h kt o).1 (hashAlgs h kt o).2 dv = si at *
  have hsig : signatureNode S o si sv = el sSignature [xmlnsAttr] [si, el sSignatureValue [] [txt sv], el sKeyInfo [] (S.keyInfo o)] := by
    simp [signatureNode, hne]
  have hplain : plainL [si, el sSignatureValue [] [txt sv], el sKeyInfo [] (S.keyInfo o)] = true := by
    have : plain si = true := by rw [← hsi]; exact plain_signedInfo o _ _ _
    simp [plainL, this, plain, el, txt, plainAttrs, K.plain]
  have hfind : findElems [sSignature] (.elem sp tag as (clean ++ [signatureNode S o si sv])) = [[clean.length]] :=
    findElems_last sSignature sp tag as clean _ hc (by rw [hsig]; simp [el, isElemTag])
  have hget : getAt [clean.length] (.elem sp tag as (clean ++ [signatureNode S o si sv])) = some (signatureNode S o si sv) := by
    simp [getAt]
  have hanc : ancestorsAttrs [clean.length] (.elem sp tag as (clean ++ [signatureNode S o si sv])) = [as] := by
    simp [ancestorsAttrs, attrsAlong]
  have hdec : decodeSig (el sSignature [xmlnsAttr] [si, el sSignatureValue [] [txt sv], el sKeyInfo [] (S.keyInfo o)]) =
      some (decKeyInfoKids (sigInfo0 o h kt dv sv) (S.keyInfo o)) := by
    rw [← hsi]
    simp +decide [decodeSig, decSigKids, decSignedInfoKids, decRefKids, decTransforms, attrVal, textOf, signedInfo, el,
      at_, txt, xmlnsAttr, sigInfo0]
  -- `<KeyInfo>` comes last and touches the key value and the certificates only
  rw [decKeyInfoKids_eq] at hdec
  have hrm : removeAt [clean.length] (.elem sp tag as (clean ++ [signatureNode S o si sv])) = .elem sp tag as clean := by
    simp [removeAt, eraseIdx_append_last]
  have hfirst : (kidsOf (signatureNode S o si sv)).filter (isElemTag sSignedInfo) = [si] := by
    rw [hsig, ← hsi]
    rfl
  have hattrs : attrsOf (signatureNode S o si sv) = [xmlnsAttr] := by rw [hsig]; rfl
  unfold verify
  simp only [hfind, hget, hanc]
  rw [hsig] at hfirst hattrs ⊢
  rw [canonTree_signature _ _ hplain, hdec]
  simp only [sigInfo0, hkv, hcs, isC14n_c14nNs, parseAlgs_hashAlgs, hpk, hfirst, hattrs, hb1, hs, hb2, hl,
    Bool.not_true, Bool.false_eq_true, if_false]
  rw [← hsig, hrm]
  have ht : isC14n (c14nNs o) = true := isC14n_c14nNs o
  simp [ht, hd]

/-- For every element `<sp:tag as>ks</…>` (whatever it already contains, old Signature children
    included), every hash, key type, option set, and every correct scheme whose KeyInfo is plain and leads back to the
    signer's key: `Verify(Sign(root, root), "Signature")` accepts, having hashed exactly the two streams `Sign` hashed.
    Ancestors of the root must not carry attributes (the etree Document). -/
theorem xml_sign_then_verify (S : Scheme) (pk : Bytes) (kt : KeyType) (h : HashId) (o : SignOptions)
    (C : Correct S pk kt) (K : KeyBack S o kt pk) (ctx0 : List (List Attr)) (hctx : ∀ c ∈ ctx0, c = [])
    (sp tag : Bytes) (as : List Attr) (ks : List Node) :
    verify S (sign S ctx0 (.elem sp tag as ks) [] h kt o).out [sSignature] =
      .ok { hash := h, keyType := kt, key := pk,
            siStream := (sign S ctx0 (.elem sp tag as ks) [] h kt o).siStream,
            refStream := (sign S ctx0 (.elem sp tag as ks) [] h kt o).refStream } := by
  have e1 : canon ctx0 (.elem sp tag as (removeElements sSignature ks)) = canon [] (.elem sp tag as (removeElements sSignature ks)) :=
    canon_append_empty [] ctx0 hctx _
  have e2 : ∀ n, canon ([xmlnsAttr] :: ([as] ++ ctx0)) n = canon [[xmlnsAttr], as] n :=
    fun n => canon_append_empty [[xmlnsAttr], as] ctx0 hctx n
  simp only [sign, mapKidsAt, attrsAlong, attrsOf, e1, e2]
  exact verify_signed S pk kt h o K sp tag as _ (removeElements_none sSignature ks) _ _ (C.b64sig _ _) (C.sigok _ _)
    (C.b64dig _ _) (C.diglen _ _) (C.digok _ _)

end Relic.Props.C01
