/-
  C09 — Upload stream, chunking and transport never change what gets signed.
  Property theorems about
    Relic.Model.Merkle      (signers/apk/merkle.go: merkleHasher.Write / flush / Finish),
    Relic.Model.PEChecksum  (lib/authenticode/checksum.go: peChecksum),
    Relic.Model.Transport   (cmdline/remotecmd/client.go: doRequest; lib/compresshttp: selectEncoding,
                             CompressRequest's error path;
                             signers/transform.go: fileProducer.GetReader).
-/
import Relic.Proofs.Merkle
import Relic.Proofs.PEChecksum
import Relic.Proofs.Transport
namespace Relic.Props.C09

section merkle
open Relic.Merkle

/-- **merkle_split_independent.** For every block size `B > 0` and every way of delivering a byte
    string as a sequence of `Write` calls, the blocks handed to the hash after the final `flush` are
    the consecutive `B`-byte chunks of the concatenation (last one short, none empty).  The block
    hash is a parameter: equality of the hashed byte strings, hence of the digests for every hash. -/
theorem merkle_split_independent (B : Nat) (hB : 0 < B) (ws : List Bytes) :
    (flush (run B init ws)).out = chunks B ws.flatten := by
  rw [flush_run B init ws hB rfl]; simp [init]

example : (flush (run 4 init [[1, 2, 3], [4, 5, 6, 7, 8, 9], [10]])).out = [[1, 2, 3, 4], [5, 6, 7, 8], [9, 10]] := by
  decide +kernel

/-- **merkle_sections.** Sections flushed separately concatenate: each section contributes the
    chunks of its own bytes, whatever the writes inside it were. -/
theorem merkle_sections (B : Nat) (hB : 0 < B) (secs : List (List Bytes)) :
    (sections B init secs).out = (secs.map fun ws => chunks B ws.flatten).flatten := by
  rw [sections_spec B secs init hB rfl]; simp [init]

theorem merkle_sections_split_independent (B : Nat) (hB : 0 < B) (secs secs' : List (List Bytes))
    (h : secs.map List.flatten = secs'.map List.flatten) :
    sections B init secs = sections B init secs' := by
  rw [sections_spec B secs init hB rfl, sections_spec B secs' init hB rfl]
  have e : ∀ l : List (List Bytes), (l.map fun ws => chunks B ws.flatten) = (l.map List.flatten).map (chunks B) := by
    intro l; simp [List.map_map, Function.comp_def]
  rw [e secs, e secs', h]

example : sections 2 init [[[1], [2, 3]], [[4, 5, 6]]] = sections 2 init [[[1, 2, 3]], [[4], [5], [6]]] :=
  merkle_sections_split_independent 2 (by omega) _ _ (by simp)

/-- **merkle_finish.** `Finish` (flush, central directory, flush, end-of-directory, flush) after any
    delivery of the contents hashes `chunks contents ++ chunks cdir ++ chunks eod`; therefore the
    top-level APK digest, for every hash `H`, does not depend on the delivery. -/
theorem merkle_finish (B : Nat) (hB : 0 < B) (ws : List Bytes) (cdir eod : Bytes) :
    finishBlocks B (run B init ws) cdir eod = chunks B ws.flatten ++ chunks B cdir ++ chunks B eod := by
  unfold finishBlocks
  have h1 := flush_run B init ws hB rfl
  have h2 := flush_run B (flush (run B init ws)) [cdir] hB (by rw [h1])
  have h3 := flush_run B (flush (run B (flush (run B init ws)) [cdir])) [eod] hB (by rw [h2])
  simp only [run, List.foldl_cons, List.foldl_nil] at h1 h2 h3 ⊢
  rw [h3, h2, h1]
  simp [init]

theorem merkle_digest_split_independent (H : Bytes → Bytes) (B : Nat) (hB : 0 < B)
    (ws ws' : List Bytes) (cdir eod : Bytes) (h : ws.flatten = ws'.flatten) :
    topDigest H (finishBlocks B (run B init ws) cdir eod) =
      topDigest H (finishBlocks B (run B init ws') cdir eod) := by
  rw [merkle_finish B hB, merkle_finish B hB, h]

example : finishBlocks 2 (run 2 init [[1], [2, 3]]) [7, 7, 7] [9] = [[1, 2], [3], [7, 7], [7], [9]] := by
  decide +kernel

/-- **merkle_lengths_form.** The lengths-only executable form (what the driver runs at the real
    constant 2^20) is the image of the bytes form under `length`, and equals the block lengths of the
    specification. -/
theorem merkle_lengths_form (B : Nat) (hB : 0 < B) (secs : List (List Bytes)) :
    (sectionsL B ⟨0, []⟩ (secs.map (·.map List.length))).out
        = ((sections B init secs).out).map List.length ∧
    (sectionsL B ⟨0, []⟩ (secs.map (·.map List.length))).out
        = (secs.map fun ws => chunkLens B ws.flatten.length).flatten := by
  have h := sectionsL_spec B secs init
  have h0 : lens init = ⟨0, []⟩ := rfl
  rw [h0] at h
  constructor
  · rw [← h]; rfl
  · rw [← h]
    simp only [lens]
    rw [merkle_sections B hB, List.map_flatten, List.map_map]
    congr 1
    apply List.map_congr_left
    intro ws _
    exact chunks_lens B ws.flatten hB

example : (sectionsL 1048576 ⟨0, []⟩ [[1048575, 1, 1048576], [3, 2097153]]).out
    = [1048576, 1048576, 1048576, 1048576, 4] := by
  decide +kernel

end merkle

section checksum
open Relic.PEChecksum

/-- **checksum_even_splits.** (code after fix F20)  Starting from any state that has not seen an odd
    write, a sequence of even-sized writes followed by one last write of any size leaves the hasher in
    the same state (sum, size, position, odd flag) as one write of the concatenation.  No side
    condition: the checksum field is located by absolute position, so a write boundary on it or in
    its middle makes no difference. -/
theorem checksum_even_splits (s : St) (ws : List Bytes) (last : Bytes) (ho : s.odd = false)
    (hev : ∀ w ∈ ws, w.length % 2 = 0) :
    writes s (ws ++ [last]) = write s (ws.flatten ++ last) :=
  writes_append_last s ws last ho hev

theorem checksum_even_splits_new (peStart : Int) (ws : List Bytes) (last : Bytes)
    (hev : ∀ w ∈ ws, w.length % 2 = 0) :
    writes (new peStart) (ws ++ [last]) = write (new peStart) (ws.flatten ++ last) :=
  writes_append_last (new peStart) ws last rfl hev

-- the boundary on the field (offset 90) and in its middle (92): the cases the original code got wrong
example : writes (new 2) [List.replicate 90 1, [1, 1]] = write (new 2) (List.replicate 92 1) := by
  decide +kernel
example : writes (new 2) [List.replicate 92 7, [1, 2, 3]] = write (new 2) (List.replicate 92 7 ++ [1, 2, 3]) := by
  decide +kernel

/-- the same statement about the code *before* the fix -/
def checksum_even_splits_orig_full : Prop :=
  ∀ (peStart : Int) (ws : List Bytes) (last : Bytes), (∀ w ∈ ws, w.length % 2 = 0) →
    (writesOrig (newOrig peStart) (ws ++ [last])) = writeOrig (newOrig peStart) (ws.flatten ++ last)

/-- **the original code was split-dependent** (finding F20): `peStart = 2` (checksum field at offset
    90), 92 bytes of 0x01 delivered as 90 + 2 — the field is not skipped because `ckpos == n` is
    consumed by the write that ends exactly at the field. -/
theorem checksum_even_splits_orig_false : ¬ checksum_even_splits_orig_full :=
  fun h => absurd (h 2 [List.replicate 90 1] [1, 1] (by decide)) (by decide +kernel)

/-- **checksum_odd_then_write.** After an odd-sized write every further `Write` — even an empty one —
    returns the error "odd write"; a sum that silently covers more data cannot be obtained. -/
theorem checksum_odd_then_write (s : St) (d e : Bytes) (ho : s.odd = false) (hd : d.length % 2 = 1) :
    ∃ s1, write s d = .ok s1 ∧ s1.odd = true ∧ write s1 e = .err "odd-write" := by
  obtain ⟨s1, h1, hodd⟩ := write_ok s d ho
  have hodd' : s1.odd = true := by rw [hodd]; simp [hd]
  exact ⟨s1, h1, hodd', by simp [write, hodd']⟩

example : ∃ s1, write (new 0) [1, 2, 3] = .ok s1 ∧ s1.odd = true ∧ write s1 [] = .err "odd-write" :=
  checksum_odd_then_write (new 0) [1, 2, 3] [] rfl rfl

end checksum

section transport
open Relic.Transport

/-- **encoding_choice.** `selectEncoding` returns snappy if any comma-separated element, cut at its
    first `;` and trimmed, is exactly `x-snappy-framed`; otherwise gzip if one is exactly `gzip`;
    otherwise nothing.  q-values and unknown tokens play no role. -/
theorem encoding_choice (a : Str) :
    selectEncoding a =
      if snappy ∈ tokens a then snappy else if gzip ∈ tokens a then gzip else [] :=
  selectEncoding_eq a

example : selectEncoding "br, gzip;q=0 , x-snappy-framed".toList = snappy := by decide +kernel
example : selectEncoding "identity, GZIP".toList = [] := by decide +kernel

/-- **failover_same_body.** For every file, advertised encodings, server list, retry setting and
    script of per-attempt outcomes, if `doRequest` terminates with a list of attempts then
    * every attempt offered the whole file from its first byte, with the Content-Encoding that
      `selectEncoding` picks from the Accept-Encoding string in force for that attempt;
    * for every codec with `dec e (comp e b) = b` the server side recovers exactly the file;
    * the number of attempts is at most twice the length of the (repeated) server list, and at most
      that length when no encodings were advertised. -/
theorem failover_same_body (file : Bytes) (encs : Str) (bases : List Nat) (retries : Int)
    (script : List Outcome) (tr : List Attempt) (f : Final)
    (h : doRequest file encs bases retries script = .ok (tr, f)) :
    (∀ a ∈ tr, a.offered = file ∧ a.enc = selectEncoding a.accept ∧ (a.accept = encs ∨ a.accept = [])) ∧
    (∀ (comp dec : Str → Bytes → Bytes), (∀ e b, dec e (comp e b) = b) →
        ∀ a ∈ tr, dec a.enc (comp a.enc a.offered) = file) ∧
    (∃ bs, expand bases retries = some bs ∧ tr.length ≤ 2 * bs.length ∧ (encs = [] → tr.length ≤ bs.length)) := by
  obtain ⟨bs, hbs, hcases⟩ := doRequest_ok file encs bases retries script tr f h
  have att : ∀ e sc, (e = encs ∨ e = []) → ∀ a ∈ (pass file e bs sc).1,
      a.offered = file ∧ a.enc = selectEncoding a.accept ∧ (a.accept = encs ∨ a.accept = []) := by
    intro e sc he a ha
    obtain ⟨a1, a2, a3, _⟩ := pass_attempts file e bs sc a ha
    exact ⟨a1, by rw [a3, a2], a2 ▸ he⟩
  have hl1 := pass_length file encs bs script
  have key : (∀ a ∈ tr, a.offered = file ∧ a.enc = selectEncoding a.accept ∧ (a.accept = encs ∨ a.accept = [])) ∧
      tr.length ≤ 2 * bs.length ∧ (encs = [] → tr.length ≤ bs.length) := by
    rcases hcases with ⟨_, rfl⟩ | ⟨hre, _, rfl⟩
    · exact ⟨att _ _ (.inl rfl), by omega, fun _ => hl1⟩
    · have hl2 := pass_length file [] bs (pass file encs bs script).2.2
      refine ⟨fun a ha => ?_, by rw [List.length_append]; omega,
        fun he => by subst he; exact absurd hre (pass_no_restart file bs script)⟩
      exact (List.mem_append.mp ha).elim (att _ _ (.inl rfl) a) (att _ _ (.inr rfl) a)
  exact ⟨key.1, fun comp dec hrt a ha => by rw [hrt, (key.1 a ha).1], bs, hbs, key.2⟩

example : doRequest [1, 2, 3] "x-snappy-framed, gzip".toList [0, 1] 3
      [.neterr true, .status 406, .status 503, .status 200]
    = .ok ([⟨0, "x-snappy-framed, gzip".toList, snappy, [1, 2, 3]⟩, ⟨1, "x-snappy-framed, gzip".toList, snappy, [1, 2, 3]⟩,
            ⟨0, [], [], [1, 2, 3]⟩, ⟨1, [], [], [1, 2, 3]⟩], .response 200 1) := by decide +kernel

/-- **fault_never_accepted.** (unchanged code: `compress`'s error goes to `pw.CloseWithError`)
    Whenever `doRequest` terminates with a list of attempts,
    * an attempt whose source reader fails after `k` bytes — for every `k`, every classification of the
      error and whatever Content-Encoding was selected — makes `cli.cli.Do` return that error, and no
      cleanly ended body reaches a handler (so no handler can digest, sign and answer 2xx for a prefix);
    * a body that does reach a handler with a clean end is the whole file, and the event of that
      attempt is an answer of the server, not a source fault;
    * `doRequest` returns a response only when the *last* attempt's event is a status below 300: never
      an attempt whose source faulted. -/
theorem fault_never_accepted (file : Bytes) (encs : Str) (bases : List Nat) (retries : Int)
    (script : List Outcome) (tr : List Attempt) (f : Final)
    (h : doRequest file encs bases retries script = .ok (tr, f)) :
    (∀ a ∈ tr, ∀ k t, roundTrip a.enc file (.srcFault k t) = (.error t, .aborted)) ∧
    (∀ a ∈ tr, ∀ o body, (roundTrip a.enc file o).2 = .complete body → body = file ∧ ∃ c, o = .status c) ∧
    (∀ c s, f = .response c s →
        tr ≠ [] ∧ script.getD (tr.length - 1) (.status 200) = .status c ∧ c < 300) := by
  refine ⟨fun a _ k t => roundTrip_srcFault a.enc file k t,
          fun a _ o body hb => roundTrip_complete a.enc file o body hb, ?_⟩
  intro c s hf
  subst hf
  obtain ⟨bs, -, ⟨hf', rfl⟩ | ⟨-, hf', rfl⟩⟩ := doRequest_ok file encs bases retries script tr _ h
  · exact pass_response file encs bs script c s hf'
  · obtain ⟨i1, i2, i3⟩ := pass_response file [] bs _ c s hf'
    rw [pass_consumed file encs bs script, getD_drop] at i2
    have hpos : 0 < (pass file [] bs (pass file encs bs script).2.2).1.length := List.length_pos_iff.mpr i1
    refine ⟨by simp [i1], ?_, i3⟩
    rw [List.length_append, Nat.add_sub_assoc hpos, pass_consumed file encs bs script]
    exact i2

/-- a single attempt, any encoding: the source fails after `k` bytes ⇒ transport error, nothing accepted -/
theorem fault_is_transport_error (enc : Str) (file : Bytes) (k : Nat) (t : Bool) :
    roundTrip enc file (.srcFault k t) = (.error t, .aborted) ∧
    bodyEnd enc (sourceOf file (.srcFault k t)).2 ≠ .eof := by
  refine ⟨roundTrip_srcFault enc file k t, ?_⟩
  rw [srcFault_bodyEnd]; simp

-- snappy negotiated; the source of the first upload breaks after 2 of 3 bytes with a temporary error:
-- the first server accepts nothing, the second one gets the whole file
example : doRequest [1, 2, 3] snappy [0, 1] 0 [.srcFault 2 true, .status 200]
    = .ok ([⟨0, snappy, snappy, [1, 2, 3]⟩, ⟨1, snappy, snappy, [1, 2, 3]⟩], .response 200 1) := by decide +kernel
-- a permanent fault ends the request with an error
example : doRequest [1, 2, 3] snappy [0, 1] 0 [.srcFault 0 false, .status 200]
    = .ok ([⟨0, snappy, snappy, [1, 2, 3]⟩], .netError) := by decide +kernel
example : roundTrip snappy [1, 2, 3] (.srcFault 2 false) = (.error false, .aborted) := by decide +kernel
example : roundTrip snappy [1, 2, 3] (.status 200) = (.response 200, .complete [1, 2, 3]) := by decide +kernel

/-- **failover_after_406_uncompressed.** Once a server has answered 406 (or 415: any restart) to a request that advertised
    encodings, every later attempt is made without Accept-Encoding and with an unencoded body, and
    starts again from the first server. -/
theorem failover_after_406_uncompressed (file : Bytes) (encs : Str) (bs : List Nat) (script : List Outcome)
    (h : (pass file encs bs script).2.1 = .restart) :
    ∃ f, doRequest file encs bs 0 script
        = .ok ((pass file encs bs script).1 ++ (pass file [] bs (pass file encs bs script).2.2).1, f) ∧
      ∀ a ∈ (pass file [] bs (pass file encs bs script).2.2).1, a.accept = [] ∧ a.enc = [] ∧ a.offered = file := by
  have hnr := pass_no_restart file bs (pass file encs bs script).2.2
  cases h2 : (pass file [] bs (pass file encs bs script).2.2).2.1 with
  | restart => exact absurd h2 hnr
  | final f =>
    refine ⟨f, ?_, ?_⟩
    · unfold doRequest
      simp only [expand_zero, h, h2]
    · intro a ha
      obtain ⟨a1, a2, a3, _⟩ := pass_attempts file [] bs _ a ha
      exact ⟨a2, by rw [a3, selectEncoding_nil], a1⟩

/-- **failover_first_healthy.** If the first `k` attempts fail transiently (transport error classified
    temporary, or 500/502/503/504/507) and the list has more than `k` servers, the request is served
    by server `k` after exactly `k + 1` attempts, each of which offered the whole file. -/
theorem failover_first_healthy (file : Bytes) (encs : Str) (bs : List Nat) (fails : List Outcome)
    (c : Nat) (more : List Outcome) (hf : ∀ o ∈ fails, isTemp o = true)
    (hk : fails.length < bs.length) (hc : c < 300) :
    doRequest file encs bs 0 (fails ++ .status c :: more) =
      .ok ((bs.take (fails.length + 1)).map (fun b => ⟨b, encs, selectEncoding encs, file⟩),
           .response c (bs.getD fails.length 0)) := by
  unfold doRequest
  simp only [expand_zero, pass_first_healthy file encs fails c more bs hf hk hc]

example : doRequest [9] gzip [5, 6, 7] 0 [.status 503, .neterr true, .status 201]
    = .ok ([⟨5, gzip, gzip, [9]⟩, ⟨6, gzip, gzip, [9]⟩, ⟨7, gzip, gzip, [9]⟩], .response 201 7) :=
  failover_first_healthy [9] gzip [5, 6, 7] [.status 503, .neterr true] 201 [] (by decide) (by decide) (by decide)

end transport

end Relic.Props.C09
