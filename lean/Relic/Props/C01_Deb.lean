/-
  C01 — Every signature relic produces verifies.   DEB part (model `Relic.Model.Deb`): the archive layer.
  PGP is a parameter (`cs` signs, `pgp` verifies and returns the canonical text), so the statement is: `Verify`'s walk over the
  signed archive ends cleanly, the signature member it keeps for the role is the document just written, and the digests it
  recomputes are exactly the `Files:` lines that were signed.  What is left is `checkSig` on the text the PGP layer returns.
  `ReadsBack` here is `Relic.Deb.ReadsBack` (`Props/C01_Rpm` has a relation of the same bare name).
-/
import Relic.Props.C03_Deb
namespace Relic.Props.C01
open Relic.Deb

theorem verifyFail_tight (es : List Entry) (h : ∀ e ∈ es, 0 ≤ e.size) : verifyFail es = false := by
  induction es with
  | nil => rfl
  | cons a es ih =>
    simp only [verifyFail, Bool.or_eq_false_iff, decide_eq_false_iff_not, Int.not_lt]
    exact ⟨h a (by simp), ih (fun e he => h e (by simp [he]))⟩

theorem lookup_none (k : Bytes) (l : List (Bytes × Bytes)) (h : ∀ p ∈ l, p.1 ≠ k) : lookup k l = none :=
  lookup_absent k l h

theorem lookup_last (k v : Bytes) (l1 l2 : List (Bytes × Bytes)) (h : ∀ p ∈ l2, p.1 ≠ k) :
    lookup k (l1 ++ (k, v) :: l2) = some v := by
  induction l1 with
  | nil => simp [lookup, lookup_absent k l2 h]
  | cons p l1 ih =>
    obtain ⟨k', v'⟩ := p
    simp only [List.cons_append, lookup, ih]

theorem isPrefix_eq (a n : Bytes) (h : isPrefix a n = true) : n = a ++ n.drop a.length :=
  Deb.isPrefix_eq a n h

theorem gpg_drop (role : Bytes) : (gpg ++ role).drop 4 = role := by simp [gpg]

/-- the two filters (`Sign`: cleaned name, `Verify`: raw name) select the same members -/
theorem digests_eq_lines (H1 H2 : Bytes → Bytes) (es : List Entry)
    (hp : ∀ x ∈ es, isGpgName x.name = isGpgName (pathClean x.name)) :
    digestsOf H1 H2 es = (linesOf es).map fun l => (l.name, digestOf H1 H2 l.body) := by
  unfold digestsOf linesOf
  rw [List.map_map, filter_gpg_clean es hp]
  rfl

theorem digestsOf_skip (H1 H2 : Bytes → Bytes) (es1 es2 : List Entry) (x : Entry) (hx : isGpgName x.name = true) :
    digestsOf H1 H2 (es1 ++ x :: es2) = digestsOf H1 H2 (es1 ++ es2) := by
  simp [digestsOf, List.filter_append, hx]

theorem sigsOf_mid (es1 es2 : List Entry) (x : Entry) (hx : isGpgName x.name = true) :
    sigsOf (es1 ++ x :: es2) = sigsOf es1 ++ (x.name.drop 4, x.body) :: sigsOf es2 := by
  simp [sigsOf, List.filter_append, hx]

/-- the duplicate-name test of `Verify` does not look at `_gpg*` members -/
theorem distinctNames_skip (es1 es2 : List Entry) (x : Entry) (hx : isGpgName x.name = true) :
    distinctNames (es1 ++ x :: es2) = distinctNames (es1 ++ es2) := by
  simp [distinctNames, List.filter_append, hx]

/-- **deb_sign_then_verify.** For every tight archive the reader accepts, whose member names `Sign` (cleaned) and `Verify`
    (raw) classify alike, and every role that `path.Clean` leaves alone: after `Sign` + patch application
    (1) `Verify`'s walk neither panics nor stops early, and the duplicate-name refusal (fix for F40) does not fire when the
    input's digested members have distinct names; (2) the signature it keeps for the role is the document `cs` returned
    for the message; (3) the name → digest table it builds is, entry by entry and in order, the `Files:` lines of that message.
    Hence the role's outcome is `checkSig (text) (the signed lines)` whenever the PGP layer accepts the document, and
    `err pgp` otherwise. -/
theorem deb_sign_then_verify (H1 H2 cs ctl) (pgp : Bytes → Option Bytes) (mt signer date role f : Bytes) (o : SignOut) (es : List Entry)
    (h8 : 8 ≤ f.length) (he : entries f = (es, .eof)) (ht : Tight (f.drop 8) es)
    (hp : ∀ x ∈ es, isGpgName x.name = isGpgName (pathClean x.name))
    (hdn : distinctNames es = true)
    (hc : pathClean (gpg ++ role) = gpg ++ role)
    (hs : sign H1 H2 cs ctl mt signer date role f = .ok o)
    (hrb : ReadsBack (gpg ++ role) mt (cs (message H1 H2 signer date role (linesOf es)))) :
    let S := cs (message H1 H2 signer date role (linesOf es))
    let g := C03.signedBytes f o
    let lines := (linesOf es).map fun l => (l.name, digestOf H1 H2 l.body)
    applyPatch f o = .ok g ∧
    (∃ rs, verify H1 H2 pgp g = .ok rs) ∧
    lookup role (sigsOf (entries g).1) = some S ∧
    digestsOf H1 H2 (entries g).1 = lines ∧
    checkRole pgp (digestsOf H1 H2 (entries g).1) (sigsOf (entries g).1) role =
      (match pgp S with
       | none => .err "pgp"
       | some text => checkSig text lines) := by
  intro S g lines
  obtain ⟨_, hap⟩ := C03.deb_patch_constructible H1 H2 cs ctl mt signer date role f o es h8 he ht hs
  obtain ⟨_, k, kt⟩ := C03.deb_payload_preserved H1 H2 cs ctl mt signer date role f o es h8 he ht hs hrb
  have hgn : isGpgName (gpg ++ role) = true := Deb.isPrefix_append gpg role
  have hd0 := digests_eq_lines H1 H2 es hp
  -- both cases of `deb_payload_preserved` say: the new member stands between `es1` and `es2`, and no member behind it is for
  -- the role; after that each of `Verify`'s three tables is one `_skip` / `_mid` rewrite
  have core : ∃ es1 es2, entries g = (es1 ++ newEntry (gpg ++ role) mt S :: es2, .eof) ∧
      (∀ x ∈ es2, pathClean x.name ≠ gpg ++ role) ∧ digestsOf H1 H2 (es1 ++ es2) = lines ∧
      distinctNames (es1 ++ es2) = true := by
    rcases k with ⟨_, _, c⟩ | ⟨es1, e, es2, a, b, c, _, _, d⟩
    · exact ⟨es, [], by simpa using c, by simp, by simpa using hd0, by simpa using hdn⟩
    · have hraw : isGpgName e.name = true := by
        rw [hp e (by rw [a]; simp), b]; exact hgn
      refine ⟨es1, es2, d, c, ?_, ?_⟩
      · rw [← digestsOf_skip H1 H2 es1 es2 e hraw, ← a]; exact hd0
      · rw [← distinctNames_skip es1 es2 e hraw, ← a]; exact hdn
  obtain ⟨es1, es2, hent, hn2, hdig, hdist⟩ := core
  have hdg2 : distinctNames (entries g).1 = true := by
    rw [hent]
    simp only
    rw [distinctNames_skip es1 es2 _ (by simpa [newEntry] using hgn)]
    exact hdist
  have hstop : (entries g).2 = .eof := by rw [hent]
  have hsz : ∀ e ∈ (entries g).1, 0 ≤ e.size := kt.1
  have hsig : lookup role (sigsOf (entries g).1) = some S := by
    rw [hent]
    simp only
    rw [sigsOf_mid es1 es2 _ (by simpa [newEntry] using hgn)]
    simp only [newEntry, gpg_drop]
    apply lookup_last
    intro p hp2
    simp only [sigsOf, List.mem_map, List.mem_filter] at hp2
    obtain ⟨x, ⟨hx, hxg⟩, rfl⟩ := hp2
    intro hr
    simp only at hr
    have := isPrefix_eq gpg x.name hxg
    have hlen : gpg.length = 4 := rfl
    rw [hlen, hr] at this
    exact hn2 x hx (by rw [this]; exact hc)
  have hdg : digestsOf H1 H2 (entries g).1 = lines := by
    rw [hent]
    simp only
    rw [digestsOf_skip H1 H2 es1 es2 _ (by simpa [newEntry] using hgn)]
    exact hdig
  refine ⟨hap, ?_, hsig, hdg, ?_⟩
  · exact ⟨_, (verify_ok_iff ..).mpr ⟨verifyFail_tight _ hsz, hstop, hdg2, rfl⟩⟩
  · unfold checkRole
    rw [hsig, hdg]
    rfl

/-- the full statement: with a PGP layer that accepts what it signed and returns the canonical text, verification succeeds.
    Proved as `deb_sign_then_verify_text` in Props/C01_DebFull.lean (text layer: Proofs/DebText.lean, `checkSig_canonText_message`). -/
def deb_sign_then_verify_full : Prop :=
  ∀ (H1 H2 cs : Bytes → Bytes) (ctl : Bytes → Bytes → Bool) (pgp : Bytes → Option Bytes) (mt signer date role f : Bytes) (o : SignOut)
    (es : List Entry), 8 ≤ f.length → entries f = (es, .eof) → Tight (f.drop 8) es →
    (∀ x ∈ es, plainName x.name = true) → distinctNames es = true → roleRegular role = true →
    (∀ b, (H1 b).length = 32 ∧ (H2 b).length = 40 ∧ ∀ c ∈ H1 b ++ H2 b, c ≠ 32 ∧ c ≠ 9 ∧ c ≠ 10 ∧ c ≠ 13) →
    (∀ c ∈ signer ++ date, c ≠ 10) →
    (∀ m, pgp (cs m) = some (canonText m)) →
    sign H1 H2 cs ctl mt signer date role f = .ok o →
    ReadsBack (gpg ++ role) mt (cs (message H1 H2 signer date role (linesOf es))) →
    checkRole pgp (digestsOf H1 H2 (entries (C03.signedBytes f o)).1) (sigsOf (entries (C03.signedBytes f o)).1) role = .ok ()

-- makes `∃ o, sign … = .ok o ∧ …` decidable by running `sign`, so that `decide +kernel` takes the whole statement
attribute [local instance] Res.decExistsOk

set_option maxRecDepth 100000 in
/-- non-vacuity and an end-to-end instance of the full statement (hashes and PGP replaced by transparent stand-ins):
    sign the sample for "builder", apply, verify: the role verifies. -/
example :
    let H1 : Bytes → Bytes := fun b => List.replicate 32 (48 + UInt8.ofNat (b.length % 10))
    let H2 : Bytes → Bytes := fun b => List.replicate 40 (97 + UInt8.ofNat (b.length % 7))
    ∃ o, sign H1 H2 (fun m => m) (fun _ _ => true) [49] [65] [64] [98, 117, 105, 108, 100, 101, 114] C03.sampleSigned = .ok o ∧
      verifyOk H1 H2 (fun s => some (canonText s)) (C03.signedBytes C03.sampleSigned o) = true ∧
      (∀ x ∈ (entries C03.sampleSigned).1, isGpgName x.name = isGpgName (pathClean x.name)) := by
  decide +kernel

end Relic.Props.C01
