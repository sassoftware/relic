/-
  C09 — "the server's digest of the upload stream … equals the digest the verifier later computes from the patched file":
  one theorem for PE/COFF, CAB and PowerShell, composing
    * the reader refinements of Relic/Props/C09_Readers.lean (what the real digester reads from ANY delivery of a file is what
      the whole-buffer format model says), used twice: for the upload on the server and for the patched file in the verifier;
    * the sign-then-verify theorems of C01 and, for PowerShell, `C08.ps_digest_ignores_signature` (the file `Sign → Apply`
      writes, and the verifier's re-digest of it, in the whole-buffer models).
  The hash is a parameter throughout: equality of the hashed byte streams.
-/
import Relic.Props.C09_Readers
import Relic.Props.C01
import Relic.Props.C01_Cab
import Relic.Props.C01_PS
namespace Relic.Props.C09
open Relic.Rd

theorem peObs_false (f : Bytes) : peObs false f = toObsPE false f (PE.DigestPE f) := by
  unfold peObs
  split
  · exact if_neg (fun h => Bool.noConfusion h.1)
  · rfl

theorem peObs_ok {pg : Bool} {f : Bytes} {out : PEOut} {h p : Bytes} (e : peObs pg f = .ok (out, h, p)) :
    ∃ d, PE.DigestPE f = .ok d ∧ h = d.hashed ∧ out.certStart = d.certStart ∧ out.origSize = d.origSize ∧ p = [] := by
  -- the refusal of page hashes over long headers is an error: an accepted run went through `toObsPE`
  have key : toObsPE pg f (PE.DigestPE f) = .ok (out, h, p) := by
    unfold peObs at e
    split at e
    · split at e
      · cases e
      · exact e
    · exact e
  unfold toObsPE at key
  split at key <;> cases key
  exact ⟨_, ‹_›, rfl, rfl, rfl, rfl⟩

theorem cabObs_ok {f : Bytes} {d : Cab.Digest} {h p : Bytes} (e : cabObs f = .ok (d, h, p)) :
    Cab.DigestCab f = .ok d ∧ h = d.hashed ∧ p = d.patched := by
  unfold cabObs at e
  cases hd : Cab.DigestCab f with
  | ok d' =>
    rw [hd] at e
    obtain ⟨rfl, rfl, rfl⟩ : d' = d ∧ d'.hashed = h ∧ d'.patched = p := by simpa [toObs] using e
    exact ⟨rfl, rfl, rfl⟩
  | _ => rw [hd] at e; cases e

theorem psObs_ok {f : Bytes} {style : Nat} {out : PSOut} {h p : Bytes} (e : psObs f style = .ok (out, h, p)) :
    ∃ d, PS.DigestPS f style = .ok d ∧ h = d.hashed ∧ out.textSize = d.textSize ∧ out.utf16 = d.utf16 := by
  unfold psObs at e
  split at e <;> cases e
  exact ⟨_, ‹_›, rfl, rfl, rfl⟩

/-- **stream_digest_eq_file_digest.**  Let a file be uploaded to the server by ANY delivery `up` (cuts, empty reads, io.EOF
    with or after the last bytes; for PowerShell: never 100 empty reads in a row) and let the server's digester accept it,
    having fed the byte stream `h` to the hash.  Then, in the whole-buffer model of the file, the digest succeeded with that
    same stream; the file that `Sign → Apply` writes for any signature blob `sig` is the model's `signedBytes`; and when the
    verifier later reads that patched file through ANY delivery `vf`, its run of the same digester succeeds and feeds the hash
    exactly `h` again.  Hence, for every hash function, the imprint the server signed is the imprint the verifier recomputes.
      (1) PE/COFF (`authenticode.DigestPE`, with or without page hashes on the server; `e_lfanew ≥ 64`, sizes below 4 GiB)
      (2) CAB (`cabfile.Digest` after fix F-rd-cab-tail; regular layout, no uint32 wrap, non-empty blob)
      (3) PowerShell (`authenticode.DigestPowershell`; no line of the text is the marker line: `NoFalseMarker`) -/
theorem stream_digest_eq_file_digest :
    -- (1) PE
    (∀ (pg : Bool) (up : Stream) (out : PEOut) (h p sig : Bytes),
      up.term = .eof → 64 ≤ PE.u32 up.data 0x3c →
      obs (run (digestPE pg) (M.raw up)) = .ok (out, h, p) →
      out.certStart < 2 ^ 32 → 8 + PE.ceil8 sig.length < 2 ^ 32 →
      ∃ d, PE.DigestPE up.data = .ok d ∧ d.hashed = h ∧
        ∀ (vf : Stream), vf.term = .eof → vf.data = PE.signedBytes up.data d sig →
          ∃ out', obs (run (digestPE false) (M.raw vf)) = .ok (out', h, [])) ∧
    -- (2) CAB
    (∀ (up : Stream) (d : Cab.Digest) (h p sig : Bytes) (mx : Nat),
      up.term = .eof → obs (run digestCab (M.raw up)) = .ok (d, h, p) →
      Cab.Regular d → Cab.NoWrap d → sig ≠ [] → (Cab.padded sig).length < 2 ^ 32 →
      Binpatch.applyRewrite up.data (Binpatch.build mx (Cab.makePatch d sig)) = .ok (Cab.signedBytes d sig) ∧
        ∀ (vf : Stream), vf.term = .eof → vf.data = Cab.signedBytes d sig →
          ∃ d' p', obs (run digestCab (M.raw vf)) = .ok (d', h, p') ∧ d'.signature = Cab.padded sig) ∧
    -- (3) PowerShell
    (∀ (style fuel : Nat) (up : Stream) (out : PSOut) (h p sig st en : Bytes),
      up.term = .eof → up.NoStall → up.data.length + 1 < fuel → PS.styleOf style = some (st, en) →
      obs (run (digestPS style fuel) (M.raw up)) = .ok (out, h, p) →
      ∃ d, PS.DigestPS up.data style = .ok d ∧ d.hashed = h ∧
        (C08.NoFalseMarker up.data d st en →
          ∀ (vf : Stream) (fuel' : Nat), vf.term = .eof → vf.NoStall → vf.data = PS.signedBytes up.data d st en sig →
            vf.data.length + 1 < fuel' →
            ∃ out', obs (run (digestPS style fuel') (M.raw vf)) = .ok (out', h, []) ∧ out'.textSize = out.textSize)) := by
  refine ⟨?_, ?_, ?_⟩
  · intro pg up out h p sig ht hp hobs hcs hsig
    rw [pe_reader_refines_model pg up ht] at hobs
    obtain ⟨d, hd, hh, hc, _, _⟩ := peObs_ok hobs
    refine ⟨d, hd, hh.symm, ?_⟩
    intro vf hvt hvd
    obtain ⟨⟨d', hd', hh'⟩, _⟩ := C01.pe_sign_then_verify up.data d sig hp hd (by rw [← hc]; exact hcs) hsig
    rw [pe_reader_refines_model false vf hvt, hvd, peObs_false, hd']
    exact ⟨⟨d'.origSize, d'.certStart, d'.m, d'.hdrLen, none⟩, by simp [toObsPE, hh', hh]⟩
  · intro up d h p sig mx ht hobs R W hne hs
    rw [cab_reader_refines_model up ht] at hobs
    obtain ⟨hd, hh, _⟩ := cabObs_ok hobs
    obtain ⟨a1, a2, d', hd', hh'⟩ := C01.cab_sign_then_verify id up.data d sig hd R W hne hs mx
    refine ⟨a1, ?_⟩
    intro vf hvt hvd
    rw [cab_reader_refines_model vf hvt, hvd]
    unfold cabObs
    rw [hd']
    refine ⟨d', d'.patched, ?_, ?_⟩
    · simp only [toObs, id] at hh' ⊢
      rw [hh', hh]
    · unfold Cab.locate at a2
      rw [hd'] at a2
      simp only at a2
      split at a2
      · cases a2
      · injection a2
  · intro style fuel up out h p sig st en ht hns hf hst hobs
    rw [ps_reader_refines_model style fuel up ht hns hf] at hobs
    obtain ⟨d, hd, hh, hts, _⟩ := psObs_ok hobs
    refine ⟨d, hd, hh.symm, ?_⟩
    intro nf vf fuel' hvt hvn hvd hvf
    obtain ⟨d', hd', hh', hts', _⟩ := C08.ps_digest_ignores_signature up.data style d st en sig hd hst nf
    rw [ps_reader_refines_model style fuel' vf hvt hvn hvf, hvd]
    unfold psObs
    rw [hd']
    exact ⟨⟨d'.textSize, d'.sigSize, d'.utf16⟩, by simp [hh', hh], by simp [hts', hts]⟩

-- non-vacuity: uploads that the server-side digesters accept, delivered in pieces with an empty read and io.EOF on the last bytes
example : (obs (run digestCab (M.raw ⟨[tinyCab.take 10, [], tinyCab.drop 10], .eof, true⟩))).isOk = true ∧
    (obs (run (digestPS 1 20) (M.raw ⟨[[0x61], [], [0x0d, 0x0a, 0x62]], .eof, true⟩))).isOk = true ∧
    PS.styleOf 1 = some (PS.ascii "# ", []) := by decide +kernel

end Relic.Props.C09
