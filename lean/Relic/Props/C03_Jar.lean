/-
  C03 fragment — JAR: which archive members signing removes / replaces (`keepFile`), everything else is carried over.
-/
import Relic.Proofs.Jar
namespace Relic.Props.C03
open Relic.Jar

/-- the rule on the last path element of a direct child of `META-INF/` -/
def isSigBase (b : Bytes) : Bool :=
  (asc "SIG-").isPrefixOf b || b == asc "MANIFEST.MF" || sigExts.contains (pathExt b)

theorem dropWhile_append_all {α} (p : α → Bool) : ∀ (x y : List α), (∀ c ∈ x, p c = true) →
    (x ++ y).dropWhile p = y.dropWhile p :=
  fun _ _ h => List.dropWhile_append_of_pos h

theorem takeWhile_append_all {α} (p : α → Bool) : ∀ (x : List α) (a : α) (y : List α), (∀ c ∈ x, p c = true) → p a = false →
    (x ++ a :: y).takeWhile p = x :=
  fun x a y h ha => by rw [List.takeWhile_append_of_pos h, List.takeWhile_cons_of_neg (by simp [ha]), List.append_nil]

theorem dirPart_metaInf (b : Bytes) (hs : ∀ c ∈ b, c ≠ 47) : dirPart (metaInf ++ b) = metaInf := by
  unfold dirPart
  rw [List.reverse_append]
  rw [dropWhile_append_all _ b.reverse metaInf.reverse (by intro c hc; simp at hc; simp [hs c hc])]
  decide

theorem pathBase_metaInf (b : Bytes) (hne : b ≠ []) (hs : ∀ c ∈ b, c ≠ 47) : pathBase (metaInf ++ b) = b := by
  unfold pathBase
  have h1 : (metaInf ++ b).isEmpty = false := by simp [metaInf, asc]
  simp only [h1, Bool.false_eq_true, ↓reduceIte]
  -- no trailing slash to strip
  have hrev : (metaInf ++ b).reverse = b.reverse ++ metaInf.reverse := List.reverse_append
  have hbr : b.reverse ≠ [] := by simpa using hne
  obtain ⟨c, t, hct⟩ := List.exists_cons_of_ne_nil hbr
  have hcmem : c ∈ b := by
    have : c ∈ b.reverse := by rw [hct]; simp
    exact List.mem_reverse.mp this
  have hc : c ≠ 47 := hs c hcmem
  have hstrip : ((metaInf ++ b).reverse.dropWhile (· == 47)) = (metaInf ++ b).reverse := by
    rw [hrev, hct]
    simp [hc]
  rw [hstrip]
  simp only [List.reverse_reverse]
  have hm : metaInf.reverse = 47 :: (asc "META-INF").reverse := by decide
  rw [hrev, hm, takeWhile_append_all _ b.reverse 47 _ (by intro c hc; simp at hc; simp [hs c hc]) (by simp)]
  simp [hne]

/-- **jar_keepfile_exact.** For a direct child of `META-INF/` (name `META-INF/` ++ b with a non-empty last element b
    without `/`), `keepFile` answers `false` – the member is signature metadata that signing deletes or replaces –
    exactly when b starts with `SIG-`, is `MANIFEST.MF`, or has the extension `.SF`, `.RSA`, `.DSA`, `.EC` or `.SIG`
    (case-sensitive, last dot of b); `META-INF/` itself is replaced; a name whose cleaned directory is not
    `META-INF` is always kept. -/
theorem jar_keepfile_exact :
    (∀ b : Bytes, b ≠ [] → (∀ c ∈ b, c ≠ 47) → keepFile (metaInf ++ b) = !isSigBase b) ∧
    keepFile metaInf = false ∧
    (∀ n : Bytes, n ≠ metaInf → pathDir n ≠ metaInfDir → keepFile n = true) := by
  refine ⟨fun b hne hs => ?_, by decide, fun n h1 h2 => ?_⟩
  · unfold keepFile
    have h1 : (metaInf ++ b == metaInf) = false := by
      simp only [beq_eq_false_iff_ne, ne_eq]
      intro h
      have := congrArg List.length h
      simp at this
      exact hne this
    have h2 : pathDir (metaInf ++ b) = metaInfDir := by
      unfold pathDir
      rw [dirPart_metaInf b hs]
      decide
    simp only [h1, h2, pathBase_metaInf b hne hs, isSigBase, bne_self_eq_false, Bool.false_eq_true, ↓reduceIte]
    generalize (asc "SIG-").isPrefixOf b = A
    generalize (b == asc "MANIFEST.MF") = B
    generalize sigExts.contains (pathExt b) = C
    cases A <;> cases B <;> cases C <;> rfl
  · unfold keepFile
    simp [h1, h2]

/-- nested look-alikes are payload and are kept; non-clean spellings of a direct child are treated as signature files -/
example : keepFile (asc "META-INF/services/piano.SF") = true ∧ keepFile (asc "META-INF/sub/OTHER.EC") = true ∧
    keepFile (asc "x/META-INF/Y.RSA") = true ∧ keepFile (asc "META-INF/a.sf") = true := by decide +kernel
example : keepFile (asc "META-INF/OLD.SF") = false ∧ keepFile (asc "META-INF/SIG-X") = false ∧
    keepFile (asc "META-INF//A.SF") = false ∧ keepFile (asc "x/../META-INF/A.RSA") = false := by decide +kernel

/-- **jar_payload_members_kept.** The signed archive consists of the four members signing writes followed by exactly
    the input members `keepFile` keeps, in their original order and with their original content. -/
theorem jar_payload_members_kept (hash : Bytes → Bytes) (sign : Bytes → Bytes) (hn cb : Bytes) (so apk : Bool)
    (kk : Nat) (alias : Bytes) (ms out : List Member) (h : signJar hash sign hn cb so apk kk alias ms = .ok out) :
    out.drop 4 = ms.filter (fun m => keepFile m.name) := by
  obtain ⟨mf, sf, -, -, -, rfl⟩ := signJar_eq_ok.mp h
  simp [signedMembers]

/-- full strength, not proved: the converse for arbitrary plain names (every path element non-empty and neither `.`
    nor `..`): `keepFile n = false` only if `n` is `META-INF/` or a direct child of it.  (Needs `pathClean` = identity
    on plain paths.) -/
def jar_keepfile_exact_full : Prop :=
  ∀ n : Bytes, (∀ e ∈ splitOnSlash n, e ≠ [] ∧ e ≠ [46] ∧ e ≠ [46, 46]) → keepFile n = false →
    ∃ b, n = metaInf ++ b ∧ (∀ c ∈ b, c ≠ 47) ∧ isSigBase b = true

end Relic.Props.C03
