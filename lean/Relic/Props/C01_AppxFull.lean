/-
  C01 (APPX), end to end: relic's verifier accepts what relic's signer wrote (`appx_sign_then_verify_zip`), under explicit
  hypotheses; the statement `appx_sign_then_verify_full` of C01_Appx.lean, which has none of them, is false
  (`not_appx_sign_then_verify_full`).
-/
import Relic.Props.C01_Appx
import Relic.Proofs.AppxRoundTrip
namespace Relic.Props.C01
open Relic.Zip Relic.ZipOwn Relic.Appx

theorem sign_digest_unique {c : Codec} {z : Bytes} {ps : Parts} {r : Signed} (h : sign c z ps = .ok r) {g : Digested}
    (hg : digest c z = .ok g) : r.streams.axci.isSome = g.p.hasPE := by
  obtain ⟨g', hg', e⟩ := appx_catalog_iff_pe c z ps r h
  rw [hg] at hg'
  injection hg' with hg'
  rw [e, hg']

/-- **appx_sign_then_verify_zip.** For every codec, package and regenerated parts: if relic signs (`sign c z ps = .ok r`), then
    relic's verifier accepts the output under the signed streams and the marshalled block map — with the SAME codec —
    provided that
    * the deflated parts the verifier inflates are coherent with the codec (block map, content types, and the catalog when
      one is written; the manifest is stored; the signature part is not inflated by `verify`);
    * the manifest is not empty and the block map's 24-byte descriptor is not taken for a 16-byte one (F7a:
      `descWideOk`, true whenever the block map is not empty and its deflated form is below 4 GiB);
    * the sizes of the regenerated parts and the signature's uncompressed length fit 64 bits (the size fields of the descriptor
      and of the ZIP64 extra field are 8 bytes); the output is below 2^63.  There is NO 4 GiB limit: `WriteDirectory` leaves the
      directory as it was (`write_directory_idempotent` of C17), so the directory hashed for AXCD is the directory written also
      when parts or the signature part lie at or beyond 0xffffffff.
    * no payload member is named `*.appx` (F41: `blockMap.AddFile` leaves it out, `verifyBlockMap` demands it).
    No hypothesis about the payload members otherwise (whatever the forward pass read during signing is read again, at
    the same offsets, by the random-access reader), none about PE members (`verify` carries fix-F19). -/
theorem appx_sign_then_verify_zip (c : Codec) (z : Bytes) (ps : Parts) (r : Signed) (hsign : sign c z ps = .ok r)
    (hbm : c.inflate ps.blockmap.compd = some ps.blockmap.plain)
    (hct : c.inflate ps.ctypes.compd = some ps.ctypes.plain)
    (hcat : r.streams.axci.isSome = true → c.inflate ps.catalog.compd = some ps.catalog.plain)
    (hman : ps.manifest.plain ≠ [] ∧ ps.manifest.plain.length < 2 ^ 64)
    (hbms : descWideOk ps.blockmap.compd.length ps.blockmap.plain.length ∧
      ps.blockmap.compd.length < 2 ^ 64 ∧ ps.blockmap.plain.length < 2 ^ 64)
    (hcts : ps.ctypes.compd.length < 2 ^ 64 ∧ ps.ctypes.plain.length < 2 ^ 64)
    (hcats : r.streams.axci.isSome = true → ps.catalog.compd.length < 2 ^ 64 ∧ ps.catalog.plain.length < 2 ^ 64)
    (hsigs : ps.signature.plain.length < 2 ^ 64)
    (h63 : r.out.length < 2 ^ 63)
    (happx : ∀ g, digest c z = .ok g → ∀ m ∈ g.p.members, endsWith m.file.name sAppx = false) :
    verify c r.out r.streams (some r.bm) = .ok () := by
  have hsmall : ∀ g, digest c z = .ok g → PartsSmall g.p.hasPE ps := fun g hg =>
    partsSmall_of hman.2 hbms.2 hcts fun hb => hcats (by rw [sign_digest_unique hsign hg, hb])
  exact sign_then_verify ⟨hsign, hman.1, hbms.1, hsmall, hsigs, h63⟩ hbm hct
    (fun g hg hb => hcat (by rw [sign_digest_unique hsign hg, hb])) happx

/-- a codec that inflates the three deflated parts of `C05.psEx` -/
def cW : Codec :=
  { inflate := fun x => if x = [3, 0] then some [66] else if x = [3, 1] then some [67]
      else if x = [9, 9] then some [80, 75, 67, 88] else none,
    peOk := fun _ => true, manifestOk := fun _ => true, blockMap := fun _ => none, ctypesOk := fun _ => true }

theorem okAnd_ok {α} {r : Res α} {p : α → Bool} (h : C05.okAnd r p = true) : ∃ a, r = .ok a ∧ p a = true := by
  cases r <;> simp [C05.okAnd] at h
  exact ⟨_, rfl, h⟩

set_option maxRecDepth 20000 in
/-- the hypotheses of `appx_sign_then_verify_zip` hold for the witness package of C05 (one payload member, no catalog), so the
    verifier accepts its signed form -/
example : ∃ r, sign cW C05.zEx C05.psEx = .ok r ∧ verify cW r.out r.streams (some r.bm) = .ok () := by
  have h : C05.okAnd (sign cW C05.zEx C05.psEx) (fun r => r.streams.axci.isNone &&
      decide (r.out.length < 2 ^ 63)) = true := by decide +kernel
  obtain ⟨r, hr, hp⟩ := okAnd_ok h
  simp only [Bool.and_eq_true, decide_eq_true_eq] at hp
  obtain ⟨h1, h3⟩ := hp
  have hnone : ¬ r.streams.axci.isSome = true := by
    cases hx : r.streams.axci <;> simp [hx] at h1 ⊢
  have hd : C05.okAnd (digest cW C05.zEx) (fun g => g.p.members.all fun m => !endsWith m.file.name sAppx) = true := by decide +kernel
  refine ⟨r, hr, appx_sign_then_verify_zip cW C05.zEx C05.psEx r hr (by decide) (by decide) (fun hc => absurd hc hnone)
    (by decide) ⟨by unfold descWideOk; decide, by decide, by decide⟩ (by decide) (fun hc => absurd hc hnone) (by decide) h3 ?_⟩
  intro g hg m hm
  rw [hg] at hd
  simp only [C05.okAnd, List.all_eq_true, Bool.not_eq_true'] at hd
  exact hd m hm

/-- whatever the codec: an accepting `verify` has recomputed the signed AXPC and AXCD with `verifyMeta`, which does not
    use the codec -/
theorem verify_ok_meta {c : Codec} {out : Bytes} {s : Streams} {bm : Option (List BmFile)} (h : verify c out s bm = .ok ()) :
    ∃ cd, verifyMeta out = .ok (s.axpc, cd) := by
  revert h
  fun_cases verify c out s bm
  case case5 pc cd hm hpc _ =>
    intro _
    exact ⟨cd, by rw [hm, Decidable.of_not_not hpc]⟩
  all_goals nofun

/-- witness: one stored member `a.exe` (so that a catalog is written) and a stored `AppxManifest.xml` -/
def zX : Bytes := [80, 75, 3, 4, 20, 0, 0, 0, 0, 0, 0, 0, 0, 0, 153, 40, 230, 143, 2, 0, 0, 0, 2, 0, 0, 0, 5, 0, 0, 0, 97, 46, 101, 120, 101, 120, 121, 80, 75, 3, 4, 20, 0, 0, 0, 0, 0, 0, 0, 0, 0, 115, 147, 120, 36, 4, 0, 0, 0, 4, 0, 0, 0, 16, 0, 0, 0, 65, 112, 112, 120, 77, 97, 110, 105, 102, 101, 115, 116, 46, 120, 109, 108, 60, 80, 47, 62, 80, 75, 1, 2, 20, 0, 20, 0, 0, 0, 0, 0, 0, 0, 0, 0, 153, 40, 230, 143, 2, 0, 0, 0, 2, 0, 0, 0, 5, 0, 0, 0, 0, 0, 0, 0, 0, 0, 0, 0, 0, 0, 0, 0, 0, 0, 97, 46, 101, 120, 101, 80, 75, 1, 2, 20, 0, 20, 0, 0, 0, 0, 0, 0, 0, 0, 0, 115, 147, 120, 36, 4, 0, 0, 0, 4, 0, 0, 0, 16, 0, 0, 0, 0, 0, 0, 0, 0, 0, 0, 0, 0, 0, 37, 0, 0, 0, 65, 112, 112, 120, 77, 97, 110, 105, 102, 101, 115, 116, 46, 120, 109, 108, 80, 75, 5, 6, 0, 0, 0, 0, 2, 0, 2, 0, 113, 0, 0, 0, 87, 0, 0, 0, 0, 0]

/-- witness parts: an EMPTY manifest part (24-byte descriptor, uncompressed size 0: F7a) -/
def psX : Parts := ⟨⟨[], [], 0⟩, ⟨[66], [3, 0], 1⟩, ⟨[67], [3, 1], 2⟩, ⟨[68], [3, 2], 4⟩, ⟨[80, 75, 67, 88], [9, 9], 3⟩, 0, 33⟩

/-- **not_appx_sign_then_verify_full.** The unconditional statement of C01_Appx.lean is false: the model signs `zX` with an
    empty manifest part, and no codec makes the verifier accept the result, because `verifyMeta` — which uses no codec —
    takes the 24-byte descriptor of the empty manifest for a 16-byte one (F7a) and recomputes an AXPC that is 8 bytes short.
    (The statement is mis-stated rather than a new defect of the code: relic never writes an empty manifest.  Other
    ways to falsify it: parts that no single `inflate` explains, a `*.appx` payload member (F41).) -/
theorem not_appx_sign_then_verify_full : ¬ appx_sign_then_verify_full := by
  intro hfull
  have h : C05.okAnd (sign C05.cEx zX psX) (fun r => r.streams.axci.isSome && match verifyMeta r.out with
      | .ok (pc, _) => pc != r.streams.axpc
      | _ => true) = true := by decide +kernel
  obtain ⟨r, hr, hp⟩ := okAnd_ok h
  rw [Bool.and_eq_true] at hp
  obtain ⟨hci, hp⟩ := hp
  -- a catalog was written, so the payload has a PE member
  obtain ⟨g, hg, e⟩ := appx_catalog_iff_pe C05.cEx zX psX r hr
  obtain ⟨c', hv⟩ := hfull C05.cEx zX psX r hr ⟨g, hg, e ▸ hci⟩
  obtain ⟨cd, hm⟩ := verify_ok_meta hv
  rw [hm] at hp
  simp at hp

end Relic.Props.C01
