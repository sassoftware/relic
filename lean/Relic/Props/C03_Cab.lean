/-
  C03 — Signing never corrupts or alters the payload.   CAB part (model `Relic.Model.Cab`).
-/
import Relic.Props.C08_Cab
namespace Relic.Props.C03
open Relic Relic.Cab
open Relic.PE (seg)

/-- **cab_payload_preserved.** The file `Sign → Apply` writes for a regular cabinet is, byte for byte:
    the 60-byte header whose fields are the input's (Magic … CabNumber) except `TotalSize`, `OffsetFiles` (rebased to
    the new layout: `OffsetFiles = 60 + 8·NumFolders`, `TotalSize` = the physical end of the data) and `Flags`
    (= reserve present), followed by the reserve header {20,0,0} and the signature header; then the input's folder
    headers with their offsets rebased by the same amount; then the input's bytes `[OffsetFiles, TotalSize)`
    unchanged; then the blob.  Nothing of the input behind `TotalSize` (an old signature) survives. -/
theorem cab_payload_preserved (f : Bytes) (d : Digest) (sig : Bytes) (e : DigestCab f = .ok d) (R : Regular d) (W : NoWrap d) :
    signedBytes d sig =
      ({ outHdr f (60 + 8 * d.nFolders + (d.total - d.offFiles)) (60 + 8 * d.nFolders) 4 d.hdr.u1 d.hdr.u2 d.hdr.u3 with
          ss := leBytes 4 (padded sig).length } : Hdr60).enc ++
        rebaseFolders f d.delta d.foldersStart d.nFolders ++ seg f d.offFiles d.total ++ padded sig ∧
    (signedBytes d sig).length = 60 + 8 * d.nFolders + (d.total - d.offFiles) + (padded sig).length ∧
    d.total + d.oldSigSize = f.length := by
  have H := DigestCab_spec f d e
  obtain ⟨e1, eO, eT, _, _⟩ := regular_arith f d H R W
  refine ⟨?_, signedBytes_length f d sig H R W, by have := H.stop; omega⟩
  have hd := H.data
  rw [← R.1, e1] at hd
  have hh := H.hdr
  rw [eT, eO] at hh
  have hs : sigHdr d sig = ({ outHdr f (60 + 8 * d.nFolders + (d.total - d.offFiles)) (60 + 8 * d.nFolders) 4 d.hdr.u1 d.hdr.u2
      d.hdr.u3 with ss := leBytes 4 (padded sig).length } : Hdr60) :=
    congrArg (fun h : Hdr60 => { h with ss := leBytes 4 (padded sig).length }) hh
  unfold signedBytes
  rw [hs, ← H.folders, ← hd]

/-- **cab_refusal_is_clean.** When the digest refuses a cabinet no patch exists, so nothing is written. -/
theorem cab_refusal_is_clean (f sig : Bytes) (h : (DigestCab f).isOk = false) : (C08.cabSignRound f sig).isOk = false := by
  unfold C08.cabSignRound
  cases hd : DigestCab f with
  | ok d => simp [hd, Res.isOk] at h
  | err _ => rfl
  | panic _ => rfl
  | diverge => rfl

/-- the patch handed to `binpatch` is constructible, so C12's exactness theorems apply to it -/
theorem cab_patch_constructible (f : Bytes) (d : Digest) (sig : Bytes) (e : DigestCab f = .ok d) (R : Regular d) (W : NoWrap d) :
    C12.Constructible f.length (makePatch d sig) :=
  makePatch_constructible f d sig (DigestCab_spec f d e) R W

theorem readReserve_no_panic (f : Bytes) (t : Nat) (s : String) : readReserve f t ≠ .panic s :=
  readReserve_ne_crash f t (.panic s)

/-- **cab_digest_no_panic** (C11 fact). `cabfile.Digest` never panics: every read it does is guarded by a length test
    (nor does it diverge: `Cab.DigestCab_ne_crash`). -/
theorem cab_digest_no_panic (f : Bytes) (s : String) : DigestCab f ≠ .panic s :=
  DigestCab_ne_crash f (.panic s)

/-- a cabinet whose `OffsetFiles` and `TotalSize` are both 4 less than the physical layout says -/
def irregularCab : Bytes :=
  [0x4d, 0x53, 0x43, 0x46, 0, 0, 0, 0, 45, 0, 0, 0, 0, 0, 0, 0, 40, 0, 0, 0, 0, 0, 0, 0, 3, 1, 1, 0, 1, 0, 0, 0, 0x34, 0x12, 0, 0] ++
  [60, 0, 0, 0, 1, 0, 0, 0] ++ [1, 2, 3, 4, 5]

/-- **cab_irregular_not_preserved.** `cabfile.Digest` accepts such a header (it never compares `OffsetFiles` with the
    end of the folder headers, nor `TotalSize` with the end of the data), `MakePatch` uses both as splice positions, and
    the file written is not a cabinet `Digest` accepts any more: the "refuse or preserve" statement fails for it. -/
theorem cab_irregular_not_preserved :
    (DigestCab irregularCab).isOk = true ∧
    ∃ g, C08.cabSignRound irregularCab [9] = .ok g ∧ DigestCab g = .err "trailing" := by
  refine ⟨by decide +kernel, _, rfl, by decide +kernel⟩

set_option maxRecDepth 100000 in
example : C08.cabOk C08.minimalCab = true := C08.cab_facts.1

end Relic.Props.C03
