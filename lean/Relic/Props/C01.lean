/-
  C01 — Every signature relic produces verifies.   PE/COFF part (model `Relic.Model.PE`): the chain
  digest → patch → apply → (verifier) locate + re-digest.  The cryptographic step is outside the model.
  Other formats add their theorems in `Relic/Props/C01_*.lean`.
-/
import Relic.Props.C08
namespace Relic.Props.C01
open Relic Relic.PE

/-- **pe_sign_then_redigest (partial).** The verifier recomputes the image digest of the signed file; whenever that
    computation succeeds it hashes exactly the stream that was signed, so for *every* hash function the imprint
    in the signature equals the recomputed one. -/
theorem pe_sign_then_redigest_partial (H : Bytes → Bytes) (f : Bytes) (d d' : Digest) (sig : Bytes) (ps : List Binpatch.Patch)
    (hp : 64 ≤ u32 f 0x3c) (e : DigestPE f = .ok d) (hm : makePatch d sig = .ok ps)
    (hsig : 8 + ceil8 sig.length < 2 ^ 32) (M : Nat) :
    Binpatch.applyRewrite f (Binpatch.build M ps) = .ok (signedBytes f d sig) ∧
    (DigestPE (signedBytes f d sig) = .ok d' → H d'.hashed = H d.hashed) := by
  refine ⟨C08.pe_signed_file f d sig ps hp e hm M, ?_⟩
  intro e'
  have hcs : d.certStart < 2 ^ 32 := by
    unfold makePatch at hm
    split at hm
    · contradiction
    · omega
  rw [C08.pe_digest_ignores_signature_partial f d d' sig hp e hcs hsig e']

/-- **pe_sign_then_verify.** The full statement: for every file `DigestPE` accepts (with `e_lfanew ≥ 64`) and every
    signature blob `MakePatch` accepts, on the signed file the verifier's re-digest *succeeds* and hashes exactly
    the stream that was signed, and the verifier's locator (`findSignatures` + certificate-table walk) finds exactly
    one blob: the embedded signature, zero-padded to a multiple of 8 as `MakePatch` stores it. -/
theorem pe_sign_then_verify (f : Bytes) (d : Digest) (sig : Bytes) (hp : 64 ≤ u32 f 0x3c)
    (e : DigestPE f = .ok d) (hcs : d.certStart < 2 ^ 32) (hsig : 8 + ceil8 sig.length < 2 ^ 32) :
    (∃ d', DigestPE (signedBytes f d sig) = .ok d' ∧ d'.hashed = d.hashed) ∧
    locate (signedBytes f d sig) = .ok [sig ++ List.replicate (ceil8 sig.length - sig.length) 0] :=
  ⟨C08.pe_digest_ignores_signature f d sig hp e hcs hsig, locate_signed f d sig hp e hcs hsig⟩

set_option maxRecDepth 100000 in
example : 64 ≤ u32 C08.minimalPE 0x3c ∧ C08.minimalPE_ok = true ∧ C08.minimalPE_hyps = true :=
  ⟨C08.minimalPE_facts.1, C08.minimalPE_facts.2.1, C08.minimalPE_facts.2.2.1⟩

end Relic.Props.C01
