/-
  C02, container layer — what acceptance by relic's PKCS#7 verifier (`Relic.Cms.verifySignedData`, the model of
  `pkcs7.SignedData.Verify`) implies, and the tamper corollaries.  Hashes and signature primitives are parameters;
  collision-freeness appears only as an explicit hypothesis on the two streams in question, and the signature
  clauses are stated without any unforgeability assumption: "acceptance of the modified structure implies that the
  signature value verifies over the *modified* bytes / under the *new* key".
-/
import Relic.Proofs.Cms
import Relic.Proofs.Der
import Relic.Proofs.Res
namespace Relic.Props.C02
open Relic.Der Relic.Cms

/-- the signature value is accepted for this key, digest algorithm, signature algorithm and digest
    (`PkixVerify`, or the hash-0 retry for RSA keys) -/
def SigAccepts (C : Crypto) (pub : C.Pub) (alg : Alg) (sa : SigAlg) (d : Bytes) (sig : C.Sig) : Prop :=
  verifySig C pub alg sa d sig = .ok ()

/-- `SigAccepts` spelled out: which primitive said yes -/
theorem sigAccepts_cases (C : Crypto) (pub : C.Pub) (alg : Alg) (sa : SigAlg) (d : Bytes) (sig : C.Sig)
    (h : SigAccepts C pub alg sa d sig) :
    (sa.hash = none ∨ sa.hash = some alg) ∧
    ((∃ x, sa = .rsa x) ∧ C.kind pub = .rsa ∧ (C.pkcs1 pub (some alg) d sig = true ∨ C.pkcs1 pub none d sig = true) ∨
     sa = .pss (some alg) ∧ C.kind pub = .rsa ∧ (C.pss pub alg d sig = true ∨ C.pkcs1 pub none d sig = true) ∨
     (∃ x, sa = .ecdsa x) ∧ C.kind pub = .ecdsa ∧ C.ecdsa pub d sig = true) := by
  -- `verifySig` is a chain of `if`s in every branch: it ends in `.ok ()` iff the conditions on the way hold
  simp only [SigAccepts, verifySig, Res.errGuard_eq_ok] at h
  obtain ⟨hm, h⟩ := h
  refine ⟨Decidable.or_iff_not_imp_left.mpr fun h0 => Decidable.not_not.mp fun h1 => hm ⟨h0, h1⟩, ?_⟩
  cases sa <;>
    simp only [ite_eq_iff, ne_eq, Decidable.not_not, reduceCtorEq, and_false, false_or, or_false, and_true] at h
  · exact .inl ⟨⟨_, rfl⟩, h.1, h.2.imp id And.right⟩
  · obtain ⟨hk, rfl, hv⟩ := h
    exact .inr (.inl ⟨rfl, hk, hv.imp id And.right⟩)
  · exact .inr (.inr ⟨⟨_, rfl⟩, h⟩)

theorem sigAccepts_scheme (S : KeyMatch.SigScheme) (kind : S.Pub → KeyKind) (pub : S.Pub) (alg : Alg) (sa : SigAlg)
    (d : Bytes) (sig : S.Sig) (h : SigAccepts (Crypto.ofScheme S kind) pub alg sa d sig) :
    S.verify pub d sig = true := by
  obtain ⟨_, h | h | h⟩ := sigAccepts_cases _ _ _ _ _ _ h
  · obtain ⟨_, _, h | h⟩ := h <;> exact h
  · obtain ⟨_, _, h | h⟩ := h <;> exact h
  · exact h.2.2

/-- which content was digested: the embedded one if present (then equal to the external one if that is given
    too), else the external one -/
def Effective (emb ext : Option Bytes) (c : Bytes) : Prop :=
  (emb = some c ∧ ∀ e, ext = some e → e = c) ∨ (emb = none ∧ ext = some c)

/-- one signer info passed `SignerInfo.Verify` against `content` (`none`: skipDigests) with the bundled `certs` -/
def SignerVerifyOK {C : Crypto} (H : Alg → Bytes → Bytes) (content : Option Bytes) (certs : List (Cert C))
    (si : SignerInfo C) (cert : Cert C) : Prop :=
  ∃ alg, si.digestAlg = some alg ∧
    findCert certs si.issuer si.serial = some cert ∧
    (∀ a l, si.attrs = some (a :: l) →
      ∃ md, getMessageDigest (a :: l) = .ok md ∧ (∀ c, content = some c → md = H alg c) ∧
        SigAccepts C cert.pub alg si.sigAlg (H alg si.attrsBytes) si.sig) ∧
    (si.attrs.getD [] = [] → ∀ c, content = some c → SigAccepts C cert.pub alg si.sigAlg (H alg c) si.sig)

/-- fix F31: with authenticated attributes present, the (signed) contentType attribute exists, is single-valued and
    names `ct` -/
def CtBound {C : Crypto} (ct : Bytes) (si : SignerInfo C) : Prop :=
  ∀ a l, si.attrs = some (a :: l) → getContentType (a :: l) = .ok ct

/-- one signer info passed one iteration of the loop of `SignedData.Verify`: `SignerInfo.Verify`, then the
    contentType comparison with the eContentType `ct` -/
def SignerOK {C : Crypto} (H : Alg → Bytes → Bytes) (ct : Bytes) (content : Option Bytes) (certs : List (Cert C))
    (si : SignerInfo C) (cert : Cert C) : Prop :=
  SignerVerifyOK H content certs si cert ∧ CtBound ct si

theorem findCert_some {C : Crypto} (certs : List (Cert C)) (issuer serial : Bytes) (cert : Cert C)
    (h : findCert certs issuer serial = some cert) :
    cert ∈ certs ∧ cert.issuer = issuer ∧ cert.serial = serial := by
  unfold findCert at h
  have hm := List.mem_of_find?_eq_some h
  have hp := List.find?_some h
  simp only [Bool.and_eq_true, beq_iff_eq] at hp
  exact ⟨hm, hp.1, hp.2⟩

theorem signer_ok {C : Crypto} (H : Alg → Bytes → Bytes) (content : Bytes) (skip : Bool) (certs : List (Cert C))
    (si : SignerInfo C) (cert : Cert C) (h : verifySignerInfo H content skip certs si = .ok cert) :
    SignerVerifyOK H (if skip then none else some content) certs si cert := by
  -- the two successful leaves of `verifySignerInfo`: no digest to check against, or `verifySig` said yes
  have key : ∀ alg dg, si.digestAlg = some alg → findCert certs si.issuer si.serial = some cert →
      mdStage H alg content skip si = .ok dg → (∀ d, dg = some d → SigAccepts C cert.pub alg si.sigAlg d si.sig) →
      SignerVerifyOK H (if skip then none else some content) certs si cert := by
    intro alg dg halg hf hmd hs
    obtain ⟨m1, m2⟩ := Cms.mdStage_ok H alg content skip si dg hmd
    refine ⟨alg, halg, hf, fun a l hal => ?_, fun hnil c0 hc0 => ?_⟩
    · obtain ⟨md, hg, hcmp, hd⟩ := m1 a l hal
      refine ⟨md, hg, fun c0 hc0 => ?_, hs _ hd⟩
      cases skip
      · cases hc0
        exact hcmp rfl
      · cases hc0
    · cases skip
      · cases hc0
        exact hs _ (m2 hnil)
      · cases hc0
  revert h
  fun_cases verifySignerInfo H content skip certs si
  case case3 alg halg c hf hmd =>
    intro h
    cases h
    exact key alg none halg hf hmd nofun
  case case4 alg halg c hf d u hv hmd =>
    intro h
    cases h
    exact key alg (some d) halg hf hmd (fun d' hd' => by cases hd'; exact hv)
  all_goals nofun

theorem verifyOne_ok {C : Crypto} (H : Alg → Bytes → Bytes) (ct : Option Bytes) (content : Bytes) (skip : Bool)
    (certs : List (Cert C)) (si : SignerInfo C) (cert : Cert C) (h : verifyOne H ct content skip certs si = .ok cert) :
    verifySignerInfo H content skip certs si = .ok cert ∧ ∀ t, ct = some t → CtBound t si := by
  revert h
  fun_cases verifyOne H ct content skip certs si
  case case1 c hv =>
    intro h
    cases h
    exact ⟨hv, nofun⟩
  case case2 c hv t u hct =>
    intro h
    cases h
    exact ⟨hv, fun t' ht' => by cases ht'; exact Cms.ctypeStage_ok t si u hct⟩
  all_goals nofun

theorem verifyAll_ok {C : Crypto} (H : Alg → Bytes → Bytes) (ct : Option Bytes) (content : Bytes) (skip : Bool)
    (certs : List (Cert C))
    (bad : Bool) (l : List (SignerInfo C)) (last : Option (Cert C × SignerInfo C)) (p : Cert C × SignerInfo C)
    (h : verifyAll H ct content skip certs bad l last = .ok p) :
    (∀ si ∈ l, ∃ cert, verifyOne H ct content skip certs si = .ok cert) ∧
    (l = [] → last = some p) ∧
    (l ≠ [] → l.getLast? = some p.2 ∧ verifyOne H ct content skip certs p.2 = .ok p.1) := by
  induction l generalizing last with
  | nil =>
    cases last with
    | none => simp [verifyAll] at h
    | some q =>
      simp only [verifyAll, Res.ok.injEq] at h
      subst h
      simp
  | cons si rest ih =>
    simp only [verifyAll] at h
    split at h
    · rename_i cert hv
      obtain ⟨h1, h2, h3⟩ := ih _ h
      refine ⟨?_, by simp, ?_⟩
      · intro s hs
        rcases List.mem_cons.mp hs with rfl | hs
        · exact ⟨cert, hv⟩
        · exact h1 s hs
      · intro _
        cases rest with
        | nil =>
          cases h2 rfl
          exact ⟨by simp, hv⟩
        | cons r rs =>
          obtain ⟨h4, h5⟩ := h3 (by simp)
          exact ⟨by simpa [List.getLast?_cons_cons] using h4, h5⟩
    all_goals cases h

/-- **cms_accept_implies.**  What a success of `SignedData.Verify(ext, skip)` went through: the reported signer info is
    the last one, but *every* signer info passed `SignerInfo.Verify` (`SignerOK`: certificate found by issuer and
    serial, messageDigest and signature as the presence of attributes demands), against the content actually digested
    (`Effective`: the embedded one if present, which equals `ext` when both are given). -/
theorem cms_accept_implies {C : Crypto} (H : Alg → Bytes → Bytes) (sd : SignedData C) (ext : Option Bytes) (skip : Bool)
    (cert : Cert C) (si : SignerInfo C) (h : verifySignedData H sd ext skip = .ok (cert, si)) :
    ∃ content : Option Bytes,
      (skip = true → content = none) ∧
      (skip = false → ∃ c, content = some c ∧ Effective sd.content ext c) ∧
      sd.signers.getLast? = some si ∧ si ∈ sd.signers ∧
      SignerOK H sd.contentType content sd.certs si cert ∧
      ∀ si' ∈ sd.signers, ∃ cert', SignerOK H sd.contentType content sd.certs si' cert' := by
  unfold verifySignedData verifySignedDataWith at h
  split at h
  · rename_i content hc
    obtain ⟨h1, h2, h3⟩ := verifyAll_ok H (some sd.contentType) content skip sd.certs sd.badCerts sd.signers none (cert, si) h
    have hne : sd.signers ≠ [] := fun e => nomatch h2 e
    obtain ⟨hl, hv⟩ := h3 hne
    obtain ⟨hv, hct⟩ := verifyOne_ok H _ content skip _ _ _ hv
    refine ⟨if skip then none else some content, ?_, ?_, hl, List.mem_of_getLast? hl,
      ⟨signer_ok H content skip _ _ _ hv, hct _ rfl⟩, ?_⟩
    · intro hs; simp [hs]
    · intro hs
      subst hs
      exact ⟨content, rfl, Cms.resolveContent_ok _ _ _ hc⟩
    · intro s hs
      obtain ⟨c', hv'⟩ := h1 s hs
      obtain ⟨hv', hct'⟩ := verifyOne_ok H _ content skip _ _ _ hv'
      exact ⟨c', signer_ok H content skip _ _ _ hv', hct' _ rfl⟩
  all_goals cases h

theorem cms_accept_implies_scheme (S : KeyMatch.SigScheme) (kind : S.Pub → KeyKind) (H : Alg → Bytes → Bytes)
    (sd : SignedData (Crypto.ofScheme S kind)) (ext : Option Bytes) (cert : Cert (Crypto.ofScheme S kind))
    (si : SignerInfo (Crypto.ofScheme S kind)) (h : verifySignedData H sd ext false = .ok (cert, si)) :
    ∃ c alg, Effective sd.content ext c ∧ si ∈ sd.signers ∧ si.digestAlg = some alg ∧
      findCert sd.certs si.issuer si.serial = some cert ∧
      (∀ a l, si.attrs = some (a :: l) →
        getMessageDigest (a :: l) = .ok (H alg c) ∧ S.verify cert.pub (H alg si.attrsBytes) si.sig = true) ∧
      (si.attrs.getD [] = [] → S.verify cert.pub (H alg c) si.sig = true) := by
  obtain ⟨content, _, h2, _, hm, ⟨⟨alg, ha, hf, hw, hn⟩, _⟩, _⟩ := cms_accept_implies H sd ext false cert si h
  obtain ⟨c, rfl, he⟩ := h2 rfl
  refine ⟨c, alg, he, hm, ha, hf, ?_, ?_⟩
  · intro a l hal
    obtain ⟨md, hg, hmd, hs⟩ := hw a l hal
    rw [← hmd c rfl]
    exact ⟨hg, sigAccepts_scheme S kind _ _ _ _ _ hs⟩
  · intro hnil
    exact sigAccepts_scheme S kind _ _ _ _ _ (hn hnil c rfl)

theorem effective_unique (emb ext : Option Bytes) (c c' : Bytes) (h : Effective emb ext c) (h' : Effective emb ext c') :
    c = c' := by
  rcases h with ⟨h1, _⟩ | ⟨h1, h2⟩ <;> rcases h' with ⟨h3, _⟩ | ⟨h3, h4⟩
  · rw [h1] at h3; injection h3
  · rw [h1] at h3; cases h3
  · rw [h1] at h3; cases h3
  · rw [h2] at h4; injection h4

/-- **cms_external_embedded_must_agree.**  Embedded content `c` and a different external content: rejected. -/
theorem cms_external_embedded_must_agree {C : Crypto} (H : Alg → Bytes → Bytes) (sd : SignedData C) (c e : Bytes)
    (hc : sd.content = some c) (hne : e ≠ c) :
    verifySignedData H sd (some e) false = .err "content-mismatch" := by
  simp [verifySignedData, verifySignedDataWith, resolveContent, hc, hne]

/-- **cms_content_change_rejected.**  Two structures with the same signer infos and certificates (e.g. the same
    detached blob with two external contents, or one blob and a copy whose embedded content was altered) are both
    accepted, for different contents `c ≠ c'`.  If the hash of the reported signer's algorithm does not collide on
    `c`, `c'`, then that signer info carries no authenticated attributes and its one signature value is accepted
    over two different digests.  (With attributes, acceptance of both is impossible outright.) -/
theorem cms_content_change_rejected {C : Crypto} (H : Alg → Bytes → Bytes) (sd sd' : SignedData C)
    (ext ext' : Option Bytes) (c c' : Bytes) (cert cert' : Cert C) (si si' : SignerInfo C)
    (hs : sd'.signers = sd.signers) (hcs : sd'.certs = sd.certs)
    (he : Effective sd.content ext c) (he' : Effective sd'.content ext' c')
    (h : verifySignedData H sd ext false = .ok (cert, si))
    (h' : verifySignedData H sd' ext' false = .ok (cert', si'))
    (hcf : ∀ alg, H alg c = H alg c' → c = c') (hne : c ≠ c') :
    si' = si ∧ cert' = cert ∧ si.attrs.getD [] = [] ∧
    ∃ alg, si.digestAlg = some alg ∧ H alg c ≠ H alg c' ∧
      SigAccepts C cert.pub alg si.sigAlg (H alg c) si.sig ∧ SigAccepts C cert.pub alg si.sigAlg (H alg c') si.sig := by
  obtain ⟨k, _, h2, hl, _, ⟨⟨alg, ha, hf, hw, hn⟩, _⟩, _⟩ := cms_accept_implies H sd ext false cert si h
  obtain ⟨k', _, h2', hl', _, ⟨⟨alg', ha', hf', hw', hn'⟩, _⟩, _⟩ := cms_accept_implies H sd' ext' false cert' si' h'
  obtain ⟨c0, rfl, he0⟩ := h2 rfl
  obtain ⟨c0', rfl, he0'⟩ := h2' rfl
  cases effective_unique _ _ _ _ he he0
  cases effective_unique _ _ _ _ he' he0'
  rw [hs, hl] at hl'
  cases hl'
  cases ha.symm.trans ha'
  rw [hcs, hf] at hf'
  cases hf'
  have hempty : si.attrs.getD [] = [] := by
    cases hat : si.attrs with
    | none => rfl
    | some l =>
      cases l with
      | nil => rfl
      | cons a l =>
        obtain ⟨md, hg, hmd, _⟩ := hw a l hat
        obtain ⟨md', hg', hmd', _⟩ := hw' a l hat
        cases hg.symm.trans hg'
        exact absurd (hcf alg (by rw [← hmd c rfl, ← hmd' c' rfl])) hne
  exact ⟨rfl, rfl, hempty, alg, ha, fun e => hne (hcf alg e), hn hempty c rfl, hn' hempty c' rfl⟩

/-- the attributed case of the above on its own: with authenticated attributes present and no collision, a
    structure cannot be accepted for two different contents -/
theorem cms_content_change_rejected_attrs {C : Crypto} (H : Alg → Bytes → Bytes) (sd sd' : SignedData C)
    (ext ext' : Option Bytes) (c c' : Bytes) (cert cert' : Cert C) (si si' : SignerInfo C)
    (hs : sd'.signers = sd.signers) (hcs : sd'.certs = sd.certs)
    (he : Effective sd.content ext c) (he' : Effective sd'.content ext' c')
    (h : verifySignedData H sd ext false = .ok (cert, si))
    (hcf : ∀ alg, H alg c = H alg c' → c = c') (hne : c ≠ c')
    (hattrs : si.attrs.getD [] ≠ []) :
    verifySignedData H sd' ext' false ≠ .ok (cert', si') := by
  intro h'
  exact hattrs (cms_content_change_rejected H sd sd' ext ext' c c' cert cert' si si' hs hcs he he' h h' hcf hne).2.2.1

/-- **cms_attr_change_rejected.**  A signer info whose authenticated attributes were altered (so that the digested
    bytes `b'` differ from the original `si.attrsBytes`), everything else – in particular the signature value and
    the certificate found – unchanged: if the altered structure is accepted, the *old* signature value is accepted
    over the digest of the *new* attribute bytes, which differs from the digest it was made over. -/
theorem cms_attr_change_rejected {C : Crypto} (H : Alg → Bytes → Bytes) (sd' : SignedData C) (ext : Option Bytes)
    (skip : Bool) (cert : Cert C) (si si' : SignerInfo C) (a : Attr) (l : List Attr) (alg : Alg)
    (h' : verifySignedData H sd' ext skip = .ok (cert, si'))
    (hattrs : si'.attrs = some (a :: l)) (hsig : si'.sig = si.sig) (hsa : si'.sigAlg = si.sigAlg)
    (_halg : si.digestAlg = some alg) (halg' : si'.digestAlg = some alg)
    (hb : si'.attrsBytes ≠ si.attrsBytes)
    (hcf : H alg si'.attrsBytes = H alg si.attrsBytes → si'.attrsBytes = si.attrsBytes) :
    SigAccepts C cert.pub alg si.sigAlg (H alg si'.attrsBytes) si.sig ∧
    H alg si'.attrsBytes ≠ H alg si.attrsBytes := by
  obtain ⟨_, _, _, _, _, ⟨⟨alg', ha', _, hw, _⟩, _⟩, _⟩ := cms_accept_implies H sd' ext skip cert si' h'
  cases halg'.symm.trans ha'
  obtain ⟨_, _, _, hs⟩ := hw a l hattrs
  rw [hsig, hsa] at hs
  exact ⟨hs, fun e => hb (hcf e)⟩

/-- replace the value set of the first attribute with this OID -/
def setAttr (oid : Bytes) (v : RawVal) : List Attr → List Attr
  | [] => []
  | a :: l => if a.oid == oid then { a with values := v } :: l else a :: setAttr oid v l

theorem tlv_inj (t : UInt8) (c c' : Bytes) (ht : highTag t = false) (hc : c.length < 2 ^ 31) (hc' : c'.length < 2 ^ 31)
    (h : tlv t c = tlv t c') : c = c' := by
  have a := untlv_one t c ht hc
  rw [h, untlv_one t c' ht hc'] at a
  cases a
  rfl

theorem encRaw_len (v : RawVal) (h : v.full = []) : encRaw v = tlv v.tag v.bytes := by
  simp [encRaw, h]

/-- replacing the value set of an attribute that is present changes the encoded attribute list, provided the two
    value sets encode differently (element sizes below 2^31, as Go's parser requires anyway) -/
theorem attrsContent_setAttr_ne (oid : Bytes) (v : RawVal) (l : List Attr) (old : Attr)
    (hfind : l.find? (fun a => a.oid == oid) = some old)
    (hne : encRaw v ≠ encRaw old.values)
    (hlen : (tlv 0x06 old.oid ++ encRaw v).length < 2 ^ 31 ∧ (tlv 0x06 old.oid ++ encRaw old.values).length < 2 ^ 31) :
    attrsContent (setAttr oid v l) ≠ attrsContent l := by
  induction l with
  | nil => simp at hfind
  | cons a l ih =>
    simp only [List.find?_cons] at hfind
    by_cases ha : (a.oid == oid) = true
    · simp only [ha] at hfind
      cases hfind
      simp only [setAttr, ha, if_true, attrsContent, List.flatMap_cons]
      intro e
      have e2 := List.append_cancel_right e
      unfold encAttr at e2
      have e3 := tlv_inj 0x30 _ _ (by decide) hlen.1 hlen.2 e2
      exact hne (List.append_cancel_left e3)
    · have ha' : (a.oid == oid) = false := by simpa using ha
      simp only [ha'] at hfind
      simp only [setAttr, ha', attrsContent, List.flatMap_cons]
      intro e
      exact ih hfind (List.append_cancel_left e)

/-- **cms_digest_value_change_rejected.**  Replace the messageDigest attribute value (by `v`, encoding differently
    from the old value set) in a well-formed signer info (`WF`: the digested bytes are the SET OF encoding of the
    attribute list – true of everything Go parsed).  The digested attribute bytes change; hence if the modified
    structure is accepted, the old signature value is accepted over the digest of the *modified* attribute bytes,
    and that digest differs from the one the signature was made over unless the hash collides on the two. -/
theorem cms_digest_value_change_rejected {C : Crypto} (H : Alg → Bytes → Bytes) (sd' : SignedData C) (ext : Option Bytes)
    (skip : Bool) (cert : Cert C) (si si' : SignerInfo C) (l : List Attr) (old : Attr) (v : RawVal) (alg : Alg)
    (hattrs : si.attrs = some l) (hwf : si.WF)
    (hfind : l.find? (fun a => a.oid == oidMessageDigest) = some old)
    (hattrs' : si'.attrs = some (setAttr oidMessageDigest v l)) (hwf' : si'.WF)
    (hsig : si'.sig = si.sig) (hsa : si'.sigAlg = si.sigAlg)
    (halg : si.digestAlg = some alg) (halg' : si'.digestAlg = some alg)
    (hne : encRaw v ≠ encRaw old.values)
    (hlen : (tlv 0x06 old.oid ++ encRaw v).length < 2 ^ 31 ∧ (tlv 0x06 old.oid ++ encRaw old.values).length < 2 ^ 31)
    (hlen2 : (attrsContent (setAttr oidMessageDigest v l)).length < 2 ^ 31 ∧ (attrsContent l).length < 2 ^ 31)
    (hcf : H alg si'.attrsBytes = H alg si.attrsBytes → si'.attrsBytes = si.attrsBytes)
    (h' : verifySignedData H sd' ext skip = .ok (cert, si')) :
    si'.attrsBytes ≠ si.attrsBytes ∧
    SigAccepts C cert.pub alg si.sigAlg (H alg si'.attrsBytes) si.sig ∧
    H alg si'.attrsBytes ≠ H alg si.attrsBytes := by
  have hb : si'.attrsBytes ≠ si.attrsBytes := by
    rw [hwf' _ hattrs', hwf _ hattrs]
    intro e
    exact attrsContent_setAttr_ne _ v l old hfind hne hlen (tlv_inj 0x31 _ _ (by decide) hlen2.1 hlen2.2 e)
  have hcons : ∃ a r, setAttr oidMessageDigest v l = a :: r := by
    cases l with
    | nil => simp at hfind
    | cons a r =>
      simp only [setAttr]
      split
      · exact ⟨_, _, rfl⟩
      · exact ⟨_, _, rfl⟩
  obtain ⟨a, r, hcons⟩ := hcons
  rw [hcons] at hattrs'
  exact ⟨hb, cms_attr_change_rejected H sd' ext skip cert si si' a r alg h' hattrs' hsig hsa halg halg' hb hcf⟩

/-- **cms_cert_swap.**  Whatever certificate the verifier finds for the signer's issuer and serial – e.g. after the
    genuine one was replaced by a certificate with the same issuer and serial and another public key – acceptance
    implies that the signature value is accepted *under that certificate's key*, and that certificate is the one
    reported (to be chain-validated next). -/
theorem cms_cert_swap {C : Crypto} (H : Alg → Bytes → Bytes) (sd' : SignedData C) (ext : Option Bytes)
    (cert' rogue : Cert C) (si : SignerInfo C)
    (h' : verifySignedData H sd' ext false = .ok (cert', si))
    (hfind : findCert sd'.certs si.issuer si.serial = some rogue) :
    cert' = rogue ∧
    ∃ alg c, si.digestAlg = some alg ∧ Effective sd'.content ext c ∧
      (si.attrs.getD [] = [] → SigAccepts C rogue.pub alg si.sigAlg (H alg c) si.sig) ∧
      (si.attrs.getD [] ≠ [] → SigAccepts C rogue.pub alg si.sigAlg (H alg si.attrsBytes) si.sig) := by
  obtain ⟨_, _, h2, _, _, ⟨⟨alg, ha, hf, hw, hn⟩, _⟩, _⟩ := cms_accept_implies H sd' ext false cert' si h'
  obtain ⟨c, rfl, he⟩ := h2 rfl
  cases hfind.symm.trans hf
  refine ⟨rfl, alg, c, ha, he, fun hnil => hn hnil c rfl, ?_⟩
  intro hne
  cases hat : si.attrs with
  | none => simp [hat] at hne
  | some l =>
    cases l with
    | nil => simp [hat] at hne
    | cons a l =>
      obtain ⟨_, _, _, hs⟩ := hw a l hat
      exact hs

/-- the certificate is looked up by issuer *and* serial, first match in bundle order -/
theorem cms_cert_found_by_issuer_and_serial {C : Crypto} (H : Alg → Bytes → Bytes) (sd : SignedData C) (ext : Option Bytes)
    (skip : Bool) (cert : Cert C) (si : SignerInfo C) (h : verifySignedData H sd ext skip = .ok (cert, si)) :
    cert ∈ sd.certs ∧ cert.issuer = si.issuer ∧ cert.serial = si.serial := by
  obtain ⟨_, _, _, _, _, ⟨⟨_, _, hf, _, _⟩, _⟩, _⟩ := cms_accept_implies H sd ext skip cert si h
  exact findCert_some _ _ _ _ hf

/-- every signer info is checked, not only the reported one: one bad signer info makes the whole structure fail -/
theorem cms_all_signers_checked {C : Crypto} (H : Alg → Bytes → Bytes) (sd : SignedData C) (ext : Option Bytes) (skip : Bool)
    (cert : Cert C) (si : SignerInfo C) (h : verifySignedData H sd ext skip = .ok (cert, si)) :
    ∀ si' ∈ sd.signers, ∃ c content, verifySignerInfo H content skip sd.certs si' = .ok c := by
  unfold verifySignedData verifySignedDataWith at h
  split at h
  · rename_i content _
    intro s hs
    obtain ⟨c, hc⟩ := (verifyAll_ok H _ content skip sd.certs sd.badCerts sd.signers none (cert, si) h).1 s hs
    exact ⟨c, content, (verifyOne_ok H _ content skip _ _ _ hc).1⟩
  all_goals cases h

/-- no signer infos: "not signed" (after the content rule), never success -/
theorem cms_no_signers_rejected {C : Crypto} (H : Alg → Bytes → Bytes) (sd : SignedData C) (ext : Option Bytes) (skip : Bool)
    (hs : sd.signers = []) : ∀ p, verifySignedData H sd ext skip ≠ .ok p := by
  intro p h
  obtain ⟨_, _, _, _, hm, _⟩ := cms_accept_implies H sd ext skip p.1 p.2 h
  rw [hs] at hm
  cases hm

/-- chain validation is applied to the certificate that the signature check returned -/
theorem cms_chain_accept_implies {C : Crypto} (H : Alg → Bytes → Bytes) (chainOK : Nat → Tsa.Usage → Int → Bool) (now : Int)
    (sd : SignedData C) (ext : Option Bytes) (skip : Bool) (cert : Cert C) (si : SignerInfo C)
    (h : verifyWithChain H chainOK now none sd ext skip = .ok (cert, si)) :
    verifySignedData H sd ext skip = .ok (cert, si) ∧ chainOK cert.id .requested now = true := by
  revert h
  fun_cases verifyWithChain H chainOK now none sd ext skip
  case case1 c s hv u hch =>
    intro h
    cases h
    refine ⟨hv, ?_⟩
    simp only [Tsa.verifyChain] at hch
    split at hch
    · cases hch
    · rename_i hc
      simpa using hc
  case case5 hr => exact fun h => absurd h (hr cert si)
  all_goals nofun

/-- **cms_contenttype_unchecked** (finding F31, a stated gap: a theorem about `verifySignedDataOrig`, the code before
    the fix).  The verdict did not depend on the eContentType: neither is it digested, nor was the signed `contentType`
    attribute compared with it (RFC 5652 section 5.3: "the content-type attribute value MUST match the SignedData
    encapContentInfo eContentType value"). -/
theorem cms_contenttype_unchecked {C : Crypto} (H : Alg → Bytes → Bytes) (sd : SignedData C) (ct' : Bytes)
    (ext : Option Bytes) (skip : Bool) :
    verifySignedDataOrig H { sd with contentType := ct' } ext skip = verifySignedDataOrig H sd ext skip := rfl

theorem getContentType_ok (l : List Attr) (ct : Bytes) (h : getContentType l = .ok ct) :
    ∃ a, l.find? (fun a => a.oid == oidContentType) = some a ∧ a ∈ l ∧ a.oid = oidContentType ∧
      a.values.bytes = tlv 0x06 ct ∧ oidOK ct = true := by
  revert h
  fun_cases getContentType l
  case case5 a hf t c rest hu ht ho hr =>
    intro h
    cases h
    obtain ⟨e, _, _⟩ := untlv_inv _ _ _ _ hu
    cases Decidable.not_not.mp ht
    cases Decidable.not_not.mp hr
    exact ⟨a, hf, List.mem_of_find?_eq_some hf, by simpa using List.find?_some hf, by simpa using e, by simpa using ho⟩
  all_goals nofun

/-- **cms_contenttype_bound** (fix F31).  If `SignedData.Verify` reports success, then every signer info that has
    authenticated attributes carries a contentType attribute – inside the attribute bytes its signature value was
    checked over – whose single value is the eContentType of the structure. -/
theorem cms_contenttype_bound {C : Crypto} (H : Alg → Bytes → Bytes) (sd : SignedData C) (ext : Option Bytes) (skip : Bool)
    (cert : Cert C) (si : SignerInfo C) (h : verifySignedData H sd ext skip = .ok (cert, si)) :
    ∀ si' ∈ sd.signers, ∀ a l, si'.attrs = some (a :: l) →
      getContentType (a :: l) = .ok sd.contentType ∧
      ∃ x, x ∈ a :: l ∧ x.oid = oidContentType ∧ x.values.bytes = tlv 0x06 sd.contentType := by
  obtain ⟨_, _, _, _, _, _, hall⟩ := cms_accept_implies H sd ext skip cert si h
  intro s hs a l hal
  obtain ⟨_, _, hct⟩ := hall s hs
  have hg := hct a l hal
  obtain ⟨x, _, hm, ho, hv, _⟩ := getContentType_ok _ _ hg
  exact ⟨hg, x, hm, ho, hv⟩

/-- **cms_contenttype_change_rejected.**  A structure accepted with eContentType `sd.contentType`, whose reported (or
    any) signer info has authenticated attributes, is not accepted any more once the eContentType is changed and
    everything else – attributes, signature – is left as it was. -/
theorem cms_contenttype_change_rejected {C : Crypto} (H : Alg → Bytes → Bytes) (sd : SignedData C) (ct' : Bytes)
    (ext ext' : Option Bytes) (skip skip' : Bool) (cert : Cert C) (si : SignerInfo C)
    (h : verifySignedData H sd ext skip = .ok (cert, si))
    (s : SignerInfo C) (hs : s ∈ sd.signers) (a : Attr) (l : List Attr) (hattrs : s.attrs = some (a :: l))
    (hne : ct' ≠ sd.contentType) :
    ∀ p, verifySignedData H { sd with contentType := ct' } ext' skip' ≠ .ok p := by
  intro p h'
  have b := (cms_contenttype_bound H sd ext skip cert si h s hs a l hattrs).1
  have b' := (cms_contenttype_bound H { sd with contentType := ct' } ext' skip' p.1 p.2 h' s hs a l hattrs).1
  cases b.symm.trans b'
  exact hne rfl

theorem verifyOne_noattrs {C : Crypto} (H : Alg → Bytes → Bytes) (t t' : Bytes) (content : Bytes) (skip : Bool)
    (certs : List (Cert C)) (si : SignerInfo C) (hn : si.attrs.getD [] = []) :
    verifyOne H (some t) content skip certs si = verifyOne H (some t') content skip certs si := by
  simp [verifyOne, ctypeStage, hn]

theorem verifyAll_noattrs {C : Crypto} (H : Alg → Bytes → Bytes) (t t' : Bytes) (content : Bytes) (skip : Bool)
    (certs : List (Cert C)) (bad : Bool) (l : List (SignerInfo C)) (last : Option (Cert C × SignerInfo C))
    (hn : ∀ si ∈ l, si.attrs.getD [] = []) :
    verifyAll H (some t) content skip certs bad l last = verifyAll H (some t') content skip certs bad l last := by
  induction l generalizing last with
  | nil => cases last <;> rfl
  | cons si rest ih =>
    simp only [verifyAll]
    rw [verifyOne_noattrs H t t' content skip certs si (hn si (by simp))]
    split
    · exact ih _ (fun s hs => hn s (by simp [hs]))
    all_goals rfl

/-- **cms_contenttype_unprotected_without_attrs** (what the code does, and what PKCS#7 defines, when no signer info has
    authenticated attributes): the signature value covers the content octets only, nothing names the content type, and
    the verdict does not depend on the eContentType – also after fix F31. -/
theorem cms_contenttype_unprotected_without_attrs {C : Crypto} (H : Alg → Bytes → Bytes) (sd : SignedData C) (ct' : Bytes)
    (ext : Option Bytes) (skip : Bool) (hn : ∀ si ∈ sd.signers, si.attrs.getD [] = []) :
    verifySignedData H { sd with contentType := ct' } ext skip = verifySignedData H sd ext skip := by
  unfold verifySignedData verifySignedDataWith
  simp only
  split
  · exact verifyAll_noattrs H _ _ _ _ _ _ _ _ hn
  all_goals rfl

/-- with `skipDigests` and no authenticated attributes the signature value is not examined at all -/
theorem cms_skip_noattrs_signature_unverified {C : Crypto} (H : Alg → Bytes → Bytes) (content : Bytes) (certs : List (Cert C))
    (si : SignerInfo C) (sig' : C.Sig) (hattrs : si.attrs.getD [] = []) :
    verifySignerInfo H content true certs { si with sig := sig' } = verifySignerInfo H content true certs si := by
  unfold verifySignerInfo mdStage
  simp only [hattrs]
  cases si.digestAlg <;> simp

/-- an empty attribute set (`A0 00`) is treated exactly like an absent one -/
theorem cms_empty_attrs_as_absent {C : Crypto} (H : Alg → Bytes → Bytes) (content : Bytes) (skip : Bool) (certs : List (Cert C))
    (si : SignerInfo C) :
    verifySignerInfo H content skip certs { si with attrs := some [] } =
      verifySignerInfo H content skip certs { si with attrs := none } := rfl

/-- attribute-less reinterpretation (inherent to PKCS#7, not specific to relic): a signer info accepted with
    attributes is also accepted, attributes stripped, for the content that *is* its digested attribute bytes -/
theorem cms_attr_strip_reinterpretation {C : Crypto} (H : Alg → Bytes → Bytes) (content : Bytes) (certs : List (Cert C))
    (si : SignerInfo C) (cert : Cert C) (a : Attr) (l : List Attr) (hattrs : si.attrs = some (a :: l))
    (h : verifySignerInfo H content false certs si = .ok cert) :
    verifySignerInfo H si.attrsBytes false certs { si with attrs := none } = .ok cert := by
  obtain ⟨alg, ha, hf, hw, _⟩ := signer_ok H content false certs si cert h
  obtain ⟨_, _, _, hs⟩ := hw a l hattrs
  unfold SigAccepts at hs
  simp [verifySignerInfo, mdStage, ha, hf, hs]

def resCls {α : Type} : Res α → String
  | .ok _ => "ok"
  | .err e => e
  | .panic s => "panic:" ++ s
  | .diverge => "diverge"

/-- the flags `Relic.Tsa.Token` records about a SignedData value used as a time-stamp token, computed by the
    container model: `mdOK` = no signer info fails the messageDigest comparison, `sigOK` = every signer info
    passes (signature and, since fix F31, contentType binding) or fails only that comparison -/
def toToken {C : Crypto} (H : Alg → Bytes → Bytes) (sd : SignedData C) (serial tsa : Nat) (ctypeTst : Bool)
    (content : Tsa.Content) (sigTime : Option (Option Int)) : Tsa.Token :=
  let c := sd.content.getD []
  { serial := serial, ctypeTst := ctypeTst, nSigners := sd.signers.length,
    sigOK := sd.signers.all (fun si =>
      (verifyOne H (some sd.contentType) c false sd.certs si).isOk || resCls (verifyOne H (some sd.contentType) c false sd.certs si) == "digest"),
    content := content, sigTime := sigTime, tsa := tsa,
    mdOK := sd.signers.all (fun si => resCls (verifyOne H (some sd.contentType) c false sd.certs si) != "digest") }

theorem isOk_ok {α : Type} (a : α) : (Res.ok a).isOk = true := Res.isOk_ok a
theorem isOk_err {α : Type} (e : String) : (Res.err e : Res α).isOk = false := rfl
theorem isOk_panic {α : Type} (e : String) : (Res.panic e : Res α).isOk = false := rfl
theorem isOk_diverge {α : Type} : (Res.diverge : Res α).isOk = false := rfl

theorem verifyAll_isOk {C : Crypto} (H : Alg → Bytes → Bytes) (ct : Option Bytes) (content : Bytes) (skip : Bool) (certs : List (Cert C))
    (bad : Bool) (l : List (SignerInfo C)) (last : Option (Cert C × SignerInfo C)) :
    (verifyAll H ct content skip certs bad l last).isOk =
      (l.all (fun si => (verifyOne H ct content skip certs si).isOk) && (!l.isEmpty || last.isSome)) := by
  induction l generalizing last with
  | nil => cases last <;> simp [verifyAll, Res.isOk_ok, Res.isOk_err]
  | cons si rest ih =>
    simp only [verifyAll]
    cases hv : verifyOne H ct content skip certs si with
    | ok cert => simp [ih, hv, Res.isOk_ok]
    | err e => simp [hv, Res.isOk_err]
    | panic s => simp [hv, Res.isOk_panic]
    | diverge => simp [hv, Res.isOk_diverge]

theorem ne_digest_of_isOk {β : Type} {r : Res β} (h : r.isOk = true) : resCls r ≠ "digest" := by
  cases r with
  | ok a => exact (by decide : "ok" ≠ "digest")
  | _ => cases h

/-- the two flags of the token abstraction together say "every signer info passes" -/
theorem all_isOk_flags {α β : Type} (f : α → Res β) (l : List α) :
    l.all (fun x => (f x).isOk) =
      (l.all (fun x => resCls (f x) != "digest") && l.all (fun x => (f x).isOk || resCls (f x) == "digest")) := by
  rw [Bool.eq_iff_iff]
  simp only [Bool.and_eq_true, List.all_eq_true, Bool.or_eq_true, bne_iff_ne, beq_iff_eq, ne_eq]
  constructor
  · intro h
    exact ⟨fun x hx => ne_digest_of_isOk (h x hx), fun x hx => .inl (h x hx)⟩
  · rintro ⟨h1, h2⟩ x hx
    exact (h2 x hx).resolve_right (h1 x hx)

/-- **cms_token_abstraction.**  C10's `p7Verify` on the abstracted token succeeds exactly when the container model's
    `SignedData.Verify(nil, false)` does (`content` abstracts the embedded content: absent iff there is none). -/
theorem cms_token_abstraction {C : Crypto} (H : Alg → Bytes → Bytes) (sd : SignedData C) (serial tsa : Nat) (ctypeTst : Bool)
    (content : Tsa.Content) (sigTime : Option (Option Int)) (hc : content = .absent ↔ sd.content = none) :
    (Tsa.p7Verify (toToken H sd serial tsa ctypeTst content sigTime)).isOk = (verifySignedData H sd none false).isOk := by
  unfold verifySignedData verifySignedDataWith Tsa.p7Verify
  cases hemb : sd.content with
  | none =>
    have : content = .absent := hc.mpr hemb
    simp [toToken, this, resolveContent, isOk_err]
  | some c =>
    have hne : content ≠ .absent := fun e => by rw [hc.mp e] at hemb; cases hemb
    simp only [toToken, hne, if_false, Bool.false_eq_true, resolveContent, hemb, Option.getD_some, verifyAll_isOk,
      all_isOk_flags]
    cases sd.signers with
    | nil => rfl
    | cons si rest =>
      generalize (si :: rest).all (fun si => resCls (verifyOne H (some sd.contentType) c false sd.certs si) != "digest") = m
      generalize (si :: rest).all (fun si => (verifyOne H (some sd.contentType) c false sd.certs si).isOk ||
        resCls (verifyOne H (some sd.contentType) c false sd.certs si) == "digest") = s
      cases m <;> cases s <;> rfl

/-- keys are numbers, `pub = id`, a signature is the pair (key, message) -/
abbrev toyScheme : KeyMatch.SigScheme where
  Priv := Nat
  Pub := Nat
  Sig := Nat × Bytes
  pub := id
  sign := fun k m => (k, m)
  verify := fun p m s => s.1 == p && s.2 == m
  sound := by intro k m; simp

abbrev toyC : Crypto := Crypto.ofScheme toyScheme (fun _ => .rsa)

/-- an injective toy hash: tag byte of the algorithm in front of the stream -/
def toyH : Alg → Bytes → Bytes
  | .sha256, b => 1 :: b
  | .sha1, b => 2 :: b
  | _, b => 3 :: b

/-- outcome class of a result (for the examples: `Res (Cert × SignerInfo)` has no decidable equality) -/
def cls {α : Type} : Res α → String
  | .ok _ => "ok"
  | .err e => e
  | .panic s => "panic:" ++ s
  | .diverge => "diverge"

def toyCert : Cert toyC := ⟨100, [0xaa], [0x01], (7 : Nat)⟩
def rogueCert : Cert toyC := ⟨101, [0xaa], [0x01], (8 : Nat)⟩

/-- no attributes: signature directly over the content digest -/
def toySI (content : Bytes) : SignerInfo toyC :=
  ⟨1, [0xaa], [0x01], some .sha256, none, [], .rsa none, toyScheme.sign (7 : Nat) (toyH .sha256 content)⟩

def mdAttr (d : Bytes) : Attr := ⟨oidMessageDigest, ⟨[], 0x31, tlv 0x04 d⟩⟩
def ctAttr (oid : Bytes) : Attr := ⟨oidContentType, ⟨[], 0x31, tlv 0x06 oid⟩⟩

/-- with attributes: contentType + messageDigest, signature over the SET OF encoding -/
def toyAttrs (content : Bytes) : List Attr := [ctAttr [0x2a, 0x03], mdAttr (toyH .sha256 content)]
def toySIA (content : Bytes) : SignerInfo toyC :=
  ⟨2, [0xaa], [0x01], some .sha256, some (toyAttrs content), tlv 0x31 (attrsContent (toyAttrs content)), .rsa none,
    toyScheme.sign (7 : Nat) (toyH .sha256 (tlv 0x31 (attrsContent (toyAttrs content))))⟩

def toySD (emb : Option Bytes) (si : SignerInfo toyC) : SignedData toyC := ⟨[0x2a, 0x03], emb, [toyCert], false, [si]⟩

-- accepted: attached, detached, with and without attributes
example : (verifySignedData toyH (toySD (some [1, 2, 3]) (toySI [1, 2, 3])) none false).isOk = true := by decide +kernel
example : (verifySignedData toyH (toySD none (toySIA [1, 2, 3])) (some [1, 2, 3]) false).isOk = true := by decide +kernel
example : (toySIA [1, 2, 3]).WF := by intro l h; injection h with h; subst h; rfl
-- content byte flipped: rejected in both forms
example : cls (verifySignedData toyH (toySD (some [1, 2, 4]) (toySI [1, 2, 3])) none false) = "sig" := by decide +kernel
example : cls (verifySignedData toyH (toySD none (toySIA [1, 2, 3])) (some [1, 2, 4]) false) = "digest" := by decide +kernel
-- messageDigest value replaced by the digest of other content: the old signature is checked over the new attribute bytes
example : cls (verifySignedData toyH (toySD none { toySIA [1, 2, 3] with
      attrs := some (setAttr oidMessageDigest ⟨[], 0x31, tlv 0x04 (toyH .sha256 [9])⟩ (toyAttrs [1, 2, 3])),
      attrsBytes := tlv 0x31 (attrsContent (setAttr oidMessageDigest ⟨[], 0x31, tlv 0x04 (toyH .sha256 [9])⟩ (toyAttrs [1, 2, 3]))) })
    (some [9]) false) = "sig" := by decide +kernel
-- embedded and external content disagree
example : verifySignedData toyH (toySD (some [1, 2, 3]) (toySI [1, 2, 3])) (some [1, 2, 4]) false = .err "content-mismatch" :=
  cms_external_embedded_must_agree toyH _ [1, 2, 3] [1, 2, 4] rfl (by decide)
-- certificate replaced by one with the same issuer and serial and another key
example : cls (verifySignedData toyH { toySD none (toySIA [1, 2, 3]) with certs := [rogueCert] } (some [1, 2, 3]) false) = "sig" := by decide +kernel
example : cls (verifySignedData toyH { toySD none (toySIA [1, 2, 3]) with certs := [] } (some [1, 2, 3]) false) = "no-cert" := by decide +kernel
-- no signer infos; a second, bad signer info in front of or behind a good one
example : cls (verifySignedData toyH { toySD none (toySIA [1, 2, 3]) with signers := [] } (some [1, 2, 3]) false) = "not-signed" := by decide +kernel
example : cls (verifySignedData toyH { toySD none (toySIA [1, 2, 3]) with signers := [toySIA [1, 2, 3], toySIA [5]] } (some [1, 2, 3]) false) = "digest" := by decide +kernel
example : cls (verifySignedData toyH { toySD none (toySIA [1, 2, 3]) with signers := [toySIA [5], toySIA [1, 2, 3]] } (some [1, 2, 3]) false) = "digest" := by decide +kernel
-- F31: eContentType changed, attributes (naming the old type) untouched: accepted before the fix, rejected now;
-- without attributes nothing names the type and the change goes unnoticed (cms_contenttype_unprotected_without_attrs)
example : (verifySignedDataOrig toyH { toySD none (toySIA [1, 2, 3]) with contentType := [0x2a, 0x04] } (some [1, 2, 3]) false).isOk = true := by
  decide +kernel
example : cls (verifySignedData toyH { toySD none (toySIA [1, 2, 3]) with contentType := [0x2a, 0x04] } (some [1, 2, 3]) false)
    = "ctype-mismatch" := by decide +kernel
example : (verifySignedData toyH { toySD none (toySI [1, 2, 3]) with contentType := [0x2a, 0x04] } (some [1, 2, 3]) false).isOk = true := by
  decide +kernel
-- contentType attribute missing from the (properly signed) attributes: rejected
example : cls (verifySignedData toyH (toySD none
    ⟨3, [0xaa], [0x01], some .sha256, some [mdAttr (toyH .sha256 [1])], tlv 0x31 (attrsContent [mdAttr (toyH .sha256 [1])]), .rsa none,
      toyScheme.sign (7 : Nat) (toyH .sha256 (tlv 0x31 (attrsContent [mdAttr (toyH .sha256 [1])])))⟩) (some [1]) false)
    = "no-ct-attr" := by decide +kernel
-- the hypotheses of cms_content_change_rejected are satisfiable only through its conclusion: with the toy scheme no
-- signature is valid for two digests, so the two acceptances cannot coexist
example : ¬ ((verifySignedData toyH (toySD none (toySI [1])) (some [1]) false).isOk = true ∧
    (verifySignedData toyH (toySD none (toySI [1])) (some [2]) false).isOk = true) := by decide +kernel
-- cms_cert_swap instantiated: the rogue certificate is found and reported, and acceptance needs a signature under key 8
example : verifySignedData toyH ⟨[0x2a, 0x03], some [1], [rogueCert], false,
      [⟨1, [0xaa], [0x01], some .sha256, none, [], .rsa none, toyScheme.sign (8 : Nat) (toyH .sha256 [1])⟩]⟩ none false
    = .ok (rogueCert, ⟨1, [0xaa], [0x01], some .sha256, none, [], .rsa none, toyScheme.sign (8 : Nat) (toyH .sha256 [1])⟩) := by
  rfl
-- the token abstraction on a concrete value: C10's p7Verify agrees with the container model
example : (Tsa.p7Verify (toToken toyH (toySD (some [1, 2, 3]) (toySIA [1, 2, 3])) 1 100 false (.data 0) none)).isOk = true := by decide +kernel
example : Tsa.p7Verify (toToken toyH (toySD (some [1, 2, 4]) (toySIA [1, 2, 3])) 1 100 false (.data 0) none) = .err "digest" := by decide +kernel
-- chain validation runs on the reported certificate
example : verifyWithChain toyH (fun id _ _ => id == 100) 0 none (toySD (some [1]) (toySI [1])) none false =
    .ok (toyCert, toySI [1]) := by rfl
example : (verifyWithChain toyH (fun id _ _ => id == 100) 0 none ⟨[0x2a, 0x03], some [1], [rogueCert], false,
      [⟨1, [0xaa], [0x01], some .sha256, none, [], .rsa none, toyScheme.sign (8 : Nat) (toyH .sha256 [1])⟩]⟩ none false).isOk = false := by
  decide +kernel

end Relic.Props.C02
