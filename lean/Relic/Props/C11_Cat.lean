/-
  C11 — Malformed input yields an error, never a crash or runaway resource use.   signers/cat and signers/pkcs on arbitrary bytes.
  relic's own code in these two packages has no index or slice expression and no loop: everything that reads bytes is
  encoding/asn1 (trusted, exercised by the sweep) and `ContentInfo.Bytes`, modelled here over the TLV reader of `Relic.Model.Der`.
-/
import Relic.Proofs.CatSign
namespace Relic.Props.C11
open Relic.CatSign

/-- **cat_sign_no_panic.**  For every byte string, key and hash, the model of `cat.sign` answers a value or an error:
    never a panic, never divergence. -/
theorem cat_sign_no_panic (H : Bytes → Bytes) (k : Signer) (blob : Bytes) :
    (∃ s, sign H k blob = .ok s) ∨ (∃ e, sign H k blob = .err e) := sign_total H k blob

/-- **contentinfo_bytes_no_panic**: `ContentInfo.Bytes()` on any byte string -/
theorem contentinfo_bytes_no_panic (raw : Bytes) : (∃ o, ciBytes raw = .ok o) ∨ (∃ e, ciBytes raw = .err e) :=
  (ciBytes_errs raw).value_or_err

/-- **cat_unmarshal_no_panic**: the navigation to the ContentInfo on any byte string -/
theorem cat_unmarshal_no_panic (blob : Bytes) : (∃ ci, unmarshalCI blob = .ok ci) ∨ (∃ e, unmarshalCI blob = .err e) :=
  (unmarshalCI_errs blob).value_or_err

/-- the error classes that can come out of `sign`, exhaustively -/
theorem cat_sign_error_classes (H : Bytes → Bytes) (k : Signer) (blob : Bytes) (e : String) (h : sign H k blob = .err e) :
    e = "parse" ∨ e = "trailing" ∨ e = "not-catalog" ∨ e = "self-check" ∨ e = "content" := by
  have := sign_errs H k blob
  rwa [h] at this

example : sign id ⟨[], [], [], [], [], id⟩ [0x30, 0x80] = .err "parse" := by decide
example : sign id ⟨[], [], [], [], [], id⟩ [] = .err "parse" := by decide

end Relic.Props.C11
