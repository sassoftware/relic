/-
  C17 — relic reads and rewrites ZIP structures exactly as standard readers see them.
  Property theorems about `Relic.Model.Zip` (model of /repo/lib/zipslicer) against `Relic.Spec.Zip`
  (APPNOTE as implemented by archive/zip).

  The property is FALSE on the unchanged tree in precisely delimited ways (F7a, F7b, F7c, F7d, F7e, and
  the width inference: `f7f_max16_refused`, `width_ok_necessary`); each is proved here as a negation
  with a concrete archive that is replayed on the real code by the harness (corpus/C17/witnesses.ops).
-/
import Relic.Proofs.ZipAgree
import Relic.Proofs.ZipMeasured
namespace Relic.Props.C17
open Relic.Zip

/-- The decision taken by `WriteDirectory`: ZIP64 end records are written iff
    the count, the directory size or the directory offset reach the 16/32-bit sentinels, or the caller
    forces it, or the largest "version needed" among the members (floored at 2.0) is exactly 4.5. -/
theorem zip64_thresholds (count size cdoff minV : Nat) (force : Bool) :
    needZip64 count size cdoff force minV = true ↔
      (count ≥ 0xffff ∨ size ≥ 0xffffffff ∨ cdoff ≥ 0xffffffff ∨ force = true ∨ minV = 45) := by
  simp [needZip64, u16Max, u32Max, or_assoc]

/-- …and that decision is visible in the bytes: the end-of-directory
    output is the 56+20+22-byte ZIP64 form exactly in that case, the bare 22-byte record otherwise. -/
theorem zip64_records_emitted (count size cdoff minV : Nat) (force : Bool) :
    ((endRecords count size cdoff force minV).length = 98 ↔
      (count ≥ 0xffff ∨ size ≥ 0xffffffff ∨ cdoff ≥ 0xffffffff ∨ force = true ∨ minV = 45)) ∧
    ((endRecords count size cdoff force minV).length = 22 ↔
      ¬ (count ≥ 0xffff ∨ size ≥ 0xffffffff ∨ cdoff ≥ 0xffffffff ∨ force = true ∨ minV = 45)) := by
  rw [← zip64_thresholds]
  unfold endRecords
  cases h : needZip64 count size cdoff force minV <;>
    simp [encEnd, encEnd64, encLoc64]

/-- the 4.5 clause is an equality, not a threshold: a member asking for version 6.3 does not switch
    ZIP64 records on, a member asking for exactly 4.5 does (even in a tiny archive). -/
theorem zip64_version_is_equality :
    needZip64 1 50 60 false 63 = false ∧ needZip64 1 50 60 false 45 = true := by decide +kernel

/-- a data descriptor with signature, sizes on 32 (`wide = false`) or 64 bits -/
def descBytes (wide : Bool) (crc cs us : Nat) : Bytes :=
  leBytes 4 sigDesc ++ (leBytes 4 crc ++
    (if wide then leBytes 8 cs ++ leBytes 8 us else leBytes 4 cs ++ leBytes 4 us))

theorem descBytes_wide_take16 (crc cs us : Nat) :
    (descBytes true crc cs us).take 16 = leBytes 4 sigDesc ++ (leBytes 4 crc ++ leBytes 8 cs) := by
  have : descBytes true crc cs us = (leBytes 4 sigDesc ++ (leBytes 4 crc ++ leBytes 8 cs)) ++ leBytes 8 us := by
    simp [descBytes]
  rw [this]
  exact List.take_left' (by simp)

/-- `readDataDesc` looks at the first 16 bytes of the descriptor and
    decides "64-bit" iff the directory's uncompressed size is ≥ 0xffffffff or one of the two 32-bit
    words differs from the directory sizes.  For every CRC and all sizes below the 32-bit sentinel the
    decision is the true width **iff** `usize ≠ 0` or the descriptor really is the 16-byte form:
    the 24-byte descriptor of every empty member is misread (whatever its compressed size). -/
theorem desc_width_inference (wide : Bool) (crc cs us : Nat) (hcs : cs < 2 ^ 32) (hus : us < 2 ^ 32 - 1) :
    inferWide cs us ((descBytes wide crc cs us).take 16) = wide ↔ (us ≠ 0 ∨ wide = false) := by
  cases wide with
  | false =>
    have t : (descBytes false crc cs us).take 16 =
        leBytes 4 sigDesc ++ (leBytes 4 crc ++ (leBytes 4 cs ++ leBytes 4 us)) :=
      List.take_of_length_le (by simp [descBytes])
    have e4 : (256 : Nat) ^ 4 = 2 ^ 32 := by decide
    rw [t]
    unfold inferWide
    simp only [fld_lb_skip, fld_lb_head, fld_lb_last, Nat.reduceLeDiff, Nat.reduceSub, e4]
    simp [u32Max]
    exact hus
  | true =>
    rw [descBytes_wide_take16, inferWide_wide_iff, Nat.div_eq_of_lt hcs, Nat.zero_mod, Nat.mod_eq_of_lt (by omega : us < 2 ^ 32)]
    simp [u32Max]
    omega

example : inferWide 7 0 ((descBytes true 0xdeadbeef 7 0).take 16) = false := by decide +kernel
example : inferWide 7 3 ((descBytes true 0xdeadbeef 7 3).take 16) = true := by decide +kernel

set_option maxRecDepth 1000000

/-- one stored member `a` = "x" -/
def zPlain : Bytes := [80, 75, 3, 4, 20, 0, 0, 0, 0, 0, 0, 0, 0, 0, 131, 22, 220, 140, 1, 0, 0, 0, 1, 0, 0, 0, 1, 0, 0, 0, 97, 120, 80, 75, 1, 2, 20, 0, 20, 0, 0, 0, 0, 0, 0, 0, 0, 0, 131, 22, 220, 140, 1, 0, 0, 0, 1, 0, 0, 0, 1, 0, 0, 0, 0, 0, 0, 0, 0, 0, 0, 0, 0, 0, 0, 0, 0, 0, 97, 80, 75, 5, 6, 0, 0, 0, 0, 1, 0, 1, 0, 47, 0, 0, 0, 32, 0, 0, 0, 0, 0]
/-- the same with the archive comment "hi" -/
def zComment : Bytes := [80, 75, 3, 4, 20, 0, 0, 0, 0, 0, 0, 0, 0, 0, 131, 22, 220, 140, 1, 0, 0, 0, 1, 0, 0, 0, 1, 0, 0, 0, 97, 120, 80, 75, 1, 2, 20, 0, 20, 0, 0, 0, 0, 0, 0, 0, 0, 0, 131, 22, 220, 140, 1, 0, 0, 0, 1, 0, 0, 0, 1, 0, 0, 0, 0, 0, 0, 0, 0, 0, 0, 0, 0, 0, 0, 0, 0, 0, 97, 80, 75, 5, 6, 0, 0, 0, 0, 1, 0, 1, 0, 47, 0, 0, 0, 32, 0, 0, 0, 2, 0, 104, 105]
/-- the empty archive -/
def zEmptyArchive : Bytes := [80, 75, 5, 6, 0, 0, 0, 0, 0, 0, 0, 0, 0, 0, 0, 0, 0, 0, 0, 0, 0, 0]
/-- member `a` = "x" with a 12-byte descriptor (no signature) -/
def zNoSig : Bytes := [80, 75, 3, 4, 20, 0, 8, 0, 0, 0, 0, 0, 0, 0, 0, 0, 0, 0, 0, 0, 0, 0, 0, 0, 0, 0, 1, 0, 0, 0, 97, 120, 131, 22, 220, 140, 1, 0, 0, 0, 1, 0, 0, 0, 80, 75, 1, 2, 20, 0, 20, 0, 8, 0, 0, 0, 0, 0, 0, 0, 131, 22, 220, 140, 1, 0, 0, 0, 1, 0, 0, 0, 1, 0, 0, 0, 0, 0, 0, 0, 0, 0, 0, 0, 0, 0, 0, 0, 0, 0, 97, 80, 75, 5, 6, 0, 0, 0, 0, 1, 0, 1, 0, 47, 0, 0, 0, 44, 0, 0, 0, 0, 0]
/-- empty member `a` with a 24-byte descriptor (what `Mangler.NewFile("a", nil)` writes), then `b` = "x" -/
def zEmpty24 : Bytes := [80, 75, 3, 4, 45, 0, 8, 0, 0, 0, 0, 0, 0, 0, 0, 0, 0, 0, 0, 0, 0, 0, 0, 0, 0, 0, 1, 0, 0, 0, 97, 80, 75, 7, 8, 0, 0, 0, 0, 0, 0, 0, 0, 0, 0, 0, 0, 0, 0, 0, 0, 0, 0, 0, 0, 80, 75, 3, 4, 20, 0, 0, 0, 0, 0, 0, 0, 0, 0, 131, 22, 220, 140, 1, 0, 0, 0, 1, 0, 0, 0, 1, 0, 0, 0, 98, 120, 80, 75, 1, 2, 20, 0, 45, 0, 8, 0, 0, 0, 0, 0, 0, 0, 0, 0, 0, 0, 0, 0, 0, 0, 0, 0, 0, 0, 1, 0, 0, 0, 0, 0, 0, 0, 0, 0, 0, 0, 0, 0, 0, 0, 0, 0, 97, 80, 75, 1, 2, 20, 0, 20, 0, 0, 0, 0, 0, 0, 0, 0, 0, 131, 22, 220, 140, 1, 0, 0, 0, 1, 0, 0, 0, 1, 0, 0, 0, 0, 0, 0, 0, 0, 0, 0, 0, 0, 0, 55, 0, 0, 0, 98, 80, 75, 5, 6, 0, 0, 0, 0, 2, 0, 2, 0, 94, 0, 0, 0, 87, 0, 0, 0, 0, 0]
/-- member `a` = "x" with a 24-byte descriptor, then `b` = "x" -/
def zOne24 : Bytes := [80, 75, 3, 4, 45, 0, 8, 0, 0, 0, 0, 0, 0, 0, 0, 0, 0, 0, 0, 0, 0, 0, 0, 0, 0, 0, 1, 0, 0, 0, 97, 120, 80, 75, 7, 8, 131, 22, 220, 140, 1, 0, 0, 0, 0, 0, 0, 0, 1, 0, 0, 0, 0, 0, 0, 0, 80, 75, 3, 4, 20, 0, 0, 0, 0, 0, 0, 0, 0, 0, 131, 22, 220, 140, 1, 0, 0, 0, 1, 0, 0, 0, 1, 0, 0, 0, 98, 120, 80, 75, 1, 2, 20, 0, 45, 0, 8, 0, 0, 0, 0, 0, 0, 0, 131, 22, 220, 140, 1, 0, 0, 0, 1, 0, 0, 0, 1, 0, 0, 0, 0, 0, 0, 0, 0, 0, 0, 0, 0, 0, 0, 0, 0, 0, 97, 80, 75, 1, 2, 20, 0, 20, 0, 0, 0, 0, 0, 0, 0, 0, 0, 131, 22, 220, 140, 1, 0, 0, 0, 1, 0, 0, 0, 1, 0, 0, 0, 0, 0, 0, 0, 0, 0, 0, 0, 0, 0, 56, 0, 0, 0, 98, 80, 75, 5, 6, 0, 0, 0, 0, 2, 0, 2, 0, 94, 0, 0, 0, 88, 0, 0, 0, 0, 0]
/-- member `a` = "x" whose central header offset is 0xffffffff with an 8-byte ZIP64 extra holding only the offset -/
def zPartial : Bytes := [80, 75, 3, 4, 20, 0, 0, 0, 0, 0, 0, 0, 0, 0, 131, 22, 220, 140, 1, 0, 0, 0, 1, 0, 0, 0, 1, 0, 0, 0, 97, 120, 80, 75, 1, 2, 20, 0, 45, 0, 0, 0, 0, 0, 0, 0, 0, 0, 131, 22, 220, 140, 1, 0, 0, 0, 1, 0, 0, 0, 1, 0, 12, 0, 0, 0, 0, 0, 0, 0, 0, 0, 0, 0, 255, 255, 255, 255, 97, 1, 0, 8, 0, 0, 0, 0, 0, 0, 0, 0, 0, 80, 75, 5, 6, 0, 0, 0, 0, 1, 0, 1, 0, 59, 0, 0, 0, 32, 0, 0, 0, 0, 0]

/-- member `a` = "x" with a 16-byte descriptor followed by one stray byte before the directory -/
def zGap : Bytes := [80, 75, 3, 4, 20, 0, 8, 0, 0, 0, 0, 0, 0, 0, 0, 0, 0, 0, 0, 0, 0, 0, 0, 0, 0, 0, 1, 0, 0, 0, 97, 120, 80, 75, 7, 8, 131, 22, 220, 140, 1, 0, 0, 0, 1, 0, 0, 0, 0, 80, 75, 1, 2, 20, 0, 20, 0, 8, 0, 0, 0, 0, 0, 0, 0, 131, 22, 220, 140, 1, 0, 0, 0, 1, 0, 0, 0, 1, 0, 0, 0, 0, 0, 0, 0, 0, 0, 0, 0, 0, 0, 0, 0, 0, 0, 97, 80, 75, 5, 6, 0, 0, 0, 0, 1, 0, 1, 0, 47, 0, 0, 0, 49, 0, 0, 0, 0, 0]
/-- deflated member `a` whose uncompressed size is exactly 0xffffffff (ZIP64 extra), 16-byte descriptor -/
def zMax16 : Bytes := [80, 75, 3, 4, 20, 0, 8, 0, 8, 0, 0, 0, 0, 0, 0, 0, 0, 0, 0, 0, 0, 0, 0, 0, 0, 0, 1, 0, 0, 0, 97, 120, 80, 75, 7, 8, 131, 22, 220, 140, 1, 0, 0, 0, 255, 255, 255, 255, 80, 75, 1, 2, 20, 0, 45, 0, 8, 0, 8, 0, 0, 0, 0, 0, 131, 22, 220, 140, 1, 0, 0, 0, 255, 255, 255, 255, 1, 0, 12, 0, 0, 0, 0, 0, 0, 0, 0, 0, 0, 0, 0, 0, 0, 0, 97, 1, 0, 8, 0, 255, 255, 255, 255, 0, 0, 0, 0, 80, 75, 5, 6, 0, 0, 0, 0, 1, 0, 1, 0, 59, 0, 0, 0, 48, 0, 0, 0, 0, 0]

def rd (z : Bytes) : Rd := ⟨z, false, 0⟩

/-- "the result is `ok a` and `p a`" as a Boolean, so that closed instances are decided by evaluation -/
def okAnd {α} (r : Res α) (p : α → Bool) : Bool := match r with | .ok a => p a | _ => false
def someAnd {α} (o : Option α) (p : α → Bool) : Bool := match o with | some a => p a | none => false

theorem okAnd_elim {α} {r : Res α} {p : α → Bool} (h : okAnd r p = true) : ∃ a, r = .ok a ∧ p a = true := by
  cases r <;> simp_all [okAnd]

theorem someAnd_elim {α} {o : Option α} {p : α → Bool} (h : someAnd o p = true) : ∃ a, o = some a ∧ p a = true := by
  cases o <;> simp_all [someAnd]

/-- one row of the member table both sides are compared on -/
structure Row where
  name : Bytes
  method : Nat
  flags : Nat
  crc : Nat
  csize : Nat
  usize : Nat
  hoff : Nat
  extra : Bytes
  comment : Bytes
  deriving DecidableEq, Repr

def modelTable (d : Directory) : List Row :=
  d.files.map fun f => ⟨f.name, f.method, f.flags, f.crc, f.csize, f.usize, f.offset, f.extra, f.comment⟩

def specTable (a : SpecZip.Archive) : List Row :=
  a.members.map fun m => ⟨m.entry.name, m.entry.method, m.entry.flags, m.entry.crc, m.entry.csize, m.entry.usize,
    m.entry.hoff, m.entry.extra, m.entry.comment⟩

/-- per member: data offset and the extent relic assigns (`GetTotalSize`) -/
def modelExtents (z : Bytes) (d : Directory) : List (Option (Nat × Nat)) :=
  d.files.map fun f => match getTotalSize (rd z) f with
    | .ok (m, _) => some (m.dataOff, m.total)
    | _ => none

/-- per member: data offset and the extent under the contiguous reading of the specification -/
def specExtents (a : SpecZip.Archive) : List (Option (Nat × Nat)) :=
  a.members.map fun m =>
    match m.descWidths, SpecZip.trueWidth a m with
    | [], _ => some (m.dataOff, m.dataOff + m.entry.csize - m.entry.hoff)
    | _, some w => some (m.dataOff, m.dataOff + m.entry.csize + w - m.entry.hoff)
    | _, none => none

/-- the property for one archive: relic reads it, and sees the members the specification sees, at the
    same places -/
def ReadsAsSpec (z : Bytes) : Prop :=
  ∃ a d, SpecZip.parse z = some a ∧ read (rd z) = .ok d ∧ modelTable d = specTable a ∧
    modelExtents z d = specExtents a

/-- the full statement of the read half of C17 (FALSE on the unchanged tree) -/
def read_agrees_spec_full : Prop := ∀ z, SpecZip.valid z → ReadsAsSpec z

/-- a narrower set of clauses: those of `relicReadable` with, in place of `widthOK`, only "no empty member
    with a 24-byte descriptor" (F7c, F7d, F7e, F7a).  Kept for its refutation: they are NOT sufficient,
    `readable_v1_insufficient` below. -/
def relicReadableV1 (z : Bytes) : Prop :=
  ∃ a, SpecZip.parse z = some a ∧ SpecZip.noComment a z = true ∧ SpecZip.descSigned a = true ∧
    SpecZip.zip64Fixed a = true ∧
    (a.members.all fun m => !(m.entry.usize == 0 && SpecZip.trueWidth a m == some 24)) = true

/-- the clauses under which it is claimed and proved: no comment and ≥ 42 bytes (F7c), signed descriptors
    (F7d), fixed-layout ZIP64 markers (F7e), for every member with a descriptor the width inference of
    `readDataDesc` is right (`widthOK`: the descriptor ends where the next structure starts; a 16-byte
    descriptor does not meet the size 0xffffffff; a 24-byte one has `usize ≥ 0xffffffff` or the high word
    of `csize` different from `usize` — F7a is the instance `csize < 2^32`, `usize = 0`), and the file
    size is an `int64` (the model's domain).  All decidable. -/
def relicReadable (z : Bytes) : Prop :=
  ∃ a, SpecZip.parse z = some a ∧ SpecZip.noComment a z = true ∧ SpecZip.descSigned a = true ∧
    SpecZip.zip64Fixed a = true ∧ (a.members.all (widthOK a)) = true ∧ z.length < 2 ^ 63

/-- `relicReadable`, with the clauses as propositions -/
theorem relicReadable_elim {z : Bytes} (hr : relicReadable z) : ∃ a, Readable z a := by
  obtain ⟨a, ha, hnc, hsg, hfix, hw, h63⟩ := hr
  simp only [SpecZip.noComment, Bool.and_eq_true, List.isEmpty_iff, decide_eq_true_eq] at hnc
  exact ⟨a, ha, hnc.1, hnc.2, h63, (zip64Fixed_eq a).symm.trans hfix, hsg, hw⟩

theorem relicReadable_of_parse {z : Bytes} {a : SpecZip.Archive} (hr : relicReadable z) (ha : SpecZip.parse z = some a) :
    Readable z a := by
  obtain ⟨a', hR⟩ := relicReadable_elim hr
  have ha' := hR.parsed
  rw [ha] at ha'; cases ha'
  exact hR

/-- Where the specification reads a central record at `at_` whose ZIP64
    markers obey the fixed-layout clause (F7e), zipslicer's per-entry step on the same bytes yields the same
    fields (creator, reader, flags, method, time, date, CRC, both sizes and the header offset with the ZIP64
    values resolved, name, extra, comment, attributes, the raw record) and the same next position. -/
theorem central_entry_agreement (z : Bytes) (at_ lim : Nat) (en : SpecZip.Entry)
    (h : SpecZip.entryAt z at_ lim = some en) (hf : fixedNeed en.need = true) :
    readEntry (z.drop at_) = .ok (fileOf z at_ en, z.drop (at_ + en.len)) :=
  readEntry_of_entryAt h hf

/-- Without the layout clause: a record the specification reads is
    never a panic for zipslicer; it is read up to the same position, or refused as "missingzip64". -/
theorem central_entry_spec_then_model (z : Bytes) (at_ lim : Nat) (en : SpecZip.Entry)
    (h : SpecZip.entryAt z at_ lim = some en) :
    (∃ f, readEntry (z.drop at_) = .ok (f, z.drop (at_ + en.len))) ∨
    readEntry (z.drop at_) = .err "missingzip64" := by
  obtain ⟨-, h2, -, h4, r, -, rfl⟩ := entryAt_some h
  have e : at_ + (specEntry z at_ r).len =
      at_ + 46 + fld (z.drop at_) 28 2 + fld (z.drop at_) 30 2 + fld (z.drop at_) 32 2 := by
    simp only [specEntry]; omega
  rw [readEntry_eq z at_ (by omega), e]
  simp only
  split
  · exact Or.inr rfl
  · exact Or.inl ⟨_, rfl⟩

/-- The converse: a record zipslicer reads (central signature present,
    record inside `[at_, lim)`) is read by the specification as well, with the same fields under the layout
    clause — except when only the uncompressed size carries the 0xffffffff marker and there is no ZIP64
    field with an 8-byte payload: zipslicer then keeps 0xffffffff as the size, the specification refuses. -/
theorem central_entry_model_then_spec (z : Bytes) (at_ lim : Nat) (f : File) (rest : Bytes)
    (hr : readEntry (z.drop at_) = .ok (f, rest)) (hs : SpecZip.hasSig z at_ 0x50 0x4b 0x01 0x02 = true)
    (hb : at_ + 46 + fld (z.drop at_) 28 2 + fld (z.drop at_) 30 2 + fld (z.drop at_) 32 2 ≤ lim)
    (hz : lim ≤ z.length) :
    (∃ en, SpecZip.entryAt z at_ lim = some en ∧ rest = z.drop (at_ + en.len) ∧
      (fixedNeed en.need = true → f = fileOf z at_ en)) ∨
    (SpecZip.entryAt z at_ lim = none ∧ fld (z.drop at_) 24 4 = 0xffffffff ∧ fld (z.drop at_) 20 4 ≠ 0xffffffff ∧
      fld (z.drop at_) 42 4 ≠ 0xffffffff ∧ f.usize = 0xffffffff ∧
      ∀ p, SpecZip.zip64Field (fld (z.drop at_) 30 2)
          ((z.drop (at_ + 46 + fld (z.drop at_) 28 2)).take (fld (z.drop at_) 30 2)) = some p → p.length < 8) :=
  entryAt_of_readEntry hr hs hb hz

/-- a central record whose compressed size alone is marked, with a 16-byte ZIP64 payload (7, 9) -/
def cdSwap : Bytes := [80, 75, 1, 2, 20, 0, 45, 0, 0, 0, 0, 0, 0, 0, 0, 0, 0, 0, 0, 0, 255, 255, 255, 255, 5, 0, 0, 0, 1, 0, 20, 0, 0, 0, 0, 0, 0, 0, 0, 0, 0, 0, 0, 0, 0, 0, 97, 1, 0, 16, 0, 7, 0, 0, 0, 0, 0, 0, 0, 9, 0, 0, 0, 0, 0, 0, 0]

/-- The layout clause is necessary for *agreement*, not only for
    acceptance: on `cdSwap` both parsers succeed and differ (the specification reads the compressed size 7
    in order, zipslicer reads 9 at the fixed position 8); on `zPartial` (`f7e_partial_zip64_refused`)
    zipslicer refuses. -/
theorem f7e_fixed_positions_misread :
    someAnd (SpecZip.entryAt cdSwap 0 67) (fun en => decide (en.csize = 7) && !fixedNeed en.need) = true ∧
    okAnd (readEntry cdSwap) (fun p => decide (p.1.csize = 9) && decide (p.2 = [])) = true := by decide +kernel

/-- Lifted to the directory: where the specification reads `count`
    records filling `[at_, lim)`, all obeying the layout clause, and `lim` does not start another central
    record, zipslicer's loop (any fuel above `count`) returns the same records in order and stops at `lim`. -/
theorem central_directory_agreement (z : Bytes) (count at_ lim fuel : Nat) (es : List SpecZip.Entry)
    (hl : lim + 4 ≤ z.length) (hs : fld (z.drop lim) 0 4 ≠ sigDir)
    (h : SpecZip.entries z count at_ lim = some es) (hf : (es.all fun e => fixedNeed e.need) = true)
    (hfuel : count < fuel) :
    readEntries fuel (z.drop at_) = .ok (filesOf z at_ es, z.drop lim) :=
  readEntries_of_entries hl hs count at_ es fuel h hf hfuel

/-- On an archive without comment, at least 42 bytes long (and addressable by
    an `int64`), the fixed 42-byte tail window of `FindDirectory` finds the directory offset the
    specification's end-record search (including the ZIP64 locator rule) finds. -/
theorem find_directory_agrees (z : Bytes) (en : SpecZip.Ends) (h : SpecZip.ends z = some en)
    (hc : en.comment = []) (h42 : 42 ≤ z.length) (h63 : z.length < 2 ^ 63) :
    findDirectory (rd z) = .ok en.cdOff :=
  findDirectory_of_ends h hc h42 h63

/-- the `int64` clause is necessary in the model: beyond it `ReadAt` gets a negative offset -/
theorem read_beyond_int64_refused (z : Bytes) (h : 2 ^ 63 + 42 ≤ z.length) : read (rd z) = .err "io" := by
  have hf : findDirectory (rd z) = .err "io" := by
    unfold findDirectory rd
    simp only
    rw [if_neg (by omega)]
    unfold Rd.readAt
    rw [if_pos (by omega)]
  unfold Zip.read
  rw [hf]

theorem filesOf_rows (z : Bytes) : ∀ (es : List SpecZip.Entry) (at_ : Nat),
    (filesOf z at_ es).map (fun f => (⟨f.name, f.method, f.flags, f.crc, f.csize, f.usize, f.offset, f.extra, f.comment⟩ : Row)) =
    es.map (fun e => (⟨e.name, e.method, e.flags, e.crc, e.csize, e.usize, e.hoff, e.extra, e.comment⟩ : Row)) := by
  intro es
  induction es with
  | nil => intro _; rfl
  | cons e es ih => intro at_; simp [filesOf, fileOf, ih]

/-- The central-directory view of `read_agrees_spec_readable`: for every
    valid archive under `relicReadable`: `Read` succeeds, finds the directory where the specification
    finds it, and its member table (name, method, flags, CRC, sizes and header offset with ZIP64 values
    resolved, extra, comment — directory order) is the specification's.  (The extents are added by
    `read_agrees_spec_readable`; this view does not use the descriptor clauses.) -/
theorem read_agrees_spec_partial (z : Bytes) (_hv : SpecZip.valid z) (hr : relicReadable z) :
    ∃ a d, SpecZip.parse z = some a ∧ read (rd z) = .ok d ∧ modelTable d = specTable a ∧
      d.dirLoc = a.ends.cdOff ∧ d.size = z.length := by
  obtain ⟨a, hR⟩ := relicReadable_elim hr
  have ha := hR.parsed
  obtain ⟨d, hd, hfiles, hloc, hsize, -⟩ := read_parsed ha hR.nocomment hR.len42 hR.len63 hR.fixed
  refine ⟨a, d, ha, hd, ?_, hloc, hsize⟩
  unfold modelTable specTable
  rw [hfiles, filesOf_rows, List.map_map]
  rfl

theorem modelExtents_eq (z : Bytes) (d : Directory) : modelExtents z d = d.files.map (modelExtent z) := rfl
theorem specExtents_eq (a : SpecZip.Archive) : specExtents a = a.members.map (specExtent a) := rfl

/-- The local-header/descriptor half: for an archive the specification parses
    (size an `int64`, descriptors signed, widths inferable), the data offset and total extent
    `GetTotalSize` assigns to each member of the directory are the specification's (contiguous reading). -/
theorem member_extents_agree (z : Bytes) (a : SpecZip.Archive) (at_ : Nat) (h : SpecZip.parse z = some a)
    (h63 : z.length < 2 ^ 63) (hs : SpecZip.descSigned a = true) (hw : (a.members.all (widthOK a)) = true) :
    (filesOf z at_ (a.members.map (·.entry))).map (modelExtent z) = a.members.map (specExtent a) :=
  extents_of_parse h h63 hs hw at_

/-- The read half of C17 under `relicReadable`: every valid archive that
    satisfies the clauses is read by relic, with the member table and the member extents the
    specification assigns. -/
theorem read_agrees_spec_readable : ∀ z, SpecZip.valid z → relicReadable z → ReadsAsSpec z := by
  intro z _ hr
  obtain ⟨a, hR⟩ := relicReadable_elim hr
  have ha := hR.parsed
  obtain ⟨d, hd, hfiles, -⟩ := read_parsed ha hR.nocomment hR.len42 hR.len63 hR.fixed
  refine ⟨a, d, ha, hd, ?_, ?_⟩
  · unfold modelTable specTable
    rw [hfiles, filesOf_rows, List.map_map]
    rfl
  · rw [modelExtents_eq, specExtents_eq, hfiles]
    exact extents_of_parse ha hR.len63 hR.signed hR.widths _

/-- The clauses of `relicReadableV1` do not suffice (so `widthOK` is needed):
    `zGap` (a stray byte after a 16-byte descriptor: the specification cannot tell where the member ends,
    relic says 48 bytes) and `zMax16` (uncompressed size exactly 0xffffffff with a 16-byte descriptor:
    `readDataDesc` takes it for a 24-byte one and fails with "baddesc") are valid, satisfy them, and are
    not read as the specification reads them. -/
theorem readable_v1_insufficient :
    (SpecZip.valid zGap ∧ relicReadableV1 zGap ∧ ¬ ReadsAsSpec zGap) ∧
    (SpecZip.valid zMax16 ∧ relicReadableV1 zMax16 ∧ ¬ ReadsAsSpec zMax16) := by
  have v1 : ∀ z, someAnd (SpecZip.parse z) (fun a => SpecZip.noComment a z && SpecZip.descSigned a &&
      SpecZip.zip64Fixed a && (a.members.all fun m => !(m.entry.usize == 0 && SpecZip.trueWidth a m == some 24))) = true →
      relicReadableV1 z := by
    intro z h
    obtain ⟨a, ha, hr⟩ := someAnd_elim h
    simp only [Bool.and_eq_true] at hr
    exact ⟨a, ha, hr.1.1.1, hr.1.1.2, hr.1.2, hr.2⟩
  have no : ∀ z, okAnd (read (rd z)) (fun d => someAnd (SpecZip.parse z) fun a =>
      !decide (modelExtents z d = specExtents a)) = true → ¬ ReadsAsSpec z := by
    intro z h ⟨a, d, ha, hd, _, he⟩
    obtain ⟨d', hd', hq⟩ := okAnd_elim h
    obtain ⟨a', ha', hn⟩ := someAnd_elim hq
    rw [hd] at hd'; cases hd'
    rw [ha] at ha'; cases ha'
    simp [he] at hn
  exact ⟨⟨by decide +kernel, v1 _ (by decide +kernel), no _ (by decide +kernel)⟩,
    ⟨by decide +kernel, v1 _ (by decide +kernel), no _ (by decide +kernel)⟩⟩

/-- The member of `zMax16` cannot be located: "baddesc". -/
theorem f7f_max16_refused :
    SpecZip.valid zMax16 ∧
    okAnd (read (rd zMax16)) (fun d => decide (d.files.map (fun f =>
      match getTotalSize (rd zMax16) f with | .err e => e | _ => "-") = ["baddesc"])) = true ∧
    someAnd (SpecZip.parse zMax16) (fun a => decide (specExtents a = [some (31, 48)])) = true := by decide +kernel

/-- Each conjunct of `widthOK` fails on a witness that relic misreads:
    `zGap` (no located end), `zMax16` (16 bytes with 0xffffffff), `zEmpty24` (24 bytes not recognised, F7a);
    it holds on `zOne24`. -/
theorem width_ok_necessary :
    someAnd (SpecZip.parse zGap) (fun a => !a.members.all (widthOK a)) = true ∧
    someAnd (SpecZip.parse zMax16) (fun a => !a.members.all (widthOK a)) = true ∧
    someAnd (SpecZip.parse zEmpty24) (fun a => !a.members.all (widthOK a)) = true ∧
    someAnd (SpecZip.parse zOne24) (fun a => a.members.all (widthOK a)) = true := by decide +kernel

/-- The 24-byte clause of `widthOK` is exactly the inference: on the first
    16 bytes of a true 24-byte descriptor `readDataDesc` says "64-bit" iff `usize ≥ 0xffffffff` or the high
    word of `csize` differs from `usize` (mod 2^32) — for every CRC and all sizes. -/
theorem desc_width_inference_wide (crc cs us : Nat) :
    inferWide cs us ((descBytes true crc cs us).take 16) = true ↔
      (us ≥ 0xffffffff ∨ cs / 2 ^ 32 % 2 ^ 32 ≠ us % 2 ^ 32) := by
  rw [descBytes_wide_take16]
  exact inferWide_wide_iff crc cs us

/-- A valid archive with a comment is not found. -/
theorem f7c_comment_refused :
    SpecZip.valid zComment ∧ read (rd zComment) = .err "notfound" ∧ ¬ relicReadable zComment := by
  refine ⟨by decide +kernel, by decide +kernel, ?_⟩
  rintro ⟨a, h, hc, -⟩
  have hh : someAnd (SpecZip.parse zComment) (fun a => !SpecZip.noComment a zComment) = true := by decide +kernel
  obtain ⟨a', ha', hn⟩ := someAnd_elim hh
  rw [h] at ha'
  cases ha'
  simp [hc] at hn

/-- The valid empty archive (22 bytes) is an I/O error. -/
theorem f7c_empty_archive_refused :
    SpecZip.valid zEmptyArchive ∧ read (rd zEmptyArchive) = .err "io" := by decide +kernel

/-- A descriptor without the optional signature: the directory is read, the
    member cannot be located (`GetTotalSize`, hence `Open`, `Dump`, `Mangle` fail with "nosig"). -/
theorem f7d_nosig_refused :
    SpecZip.valid zNoSig ∧
    okAnd (read (rd zNoSig)) (fun d => decide (modelExtents zNoSig d = [none]) &&
      decide (d.files.map (fun f => (getTotalSize (rd zNoSig) f).isOk) = [false])) = true ∧
    rewriteKeep zNoSig [] false = .err "nosig" := by decide +kernel

/-- A ZIP64 extra holding only the needed field (APPNOTE 4.5.3). -/
theorem f7e_partial_zip64_refused :
    SpecZip.valid zPartial ∧ read (rd zPartial) = .err "missingzip64" := by decide +kernel

/-- The empty member with a 24-byte descriptor: the member table agrees
    with the specification, but relic's extent is 47 bytes where the member occupies 55 (the next local
    header is at 55); the non-empty twin is measured correctly. -/
theorem f7a_empty24_misread :
    SpecZip.valid zEmpty24 ∧
    okAnd (read (rd zEmpty24)) (fun d => someAnd (SpecZip.parse zEmpty24) fun a =>
      decide (modelTable d = specTable a) && decide (modelExtents zEmpty24 d = [some (31, 47), some (86, 32)]) &&
      decide (specExtents a = [some (31, 55), some (86, 32)])) = true ∧
    okAnd (read (rd zOne24)) (fun d => someAnd (SpecZip.parse zOne24) fun a =>
      decide (modelExtents zOne24 d = specExtents a) &&
      decide (modelExtents zOne24 d = [some (31, 56), some (87, 32)])) = true := by decide +kernel

/-- The read half is false as stated: `zComment` (a valid archive with an archive comment, F7c) is not read at all
    ("notfound"). -/
theorem not_read_agrees_spec_full : ¬ read_agrees_spec_full := by
  intro h
  obtain ⟨a, d, -, hr, -⟩ := h zComment (by decide +kernel)
  have : read (rd zComment) = .err "notfound" := by decide +kernel
  rw [this] at hr
  cases hr

/-- members laid out back to back from offset 0 up to the central directory, in directory order
    (descriptor widths under the contiguous reading) — the layout `AddFile` assumes -/
def contigFrom (a : SpecZip.Archive) : Nat → List SpecZip.Member → Bool
  | pos, [] => pos == a.ends.cdOff
  | pos, m :: ms =>
    m.entry.hoff == pos &&
    match m.descWidths with
    | [] => contigFrom a (m.dataOff + m.entry.csize) ms
    | _ => match SpecZip.trueWidth a m with
      | some w => contigFrom a (m.dataOff + m.entry.csize + w) ms
      | none => false

/-- the full statement for `Mangle`+`MakePatch` without additions (FALSE on the unchanged tree) -/
def write_read_roundtrip_full : Prop :=
  ∀ z a mask force out, SpecZip.parse z = some a → contigFrom a 0 a.members = true →
    rewriteKeep z mask force = .ok out → SpecZip.valid out

/-! the same under `relicReadable` (which excludes the empty member with a 24-byte descriptor) is the theorem
    `write_read_roundtrip_readable` of Props/C17_Write.lean (full strength for the code with fix-F7g; for the code before
    that fix it needed one more clause: `extraRoom_necessary_orig`). -/

/-- (F7a, the consequence.)  `zEmpty24` is valid, contiguous, and
    its member table is read correctly; rewriting it with nothing deleted puts the directory 8 bytes
    before where the end records say (and, the member asking for version 4.5, ZIP64 records are written
    whose locator is 8 short as well): the result is not a valid ZIP and relic itself no longer finds
    the directory.  This is the second VSIX/AppX signing. -/
theorem rewrite_after_empty24_breaks :
    someAnd (SpecZip.parse zEmpty24) (fun a => contigFrom a 0 a.members) = true ∧
    okAnd (rewriteKeep zEmpty24 [] false) (fun out => !decide (SpecZip.valid out) &&
      decide (read (rd out) = .err "notfound")) = true := by decide +kernel

/-- The write half is false as stated: rewriting `zEmpty24` (an empty member with a 24-byte descriptor, F7a) gives an
    output that is not a valid archive (`rewrite_after_empty24_breaks`). -/
theorem not_write_read_roundtrip_full : ¬ write_read_roundtrip_full := by
  intro h
  obtain ⟨out, ho, hp⟩ := okAnd_elim rewrite_after_empty24_breaks.2
  obtain ⟨a, ha, hc⟩ := someAnd_elim rewrite_after_empty24_breaks.1
  have hv := h zEmpty24 a [] false out ha hc ho
  simp [hv] at hp

/-- Non-vacuity of the write half: the plain archive and the non-empty
    24-byte-descriptor archive are rewritten (raw re-emission, re-synthesis after a deletion, forced
    ZIP64 records) to valid archives with the expected member tables. -/
theorem rewrite_plain_roundtrip :
    okAnd (rewriteKeep zPlain [] false) (fun out => decide (SpecZip.valid out) &&
      decide ((SpecZip.parse out).map specTable = (SpecZip.parse zPlain).map specTable)) = true ∧
    okAnd (rewriteKeep zOne24 [] true) (fun out => decide (SpecZip.valid out) &&
      decide ((SpecZip.parse out).map specTable = (SpecZip.parse zOne24).map specTable)) = true ∧
    okAnd (rewriteKeep zOne24 [true] false) (fun out => decide (SpecZip.valid out) &&
      decide ((SpecZip.parse out).map (fun a => (specTable a).map (·.name)) = some [[98]])) = true := by decide +kernel

/-- the full statement: an unmodified directory is re-emitted byte for byte (FALSE) -/
def reemit_unmodified_full : Prop :=
  ∀ z d, SpecZip.valid z → read (rd z) = .ok d →
    ∃ cd eod, getOriginalDirectory d = .ok (cd, eod) ∧ cd ++ eod = z.drop d.dirLoc

/-- F7b: `GetOriginalDirectory` fails on every directory, whatever was read: the error "newzip", or the panic of the nil
    writer. -/
theorem getOriginalDirectory_always_panics (d : Directory) :
    getOriginalDirectory d = .err "newzip" ∨ getOriginalDirectory d = .panic "nil-writer" := by
  unfold getOriginalDirectory; split <;> simp

/-- Re-emission is false as stated: `GetOriginalDirectory` panics on every directory (F7b,
    `getOriginalDirectory_always_panics`), so also on the one `Read` returns for `zPlain`. -/
theorem not_reemit_unmodified_full : ¬ reemit_unmodified_full := by
  intro h
  have hr : okAnd (read (rd zPlain)) (fun _ => true) = true := by decide +kernel
  obtain ⟨d, hd, -⟩ := okAnd_elim hr
  obtain ⟨cd, eod, hg, -⟩ := h zPlain d (by decide +kernel) hd
  rcases getOriginalDirectory_always_panics d with e | e <;> rw [e] at hg <;> cases hg

/-- What the function is documented to do (`originalDirectorySpec`,
    the behaviour of fix-F7b.patch) does reproduce the original tail, ZIP64 or not. -/
theorem reemit_spec_reproduces :
    okAnd (read (rd zPlain)) (fun d => okAnd (originalDirectorySpec d) fun p =>
      decide (p.1 ++ p.2 = zPlain.drop d.dirLoc)) = true ∧
    okAnd (rewriteKeep zOne24 [] true) (fun z => okAnd (read (rd z)) fun d =>
      okAnd (originalDirectorySpec d) fun p => decide (p.1 ++ p.2 = z.drop d.dirLoc) && decide (p.2.length = 98)) = true := by
  decide +kernel

example : ReadsAsSpec zPlain := by
  have h : okAnd (read (rd zPlain)) (fun d => someAnd (SpecZip.parse zPlain) fun a =>
      decide (modelTable d = specTable a) && decide (modelExtents zPlain d = specExtents a)) = true := by decide +kernel
  obtain ⟨d, hd, hq⟩ := okAnd_elim h
  obtain ⟨a, ha, hr⟩ := someAnd_elim hq
  simp only [Bool.and_eq_true, decide_eq_true_eq] at hr
  exact ⟨a, d, ha, hd, hr.1, hr.2⟩
example : relicReadable zOne24 := by
  have h : someAnd (SpecZip.parse zOne24) (fun a => SpecZip.noComment a zOne24 && SpecZip.descSigned a &&
      SpecZip.zip64Fixed a && a.members.all (widthOK a)) = true := by
    decide +kernel
  obtain ⟨a, ha, hr⟩ := someAnd_elim h
  simp only [Bool.and_eq_true] at hr
  exact ⟨a, ha, hr.1.1.1, hr.1.1.2, hr.1.2, hr.2, by decide⟩
example : needZip64 0xffff 0 0 false 20 = true ∧ needZip64 0xfffe 0xfffffffe 0xfffffffe false 20 = false := by decide +kernel

end Relic.Props.C17
