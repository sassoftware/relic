/-
  C06 — No signature leaves relic without an audit record.

  * `Relic.SignFlow` (Model/SignFlow.lean): a small sequential language, its semantics under a fault
    oracle and the all-paths checker `wp`; `wp_sound` is proved once for every program.
  * `Relic.Generated.SignFlow` (re-emitted from the Go source on every run by tools/extractflow):
    the terms for serveSign, signCmd, PublishAudit, AppendTo.  The `*_generated` theorems below
    are the obligations (T-gen) discharged by kernel evaluation (`decide +kernel`) on those fresh terms.
  * `Relic.AuditLog`: the audit file under arbitrary interleavings of atomic appends.
-/
import Relic.Generated.SignFlow
import Relic.Proofs.AuditLog
import Relic.Proofs.Lists
namespace Relic.Props.C06
open Relic.SignFlow

/-- For *every* entry-point program `p` and *every* body `q` of
    PublishAudit that pass the decidable check, for every sink configuration and every fault script
    (any primitive may fail at any point: signer, AMQP broker, open, write, response write):

    1. if any part of the response body was emitted, then before the first response write exactly
       one record had been delivered to every configured sink (and none to an unconfigured one),
       nothing more was delivered afterwards, and no sink failed;
    2. if the function returns nil (standalone: exit status 0) after having signed, exactly one
       record was delivered to every configured sink and no sink failed;
    3. if any sink failed, no response body was emitted and an error is returned. -/
theorem audit_dominates_response (q p : Stmt) (h : auditGuardsResponse q p = true)
    (cfg : Cfg) (script : Script) :
    let r := runTop cfg q p script
    (Ev.response ∈ r.trace →
        (∀ s, (beforeResponse r.trace).count (.delivered s) = (if cfg.has s then 1 else 0)) ∧
        (∀ s, r.trace.count (.delivered s) = (if cfg.has s then 1 else 0)) ∧
        (∀ s, Ev.sinkFailed s ∉ r.trace)) ∧
    (r.out = .retNil → Ev.signed ∈ r.trace →
        (∀ s, r.trace.count (.delivered s) = (if cfg.has s then 1 else 0)) ∧ (∀ s, Ev.sinkFailed s ∉ r.trace)) ∧
    (∀ s, Ev.sinkFailed s ∈ r.trace → Ev.response ∉ r.trace ∧ r.out = .retErr) ∧
    r.out ≠ .norm := by
  intro r
  have hk : okSign cfg r.out r.trace = true := auditGuardsResponse_sound q p h cfg script
  have allS : ∀ (P : Sink → Bool), (sinks.all P = true) → ∀ s, P s = true :=
    fun P hP s => List.all_eq_true.mp hP s (by cases s <;> decide)
  simp only [okSign, Bool.and_eq_true, Bool.or_eq_true, Bool.not_eq_eq_eq_not, Bool.not_true,
    bne_iff_ne, ne_eq] at hk
  obtain ⟨⟨⟨h0, h1⟩, h2⟩, h3⟩ := hk
  have dOnce : ∀ tr, deliveredOnce cfg tr = true → ∀ s, tr.count (.delivered s) = (if cfg.has s then 1 else 0) :=
    fun tr hd s => by simpa using allS _ hd s
  have nFail : ∀ tr, noSinkFailed tr = true → ∀ s, Ev.sinkFailed s ∉ tr :=
    fun tr hd s => by simpa using allS _ hd s
  refine ⟨?_, ?_, ?_, h0⟩
  · intro hr
    have hc : r.trace.contains .response = true := by simpa using hr
    rcases h1 with h1 | h1
    · rw [hc] at h1; cases h1
    · exact ⟨dOnce _ h1.1.1, dOnce _ h1.1.2, nFail _ h1.2⟩
  · intro ho hs
    rcases h2 with h2 | h2
    · exfalso; simp [ho] at h2; exact h2 hs
    · exact ⟨dOnce _ h2.1, nFail _ h2.2⟩
  · intro s hf
    rcases h3 with h3 | h3
    · exact absurd hf (nFail _ h3 s)
    · exact ⟨by simpa using h3.1, by simpa using h3.2⟩

/- non-vacuity: a program that signs, publishes (returning on error) and then writes the response
    passes the check; moving the response write before the publication, or ignoring the
    publication's error, does not. -/

private def pubBoth : Stmt :=
  Stmt.seqs [.ite (.configured .amqp) (Stmt.seqs [.call .publishAmqp true, .ifErrReturn]) .skip,
             .ite (.configured .file) (Stmt.seqs [.call .appendTo true, .ifErrReturn]) .skip, .ret .nil]

private def good : Stmt :=
  Stmt.seqs [.call .sign true, .ifErrReturn, .call .publishAudit true, .ifErrReturn, .writeRw, .ret .lastErr]

private def writeFirst : Stmt :=
  Stmt.seqs [.call .sign true, .ifErrReturn, .writeRw, .call .publishAudit true, .ifErrReturn, .ret .nil]

private def ignoreErr : Stmt :=
  Stmt.seqs [.call .sign true, .ifErrReturn, .call .publishAudit false, .writeRw, .ret .lastErr]

private def firstSinkOnly : Stmt :=
  Stmt.seqs [.ite (.configured .amqp) (Stmt.seqs [.call .publishAmqp true, .ret .lastErr]) .skip,
             .ite (.configured .file) (Stmt.seqs [.call .appendTo true, .ifErrReturn]) .skip, .ret .nil]

example : auditGuardsResponse pubBoth good = true := by decide +kernel
example : auditGuardsResponse pubBoth writeFirst = false := by decide +kernel
example : auditGuardsResponse pubBoth ignoreErr = false := by decide +kernel
example : auditGuardsResponse firstSinkOnly good = false := by decide +kernel
/-- a fault script is really interpreted: with both sinks on, failing the 3rd fallible step
    (the file append) yields an error and no response -/
example : (runTop ⟨true, true⟩ pubBoth good [0, 0, 1]).out = .retErr
    ∧ Ev.response ∉ (runTop ⟨true, true⟩ pubBoth good [0, 0, 1]).trace
    ∧ Ev.delivered .amqp ∈ (runTop ⟨true, true⟩ pubBoth good [0, 0, 1]).trace := by decide +kernel
example : (runTop ⟨true, true⟩ pubBoth good []).trace
    = [.signed, .delivered .amqp, .delivered .file, .response] := by decide +kernel

/-- server.(*Server).serveSign with signinit.PublishAudit as they are in the working tree -/
theorem serveSign_generated :
    auditGuardsResponse Generated.SignFlow.publishAudit Generated.SignFlow.serveSign = true := by decide +kernel

/-- cmdline/token.signCmd with signinit.PublishAudit as they are in the working tree -/
theorem signCmd_generated :
    auditGuardsResponse Generated.SignFlow.publishAudit Generated.SignFlow.signCmd = true := by decide +kernel

/-- the property for the server as it is in the working tree: every fault script, every sink configuration -/
theorem serveSign_audit_before_response (cfg : Cfg) (script : Script) :
    let r := runTop cfg Generated.SignFlow.publishAudit Generated.SignFlow.serveSign script
    (Ev.response ∈ r.trace →
        (∀ s, (beforeResponse r.trace).count (.delivered s) = (if cfg.has s then 1 else 0)) ∧
        (∀ s, Ev.sinkFailed s ∉ r.trace)) ∧
    (∀ s, Ev.sinkFailed s ∈ r.trace → Ev.response ∉ r.trace ∧ r.out = .retErr) := by
  intro r
  have h := audit_dominates_response _ _ serveSign_generated cfg script
  exact ⟨fun hr => ⟨(h.1 hr).1, (h.1 hr).2.2⟩, h.2.2.1⟩

/-- the property for the standalone command as it is in the working tree -/
theorem signCmd_success_implies_audit (cfg : Cfg) (script : Script) :
    let r := runTop cfg Generated.SignFlow.publishAudit Generated.SignFlow.signCmd script
    (r.out = .retNil → Ev.signed ∈ r.trace →
        (∀ s, r.trace.count (.delivered s) = (if cfg.has s then 1 else 0)) ∧ (∀ s, Ev.sinkFailed s ∉ r.trace)) ∧
    (∀ s, Ev.sinkFailed s ∈ r.trace → r.out = .retErr) := by
  intro r
  have h := audit_dominates_response _ _ signCmd_generated cfg script
  exact ⟨h.2.1, fun s hs => (h.2.2.1 s hs).2⟩

/-- the happy paths exist (the statements above are not vacuous): with no fault both entry points
    sign, deliver to both sinks and succeed -/
example : (runTop ⟨true, true⟩ Generated.SignFlow.publishAudit Generated.SignFlow.serveSign []).trace
    = [.signed, .delivered .amqp, .delivered .file, .response] := by decide +kernel
example : (runTop ⟨true, true⟩ Generated.SignFlow.publishAudit Generated.SignFlow.signCmd []).out = .retNil
    ∧ Ev.signed ∈ (runTop ⟨true, true⟩ Generated.SignFlow.publishAudit Generated.SignFlow.signCmd []).trace := by decide +kernel

/-- (the data-flow part of "naming the key … actually used"): in both
    entry points the value passed to PublishAudit is `opts.Audit` of the very `opts` that
    signinit.Init returned and mod.Sign received, never reassigned in between.  What Init puts
    into the record is compared with the signature actually returned by the dynamic run. -/
theorem record_is_init_record :
    Generated.SignFlow.serveSignData.sameRecord = true ∧ Generated.SignFlow.signCmdData.sameRecord = true := by
  decide +kernel

/-- For every program passing `appendShape` and every fault script: the
    file operations are `open(O_APPEND, write-only, no O_TRUNC)` followed by at most one `Write`,
    whose argument is the marshalled record with the newline already appended; the function
    returns nil exactly when that single write succeeded.
    (`okAppend` is a table over the file events of the trace, which have one of three shapes: none, an open, an open
    and a write; the proof reads each row.) -/
theorem append_shape_sound (r : Stmt) (h : appendShape r = true) (script : Script) :
    let res := runLeaf r script
    ((res.trace.filter isWrote).length ≤ 1) ∧
    (∀ a ok, Ev.wrote a ok ∈ res.trace → a = lineArg ∧ (ok = true ↔ res.out = .retNil)) ∧
    (res.out = .retNil → ∃ fl, appendFlagsOk fl = true ∧ res.trace.filter isFileEv = [.opened fl, .wrote lineArg true]) := by
  intro res
  have hk : okAppend res.out res.trace = true := appendShape_sound r h script
  have hw : res.trace.filter isWrote = (res.trace.filter isFileEv).filter isWrote := by
    rw [List.filter_filter]
    congr 1
    funext e
    cases e <;> simp [isWrote, isFileEv]
  have hmem : ∀ a ok, Ev.wrote a ok ∈ res.trace → Ev.wrote a ok ∈ res.trace.filter isFileEv := by
    intro a ok hm
    exact List.mem_filter.mpr ⟨hm, rfl⟩
  simp only [okAppend, Bool.and_eq_true, bne_iff_ne, ne_eq] at hk
  obtain ⟨-, hk⟩ := hk
  generalize res.trace.filter isFileEv = fe at hk hw hmem
  match fe, hk with
  | [], hk =>
    refine ⟨by simp [hw], ?_, ?_⟩
    · intro a ok hm; exact absurd (hmem a ok hm) (by simp)
    · intro ho; simp [ho] at hk
  | [.opened fl], hk =>
    simp only [Bool.and_eq_true, beq_iff_eq] at hk
    refine ⟨by simp [hw, isWrote], ?_, ?_⟩
    · intro a ok hm; exact absurd (hmem a ok hm) (by simp)
    · intro ho; rw [ho] at hk; exact absurd hk.2 (by decide)
  | [.opened fl, .wrote a ok], hk =>
    simp only [Bool.and_eq_true, beq_iff_eq] at hk
    obtain ⟨⟨hfl, ha⟩, hok⟩ := hk
    refine ⟨by rw [hw]; simp [List.filter, isWrote], ?_, ?_⟩
    · intro a' ok' hm
      have := hmem a' ok' hm
      simp only [List.mem_cons, List.mem_nil_iff, or_false, reduceCtorEq, false_or, Ev.wrote.injEq] at this
      obtain ⟨e1, e2⟩ := this
      subst e1 e2
      exact ⟨ha, by rw [← hok]; simp⟩
    · intro ho
      exact ⟨fl, hfl, by rw [ha, ← hok, ho]; rfl⟩

/-- generated obligation: audit.(*Info).AppendTo as it is in the working tree -/
theorem appendTo_generated : appendShape Generated.SignFlow.appendTo = true := by decide +kernel

/- non-vacuity and the two mutations -/

private def appendGood : Stmt :=
  Stmt.seqs [.call (.openFile ["O_CREATE", "O_APPEND", "O_WRONLY"]) true, .ifErrReturn, .call .marshal true, .ifErrReturn,
             .call (.write "marshal+nl") true, .ifErrReturn, .ret .nil]

private def appendNoFlag : Stmt :=
  Stmt.seqs [.call (.openFile ["O_CREATE", "O_WRONLY"]) true, .ifErrReturn, .call (.write "marshal+nl") true, .ifErrReturn, .ret .nil]

private def appendTwoWrites : Stmt :=
  Stmt.seqs [.call (.openFile ["O_CREATE", "O_APPEND", "O_WRONLY"]) true, .ifErrReturn,
             .call (.write "marshal") true, .ifErrReturn, .call (.write "?") true, .ifErrReturn, .ret .nil]

example : appendShape appendGood = true := by decide +kernel
example : appendShape appendNoFlag = false := by decide +kernel
example : appendShape appendTwoWrites = false := by decide +kernel

open Relic.AuditLog in
/-- Start from a file of complete lines `old`; let any number of
    appenders each perform `open / write(record ++ "\n") / close` (the shape `appendShape`
    enforces), their steps interleaved in *any* order, each write being one atomic append.  Then
    the file consists of complete lines only: the old ones followed by a permutation of the new
    records — nothing torn, nothing lost, nothing duplicated.  (Hypothesis: a marshalled record
    contains no newline — a fact about encoding/json, trusted.) -/
theorem log_lines_complete (old recs : List Bytes)
    (hold : ∀ r ∈ old, nl ∉ r) (hrec : ∀ r ∈ recs, nl ∉ r)
    (m : List Step) (hm : Interleaving (recs.map appender) m) :
    ∃ order : List Bytes, order.Perm recs ∧
      runFile (ofLines old) m = ofLines (old ++ order) ∧
      splitLines (runFile (ofLines old) m) = (old ++ order, []) := by
  have hp : (payloads m).Perm (recs.map (· ++ [nl])) := by
    have := payloads_perm hm.perm
    rwa [payloads_appenders] at this
  obtain ⟨order, ho, hw⟩ := perm_map_leftInverse (· ++ [nl]) List.dropLast (fun r => by simp) hp
  have hfile : runFile (ofLines old) m = ofLines (old ++ order) := by
    rw [runFile_eq, hw, ofLines_append]; rfl
  refine ⟨order, ho, hfile, ?_⟩
  rw [hfile]
  apply splitLines_ofLines
  intro r hr
  rcases List.mem_append.mp hr with h | h
  · exact hold r h
  · exact hrec r ((ho.mem_iff).mp h)

open Relic.AuditLog in
/-- non-vacuity: a genuine interleaving of two appenders (second one writes first) -/
example : Interleaving ([[1, 2], [3]].map appender)
    [.opn, .opn, .write ([3] ++ [nl]), .write ([1, 2] ++ [nl]), .close, .close] := by
  refine Interleaving.step [] _ _ _ _ ?_
  refine Interleaving.step [_] _ _ _ _ ?_
  refine Interleaving.step [_] _ _ _ _ ?_
  refine Interleaving.step [] _ _ _ _ ?_
  refine Interleaving.step [] _ _ _ _ ?_
  refine Interleaving.step [_] _ _ _ _ ?_
  exact Interleaving.done _ (by simp)

open Relic.AuditLog in
/-- why `appendShape` insists on a single write: with the newline written separately there is an
    interleaving of two appenders whose file has a merged line and an empty line -/
example : ∃ m, Interleaving ([[1], [2]].map appenderSplit) m ∧
    splitLines (runFile [] m) = ([[1, 2], []], []) := by
  refine ⟨[.opn, .opn, .write [1], .write [2], .write [nl], .write [nl], .close, .close], ?_, by decide⟩
  refine Interleaving.step [] _ _ _ _ ?_
  refine Interleaving.step [_] _ _ _ _ ?_
  refine Interleaving.step [] _ _ _ _ ?_
  refine Interleaving.step [_] _ _ _ _ ?_
  refine Interleaving.step [] _ _ _ _ ?_
  refine Interleaving.step [_] _ _ _ _ ?_
  refine Interleaving.step [] _ _ _ _ ?_
  refine Interleaving.step [_] _ _ _ _ ?_
  exact Interleaving.done _ (by simp)

end Relic.Props.C06
