/-
  C12 — Binary patches apply exactly, in place or by rewrite.
  Property theorems about `Relic.Model.Binpatch` (model of /repo/lib/binpatch/binpatch.go).
-/
import Relic.Proofs.Binpatch
import Relic.Proofs.BinpatchCodec
namespace Relic.Props.C12
open Relic.Binpatch

/-- A call sequence is *constructible* for a file of length `n`: offsets ascending, ranges
    disjoint or touching, every range inside the file.  (Decidable; this is what every relic
    builder emits.) -/
abbrev Constructible (n : Nat) (cs : List Patch) : Prop := wfFrom n 0 cs = true

/-- **add_spec.** For every coalescing/splitting threshold `M`, every file and every constructible
    sequence of `Add` calls, the write-then-rename strategy applied to the accumulated patch set
    yields exactly the reference result ("the original bytes with each listed range replaced by
    its blob").  Covers zero-length, inserting, extending, truncating, adjacent (coalesced or, at
    the caps, not coalesced) and over-`M` (split) ranges. -/
theorem add_spec (M : Nat) (f : Bytes) (cs : List Patch) (h : Constructible f.length cs) :
    applyRewrite f (build M cs) = .ok (sem f cs) :=
  applyRewrite_build M f cs h

/-- **load_dump.** Serialising and parsing gives back the patch list (fields within the widths
    `Dump` writes), even when followed by trailing bytes. -/
theorem load_dump (ps : List Patch) (rest : Bytes) (h : ∀ p ∈ ps, Fits p) (hn : ps.length < 256 ^ 4) :
    load (dumpSorted ps ++ rest) = .ok ps :=
  load_dumpSorted ps h hn rest

/-- **dump_load_apply.** The production path `Dump → Load → applyRewrite` on builder output. -/
theorem dump_load_apply (M : Nat) (f : Bytes) (cs : List Patch) (h : Constructible f.length cs)
    (hf : ∀ p ∈ build M cs, Fits p) (hn : (build M cs).length < 256 ^ 4) :
    (load (dump (build M cs))).bind (applyRewrite f) = .ok (sem f cs) := by
  have w := wf_build M f.length cs h
  have e : dump (build M cs) = dumpSorted (build M cs) ++ [] := by
    simp [dump, sortByOff_id f.length 0 _ w]
  rw [e, load_dumpSorted _ hf hn]
  exact add_spec M f cs h

/-- **sort_instability_irrelevant.** `sort.Sort` is not stable.  Whatever permutation it returns, if
    it is sorted by offset and the offsets are pairwise distinct then it is the list the model's
    (stable) sort returns. -/
theorem sort_instability_irrelevant (ps qs : List Patch) (hp : qs.Perm ps)
    (hs : qs.Pairwise (fun a b => a.off ≤ b.off)) (nd : (ps.map (·.off)).Nodup) : qs = sortByOff ps := by
  have p2 := sortByOff_perm ps
  have nd2 : ((sortByOff ps).map (·.off)).Nodup := (p2.map _).nodup_iff.mpr nd
  have st := strict_of_sorted_nodup _ (sortByOff_sorted ps) nd2
  exact sorted_unique_of_asymm (R := fun a b : Patch => a.off < b.off) (fun _ _ => Nat.lt_asymm)
    (strict_of_sorted_nodup _ hs ((hp.map _).nodup_iff.mpr nd)) st (hp.trans p2.symm)

/-- **load_prefix_rejected.** Every proper prefix of a serialised patch set is refused. -/
theorem load_prefix_rejected (ps : List Patch) (b x : Bytes) (h : ∀ p ∈ ps, Fits p) (hn : ps.length < 256 ^ 4)
    (hb : b ++ x = dumpSorted ps) (hx : x ≠ []) : ∀ qs, load b ≠ .ok qs := by
  intro qs hq
  have m := load_mono b x qs hq
  have full : load (dumpSorted ps ++ []) = .ok ps := load_dumpSorted ps h hn []
  rw [List.append_nil, ← hb, m] at full
  injection full with e
  subst e
  have c := load_consumes b qs hq
  have l := dumpSorted_length qs
  rw [← hb, List.length_append] at l
  have : 0 < x.length := List.length_pos_iff.mpr hx
  omega

/-- **inplace_eq_rewrite.** Whenever `Apply` chooses the in-place strategy (all patches
    size-preserving except possibly a last one ending at EOF) on a patch set whose ranges are
    ascending and inside the file, the in-place result is the reference – hence identical to what
    write-then-rename produces. -/
theorem inplace_eq_rewrite (f : Bytes) (ps : List Patch) (size : Nat)
    (w : wfFrom f.length 0 ps = true) (e : inPlaceSize f.length ps f.length = some size) :
    applyInPlace f ps size = sem f ps ∧ applyRewrite f ps = .ok (sem f ps) :=
  ⟨inplace_spec ps f 0 size w e, applyRewrite_sem f ps w⟩

/-- **apply_exact.** Whatever strategy `Apply` picks (same path or other path, hard link or not),
    the bytes found at the output path are the reference result. -/
theorem apply_exact (M : Nat) (f : Bytes) (cs : List Patch) (h : Constructible f.length cs) (canOverwrite : Bool) :
    ∃ strategy, apply f (build M cs) canOverwrite = .ok (sem f cs, strategy) := by
  have w := wf_build M f.length cs h
  unfold apply
  cases hsz : (if canOverwrite = true then inPlaceSize f.length (build M cs) f.length else none) with
  | some size =>
    refine ⟨true, ?_⟩
    have e : inPlaceSize f.length (build M cs) f.length = some size := by
      cases canOverwrite <;> simp_all
    simp only
    rw [(inplace_eq_rewrite f _ size w e).1, sem_build M f cs h]
  | none =>
    refine ⟨false, ?_⟩
    simp only
    rw [add_spec M f cs h]

/-- the point excluded from `inplace_eq_rewrite`: a size-preserving patch reaching past EOF is
    truncated away by the in-place strategy but kept by the rewrite strategy.  Not constructible
    (its range is outside the file). -/
theorem inplace_differs_past_eof :
    apply [1, 2] [⟨1, 2, [7, 8]⟩] true = .ok ([1, 7], true) ∧
    apply [1, 2] [⟨1, 2, [7, 8]⟩] false = .ok ([1, 7, 8], false) ∧
    ¬ Constructible 2 [⟨1, 2, [7, 8]⟩] := by decide +kernel

example : Constructible 10 [⟨0, 0, [1]⟩, ⟨2, 3, []⟩, ⟨5, 1, [9, 9]⟩, ⟨10, 0, [4]⟩] := by decide +kernel
example : build 4 [⟨0, 3, [1]⟩, ⟨3, 3, [2]⟩, ⟨6, 9, []⟩] =
    [⟨0, 3, [1]⟩, ⟨3, 3, [2]⟩, ⟨6, 4, []⟩, ⟨10, 4, []⟩, ⟨14, 1, []⟩] := by
  simp [build, add, addSplit]
example : inPlaceSize 5 [⟨0, 1, [7]⟩, ⟨3, 2, [1, 2, 3]⟩] 5 = some 6 := by decide +kernel
example : Fits ⟨5, 3, [1, 2]⟩ := by unfold Fits; decide

end Relic.Props.C12
