/-
  C03 — Signing never corrupts or alters the payload.   DEB part (model `Relic.Model.Deb`).
-/
import Relic.Proofs.DebSign
import Relic.Props.C12
namespace Relic.Props.C03
open Relic.Deb

theorem deb_sign_ok (H1 H2 cs ctl) (mt signer date role f : Bytes) (o : SignOut) (es : List Entry)
    (he : entries f = (es, .eof)) (hs : sign H1 H2 cs ctl mt signer date role f = .ok o) :
    o = signOf H1 H2 cs mt signer date role f.length es ∧ signFail ctl es = none ∧ hasCtl es = true :=
  sign_ok H1 H2 cs ctl mt signer date role f o es he hs

/-- the bytes `Sign` asks `binpatch` to write -/
def signedBytes (f : Bytes) (o : SignOut) : Bytes := splice f o.off o.old o.blob

/-- **deb_patch_constructible.** For a tight archive the patch `Sign` emits lies inside the file, so C12's exactness
    theorems apply: the file written is `signedBytes`, whatever strategy `Apply` picks. -/
theorem deb_patch_constructible (H1 H2 cs ctl) (mt signer date role f : Bytes) (o : SignOut) (es : List Entry)
    (h8 : 8 ≤ f.length) (he : entries f = (es, .eof)) (ht : Tight (f.drop 8) es)
    (hs : sign H1 H2 cs ctl mt signer date role f = .ok o) :
    C12.Constructible f.length [⟨o.off, o.old, o.blob⟩] ∧ applyPatch f o = .ok (signedBytes f o) := by
  obtain ⟨ho, -⟩ := sign_ok H1 H2 cs ctl mt signer date role f o es he hs
  have hsl : (o.off, o.old) = slotOf role f.length es := ho ▸ signOf_slot H1 H2 cs mt signer date role f.length es
  have hbound : o.off + o.old ≤ f.length := by
    rcases slotOf_cases role f.length es ht.1 with ⟨-, h⟩ | ⟨es1, e, es2, rfl, -, -, h⟩
    · obtain ⟨h1, h2⟩ := Prod.mk.inj (hsl.trans h); omega
    · obtain ⟨h1, h2⟩ := Prod.mk.inj (hsl.trans h)
      have := ht.2
      rw [advSum_append, List.length_drop] at this
      simp only [advSum] at this
      omega
  have hc : C12.Constructible f.length [⟨o.off, o.old, o.blob⟩] := by
    simp [C12.Constructible, Binpatch.wfFrom]
    exact hbound
  refine ⟨hc, ?_⟩
  unfold applyPatch
  rw [C12.add_spec 4294967295 f _ hc]
  simp [Binpatch.sem, signedBytes]

/-- **deb_payload_preserved.** For every tight archive the model's reader accepts (`entries f = (es, eof)`, all members
    complete) on which `Sign` succeeds: the file written keeps the 8-byte global header, and the reader finds in it exactly
    the members of the input — same order, identical 60-byte headers, names, sizes and bodies — except that the last member whose
    cleaned name is `_gpg<role>` has been exchanged for the new signature member; when there was none the new member is
    appended.  The output is tight again.  (`ReadsBack`: the header `Sign` writes is read back with the name and size written.) -/
theorem deb_payload_preserved (H1 H2 cs ctl) (mt signer date role f : Bytes) (o : SignOut) (es : List Entry)
    (h8 : 8 ≤ f.length) (he : entries f = (es, .eof)) (ht : Tight (f.drop 8) es)
    (hs : sign H1 H2 cs ctl mt signer date role f = .ok o)
    (hrb : ReadsBack (gpg ++ role) mt (cs (message H1 H2 signer date role (linesOf es)))) :
    let S := cs (message H1 H2 signer date role (linesOf es))
    let ne := newEntry (gpg ++ role) mt S
    let g := signedBytes f o
    g.take 8 = f.take 8 ∧
    ((sigSlot role 8 es = none ∧ g = f ++ o.blob ∧ entries g = (es ++ [ne], .eof)) ∨
     (∃ es1 e es2, es = es1 ++ e :: es2 ∧ pathClean e.name = gpg ++ role ∧ (∀ x ∈ es2, pathClean x.name ≠ gpg ++ role) ∧
        o.off = 8 + advSum es1 ∧ o.old = adv e.size ∧ entries g = (es1 ++ ne :: es2, .eof))) ∧
    Tight (g.drop 8) (entries g).1 := by
  intro S ne g
  cases hsig : sigSlot role 8 es with
  | none =>
    obtain ⟨-, -, h3, h4, h5⟩ := sign_appends H1 H2 cs ctl mt signer date role f o es h8 he ht hsig hs hrb
    have hg : g = f ++ o.blob := h3
    exact ⟨by rw [hg, List.take_append_of_le_length h8], .inl ⟨rfl, hg, hg ▸ h4⟩, by rw [hg, h4]; exact h5⟩
  | some s =>
    obtain ⟨es1, e, es2, rfl, hm, hn, -, -⟩ := sigSlot_some role es 8 s.1 s.2 hsig
    obtain ⟨h1, h2, h3, h4⟩ := sign_replaces H1 H2 cs ctl mt signer date role f o es1 e es2 h8 he ht hm hn hs hrb
    exact ⟨take_splice f _ _ (by omega) h8, .inr ⟨es1, e, es2, rfl, hm, hn, h1, h2, h3⟩,
      by rw [show entries g = _ from h3]; exact h4⟩

/-- **deb_refusal_is_clean.** `Sign` either returns a patch or returns none (the patch exists only inside `.ok`): the statement
    is this case distinction and no more; that nothing is written without a patch is `Generated.SignFlow`'s part. -/
theorem deb_refusal_is_clean (H1 H2 cs ctl) (mt signer date role f : Bytes) :
    (∃ o, sign H1 H2 cs ctl mt signer date role f = .ok o) ∨
    (∀ o, sign H1 H2 cs ctl mt signer date role f ≠ .ok o) := by
  cases h : sign H1 H2 cs ctl mt signer date role f with
  | ok o => exact Or.inl ⟨o, rfl⟩
  | err _ => right; intro o h'; cases h'
  | panic _ => right; intro o h'; cases h'
  | diverge => right; intro o h'; cases h'

/-- `tightB` decides the hypotheses of the theorems above -/
theorem tight_of_tightB (f : Bytes) (h : tightB f = true) :
    8 ≤ f.length ∧ (entries f).2 = .eof ∧ Tight (f.drop 8) (entries f).1 := by
  unfold tightB at h
  simp only [Bool.and_eq_true, beq_iff_eq, List.all_eq_true, decide_eq_true_eq] at h
  obtain ⟨⟨h1, h2⟩, h3⟩ := h
  refine ⟨by omega, h1, h2, ?_⟩
  simp [List.length_drop]; omega

/- Three test archives (global header `!<arch>\n`, then members with 60-byte headers): `sampleSigned` holds `debian-binary`
   ("2.0\n"), `control.tar` ("ctl", padded) and an old signature member `_gpgbuilder` ("old!"); `sampleUnsigned` the first two;
   `sampleTruncated` the first two with the size field of `control.tar` saying 10 while 3 bytes are there. -/
def sampleSigned : Bytes :=
  [33, 60, 97, 114, 99, 104, 62, 10, 100, 101, 98, 105, 97, 110, 45, 98, 105, 110, 97, 114, 121, 32, 32, 32, 49, 55, 48, 48, 48, 48, 48, 48, 48, 48, 32, 32, 48, 32, 32, 32, 32, 32, 48, 32, 32, 32, 32, 32, 49, 48, 48, 54, 52, 52, 32, 32, 52, 32, 32, 32, 32, 32, 32, 32, 32, 32, 96, 10, 50, 46, 48, 10, 99, 111, 110, 116, 114, 111, 108, 46, 116, 97, 114, 32, 32, 32, 32, 32, 49, 55, 48, 48, 48, 48, 48, 48, 48, 48, 32, 32, 48, 32, 32, 32, 32, 32, 48, 32, 32, 32, 32, 32, 49, 48, 48, 54, 52, 52, 32, 32, 51, 32, 32, 32, 32, 32, 32, 32, 32, 32, 96, 10, 99, 116, 108, 10, 95, 103, 112, 103, 98, 117, 105, 108, 100, 101, 114, 32, 32, 32, 32, 32, 49, 55, 48, 48, 48, 48, 48, 48, 48, 48, 32, 32, 48, 32, 32, 32, 32, 32, 48, 32, 32, 32, 32, 32, 49, 48, 48, 54, 52, 52, 32, 32, 52, 32, 32, 32, 32, 32, 32, 32, 32, 32, 96, 10, 111, 108, 100, 33]

def sampleUnsigned : Bytes :=
  [33, 60, 97, 114, 99, 104, 62, 10, 100, 101, 98, 105, 97, 110, 45, 98, 105, 110, 97, 114, 121, 32, 32, 32, 49, 55, 48, 48, 48, 48, 48, 48, 48, 48, 32, 32, 48, 32, 32, 32, 32, 32, 48, 32, 32, 32, 32, 32, 49, 48, 48, 54, 52, 52, 32, 32, 52, 32, 32, 32, 32, 32, 32, 32, 32, 32, 96, 10, 50, 46, 48, 10, 99, 111, 110, 116, 114, 111, 108, 46, 116, 97, 114, 32, 32, 32, 32, 32, 49, 55, 48, 48, 48, 48, 48, 48, 48, 48, 32, 32, 48, 32, 32, 32, 32, 32, 48, 32, 32, 32, 32, 32, 49, 48, 48, 54, 52, 52, 32, 32, 51, 32, 32, 32, 32, 32, 32, 32, 32, 32, 96, 10, 99, 116, 108, 10]

def sampleTruncated : Bytes :=
  [33, 60, 97, 114, 99, 104, 62, 10, 100, 101, 98, 105, 97, 110, 45, 98, 105, 110, 97, 114, 121, 32, 32, 32, 49, 55, 48, 48, 48, 48, 48, 48, 48, 48, 32, 32, 48, 32, 32, 32, 32, 32, 48, 32, 32, 32, 32, 32, 49, 48, 48, 54, 52, 52, 32, 32, 52, 32, 32, 32, 32, 32, 32, 32, 32, 32, 96, 10, 50, 46, 48, 10, 99, 111, 110, 116, 114, 111, 108, 46, 116, 97, 114, 32, 32, 32, 32, 32, 49, 55, 48, 48, 48, 48, 48, 48, 48, 48, 32, 32, 48, 32, 32, 32, 32, 32, 48, 32, 32, 32, 32, 32, 49, 48, 48, 54, 52, 52, 32, 32, 49, 48, 32, 32, 32, 32, 32, 32, 32, 32, 96, 10, 99, 116, 108]

set_option maxRecDepth 100000 in
/-- non-vacuity: both samples are tight; `Sign` succeeds on the signed one, which holds a member for "builder"; the unsigned
    one holds none -/
example : tightB sampleSigned = true ∧ tightB sampleUnsigned = true ∧
    (sign (fun _ => [48]) (fun _ => [49]) (fun m => m) (fun _ _ => true) [49] [65] [64] [98, 117, 105, 108, 100, 101, 114] sampleSigned).isOk = true ∧
    (sigSlot [98, 117, 105, 108, 100, 101, 114] 8 (entries sampleSigned).1).isSome = true ∧
    (sigSlot [98, 117, 105, 108, 100, 101, 114] 8 (entries sampleUnsigned).1).isSome = false := by decide +kernel

-- makes `∃ o, sign … = .ok o ∧ …` decidable by running `sign`, so that `decide +kernel` takes the whole statement
attribute [local instance] Res.decExistsOk

/-- **deb_truncated_not_refused.** An archive whose last member is cut short (size field 10, 3 bytes present) is read to its
    "end" without complaint, `Sign` succeeds and appends the new member at the end of the file — inside the truncated member.
    The reader then takes the first 7 bytes of the new header for member data and finds no signature member at all:
    the "refuse or preserve" statement fails for such inputs. -/
theorem deb_truncated_not_refused :
    ∃ o, sign (fun _ => [48]) (fun _ => [49]) (fun m => m) (fun _ _ => true) [49] [65] [64] [98] sampleTruncated = .ok o ∧
      o.off = sampleTruncated.length ∧ o.old = 0 ∧
      (entries sampleTruncated).2 = .eof ∧ tightB sampleTruncated = false ∧
      sigsOf (entries (signedBytes sampleTruncated o)).1 = [] := by
  decide +kernel

end Relic.Props.C03
