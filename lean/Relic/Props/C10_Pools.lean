/-
  Property C10, fragment "pools": which authorities a signing operation may talk to.

  Theorems about `Relic.Model.TsaPool` sections 1 and 5 (internal/signinit.Init, namedTimestamper, the `switch` at
  the top of tsClient.Timestamp), composed with the failover loop and the attach sites.  Tied to the real code by the
  TSX `pool` ops (checklib/models/tsx.py): real signinit.Init over a YAML configuration, then the appmanifest signer.
-/
import Relic.Props.C10
import Relic.Proofs.TsaPool
namespace Relic.Props.C10
open Relic.Tsa Relic.TsaX

/-- the list the configuration offers for a request: the named list when the key names a pool (for BOTH request
styles), otherwise the legacy list for a legacy request and the default list for an RFC 3161 one -/
def offered (c : TsConf) (name : Name) (legacy : Bool) : List Url :=
  if name ≠ [] then lookupNamed c.named name else if legacy then c.msUrls else c.urls

def emptyClass (name : Name) (legacy : Bool) : String :=
  if name ≠ [] then "empty-named" else if legacy then "empty-ms" else "empty-urls"

/-- **named_pool_selection** — the exact function from (timestamp section, pool name, request style) to the URL list
used: the offered list if it has a member, an explicit error naming the empty list otherwise.  There is no fallback
from an unknown or empty named pool to the default list, and none to "no timestamp". -/
theorem named_pool_selection (c : TsConf) (name : Name) (legacy : Bool) :
    selectPool c name legacy =
      if offered c name legacy = [] then .err (emptyClass name legacy) else .ok (offered c name legacy) := by
  unfold selectPool offered emptyClass
  by_cases hn : name = []
  · subst hn
    cases legacy
    · cases h : c.urls <;> simp
    · cases h : c.msUrls <;> simp
  · cases h : lookupNamed c.named name <;> simp [hn]

/-- a pool name wins over the request style: a key with `timestamper: x` sends legacy requests to list `x` too -/
theorem named_overrides_style (c : TsConf) (name : Name) (hn : name ≠ []) (l1 l2 : Bool) :
    selectPool c name l1 = selectPool c name l2 := by
  simp [selectPool, hn]

example : selectPool ⟨[0, 1], [2], [(['a'], [3, 4]), (['b'], [5])]⟩ ['b'] false = .ok [5] := by decide +kernel
example : selectPool ⟨[0, 1], [2], [(['a'], [3, 4]), (['b'], [5])]⟩ ['z'] false = .err "empty-named" := by decide +kernel
example : selectPool ⟨[0, 1], [2], [(['a'], [3, 4]), (['b'], [])]⟩ ['b'] true = .err "empty-named" := by decide +kernel
example : selectPool ⟨[0, 1], [], []⟩ [] true = .err "empty-ms" := by decide +kernel

/-- **plan_selection** — what `signinit.Init` puts into `cert.Timestamper`, as a function of the key options, the
`no-timestamp` flag and the presence of a `timestamp:` section -/
theorem plan_selection (sect : Option TsConf) (k : KeyConf) (flag : String) :
    initPlan sect k flag =
      if (k.timestamp = true ∨ k.timestamper ≠ []) ∧ parseBool flag = false then
        match sect with
        | some c => .ok (.stamp c k.timestamper)
        | none => .err "no-timestamp-config"
      else .ok .off := by
  unfold initPlan wanted
  cases sect <;> by_cases h1 : k.timestamp = true <;> by_cases h2 : k.timestamper = [] <;> cases h3 : parseBool flag <;>
    simp [h1, h2]

example : initPlan none ⟨true, []⟩ "" = .err "no-timestamp-config" := by decide +kernel
example : initPlan (some ⟨[0], [], []⟩) ⟨false, ['a']⟩ "" = .ok (.stamp ⟨[0], [], []⟩ ['a']) := by decide +kernel
example : initPlan (some ⟨[0], [], []⟩) ⟨true, ['a']⟩ "true" = .ok .off := by decide +kernel
/-- `GetBool` ignores the parse error: "yes" does not disable time-stamping -/
example : initPlan (some ⟨[0], [], []⟩) ⟨true, []⟩ "yes" = .ok (.stamp ⟨[0], [], []⟩ []) := by decide +kernel

theorem map_getD_range (us : List Url) : ∀ n, n ≤ us.length → (List.range n).map (fun i => us.getD i 0) = us.take n := by
  intro n hn
  apply List.ext_getElem
  · simp [List.length_take, Nat.min_eq_left hn]
  · intro i h1 h2
    simp only [List.getElem_map, List.getElem_range, List.getElem_take]
    have : i < us.length := by simp [List.length_take] at h2; omega
    simp [List.getD_eq_getElem?_getD, this]

theorem attempts_map_le (c : Cfg) (r : Req) (ws : List Wire) : attempts c r ws ≤ ws.length := attempts_le c r ws

/-- **pool_contacted_prefix** — the authorities that receive a request are a prefix of the selected list, in
configured order, each once: exactly as many as the failover loop of `failover_order` makes attempts; an empty or
unknown pool means nobody is contacted. -/
theorem pool_contacted_prefix (c : Cfg) (conf : TsConf) (name : Name) (r : Req) (pre : Bool) (world : Url → Wire) :
    (clientTs c conf name r pre world).contacted =
      if pre then [] else (offered conf name r.legacy).take (attempts c r ((offered conf name r.legacy).map world)) := by
  unfold clientTs
  rw [named_pool_selection]
  by_cases he : offered conf name r.legacy = []
  · simp [he, attempts]
  · simp only [he, if_false, globalise]
    rw [failover_order]
    cases pre with
    | true => simp
    | false =>
      simp only [Bool.false_eq_true, if_false]
      apply map_getD_range
      have := attempts_le c r ((offered conf name r.legacy).map world)
      simpa using this

/-- **unknown_pool_is_error** — the key names a pool the configuration does not define (or defines empty): the
client returns an explicit error and contacts nobody -/
theorem unknown_pool_is_error (c : Cfg) (conf : TsConf) (name : Name) (r : Req) (pre : Bool) (world : Url → Wire)
    (hn : name ≠ []) (hu : lookupNamed conf.named name = []) :
    clientTs c conf name r pre world = ⟨.err "empty-named", [], []⟩ := by
  unfold clientTs
  rw [named_pool_selection]
  simp [offered, emptyClass, hn, hu]

example : (clientTs Cfg.fixed ⟨[0, 1], [2], [(['a'], [3, 4])]⟩ ['a'] ⟨false, 7, 1100⟩ false
    (fun u => if u = 4 then .http 200 (.der 0 ⟨1, true, 1, true, .tst ⟨some 7, 1100, true, some 0⟩, none, 1, true⟩ false) else .reset)).contacted
    = [3, 4] := by decide +kernel

theorem signSite_ok_token {H : Nat → Nat} {g : Bool} {site : Site} {ed leaf : Nat} {o : Outcome} {a : ArtX}
    (hs : site ≠ .unsupported) (h : (signSite H g site ed leaf (some o)).1 = .ok a) :
    ∃ s t, o.res = .ok (s, t) ∧ a = ⟨site, ed, leaf, some t⟩ :=
  let ⟨s, t, _, h1, h2, _⟩ := signSite_ok hs h
  ⟨s, t, h1, h2⟩

/-- **never_silently_omitted_pools** — time-stamping configured for the key (by either option) and not disabled by
the request, signer type with an attach site: the operation either fails or yields an artefact that carries a
token; in particular a missing `timestamp:` section, an unknown pool name and an empty list are errors.  This holds
with any cache content, limiter state and context. -/
theorem never_silently_omitted_pools (D : Nat → List Char) (H : Nat → Nat) (c : Cfg) (sect : Option TsConf) (k : KeyConf)
    (flag : String) (memcache up : Bool) (sh : Shared) (now : Nat) (ctx : Ctx) (world : Url → Wire) (site : Site)
    (rfcFlag : Bool) (hash nonce ed leaf : Nat) (hw : wanted k flag = true) (hs : site ≠ .unsupported) :
    (∀ a, (signOp D H c sect k flag memcache up sh now ctx world site rfcFlag hash nonce ed leaf).1 = .ok a → a.token ≠ none) ∧
    (sect = none → (signOp D H c sect k flag memcache up sh now ctx world site rfcFlag hash nonce ed leaf).1 = .err "no-timestamp-config") := by
  constructor
  · intro a h
    unfold signOp initPlan at h
    simp only [hw, if_true] at h
    cases sect with
    | none => simp at h
    | some conf =>
      simp only at h
      cases site <;> first | exact absurd rfl hs | skip
      all_goals
        obtain ⟨s, t, _, ha⟩ := signSite_ok_token (by simp) h
        simp [ha]
  · intro hn
    subst hn
    simp [signOp, initPlan, hw]

/-- without the key options, or with `no-timestamp`, no time-stamper is consulted and nothing is attached -/
theorem not_wanted_no_request (D : Nat → List Char) (H : Nat → Nat) (c : Cfg) (sect : Option TsConf) (k : KeyConf)
    (flag : String) (memcache up : Bool) (sh : Shared) (now : Nat) (ctx : Ctx) (world : Url → Wire) (site : Site)
    (rfcFlag : Bool) (hash nonce ed leaf : Nat) (hw : wanted k flag = false) :
    signOp D H c sect k flag memcache up sh now ctx world site rfcFlag hash nonce ed leaf
      = (.ok ⟨site, ed, leaf, none⟩, noOutcome) := by
  unfold signOp initPlan
  simp only [hw, Bool.false_eq_true, if_false]
  cases site <;> rfl

/-- **unsupported_site_never_asks** — apk (v2 block), pgp, deb, rpm: the module never looks at `cert.Timestamper`;
the key's time-stamping options have no effect there (by design of the formats, not an omission of a configured step) -/
theorem unsupported_site_never_asks (D : Nat → List Char) (H : Nat → Nat) (c : Cfg) (sect : Option TsConf) (k : KeyConf)
    (flag : String) (memcache up : Bool) (sh : Shared) (now : Nat) (ctx : Ctx) (world : Url → Wire)
    (rfcFlag : Bool) (hash nonce ed leaf : Nat) (conf : TsConf) (hsec : sect = some conf) :
    signOp D H c sect k flag memcache up sh now ctx world .unsupported rfcFlag hash nonce ed leaf
      = (.ok ⟨.unsupported, ed, leaf, none⟩, noOutcome) := by
  subst hsec
  unfold signOp initPlan
  cases wanted k flag <;> rfl

/-- non-vacuity: key with `timestamper: b`, default list dead, pool b alive: the artefact carries b's token -/
example :
    let good : Token := ⟨2, true, 1, true, .tst ⟨some 7, 1100, true, some 0⟩, none, 1, true⟩
    (signOp (fun _ => []) (· + 1000) Cfg.fixed (some ⟨[0], [], [(['b'], [5])]⟩) ⟨false, ['b']⟩ "" false false ⟨[], none⟩ 0
      Ctx.background (fun u => if u = 5 then .http 200 (.der 0 good false) else .reset) .cmsAuth true 5 7 100 10).1
      = .ok ⟨.cmsAuth, 100, 10, some good⟩ := by decide +kernel

/-- non-vacuity: the same key against a configuration that lacks pool b -/
example :
    (signOp (fun _ => []) (· + 1000) Cfg.fixed (some ⟨[0], [], [(['a'], [5])]⟩) ⟨false, ['b']⟩ "" false false ⟨[], none⟩ 0
      Ctx.background (fun _ => .reset) .cmsAuth true 5 7 100 10).1 = .err "empty-named" := by decide +kernel

end Relic.Props.C10
