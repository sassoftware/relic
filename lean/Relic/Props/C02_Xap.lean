/-
  C02 — Any change to signed content or to the signature makes verification fail.   XAP part, over `Relic.Model.Xap`.
  Protected: every byte in front of the header (the digest covers exactly `f.take n`), the position of the frame (the two
  size fields and the trailer magic pin it to the end of the file).  Not protected, and stated so: the three `Unknown`
  fields (6 bytes); what the PKCS#7 layer tolerates inside the blob is that layer's business (`parse`).
-/
import Relic.Proofs.XapSign
import Relic.Props.C08_Xap
namespace Relic.Props.C02
open Relic.Xap

/-- **xap_hashed_injective.** The digester's stream *is* the kept part of the file: two inputs with the same hashed stream
    have the same `base` – for inputs that do not end in a signature frame, they are the same file. -/
theorem xap_hashed_injective (a b : Bytes) (la lb : Nat) (da db : Digest) (ha : la ≤ a.length) (hb : lb ≤ b.length)
    (ea : digestTar (zipToTar a la) true = .ok da) (eb : digestTar (zipToTar b lb) true = .ok db)
    (hs : da.hashed = db.hashed) :
    base a la = base b lb ∧ (frameSize a = 0 → frameSize b = 0 → a = b) := by
  rw [digestTar_zipToTar a la ha] at ea
  rw [digestTar_zipToTar b lb hb] at eb
  cases ea; cases eb
  refine ⟨hs, fun h1 h2 => ?_⟩
  rw [← base_of_unsigned a la h1, ← base_of_unsigned b lb h2]; exact hs

/-- **xap_accept_implies_layout.** What an acceptance by the locator pins down (file below 2^63 bytes): the file is
    `f.take n ++ header ++ blob ++ trailer`, the trailer sits at the very end and carries the magic, `TrailerSize = |blob| + 8`,
    `SignatureSize = |blob|`.  Changing the magic, either size field alone, or the length of the file makes the locator fail;
    nothing follows the trailer. -/
theorem xap_accept_implies_layout (f : Bytes) (l : Located) (hf : f.length < 9223372036854775808)
    (h : locate f (f.length : Int) = .ok l) :
    l.n + 8 + l.blob.length + 10 = f.length ∧
    l.blob = (f.drop (l.n + 8)).take l.blob.length ∧
    leVal ((f.drop (f.length - 10)).take 4) = trailerMagic ∧
    leVal ((f.drop (f.length - 4)).take 4) = l.blob.length + 8 ∧
    leVal ((f.drop (l.n + 4)).take 4) = l.blob.length := by
  obtain ⟨N, ts, hN, _, hfit, h8, hm, hts, hn, hsz, hb, hbl⟩ := locate_ok f _ l hf (by omega) (by omega) h
  have hN' : N = f.length := by omega
  subst hN'
  refine ⟨by omega, by rw [hbl]; exact hb, hm, by rw [hts]; omega, by rw [hsz]; omega⟩

/-- **xap_tamper_evident.** Let `g` be accepted by `Verify` (digests on) and `g'` be any file accepted with a blob that
    carries the same digest (in particular: the same signature).  Under collision-freeness of the hash on the two hashed
    streams, the bytes in front of the header are the same in both files: no change to the signed content survives. -/
theorem xap_tamper_evident (parse : Bytes → Option Bytes) (H : Bytes → Bytes) (g g' : Bytes) (l l' : Located)
    (hg : verifyFile parse H g false = .ok l) (hg' : verifyFile parse H g' false = .ok l')
    (same : parse l'.blob = parse l.blob)
    (collisionFree : H (g'.take l'.n) = H (g.take l.n) → g'.take l'.n = g.take l.n) :
    g'.take l'.n = g.take l.n := by
  have key : ∀ (f : Bytes) (m : Located), verifyFile parse H f false = .ok m → parse m.blob = some (H (f.take m.n)) := by
    intro f m hm
    unfold verifyFile verify at hm
    obtain ⟨x, hx, hm⟩ := Res.bind_eq_ok.mp hm
    cases hp : parse x.blob with
    | none => rw [hp] at hm; cases hm
    | some dg =>
      rw [hp] at hm
      simp only [Bool.false_eq_true, if_false] at hm
      by_cases hd : H (f.take x.n) = dg
      · rw [if_pos hd] at hm; cases hm; rw [hp, hd]
      · rw [if_neg hd] at hm; cases hm
  have h1 := key g l hg
  have h2 := key g' l' hg'
  rw [same, h1] at h2
  exact collisionFree (Option.some.inj h2).symm

/-- **xap_content_change_rejected.** The signed file with its content replaced by different bytes (same signature frame):
    `Verify` reports a digest mismatch, for every hash that does not collide on the two contents. -/
theorem xap_content_change_rejected (parse : Bytes → Option Bytes) (H : Bytes → Bytes) (b b' s : Bytes) (u1 u2 u3 : Nat)
    (hs : s.length + 8 < 4294967296) (hl : (framed b' u1 u2 u3 s).length < 9223372036854775808)
    (hp : parse s = some (H b)) (hne : H b' ≠ H b) :
    verifyFile parse H (framed b' u1 u2 u3 s) false = .err "mismatch" := by
  unfold verifyFile verify
  rw [locate_framed b' s u1 u2 u3 hs hl, Res.bind_ok]
  simp only []
  rw [hp]
  simp only [Bool.false_eq_true, if_false]
  have : (framed b' u1 u2 u3 s).take b'.length = b' := List.take_left' rfl
  rw [this, if_neg hne]

/-- **xap_no_trailing.** Bytes appended after the trailer of a signed file: `Verify` reads the *last* ten bytes of the
    file as the trailer.  Either they do not form one (error: "invalid xap file", or "XAP contains no signatures" when the
    appended bytes end in an EOCD) or they do – then the appended bytes end in a second, consistent frame – and in that
    case the range the verifier hashes is *not* the signed stream `b`: it cannot end where the original header starts.
    So (with `xap_tamper_evident`) appended content is never accepted under the original signature. -/
theorem xap_no_trailing (b s x : Bytes) (hs : s.length + 8 < 4294967296) (hx : x ≠ [])
    (hl : (b ++ sigBlock s ++ x).length < 9223372036854775808) (l : Located)
    (h : locate (b ++ sigBlock s ++ x) ((b ++ sigBlock s ++ x).length : Int) = .ok l) : l.n ≠ b.length := by
  intro hn
  obtain ⟨h1, _, _, _, h5⟩ := xap_accept_implies_layout _ l hl h
  -- the header at `b.length` is the original one: SignatureSize = |s|
  have e : b ++ sigBlock s ++ x = (b ++ leBytes 2 1 ++ leBytes 2 1) ++ (leBytes 4 s.length ++ (s ++ trailer 1 (s.length + 8) ++ x)) := by
    simp [sigBlock, header]
  have hd : ((b ++ sigBlock s ++ x).drop (b.length + 4)).take 4 = leBytes 4 s.length := by
    rw [e, List.drop_left' (by simp), List.take_left' (by simp)]
  rw [hn, hd, leVal_leBytes] at h5
  have hxl : 0 < x.length := by
    cases x with
    | nil => exact absurd rfl hx
    | cons a t => simp
  have hlen : (b ++ sigBlock s ++ x).length = b.length + s.length + 18 + x.length := by
    simp only [List.length_append, sigBlock_length]; omega
  have hmod : s.length % 256 ^ 4 = s.length := Nat.mod_eq_of_lt (by omega)
  rw [hmod] at h5
  omega

/-- **xap_unknown_fields_unchecked** (the exact exception to "any change is detected").  The header's `Unknown1`,
    `Unknown2` and the trailer's `Unknown1` are written as 1 and never compared with anything: for every value of these
    six bytes the locator returns the same blob and the same digest range, so `Verify`'s verdict is the same. -/
theorem xap_unknown_fields_unchecked (parse : Bytes → Option Bytes) (H : Bytes → Bytes) (b s : Bytes) (u1 u2 u3 : Nat)
    (hs : s.length + 8 < 4294967296) (hl : b.length + s.length + 18 < 9223372036854775808) (skip : Bool) :
    (verifyFile parse H (framed b u1 u2 u3 s) skip).isOk = (verifyFile parse H (framed b 1 1 1 s) skip).isOk := by
  have h1 : (framed b u1 u2 u3 s).length < 9223372036854775808 := by rw [framed_length]; omega
  have h2 : (framed b 1 1 1 s).length < 9223372036854775808 := by rw [framed_length]; omega
  have t1 : (framed b u1 u2 u3 s).take b.length = b := List.take_left' rfl
  have t2 : (framed b 1 1 1 s).take b.length = b := List.take_left' rfl
  unfold verifyFile verify
  rw [locate_framed b s u1 u2 u3 hs h1, locate_framed b s 1 1 1 hs h2, Res.bind_ok, Res.bind_ok]
  simp only []
  cases parse s with
  | none => rfl
  | some dg =>
    simp only []
    cases skip with
    | true => rfl
    | false =>
      simp only [Bool.false_eq_true, if_false]
      rw [t1, t2]
      by_cases hd : H b = dg
      · rw [if_pos hd, if_pos hd]; rfl
      · rw [if_neg hd, if_neg hd]

set_option maxRecDepth 100000 in
example :
    -- a signed file, the same with the Unknown fields changed, with a byte appended, with a content byte changed
    locate (framed C08.oneMemberZip 1 1 1 [9, 9]) 122 = .ok ⟨[9, 9], 102, 1, 1, 1⟩ ∧
    locate (framed C08.oneMemberZip 7 0 65535 [9, 9]) 122 = .ok ⟨[9, 9], 102, 7, 0, 65535⟩ ∧
    locate (framed C08.oneMemberZip 1 1 1 [9, 9] ++ [0]) 123 = .err "invalid" ∧
    locate (framed C08.oneMemberZip 1 1 1 [9, 9] ++ C08.oneMemberZip.drop 80) 144 = .err "notsigned" ∧
    -- appended bytes that end in a second consistent frame: located, but the digest range is not the signed one
    locate (framed (framed C08.oneMemberZip 1 1 1 [9, 9]) 1 1 1 [9, 9]) 142 = .ok ⟨[9, 9], 122, 1, 1, 1⟩ := by decide +kernel

end Relic.Props.C02
