/-
  C08 — Re-signing replaces the signature; digests ignore existing signatures.   XAP part, over `Relic.Model.Xap`, at the
  level of lib/signxap's own functions (DigestXapTar, removeSignature, XapDigest.Sign) on the two-member framing
  `ZipToTar` would deliver for `(file, directory offset)`.

  Finding F10 concerned the step *before* these functions: `signers/zipbased.Transform` runs `zipslicer.FindDirectory`,
  which looks at the last 22 bytes of the file only; on relic's own output those are the last 12 bytes of the PKCS#7 blob
  and the 10-byte trailer, so that transform – not `DigestXapTar` – refused (`xap_f10_transform_refuses`, a statement about
  `transformOrig`).  Repaired: signers/xap now has its own transform, which locates the directory in the part of the file
  in front of a trailing signature frame (`transform`); `xap_resign_module` / `xap_history_module` are the same theorems
  with the transform included.
-/
import Relic.Proofs.XapSign
namespace Relic.Props.C08
open Relic.Xap

/-- **xap_digest_ignores_signature.** Digesting relic's own output (same directory offset) succeeds and feeds the hash
    exactly the stream that was hashed for the input: the frame added by `Sign` is invisible to `DigestXapTar`. -/
theorem xap_digest_ignores_signature (z : Bytes) (loc : Nat) (s : Bytes) (hloc : loc ≤ z.length)
    (hs : s.length + 8 < 4294967296) :
    ∃ d d', digestTar (zipToTar z loc) true = .ok d ∧
      digestTar (zipToTar (base z loc ++ sigBlock s) loc) true = .ok d' ∧ d'.hashed = d.hashed := by
  have hl : loc ≤ (base z loc ++ sigBlock s).length := by
    have := base_length z loc hloc
    simp only [List.length_append]; omega
  refine ⟨_, _, digestTar_zipToTar z loc hloc, digestTar_zipToTar _ loc hl, ?_⟩
  exact base_signed z loc s hloc hs

/-- **xap_resign_replaces.** Signing relic's own output again yields exactly what signing the original with the new blob
    yields: the earlier header, blob and trailer are gone, nothing else moved. -/
theorem xap_resign_replaces (z : Bytes) (loc : Nat) (s1 s2 : Bytes) (hloc : loc ≤ z.length)
    (h1 : s1.length + 8 < 4294967296) :
    signRound (base z loc ++ sigBlock s1) loc s2 = .ok (base z loc ++ sigBlock s2) ∧
    signRound z loc s2 = .ok (base z loc ++ sigBlock s2) := by
  have hl : loc ≤ (base z loc ++ sigBlock s1).length := by
    have := base_length z loc hloc
    simp only [List.length_append]; omega
  refine ⟨?_, signRound_eq z loc s2 hloc⟩
  rw [signRound_eq _ loc s2 hl, base_signed z loc s1 hloc h1]

/-- **xap_history.** Every history of signing rounds `s₁ … sₙ` applied to relic's own output succeeds, and the file after
    the last round is the original signed once with the last blob. -/
theorem xap_history (z : Bytes) (loc : Nat) (hloc : loc ≤ z.length) :
    ∀ (sigs : List Bytes) (last : Bytes), last.length + 8 < 4294967296 →
      (∀ s ∈ sigs, s.length + 8 < 4294967296) →
      sigs.foldlM (fun g s => signRound g loc s) (base z loc ++ sigBlock last) =
        .ok (base z loc ++ sigBlock ((last :: sigs).getLast (by simp))) :=
  Res.foldlM_replace (fun g s => signRound g loc s) (fun s => base z loc ++ sigBlock s) (fun s => s.length + 8 < 4294967296)
    fun a s ha => (xap_resign_replaces z loc a s hloc ha).1

/-- **xap_f10_transform_refuses** (finding F10, stated exactly, about the code before its repair). `FindDirectory` reads the
    42 bytes before the end of the file and tests the four bytes at `size − 22` against "PK\x05\x06"; nothing else is
    searched.  Any file of at least 42 bytes whose bytes `[size−22, size−18)` differ from that signature is refused by the
    transform with "zip central directory not found" – before `DigestXapTar` or `removeSignature` see a byte. -/
theorem xap_f10_transform_refuses (g : Bytes) (h42 : 42 ≤ g.length) (hl : g.length < 9223372036854775808)
    (hsig : leVal ((g.drop (g.length - 22)).take 4) ≠ Zip.sigEnd) :
    transformOrig g = .err "notfound" ∧ ∀ s, signFileOrig g s = .err "notfound" := by
  have hfd : Zip.findDirectory ⟨g, false, 0⟩ = .err "notfound" := by
    unfold Zip.findDirectory
    simp only []
    rw [if_neg (by omega)]
    have hr : Zip.Rd.readAt ⟨g, false, 0⟩ (g.length - 42) 42 = .ok ((g.drop (g.length - 42)).take 42, ⟨g, false, 0⟩) := by
      unfold Zip.Rd.readAt
      have p63 : (2 : Nat) ^ 63 = 9223372036854775808 := by decide
      rw [p63, if_neg (by omega)]
      simp only [Bool.false_eq_true, if_false]
      rw [if_neg (by omega), if_pos (by omega)]
    rw [hr]
    simp only []
    have he : (Zip.parseEnd (((g.drop (g.length - 42)).take 42).drop 20)).sig = leVal ((g.drop (g.length - 22)).take 4) := by
      unfold Zip.parseEnd Zip.fld
      simp only [List.drop_zero]
      rw [take_drop_take _ 42 20 4 (by omega), List.drop_drop]
      congr 3; omega
    rw [if_pos (by rw [he]; exact hsig)]
  have ht : transformOrig g = .err "notfound" := by
    unfold transformOrig; rw [hfd]; rfl
  refine ⟨ht, fun s => ?_⟩
  unfold signFileOrig; rw [ht]; rfl

/-- on relic's own output the four bytes `FindDirectory` tests are the four bytes twelve before the end of the PKCS#7
    blob: the transform refuses it unless the blob happens to carry "PK\x05\x06" there -/
theorem xap_f10_on_signed (b s : Bytes) (h12 : 12 ≤ s.length) :
    ((b ++ sigBlock s).drop ((b ++ sigBlock s).length - 22)).take 4 = (s.drop (s.length - 12)).take 4 := by
  have e : b ++ sigBlock s =
      (b ++ (header 1 1 s.length ++ s.take (s.length - 12))) ++ (s.drop (s.length - 12) ++ trailer 1 (s.length + 8)) := by
    simp only [sigBlock, List.append_assoc, List.append_cancel_left_eq]
    rw [← List.append_assoc (s.take _), List.take_append_drop]
  have hl : (b ++ sigBlock s).length - 22 = (b ++ (header 1 1 s.length ++ s.take (s.length - 12))).length := by
    simp only [List.length_append, sigBlock_length, header_length, List.length_take]; omega
  rw [hl]
  conv => lhs; rw [e]
  rw [List.drop_left' rfl, List.take_append_of_le_length (by simp only [List.length_drop]; omega)]

/-- **xap_resign_module** (F10 repaired). Through the signer module, transform included: a file `b` whose directory
    `FindDirectory` locates inside it, signed (`b ++ frame s₁`), is accepted again, and signing it with `s₂` yields exactly
    what signing `b` with `s₂` yields. -/
theorem xap_resign_module (b s₁ s₂ : Bytes) (loc : Nat) (hfd : Zip.findDirectory ⟨b, false, 0⟩ = .ok loc)
    (hloc : loc ≤ b.length) (h1 : s₁.length + 8 < 4294967296) :
    signFile (b ++ sigBlock s₁) s₂ = .ok (b ++ sigBlock s₂) := signFile_signed b s₁ s₂ loc hfd hloc h1

/-- **xap_history_module.** Every history of signing rounds through the signer module succeeds: starting from an unsigned
    archive `z` (no frame at its end, directory found inside it), the file after rounds `s₀, s₁ … sₙ` is `z` followed by the
    frame of the last blob – the original signed once with the last signature. -/
theorem xap_history_module (z : Bytes) (loc : Nat) (hu : frameSize z = 0) (hfd : Zip.findDirectory ⟨z, false, 0⟩ = .ok loc)
    (hloc : loc ≤ z.length) :
    ∀ (sigs : List Bytes) (first : Bytes), first.length + 8 < 4294967296 →
      (∀ s ∈ sigs, s.length + 8 < 4294967296) →
      (first :: sigs).foldlM signFile z = .ok (z ++ sigBlock ((first :: sigs).getLast (by simp))) := by
  have hfirst : ∀ s, signFile z s = .ok (z ++ sigBlock s) := fun s => by
    rw [signFile_eq z s loc (by rw [hu, Nat.sub_zero, List.take_length]; exact hfd) hloc, base_of_unsigned z loc hu]
  intro sigs first hf hs
  rw [List.foldlM_cons, hfirst first]
  exact Res.foldlM_replace signFile (fun s => z ++ sigBlock s) (fun s => s.length + 8 < 4294967296)
    (fun a s ha => xap_resign_module z a s loc hfd hloc ha) sigs first hf hs

/-- one stored member "a" holding "hi", directory at offset 33 (same archive as in C01_Xap) -/
def oneMemberZip : Bytes :=
  [0x50, 0x4b, 3, 4, 20, 0, 0, 0, 0, 0, 0, 0, 0, 0, 0xd8, 0x2c, 0x75, 0xac, 2, 0, 0, 0, 2, 0, 0, 0, 1, 0, 0, 0, 0x61, 0x68, 0x69] ++
  [0x50, 0x4b, 1, 2, 20, 0, 20, 0, 0, 0, 0, 0, 0, 0, 0, 0, 0xd8, 0x2c, 0x75, 0xac, 2, 0, 0, 0, 2, 0, 0, 0, 1, 0, 0, 0, 0, 0, 0, 0, 0, 0,
   0, 0, 0, 0, 0, 0, 0, 0, 0x61] ++
  [0x50, 0x4b, 5, 6, 0, 0, 0, 0, 1, 0, 1, 0, 47, 0, 0, 0, 33, 0, 0, 0, 0, 0]

def blobA : Bytes := List.replicate 20 7
def blobB : Bytes := [1, 2, 3]

set_option maxRecDepth 100000 in
example : (33 : Nat) ≤ oneMemberZip.length ∧ blobA.length + 8 < 4294967296 ∧ base oneMemberZip 33 = oneMemberZip ∧
    Zip.findDirectory ⟨oneMemberZip, false, 0⟩ = .ok 33 ∧
    -- the transform accepts the original and refuses the signed file
    42 ≤ (oneMemberZip ++ sigBlock blobA).length ∧
    leVal (((oneMemberZip ++ sigBlock blobA).drop ((oneMemberZip ++ sigBlock blobA).length - 22)).take 4) ≠ Zip.sigEnd := by decide +kernel

set_option maxRecDepth 100000 in
example : [blobA, blobB, blobA].foldlM signFile oneMemberZip = .ok (oneMemberZip ++ sigBlock blobA) ∧
    -- before the repair of F10 the second round was refused
    signFileOrig (oneMemberZip ++ sigBlock blobA) blobB = .err "notfound" :=
  ⟨xap_history_module oneMemberZip 33 (by decide +kernel) (by decide +kernel) (by decide +kernel) [blobB, blobA] blobA
      (by decide +kernel) (by decide +kernel),
   (xap_f10_transform_refuses _ (by decide +kernel) (by decide +kernel) (by decide +kernel)).2 blobB⟩

set_option maxRecDepth 100000 in
example : [blobB, blobA].foldlM (fun g s => signRound g 33 s) (base oneMemberZip 33 ++ sigBlock blobA) =
    .ok (base oneMemberZip 33 ++ sigBlock blobA) :=
  xap_history oneMemberZip 33 (by decide +kernel) [blobB, blobA] blobA (by decide +kernel) (by decide +kernel)

end Relic.Props.C08
