/-
  C01 — Every signature relic produces verifies.   OpenPGP part (model `Relic.Model.Pgp` of lib/pgptools): what relic's
  own code adds around the library's signature — the one-pass / literal framing of inline signatures and the cleartext
  framework — is read back by an RFC 4880 reader (`Relic.Spec.OpenPgp`) as the message that was signed.  Creating and
  checking the signature packet itself is the library's (a parameter).
-/
import Relic.Proofs.Pgp
import Relic.Proofs.PgpClear
namespace Relic.Props.C01
open Relic.Pgp Relic.Spec.OpenPgp

/-- **pgp_inline_sign_then_parse.** For every message of at most `maxLiteralSize` bytes, every file name and every detached
    signature that is one well-formed signature packet (`readOneSignature` has checked that), `MergeSignature` succeeds and
    its output is, for an RFC 4880 reader, exactly: a one-pass signature packet carrying the signature's type, hash,
    algorithm and key id with the "last" flag set; one literal packet holding the message bytes (binary, name cut to 255
    bytes, date 0); the signature packet — nothing before, between or behind. -/
theorem pgp_inline_sign_then_parse (i : SigInfo) (sig sb body filename : Bytes)
    (hs : parsePacket sig = some (⟨2, sb⟩, [])) (hb : body.length ≤ maxLiteralSize) :
    ∃ out, mergeSignature i sig body filename = .ok out ∧
      parseSignedMessage out = some ⟨⟨i.sigType, i.hashId, i.pkAlgo, beBytes 8 i.keyId, true⟩,
        ⟨0x62, filename.take 255, 0, body⟩, sb⟩ := by
  have hmax : maxLiteralSize = 2147483136 := by unfold maxLiteralSize; simp
  have hm := literalMeta_length filename
  have hne : sig ≠ [] := by intro e; rw [e] at hs; simp [parsePacket] at hs
  refine ⟨_, mergeSignature_ok i sig body filename hb, ?_⟩
  unfold parseSignedMessage
  rw [List.append_assoc, parsePackets_packet 3 4 _ _ (by omega) (by rw [onePassBody_length]; simp),
    parsePackets_packet 2 11 _ _ (by omega) (by rw [List.length_append, hm]; simp; omega),
    parsePackets_step 1 sig hne, hs]
  simp only [parsePackets, Option.map, parseOnePass_body, parseLiteral_meta, and_self, if_true]

example : ∃ out, mergeSignature ⟨0, 8, 1, 5⟩ [0xc2, 1, 7] [104, 105] [102] = .ok out ∧
    parseSignedMessage out = some ⟨⟨0, 8, 1, [0, 0, 0, 0, 0, 0, 0, 5], true⟩, ⟨0x62, [102], 0, [104, 105]⟩, [7]⟩ :=
  pgp_inline_sign_then_parse ⟨0, 8, 1, 5⟩ [0xc2, 1, 7] [7] [104, 105] [102] (by decide) (by decide)

/-- **pgp_inline_oversize_streamed.** above `maxLiteralSize` the known-length writer is not used (the library's
    partial-length writer takes over: outside the model) -/
theorem pgp_inline_oversize_streamed (i : SigInfo) (sig body filename : Bytes) (h : body.length > maxLiteralSize) :
    mergeSignature i sig body filename = .err "streamed" := by
  unfold mergeSignature
  simp only [h, if_true]

/-- the dash-escaped lines `ClearSign` writes for `text` (each followed by one line feed: `pgp_clearsign_lines`) -/
def writtenLines (text : Bytes) : List Bytes := (rawTokens text).map fun l => escLine (stripWs l)

/-- **pgp_clearsign_lines.** For every text, what `ClearSign` writes between the armor headers and the signature block is
    exactly the lines of the text (pieces between line feeds; a final unterminated piece counts when it is not empty), each
    without its trailing blanks, tabs and carriage returns, dash-escaped when it starts with '-', each followed by one
    line feed. -/
theorem pgp_clearsign_lines (text : Bytes) :
    escaped text = (writtenLines text).flatMap (· ++ [10]) := by
  unfold escaped writtenLines EscSt.init
  rw [esc_spec, List.flatMap_map]

/-- **pgp_clearsign_hash_roundtrip.** For every text: the octets an RFC 4880 §7.1 verifier derives from the lines relic
    wrote (remove "- ", remove trailing blanks and tabs, join with CR LF, no line ending behind the last line) are exactly
    the octets relic fed to the hash when signing — so the signature over one is a signature over the other, for every
    hash function and signature scheme. -/
theorem pgp_clearsign_hash_roundtrip (text : Bytes) :
    signedText (writtenLines text) = hashed text := by
  unfold hashed writtenLines EscSt.init signedText
  rw [esc_spec, hashLines_true, List.map_map]
  congr 1
  apply List.map_congr_left
  intro l _
  simp only [Function.comp, dashUnescape_escLine, stripTrailing_stripWs]

example : writtenLines ([45, 97, 32, 13, 10, 10, 98] : Bytes)  /- -a \r\n\nb -/ = [([45, 32, 45, 97] : Bytes)  /- - -a -/, [], ([98] : Bytes)] ∧
    hashed ([45, 97, 32, 13, 10, 10, 98] : Bytes)  /- -a \r\n\nb -/ = ([45, 97, 13, 10, 13, 10, 98] : Bytes)  /- -a\r\n\r\nb -/ := by decide +kernel

/-- the whole framing read back byte by byte by the RFC's reader: statement only (proved at line level above; the byte
    level needs `Spec.lines (a ++ 10 :: b) = dropCR a :: Spec.lines b` through the armor block).  Exercised on every
    clearsign / merge op by the check (python re-reads the emitted bytes, the real verifier re-derives the octets). -/
def pgp_clearsign_then_parse_full : Prop :=
  ∀ (hashName text armorRest : Bytes), (∀ b ∈ hashName, b ≠ 10 ∧ b ≠ 13) → hashName ≠ [] →
    ∃ arm, parseCleartext (clearSign hashName text (sigHeader ++ 10 :: armorRest)) =
      some ⟨[hashName], writtenLines text, arm⟩

example : parseCleartext (clearSign ([83, 72, 65, 50, 53, 54] : Bytes)  /- SHA256 -/ ([45, 97, 32, 10] : Bytes)  /- -a \n -/ (sigHeader ++ 10 :: ([120] : Bytes))) =
    some ⟨[([83, 72, 65, 50, 53, 54] : Bytes)  /- SHA256 -/], [([45, 32, 45, 97] : Bytes)  /- - -a -/], [sigHeader, ([120] : Bytes)]⟩ := by decide +kernel

end Relic.Props.C01
