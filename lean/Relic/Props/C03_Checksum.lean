/-
  C03/C01 — the final fix-up step (`FixPEChecksum`) of PE signing: it rewrites only the four CheckSum bytes, the
  value it writes is the specification's checksum of the file, and because those bytes are carved out of the image
  hash the signature made before the fix-up still matches afterwards.
-/
import Relic.Proofs.PE
import Relic.Proofs.Splice
import Relic.Props.C05_Checksum
namespace Relic.Props.C03
open Relic Relic.PE

/-- overwrite `c.length` bytes at offset `k`: `splice g k c.length c` (Base/Bytes; laws in Proofs/Splice) by `rfl` -/
def patchAt (g : Bytes) (k : Nat) (c : Bytes) : Bytes := g.take k ++ c ++ g.drop (k + c.length)

theorem patchAt_length (g : Bytes) (k : Nat) (c : Bytes) (h : k + c.length ≤ g.length) :
    (patchAt g k c).length = g.length :=
  splice_same_length g c h

theorem seg_patchAt_before (g : Bytes) (k : Nat) (c : Bytes) (a b : Nat) (h : k + c.length ≤ g.length) (hb : b ≤ k) :
    seg (patchAt g k c) a b = seg g a b := by
  by_cases hab : a ≤ b
  · exact take_drop_splice_same_other g c (by omega) (Or.inl (by omega))
  · simp [seg, show b - a = 0 by omega]

theorem seg_patchAt_after (g : Bytes) (k : Nat) (c : Bytes) (a b : Nat) (h : k + c.length ≤ g.length)
    (ha : k + c.length ≤ a) : seg (patchAt g k c) a b = seg g a b :=
  take_drop_splice_same_other g c (by omega) (Or.inr ha)

/-- **pe_fixup_preserves_digest (partial).** Rewriting the four CheckSum bytes (what `FixPEChecksum` does after the
    patch has been applied) does not change the stream the image hash is computed over: if the digest of the file
    succeeds before and after, it hashes the same bytes — so the signature made before the fix-up verifies after it.
    (Success of the second digest is checked per generated file by the correspondence run.) -/
theorem pe_fixup_preserves_digest_partial (g c : Bytes) (d d' : Digest) (hc : c.length = 4) (hp : 64 ≤ u32 g 0x3c)
    (e : DigestPE g = .ok d) (e' : DigestPE (patchAt g (d.m.peStart + 88) c) = .ok d') : d'.hashed = d.hashed := by
  have H := DigestPE_spec g d hp e
  have hge := H.ddGe
  have h1 := H.ddLe; have h2 := H.origLe; have hpe := H.pe
  have hk : d.m.peStart + 88 + c.length ≤ g.length := by omega
  have before := fun a b hb => seg_patchAt_before g (d.m.peStart + 88) c a b hk hb
  have after := fun a b ha => seg_patchAt_after g (d.m.peStart + 88) c a b hk ha
  have hP : u32 (patchAt g (d.m.peStart + 88) c) 0x3c = u32 g 0x3c := by unfold u32; rw [before _ _ (by omega)]
  have H' := DigestPE_spec _ d' (by rw [hP]; exact hp) e'
  obtain ⟨pe', dd'⟩ := H.posDD_eq H' hP (by unfold u16; rw [before _ _ (by omega)])
  have csz' : d'.m.certSize = d.m.certSize := by
    rw [H'.certSize, H.certSize, dd']; unfold u32; rw [after _ _ (by omega)]
  have len' := patchAt_length g (d.m.peStart + 88) c hk
  have orig' : d'.origSize = d.origSize := by
    have := H.fileEnd; have := H'.fileEnd
    omega
  have cs' := H.certStart_eq H' orig'
  rw [H'.hashed, H.hashed, pe', dd', orig', cs', before _ _ (Nat.le_refl _), after _ _ (by rw [hc]; omega),
    after _ _ (by rw [hc]; omega)]

/-- **pe_fixup_value_is_spec.** What `FixPEChecksum` computes for a file whose `e_lfanew` is even and non-zero is the
    specification's checksum of that file (re-export of `C05.fix_pe_checksum_eq_spec` in the C03 reading: "the
    checksum field afterwards equals the PE checksum of the signed file"). -/
theorem pe_fixup_value_is_spec (file : Bytes) (pos v : Nat) (h : PEChecksum.fixPE file = .ok (pos, v))
    (hpos : pos % 2 = 0) (h88 : 88 < pos) : v = Spec.peChecksum file pos :=
  C05.fix_pe_checksum_eq_spec file pos v h hpos h88

end Relic.Props.C03
