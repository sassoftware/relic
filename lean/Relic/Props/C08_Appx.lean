/-
  C08 (APPX): what `Sign` writes and hashes depends on the input only through the payload prefix `z[0, patchStart)` and the
  payload state of `DigestAppxTar`; nothing of the old tail (an earlier signature, catalog, block map, content types,
  directory) reaches the output or the digests.
-/
import Relic.Props.C05_Appx
namespace Relic.Props.C08
open Relic.Zip Relic.Appx

/-- **appx_digest_ignores_signature.** Two inputs that agree on the payload prefix and on the payload state (for instance
    an unsigned package and the same package carrying any signature) are signed into the same file with the same five
    streams, given the same regenerated parts. -/
theorem appx_digest_ignores_signature (z z' : Bytes) (g : Digested) (ps : Parts)
    (h : z.take g.patchStart = z'.take g.patchStart) : assemble z g ps = assemble z' g ps := by
  unfold assemble
  simp only [h]

/-- **appx_resign_replaces.** The output is the payload prefix followed by bytes that are a function of the payload state
    and the parts only: everything from `patchStart` on is replaced. -/
theorem appx_resign_replaces (z : Bytes) (g : Digested) (ps : Parts) (r : Signed) (h : assemble z g ps = .ok r) :
    r.out = z.take g.patchStart ++ (partsBytes g ps ++ sigBytes ps ++
              ((writeDirectory (d5Of g ps) true).1 ++ (writeDirectory (d5Of g ps) true).2.1)) :=
  (assemble_eq h).2.1

/-- the statement without the hypotheses: re-reading relic's own output with `digest` yields the same payload state and
    `patchStart`, hence signing the output again with the same parts returns the same file and streams.  As stated (SOME
    codec `c'`, no claim that the second signing succeeds) it holds vacuously: `C08.appx_resign_replaces_vacuous` in
    C08_AppxFull.lean.  The meaningful statement (same codec, the second signing succeeds and reproduces file and streams)
    is proved there as `C08.appx_resign_idempotent`, on the round trip `ReadWithDirectory ∘ WriteDirectory`
    (`C17.read_write_directory_own_output`); also checked per op by the differential run (round 2 byte for byte). -/
def appx_resign_replaces_full : Prop :=
  ∀ (c : Codec) (z : Bytes) (ps : Parts) (r : Signed), sign c z ps = .ok r →
    (∀ x, c.inflate x = none → True) →
    ∃ c' : Codec, ∀ r', sign c' r.out ps = .ok r' → r'.out = r.out ∧ r'.streams = r.streams

example : assemble C05.zEx ⟨{}, 33, [], false⟩ C05.psEx = assemble (C05.zEx.take 33 ++ [1, 2, 3]) ⟨{}, 33, [], false⟩ C05.psEx :=
  appx_digest_ignores_signature _ _ _ _ (by decide)

end Relic.Props.C08
