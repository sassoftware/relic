/-
  C11 (and C07's anchor token/filetoken/filetoken.go) — the file token: `GetKey` on every kind of key file.

  The library parsers are abstracted (Relic.FileToken.Content says what they report); the theorems are about relic's own code around
  them.

  The code as it is: commit 3202f4d.  BEFORE it `GetKey` panicked in exactly four cases (findings F-FILE-1 … F-FILE-4, fixed), each
  confirmed on the unrepaired code by the `ftok` ops:
        1. an EMPTY key file: `blob[0] == asn1Magic` in ParseAnyPrivateKey (index out of range);
        2. an ENCRYPTED PGP private key and no PasswordGetter (what the server passes for every token): `prompt.GetPasswd` on a nil
           interface — the PEM branch checked `prompt == nil`, the PGP branch did not;
        3. `ispkcs12: true` and no PasswordGetter: ParsePKCS12 started with `prompt.GetPasswd` (even for an unencrypted bundle);
        4. a PGP private key whose Go type is not a crypto.Signer (EdDSA with ProtonMail/go-crypto, DSA, ElGamal):
           `privateKey.(crypto.Signer)` without the comma-ok form.
-/
import Relic.Model.FileToken
namespace Relic.Props.C11
open Relic.Assuan Relic.FileToken

def ftokConf (c : Content) (p12 : Bool := false) : KeyConf := { keyFile := true, exists_ := true, isPkcs12 := p12, content := c }

def ftokOkOrErr {α} : Out α → Bool
  | .ok _ => true
  | .fail _ => true
  | _ => false

theorem parseAny_total (c : Content) (g : Getter) : ftokOkOrErr (parseAny c g).2 = true := by
  unfold parseAny
  -- with `fx = true` the two panic leaves are behind `¬ true = true`; the others end in `ok` or `fail`
  fun_cases parseAnyWith true c g
  case case2 h => exact absurd rfl h
  case case15 h => exact absurd rfl h
  case case4 p => cases p <;> rfl
  case case7 p _ _ => cases p <;> rfl
  case case9 p _ _ _ _ _ => cases p <;> rfl
  all_goals rfl

/-- **file_getkey_total**: every outcome of `filetoken.GetKey` is a key or an error -/
theorem file_getkey_total (k : KeyConf) (g : Getter) : ftokOkOrErr (getKey k g).2 = true := by
  have ht := parseAny_total k.content g
  unfold parseAny at ht
  unfold getKey
  fun_cases getKeyWith true k g
  case case4 h => exact absurd rfl h
  case case9 signer h => cases signer <;> rfl
  case case11 h =>
    rw [h] at ht
    cases ht
  case case12 h =>
    rw [h] at ht
    cases ht
  all_goals rfl

theorem file_getkey_no_panic (k : KeyConf) (g : Getter) : (getKey k g).2.isPanic = false ∧ (getKey k g).2.isBlock = false := by
  have := file_getkey_total k g
  cases h : (getKey k g).2 <;> simp [h, ftokOkOrErr, Out.isPanic, Out.isBlock] at this ⊢

/-- **file_getkey_unusable_is_error**: the four unusable key files, each with its error; no passphrase is asked for in any of them -/
theorem file_getkey_unusable_is_error (g : Getter) (pw : Bytes) (signer : Bool) (c : Content) :
    getKey (ftokConf .empty) g = (0, .fail (.msg "format")) ∧
    getKey (ftokConf (.pgp true true true pw signer)) none = (0, .fail (.msg "noprompt")) ∧
    getKey (ftokConf c true) none = (0, .fail (.msg "p12noprompt")) ∧
    getKey (ftokConf (.pgp true true false [] false)) g = (0, .fail (.msg "notsigner")) := by
  refine ⟨?_, rfl, rfl, ?_⟩ <;> cases g <;> rfl

/-- the neighbouring cases still work: the encrypted PGP key with a getter, the PEM branch's own check -/
example : (getKey (ftokConf (.pgp true true true (ascii "secret") true)) (some [ascii "wrong", ascii "secret"])) = (2, .ok ()) := by decide +kernel
example : (getKey (ftokConf (.pem true true (ascii "secret") true)) none).2 = .fail (.msg "noprompt") := rfl
/-- a non-Signer key behind a passphrase: asked once, then the error -/
example : (getKey (ftokConf (.pgp true true true (ascii "secret") false)) (some [ascii "secret"])) = (1, .fail (.msg "notsigner")) := by decide +kernel

/-- when the original GetKey panicked, as a decidable condition on the description of the key file and the getter -/
def ftokPanics (k : KeyConf) (g : Getter) : Bool :=
  k.keyFile && k.exists_ &&
  (if k.isPkcs12 then g.isNone else
   match k.content with
   | .empty => true
   | .pgp true true false _ signer => !signer
   | .pgp true true true password signer =>
     match g with
     | none => true
     | some answers => (askLoop password answers).2 && !signer
   | _ => false)

theorem getKeyOrig_cases (k : KeyConf) (g : Getter) :
    (ftokPanics k g = false ∧ getKeyOrig k g = getKey k g) ∨ (ftokPanics k g = true ∧ (getKeyOrig k g).2.isPanic = true) := by
  unfold getKeyOrig getKey getKeyWith ftokPanics
  cases hk : k.keyFile <;> simp [Out.isPanic]
  cases he : k.exists_ <;> simp
  cases hp : k.isPkcs12 <;> simp
  · cases hc : k.content with
    | empty => simp [parseAnyWith]
    | junk => simp [parseAnyWith]
    | der p => cases p <;> simp [parseAnyWith]
    | p12 v pw => simp [parseAnyWith]
    | pem kb enc pw p =>
      cases kb <;> cases enc <;> cases p <;> simp [parseAnyWith]
      all_goals (cases g with
        | none => simp
        | some answers => cases h : askLoop pw answers with | mk n r => cases r <;> simp [h])
    | pgp rd hp2 enc pw sg =>
      cases rd <;> cases hp2 <;> cases enc <;> cases sg <;> simp [parseAnyWith]
      all_goals (cases g with
        | none => simp
        | some answers => cases h : askLoop pw answers with | mk n r => cases r <;> simp [h])
  · cases g <;> simp

/-- **file_getkey_panics_iff_orig**: the original panicked exactly on the inputs `ftokPanics` lists -/
theorem file_getkey_panics_iff_orig (k : KeyConf) (g : Getter) : (getKeyOrig k g).2.isPanic = ftokPanics k g := by
  rcases getKeyOrig_cases k g with ⟨h, e⟩ | ⟨h, e⟩
  · rw [h, e, (file_getkey_no_panic k g).1]
  · rw [h, e]

/-- the statement for the code BEFORE 3202f4d -/
def file_getkey_total_orig_full : Prop := ∀ (k : KeyConf) (g : Getter), (getKeyOrig k g).2.isPanic = false

/-- F-FILE-1: the empty key file -/
theorem file_empty_keyfile_panics_orig (g : Getter) : (getKeyOrig (ftokConf .empty) g).2 = .panic "certloader.ParseAnyPrivateKey:blob[0]" := by
  cases g <;> rfl

/-- F-FILE-2: an encrypted PGP key without a PasswordGetter (the server's case) -/
theorem file_encrypted_pgp_nil_prompt_panics_orig (pw : Bytes) (signer : Bool) :
    (getKeyOrig (ftokConf (.pgp true true true pw signer)) none).2 = .panic "certloader.parsePgpPrivateKey:prompt.GetPasswd (nil prompt)" := rfl

/-- F-FILE-3: PKCS#12 without a PasswordGetter -/
theorem file_pkcs12_nil_prompt_panics_orig (c : Content) :
    (getKeyOrig (ftokConf c true) none).2 = .panic "certloader.ParsePKCS12:prompt.GetPasswd (nil prompt)" := rfl

/-- F-FILE-4: a PGP key that is not a crypto.Signer -/
theorem file_non_signer_key_panics_orig (g : Getter) :
    (getKeyOrig (ftokConf (.pgp true true false [] false)) g).2 = .panic "filetoken.GetKey:privateKey.(crypto.Signer)" := by cases g <;> rfl

theorem file_getkey_total_orig_full_false : ¬ file_getkey_total_orig_full := by
  intro h
  have := h (ftokConf .empty) none
  rw [file_empty_keyfile_panics_orig] at this
  simp [Out.isPanic] at this

/-- the two versions differ ONLY where the original panicked -/
theorem file_getkey_fix_conservative (k : KeyConf) (g : Getter) (h : ftokPanics k g = false) : getKey k g = getKeyOrig k g := by
  rcases getKeyOrig_cases k g with ⟨_, e⟩ | ⟨h', _⟩
  · exact e.symm
  · rw [h] at h'
    cases h'

theorem askLoop_bounded (pw : Bytes) : ∀ (answers : List Bytes), (askLoop pw answers).1 ≤ answers.length + 1
  | [] => by simp [askLoop]
  | a :: rest => by
    unfold askLoop
    by_cases h1 : a.isEmpty
    · simp [h1]
    · by_cases h2 : a = pw
      · subst h2; simp [h1]
      · have := askLoop_bounded pw rest
        simp only [h1, h2, Bool.false_eq_true, if_false, List.length_cons]
        omega

theorem p12Loop_bounded (pw : Bytes) : ∀ (answers : List Bytes) (t : Bool), (p12Loop pw t answers).1 ≤ answers.length + 2
  | [], t => by
    unfold p12Loop
    cases t with
    | true => simp
    | false => by_cases h : pw.isEmpty <;> simp [h]
  | a :: rest, t => by
    unfold p12Loop
    by_cases h1 : a.isEmpty
    · simp only [h1, if_true]
      cases t with
      | true => simp
      | false =>
        by_cases h : pw.isEmpty
        · simp [h]
        · have := p12Loop_bounded pw rest true
          simp only [h, Bool.false_eq_true, if_false, List.length_cons]
          omega
    · by_cases h2 : a = pw
      · subst h2; simp [h1]
      · have := p12Loop_bounded pw rest t
        simp only [h1, h2, Bool.false_eq_true, if_false, List.length_cons]
        omega

theorem parseAny_prompts_bounded (fx : Bool) (c : Content) (answers : List Bytes) : (parseAnyWith fx c (some answers)).1 ≤ answers.length + 1 := by
  cases c with
  | empty => cases fx <;> simp [parseAnyWith]
  | junk => simp [parseAnyWith]
  | der p => simp [parseAnyWith]
  | p12 v pw => simp [parseAnyWith]
  | pem kb enc pw p =>
    have hb := askLoop_bounded pw answers
    cases kb <;> cases enc <;> simp [parseAnyWith]
    generalize askLoop pw answers = x at hb ⊢
    obtain ⟨n, r⟩ := x
    cases r <;> simp at hb ⊢ <;> omega
  | pgp rd hp2 enc pw sg =>
    have hb := askLoop_bounded pw answers
    cases rd <;> cases hp2 <;> cases enc <;> simp [parseAnyWith]
    generalize askLoop pw answers = x at hb ⊢
    obtain ⟨n, r⟩ := x
    cases r <;> simp at hb ⊢ <;> omega

/-- **file_key_prompts_bounded**: at most one GetPasswd per answer supplied, plus the one that returns "" (PKCS#12: plus the second "") -/
theorem file_key_prompts_bounded (fx : Bool) (k : KeyConf) (answers : List Bytes) : (getKeyWith fx k (some answers)).1 ≤ answers.length + 2 := by
  unfold getKeyWith
  cases hk : k.keyFile <;> simp
  cases he : k.exists_ <;> simp
  cases hp : k.isPkcs12 <;> simp
  · have hb := parseAny_prompts_bounded fx k.content answers
    generalize parseAnyWith fx k.content (some answers) = x at hb ⊢
    obtain ⟨n, o⟩ := x
    cases o <;> simp at hb ⊢ <;> omega
  · cases hc : k.content with
    | p12 v pw =>
      cases v <;> simp
      have hb := p12Loop_bounded pw answers false
      generalize p12Loop pw false answers = x at hb ⊢
      obtain ⟨n, r⟩ := x
      cases r <;> simp at hb ⊢ <;> omega
    | empty => simp
    | junk => simp
    | der p => simp
    | pem a b c d => simp
    | pgp a b c d e => simp

/-- without a getter nothing is ever asked -/
theorem file_no_getter_no_prompt (fx : Bool) (k : KeyConf) : (getKeyWith fx k none).1 = 0 := by
  unfold getKeyWith
  cases hk : k.keyFile <;> simp
  cases he : k.exists_ <;> simp
  cases hp : k.isPkcs12 <;> simp
  · cases hc : k.content with
    | empty => cases fx <;> simp [parseAnyWith]
    | junk => simp [parseAnyWith]
    | der p => cases p <;> simp [parseAnyWith]
    | p12 v pw => simp [parseAnyWith]
    | pem kb enc pw p => cases kb <;> cases enc <;> cases p <;> simp [parseAnyWith]
    | pgp rd hp2 enc pw sg => cases rd <;> cases hp2 <;> cases enc <;> cases sg <;> cases fx <;> simp [parseAnyWith]
  · cases fx <;> simp

end Relic.Props.C11
