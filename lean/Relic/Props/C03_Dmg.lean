/-
  C03 — Signing never corrupts or alters the payload.   Apple disk image (UDIF) part.
  The output of a successful signing is `image[0:bundle] ++ signature ++ trailer'` where `bundle = XMLOffset+XMLLength`
  and `trailer'` is the input trailer with SignatureOffset := bundle, SignatureLength := |signature| and the three
  blank ranges zeroed.  Everything in front of `bundle` keeps its bytes and its place.  What lies BEHIND `bundle` in
  front of the trailer is replaced — for the layout the image tools write (forks, then plist, then at most a signature)
  that is exactly the old signature.  Before fix-sign any other layout was accepted too and lost its payload (finding
  F-DMG-1: theorems about `planOrig` below); the repaired `dmg.Sign` refuses every header that describes a fork ending
  behind the plist, has no plist, or lacks the koly magic (`dmg_sign_refuses_unsafe_layouts`), and with that the full
  statement holds: every payload item the header describes keeps its bytes (`dmg_payload_preserved_full`).
-/
import Relic.Proofs.Dmg
namespace Relic.Props.C03
open Relic.Dmg Relic.CodeDir

/-- **dmg_payload_preserved.** If `dmg.Sign` accepts (guards and the `fits` test), the written image is the input in front of
    `bundle`, the signature at `bundle`, the rewritten trailer behind it and nothing else.  The rewritten trailer equals the
    input trailer in [0,232) (magic … XMLLength) and [352,500) (master checksum, image variant, sector count);
    SignatureOffset = bundle, SignatureLength = |blob|; the blank ranges [232,296), [312,352), [500,512) are zero. -/
theorem dmg_payload_preserved (t f : Bytes) (pl : Plan) (blob : Bytes) (h : plan t f = .ok pl)
    (hfit : pl.fits f.length = true) :
    let g := written f pl blob
    (∀ i, i < pl.bundle.toNat → g[i]? = f[i]?) ∧
    g.length = pl.bundle.toNat + blob.length + 512 ∧
    (g.drop pl.bundle.toNat).take blob.length = blob ∧
    g.drop (pl.bundle.toNat + blob.length) =
      sl t 0 232 ++ zeros 64 ++ beBytes 8 (u64 pl.bundle) ++ beBytes 8 blob.length ++ zeros 40 ++ sl t 352 148 ++ zeros 12 := by
  obtain ⟨_, h512⟩ := plan_fits t f pl h hfit
  have h1 : pl.bundle.toNat ≤ f.length := by omega
  replace h := (plan_ok t f pl h).1
  intro g
  refine ⟨fun i hi => getElem?_written f pl blob h1 i hi, written_length f pl blob (planOrig_koly_wf t f pl h) h1, ?_, ?_⟩
  · rw [drop_written f pl blob h1, List.take_left]
  · rw [← List.drop_drop, drop_written f pl blob h1, List.drop_left]
    exact newKoly_enc t f pl h blob.length

/-- byte-wise form of the last clause: outside SignatureOffset/Length and the blank ranges the trailer keeps its bytes -/
theorem dmg_trailer_kept (t f : Bytes) (pl : Plan) (n : Nat) (h : plan t f = .ok pl) (i : Nat)
    (hi : i < 232 ∨ (352 ≤ i ∧ i < 500)) : (pl.newKoly n).enc[i]? = t[i]? := by
  replace h := (plan_ok t f pl h).1
  have hl := (planOrig_ok t f pl h).1
  have l (a m : Nat) (hh : a + m ≤ 512) : (sl t a m).length = m := sl_length t a m (by omega)
  rw [newKoly_enc t f pl h n]
  rcases hi with hi | ⟨ha, hb⟩
  · simp only [List.append_assoc]
    rw [List.getElem?_append_left (by rw [l 0 232 (by omega)]; exact hi), sl_getElem? t 0 232 i hi, Nat.zero_add]
  · have e : sl t 0 232 ++ zeros 64 ++ beBytes 8 (u64 pl.bundle) ++ beBytes 8 n ++ zeros 40 ++ sl t 352 148 ++ zeros 12 =
        (sl t 0 232 ++ zeros 64 ++ beBytes 8 (u64 pl.bundle) ++ beBytes 8 n ++ zeros 40) ++ (sl t 352 148 ++ zeros 12) := by
      simp only [List.append_assoc]
    have hlen : (sl t 0 232 ++ zeros 64 ++ beBytes 8 (u64 pl.bundle) ++ beBytes 8 n ++ zeros 40).length = 352 := by
      simp [l 0 232 (by omega), zeros]
    rw [e, List.getElem?_append_right (by rw [hlen]; exact ha), hlen,
      List.getElem?_append_left (by rw [l 352 148 (by omega)]; omega), sl_getElem? t 352 148 (i - 352) (by omega)]
    have e2 : 352 + (i - 352) = i := by omega
    rw [e2]

/-- **dmg_regular_nothing_lost.** The layout the image tools write — `bundle` bytes of forks and plist, an optional
    old signature, the trailer: the output is the same forks and plist, the new signature, the trailer; every input
    byte that is not signature or trailer is kept. -/
theorem dmg_regular_nothing_lost (pre old t : Bytes) (pl : Plan) (blob : Bytes) (h : plan t (pre ++ old ++ t) = .ok pl)
    (hb : pl.bundle = pre.length) : written (pre ++ old ++ t) pl blob = pre ++ blob ++ (pl.newKoly blob.length).enc := by
  have : pl.bundle.toNat = pre.length := by omega
  simp only [written, this, List.append_assoc, List.take_left']

/-- **dmg_behind_plist_lost** (finding F-DMG-1, general form; about the tree BEFORE fix-sign).  The output depends on the input image only through its
    first `bundle` bytes and its trailer: two unsigned images that differ only between the end of the plist and the
    trailer are accepted alike and signed into the same file.  Whatever was there — a data or resource fork stored
    behind the plist, or all of the image when there is no plist and `bundle = 0` — is gone, with a success status. -/
theorem dmg_behind_plist_lost (t f f' : Bytes) (pl : Plan) (blob : Bytes) (h : planOrig t f = .ok pl)
    (hu : (decode t).sigOffset = 0) (hf : f.take pl.bundle.toNat = f'.take pl.bundle.toNat) :
    ∃ pl', planOrig t f' = .ok pl' ∧ written f' pl' blob = written f pl blob := by
  have hl := (planOrig_ok t f pl h).1
  rw [planOrig_eq t f hl, if_neg (fun c => c.1 hu)] at h
  refine ⟨planOf t f', by rw [planOrig_eq t f' hl, if_neg (fun c => c.1 hu)], ?_⟩
  rw [← Res.ok.inj h] at hf ⊢
  simp only [written, planOf, Plan.newKoly, hu] at hf ⊢
  rw [hf]

/-- (before fix-sign) no plist at all (`XMLOffset = XMLLength = 0`): the whole image was replaced by signature and trailer -/
theorem dmg_no_plist_replaced (t f : Bytes) (pl : Plan) (blob : Bytes) (h : planOrig t f = .ok pl)
    (hx : (decode t).xmlOffset = 0 ∧ (decode t).xmlLength = 0) : written f pl blob = blob ++ (pl.newKoly blob.length).enc := by
  obtain ⟨_, rfl, _⟩ := planOrig_ok t f pl h
  have : (planOf t f).bundle = 0 := by simp [planOf, Koly.bundle, hx.1, hx.2, toI64]
  simp [written, this]

/-- **dmg_gap_refused.** An input that names a signature which does not start at the end of the plist is refused
    (before and after fix-sign). -/
theorem dmg_gap_refused (t f : Bytes) (h : 512 ≤ t.length) (hso : (decode t).sigOffset ≠ 0)
    (hne : toI64 (decode t).sigOffset ≠ (decode t).bundle) : planOrig t f = .err "overlap" ∧ ∀ pl, plan t f ≠ .ok pl := by
  have e : planOrig t f = .err "overlap" := by rw [planOrig_eq t f h, if_pos ⟨hso, hne⟩]
  refine ⟨e, ?_⟩
  intro pl hp
  rw [(plan_ok t f pl hp).1] at e
  cases e

/-- **dmg_sign_refuses_unsafe_layouts.** Exact characterisation of the repaired `dmg.Sign` before `csblob.Sign` runs, for
    every trailer of at least 512 bytes and every image: which error, and exactly when it is accepted.
    `bundle = XMLOffset+XMLLength` (int64); `forkEnd` = end of a fork, 0 if absent, 2^63−1 if not representable. -/
theorem dmg_sign_refuses_unsafe_layouts (t f : Bytes) (h : 512 ≤ t.length) :
    let k := decode t
    (plan t f = .err "magic" ↔ k.magic ≠ kolyMagic) ∧
    (plan t f = .err "noplist" ↔ k.magic = kolyMagic ∧ (toI64 k.xmlOffset < 0 ∨ toI64 k.xmlLength ≤ 0 ∨ k.bundle < 0)) ∧
    (plan t f = .err "behind" ↔ k.magic = kolyMagic ∧ ¬ (toI64 k.xmlOffset < 0 ∨ toI64 k.xmlLength ≤ 0 ∨ k.bundle < 0) ∧
        (forkEnd k.dataOff k.dataLen > k.bundle ∨ forkEnd k.rsrcOff k.rsrcLen > k.bundle)) ∧
    (plan t f = .err "overlap" ↔ Safe k ∧ k.sigOffset ≠ 0 ∧ toI64 k.sigOffset ≠ k.bundle) ∧
    ((∃ pl, plan t f = .ok pl) ↔ Safe k ∧ (k.sigOffset = 0 ∨ toI64 k.sigOffset = k.bundle)) := by
  intro k
  unfold k
  -- `plan` as one chain of tests: the three guards, then the one test of `planOrig`
  rw [plan_eq t f h, planOrig_eq t f h, ← guards_none_iff, guards]
  by_cases hm : (decode t).magic = kolyMagic
  · by_cases hp : toI64 (decode t).xmlOffset < 0 ∨ toI64 (decode t).xmlLength ≤ 0 ∨ (decode t).bundle < 0
    · simp [hm, hp]
    · by_cases hb : forkEnd (decode t).dataOff (decode t).dataLen > (decode t).bundle ∨
          forkEnd (decode t).rsrcOff (decode t).rsrcLen > (decode t).bundle
      · simp [hm, hp, hb]
      · by_cases ho : (decode t).sigOffset ≠ 0 ∧ toI64 (decode t).sigOffset ≠ (decode t).bundle
        · simp [hm, hp, hb, ho]
        · have ho' : (decode t).sigOffset = 0 ∨ toI64 (decode t).sigOffset = (decode t).bundle := by
            by_cases c : (decode t).sigOffset = 0
            · exact Or.inl c
            · exact Or.inr (Decidable.not_not.mp fun c2 => ho ⟨c, c2⟩)
          simp [hm, hp, hb, ho, ho']
  · simp [hm]

/-- the test behind `csblob.Sign`: a successful `sign` has its plist end in front of the last 512 bytes of the input -/
theorem dmg_sign_fits (t f : Bytes) (p : SignParams) (so : SignOut) (h : Dmg.sign t f p = .ok so) :
    plan t f = .ok so.plan ∧ so.plan.fits f.length = true := by
  obtain ⟨hpl, hfit, _⟩ := sign_fits t f p so h
  exact ⟨hpl, hfit⟩

/-- the payload items a UDIF header describes: data fork, resource fork, plist, as (offset, length) int64 patterns -/
def payloadItems (k : Koly) : List (Nat × Nat) :=
  [(k.dataOff, k.dataLen), (k.rsrcOff, k.rsrcLen), (k.xmlOffset, k.xmlLength)]

/-- **dmg_payload_preserved_full** (repaired code, full strength).  Whenever `dmg.Sign` succeeds, every payload item the
    header describes — data fork, resource fork, plist; an item of non-positive length is absent — has a non-negative
    offset, ends at or in front of the signature offset, lies in front of the last 512 bytes of the input, and has in
    the output exactly the bytes it had in the input, at the same offset (`hlen`: the input length is an int64, as in Go).
    Together with `dmg_payload_preserved` (the header keeps every descriptor) the output is a disk image with the same forks
    and plist.  What is still NOT kept, by construction: bytes between the end of the plist and the header that no descriptor
    names (`dmg_undescribed_bytes_dropped`) — in particular an old signature. -/
theorem dmg_payload_preserved_full (t f : Bytes) (p : SignParams) (so : SignOut) (blob : Bytes)
    (h : Dmg.sign t f p = .ok so) (hlen : f.length < 2 ^ 63) :
    ∀ item ∈ payloadItems (decode t), 0 < toI64 item.2 →
      0 ≤ toI64 item.1 ∧ toI64 item.1 + toI64 item.2 ≤ so.plan.bundle ∧ so.plan.bundle.toNat + 512 ≤ f.length ∧
      sl (written f so.plan blob) (toI64 item.1).toNat (toI64 item.2).toNat = sl f (toI64 item.1).toNat (toI64 item.2).toNat := by
  obtain ⟨hp, hfit⟩ := dmg_sign_fits t f p so h
  obtain ⟨ho, hg, hl⟩ := plan_ok t f so.plan hp
  have hb : so.plan.bundle = (decode t).bundle := (planOrig_ok t f so.plan ho).2.1 ▸ rfl
  have hs := (guards_none_iff _).mp hg
  have wf := decode_wf t hl
  have h0 : 0 ≤ so.plan.bundle := by rw [hb]; exact hs.bundle
  have hfl := (fits_iff so.plan f.length h0).mp hfit
  have hsum := safe_bundle _ hs wf.xo wf.xl
  have keep : ∀ (o l : Int), 0 ≤ o → 0 ≤ l → o + l ≤ so.plan.bundle →
      sl (written f so.plan blob) o.toNat l.toNat = sl f o.toNat l.toNat := by
    intro o l h1 _ h3
    apply List.ext_getElem?
    intro i
    by_cases hi : i < l.toNat
    · rw [sl_getElem? _ _ _ _ hi, sl_getElem? _ _ _ _ hi, getElem?_written f so.plan blob (by omega) _ (by omega)]
    · rw [List.getElem?_eq_none_iff.mpr (by simp only [sl, List.length_take]; omega),
        List.getElem?_eq_none_iff.mpr (by simp only [sl, List.length_take]; omega)]
  -- the fork test in readable form
  have fork : ∀ (off len : Nat), forkEnd off len ≤ (decode t).bundle → 0 < toI64 len →
      0 ≤ toI64 off ∧ toI64 off + toI64 len ≤ (decode t).bundle := by
    intro off len hle hpos
    unfold forkEnd at hle
    have hbb : (decode t).bundle < 2 ^ 63 - 1 := by rw [← hb]; omega
    have c1 : ¬ toI64 len ≤ 0 := by omega
    simp only [c1, ↓reduceIte] at hle
    split at hle <;> omega
  intro item hmem hpos
  simp only [payloadItems, List.mem_cons, List.mem_nil_iff, or_false] at hmem
  rcases hmem with rfl | rfl | rfl
  · obtain ⟨a, b⟩ := fork _ _ hs.data hpos
    exact ⟨a, by rw [hb]; exact b, hfl, keep _ _ a (by omega) (by rw [hb]; exact b)⟩
  · obtain ⟨a, b⟩ := fork _ _ hs.rsrc hpos
    exact ⟨a, by rw [hb]; exact b, hfl, keep _ _ a (by omega) (by rw [hb]; exact b)⟩
  · have a := hs.xo
    have b : toI64 (decode t).xmlOffset + toI64 (decode t).xmlLength ≤ so.plan.bundle := by rw [hb, hsum]; omega
    exact ⟨a, b, hfl, keep _ _ a (by omega) b⟩

/-- **dmg_undescribed_bytes_dropped** (what the full statement excludes, repaired code).  The output depends on the image
    only through its first `bundle` bytes: bytes between the end of the plist and the header that no descriptor of the
    header names (stray bytes, an old signature) are not carried over. -/
theorem dmg_undescribed_bytes_dropped (t f f' : Bytes) (pl : Plan) (blob : Bytes) (h : plan t f = .ok pl)
    (hu : (decode t).sigOffset = 0) (hf : f.take pl.bundle.toNat = f'.take pl.bundle.toNat) :
    ∃ pl', plan t f' = .ok pl' ∧ written f' pl' blob = written f pl blob := by
  obtain ⟨ho, hg, hl⟩ := plan_ok t f pl h
  obtain ⟨pl', hp', hw⟩ := dmg_behind_plist_lost t f f' pl blob ho hu hf
  exact ⟨pl', by rw [plan_of_guards t f' hl hg]; exact hp', hw⟩

/-- the statement for the tree BEFORE fix-sign — every successful signing keeps every byte range in front of the
    header: FALSE there (`dmg_behind_plist_lost`, `dmg_no_plist_replaced`, C01.`dmg_sign_ignores_magic`; replay:
    corpus/C03/dmg-payload-behind-plist.ops, refused by the repaired code). -/
def dmg_payload_preserved_orig_full : Prop :=
  ∀ (t f : Bytes) (pl : Plan) (blob : Bytes) (off len : Nat), planOrig t f = .ok pl →
    off + len + 512 ≤ f.length → sl (written f pl blob) off len = sl f off len

set_option maxRecDepth 100000 in
example : (∀ i, i < 8 → (written sampleImage samplePlan [9])[i]? = sampleImage[i]?) :=
  (dmg_payload_preserved _ _ _ [9] samplePlan_ok_fixed (by decide +kernel)).1

/-- plist (2 bytes) in front of the data fork (3 bytes), header without fork descriptors: the original code accepted and
    dropped the fork -/
def behindImage : Bytes := [60, 62, 1, 2, 3] ++ (sampleKoly 0 2 0 0).enc

set_option maxRecDepth 100000 in
example : ∃ pl, planOrig (sampleKoly 0 2 0 0).enc behindImage = .ok pl ∧
    written behindImage pl [9] = [60, 62, 9] ++ (sampleKoly 0 2 2 1).enc :=
  ⟨⟨sampleKoly 0 2 0 0, 2, [60, 62], (sampleKoly 0 2 2 0).enc, none⟩, by decide +kernel, by decide +kernel⟩

set_option maxRecDepth 100000 in
example : ¬ dmg_payload_preserved_orig_full := by
  intro hfull
  have := hfull (sampleKoly 0 2 0 0).enc behindImage ⟨sampleKoly 0 2 0 0, 2, [60, 62], (sampleKoly 0 2 2 0).enc, none⟩ [9] 2 3
    (by decide +kernel) (by decide +kernel)
  exact absurd this (by decide +kernel)

set_option maxRecDepth 100000 in
/-- the same image with a header that describes its data fork [2,5): refused by the repaired code; so are an image
    without plist and a header without magic -/
example : plan (sampleKolyD 2 3 0 2 0 0).enc ([60, 62, 1, 2, 3] ++ (sampleKolyD 2 3 0 2 0 0).enc) = .err "behind" ∧
    plan (sampleKolyD 0 3 0 0 0 0).enc ([1, 2, 3] ++ (sampleKolyD 0 3 0 0 0 0).enc) = .err "noplist" ∧
    plan (zeros 512) ([1, 2, 3] ++ zeros 512) = .err "magic" := by decide +kernel

set_option maxRecDepth 100000 in
/-- data fork [0,3), plist [3,8): accepted, and `sign` succeeds -/
example : (Dmg.sign (sampleKolyD 0 3 3 5 0 0).enc ([1, 2, 3, 4, 5, 6, 7, 8] ++ (sampleKolyD 0 3 3 5 0 0).enc)
    { hash := 5, flags := 0, ident := [97], team := [], execBase := 0, execLimit := 0, execFlags := 0, requirements := none,
      entitlement := none, entitlementDER := none, infoPlist := none, resources := none, repSpecific := none }).isOk = true := by decide +kernel

end Relic.Props.C03
