/-
  C16 — CMS structures survive parsing and re-encoding bit-exactly.   Re-signing a security catalog
  (signers/cat/signer.go; model `Relic.Model.CatSign`, proofs `Relic.Proofs.CatSign`).
-/
import Relic.Proofs.CatSign
namespace Relic.Props.C16
open Relic.CatSign

/-- **cat_content_reemitted_verbatim.**  Whenever `cat.sign` succeeds on a file: the ContentInfo it carries over (`s.ci`) is a
    slice of the input file, the new SignedData contains that very byte string again (`asn1.Marshal` of a struct holding
    `RawContent` rewrites only the outer header, which the strict reader has already forced to be minimal), the bytes that were
    digested (`s.content`) are the content octets that `ContentInfo.Bytes()` reads from the emitted ContentInfo, and the signature
    value is the key's signature over `H s.content`.  Nothing is assumed about what is inside the certificate trust list:
    non-minimal or indefinite lengths, unsorted SET members, foreign tags below the first level all travel verbatim. -/
theorem cat_content_reemitted_verbatim (H : Bytes → Bytes) (k : Signer) (blob : Bytes) (s : Signed) (h : sign H k blob = .ok s) :
    s.ci <:+: blob ∧ s.ci <:+: s.out ∧ emitCI s.ci = s.ci ∧
    ciBytes s.ci = .ok (some s.content) ∧ s.content <:+: s.ci ∧ s.sig = k.sign (H s.content) := by
  obtain ⟨hu, _, hc, hs, ho⟩ := sign_inv H k blob s h
  obtain ⟨cc, hci, hl, hin⟩ := unmarshalCI_inv blob s.ci hu
  have he : emitCI s.ci = s.ci := hci ▸ emitCI_tlv cc hl
  refine ⟨hin, ?_, he, hc, ?_, hs⟩
  · rw [ho]
    have := emitCI_infix_emitSD k s.ci s.sig
    rwa [he] at this
  · exact ciBytes_infix _ _ hc

/-- a certificate trust list whose inside is not DER: an entry with a long-form length where the short form would do
    (0x30 0x81 0x02 …) and a SET out of order – `ciBytes` returns the octets as they are -/
example : ciBytes [0x30, 0x16, 0x06, 0x09, 0x2b, 0x06, 0x01, 0x04, 0x01, 0x82, 0x37, 0x0a, 0x01, 0xA0, 0x09, 0x30, 0x07,
      0x30, 0x81, 0x02, 0x05, 0x00, 0x31, 0x00] = .ok (some [0x30, 0x81, 0x02, 0x05, 0x00, 0x31, 0x00]) := by decide

/-- **cat_nonminimal_wrapper_refused.**  A non-minimal length on the `[0]` wrapper (or on the element inside it) is an
    `asn1.StructuralError` in `ContentInfo.Bytes()`: `SetContentInfo` fails and nothing is signed.  (The outer reader never
    looked at these headers: it stops after the eContentType.) -/
theorem cat_nonminimal_wrapper_refused :
    ciBytes [0x30, 0x10, 0x06, 0x09, 0x2b, 0x06, 0x01, 0x04, 0x01, 0x82, 0x37, 0x0a, 0x01, 0xA0, 0x81, 0x02, 0x30, 0x00] = .err "structural" ∧
    ciBytes [0x30, 0x11, 0x06, 0x09, 0x2b, 0x06, 0x01, 0x04, 0x01, 0x82, 0x37, 0x0a, 0x01, 0xA0, 0x04, 0x30, 0x81, 0x01, 0x00] = .err "structural" := by
  decide

/-- **cat_indefinite_is_detached.**  An indefinite-length wrapper (legal BER, and CMS allows BER) is an `asn1.SyntaxError`,
    which `ContentInfo.Bytes()` takes for "the value was omitted": (nil, nil).  `cat.sign` then signs the digest of nothing and
    its own self-check (`SignedData.Verify(nil, false)`: "missing content") refuses the result, so no such catalog leaves relic. -/
theorem cat_indefinite_is_detached :
    ciBytes [0x30, 0x13, 0x06, 0x09, 0x2b, 0x06, 0x01, 0x04, 0x01, 0x82, 0x37, 0x0a, 0x01, 0xA0, 0x80, 0x30, 0x02, 0x05, 0x00, 0x00, 0x00] = .ok none := by
  decide

/-- the value really absent: also (nil, nil) -/
example : ciBytes [0x30, 0x0b, 0x06, 0x09, 0x2b, 0x06, 0x01, 0x04, 0x01, 0x82, 0x37, 0x0a, 0x01] = .ok none := by decide

end Relic.Props.C16
