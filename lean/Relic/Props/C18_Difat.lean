/-
  C18 — the DIFAT written by `writeMSAT`, for ANY number of DIFAT sectors and any sector size.

  `writeMSATB` puts into the `j`-th DIFAT sector the entries `[109 + j·(spb−1), 109 + (j+1)·(spb−1))` of the padded table followed by
  the number of the next DIFAT sector (`difat_parses_back`, C18_Bytes.lean, states this on the bytes of the closed file).
  What a reader gets by concatenating the 109 header slots and the first `spb−1` entries of each DIFAT sector is therefore the
  padded table itself: every FAT sector number, in order, none lost and none repeated, then FREESECT only
  (`difat_entries_complete`).  A writer that hands `spb` entries to each non-final sector (seeded change C18d-1) loses one FAT
  sector per such sector; the check reaches two and three DIFAT sectors with 128-byte sectors (harness/c18/difat2.go) and
  judges the written file with an independent reader.
-/
import Relic.Model.CfbBytes
namespace Relic.Props.C18
open Relic.CfbW Relic.CfbB

/-- consecutive chunks of `m` entries cover a list of `k·m` entries exactly -/
theorem chunks_join (m : Nat) : ∀ (k : Nat) (l : List Int), l.length = k * m →
    ((List.range k).map (fun j => (l.drop (j * m)).take m)).flatten = l := by
  intro k
  induction k with
  | zero =>
    intro l h
    have : l = [] := List.eq_nil_of_length_eq_zero (by simpa using h)
    simp [this]
  | succ k ih =>
    intro l h
    rw [List.range_succ_eq_map, List.map_cons, List.flatten_cons, List.map_map]
    have hc : (List.range k).map ((fun j => (l.drop (j * m)).take m) ∘ Nat.succ) =
        (List.range k).map (fun j => ((l.drop m).drop (j * m)).take m) := by
      apply List.map_congr_left
      intro j _
      simp only [Function.comp, List.drop_drop]
      have : (j + 1) * m = m + j * m := by rw [Nat.succ_mul]; omega
      rw [this]
    rw [hc, ih (l.drop m) (by rw [List.length_drop, h, Nat.succ_mul]; omega)]
    simp

/-- **difat_entries_complete.**  Header slots plus the entry part of every DIFAT sector, in chain order, give the padded table
    back; its first `msat.length` entries are the FAT sector numbers, everything behind them is FREESECT.  Holds for every
    sector size (`spb` entries per sector) and every number of DIFAT sectors that can hold the table. -/
theorem difat_entries_complete (spb : Nat) (msat ml : List Int) (hfit : msat.length ≤ 109 + ml.length * (spb - 1)) :
    let P := msatPadded spb msat ml
    P.take 109 ++ ((List.range ml.length).map (fun j => ((P.drop 109).drop (j * (spb - 1))).take (spb - 1))).flatten = P ∧
    P.take msat.length = msat ∧ (∀ x ∈ P.drop msat.length, x = FREE) ∧ P.length = 109 + ml.length * (spb - 1) := by
  intro P
  have hP : P = msat ++ List.replicate (109 + ml.length * (spb - 1) - msat.length) FREE := by
    show msatPadded spb msat ml = _
    unfold msatPadded
    simp only
    rw [List.take_of_length_le hfit]
  have hlen : P.length = 109 + ml.length * (spb - 1) := by
    rw [hP, List.length_append, List.length_replicate]; omega
  refine ⟨?_, ?_, ?_, hlen⟩
  · rw [chunks_join (spb - 1) ml.length (P.drop 109) (by rw [List.length_drop, hlen]; omega), List.take_append_drop]
  · rw [hP, List.take_left']; rfl
  · intro x hx
    rw [hP, List.drop_left'] at hx
    · exact List.eq_of_mem_replicate hx
    · rfl

-- three DIFAT sectors of 31 entries (128-byte sectors), 175 FAT sectors: nothing is lost
set_option maxRecDepth 1000000 in
example : let P := msatPadded 32 ((List.range 175).map Int.ofNat) [900, 901, 902]
    P.length = 202 ∧ P.take 175 = (List.range 175).map Int.ofNat ∧ (P.drop 109).length = 3 * 31 := by
  decide +kernel

end Relic.Props.C18
