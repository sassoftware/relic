/-
  C05 fragment — JAR: the manifest codec of lib/signjar and the .SF text against the JAR specification.
  Model: Relic.Model.Jar (tied to lib/signjar by differential execution, token JAR).
  Specification side: Relic.Spec.JarManifest.
-/
import Relic.Proofs.Jar
import Relic.Proofs.JarRoundtrip
import Relic.Spec.JarManifest
namespace Relic.Props.C05
open Relic.Jar

/-- **jar_fold_unfold.** The two rewriting passes of `parseSection` (CRLF → LF, deletion of LF SP) undo the folding
    of `writeAttribute` exactly: for every logical line without CR / LF (any bytes otherwise, UTF-8 sequences may be
    split) the unfolded text is the line followed by one LF. -/
theorem jar_fold_unfold (l : Bytes) (hne : l ≠ []) (hn : noEol l) : dropCont (replCRLF (foldLine l)) = l ++ [10] :=
  unfold_foldLine l hne hn

set_option maxRecDepth 20000 in
example : dropCont (replCRLF (foldLine (List.replicate 150 65))) = List.replicate 150 65 ++ [10] :=
  jar_fold_unfold _ (by simp) fun b hb => by rw [List.eq_of_mem_replicate hb]; decide

/-- **jar_fold_line_le_72.** The code's actual rule: every physical line `writeAttribute` emits has at most 70 bytes
    (first line: 70 bytes of the logical line; continuation lines: one space + 69 bytes) and is followed by CRLF,
    hence at most 72 bytes including the line end – the limit of the JAR specification. -/
theorem jar_fold_line_le_72 (k v : Bytes) :
    ∃ ls : List Bytes, writeAttribute k v = ls.flatMap (fun x => x ++ [13, 10]) ∧ ∀ x ∈ ls, Spec.JarManifest.LineOk x := by
  obtain ⟨ls, h1, h2⟩ := foldLine_lines (k ++ [58, 32] ++ v)
  refine ⟨ls, h1, fun x hx => ?_⟩
  have := h2 x hx
  simp [Spec.JarManifest.LineOk, maxLineLength] at this ⊢
  omega

set_option maxRecDepth 20000 in
example : writeAttribute (asc "K") (List.replicate 100 66) =
    (asc "K: " ++ List.replicate 67 66) ++ [13, 10] ++ (32 :: List.replicate 33 66) ++ [13, 10] := by decide +kernel

/-- **jar_manifest_roundtrip.** Cutting a manifest into the pieces of `splitManifest` and concatenating them
    reproduces the manifest bytes: nothing is lost between sections.  When `splitManifest` does not report
    `malformed` the returned sections are all the pieces, so their concatenation is the manifest. -/
theorem jar_manifest_roundtrip (m : Bytes) :
    (pieces m).flatMap (·.1) = m ∧
    ∀ secs, splitManifest m = (secs, false) → secs.flatten = m := by
  refine ⟨pieces_flatten m, fun secs h => ?_⟩
  rw [(split_sections_eq_pieces h).1]
  have := pieces_flatten m
  simpa [List.flatMap_def] using this

example : splitManifest (asc "A: b\r\n\r\nName: x\r\n\r\n") = ([asc "A: b\r\n\r\n", asc "Name: x\r\n\r\n"], false) := by decide +kernel

/-- blank pieces are dropped (and reported): the concatenation of the *returned* sections then differs -/
example : splitManifest (asc "A: b\n\n\n\nName: x\n\n") = ([asc "A: b\n\n", asc "Name: x\n\n"], true) := by decide +kernel

/-- the individual sections, each with the Name the code reads from it -/
def namedSections : List Bytes → List (Bytes × Bytes)
  | [] => []
  | s :: ss =>
    match parseSection s with
    | .ok hdr => (hget hdr kName, s) :: namedSections ss
    | _ => namedSections ss

theorem sfSections_eq (hash : Bytes → Bytes) (hn : Bytes) : ∀ (ss : List Bytes) (body : Bytes),
    sfSections hash hn ss = .ok body →
    body = (namedSections ss).flatMap
      (fun e => writeAttribute [78, 97, 109, 101] e.1 ++ writeAttribute (hn ++ asc "-Digest") (hash e.2) ++ [13, 10])
  | [], body, h => by
    simp [sfSections] at h
    subst h
    simp [namedSections]
  | s :: ss, body, h => by
    obtain ⟨hdr, rest, hp, -, hr, rfl⟩ := sfSections_cons_ok h
    rw [namedSections, hp, List.flatMap_cons, ← sfSections_eq hash hn ss rest hr]
    simp [kName, asc]

theorem piecesAux_ends : ∀ (n : Nat) (m : Bytes) (p : Bytes × Bool), p ∈ piecesAux n m → p.2 = false →
    Spec.JarManifest.EndsWithEmptyLine p.1 := by
  intro n m p hp hf
  obtain ⟨m', -, rfl⟩ := mem_piecesAux n m p hp
  simp only at hf ⊢
  unfold cut at hf ⊢
  split at hf
  · rename_i i hi
    left
    exact ⟨m'.take i, by simpa [sepCRLF, Spec.JarManifest.blankCRLF] using index_take hi⟩
  · split at hf
    · rename_i i hi
      right
      exact ⟨m'.take i, by simpa [sepLF, Spec.JarManifest.blankLF] using index_take hi⟩
    · simp at hf

/-- **jar_sf_eq_spec.** Whenever `DigestManifest` succeeds on manifest bytes `m`, there is a division of `m` into
    sections `s0 :: ss` in the sense of the specification (consecutive, covering every byte of `m`, each ending with
    its empty line) such that the .SF text is exactly the one the specification prescribes for it: the
    `…-Digest-Manifest-Main-Attributes` value is the digest of `s0` – the main attributes *including* their
    terminating empty line –, every individual `…-Digest` is the digest of exactly the bytes of the corresponding
    manifest section including its empty line, under the `Name` read from that section and in manifest order, and
    `…-Digest-Manifest` (unless sections-only) is the digest of all of `m`. -/
theorem jar_sf_eq_spec (hash : Bytes → Bytes) (hn cb : Bytes) (so apk : Bool) (m sf : Bytes)
    (h : digestManifest hash hn cb so apk m = .ok sf) :
    ∃ s0 ss, Spec.JarManifest.Sectioning m (s0 :: ss) ∧
      (namedSections ss).map (·.2) = ss ∧
      sf = Spec.JarManifest.sfText writeAttribute hash
        ([(asc "Signature-Version", asc "1.0"), (hn ++ asc "-Digest-Manifest-Main-Attributes", hash s0)] ++
          (if so then [] else [(hn ++ asc "-Digest-Manifest", hash m)]) ++ [(asc "Created-By", cb)] ++
          (if apk then [(asc "X-Android-APK-Signed", asc "2")] else []))
        (hn ++ asc "-Digest") (namedSections ss) := by
  unfold digestManifest at h
  split at h
  · simp at h
  · simp at h
  · rename_i s0 ss hsplit
    cases hb : sfSections hash hn ss with
    | ok body =>
      simp only [hb] at h
      simp at h
      obtain ⟨hsecs, hfalse⟩ := split_sections_eq_pieces hsplit
      refine ⟨s0, ss, ⟨?_, ?_⟩, ?_, ?_⟩
      · have := (Relic.Props.C05.jar_manifest_roundtrip m).2 _ hsplit
        exact this
      · intro s hs
        rw [hsecs] at hs
        obtain ⟨p, hmem, rfl⟩ := List.mem_map.mp hs
        exact piecesAux_ends m.length m p hmem (hfalse p hmem)
      · -- every individual section parsed (otherwise sfSections would have failed)
        clear h hsplit hsecs
        induction ss generalizing body with
        | nil => rfl
        | cons s ss ih =>
          obtain ⟨hdr, rest, hp, -, hr, -⟩ := sfSections_cons_ok hb
          rw [namedSections, hp, List.map_cons, ih rest hr]
      · have hbody := sfSections_eq hash hn ss body hb
        subst h
        rw [hbody]
        unfold Spec.JarManifest.sfText
        cases so <;> cases apk <;> simp [List.flatMap_cons]
    | _ => simp [hb] at h

set_option maxRecDepth 20000 in
example : (digestManifest (fun _ => asc "HASH") (asc "SHA-256") (asc "x") false false
    (asc "Manifest-Version: 1.0\r\n\r\nName: a\r\n\r\n")).isOk = true := by decide +kernel

/-- **jar_sections_minimal.**  The division `splitManifest` makes is the minimal one *as the code searches*: when it
    does not report `malformed`, every section it returns ends at the first separator found in it — its first
    CR LF CR LF if it holds one (then it ends with it), else its first LF LF (then it ends with that) — and no
    section lacks a separator.  For every manifest, whatever its line ends. -/
theorem jar_sections_minimal (m : Bytes) (secs : List Bytes) (h : splitManifest m = (secs, false)) :
    ∀ s ∈ secs, cut s = (s.length, false) := by
  intro s hs
  obtain ⟨hsecs, hfalse⟩ := split_sections_eq_pieces h
  rw [hsecs] at hs
  obtain ⟨p, hmem, rfl⟩ := List.mem_map.mp hs
  exact piecesAux_cut_self m.length m p hmem (hfalse p hmem)

/-- **jar_sections_first_blank_line.**  For a manifest with LF line ends
    (no CR anywhere) the division is the specification's: each section extends to its first empty line and no
    further. -/
theorem jar_sections_first_blank_line (m : Bytes) (secs : List Bytes) (hcr : ∀ b ∈ m, b ≠ 13)
    (h : splitManifest m = (secs, false)) : ∀ s ∈ secs, index sepLF s = some (s.length - 2) := by
  intro s hs
  have hc := jar_sections_minimal m secs h s hs
  have hsub : ∀ b ∈ s, b ≠ 13 := by
    intro b hb
    apply hcr
    rw [← (jar_manifest_roundtrip m).2 secs h]
    exact List.mem_flatten.mpr ⟨s, hs, hb⟩
  have h4 : index sepCRLF s = none := index_none_of_not_mem (c := 13) (by decide) hsub
  unfold cut at hc
  rw [h4] at hc
  cases h2 : index sepLF s with
  | none => rw [h2] at hc; simp at hc
  | some i =>
    rw [h2] at hc
    simp only [Prod.mk.injEq, and_true] at hc
    congr 1; omega

/-- the same for CR LF line ends, when no bare LF LF occurs: each section ends with its first CR LF CR LF -/
theorem jar_sections_first_blank_line_crlf (m : Bytes) (secs : List Bytes) (h : splitManifest m = (secs, false))
    (s : Bytes) (hs : s ∈ secs) (i : Nat) (hi : index sepCRLF s = some i) : i = s.length - 4 := by
  have hc := jar_sections_minimal m secs h s hs
  unfold cut at hc
  rw [hi] at hc
  simp only [Prod.mk.injEq, and_true] at hc
  omega

example : splitManifest (asc "A: b\n\nName: x\n\n") = ([asc "A: b\n\n", asc "Name: x\n\n"], false) ∧
    index sepLF (asc "A: b\n\n") = some 4 := by decide

/-- **jar_sections_mixed_line_ends.**  What the two theorems above do not cover is a deviation of the code from the
    specification, not a gap of the proof: with *mixed* line ends the first CR LF CR LF anywhere wins over an
    earlier LF LF, so the section returned contains an empty line in its middle (here the main section swallows
    the `Name: x` section; `splitManifest` does not report `malformed`).  Replayed on the real code by
    `corpus/C05/jar_mixed_line_ends.ops`. -/
theorem jar_sections_mixed_line_ends :
    splitManifest (asc "A: b\n\nName: x\r\n\r\n") = ([asc "A: b\n\nName: x\r\n\r\n"], false) ∧
    index sepLF (asc "A: b\n\nName: x\r\n\r\n") = some 4 ∧
    (asc "A: b\n\nName: x\r\n\r\n").length - 2 = 15 := by decide

/-- **jar_fold_unfold_section.**  `parseSection` of a written section gives
    the attribute map back: for every map whose names are canonical, trimmed, non-empty, without CR / LF / `:` and
    whose values are trimmed, non-empty, without CR / LF, and *every* spelling of the attribute to be written first.  (Not every
    map `parseSection` returns is of this kind: a line `: x` gives an empty name, `A:` an empty value, and a CR that is not part of
    a line end stays inside a name or value.) -/
theorem jar_fold_unfold_section (h : Hdr) (first : Bytes)
    (hh : ∀ kv ∈ h, canonKey kv.1 = kv.1 ∧ trimSpace kv.1 = kv.1 ∧ trimSpace kv.2 = kv.2 ∧ kv.1 ≠ [] ∧ kv.2 ≠ [] ∧
      noEol kv.1 ∧ noEol kv.2 ∧ (58 : UInt8) ∉ kv.1) (hn : (h.map (·.1)).Nodup) :
    ∃ h', parseSection (writeSection h first) = .ok h' ∧ ∀ k, hget h' k = hget h k := by
  obtain ⟨h', hp, hl⟩ := parse_writeSection h first
    (fun kv hkv => by obtain ⟨a, b, c, d, e, f, g, i⟩ := hh kv hkv; exact ⟨⟨b, c, d, f, g, i⟩, a, e⟩) hn
  exact ⟨h', hp, fun k => by simp [hget, hl]⟩

/-- non-vacuity: a section with a folded value (100 bytes), a `Name` written first, and a second attribute -/
example : (∀ kv ∈ [(asc "Name", asc "a/b.class"), (asc "Sha-256-Digest", List.replicate 100 65)],
      canonKey kv.1 = kv.1 ∧ trimSpace kv.1 = kv.1 ∧ trimSpace kv.2 = kv.2 ∧ kv.1 ≠ [] ∧ kv.2 ≠ [] ∧
      noEol kv.1 ∧ noEol kv.2 ∧ (58 : UInt8) ∉ kv.1) ∧
    ([(asc "Name", asc "a/b.class"), (asc "Sha-256-Digest", List.replicate 100 65)].map (·.1)).Nodup := by
  unfold noEol
  decide +kernel

/-- the value hypothesis `kv.2 ≠ []` is not needed for agreement under `hget` (an attribute with an empty value
    reads as absent either way) but the name hypotheses are: a name with a colon is cut at it -/
example : (match parseSection (writeSection [([97, 58, 98], [118])] []) with
      | .ok h => some (hget h [97, 58, 98]) | _ => none) = some [] ∧
    hget [([97, 58, 98], [118])] [97, 58, 98] = [118] := by decide +kernel

end Relic.Props.C05
