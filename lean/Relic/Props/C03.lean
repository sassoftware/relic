/-
  C03 — Signing never corrupts or alters the payload.   PE/COFF part (model `Relic.Model.PE`).
  Other formats add their theorems in `Relic/Props/C03_*.lean`.
-/
import Relic.Props.C08
namespace Relic.Props.C03
open Relic Relic.PE

/-- **pe_payload_preserved.** In the file that `Sign → Apply` writes, every byte of the input below the old end
    of image is where it was, except the 8 bytes of the certificate-table directory entry; what follows is
    zero padding to a multiple of 8 and the new certificate table.  (Headers, section table, every section's
    raw data and the overlay are therefore untouched; the `CheckSum` field is rewritten afterwards by
    `FixPEChecksum`, which is outside this theorem.) -/
theorem pe_payload_preserved (f : Bytes) (d : Digest) (sig : Bytes) (hp : 64 ≤ u32 f 0x3c) (e : DigestPE f = .ok d) :
    let g := signedBytes f d sig
    seg g 0 d.m.posDDCert = seg f 0 d.m.posDDCert ∧
    seg g (d.m.posDDCert + 8) d.certStart = seg f (d.m.posDDCert + 8) d.origSize ++ List.replicate (d.certStart - d.origSize) 0 ∧
    g.length = d.certStart + (8 + ceil8 sig.length) ∧
    d.origSize ≤ f.length ∧ d.certStart < d.origSize + 8 ∧
    (d.m.certSize = 0 → d.origSize = f.length) := by
  have H := DigestPE_spec f d hp e
  exact ⟨seg_signed_prefix f d sig H 0 _ (Nat.le_refl _), seg_signed_body f d sig H, signedBytes_length f d sig H,
    H.origLe, H.padLt, H.unsigned⟩

/-- **pe_refusal_is_clean.** When the digest refuses a file (or panics) no patch exists, so nothing is written. -/
theorem pe_refusal_is_clean (f sig : Bytes) (h : (DigestPE f).isOk = false) : (C08.signRound f sig).isOk = false := by
  unfold C08.signRound
  cases hd : DigestPE f with
  | ok d => simp [hd, Res.isOk] at h
  | _ => rfl

/-- the patch handed to `binpatch` is constructible, so C12's exactness theorems apply to it -/
theorem pe_patch_constructible (f : Bytes) (d : Digest) (sig : Bytes) (ps : List Binpatch.Patch)
    (hp : 64 ≤ u32 f 0x3c) (e : DigestPE f = .ok d) (hm : makePatch d sig = .ok ps) :
    C12.Constructible f.length ps :=
  makePatch_constructible f d sig ps (DigestPE_spec f d hp e) hm

set_option maxRecDepth 100000 in
example : 64 ≤ u32 C08.minimalPE 0x3c ∧ (DigestPE C08.minimalPE).isOk = true :=
  ⟨C08.minimalPE_facts.1, C08.minimalPE_facts.2.2.2⟩

end Relic.Props.C03
