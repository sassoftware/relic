/-
  C03 — Signing never corrupts or alters the payload.   xar / flat package part (model `Relic.Model.Xar`).

  `Sign` rewrites three things: the table of contents (old checksum / signature / x-signature elements out, new ones in front,
  every `//data/offset` text + `newSigSize − origSigSize`), the 28-byte header, and the first `origSigSize` bytes of the heap
  (they become `newSigSize` bytes); everything behind `28 + CompressedSize + origSigSize` is copied.
  * `xar_toc_changes_exact`, `xar_only_offset_text_changes`: which nodes of the document change — for EVERY document.
  * `xar_heap_shift_exact`: what `encoding/xml` (and any reader of the format) then sees: every file that has a `<data>` child
    moved by exactly that difference, at every nesting depth, with or without `<archived-checksum>`; nothing else moved.
  * `xar_payload_preserved`: the bytes found at the new place are the member's bytes — provided the member began behind the
    old signature area.  `xar_front_member_lost`: a member in front of / inside that area ends up inside relic's own
    signature area: its bytes are gone (`Sign` never looks at the `<offset>` of the old signature elements, it trusts the sum
    of their `<size>`s to be a prefix of the heap; listed finding FXAR3).
  * `xar_ea_offset_shifted` (current tree) / `xar_ea_offset_stale_orig` (FXAR2): heap references of extended attributes.
  Since fix 5d6eee4 `Sign` refuses the layouts of `xar_front_member_lost` (C01 `xar_sign_guards`, `xar_sign_refuses_bad_layouts`).
  * `xar_written_is_reference`: the patch is constructible, so C12 exactness applies.
-/
import Relic.Proofs.XarSign
import Relic.Proofs.Binpatch
import Relic.Props.C12
namespace Relic.Props.C03
open Relic.Xar Relic.Binpatch

/-- **xar_written_is_reference.**  Whenever the old signature area lies inside the input (`0 ≤ origTotal ≤ len`) the production
    path (Add → Dump/Load → Apply, in place or by rewrite) yields `newBytes ++ input[origTotal:]`. -/
theorem xar_written_is_reference (f : Bytes) (ot : Int) (body : Bytes) (canOverwrite : Bool) (h0 : 0 ≤ ot) (h1 : ot.toNat ≤ f.length) :
    ∃ strategy, signedFile f ot body canOverwrite = .ok (written f ot body, strategy) := by
  have hc : C12.Constructible f.length [⟨0, ot.toNat, body⟩] := by
    simp [C12.Constructible, wfFrom]; omega
  obtain ⟨st, hst⟩ := C12.apply_exact 4294967295 f _ hc canOverwrite
  refine ⟨st, ?_⟩
  have hn : ¬ ot < 0 := by omega
  simp only [signedFile, patchSet, hn, ↓reduceIte]
  rw [sortByOff_id f.length 0 _ (wf_build 4294967295 f.length _ hc), hst]
  simp [sem, splice, written]

example : ∃ s, signedFile [1, 2, 3, 4, 5] 2 [9, 9, 9] false = .ok ([9, 9, 9, 3, 4, 5], s) := by
  simpa [written] using xar_written_is_reference [1, 2, 3, 4, 5] 2 [9, 9, 9] false (by decide) (by decide)

/-- **xar_toc_changes_exact.**  For every document with a `/xar/toc`: the serialised document is the input document with
    (1) the `<checksum>`, `<signature>`, `<x-signature>` children of the first `<toc>` removed, (2) the new ones as its first
    children, (3) `adjustOffsets` applied to everything else.  Attributes, names, order and every other node are kept. -/
theorem xar_toc_changes_exact (N : Num) (ea : Bool) (hk : HK) (ki : KeyInfo) (t : Xml) (p : Prep) (h : prep N hk ki t = some p) :
    ∃ ras pre tas tks post, t = .el "xar" ras (pre ++ .el "toc" tas tks :: post) ∧
      p.tree N ea = .el "xar" ras (adjustKids N ea (w64 (p.newSig - p.origSig)) false pre ++
        .el "toc" tas ((reserve N hk ki).1 ++ adjustKids N ea (w64 (p.newSig - p.origSig)) false (removeSigs N tks).2) ::
        adjustKids N ea (w64 (p.newSig - p.origSig)) false post) := by
  obtain ⟨ras, pre, tas, tks, post, rfl, _, rfl⟩ := prep_some N hk ki t p h
  refine ⟨ras, pre, tas, tks, post, rfl, ?_⟩
  rw [Prep.tree, adjust_doc1]

mutual
/-- the document with the leading text of every `<data><offset>` blanked out -/
def xarBlank (ea : Bool) (inData : Bool) : Xml → Xml
  | .el n as ks =>
    if inData && n == "offset" then .el n as ((xarBlankKids ea (isRef ea n) ks).dropWhile (·.isTx))
    else .el n as (xarBlankKids ea (isRef ea n) ks)
  | .tx s => .tx s
def xarBlankKids (ea : Bool) (inData : Bool) : List Xml → List Xml
  | [] => []
  | k :: ks => xarBlank ea inData k :: xarBlankKids ea inData ks
end

theorem xar_blank_isTx (ea b : Bool) (x : Xml) : (xarBlank ea b x).isTx = x.isTx := by
  cases x with
  | tx s => simp [xarBlank]
  | el n as ks => simp only [xarBlank]; split <;> simp

theorem xar_blankKids_dropWhile (ea b : Bool) : ∀ ks : List Xml, xarBlankKids ea b (ks.dropWhile (·.isTx)) = (xarBlankKids ea b ks).dropWhile (·.isTx)
  | [] => by simp [xarBlankKids]
  | .tx s :: ks => by simp [xarBlankKids, xarBlank, List.dropWhile, xar_blankKids_dropWhile ea b ks]
  | .el n as c :: ks => by
    have := xar_blank_isTx ea b (.el n as c)
    simp only [isTx_el] at this
    simp [xarBlankKids, List.dropWhile, this]

mutual
/-- **xar_only_offset_text_changes.**  `adjustOffsets` changes nothing but the leading text of `<offset>` children of `<data>`
    elements: with that text blanked out, the shifted document IS the original document (every tree, every shift). -/
theorem xar_only_offset_text_changes (N : Num) (ea : Bool) (d : Int) (b : Bool) : ∀ x, xarBlank ea b (adjust N ea d b x) = xarBlank ea b x
  | .tx s => by simp [adjust]
  | .el n as ks => by
    have ih := xar_blankKids_adjustKids N ea d (isRef ea n) ks
    simp only [adjust]
    by_cases hc : (b && n == "offset") = true
    · simp only [hc, ↓reduceIte]
      split
      · simp only [xarBlank, hc, ↓reduceIte, setText, xarBlankKids, List.dropWhile, isTx_tx, xar_blankKids_dropWhile, ih,
          dropWhile_dropWhile_isTx]
      · simp only [xarBlank, hc, ↓reduceIte, ih]
    · simp only [hc, xarBlank, ih, Bool.false_eq_true, ↓reduceIte]
theorem xar_blankKids_adjustKids (N : Num) (ea : Bool) (d : Int) (b : Bool) : ∀ ks, xarBlankKids ea b (adjustKids N ea d b ks) = xarBlankKids ea b ks
  | [] => by simp [adjustKids]
  | k :: ks => by simp only [adjustKids, xarBlankKids, xar_only_offset_text_changes N ea d b k, xar_blankKids_adjustKids N ea d b ks]
end

/-- **xar_heap_shift_exact.**  For a regular document that `encoding/xml` accepts: after `Sign` every file struct that saw a
    `<data>` element has `Offset + (newSigSize − origSigSize)` (int64), every other struct and every other field is
    unchanged, the signature elements are exactly those of the key; at every nesting depth, whether or not the member has
    an `<archived-checksum>`. -/
theorem xar_heap_shift_exact (N : Num) (ea : Bool) (hN : N.Laws) (hk : HK) (ki : KeyInfo) (hki : ki.small) (t : Xml) (p : Prep) (x0 : XToc)
    (e : prep N hk ki t = some p) (hu : unmarshal N t = some x0) (hreg : regularDoc N t = true) :
    ∃ x1, unmarshal N (p.tree N ea) = some x1 ∧ x1.ck = ⟨hk.name, 0, hk.size, []⟩ ∧
      flatXs x1.files = (flatXs x0.files).map (FileAcc.shiftIf (w64 (p.newSig - p.origSig))) := by
  refine ⟨_, unmarshal_shifted N ea hN hk ki hki t p x0 _ e hu hreg, ?_, ?_⟩
  · unfold tocOfKey; cases ki.rsaSize <;> rfl
  · simp [flatXs_shift]

/-- bytes behind the replaced prefix are where they were, `|body| − ot` further on -/
theorem xar_range_preserved (f body : Bytes) (ot : Nat) (pos len : Nat) (h : ot ≤ pos) :
    sl (body ++ f.drop ot) (body.length + (pos - ot)) len = sl f pos len := by
  rw [sl_skip body _ _ _ (by omega), sl_drop]
  congr 1
  omega

/-- **xar_payload_preserved.**  Let `body` (header + TOC + signature area, `newBase + newSig` bytes) replace the first
    `base + origSig` bytes of `f` (`base` = start of the old heap).  A heap range `[off, off+len)` that begins behind the old
    signature area (`origSig ≤ off`) is found, byte for byte, at heap offset `off + (newSig − origSig)` of the written file —
    the offset `adjustOffsets` wrote into its `<data><offset>` (`xar_heap_shift_exact`).  No hypothesis on checksums. -/
theorem xar_payload_preserved (f body : Bytes) (base origSig newBase newSig : Nat) (hbody : body.length = newBase + newSig)
    (off len : Int) (hfront : (origSig : Int) ≤ off) :
    sl (written f ((base + origSig : Nat) : Int) body) (newBase + (off + ((newSig : Int) - origSig)).toNat) len.toNat =
      sl f (base + off.toNat) len.toNat := by
  have e : newBase + (off + ((newSig : Int) - origSig)).toNat = body.length + ((base + off.toNat) - (base + origSig)) := by omega
  unfold written
  rw [e, Int.toNat_natCast]
  exact xar_range_preserved f body (base + origSig) (base + off.toNat) len.toNat (by omega)

example : sl (written [1, 2, 3, 4, 5, 6, 7, 8] ((1 + 2 : Nat) : Int) [0, 0, 0, 0, 0]) (1 + ((3 : Int) + ((4 : Int) - 2)).toNat) (2 : Int).toNat
    = sl [1, 2, 3, 4, 5, 6, 7, 8] (1 + (3 : Int).toNat) (2 : Int).toNat :=
  xar_payload_preserved [1, 2, 3, 4, 5, 6, 7, 8] [0, 0, 0, 0, 0] 1 2 1 4 rfl 3 2 (by decide)

/-- **xar_front_member_lost.**  A heap range that begins in front of the end of the old signature area (`off < origSig`;
    the signature or checksum area lies behind members, or a `<size>` is larger than the area) is, after signing, a range
    that begins inside the bytes relic wrote itself (`newBase + off + newSig − origSig < |body|`): the first
    `origSig − off` bytes of what its `<offset>` now names are checksum / signature / padding bytes, whatever the member
    contained.  `Sign` reports success. -/
theorem xar_front_member_lost (f body : Bytes) (ot : Int) (newBase newSig origSig : Nat) (hbody : body.length = newBase + newSig)
    (off : Int) (h0 : 0 ≤ off + ((newSig : Int) - origSig)) (hfront : off < origSig) (len : Nat) (hlen : len ≤ origSig - off.toNat)
    (hoff : 0 ≤ off) :
    sl (written f ot body) (newBase + (off + ((newSig : Int) - origSig)).toNat) len =
      sl body (newBase + (off + ((newSig : Int) - origSig)).toNat) len := by
  unfold written sl
  rw [List.drop_append_of_le_length (by omega)]
  rw [List.take_append_of_le_length]
  simp only [List.length_drop]
  omega

/-- **xar_ea_offset_stale_orig** (tree before 5d6eee4: `adjustOffsets` visited `//data/offset` only).  An element that
    contains no `<data>` element — in particular `<ea>` with its `<offset>`, `<length>`, `<archived-checksum>` describing a
    heap range — was left exactly as it was, whatever the shift: the reference went stale (finding FXAR2). -/
theorem xar_ea_offset_stale_orig (N : Num) (d : Int) (x : Xml) (h : noData x = true) : adjust N false d false x = x :=
  adjust_noRef N false d x h

example (N : Num) (d : Int) :
    adjust N false d false (.el "ea" [("id", "0")] [.el "name" [] [.tx "com.apple.x"], .el "offset" [] [.tx "44"], .el "length" [] [.tx "7"]]) =
      .el "ea" [("id", "0")] [.el "name" [] [.tx "com.apple.x"], .el "offset" [] [.tx "44"], .el "length" [] [.tx "7"]] :=
  xar_ea_offset_stale_orig N d _ (by decide)

/-- **xar_ea_offset_shifted** (current tree: `//ea/offset` is visited too).  The `<offset>` child of an `<ea>` element, spelled
    as `ParseInt` accepts it, reads `offset + delta` after signing, exactly like the `<offset>` of a `<data>` element;
    the other children of `<ea>` keep their text. -/
theorem xar_ea_offset_shifted (N : Num) (hN : N.Laws) (d : Int) (as as' : List (String × String)) (pre post : List Xml) (s : String)
    (hs : (N.atoi s).2 = true) :
    ∃ pre' post', adjust N true d false (.el "ea" as (pre ++ .el "offset" as' [.tx s] :: post)) =
      .el "ea" as (pre' ++ .el "offset" as' [.tx (N.fmt (w64 ((N.atoi s).1 + d)))] :: post') ∧
      allText pre' = allText pre ∧ allText post' = allText post := by
  have e1 : isRef true "ea" = true := by decide
  have hnum : numOk N [.tx s] = true := by simp [numOk, allTx, etext, hs]
  obtain ⟨o1, _, _⟩ := offset_shifted N true hN d as' [.tx s] hnum
  refine ⟨adjustKids N true d true pre, adjustKids N true d true post, ?_, allText_adjustKids N true d true pre,
    allText_adjustKids N true d true post⟩
  rw [adjust_el_plain, e1, adjustKids_append, adjustKids_cons, o1]
  simp [etext]

end Relic.Props.C03
