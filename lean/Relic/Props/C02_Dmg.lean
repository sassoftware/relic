/-
  C02 — Any change to signed content makes verification fail.   Apple disk image (UDIF) part.
  Protected by the two hashes the verifier recomputes:
    * every byte of the image in front of `bundle = XMLOffset+XMLLength` (code slot, `dmg_data_protected`);
    * the trailer ranges [0,232) (magic, version, flags, fork descriptors, segment fields, data checksum, XMLOffset,
      XMLLength), [296,304) (SignatureOffset) and [352,500) (master checksum, image variant, sector count)
      (special slot −6, `dmg_trailer_protected`) — provided the CMS-signed code directory HAS a non-zero slot −6
      (`C01.dmg_verify_rep_slot`); a directory without it leaves the whole trailer unprotected (signer's responsibility).
  NOT protected, each a theorem below: the three blank ranges of the trailer, the SignatureLength field (it selects the
  blob; a changed blob is the CMS layer's matter), any bytes between the end of the signature and the trailer.
  The code-directory and superblob layer is C02_MachO.
-/
import Relic.Proofs.Dmg
namespace Relic.Props.C02
open Relic.Dmg Relic.CodeDir

/-- positions of the trailer that reach the rep-specific hash -/
def protectedIdx (i : Nat) : Prop := i < 232 ∨ (296 ≤ i ∧ i < 304) ∨ (352 ≤ i ∧ i < 500)

instance (i : Nat) : Decidable (protectedIdx i) := by unfold protectedIdx; infer_instance

/-- **forHashing_eq_iff.** Two trailers are hashed alike exactly when they agree on the three protected ranges. -/
theorem forHashing_eq_iff (t t' : Bytes) (h : 512 ≤ t.length) (h' : 512 ≤ t'.length) :
    (decode t).forHashing = (decode t').forHashing ↔
      (sl t 0 232 = sl t' 0 232 ∧ sl t 296 8 = sl t' 296 8 ∧ sl t 352 148 = sl t' 352 148) := by
  have l (a n : Nat) (hh : a + n ≤ 512) : (sl t a n).length = n := sl_length t a n (by omega)
  have l' (a n : Nat) (hh : a + n ≤ 512) : (sl t' a n).length = n := sl_length t' a n (by omega)
  rw [forHashing_decode t h, forHashing_decode t' h']
  constructor
  · intro e
    simp only [List.append_assoc] at e
    have e1 := List.append_inj e (by rw [l 0 232 (by omega), l' 0 232 (by omega)])
    have e2 := List.append_inj e1.2 rfl
    have e3 := List.append_inj e2.2 (by rw [l 296 8 (by omega), l' 296 8 (by omega)])
    have e4 := List.append_inj e3.2 rfl
    have e5 := List.append_inj e4.2 rfl
    have e6 := List.append_inj e5.2 (by rw [l 352 148 (by omega), l' 352 148 (by omega)])
    exact ⟨e1.1, e3.1, e6.1⟩
  · rintro ⟨a, b, c⟩
    rw [a, b, c]

/-- **dmg_trailer_protected.** Two trailers that differ at a protected position are hashed differently: for every hash
    function that does not collide on these two 512-byte strings the recomputed slot −6 differs from the signed one and
    `csblob.Verify` fails with "rep_specific: digest mismatch". -/
theorem dmg_trailer_protected (t t' : Bytes) (h : 512 ≤ t.length) (h' : 512 ≤ t'.length) (i : Nat) (hp : protectedIdx i)
    (hd : t[i]? ≠ t'[i]?) : (decode t).forHashing ≠ (decode t').forHashing := by
  intro e
  obtain ⟨a, b, c⟩ := (forHashing_eq_iff t t' h h').mp e
  apply hd
  rcases hp with hi | ⟨h1, h2⟩ | ⟨h1, h2⟩
  · exact getElem?_of_sl_eq a i (Nat.zero_le _) (by omega)
  · exact getElem?_of_sl_eq b i h1 (by omega)
  · exact getElem?_of_sl_eq c i h1 (by omega)

/-- **dmg_data_protected.** Two images with the same bundle size that differ at a position in front of it deliver
    different sections to `VerifyPages`; with the single code slot of a disk image the verifier's one page comparison has
    the same expected value and a different stream (so it fails for every hash function that does not collide on the
    two), or the length test fails first. -/
theorem dmg_data_protected (d : Dir) (c : Bytes) (f g : Bytes) (b : Int) (p : Nat) (h0 : 0 ≤ b) (hp : p < b.toNat)
    (hdiff : f[p]? ≠ g[p]?) (hps : d.hdr.pageShift = 0) (hc : d.code = [c]) :
    sectionOf f b ≠ sectionOf g b ∧
    ((verifyPagesOn d (sectionOf f b)).checks = [⟨sectionOf f b, c⟩] ∨ (verifyPagesOn d (sectionOf f b)).final = .err "size") ∧
    ((verifyPagesOn d (sectionOf g b)).checks = [⟨sectionOf g b, c⟩] ∨ (verifyPagesOn d (sectionOf g b)).final = .err "size") := by
  have hs : sectionOf f b ≠ sectionOf g b := sectionOf_ne h0 hp hdiff
  have one : ∀ page, (verifyPagesOn d page).checks = [⟨page, c⟩] ∨ (verifyPagesOn d page).final = .err "size" := by
    intro page
    rw [verifyPagesOn_single d page c hps hc]
    by_cases hl : codeSize d.hdr = page.length
    · rw [if_pos hl]; exact Or.inl rfl
    · rw [if_neg hl]; exact Or.inr rfl
  exact ⟨hs, one _, one _⟩

/-- the header `Open` reads from an image -/
def headerOf (f : Bytes) : Koly := decode (f.drop (f.length - 512))

/-- **dmg_tamper_evident.** The protected byte set of a signed disk image, stated on the file: a protected position of the
    trailer (`protectedIdx`: everything but SignatureLength and the blank ranges) or a position in front of `f`'s bundle size.
    A change there makes the verifier hash something different: the rep-specific bytes differ, or (they agree, hence so do
    the bundle sizes, and) the sections handed to `VerifyPages` differ.  With the single code slot and special slot −6 of a
    disk-image signature (`C01.dmg_verify_single_slot`, `dmg_verify_rep_slot`) a comparison of `g`'s plan has the same
    expected value as `f`'s and a different stream, so it fails for every hash function that does not collide on the two. -/
theorem dmg_tamper_evident (f g : Bytes) (hl : f.length = g.length) (h512 : 512 ≤ f.length) (p : Nat) (hd : f[p]? ≠ g[p]?)
    (hprot : (f.length - 512 ≤ p ∧ protectedIdx (p - (f.length - 512))) ∨
             (0 ≤ (headerOf f).bundle ∧ p < (headerOf f).bundle.toNat)) :
    (headerOf f).forHashing ≠ (headerOf g).forHashing ∨
    ((headerOf f).bundle = (headerOf g).bundle ∧ sectionOf f (headerOf f).bundle ≠ sectionOf g (headerOf g).bundle) := by
  have lf : (f.drop (f.length - 512)).length = 512 := by simp only [List.length_drop]; omega
  have lg : (g.drop (g.length - 512)).length = 512 := by simp only [List.length_drop]; omega
  by_cases he : (headerOf f).forHashing = (headerOf g).forHashing
  · right
    obtain ⟨a, _, c⟩ := (forHashing_eq_iff _ _ (by omega) (by omega)).mp he
    obtain ⟨_, _, e3, e4, _⟩ := decode_of_ranges _ _ a c
    have hb : (headerOf f).bundle = (headerOf g).bundle := by
      simp only [headerOf, Koly.bundle, e3, e4]
    refine ⟨hb, ?_⟩
    rcases hprot with ⟨h1, hp⟩ | ⟨h0, hp⟩
    · -- a protected trailer position cannot differ when the rep-specific bytes agree
      exfalso
      refine dmg_trailer_protected _ _ (by omega) (by omega) (p - (f.length - 512)) hp ?_ he
      rw [List.getElem?_drop, List.getElem?_drop, ← hl]
      have e : f.length - 512 + (p - (f.length - 512)) = p := by omega
      rw [e]; exact hd
    · rw [← hb]
      exact sectionOf_ne h0 hp hd
  · left; exact he

/-- **dmg_verify_inputs.** The verifier's answer is a function of three things read from the file: the signature blob,
    the re-serialised trailer, the section in front of the bundle size. -/
theorem dmg_verify_inputs (f g : Bytes) (o o' : Opened) (skip : Bool) (hf : openFile f = .ok o) (hg : openFile g = .ok o')
    (hb : o.sigBlob = o'.sigBlob) (hr : o.koly.forHashing = o'.koly.forHashing)
    (hs : sectionOf f o.koly.bundle = sectionOf g o'.koly.bundle) : verify f skip = verify g skip := by
  unfold openFile at hf hg
  simp only [verify, verifyG, hf, hg, hb, hr, hs]

/-- **dmg_blank_unprotected** (gap 1).  Trailers that differ only inside the blank ranges [232,296), [312,352),
    [500,512) — or in the SignatureLength field — are hashed alike. -/
theorem dmg_blank_unprotected (t t' : Bytes) (h : 512 ≤ t.length) (h' : 512 ≤ t'.length)
    (hA : sl t 0 232 = sl t' 0 232) (hO : sl t 296 8 = sl t' 296 8) (hB : sl t 352 148 = sl t' 352 148) :
    (decode t).forHashing = (decode t').forHashing :=
  (forHashing_eq_iff t t' h h').mpr ⟨hA, hO, hB⟩

/-- **dmg_gap_unprotected** (gap 2).  Bytes inserted between the end of the signature and the trailer change nothing
    the verifier looks at: the trailer is found from the end, everything else by absolute offsets. -/
theorem dmg_gap_unprotected (pre blob junk : Bytes) (k : Koly) (skip : Bool) (wf : k.WF) (hm : k.magic = kolyMagic)
    (hso : k.sigOffset = pre.length) (hsl : k.sigLength = blob.length) (hne : blob ≠ []) (hmax : blob.length ≤ maxSig)
    (hpre : pre.length < 2 ^ 63) (hb : k.bundle = pre.length) :
    verify (pre ++ blob ++ junk ++ k.enc) skip = verify (pre ++ blob ++ k.enc) skip := by
  have a := openFile_gap pre blob junk k wf hm hso hsl hne hmax hpre
  have b := openFile_built pre blob k wf hm hso hsl hne hmax hpre
  refine dmg_verify_inputs _ _ _ _ skip a b rfl rfl ?_
  have hn : ¬ ((pre.length : Int) < 0) := by omega
  simp only [sectionOf, hb, hn, ↓reduceIte, Int.toNat_natCast, List.append_assoc, List.take_left']

/-- the statement "every byte of a signed image is protected": false (`dmg_blank_unprotected`, `dmg_gap_unprotected`) -/
def dmg_every_byte_protected_full : Prop :=
  ∀ (f g : Bytes) (skip : Bool), f.length = g.length → f ≠ g → (∃ o, openFile f = .ok o ∧ o.sigBlob ≠ []) →
    verify f skip ≠ verify g skip

set_option maxRecDepth 100000 in
/-- the first byte of the data fork of the sample image changed -/
example : (headerOf sampleImage).forHashing ≠ (headerOf (sampleImage.set 0 77)).forHashing ∨
    ((headerOf sampleImage).bundle = (headerOf (sampleImage.set 0 77)).bundle ∧
     sectionOf sampleImage (headerOf sampleImage).bundle ≠ sectionOf (sampleImage.set 0 77) (headerOf (sampleImage.set 0 77)).bundle) :=
  dmg_tamper_evident _ _ (by decide +kernel) (by decide +kernel) 0 (by decide +kernel) (Or.inr ⟨by decide +kernel, by decide +kernel⟩)

example : protectedIdx 300 ∧ ¬ protectedIdx 310 ∧ ¬ protectedIdx 240 ∧ protectedIdx 499 ∧ ¬ protectedIdx 500 := by decide +kernel

set_option maxRecDepth 100000 in
/-- XMLLength changed from 5 to 6 (position 231) -/
example : (decode (sampleKoly 3 5 8 2).enc).forHashing ≠ (decode (sampleKoly 3 6 8 2).enc).forHashing :=
  dmg_trailer_protected _ _ (by decide +kernel) (by decide +kernel) 231 (by decide +kernel) (by decide +kernel)

set_option maxRecDepth 100000 in
/-- only the SignatureLength differs -/
example : (decode (sampleKoly 3 5 8 2).enc).forHashing = (decode (sampleKoly 3 5 8 77).enc).forHashing :=
  dmg_blank_unprotected _ _ (by decide +kernel) (by decide +kernel) (by decide +kernel) (by decide +kernel) (by decide +kernel)

set_option maxRecDepth 100000 in
example : ¬ dmg_every_byte_protected_full := by
  intro hfull
  -- a stray byte in front of the trailer: 7 vs 8
  have wf : (sampleKoly 0 1 1 1).WF :=
    ⟨by decide +kernel, by decide +kernel, by decide +kernel, by decide +kernel, by decide +kernel, by decide +kernel, by decide +kernel⟩
  have e1 := dmg_gap_unprotected [1] [9] [7] (sampleKoly 0 1 1 1) false wf rfl rfl rfl
    (by decide +kernel) (by decide +kernel) (by decide +kernel) (by decide +kernel)
  have e2 := dmg_gap_unprotected [1] [9] [8] (sampleKoly 0 1 1 1) false wf rfl rfl rfl
    (by decide +kernel) (by decide +kernel) (by decide +kernel) (by decide +kernel)
  have o := openFile_gap [1] [9] [7] (sampleKoly 0 1 1 1) wf rfl rfl rfl (by decide +kernel) (by decide +kernel) (by decide +kernel)
  refine hfull ([1] ++ [9] ++ [7] ++ (sampleKoly 0 1 1 1).enc) ([1] ++ [9] ++ [8] ++ (sampleKoly 0 1 1 1).enc) false (by simp) ?_
    ⟨_, o, by decide +kernel⟩ (e1.trans e2.symm)
  intro e
  have := congrArg (fun x => x[2]?) e
  simp at this

end Relic.Props.C02
