/-
  C07 — Signatures are only issued under a certificate that matches the key.
  Theorems about `Relic.Model.KeyMatch`; every `theorem` here is audited with `#print axioms`.
-/
import Relic.Model.KeyMatch
import Relic.Proofs.Res
namespace Relic.Props.C07
open Relic.KeyMatch

/-- the exact exception of `SameKey`: two ECDSA keys with the same affine point on different curves -/
def CurveException (a b : PubKey) : Prop :=
  ∃ c1 c2 x y, c1 ≠ c2 ∧ a = .ecdsa c1 x y ∧ b = .ecdsa c2 x y

/-- `SameKey` accepts only equal keys, except that the curve of ECDSA keys is not compared -/
theorem sameKey_sound (a b : PubKey) (h : sameKeyPub a b = true) : a = b ∨ CurveException a b := by
  rcases a with ⟨n1, e1⟩ | ⟨c1, x1, y1⟩ | _ <;> rcases b with ⟨n2, e2⟩ | ⟨c2, x2, y2⟩ | _ <;>
    simp [sameKeyPub] at h
  · exact .inl (by rw [h.1, h.2])
  · obtain ⟨rfl, rfl⟩ := h
    by_cases hc : c1 = c2
    · exact .inl (by rw [hc])
    · exact .inr ⟨c1, c2, x1, y1, hc, rfl, rfl⟩

example : sameKeyPub (.rsa 77 65537) (.rsa 77 65537) = true := by decide

/-- the exception is real: the model (like the Go code) accepts this pair of different keys -/
theorem sameKey_curve_ignored :
    sameKeyPub (.ecdsa 256 5 9) (.ecdsa 384 5 9) = true ∧ PubKey.ecdsa 256 5 9 ≠ PubKey.ecdsa 384 5 9 := by
  decide

/-- full-strength soundness (no exception) does **not** hold for the code as written -/
def sameKey_sound_full : Prop := ∀ a b, sameKeyPub a b = true → a = b

theorem sameKey_sound_full_false : ¬ sameKey_sound_full := by
  intro h
  exact sameKey_curve_ignored.2 (h _ _ sameKey_curve_ignored.1)

/-- two keys of which at most one curve is in play: the exception cannot arise -/
def NoSharedPoint (a b : PubKey) : Prop :=
  ∀ c1 c2 x y, a = .ecdsa c1 x y → b = .ecdsa c2 x y → c1 = c2

theorem sameKey_sound_partial (a b : PubKey) (hp : NoSharedPoint a b) (h : sameKeyPub a b = true) : a = b := by
  rcases sameKey_sound a b h with h | ⟨c1, c2, x, y, hne, ha, hb⟩
  · exact h
  · exact absurd (hp c1 c2 x y ha hb) hne

example : NoSharedPoint (.ecdsa 256 5 9) (.ecdsa 256 5 9) := by
  intro c1 c2 x y h1 h2; cases h1; cases h2; rfl

/-- RSA and ECDSA keys are accepted against themselves; nothing else is -/
theorem sameKey_complete (a : PubKey) : sameKeyPub a a = supportedKey a := by
  cases a <;> simp [sameKeyPub, supportedKey]

theorem sameKey_symm (a b : PubKey) : sameKeyPub a b = sameKeyPub b a := by
  cases a <;> cases b <;> simp only [sameKeyPub, BEq.comm]

/-- private keys are compared through `Public()` -/
theorem sameKey_through_public (a b : KeyArg) : sameKey a b = sameKeyPub a.public b.public := rfl

/-- the mismatch classes named by the property -/
theorem sameKey_rejects (n e c x y t : Nat) (k : PubKey) :
    sameKeyPub (.rsa n e) (.ecdsa c x y) = false ∧ sameKeyPub (.ecdsa c x y) (.rsa n e) = false ∧
    sameKeyPub (.other t) k = false ∧ sameKeyPub k (.other t) = false := by
  refine ⟨rfl, rfl, rfl, ?_⟩
  cases k <;> rfl

theorem sameKey_rejects_other_point (c c' x1 y1 x2 y2 : Nat) (h : x1 ≠ x2 ∨ y1 ≠ y2) :
    sameKeyPub (.ecdsa c x1 y1) (.ecdsa c' x2 y2) = false := by
  simp [sameKeyPub]; omega

theorem sameKey_rejects_other_rsa (n1 e1 n2 e2 : Nat) (h : n1 ≠ n2 ∨ e1 ≠ e2) :
    sameKeyPub (.rsa n1 e1) (.rsa n2 e2) = false := by
  simp [sameKeyPub]; omega

example : sameKeyPub (.ecdsa 256 3 103) (.ecdsa 256 3 203) = false := sameKey_rejects_other_point _ _ _ _ _ _ (.inr (by decide))
example : sameKeyPub (.rsa 1 65537) (.rsa 1 3) = false := sameKey_rejects_other_rsa _ _ _ _ (.inr (by decide))

theorem mem_chainRest (leaf : Option PCert) (cs : List PCert) (i : Nat) (x : PCert)
    (h : x ∈ chainRest leaf i cs) :
    x ∈ cs ∧ leaf.map (·.ptr) ≠ some x.ptr ∧ (i > 0 → x.cert.selfSigned = false) := by
  induction cs generalizing i with
  | nil => simp [chainRest] at h
  | cons c cs ih =>
    have tl := fun (h' : x ∈ chainRest leaf (i + 1) cs) =>
      And.intro (List.mem_cons_of_mem c (ih _ h').1) (And.intro (ih _ h').2.1 fun (_ : i > 0) => (ih _ h').2.2 (by omega))
    unfold chainRest at h
    split at h
    · exact tl h
    · rename_i h1
      split at h
      · exact tl h
      · rename_i h2
        rcases List.mem_cons.mp h with rfl | h
        · exact ⟨List.mem_cons_self, by simpa using h2, fun hi => by simpa [hi] using h1⟩
        · exact tl h

theorem chainRest_skip_leaf (l : PCert) (c : Cert) (cs : List PCert) :
    chainRest (some l) 0 (⟨l.ptr, c⟩ :: cs) = chainRest (some l) 1 cs := by
  rw [chainRest]; simp

/-- a bundle as produced by the parsers: the leaf is the first certificate, pointer 0 -/
def WF (b : Bundle) : Prop :=
  match b.leaf with
  | some l => ∃ cs, l.ptr = 0 ∧ b.certs = enumFrom 0 (l.cert :: cs)
  | none => b.certs = []

/-- `Chain()` begins with the leaf, never repeats the leaf *pointer*, takes its other members from
    `Certificates` after the first, and omits self-signed certificates -/
theorem chain_leaf_first (b : Bundle) (l : PCert) (hl : b.leaf = some l) (hwf : WF b) :
    ∃ rest, chain b = l :: rest ∧ l.ptr ∉ rest.map (·.ptr) ∧
      ∀ x ∈ rest, x ∈ b.certs.tail ∧ x.cert.selfSigned = false := by
  unfold WF at hwf
  rw [hl] at hwf
  obtain ⟨cs, hp, hc⟩ := hwf
  refine ⟨chainRest (some l) 1 (enumFrom 1 cs), ?_, ?_, ?_⟩
  · unfold chain
    rw [hl, hc]
    simp only [enumFrom]
    have h := chainRest_skip_leaf l l.cert (enumFrom 1 cs)
    rw [hp] at h
    show [l] ++ chainRest (some l) 0 (⟨0, l.cert⟩ :: enumFrom 1 cs) = _
    rw [h]; rfl
  · intro hmem
    obtain ⟨x, hx, hxp⟩ := List.mem_map.mp hmem
    have := (mem_chainRest _ _ _ _ hx).2.1
    simp [hxp] at this
  · intro x hx
    have := mem_chainRest _ _ _ _ hx
    refine ⟨?_, this.2.2 (by omega)⟩
    rw [hc]; simpa [enumFrom] using this.1

/-- the leaf's *content* can recur in the chain when the file lists the same certificate twice
    (the test in `Chain()` is pointer equality): exact witness -/
theorem chain_content_duplicate :
    let c : Cert := ⟨7, 1, 2, .rsa 1 65537⟩
    ∃ b, parseCertificates (.parsed [c, c]) = .ok b ∧ (chain b).map (·.cert) = [c, c] := by
  exact ⟨_, rfl, by decide⟩

theorem parse_ok (src : CertSrc) (b : Bundle) (h : parseCertificates src = .ok b) :
    ∃ c cs, src = .parsed (c :: cs) ∧ b.leaf = some ⟨0, c⟩ ∧ WF b ∧ b.pgp = none := by
  rcases src with _ | _ | ⟨_ | ⟨c, cs⟩⟩ <;> simp [parseCertificates] at h
  subst h
  exact ⟨c, cs, rfl, rfl, ⟨cs, rfl, rfl⟩, rfl⟩

theorem tokenX509_ok (key : PubKey) (src : Option CertSrc) (b : Bundle) (h : tokenX509 key src = .ok b) :
    b.priv = some key ∧ WF b ∧ b.pgp = none ∧
    (∀ l, b.leaf = some l → sameKeyPub key l.cert.pub = true ∧ ∃ cs, src = some (.parsed (l.cert :: cs))) ∧
    (b.leaf = none → src = none) := by
  rcases src with _ | _ | _ | ⟨_ | ⟨c, cs⟩⟩ <;> simp [tokenX509, parseCertificates, ite_eq_iff] at h
  · subst h
    exact ⟨rfl, rfl, rfl, nofun, fun _ => rfl⟩
  · obtain ⟨hsk, rfl⟩ := h
    refine ⟨rfl, ⟨cs, rfl, rfl⟩, rfl, ?_, nofun⟩
    rintro l ⟨⟩
    exact ⟨hsk, cs, rfl⟩

theorem tokenPgp_ok (key : PubKey) (b0 : Bundle) (pgp : Option PgpSrc) (b : Bundle) (h : tokenPgp key b0 pgp = .ok b) :
    b.leaf = b0.leaf ∧ b.certs = b0.certs ∧ b.priv = b0.priv ∧ b.keyName = b0.keyName ∧
    ((pgp = none ∧ b.pgp = b0.pgp) ∨ ∃ e, pgp = some (.parsed [e]) ∧ b.pgp = some e ∧ sameKeyPub key e.pub = true) := by
  rcases pgp with _ | _ | _ | _ | ⟨_ | ⟨e, _ | _⟩⟩ <;> simp [tokenPgp, parsePGP, ite_eq_iff] at h
  · subst h
    exact ⟨rfl, rfl, rfl, rfl, .inl ⟨rfl, rfl⟩⟩
  · obtain ⟨hsk, rfl⟩ := h
    exact ⟨rfl, rfl, rfl, rfl, .inr ⟨e, rfl, rfl, hsk⟩⟩

theorem loadToken_ok (key : PubKey) (file blob : Option CertSrc) (pgp : Option PgpSrc) (b : Bundle)
    (h : loadTokenCertificates key file blob pgp = .ok b) :
    b.priv = some key ∧ WF b ∧
    (∀ l, b.leaf = some l → sameKeyPub key l.cert.pub = true ∧
        ∃ cs, effective file blob = some (.parsed (l.cert :: cs))) ∧
    (b.leaf = none → effective file blob = none) ∧
    (∀ e, b.pgp = some e → sameKeyPub key e.pub = true ∧ pgp = some (.parsed [e])) ∧
    (b.pgp = none → pgp = none) := by
  unfold loadTokenCertificates at h
  cases hbx : tokenX509 key (effective file blob) with
  | ok bx =>
    rw [hbx] at h
    obtain ⟨hpriv, hwf, hpg, hleaf, hnoleaf⟩ := tokenX509_ok _ _ _ hbx
    obtain ⟨h1, h2, h3, _, h5⟩ := tokenPgp_ok _ _ _ _ h
    refine ⟨by rw [h3, hpriv], ?_, fun l hl => hleaf l (h1 ▸ hl), fun hn => hnoleaf (h1 ▸ hn), ?_, ?_⟩
    · unfold WF at hwf ⊢
      rwa [h1, h2]
    · intro e he
      rcases h5 with ⟨_, hb⟩ | ⟨e', hp, hb, hs⟩
      · rw [hb, hpg] at he
        cases he
      · rw [hb] at he
        cases he
        exact ⟨hs, hp⟩
    · intro hn
      rcases h5 with ⟨hp, _⟩ | ⟨e', _, hb, _⟩
      · exact hp
      · rw [hb] at hn
        cases hn
  | _ => simp [hbx] at h

example : ∃ b, loadTokenCertificates (.rsa 1 65537)
    (some (.parsed [⟨10, 1, 2, .rsa 1 65537⟩, ⟨11, 2, 2, .rsa 2 65537⟩])) none none = .ok b := ⟨_, rfl⟩

theorem loadX509KeyPair_ok (key : KeySrc) (src : CertSrc) (b : Bundle) (h : loadX509KeyPair key src = .ok b) :
    ∃ k l cs, key = .key k ∧ b.priv = some k ∧ b.leaf = some l ∧ WF b ∧
      src = .parsed (l.cert :: cs) ∧ sameKeyPub l.cert.pub k = true := by
  rcases key with _ | _ | k <;> rcases src with _ | _ | ⟨_ | ⟨c, cs⟩⟩ <;>
    simp [loadX509KeyPair, parseCertificates, ite_eq_iff] at h
  obtain ⟨hsk, rfl⟩ := h
  exact ⟨k, ⟨0, c⟩, cs, rfl, rfl, rfl, ⟨cs, rfl, rfl⟩, rfl, hsk⟩

example : ∃ b, loadX509KeyPair (.key (.ecdsa 256 3 103)) (.parsed [⟨10, 1, 1, .ecdsa 256 3 103⟩]) = .ok b := ⟨_, rfl⟩

/-- `SignatureBuilder.Sign` emits only when the first certificate matches the key; it embeds `certs` as given -/
theorem builder_guard (key : PubKey) (certs : List Cert) (hc hh : Bool) (a : Artefact)
    (h : builderSign key certs hc hh = .ok a) :
    ∃ rest, certs = a.leaf :: rest ∧ a.embedded = certs ∧ a.signedBy = key ∧
      sameKeyPub key a.leaf.pub = true := by
  rcases certs with _ | ⟨c, rest⟩ <;> simp [builderSign, ite_eq_iff] at h
  obtain ⟨_, _, hsk, rfl⟩ := h
  exact ⟨rest, rfl, rfl, rfl, hsk⟩

/-- … and rejects every mismatched pair, whatever the loader did -/
theorem builder_guard_rejects (key : PubKey) (certs : List Cert) (hc hh : Bool)
    (hm : certs = [] ∨ ∃ c rest, certs = c :: rest ∧ sameKeyPub key c.pub = false) :
    ∃ e, builderSign key certs hc hh = .err e := by
  unfold builderSign
  split
  · exact ⟨_, rfl⟩
  · split
    · exact ⟨_, rfl⟩
    · rcases hm with rfl | ⟨c, rest, rfl, hf⟩
      · exact ⟨_, rfl⟩
      · simp [sameKey, KeyArg.public, hf]

example : ∃ a, builderSign (.rsa 1 65537) [⟨10, 1, 2, .rsa 1 65537⟩, ⟨11, 2, 3, .rsa 2 65537⟩] true true = .ok a := ⟨_, rfl⟩
example : builderSign (.rsa 1 65537) [⟨11, 2, 3, .rsa 2 65537⟩, ⟨10, 1, 2, .rsa 1 65537⟩] true true = .err "mismatch" := rfl

theorem xmldsig_guard (key : PubKey) (certs : List Cert) (a : Artefact)
    (h : xmldsigSign key certs = .ok a) :
    ∃ rest, certs = a.leaf :: rest ∧ a.embedded = certs ∧ a.signedBy = key ∧
      sameKeyPub key a.leaf.pub = true := by
  rcases certs with _ | ⟨c, rest⟩ <;> simp [xmldsigSign, ite_eq_iff] at h
  obtain ⟨hsk, _, rfl⟩ := h
  exact ⟨rest, rfl, rfl, rfl, hsk⟩

theorem xmldsig_guard_rejects (key : PubKey) (certs : List Cert)
    (hm : certs = [] ∨ ∃ c rest, certs = c :: rest ∧ sameKeyPub key c.pub = false) :
    xmldsigSign key certs = .err "mismatch" := by
  unfold xmldsigSign
  rcases hm with rfl | ⟨c, rest, rfl, hf⟩
  · rfl
  · simp [sameKey, KeyArg.public, hf]

example : ∃ a, xmldsigSign (.ecdsa 384 5 105) [⟨10, 1, 2, .ecdsa 384 5 105⟩] = .ok a := ⟨_, rfl⟩
example : xmldsigSign (.ecdsa 256 3 103) [⟨10, 1, 2, .ecdsa 256 4 104⟩] = .err "mismatch" := rfl

theorem init_ok (c : Config) (n : String) (need : CertType) (b : Bundle) (h : init c n need = .ok b) :
    initKey c n = .ok b ∧ (need = .x509 → b.leaf.isSome) ∧ (need = .pgp → b.pgp.isSome) := by
  unfold init at h
  cases hb0 : initKey c n with
  | ok b0 =>
    rw [hb0] at h
    cases need <;> cases hl : b0.leaf <;> cases hp : b0.pgp <;> simp [hl, hp] at h
    all_goals
      subst h
      simp [hl, hp]
  | _ => simp [hb0] at h

/-- the certificate source that decides: the configured file, else the PKCS#12 bundle's chain -/
def cfgSource (kc : KeyConf) (k : PubKey) : Option CertSrc :=
  effective kc.x509file (kc.p12.map fun p => .parsed ((chain (parsePKCS12 k p.1 p.2)).map (·.cert)))

/-- once the name resolves to an entry whose key file holds a key, `InitKey` is `LoadTokenCertificates` on the entry's own
    sources (the token-stored blob being the PKCS#12 chain, if any), labelled with the requested name -/
theorem initKey_of_key (c : Config) (n : String) (kc : KeyConf) (k : PubKey) (hkc : c.getKey n = .ok kc) (hkey : kc.key = .key k) :
    initKey c n =
      match loadTokenCertificates k kc.x509file (kc.p12.map fun p => .parsed ((chain (parsePKCS12 k p.1 p.2)).map (·.cert)))
          kc.pgpfile with
      | .ok b => .ok { b with keyName := n }
      | .err e => .err e
      | .panic s => .panic s
      | .diverge => .diverge := by
  unfold initKey fileGetKey
  rcases hp : kc.p12 with _ | ⟨l, rest⟩ <;> simp only [hkc, hkey, hp, Option.map] <;> rfl

theorem initKey_ok (c : Config) (n : String) (b : Bundle) (h : initKey c n = .ok b) :
    ∃ kc k, c.getKey n = .ok kc ∧ kc.key = .key k ∧ b.keyName = n ∧ b.priv = some k ∧ WF b ∧
      (∀ l, b.leaf = some l → sameKeyPub k l.cert.pub = true ∧
          ∃ cs, cfgSource kc k = some (.parsed (l.cert :: cs))) ∧
      (∀ e, b.pgp = some e → sameKeyPub k e.pub = true ∧ kc.pgpfile = some (.parsed [e])) := by
  cases hkc : c.getKey n with
  | ok kc =>
    cases hk : kc.key with
    | key k =>
      rw [initKey_of_key c n kc k hkc hk] at h
      split at h <;> cases h
      rename_i b1 hb1
      obtain ⟨hpriv, hwf, hleaf, _, hpgp, _⟩ := loadToken_ok _ _ _ _ _ hb1
      exact ⟨kc, k, rfl, hk, rfl, hpriv, hwf, hleaf, hpgp⟩
    | _ => simp [initKey, fileGetKey, hkc, hk] at h
  | _ => simp [initKey, fileGetKey, hkc] at h

/-- **C07, main statement.**  For every configuration, requested key name and X.509 signer kind: if an
    artefact is emitted then (1) the key that signed is the key of the configuration entry the name
    resolves to, and the bundle is labelled with the requested name; (2) the designated leaf is the
    bundle's leaf and `SameKey` holds between the signing key and the leaf's public key; (3) the embedded
    certificates begin with the leaf; (4) in `Chain()` the leaf pointer is not repeated. -/
theorem emitted_leaf_matches_key (c : Config) (n : String) (kind : SignerKind) (b : Bundle) (a : Artefact)
    (h : signCfg c n kind = .ok (b, a)) :
    ∃ kc k l rest,
      c.getKey n = .ok kc ∧ kc.key = .key k ∧ b.keyName = n ∧
      b.priv = some k ∧ a.signedBy = k ∧
      b.leaf = some l ∧ a.leaf = l.cert ∧ sameKeyPub k a.leaf.pub = true ∧
      a.embedded = a.leaf :: rest ∧
      (∃ cs, cfgSource kc k = some (.parsed (a.leaf :: cs))) ∧
      (∃ crest, chain b = l :: crest ∧ l.ptr ∉ crest.map (·.ptr)) := by
  unfold signCfg at h
  cases hb0 : init c n .x509 with
  | ok b0 =>
    cases ha0 : signX509 b0 kind with
    | ok a0 =>
      simp only [hb0, ha0] at h
      cases h
      obtain ⟨hik, hx, _⟩ := init_ok _ _ _ _ hb0
      obtain ⟨kc, k, hkc, hkey, hname, hpriv, hwf, hleaf, _⟩ := initKey_ok _ _ _ hik
      obtain ⟨l, hl⟩ := Option.isSome_iff_exists.mp (hx rfl)
      obtain ⟨hsk, cs, hsrc⟩ := hleaf l hl
      obtain ⟨crest, hchain, hnot, _⟩ := chain_leaf_first _ _ hl hwf
      have hmapchain : (chain b).map (·.cert) = l.cert :: crest.map (·.cert) := by rw [hchain]; rfl
      -- every signer kind: signed by `k`, and the leaf comes first among the embedded certificates;
      -- the three guarded kinds get this from the guard, whatever list of certificates they were handed
      have guarded : ∀ certs r, certs = l.cert :: r →
          (∃ rest, certs = a.leaf :: rest ∧ a.embedded = certs ∧ a.signedBy = k ∧ sameKeyPub k a.leaf.pub = true) →
          a.signedBy = k ∧ a.leaf = l.cert ∧ sameKeyPub k a.leaf.pub = true ∧ ∃ rest, a.embedded = a.leaf :: rest := by
        rintro certs r hc ⟨rest, h1, h2, h3, h4⟩
        exact ⟨h3, (List.cons.inj (h1.symm.trans hc)).1, h4, rest, h2.trans h1⟩
      have all : a.signedBy = k ∧ a.leaf = l.cert ∧ sameKeyPub k a.leaf.pub = true ∧ ∃ rest, a.embedded = a.leaf :: rest := by
        unfold signX509 at ha0
        rw [hpriv] at ha0
        cases kind with
        | builderChain => exact guarded _ _ hmapchain (builder_guard _ _ _ _ _ ha0)
        | builderCerts =>
          unfold WF at hwf
          rw [hl] at hwf
          obtain ⟨cs', _, hc'⟩ := hwf
          exact guarded _ _ (by rw [hc']; rfl) (builder_guard _ _ _ _ _ ha0)
        | xmlChain => exact guarded _ _ hmapchain (xmldsig_guard _ _ _ ha0)
        | rawChain =>
          simp only [hl, Res.ok.injEq] at ha0
          subst ha0
          exact ⟨rfl, rfl, hsk, _, hmapchain⟩
      obtain ⟨h3, hle, h4, rest, hemb⟩ := all
      exact ⟨kc, k, l, rest, hkc, hkey, hname, hpriv, h3, hl, hle, h4, hemb, ⟨cs, hle ▸ hsrc⟩, crest, hchain, hnot⟩
    | _ => simp [hb0, ha0] at h
  | _ => simp [hb0] at h

/-- PGP: the entity embedded as issuer carries a public key that `SameKey` accepts against the signing key -/
theorem emitted_pgp_matches_key (c : Config) (n : String) (b : Bundle) (k : PubKey) (e : PgpEntity)
    (h : signCfgPgp c n = .ok (b, k, e)) :
    ∃ kc, c.getKey n = .ok kc ∧ kc.key = .key k ∧ b.keyName = n ∧ b.priv = some k ∧ b.pgp = some e ∧
      sameKeyPub k e.pub = true ∧ kc.pgpfile = some (.parsed [e]) := by
  unfold signCfgPgp at h
  cases hb0 : init c n .pgp with
  | ok b0 =>
    obtain ⟨hik, _, _⟩ := init_ok _ _ _ _ hb0
    obtain ⟨kc, k0, hkc, hkey, hname, hpriv, _, _, hpgp⟩ := initKey_ok _ _ _ hik
    cases hp : b0.pgp with
    | none => simp [hb0, signPgp, hpriv, hp] at h
    | some e0 =>
      simp only [hb0, signPgp, hpriv, hp, Res.ok.injEq, Prod.mk.injEq] at h
      obtain ⟨rfl, rfl, rfl⟩ := h
      exact ⟨kc, hkc, hkey, hname, hpriv, hp, hpgp e0 hp⟩
  | _ => simp [hb0] at h

/-! non-vacuity: a two-key configuration with an alias; leaf + intermediate + root in the file -/
def exLeaf : Cert := ⟨10, 1, 2, .rsa 1 65537⟩
def exInter : Cert := ⟨11, 2, 3, .rsa 2 65537⟩
def exRoot : Cert := ⟨12, 3, 3, .ecdsa 256 4 104⟩
def exCfg : Config :=
  [ { name := "k0", key := .key (.rsa 1 65537), p12 := none, x509file := some (.parsed [exLeaf, exInter, exRoot]), pgpfile := none },
    { name := "k1", key := .key (.rsa 2 65537), p12 := some (exInter, [exRoot]), x509file := none,
      pgpfile := some (.parsed [⟨1, .rsa 2 65537⟩]) },
    { name := "al", alias := "k1", token := "", key := .missing, p12 := none, x509file := none, pgpfile := none } ]

example : ∃ b a, signCfg exCfg "k0" .builderChain = .ok (b, a) ∧ a.embedded = [exLeaf, exInter] ∧ a.leaf = exLeaf :=
  ⟨_, _, rfl, rfl, rfl⟩
example : ∃ b a, signCfg exCfg "k0" .builderCerts = .ok (b, a) ∧ a.embedded = [exLeaf, exInter, exRoot] :=
  ⟨_, _, rfl, rfl⟩
example : ∃ b a, signCfg exCfg "al" .rawChain = .ok (b, a) ∧ a.leaf = exInter ∧ b.keyName = "al" ∧ a.signedBy = .rsa 2 65537 :=
  ⟨_, _, rfl, rfl, rfl, rfl⟩
example : ∃ b e, signCfgPgp exCfg "al" = .ok (b, .rsa 2 65537, e) := ⟨_, _, rfl⟩

theorem loadX509KeyPair_mismatch (k : PubKey) (c0 : Cert) (cs : List Cert) (hm : sameKeyPub c0.pub k = false) :
    loadX509KeyPair (.key k) (.parsed (c0 :: cs)) = .err "mismatch" := by
  simp [loadX509KeyPair, parseCertificates, sameKey, KeyArg.public, hm]

theorem loadToken_mismatch (k : PubKey) (file blob : Option CertSrc) (pgp : Option PgpSrc) (c0 : Cert) (cs : List Cert)
    (he : effective file blob = some (.parsed (c0 :: cs))) (hm : sameKeyPub k c0.pub = false) :
    loadTokenCertificates k file blob pgp = .err "mismatch" := by
  simp [loadTokenCertificates, tokenX509, he, parseCertificates, sameKey, KeyArg.public, hm]

/-- **C07, negative half.**  Whatever the configuration entry otherwise contains: when the first
    certificate of the deciding source is not accepted by `SameKey` against the entry's key, signing
    returns `err mismatch` – no bundle, no artefact – for every signer kind. -/
theorem mismatch_is_error (c : Config) (n : String) (kind : SignerKind) (kc : KeyConf) (k : PubKey)
    (c0 : Cert) (cs : List Cert)
    (hkc : c.getKey n = .ok kc) (hkey : kc.key = .key k)
    (hsrc : cfgSource kc k = some (.parsed (c0 :: cs)))
    (hm : sameKeyPub k c0.pub = false) :
    signCfg c n kind = .err "mismatch" ∧ signCfgPgp c n = .err "mismatch" := by
  have hload : initKey c n = .err "mismatch" := by
    rw [initKey_of_key c n kc k hkc hkey, loadToken_mismatch k _ _ _ c0 cs hsrc hm]
  constructor
  · unfold signCfg init; rw [hload]
  · unfold signCfgPgp init; rw [hload]

/-- a one-entry configuration (for the instances named in the property text, `mismatch_cases`) -/
def oneKey (k : PubKey) (file : CertSrc) : Config :=
  [ { name := "k", key := .key k, p12 := none, x509file := some file, pgpfile := none } ]

theorem mismatch_cases (kind : SignerKind) :
    -- certificate of another RSA key
    signCfg (oneKey (.rsa 1 65537) (.parsed [⟨10, 1, 1, .rsa 2 65537⟩])) "k" kind = .err "mismatch" ∧
    -- RSA key, ECDSA certificate and vice versa
    signCfg (oneKey (.rsa 1 65537) (.parsed [⟨10, 1, 1, .ecdsa 256 3 103⟩])) "k" kind = .err "mismatch" ∧
    signCfg (oneKey (.ecdsa 256 3 103) (.parsed [⟨10, 1, 1, .rsa 1 65537⟩])) "k" kind = .err "mismatch" ∧
    -- same curve, different point (other key; negated point)
    signCfg (oneKey (.ecdsa 256 3 103) (.parsed [⟨10, 1, 1, .ecdsa 256 4 104⟩])) "k" kind = .err "mismatch" ∧
    signCfg (oneKey (.ecdsa 256 3 103) (.parsed [⟨10, 1, 1, .ecdsa 256 3 203⟩])) "k" kind = .err "mismatch" ∧
    -- chain file with the CA first, the matching leaf second
    signCfg (oneKey (.rsa 1 65537) (.parsed [⟨11, 2, 2, .rsa 2 65537⟩, ⟨10, 1, 2, .rsa 1 65537⟩])) "k" kind = .err "mismatch" ∧
    -- empty certificate file, unreadable file, unparsable file, no certificate configured at all
    signCfg (oneKey (.rsa 1 65537) (.parsed [])) "k" kind = .err "nocerts" ∧
    signCfg (oneKey (.rsa 1 65537) .missing) "k" kind = .err "io" ∧
    signCfg (oneKey (.rsa 1 65537) .garbage) "k" kind = .err "parse" ∧
    signCfg [ { name := "k", key := .key (.rsa 1 65537), p12 := none, x509file := none, pgpfile := none } ] "k" kind = .err "nocert" ∧
    -- a name that is not configured
    signCfg (oneKey (.rsa 1 65537) (.parsed [⟨10, 1, 1, .rsa 1 65537⟩])) "other" kind = .err "config" := by
  cases kind <;> exact ⟨rfl, rfl, rfl, rfl, rfl, rfl, rfl, rfl, rfl, rfl, rfl⟩

/-- PGP: certificate of another key, an ECDSA entity (go-crypto's own key type), zero or two entities -/
theorem mismatch_cases_pgp :
    let cfg (k : PubKey) (p : PgpSrc) : Config :=
      [ { name := "k", key := .key k, p12 := none, x509file := none, pgpfile := some p } ]
    signCfgPgp (cfg (.rsa 1 65537) (.parsed [⟨1, .rsa 2 65537⟩])) "k" = .err "mismatch" ∧
    signCfgPgp (cfg (.ecdsa 256 3 103) (.parsed [⟨1, .other 9⟩])) "k" = .err "mismatch" ∧
    signCfgPgp (cfg (.rsa 1 65537) (.parsed [])) "k" = .err "pgpcount" ∧
    signCfgPgp (cfg (.rsa 1 65537) (.parsed [⟨1, .rsa 1 65537⟩, ⟨2, .rsa 1 65537⟩])) "k" = .err "pgpcount" ∧
    signCfgPgp (cfg (.rsa 1 65537) .empty) "k" = .panic "parsePGP:blob[0]" :=
  ⟨rfl, rfl, rfl, rfl, rfl⟩

/-- the X.509 certificate is checked before the PGP one, and a PKCS#12 bundle whose first certificate
    belongs to another key is refused although `ParsePKCS12` itself compares nothing -/
theorem p12_mismatch :
    signCfg [ { name := "k", key := .key (.rsa 1 65537), p12 := some (⟨10, 1, 2, .rsa 2 65537⟩, [⟨11, 2, 2, .rsa 1 65537⟩]),
                x509file := none, pgpfile := none } ] "k" .rawChain = .err "mismatch" := rfl

/-- file certificate takes precedence over the token-stored blob: a matching blob does not rescue a
    mismatching file, and a mismatching blob is ignored when a matching file is configured -/
theorem file_overrides_blob :
    loadTokenCertificates (.rsa 1 65537) (some (.parsed [⟨10, 1, 1, .rsa 2 65537⟩])) (some (.parsed [⟨11, 1, 1, .rsa 1 65537⟩])) none
      = .err "mismatch" ∧
    (loadTokenCertificates (.rsa 1 65537) (some (.parsed [⟨11, 1, 1, .rsa 1 65537⟩])) (some (.parsed [⟨10, 1, 1, .rsa 2 65537⟩])) none).isOk
      = true ∧
    loadTokenCertificates (.rsa 1 65537) (some (.parsed [])) (some (.parsed [⟨11, 1, 1, .rsa 1 65537⟩])) none = .err "nocerts" :=
  ⟨rfl, rfl, rfl⟩

/-- With any `SigScheme` whose public keys are represented faithfully (`enc` injective): a signature made
    by the private key verifies under the leaf's public key *because* `SameKey` forces the two public keys
    to be equal – provided the curve exception is excluded for this pair. -/
theorem signature_verifies (S : SigScheme) (enc : S.Pub → PubKey) (henc : ∀ p q, enc p = enc q → p = q)
    (k : S.Priv) (leafPub : S.Pub) (m : Bytes)
    (hsame : sameKeyPub (enc (S.pub k)) (enc leafPub) = true)
    (hpt : NoSharedPoint (enc (S.pub k)) (enc leafPub)) :
    S.verify leafPub m (S.sign k m) = true := by
  have : S.pub k = leafPub := henc _ _ (sameKey_sound_partial _ _ hpt hsame)
  rw [← this]; exact S.sound k m

/-- end to end with a signature scheme: whatever artefact `signCfg` emits, the signature value made with
    the configured private key verifies under the embedded leaf's public key -/
theorem emitted_signature_verifies (S : SigScheme) (enc : S.Pub → PubKey) (henc : ∀ p q, enc p = enc q → p = q)
    (c : Config) (n : String) (kind : SignerKind) (b : Bundle) (a : Artefact)
    (k : S.Priv) (leafPub : S.Pub) (m : Bytes)
    (h : signCfg c n kind = .ok (b, a))
    (hk : a.signedBy = enc (S.pub k)) (hl : a.leaf.pub = enc leafPub)
    (hpt : NoSharedPoint (enc (S.pub k)) (enc leafPub)) :
    S.verify leafPub m (S.sign k m) = true := by
  obtain ⟨_, k0, _, _, _, _, _, _, hs, _, _, hsame, _⟩ := emitted_leaf_matches_key c n kind b a h
  rw [hs] at hk
  rw [hk, hl] at hsame
  exact signature_verifies S enc henc k leafPub m hsame hpt

/-- a toy scheme showing the hypotheses are satisfiable: keys are numbers, pub = id, a signature is the pair -/
abbrev toyScheme : SigScheme where
  Priv := Nat
  Pub := Nat
  Sig := Nat × Bytes
  pub := id
  sign := fun k m => (k, m)
  verify := fun p m s => s.1 == p && s.2 == m
  sound := by intro k m; simp

example : toyScheme.verify 1 [1, 2] (toyScheme.sign 1 [1, 2]) = true :=
  signature_verifies toyScheme (fun p => .rsa p 65537) (by intro p q h; injection h) 1 1 [1, 2] (by decide)
    (by intro c1 c2 x y h; cases h)

end Relic.Props.C07
