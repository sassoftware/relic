/-
  C18 fragment — MSI digest walk (`Relic.Model.MsiDigest`, model of lib/authenticode/msiverify.go and msitar.go):
  `sortMsiFiles` is a permutation, total exactly outside its panic trigger; the digest does not depend on the
  signature streams of the root; the tar path feeds the hash the same bytes as the direct path.
  (`sort_total_no_panic_partial`, a no-panic fact in the manner of C11, stands here with the other facts about the sort.)
-/
import Relic.Proofs.MsiTar
import Relic.Proofs.MsiSortPanic
import Relic.Props.C05_Msi
namespace Relic.Props.C18
open Relic.MsiDigest

variable {β : Type}

/-- **sort_is_permutation.** Whatever the name fields are: when `sortMsiFiles` returns, the slice is a
    permutation of what it was. -/
theorem sort_is_permutation (l s : List (Item β)) (h : sortItems l = .ok s) : s.Perm l :=
  sortRes_perm _ l s h

/-- **less_panics_iff.** The comparison closure of `sortMsiFiles` panics (`index out of range [32] with length
    32`) exactly when both `NameLength` fields exceed 32 and the two 32-slot name arrays are identical; in every
    other case it returns a boolean. -/
theorem less_panics_iff (a b : Meta) (ha : a.slots.length = 32) (hb : b.slots.length = 32) :
    (less a b = .panic "sortMsiFiles" ↔ Trigger a b) ∧ (¬ Trigger a b → ∃ r, less a b = .ok r) := by
  rw [less_eq_sortKey a b ha hb]
  by_cases t : Trigger a b
  · simp [t]
  · simp [t]

/-- **sort_total_no_panic_partial.** If no two entries of the list satisfy the trigger, `sortMsiFiles` returns
    (no panic, no error) – for the insertion sort Go runs on up to 12 elements, which only compares different
    entries.  The converse (every list containing a trigger pair panics) is `sort_panics_iff`. -/
theorem sort_total_no_panic_partial (l : List (Item β)) (hlen : ∀ a ∈ l, a.1.slots.length = 32)
    (h : l.Pairwise (fun a b => ¬ Trigger a.1 b.1)) : ∃ s, sortItems l = .ok s ∧ s.Perm l := by
  refine ⟨_, sortRes_ok _ (fun a b : Item β => RedBlack.lexLt (sortKey a.1) (sortKey b.1)) l ?_, sortP_perm _ l⟩
  refine h.imp_of_mem (fun {a b} ha hb hab => ?_)
  have hba : ¬ Trigger b.1 a.1 := fun t => hab ⟨t.2.1, t.1, t.2.2.symm⟩
  rw [less_eq_sortKey b.1 a.1 (hlen b hb) (hlen a ha), if_neg hba]

/-- **sort_panics_iff.**  `sortMsiFiles` (the insertion sort Go runs on up to 12
    entries) panics on *exactly* the lists that hold a trigger pair anywhere: the comparator is, outside its
    trigger, the strict order of a key (`sortKey`) under which the two entries of a trigger pair are equal, the
    sorted prefix is sorted by that key, so the later entry of the pair cannot come to rest before it is compared
    with an entry of the same key and `NameLength > 32` – which panics.  No hypothesis on the names. -/
theorem sort_panics_iff (l : List (Item β)) (hlen : ∀ a ∈ l, a.1.slots.length = 32) :
    sortItems l = .panic "sortMsiFiles" ↔ ¬ l.Pairwise (fun a b => ¬ Trigger a.1 b.1) := by
  constructor
  · intro hp hpw
    obtain ⟨s, hs, _⟩ := sort_total_no_panic_partial l hlen hpw
    rw [hs] at hp
    cases hp
  · exact sortItems_panics l hlen

/-- the sort has exactly two outcomes: a permutation, or this panic -/
theorem sort_total_or_panics (l : List (Item β)) (hlen : ∀ a ∈ l, a.1.slots.length = 32) :
    (∃ s, sortItems l = .ok s ∧ s.Perm l) ∨ sortItems l = .panic "sortMsiFiles" := by
  by_cases h : l.Pairwise (fun a b => ¬ Trigger a.1 b.1)
  · exact Or.inl (sort_total_no_panic_partial l hlen h)
  · exact Or.inr ((sort_panics_iff l hlen).mpr h)

/-- an entry of 32 units 'a' with `NameLength` 34; taken twice it is a trigger pair -/
def dupLong : Meta := C05.mkMeta (List.replicate 32 97) 34 2

/-- **sort_panics_witness.** The trigger is reachable: a storage listing the same 16-unit-or-longer name twice
    (a malformed file; `comdoc` does not reject it) makes `sortMsiFiles` – hence `DigestMSI`, `VerifyMSI`,
    `MsiToTar` – panic.  The same two names with `NameLength ≤ 32` do not. -/
theorem sort_panics_witness :
    sortItems [(dupLong, (.ok [1] : Res Bytes)), (dupLong, .ok [2])] = .panic "sortMsiFiles" ∧
    Trigger dupLong dupLong ∧
    (sortItems [({ dupLong with nameLen := 32 }, (.ok [1] : Res Bytes)), ({ dupLong with nameLen := 32 }, .ok [2])]).isOk = true := by
  decide +kernel

/-- a trigger pair that is not adjacent, with different `NameLength`s (34 and 36), an unrelated entry between -/
example : sortItems [(dupLong, (.ok [1] : Res Bytes)), (C05.mkMeta [98] 4 2, .ok [2]), ({ dupLong with nameLen := 36 }, .ok [3])]
    = .panic "sortMsiFiles" := by decide +kernel

/-- **sort_unique.** On siblings with well-formed, pairwise distinct names the comparator is a strict total
    order, so *any* sorting algorithm driven by it (Go's pdqsort beyond 12 elements) returns what the model
    returns: every permutation that the comparator calls sorted is the model's result. -/
theorem sort_unique (l s : List (Item β)) (h : SibsOk (l.map (·.1))) (hp : s.Perm l)
    (hs : s.Pairwise (fun a b => less a.1 b.1 = .ok true)) : sortItems l = .ok s := by
  obtain ⟨s', h1, h2, h3⟩ := sortItems_sorted l h
  rw [h1]
  congr 1
  refine (sorted_unique lexOrder (fun it : Item β => nameKey it.1) s s' ?_ h3 (hp.trans h2.symm)).symm
  have hd : l.Pairwise (fun a b => Spec.MsiDigest.specName a.1 ≠ Spec.MsiDigest.specName b.1) :=
    (List.pairwise_map (f := Prod.fst)).mp h.2
  have hd' : s.Pairwise (fun a b => Spec.MsiDigest.specName a.1 ≠ Spec.MsiDigest.specName b.1) :=
    hp.symm.pairwise hd (fun hab e => hab e.symm)
  have hw : ∀ a ∈ s, WfName a.1 := fun a ha => wfName_of_B a.1 (h.1 a.1 (List.mem_map_of_mem (hp.subset ha)))
  have both : s.Pairwise (fun a b => less a.1 b.1 = .ok true ∧
      Spec.MsiDigest.specName a.1 ≠ Spec.MsiDigest.specName b.1) := hs.and hd'
  refine both.imp_of_mem ?_
  intro a b ha hb hab
  have := less_eq_key a.1 b.1 (hw a ha) (hw b hb) hab.2
  rw [hab.1] at this
  injection this with e
  exact e.symm

/-- **msi_digest_ignores_signature.** Two root storages with the same root entry whose children, *apart from
    the entries named "\005DigitalSignature" / "\005MsiDigitalSignatureEx"*, are the same up to `ListDir` order
    (adding, replacing or deleting the signature streams – `InsertMSISignature` – and the re-balancing of the
    directory tree that goes with it; entries of those names *below* the root are content) feed the same bytes to the
    hash and to the pre-hash; both trees satisfying the hypotheses of `msi_order_eq_spec`. -/
theorem msi_digest_ignores_signature (m : Meta) (c₁ c₂ : Bytes) (kids₁ kids₂ : List Node)
    (h₁ : Node.okAt true (.mk m c₁ kids₁)) (h₂ : Node.okAt true (.mk m c₂ kids₂)) (hr : m.typ = typRoot)
    (hk : (kids₁.filter (fun n => !Spec.MsiDigest.isSignatureStream n.meta)).Perm
          (kids₂.filter (fun n => !Spec.MsiDigest.isSignatureStream n.meta))) :
    hashMsiDir (.mk m c₁ kids₁) = hashMsiDir (.mk m c₂ kids₂) ∧
    prehashMsiDir (.mk m c₁ kids₁) = prehashMsiDir (.mk m c₂ kids₂) ∧
    ∀ (H : Bytes → Bytes) ext, digestMSI H (.mk m c₁ kids₁) ext = digestMSI H (.mk m c₂ kids₂) ext := by
  have a₁ := h₁; have a₂ := h₂
  rw [Node.okAt] at a₁ a₂
  have e1 := hashInput_perm m m c₁ c₂ kids₁ kids₂ rfl a₁.1 a₂.1 hk
  have e2 := prehashInput_perm m m c₁ c₂ kids₁ kids₂ rfl a₁.1 a₂.1 hk
  have r1 : hashMsiDir (.mk m c₁ kids₁) = hashMsiDir (.mk m c₂ kids₂) := by
    rw [hashMsiDir_eq _ h₁, hashMsiDir_eq _ h₂, e1]
  have r2 : prehashMsiDir (.mk m c₁ kids₁) = prehashMsiDir (.mk m c₂ kids₂) := by
    rw [prehashMsiDir_eq _ h₁ hr, prehashMsiDir_eq _ h₂ hr, e2]
  refine ⟨r1, r2, ?_⟩
  intro H ext
  unfold digestMSI
  rw [r1, r2]

/-- non-vacuity: the sample tree with its signature stream removed, and with both signature streams present in
    other positions -/
example : hashMsiDir C05.sampleRoot =
    hashMsiDir (.mk (C05.mkMeta [82] 4 5) [] [C05.leaf [98] [1], C05.leaf [97] [2], C05.leaf [97, 98] [3],
      C05.dir [83] [C05.leaf [122] [4], C05.leaf [121] [5]], C05.leaf sigExName [7], C05.leaf sigName [8]]) := by decide +kernel

/-- **tar_equals_direct.** For every hash function `H`, plain and extended, and *every* tree: whenever `MsiToTar`
    succeeds, `DigestMSI` succeeds and the byte stream `DigestMsiTar` feeds to the hash from the tar members is the byte
    stream `DigestMSI` feeds to it.  (The direct walk skips the signature names in the root storage only, as the tar
    form does; `MsiToTar` refuses the root entries whose tar name is reserved, `tarRootOkB`.  archive/tar is taken to
    transport member names and contents unchanged.)  No well-formedness of the names is needed. -/
theorem tar_equals_direct (H : Bytes → Bytes) (ext : Bool) (root : Node)
    (ms : List Member) (ht : msiToTar root = .ok ms) :
    digestMSI H root ext = .ok (digestMsiTar H ext ms) :=
  msiToTar_digest H ext root ms ht

/-- **msiToTar_refuses.** `MsiToTar` refuses, with the tar-name error and before anything else, every tree with a
    reserved tar name in the root storage; a tree it converts has none. -/
theorem msiToTar_refuses (root : Node) :
    (tarRootOkB root.kids = false → msiToTar root = .err "tar-name") ∧
    (∀ ms, msiToTar root = .ok ms → tarRootOkB root.kids = true) := by
  refine ⟨fun h => by unfold msiToTar; simp [h], fun ms h => msiToTar_ok_rootOk root ms h⟩

/-- the statement for the ORIGINAL code (direct walk skipping the signature names in every storage, `MsiToTar`
    refusing nothing) without its hypothesis `tarSafeB` -/
def tar_equals_direct_tree_full_orig : Prop :=
  ∀ (H : Bytes → Bytes) (ext : Bool) (root : Node) (ms : List Member), msiToTarOrig root = .ok ms →
    digestMSIOrig H root ext = .ok (digestMsiTar H ext ms)

/-- a root holding the stream "Plain" and a stream whose *stored* name is U+0005 followed by the MSI encoding of
    "DigitalSignature" (0x430D "Di", 0x432A "gi", 0x4137 "ta", 0x3F2F "lS", 0x42AC "ig", 0x4131 "na", 0x4637 "tu",
    0x4235 "re"): `msiDecodeName` turns it into "\005DigitalSignature" -/
def encodedSigRoot : Node :=
  .mk (C05.mkMeta [82] 4 5) [] [C05.leaf [5, 0x430D, 0x432A, 0x4137, 0x3F2F, 0x42AC, 0x4131, 0x4637, 0x4235] [7, 7],
    C05.leaf [80] [1]]

/-- a root holding "Plain" and the sub-storage "S" with a stream named "\005DigitalSignature" (an embedded signed
    package) -/
def nestedSigRoot : Node :=
  .mk (C05.mkMeta [82] 4 5) [] [C05.dir [83] [C05.leaf sigName [9, 9], C05.leaf [120] [3]], C05.leaf [80] [1]]

/-- **tar_differs_encoded_signature_name.** FINDING Fmsi-tar (repaired), a statement about the original code: without
    the hypothesis the statement was false: `DigestMSI` hashed the content of that stream, `DigestMsiTar` takes its tar
    member for the signature and skips it.  The tree satisfies every hypothesis of `msi_order_eq_spec`.  (Likewise: a
    stream named "__exmeta"; a signature name below the root, `tar_differs_nested_signature_name`; a storage with a
    signature name – ops `tar-exmeta-name`, `nested-sig`, `sig-storage` of the harness.)  The repaired `MsiToTar` refuses
    this tree. -/
theorem tar_differs_encoded_signature_name : ¬ tar_equals_direct_tree_full_orig := by
  intro h
  have := h (fun _ => []) false encodedSigRoot _ rfl
  revert this
  decide +kernel

/-- **tar_differs_nested_signature_name.** The original code on an embedded signed package: the direct walk skipped the
    nested stream, the tar form (and the specification) hash it.  The repaired walk agrees with both. -/
theorem tar_differs_nested_signature_name :
    (∃ ms, msiToTarOrig nestedSigRoot = .ok ms ∧ digestMSIOrig (fun _ => []) nestedSigRoot false ≠ .ok (digestMsiTar (fun _ => []) false ms)) ∧
    hashMsiDirOrig nestedSigRoot ≠ .ok (Spec.MsiDigest.hashInput nestedSigRoot) ∧
    hashMsiDir nestedSigRoot = .ok (Spec.MsiDigest.hashInput nestedSigRoot) ∧
    (∃ ms, msiToTar nestedSigRoot = .ok ms ∧ digestMSI (fun _ => []) nestedSigRoot false = .ok (digestMsiTar (fun _ => []) false ms)) := by
  refine ⟨⟨_, Res.eq_ok_of_isOk [] _ (by decide +kernel), by decide +kernel⟩, by decide +kernel, by decide +kernel,
    ⟨_, Res.eq_ok_of_isOk [] _ (by decide +kernel), by decide +kernel⟩⟩

example : tarSafeB [] encodedSigRoot.kids = false := by decide +kernel
example : tarRootOkB encodedSigRoot.kids = false := by decide +kernel
example : msiToTar encodedSigRoot = .err "tar-name" := by decide +kernel
example : tarRootOkB C05.sampleRoot.kids = true ∧ tarRootOkB nestedSigRoot.kids = true := by decide +kernel
example : Node.okAt true encodedSigRoot := okAtB_sound true encodedSigRoot (by decide +kernel)
example : Node.okAt true nestedSigRoot := okAtB_sound true nestedSigRoot (by decide +kernel)
example : (msiToTar C05.sampleRoot).isOk = true := by decide +kernel

/-- **digestMsiTar_segments.** What the driver prints for the tar path (`tarSegments`) is `DigestMsiTar`'s stream. -/
theorem digestMsiTar_segments (H : Bytes → Bytes) (ext : Bool) : ∀ (ms : List Member),
    digestMsiTar H ext ms = (tarSegments ext ms).flatMap (fun s => if s.1 then H s.2 else s.2)
  | [] => rfl
  | mb :: r => by
    have ih := digestMsiTar_segments H ext r
    unfold digestMsiTar at ih ⊢
    rw [List.flatMap_cons, ih, tarSegments, List.flatMap_append]
    congr 1
    unfold tarContribution
    by_cases h1 : mb.1 = exmetaName
    · cases ext <;> simp [h1]
    · by_cases h2 : mb.1 = sigName ∨ mb.1 = sigExName
      · simp [h1, h2]
      · simp [h1, h2]

end Relic.Props.C18
