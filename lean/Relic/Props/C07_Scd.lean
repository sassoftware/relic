/-
  C07 — the scdaemon token: "a key lookup that resolves to a different key than requested results in an error", and the
  signature is made by the key whose public key GetKey returned.

  `scdToken.GetKey` looks the configured `keys.<name>.id` up in the key infos learnt from the card (the FIRST key info when no
  id is configured), reads that key's public key with `READKEY <KeyId>` and returns a handle; `scdKey.Sign` names the same
  `KeyId` in `PKSIGN`.
-/
import Relic.Proofs.ScdToken
import Relic.Props.C14_Scd
namespace Relic.Props.C07
open Relic.Assuan Relic.ScdToken

/-- a successful GetKey returns a key info of the token whose KeyId IS the configured id (or the first key info when none is
    configured), with a non-empty KeyId, and its public key is what `READKEY <that KeyId>` returned -/
theorem scd_getkey_selects_configured {σ} (dm : Daemon σ) (t : Token σ) (name : String) (k : Key)
    (h : (getKey dm t name).2 = .ok k) :
    ∃ kc, t.conf.keys.find? (·.name = name) = some kc ∧ k.key ∈ t.keyInfos ∧ k.key.keyId ≠ [] ∧
      (kc.id ≠ [] → k.key.keyId = kc.id) ∧ (kc.id = [] → t.keyInfos.head? = some k.key) ∧
      (scdPublic dm t.sock.conn k.key).2 = .ok k.pub := by
  obtain ⟨kc, hk, ⟨-, h0⟩ | ⟨hf, he, hp⟩⟩ := getKeyWith_ok h
  · cases h0
  · obtain ⟨hm, h1, h2⟩ := findKey_spec t.keyInfos kc.id k.key hf
    exact ⟨kc, hk, hm, fun hnil => by simp [hnil] at he, h1, h2, hp⟩

/-- the PKSIGN command: `PKSIGN --hash=<h> <KeyId>` + newline -/
theorem pksign_names_key (h kid : Bytes) : pksignCmd h kid = ascii "PKSIGN --hash=" ++ h ++ [32] ++ kid ++ [10] := rfl

/-- **scd_signature_matches_key** (connection level): against any daemon, `scdKey.Sign` with a named hash is the SETDATA
    transaction followed — when that succeeded — by the transaction `PKSIGN --hash=<h> <KeyId>` for the KeyId of the handle, i.e.
    the KeyId whose public key GetKey read (`scd_getkey_selects_configured`). -/
theorem scd_signature_matches_key {σ} (dm : Daemon σ) (t : Token σ) (k : Key) (d h : Bytes) :
    (keySign dm t k d (.named h)).2 =
      match transact dm t.sock.conn (setdataCmd d) .none with
      | (c, .ok _) =>
        (match transact dm c (pksignCmd h k.key.keyId) (.pin t.pin) with
         | (_, .ok res) => .ok res.blob
         | (_, .fail e) => .fail (pinErr "sign" e)
         | (_, .panic p) => .panic p
         | (_, .block) => .block)
      | (_, .fail e) => .fail e
      | (_, .panic p) => .panic p
      | (_, .block) => .block := by
  unfold keySign scdSign
  simp only
  cases h1 : transact dm t.sock.conn (setdataCmd d) .none with
  | mk c o =>
    cases o with
    | ok r =>
      simp only
      cases h2 : transact dm c (pksignCmd h k.key.keyId) (.pin t.pin) with
      | mk c2 o2 => cases o2 <;> rfl
    | fail e => rfl
    | panic p => rfl
    | block => rfl

/-- (schedule level) whatever the interleaving of concurrent calls on the token, the signature a Sign call receives is made by the
    key of that call -/
theorem scd_signature_key_in_every_schedule (calls : Nat → Sched.Call) (sched : List Nat) (s' : Sched.State)
    (h : Sched.run .locked calls Sched.init sched = some s') (i : Nat) (k : Sched.KeyId) (d : Sched.Digest)
    (hc : calls i = .sign k d) (sig : Sched.Sig) (hr : s'.res i = some (some sig)) : sig.key = k := by
  have := (Relic.Props.C14.scd_sign_pair_atomic calls sched s' h i k d hc).1 _ hr
  simp at this; rw [this]

/-- **scd_getkey_total** (the code as it is): GetKey returns a key, an error, or blocks on a silent daemon — never a panic -/
theorem scd_getkey_total {σ} (dm : Daemon σ) (t : Token σ) (name : String) : (getKey dm t name).2.isPanic = false :=
  getKey_no_panic dm t name

/-- **scd_getkey_unmatched_is_error**: "a key lookup that resolves to no key … results in an error" -/
theorem scd_getkey_unmatched_is_error {σ} (dm : Daemon σ) (t : Token σ) (name : String) (kc : KeyConf)
    (h1 : t.conf.keys.find? (·.name = name) = some kc) (h2 : findKey t.keyInfos kc.id = none) :
    (getKey dm t name).2 = .fail (.msg "notfound") := by rw [getKey_unmatched dm t name kc h1 h2]

/-- the statement for the code BEFORE e11c4f9 -/
def scd_getkey_total_orig_full : Prop := ∀ (t : Token Script) (name : String), (getKeyOrig scripted t name).2.isPanic = false

def scdTcDemo : TokenConf :=
  { serial := [], pin := some (ascii "123456"), getter := none,
    keys := [⟨"first", []⟩, ⟨"k1", ascii "OPENPGP.1"⟩, ⟨"k9", ascii "OPENPGP.9"⟩, ⟨"lower", ascii "openpgp.1"⟩] }

def scdDemoScript : Script := ⟨[(ascii "OK ready\n", false),
  (ascii "S SERIALNO D276\nS KEYPAIRINFO G1 OPENPGP.1\nS KEYPAIRINFO G3 OPENPGP.3\nS KEY-FPR 1 F1\nOK\n", false),
  (ascii "INQUIRE NEEDPIN\nOK\n", false),
  (ascii "D (10:public-key(3:rsa(1:n2:%C3%01)(1:e3:%01%00%01)))\nOK\n", false)]⟩

def scdOutcome {α} : Out α → String
  | .ok _ => "ok"
  | .fail e => "err:" ++ e.cls
  | .panic s => "panic:" ++ s
  | .block => "block"

/-- **scd_getkey_nil_deref_orig** (finding F-SCD-1, fixed by e11c4f9): the token has OPENPGP.1 and OPENPGP.3; a key configured with id
    OPENPGP.9, or with the id in the wrong case, crashed the lookup; the same token answered a matching id and the empty id -/
theorem scd_getkey_nil_deref_orig :
    (match openToken scripted scdDemoScript scdTcDemo with
     | (_, .ok t) => [scdOutcome (getKeyOrig scripted t "k9").2, scdOutcome (getKeyOrig scripted t "lower").2, scdOutcome (getKeyOrig scripted t "k1").2,
                      scdOutcome (getKeyOrig scripted t "first").2, scdOutcome (getKeyOrig scripted t "undefined").2]
     | _ => []) =
    ["panic:scdtoken.GetKey:key.KeyId (nil key)", "panic:scdtoken.GetKey:key.KeyId (nil key)", "ok", "ok", "err:nokeyconf"] := by
  decide +kernel

/-- the same lookups on the code as it is: errors -/
theorem scd_getkey_unmatched_demo :
    (match openToken scripted scdDemoScript scdTcDemo with
     | (_, .ok t) => [scdOutcome (getKey scripted t "k9").2, scdOutcome (getKey scripted t "lower").2, scdOutcome (getKey scripted t "k1").2,
                      scdOutcome (getKey scripted t "first").2, scdOutcome (getKey scripted t "undefined").2]
     | _ => []) =
    ["err:notfound", "err:notfound", "ok", "ok", "err:nokeyconf"] := by
  decide +kernel

theorem scd_getkey_nil_deref_panics_orig :
    (match openToken scripted scdDemoScript scdTcDemo with
     | (_, .ok t) => (getKeyOrig scripted t "k9").2.isPanic
     | _ => false) = true := by
  have hw := scd_getkey_nil_deref_orig
  split at hw
  · rename_i t _
    cases hg : (getKeyOrig scripted t "k9").2 with
    | panic x => rfl
    | fail e => rw [hg] at hw; simpa [scdOutcome] using congrArg String.toList (List.cons.inj hw).1
    | _ => rw [hg] at hw; exact absurd (List.cons.inj hw).1 (by simp [scdOutcome])
  · cases hw

theorem scd_getkey_total_orig_full_false : ¬ scd_getkey_total_orig_full := by
  intro h
  have hw := scd_getkey_nil_deref_panics_orig
  split at hw
  · rw [h] at hw; cases hw
  · cases hw

/-- what held before the repair: when every configured id is the KeyId of some key info of the token (or empty, the token having
    learnt at least one key — which Learn guarantees), the original GetKey did not panic either, on any daemon -/
theorem scd_getkey_total_partial_orig {σ} (dm : Daemon σ) (t : Token σ) (name : String)
    (hcfg : ∀ kc, t.conf.keys.find? (·.name = name) = some kc → findKey t.keyInfos kc.id ≠ none) :
    (getKeyOrig dm t name).2.isPanic = false := by
  cases hp : (getKeyOrig dm t name).2.isPanic with
  | false => rfl
  | true =>
    obtain ⟨kc, h1, h2⟩ := (getKeyOrig_panic_iff dm t name).mp hp
    exact absurd h2 (hcfg kc h1)

example : ∃ (t : Token Script), ∀ kc, t.conf.keys.find? (·.name = "k1") = some kc → findKey t.keyInfos kc.id ≠ none :=
  ⟨{ sock := ⟨{ st := ⟨[]⟩, inbuf := [], closed := false, wdead := false, isNil := false, log := [] }, []⟩, sockNil := false,
     serial := [], pin := [], keyInfos := [⟨[], [], [], ascii "OPENPGP.1"⟩], conf := scdTcDemo }, by decide +kernel⟩

end Relic.Props.C07
