/-
  C01 — Every signature relic produces verifies.   PowerShell part (model `Relic.Model.PS`, code after fixes F8a–F8c and F-ps-eol),
  and the refutation of the property for the code as it was (F8).
-/
import Relic.Proofs.PSLocate
import Relic.Props.C08_PS
namespace Relic.Props.C01
open Relic Relic.PS

/-- **ps_locate_signed.** On the script `Sign → Apply` wrote, the verifier's scan (`VerifyPowershell`, code after fix
    F8c) finds exactly the base64 lines `MakePatch` wrote for the blob, in order: no line of the text is taken for the
    begin marker, every signature line passes the prefix/suffix test and decodes, and the scan stops at the end marker. -/
theorem ps_locate_signed (f : Bytes) (style : Nat) (d : Digest) (st en sig : Bytes) (e : DigestPS f style = .ok d)
    (hs : styleOf style = some (st, en)) (nf : C08.NoFalseMarker f d st en) :
    locate (signedBytes f d st en sig) style = .ok (chunks64 (base64 sig).length (base64 sig)) :=
  locate_signed d.utf16 f style d st en sig e hs (nf.mode e)

/-- **ps_sign_then_redigest.** For every script `DigestPowershell` accepts (any style, UTF-8 or UTF-16LE, signed or not)
    and every blob: the file `Sign → Apply` writes (through the real patch path) is the text followed by the block, and
    the verifier's re-digest of it *succeeds* and hashes exactly the stream that was signed – so for every hash function
    the imprint inside the signature equals the recomputed one. -/
theorem ps_sign_then_redigest (H : Bytes → Bytes) (f : Bytes) (style : Nat) (d : Digest) (sig : Bytes)
    (ps : List Binpatch.Patch) (st en : Bytes) (e : DigestPS f style = .ok d) (hs : styleOf style = some (st, en))
    (nf : C08.NoFalseMarker f d st en) (hm : makePatch d sig = .ok ps) (M : Nat) :
    Binpatch.applyRewrite f (Binpatch.build M ps) = .ok (signedBytes f d st en sig) ∧
    ∃ d', DigestPS (signedBytes f d st en sig) style = .ok d' ∧ H d'.hashed = H d.hashed := by
  refine ⟨C08.ps_signed_file f style d sig ps st en e hs hm M, ?_⟩
  obtain ⟨d', e', hh, _, _⟩ := C08.ps_digest_ignores_signature f style d st en sig e hs nf
  exact ⟨d', e', by rw [hh]⟩

/-- **ps_sign_then_verify.** The complete statement for PowerShell scripts (any style, UTF-8 or UTF-16LE, unsigned or
    already signed): on the file `Sign → Apply` wrote, the verifier's scan finds exactly the base64 lines of the embedded
    blob, and its re-digest succeeds and hashes exactly the stream that was signed. -/
theorem ps_sign_then_verify (f : Bytes) (style : Nat) (d : Digest) (st en sig : Bytes) (e : DigestPS f style = .ok d)
    (hs : styleOf style = some (st, en)) (nf : C08.NoFalseMarker f d st en) :
    locate (signedBytes f d st en sig) style = .ok (chunks64 (base64 sig).length (base64 sig)) ∧
    ∃ d', DigestPS (signedBytes f d st en sig) style = .ok d' ∧ d'.hashed = d.hashed := by
  obtain ⟨d', e', hh, _, _⟩ := C08.ps_digest_ignores_signature f style d st en sig e hs nf
  exact ⟨ps_locate_signed f style d st en sig e hs nf, d', e', hh⟩

/-- `上` + CRLF as UTF-16LE with BOM: a one-line script every PowerShell accepts -/
def bmpScript : Bytes := [0xff, 0xfe, 0x0a, 0x4e, 0x0d, 0x00, 0x0a, 0x00]

/-- **ps_orig_refuses_bmp (F8a).** The original `readLine` ends a line at the 0x0A *byte* of U+4E0A and then demands a
    zero byte: the script is refused ("malformed utf16"), so it cannot be signed.  The fixed code digests it, and the
    stream is the whole text. -/
theorem ps_orig_refuses_bmp :
    DigestPSOrig bmpScript 1 = .err "malformed" ∧ DigestPS bmpScript 1 = .ok ⟨bmpScript, 8, 0, true, 1⟩ := by
  decide +kernel

/-- a script whose first line is the begin marker -/
def markerFirst : Bytes := firstLine (ascii "# ") [] false ++ lastLine (ascii "# ") [] false

/-- **ps_orig_marker_first_panics (F8b).** With the marker on the first line the original code evaluates
    `saved[:len(saved)-2]` on an empty string: a panic, not an error.  The fixed code returns an error. -/
theorem ps_orig_marker_first_panics :
    DigestPSOrig markerFirst 1 = .panic "DigestPowershell:saved[:len-eol]" ∧ DigestPS markerFirst 1 = .err "badsig" := by
  decide +kernel

/-- a block whose only signature line is the comment delimiters, which overlap: `/* */` -/
def overlapSig : Bytes :=
  ascii "x\r\n" ++ firstLine (ascii "/* ") (ascii " */") false ++ ascii "/* */\r\n" ++ lastLine (ascii "/* ") (ascii " */") false

/-- **ps_orig_verify_overlap_panics (F8c).** `VerifyPowershell` accepts `/* */` as having both the prefix `/* ` and the
    suffix ` */`, and slices `lstr[3:2]`: a panic in the verifier.  The fixed code reports a malformed signature. -/
theorem ps_orig_verify_overlap_panics :
    locateOrig overlapSig 3 = .panic "VerifyPowershell:lstr[i:j]" ∧ locate overlapSig 3 = .err "badsig" := by
  decide +kernel

set_option maxRecDepth 1000000 in
example : C08.chainOk C08.scriptText 1 [1, 2, 3, 4] [9] = true ∧ C08.chainOk C08.script16 3 [1, 2, 3, 4] [9] = true :=
  ⟨C08.chain_facts.1, C08.chain_facts.2.2.2.2.2.2⟩

end Relic.Props.C01
