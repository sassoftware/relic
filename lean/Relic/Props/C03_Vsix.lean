/-
  C03 — Signing never corrupts or alters the payload.   VSIX / OPC part (model `Relic.Model.Vsix` of signers/vsix):
  the signed package is the sub-list of the input's parts that `keepFile` accepts — byte-identical, in the original
  order, duplicates included — followed by the parts the signer writes, whose names are given in closed form.  Everything
  `keepFile` refuses is dropped; that is more than the old package signature: every part with extension `.rels`, `.psdor`,
  `.psdsxs` anywhere in the package goes, relationship parts of payload parts included (`vsix_foreign_parts_dropped`: a listed
  finding).  The ZIP layer underneath (members kept byte for byte, new members appended) is C03_Zip.
-/
import Relic.Props.C01_Vsix
namespace Relic.Props.C03
open Relic.Vsix

theorem vsix_keepFile_iff (fp : Bytes) : keepFile fp = true ↔
    fp ≠ sRootRelsDir ∧ fp ≠ sContentTypes ∧ pathExt fp ≠ extRels ∧ pathExt fp ≠ extPsdsxs ∧ pathExt fp ≠ extPsdor ∧
      sDigSigSlash.isPrefixOf fp = false := by
  unfold keepFile
  by_cases h1 : fp = sRootRelsDir ∨ fp = sContentTypes
  · rcases h1 with h | h <;> simp [h]
  · by_cases h2 : pathExt fp = extRels ∨ pathExt fp = extPsdsxs ∨ pathExt fp = extPsdor
    · rcases h2 with h | h | h <;> simp [h1, h]
    · simp only [h1, h2, if_false]
      simp only [not_or] at h1 h2
      cases hp : sDigSigSlash.isPrefixOf fp <;> simp [h1, h2]

/-- **vsix_payload_preserved.** Whatever the package holds, before (`fx = false`) and after the repairs: after a successful
    `sign` the output is the input's kept parts (`keepFile`), byte-identical and in order, followed by new parts whose names
    are `newNames c`: `_rels/.rels`, `package/services/digital-signature/_rels/origin.psdor.rels`, `…/origin.psdor`, with
    `--detach-certs` one `…/certificate/<name>.cer` per chain certificate and `…/xml-signature/_rels/<name>.psdsxs.rels`, then
    `…/xml-signature/<name>.psdsxs` and `[Content_Types].xml`. -/
theorem vsix_payload_preserved (fx : Bool) (E : Env) (c : Cfg) (pkg : Pkg) (s : Vsix.Signed) (hs : Vsix.sign fx E c pkg = .ok s) :
    s.kept = pkg.filter (fun p => keepFile p.name) ∧
    ∃ news, s.parts = s.kept ++ news ∧ news.map (·.name) = newNames c := by
  obtain ⟨hk, hparts, -, -⟩ := sign_shape hs
  exact ⟨hk, _, hk ▸ hparts, newsOf_names E c s.obj s.ctOut⟩

/-- with the signer's names in order (`cfgOk`): the payload sub-list of the output *is* the payload sub-list of the input -/
theorem vsix_payload_sublist_eq (fx : Bool) (E : Env) (c : Cfg) (pkg : Pkg) (s : Vsix.Signed) (hs : Vsix.sign fx E c pkg = .ok s) (hc : cfgOk c = true) :
    s.parts.filter (fun p => keepFile p.name) = pkg.filter (fun p => keepFile p.name) := by
  obtain ⟨-, hparts, -, -⟩ := sign_shape hs
  rw [hparts]
  exact keptOf_signed (cfgFacts_of_cfgOk hc) E pkg s.obj s.ctOut

theorem vsix_dropped_iff (fx : Bool) (E : Env) (c : Cfg) (pkg : Pkg) (s : Vsix.Signed) (hs : Vsix.sign fx E c pkg = .ok s) (p : Part) (hp : p ∈ pkg)
    (hn : p.name ∉ newNames c) : p ∈ s.parts ↔ keepFile p.name = true := by
  obtain ⟨hk, news, hparts, hnames⟩ := vsix_payload_preserved fx E c pkg s hs
  rw [hparts, hk, List.mem_append, List.mem_filter]
  constructor
  · rintro (h | h)
    · exact h.2
    · exact absurd (by rw [← hnames]; exact List.mem_map_of_mem h) hn
  · intro h
    exact Or.inl ⟨hp, h⟩

/-- parts that belong to the package signature by the OPC rules: the content types stream, the package relationships,
    everything below `package/services/digital-signature/` -/
def sigMachinery (n : Bytes) : Bool := n == sContentTypes || n == sTopRels || sDigSigSlash.isPrefixOf n

/-- the statement one would want (repaired code): every part that is not signature machinery survives signing -/
def vsix_payload_preserved_full : Prop :=
  ∀ (E : Env) (c : Cfg) (pkg : Pkg) (s : Vsix.Signed), Vsix.sign true E c pkg = .ok s → ∀ p ∈ pkg, sigMachinery p.name = false → p ∈ s.parts

/-- "x.rels" -/
def xRelsName : Bytes := [0x78, 0x2e, 0x72, 0x65, 0x6c, 0x73]

/-- **vsix_foreign_parts_dropped** (finding FV2, listed; the repairs do not touch `keepFile`).  The part `x.rels` of the demo
    package is not signature machinery; signing succeeds and the part is gone (so is every `*.rels`, `*.psdor`, `*.psdsxs`
    anywhere: `vsix_keepFile_iff`). -/
theorem vsix_foreign_parts_dropped :
    (⟨xRelsName, [3]⟩ : Part) ∈ demoPkg ∧ sigMachinery xRelsName = false ∧
    Vsix.sign true (demoE (demoCfg false) demoPkg) (demoCfg false) demoPkg = .ok (demoSigned true (demoCfg false) demoPkg) ∧
    (demoSigned true (demoCfg false) demoPkg).parts.all (fun q => q.name ≠ xRelsName) = true :=
  ⟨by decide, by decide, C01.demo_signed true false, by decide +kernel⟩

theorem vsix_payload_preserved_full_false : ¬ vsix_payload_preserved_full := by
  intro h
  have := h _ _ _ _ vsix_foreign_parts_dropped.2.2.1 _ vsix_foreign_parts_dropped.1 vsix_foreign_parts_dropped.2.1
  have hall := vsix_foreign_parts_dropped.2.2.2
  rw [List.all_eq_true] at hall
  have := hall _ this
  simp at this

/-- the kept parts of the demo package: `a.txt` alone (content types, `x.rels` and the stale origin part are dropped) -/
example : (demoSigned true (demoCfg true) demoPkg).kept = [⟨[0x61, 0x2e, 0x74, 0x78, 0x74], [1, 2]⟩] ∧
    (demoSigned true (demoCfg true) demoPkg).parts.length = 8 := by decide +kernel

end Relic.Props.C03
