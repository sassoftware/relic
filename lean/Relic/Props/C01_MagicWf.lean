/-
  C01 (fragment): every file a format model accepts is detected as that format — or the exact exceptions.

  For each format with a Lean model: what the model's acceptance implies about the bytes `Detect` looks at, hence the
  verdict, under the explicit side conditions that no earlier rule of the decision list pre-empts it.  Each exception is a
  witness accepted by the format model (where one exists) and mis-detected; the correspondence replays them on the real
  code (known findings magic:*).  The ZIP family is decided by member names in directory order.
-/
import Relic.Proofs.MagicDispatch
import Relic.Proofs.ZipCodec
import Relic.Proofs.Cab
import Relic.Model.MachO
import Relic.Model.Cfb
import Relic.Props.C01_Magic
import Relic.Props.C08
namespace Relic.Props.C01
open Relic.Magic

/-- what a single member name decides: the marker names (after `path.Clean`, with a leading `/` made relative), the IPA
    suffixes -/
theorem hit_spec (n : Bytes) : hit n =
    if zipName n = nAndroid then some .apk else if zipName n = nXap then some .xap
    else if zipName n = nAppx then some .appx else if zipName n = nBundle then some .appx
    else if zipName n = nVsix then some .vsix
    else if isSuffix sIpa1 (zipName n) || isSuffix sIpa2 (zipName n) then some .ipa else none := by
  simp only [hit, markers, List.lookup, isIpaName, ipaSuffixes, List.any_cons, List.any_nil, Bool.or_false]
  by_cases h1 : zipName n = nAndroid
  · simp [h1]
  by_cases h2 : zipName n = nXap
  · simp [h2]; decide
  by_cases h3 : zipName n = nAppx
  · simp [h3]; decide
  by_cases h4 : zipName n = nBundle
  · simp [h4]; decide
  by_cases h5 : zipName n = nVsix
  · simp [h5]; decide
  have b1 : (zipName n == nAndroid) = false := by simpa using h1
  have b2 : (zipName n == nXap) = false := by simpa using h2
  have b3 : (zipName n == nAppx) = false := by simpa using h3
  have b4 : (zipName n == nBundle) = false := by simpa using h4
  have b5 : (zipName n == nVsix) = false := by simpa using h5
  simp [h1, h2, h3, h4, h5, b1, b2, b3, b4, b5]

/-- ZIP sub-types, exactly: `detectZip` answers with the type of the *first* member (central-directory order) whose
    cleaned name is a marker or ends in an IPA suffix; if there is none, JAR iff some member cleans to
    `META-INF/MANIFEST.MF`, else Unknown. -/
theorem detectZip_exact (names : List Bytes) (t : FileType) :
    detectZip (some names) = t ↔
      (∃ pre n post, names = pre ++ n :: post ∧ (∀ m ∈ pre, hit m = none) ∧ hit n = some t) ∨
      ((∀ n ∈ names, hit n = none) ∧ t = if names.any isManifest then .jar else .unknown) := by
  show classifyLoop false names = t ↔ _
  rw [classifyLoop_findSome, first_match_iff]
  simp

/-- no member name decides for JAR: that verdict is left to the end of the walk -/
theorem hit_ne_jar (n : Bytes) : hit n ≠ some .jar := by
  have hm : ∀ p ∈ markers, p.2 ≠ FileType.jar := by decide
  fun_cases hit n
  case case1 t x =>
    obtain ⟨l₁, l₂, e, _⟩ := List.lookup_eq_some_iff.mp x
    intro ht
    cases ht
    exact hm (zipName n, .jar) (by rw [e]; simp) rfl
  all_goals nofun

theorem detectZip_jar_iff (names : List Bytes) :
    detectZip (some names) = .jar ↔ (∀ n ∈ names, hit n = none) ∧ ∃ n ∈ names, zipName n = nManifest := by
  rw [detectZip_exact]
  constructor
  · rintro (⟨pre, n, post, _, _, hhit⟩ | ⟨hall, ht⟩)
    · exact absurd hhit (hit_ne_jar n)
    · refine ⟨hall, ?_⟩
      by_cases ha : names.any isManifest = true
      · simpa [List.any_eq_true, isManifest] using ha
      · simp [ha] at ht
  · rintro ⟨hall, n, hn, hm⟩
    refine Or.inr ⟨hall, ?_⟩
    have : names.any isManifest = true := by
      simp only [List.any_eq_true]
      exact ⟨n, hn, by simp [isManifest, hm]⟩
    simp [this]

/-- an archive `archive/zip` cannot open is Unknown; so is an empty one -/
theorem detectZip_degenerate : detectZip none = .unknown ∧ detectZip (some []) = .unknown := by decide

/-- `PK\x03\x04` at offset 0 sends the file to `detectZip`; gzip / xz cannot also match -/
theorem detectCompressed_zip (bs : Bytes) (zn : Option (List Bytes)) (h : atPos bs pZip 0 = true) :
    detectCompressed bs zn = (detectZip zn, .none) := by
  unfold detectCompressed
  have h1 : atPos bs pGzip 0 = false := atPos0_excl (q := [0x8b]) h (by decide)
  have h2 : atPos bs pXz 0 = false := atPos0_excl (q := pXz.tail) h (by decide)
  simp [h1, h2, h]

/-- the order of the members decides (witnesses): an APK is an APK even with the JAR manifest first; a JAR with a resource
    called `AndroidManifest.xml` is an APK; an APK that ships `x.app/Info.plist` before its manifest is an IPA; the names
    are cleaned (`./X`, `/X`, `a/../X`, `X/` all count) but compared case-sensitively -/
theorem detectZip_witnesses :
    detectZip (some [nManifest, nAndroid]) = .apk ∧
    detectZip (some [nManifest, [97], nAndroid]) = .apk ∧
    detectZip (some [[120] ++ sIpa1, nAndroid]) = .ipa ∧
    detectZip (some [nAndroid, [120] ++ sIpa1]) = .apk ∧
    detectZip (some [[46, 47] ++ nAndroid]) = .apk ∧ detectZip (some [[47] ++ nAndroid]) = .apk ∧
    detectZip (some [[97, 47, 46, 46, 47] ++ nAndroid]) = .apk ∧ detectZip (some [nAndroid ++ [47]]) = .apk ∧
    detectZip (some [[97, 47] ++ nAndroid]) = .unknown ∧
    detectZip (some [[97] ++ nAndroid.tail]) = .unknown ∧
    detectZip (some [[109, 101, 116, 97, 45, 105, 110, 102, 47, 109, 97, 110, 105, 102, 101, 115, 116, 46, 109, 102]]) = .unknown := by
  decide +kernel

/-- link to the ZIP model: a member whose local header relic's reader (`zipslicer`) accepts at offset 0 means the file
    starts with `PK\x03\x04`, i.e. the file goes to `detectZip` -/
theorem detect_wf_zip_prefix (r : Zip.Rd) (f : Zip.File) (l : Zip.Lfh) (r' : Zip.Rd)
    (hnone : f.lfh = none) (hoff : f.offset = 0) (h : Zip.readLocalHeader r f = .ok (l, r')) : atPos r.z pZip 0 = true := by
  unfold Zip.readLocalHeader at h
  simp only [hnone, hoff] at h
  cases hr : r.readFullAt 0 30 with
  | ok p =>
    obtain ⟨b, r1⟩ := p
    simp only [hr] at h
    rw [Zip.Rd.readFullAt, if_neg (by decide)] at hr
    obtain ⟨_, hlen, hb, _⟩ := Zip.Rd.readAt_ok hr
    split at h
    · cases h
    · rename_i hsig
      have hv : leVal (r.z.take 4) = Zip.sigFile := by
        have := Decidable.of_not_not hsig
        rw [hb] at this
        simpa [Zip.fld, List.take_take] using this
      exact atPos0_of_leVal (by decide) (by simp only [pZip, List.length_cons, List.length_nil]; omega) (hv.trans (by decide))
  | err e => simp [hr] at h
  | panic s => simp [hr] at h
  | diverge => simp [hr] at h

/-- **PE.**  Every image whose headers relic's PE reader accepts (`readHeaders`, the first step of `DigestPE`) with
    `64 ≤ e_lfanew < 65536` is detected as PE/COFF (since the repair of FM1; before: `e_lfanew + 4 ≤ 4096`), provided no
    earlier rule pre-empts (no certTrustList / signedData OID in the first 256 bytes, no `ustar` at 257). -/
theorem detect_wf_pe (f : Bytes) (h : PE.Headers) (e : PE.readHeaders f = .ok h) (h64 : 64 ≤ PE.u32 f 0x3c)
    (hbuf : PE.u32 f 0x3c < 65536) (hc : hasCtl f = false) (hs : hasSignedData f = false) (ht : isTar f = false) :
    detect f = .pecoff := by
  have F := PE.readHeaders_full f h h64 e
  have hsig := F.sig
  rw [F.pe] at hsig
  have hlen : PE.u32 f 60 + 4 ≤ f.length := by
    have : (PE.seg f (PE.u32 f 60) (PE.u32 f 60 + 4)).length = 4 := by rw [hsig]; rfl
    simp [PE.seg, List.length_take, List.length_drop] at this
    omega
  have hrel : reloc f = PE.u32 f 60 := by
    rw [reloc_low_half]
    exact Nat.mod_eq_of_lt hbuf
  rw [detect_pecoff_iff]
  refine ⟨hc, hs, ht, ?_, ?_⟩
  · rw [atPos0_iff]
    refine ⟨by decide, ?_⟩
    have := F.mz
    show f.take 2 = [77, 90]
    simpa [PE.seg] using this
  · rw [mzProbe_iff, hrel]
    refine ⟨by omega, by simp only [bufSize]; omega, hlen, ?_⟩
    have : PE.seg f (PE.u32 f 60) (PE.u32 f 60 + 4) = (f.drop (PE.u32 f 60)).take 4 := by
      unfold PE.seg; congr 1; omega
    rw [← this, hsig]; rfl

set_option maxRecDepth 100000 in
/-- the model's own minimal image satisfies the hypotheses, and is detected -/
example : (PE.readHeaders C08.minimalPE).isOk = true ∧ 64 ≤ PE.u32 C08.minimalPE 0x3c ∧ hasCtl C08.minimalPE = false ∧
    detect C08.minimalPE = .pecoff := by decide +kernel

/-- **CAB.**  Every cabinet `cabfile.Digest` accepts is detected as CAB unless an OID in the first 256 bytes or `ustar` at
    257 pre-empts it. -/
theorem detect_wf_cab (f : Bytes) (d : Cab.Digest) (e : Cab.DigestCab f = .ok d)
    (hc : hasCtl f = false) (hs : hasSignedData f = false) (ht : isTar f = false) : detect f = .cab := by
  have H := Cab.DigestCab_spec f d e
  rw [detect_cab_iff]
  refine ⟨hc, hs, ht, atPos0_of_leVal (by decide) ?_ (H.magic.trans (by decide))⟩
  have := H.len
  simp only [pCab, List.length_cons, List.length_nil]
  omega

/-- **Mach-O.**  Every thin image `machos.scanFile` accepts — in either byte order, since the repair of FM3 — is detected
    as Mach-O unless an OID / `ustar` / `…assembly` in the first 256 bytes pre-empts it. -/
theorem detect_wf_macho (f : Bytes) (m : MachO.Markers) (e : MachO.scan f = .ok m)
    (hc : hasCtl f = false) (hs : hasSignedData f = false) (ht : isTar f = false) (ha : hasAsm f = false) : detect f = .machO := by
  rw [detect_machO_iff]
  refine ⟨hc, hs, ht, ha, ?_⟩
  have hlen : ¬ f.length < 4 := by
    intro hlt
    rw [MachO.scan, if_pos hlt] at e
    cases e
  have hl : pMacho64.length ≤ f.length := by
    simp only [pMacho64, List.length_cons, List.length_nil]
    omega
  -- `scanFile` went on: the first four bytes, read in one of the two orders, are one of the two magics
  have hm : (MachO.readMagic f).isSome := by
    cases hm : MachO.readMagic f with
    | some _ => rfl
    | none =>
      rw [MachO.scan, if_neg hlen, hm] at e
      cases e
  unfold MachO.readMagic at hm
  simp only at hm
  split at hm
  · rename_i hv
    rcases (show beVal (f.take 4) = 0xfeedface ∨ beVal (f.take 4) = 0xfeedfacf by omega) with hv' | hv'
    · have : atPos f pMacho32BE 0 = true := atPos0_of_beVal (by decide) hl (hv'.trans (by decide))
      simp [this]
    · have : atPos f pMacho64BE 0 = true := atPos0_of_beVal (by decide) hl (hv'.trans (by decide))
      simp [this]
  · split at hm
    · rename_i hv
      rcases (show leVal (f.take 4) = 0xfeedface ∨ leVal (f.take 4) = 0xfeedfacf by omega) with hv' | hv'
      · have : atPos f pMacho32 0 = true := atPos0_of_leVal (by decide) hl (hv'.trans (by decide))
        simp [this]
      · have : atPos f pMacho64 0 = true := atPos0_of_leVal (by decide) hl (hv'.trans (by decide))
        simp [this]
    · cases hm

/-- **PowerShell / DMG.**  A file whose content `DetectCompressed` does not recognise (Unknown, not compressed) is dispatched
    by its name: `filepath.Ext` among the seven PowerShell extensions → `ps`; suffix `.dmg` → `dmg`.  Case-sensitive. -/
theorem detect_wf_ps_dmg (name bs : Bytes) (zn : Option (List Bytes)) (hn : name ≠ [45])
    (hd : detectCompressed bs zn = (.unknown, .none)) :
    (psExts.contains (ext name) = true → byFile name [] bs zn = .ok sPs) ∧
    (isSuffix extDmg name = true → byFile name [] bs zn = .ok sDmg) := by
  constructor
  · intro h
    have := byFileName_of_test (t := .ps) (s := sPs) (by decide) rfl (by decide) h
    simp [byFile, byFileIn, hn, hd, byMagicIn, this]
  · intro h
    have := byFileName_of_test (t := .dmg) (s := sDmg) (by decide) rfl (by decide) h
    simp [byFile, byFileIn, hn, hd, byMagicIn, this]

/-- content is looked at before the name: the detected module wins over the extension -/
theorem content_before_filename (name bs : Bytes) (zn : Option (List Bytes)) (m : Signer) (hn : name ≠ [45])
    (hc : (detectCompressed bs zn).2 = .none) (hm : byMagic (detectCompressed bs zn).1 = some m) :
    byFile name [] bs zn = .ok m := by
  unfold byFile byFileIn
  unfold byMagic at hm
  simp [hn, hc, hm]

/-- **DEB / RPM / MSI** are decided by their first bytes alone (`!<arch>\ndebian`; `ED AB EE DB`; `D0 CF`) — for
    MSI unless an OID / `ustar` pre-empts.  The DEB model (`signdeb`) never compares the global header
    nor requires `debian-binary` first; `Detect` does. -/
theorem detect_wf_by_prefix (rest : Bytes) :
    detect (pDeb ++ rest) = .deb ∧ detect (pRpm ++ rest) = .rpm ∧
    (hasCtl (pCfb ++ rest) = false → hasSignedData (pCfb ++ rest) = false → isTar (pCfb ++ rest) = false → detect (pCfb ++ rest) = .msi) := by
  refine ⟨?_, ?_, ?_⟩
  · rw [detect_deb_iff, atPos0_iff]; exact ⟨by decide, by simp [pDeb]⟩
  · rw [detect_rpm_iff, atPos0_iff]; exact ⟨by decide, by simp [pRpm]⟩
  · intro h1 h2 h3
    rw [detect_msi_iff]
    refine ⟨h1, h2, h3, ?_⟩
    rw [atPos0_iff]; exact ⟨by decide, by simp [pCfb]⟩

/-- **MSI.**  Every compound file whose header `comdoc` accepts (`readHeader`: the 8-byte signature and a complete
    512-byte header) is detected as MSI — `Detect` compares only the first two signature bytes — unless an OID in the first
    256 bytes or `ustar` at 257 pre-empts it.  (Every CFB file is "MSI" to relic: .doc, .xls, .msp alike.) -/
theorem detect_wf_msi (b : Cfb.Buf) (h : Cfb.Header) (e : Cfb.readHeader b = .ok h)
    (hc : hasCtl b.toList = false) (hs : hasSignedData b.toList = false) (ht : isTar b.toList = false) :
    detect b.toList = .msi := by
  have hm : b.toList.take 8 = Cfb.magic := by
    unfold Cfb.readHeader at e
    cases hb : Cfb.bytes? b 0 8 with
    | none => simp [hb] at e
    | some m =>
      simp only [hb] at e
      by_cases hm : m = Cfb.magic
      · unfold Cfb.bytes? at hb
        split at hb
        · injection hb with hb
          rw [← hm, ← hb]
          simp [Array.toList_extract]
        · cases hb
      · simp [hm] at e
        cases e
  rw [detect_msi_iff]
  refine ⟨hc, hs, ht, ?_⟩
  rw [atPos0_iff]
  refine ⟨by decide, ?_⟩
  have : (b.toList.take 8).take 2 = b.toList.take 2 := by rw [List.take_take]; rfl
  show b.toList.take 2 = pCfb
  rw [← this, hm]; rfl

/-- a PE image with `e_lfanew = 4096` (a 4 KiB DOS stub): accepted by the PE model's `readHeaders` -/
def deepStubPE : Bytes :=
  [0x4d, 0x5a] ++ List.replicate 58 0 ++ [0, 0x10, 0, 0] ++ List.replicate 4032 0 ++
  [0x50, 0x45, 0, 0] ++ [0x4c, 0x01, 0, 0] ++ List.replicate 12 0 ++ [224, 0] ++ [0, 0] ++
  [0x0b, 0x01] ++ List.replicate 58 0 ++ [0xf8, 0x10, 0, 0] ++ List.replicate 28 0 ++ [16, 0, 0, 0] ++
  List.replicate 128 0 ++ [1, 2, 3]

/-- **the original 4096-byte reader (finding FM1).**  That image was Unknown to `Detect`, hence "unknown filetype" without
    `--sig-type`; through the 65540-byte reader it is PE/COFF and dispatched to `pe-coff` -/
theorem detect_wf_pe_exception_deep_stub :
    (PE.readHeaders deepStubPE).isOk = true ∧ 64 ≤ PE.u32 deepStubPE 0x3c ∧ detectOrigFM1 deepStubPE = .unknown ∧
    detect deepStubPE = .pecoff ∧ byFile [120, 46, 101, 120, 101] [] deepStubPE none = .ok sPe := by decide +kernel

/-- what remains of FM1: the probe reads the 32-bit `e_lfanew` as 16 bits.  For every file with a complete DOS header the
    offset it looks at is `e_lfanew mod 65536` — an image whose PE header starts at 64 KiB or later is probed in the wrong
    place (relic's PE reader follows the full 32-bit value).  (The equation holds for every `f`, `Magic.reloc_low_half`:
    both sides read missing bytes as absent; the length hypothesis only says when `e_lfanew` is a complete field.) -/
theorem mz_probe_reads_low_half (f : Bytes) (h : 0x40 ≤ f.length) : reloc f = PE.u32 f 0x3c % 65536 :=
  reloc_low_half f

/-- the low half alone decides: `e_lfanew = 0x10040` with `PE\0\0` at 0x40 is PE/COFF to `Detect` although the PE reader,
    which looks at 0x10040, finds the file too short -/
theorem detect_wf_pe_exception_lfanew_32bit :
    detect ([77, 90] ++ List.replicate 58 0 ++ [0x40, 0, 1, 0] ++ [80, 69, 0, 0]) = .pecoff ∧
    PE.readHeaders ([77, 90] ++ List.replicate 58 0 ++ [0x40, 0, 1, 0] ++ [80, 69, 0, 0]) = .err "eof" := by decide +kernel

/-- the same image as `C08.minimalPE` with the signedData OID in its (otherwise unused) DOS header: still accepted by the PE
    model, detected as PKCS#7 -/
def oidPE : Bytes :=
  [0x4d, 0x5a] ++ [0, 0] ++ pOidSigned ++ List.replicate 45 0 ++ [64, 0, 0, 0] ++ (C08.minimalPE.drop 64)

theorem detect_wf_pe_exception_oid :
    (PE.readHeaders oidPE).isOk = true ∧ detect oidPE = .pkcs7 := by decide +kernel

/-- **the original table (finding FM3).**  A big-endian Mach-O header passes `readMagic` (both byte orders are read) but was
    Unknown to `Detect`; with the two magics added it is Mach-O -/
theorem detect_wf_macho_exception_big_endian :
    MachO.readMagic [0xfe, 0xed, 0xfa, 0xcf, 0, 0, 0, 0] = some (true, 0xfeedfacf) ∧
    detectOrigFM3 ([0xfe, 0xed, 0xfa, 0xcf] ++ List.replicate 28 0) = .unknown ∧
    detectOrigFM3 ([0xfe, 0xed, 0xfa, 0xce] ++ List.replicate 24 0) = .unknown ∧
    detect ([0xfe, 0xed, 0xfa, 0xcf] ++ List.replicate 28 0) = .machO ∧
    detect ([0xfe, 0xed, 0xfa, 0xce] ++ List.replicate 24 0) = .machO := by decide +kernel

/-- a PowerShell script that mentions `$script:assembly…` within its first 256 bytes goes to the application-manifest
    signer although it is called `t.ps1`; the same text 260 bytes further down is fine; an upper-case extension is not
    recognised -/
theorem detect_wf_ps_exception :
    byFile [116, 46, 112, 115, 49] [] ([36, 115, 99, 114, 105, 112, 116] ++ pAsm2 ++ [32, 61, 32, 49, 10]) none = .ok sAppmanifest ∧
    byFile [116, 46, 112, 115, 49] [] (List.replicate 260 32 ++ [36, 115, 99, 114, 105, 112, 116] ++ pAsm2) none = .ok sPs ∧
    byFile [84, 46, 80, 83, 49] [] [36, 120, 10] none = .error .unknownType := by decide +kernel

/-- an application manifest whose root element starts beyond byte 256 (a licence comment first) is Unknown -/
theorem detect_wf_appmanifest_exception :
    detect ([60, 33, 45, 45] ++ List.replicate 250 120 ++ [45, 45, 62] ++ pAsm1 ++ [47, 62]) = .unknown ∧
    detect ([60, 33, 45, 45] ++ List.replicate 200 120 ++ [45, 45, 62] ++ pAsm1 ++ [47, 62]) = .appManifest := by decide +kernel

end Relic.Props.C01
