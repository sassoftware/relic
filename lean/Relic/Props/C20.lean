/-
  C20 — Health reporting follows token state with the configured hysteresis.
  Property theorems about `Relic.Model.Health` (model of healthCheck / Healthy / serveHealth in
  /repo/server/view_health.go) and about the loop skeleton regenerated from `healthCheckLoop`
  (`Relic.Generated.HealthLoop.term`, language and semantics in `Relic.Model.HealthLoop`).
-/
import Relic.Proofs.Health
import Relic.Proofs.Lists
import Relic.Generated.HealthLoop
namespace Relic.Props.C20
open Relic.Health Relic.HealthLoop

/-- **status_counts_trailing_failures.** For every threshold `N ≥ 1`, start time and history of
    completed checks, the counter equals `N` minus the number of most recent consecutive failures,
    cut off at `0`; hence it is positive exactly when fewer than `N` trailing checks failed. -/
theorem status_counts_trailing_failures (N t0 : Int) (hN : 1 ≤ N) (h : History) :
    (Health.run N t0 h).status = N - min N (trailingFailures (h.map (·.1)) : Int) ∧
    ((Health.run N t0 h).status > 0 ↔ (trailingFailures (h.map (·.1)) : Int) < N) := by
  have e : (Health.run N t0 h).status = N - min N (trailingFailures (h.map (·.1)) : Int) := by rw [run_eq, if_pos hN]
  refine ⟨e, ?_⟩
  rw [e]
  omega

example : (Health.run 3 0 [(true, 10), (false, 20), (false, 30)]).status = 1 := by decide +kernel
example : (Health.run 2 0 [(false, 10), (false, 20), (false, 30)]).status = 0 := by decide +kernel

/-- **trailing_failures_spec.** `trailingFailures h ≥ N` says precisely "the most recent `N` checks
    exist and all failed" (so the count condition of the property text is the one proved above). -/
theorem trailing_failures_spec (N : Nat) (h : List Bool) :
    N ≤ trailingFailures h ↔ N ≤ h.length ∧ ∀ b ∈ h.reverse.take N, b = false := by
  have := le_length_takeWhile (fun b => !b) h.reverse N
  simpa [trailingFailures] using this

example : trailingFailures [false, true, false, false] = 2 := by decide +kernel

/-- the time of the last completed check is what staleness is measured from -/
theorem lastPing_is_last_completed (N t0 : Int) (h : History) :
    (Health.run N t0 h).lastPing = lastCompleted t0 h := by
  rw [run_eq]

/-- **healthy_iff.** `/health` answers 200 exactly when the server is not disabled, the last completed
    check (or the start) is at most three intervals old, and fewer than `N` trailing checks failed. -/
theorem healthy_iff (N t0 : Int) (hN : 1 ≤ N) (disabled : Bool) (interval now : Int) (h : History) :
    healthy disabled interval (Health.run N t0 h) now = true ↔
      disabled = false ∧ ¬ (now - lastCompleted t0 h > 3 * interval) ∧
      (trailingFailures (h.map (·.1)) : Int) < N := by
  have s := (status_counts_trailing_failures N t0 hN h).2
  have l := lastPing_is_last_completed N t0 h
  cases disabled <;> simp [healthy, stale, l, s]

/-- the HTTP face of it: 200 iff healthy, else 503 -/
theorem http_code_iff (b : Bool) : (httpCode b = 200 ↔ b = true) ∧ (httpCode b = 503 ↔ b = false) := by
  cases b <;> simp [httpCode]

example : healthy false 5000 (Health.run 2 0 [(false, 1000)]) 2000 = true := by decide +kernel
example : healthy false 5000 (Health.run 2 0 [(false, 1000), (false, 2000)]) 2500 = false := by decide +kernel
example : healthy false 5000 (Health.run 2 0 [(true, 1000)]) 16001 = false := by decide +kernel   -- stale
example : healthy false 5000 (Health.run 2 0 [(true, 1000)]) 16000 = true := by decide +kernel    -- exactly 3 intervals: not stale
example : healthy true 5000 (Health.run 2 0 [(true, 1000)]) 1000 = false := by decide +kernel     -- disabled

/-- **one_success_restores.** Whatever the state, one check in which every token answers resets the
    counter to `N`; the server is then healthy until it is disabled or three intervals pass. -/
theorem one_success_restores (N : Int) (hN : 1 ≤ N) (st : State) (t interval now : Int)
    (fresh : now - t ≤ 3 * interval) :
    (check N st true t).status = N ∧ healthy false interval (check N st true t) now = true := by
  simp [check, healthy, stale]
  omega

example : healthy false 1000 (check 4 ⟨0, 0⟩ true 50) 60 = true := by decide +kernel

/-- fewer than `N` failures after a success leave the counter positive: the hysteresis -/
theorem failures_below_threshold_tolerated (N t0 : Int) (hN : 1 ≤ N) (h : History) (k : Nat) (hk : (k : Int) < N)
    (fails : List Int) (hl : fails.length = k) (t : Int) :
    (Health.run N t0 (h ++ (true, t) :: fails.map (fun x => (false, x)))).status > 0 := by
  rw [(status_counts_trailing_failures N t0 hN _).2]
  have : trailingFailures ((h ++ (true, t) :: fails.map (fun x => (false, x))).map (·.1)) = k := by
    simp [trailingFailures, Function.comp_def, hl]
  omega

/-- **nonpositive_threshold_never_healthy.** What the code does with a negative `TokenCheckFailures`
    (`0` is replaced by `3` in `config.Normalize`, negative values are kept): the counter never moves and
    `/health` never answers 200. -/
theorem nonpositive_threshold_never_healthy (N t0 : Int) (hN : N ≤ 0) (disabled : Bool) (interval now : Int)
    (h : History) :
    (Health.run N t0 h).status = N ∧ healthy disabled interval (Health.run N t0 h) now = false := by
  have e : (Health.run N t0 h).status = N := by rw [run_eq, if_neg (by omega)]
  refine ⟨e, ?_⟩
  cases disabled <;> simp [healthy, e] <;> omega

example : normalizeFailures 0 = 3 ∧ normalizeFailures (-2) = -2 := by decide +kernel

/-- a check's outcome is the conjunction over the served tokens of "Ping returned nil" -/
theorem allOk_iff (ts : List Outcome) : allOk ts = true ↔ ∀ o ∈ ts, o = .ok := by
  simp only [allOk, List.all_eq_true]
  constructor <;> intro h o ho <;> have := h o ho <;> cases o <;> simp_all [pingOk]

/-- in an iteration that takes a case receiving from the closed channel, a loop with
    `exitsOnClose` returns from the function and does not call `hc` -/
theorem closed_case_exits (hc ch : String) (t : Loop) (ht : exitsOnClose hc ch t = true)
    (i : Nat) (c : Case) (hi : t.cases[i]? = some c) (hc' : isClosedCase ch c = true) :
    (iter t i).1 = .exited ∧ hc ∉ (iter t i).2 := by
  simp only [exitsOnClose, Bool.and_eq_true, List.all_eq_true] at ht
  obtain ⟨⟨hpre, _⟩, hall⟩ := ht
  have hp := exec_quiet hc t.pre (by simpa [List.all_eq_true] using hpre)
  have hb := hall c (List.mem_of_getElem? hi)
  simp only [hc', Bool.not_true, Bool.false_or] at hb
  have he := exec_endsInExit hc t.label t.selLabel _ c.body hb
  simp only [iter, hp.1, atLoop, hi]
  rcases he.2 with hr | ⟨x, hx, hl, hs, ha⟩
  · rw [hr]
    simp only [inSelect, List.mem_append, not_or]
    exact ⟨trivial, hp.2, he.1⟩
  · have hq := exec_quietEnd hc t.after ha
    have hs' : ¬ t.selLabel = some x := hs
    rw [hx]
    simp only [inSelect, hs', hl, if_false, if_true, finish]
    rcases hq.1 with hf | hf <;> rw [hf] <;>
      simp only [List.mem_append, not_or] <;> exact ⟨trivial, ⟨hp.2, he.1⟩, hq.2⟩

/-- **loop_exits_on_close.** For every loop term with `exitsOnClose`: there is a case receiving from
    the closed channel (index `i`; a receive from a closed channel is always ready, so the case is
    enabled in every iteration once the channel is closed), and for every execution prefix that is
    still running and every continuation in which the runtime takes that case, the function returns
    in that very iteration, having performed no further call of `hc` – whatever `rest` the schedule
    would have held is never executed. -/
theorem loop_exits_on_close (hc ch : String) (t : Loop) (ht : exitsOnClose hc ch t = true) :
    ∃ i, closedIdx ch t = some i ∧
      ∀ (sched : List Nat) (calls : List String), HealthLoop.run t sched = (.running, calls) →
        ∀ rest : List Nat, ∃ more, HealthLoop.run t (sched ++ i :: rest) = (.exited, calls ++ more) ∧ hc ∉ more := by
  have hany : t.cases.any (isClosedCase ch) = true := by
    simp only [exitsOnClose, Bool.and_eq_true] at ht
    exact ht.1.2
  have hlt : t.cases.findIdx (isClosedCase ch) < t.cases.length := List.findIdx_lt_length_of_exists (by simpa using hany)
  refine ⟨t.cases.findIdx (isClosedCase ch), by simp [closedIdx, hlt], ?_⟩
  intro sched calls hrun rest
  have hget : t.cases[t.cases.findIdx (isClosedCase ch)]? = some (t.cases[t.cases.findIdx (isClosedCase ch)]'hlt) :=
    List.getElem?_eq_getElem hlt
  have hclosed : isClosedCase ch (t.cases[t.cases.findIdx (isClosedCase ch)]'hlt) = true := List.findIdx_getElem
  have hx := closed_case_exits hc ch t ht _ _ hget hclosed
  rw [run_append t sched _ calls hrun, run_cons, if_neg (by rw [hx.1]; decide), ← hx.1]
  exact ⟨_, rfl, hx.2⟩

/-- **loop_exits_on_close_idle.** In particular, when only the closed channel is ready (the timer has
    been re-armed: every schedule then consists of the closed case), the goroutine ends in the first
    iteration after the close and performs no `hc` at all. -/
theorem loop_exits_on_close_idle (hc ch : String) (t : Loop) (ht : exitsOnClose hc ch t = true) :
    ∃ i, closedIdx ch t = some i ∧
      ∀ n, ∃ more, HealthLoop.run t (List.replicate (n + 1) i) = (.exited, more) ∧ hc ∉ more := by
  obtain ⟨i, hi, h⟩ := loop_exits_on_close hc ch t ht
  refine ⟨i, hi, fun n => ?_⟩
  have := h [] [] rfl (List.replicate n i)
  simpa [List.replicate_succ] using this

theorem iter_noExit (t : Loop) (ht : noExit t = true) (i : Nat) (hi : i < t.cases.length) :
    (iter t i).1 = .running := by
  simp only [noExit, Bool.and_eq_true, List.all_eq_true] at ht
  obtain ⟨⟨hpre, hpost⟩, hcases⟩ := ht
  have hp := exec_passive t.pre (by simpa [List.all_eq_true] using hpre)
  have hq := exec_passive t.post (by simpa [List.all_eq_true] using hpost)
  have hb := exec_noExit (t.cases[i]).body (by simpa [List.all_eq_true] using hcases _ (List.getElem_mem hi))
  simp only [iter, hp, atLoop, List.getElem?_eq_getElem hi]
  rcases hb with hb | hb | hb <;> rw [hb] <;> simp [inSelect, hq]

/-- **no_exit_never_terminates.** A loop in which no statement can end it (only calls, other
    statements, unlabeled `break`/`continue` inside the `select`) is still running after every
    schedule, of any length. -/
theorem no_exit_never_terminates (t : Loop) (ht : noExit t = true) (sched : List Nat)
    (hs : ∀ i ∈ sched, i < t.cases.length) : (HealthLoop.run t sched).1 = .running := by
  induction sched with
  | nil => rfl
  | cons c cs ih =>
    rw [run_cons, if_pos (iter_noExit t ht c (hs c (by simp)))]
    exact ih (fun i hi => hs i (by simp [hi]))

/-- **loop_break_spins.** A loop whose case for the closed channel is a bare `break` (which in Go leaves
    only the `select`) never terminates once the channel is closed: the closed case is always ready, and
    however many times it is taken the goroutine is still in the loop – a busy spin, since a ready
    `select` does not block. -/
theorem loop_break_spins (ch : String) (t : Loop) (ht : spinsOnClose ch t = true) :
    ∃ i c, t.cases[i]? = some c ∧ isClosedCase ch c = true ∧
      ∀ n, (HealthLoop.run t (List.replicate n i)).1 = .running := by
  simp only [spinsOnClose, Bool.and_eq_true, List.any_eq_true, beq_iff_eq] at ht
  obtain ⟨⟨hpre, hpost⟩, c, hmem, hcl, hbody⟩ := ht
  obtain ⟨i, hi, hget⟩ := List.getElem_of_mem hmem
  have hp := exec_passive t.pre hpre
  have hq := exec_passive t.post hpost
  have hit : (iter t i).1 = .running := by
    simp [iter, hp, atLoop, List.getElem?_eq_getElem hi, hget, hbody, exec, inSelect, hq]
  refine ⟨i, c, by simp [List.getElem?_eq_getElem hi, hget], hcl, fun n => ?_⟩
  induction n with
  | zero => rfl
  | succ n ih => rw [List.replicate_succ, run_cons, if_pos hit, ih]

/-- `healthCheckLoop` as it stands upstream (F1): `case <-s.Closed: break` -/
def upstreamLoop : Loop :=
  { label := none, pre := [], selLabel := none,
    cases := [⟨.recv "t.C", [.call "s.healthCheck", .call "t.Reset"]⟩, ⟨.recv "s.Closed", [.break_ none]⟩],
    post := [], after := [] }

/-- the same with `return` (the proposed fix), and with a labelled break -/
def fixedLoop : Loop :=
  { label := none, pre := [], selLabel := none,
    cases := [⟨.recv "t.C", [.call "s.healthCheck", .call "t.Reset"]⟩, ⟨.recv "s.Closed", [.return_]⟩],
    post := [], after := [] }

def labelledLoop : Loop :=
  { label := some "loop", pre := [], selLabel := none,
    cases := [⟨.recv "t.C", [.call "s.healthCheck", .call "t.Reset"]⟩,
              ⟨.recv "s.Closed", [.call "log", .break_ (some "loop")]⟩],
    post := [], after := [.call "t.Stop"] }

example : exitsOnClose hcName closedChan fixedLoop = true := by decide +kernel
example : exitsOnClose hcName closedChan labelledLoop = true := by decide +kernel
example : HealthLoop.run fixedLoop [0, 0, 1, 0] = (.exited, ["s.healthCheck", "t.Reset", "s.healthCheck", "t.Reset"]) := by decide +kernel
example : HealthLoop.run labelledLoop [0, 1] = (.exited, ["s.healthCheck", "t.Reset", "log", "t.Stop"]) := by decide +kernel

/-- **upstream_loop_never_exits (F1).** The loop as written upstream does not satisfy `exitsOnClose`,
    and no schedule whatsoever makes it return: closing the server leaves the goroutine spinning. -/
theorem upstream_loop_never_exits :
    exitsOnClose hcName closedChan upstreamLoop = false ∧ spinsOnClose closedChan upstreamLoop = true ∧
    ∀ sched : List Nat, (∀ i ∈ sched, i < 2) → (HealthLoop.run upstreamLoop sched).1 = .running :=
  ⟨by decide +kernel, by decide +kernel, fun sched hs => no_exit_never_terminates upstreamLoop (by decide) sched hs⟩

example : HealthLoop.run upstreamLoop [1, 1, 1, 1, 1, 1] = (.running, []) := by decide +kernel

/-- **relic_health_loop_exits_on_close.** The loop of the *current* `healthCheckLoop` ends on close.
    (False on a tree with defect F1, where the build of this module fails here.) -/
theorem relic_health_loop_exits_on_close :
    exitsOnClose hcName closedChan Relic.Generated.HealthLoop.term = true := by decide +kernel

/-- the comparisons of the *current* `Healthy` are the ones `Relic.Health.healthy` models
    (`> 3*interval`, `> 0`, `Disabled` first) -/
theorem relic_healthy_shape :
    Relic.Generated.HealthLoop.healthyShape = modelledHealthyShape := by decide +kernel

end Relic.Props.C20
