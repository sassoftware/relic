/-
  C18 (fragment) — the comdoc WRITER, allocation layer (model `Relic.Model.CfbWriter` of
  lib/comdoc/sectors.go `makeFreeSectors` / `freeSectors`, stream.go `addStream`,
  shortsector.go `writeShortSector`).
  The model is tied to the real code by `C18 alloc|free|adds|wr` ops (harness/c18/writer.go,
  lean/Relic/Driver/C18W.lean, checklib/props/c18w.py): tables compared entry for entry.
-/
import Relic.Proofs.CfbWriter
namespace Relic.Props.C18
open Relic.CfbW

/-- **alloc_fresh.** `makeFreeSectors(n)` returns `n` pairwise distinct (strictly increasing) indices,
    each FREESECT in the table before the call or beyond its old end, all inside the new table;
    the new table is the old one followed by a whole number of blocks of `spb = SectorSize/4`
    FREESECT entries – so no existing entry (in particular no non-free one) is modified. -/
theorem alloc_fresh (spb : Nat) (tbl : List Int) (n : Nat) (fl : List Nat) (tbl' : List Int)
    (h : makeFree spb tbl n = .ok (fl, tbl')) :
    fl.length = n ∧ fl.Nodup ∧ fl.Pairwise (· < ·) ∧
    (∀ i ∈ fl, (tbl[i]? = some FREE ∨ tbl.length ≤ i) ∧ tbl'[i]? = some FREE) ∧
    (∃ k, tbl' = tbl ++ List.replicate (k * spb) FREE) ∧
    (∀ (j : Nat) (v : Int), tbl[j]? = some v → tbl'[j]? = some v) := by
  have f := makeFree_spec h
  refine ⟨f.len, ?_, f.incr, fun i hi => ⟨f.wasFree i hi, f.isFree i hi⟩, f.ext, ?_⟩
  · exact f.nodup
  · exact f.up

example : makeFree 4 [0, FREE, EOC, FREE, 2] 3 = .ok ([1, 3, 5], [0, FREE, EOC, FREE, 2, FREE, FREE, FREE, FREE]) := by
  decide +kernel

/-- **alloc_total.** With a sector size of at least 4 bytes `makeFreeSectors` cannot fail. -/
theorem alloc_total (spb : Nat) (hs : 0 < spb) (tbl : List Int) (n : Nat) :
    ∃ fl tbl', makeFree spb tbl n = .ok (fl, tbl') := by
  fun_cases makeFree spb tbl n
  case case3 => omega
  all_goals exact ⟨_, _, rfl⟩

theorem scanFree_first_fit : ∀ (t : List Int) (i c j : Nat),
    i ≤ j → t[j - i]? = some FREE →
    j ∈ scanFree t i c ∨ ((scanFree t i c).length = c ∧ ∀ x ∈ scanFree t i c, x < j) := by
  intro t i c j
  fun_induction scanFree t i c
  case case1 => exact fun _ _ => .inr ⟨rfl, by simp⟩
  case case2 => intro _ h; simp at h
  case case3 rest i c ih =>
    intro hij h
    by_cases hji : j = i
    · exact .inl (hji ▸ List.mem_cons_self)
    · rw [sub_eq_succ_sub (by omega), List.getElem?_cons_succ] at h
      rcases ih (by omega) h with h1 | ⟨h1, h2⟩
      · exact .inl (List.mem_cons_of_mem _ h1)
      · refine .inr ⟨by simp [h1], fun x hx => ?_⟩
        rcases List.mem_cons.mp hx with rfl | hx
        · omega
        · exact h2 x hx
  case case4 v rest i c hv ih =>
    intro hij h
    by_cases hji : j = i
    · subst hji
      simp at h
      exact absurd h hv
    · rw [sub_eq_succ_sub (by omega), List.getElem?_cons_succ] at h
      exact ih (by omega) h

/-- **alloc_first_fit.** Free entries are reused in index order: every free index of the old table
    below an index handed out was handed out too. -/
theorem alloc_first_fit (spb : Nat) (tbl : List Int) (n : Nat) (fl : List Nat) (tbl' : List Int)
    (h : makeFree spb tbl n = .ok (fl, tbl')) :
    ∀ i ∈ fl, ∀ j, j < i → tbl[j]? = some FREE → j ∈ fl := by
  intro i hi j hji hj
  have hs := scanFree_first_fit tbl 0 n j (Nat.zero_le _) (by simpa using hj)
  revert h
  fun_cases makeFree spb tbl n
  case case1 =>
    intro h
    obtain ⟨rfl, rfl⟩ := Prod.mk.inj (Res.ok.inj h)
    cases hi
  case case2 _ s _ =>
    intro h
    obtain ⟨rfl, rfl⟩ := Prod.mk.inj (Res.ok.inj h)
    rcases hs with hs | ⟨_, hs⟩
    · exact hs
    · have := hs i hi
      omega
  case case4 _ s hl _ rem blocks =>
    intro h
    obtain ⟨rfl, rfl⟩ := Prod.mk.inj (Res.ok.inj h)
    rcases hs with hs | ⟨hs, _⟩
    · exact List.mem_append_left _ hs
    · exact absurd hs hl
  all_goals nofun

/-- `addStream` on the FAT once the allocation has succeeded: the sectors are linked in order; only the final
    size check is left -/
theorem addStreamBig_eq {ss : Nat} {sat : List Int} {len : Nat} {fl : List Nat} {sat1 : List Int} (hss : ss ≠ 0)
    (hm : makeFree (ss / 4) sat ((len + ss - 1) / ss) = .ok (fl, sat1)) :
    addStreamBig ss sat len =
      if fl.length * ss < len then .panic "didn't allocate enough sectors" else .ok (headInt fl, linkFin EOC fl sat1) := by
  have hb := (makeFree_spec hm).lt
  simp only [addStreamBig, hss, if_false, hm, linkLoop_fresh _ _ _ _ hb, foldW_noWrite,
    terminate_linkPure fl EOC sat1 hb (Or.inl rfl)]

/-- the list of sectors handed to a stream of `len` bytes and the table after linking them -/
theorem addStreamBig_inv {ss : Nat} {sat : List Int} {len : Nat} {first : Int} {sat' : List Int}
    (h : addStreamBig ss sat len = .ok (first, sat')) :
    ∃ fl sat1, makeFree (ss / 4) sat ((len + ss - 1) / ss) = .ok (fl, sat1) ∧
      sat' = linkFin EOC fl sat1 ∧ first = headInt fl ∧ len ≤ fl.length * ss := by
  have hss : ss ≠ 0 := by
    intro h0
    simp [addStreamBig, h0] at h
  rcases hm : makeFree (ss / 4) sat ((len + ss - 1) / ss) with ⟨fl, sat1⟩ | _ | _ | _
  · rw [addStreamBig_eq hss hm] at h
    split at h
    · cases h
    · cases h
      exact ⟨fl, sat1, rfl, rfl, rfl, by omega⟩
  all_goals simp [addStreamBig, hss, hm] at h

/-- linking freshly allocated sectors: the new chain, and the frame -/
theorem link_fresh {spb : Nat} {tbl : List Int} {n : Nat} {fl : List Nat} {tbl1 : List Int}
    (hm : makeFree spb tbl n = .ok (fl, tbl1)) :
    let T := linkFin EOC fl tbl1
    chain T (headInt fl) = some fl ∧
    (∀ (j : Nat) (v : Int), tbl[j]? = some v → v ≠ FREE → T[j]? = some v) ∧
    (∀ s l, chain tbl s = some l → chain T s = some l) ∧
    (∀ j, j ∉ fl → T[j]? = tbl1[j]?) ∧ T.length = tbl1.length := by
  have f := makeFree_spec hm
  obtain ⟨a1, a2, _, a4⟩ := linkFin_spec fl EOC tbl1 f.nodup f.lt
  have keep : Keeps tbl [] (linkFin EOC fl tbl1) := f.keeps fun j hj => a2 j hj (Or.inl rfl)
  exact ⟨chain_iff.mpr a4, fun j v hj hv => keep j v hj hv (by simp), fun s l hc => keep.chain hc (by simp),
    fun j hj => a2 j hj (Or.inl rfl), a1⟩

theorem IsChain.last {tbl : List Int} : ∀ {l : List Nat} {s : Int} {x : Nat},
    IsChain tbl s (l ++ [x]) → tbl[x]? = some EOC :=
  fun h => Relic.CfbW.IsChain.last_eoc h

/-- **chain_of_addStream.** After `addStream(contents, false)` the chain starting at the returned
    sector is exactly the allocated list: ⌈len/SectorSize⌉ sectors, each of which was FREESECT (or
    beyond the end of the table) before, strictly increasing, terminated by ENDOFCHAIN; empty contents
    give the start ENDOFCHAIN and an unchanged table content. -/
theorem chain_of_addStream (ss : Nat) (sat : List Int) (len : Nat) (first : Int) (sat' : List Int)
    (h : addStreamBig ss sat len = .ok (first, sat')) :
    ∃ fl, chain sat' first = some fl ∧ fl.length = (len + ss - 1) / ss ∧ fl.Pairwise (· < ·) ∧
      (∀ i ∈ fl, sat[i]? = some FREE ∨ sat.length ≤ i) ∧
      (∀ x, fl.getLast? = some x → sat'[x]? = some EOC) ∧
      (first = EOC ↔ len = 0) ∧ len ≤ fl.length * ss := by
  obtain ⟨fl, sat1, hm, rfl, rfl, hlen⟩ := addStreamBig_inv h
  have f := makeFree_spec hm
  obtain ⟨c1, _, _, _, _⟩ := link_fresh hm
  refine ⟨fl, c1, f.len, f.incr, f.wasFree, ?_, ?_, hlen⟩
  · intro x hx
    obtain ⟨l, rfl⟩ : ∃ l, fl = l ++ [x] := by
      rcases List.getLast?_eq_some_iff.mp hx with ⟨l, hl⟩; exact ⟨l, hl⟩
    exact IsChain.last (chain_iff.mp c1)
  · have hss : ss ≠ 0 := by
      intro h0; subst h0; simp [addStreamBig] at h
    constructor
    · intro he
      cases hfl : fl with
      | nil =>
        rw [hfl] at hlen; simpa using hlen
      | cons x l => rw [hfl] at he; simp [headInt] at he
    · intro h0
      subst h0
      have : fl.length = 0 := by
        rw [f.len]
        exact Nat.div_eq_of_lt (by omega)
      have : fl = [] := List.length_eq_zero_iff.mp this
      subst this; rfl

example : addStreamBig 8 [0, FREE, EOC, FREE, 2] 20 = .ok (1, [0, 3, EOC, 5, 2, EOC, FREE]) := by decide +kernel
example : chain [0, 3, EOC, 5, 2, EOC, FREE] 1 = some [1, 3, 5] := by decide +kernel
example : addStreamBig 8 [EOC, FREE] 0 = .ok (EOC, [EOC, FREE]) := by decide +kernel

/-- **addStream_frame.** `addStream` leaves every chain that was valid before – in bounds, acyclic,
    ENDOFCHAIN-terminated, never passing through a free (or FATSECT/DIFSECT) entry – exactly as it was:
    same sector list; moreover no non-free entry of the table is written at all. -/
theorem addStream_frame (ss : Nat) (sat : List Int) (len : Nat) (first : Int) (sat' : List Int)
    (h : addStreamBig ss sat len = .ok (first, sat')) :
    (∀ s l, chain sat s = some l → chain sat' s = some l) ∧
    (∀ (j : Nat) (v : Int), sat[j]? = some v → v ≠ FREE → sat'[j]? = some v) := by
  obtain ⟨fl, sat1, hm, rfl, rfl, _⟩ := addStreamBig_inv h
  obtain ⟨_, c2, c3, _, _⟩ := link_fresh hm
  exact ⟨c3, c2⟩

example : chain [0, FREE, EOC, FREE, 2] 4 = some [4, 2] ∧ chain [0, 3, EOC, 5, 2, EOC, FREE] 4 = some [4, 2] := by
  decide +kernel

/-- **addStream_total.** `addStream(contents, false)` neither panics nor fails when SectorSize ≥ 4
    (the "didn't allocate enough sectors" panic is unreachable). -/
theorem addStream_total (ss : Nat) (hs : 4 ≤ ss) (sat : List Int) (len : Nat) :
    ∃ first sat', addStreamBig ss sat len = .ok (first, sat') := by
  obtain ⟨fl, sat1, hm⟩ := alloc_total (ss / 4) (Nat.div_pos hs (by omega)) sat ((len + ss - 1) / ss)
  have hlen : ¬ fl.length * ss < len := by
    rw [(makeFree_spec hm).len]
    have := le_ceilDiv_mul len ss (by omega)
    omega
  rw [addStreamBig_eq (by omega) hm, if_neg hlen]
  exact ⟨_, _, rfl⟩

/-- **freeSectors_terminates.** The unbounded `for {}` of `freeSectors` terminates on every table,
    cyclic or not: the fuel of the model (table length + 1) is never exhausted. -/
theorem freeSectors_terminates (tbl : List Int) (start : Int) : freeSectors tbl start ≠ .diverge := by
  unfold freeSectors
  split
  · simp
  · exact freeLoop_terminates _ _ _ (by have := nonFree_le tbl; omega)

example : freeSectors [1, 2, 0, EOC] 0 = .ok [FREE, FREE, FREE, EOC] := by decide +kernel

/-- **free_then_alloc.** `freeSectors` on a valid chain makes exactly its sectors FREESECT (nothing else
    changes), so that they are what `makeFreeSectors` hands out next; every chain disjoint from it is
    intact, and stays intact through a following `addStream`. -/
theorem free_then_alloc (tbl : List Int) (start : Int) (l : List Nat) (h : chain tbl start = some l) :
    ∃ tbl', freeSectors tbl start = .ok tbl' ∧ tbl'.length = tbl.length ∧
      (∀ j, tbl'[j]? = if j ∈ l then some FREE else tbl[j]?) ∧
      (∀ s m, chain tbl s = some m → (∀ x ∈ m, x ∉ l) → chain tbl' s = some m) ∧
      (∀ ss len first tbl'', addStreamBig ss tbl' len = .ok (first, tbl'') →
        ∀ s m, chain tbl s = some m → (∀ x ∈ m, x ∉ l) → chain tbl'' s = some m) := by
  have hc := chain_iff.mp h
  obtain ⟨key, k⟩ := freeSectors_chain hc
  have get : ∀ j, (freeAll l tbl)[j]? = if j ∈ l then some FREE else tbl[j]? := by
    intro j
    rw [freeAll_get]
    by_cases hj : j ∈ l
    · simp [hj, hc.lt_length j hj]
    · simp [hj]
  have frame : ∀ s m, chain tbl s = some m → (∀ x ∈ m, x ∉ l) → chain (freeAll l tbl) s = some m := fun s m => k.chain
  refine ⟨_, key, freeAll_length l tbl, get, frame, ?_⟩
  intro ss len first tbl'' ha s m hm hd
  exact (addStream_frame ss _ len first tbl'' ha).1 s m (frame s m hm hd)

example : chain [1, 3, EOC, EOC] 0 = some [0, 1, 3] ∧
    freeSectors [1, 3, EOC, EOC] 0 = .ok [FREE, FREE, EOC, FREE] := by decide +kernel

/-- what a successful `addStream(contents, true)` did: allocation in the mini-FAT, `writeShortSector` for every
    sector in turn (acting on the FAT and the root entry only), the sectors linked in order -/
theorem addStream_short_inv {a : Alloc} {len : Nat} {first : Int} {a' : Alloc}
    (h : addStream a len true = .ok (first, a')) :
    ∃ fl ssat1 sat' rs rz, makeFree (a.ss / 4) a.ssat ((len + a.sss - 1) / a.sss) = .ok (fl, ssat1) ∧
      foldW (writeShort a.ss a.sss) fl (a.sat, a.rootStart, a.rootSize) = .ok (sat', rs, rz) ∧
      first = headInt fl ∧
      a' = { a with sat := sat', ssat := linkFin EOC fl ssat1, rootStart := rs, rootSize := rz } := by
  revert h
  fun_cases addStream a len true
  case case3 _ _ fl ssat1 hm frst prev ssat2 sat' rs rz hl ssat3 ht _ =>
    rintro ⟨⟩
    obtain ⟨hw, rfl, ht'⟩ := linked hm hl
    cases ht'.symm.trans ht
    exact ⟨fl, ssat1, sat', rs, rz, hm, hw, rfl, rfl⟩
  case case13 =>
    exact absurd rfl ‹¬true = true›
  all_goals nofun

/-- **addStream_short_ssat.** The mini-FAT side of `addStream(contents, true)`: the same three facts
    (new chain = allocated list of ⌈len/ShortSectorSize⌉ formerly free mini sectors, every valid
    mini chain unchanged, no non-free mini-FAT entry written), whatever `writeShortSector` does to the
    FAT while the mini-stream container grows. -/
theorem addStream_short_ssat (a : Alloc) (len : Nat) (first : Int) (a' : Alloc)
    (h : addStream a len true = .ok (first, a')) :
    (∃ fl, chain a'.ssat first = some fl ∧ fl.length = (len + a.sss - 1) / a.sss ∧ fl.Pairwise (· < ·) ∧
      (∀ i ∈ fl, a.ssat[i]? = some FREE ∨ a.ssat.length ≤ i)) ∧
    (∀ s l, chain a.ssat s = some l → chain a'.ssat s = some l) ∧
    (∀ (j : Nat) (v : Int), a.ssat[j]? = some v → v ≠ FREE → a'.ssat[j]? = some v) ∧
    a'.ss = a.ss ∧ a'.sss = a.sss := by
  obtain ⟨fl, ssat1, sat', rs, rz, hm, _, rfl, rfl⟩ := addStream_short_inv h
  have f := makeFree_spec hm
  obtain ⟨c1, c2, c3, _, _⟩ := link_fresh hm
  exact ⟨⟨fl, c1, f.len, f.incr, f.wasFree⟩, c3, c2, rfl, rfl⟩

/-- **addStream_short_fat.** The FAT side of `addStream(contents, true)`: `writeShortSector` only lets the
    mini-stream container grow at its end – from `C` (`[]` when the root has none) to `C ++ E` with every
    sector of `E` FREESECT before (or beyond the old end) – and writes no other non-free entry: every valid
    FAT chain disjoint from the old container is unchanged. -/
theorem addStream_short_fat (a : Alloc) (len : Nat) (first : Int) (a' : Alloc) (C : List Nat)
    (hC : Cont a.sat a.rootStart C) (h : addStream a len true = .ok (first, a')) :
    ∃ E, Cont a'.sat a'.rootStart (C ++ E) ∧
      (∀ x ∈ E, a.sat[x]? = some FREE ∨ a.sat.length ≤ x) ∧
      (∀ (j : Nat) (v : Int), a.sat[j]? = some v → v ≠ FREE → j ∉ C → a'.sat[j]? = some v) ∧
      (∀ s l, chain a.sat s = some l → (∀ x ∈ l, x ∉ C) → chain a'.sat s = some l) := by
  obtain ⟨fl, ssat1, sat', rs, rz, _, hw, rfl, rfl⟩ := addStream_short_inv h
  obtain ⟨E, g⟩ := foldW_writeShort_spec a.ss a.sss fl a.sat a.rootStart a.rootSize C sat' rs rz hC hw
  exact ⟨E, g.cont, g.fresh, g.keeps, fun s l => g.keeps.chain⟩

example : addStream ⟨64, 16, [EOC, FREE, 5, FREE, FREE, EOC], [EOC, FREE, FREE, FREE, FREE, FREE], 2, 128⟩ 40 true =
    .ok (1, ⟨64, 16, [EOC, FREE, 5, FREE, FREE, EOC], [EOC, 2, 3, EOC, FREE, FREE], 2, 128⟩) := by decide +kernel
example : addStream ⟨64, 16, [EOC, FREE, EOC, FREE], [EOC, FREE, FREE, FREE, FREE, FREE, FREE, 1, FREE], 2, 64⟩ 100 true =
    .ok (1, ⟨64, 16, [EOC, 3, 1, EOC], [EOC, 2, 3, 4, 5, 6, 8, 1, EOC], 2, 144⟩) := by decide +kernel

/-- for the big-sector case the wrapper `addStream` is `addStreamBig` on the FAT; mini-FAT and root untouched -/
theorem addStream_big (a : Alloc) (len : Nat) (first : Int) (a' : Alloc)
    (h : addStream a len false = .ok (first, a')) :
    addStreamBig a.ss a.sat len = .ok (first, a'.sat) ∧ a' = { a with sat := a'.sat } := by
  unfold addStream at h
  simp only [Bool.false_eq_true, if_false] at h
  split at h
  · rename_i f s hb
    cases h
    exact ⟨hb, rfl⟩
  all_goals cases h

end Relic.Props.C18
