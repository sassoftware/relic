/-
  C08 — Re-signing replaces the signature; digests ignore existing signatures.
  CAB part, over `Relic.Model.Cab` (model of lib/cabfile/cabfile.go, lib/authenticode/cabfile.go).
  Hypotheses common to the CAB theorems: `Regular d` (OffsetFiles = end of the folder headers ≤ TotalSize – the layout of
  every real cabinet, which `cabfile.Digest` does not check; see `C03.cab_irregular_not_preserved`) and `NoWrap d`
  (a cabinet without reserve header is smaller than 4 GiB − 24).
-/
import Relic.Proofs.CabSign
import Relic.Props.C12
namespace Relic.Props.C08
open Relic Relic.Cab

/-- **cab_signed_file.** What `Sign → Apply` writes for a cabinet whose digest succeeded: the new 60-byte header
    (with the final `SignatureSize`), the rebased folder headers, the data, the blob padded to 8; obtained through
    the *real* patch path (`Add`, `Dump`-order, rewrite loop). -/
theorem cab_signed_file (f : Bytes) (d : Digest) (sig : Bytes) (e : DigestCab f = .ok d) (R : Regular d) (W : NoWrap d)
    (M : Nat) : Binpatch.applyRewrite f (Binpatch.build M (makePatch d sig)) = .ok (signedBytes d sig) := by
  have H := DigestCab_spec f d e
  rw [C12.add_spec M f _ (makePatch_constructible f d sig H R W), sem_makePatch f d sig H R W]

/-- **cab_digest_ignores_signature.** Full statement, success included: digesting the signed cabinet succeeds and feeds
    the hash exactly the stream hashed for the input (`resigned d sig` has the header, folders and data of `d`). -/
theorem cab_digest_ignores_signature (f : Bytes) (d : Digest) (sig : Bytes) (e : DigestCab f = .ok d) (R : Regular d)
    (W : NoWrap d) (hs : (padded sig).length < 2 ^ 32) :
    ∃ d', DigestCab (signedBytes d sig) = .ok d' ∧ d'.hashed = d.hashed :=
  ⟨resigned d sig, DigestCab_signed f d sig (DigestCab_spec f d e) R W hs, rfl⟩

/-- one signing round on the model: digest, build the patch, apply it (reference semantics of the patch set;
    `cab_signed_file` ties it to the real patch path) -/
def cabSignRound (f sig : Bytes) : Res Bytes :=
  match DigestCab f with
  | .ok d => .ok (Binpatch.sem f (makePatch d sig))
  | .err e => .err e
  | .panic p => .panic p
  | .diverge => .diverge

/-- **cab_resign_replaces.** Signing relic's own output again succeeds and yields exactly what signing the original
    with the new blob yields: the earlier signature is gone, nothing else moved. -/
theorem cab_resign_replaces (f : Bytes) (d : Digest) (s1 s2 : Bytes) (e : DigestCab f = .ok d) (R : Regular d) (W : NoWrap d)
    (h1 : (padded s1).length < 2 ^ 32) : cabSignRound (signedBytes d s1) s2 = .ok (signedBytes d s2) := by
  have H := DigestCab_spec f d e
  have e' := DigestCab_signed f d s1 H R W h1
  obtain ⟨R', W'⟩ := resigned_regular f d s1 H R W
  unfold cabSignRound
  rw [e']
  simp only
  rw [sem_makePatch _ _ s2 (DigestCab_spec _ _ e') R' W', signedBytes_resigned]

/-- **cab_history_total.** Every history of signing rounds `s₁ … sₙ` applied to relic's own output succeeds, and the
    artifact after the last round is the original signed once with the last blob. -/
theorem cab_history_total (f : Bytes) (d : Digest) (e : DigestCab f = .ok d) (R : Regular d) (W : NoWrap d) :
    ∀ (sigs : List Bytes) (last : Bytes), (padded last).length < 2 ^ 32 →
      (∀ s ∈ sigs, (padded s).length < 2 ^ 32) →
      sigs.foldlM cabSignRound (signedBytes d last) = .ok (signedBytes d ((last :: sigs).getLast (by simp))) :=
  Res.foldlM_replace cabSignRound (signedBytes d) (fun s => (padded s).length < 2 ^ 32)
    fun a s ha => cab_resign_replaces f d a s e R W ha

/-- a minimal cabinet: no reserve header, one folder, 5 bytes of data -/
def minimalCab : Bytes :=
  [0x4d, 0x53, 0x43, 0x46, 0, 0, 0, 0, 49, 0, 0, 0, 0, 0, 0, 0, 44, 0, 0, 0, 0, 0, 0, 0, 3, 1, 1, 0, 1, 0, 0, 0, 0x34, 0x12, 0, 0] ++
  [60, 0, 0, 0, 1, 0, 0, 0] ++ [1, 2, 3, 4, 5]

/-- the same cabinet with a zero-filled reserve area of 20 + 4 bytes -/
def paddedCab : Bytes :=
  [0x4d, 0x53, 0x43, 0x46, 0, 0, 0, 0, 77, 0, 0, 0, 0, 0, 0, 0, 72, 0, 0, 0, 0, 0, 0, 0, 3, 1, 1, 0, 1, 0, 4, 0, 0x34, 0x12, 0, 0] ++
  [24, 0, 0, 0] ++ List.replicate 24 0 ++ [88, 0, 0, 0, 1, 0, 0, 0] ++ [1, 2, 3, 4, 5]

def cabOk (c : Bytes) : Bool :=
  match DigestCab c with
  | .ok d =>
    decide (d.offFiles = d.foldersStart + 8 * d.nFolders ∧ d.offFiles ≤ d.total) && decide (d.delta = 24 → d.total + 24 < 2 ^ 32) &&
    (match cabSignRound c [9, 9, 9] with
     | .ok g => g == signedBytes d [9, 9, 9] && g.length == 81 && (locate g == .ok [9, 9, 9, 0, 0, 0, 0, 0]) &&
         (match DigestCab g, cabSignRound g [7] with
          | .ok d2, .ok g2 => d2.hashed == d.hashed && locate g2 == .ok [7, 0, 0, 0, 0, 0, 0, 0] && g2.length == 81
          | _, _ => false)
     | _ => false)
  | _ => false

/-- the test vectors, evaluated once; the non-vacuity examples of C01, C03 and C08 are its parts -/
theorem cab_facts : cabOk minimalCab = true ∧ cabOk paddedCab = true ∧ locate minimalCab = .err "notsigned" := by
  decide +kernel

set_option maxRecDepth 100000 in
example : cabOk minimalCab = true ∧ cabOk paddedCab = true := ⟨cab_facts.1, cab_facts.2.1⟩

end Relic.Props.C08
