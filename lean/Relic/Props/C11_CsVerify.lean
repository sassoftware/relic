/-
  C11 — Malformed input yields an error, never a crash.   Apple code signatures, decision stage: once `parseSignature`
  has returned, nothing in `csblob.Verify` / `checkCDHashes` / `checkPlistHashes` / `bestDir` / `VerifyPages` can panic
  or loop: every verification plan ends in success or in an error class (`csverify_no_panic`).  The sites one might
  suspect and why they are safe:
    * `sig.Directories[0]` — guarded by the "no code directory" test placed in front of it (fix F12-csblob.Verify);
      `verifyMacho` reads `Directories[0]` only after acceptance (`accept_implies_directory`);
    * `computed[dir.HashFunc][:20]` — every digest of an admitted hash type has at least 20 bytes;
    * `page[:remaining]`, `make([]byte, pageSize)` — page shifts above 24 are refused (fix F47);
    * `unk[:4]`, `unk[4:8]` in `verifyMacho` for items shorter than 8 bytes — a re-slice within the capacity of the
      superblob: `parseSuper` only yields items with 8 bytes of blob behind their offset (`unknown_item_slice_in_capacity`).
  The panic that remains in front of this stage is the slot slicing of `parseCodeDirectory` (listed finding, characterised
  in C11_MachO); `parseSig_panic_only_from_codedir` shows it is the only one `parseSignature` can raise.
-/
import Relic.Proofs.CsVerify
namespace Relic.Props.C11
open Relic.CodeDir Relic.CsVerify

/-- the plan ends neither in a panic nor in a non-terminating loop -/
def Safe (p : Plan) : Prop := p.final = .ok () ∨ ∃ e, p.final = .err e

theorem safe_pass : Safe Plan.pass := Or.inl rfl
theorem safe_fail (e : String) : Safe (Plan.fail e) := Or.inr ⟨e, rfl⟩
theorem safe_check (s : Step) : Safe (Plan.check s) := Or.inl rfl
theorem safe_guard (c : Bool) (e : String) : Safe (Plan.guard c e) := by
  cases c
  · exact safe_fail e
  · exact safe_pass

theorem safe_seq (p q : Plan) (hp : Safe p) (hq : Safe q) : Safe (p.seq q) := by
  unfold Plan.seq
  rcases hp with h | ⟨e, h⟩
  · rw [h]; exact hq
  · rw [h]; exact Or.inr ⟨e, h⟩

theorem safe_seqAll (ps : List Plan) (h : ∀ p ∈ ps, Safe p) : Safe (seqAll ps) := by
  induction ps with
  | nil => exact safe_pass
  | cons p ps ih =>
    exact safe_seq _ _ (h p List.mem_cons_self) (ih fun q hq => h q (List.mem_cons_of_mem _ hq))

theorem safe_optCheck (l : String) (a : Nat) (slot : Option Bytes) (blob : Bytes) : Safe (optCheck l a slot blob) := by
  cases slot
  · exact safe_pass
  · exact safe_check _

theorem safe_dirPlan (P : CsVerify.Params) (s : Sig) (c : CD) : Safe (dirPlan P s c) := by
  unfold dirPlan
  apply safe_seqAll
  intro p hp
  simp only [List.mem_cons, List.not_mem_nil, or_false] at hp
  rcases hp with rfl | rfl | rfl | rfl | rfl | rfl
  · exact safe_optCheck _ _ _ _
  · exact safe_optCheck _ _ _ _
  · exact safe_optCheck _ _ _ _
  · exact safe_optCheck _ _ _ _
  · cases P.info
    · exact safe_pass
    · exact safe_optCheck _ _ _ _
  · cases P.res
    · exact safe_pass
    · exact safe_optCheck _ _ _ _

theorem safe_signerPlan (content : Bytes) (sv : SignerV) : Safe (signerPlan content sv) := by
  unfold signerPlan
  cases sv.digestAlg with
  | none => exact safe_fail _
  | some a =>
    cases sv.hasAttrs with
    | false => exact safe_guard _ _
    | true =>
      cases sv.md with
      | none => exact safe_fail _
      | some md => exact safe_seq _ _ (safe_check _) (safe_guard _ _)

theorem safe_cmsPlan (content : Bytes) (c : CmsV) : Safe (cmsPlan content c) := by
  unfold cmsPlan
  apply safe_seq
  · unfold embeddedPlan
    cases c.embedded
    · exact safe_pass
    · exact safe_guard _ _
  · apply safe_seq
    · exact safe_guard _ _
    · apply safe_seqAll
      intro p hp
      obtain ⟨sv, _, rfl⟩ := List.mem_map.mp hp
      exact safe_signerPlan _ _

theorem safe_cdhPlan (dirs : List CD) (l : List (Option Nat × Bytes)) : Safe (cdhPlan dirs l) := by
  induction l with
  | nil => exact safe_pass
  | cons p rest ih =>
    obtain ⟨a, dg⟩ := p
    cases a with
    | none => exact safe_fail _
    | some a =>
      unfold cdhPlan
      cases lastWithAlg dirs a with
      | none => exact safe_fail _
      | some c => exact safe_seq _ _ (safe_check _) ih

theorem safe_attrsPlan (fx : Fixes) (dirs : List CD) (c : CmsV) : Safe (attrsPlan fx dirs c) := by
  unfold attrsPlan
  cases c.signers.getLast? with
  | none => exact safe_fail _
  | some si =>
    apply safe_seq
    · cases si.cdhashes with
      | absent => exact safe_pass
      | bad => exact safe_fail _
      | val l => exact safe_cdhPlan dirs l
    · apply safe_seq
      · cases si.plist with
        | absent => exact safe_pass
        | bad => exact safe_fail _
        | val l =>
          show Safe (plistPlan dirs l)
          unfold plistPlan
          split
          · exact safe_fail _
          · apply safe_seqAll
            intro p hp
            obtain ⟨x, _, rfl⟩ := List.mem_map.mp hp
            exact safe_check _
      · exact safe_seq _ _ (safe_guard _ _) (safe_guard _ _)

theorem safe_verifyPlan (fx : Fixes) (P : CsVerify.Params) (s : Sig) : Safe (verifyPlan fx P s) := by
  unfold verifyPlan
  apply safe_seq
  · apply safe_seqAll
    intro p hp
    obtain ⟨c, _, rfl⟩ := List.mem_map.mp hp
    exact safe_dirPlan P s c
  · cases s.dirs with
    | nil => exact safe_fail _
    | cons d0 rest =>
      cases s.cms with
      | none => exact safe_fail _
      | some c => exact safe_seq _ _ (safe_cmsPlan _ _) (safe_attrsPlan _ _ _)

theorem safe_pageLoop (alg : Nat) : ∀ (es : List Bytes) (r : Bytes) (rem : Int) (pl : Nat), Safe (pageLoop alg es r rem pl) := by
  intro es r rem pl
  fun_induction pageLoop alg es r rem pl
  all_goals first
    | exact safe_pass
    | exact safe_fail _
    | (rename_i ih; exact safe_seq _ _ (safe_check _) ih)

theorem safe_pagesPlan (c : CD) (r : Bytes) : Safe (pagesPlan c r) := by
  fun_cases pagesPlan c r
  all_goals first
    | exact safe_fail _
    | exact safe_check _
    | exact safe_pageLoop _ _ _ _ _

/-- `VerifyPages` of the best directory, unless digests are skipped: the stage `machos.Verify` and the DMG verifier share,
    over the reader `r` each of them builds -/
theorem safe_pagesStage (skip : Bool) (dirs : List CD) (r : CD → Bytes) :
    Safe (if skip then .pass else match bestDir dirs with | none => .fail "nodir" | some b => pagesPlan b (r b)) := by
  cases skip with
  | true => exact safe_pass
  | false =>
    simp only [Bool.false_eq_true, ↓reduceIte]
    cases bestDir dirs with
    | none => exact safe_fail _
    | some b => exact safe_pagesPlan _ _

theorem safe_machoPlan (fx : Fixes) (P : CsVerify.Params) (s : Sig) (file : Bytes) (skip : Bool) : Safe (machoPlan fx P s file skip) :=
  safe_seq _ _ (safe_verifyPlan fx P s) (safe_pagesStage skip s.dirs (fun b => codeReader b file))

theorem safe_blobPlan (fx : Fixes) (P : CsVerify.Params) (s : Sig) (page : Bytes) (skip : Bool) : Safe (blobPlan fx P s page skip) :=
  safe_seq _ _ (safe_verifyPlan fx P s) (safe_pagesStage skip s.dirs (fun _ => page))

theorem safe_run (H : Nat → Bytes → Bytes) (p : Plan) (h : Safe p) : p.run H = .ok () ∨ ∃ e, p.run H = .err e := by
  rcases runSteps_cases H p.steps p.final with h1 | ⟨s, _, h2⟩
  · rcases h with h | ⟨e, h⟩
    · exact Or.inl (h1.trans h)
    · exact Or.inr ⟨e, h1.trans h⟩
  · exact Or.inr ⟨s.label, h2⟩

/-- For every parsed signature, CMS table, parameter set, file and hash family:
    `csblob.Verify`, `machos.Verify` and the DMG use (`csblob.Verify` + `VerifyPages`) return success or an error —
    never a panic, never a non-terminating loop. -/
theorem csverify_no_panic (H : Nat → Bytes → Bytes) (fx : Fixes) (P : CsVerify.Params) (s : Sig) (file : Bytes) (skip : Bool) :
    ((verifyPlan fx P s).run H = .ok () ∨ ∃ e, (verifyPlan fx P s).run H = .err e) ∧
    ((machoPlan fx P s file skip).run H = .ok () ∨ ∃ e, (machoPlan fx P s file skip).run H = .err e) ∧
    ((blobPlan fx P s file skip).run H = .ok () ∨ ∃ e, (blobPlan fx P s file skip).run H = .err e) :=
  ⟨safe_run H _ (safe_verifyPlan fx P s), safe_run H _ (safe_machoPlan fx P s file skip), safe_run H _ (safe_blobPlan fx P s file skip)⟩

/-- `verifyMacho` reads `sig.Blob.Directories[0]` after a successful `machos.Verify`: acceptance implies there is one -/
theorem accept_implies_directory (H : Nat → Bytes → Bytes) (fx : Fixes) (P : CsVerify.Params) (s : Sig) (file : Bytes) (skip : Bool)
    (h : (machoPlan fx P s file skip).run H = .ok ()) : s.dirs ≠ [] := by
  unfold machoPlan at h
  rw [run_seq, verifyPlan_ok] at h
  obtain ⟨⟨_, d0, rest, hd, _⟩, _⟩ := h
  rw [hd]; simp

/-- every item `parseSuper` yields has at least 8 bytes of the blob behind its offset: the re-slices `unk[:4]`,
    `unk[4:8]` of `verifyMacho` (and `item.data[8:]` guarded by `len > 8`) stay within the capacity of the slice -/
theorem superEntries_in_capacity (blob : Bytes) (dataOffset : Nat) : ∀ (n idx : Nat) (items : List RawItem),
    superEntries blob dataOffset n idx = .ok items → ∀ i ∈ items, i.off + 8 ≤ blob.length ∧ i.off + i.len ≤ blob.length := by
  intro n idx
  fun_induction superEntries blob dataOffset n idx <;> intro items h i hi
  case case1 => cases h; cases hi
  case case4 itype offRaw dataLen c1 length c2 rest _ ih =>
    cases h
    rcases List.mem_cons.mp hi with rfl | hi
    · simp only [offRaw, dataLen, length] at c1 c2 ⊢; omega
    · exact ih _ ‹_› i hi
  case case5 hne _ => exact absurd h (hne items)
  all_goals cases h

theorem unknown_item_slice_in_capacity (blob : Bytes) (magic : Nat) (items : List RawItem)
    (h : parseSuper blob = .ok (magic, items)) : ∀ i ∈ items, i.off + 8 ≤ blob.length ∧ i.off + i.len ≤ blob.length := by
  revert h
  fun_cases parseSuper blob <;> intro h
  all_goals first
    | (cases h; done)
    | (rename_i hq; cases h; exact superEntries_in_capacity blob _ _ _ _ hq)

theorem superEntries_no_panic (blob : Bytes) (dataOffset : Nat) : ∀ (n idx : Nat) (p : String),
    superEntries blob dataOffset n idx ≠ .panic p := by
  intro n idx
  fun_induction superEntries blob dataOffset n idx <;> intro p h
  all_goals first
    | (cases h; done)
    | (rename_i ih; exact ih p h)

theorem parseSuper_no_panic (blob : Bytes) (p : String) : parseSuper blob ≠ .panic p := by
  fun_cases parseSuper blob <;> intro h
  all_goals first
    | (cases h; done)
    | (rename_i hq; cases h; exact superEntries_no_panic _ _ _ _ _ hq)

theorem sigItems_panic (cmsOf : Bytes → Res CmsV) (hcms : ∀ b p, cmsOf b ≠ .panic p) (blob : Bytes) :
    ∀ (items : List RawItem) (s : Sig) (p : String), sigItems cmsOf blob items s = .panic p →
      ∃ b x, parseCodeDirectory b x = .panic p := by
  intro items s
  -- one case per exit of the loop body: the recursive calls, the results of the two decoders, the end of the list
  fun_induction sigItems cmsOf blob items s <;> intro p h
  all_goals first
    | (rename_i ih; exact ih p h)
    | (cases h; done)
    | (rename_i q hq; cases h; exact ⟨_, _, hq⟩)
    | (rename_i q hq; exact absurd hq (hcms _ _))

/-- `parseSignature` raises no panic of its own: a panic is one
    `parseCodeDirectory` raised on an item in a directory slot (the slot slicing characterised by
    `parseCodeDirectory_panic_only_if`), provided the CMS decoder does not panic. -/
theorem parseSig_panic_only_from_codedir (cmsOf : Bytes → Res CmsV) (hcms : ∀ b p, cmsOf b ≠ .panic p) (blob : Bytes) (p : String)
    (h : parseSig cmsOf blob = .panic p) : ∃ b x, parseCodeDirectory b x = .panic p := by
  revert h
  fun_cases parseSig cmsOf blob <;> intro h
  all_goals first
    | (cases h; done)
    | (rename_i hq; cases h; exact absurd hq (parseSuper_no_panic blob _))
    | (rename_i hq; cases h; exact sigItems_panic cmsOf hcms blob _ _ _ hq)

example : Safe (pagesPlan ⟨0, [], ⟨⟨0, 0, 0, 0, 0, 0, 0, 1, 3, 2, 2, 63, 0, 0, 0, 0, 0, 0⟩, [], [], 2, [[1, 2]], []⟩⟩ [1, 2, 3]) :=
  safe_pagesPlan _ _
example : (pagesPlan ⟨0, [], ⟨⟨0, 0, 0, 0, 0, 0, 0, 1, 3, 2, 2, 63, 0, 0, 0, 0, 0, 0⟩, [], [], 2, [[1, 2]], []⟩⟩ [1, 2, 3]).final = .err "pagesize" := by
  decide

end Relic.Props.C11
