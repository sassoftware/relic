/-
  C08 — Re-signing replaces the signature and keeps the artifact well-formed, any number of times.   Mach-O part: the
  arithmetic of `machos.PatchSignature` / `patchLinkEdit` / `patchLoadCmd` when the signature slot grows, stays or is
  created (`Relic.MachO.patchSignature`), and histories of re-signings with growing slots (SHA-1 → SHA-256 → SHA-384,
  entitlements / requirements added on re-sign).

  After `PatchSignature` took the "grow / create" branch, the header buffer holds
      __LINKEDIT.Filesz = sigStart + sigSize − Offset   (computed ABSOLUTELY from the end of the new slot, mod 2^64),
      __LINKEDIT.Memsz  = align(Filesz, 4096),  LC_CODE_SIGNATURE = (0x1d, 16, sigStart, sigSize),
  with sigSize = align(estimate, 8), sigStart = the old slot's start or the aligned end of code, padding = sigStart − codeSize;
  so __LINKEDIT, the slot and the written file end together, and these are the values of the arithmetic step `LState.resign`.
  For every list of estimates the invariant "slot, __LINKEDIT and file are coterminous, the slot is inside __LINKEDIT" holds
  after every round — hence `scanFile`'s "not coterminous" refusal never fires on relic's own output, the slot never moves and
  only grows, the code size never changes.
  A seeded change that computed Filesz incrementally (`Filesz += sigStart + sigSize − codeSize`) breaks the first statement
  exactly when a signed image's slot has to grow: witness `incremental_filesz_overshoots`.

  The two guards of the current tree in a history: on relic's own output
  the slack test of `scanFile` (fix F-MACHO-4) never fires — the image carries an LC_CODE_SIGNATURE command —, and the size
  test of `Sign` (fixes F-MACHO-3, F-MACHO-3b) either refuses the round outright (the slot to be used exceeds 10^7 bytes:
  nothing is written, the artifact stays as it was) or leaves the round exactly as described by `LState.resign`.
-/
import Relic.Proofs.MachOLinkedit
import Relic.Proofs.MachOGuards
import Relic.Proofs.MachODemo
namespace Relic.Props.C08
open Relic.MachO

/-- where LC_CODE_SIGNATURE goes: the existing command, else the end of the load commands -/
def lcOf (m : Markers) : Nat := if m.loadCsStart ≠ 0 then m.loadCsStart else m.nextLc

/-- the new __LINKEDIT.Filesz: `uint64(sigStart + sigSize) - hdr.Offset` -/
def fileszOf (m : Markers) (sigStart sigSize : Nat) : Nat := (sigStart + sigSize + 2 ^ 64 - m.leOffset % 2 ^ 64) % 2 ^ 64

theorem len4 (a : Bytes) (h : a.length = 4) : ∃ w x y z, a = [w, x, y, z] := by
  match a, h with
  | [w, x, y, z], _ => exact ⟨w, x, y, z, rfl⟩

theorem blk_parts (a b c d : Bytes) (ha : a.length = 4) (hb : b.length = 4) (hc : c.length = 4) (hd : d.length = 4) :
    ((a ++ b ++ c ++ d).drop 0).take 4 = a ∧ ((a ++ b ++ c ++ d).drop 4).take 4 = b ∧
    ((a ++ b ++ c ++ d).drop 8).take 4 = c ∧ ((a ++ b ++ c ++ d).drop 12).take 4 = d ∧ (a ++ b ++ c ++ d).length = 16 := by
  obtain ⟨a0, a1, a2, a3, rfl⟩ := len4 a ha
  obtain ⟨b0, b1, b2, b3, rfl⟩ := len4 b hb
  obtain ⟨c0, c1, c2, c3, rfl⟩ := len4 c hc
  obtain ⟨d0, d1, d2, d3, rfl⟩ := len4 d hd
  exact ⟨rfl, rfl, rfl, rfl, rfl⟩

/-- Whatever `PatchSignature` returns in the grow / create branch (`sigLen < estimate`) — for
    every header buffer, every set of markers, every estimate, old slot present or not, 32- or 64-bit, either byte
    order — provided LC_CODE_SIGNATURE does not overlap the size fields of the __LINKEDIT command:
    the slot, and the fields read back from the patched header buffer. -/
theorem linkedit_arith_exact (m : Markers) (hdr : Bytes) (est : Int) (po : PatchOut)
    (h : patchSignature m hdr est = .ok po) (hgrow : ¬ (m.sigLen : Int) ≥ est)
    (hdisj : lcOf m + 16 ≤ m.lePos + 28 ∨ m.lePos + 56 ≤ lcOf m) :
    po.sigBufLen = align est.toNat 8 ∧
    po.sigStart = (if m.sigStart = 0 then align m.codeSize.toNat 8 else m.sigStart) ∧
    po.padding = po.sigStart - m.codeSize.toNat ∧ m.codeSize.toNat ≤ po.sigStart ∧
    (m.is64 = true →
      rd64 m.be po.newHeader (m.lePos + 48) = fileszOf m po.sigStart po.sigBufLen ∧
      rd64 m.be po.newHeader (m.lePos + 32) = align (fileszOf m po.sigStart po.sigBufLen) 4096 % 2 ^ 64) ∧
    (m.is64 = false →
      rd32 m.be po.newHeader (m.lePos + 36) = fileszOf m po.sigStart po.sigBufLen % 2 ^ 32 ∧
      rd32 m.be po.newHeader (m.lePos + 28) = align (fileszOf m po.sigStart po.sigBufLen) 4096 % 2 ^ 32) ∧
    rd32 m.be po.newHeader (lcOf m) = 0x1d ∧ rd32 m.be po.newHeader (lcOf m + 4) = 16 ∧
    rd32 m.be po.newHeader (lcOf m + 8) = po.sigStart % 2 ^ 32 ∧ rd32 m.be po.newHeader (lcOf m + 12) = po.sigBufLen % 2 ^ 32 := by
  have F := patchSignature_fresh m hdr est po hgrow h
  have hlc : lcOf m = MachO.lcOf m := rfl
  rw [hlc] at hdisj ⊢
  rw [F.sigBufLen, F.sigStart, F.newHeader]
  have hF64 := Nat.mod_eq_of_lt (Nat.lt_trans F.filesz (by decide : 2 ^ 62 < 2 ^ 64))
  have h2l := h2Of_length m (h1Of m hdr) (MachO.fileszOf m (freshSigStart m) (align est.toNat 8)) F.leRoom
  have hcl : MachO.lcOf m + (csCmd m (freshSigStart m) (align est.toNat 8)).length ≤
      (h2Of m (h1Of m hdr) (MachO.fileszOf m (freshSigStart m) (align est.toNat 8))).length := by
    rw [csCmd_length, h2l]; exact F.csRoom
  have hle := F.leRoom
  refine ⟨rfl, rfl, F.padding, F.startGe, fun h64 => ?_, fun h64 => ?_,
    csCmd_put_reads m _ _ _ _ (by rw [h2l]; exact F.csRoom)⟩
  · rw [if_pos h64] at hle
    rw [rd64_put_other _ _ _ _ _ hcl (by rw [csCmd_length]; omega), rd64_put_other _ _ _ _ _ hcl (by rw [csCmd_length]; omega)]
    obtain ⟨a, b⟩ := (h2Of_reads m (h1Of m hdr) _ F.leRoom).1 h64
    exact ⟨a.trans hF64, b⟩
  · have h64' : ¬ m.is64 = true := by rw [h64]; decide
    rw [if_neg h64'] at hle
    rw [rd32_put_other _ _ _ _ _ hcl (by rw [csCmd_length]; omega), rd32_put_other _ _ _ _ _ hcl (by rw [csCmd_length]; omega)]
    exact (h2Of_reads m (h1Of m hdr) _ F.leRoom).2 h64

/-- Without wrap-around (`Offset ≤ sigStart + sigSize < 2^64`, every real file) the new
    `Filesz` makes __LINKEDIT end exactly where the signature slot ends. -/
theorem linkedit_ends_with_slot (m : Markers) (sigStart sigSize : Nat) (h1 : m.leOffset ≤ sigStart + sigSize)
    (h2 : sigStart + sigSize < 2 ^ 64) : m.leOffset + fileszOf m sigStart sigSize = sigStart + sigSize := by
  unfold fileszOf
  have h3 : m.leOffset % 2 ^ 64 = m.leOffset := Nat.mod_eq_of_lt (by omega)
  rw [h3]
  have : sigStart + sigSize + 2 ^ 64 - m.leOffset = (sigStart + sigSize - m.leOffset) + 2 ^ 64 := by omega
  rw [this, Nat.add_mod_right, Nat.mod_eq_of_lt (by omega)]
  omega

/-- The file the patch set produces: everything up to the end of code, the padding, the new slot,
    and whatever followed the old slot.  With the old slot ending at the end of the file (regular layout) the file ends
    with the new slot: `length = sigStart + sigSize`. -/
theorem written_length (f h3 : Bytes) (rs : List (Nat × Nat)) (cs sigLen padding : Nat) (sigBuf : Bytes)
    (L : Layout f h3 rs cs sigLen) :
    (written f h3 rs cs sigLen padding sigBuf).length = f.length - sigLen + padding + sigBuf.length := by
  rw [MachO.written_length f h3 rs cs sigLen padding sigBuf L]
  have := L.oldInside; omega

theorem written_ends_with_slot (f h3 : Bytes) (rs : List (Nat × Nat)) (cs sigLen padding : Nat) (sigBuf : Bytes)
    (L : Layout f h3 rs cs sigLen) (hreg : f.length = cs + sigLen) :
    (written f h3 rs cs sigLen padding sigBuf).length = (cs + padding) + sigBuf.length := by
  rw [written_length f h3 rs cs sigLen padding sigBuf L]; omega

/-- The slot and the __LINKEDIT size `PatchSignature` produces are those of the arithmetic
    step `LState.resign` on the markers (both branches: reuse in place, grow / create). -/
theorem patch_simulates_resign (m : Markers) (hdr : Bytes) (est : Int) (po : PatchOut) (fileLen : Nat)
    (h : patchSignature m hdr est = .ok po) (hest : 0 ≤ est)
    (hcs : m.codeSize = ((LState.ofMarkers m fileLen).codeSize : Int))
    (hdisj : lcOf m + 16 ≤ m.lePos + 28 ∨ m.lePos + 56 ≤ lcOf m) :
    let s' := (LState.ofMarkers m fileLen).resign est.toNat
    po.sigStart = s'.sigStart ∧ po.sigBufLen = s'.sigLen ∧
    (¬ (m.sigLen : Int) ≥ est → m.leOffset ≤ po.sigStart + po.sigBufLen → po.sigStart + po.sigBufLen < 2 ^ 64 →
      fileszOf m po.sigStart po.sigBufLen = s'.leFilesz) := by
  intro s'
  by_cases hg : (m.sigLen : Int) ≥ est
  · have hge : m.sigLen ≥ est.toNat := by omega
    have hs' : s' = LState.ofMarkers m fileLen := by
      show LState.resign _ _ = _
      simp only [LState.resign, LState.ofMarkers, hge, ↓reduceIte]
    have hpo : patchSignature m hdr est = .ok ⟨hdr, m.sigLen, m.sigStart, 0, [⟨m.sigStart, m.sigLen, zeros m.sigLen⟩]⟩ := by
      simp [patchSignature, hg]
    rw [hpo] at h
    cases h
    rw [hs']
    exact ⟨rfl, rfl, fun c => absurd hg c⟩
  · obtain ⟨e1, e2, _, _, _, _, _⟩ := linkedit_arith_exact m hdr est po h hg hdisj
    have hlt : ¬ m.sigLen ≥ est.toNat := by omega
    have hc2 : m.codeSize.toNat = (LState.ofMarkers m fileLen).codeSize := by rw [hcs]; simp
    have hs1 : s'.sigStart = (if m.sigStart = 0 then align m.codeSize.toNat 8 else m.sigStart) := by
      show (LState.resign _ _).sigStart = _
      rw [hc2]
      simp only [LState.resign, LState.ofMarkers, hlt, ↓reduceIte]
      rfl
    have hs2 : s'.sigLen = align est.toNat 8 := by
      show (LState.resign _ _).sigLen = _
      simp only [LState.resign, LState.ofMarkers, hlt, ↓reduceIte]
    have hs3 : s'.leFilesz = s'.sigStart + s'.sigLen - m.leOffset := by
      show (LState.resign _ _).leFilesz = (LState.resign _ _).sigStart + (LState.resign _ _).sigLen - _
      simp only [LState.resign, LState.ofMarkers, hlt, ↓reduceIte]
    refine ⟨by rw [e2, hs1], by rw [e1, hs2], ?_⟩
    intro _ hle hlt64
    have := linkedit_ends_with_slot m po.sigStart po.sigBufLen hle hlt64
    rw [hs3, ← e2.trans hs1.symm, ← e1.trans hs2.symm]
    omega

/-- Start from an unsigned image whose __LINKEDIT ends at the end of the file, sign it, and re-sign
    the result any number of times with arbitrary (growing, equal, shrinking) size estimates — SHA-1 → SHA-256 → SHA-384,
    entitlements or requirements added.  After every round: the signature slot, __LINKEDIT and the file end together and
    the slot lies inside __LINKEDIT (`Coterminous`), so the next `scanFile` never answers "old signature is not
    coterminous with __LINKEDIT segment"; the slot never moves, only grows, is at least as large as every estimate so far
    asked for in that round; the code size (= what gets hashed) never changes. -/
theorem macho_history (s : LState) (hs : s.Unsigned) (est0 : Nat) (h0 : 0 < est0) (ests : List Nat) :
    let first := s.resign est0
    let last := first.history ests
    last.Coterminous ∧ last.scanRefuses = false ∧ last.sigStart = first.sigStart ∧ first.sigLen ≤ last.sigLen ∧
    last.codeSize = first.codeSize ∧ last.leOffset + last.leFilesz = last.fileLen := by
  intro first last
  have hf : first.Coterminous := resign_unsigned est0 h0 s hs
  have key : ∀ (l : List Nat) (t : LState), t.Coterminous →
      (t.history l).sigStart = t.sigStart ∧ t.sigLen ≤ (t.history l).sigLen ∧ (t.history l).codeSize = t.codeSize := by
    intro l
    induction l with
    | nil => intro t _; exact ⟨rfl, Nat.le_refl _, rfl⟩
    | cons e es ih =>
      intro t ht
      obtain ⟨a, b, _, d⟩ := resign_slot e t ht
      obtain ⟨a', b', d'⟩ := ih _ (resign_coterminous e t ht)
      exact ⟨a'.trans a, Nat.le_trans b b', d'.trans d⟩
  have hl : last.Coterminous := history_coterminous ests first hf
  obtain ⟨a, b, d⟩ := key ests first hf
  exact ⟨hl, coterminous_not_refused last hl, a, b, d, hl.eof⟩

/-- every single round of a history keeps the invariant (the statement `macho_history` iterates) -/
theorem resign_keeps_wellformed (est : Nat) (s : LState) (h : s.Coterminous) :
    (s.resign est).Coterminous ∧ (s.resign est).scanRefuses = false :=
  ⟨resign_coterminous est s h, coterminous_not_refused _ (resign_coterminous est s h)⟩

/-- `machos.Sign`'s size estimate: `codeSize * (20 + hashSize) / 4096 + len(entitlement) + len(requirements) + 16384` -/
def estimateOf (m : Markers) (hashSize entLen reqLen : Nat) : Int :=
  Int.tdiv (m.codeSize * (20 + hashSize : Nat)) 4096 + (entLen + reqLen : Nat) + 16384

/-- the full-strength, byte-level link that is NOT proved here: the markers `scanFile` reads back from the file one
    round wrote are the arithmetic step applied to the markers it started from.  (Needs a frame lemma for the
    load-command walk `cmdLoop` over the patched header ranges.)  It is tied on every run by the `history` ops: the model
    column re-scans its own output with `scan`, the implementation column reads relic's real output back through
    debug/macho, and the two are compared field by field for every round. -/
def macho_history_bytes_full : Prop :=
  ∀ (f : Bytes) (hashSize entLen reqLen : Nat) (pl : MachO.Plan) (blob g : Bytes) (m' : Markers),
    plan f hashSize entLen reqLen = .ok pl →
    ((LState.ofMarkers pl.m f.length).Unsigned ∨ (LState.ofMarkers pl.m f.length).Coterminous) →
    (lcOf pl.m + 16 ≤ pl.m.lePos + 28 ∨ pl.m.lePos + 56 ≤ lcOf pl.m) →
    signedFile f pl.po blob = .ok g → scan g = .ok m' →
    LState.ofMarkers m' g.length = (LState.ofMarkers pl.m f.length).resign (estimateOf pl.m hashSize entLen reqLen).toNat

/-- On an image that carries an LC_CODE_SIGNATURE command — every output of `machos.Sign`
    does — the test added to `scanFile` by fix F-MACHO-4 (`len(dat) != 0 && f.loadCsStart == 0`) does not fire: what the
    scan answers on re-signing is what it answered before the fix (`LState.scanRefuses` = the coterminous test, remains the
    only refusal of the scan in a history). -/
theorem macho_resign_scan_guard_inert (f : Bytes) (m : Markers) (h : scanOrig f = .ok m) (hcs : m.loadCsStart ≠ 0) :
    scan f = .ok m :=
  scan_of_orig_signed f m h hcs

/-- One signing round of the current tree on an image its scan accepts (estimate within int64):
    either the size test of the fixes F-MACHO-3 / F-MACHO-3b fires — the slot the round would use (`regionOf`: the grown one
    when `sigLen < estimate`, else the existing one) exceeds 10^7 bytes — and the round is refused before anything is
    patched, or the round is the one of the tree before the fixes, i.e. the step `LState.resign` (`patch_simulates_resign`).
    On relic's own output the existing slot is ≤ 10^7 bytes (`C01.macho_region_small`), so only growth can trigger it. -/
theorem macho_round_guard (f : Bytes) (m : Markers) (hashSize entLen reqLen : Nat) (h : scan f = .ok m)
    (hr : ¬ estRange m hashSize) :
    (sizeGuard m (estI m hashSize entLen reqLen) ∧ plan f hashSize entLen reqLen = .err "signtoolarge") ∨
    (¬ sizeGuard m (estI m hashSize entLen reqLen) ∧ plan f hashSize entLen reqLen = planOrig f hashSize entLen reqLen) := by
  rw [plan_of_scan f m _ _ _ h, if_neg hr]
  by_cases hg : sizeGuard m (estI m hashSize entLen reqLen)
  · exact Or.inl ⟨hg, by rw [if_pos hg]⟩
  · exact Or.inr ⟨hg, by rw [if_neg hg, planOrig_of_scan f m _ _ _ (scan_orig_of_scan f m h)]⟩

/-- hypotheses satisfiable: a signed image (LC_CODE_SIGNATURE at 104), and markers on which the size test fires / does not -/
example : scanOrig (C01.Demo.fSigned 16) = .ok (C01.Demo.mSigned 16) ∧ (C01.Demo.mSigned 16).loadCsStart ≠ 0 ∧
    scan (C01.Demo.fSigned 16) = .ok (C01.Demo.mSigned 16) ∧ ¬ estRange (C01.Demo.mSigned 16) 32 ∧
    ¬ sizeGuard (C01.Demo.mSigned 16) (estI (C01.Demo.mSigned 16) 32 0 0) :=
  ⟨C01.Demo.scanOrig_fOld, by decide, C01.Demo.scanNew_fOld, by decide, by decide⟩

/-- the seeded variant of `patchLinkEdit`: `Filesz += sigStart + sigSize − codeSize` -/
def resignIncremental (est : Nat) (s : LState) : LState :=
  if s.sigLen ≥ est then s else
  let sigSize := align est 8
  let start := if s.sigStart = 0 then align s.codeSize 8 else s.sigStart
  { s with leFilesz := s.leFilesz + (start + sigSize - s.codeSize), sigStart := start, sigLen := sigSize,
           fileLen := s.fileLen - s.sigLen + (start - s.codeSize) + sigSize }

/-- on an unsigned image both formulas agree; on a signed image whose slot has to
    grow the incremental one leaves __LINKEDIT extending `old sigLen` bytes past the end of the file, and the next round is
    refused ("not coterminous") — the concrete history the check replays on the real code (history ops). -/
theorem incremental_filesz_overshoots :
    let s0 : LState := ⟨4096, 100, 0, 0, 4196⟩
    let s1 := resignIncremental 16000 s0
    let s2 := resignIncremental 16400 s1
    s1 = s0.resign 16000 ∧ s2.leOffset + s2.leFilesz = s2.fileLen + s1.sigLen ∧ s2.scanRefuses = true ∧
    ((s0.resign 16000).resign 16400).scanRefuses = false := by decide +kernel

example : (⟨4096, 100, 0, 0, 4196⟩ : LState).Unsigned := ⟨⟨rfl, rfl⟩, by decide, rfl⟩
example : ((⟨4096, 100, 0, 0, 4196⟩ : LState).resign 16000).history [16400, 16400, 17000, 100] = ⟨4096, 17104, 4200, 17000, 21200⟩ := by decide +kernel
set_option maxRecDepth 8192 in
/-- `linkedit_arith_exact` on a concrete 64-bit header buffer: unsigned image, room for the new load command -/
example : ∃ po, patchSignature ⟨false, 0xfeedfacf, 0, 0, 0, 32, 4096, 100, 104, 200, 4196, 104⟩ (zeros 104) 300 = .ok po ∧
    po.sigStart = 4200 ∧ po.sigBufLen = 304 ∧ po.padding = 4 ∧ rd64 false po.newHeader (32 + 48) = 408 ∧
    rd32 false po.newHeader (104 + 8) = 4200 ∧ rd32 false po.newHeader (104 + 12) = 304 := by
  refine ⟨_, rfl, ?_⟩
  decide +kernel

end Relic.Props.C08
