/-
  C09 (second half) — request/response compression and its negotiation never change what gets signed.
  Property theorems about Relic.Model.CompressHttp (lib/compresshttp/compress.go, middleware.go and the
  response half of cmdline/remotecmd/client.go doRequest), composed with Relic.Model.Transport.
  The codecs are parameters (`Codec`: `dec (enc ws) = plainOf ws`); every theorem below holds for every
  pair of codecs, the toy instances of Relic.Proofs.CompressHttp show the hypotheses are satisfiable.
-/
import Relic.Proofs.CompressHttp
import Relic.Props.C09
namespace Relic.Props.C09
open Relic.Transport Relic.CompressHttp

/-- **negotiation_total.**  Every `Accept-Encoding` value yields a defined choice (x-snappy-framed if
    one comma-separated element, cut at its first `;` and trimmed, is exactly that token; else gzip; else
    none — case-sensitive, q-values and `*` play no role), and every `Content-Encoding` value is either
    mapped to one of the three codings (empty / `identity`, `gzip`, `x-snappy-framed`, exact match) or
    refused; the middleware answers every request in exactly one of three ways: 415 without running the
    handler (unknown coding), 400 without running the handler (the reader's constructor fails: a gzip
    stream without a valid member header), or it runs the handler on the decoded body. -/
theorem negotiation_total (fx : Bool) (C : Codecs) (next : Handler) (pre : Option Nat) (r : Req) (a v : Str) :
    (selectEncoding a = if snappy ∈ tokens a then snappy else if gzip ∈ tokens a then gzip else []) ∧
    (codingOf v = none ↔ v ≠ [] ∧ v ≠ identity ∧ v ≠ gzip ∧ v ≠ snappy) ∧
    (codingOf [] = some .identity ∧ codingOf identity = some .identity ∧ codingOf gzip = some .gzip ∧
      codingOf snappy = some .snappy) ∧
    ((requestCoding r = none ∧ middlewareG fx C next pre r = httpError 415 msg415) ∨
     (∃ k, requestCoding r = some k ∧ (C.of k).opens r.body.1 = false ∧
        middlewareG fx C next pre r = httpError 400 msg400) ∨
     (∃ k, requestCoding r = some k ∧ (C.of k).opens r.body.1 = true ∧
        (middlewareG fx C next pre r).ran = some (readAll (C.of k) r.body))) := by
  exact ⟨encoding_choice a, codingOf_none_iff v, ⟨codingOf_nil, codingOf_identity, codingOf_gzip, codingOf_snappy⟩,
    middleware_gate fx C next pre r⟩

-- mixed case, q-values, `*`, several values, white space: what is and is not recognised
example : codingOf "GZIP".toList = none ∧ codingOf "gzip, identity".toList = none ∧ codingOf "*".toList = none := by decide +kernel
example : headerGet [" gzip\t".toList, "br".toList] = gzip := by decide +kernel
example : selectEncoding "*;q=1, GZIP, gzip;q=0".toList = gzip := by decide +kernel

/-- **default_negotiation.**  Every answer of the middleware — including its own 415 and 400 — advertises
    `x-snappy-framed, gzip`; a client that takes its encodings from there (`getDirectory`) therefore uploads
    under x-snappy-framed, and asks for it in return. -/
theorem default_negotiation (fx : Bool) (C : Codecs) (next : Handler) (pre : Option Nat) (r : Req) :
    (middlewareG fx C next pre r).ae = acceptedEncodings ∧ selectEncoding acceptedEncodings = snappy ∧
    (∀ sched e, (clientRequest C acceptedEncodings sched e).ce = [snappy] ∧
      responseEncoding (clientRequest C acceptedEncodings sched e) = snappy) := by
  have h : selectEncoding acceptedEncodings = snappy := by decide +kernel
  refine ⟨?_, h, ?_⟩
  · rcases middleware_cases fx C next pre r with h0 | h0 | ⟨_, _, h0⟩ | ⟨_, _, _, _, h0, _⟩ <;> exact h0 ▸ rfl
  · intro sched e
    constructor
    · simp [clientRequest, h, snappy_ne_nil]
    · have h2 : acceptedEncodings ≠ [] := by decide +kernel
      have h3 : headerGet [acceptedEncodings] = acceptedEncodings := by decide +kernel
      simp [clientRequest, responseEncoding, h2, h3, h]

/-- **unknown_encoding_refused.**  A request whose `Content-Encoding` (first header line, outer white
    space dropped) is none of the four recognised values is answered 415 with the fixed text, the handler
    is not invoked, nothing is compressed — and the answer does not depend on the body at all: its bytes
    are never interpreted.  On the client side an answer with an unrecognised `Content-Encoding` makes
    `doRequest` return an error without touching the body. -/
theorem unknown_encoding_refused (fx : Bool) (C : Codecs) (next : Handler) (pre : Option Nat) (r : Req)
    (h : codingOf (headerGet r.ce) = none) :
    (middlewareG fx C next pre r).status = 415 ∧ (middlewareG fx C next pre r).ran = none ∧
    (middlewareG fx C next pre r).ce = none ∧ (middlewareG fx C next pre r).body = msg415 ∧
    (∀ b, middlewareG fx C next pre { r with body := b } = middlewareG fx C next pre r) ∧
    (∀ (explicit chunked : Bool) (v : Str) s ae cl w ran e, codingOf v = none →
        clientRead C explicit chunked ⟨s, some v, ae, cl, w, ran⟩ e = .error) := by
  have hr : requestCoding r = none := h
  rw [middleware_refuse fx C next pre r hr]
  refine ⟨rfl, rfl, rfl, rfl, ?_, ?_⟩
  · intro b
    exact middleware_refuse fx C next pre { r with body := b } hr
  · intro explicit chunked v s ae cl w ran e hv
    have hg : v ≠ gzip := by
      intro hg; rw [hg, codingOf_gzip] at hv; cases hv
    simp [clientRead, hv, hg]

example : (middleware toyCodecs (fun _ => [.write [1]]) none ⟨["br".toList], [], ([9, 9], .eof)⟩).status = 415 := by decide +kernel

/-- **response_encoding_only_if_accepted.**  Whatever the handler does (any sequence of `WriteHeader`,
    `Write`, `Flush`), a `Content-Encoding` on the answer is the value `selectEncoding` picked from the
    request's first `Accept-Encoding` line: it is gzip or x-snappy-framed and it is one of the tokens the
    client listed. -/
theorem response_encoding_only_if_accepted (fx : Bool) (C : Codecs) (next : Handler) (pre : Option Nat) (r : Req) (v : Str)
    (h : (middlewareG fx C next pre r).ce = some v) :
    v = responseEncoding r ∧ v ∈ tokens (headerGet r.ae) ∧ (v = gzip ∨ v = snappy) := by
  have key : v = responseEncoding r ∧ responseEncoding r ≠ [] := by
    rcases middleware_cases fx C next pre r with h0 | h0 | ⟨_, _, h0⟩ | ⟨_, ce, _, he, h0, hce, _⟩ <;>
      rw [h0] at h
    · cases h
    · cases h
    · cases h
    · have hv : ce = some v := h
      rcases hce with h1 | h1
      · rw [h1] at hv; cases hv
      · rw [h1] at hv; exact ⟨(Option.some.inj hv).symm, he⟩
  obtain ⟨hv, hne⟩ := key
  refine ⟨hv, ?_, ?_⟩
  · rw [hv]; exact selectEncoding_mem _ hne
  · rw [hv]
    rcases responseEncoding_cases r with h1 | h1 | h1
    · exact absurd h1 hne
    · exact Or.inl h1
    · exact Or.inr h1

example : (middleware toyCodecs (fun _ => [.write [1]]) none ⟨[], ["br, gzip".toList], ([], .eof)⟩).ce = some gzip := by decide +kernel

/-- q-values are not honoured: `gzip;q=0` ("not acceptable" in RFC 9110) still selects gzip
    (`response_encoding_only_if_accepted` speaks about listed tokens) -/
theorem q0_still_selected :
    (middleware toyCodecs (fun _ => [.write [1]]) none ⟨[], ["gzip;q=0".toList], ([], .eof)⟩).ce = some gzip := by decide +kernel

/-- **content_length_consistent.**  The answer never carries a `Content-Length` that was set for other
    content: a length present when the middleware is entered survives only on an answer without
    `Content-Encoding` produced by the handler itself; with a coding (and on the 415/400 answers) it is gone
    and net/http frames the body itself. -/
theorem content_length_consistent (fx : Bool) (C : Codecs) (next : Handler) (pre : Option Nat) (r : Req) :
    (middlewareG fx C next pre r).cl = none ∨
      ((middlewareG fx C next pre r).cl = pre ∧ (middlewareG fx C next pre r).ce = none ∧ responseEncoding r = []) := by
  rcases middleware_cases fx C next pre r with h0 | h0 | ⟨_, he, h0⟩ | ⟨_, _, _, _, h0, _⟩ <;> rw [h0]
  · exact .inl rfl
  · exact .inl rfl
  · exact .inr ⟨rfl, rfl, he⟩
  · exact .inl rfl

example : (middleware toyCodecs (fun _ => [.write [1, 2]]) (some 2) ⟨[], [], ([], .eof)⟩).cl = some 2 ∧
    (middleware toyCodecs (fun _ => [.write [1, 2]]) (some 2) ⟨[], [gzip], ([], .eof)⟩).cl = none := by decide +kernel

/-- **error_responses_uncompressed.**  Whatever the handler does, an answer with a status of 300 or
    more has no `Content-Encoding` (the client's `httperror.FromResponse` reads such bodies as they are). -/
theorem error_responses_uncompressed (fx : Bool) (C : Codecs) (next : Handler) (pre : Option Nat) (r : Req)
    (h : 300 ≤ (middlewareG fx C next pre r).status) : (middlewareG fx C next pre r).ce = none := by
  rcases middleware_cases fx C next pre r with h0 | h0 | ⟨_, _, h0⟩ | ⟨_, _, _, _, h0, _, h3⟩
  · exact h0 ▸ rfl
  · exact h0 ▸ rfl
  · exact h0 ▸ rfl
  · rw [h0] at h ⊢
    exact h3 h

/-- **status_only_from_handler.**  Apart from its own 415 and 400 the middleware invents no status: the
    status of the answer is 200 or one the handler passed to `WriteHeader`.  In particular it never
    answers 406 — the status on which `doRequest` falls back to an uncompressed upload. -/
theorem status_only_from_handler (fx : Bool) (C : Codecs) (next : Handler) (pre : Option Nat) (r : Req) :
    (middlewareG fx C next pre r).status = 415 ∨ (middlewareG fx C next pre r).status = 400 ∨
    (middlewareG fx C next pre r).status = 200 ∨
    ∃ rd, HOp.header (middlewareG fx C next pre r).status ∈ next rd := by
  rcases middleware_cases fx C next pre r with h0 | h0 | ⟨rd, _, h0⟩ | ⟨rd, _, _, _, h0, _⟩ <;> rw [h0]
  · exact .inl rfl
  · exact .inr (.inl rfl)
  all_goals
    -- with or without a response encoding the status is `statusOfOps (next rd)`: that of a leading `WriteHeader`, or 200
    refine .inr (.inr ?_)
    show statusOfOps (next rd) = 200 ∨ _
    cases hops : next rd with
    | nil => exact .inl rfl
    | cons o ops =>
      cases o with
      | header s => exact .inr ⟨rd, by rw [hops]; simp [statusOfOps]⟩
      | write d => exact .inl rfl
      | flush => exact .inl rfl

/-- **fallback_on_415** (after the repair of F-chttp-415).  A server that cannot decode the chosen coding
    says 415 (the middleware's own status, `status_only_from_handler`); `doRequest` as repaired in 8798e51 treats it like 406:
    for every file, every non-empty encodings string, every server list and whatever follows in the script,
    the pass ends in a restart, and the whole request continues from the first server without
    Accept-Encoding and with an unencoded body (`failover_after_406_uncompressed` applies as it is). -/
theorem fallback_on_415 (file : Bytes) (encs : Str) (b : Nat) (rest : List Nat) (more : List Outcome)
    (c : Nat) (hc : c = 406 ∨ c = 415) (he : encs ≠ []) :
    (pass file encs (b :: rest) (.status c :: more)).2.1 = .restart ∧
    ∃ f, doRequest file encs (b :: rest) 0 (.status c :: more)
        = .ok ([⟨b, encs, selectEncoding encs, file⟩] ++ (pass file [] (b :: rest) more).1, f) ∧
      ∀ a ∈ (pass file [] (b :: rest) more).1, a.accept = [] ∧ a.enc = [] ∧ a.offered = file := by
  have hp : pass file encs (b :: rest) (.status c :: more)
      = ([⟨b, encs, selectEncoding encs, file⟩], .restart, more) := by
    have h3 : ¬ c < 300 := by omega
    simp [pass, roundTrip_status, h3, hc, he, getReader]
  refine ⟨by rw [hp], ?_⟩
  obtain ⟨f, h1, h2⟩ := failover_after_406_uncompressed file encs (b :: rest) (.status c :: more) (by rw [hp])
  rw [hp] at h1 h2
  exact ⟨f, h1, h2⟩

-- the signing completes against a server that lacks the coding
example : doRequest [1, 2, 3] snappy [0, 1] 0 [.status 415]
    = .ok ([⟨0, snappy, snappy, [1, 2, 3]⟩, ⟨0, [], [], [1, 2, 3]⟩], .response 200 0) := by decide +kernel

/-- **fallback_not_taken_on_415_orig** (finding F-chttp-415, the code before the repair): on 415 `doRequest`
    neither resent uncompressed nor tried the next server; on 406 it did. -/
theorem fallback_not_taken_on_415_orig :
    doRequestOrig [1, 2, 3] snappy [0, 1] 0 [.status 415]
      = .ok ([⟨0, snappy, snappy, [1, 2, 3]⟩], .httpError 415) ∧
    doRequestOrig [1, 2, 3] snappy [0, 1] 0 [.status 406]
      = .ok ([⟨0, snappy, snappy, [1, 2, 3]⟩, ⟨0, [], [], [1, 2, 3]⟩], .response 200 0) := by decide +kernel

/-- **roundtrip_request.**  For every pair of codecs, every `Accept-Encoding` string the client was
    given, every file and every way `io.Copy` cuts it into writes: the handler behind the middleware
    reads exactly the bytes the client's `GetReader` handed out — under whichever of the three codings
    `CompressRequest` chose.  (And for each coding on its own.) -/
theorem roundtrip_request (fx : Bool) (C : Codecs) (next : Handler) (pre : Option Nat) (accept : Str) (sched : List WOp) :
    (middlewareG fx C next pre (clientRequest C accept sched .eof)).ran = some (.complete (plainOf sched)) ∧
    (∀ k, readAll (C.of k) ((C.of k).enc sched, .eof) = .complete (plainOf sched)) := by
  obtain ⟨k, hk, ho, hr⟩ := clientRequest_read C accept sched
  exact ⟨by rw [middleware_ran fx C next pre _ k hk ho, hr], fun k => readAll_eof _ _ _ ((C.of k).roundtrip sched)⟩

example : (middleware toyCodecs (fun _ => []) none
      (clientRequest toyCodecs acceptedEncodings [.write [1, 2], .flush, .write [3]] .eof)).ran = some (.complete [1, 2, 3]) :=
  (roundtrip_request true toyCodecs _ none acceptedEncodings [.write [1, 2], .flush, .write [3]]).1

/-- the full statement about the middleware with (`fx = true`) or without (`false`) the repair of
    F-chttp-flush / F-chttp-empty: whatever the handler does, the caller of `doRequest` reads the handler's
    status and exactly the bytes the handler wrote -/
def roundtrip_response_full (fx : Bool) : Prop :=
  ∀ (C : Codecs) (next : Handler) (pre : Option Nat) (r : Req) (k : Coding) (explicit chunked : Bool),
    requestCoding r = some k → (C.of k).opens r.body.1 = true →
    clientRead C explicit chunked (middlewareG fx C next pre r) .eof =
      .body (statusOfOps (next (readAll (C.of k) r.body))) (.complete (plainOfOps (next (readAll (C.of k) r.body))))

/-- **roundtrip_response_partial** (holds for the code before and after the repair).  For every pair of
    codecs, every request the middleware lets through, every response coding it negotiates and every handler
    whose first operation is not `Flush()` and which, if it announces a status below 300 explicitly, also
    writes at least one (possibly empty) chunk or uses a codec that accepts an empty stream: the caller of
    `doRequest` gets the handler's status and reads exactly what the handler wrote — with or without the
    transport's own gzip layer. -/
theorem roundtrip_response_partial (fx : Bool) (C : Codecs) (next : Handler) (pre : Option Nat) (r : Req) (k : Coding)
    (explicit chunked : Bool) (hk : requestCoding r = some k) (ho : (C.of k).opens r.body.1 = true)
    (h1 : (next (readAll (C.of k) r.body)).head? ≠ some .flush)
    (h2 : hasWrite (next (readAll (C.of k) r.body)) = true ∨ 300 ≤ statusOfOps (next (readAll (C.of k) r.body)) ∨
          next (readAll (C.of k) r.body) = [] ∨ (C.ofStr (responseEncoding r)).dec [] = some [] ∨ fx = true) :
    clientRead C explicit chunked (middlewareG fx C next pre r) .eof =
      .body (statusOfOps (next (readAll (C.of k) r.body))) (.complete (plainOfOps (next (readAll (C.of k) r.body)))) := by
  exact middleware_roundtrip fx C next pre r k explicit chunked hk ho (.inr h1) h2

/-- **roundtrip_response** (FULL strength, for the repaired middleware).  For every pair of codecs, every
    request the middleware lets through, every response coding it negotiates and EVERY handler — any sequence
    of `WriteHeader`, `Write` and `Flush`, including `Flush` first and a 2xx status without a body: the caller
    of `doRequest` gets the status a plain `ResponseWriter` would have sent and reads exactly the bytes the
    handler wrote, with or without the transport's own gzip layer. -/
theorem roundtrip_response : roundtrip_response_full true := by
  intro C next pre r k explicit chunked hk ho
  exact middleware_roundtrip true C next pre r k explicit chunked hk ho (.inl rfl) (.inr (.inr (.inr (.inr rfl))))

-- a handler that writes, flushes and writes again (lib/compresshttp/compress_test.go), both codecs
example : clientRead toyCodecs true true
      (middleware toyCodecs (fun _ => [.write [1, 2], .flush, .write [3]]) none ⟨[], [acceptedEncodings], ([], .eof)⟩) .eof
    = .body 200 (.complete [1, 2, 3]) :=
  roundtrip_response toyCodecs _ none _ .identity true true (by decide) (by decide)
-- the two handler shapes that failed before the repair
example : clientRead toyCodecs true false (middleware toyCodecs (fun _ => [.flush, .write [1]]) none ⟨[], [gzip], ([], .eof)⟩) .eof
    = .body 200 (.complete [1]) := roundtrip_response toyCodecs _ none _ .identity true false (by decide) (by decide)
example : clientRead toyCodecs true false (middleware toyCodecs (fun _ => [.header 201]) none ⟨[], [gzip], ([], .eof)⟩) .eof
    = .body 201 (.complete []) := roundtrip_response toyCodecs _ none _ .identity true false (by decide) (by decide)

/-- **flush_first_loses_content_encoding_orig** (finding F-chttp-flush, the code before the repair).  For
    every pair of codecs and every negotiated coding: a handler that calls `Flush()` before its first `Write`
    got its header sent without `Content-Encoding` (net/http wrote it during that flush; `responseCompressor`
    set the field afterwards), and the body was compressed all the same. -/
theorem flush_first_loses_content_encoding_orig (C : Codecs) (next : Handler) (pre : Option Nat) (r : Req) (k : Coding)
    (d : Bytes) (rest : List HOp) (hk : requestCoding r = some k) (ho : (C.of k).opens r.body.1 = true)
    (he : responseEncoding r ≠ [])
    (hn : next (readAll (C.of k) r.body) = .flush :: .write d :: rest) :
    (middlewareOrig C next pre r).status = 200 ∧ (middlewareOrig C next pre r).ce = none ∧
    (middlewareOrig C next pre r).body = (C.ofStr (responseEncoding r)).enc (.write d :: wopsFrom true rest) := by
  unfold middlewareOrig
  rw [middleware_compressed false C next pre r k hk ho he, hn, RC.run_flush_write]
  simp [respOf]

/-- **roundtrip_response_orig_false**: the full statement was false before the repair: (1) `Flush(); Write([1])`
    with gzip negotiated: the client read the compressed bytes as the body; (2) `WriteHeader(200)` and no body
    with gzip negotiated: `Content-Encoding: gzip` on an empty body, `gzip.NewReader` fails, `doRequest`
    returned an error (finding F-chttp-empty). -/
theorem roundtrip_response_orig_false : ¬ roundtrip_response_full false := by
  intro h
  have := h toyCodecs (fun _ => [.flush, .write [1]]) none ⟨[], [gzip], ([], .eof)⟩ .identity true true (by decide) (by decide)
  revert this
  decide +kernel

theorem empty_2xx_gzip_unreadable_orig :
    clientRead toyCodecs true false (middlewareOrig toyCodecs (fun _ => [.header 200]) none ⟨[], [gzip], ([], .eof)⟩) .eof = .error ∧
    clientRead toyCodecs false false (middlewareOrig toyCodecs (fun _ => [.header 200]) none ⟨[], [gzip], ([], .eof)⟩) .eof = .error ∧
    clientRead toyCodecs true false (middlewareOrig toyCodecs (fun _ => [.header 200]) none ⟨[], [snappy], ([], .eof)⟩) .eof
      = .body 200 (.complete []) := by decide +kernel

/-- **truncated_never_accepted.**  For every pair of codecs:
    * a request whose body does not end cleanly on the connection (chunked body left unterminated, fewer
      bytes than Content-Length, reset) — cut at any point, under any coding — is never read to a clean
      end by a handler: either the handler is not invoked (415/400) or its read fails;
    * an answer whose body does not end cleanly never reads as a complete body for the caller of
      `doRequest`: it is an error at once or a read error;
    * with a codec whose streams are self-delimiting (gzip), even a cleanly ended proper prefix of an
      encoded stream fails to read. -/
theorem truncated_never_accepted (fx : Bool) (C : Codecs) (next : Handler) (pre : Option Nat) :
    (∀ (r : Req) (t : Bool), r.body.2 = .error t →
        (middlewareG fx C next pre r).ran = none ∨ (middlewareG fx C next pre r).ran = some .failed) ∧
    (∀ (explicit chunked : Bool) (resp : Resp) (t : Bool),
        clientRead C explicit chunked resp (.error t) = .error ∨
        clientRead C explicit chunked resp (.error t) = .body resp.status .failed) ∧
    (∀ (c : Codec), SelfDelimiting c → ∀ ws p, p <+: c.enc ws → p ≠ c.enc ws → readAll c (p, .eof) = .failed) := by
  refine ⟨?_, ?_, ?_⟩
  · intro r t ht
    rcases middleware_gate fx C next pre r with ⟨_, h0⟩ | ⟨_, _, _, h0⟩ | ⟨k, _, _, h0⟩
    · left; rw [h0]; rfl
    · left; rw [h0]; rfl
    · right
      rw [h0]
      have : r.body = (r.body.1, .error t) := by rw [← ht]
      rw [this, readAll_error]
  · intro explicit chunked resp t
    unfold clientRead
    split
    · right; rw [readAll_error]; simp
    · split
      · left; rfl
      · split
        · left; rfl
        · right; rw [readAll_error]
  · intro c hc ws p hp hne
    simp [readAll, hc ws p hp hne]

example : SelfDelimiting toyGzip := toyGzip_selfDelimiting
example : (middleware toyCodecs (fun _ => []) none ⟨[gzip], [], ((encG [.write [1, 2]]).take 4, .error false)⟩).ran = some .failed := by decide +kernel

/-- the statement "no cleanly ended proper prefix of an encoded stream is accepted", for every codec -/
def clean_prefix_never_accepted_full : Prop :=
  ∀ (c : Codec) ws p, p <+: c.enc ws → p ≠ c.enc ws → readAll c (p, .eof) = .failed

/-- **snappy_clean_prefix_accepted** (finding F-chttp-snappy-eos).  It is false for a codec that is a bare
    sequence of frames (x-snappy-framed has no end-of-stream marker): the stream cut after a whole frame,
    delivered with a clean end, reads as a shorter body.  Only the HTTP framing (first two items of
    `truncated_never_accepted`) stands between a cut connection and a shorter upload under that coding. -/
theorem snappy_clean_prefix_accepted : ¬ clean_prefix_never_accepted_full := by
  refine fun h => toySnappy_not_selfDelimiting fun ws p hp hne => ?_
  have := h _ ws p hp hne
  cases hd : (toySnappy 1 (by decide)).dec p with
  | none => rfl
  | some x => simp [readAll, hd] at this

theorem snappy_frame_prefix_reads (fs : List Bytes) (j : Nat) (B : Nat) (hB : 0 < B) :
    readAll (toySnappy B hB) (encFrames (fs.take j), .eof) = .complete (fs.take j).flatten :=
  readAll_eof _ _ _ (decS_encFrames (fs.take j))

/-- **transport_preserves_digest.**  For every pair of codecs, every file, advertised encodings, server
    list, retry setting and script of per-attempt outcomes with which `doRequest` terminates — histories with
    transport errors, 5xx, 406 AND 415 answers (`fallback_on_415`) alike — and for every attempt it made
    (first pass with the advertised encodings, second pass after a 406/415 without, any server, any retry),
    every way the file is cut into writes and EVERY handler behind the (repaired) middleware:
    * if the upload of that attempt arrives with a clean end, the handler reads the whole transform
      stream, byte for byte;
    * if it does not arrive with a clean end (source fault, `fault_never_accepted`; broken connection),
      whatever bytes arrived, no handler reads a complete body;
    * the caller of `doRequest` reads the status and exactly the bytes the handler produced from the whole
      file (`roundtrip_response`, no restriction on the handler). -/
theorem transport_preserves_digest (C : Codecs) (file : Bytes) (encs : Str) (bases : List Nat) (retries : Int)
    (script : List Outcome) (tr : List Attempt) (f : Final)
    (h : doRequest file encs bases retries script = .ok (tr, f)) :
    ∀ a ∈ tr, ∀ (sched : List WOp), plainOf sched = a.offered → ∀ (next : Handler) (pre : Option Nat),
      (clientRequest C a.accept sched .eof).ce = (if a.enc = [] then [] else [a.enc]) ∧
      (middleware C next pre (clientRequest C a.accept sched .eof)).ran = some (.complete file) ∧
      (∀ (w : Bytes) (t : Bool) (b : Bytes),
          (middleware C next pre { clientRequest C a.accept sched .eof with body := (w, .error t) }).ran ≠
            some (.complete b)) ∧
      (∀ chunked,
        clientRead C (decide (a.accept ≠ [])) chunked (middleware C next pre (clientRequest C a.accept sched .eof)) .eof
          = .body (statusOfOps (next (.complete file))) (.complete (plainOfOps (next (.complete file))))) := by
  intro a ha sched hs next pre
  unfold middleware
  obtain ⟨hall, _, _⟩ := failover_same_body file encs bases retries script tr f h
  obtain ⟨hoff, henc, _⟩ := hall a ha
  have hrun := (roundtrip_request true C next pre a.accept sched).1
  rw [hs, hoff] at hrun
  refine ⟨?_, hrun, ?_, ?_⟩
  · simp [clientRequest, henc]
  · intro w t b
    have := (truncated_never_accepted true C next pre).1
      { clientRequest C a.accept sched .eof with body := (w, .error t) } t rfl
    rcases this with h1 | h1 <;> rw [h1] <;> simp
  · intro chunked
    obtain ⟨k, hk, ho, hr⟩ := clientRequest_read C a.accept sched
    rw [hs, hoff] at hr
    have := roundtrip_response C next pre (clientRequest C a.accept sched .eof) k (decide (a.accept ≠ [])) chunked hk ho
    rw [hr] at this
    exact this

/-- **remote_equals_standalone.**  For every function `sign` from the transform stream to the answer
    (digest, signature, patch: whatever the signer module computes from the bytes it reads), a server
    that answers `sign body` after reading the body to its clean end makes `doRequest` hand out
    `sign file` — the same bytes a standalone run computes from the same stream — for every attempt of
    every fail-over history (406 and 415 restarts included). -/
theorem remote_equals_standalone (C : Codecs) (sign : Bytes → Bytes) (file : Bytes) (encs : Str) (bases : List Nat)
    (retries : Int) (script : List Outcome) (tr : List Attempt) (f : Final)
    (h : doRequest file encs bases retries script = .ok (tr, f)) :
    ∀ a ∈ tr, ∀ (sched : List WOp), plainOf sched = a.offered → ∀ chunked,
      clientRead C (decide (a.accept ≠ [])) chunked
        (middleware C (fun rd => match rd with | .complete b => [.write (sign b)] | .failed => [.header 400]) none
          (clientRequest C a.accept sched .eof)) .eof
        = .body 200 (.complete (sign file)) := by
  intro a ha sched hs chunked
  have := (transport_preserves_digest C file encs bases retries script tr f h a ha sched hs
    (fun rd => match rd with | .complete b => [.write (sign b)] | .failed => [.header 400]) none).2.2.2 chunked
  simpa [statusOfOps, plainOfOps] using this

-- a server that lacks the coding answers 415; the signing completes on the uncompressed second pass
example : ∀ a ∈ [(⟨0, snappy, snappy, [1, 2, 3]⟩ : Attempt), ⟨0, [], [], [1, 2, 3]⟩], ∀ sched, plainOf sched = a.offered → ∀ chunked,
    clientRead toyCodecs (decide (a.accept ≠ [])) chunked
      (middleware toyCodecs (fun rd => match rd with | .complete b => [.write (b ++ b)] | .failed => [.header 400]) none
        (clientRequest toyCodecs a.accept sched .eof)) .eof = .body 200 (.complete [1, 2, 3, 1, 2, 3]) :=
  remote_equals_standalone toyCodecs (fun b => b ++ b) [1, 2, 3] snappy [0, 1] 0 [.status 415] _ (.response 200 0) (by decide)

end Relic.Props.C09
