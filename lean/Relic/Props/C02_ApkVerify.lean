/-
  C02 (tamper evidence), APK verifier decision logic: theorems about `Relic.ApkVerify.verify`
  (model of signers/apk/verify.go; cryptography, X.509 and the content digest are the table `Crypto`).

  Central statement: `apk_accept_iff` — the verifier accepts exactly when the signing block (if any) parses, every v2
  pair holds a non-empty signer list, EVERY signer of EVERY v2 pair satisfies `SignerOK` (signature list non-empty;
  every signature record names a known algorithm of the key's type and verifies over the signed-data bytes under the
  signer's public key; the signed data parses; digest list non-empty; every digest record names a known algorithm and
  equals the recomputed content digest; every certificate parses and one carries the public key), the v1 result is no
  error, no v1 signature file claims a v2 signature while there is none, and something is signed at all.
  Everything else is a corollary.  The stated gaps are theorems with witnesses (also replayed on the real code by the
  `gap-*` ops of harness/apkv).
-/
import Relic.Proofs.ApkVerify
namespace Relic.Props.C02
open Relic.ApkVerify

/-- the right-hand side of `apk_accept_iff` -/
def ApkAccepts (C : Crypto) (gap : Bytes) (v1 : V1) : Prop :=
  ∃ ss, gapSigners gap = .ok ss ∧ (∀ s ∈ ss, SignerOK C s) ∧ v1 ≠ V1.err ∧
    (ss = [] → (∀ h ∈ v1.hdrs, has2 h = false) ∧ v1.hdrs ≠ [])

theorem apk_accept_implies (C : Crypto) (gap : Bytes) (v1 : V1) (v : Verdict) (h : verify C gap v1 = .ok v) :
    ∃ ss, gapSigners gap = .ok ss ∧ (∀ s ∈ ss, SignerOK C s) ∧ v.v2.length = ss.length ∧ v.v1 = v1.hdrs.length ∧
      v1 ≠ V1.err ∧ (ss = [] → (∀ h ∈ v1.hdrs, has2 h = false) ∧ v1.hdrs ≠ []) := by
  unfold verify at h
  obtain ⟨area, e1, h⟩ := Res.bind_eq_ok.mp h
  obtain ⟨v2, e2, h⟩ := Res.bind_eq_ok.mp h
  simp only [Res.errGuard_eq_ok, Res.ok.injEq] at h
  obtain ⟨hv1, hdg, hns, rfl⟩ := h
  have key : ∃ ss, (match area with | none => (.ok [] : Res (List Signer)) | some a => v2Signers a.length a) = .ok ss ∧
      (∀ s ∈ ss, SignerOK C s) ∧ v2.length = ss.length := by
    cases area with
    | none => cases e2; exact ⟨[], rfl, by simp, rfl⟩
    | some a =>
      obtain ⟨ss, k1, k2, k3⟩ := (walkParts_iff C _ _ _).mp ⟨v2, e2, rfl⟩
      exact ⟨ss, k1, k2, k3.symm⟩
  obtain ⟨ss, k1, k2, k3⟩ := key
  refine ⟨ss, ?_, k2, k3, rfl, hv1, ?_⟩
  · unfold gapSigners; rw [e1]; exact k1
  · intro hss
    subst hss
    have hv2 : v2 = [] := List.eq_nil_of_length_eq_zero (by simpa using k3)
    subst hv2
    constructor
    · intro hd hm
      cases hb : has2 hd with
      | false => rfl
      | true => exact absurd ⟨List.any_eq_true.mpr ⟨hd, hm, hb⟩, rfl⟩ hdg
    · intro he
      exact hns ⟨rfl, by simp [he]⟩

theorem apk_tail_ok (v1 : V1) (v2 : List Report) (c : v1 ≠ V1.err)
    (d : v2 = [] → (∀ h ∈ v1.hdrs, has2 h = false) ∧ v1.hdrs ≠ []) :
    (if v1 = V1.err then (.err "v1err" : Res Verdict)
     else if v1.hdrs.any has2 ∧ v2.isEmpty then .err "downgrade"
     else if v2.isEmpty ∧ v1.hdrs.isEmpty then .err "notsigned"
     else .ok ⟨v2, v1.hdrs.length⟩) = .ok ⟨v2, v1.hdrs.length⟩ := by
  rw [if_neg c]
  cases v2 with
  | nil =>
    obtain ⟨d1, d2⟩ := d rfl
    have : v1.hdrs.any has2 = false := by
      rw [Bool.eq_false_iff]; intro ht
      obtain ⟨hd, hm, hb⟩ := List.any_eq_true.mp ht
      rw [d1 hd hm] at hb; cases hb
    have d3 : v1.hdrs.isEmpty = false := List.isEmpty_eq_false_iff.mpr d2
    simp [this, d3]
  | cons r rs => simp

theorem apk_accept_iff (C : Crypto) (gap : Bytes) (v1 : V1) : (∃ v, verify C gap v1 = .ok v) ↔ ApkAccepts C gap v1 := by
  constructor
  · rintro ⟨v, h⟩
    obtain ⟨ss, a, b, _, _, c, d⟩ := apk_accept_implies C gap v1 v h
    exact ⟨ss, a, b, c, d⟩
  · rintro ⟨ss, a, b, c, d⟩
    unfold gapSigners at a
    obtain ⟨area, e1, a⟩ := Res.bind_eq_ok.mp a
    unfold verify
    rw [e1]
    cases area with
    | none =>
      cases a
      exact ⟨⟨[], v1.hdrs.length⟩, apk_tail_ok v1 [] c (fun _ => d rfl)⟩
    | some ar =>
      obtain ⟨v2, k1, k2⟩ := (walkParts_iff C _ _ _).mpr ⟨ss, a, b, rfl⟩
      refine ⟨⟨v2, v1.hdrs.length⟩, ?_⟩
      simp only [Res.bind, k1]
      refine apk_tail_ok v1 v2 c (fun hv2 => d ?_)
      subst hv2
      exact List.eq_nil_of_length_eq_zero (by simpa using k2.symm)

/-- every signer of every v2 pair is checked: one signer that fails a condition makes the whole file fail -/
theorem apk_all_signers_checked (C : Crypto) (gap : Bytes) (v1 : V1) (ss : List Signer) (s : Signer)
    (hs : gapSigners gap = .ok ss) (hm : s ∈ ss) (hbad : ¬ SignerOK C s) : ∀ v, verify C gap v1 ≠ .ok v := by
  intro v h
  obtain ⟨ss', a, b, _⟩ := apk_accept_implies C gap v1 v h
  rw [hs] at a; cases a
  exact hbad (b s hm)

/-- a record whose algorithm id is not in `sigTypes` is an error; it is never skipped, wherever it stands and whatever
    else the signer carries -/
theorem apk_unknown_sig_alg_rejected (C : Crypto) (gap : Bytes) (v1 : V1) (ss : List Signer) (s : Signer) (sig : Attr)
    (hs : gapSigners gap = .ok ss) (hm : s ∈ ss) (hsig : sig ∈ s.signatures) (hunk : sigTypeByID sig.id = none) :
    ∀ v, verify C gap v1 ≠ .ok v := by
  apply apk_all_signers_checked C gap v1 ss s hs hm
  rintro ⟨_, ⟨kind, _, hall⟩, _⟩
  obtain ⟨st, e, _⟩ := hall sig hsig
  rw [hunk] at e; cases e

/-- a record that does not verify over the signed-data bytes under the signer's key makes the file fail — also when
    another record of the same signer verifies -/
theorem apk_bad_signature_rejected (C : Crypto) (gap : Bytes) (v1 : V1) (ss : List Signer) (s : Signer) (sig : Attr)
    (hs : gapSigners gap = .ok ss) (hm : s ∈ ss) (hsig : sig ∈ s.signatures)
    (hbad : C.sigValid s.publicKey sig.id s.sdBytes sig.value = false) : ∀ v, verify C gap v1 ≠ .ok v := by
  apply apk_all_signers_checked C gap v1 ss s hs hm
  rintro ⟨_, ⟨kind, _, hall⟩, _⟩
  obtain ⟨st, _, _, e⟩ := hall sig hsig
  rw [hbad] at e; cases e

/-- the signed data changed (digests, certificates, attributes — any byte of it): acceptance means every signature
    record verifies over the NEW bytes, i.e. the signer signed them or the scheme was forged -/
theorem apk_signed_data_change_rejected (C : Crypto) (gap : Bytes) (v1 : V1) (ss : List Signer) (s : Signer) (v : Verdict)
    (hs : gapSigners gap = .ok ss) (hm : s ∈ ss) (h : verify C gap v1 = .ok v) :
    s.signatures ≠ [] ∧ ∀ sig ∈ s.signatures, C.sigValid s.publicKey sig.id s.sdBytes sig.value = true := by
  obtain ⟨ss', a, b, _⟩ := apk_accept_implies C gap v1 v h
  rw [hs] at a; cases a
  obtain ⟨n, ⟨kind, _, hall⟩, _⟩ := b s hm
  exact ⟨n, fun sig hsig => (hall sig hsig).choose_spec.2.2⟩

/-- the content changed so that the recomputed digest differs from a listed one (whatever its position and whichever
    other digests are listed and still match): rejected, under any table -/
theorem apk_content_change_rejected (C : Crypto) (gap : Bytes) (v1 : V1) (ss : List Signer) (s : Signer) (sd : SignedData)
    (d : Attr) (st : SigType) (hs : gapSigners gap = .ok ss) (hm : s ∈ ss) (hsd : unmarshalSignedData s.signedData = .ok sd)
    (hd : d ∈ sd.digests) (hst : sigTypeByID d.id = some st)
    (hchg : ∀ cd, C.content = some cd → cd st.hash ≠ d.value) : ∀ v, verify C gap v1 ≠ .ok v := by
  apply apk_all_signers_checked C gap v1 ss s hs hm
  rintro ⟨_, _, sd', hsd', _, ⟨cd, hcd, hall⟩, _⟩
  rw [hsd] at hsd'; cases hsd'
  obtain ⟨st', e1, e2⟩ := hall d hd
  rw [hst] at e1; cases e1
  exact hchg cd hcd e2.symm

/-- the public key (and possibly the certificates) replaced: acceptance means every signature record verifies under the
    NEW key and a certificate of the signed list carries the new key -/
theorem apk_key_swap_rejected (C : Crypto) (gap : Bytes) (v1 : V1) (ss : List Signer) (s : Signer) (v : Verdict)
    (hs : gapSigners gap = .ok ss) (hm : s ∈ ss) (h : verify C gap v1 = .ok v) :
    (∀ sig ∈ s.signatures, C.sigValid s.publicKey sig.id s.sdBytes sig.value = true) ∧
      ∃ sd, unmarshalSignedData s.signedData = .ok sd ∧ ∃ c ∈ sd.certs, C.certSpki c = some s.publicKey := by
  obtain ⟨ss', a, b, _⟩ := apk_accept_implies C gap v1 v h
  rw [hs] at a; cases a
  obtain ⟨_, ⟨kind, _, hall⟩, sd, hsd, _, _, _, hc⟩ := b s hm
  exact ⟨fun sig hsig => (hall sig hsig).choose_spec.2.2, sd, hsd, hc⟩

/-- the downgrade check: a v1 signature file whose `X-Android-APK-Signed` header names scheme 2 and no v2 signer
    (block stripped, emptied of v2 pairs, or never there) is an error -/
theorem apk_v1_claims_v2_but_stripped_rejected (C : Crypto) (gap : Bytes) (hdrs : List Bytes) (hd : Bytes)
    (hs : gapSigners gap = .ok []) (hm : hd ∈ hdrs) (h2 : has2 hd = true) : ∀ v, verify C gap (.sigs hdrs) ≠ .ok v := by
  intro v h
  obtain ⟨ss', a, _, _, _, _, d⟩ := apk_accept_implies C gap (.sigs hdrs) v h
  rw [hs] at a; cases a
  have := (d rfl).1 hd hm
  rw [h2] at this; cases this

/-- with the block stripped the model's verdict is exactly the downgrade error -/
theorem apk_stripped_is_downgrade (C : Crypto) (hdrs : List Bytes) (hd : Bytes) (hm : hd ∈ hdrs) (h2 : has2 hd = true) :
    verify C [] (.sigs hdrs) = .err "downgrade" := by
  have : hdrs.any has2 = true := List.any_eq_true.mpr ⟨hd, hm, h2⟩
  simp [verify, getSigBlock, Res.bind, V1.hdrs, this]

/-- neither signature nor block: not signed -/
theorem apk_nothing_is_notsigned (C : Crypto) : verify C [] .notSigned = .err "notsigned" := by
  simp [verify, getSigBlock, Res.bind, V1.hdrs]

/-! Non-vacuity and the stated gaps, on a toy table: keys `[1]` (RSA) and `[2]` (ECDSA); a signature value verifies iff it is
  `[7]`; a certificate `k :: _` carries the key `[k]`; the content digests are `[0xaa]` (SHA-256) and `[0xbb]` (SHA-512). -/

def apkToyC : Crypto where
  parseKey := fun p => if p = [1] then some .rsa else if p = [2] then some .ecdsa else none
  sigValid := fun _ _ _ v => v == [7]
  content := some fun h => match h with | .sha256 => [0xaa] | .sha512 => [0xbb]
  certSpki := fun c => match c with | k :: _ => some [k] | [] => none

def apkToySigner (sigs : List Attr) (digs : List Attr) (certs : List Bytes) : Signer :=
  ⟨encSignedData ⟨digs, certs, []⟩, sigs, [1]⟩

def apkToyGap (l : List Signer) : Bytes := makeSigBlock (encSigners l)

/-- what relic's signer emits (one PKCS#1 v1.5 SHA-256 record, the matching digest, the leaf) is accepted -/
example : verify apkToyC (apkToyGap [apkToySigner [⟨0x0103, [7]⟩] [⟨0x0103, [0xaa]⟩] [[1, 9]]]) .notSigned
    = .ok ⟨[⟨.sha256, 0, 0⟩], 0⟩ := by decide +kernel

example : ApkAccepts apkToyC (apkToyGap [apkToySigner [⟨0x0103, [7]⟩] [⟨0x0103, [0xaa]⟩] [[1, 9]]]) .notSigned :=
  (apk_accept_iff ..).mp ⟨⟨[⟨.sha256, 0, 0⟩], 0⟩, by decide +kernel⟩

/-- a junk record next to the valid one: rejected -/
example : verify apkToyC (apkToyGap [apkToySigner [⟨0x0103, [7]⟩, ⟨0x0999, [7]⟩] [⟨0x0103, [0xaa]⟩] [[1, 9]]]) .notSigned
    = .err "signer 1 unknown-alg" := by decide +kernel

/-- the content digest changed: rejected -/
example : verify apkToyC (apkToyGap [apkToySigner [⟨0x0103, [7]⟩] [⟨0x0103, [0xab]⟩] [[1, 9]]]) .notSigned
    = .err "signer 1 digest" := by decide +kernel

/-- empty signer list: "empty APK signing block" -/
example : verify apkToyC (apkToyGap []) (.sigs [[0x32]]) = .err "empty" := by decide +kernel

/-- a second v2 pair is walked too, and its broken signer fails the file -/
example : verify apkToyC
    (let a := encPair sigApkV2 (encSigners [apkToySigner [⟨0x0103, [7]⟩] [⟨0x0103, [0xaa]⟩] [[1, 9]]]) ++
              encPair sigApkV2 (encSigners [apkToySigner [⟨0x0103, [8]⟩] [⟨0x0103, [0xaa]⟩] [[1, 9]]])
     leBytes 8 (a.length + 24) ++ a ++ leBytes 8 (a.length + 24) ++ magic) .notSigned
    = .err "signer 1 sig" := by decide +kernel

/-- GAP (algorithms of signature records and digests are unrelated; the strongest digest is not required): a signer
    whose only signature record is RSA/SHA-512 and whose only digest is the SHA-256 one is accepted, and so is a digest
    labelled with the DSA id.  The Android verifier requires the digest for the chosen signature algorithm and, from
    v3 on, identical id lists. -/
theorem apk_gap_sig_digest_alg_unrelated :
    (∃ v, verify apkToyC (apkToyGap [apkToySigner [⟨0x0104, [7]⟩] [⟨0x0103, [0xaa]⟩] [[1, 9]]]) .notSigned = .ok v) ∧
    (∃ v, verify apkToyC (apkToyGap [apkToySigner [⟨0x0104, [7]⟩] [⟨0x0301, [0xaa]⟩] [[1, 9]]]) .notSigned = .ok v) :=
  ⟨⟨⟨[⟨.sha512, 0, 0⟩], 0⟩, by decide +kernel⟩, ⟨⟨[⟨.sha512, 0, 0⟩], 0⟩, by decide +kernel⟩⟩

/-- GAP: the certificate carrying the public key may stand anywhere in the list (Android: it must be the first);
    the last match is reported, the others count as intermediates -/
theorem apk_gap_leaf_any_position :
    verify apkToyC (apkToyGap [apkToySigner [⟨0x0103, [7]⟩] [⟨0x0103, [0xaa]⟩] [[5, 5], [1, 9], [6]]]) .notSigned
      = .ok ⟨[⟨.sha256, 1, 2⟩], 0⟩ := by decide +kernel

/-- GAP: pairs with other ids (v3 `0xf05368c0`, padding, …) are not interpreted at all -/
theorem apk_foreign_pair_ignored :
    (let a := encPair 0xf05368c0 [1, 2, 3] ++
              encPair sigApkV2 (encSigners [apkToySigner [⟨0x0103, [7]⟩] [⟨0x0103, [0xaa]⟩] [[1, 9]]])
     verify apkToyC (leBytes 8 (a.length + 24) ++ a ++ leBytes 8 (a.length + 24) ++ magic) .notSigned)
      = .ok ⟨[⟨.sha256, 0, 0⟩], 0⟩ := by decide +kernel

/-- the v1 result enters only through its error / not-signed state and the header values: no v1 certificate is
    compared with a v2 certificate (the model's `V1` has no such field; the op `none:*-v1xv2` replays a file whose v1
    and v2 signatures are made under different keys) -/
example : verify apkToyC (apkToyGap [apkToySigner [⟨0x0103, [7]⟩] [⟨0x0103, [0xaa]⟩] [[1, 9]]]) (.sigs [[0x32]])
    = .ok ⟨[⟨.sha256, 0, 0⟩], 1⟩ := by decide +kernel

end Relic.Props.C02
