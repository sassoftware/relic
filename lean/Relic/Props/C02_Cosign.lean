/-
  C02 — Any change to signed content makes verification fail.   What a container-image signature binds: the signed byte
  string is the payload; this file shows that the payload determines the manifest digest and the optional map (as a map),
  and lists the exact collisions at the level of what the caller typed.
-/
import Relic.Props.C01_Cosign
namespace Relic.Props.C02
open Relic.Json Relic.Cosign

theorem ascii_scalar : (∀ c ∈ ascii "critical", isScalar c = true) ∧ (∀ c ∈ ascii "image", isScalar c = true) ∧
    (∀ c ∈ ascii "docker-manifest-digest", isScalar c = true) ∧ (∀ c ∈ ascii "type", isScalar c = true) ∧
    (∀ c ∈ ascii "optional", isScalar c = true) ∧ (∀ c ∈ signatureType, isScalar c = true) ∧
    (∀ c ∈ ascii "creator", isScalar c = true) := by decide +kernel

theorem WFE_payloadVal (d : List Nat) (opt : List Member) (hd : ∀ c ∈ d, isScalar c = true) (ho : WFEM isScalar opt) :
    WFE isScalar (payloadVal d opt) := by
  obtain ⟨a1, a2, a3, a4, a5, a6, _⟩ := ascii_scalar
  have hc := WFE_canon isScalar (.obj opt) (by simpa [WFE] using ho)
  simp only [payloadVal, WFE, WFEM]
  exact ⟨a1, ⟨a2, ⟨a3, hd, trivial⟩, a4, a6, trivial⟩, a5, hc, trivial⟩

/-- **cosign_payload_injective_partial.**  On the class of digests and maps whose strings are Unicode scalar values and whose
    numbers are float-encoder tokens (everything `json.Unmarshal` can produce: `Relic.Json.unquote_scalar`; digest strings and
    `creator` are ASCII): two payloads are the same byte string only if they name the same digest and carry the same optional
    map – the same members, listed canonically.  (`_full`, below, is false: what the *caller typed* is not determined.) -/
theorem cosign_payload_injective_partial (creator d d' : List Nat) (m m' : Option (List Member))
    (hc : ∀ c ∈ creator, isScalar c = true) (hd : ∀ c ∈ d, isScalar c = true) (hd' : ∀ c ∈ d', isScalar c = true)
    (hm : WFEM isScalar (m.getD [])) (hm' : WFEM isScalar (m'.getD []))
    (h : payloadBytes creator d m = payloadBytes creator d' m') :
    d = d' ∧ canon (.obj (withCreator creator m)) = canon (.obj (withCreator creator m')) := by
  have hk := ascii_scalar.2.2.2.2.2.2
  have w := WFE_payloadVal d (withCreator creator m) hd (WFEM_setKey isScalar _ _ _ hk (by simpa [WFE] using hc) hm)
  have w' := WFE_payloadVal d' (withCreator creator m') hd' (WFEM_setKey isScalar _ _ _ hk (by simpa [WFE] using hc) hm')
  have e := enc_injective escRune_prefixCode _ _ w w' h
  simp only [payloadVal, JVal.obj.injEq, List.cons.injEq, Prod.mk.injEq, true_and, and_true, JVal.str.injEq] at e
  exact ⟨e.1, e.2⟩

/-- **cosign_payload_injective_on_parsed.**  The class of `cosign_payload_injective_partial` contains everything the signer can
    meet: for any two `optional` flag texts that `json.Unmarshal` accepts (number table answering float-encoder tokens) and any two
    digest strings of the form `<alg>:<hex>`, equal payloads mean the same digest string and the same map. -/
theorem cosign_payload_injective_on_parsed (cvt : Cvt) (hcvt : CvtOK cvt) (creator d d' : List Nat) (t t' : Bytes)
    (m m' : Option (List Member)) (hc : ∀ c ∈ creator, isScalar c = true)
    (hd : ∀ c ∈ d, isScalar c = true) (hd' : ∀ c ∈ d', isScalar c = true)
    (ht : unmarshalMap cvt t = .ok m) (ht' : unmarshalMap cvt t' = .ok m')
    (h : payloadBytes creator d m = payloadBytes creator d' m') :
    d = d' ∧ canon (.obj (withCreator creator m)) = canon (.obj (withCreator creator m')) :=
  cosign_payload_injective_partial creator d d' m m' hc hd hd' (unmarshalMap_wf cvt hcvt t m ht).1 (unmarshalMap_wf cvt hcvt t' m' ht').1 h

/-- a number table of the admissible kind: every literal becomes the token `1` -/
example : CvtOK (fun _ => some [0x31]) := by
  intro t o h
  simp only [Option.some.injEq] at h
  subst h
  exact ⟨⟨0x31, [], rfl, Or.inl (by decide)⟩, by decide⟩

/-- the canonical listings agree only if the maps hold the same members (values compared canonically) -/
theorem canon_obj_eq_iff_perm (a b : List Member) (h : canon (.obj a) = canon (.obj b)) : (canonM a).Perm (canonM b) := by
  simp only [canon, JVal.obj.injEq] at h
  exact (sortMembers_perm _).symm.trans (h ▸ sortMembers_perm _)

/-- the full statement – "the payload determines what was passed in" – … -/
def cosign_payload_injective_full : Prop :=
  ∀ (creator d d' : List Nat) (m m' : Option (List Member)),
    payloadBytes creator d m = payloadBytes creator d' m' → d = d' ∧ m = m'

/-- … is false: no `optional` at all, `optional=null` (both: nil map) and `optional={}` give one payload; a `creator` the
    caller supplied is overwritten; the order of the members is forgotten -/
theorem cosign_payload_injective_full_false : ¬ cosign_payload_injective_full := by
  intro h
  have := (h [] [] [] none (some []) (by decide +kernel)).2
  cases this

/-- **cosign_creator_overridden** (collision witness): whatever the caller put under `creator` is replaced by relic's user agent -/
theorem cosign_creator_overridden (creator d : List Nat) (v : JVal) (m : List Member) :
    payloadBytes creator d (some ((ascii "creator", v) :: m)) = payloadBytes creator d (some (m.filter (fun p => p.1 ≠ ascii "creator"))) := by
  unfold payloadBytes withCreator setKey
  simp [List.filter_filter]

/-- the payload for a flag text, with numbers through the identity table: the literal is what is re-emitted -/
def payloadOfText (t : Bytes) : Option Bytes :=
  match newPayload some (ascii "r") (ascii "sha256:00") t with
  | .ok p => some p
  | _ => none

/-- duplicate keys: the later one wins; escapes are decoded; key order is forgotten; whitespace is forgotten; a `creator`
    of the caller is dropped; absent / null / {} coincide; a lone surrogate escape is U+FFFD.  (Texts as byte lists: string
    literals do not reduce well in the kernel.) -/
theorem cosign_text_collisions :
    -- {"a":1,"a":2}   =   {"a":2}
    payloadOfText [0x7B, 0x22, 0x61, 0x22, 0x3A, 0x31, 0x2C, 0x22, 0x61, 0x22, 0x3A, 0x32, 0x7D] = payloadOfText [0x7B, 0x22, 0x61, 0x22, 0x3A, 0x32, 0x7D] ∧
    -- {"a":"\u003c"}   =   {"a":"<"}
    payloadOfText [0x7B, 0x22, 0x61, 0x22, 0x3A, 0x22, 0x5C, 0x75, 0x30, 0x30, 0x33, 0x63, 0x22, 0x7D] = payloadOfText [0x7B, 0x22, 0x61, 0x22, 0x3A, 0x22, 0x3C, 0x22, 0x7D] ∧
    -- {"b":1,"a":2}   =   {"a":2,"b":1}
    payloadOfText [0x7B, 0x22, 0x62, 0x22, 0x3A, 0x31, 0x2C, 0x22, 0x61, 0x22, 0x3A, 0x32, 0x7D] = payloadOfText [0x7B, 0x22, 0x61, 0x22, 0x3A, 0x32, 0x2C, 0x22, 0x62, 0x22, 0x3A, 0x31, 0x7D] ∧
    --  { "a" : [ 1 , 2 ] }    =   {"a":[1,2]}
    payloadOfText [0x20, 0x7B, 0x20, 0x22, 0x61, 0x22, 0x20, 0x3A, 0x20, 0x5B, 0x20, 0x31, 0x20, 0x2C, 0x20, 0x32, 0x20, 0x5D, 0x20, 0x7D, 0x20] = payloadOfText [0x7B, 0x22, 0x61, 0x22, 0x3A, 0x5B, 0x31, 0x2C, 0x32, 0x5D, 0x7D] ∧
    -- {"creator":"someone"}   =   {}
    payloadOfText [0x7B, 0x22, 0x63, 0x72, 0x65, 0x61, 0x74, 0x6F, 0x72, 0x22, 0x3A, 0x22, 0x73, 0x6F, 0x6D, 0x65, 0x6F, 0x6E, 0x65, 0x22, 0x7D] = payloadOfText [0x7B, 0x7D] ∧
    -- null   =   {}
    payloadOfText [0x6E, 0x75, 0x6C, 0x6C] = payloadOfText [0x7B, 0x7D] ∧
    -- (flag not given)   =   {}
    payloadOfText [] = payloadOfText [0x7B, 0x7D] ∧
    -- {"\ud800":1}   =   {"\ufffd":1}
    payloadOfText [0x7B, 0x22, 0x5C, 0x75, 0x64, 0x38, 0x30, 0x30, 0x22, 0x3A, 0x31, 0x7D] = payloadOfText [0x7B, 0x22, 0x5C, 0x75, 0x66, 0x66, 0x66, 0x64, 0x22, 0x3A, 0x31, 0x7D] ∧
    -- {"a":1}   ≠   {"a":2}
    payloadOfText [0x7B, 0x22, 0x61, 0x22, 0x3A, 0x31, 0x7D] ≠ payloadOfText [0x7B, 0x22, 0x61, 0x22, 0x3A, 0x32, 0x7D] ∧
    -- {"a":1} is accepted; [1] and {"a":1,} are refused
    payloadOfText [0x7B, 0x22, 0x61, 0x22, 0x3A, 0x31, 0x7D] ≠ none ∧ payloadOfText [0x5B, 0x31, 0x5D] = none ∧ payloadOfText [0x7B, 0x22, 0x61, 0x22, 0x3A, 0x31, 0x2C, 0x7D] = none := by
  decide +kernel

/-- numbers: literals that denote one float64 are one token after `convertNumber` + the float encoder (the table `cvt`),
    so they collide: `{"n":1.0}` and `{"n":1}` whenever `cvt "1.0" = cvt "1"` (Go: both are `1`) -/
theorem cosign_number_collision (cvt : Cvt) (creator d : List Nat) (h : cvt [0x31, 0x2E, 0x30] = cvt [0x31]) :
    newPayload cvt creator d [0x7B, 0x22, 0x6E, 0x22, 0x3A, 0x31, 0x2E, 0x30, 0x7D] =
      newPayload cvt creator d [0x7B, 0x22, 0x6E, 0x22, 0x3A, 0x31, 0x7D] := by
  have s1 : scan [0x7B, 0x22, 0x6E, 0x22, 0x3A, 0x31, 0x2E, 0x30, 0x7D] = .ok (.obj [([110], .num [0x31, 0x2E, 0x30])]) := by rfl
  have s2 : scan [0x7B, 0x22, 0x6E, 0x22, 0x3A, 0x31, 0x7D] = .ok (.obj [([110], .num [0x31])]) := by rfl
  have e1 : unmarshalMap cvt [0x7B, 0x22, 0x6E, 0x22, 0x3A, 0x31, 0x2E, 0x30, 0x7D] =
      unmarshalMap cvt [0x7B, 0x22, 0x6E, 0x22, 0x3A, 0x31, 0x7D] := by
    unfold unmarshalMap
    rw [s1, s2]
    simp only [normalize, normalizeM, h]
  unfold newPayload
  rw [e1]
  rfl

theorem hexNib_inj (a b : Nat) (ha : a < 16) (hb : b < 16) (h : hexNib a = hexNib b) : a = b := by
  have key : ∀ x : Fin 16, ∀ y : Fin 16, hexNib x.val = hexNib y.val → x = y := by decide
  have := key ⟨a, ha⟩ ⟨b, hb⟩ h
  exact Fin.mk.inj_iff.mp this

theorem hexLower_inj : ∀ (a b : Bytes), hexLower a = hexLower b → a = b := by
  -- two digits per byte: a prefix code, and no digit pair is the empty remainder
  have word : Reads (fun _ : UInt8 => True) (fun _ => True) (fun x => [hexNib (x.toNat / 16), hexNib (x.toNat % 16)]) := by
    intro x y s t _ _ _ _ h
    simp only [List.cons_append, List.nil_append, List.cons.injEq] at h
    have hx := x.toNat_lt
    have hy := y.toNat_lt
    have a := hexNib_inj _ _ (by omega) (by omega) h.1
    have b := hexNib_inj _ _ (Nat.mod_lt _ (by decide)) (Nat.mod_lt _ (by decide)) h.2.1
    exact ⟨UInt8.toNat_inj.mp (by omega), h.2.2⟩
  intro a b h
  exact (Reads.flatMap (T := (· = [])) word (by rintro c x _ _ rfl h; cases h)).inj rfl (fun _ _ => trivial) (fun _ _ => trivial) h

/-- **cosign_payload_binds_digest.**  Payloads for two uploads under one hash algorithm are equal only if the raw digests are
    equal – hence, if the hash does not collide on the two uploads, only if the uploads are the same bytes. -/
theorem cosign_payload_binds_digest (H : Bytes → Bytes) (alg creator : List Nat) (blob blob' : Bytes) (m m' : Option (List Member))
    (hc : ∀ c ∈ creator, isScalar c = true) (ha : ∀ c ∈ alg, isScalar c = true)
    (hm : WFEM isScalar (m.getD [])) (hm' : WFEM isScalar (m'.getD []))
    (hcf : H blob = H blob' → blob = blob')
    (h : payloadBytes creator (fmtDigest alg (H blob)) m = payloadBytes creator (fmtDigest alg (H blob')) m') : blob = blob' := by
  have hs : ∀ (r : Bytes), ∀ c ∈ fmtDigest alg r, isScalar c = true := by
    intro r c hcm
    simp only [fmtDigest, List.mem_append, List.mem_cons] at hcm
    rcases hcm with hcm | rfl | hcm
    · exact ha c hcm
    · decide
    · simp only [hexLower, List.mem_flatMap, List.mem_cons, List.not_mem_nil, or_false] at hcm
      obtain ⟨x, _, hx⟩ := hcm
      have hx8 := x.toNat_lt
      have : c < 128 := by
        rcases hx with rfl | rfl <;> (unfold hexNib; split <;> omega)
      exact isScalar_lt c (by omega)
  have e := (cosign_payload_injective_partial creator _ _ m m' hc (hs _) (hs _) hm hm' h).1
  simp only [fmtDigest, List.append_cancel_left_eq, List.cons.injEq, true_and] at e
  exact hcf (hexLower_inj _ _ e)

example : fmtDigest (ascii "sha256") [0xAB, 0x01] = ascii "sha256:ab01" := by decide

end Relic.Props.C02
