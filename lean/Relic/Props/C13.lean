/-
  C13 — Interrupted output never leaves a torn or missing file.
  Property theorems about `Relic.Model.FS` (model of the system calls issued by lib/atomicfile,
  lib/binpatch.applyRewrite, signers.fileProducer.Apply, signers/msi and signers/pgp `Apply`).
  The tie to the real code is by system-call traces: `checklib/props/c13.py` records every scenario
  under strace, evaluates `atomicShape` and `firstBad` (the invariant on every prefix) on the recorded
  trace in the native driver, and compares the real directory after a SIGKILL at every call with
  `run` of the calls that completed.
-/
import Relic.Proofs.FS
namespace Relic.Props.C13
open Relic.FS

/-- **trace_shape_sound.** Any observed trace that passes the decidable shape test keeps, at every
    system-call boundary, `dest` = complete old or complete final content, `dest` present if it was,
    and `input` untouched – from every initial state with no open descriptors. -/
theorem trace_shape_sound (dest input : String) (s0 : State) (h0 : Init s0) (tr : List Op)
    (hs : atomicShape dest input tr = true) :
    ∀ k, Inv dest input s0 (run (tr.take k) s0) (run tr s0) := by
  simp only [atomicShape, Bool.and_eq_true, decide_eq_true_eq] at hs
  exact shape_sound_from dest input hs.1 s0 h0.wf tr ⟨[], []⟩ s0 (relA_init dest input s0 h0) hs.2

/-- the initial state the trace checker builds from the real directory listing satisfies `Init`, so
    `trace_shape_sound` applies to every trace the driver evaluates -/
theorem mkState_init (l : List (String × Bytes)) : Init (mkState l) := by
  refine ⟨fun _ => rfl, ?_⟩
  intro p i h
  simp only [mkState] at h ⊢
  exact (List.findIdx?_eq_some_iff_getElem.mp h).1

/-- **checker_verdict_sound.** What a `shape=1` answer of the driver means for a recorded trace `tr` of a
    process started in a directory with listing `l`: at every system-call boundary the invariant holds. -/
theorem checker_verdict_sound (dest input : String) (l : List (String × Bytes)) (tr : List Op)
    (hs : atomicShape dest input tr = true) :
    ∀ k, FS.Inv dest input (mkState l) (run (tr.take k) (mkState l)) (run tr (mkState l)) :=
  trace_shape_sound dest input (mkState l) (mkState_init l) tr hs

/-- what the commit protocol leaves after normal completion: the new content at `dest`, no temp file,
    descriptor closed -/
theorem commit_final (tmp dest : String) (fd : Nat) (chunks : List Bytes) (s0 : State)
    (h0 : Init s0) (htd : tmp ≠ dest) (hfree : s0.names tmp = none) :
    lookup (run (commitProg tmp dest fd chunks) s0) dest = some chunks.flatten ∧
    (run (commitProg tmp dest fd chunks) s0).names tmp = none ∧
    (run (commitProg tmp dest fd chunks) s0).fds fd = none := by
  simp only [commitProg, run, run_append]
  generalize hs1 : step s0 (.openF tmp fd true true false) = s1
  have hn1 : s1.names tmp = some s0.next := by subst hs1; simp [step, hfree]
  have hd0 : s1.data s0.next = [] := by subst hs1; simp [step, hfree]
  have hf : s1.fds fd = some ⟨s0.next, (s1.data s0.next).length⟩ := by
    rw [hd0]; subst hs1; simp [step, hfree]
  obtain ⟨a, b, c, _⟩ := run_writes fd s0.next chunks s1 hf
  generalize run (chunks.map (Op.write fd)) s1 = s2 at a b c
  have hn2 : s2.names tmp = some s0.next := by rw [c]; exact hn1
  simp only [step, b]
  simp [lookup, hn2, htd, upd, Ne.symm htd, a, hd0]

theorem commit_shape (tmp dest input : String) (fd : Nat) (chunks : List Bytes)
    (hdi : dest ≠ input) (htd : tmp ≠ dest) (hti : tmp ≠ input) :
    atomicShape dest input (commitProg tmp dest fd chunks) = true := by
  simp [atomicShape, commitProg, shapeFrom, isCommit, stepA, shape_writes, hdi, htd, hti]

/-- **commit_atomic.** For `P = [create tmp (O_EXCL); write*; fchmod; close; rename tmp dest]` with ANY
    list of write chunks: every state reachable by a prefix of `P` has `dest` = old content or
    exactly the concatenation of all chunks, `dest` present if it was present, `input` untouched;
    after the whole program `dest` = new content and the temp file is gone. -/
theorem commit_atomic (tmp dest input : String) (fd : Nat) (chunks : List Bytes) (s0 : State)
    (h0 : Init s0) (hdi : dest ≠ input) (htd : tmp ≠ dest) (hti : tmp ≠ input)
    (hfree : s0.names tmp = none) :
    (∀ k, let s := run ((commitProg tmp dest fd chunks).take k) s0
          (lookup s dest = lookup s0 dest ∨ lookup s dest = some chunks.flatten) ∧
          (lookup s0 dest ≠ none → lookup s dest ≠ none) ∧
          lookup s input = lookup s0 input) ∧
    lookup (run (commitProg tmp dest fd chunks) s0) dest = some chunks.flatten ∧
    (run (commitProg tmp dest fd chunks) s0).names tmp = none := by
  obtain ⟨f1, f2, _⟩ := commit_final tmp dest fd chunks s0 h0 htd hfree
  refine ⟨?_, f1, f2⟩
  intro k
  have := trace_shape_sound dest input s0 h0 _ (commit_shape tmp dest input fd chunks hdi htd hti) k
  simp only [FS.Inv, f1] at this
  exact this

/-- a write cut short by the kill is covered: the state after the whole chunks `pre` plus a prefix `c₁`
    of the next chunk `c₁ ++ c₂` is a prefix state of the re-chunked program, which writes the same bytes -/
theorem partial_write_covered (tmp dest : String) (fd : Nat) (pre post : List Bytes) (c₁ c₂ : Bytes) :
    (commitProg tmp dest fd (pre ++ c₁ :: c₂ :: post)).take (pre.length + 2) =
      .openF tmp fd true true false :: (pre.map (.write fd) ++ [.write fd c₁]) ∧
    (pre ++ c₁ :: c₂ :: post).flatten = (pre ++ (c₁ ++ c₂) :: post).flatten := by
  constructor
  · have e : commitProg tmp dest fd (pre ++ c₁ :: c₂ :: post) =
        (.openF tmp fd true true false :: (pre.map (.write fd) ++ [.write fd c₁])) ++
          ((c₂ :: post).map (.write fd) ++ [.fchmod fd 420, .close fd, .rename tmp dest]) := by
      simp [commitProg]
    rw [e]
    exact List.take_left' (by simp)
  · simp

/-- **unlink_then_rename_not_atomic.** The program the unchanged tree runs (`atomicfile.Commit`:
    `… close; unlink dest; rename tmp dest`) violates the invariant whenever the destination existed:
    the prefix that ends after the `unlink` has no `dest`. -/
theorem unlink_then_rename_not_atomic (tmp dest input : String) (fd : Nat) (chunks : List Bytes) (s0 : State)
    (hex : lookup s0 dest ≠ none) :
    ¬ ∀ k, Inv dest input s0 (run ((commitProgUnlinkFirst tmp dest fd chunks).take k) s0)
                          (run (commitProgUnlinkFirst tmp dest fd chunks) s0) := by
  intro h
  have hk := (h (chunks.length + 4)).2.1 hex
  apply hk
  have e : (commitProgUnlinkFirst tmp dest fd chunks).take (chunks.length + 4) =
      (.openF tmp fd true true false :: (chunks.map (.write fd) ++ [.fchmod fd 420, .close fd])) ++ [.unlink dest] := by
    have e' : commitProgUnlinkFirst tmp dest fd chunks =
        ((.openF tmp fd true true false :: (chunks.map (.write fd) ++ [.fchmod fd 420, .close fd])) ++ [.unlink dest])
          ++ [.rename tmp dest] := by
      simp [commitProgUnlinkFirst]
    rw [e']
    exact List.take_left' (by simp)
  rw [e, run_append]
  simp [run, step, lookup, upd]

theorem unlink_first_shape_rejected (tmp dest input : String) (fd : Nat) (chunks : List Bytes)
    (hdi : dest ≠ input) (htd : tmp ≠ dest) (hti : tmp ≠ input) :
    atomicShape dest input (commitProgUnlinkFirst tmp dest fd chunks) = false := by
  simp [atomicShape, commitProgUnlinkFirst, shapeFrom, isCommit, stepA, shape_writes, hdi, htd, hti]

/-- **abort_path_clean.** A handled error after any number of writes followed by the deferred
    `atomicFile.Close` (`close; unlink tmp`): `dest` keeps its old content at every prefix, `input` is
    untouched, and no temp file remains at the end. -/
theorem abort_path_clean (tmp dest input : String) (fd : Nat) (chunks : List Bytes) (s0 : State)
    (h0 : Init s0) (hdi : dest ≠ input) (htd : tmp ≠ dest) (hti : tmp ≠ input) :
    (∀ k, lookup (run ((abortProg tmp fd chunks).take k) s0) dest = lookup s0 dest ∧
          lookup (run ((abortProg tmp fd chunks).take k) s0) input = lookup s0 input) ∧
    (run (abortProg tmp fd chunks) s0).names tmp = none := by
  have hall : shapeFrom dest input ⟨[], []⟩ (abortProg tmp fd chunks) = true := by
    simp [abortProg, shapeFrom, isCommit, stepA, shape_writes, htd, hti]
  have hnc : ∀ op ∈ abortProg tmp fd chunks, isCommit dest input op = false := by
    intro op hop
    simp only [abortProg, List.mem_cons, List.mem_append, List.mem_map, List.mem_nil_iff, or_false] at hop
    rcases hop with rfl | ⟨c, _, rfl⟩ | rfl | rfl <;> rfl
  -- no commit: at the end `dest` is what it was, so "old or final" (`trace_shape_sound`) means old at every prefix
  obtain ⟨sh', r⟩ := relA_run _ _ _ (relA_init dest input s0 h0) hall hnc
  constructor
  · intro k
    have := trace_shape_sound dest input s0 h0 (abortProg tmp fd chunks) (by simp [atomicShape, hdi, hall]) k
    rw [FS.Inv, r.lookup_old h0.wf dest r.nd] at this
    exact ⟨this.1.elim id id, this.2.2⟩
  · have e : abortProg tmp fd chunks =
        (.openF tmp fd true true false :: (chunks.map (.write fd) ++ [.close fd])) ++ [.unlink tmp] := by
      simp [abortProg]
    rw [e, run_append]
    simp [run, step]

/-- **leak_when_close_skipped.** An error return that skips `Close` (`signers.fileProducer.Apply` and
    `atomicfile.WriteInPlace` when their copy fails on the unchanged tree): the temp file stays. -/
theorem leak_when_close_skipped (tmp : String) (fd : Nat) (chunks : List Bytes) (s0 : State)
    (hfree : s0.names tmp = none) :
    (run (leakProg tmp fd chunks) s0).names tmp ≠ none := by
  simp only [leakProg, run]
  have h1 : (step s0 (.openF tmp fd true true false)).names tmp = some s0.next := by
    simp [step, hfree]
  have hf : (step s0 (.openF tmp fd true true false)).fds fd =
      some ⟨s0.next, ((step s0 (.openF tmp fd true true false)).data s0.next).length⟩ := by
    simp [step, hfree]
  obtain ⟨_, _, c, _⟩ := run_writes fd s0.next chunks _ hf
  rw [c, h1]
  simp

/-- a directory with `out.bin` (old content 1,2,3) and `in.bin`, nothing open -/
def s0ex : State :=
  { names := fun p => if p = "out.bin" then some 0 else if p = "in.bin" then some 1 else none,
    data := fun i => if i = 0 then [1, 2, 3] else if i = 1 then [9, 9] else [],
    mode := fun _ => 420, fds := fun _ => none, next := 2 }

theorem s0ex_init : Init s0ex := ⟨fun _ => rfl, by
  intro p i h
  simp only [s0ex] at h ⊢
  split at h
  · cases h; omega
  · split at h <;> cases h
    omega⟩

example : Init s0ex := s0ex_init

example : lookup s0ex "out.bin" ≠ none := by simp [lookup, s0ex]

/-- hypotheses of `commit_atomic` are satisfiable with a pre-existing destination and three chunks -/
example : lookup (run (commitProg "out.bin.tmp1" "out.bin" 3 [[4], [], [5, 6]]) s0ex) "out.bin" = some [4, 5, 6] :=
  (commit_atomic "out.bin.tmp1" "out.bin" "in.bin" 3 [[4], [], [5, 6]] s0ex
    s0ex_init (by decide) (by decide) (by decide) (by simp [s0ex])).2.1

/-- a copy-then-edit trace (copy, positional write, truncate, commit) passes the shape test … -/
example : atomicShape "out.bin" "in.bin"
    [.openF "in.bin" 3 false false false, .openF "out.bin.tmp7" 4 true true false, .lseek 3 0, .copy 3 4 2,
     .lseek 4 0, .close 3, .pwrite 4 1 [7, 7], .ftruncate 4 2, .fchmod 4 420, .close 4,
     .rename "out.bin.tmp7" "out.bin"] = true := by decide +kernel

/-- … while writing into the destination, committing before the last write, or unlinking first do not -/
example : atomicShape "out.bin" "in.bin" [.openF "out.bin" 3 true false true, .write 3 [1], .close 3] = false := by decide +kernel
example : atomicShape "out.bin" "in.bin"
    [.openF "t" 3 true true false, .write 3 [1], .rename "t" "out.bin", .write 3 [2], .close 3] = false := by decide +kernel
example : atomicShape "out.bin" "in.bin"
    [.openF "t" 3 true true false, .write 3 [1], .close 3, .unlink "out.bin", .rename "t" "out.bin"] = false := by decide +kernel

/-- the concrete witness for F3: after `unlink` the destination that existed is gone -/
example : lookup (run ((commitProgUnlinkFirst "t" "out.bin" 3 [[4]]).take 5) s0ex) "out.bin" = none := by
  simp [commitProgUnlinkFirst, run, step, lookup, upd, s0ex]

end Relic.Props.C13
