/-
  C01 — Every signature relic produces verifies.   RPM part (model `Relic.Model.Rpm`).
  `sign` inserts a header-only packet (tag 268, made over the general header bytes) and a header+payload packet (tag 1002, made
  over everything behind the signature header) and removes the legacy slots 267 / 1005; `verify` checks the packet of slot 268 /
  267 against the general header bytes and that of slot 1002 / 1005 against general header ++ payload.
-/
import Relic.Proofs.Rpm
namespace Relic.Props.C01
open Relic.Rpm

/-- tags other than RESERVEDSPACE are not touched by `DumpSignatureHeader(true)` -/
theorem get_withReserved (s : Hdr) (t : Int) (h : t ≠ tagReserved) : get t (withReserved s) = get t s.ents := by
  unfold withReserved
  simp only
  split
  · rw [get_ins_other _ _ _ _ h, get_del_other _ _ _ h]
  · rw [get_del_other _ _ _ h]

/-- **rpm_signed_slots.** After `SignRpmStream` + `DumpSignatureHeader(true)`, whatever the signature header held before: slot 268
    holds the packet made over the general header, slot 1002 the packet made over general header ++ payload, the legacy slots
    267 / 1005 are empty, every other tag (digests included) is as it was found. -/
theorem rpm_signed_slots (mk : Bool → Bytes → Bytes) (p : Parsed) :
    let m := withReserved (signedSig mk p)
    get tagRSA m = some ⟨7, (mk true p.gen.orig).length, mk true p.gen.orig⟩ ∧
    get tagPGP m = some ⟨7, (mk false (p.gen.orig ++ p.payload)).length, mk false (p.gen.orig ++ p.payload)⟩ ∧
    get tagDSA m = none ∧ get tagGPG m = none ∧
    ∀ t, t ≠ tagRSA → t ≠ tagPGP → t ≠ tagDSA → t ≠ tagGPG → t ≠ tagReserved → get t m = get t p.sig.ents := by
  intro m
  have e : ∀ t, t ≠ tagReserved → get t m =
      get t (insertSigs p.sig.ents (mk false (p.gen.orig ++ p.payload)) (mk true p.gen.orig)) := by
    intro t h; exact get_withReserved _ t h
  refine ⟨?_, ?_, ?_, ?_, ?_⟩
  · rw [e _ (by decide)]; unfold insertSigs
    rw [get_del_other _ _ _ (by decide), get_del_other _ _ _ (by decide), get_ins_same]
  · rw [e _ (by decide)]; unfold insertSigs
    rw [get_del_other _ _ _ (by decide), get_del_other _ _ _ (by decide), get_ins_other _ _ _ _ (by decide), get_ins_same]
  · rw [e _ (by decide)]; unfold insertSigs
    rw [get_del_same]
  · rw [e _ (by decide)]; unfold insertSigs
    rw [get_del_other _ _ _ (by decide), get_del_same]
  · intro t h1 h2 h3 h4 h5
    rw [e _ h5]; unfold insertSigs
    rw [get_del_other _ _ _ h3, get_del_other _ _ _ h4, get_ins_other _ _ _ _ h1, get_ins_other _ _ _ _ h2]

/-- `digestPayload` looks at the signature header through tag 1004 only -/
theorem digestPayload_congr (H : Nat → Bytes → Bytes) (m1 m2 : EMap) (g : Hdr) (pl : Bytes)
    (h : get tagMD5 m1 = get tagMD5 m2) : digestPayload H m1 g pl = digestPayload H m2 g pl := by
  unfold digestPayload getBytes
  rw [h]

-- Not `Relic.Deb.ReadsBack` (the header assumption of the DEB files): inside `Relic.Props.C01` the bare name is this relation.
/-- the header round trip, as far as the verifier depends on it: the tags read back from the rewritten signature header are
    the tags that were written (the region entry 62, which `WriteTo` regenerates, aside) -/
def ReadsBack (m' m : EMap) : Prop := ∀ t, t ≠ tagRegionSig → get t m' = get t m

/-- **rpm_sign_then_verify** (`_partial`: relative to `ReadsBack`, i.e. to `rpm_header_roundtrip` for the header just written —
    executed on every `rt` / `hist` op and proved outright for the witness below).  For every package on which `sign` got as
    far as inserting signatures (both headers read, payload digest or legacy MD5 matched, NEVRA formatted), every signature
    scheme `mk` / `pgp` / `valid` in which a packet made over a stream parses to (key id, hash) and verifies over that
    stream, and every keyring containing the key id: relic's `verify` accepts the general header and payload under the new
    signature header, reports exactly ONE signature (the two packets collapse by key id), by the signing key, with the
    requested hash, and the package name `sign` put into the audit record. -/
theorem rpm_sign_then_verify_partial (H : Nat → Bytes → Bytes) (mk : Bool → Bytes → Bytes) (pgp : Bytes → Res SigInfo)
    (valid : Bytes → Bytes → Bool) (ks : List Nat) (noChain : Bool) (p : Parsed) (nv : Bytes) (kid alg : Nat) (sig' : Hdr)
    (hd : digestPayload H p.sig.ents p.gen p.payload = .ok ())
    (hn : nevraOf p.gen.ents = .ok nv)
    (hp : ∀ b s, pgp (mk b s) = .ok ⟨kid, alg⟩) (hv : ∀ b s, valid (mk b s) s = true) (hk : ks.contains kid = true)
    (hrt : ReadsBack sig'.ents (withReserved (signedSig mk p))) :
    verifyCore H pgp valid (some ks) noChain sig' p.gen p.payload = .ok ⟨[(kid, alg)], nv⟩ := by
  obtain ⟨s1, s2, s3, s4, s5⟩ := rpm_signed_slots mk p
  have g1 := (hrt tagRSA (by decide)).trans s1
  have g2 := (hrt tagPGP (by decide)).trans s2
  have g3 := (hrt tagDSA (by decide)).trans s3
  have g4 := (hrt tagGPG (by decide)).trans s4
  have g5 : get tagMD5 sig'.ents = get tagMD5 p.sig.ents :=
    (hrt tagMD5 (by decide)).trans (s5 tagMD5 (by decide) (by decide) (by decide) (by decide) (by decide))
  have hd' : digestPayload H sig'.ents p.gen p.payload = .ok () := by
    rw [digestPayload_congr H _ _ _ _ g5]; exact hd
  have hk' : kid ∈ ks := by simpa using hk
  rw [verifyCore, verifyCoreWith_eq, libVerifyCore_eq]
  simp [Res.bind, collect, g1, g2, g3, g4, hp, hd', validateAll, hk', hv, hn, dedupe]

/-- the hypotheses are satisfiable: a transparent scheme (the "packet" is the stream itself) -/
example : (∀ (b : Bool) (s : Bytes), (fun (_ : Bytes) => (Res.ok ⟨7, 8⟩ : Res SigInfo)) ((fun (_ : Bool) (s : Bytes) => s) b s) = .ok ⟨7, 8⟩) ∧
    (∀ (b : Bool) (s : Bytes), (fun (x y : Bytes) => x == y) ((fun (_ : Bool) (s : Bytes) => s) b s) s = true) ∧
    [7, 9].contains 7 = true := by
  refine ⟨fun _ _ => rfl, fun _ s => by simp, by decide⟩

/-- the full statement: sign-then-verify from file to file, with the header round trip discharged for every tag map -/
def rpm_sign_then_verify_full : Prop :=
  ∀ (H : Nat → Bytes → Bytes) (mk : Bool → Bytes → Bytes) (pgp : Bytes → Res SigInfo) (valid : Bytes → Bytes → Bool) (ks : List Nat)
    (f : Bytes) (o : SignOut) (kid alg : Nat),
    sign H mk f = .ok o → (∀ b s, pgp (mk b s) = .ok ⟨kid, alg⟩) → (∀ b s, valid (mk b s) s = true) → ks.contains kid = true →
    verify H pgp valid (some ks) true (signedFile f o) = .ok ⟨[(kid, alg)], o.nevra⟩

/-- `rpm_header_roundtrip`, full form: what `readHeader` makes of `writeTo m` is `m` plus the region entry, for every map whose
    entries are well-formed (contents of `typeSize * count` bytes resp. `count` NUL-terminated strings; tags and offsets in int32) -/
def rpm_header_roundtrip_full : Prop :=
  ∀ (H : Nat → Bytes → Bytes) (m : EMap) (rest : Bytes),
    (∀ e ∈ kept m, match typeSize e.2.typ with
      | some ts => e.2.contents.length = ts * e.2.count.toNat ∧ 0 ≤ e.2.count
      | none => skipStrs e.2.count.toNat e.2.contents = some [] ∧ 0 ≤ e.2.count) →
    (writeTo m).length < 2147483648 →
    ∃ h, readHeader H true none (writeTo m ++ rest) = .ok (h, rest) ∧ h.orig = writeTo m ∧ ReadsBack h.ents (kept m)

/-- **rpm_header_roundtrip** (`_partial`: a concrete header with a string digest, an aligned INT32, two BIN packets and reserved
    space; the general statement is `rpm_header_roundtrip_full`).  Dumping the map and reading it back returns every tag. -/
theorem rpm_header_roundtrip_partial :
    let m : EMap := [(268, ⟨7, 3, [1, 2, 3]⟩), (269, ⟨6, 1, [97, 98, 0]⟩), (1000, ⟨4, 1, [0, 0, 1, 0]⟩), (1002, ⟨7, 2, [9, 9]⟩),
      (1008, ⟨7, 5, [0, 0, 0, 0, 0]⟩)]
    (match readHeader (fun _ _ => []) true none (writeTo m ++ [0x8e, 0xad]) with
      | .ok (h, rest) => rest == [0x8e, 0xad] && h.orig == writeTo m &&
          [268, 269, 1000, 1002, 1008].all (fun t => get t h.ents == get t m) && get 62 h.ents != none
      | _ => false) = true ∧ (writeTo m).length % 8 = 0 := by
  decide +kernel

end Relic.Props.C01
