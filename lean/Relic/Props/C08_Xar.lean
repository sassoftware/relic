/-
  C08 — Re-signing replaces the signature; digests ignore existing signatures.   xar / flat package part.

  What is signed is the hash of the compressed table of contents; the table of contents contains the signature ELEMENTS
  (sizes, certificates) but not the signature bytes.  `xar_digest_ignores_signature`: the document `Sign` serialises for an
  already signed archive is, node for node, the document it serialises for the archive before that signature — every
  document, every pair of keys / hashes, no hypothesis on its shape.  `xar_sigarea_is_sum`: the tiling test of the repaired
  `removeSigs` (5d6eee4) returns the same number.  `xar_resign_replaces`: at the level of files the second signing removes
  exactly what the first one wrote (header, TOC, signature area) and the result is the file that signing the original once
  with the second key produces.  `xar_history_partial`: hence for every sequence of successful signings.
  Hash kinds: one `hashType` drives the header field, the `style` of `<checksum>`, the TOC hash and the CMS digest; `Verify`
  takes the kind from the header and never compares it with the `style` attribute (`xar_checksum_style_unchecked`).
-/
import Relic.Proofs.XarSign
namespace Relic.Props.C08
open Relic.Xar

/-- **xar_digest_ignores_signature.**  For every document `t` with a `/xar/toc`, every two keys / hashes: the second `Sign`
    finds as old signature size exactly what the first reserved, and serialises the document it serialises for `t` itself. -/
theorem xar_digest_ignores_signature (N : Num) (ea : Bool) (hN : N.Laws) (hk1 hk2 : HK) (ki1 ki2 : KeyInfo) (h1 : ki1.small) (t : Xml)
    (p1 p2 : Prep) (e1 : prep N hk1 ki1 t = some p1) (e2 : prep N hk2 ki2 t = some p2) :
    ∃ p2', prep N hk2 ki2 (p1.tree N ea) = some p2' ∧ p2'.origSig = p1.newSig ∧ p2'.newSig = p2.newSig ∧
      p2'.tree N ea = p2.tree N ea :=
  prep_resign N ea hN hk1 hk2 ki1 ki2 h1 t p1 p2 e1 e2

/-- **xar_sigarea_is_sum.**  The tiling test of the repaired `removeSigs` changes which archives are accepted, not the number
    it returns: the sum of the `<size>` values of the removed elements, as before. -/
theorem xar_sigarea_is_sum (N : Num) (hN : N.Laws) (ks : List Xml) (s : Int) (h : checkSigAreas N ks = .ok s) :
    s = (removeSigs N ks).1 := checkSigAreas_eq_sum N hN ks s h

/-- **xar_resign_layout_accepted.**  The layout tests fix 5d6eee4 put into `removeSigs` accept what `Sign` itself wrote: the
    three elements `reserveSignatures` inserted are readable, at most 10^6 bytes each (a fact about the key: `KeyInfo.fits`),
    and tile the heap from offset 0 to the reserved size.  So the etree surgery of the next `Sign` goes through and finds as
    old signature size exactly the space the previous one reserved. -/
theorem xar_resign_layout_accepted (N : Num) (ea : Bool) (hN : N.Laws) (hk1 hk2 : HK) (ki1 ki2 : KeyInfo) (h1 : ki1.small)
    (hfit : ki1.fits) (t : Xml) (p1 p2 : Prep) (e1 : prep N hk1 ki1 t = some p1) (e2 : prep N hk2 ki2 t = some p2) :
    ∃ q, prepFx N hk2 ki2 (p1.tree N ea) = .ok q ∧ q.origSig = p1.newSig ∧ q.newSig = p2.newSig ∧ q.tree N ea = p2.tree N ea := by
  obtain ⟨p2', hpp, ho, hns, htr⟩ := prep_resign N ea hN hk1 hk2 ki1 ki2 h1 t p1 p2 e1 e2
  obtain ⟨tks', htk, hck⟩ := tree_checkSigAreas N ea hN hk1 ki1 hfit t p1 e1
  refine ⟨p2', ?_, ho, hns, htr⟩
  unfold prepFx
  simp only [hpp, htk, hck, ← ho]

example (N : Num) (hk : HK) (ki : KeyInfo) :
    (prep N hk ki (.el "xar" [] [.el "toc" [] [.el "checksum" [] [], .el "file" [] []]])).isSome = true := by
  simp [prep, splitFirst]

/-- **xar_resign_replaces.**  Let `Sign` with key 1 succeed on `f` and its output be applied (`g`).  If `Sign` with key 2
    succeeds on `g` and on `f`, then on `g` it signs the same document, reserves the same space, takes as old signature size
    what key 1 reserved, and replaces exactly the bytes key 1 wrote: the new file is the file signing `f` with key 2 gives.
    Idea: `g` is a `layout` (`written_eq_layout`), so the second `Sign` reads back the header key 1 wrote and the document
    key 1 serialised (`parseHeader_layout`, `region_layout`, `dec_enc`); on that document `prep_resign` gives the document and
    sizes of the direct signing, and `tree_tocKids` + `checkSigAreas_eq_sum` the old signature size; equal `SignOut` fields
    give equal `newBytes`, and the patch offset `origTotal` is the length of what key 1 wrote. -/
theorem xar_resign_replaces (C : Crypto) (E : Env) (hE : E.Laws) (hH : ∀ k b, (C.H k b).length = k.size)
    (f : Bytes) (hk1 hk2 : HK) (ki1 ki2 : KeyInfo) (hki1 : ki1.small) (so1 so2 so2' : SignOut) (rsa1 cms1 body1 : Bytes)
    (hs1 : (signPlan E f hk1 ki1).run C = .ok so1) (hb1 : newBytes C E so1 rsa1 cms1 = some body1)
    (hzl : (E.encode so1.tree).1.length < 2 ^ 40) (hul : (E.encode so1.tree).2 < 2 ^ 63)
    (hs2 : (signPlan E f hk2 ki2).run C = .ok so2)
    (hs2' : (signPlan E (written f so1.origTotal body1) hk2 ki2).run C = .ok so2') :
    so2'.tree = so2.tree ∧ so2'.newSig = so2.newSig ∧ so2'.origSig = so1.newSig ∧ so2'.origTotal = body1.length ∧
    so2.origTotal = so1.origTotal ∧
    ∀ rsa cms body2, newBytes C E so2 rsa cms = some body2 →
      newBytes C E so2' rsa cms = some body2 ∧
      written (written f so1.origTotal body1) so2'.origTotal body2 = written f so1.origTotal body2 := by
  obtain ⟨hd, k0, t, n, q1, hp, _, _, hdec, hfx1, hso1, _⟩ := signPlanG_ok true C E f hk1 ki1 so1 hs1
  obtain ⟨q2, _, _, hfx2, hso2, _⟩ := signPlanG_ok_at true C E f hk2 ki2 so2 hd k0 t n hp hdec hs2
  simp only [↓reduceIte] at hfx1 hfx2
  obtain ⟨p1, tks1, s1, hprep1, htk1, hck1, rfl⟩ := prepFx_ok E.num hk1 ki1 t q1 hfx1.1
  obtain ⟨p2, tks2, s2, hprep2, htk2, hck2, rfl⟩ := prepFx_ok E.num hk2 ki2 t q2 hfx2.1
  obtain rfl : tks1 = tks2 := Option.some.inj (htk1.symm.trans htk2)
  obtain rfl : s1 = s2 := Except.ok.inj (hck1.symm.trans hck2)
  have hs1sum := checkSigAreas_eq_sum E.num hE.num tks1 s1 hck1
  have ho1 : p1.origSig = w64 s1 := by rw [(prep_tocKids hprep1 htk1).1, ← hs1sum]
  have ho2 : p2.origSig = w64 s1 := by rw [(prep_tocKids hprep2 htk1).1, ← hs1sum]
  have hk1e : so1.hk = hk1 := by rw [hso1]
  have ht1 : so1.tree = p1.tree E.num true := by rw [hso1]; exact tree_congr E.num true p1 s1 ho1
  have ht2 : so2.tree = p2.tree E.num true := by rw [hso2]; exact tree_congr E.num true p2 s1 ho2
  have hn1 : so1.newSig = p1.newSig := by rw [hso1]
  have hrb := reserve_size_bounds E.num hk1 ki1 hki1
  have hn1' : p1.newSig = (reserve E.num hk1 ki1).2 := (prep_tocKids hprep1 htk1).2
  -- the file key 1 wrote is a `layout`: header and table of contents are read back from it
  have hI : inI64 p1.newSig := by rw [hn1']; exact ⟨Int.le_trans (by decide) hrb.1, Int.lt_trans hrb.2 (by decide)⟩
  obtain ⟨hg, hbl, _⟩ := written_eq_layout C E hH f so1 so1.origTotal rsa1 cms1 body1 hb1
  rw [hk1e] at hg
  obtain ⟨q', _, _, hfx', hso2', _⟩ := signPlanG_ok_at true C E _ hk2 ki2 so2'
    (newHdr hk1 (E.encode so1.tree).1.length (E.encode so1.tree).2)
    hk1 so1.tree (E.encode so1.tree).2
    (by rw [hg]; exact parseHeader_layout C hk1 _ _ rsa1 _ _ (by omega) hul)
    (by rw [hg]; exact (congrArg E.decode (region_layout C hk1 _ _ rsa1 _ _)).trans (hE.dec_enc so1.tree)) hs2'
  simp only [↓reduceIte] at hfx'
  obtain ⟨p', tks', s', hprep', htk', hck', rfl⟩ := prepFx_ok E.num hk2 ki2 so1.tree q' hfx'.1
  obtain ⟨p2'', hpp, ho, hns, htr⟩ := prep_resign E.num true hE.num hk1 hk2 ki1 ki2 hki1 t p1 p2 hprep1 hprep2
  rw [ht1, hpp] at hprep'
  simp only [Option.some.injEq] at hprep'
  subst hprep'
  obtain ⟨tksx, htx, hsumx⟩ := tree_tocKids E.num true hE.num hk1 ki1 hki1 t p1 hprep1
  rw [ht1, htx] at htk'
  simp only [Option.some.injEq] at htk'
  subst htk'
  have hs' : s' = p1.newSig := by rw [checkSigAreas_eq_sum E.num hE.num _ s' hck', hsumx]
  have ht2' : so2'.tree = p2''.tree E.num true := by
    rw [hso2']
    exact tree_congr E.num true p2'' s' (by rw [ho, hs']; exact (w64_id hI).symm)
  have hot : so2'.origTotal = body1.length := by
    rw [hso2']
    simp only [newHdr, hs', ← hn1]
    rw [← hbl]
    exact i64_nat _ (by omega)
  have hoo : so2.origTotal = so1.origTotal := by rw [hso2, hso1]
  refine ⟨by rw [ht2', ht2]; exact htr, by rw [hso2', hso2]; exact hns, by rw [hso2']; simp only [hs', hn1], hot, hoo, ?_⟩
  intro rsa cms body2 hb2
  have hnb : newBytes C E so2' rsa cms = newBytes C E so2 rsa cms := by
    have e1 : so2'.tree = so2.tree := by rw [ht2', ht2]; exact htr
    have e2 : so2'.newSig = so2.newSig := by rw [hso2', hso2]; exact hns
    have e3 : so2'.hk = so2.hk := by rw [hso2', hso2]
    unfold newBytes
    rw [e1, e2, e3]
  refine ⟨by rw [hnb]; exact hb2, ?_⟩
  rw [hot]
  unfold written
  simp only [Int.toNat_natCast, List.drop_append_of_le_length (Nat.le_refl _), List.drop_length, List.nil_append]

/-- one signing round as a partial function of the run-time parameters (blobs as the signer's key produces them) -/
structure XarRound where
  hk : HK
  ki : KeyInfo
  rsa : Bytes
  cms : Bytes

def xarSignFile (C : Crypto) (E : Env) (f : Bytes) (r : XarRound) : Option Bytes :=
  match (signPlan E f r.hk r.ki).run C with
  | .ok so => (newBytes C E so r.rsa r.cms).map (written f so.origTotal)
  | _ => none

def xarHistory (C : Crypto) (E : Env) : Bytes → List XarRound → Option Bytes
  | f, [] => some f
  | f, r :: rs => (xarSignFile C E f r).bind fun g => xarHistory C E g rs

/-- the shape every successfully signed file has: signed once, from `f0`, with round `r` -/
def XarSignedOnce (C : Crypto) (E : Env) (f0 : Bytes) (r : XarRound) (g : Bytes) : Prop :=
  ∃ so body, (signPlan E f0 r.hk r.ki).run C = .ok so ∧ newBytes C E so r.rsa r.cms = some body ∧ g = written f0 so.origTotal body ∧
    (E.encode so.tree).1.length < 2 ^ 40 ∧ (E.encode so.tree).2 < 2 ^ 63

/-- **xar_history_partial** (stated for runs in which every `Sign` call succeeds, and in which the original can also be signed
    directly with each of the later keys).  After any non-empty sequence of signings the file is the original signed once with
    the last key: header, TOC and signature area of the last round, followed by the original's heap behind ITS old signature
    area — no trace of the intermediate signatures, every member where a single signing puts it. -/
theorem xar_history_partial (C : Crypto) (E : Env) (hE : E.Laws) (hH : ∀ k b, (C.H k b).length = k.size) (f0 : Bytes)
    (hsmall : ∀ r : XarRound, r.ki.small) (hsize : ∀ (so : SignOut), (E.encode so.tree).1.length < 2 ^ 40 ∧ (E.encode so.tree).2 < 2 ^ 63) :
    ∀ (rs : List XarRound) (r : XarRound) (g : Bytes), XarSignedOnce C E f0 r g →
      (∀ r' ∈ rs, (xarSignFile C E f0 r').isSome) →
      ∀ g', xarHistory C E g rs = some g' → XarSignedOnce C E f0 ((r :: rs).getLast (by simp)) g'
  | [], r, g, hg, _, g', h => by
    simp only [xarHistory, Option.some.injEq] at h
    subst h
    simpa using hg
  | r2 :: rs, r, g, hg, hdirect, g', h => by
    simp only [xarHistory] at h
    cases hs : xarSignFile C E g r2 with
    | none => simp [hs] at h
    | some g2 =>
      simp only [hs, Option.bind_some] at h
      have key : XarSignedOnce C E f0 r2 g2 := by
        obtain ⟨so1, body1, hs1, hb1, rfl, hz1, hu1⟩ := hg
        have hd2 := hdirect r2 List.mem_cons_self
        unfold xarSignFile at hd2 hs
        cases hrun2 : (signPlan E f0 r2.hk r2.ki).run C with
        | ok so2 =>
          simp only [hrun2] at hd2
          cases hb2 : newBytes C E so2 r2.rsa r2.cms with
          | none => simp [hb2] at hd2
          | some body2 =>
            cases hrun2' : (signPlan E (written f0 so1.origTotal body1) r2.hk r2.ki).run C with
            | ok so2' =>
              simp only [hrun2'] at hs
              obtain ⟨_, _, _, _, hoo, hfin⟩ := xar_resign_replaces C E hE hH f0 r.hk r2.hk r.ki r2.ki (hsmall r) so1 so2 so2' r.rsa r.cms
                body1 hs1 hb1 hz1 hu1 hrun2 hrun2'
              obtain ⟨e1, e2⟩ := hfin r2.rsa r2.cms body2 hb2
              rw [e1] at hs
              simp only [Option.map_some, Option.some.injEq] at hs
              exact ⟨so2, body2, hrun2, hb2, by rw [← hs, e2, hoo], (hsize so2).1, (hsize so2).2⟩
            | err e => simp [hrun2'] at hs
            | panic p => simp [hrun2'] at hs
            | diverge => simp [hrun2'] at hs
        | err e => simp [hrun2] at hd2
        | panic p => simp [hrun2] at hd2
        | diverge => simp [hrun2] at hd2
      have := xar_history_partial C E hE hH f0 hsmall hsize rs r2 g2 key (fun r' hr' => hdirect r' (List.mem_cons_of_mem _ hr')) g' h
      simpa using this

/-- the full statement (every signing of relic's own output SUCCEEDS, so the success hypotheses of `xar_history_partial` can
    be dropped).  Since fix 5d6eee4 the layout part is decided by `Sign` itself and proved: the old signature elements of `g`
    are the three `reserve` wrote, and they tile `[0, newSig)` (`xar_resign_layout_accepted`).  Hypotheses the statement
    needs: `regularDoc` (a member whose `<offset>` does not parse is read as offset 0 by `checkFiles` and left alone by
    `adjustOffsets`: accepted while there is no signature area, refused with `ffront` once there is one); `KeyInfo.fits`
    (RSA size and `6144 + len(certs)` at most 10^6, the limit fix 5d6eee4 puts on a `<size>`) and the re-serialised TOC within `Sign`'s
    own 10^6 / 10^7 limits — facts about keys and the serialiser, not about the archive.  Still missing for a theorem: the
    forward-only member check of `Sign` (`checkAllStream`, an `io.Reader` that cannot seek back) passes on `g` whenever it
    passed on `f0` — a simulation over the sorted member list under a uniform shift. -/
def xar_history_full : Prop :=
  ∀ (C : Crypto) (E : Env), E.Laws → (∀ k b, (C.H k b).length = k.size) →
  ∀ (f0 : Bytes) (r : XarRound) (g : Bytes), XarSignedOnce C E f0 r g → r.ki.small → r.ki.fits →
    (∀ hd k t n, parseHeader f0 = .ok (hd, k) → E.decode (region f0 28 hd.clen) = some (t, n) → regularDoc E.num t = true) →
    (∀ hd k, parseHeader g = .ok (hd, k) → hd.clen ≤ 1000000 ∧ hd.ulen ≤ 10000000) →
    ∀ r2 : XarRound, (xarSignFile C E f0 r2).isSome → (xarSignFile C E g r2).isSome

/-- **xar_checksum_style_unchecked.**  `Open` compares the `<size>` of `<checksum>` with the size of the header's hash and
    reads the bytes; the `style` attribute plays no part (nor does the `style` of `<signature>` / `<x-signature>`). -/
theorem xar_checksum_style_unchecked (fx : Bool) (E : Env) (f : Bytes) (k : HK) (reg : Bytes) (n : Nat) (toc : XToc) (base : Int) (s : String) :
    (openBody fx E f k reg n { toc with ck := { toc.ck with style := s } } base).checks = (openBody fx E f k reg n toc base).checks ∧
    ((openBody fx E f k reg n { toc with ck := { toc.ck with style := s } } base).final.isOk = (openBody fx E f k reg n toc base).final.isOk) := by
  unfold openBody
  simp only
  split
  · simp [Plan.fail]
  · split
    · simp [Plan.fail]
    · simp only [openRest, true_and]
      cases readSig fx E f base toc.sig with
      | ok sg =>
        simp only [Res.bind]
        cases readXSig fx f base toc.xsig with
        | ok x =>
          simp only
          cases readTicket f toc.files base <;> rfl
        | err e => rfl
        | panic p => rfl
        | diverge => rfl
      | err e => rfl
      | panic p => rfl
      | diverge => rfl

end Relic.Props.C08
