/-
  C18 (fragment) — the comdoc writer at table level: the live chains stay pairwise disjoint.

  Proved at TABLE level: the live chains are given by a list of chain heads `hs` (for the FAT: directory
  stream, mini-FAT chain, mini-stream container, every stream ≥ cutoff; for the mini-FAT: every stream
  below the cutoff); `LiveDisjoint tbl hs` = every head starts a valid chain and no sector occurs twice
  in all of them together.  FAT/DIFAT sectors are covered by their marks (`Marked`): a valid chain never
  passes through an entry ≤ -3 and `makeFreeSectors` only hands out FREESECT entries.

  The byte level does not rest on this file: there the same property is `TInv` of `Proofs/CfbBytesInv`, kept by
  `addFileB_step` / `deleteFileB_step`; build on that one (the head of that file says how the two relate).

  NOT proved (checked on every dumped state by checklib/props/c18w.py `disjoint_why`):
  `add_preserves_disjoint_full` below, the list-of-heads form for a bare table state `St` with the heads
  `satHeads st` / `miniHeads st` of this file through `addFile`.  `St` carries no file, so the hypotheses
  of the byte level about the mini-stream container (`Inv.div`, `Inv.lens`) have no counterpart in it.
-/
import Relic.Props.C18_Writer
namespace Relic.Props.C18
open Relic.CfbW

/-- `cs` are the chains starting at the heads `hs` -/
def Chains (tbl : List Int) : List Int → List (List Nat) → Prop
  | [], [] => True
  | h :: hs, c :: cs => chain tbl h = some c ∧ Chains tbl hs cs
  | _, _ => False

/-- every head starts a valid chain and the chains are pairwise disjoint (no sector twice overall) -/
def LiveDisjoint (tbl : List Int) (hs : List Int) : Prop :=
  ∃ cs, Chains tbl hs cs ∧ cs.flatten.Nodup

/-- the FAT entries of the FAT and DIFAT sectors carry FATSECT / DIFSECT -/
def Marked (tbl : List Int) (fat : List Nat) : Prop :=
  ∀ s ∈ fat, ∃ v, tbl[s]? = some v ∧ v ≤ -3

theorem Chains.entry {tbl : List Int} : ∀ {hs : List Int} {cs : List (List Nat)}, Chains tbl hs cs →
    ∀ x ∈ cs.flatten, ∃ v, tbl[x]? = some v ∧ (v = EOC ∨ 0 ≤ v) := by
  intro hs cs
  fun_induction Chains tbl hs cs
  case case1 => exact fun _ _ hx => nomatch hx
  case case2 h hs c cs ih =>
    intro hc x hx
    rcases List.mem_append.mp hx with hx | hx
    · exact (chain_iff.mp hc.1).entry x hx
    · exact ih hc.2 x hx
  case case3 => exact False.elim

theorem Chains.frame {tbl tbl' : List Int} : ∀ {hs : List Int} {cs : List (List Nat)}, Chains tbl hs cs →
    (∀ s c, chain tbl s = some c → (∀ x ∈ c, x ∈ cs.flatten) → chain tbl' s = some c) → Chains tbl' hs cs := by
  intro hs cs
  fun_induction Chains tbl hs cs
  case case1 => exact fun _ _ => trivial
  case case2 h hs c cs ih =>
    intro hc hf
    refine ⟨hf h c hc.1 (fun x hx => List.mem_append_left _ hx), ih hc.2 ?_⟩
    exact fun s c' hc' hsub => hf s c' hc' (fun x hx => List.mem_append_right _ (hsub x hx))
  case case3 => exact False.elim

theorem Chains.split {tbl : List Int} : ∀ {pre : List Int} {h : Int} {post : List Int} {cs : List (List Nat)},
    Chains tbl (pre ++ h :: post) cs →
    ∃ cpre c cpost, cs = cpre ++ c :: cpost ∧ Chains tbl pre cpre ∧ chain tbl h = some c ∧ Chains tbl post cpost := by
  intro pre
  induction pre with
  | nil =>
    intro h post cs hc
    cases cs with
    | nil => simp [Chains] at hc
    | cons c cs => exact ⟨[], c, cs, rfl, by simp [Chains], hc.1, hc.2⟩
  | cons a pre ih =>
    intro h post cs hc
    cases cs with
    | nil => simp [Chains] at hc
    | cons c cs =>
      obtain ⟨h1, h2⟩ := hc
      obtain ⟨cpre, c', cpost, e, g1, g2, g3⟩ := ih h2
      exact ⟨c :: cpre, c', cpost, by simp [e], ⟨h1, g1⟩, g2, g3⟩

theorem Chains.join {tbl : List Int} : ∀ {pre post : List Int} {cpre cpost : List (List Nat)},
    Chains tbl pre cpre → Chains tbl post cpost → Chains tbl (pre ++ post) (cpre ++ cpost) := by
  intro pre post cpre cpost
  fun_induction Chains tbl pre cpre
  case case1 => exact fun _ h => h
  case case2 h hs c cs ih => exact fun h1 h2 => ⟨h1.1, ih h1.2 h2⟩
  case case3 => exact False.elim

/-- a valid chain never passes through a FAT / DIFAT sector -/
theorem marked_not_live {tbl : List Int} {fat : List Nat} {hs : List Int} {cs : List (List Nat)}
    (hm : Marked tbl fat) (hc : Chains tbl hs cs) : ∀ s ∈ fat, s ∉ cs.flatten := by
  intro s hs' hmem
  obtain ⟨v, hv, hv'⟩ := hm s hs'
  obtain ⟨w, hw, hw'⟩ := hc.entry s hmem
  rw [hv] at hw; cases hw; omega

theorem Marked.keep {tbl tbl' : List Int} {fat : List Nat} (hm : Marked tbl fat)
    (h : ∀ (j : Nat) (v : Int), tbl[j]? = some v → v ≤ -3 → tbl'[j]? = some v) : Marked tbl' fat := by
  intro s hs
  obtain ⟨v, hv, hv'⟩ := hm s hs
  exact ⟨v, h s v hv hv', hv'⟩

theorem Chains.not_fresh {tbl : List Int} {hs : List Int} {cs : List (List Nat)} (hc : Chains tbl hs cs) {x : Nat}
    (hx : tbl[x]? = some FREE ∨ tbl.length ≤ x) : x ∉ cs.flatten := by
  intro hmem
  obtain ⟨v, hv, hv'⟩ := hc.entry x hmem
  rcases hx with h1 | h1
  · rw [hv] at h1; cases h1; omega
  · have := (List.getElem?_eq_some_iff.mp hv).1; omega

/-- **add_preserves_disjoint.** Adding a stream (`addStream(contents, false)`, or the mini-FAT side of a
    short one: same function on the other table) keeps the live chains pairwise disjoint, the new chain
    included, and leaves the FAT/DIFAT marks in place – so every live chain is also disjoint from the
    FAT and DIFAT sectors. -/
theorem add_preserves_disjoint (ss : Nat) (tbl : List Int) (hs : List Int) (fat : List Nat) (len : Nat)
    (first : Int) (tbl' : List Int) (hl : LiveDisjoint tbl hs) (hm : Marked tbl fat)
    (h : addStreamBig ss tbl len = .ok (first, tbl')) :
    LiveDisjoint tbl' (first :: hs) ∧ Marked tbl' fat ∧
    (∀ cs, Chains tbl' (first :: hs) cs → ∀ s ∈ fat, s ∉ cs.flatten) := by
  obtain ⟨cs, hc, hn⟩ := hl
  obtain ⟨fl, c1, _, c3, c4, _, _, _⟩ := chain_of_addStream ss tbl len first tbl' h
  obtain ⟨f1, f2⟩ := addStream_frame ss tbl len first tbl' h
  have hm' : Marked tbl' fat := hm.keep (fun j v hj hv => f2 j v hj (by omega))
  refine ⟨⟨fl :: cs, ⟨c1, hc.frame (fun s c h _ => f1 s c h)⟩, ?_⟩, hm', fun cs' hc' => marked_not_live hm' hc'⟩
  simp only [List.flatten_cons]
  refine List.nodup_append.mpr ⟨List.Pairwise.imp (fun hab => Nat.ne_of_lt hab) c3, hn, ?_⟩
  intro a ha b hb hab
  exact hc.not_fresh (c4 a ha) (hab ▸ hb)

/-- **delete_preserves_disjoint.** Freeing the chain of any live stream keeps the remaining live
    chains valid and pairwise disjoint, and the FAT/DIFAT marks in place. -/
theorem delete_preserves_disjoint (tbl : List Int) (pre : List Int) (hd : Int) (post : List Int) (fat : List Nat)
    (hl : LiveDisjoint tbl (pre ++ hd :: post)) (hm : Marked tbl fat) :
    ∃ tbl', freeSectors tbl hd = .ok tbl' ∧ LiveDisjoint tbl' (pre ++ post) ∧ Marked tbl' fat := by
  obtain ⟨cs, hc, hn⟩ := hl
  obtain ⟨cpre, c, cpost, rfl, g1, g2, g3⟩ := hc.split
  obtain ⟨e1, k⟩ := freeSectors_chain (chain_iff.mp g2)
  simp only [List.flatten_append, List.flatten_cons] at hn
  obtain ⟨n1, n2, n3⟩ := List.nodup_append.mp hn
  obtain ⟨_, n5, n6⟩ := List.nodup_append.mp n2
  refine ⟨_, e1, ⟨cpre ++ cpost, Chains.join ?_ ?_, ?_⟩, hm.keep fun j v => k.mark (chain_iff.mp g2)⟩
  · exact g1.frame fun s m hm' hsub => k.chain hm' fun x hx hxc => n3 x (hsub x hx) x (List.mem_append_left _ hxc) rfl
  · exact g3.frame fun s m hm' hsub => k.chain hm' fun x hx hxc => n6 x hxc x (hsub x hx) rfl
  · simp only [List.flatten_append]
    exact List.nodup_append.mpr ⟨n1, n5, fun a ha b hb hab => n3 a ha b (List.mem_append_right _ hb) hab⟩

/-- **short_add_preserves_disjoint.** The FAT side of a short `addStream`: with the mini-stream container
    first in the list of live chains (absent = no head), the live FAT chains stay pairwise disjoint while
    the container grows, and the marks stay. -/
theorem short_add_preserves_disjoint (a : Alloc) (len : Nat) (first : Int) (a' : Alloc) (hs : List Int)
    (fat : List Nat) (h : addStream a len true = .ok (first, a'))
    (hl : (0 ≤ a.rootStart ∧ LiveDisjoint a.sat (a.rootStart :: hs)) ∨ (a.rootStart < 0 ∧ LiveDisjoint a.sat hs))
    (hm : Marked a.sat fat) :
    ((0 ≤ a'.rootStart ∧ LiveDisjoint a'.sat (a'.rootStart :: hs)) ∨ (a'.rootStart < 0 ∧ LiveDisjoint a'.sat hs)) ∧
    Marked a'.sat fat := by
  obtain ⟨C, cs, hC, hc, hn⟩ : ∃ C cs, Cont a.sat a.rootStart C ∧ Chains a.sat hs cs ∧ (C ++ cs.flatten).Nodup := by
    rcases hl with ⟨h0, cs, hc, hn⟩ | ⟨h0, cs, hc, hn⟩
    · cases cs with
      | nil => simp [Chains] at hc
      | cons c cs => exact ⟨c, cs, Or.inr ⟨h0, chain_iff.mp hc.1⟩, hc.2, by simpa using hn⟩
    · exact ⟨[], cs, Or.inl ⟨h0, rfl⟩, hc, by simpa using hn⟩
  obtain ⟨E, g1, g2, g3, g4⟩ := addStream_short_fat a len first a' C hC h
  obtain ⟨_, n2, n3⟩ := List.nodup_append.mp hn
  have hc' : Chains a'.sat hs cs := by
    refine hc.frame (fun s m hm' hsub => g4 s m hm' ?_)
    intro x hx hxC
    exact n3 x hxC x (hsub x hx) rfl
  have hm' : Marked a'.sat fat := hm.keep fun j v => Keeps.mark_cont g3 hC
  refine ⟨?_, hm'⟩
  rcases g1 with ⟨hneg, _⟩ | ⟨hpos, hch⟩
  · exact Or.inr ⟨hneg, cs, hc', n2⟩
  · refine Or.inl ⟨hpos, (C ++ E) :: cs, ⟨chain_iff.mpr hch, hc'⟩, ?_⟩
    simp only [List.flatten_cons]
    refine List.nodup_append.mpr ⟨hch.nodup, n2, ?_⟩
    intro x hx y hy hxy
    subst hxy
    rcases List.mem_append.mp hx with hx | hx
    · exact n3 x hx x hy rfl
    · exact hc.not_fresh (g2 x hx) hy

/-- table-level operations: add a stream of `len` bytes; delete the `k`-th live stream -/
inductive TOp where
  | add (len : Nat)
  | del (k : Nat)

def tstep (ss : Nat) (st : List Int × List Int) : TOp → Res (List Int × List Int)
  | .add len =>
    match addStreamBig ss st.1 len with
    | .ok (first, tbl') => .ok (tbl', first :: st.2)
    | .err e => .err e | .panic p => .panic p | .diverge => .diverge
  | .del k =>
    match st.2[k]? with
    | none => .ok st
    | some h =>
      match freeSectors st.1 h with
      | .ok tbl' => .ok (tbl', st.2.eraseIdx k)
      | .err e => .err e | .panic p => .panic p | .diverge => .diverge

def trun (ss : Nat) : List Int × List Int → List TOp → Res (List Int × List Int)
  | st, [] => .ok st
  | st, op :: ops =>
    match tstep ss st op with
    | .ok st' => trun ss st' ops
    | .err e => .err e | .panic p => .panic p | .diverge => .diverge

theorem tstep_preserves (ss : Nat) (hss : 4 ≤ ss) (tbl : List Int) (hs : List Int) (fat : List Nat) (op : TOp)
    (hl : LiveDisjoint tbl hs) (hm : Marked tbl fat) :
    ∃ tbl' hs', tstep ss (tbl, hs) op = .ok (tbl', hs') ∧ LiveDisjoint tbl' hs' ∧ Marked tbl' fat := by
  cases op with
  | add len =>
    obtain ⟨first, tbl', e⟩ := addStream_total ss hss tbl len
    obtain ⟨a1, a2, _⟩ := add_preserves_disjoint ss tbl hs fat len first tbl' hl hm e
    exact ⟨tbl', first :: hs, by simp [tstep, e], a1, a2⟩
  | del k =>
    cases hk : hs[k]? with
    | none => exact ⟨tbl, hs, by simp [tstep, hk], hl, hm⟩
    | some h =>
      obtain ⟨hlt, hget⟩ := List.getElem?_eq_some_iff.mp hk
      have hsplit : hs = hs.take k ++ h :: hs.drop (k + 1) := by
        rw [← hget, ← List.drop_eq_getElem_cons hlt, List.take_append_drop]
      rw [hsplit] at hl
      obtain ⟨tbl', e1, e2, e3⟩ := delete_preserves_disjoint tbl _ h _ fat hl hm
      refine ⟨tbl', hs.eraseIdx k, by simp [tstep, hk, e1], ?_, e3⟩
      rw [List.eraseIdx_eq_take_drop_succ]; exact e2

/-- **history_preserves_disjoint.** Any history of additions and deletions of live streams runs to
    completion (no panic, no divergence) and keeps the live chains pairwise disjoint and the FAT/DIFAT
    marks – hence the live chains disjoint from the FAT/DIFAT sectors – by induction over the history. -/
theorem history_preserves_disjoint (ss : Nat) (hss : 4 ≤ ss) (fat : List Nat) : ∀ (ops : List TOp) (tbl : List Int) (hs : List Int),
    LiveDisjoint tbl hs → Marked tbl fat →
    ∃ tbl' hs', trun ss (tbl, hs) ops = .ok (tbl', hs') ∧ LiveDisjoint tbl' hs' ∧ Marked tbl' fat ∧
      (∀ cs, Chains tbl' hs' cs → ∀ s ∈ fat, s ∉ cs.flatten) := by
  intro ops
  induction ops with
  | nil => intro tbl hs hl hm; exact ⟨tbl, hs, rfl, hl, hm, fun cs hc => marked_not_live hm hc⟩
  | cons op ops ih =>
    intro tbl hs hl hm
    obtain ⟨tbl1, hs1, e, hl1, hm1⟩ := tstep_preserves ss hss tbl hs fat op hl hm
    obtain ⟨tbl', hs', e', r⟩ := ih tbl1 hs1 hl1 hm1
    exact ⟨tbl', hs', by simp [trun, e, e'], r⟩

example : LiveDisjoint [1, EOC, FATSECT, 4, EOC, FREE, FREE, FREE] [0, 3, EOC] ∧
    Marked [1, EOC, FATSECT, 4, EOC, FREE, FREE, FREE] [2] :=
  ⟨⟨[[0, 1], [3, 4], []], ⟨by decide +kernel, by decide +kernel, by decide +kernel, trivial⟩, by decide +kernel⟩,
   by intro s hs; simp at hs; subst hs; exact ⟨FATSECT, by decide +kernel, by decide⟩⟩
example : trun 8 ([1, EOC, FATSECT, 4, EOC, FREE, FREE, FREE], [0, 3, EOC]) [.add 20, .del 1, .add 9] =
    .ok ([1, EOC, FATSECT, 4, EOC, 6, 7, EOC], [0, 5, 3, EOC]) := by decide +kernel

/-- heads of the live FAT chains of a writer state -/
def satHeads (st : St) : List Int :=
  (if 0 ≤ st.a.rootStart then [st.a.rootStart] else []) ++ [st.dirStart, st.ssatStart] ++
  st.files.filterMap (fun sl => if sl.typ = 2 ∧ st.cutoff ≤ sl.size then some sl.start else none)

def miniHeads (st : St) : List Int :=
  st.files.filterMap (fun sl => if sl.typ = 2 ∧ sl.size < st.cutoff then some sl.start else none)

def ChainsDisjoint (st : St) : Prop :=
  LiveDisjoint st.a.sat (satHeads st) ∧ LiveDisjoint st.a.ssat (miniHeads st) ∧
  Marked st.a.sat ((st.msat ++ st.msatList).filterMap (fun s => if 0 ≤ s then some s.toNat else none))

def add_preserves_disjoint_full : Prop :=
  ∀ (st st' : St) (key nunits len : Nat), 4 ≤ st.a.ss → len < 4294967296 → ChainsDisjoint st →
    addFile st key nunits len = .ok st' → ChainsDisjoint st'

end Relic.Props.C18
