/-
  C11 — Malformed input yields an error, never a crash or runaway resource use.   Apple disk image (UDIF) part:
  exactly where `dmg.Open`, `(*DMG).Verify` and `dmg.Sign` can panic, allocate or loop on arbitrary bytes.
  Current tree (fix-open, fix-sign applied):
  * `dmg.Open` has no panic site left (`open_fixed_no_panic`), never loops (`open_total`), and its one allocation is at most
    10^7 bytes, requested before the file is known to be that long (`open_alloc_le`, witness below).
  * `Verify` adds no panic of its own: it panics iff the code-signature parser does on the blob (`verify_fixed_panic_iff`;
    that is C11_MachO's `parseCodeDirectory_panic_only_if`, listed finding F12-panic-csblob.parseCodeDirectory).
  * `dmg.Sign` up to `csblob.Sign` has no panic site (`plan_total`); whatever it accepts has a signature offset in
    `[0, len−512]`, so the patch builder appends at most `len/(2^32−1)+1` entries (`sign_patch_entries_le`);
    `dmg_no_panic_full` holds.
  Tree before the fixes (statements about `openFileOrig` / `planOrig`, kept as the record of the defects):
  * `dmg.Open` panicked on exactly one class of inputs: at least 512 bytes, koly magic, SignatureLength negative as int64
    (`open_panic_iff`; F12-panic-dmg.Open: the test `SignatureLength > 10e6` let negative values through to `make`).
  * the patch builder appended one entry per 2^32−1 bytes of `oldSize − bundle`: about 2^31 entries for a trailer with a
    large negative `XMLOffset+XMLLength` (witness; F13-alloc-binpatch.(*PatchSet).Add via sign:dmg).
-/
import Relic.Proofs.Dmg
namespace Relic.Props.C11
open Relic.Dmg Relic.CodeDir

/-- the trailer `Open` parses -/
def trailerOf (f : Bytes) : Koly := decode (f.drop (f.length - 512))

/-- **open_panic_iff** (tree before fix-open). -/
theorem open_panic_iff (f : Bytes) (s : String) :
    openFileOrig f = .panic s ↔
      (s = "dmg.Open:makeslice" ∧ 512 ≤ f.length ∧ (trailerOf f).magic = kolyMagic ∧ toI64 (trailerOf f).sigLength < 0) :=
  (openFileG_crash_iff false f (.panic s)).trans (by simp [trailerOf])

/-- **open_total.** `Open` always returns (before and after the fix): a value, an error or the panic above. -/
theorem open_total (fx : Bool) (f : Bytes) : openFileG fx f ≠ .diverge :=
  fun h => Crash.noConfusion ((openFileG_crash_iff fx f .diverge).mp h).2.1

/-- **open_fixed_no_panic.** The repaired `dmg.Open` returns a value or an error on every byte string. -/
theorem open_fixed_no_panic (f : Bytes) (s : String) : openFile f ≠ .panic s :=
  fun h => Bool.noConfusion ((openFileG_crash_iff true f (.panic s)).mp h).1

/-- the fix changes nothing else: wherever the original `Open` did not panic the repaired one answers the same (where it
    panicked the repaired one answers "toolarge": the first witness at the end of the file) -/
theorem open_fixed_agrees (f : Bytes) :
    (∀ s, openFileOrig f ≠ .panic s) → openFile f = openFileOrig f := by
  intro hnp
  unfold openFile openFileOrig openFileG
  -- the same tests with the same answers, except behind `n < 0`, which `hnp` excludes
  refine ite_congr rfl (fun _ => rfl) fun hl => ?_
  refine ite_congr rfl (fun _ => rfl) fun hm => ?_
  refine ite_congr rfl (fun _ => rfl) fun _ => ?_
  refine ite_congr rfl (fun _ => rfl) fun _ => ?_
  refine ite_congr rfl (fun hn => ?_) fun _ => rfl
  exact absurd ((open_panic_iff f _).mpr ⟨rfl, Nat.le_of_not_lt hl, Decidable.not_not.mp hm, hn⟩) (hnp _)

/-- **open_alloc_le.** The one allocation of `Open` is bounded by the constant 10^7, never by a larger header value … -/
theorem open_alloc_le (f : Bytes) : openAlloc f ≤ maxSig := by
  fun_cases openAlloc f
  case case4 h => omega
  all_goals exact Nat.zero_le _

/-- … and what `Open` returns was allocated exactly once with the size of the blob -/
theorem open_alloc_eq (f : Bytes) (o : Opened) (h : openFile f = .ok o) : o.alloc = openAlloc f ∧ o.alloc = o.sigBlob.length := by
  revert h
  unfold openFile
  fun_cases openFileG true f
  case case3 hl k _ hz =>
    intro h
    rw [← Res.ok.inj h, openAlloc, if_neg hl]
    exact ⟨(if_pos (Or.inr hz)).symm, rfl⟩
  case case9 hl k hm hz n hmax hn off _ hfit =>
    intro h
    have e := Res.ok.inj h
    -- the tests in terms of the file, as `openAlloc` states them
    unfold off n k at e hfit
    unfold n k at hmax hn
    unfold k at hm hz
    rw [← e]
    dsimp only
    rw [openAlloc, if_neg hl, if_neg (not_or.mpr ⟨hm, hz⟩), if_neg (not_or.mpr ⟨hmax, hn⟩)]
    exact ⟨rfl, (sl_length f _ _ (Nat.le_of_not_lt hfit)).symm⟩
  all_goals nofun

/-- **verify_panic_iff.** `Verify` has no panic site of its own (before and after the fix). -/
theorem verify_panic_iff (fx : Bool) (f : Bytes) (skip : Bool) (s : String) :
    verifyG fx f skip = .panic s ↔
      (openFileG fx f = .panic s ∨ ∃ o, openFileG fx f = .ok o ∧ o.sigBlob ≠ [] ∧ MachO.parseSignature o.sigBlob = .panic s) := by
  unfold verifyG
  cases ho : openFileG fx f with
  | err e => simp
  | diverge => simp
  | panic p => simp
  | ok o =>
    simp only [Res.ok.injEq, exists_eq_left', reduceCtorEq, false_or]
    unfold verifyBlob
    by_cases he : o.sigBlob = []
    · simp [he]
    · have he' : o.sigBlob.isEmpty = false := by simpa using he
      simp only [he', Bool.false_eq_true, ↓reduceIte, ne_eq, he, not_false_eq_true, true_and]
      cases hp : MachO.parseSignature o.sigBlob with
      | err e => simp
      | diverge => simp
      | panic p => simp
      | ok r =>
        obtain ⟨sg, items⟩ := r
        simp only [reduceCtorEq, iff_false]
        intro h
        split at h
        · cases h
        · split at h
          · cases h
          · split at h <;> cases h

/-- **verify_fixed_panic_iff.** With the repaired `Open` the only panic left in `Open` + `Verify` is the code-signature
    parser's (C11_MachO: `parseCodeDirectory_panic_only_if`). -/
theorem verify_fixed_panic_iff (f : Bytes) (skip : Bool) (s : String) :
    verify f skip = .panic s ↔ ∃ o, openFile f = .ok o ∧ o.sigBlob ≠ [] ∧ MachO.parseSignature o.sigBlob = .panic s := by
  have := verify_panic_iff true f skip s
  have hn : ¬ openFileG true f = .panic s := open_fixed_no_panic f s
  simpa [verify, openFile, hn] using this

/-- `dmg.Sign` up to the call of `csblob.Sign`, tree before fix-sign: value or error, for every pair of byte strings -/
theorem planOrig_total (t f : Bytes) : (∀ s, planOrig t f ≠ .panic s) ∧ planOrig t f ≠ .diverge := by
  fun_cases planOrig t f <;> exact ⟨nofun, nofun⟩

/-- **plan_total.** The same for the current tree. -/
theorem plan_total (t f : Bytes) : (∀ s, plan t f ≠ .panic s) ∧ plan t f ≠ .diverge := by
  fun_cases plan t f
  case case3 => exact planOrig_total t f
  all_goals exact ⟨nofun, nofun⟩

/-- `DefaultsFromSignature` panics only inside the parser of the old signature -/
theorem defaults_panic (p : SignParams) (old : Option Bytes) (s : String) (h : MachO.defaults p old = .panic s) :
    ∃ blob, old = some blob ∧ MachO.parseSignature blob = .panic s := by
  revert h
  fun_cases MachO.defaults p old
  case case3 blob s' hp => rintro ⟨⟩; exact ⟨blob, rfl, hp⟩
  all_goals nofun

/-- the deterministic part of `csblob.Sign` has no panic site -/
theorem signBlob_no_panic (p : SignParams) (stream : Bytes) (s : String) : signBlob p stream ≠ .panic s := by
  fun_cases signBlob p stream
  case case2 s' hq =>
    -- the requirements step: `reqItem` has no panic site
    exfalso
    split at hq
    · rename_i v _
      revert hq
      fun_cases reqItem v <;> nofun
    · cases hq
  case case6 cdp s' hc =>
    exfalso
    revert hc
    fun_cases newCodeDirectory cdp <;> nofun
  all_goals nofun

/-- **sign_panic_only_if.** `dmg.Sign` (CMS step excluded) panics only when the image names an old signature and the
    code-signature parser panics on those bytes (C11_MachO: `parseCodeDirectory_panic_only_if`). -/
theorem sign_panic_only_if (t f : Bytes) (p : SignParams) (s : String) (h : Dmg.sign t f p = .panic s) :
    ∃ pl old, plan t f = .ok pl ∧ pl.oldSig = some old ∧ MachO.parseSignature old = .panic s := by
  revert h
  fun_cases Dmg.sign t f p
  case case2 s' hp => exact fun _ => absurd hp ((plan_total t f).1 s')
  case case5 pl hpl s' hd =>
    intro h
    cases h
    obtain ⟨blob, ho, hb⟩ := defaults_panic _ _ _ hd
    exact ⟨pl, blob, hpl, ho, hb⟩
  case case10 s' hs => exact fun _ => absurd hs (signBlob_no_panic _ _ s')
  all_goals nofun

/-- int64 subtraction without overflow -/
theorem wrapI64_of_range (x : Int) (h1 : -(2 ^ 63) ≤ x) (h2 : x < 2 ^ 63) : MachO.wrapI64 x = x := by
  unfold MachO.wrapI64 toI64
  have e : ((x % 2 ^ 64).toNat) % 2 ^ 64 = (x % 2 ^ 64).toNat := Nat.mod_eq_of_lt (by omega)
  rw [e]
  split <;> omega

/-- **patch_entries_le.** With a non-negative signature offset the number of patch entries is bounded by the input
    length: at most `len / (2^32−1) + 1`. -/
theorem patch_entries_le (pl : Plan) (flen : Nat) (h0 : 0 ≤ pl.bundle) (hb : pl.bundle < 2 ^ 63) (hf : flen < 2 ^ 63) :
    pl.patchEntries flen ≤ flen / uint32Max + 1 := by
  unfold Plan.patchEntries Plan.oldRange
  rw [wrapI64_of_range _ (by omega) (by omega)]
  have hM : ((uint32Max : Nat) : Int) = 4294967295 := rfl
  have hM' : uint32Max = 4294967295 := rfl
  rw [hM, hM']
  by_cases c : (flen : Int) - pl.bundle ≤ 4294967295
  · simp only [c, ↓reduceIte]; omega
  · simp only [c, ↓reduceIte]; omega

/-- what the repaired `Sign` accepts has its signature offset inside the input -/
theorem sign_range (t f : Bytes) (p : SignParams) (so : SignOut) (h : Dmg.sign t f p = .ok so) :
    0 ≤ so.plan.bundle ∧ so.plan.bundle.toNat + 512 ≤ f.length := by
  exact (sign_fits t f p so h).2.2

/-- **sign_patch_entries_le.** Whatever the repaired `dmg.Sign` accepts, the patch it builds has at most
    `len/(2^32−1) + 1` entries: the runaway `binpatch.Add` loop is gone. -/
theorem sign_patch_entries_le (t f : Bytes) (p : SignParams) (so : SignOut) (h : Dmg.sign t f p = .ok so)
    (hf : f.length < 2 ^ 63) : so.plan.patchEntries f.length ≤ f.length / uint32Max + 1 := by
  obtain ⟨h0, hb⟩ := sign_range t f p so h
  exact patch_entries_le so.plan f.length h0 (by omega) hf

/-- **dmg_no_panic_full** (repaired tree): `dmg.Open` never panics, and every patch `dmg.Sign` produces is proportional
    to its input.  (`Verify` / re-signing can still panic inside `csblob.parseCodeDirectory` on a crafted signature
    blob: `verify_fixed_panic_iff`, `sign_panic_only_if`; that listed finding belongs to the code-signature layer.) -/
theorem dmg_no_panic_full :
    (∀ f s, openFile f ≠ .panic s) ∧
    (∀ (t f : Bytes) (p : SignParams) (so : SignOut), Dmg.sign t f p = .ok so → f.length < 2 ^ 63 →
      so.plan.patchEntries f.length ≤ f.length / uint32Max + 1) :=
  ⟨open_fixed_no_panic, sign_patch_entries_le⟩

/-- the same statement for the tree before the fixes: false there (witnesses below; F12-panic-dmg.Open and
    F13-alloc-binpatch.(*PatchSet).Add via sign:dmg) -/
def dmg_no_panic_orig_full : Prop :=
  (∀ f s, openFileOrig f ≠ .panic s) ∧
  (∀ (t f : Bytes) (pl : Plan), planOrig t f = .ok pl → f.length < 2 ^ 63 → pl.patchEntries f.length ≤ f.length / uint32Max + 1)

set_option maxRecDepth 100000 in
/-- a 512-byte file: koly magic, SignatureLength = 0x8000000000000000: the original code panicked, the repaired refuses -/
example : openFileOrig (sampleKoly 0 0 0 (2 ^ 63)).enc = .panic "dmg.Open:makeslice" ∧
    openFile (sampleKoly 0 0 0 (2 ^ 63)).enc = .err "toolarge" := by decide +kernel

set_option maxRecDepth 100000 in
/-- SignatureLength = −1 -/
example : openFileOrig (sampleKoly 0 0 0 (2 ^ 64 - 1)).enc = .panic "dmg.Open:makeslice" :=
  (open_panic_iff _ _).mpr ⟨rfl, by decide +kernel, by decide +kernel, by decide +kernel⟩

set_option maxRecDepth 100000 in
/-- a 512-byte file makes `Open` request 10^7 bytes before `ReadAt` reports that they are not there -/
example : openAlloc (sampleKoly 0 0 0 10000000).enc = 10000000 ∧ openFile (sampleKoly 0 0 0 10000000).enc = .err "read" := by decide +kernel

set_option maxRecDepth 100000 in
/-- one byte more is refused without allocating -/
example : openAlloc (sampleKoly 0 0 0 10000001).enc = 0 ∧ openFile (sampleKoly 0 0 0 10000001).enc = .err "toolarge" := by decide +kernel

/-- `XMLOffset + XMLLength = −2^62` on a 512-byte upload: 2^30 + 1 patch entries (40 bytes each) -/
example : (⟨sampleKoly (2 ^ 64 - 2 ^ 62) 0 0 0, -(2 ^ 62), [], [], none⟩ : Plan).patchEntries 512 = 1073741825 := by decide +kernel

set_option maxRecDepth 100000 in
/-- … which the original `Sign` accepted and the repaired one refuses -/
example : planOrig (sampleKoly (2 ^ 64 - 2 ^ 62) 0 0 0).enc (sampleKoly (2 ^ 64 - 2 ^ 62) 0 0 0).enc =
      .ok ⟨sampleKoly (2 ^ 64 - 2 ^ 62) 0 0 0, -(2 ^ 62), [], (sampleKoly (2 ^ 64 - 2 ^ 62) 0 (2 ^ 64 - 2 ^ 62) 0).enc, none⟩ ∧
    plan (sampleKoly (2 ^ 64 - 2 ^ 62) 0 0 0).enc (sampleKoly (2 ^ 64 - 2 ^ 62) 0 0 0).enc = .err "noplist" := by decide +kernel

set_option maxRecDepth 100000 in
example : ¬ dmg_no_panic_orig_full := by
  intro h
  have := h.2 (sampleKoly (2 ^ 64 - 2 ^ 62) 0 0 0).enc (sampleKoly (2 ^ 64 - 2 ^ 62) 0 0 0).enc _ (by decide +kernel : planOrig _ _ = .ok
    ⟨sampleKoly (2 ^ 64 - 2 ^ 62) 0 0 0, -(2 ^ 62), [], (sampleKoly (2 ^ 64 - 2 ^ 62) 0 (2 ^ 64 - 2 ^ 62) 0).enc, none⟩) (by decide +kernel)
  exact absurd this (by decide +kernel)

/-- `bundle = 0` on an image of 5·10^9 bytes: two entries (with the plist at the end of the image it is one) -/
example : (⟨sampleKoly 0 0 0 0, 0, [], [], none⟩ : Plan).patchEntries 5000000000 = 2 := by decide +kernel

end Relic.Props.C11
