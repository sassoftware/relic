/-
  C19 — XML signatures depend on canonical meaning, not on serialisation.
  Property theorems about `Relic.Model.Xml` (model of /repo/lib/xmldsig/canonicalize.go + etree's canonical writer),
  `Relic.Model.EcdsaPack` (lib/x509tools EcdsaSignature.Pack/PackCurve/UnpackEcdsaSignature) and
  `Relic.Spec.ExcC14N` (Exclusive C14N 1.0 transcribed from the W3C text).
-/
import Relic.Model.EcdsaPack
import Relic.Proofs.Codec
import Relic.Proofs.XmlPermFull
import Relic.Proofs.XmlUnused
import Relic.Proofs.XmlExcCtx
import Relic.Proofs.XmlWf
namespace Relic.Props.C19
open Relic.EcdsaPack Relic.Xml Relic.Xml.Sens Relic.Xml.Inj

/-- Packing to the curve's byte length `w` (the repaired `PackCurve`) always gives `2w`
    bytes and `UnpackEcdsaSignature` returns the two numbers, for every `r, s < 256^w`. -/
theorem ecdsa_fixed_width (w r s : Nat) (hr : r < 256 ^ w) (hs : s < 256 ^ w) :
    ∃ p, packW w r s = .ok p ∧ p.length = 2 * w ∧ unpack p = .ok (r, s) := by
  refine ⟨beBytes w r ++ beBytes w s, ?_, ?_, ?_⟩
  · simp [packW, hr, hs]
  · simp only [List.length_append, beBytes_length]; omega
  · have h2 : (beBytes w r ++ beBytes w s).length = w * 2 := by
      simp only [List.length_append, beBytes_length]; omega
    have h3 : w * 2 / 2 = w := by omega
    unfold unpack
    simp only [h2, h3, ne_eq, not_true_eq_false, ↓reduceIte]
    rw [List.take_left' (beBytes_length w r), List.drop_left' (beBytes_length w r),
      beVal_beBytes_of_lt w r hr, beVal_beBytes_of_lt w s hs]

example : ∃ p, packW 32 1 (256 ^ 32 - 1) = .ok p ∧ p.length = 64 ∧ unpack p = .ok (1, 256 ^ 32 - 1) :=
  ecdsa_fixed_width 32 1 _ (by decide) (by decide)

/-- The packing on the unchanged tree (`Pack`, width from
    `max (bitlen r) (bitlen s)`) is *not* fixed-width: `r = s = 1` is a legal P-256 signature value pair and packs
    to 2 bytes instead of 64.  (Replayed on the real code by the `ecdsa` ops of the harness: F17.) -/
theorem ecdsa_pack_unfixed_not_fixed_width :
    ¬ ∀ bits r s : Nat, 0 < r → 0 < s → r < 2 ^ bits → s < 2 ^ bits →
        (packUnfixed r s).length = 2 * curveBytes bits := by
  intro h
  have := h 256 1 1 (by decide) (by decide) (by decide) (by decide)
  revert this
  decide +kernel

/-- the length the unchanged code produces is a function of the values, not of the curve -/
theorem packUnfixed_length (r s : Nat) :
    (packUnfixed r s).length = 2 * (((if bitLen s > bitLen r then bitLen s else bitLen r) + 7) / 8) := by
  simp only [packUnfixed, List.length_append, beBytes_length]; omega

/-- Removing every comment, processing instruction and directive, at any depth
    below the apex, does not change relic's canonical form.  (For comments this is what Exclusive C14N "without
    comments" asks for; for processing instructions it is a *deviation*: Canonical XML keeps them — finding F16-pi.) -/
theorem canon_ignores_comments_pis (ctx : List (List Attr)) (root : Node) :
    canon ctx (strip root) = canon ctx root := by
  rw [canon_eq_walkE, canon_eq_walkE, walkE_strip]

theorem canon_eq_of_strip_eq (ctx : List (List Attr)) (t t' : Node) (h : strip t = strip t') :
    canon ctx t = canon ctx t' := by
  rw [← canon_ignores_comments_pis ctx t, ← canon_ignores_comments_pis ctx t', h]

example : strip (.elem [] [97] [] [.comment [120], .text [121] false, .procinst [112] [], .elem [] [98] [] [.comment []]]) =
    .elem [] [97] [] [.text [121] false, .elem [] [98] [] []] := by simp [strip, stripKids]

/-- `sort.Slice` is not stable and its algorithm is not modelled; but on attributes with pairwise
    distinct names the comparator of `walkAttributes` is a strict total order, so *every* sorted permutation of the
    attribute list is the list the model's insertion sort returns. -/
theorem sort_unique (l q : List Attr) (hn : NamesNodup l) (hp : q.Perm l) (hs : Sorted q) : q = sortAttrs l :=
  sorted_perm_unique q (sortAttrs l) hs (sortAttrs_sorted l hn) (hp.trans (sortAttrs_perm_self l).symm)
    ((namesNodup_perm hp).mpr hn)

theorem sort_multiset (l l' : List Attr) (hp : l.Perm l') (hn : NamesNodup l) : sortAttrs l = sortAttrs l' :=
  sortAttrs_perm_invariant l l' hp hn

/-- full statement: any permutation of the attributes of any element of the subtree, for any ancestor context -/
def canon_invariant_under_attr_perm_full : Prop :=
  ∀ (ctx : List (List Attr)) (sp tag : Bytes) (l l' : List Attr) (kids : List Node),
    l.Perm l' → NamesNodup l → canon ctx (.elem sp tag l kids) = canon ctx (.elem sp tag l' kids)

/-- At the apex of a document-element canonicalisation (no ancestors:
    the case of `xmldsig.Sign(root, root, …)` on a manifest), exchanging two neighbouring attributes of which one is
    not a namespace declaration does not change the canonical form, provided attribute names are pairwise distinct.
    Every permutation that keeps the relative order of the namespace declarations is a product of such exchanges.
    Exchanging two declarations, permutations below the apex and a non-empty ancestor context are covered by
    `canon_invariant_under_attr_perm` below. -/
theorem canon_invariant_under_attr_perm_partial (sp tag : Bytes) (pre post : List Attr) (a b : Attr) (kids : List Node)
    (hab : getDecl a = none ∨ getDecl b = none) (hn : NamesNodup (pre ++ a :: b :: post)) :
    canon [] (.elem sp tag (pre ++ a :: b :: post) kids) = canon [] (.elem sp tag (pre ++ b :: a :: post) kids) := by
  have e : ∀ n, canon [] n = ser (walk n) := fun n => rfl
  rw [e, e]
  rcases hab with ha | hb
  · rw [walk_swap sp tag pre post a b kids ha hn]
  · have hn' : NamesNodup (pre ++ b :: a :: post) :=
      (namesNodup_perm (List.Perm.append_left pre (List.Perm.swap b a post))).mp hn
    rw [← walk_swap sp tag pre post b a kids hb hn']

example : getDecl ⟨[], [98], [49]⟩ = none ∧ NamesNodup ([] ++ ⟨[], [98], [49]⟩ :: ⟨sXmlns, [112], [117]⟩ :: []) := by
  refine ⟨by decide, ?_⟩
  simp [NamesNodup, sameName, sXmlns]

/-- `<q:e xmlns="a" xmlns:="b"><k/></q:e>`: an attribute with prefix `xmlns` and *empty* local name (no XML parser
    produces one) is a second declaration of the default namespace for `getDecl`, under a different attribute name -/
def wEmptyKey (l : List Attr) : Node := .elem [113] [101] l [.elem [] [107] [] []]

/-- **canon_invariant_under_attr_perm_full is false** as stated: distinct attribute *names* do not give distinct
    declared *prefixes* when an attribute `xmlns:` with empty local name is allowed; the push-down order then decides
    which value the child gets.  Hence the hypothesis `AttrsOK` (names distinct and local names non-empty). -/
theorem canon_invariant_under_attr_perm_full_false : ¬ canon_invariant_under_attr_perm_full := by
  intro h
  have h1 := h [] [113] [101] [⟨[], sXmlns, [97]⟩, ⟨sXmlns, [], [98]⟩] [⟨sXmlns, [], [98]⟩, ⟨[], sXmlns, [97]⟩]
    [.elem [] [107] [] []] (List.Perm.swap _ _ _) (by simp [NamesNodup, sameName, sXmlns])
  exact absurd h1 (by decide +kernel)

/-- Permuting the attribute list of *any set of elements* of the subtree
    (`PermEq t t'`: same tree up to the order of the attributes of each element), under any ancestor context, does not
    change the canonical form, provided that on every element attribute names are pairwise distinct and local names
    non-empty (`AllOK`: what XML well-formedness gives) and no ancestor declares the prefix `xmlns` (`CtxOK`: forbidden
    by Namespaces in XML; without it the statement still seems true but the proof would have to track the relative
    position of that one pending declaration).  Two exchanged declarations are covered: the push-down order changes
    the attribute order of descendants, which their own sort absorbs. -/
theorem canon_invariant_under_attr_perm (ctx : List (List Attr)) (t t' : Node)
    (hc : CtxOK ctx) (hp : PermEq t t') (hok : AllOK t) : canon ctx t = canon ctx t' := by
  rw [canon_eq_walkE, canon_eq_walkE,
    walkE_perm t t' _ _ (collectSpaces_ok ctx hc) (List.Perm.refl _) hp hok]

/-- the apex form of the full statement, with its exact extra hypotheses -/
theorem canon_invariant_under_attr_perm_apex (ctx : List (List Attr)) (sp tag : Bytes) (l l' : List Attr) (kids : List Node)
    (hc : CtxOK ctx) (hp : l.Perm l') (hok : AllOK (.elem sp tag l kids)) :
    canon ctx (.elem sp tag l kids) = canon ctx (.elem sp tag l' kids) := by
  apply canon_invariant_under_attr_perm ctx _ _ hc _ hok
  simp only [PermEq]
  exact ⟨l', kids, rfl, hp, PermEqL_refl kids⟩

/-- two declarations exchanged on an inner element, below an ancestor that declares a prefix -/
example : CtxOK [[⟨sXmlns, [114], [119]⟩]] ∧
    PermEq (.elem [] [97] [] [.elem [] [98] [⟨sXmlns, [112], [117]⟩, ⟨sXmlns, [113], [118]⟩] [.elem [112] [99] [⟨[113], [120], [49]⟩] []]])
           (.elem [] [97] [] [.elem [] [98] [⟨sXmlns, [113], [118]⟩, ⟨sXmlns, [112], [117]⟩] [.elem [112] [99] [⟨[113], [120], [49]⟩] []]]) ∧
    AllOK (.elem [] [97] [] [.elem [] [98] [⟨sXmlns, [112], [117]⟩, ⟨sXmlns, [113], [118]⟩] [.elem [112] [99] [⟨[113], [120], [49]⟩] []]]) := by
  refine ⟨?_, ?_, ?_⟩
  · simp [CtxOK, getDecl, sXmlns]
  · simp only [PermEq, PermEqL]
    refine ⟨_, _, rfl, List.Perm.refl _, _, _, rfl, ⟨_, _, rfl, List.Perm.swap _ _ _, ?_⟩, rfl⟩
    exact ⟨_, _, rfl, ⟨_, _, rfl, List.Perm.refl _, rfl⟩, rfl⟩
  · simp [AllOK, AllOKL, AttrsOK, NamesNodup, sameName, sXmlns]

/-- Adding, at any position of the attribute list of any element of the subtree, a
    namespace declaration `mkDecl s v` (`xmlns="v"` for `s = ""`, `xmlns:s="v"` otherwise) whose prefix is used
    (`usesSpace`, the notion the code implements: the element's own prefix, or the prefix of one of its attributes)
    by no element of that element's subtree does not change the canonical form (`AddDecl s v t t'`), provided no
    ancestor of the apex declares the prefix `xmlns` (`CtxOK`; needed: see `canon_unused_decl_needs_ctxok`).
    No distinctness hypothesis on attribute names is needed. -/
theorem canon_ignores_unused_ns_decl (ctx : List (List Attr)) (s v : Bytes) (t t' : Node)
    (hc : CtxOK ctx) (h : AddDecl s v t t') : canon ctx t' = canon ctx t := by
  rw [canon_eq_walkE, canon_eq_walkE]
  rw [walkE_add_decl s v t t' _ (collectSpaces_ok ctx hc).2 h]

/-- `<a><p:b/></a>` ↦ `<a xmlns:q="v"><p:b/></a>` -/
example : AddDecl [113] [118] (.elem [] [97] [] [.elem [112] [98] [] []]) (.elem [] [97] [⟨sXmlns, [113], [118]⟩] [.elem [112] [98] [] []]) := by
  simp only [AddDecl]
  left
  refine ⟨[], [], rfl, rfl, by decide, ?_⟩
  simp only [UnusedInL, UnusedIn]
  exact ⟨⟨by decide, trivial⟩, trivial⟩

/-- without `CtxOK`: below an ancestor declaring the prefix `xmlns`, an added unused `xmlns:q="v"` *is* an attribute
    of prefix `xmlns`, so `usesSpace` pulls the ancestor's `xmlns:xmlns` onto the element -/
theorem canon_unused_decl_needs_ctxok :
    AddDecl [113] [118] (.elem [] [101] [] []) (.elem [] [101] [⟨sXmlns, [113], [118]⟩] []) ∧
    canon [[⟨sXmlns, sXmlns, [97]⟩]] (.elem [] [101] [⟨sXmlns, [113], [118]⟩] []) ≠
      canon [[⟨sXmlns, sXmlns, [97]⟩]] (.elem [] [101] [] []) := by
  constructor
  · simp only [AddDecl]
    left
    exact ⟨[], [], rfl, rfl, by decide, by simp [UnusedInL]⟩
  · decide +kernel

/-- **canon_sensitive (escaping).** Canonical text and attribute-value escaping are injective: two different character
    data strings / attribute values never get the same canonical spelling. -/
theorem escText_injective (a b : Bytes) (h : escText a = escText b) : a = b :=
  (escText_append_inj a b [] [] (by simpa using h) rfl).1

theorem escAttr_injective (a b : Bytes) (h : escAttr a = escAttr b) : a = b :=
  (escAttr_append_inj a b [] [] (by simpa using h) rfl).1

example : escText [0x26] ≠ escText [0x26, 0x61, 0x6d, 0x70, 0x3b] := by decide +kernel

/-- **canon_sensitive (single edits).**  Replacing the data of one character-data node anywhere in the subtree
    (`TextEdit d d' t t'`) changes the canonical form, for every ancestor context. -/
theorem canon_sensitive_text (ctx : List (List Attr)) (d d' : Bytes) (t t' : Node)
    (hd : d ≠ d') (h : TextEdit d d' t t') : canon ctx t ≠ canon ctx t' :=
  canon_text_sensitive ctx d d' t t' hd h

/-- replacing the value of one attribute that is not a namespace declaration, on any element of the subtree -/
theorem canon_sensitive_attr_value (ctx : List (List Attr)) (s k v v' : Bytes) (t t' : Node)
    (hnd : getDecl ⟨s, k, v⟩ = none) (hv : v ≠ v') (h : AttrEdit s k v v' t t') : canon ctx t ≠ canon ctx t' :=
  canon_attrval_sensitive ctx s k v v' t t' hnd hv h

/-- replacing the local name of one element of the subtree -/
theorem canon_sensitive_local_name (ctx : List (List Attr)) (g g' : Bytes) (t t' : Node)
    (hg : g ≠ g') (h : TagEdit g g' t t') : canon ctx t ≠ canon ctx t' := by
  refine canon_edit_sensitive (E' := TagAt g g') ?_ ?_ (ser_tagAt hg) ctx h.edit
  · rintro a b ⟨sp, as, ks, rfl, rfl⟩
    exact ⟨rfl, rfl⟩
  · rintro ds a b ⟨sp, as, ks, rfl, rfl⟩
    exact ⟨_, _, _, rfl, rfl⟩

/-- exchanging two neighbouring child elements (of any element of the subtree) whose qualified names differ and
    contain neither a space nor `>`.  (The general form, "whose canonical forms differ", is
    `canon_sensitive_child_swap_general`.) -/
theorem canon_sensitive_child_swap (ctx : List (List Attr)) (sp1 g1 sp2 g2 : Bytes) (t t' : Node)
    (hne : fullName sp1 g1 ≠ fullName sp2 g2) (h1 : NoDelim (fullName sp1 g1)) (h2 : NoDelim (fullName sp2 g2))
    (h : SwapEdit (NamedPair sp1 g1 sp2 g2) t t') : canon ctx t ≠ canon ctx t' := by
  refine canon_swap_sensitive_of (NamedPair sp1 g1 sp2 g2) ?_ (namedPair_noncomm sp1 g1 sp2 g2 hne h1 h2) ctx t t' h
  rintro a b ⟨⟨as1, ks1, rfl⟩, ⟨as2, ks2, rfl⟩⟩
  exact ⟨trivial, trivial⟩

example : TextEdit [0x61] [0x62] (.elem [] [0x72] [] [.comment [], .elem [] [0x65] [] [.text [0x61] false]])
    (.elem [] [0x72] [] [.comment [], .elem [] [0x65] [] [.text [0x62] false]]) := by
  simp [TextEdit, TextEditL]

/-- The canonical form determines the walked tree: on well-formed walked trees (`Inj.wfNode`, decidable: names as
    encoding/xml + etree deliver them, character data non-empty, without the CDATA flag and never adjacent, no other
    token kinds) the serialisation is read back uniquely.  So every change of a name, an attribute (added, removed,
    renamed, re-valued), a character-data node, of the order or the nesting of elements, that survives `walk`, changes
    the canonical bytes. -/
theorem canon_sensitive (ctx : List (List Attr)) (t t' : Node)
    (h : wfNode (walk (pullDown ctx t)) = true) (h' : wfNode (walk (pullDown ctx t')) = true)
    (e : canon ctx t = canon ctx t') : walk (pullDown ctx t) = walk (pullDown ctx t') :=
  ser_injective _ _ h h' e

/-- `canon_sensitive` with the hypotheses on the *input* documents: proper names (`Inj.wfIn`;
    comments, processing instructions and directives may occur anywhere), and no two character-data nodes that become
    neighbours once those are removed (`Inj.adjOK`) – for every ancestor context `ctx` (a pending declaration becomes
    an attribute only where its prefix is used, and a used prefix is a proper one). -/
theorem canon_sensitive_of_input (ctx : List (List Attr)) (t t' : Node)
    (hw : wfIn t = true) (ha : adjOK t = true) (he : ∃ sp tag as ks, t = .elem sp tag as ks)
    (hw' : wfIn t' = true) (ha' : adjOK t' = true) (he' : ∃ sp tag as ks, t' = .elem sp tag as ks)
    (e : canon ctx t = canon ctx t') : walk (pullDown ctx t) = walk (pullDown ctx t') :=
  canon_sensitive ctx t t' (wfNode_walk_pullDown ctx t hw ha he) (wfNode_walk_pullDown ctx t' hw' ha' he') e

/-- non-vacuity: `<p:r xmlns:p="u" k="v"><!--c-->text<a q:x="1"><b/></a>tail</p:r>` below an ancestor declaring `q` -/
example : wfIn (.elem [112] [114] [⟨sXmlns, [112], [117]⟩, ⟨[], [107], [118]⟩]
      [.comment [99], .text [116] false, .elem [] [97] [⟨[113], [120], [49]⟩] [.elem [] [98] [] []], .text [108] false]) = true ∧
    adjOK (.elem [112] [114] [⟨sXmlns, [112], [117]⟩, ⟨[], [107], [118]⟩]
      [.comment [99], .text [116] false, .elem [] [97] [⟨[113], [120], [49]⟩] [.elem [] [98] [] []], .text [108] false]) = true := by
  refine ⟨?_, ?_⟩
  · simp only [wfIn, wfInKids, List.all_cons, List.all_nil, attrOK]
    decide +kernel
  · simp [adjOK, adjKids]

/-- the statement without well-formedness hypotheses -/
def canon_sensitive_full : Prop :=
  ∀ (ctx : List (List Attr)) (t t' : Node), canon ctx t = canon ctx t' → walk (pullDown ctx t) = walk (pullDown ctx t')

/-- it is false, and `adjOK` is the hypothesis that is needed beyond proper names: two character-data nodes that a
    removed comment separated (`<a>x<!--c-->y</a>`) and one node `xy` have the same canonical form `<a>xy</a>` but
    different walked trees.  (The difference is not observable by any XML processor either: adjacent character data is
    one text.) -/
theorem canon_sensitive_full_false : ¬ canon_sensitive_full := by
  intro h
  have h1 := h [] (.elem [] [97] [] [.text [120] false, .comment [99], .text [121] false])
    (.elem [] [97] [] [.text [120, 121] false]) (by decide +kernel)
  rw [walk_pullDown_eq, walk_pullDown_eq] at h1
  simp only [walkE, walkKidsE] at h1
  simp at h1

/-- hypotheses of `wfNode` that are needed, each with two different trees of the same serialisation: a colon in an
    unprefixed local name (`fullName` collides), `=` in an attribute name (one attribute reads as two), an empty
    character-data node.  (The conditions on element names are sufficient; the repeated name in the end tag makes
    collisions there harder, and none is claimed.) -/
example : ser (.elem [97] [98] [] []) = ser (.elem [] [97, 58, 98] [] []) := by decide +kernel
example : ser (.elem [] [97] [⟨[], [107, 61, 34, 118, 34, 32, 120], [119]⟩] []) =
    ser (.elem [] [97] [⟨[], [107], [118]⟩, ⟨[], [120], [119]⟩] []) := by decide +kernel
example : ser (.elem [] [97] [] [.text [] false]) = ser (.elem [] [97] [] []) := by decide +kernel

/-- The general form of `canon_sensitive_child_swap`: exchanging two
    neighbouring child *elements* (of any element of the subtree) changes the canonical form whenever the two
    elements are well-formed and their canonical forms differ under every list of pending declarations
    (`Inj.GenPair`; `Inj.genPair_of_wfIn` derives it from `wfIn`, `adjOK` and the inequality).  It rests on the
    unambiguity of the serialisation (`Inj.ser_elem_inj`: an element's canonical form is self-delimiting). -/
theorem canon_sensitive_child_swap_general (ctx : List (List Attr)) (t t' : Node) (h : SwapEdit GenPair t t') :
    canon ctx t ≠ canon ctx t' := by
  refine canon_swap_sensitive_of GenPair (fun a b h => ⟨h.1, h.2.1⟩) ?_ ctx t t' h
  rintro ds a b ⟨ea, eb, hp⟩
  obtain ⟨w1, w2, hne⟩ := hp ds
  exact serNoncomm_of_ne _ _ w1 w2 (isElem_walkE ds a ea) (isElem_walkE ds b eb) hne

/-- two children with the *same* qualified name and different content, which `canon_sensitive_child_swap` does not
    cover: `<r><a>x</a><a>y</a></r>` ↦ `<r><a>y</a><a>x</a></r>` -/
example : SwapEdit GenPair (.elem [] [114] [] [.elem [] [97] [] [.text [120] false], .elem [] [97] [] [.text [121] false]])
    (.elem [] [114] [] [.elem [] [97] [] [.text [121] false], .elem [] [97] [] [.text [120] false]]) := by
  rw [SwapEdit]
  refine ⟨rfl, rfl, rfl, Or.inl ⟨[], _, _, [], ?_, rfl, rfl⟩⟩
  refine genPair_of_wfIn _ _ trivial trivial ?_ ?_ ?_ ?_ ?_
  · simp only [wfIn, wfInKids, List.all_nil]; decide
  · simp only [wfIn, wfInKids, List.all_nil]; decide
  · simp [adjOK, adjKids]
  · simp [adjOK, adjKids]
  · intro ds h
    simp [walkE, walkKidsE] at h

/-- full statement of agreement with the standard; false (see the witnesses replayed by the harness: attribute order by
    prefix, redundant declarations, `xmlns=""`, processing instructions) -/
def canon_eq_excc14n_full : Prop :=
  ∀ (ctx : List (List Attr)) (root : Node), canon ctx root = ExcC14N.excC14N ctx root

/-- `<e xmlns:a="urn:z" xmlns:b="urn:y" a:x="1" b:y="2"/>` (here with one-letter URIs `z`, `y`) -/
def wAttrOrder : Node :=
  .elem [] [101] [⟨sXmlns, [97], [122]⟩, ⟨sXmlns, [98], [121]⟩, ⟨[97], [120], [49]⟩, ⟨[98], [121], [50]⟩] []

/-- `<a>t<?pi d?></a>` -/
def wPi : Node := .elem [] [97] [] [.text [116] false, .procinst [112, 105] [100]]

/-- `<p:a xmlns:p="u"><p:b xmlns:p="u"/></p:a>` -/
def wRedundant : Node := .elem [112] [97] [⟨sXmlns, [112], [117]⟩] [.elem [112] [98] [⟨sXmlns, [112], [117]⟩] []]

/-- `<a><b xmlns=""/></a>` -/
def wEmptyDefault : Node := .elem [] [97] [] [.elem [] [98] [⟨[], sXmlns, []⟩] []]

theorem wAttrOrder_walk : walk wAttrOrder = wAttrOrder := by
  unfold wAttrOrder
  rw [walk]
  simp [walkLoop, getDecl, usesSpace, sXmlns, sortAttrs, insertAttr, attrLess, bytesLt, walkKids]

theorem wPi_walk : walk wPi = .elem [] [97] [] [.text [116] false] := by
  unfold wPi
  simp [walk, walkLoop, sortAttrs, walkKids]

theorem wRedundant_walk : walk wRedundant = wRedundant := by
  unfold wRedundant
  simp [walk, walkLoop, getDecl, usesSpace, sXmlns, sortAttrs, insertAttr, walkKids]

theorem wEmptyDefault_walk : walk wEmptyDefault = wEmptyDefault := by
  unfold wEmptyDefault
  simp [walk, walkLoop, getDecl, usesSpace, sXmlns, sortAttrs, insertAttr, walkKids]

/-- attributes are ordered by prefix, the standard orders them by namespace URI -/
theorem canon_ne_excc14n_attr_order : canon [] wAttrOrder ≠ ExcC14N.excC14N [] wAttrOrder := by
  decide +kernel

/-- processing instructions are dropped, the standard keeps them -/
theorem canon_ne_excc14n_pi : canon [] wPi ≠ ExcC14N.excC14N [] wPi := by
  decide +kernel

/-- a declaration repeating what an output ancestor rendered is kept, the standard omits it -/
theorem canon_ne_excc14n_redundant_decl : canon [] wRedundant ≠ ExcC14N.excC14N [] wRedundant := by
  decide +kernel

/-- `xmlns=""` with no default namespace to undo is kept, the standard omits it -/
theorem canon_ne_excc14n_empty_default : canon [] wEmptyDefault ≠ ExcC14N.excC14N [] wEmptyDefault := by
  decide +kernel

/-- **canon_eq_excc14n_full is false** on the unchanged code (F16) -/
theorem canon_eq_excc14n_full_false : ¬ canon_eq_excc14n_full :=
  fun h => canon_ne_excc14n_attr_order (h [] wAttrOrder)

/-- every witness lies outside the class `ExcC14N.agree`, i.e. the classifier names its trigger -/
example : ExcC14N.devs [] wAttrOrder = ["attr-order"] ∧ ExcC14N.devs [] wPi = ["pi"] ∧
    ExcC14N.devs [] wRedundant = ["redundant-decl"] ∧ ExcC14N.devs [] wEmptyDefault = ["empty-default"] := by decide +kernel

/-- agreement on the class `ExcC14N.agree` (no deviation trigger present) without further hypotheses: **false** (see below) -/
def canon_eq_excc14n_on_agree_full : Prop :=
  ∀ (ctx : List (List Attr)) (sp tag : Bytes) (attrs : List Attr) (kids : List Node),
    ExcC14N.agree ctx (.elem sp tag attrs kids) = true →
    canon ctx (.elem sp tag attrs kids) = ExcC14N.excC14N ctx (.elem sp tag attrs kids)

/-- `<a xmlns:xml="http://www.w3.org/XML/1998/namespace" xml:lang="e"/>`: a legal document (Namespaces in XML allows
    declaring the prefix `xml` with its fixed URI) -/
def wXmlDecl : Node := .elem [] [97] [⟨sXmlns, ExcC14N.sXml, ExcC14N.xmlUri⟩, ⟨ExcC14N.sXml, [108, 97, 110, 103], [101]⟩] []

/-- `<p:a xmlns:p=""><p:b xmlns:p=""/></p:a>` (not namespace-well-formed in XML 1.0) -/
def wEmptyPrefix : Node := .elem [112] [97] [⟨sXmlns, [112], []⟩] [.elem [112] [98] [⟨sXmlns, [112], []⟩] []]

/-- `<p:a/>` -/
def wPA : Node := .elem [112] [97] [] []

/-- **a deviation `devs` does not list** (not among the F16 triggers): an explicit declaration of the prefix `xml` that is
    visibly utilised (`xml:lang`) is emitted by relic; Canonical XML never emits it. -/
theorem canon_ne_excc14n_xml_decl : ExcC14N.agree [] wXmlDecl = true ∧ canon [] wXmlDecl ≠ ExcC14N.excC14N [] wXmlDecl := by
  decide +kernel

/-- a prefix "undeclaration" `xmlns:p=""` repeated below an output ancestor that rendered it: kept by relic, omitted by
    the standard; the trigger `redundant-decl` looks at non-empty values only -/
theorem canon_ne_excc14n_empty_prefix_decl :
    ExcC14N.agree [] wEmptyPrefix = true ∧ canon [] wEmptyPrefix ≠ ExcC14N.excC14N [] wEmptyPrefix := by
  decide +kernel

/-- an ancestor with `xmlns:p=""` nearer than `xmlns:p="u"`: `pullDown` skips the empty value -/
theorem canon_ne_excc14n_ctx_empty_prefix_decl :
    ExcC14N.agree [[⟨sXmlns, [112], []⟩], [⟨sXmlns, [112], [117]⟩]] wPA = true ∧
    canon [[⟨sXmlns, [112], []⟩], [⟨sXmlns, [112], [117]⟩]] wPA ≠ ExcC14N.excC14N [[⟨sXmlns, [112], []⟩], [⟨sXmlns, [112], [117]⟩]] wPA := by
  decide +kernel

/-- an ancestor carrying the same declaration twice (not well-formed): `pullDown` takes the first, the standard the last -/
theorem canon_ne_excc14n_ctx_dup_decl :
    ExcC14N.agree [[⟨sXmlns, [112], [117]⟩, ⟨sXmlns, [112], [118]⟩]] wPA = true ∧
    canon [[⟨sXmlns, [112], [117]⟩, ⟨sXmlns, [112], [118]⟩]] wPA ≠ ExcC14N.excC14N [[⟨sXmlns, [112], [117]⟩, ⟨sXmlns, [112], [118]⟩]] wPA := by
  decide +kernel

/-- **canon_eq_excc14n_on_agree_full is false**: the classifier's class is too large by the `xml` declaration -/
theorem canon_eq_excc14n_on_agree_full_false : ¬ canon_eq_excc14n_on_agree_full :=
  fun h => canon_ne_excc14n_xml_decl.2 (h [] _ _ _ _ canon_ne_excc14n_xml_decl.1)

/-- On every tree for which the classifier `devs` reports no deviation trigger, relic's
    canonical form *is* the Exclusive C14N (without comments) of the subtree, for every ancestor context, provided the
    document is namespace-well-formed in the following decidable sense, on every element of the subtree (`WF`) and on
    every ancestor of the apex (`CtxWF`):
    * `AttrsOK`: attribute names pairwise distinct, local names non-empty (XML well-formedness;
      witness for the context: `canon_ne_excc14n_ctx_dup_decl`);
    * `DeclsOK`: no namespace declaration has an empty value (`xmlns=""` is the listed trigger `empty-default`;
      `xmlns:p=""` is forbidden by Namespaces in XML 1.0; witnesses `canon_ne_excc14n_empty_prefix_decl`,
      `canon_ne_excc14n_ctx_empty_prefix_decl`), and the prefix `xml` is not declared (legal XML, hence a genuine
      further deviation of relic: `canon_ne_excc14n_xml_decl`). -/
theorem canon_eq_excc14n_on_agree (ctx : List (List Attr)) (sp tag : Bytes) (attrs : List Attr) (kids : List Node)
    (hctx : CtxWF ctx) (hwf : WF (.elem sp tag attrs kids)) (hag : ExcC14N.agree ctx (.elem sp tag attrs kids) = true) :
    canon ctx (.elem sp tag attrs kids) = ExcC14N.excC14N ctx (.elem sp tag attrs kids) := by
  obtain ⟨a2, a3⟩ := agree_unpack ctx _ hag
  exact canon_eq_excC14N_of_inv ctx sp tag attrs kids (inv_init ctx hctx a2) hwf a3

/-- `<a xmlns:p="u" xmlns="d" z="0"><p:b p:x="1" y="2">t</p:b><!--c--></a>` below an ancestor declaring `xmlns:q="w"`:
    push-down of `xmlns:p`, pulled-down and dropped `xmlns:q`, prefixed and plain attributes, a comment -/
example : CtxWF [[⟨sXmlns, [113], [119]⟩]] ∧
    WF (.elem [] [97] [⟨sXmlns, [112], [117]⟩, ⟨[], sXmlns, [100]⟩, ⟨[], [122], [48]⟩]
      [.elem [112] [98] [⟨[112], [120], [49]⟩, ⟨[], [121], [50]⟩] [.text [116] false], .comment [99]]) ∧
    ExcC14N.agree [[⟨sXmlns, [113], [119]⟩]] (.elem [] [97] [⟨sXmlns, [112], [117]⟩, ⟨[], sXmlns, [100]⟩, ⟨[], [122], [48]⟩]
      [.elem [112] [98] [⟨[112], [120], [49]⟩, ⟨[], [121], [50]⟩] [.text [116] false], .comment [99]]) = true := by
  refine ⟨?_, ?_, by decide +kernel⟩ <;>
    simp [CtxWF, WF, WFL, AttrsOK, DeclsOK, NamesNodup, sameName, getDecl, sXmlns, ExcC14N.sXml]

end Relic.Props.C19
