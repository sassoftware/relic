/-
  C15 (and C07: "a key lookup that resolves to a different key than requested … results in an error") — overlapping
  lookups.  `pinned_key_never_stale` is a statement about ONE call of Cache.GetKey from ANY cache state; it therefore
  covers every interleaving of concurrent lookups provided each call is one atomic step of the cache state.  That proviso
  is a fact about the Go source, re-extracted on every run by tools/extractlocks and discharged here by `decide`:
  the body takes `c.mu` first, defers its release, and contains no other lock operation — the backend fetch happens
  inside the critical section.  (Dropping the lock around the fetch, or sharing an in-flight fetch between callers, breaks
  this obligation; the `cacherace` / `keylookup` ops then search for the schedule.)
-/
import Relic.Generated.Locks
import Relic.Props.C15
namespace Relic.Props.C15
open Relic.LockSpan Relic.KeyCache

/-- generated obligation: Cache.GetKey holds its mutex from the first statement to the return -/
theorem cache_getKey_atomic_generated : heldThroughout Generated.Locks.cacheGetKey = true := by decide

/-- the check discriminates: a body that releases the lock before the fetch is rejected -/
example : heldThroughout { Generated.Locks.cacheGetKey with
    lockCalls := [("c.mu", "Lock"), ("c.mu", "Unlock"), ("c.mu", "Lock"), ("c.mu", "Unlock")] } = false := by decide
example : heldThroughout { Generated.Locks.cacheGetKey with top := [.lock "c.mu", .other, .deferUnlock "c.mu"] } = false := by decide

/-- **pinned_lookup_returns_pinned.**  From every cache state (hence after every interleaving of atomic lookups, rotations
    and expiries), a lookup pinned to `want` is answered with `want` or not at all, provided the wrapped token honours
    pins. -/
theorem pinned_lookup_returns_pinned (expiry : Nat) (fetch : Nat → KeyId → Option KeyId) (s : State)
    (now : Nat) (want : KeyId) (name : Nat) (hw : want ≠ [])
    (hf : ∀ i, fetch name want = some i → i = want) (id : KeyId) (src : Src)
    (h : (getKey expiry fetch s now want name).1 = some (id, src)) : id = want := by
  obtain ⟨hc, _, hb, _⟩ := pinned_key_never_stale expiry fetch s now want name
  cases src with
  | cache =>
    rcases (hc id h).1 with h0 | h1
    · exact absurd h0 hw
    · exact h1
  | backend => exact hf id (hb id h)

end Relic.Props.C15
