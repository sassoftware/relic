/-
  C03 — Signing never corrupts or alters the payload.   XAP part, over `Relic.Model.Xap`.
  The payload of a XAP is the ZIP; the signature area is what follows it (header ++ PKCS#7 ++ trailer).
-/
import Relic.Proofs.XapSign
import Relic.Props.C12
import Relic.Props.C08_Xap
import Relic.Props.C01_Xap
namespace Relic.Props.C03
open Relic.Xap

/-- **xap_payload_preserved** (full strength, every input; FX1 repaired).  The file one signing round writes is
    `base z loc ++ header ++ s ++ trailer`, where `base z loc` is a prefix of the input reaching at least to the directory
    offset, and the input is *either* exactly `base z loc` (nothing removed) *or* `base z loc` followed by one complete
    header ++ blob ++ trailer whose size fields agree with the blob.  In the second case relic's own `Verify` locates
    precisely those removed bytes as the signature of the input (file below 2^63 bytes): what signing removes is a
    signature frame by the verifier's own standard, and nothing else – a trailer look-alike is not one (`xap_lookalike_preserved`). -/
theorem xap_payload_preserved (z : Bytes) (loc : Nat) (s : Bytes) (hloc : loc ≤ z.length) :
    signRound z loc s = .ok (base z loc ++ sigBlock s) ∧
    base z loc = z.take (base z loc).length ∧ loc ≤ (base z loc).length ∧ (base z loc).length ≤ z.length ∧
    (base z loc = z ∨
      ∃ u1 u2 u3 : Nat, ∃ blob : Bytes, z = framed (base z loc) u1 u2 u3 blob ∧ blob.length + 8 < 4294967296 ∧
        (z.length < 9223372036854775808 →
          locate z (z.length : Int) = .ok ⟨blob, (base z loc).length, u1 % 65536, u2 % 65536, u3 % 65536⟩)) := by
  refine ⟨signRound_eq z loc s hloc, base_eq_take z loc hloc, ?_, base_length_le z loc hloc, ?_⟩
  · rw [base_length z loc hloc]; omega
  · rcases C01.xap_base_cases z loc hloc with ⟨h, _⟩ | ⟨u1, u2, u3, blob, e, hb, _⟩
    · exact Or.inl h
    · refine Or.inr ⟨u1, u2, u3, blob, e, hb, fun hl => ?_⟩
      have := locate_framed (base z loc) blob u1 u2 u3 hb (by rw [← e]; exact hl)
      rw [← e] at this
      exact this

/-- the two familiar special cases: relic's own output loses exactly the frame `Sign` added; an input without a frame at its
    end is kept whole -/
theorem xap_payload_cases (z : Bytes) (loc : Nat) :
    (∀ b s₀ : Bytes, z = b ++ sigBlock s₀ → loc ≤ b.length → s₀.length + 8 < 4294967296 → base z loc = b) ∧
    (frameSize z = 0 → base z loc = z) :=
  ⟨fun b s₀ hz hb hs₀ => by subst hz; exact base_of_signed b s₀ loc hb hs₀, fun h => base_of_unsigned z loc h⟩

/-- **xap_patch_constructible.** The patch `Sign` hands to `binpatch` is one range that lies inside the file and ends at its
    end: constructible, so C12's exactness theorems (`add_spec`, `apply_exact`, `inplace_eq_rewrite`) apply to it. -/
theorem xap_patch_constructible (z : Bytes) (loc : Nat) (s : Bytes) (hloc : loc ≤ z.length) :
    ∃ d, digestTar (zipToTar z loc) true = .ok d ∧ patchCalls d s = some [thePatch z loc s] ∧
      C12.Constructible z.length [thePatch z loc s] ∧
      (thePatch z loc s).off + (thePatch z loc s).old = z.length ∧
      ∀ canOverwrite, ∃ strategy,
        Binpatch.apply z (Binpatch.build uint32Max [thePatch z loc s]) canOverwrite = .ok (base z loc ++ sigBlock s, strategy) := by
  have hle := base_length_le z loc hloc
  refine ⟨_, digestTar_zipToTar z loc hloc, patchCalls_digest z loc s hloc, thePatch_constructible z loc s hloc, ?_, ?_⟩
  · show (base z loc).length + (z.length - (base z loc).length) = z.length
    omega
  · intro c
    obtain ⟨st, h⟩ := C12.apply_exact uint32Max z _ (thePatch_constructible z loc s hloc) c
    exact ⟨st, by rw [h, sem_thePatch z loc s hloc]⟩

/-- **xap_refusal_is_clean.** A successful signing passes through a successful transform and a successful digest; when
    either refuses, no patch exists and nothing is written. -/
theorem xap_refusal_is_clean (z s g : Bytes) (h : signFile z s = .ok g) :
    ∃ ms d, transform z = .ok ms ∧ digestTar ms true = .ok d ∧ applyPatch z d s = .ok g := by
  unfold signFile at h
  obtain ⟨ms, h1, h⟩ := Res.bind_eq_ok.mp h
  obtain ⟨d, h2, h⟩ := Res.bind_eq_ok.mp h
  exact ⟨ms, d, h1, h2, h⟩

/-- through the (repaired) transform: when `FindDirectory`, run on the part of the file in front of a trailing frame, answers
    `loc` (inside the file), the signer module writes what `signRound` writes -/
theorem xap_signFile_eq (z s : Bytes) (loc : Nat)
    (hfd : Zip.findDirectory ⟨z.take (z.length - frameSize z), false, 0⟩ = .ok loc) (hloc : loc ≤ z.length) :
    signFile z s = .ok (base z loc ++ sigBlock s) := signFile_eq z s loc hfd hloc

/-- `C08.oneMemberZip` with the EOCD's "size of the central directory" field set to 0x53706158 ("XapS"): the last ten bytes
    of the file now read as an `xapTrailer` with `TrailerSize = 0` -/
def lookalikeZip : Bytes :=
  [0x50, 0x4b, 3, 4, 20, 0, 0, 0, 0, 0, 0, 0, 0, 0, 0xd8, 0x2c, 0x75, 0xac, 2, 0, 0, 0, 2, 0, 0, 0, 1, 0, 0, 0, 0x61, 0x68, 0x69] ++
  [0x50, 0x4b, 1, 2, 20, 0, 20, 0, 0, 0, 0, 0, 0, 0, 0, 0, 0xd8, 0x2c, 0x75, 0xac, 2, 0, 0, 0, 2, 0, 0, 0, 1, 0, 0, 0, 0, 0, 0, 0, 0, 0,
   0, 0, 0, 0, 0, 0, 0, 0, 0x61] ++
  [0x50, 0x4b, 5, 6, 0, 0, 0, 0, 1, 0, 1, 0, 0x58, 0x61, 0x70, 0x53, 33, 0, 0, 0, 0, 0]

/-- **xap_lookalike_not_preserved** (finding FX1, a statement about the code *before* its repair: `removeSignatureOrig`,
    `signFileOrig`).  The original `removeSignature` trusted the ten trailer bytes alone.  The archive above is accepted by the
    transform (`FindDirectory` does not read the size field), is *not* signed by the standard of relic's own `Verify` (no header
    in front: "invalid xap file"), yet signing it cut the last ten bytes of its end-of-central-directory record: the output
    was not the input plus a signature, and no ZIP reader would find a directory in it. -/
theorem xap_lookalike_not_preserved (s : Bytes) :
    locate lookalikeZip lookalikeZip.length = .err "invalid" ∧
    signFileOrig lookalikeZip s = .ok (lookalikeZip.take 92 ++ sigBlock s) ∧ lookalikeZip.length = 102 := by
  refine ⟨by decide +kernel, ?_, by decide +kernel⟩
  rw [signFileOrig_eq lookalikeZip s 33 (by decide +kernel) (by decide +kernel)]
  have : baseOrig lookalikeZip 33 = lookalikeZip.take 92 := by decide +kernel
  rw [this]

/-- **xap_lookalike_preserved.** The repaired code on the same archive: no header with a matching size precedes the
    look-alike, so nothing is cut off – the output is the input followed by the signature frame. -/
theorem xap_lookalike_preserved (s : Bytes) : signFile lookalikeZip s = .ok (lookalikeZip ++ sigBlock s) := by
  rw [signFile_eq lookalikeZip s 33 (by decide +kernel) (by decide +kernel), base_of_unsigned lookalikeZip 33 (by decide +kernel)]

set_option maxRecDepth 100000 in
example : (33 : Nat) ≤ C08.oneMemberZip.length ∧ Zip.findDirectory ⟨C08.oneMemberZip, false, 0⟩ = .ok 33 ∧
    frameSize C08.oneMemberZip = 0 ∧ (transform (C08.oneMemberZip.take 60)).isOk = false ∧
    -- an input that already ends in a frame: exactly the frame is what `Verify` locates
    frameSize (C08.oneMemberZip ++ sigBlock [7, 7]) = 20 := by decide +kernel

set_option maxRecDepth 100000 in
example : signFile C08.oneMemberZip [5, 6] = .ok (C08.oneMemberZip ++ sigBlock [5, 6]) := by
  rw [xap_signFile_eq C08.oneMemberZip [5, 6] 33 (by decide +kernel) (by decide +kernel),
    base_of_unsigned C08.oneMemberZip 33 (by decide +kernel)]

end Relic.Props.C03
