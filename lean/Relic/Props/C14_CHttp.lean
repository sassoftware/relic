/-
  C14 — the compression layer keeps no state between requests.
  (1) T-gen: the package-level variables of lib/compresshttp, re-extracted on every run
      (Relic.Generated.CompressHttp.vars), are exactly `prefs` (a map literal) and `ErrUnacceptableEncoding`
      (an error value); neither is assigned, has an element assigned, has its address taken or has a method
      called on it outside init — in particular there is no sync.Pool and no shared buffer.  The per-request
      object `responseCompressor` is in the shared-state inventory of C14 (Relic.Generated.SharedState) and is
      allow-listed there as per-request.
  (2) The model (Relic.Model.CompressHttp.middleware) is a function of the request alone; serving a batch in
      any order, or interleaved with any other requests, gives every request the answer it gets alone.
-/
import Relic.Generated.CompressHttp
import Relic.Proofs.CompressHttp
namespace Relic.Props.C14
open Relic.CompressHttp

theorem compresshttp_package_state_readonly :
    Generated.CompressHttp.vars = [("ErrUnacceptableEncoding", "errors.New", 0), ("prefs", "map[string]int", 0)] ∧
    (∀ v ∈ Generated.CompressHttp.vars, v.2.2 = 0) := by decide

/-- a server process: requests are answered one after the other from a list in arrival order -/
def serveAll (C : Codecs) (next : Handler) (pre : Option Nat) (arrivals : List Req) : List Resp :=
  arrivals.map (middleware C next pre)

/-- For every pair of codecs, every handler and every arrival sequence:
    the answer to the request at position `i` is the answer that request gets when it is served alone,
    whatever was served before it (other codings, broken streams, refused requests) and whatever follows;
    reordering the arrivals reorders the answers and changes none. -/
theorem codec_state_not_shared (C : Codecs) (next : Handler) (pre : Option Nat) (before after : List Req) (r : Req) :
    (serveAll C next pre (before ++ r :: after))[before.length]? = some (middleware C next pre r) ∧
    (serveAll C next pre [r]) = [middleware C next pre r] ∧
    (∀ σ : List Req, σ.Perm (before ++ r :: after) →
        (serveAll C next pre σ).Perm (serveAll C next pre (before ++ r :: after))) := by
  refine ⟨?_, rfl, ?_⟩
  · simp [serveAll]
  · intro σ h
    exact h.map _

example : (serveAll toyCodecs (fun rd => match rd with | .complete b => [.write b] | .failed => [.header 400]) none
      [⟨["br".toList], [], ([1], .eof)⟩, ⟨[gzip], [gzip], ([1, 2, 3], .eof)⟩,
       ⟨[], [snappy], ([7], .eof)⟩])[2]?
    = some (middleware toyCodecs (fun rd => match rd with | .complete b => [.write b] | .failed => [.header 400]) none
        ⟨[], [snappy], ([7], .eof)⟩) :=
  (codec_state_not_shared toyCodecs _ none [⟨["br".toList], [], ([1], .eof)⟩, ⟨[gzip], [gzip], ([1, 2, 3], .eof)⟩]
    [] ⟨[], [snappy], ([7], .eof)⟩).1

end Relic.Props.C14
