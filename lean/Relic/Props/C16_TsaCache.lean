/-
  Property C16, fragment "token through the cache": lib/pkcs9/timestampcache stores `token.Marshal()` and hands back
  `pkcs7.Unmarshal(item.Value)`.  In `Relic.Model.TsaPool` tokens are values, so the statement is that a hit returns
  the very token that the miss stored (not another one, not a re-issued one); that its BYTES are unchanged by
  Marshal → memcache → Unmarshal → Marshal and inside the attribute is `raw_nodes_verbatim` of C16 (raw capture) and
  is observed on the real code by the TSX `cachert` ops (authority's bytes = stored bytes = bytes after the hit =
  attribute value bytes, both request styles).
-/
import Relic.Props.C10_CacheKey
namespace Relic.Props.C16
open Relic.Tsa Relic.TsaX

/-- **cache_roundtrip_same_token** — a request whose key had no parseable entry stores the token it obtained; the same
request again gets that same token from the cache, whatever the wrapped time-stamper would answer now -/
theorem cache_roundtrip_same_token (D : Nat → List Char) (st : StoreX) (r : XReq) (inner inner' : Outcome) (s : Src) (t : Token)
    (hk : legalKey (cacheKey D r) = true) (hm : ∀ t', lookupX st (cacheKey D r) ≠ some (.tok t'))
    (hi : inner.res = .ok (s, t)) :
    (cachedX D true (cachedX D true st r inner).2 r inner').1 = ⟨.ok (.cache, t), [], []⟩ := by
  have h := (Relic.Props.C10.cache_miss_stores_x D st r inner s t hk hm hi).2
  rw [Relic.Props.C10.cache_returns_unverified D _ r inner' t hk h]

example :
    let D : Nat → List Char := fun n => List.replicate 61 'x' ++ Nat.toDigits 10 (n % 1000)
    let t : Token := ⟨2, false, 1, true, .data 100, some (some 0), 1, true⟩
    (cachedX D true (cachedX D true [] ⟨true, [], 5, 100⟩ ⟨.ok (.url 0, t), [0], []⟩).2 ⟨true, [], 5, 100⟩ ⟨.err "x", [], []⟩).1
      = ⟨.ok (.cache, t), [], []⟩ := by decide

end Relic.Props.C16
