/-
  C17 (streaming half) — the single-pass reader (`ZipToTar` → `ReadZipTar` → `ReadStream`, then `File.Dump` of
  every member in directory order on one `streamReaderAt`) against the random-access reader
  (`zipslicer.Read`, `File.Dump`).  Model: Relic.Model.ZipStream.

  For every archive (no validity assumed) the single pass returns what random access returns exactly when the members
  lie forward of one another in relic's own measure, and fails with the I/O error of `streamReaderAt` ("attempted to
  seek backwards") otherwise; on `relicReadable` archives that measure is `forwardSpec` of the specification, which
  holds there.  The excluded class is real: a directory that lists the members in another order than they lie in the
  file is accepted by archive/zip and zipfile, refused by `Relic.Spec.Zip.ordered` and by the streaming pass.
-/
import Relic.Props.C17
import Relic.Proofs.ZipStreamSpec
import Relic.Proofs.ZipForward
namespace Relic.Props.C17
open Relic.Zip

/-- The single forward pass over fresh directory entries, started at stream position `p`, succeeds exactly when the
    members lie in forward order (`forward`), and then dumps what the random-access pass dumps. -/
theorem stream_pass_exact (z : Bytes) (fs : List File) (outs : List Dumped) (p : Nat) (h63 : z.length < 2 ^ 63)
    (hfresh : ∀ f ∈ fs, f.fresh) (hra : dumpAll (rd z) fs = .ok outs) (hin : inRange z.length fs outs = true) :
    dumpAll ⟨z, true, p⟩ fs = if forward p fs outs then .ok outs else .err "io" :=
  dumpAll_stream fs outs p h63 hfresh hra hin

/-- the streaming reader sees the directory the random-access reader sees, whenever the latter reads one -/
theorem stream_directory_eq (z : Bytes) (d : Directory) (h : read (rd z) = .ok d) : readStream z = .ok d :=
  readStream_of_read h

/-- On every `relicReadable` archive: `Read` and `ReadZipTar` return the same
    directory; the random-access `Dump` of every member succeeds, each reporting the extent the
    specification assigns (header to end of descriptor, true width); and the single pass returns the
    same results — bytes, sizes, CRCs after the descriptor — exactly when the members lie forward of one
    another (`forwardSpec`), else it stops with the seek-backwards error. -/
theorem stream_equals_random_access : ∀ z, SpecZip.valid z → relicReadable z →
    ∃ a d outs, SpecZip.parse z = some a ∧ read (rd z) = .ok d ∧ readStream z = .ok d ∧
      dumpAll (rd z) d.files = .ok outs ∧ outs.length = a.members.length ∧
      outs.map (fun o => some (o.2.2.offset + 30 + (o.2.2.lfh.map (·.nameLen)).getD 0 + (o.2.2.lfh.map (·.extraLen)).getD 0, o.2.1)) =
        specExtents a ∧
      dumpAll ⟨z, true, 0⟩ d.files = if forwardSpec a 0 a.members then .ok outs else .err "io" := by
  intro z _ hr
  obtain ⟨a, hR⟩ := relicReadable_elim hr
  obtain ⟨d, kms, hd, -, hcdz, hM, hsm, hfs⟩ := hR.read_measured
  have ha := hR.parsed
  have h63 := hR.len63
  obtain ⟨outs, ho, hmap, hin, hfw⟩ := dumpAll_measured h63 hcdz kms _ hM
  rw [← hfs] at ho hin hfw
  have hfresh : ∀ f ∈ d.files, f.fresh := by rw [hfs]; exact filesOf_fresh z _ _
  have hst := dumpAll_stream (z := z) d.files outs 0 h63 hfresh ho hin
  rw [hfw 0, fwdK_eq_forwardSpec kms _ 0 hM, hsm] at hst
  have hlen : outs.length = a.members.length := by
    have := congrArg List.length hmap
    simp only [List.length_map] at this
    rw [this, ← hsm, List.length_map]
  refine ⟨a, d, outs, ha, hd, readStream_of_read hd, ho, hlen, ?_, hst⟩
  rw [specExtents_eq, ← extents_of_parse ha h63 hR.signed hR.widths a.ends.cdOff, ← hsm, List.map_map]
  exact dumped_extents h63 kms _ outs hM hmap

set_option maxRecDepth 1000000

/-- members `a` = "x" at 0 and `b` = "x" at 32, the directory lists `b` first -/
def zSwap : Bytes := [80, 75, 3, 4, 20, 0, 0, 0, 0, 0, 0, 0, 0, 0, 131, 22, 220, 140, 1, 0, 0, 0, 1, 0, 0, 0, 1, 0, 0, 0, 97, 120, 80, 75, 3, 4, 20, 0, 0, 0, 0, 0, 0, 0, 0, 0, 131, 22, 220, 140, 1, 0, 0, 0, 1, 0, 0, 0, 1, 0, 0, 0, 98, 120, 80, 75, 1, 2, 20, 0, 20, 0, 0, 0, 0, 0, 0, 0, 0, 0, 131, 22, 220, 140, 1, 0, 0, 0, 1, 0, 0, 0, 1, 0, 0, 0, 0, 0, 0, 0, 0, 0, 0, 0, 0, 0, 32, 0, 0, 0, 98, 80, 75, 1, 2, 20, 0, 20, 0, 0, 0, 0, 0, 0, 0, 0, 0, 131, 22, 220, 140, 1, 0, 0, 0, 1, 0, 0, 0, 1, 0, 0, 0, 0, 0, 0, 0, 0, 0, 0, 0, 0, 0, 0, 0, 0, 0, 97, 80, 75, 5, 6, 0, 0, 0, 0, 2, 0, 2, 0, 94, 0, 0, 0, 64, 0, 0, 0, 0, 0]

/-- `zSwap` is read by `Read` and by `ReadZipTar` (same directory, `b` then `a`), the
    random-access pass dumps both members, the single pass dumps `b` and then fails on `a` ("attempted to seek
    backwards"); the specification refuses the archive (`ordered`), so this is outside `relicReadable`. -/
theorem stream_backwards_refused :
    okAnd (read (rd zSwap)) (fun d => decide (readStream zSwap = .ok d) &&
      okAnd (dumpAll (rd zSwap) d.files) (fun outs => decide (outs.length = 2) && !forward 0 d.files outs) &&
      decide (dumpAll ⟨zSwap, true, 0⟩ d.files = .err "io")) = true ∧
    ¬ SpecZip.valid zSwap := by decide +kernel

/-- On the readable class forward order follows from validity: `Spec.Zip.ordered` bounds the next
    member by the NARROWEST descriptor encoding found, but no local header can start inside the descriptor that really
    ends a member (its bytes are the descriptor's and the next signature's), so the next member starts after the TRUE
    width. -/
theorem stream_forward_readable : ∀ z a, SpecZip.parse z = some a → relicReadable z → forwardSpec a 0 a.members = true := by
  intro z a ha hr
  obtain ⟨a', ha', -, hsg, -, hw, -⟩ := hr
  rw [ha] at ha'; cases ha'
  obtain ⟨-, -, -, -, hord⟩ := parse_some ha
  exact forward_of_ordered ha hsg hw a.members 0 (fun _ h => h) hord

/-- Hence, on every valid `relicReadable` archive the single pass succeeds and
    returns exactly what random access returns. -/
theorem stream_equals_random_access_readable : ∀ z, SpecZip.valid z → relicReadable z →
    ∃ d outs, read (rd z) = .ok d ∧ readStream z = .ok d ∧ dumpAll (rd z) d.files = .ok outs ∧
      dumpAll ⟨z, true, 0⟩ d.files = .ok outs := by
  intro z hv hr
  obtain ⟨a, d, outs, ha, hd, hs, ho, -, -, hst⟩ := stream_equals_random_access z hv hr
  rw [stream_forward_readable z a ha hr] at hst
  exact ⟨d, outs, hd, hs, ho, hst⟩

example : okAnd (read (rd zOne24)) (fun d => okAnd (dumpAll (rd zOne24) d.files) fun outs =>
    forward 0 d.files outs && decide (dumpAll ⟨zOne24, true, 0⟩ d.files = .ok outs) && decide (outs.length = 2)) = true := by decide +kernel
example : someAnd (SpecZip.parse zOne24) (fun a => forwardSpec a 0 a.members) = true := by decide +kernel

end Relic.Props.C17
