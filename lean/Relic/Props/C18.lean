/-
  C18 — Adding a signature stream keeps the compound file valid.
  Property theorems about `Relic.Model.RedBlack` (model of /repo/lib/redblack and of
  `lessDirEnt` in /repo/lib/comdoc/dirent.go).
  The sector-level half of the property is checked by the Lean-defined validator
  `Relic.Spec.Cfb.validate` run on the bytes the real code wrote (see checklib/props/c18.py).
  lib/comdoc's writer is modelled in `Relic.Model.CfbWriter` (tables) and `Relic.Model.CfbBytes` (file
  bytes), with theorems in `Props/C18_Writer`, `C18_Disjoint`, `C18_Close`, `C18_Bytes`; the MSI digesters
  in `Relic.Model.MsiDigest`, with theorems in `Props/C18_Msi`.  The `…_full` definitions at the end of
  this file are statements over the behaviour of the real code, passed in as a parameter; they are NOT
  proved.
-/
import Relic.Proofs.RedBlack
import Relic.Proofs.RedBlackBst
import Relic.Proofs.Lists
import Relic.Spec.Cfb
namespace Relic.Props.C18
open Relic.RedBlack

/-- a strict order on the keys actually inserted: transitive, and the keys are pairwise comparable
    (hence distinct) -/
structure KeysOrdered {α : Type} (less : α → α → Bool) (xs : List α) : Prop where
  trans : ∀ a b c, less a b = true → less b c = true → less a c = true
  total : xs.Pairwise (fun a b => less a b = true ∨ less b a = true)

/-- **rb_insert_valid.** For the insertion algorithm of `lib/redblack` *with new nodes red and
    the root re-blackened* (fix-F4), inserting any list of pairwise comparable keys into the empty
    tree yields a tree that (1) has a black root, no red node with a red child and the same
    number of black nodes on every path, (2) is a binary search tree (in-order sequence strictly
    increasing), (3) holds exactly the inserted keys – and therefore passes the executable check
    `validB` that the harness evaluates on the implementation's tree. -/
theorem rb_insert_valid {α : Type} (less : α → α → Bool) (xs : List α) (h : KeysOrdered less xs) :
    let t := insertAll less true true Tree.nil xs
    (∃ n, RB t false n) ∧ Sorted less t ∧ (toList t).Perm xs ∧ validB less t = true := by
  intro t
  obtain ⟨n, hb⟩ := insertAll_RB less xs Tree.nil ⟨0, RB.nil⟩
  obtain ⟨hs, hp⟩ := insertAll_sorted less h.trans true true xs Tree.nil
    (by intro _ _ y hy; cases hy) h.total (by simp [Sorted, toList])
  refine ⟨⟨n, hb⟩, hs, ?_, validB_of less hb hs⟩
  simpa [toList] using hp

example : KeysOrdered natLt [5, 1, 4, 2, 3, 9, 0] :=
  ⟨fun a b c => by simp only [natLt, decide_eq_true_eq]; omega, by decide +kernel⟩
example : insertAll natLt true true Tree.nil [1, 2, 3] =
    .node false (.node true .nil 1 .nil) 2 (.node true .nil 3 .nil) := by rfl

/-- **rb_insert_bst_any_colour.** The ordering half holds for either colour policy, in particular
    for the unchanged code: F4 breaks the colour rules, not the search order. -/
theorem rb_insert_bst_any_colour {α : Type} (less : α → α → Bool) (nr rb : Bool) (xs : List α)
    (h : KeysOrdered less xs) :
    Sorted less (insertAll less nr rb Tree.nil xs) ∧ (toList (insertAll less nr rb Tree.nil xs)).Perm xs := by
  obtain ⟨hs, hp⟩ := insertAll_sorted less h.trans nr rb xs Tree.nil
    (by intro _ _ y hy; cases hy) h.total (by simp [Sorted, toList])
  exact ⟨hs, by simpa [toList] using hp⟩

/-- **rb_unfixed_plain.** On the unchanged tree (`Tree.Insert` creates the node with `Red = false`
    and never touches the root colour) no branch of the balancing code can fire: the result of any
    insertion history is the plain binary-search-tree insertion, every node black. -/
theorem rb_unfixed_plain {α : Type} (less : α → α → Bool) (xs : List α) :
    insertAll less false false Tree.nil xs = xs.foldl (insPlain less) Tree.nil ∧
    allBlack (insertAll less false false Tree.nil xs) = true :=
  insertAll_unfixed_plain less xs Tree.nil rfl

/-- **rb_unfixed_degenerate.** On the unchanged tree, inserting `0,1,…,k-1` yields a right spine of
    `k` black nodes; for every `k ≥ 2` it violates the equal-black-height rule (it is not a
    red-black tree for any root colour or height, and the executable check rejects it). -/
theorem rb_unfixed_degenerate (k : Nat) :
    insertAll natLt false false Tree.nil (List.range (k + 2)) = spine 0 (k + 2) ∧
    (∀ c n, ¬ RB (spine 0 (k + 2)) c n) ∧
    blackHeight? (spine 0 (k + 2)) = none ∧
    validB natLt (spine 0 (k + 2)) = false := by
  refine ⟨?_, spine_not_RB 0 k, ?_, ?_⟩
  · rw [(insertAll_unfixed_plain natLt _ Tree.nil rfl).1]; exact foldl_plain_range (k + 2)
  · exact blackHeight_spine 0 k
  · simp [validB, blackHeight_spine 0 k]

example : insertAll natLt false false Tree.nil [0, 1, 2] =
    .node false .nil 0 (.node false .nil 1 (.node false .nil 2 .nil)) := by rfl

/-- [MS-CFB] 2.6.4 order for the full statement -/
def order_is_mscfb_full : Prop :=
  ∀ (upper : Nat → Nat) (a b : Name), lessDirEnt a b = mscfbLess upper a b

/-- **order_is_mscfb_partial.** `lessDirEnt` coincides with the [MS-CFB] order on names that
    contain no surrogate code unit and no code unit changed by upper-casing – true of MSI's encoded
    stream names (0x3800–0x4840) – for every upper-case mapping. -/
theorem order_is_mscfb_partial (upper : Nat → Nat) (a b : Name)
    (ha : ∀ u ∈ a, isSurr u = false ∧ upper u = u) (hb : ∀ u ∈ b, isSurr u = false ∧ upper u = u) :
    lessDirEnt a b = mscfbLess upper a b := by
  unfold lessDirEnt mscfbLess
  rw [utf16Decode_id a (fun u hu => (ha u hu).1), utf16Decode_id b (fun u hu => (hb u hu).1),
    map_fixed upper a (fun u hu => (ha u hu).2), map_fixed upper b (fun u hu => (hb u hu).2)]

example : ∀ u ∈ [0x4840, 0x3F7F, 0x4164, 0x422F], isSurr u = false ∧ upperUnit u = u := by decide

/-- **order_differs_mixed_case.** The full statement is false: "a" vs "B" (case), and U+E000 vs a
    surrogate pair (UTF-8 order ≠ UTF-16 code-unit order). -/
theorem order_differs_mixed_case : ¬ order_is_mscfb_full := by
  intro h
  have := h upperUnit [0x61] [0x42]
  revert this
  decide

theorem order_differs_witnesses :
    lessDirEnt [0x61] [0x42] = false ∧ mscfbLess upperUnit [0x61] [0x42] = true ∧
    lessDirEnt [0xE000, 0x41] [0xD800, 0xDC00] = true ∧ mscfbLess upperUnit [0xE000, 0x41] [0xD800, 0xDC00] = false := by
  decide

/-! ### statements that are checked on every run by the validator / the digest oracle but NOT proved

They are stated over the *behaviour* of the real code (`apply`: file bytes and a history ↦ file
bytes; `direct`, `tarred`: file bytes ↦ the byte stream fed to the hash), which enters as a parameter.
`./check C18` evaluates their bodies on every generated file × history with the real code in the
place of the parameters.  What is proved about the models of that code: `streams_preserved`,
`tables_roundtrip` (`Props/C18_Bytes`, with the two statements that remain between them and
`add_preserves_valid_full` at the end of that file); `tar_equals_direct`,
`msi_digest_ignores_signature` (`Props/C18_Msi`, over the modelled tree walk). -/

/-- one step of a history: add/replace a root-level stream, or delete it -/
abbrev Touch := List Nat × Option Bytes

/-- the sector-level half of C18 -/
def add_preserves_valid_full (apply : Cfb.Buf → List Touch → Option Cfb.Buf) : Prop :=
  ∀ b h b', apply b h = some b' →
    ∀ p, Spec.Cfb.validate b = .ok p →
      ∃ p', Spec.Cfb.validate b' = .ok p' ∧ Spec.Cfb.preservedWhy p.streams p'.streams h = none

def tar_equals_direct_full (direct tarred : Cfb.Buf → Bool → Option Bytes) : Prop :=
  ∀ b ext, Spec.Cfb.validB b = true → tarred b ext = direct b ext

def msi_digest_ignores_signature_full (direct : Cfb.Buf → Bool → Option Bytes)
    (insertSig : Cfb.Buf → Bytes → Bytes → Option Cfb.Buf) : Prop :=
  ∀ b sig ex b' ext, Spec.Cfb.validB b = true → insertSig b sig ex = some b' → direct b' ext = direct b ext

end Relic.Props.C18
