/-
  C16 — CMS structures survive parsing and re-encoding bit-exactly.
  Property theorems about `Relic.Model.Der` (model of the DER length/TLV layer of Go's encoding/asn1
  as used by /repo/lib/pkcs7, and of attributes.go / builder.go).
-/
import Relic.Proofs.DerResynth
namespace Relic.Props.C16
open Relic.Der

/-- **len_codec.** Every length below 2^31 (the bound of Go's reader) survives encode → decode, whatever follows. -/
theorem len_codec (n : Nat) (rest : Bytes) (h : n < 2 ^ 31) : decLen (encLen n ++ rest) = .ok (n, rest) :=
  decLen_encLen n rest h

/-- **len_minimal.** Go's reader accepts *exactly* the minimal encodings of lengths below 2^31: what it
    consumed is `encLen n`, so re-encoding a decoded length always reproduces the octets. -/
theorem len_minimal (bs : Bytes) (n : Nat) (rest : Bytes) :
    decLen bs = .ok (n, rest) ↔ bs = encLen n ++ rest ∧ n < 2 ^ 31 :=
  decLen_ok

/-- non-minimal long form, leading zero octet, indefinite form and 2^31 are refused; a BER reader
    would have accepted the first with a value whose re-encoding differs. -/
theorem len_nonminimal_refused :
    decLen [0x81, 0x05] = .err "structural" ∧ decLenLax [0x81, 0x05] = .ok (5, []) ∧ encLen 5 = [0x05] ∧
    decLen [0x82, 0x00, 0x80] = .err "structural" ∧ decLen [0x80, 0, 0] = .err "syntax" ∧
    decLen [0x84, 0x80, 0, 0, 0] = .err "structural" ∧
    decLen [0x84, 0x7f, 0xff, 0xff, 0xff] = .ok (2 ^ 31 - 1, []) := by decide +kernel

/-- **tlv_roundtrip** (single-byte identifier octets, content below 2^31 bytes). -/
theorem tlv_roundtrip (t : UInt8) (c rest : Bytes) (ht : highTag t = false) (hc : c.length < 2 ^ 31) :
    untlv (tlv t c ++ rest) = .ok (t, c, rest) := untlv_tlv t c rest ht hc

/-- **tlv_unique.** Whatever the strict reader accepts is the canonical encoding of what it returns. -/
theorem tlv_unique (bs : Bytes) (t : UInt8) (c rest : Bytes) (h : untlv bs = .ok (t, c, rest)) :
    bs = tlv t c ++ rest := (untlv_inv bs t c rest h).1

/-- **unsorted_set_is_retag.** `AttributeList.Bytes` is the SEQUENCE OF encoding with the first octet
    0x31: the attributes in the order of the list – nothing is sorted – under a minimal length. -/
theorem unsorted_set_is_retag (l : List Attr) :
    attrListBytes l = .ok (0x31 :: (encLen (l.flatMap encAttr).length ++ l.flatMap encAttr)) ∧
    encAttrList l = 0x30 :: (encLen (l.flatMap encAttr).length ++ l.flatMap encAttr) := by
  exact ⟨attrListBytes_eq l, rfl⟩

/-- anything whose tag number is not 16 is refused, and an empty encoding passes through -/
theorem retag_guard : retagSet [0x31, 0x00] = .err "expected-sequence" ∧ retagSet [] = .ok [] ∧
    retagSet [0x30, 0x00] = .ok [0x31, 0x00] ∧ retagSet [0xB0, 0x00] = .ok [0xB1, 0x00] := by decide +kernel

/-- Elements that the encoder can have produced and the reader can take back. -/
def ElemsOk (l : List (UInt8 × Bytes)) : Prop := ∀ p ∈ l, highTag p.1 = false ∧ p.2.length < 2 ^ 31

/-- **attrs_digested_as_emitted.** For a signer info as `asn1.Marshal` emits it from the builder
    (three elements, then the attributes under identifier 0xA0, then the rest – with or without
    unauthenticated attributes), `AuthenticatedAttributesBytes` of the *parsed* value (RawContent set,
    whatever the parsed attribute list is) returns exactly the bytes the builder hashed and signed,
    `AttributeList.Bytes` of the attribute list it emitted. -/
theorem attrs_digested_as_emitted (pre post : List (UInt8 × Bytes)) (attrs parsedAttrs : List Attr)
    (hpre : pre.length = 3) (hwf : ElemsOk (pre ++ post))
    (htot : ((pre ++ (0xA0, attrsContent attrs) :: post).flatMap (fun p => tlv p.1 p.2)).length < 2 ^ 31) :
    authAttrBytes ⟨emitSignerInfo pre (some attrs) post, parsedAttrs⟩ = attrListBytes attrs := by
  rw [authAttrBytes_emit pre post attrs parsedAttrs hpre hwf htot, attrListBytes_eq]

/-- **adding_timestamp_preserves_signed.** What follows the attributes in the signer info (signature
    algorithm, signature, unauthenticated attributes such as an added timestamp token) has no influence
    on the digested bytes. -/
theorem adding_timestamp_preserves_signed (pre post post' : List (UInt8 × Bytes)) (attrs a1 a2 : List Attr)
    (hpre : pre.length = 3) (hwf : ElemsOk (pre ++ post)) (hwf' : ElemsOk (pre ++ post'))
    (htot : ((pre ++ (0xA0, attrsContent attrs) :: post).flatMap (fun p => tlv p.1 p.2)).length < 2 ^ 31)
    (htot' : ((pre ++ (0xA0, attrsContent attrs) :: post').flatMap (fun p => tlv p.1 p.2)).length < 2 ^ 31) :
    authAttrBytes ⟨emitSignerInfo pre (some attrs) post, a1⟩ =
    authAttrBytes ⟨emitSignerInfo pre (some attrs) post', a2⟩ := by
  rw [attrs_digested_as_emitted pre post attrs a1 hpre hwf htot,
      attrs_digested_as_emitted pre post' attrs a2 hpre hwf' htot']

/-- **attrs_digested_as_parsed.** Foreign input: whenever `AuthenticatedAttributesBytes` succeeds on a
    parsed signer info, the input is `30 ‖ len ‖ elements`, the fourth element `e` stands in the input as
    `tag ‖ minimal length ‖ content`, and the result is that very element with the identifier octet
    replaced by 0x31 – i.e. the encoding a signer digested if it digested what it emitted. -/
theorem attrs_digested_as_parsed (si : SignerInfo) (out : Bytes) (hne : si.rawContent ≠ [])
    (h : authAttrBytes si = .ok out) :
    ∃ (c trailing : Bytes) (seq : List RawVal) (e : RawVal), si.rawContent = tlv 0x30 c ++ trailing ∧
      c = seq.flatMap (·.full) ∧ seq[3]? = some e ∧ e.full = tlv e.tag e.bytes ∧ out = 0x31 :: e.full.tail := by
  obtain ⟨c, tr, seq, e, h1, h2, h3, h4, h5⟩ := authAttrBytes_parsed si out hne h
  exact ⟨c, tr, seq, e, h1, h2, h3, h4, by rw [h5, h4]; rfl⟩

/-- **foreign_nonminimal_iff.** The exact condition for foreign input: reading an element `el` the BER
    way (any definite length form), relic's derivation `31 ‖ minimal length ‖ content` coincides with
    "the element as emitted, re-tagged" iff the strict reader accepts the element, i.e. iff its length
    octets are minimal.  (Go's reader is strict, so the other case is refused – next theorem.) -/
theorem foreign_nonminimal_iff (el : Bytes) (t : UInt8) (c : Bytes) (hc : c.length < 2 ^ 31)
    (h : untlvLax el = .ok (t, c, [])) :
    tlv 0x31 c = 0x31 :: el.tail ↔ untlv el = .ok (t, c, []) := by
  obtain ⟨tl, rfl, ht⟩ := untlvWith_head _ _ _ _ _ h
  constructor
  · intro e
    simp only [tlv, List.tail_cons, List.cons.injEq, true_and] at e
    rw [← e]; exact untlv_one t c ht hc
  · intro hs
    obtain ⟨e, _, _⟩ := untlv_inv _ _ _ _ hs
    rw [List.append_nil] at e
    rw [e]; simp [tlv]

/-- witness for the case where they differ, and what relic does with it: the `[0]` element
    `A0 81 02 05 00` (non-minimal length) is refused, never silently re-encoded. -/
theorem foreign_nonminimal_rejected :
    untlvLax [0xA0, 0x81, 0x02, 0x05, 0x00] = .ok (0xA0, [0x05, 0x00], []) ∧
    tlv 0x31 [0x05, 0x00] ≠ 0x31 :: [0xA0, 0x81, 0x02, 0x05, 0x00].tail ∧
    untlv [0xA0, 0x81, 0x02, 0x05, 0x00] = .err "structural" ∧
    authAttrBytes ⟨[0x30, 0x0f, 2, 1, 1, 0x30, 0, 0x30, 0, 0xA0, 0x81, 0x02, 0x05, 0x00, 4, 1, 9], []⟩
      = .err "structural" := by
  decide +kernel

def ctAttr (ctype : Bytes) : Attr := ⟨oidContentType, ⟨[], 0x31, tlv 0x06 ctype⟩⟩
def mdAttr (digest : Bytes) : Attr := ⟨oidMessageDigest, ⟨[], 0x31, tlv 0x04 digest⟩⟩

/-- **required_attrs_once.** If the caller added at least one authenticated attribute and none of its
    own has the content-type or message-digest OID, `Sign` appends exactly one content-type attribute
    (single value: the content's type) and one message-digest attribute (single value: the digest it
    was given for the content), after the caller's attributes, in that order. -/
theorem required_attrs_once (l : List Attr) (ctype digest : Bytes)
    (hl : ∀ a ∈ l, a.oid ≠ oidContentType ∧ a.oid ≠ oidMessageDigest) :
    builderAttrs (some l) ctype digest = some (l ++ [ctAttr ctype, mdAttr digest]) ∧
    (l ++ [ctAttr ctype, mdAttr digest]).countP (·.oid = oidContentType) = 1 ∧
    (l ++ [ctAttr ctype, mdAttr digest]).countP (·.oid = oidMessageDigest) = 1 := by
  have h1 : appendAttr l oidContentType (tlv 0x06 ctype) = l ++ [ctAttr ctype] :=
    appendAttr_absent l _ _ (fun a ha => (hl a ha).1)
  have h2 : appendAttr (l ++ [ctAttr ctype]) oidMessageDigest (tlv 0x04 digest) = (l ++ [ctAttr ctype]) ++ [mdAttr digest] := by
    apply appendAttr_absent
    intro a ha
    simp only [List.mem_append, List.mem_singleton] at ha
    rcases ha with ha | rfl
    · exact (hl a ha).2
    · show oidContentType ≠ oidMessageDigest
      decide +kernel
  have c1 : l.countP (·.oid = oidContentType) = 0 := by
    rw [List.countP_eq_zero]; intro a ha; simpa using (hl a ha).1
  have c2 : l.countP (·.oid = oidMessageDigest) = 0 := by
    rw [List.countP_eq_zero]; intro a ha; simpa using (hl a ha).2
  refine ⟨?_, ?_, ?_⟩
  · simp [builderAttrs, h1, h2]
  · rw [List.countP_append, c1]
    rfl
  · rw [List.countP_append, c2]
    rfl

/-- no authenticated attribute at all: none is added, the content digest is signed directly -/
theorem no_attrs_none_added (ctype digest : Bytes) :
    builderAttrs none ctype digest = none ∧ emitAuthAttrs none = [] := ⟨rfl, rfl⟩

/-- the hypothesis of `required_attrs_once` is needed: a caller-supplied content-type attribute gets a
    *second value* appended instead (two-valued attribute; no relic signer does this). -/
theorem required_attrs_caller_dup :
    builderAttrs (some [⟨oidContentType, ⟨[], 0x31, [6, 1, 42]⟩⟩]) [43] [7] =
      some [⟨oidContentType, ⟨[], 0x31, [6, 1, 42, 6, 1, 43]⟩⟩, mdAttr [7]] := by decide +kernel

/-- hazard of `appendAttr` on a *parsed* attribute (FullBytes set): the appended value lands in `Bytes`
    and is ignored by the encoder.  relic only appends to attribute lists it built itself. -/
theorem append_after_parse_dropped (oid full bytes v : Bytes) (hf : full ≠ []) :
    encAttrList (appendAttr [⟨oid, ⟨full, 0x31, bytes⟩⟩] oid v) = encAttrList [⟨oid, ⟨full, 0x31, bytes⟩⟩] := by
  cases full with
  | nil => exact absurd rfl hf
  | cons x xs => simp [appendAttr, encAttrList, attrsContent, encAttr, encRaw]

/-- **raw_nodes_verbatim.** Whatever the reader (Go's strict one, or a BER-tolerant one), every node
    captured raw (`asn1.RawValue` with FullBytes: certificates, attribute value sets, issuer names,
    algorithm parameters) occurs byte-for-byte in the input and in the re-encoding, whatever is inside
    it and whatever happened to the framing around it. -/
theorem raw_nodes_verbatim (lax : Bool) (sh : Shape) (bs : Bytes) (f : Forest) (h : parse lax sh bs = .ok f) :
    ∀ s ∈ f.rawSlices, s <:+: bs ∧ s <:+: emit f :=
  (parse_ok.mp h).rawSlices (dlOf_consumes lax) (dlOf_consumes lax)

/-- **resynth_roundtrip_strict.** With Go's reader every accepted input is re-encoded to exactly the
    input bytes – re-synthesised headers included, `RawContent` structs (ContentInfo, SignerInfo)
    included – as long as no trailing element was dropped (and, outside this model, no SET OF had to
    be re-sorted and all primitive contents were canonical). -/
theorem resynth_roundtrip_strict (sh : Shape) (bs : Bytes) (f : Forest) (hs : sh.noTail = true)
    (h : parse false sh bs = .ok f) : emit f = bs := (parse_ok.mp h).emit decLen_consumes hs

/-- **resynth_nodes_need_der_partial.** If the input read the BER way was in fact DER at every header
    the schema looks at (the strict reader accepts it too), the re-encoding reproduces it. -/
theorem resynth_nodes_need_der_partial (sh : Shape) (bs : Bytes) (f f' : Forest) (hs : sh.noTail = true)
    (hl : parse true sh bs = .ok f) (hd : parse false sh bs = .ok f') : emit f = bs := by
  have := parse_lax_of_strict sh bs f' hd
  rw [hl] at this
  injection this with e
  subst e
  exact resynth_roundtrip_strict sh bs f hs hd

/-- **resynth_nodes_need_der_mixed.**  The general form, raw-captured nodes included: the re-encoding reproduces the
    input iff the reader that is strict exactly at the re-synthesised headers (`prim`, `node`, `rawc`) and
    BER-tolerant at the raw-captured ones (`parseMix`) accepts it.  Raw-captured nodes never matter
    (`raw_nodes_verbatim`), re-synthesised ones always do. -/
theorem resynth_nodes_need_der_mixed (sh : Shape) (bs : Bytes) (f : Forest) (hs : sh.noTail = true)
    (hb : bs.length < 2 ^ 31) (hl : parse true sh bs = .ok f) :
    emit f = bs ↔ parseMix sh bs = .ok f :=
  ⟨fun e => parseMix_ok.mpr ((parse_ok.mp hl).strict_of_emit hb e),
   fun h => (parseMix_ok.mp h).emit decLenLax_consumes hs⟩

/-- **resynth_nodes_need_der.**  Under a BER reader, a tree none of whose nodes is raw-captured (`sh.noRaw`: every
    header is re-synthesised) is reproduced by the re-encoding *iff* the strict reader accepts the input (with the same
    tree) — i.e. iff every header the schema looks at was DER.  `bs.length < 2^31` is the limit of Go's parser
    (`parseTagAndLength` refuses longer lengths). -/
theorem resynth_nodes_need_der (sh : Shape) (bs : Bytes) (f : Forest) (hs : sh.noTail = true) (hr : sh.noRaw = true)
    (hb : bs.length < 2 ^ 31) (hl : parse true sh bs = .ok f) :
    emit f = bs ↔ parse false sh bs = .ok f := by
  rw [← parseMix_eq_strict sh hr bs]
  exact resynth_nodes_need_der_mixed sh bs f hs hb hl

/-- non-vacuity, both ways: a DER input (both sides true), a non-DER header on a re-synthesised node (both sides
    false), for the schema `SEQUENCE { prim, rawc }` (the captured element happens to hold an OCTET STRING) -/
example : Shape.noTail (.node (.prim (.rawc .done)) .done) = true ∧ Shape.noRaw (.node (.prim (.rawc .done)) .done) = true ∧
    (parse true (.node (.prim (.rawc .done)) .done) [0x30, 8, 2, 1, 5, 0x30, 3, 4, 1, 7]).isOk = true ∧
    (parse false (.node (.prim (.rawc .done)) .done) [0x30, 8, 2, 1, 5, 0x30, 3, 4, 1, 7]).isOk = true ∧
    (parse true (.node (.prim (.rawc .done)) .done) [0x30, 9, 2, 0x81, 1, 5, 0x30, 3, 4, 1, 7]).isOk = true ∧
    (parse false (.node (.prim (.rawc .done)) .done) [0x30, 9, 2, 0x81, 1, 5, 0x30, 3, 4, 1, 7]).isOk = false := by decide +kernel

/-- the restriction to schemas without raw-captured nodes is needed for the statement with the *strict* reader on
    the right: a raw-captured node with a non-minimal header is reproduced although Go's reader refuses the
    input: without `noRaw` the equivalence of `resynth_nodes_need_der` is false -/
theorem resynth_nodes_need_der_needs_noRaw :
    ¬ ∀ (sh : Shape) (bs : Bytes) (f : Forest), sh.noTail = true → parse true sh bs = .ok f →
      (emit f = bs ↔ parse false sh bs = .ok f) := by
  intro h
  have := (h (.raw .done) [4, 0x81, 1, 7] (.raw [4, 0x81, 1, 7] .nil) (by decide) (by decide)).mp (by decide)
  revert this
  decide +kernel

/-- witness for the converse direction: a re-synthesised node with a non-minimal header changes, a raw
    node with the same liberty inside does not; a trailing element is dropped. -/
theorem resynth_changes_non_der :
    (parse true (.prim .done) [4, 0x81, 1, 7]).bind (fun f => .ok (emit f)) = .ok [4, 1, 7] ∧
    parse false (.prim .done) [4, 0x81, 1, 7] = .err "structural" ∧
    (parse true (.raw .done) [4, 0x81, 1, 7]).bind (fun f => .ok (emit f)) = .ok [4, 0x81, 1, 7] ∧
    (parse false (.node (.raw .done) .done) [0x30, 6, 0x31, 4, 4, 0x81, 1, 7]).bind (fun f => .ok (emit f))
      = .ok [0x30, 6, 0x31, 4, 4, 0x81, 1, 7] ∧
    (parse false (.node (.prim .tail) .done) [0x30, 6, 2, 1, 1, 2, 1, 2]).bind (fun f => .ok (emit f))
      = .ok [0x30, 3, 2, 1, 1] := by decide +kernel

/-- **edit_preserves_other_fields.** Replacing field `i` of a parsed structure by one new node leaves every
    other field's emitted bytes – raw-captured or re-synthesised – exactly as they were, and the number
    of fields unchanged. -/
theorem edit_preserves_other_fields (i : Nat) (new f : Forest) (hi : i < (Forest.sibs f).length)
    (hn : (Forest.sibs new).length = 1) :
    (Forest.sibs (Forest.editField i new f)).length = (Forest.sibs f).length ∧
    ∀ j, j ≠ i → (Forest.sibs (Forest.editField i new f))[j]? = (Forest.sibs f)[j]? := by
  obtain ⟨x, hx⟩ := List.length_eq_one_iff.mp hn
  -- replacing one field by one node is `List.set` on the list of fields
  have e : (Forest.sibs f).take i ++ x :: (Forest.sibs f).drop (i + 1) = (Forest.sibs f).set i x := by
    rw [List.set_eq_take_append_cons_drop, if_pos hi]
  rw [Forest.sibs_editField, hx, List.singleton_append, e]
  exact ⟨List.length_set, fun j hj => List.getElem?_set_ne (Ne.symm hj)⟩

/-- **detach_preserves_other_fields.** `Detach` on a parsed SignedData (children of its SEQUENCE:
    version, digestAlgorithms, contentInfo, certificates, crls, signerInfos – whichever are present, in
    whatever representation): the number of fields is unchanged, every field other than the ContentInfo
    (index 2) is emitted with the very bytes it had before – certificates, CRLs and every signer info
    included – and the whole `ContentInfoSignedData` is emitted as the fresh framing around these fields. -/
theorem detach_preserves_other_fields (kids : Forest) :
    (Forest.sibs (detachKids kids)).length = (Forest.sibs kids).length ∧
    (∀ j, j ≠ 2 → (Forest.sibs (detachKids kids))[j]? = (Forest.sibs kids)[j]?) ∧
    ∀ oid, emit (detachSD (wrapSD oid kids)) =
      tlv 0x30 (tlv 0x06 oid ++ tlv 0xA0 (tlv 0x30 (Forest.sibs (detachKids kids)).flatten)) := by
  rw [← and_assoc]
  refine ⟨?_, fun oid => emit_detachSD_wrapSD oid kids⟩
  unfold detachKids
  split
  · rename_i t full next hd
    split
    · rename_i oid _
      have hl : 2 < (Forest.sibs kids).length := Forest.lt_sibs_of_dropSibs (by rw [hd]; simp [Forest.sibs])
      exact edit_preserves_other_fields 2 (detachedCI oid) kids hl (by simp [detachedCI, Forest.sibs])
    · exact ⟨rfl, fun _ _ => rfl⟩
  · exact ⟨rfl, fun _ _ => rfl⟩

/-- **detach_removes_content.** … and the ContentInfo field becomes `SEQUENCE { contentType }`: the
    encapsulated content is gone, the content type stays. -/
theorem detach_removes_content (kids : Forest) (t : UInt8) (full oid : Bytes) (next : Forest)
    (hd : Forest.dropSibs 2 kids = .rawc t full next) (ho : ciOid full = some oid) :
    (Forest.sibs (detachKids kids))[2]? = some (tlv 0x30 (tlv 0x06 oid)) := by
  have hl : 2 < (Forest.sibs kids).length := Forest.lt_sibs_of_dropSibs (by rw [hd]; simp [Forest.sibs])
  simp only [detachKids, hd, ho, Forest.sibs_editField]
  rw [List.getElem?_append_right (by simp [List.length_take]; omega)]
  simp [List.length_take, Nat.min_eq_left (Nat.le_of_lt hl), detachedCI, Forest.sibs, emit]

/-- a SignedData with certificates *and* CRLs: after `Detach` the CRL field (index 4) is still there,
    byte for byte; a rebuild that forgets the field (`editField 4 .nil`) is a different encoding. -/
theorem detach_keeps_crls :
    let kids : Forest := .prim 2 [1] (.node 0x31 (.raw [0x30, 0] .nil) (.rawc 0x30 [0x30, 7, 6, 1, 42, 0xA0, 2, 4, 0]
      (.node 0xA0 (.raw [0x30, 1, 7] .nil) (.node 0xA1 (.raw [0x30, 1, 9] .nil) (.node 0x31 (.rawc 0x30 [0x30, 0] .nil) .nil)))))
    (Forest.sibs (detachKids kids))[4]? = some [0xA1, 3, 0x30, 1, 9] ∧
    (Forest.sibs (detachKids kids))[2]? = some [0x30, 3, 6, 1, 42] ∧
    (Forest.sibs kids)[2]? = some [0x30, 7, 6, 1, 42, 0xA0, 2, 4, 0] ∧
    emit (Forest.editField 4 .nil (detachKids kids)) ≠ emit (detachKids kids) := by decide +kernel

example : encLen 127 = [0x7f] ∧ encLen 128 = [0x81, 0x80] ∧ encLen 65536 = [0x83, 1, 0, 0] := by
  decide +kernel
example : untlv (tlv 0x04 [1, 2, 3] ++ [9]) = .ok (0x04, [1, 2, 3], [9]) := by decide +kernel
example : ElemsOk [(0x02, [1]), (0x30, [0x30, 0]), (0x30, [6, 1, 42])] := by
  intro p hp; simp only [List.mem_cons, List.not_mem_nil, or_false] at hp
  rcases hp with rfl | rfl | rfl <;> decide
/-- attributes in descending order stay in that order -/
example : attrListBytes [⟨[43], ⟨[], 0x31, [5, 0]⟩⟩, ⟨[42], ⟨[0x31, 0x02, 5, 0], 0, []⟩⟩] =
    .ok [0x31, 18, 0x30, 7, 6, 1, 43, 0x31, 2, 5, 0, 0x30, 7, 6, 1, 42, 0x31, 2, 5, 0] := by decide +kernel
example : ∀ a ∈ [(⟨[42], ⟨[], 0x31, [5, 0]⟩⟩ : Attr)], a.oid ≠ oidContentType ∧ a.oid ≠ oidMessageDigest := by decide +kernel
example : Shape.noTail (.node (.prim (.node (.rawc (.raw .done)) .done)) .done) = true := by decide +kernel
example : (2 : Nat) < (Forest.sibs (Forest.prim 2 [1] (.node 0x31 .nil (.rawc 0x30 [0x30, 3, 6, 1, 42] .nil)))).length ∧
    (Forest.sibs (detachedCI [42])).length = 1 := by decide +kernel
example : Forest.dropSibs 2 (Forest.prim 2 [1] (.node 0x31 .nil (.rawc 0x30 [0x30, 3, 6, 1, 42] .nil))) = .rawc 0x30 [0x30, 3, 6, 1, 42] .nil ∧
    ciOid [0x30, 3, 6, 1, 42] = some [42] := by decide +kernel

end Relic.Props.C16
