/-
  C01 — Every signature relic produces verifies.   Mach-O part, the load-command-walk half of the end-to-end statement:
  for every regular thin image `machos.Sign` accepts, the file the patch set produces exists, the verifier's locator
  (`debug/macho.NewFile` + `readSigBlob`) finds exactly the region the signer reserved, the bytes in front of it are the
  bytes that were hashed, and the region holds the signature blob.  (The other half — given these four facts
  `verifyFile` succeeds with all comparisons true — is in Props/C01_MachOFull.lean.)

  The statement `macho_sign_then_verify_full` of C01_MachO.lean is FALSE as written (`not_macho_sign_then_verify_full`),
  for a reason that lies in the MODEL (its `loadLoop` is partial), not in relic.  The regularity conditions that relic
  itself needs are collected in `Regular`.

  `sign` is the current tree.  Two conditions are not fields of `Regular` but follow from a successful `sign`, since relic
  tests them itself (each was a genuine defect of relic before its fix):
    noSlack  (F-MACHO-4, fixed in /repo bd2b0c4)  `regular_noSlack`  — `scanFile` refuses unused bytes behind the last load
             command when a command is going to be added (`macho_slack_refused`); the old behaviour: `macho_slack_breaks_orig`
    small    (F-MACHO-3 / F-MACHO-3b, fixed in /repo 5805b39 / e678460)  `regular_small`  — `Sign` refuses when the region it
             is going to use, fresh or reused, exceeds 10^7 bytes (`macho_sign_refuses_oversize_region`, C01_MachOFull.lean).
             `Regular` carries no size hypothesis.
-/
import Relic.Proofs.MachODemo
import Relic.Props.C01_MachO
namespace Relic.Props.C01
open Relic.MachO Relic.CodeDir

/-- the load commands `(position, cmd, cmdsize)` the verifier's parser (`debug/macho.NewFile`) sees in `f` -/
def loadsOf (f : Bytes) : List (Nat × Nat × Nat) :=
  match newFile f with
  | .ok (_, l) => l
  | _ => []

theorem loadsOf_of_newFile (f : Bytes) (be : Bool) (l : List (Nat × Nat × Nat)) (h : newFile f = .ok (be, l)) : loadsOf f = l := by
  unfold loadsOf; rw [h]

/-- what the signer silently assumes about the shape of the input image, in terms of the scanner's
    markers `so.plan.m`, the patch `so.plan.po` and the input's load commands.  Every field is a decidable condition. -/
structure RegularImage (f : Bytes) (so : SignOut) : Prop where
  /-- the verifier's parser accepts the INPUT's load commands.  (Modelling artefact: the model of `debug/macho` answers
      "unmodelled" for LC_SYMTAB / LC_DYSYMTAB / LC_LOAD_DYLIB-type / LC_RPATH commands and for sections with
      relocations, which `scanFile` accepts; genuinely needed: segment commands whose 64-bit offset or size is
      negative as int64 are refused by `NewFile` but accepted by `scanFile`.) -/
  accepts : newFile f = .ok (so.plan.m.be, loadsOf f)
  /-- at most one LC_CODE_SIGNATURE command, and its cmdsize is 16: the scanner records the LAST one, `readSigBlob`
      takes the FIRST one; `patchLoadCmd` writes `cmdsize = 16` over whatever size the command had. -/
  oneSig : ∀ e ∈ loadsOf f, e.2.1 = 0x1d → e.1 = so.plan.m.loadCsStart ∧ e.2.2 = 16
  /-- the recorded __LINKEDIT command is LC_SEGMENT_64 exactly in a 64-bit image: `patchLinkEdit` picks the field
      layout by the file magic, `scanFile` reads the command by its own `cmd` -/
  leKind : rd32 so.plan.m.be f so.plan.m.lePos = 0x19 ↔ so.plan.m.is64 = true
  /-- the (possibly extended) header buffer ends at or before the end of code: the signature region does not overlap
      the load commands -/
  hdrBelow : (so.plan.po.newHeader.length : Int) ≤ so.plan.m.codeSize
  /-- the end of code and the old signature lie inside the file (`scanFile` never looks at the file size) -/
  oldInside : so.plan.m.codeSize + so.plan.m.sigLen ≤ f.length

/-- `RegularImage` itself: no size condition is among the assumptions, `Sign` itself tests the size of the region it is
    going to use, fresh or reused (fixes F-MACHO-3 / F-MACHO-3b; `regular_small`). -/
abbrev Regular (f : Bytes) (so : SignOut) : Prop := RegularImage f so

/-- finding F-MACHO-4: when a command is going to be added the commands fill `sizeofcmds` exactly —
    `scanFile` has tested it -/
theorem regular_noSlack (f : Bytes) (p : SignParams) (so : SignOut) (hs : sign f p = .ok so) (R : RegularImage f so) :
    so.plan.m.loadCsStart = 0 →
      hdrEndOf so.plan.m.magic + ((loadsOf f).map (fun e => e.2.2)).sum = so.plan.m.nextLc :=
  scan_noSlack f so.plan.m (loadsOf f) (sign_inv' f p so hs).2.1 R.accepts

/-- findings F-MACHO-3 / F-MACHO-3b: the region `Sign` uses is at
    most 10^7 bytes — `Sign` has tested it, in both branches of `PatchSignature`; follows from a successful `Sign` alone.
    (The bound also keeps `uint32(sigStart)` / `uint32(sigSize)` in `patchLoadCmd` from truncating: `MachO.cs_lt_of_small`.) -/
theorem regular_small (f : Bytes) (p : SignParams) (so : SignOut) (hs : sign f p = .ok so) :
    so.plan.po.sigBufLen ≤ 10000000 :=
  sign_small f p so hs

/-- Both branches of `PatchSignature` (old region reused / fresh region with the header
    patched: LC_CODE_SIGNATURE appended, or an existing one overwritten — behind or in front of the __LINKEDIT command;
    in the last case the `patch.Add` calls come out of order and `Dump`'s sort repairs it).  No hypothesis on what lies
    behind the end of code (the hypothesis `padding = 0 ∨ f.length = codeSize` of `macho_sign_then_verify_full` is not needed:
    `Sign` cuts the hashed stream at the end of code, fix F45; trailing bytes stay behind the signature). -/
theorem macho_sign_then_locate (f : Bytes) (p : SignParams) (so : SignOut) (blob : Bytes)
    (hs : sign f p = .ok so) (R : Regular f so) (hb : blob.length ≤ so.plan.po.sigBufLen) :
    ∃ g, signedFile f so.plan.po blob = .ok g ∧
      locate g = .ok (so.plan.po.sigStart, so.plan.po.sigBufLen) ∧
      g.take so.plan.po.sigStart = so.plan.stream ∧
      MachO.sliceOf g so.plan.po.sigStart so.plan.po.sigBufLen = blob ++ zeros (so.plan.po.sigBufLen - blob.length) := by
  have hsmall := regular_small f p so hs
  obtain ⟨g, h1, h2, h3, h4, _⟩ := sign_then_locate_core f p so blob (loadsOf f) (sign_orig_of_sign f p so hs) R.accepts
    R.oneSig (regular_noSlack f p so hs R) R.leKind R.hdrBelow R.oldInside (Or.inl hsmall) hb
  exact ⟨g, h1, by rw [h2, sigAnswer_small _ _ hsmall], h3, h4⟩

/-- the code limit the signer puts into the code directory is the start of the signature region -/
theorem macho_sign_limit (f : Bytes) (p : SignParams) (so : SignOut) (hs : sign f p = .ok so) (R : Regular f so) :
    so.signed.pages.limit = so.plan.po.sigStart := by
  obtain ⟨g, _, _, _, _, h⟩ := sign_then_locate_core f p so [] (loadsOf f) (sign_orig_of_sign f p so hs) R.accepts R.oneSig
    (regular_noSlack f p so hs R) R.leKind R.hdrBelow R.oldInside (Or.inl (regular_small f p so hs)) (Nat.zero_le _)
  exact h

/-- the three conjuncts of `macho_sign_then_verify_full` under `Regular` -/
theorem macho_sign_then_verify_regular (f : Bytes) (p : SignParams) (so : SignOut) (blob : Bytes)
    (hs : sign f p = .ok so) (R : Regular f so) (hb : blob.length ≤ so.plan.po.sigBufLen) :
    ∃ g, signedFile f so.plan.po blob = .ok g ∧ locate g = .ok (so.plan.po.sigStart, so.plan.po.sigBufLen) ∧
      pages 4096 (g.take so.signed.pages.limit) = pages 4096 so.plan.stream := by
  obtain ⟨g, h1, h2, h3, _⟩ := macho_sign_then_locate f p so blob hs R hb
  exact ⟨g, h1, h2, by rw [macho_sign_limit f p so hs R, h3]⟩

/-- the two marker hypotheses of `macho_sign_then_verify_full` are derivable: `scanFile` refuses an image without __LINKEDIT
    (fix F44), and the recorded command has `cmdsize ≥ 56` and ends inside the command area -/
theorem macho_markers_derivable (f : Bytes) (p : SignParams) (so : SignOut) (hs : sign f p = .ok so) :
    so.plan.m.lePos ≠ 0 ∧ so.plan.m.lePos + 56 ≤ so.plan.m.nextLc := by
  exact scanOrig_lePos f _ (signOrig_patch f p so (sign_orig_of_sign f p so hs)).1

/-- an image signed in the fresh-region branch is `RegularImage`, and reserves the region `PatchSignature` computes, once its scan,
    the parser's command list and four conditions on the markers are known -/
theorem regular_of_fresh (f : Bytes) (p : SignParams) (m : Markers) (so : SignOut) (loads : List (Nat × Nat × Nat))
    (hso : signOrig f p = .ok so) (hscan : scanOrig f = .ok m) (hn : ¬ (m.sigLen : Int) ≥ estOf m p)
    (hacc : newFile f = .ok (m.be, loads))
    (h1 : ∀ e ∈ loads, e.2.1 = 0x1d → e.1 = m.loadCsStart ∧ e.2.2 = 16)
    (h2 : rd32 m.be f m.lePos = 0x19 ↔ m.is64 = true)
    (h3 : ((if m.loadCsStart = 0 then m.nextLc + 16 else m.nextLc : Nat) : Int) ≤ m.codeSize)
    (h4 : m.codeSize + m.sigLen ≤ f.length) :
    RegularImage f so ∧ so.plan.m = m ∧ so.plan.po.sigStart = freshSigStart m ∧
      so.plan.po.sigBufLen = align (estOf m p).toNat 8 := by
  obtain ⟨hm, F, HS⟩ := sign_fresh_facts f p so m hso hscan hn
  have hl := loadsOf_of_newFile f m.be loads hacc
  refine ⟨⟨?_, ?_, ?_, ?_, ?_⟩, hm, F.sigStart, F.sigBufLen⟩
  · rw [hm, hl]; exact hacc
  · rw [hm, hl]; exact h1
  · rw [hm]; exact h2
  · rw [hm, HS.len]; exact h3
  · rw [hm]; exact h4

open Demo in
/-- non-vacuity of `macho_sign_then_locate`: the minimal image is signed and is `Regular` (fresh-region branch, a load
    command is added; 16392 bytes are reserved at offset 120) -/
theorem macho_regular_demo : ∃ so, sign fGood p0 = .ok so ∧ Regular fGood so ∧ so.plan.po.sigStart = 120 ∧ so.plan.po.sigBufLen = 16392 := by
  obtain ⟨so, hso⟩ := Res.ok_of_isOk sign_fGood_ok
  obtain ⟨R, _, e1, e2⟩ := regular_of_fresh fGood p0 mGood so [(32, 0x19, 72)] hso scanOrig_fGood (by decide +kernel)
    (by decide +kernel) (by decide) (by decide +kernel) (by decide +kernel) (by decide +kernel)
  exact ⟨so, signNew_of fGood mGood so hso scanOrig_fGood scanNew_fGood (by decide +kernel) (by decide +kernel), R,
    by rw [e1]; decide +kernel, by rw [e2]; decide +kernel⟩

open Demo in
/-- non-vacuity, fresh region with an EXISTING LC_CODE_SIGNATURE command: the old region (16 bytes at offset 136) is too
    small, the command at 104 is overwritten in place, the old region is replaced by 16392 bytes -/
example : ∃ so, sign (fSigned 16) p0 = .ok so ∧ Regular (fSigned 16) so ∧ so.plan.m.loadCsStart = 104 ∧
    so.plan.po.sigStart = 136 ∧ so.plan.po.sigBufLen = 16392 := by
  obtain ⟨so, hso⟩ := Res.ok_of_isOk sign_fOld_ok
  obtain ⟨R, hm, e1, e2⟩ := regular_of_fresh (fSigned 16) p0 (mSigned 16) so [(32, 0x19, 72), (104, 0x1d, 16)] hso scanOrig_fOld
    (by decide +kernel) (by decide +kernel) (by decide) (by decide +kernel) (by decide +kernel) (by decide +kernel)
  exact ⟨so, signNew_of (fSigned 16) (mSigned 16) so hso scanOrig_fOld scanNew_fOld (by decide +kernel) (by decide +kernel), R,
    by rw [hm]; rfl, by rw [e1]; decide +kernel, by rw [e2]; decide +kernel⟩

open Demo in
/-- non-vacuity, reuse branch: the old region (16392 bytes at offset 136) is big enough, the header is not touched -/
example : ∃ so, sign (fSigned 16392) p0 = .ok so ∧ Regular (fSigned 16392) so ∧
    so.plan.po.newHeader = (fSigned 16392).take 120 ∧ so.plan.po.sigStart = 136 ∧ so.plan.po.sigBufLen = 16392 := by
  obtain ⟨so, hso⟩ := Res.ok_of_isOk sign_fReuse_ok
  have hsn := signNew_of (fSigned 16392) (mSigned 16392) so hso scanOrig_fReuse scanNew_fReuse (by decide +kernel) (by decide +kernel)
  obtain ⟨hm, hpo⟩ := sign_reuse_facts (fSigned 16392) p0 so (mSigned 16392) hso scanOrig_fReuse (by decide +kernel)
  -- the image has 16528 bytes: its length is computed from the lengths of its parts, the parser is run behind its
  -- length tests, which leaves the reads of the first 120 bytes
  have hlen := fSigned_length 16392 (by decide)
  have hacc : newFile (fSigned 16392) = .ok (false, [(32, 0x19, 72), (104, 0x1d, 16)]) := by
    rw [newFile_eq _ false 0xfeedfacf (by decide +kernel) (by rw [hlen]; decide) (by rw [hlen]; decide +kernel)]
    decide +kernel
  have hloads := loadsOf_of_newFile _ _ _ hacc
  refine ⟨so, hsn, ⟨?_, ?_, ?_, ?_, ?_⟩, by rw [hpo]; rfl, by rw [hpo]; rfl, by rw [hpo]; rfl⟩
  · rw [hm, hloads]; exact hacc
  · rw [hm, hloads]; decide
  · rw [hm]; decide +kernel
  · rw [hm, hpo]; decide +kernel
  · rw [hm, hlen]; decide

open Demo in
/-- The statement `macho_sign_then_verify_full` (C01_MachO.lean) is FALSE in the
    model.  Witness: `Demo.fSym`, a 144-byte 64-bit image with an (empty) LC_SYMTAB command in front of the __LINKEDIT
    segment command.  `sign` succeeds, all hypotheses of the statement hold (`lePos = 56`, `nextLc = 128`, `padding = 0`),
    the signed file exists — and the model's `locate` answers `err "unmodelled"`, because the model of
    `debug/macho.NewFile` does not decode LC_SYMTAB (`loadLoop` says so explicitly).
    This refutes only the STATEMENT (it lacks the hypothesis "the model's parser accepts the input", `Regular.accepts`):
    the real `debug/macho` parses LC_SYMTAB and relic verifies such a file.  It is NOT a finding about relic. -/
theorem not_macho_sign_then_verify_full : ¬ macho_sign_then_verify_full := by
  intro H
  obtain ⟨so, hso⟩ := Res.ok_of_isOk sign_fSym_ok
  have hsn := signNew_of fSym mSym so hso scanOrig_fSym scanNew_fSym (by decide +kernel) (by decide +kernel)
  obtain ⟨hm, F, HS⟩ := sign_fresh_facts fSym p0 so mSym hso scanOrig_fSym (by decide +kernel)
  have hpad : so.plan.po.padding = 0 := by rw [F.padding]; decide +kernel
  have hx : so.plan.po.newHeader.length = 144 := by rw [HS.len]; decide +kernel
  obtain ⟨g, hsf, hloc, _⟩ := H fSym p0 so [] hsn (by rw [hm]; decide) (by rw [hm]; decide) (Or.inl hpad) (Nat.zero_le _)
  obtain ⟨L, hw⟩ := fresh_signedFile fSym mSym _ so.plan.po [] F HS (by decide) (by decide) (by decide +kernel)
    (by rw [hx]; decide +kernel) (by decide +kernel) (Nat.zero_le _)
  rw [hw] at hsf
  injection hsf with hg
  subst hg
  -- the written file begins with the patched header buffer, a closed term; the parser is run on that
  rw [locate_written_err fSym _ _ _ _ _ _ L false 0xfeedfacf "unmodelled" (by rw [F.newHeader]; decide +kernel)
    (by rw [F.newHeader]; decide +kernel) (by rw [F.newHeader]; decide +kernel)] at hloc
  cases hloc

open Demo in
/-- Finding F-MACHO-4, fixed in /repo bd2b0c4; about the tree BEFORE the fix (`signOrig`).
    `Demo.fSlack` is the minimal image with `sizeofcmds = 80` while its only command has 72 bytes.  All fields of `Regular`
    hold; the old `Sign` succeeded; it put LC_CODE_SIGNATURE at `header + sizeofcmds = 112` and raised `ncmds` to 2 — and the
    parser, which looks for the second command behind the first one (at 104), reads `cmdsize = 0` from the slack:
    `locate` fails with "cmdsize" (`debug/macho`: "invalid command block size").  Replayed on the real
    `debug/macho.NewFile` with the header this model predicts: same error.  The current `scanFile` refuses the image:
    `macho_slack_refused`. -/
theorem macho_slack_breaks_orig : ∃ so, signOrig fSlack p0 = .ok so ∧
    newFile fSlack = .ok (so.plan.m.be, loadsOf fSlack) ∧
    (∀ e ∈ loadsOf fSlack, e.2.1 = 0x1d → e.1 = so.plan.m.loadCsStart ∧ e.2.2 = 16) ∧
    (rd32 so.plan.m.be fSlack so.plan.m.lePos = 0x19 ↔ so.plan.m.is64 = true) ∧
    (so.plan.po.newHeader.length : Int) ≤ so.plan.m.codeSize ∧
    so.plan.m.codeSize + so.plan.m.sigLen ≤ fSlack.length ∧
    so.plan.po.sigBufLen ≤ 10000000 ∧
    ∃ g, signedFile fSlack so.plan.po [] = .ok g ∧ locate g = .err "cmdsize" := by
  obtain ⟨so, hso⟩ := Res.ok_of_isOk sign_fSlack_ok
  obtain ⟨hm, F, HS⟩ := sign_fresh_facts fSlack p0 so mSlack hso scanOrig_fSlack (by decide +kernel)
  have e2 : so.plan.po.sigBufLen = 16392 := by rw [F.sigBufLen]; decide +kernel
  have hx : so.plan.po.newHeader.length = 128 := by rw [HS.len]; decide +kernel
  obtain ⟨L, hw⟩ := fresh_signedFile fSlack mSlack _ so.plan.po [] F HS (by decide) (by decide) (by decide +kernel)
    (by rw [hx]; decide +kernel) (by decide +kernel) (Nat.zero_le _)
  refine ⟨so, hso, by rw [hm]; decide +kernel, by rw [hm]; decide +kernel, by rw [hm]; decide +kernel,
    by rw [hm, hx]; decide +kernel, by rw [hm]; decide +kernel, by rw [e2]; decide, _, hw, ?_⟩
  -- the written file begins with the patched header buffer, a closed term; the parser is run on that
  exact locate_written_err fSlack _ _ _ _ _ _ L false 0xfeedfacf "cmdsize" (by rw [F.newHeader]; decide +kernel)
    (by rw [F.newHeader]; decide +kernel) (by rw [F.newHeader]; decide +kernel)

/-- Current tree, fix F-MACHO-4.  An image the old `scanFile` accepted, without an
    LC_CODE_SIGNATURE command, whose load commands do not fill `sizeofcmds` — `scanFile`'s loop over the `ncmds` commands
    ends before `header + sizeofcmds` — is refused by `scanFile`, hence by `Sign` with every parameter set: nothing is
    written.  (An image that already HAS an LC_CODE_SIGNATURE command is not affected by the guard, and does not need to
    be: that command is overwritten in place, no command is added — `noSlack` is only needed when `loadCsStart = 0`.) -/
theorem macho_slack_refused (f : Bytes) (m : Markers) (p : SignParams) (h : scanOrig f = .ok m) (hcs : m.loadCsStart = 0)
    (hsl : cmdEnd m.be f (rd32 m.be f 16) (hdrEndOf m.magic) < m.nextLc) :
    scan f = .err "slack" ∧ sign f p = .err "slack" := by
  have hr := scan_slack_refused f m h hcs (by omega)
  exact ⟨hr, sign_of_scan_err f p _ hr⟩

/-- with an LC_CODE_SIGNATURE command present the guard is inert: the scan is the old one -/
theorem macho_slack_with_signature_accepted (f : Bytes) (m : Markers) (h : scanOrig f = .ok m) (hcs : m.loadCsStart ≠ 0) :
    scan f = .ok m :=
  scan_of_orig_signed f m h hcs

open Demo in
/-- hypotheses of `macho_slack_refused` satisfiable: the witness of F-MACHO-4 -/
example : scanOrig fSlack = .ok mSlack ∧ mSlack.loadCsStart = 0 ∧
    cmdEnd mSlack.be fSlack (rd32 mSlack.be fSlack 16) (hdrEndOf mSlack.magic) < mSlack.nextLc ∧
    scan fSlack = .err "slack" ∧ sign fSlack p0 = .err "slack" :=
  ⟨scanOrig_fSlack, rfl, by decide +kernel, (macho_slack_refused fSlack mSlack p0 scanOrig_fSlack rfl (by decide +kernel)).1,
    (macho_slack_refused fSlack mSlack p0 scanOrig_fSlack rfl (by decide +kernel)).2⟩

end Relic.Props.C01
