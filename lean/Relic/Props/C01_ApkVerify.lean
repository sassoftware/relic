/-
  C01 (sign then verify), APK v2 at the structural level: what `Digest.Sign` emits (model `signBlock`: one signer, one
  signature record and one digest record with the same id chosen by `selectSigType`, the certificate chain with the
  leaf first, the leaf's SubjectPublicKeyInfo as public key, no attributes, wrapped by `makeSigBlock`) satisfies the
  acceptance conditions of the verifier model (`Relic.Props.C02.apk_accept_iff`), given
    * a correct signature scheme (the value `Sign` returned verifies over the signed-data bytes under the key),
    * the key is an RSA or ECDSA key and parses,
    * the content digest recomputed by the verifier equals the one that was signed (C05/C08: the digest does not
      depend on the signing block),
    * every chain certificate parses and one carries the key,
    * the v1 step does not fail.
  The tie (ops `APKV signblk`): the block relic's signer really writes equals `signBlock` of independently computed
  inputs byte for byte, and relic's verifier accepts the file.
-/
import Relic.Props.C02_ApkVerify
import Relic.Proofs.ApkCodec
namespace Relic.Props.C01
open Relic.ApkVerify Relic.Props.C02

theorem apk_sigTypeByID_select (h : HashAlg) (alg : PkAlg) (kind : KeyKind) (hk : kindOfAlg alg = some kind) :
    sigTypeByID (selectSigType h alg) = some ⟨h, alg, false⟩ := by
  cases h <;> cases alg <;> first | rfl | (simp [kindOfAlg] at hk)

/-- the signer `Digest.Sign` builds satisfies the verifier's conditions -/
theorem apk_signed_signer_ok (C : Crypto) (h : HashAlg) (alg : PkAlg) (kind : KeyKind) (digest : Bytes) (chain : List Bytes)
    (spki sigv : Bytes)
    (halg : kindOfAlg alg = some kind) (hkey : C.parseKey spki = some kind)
    (hsig : C.sigValid spki (selectSigType h alg) ((encSignedData (signSignedData (selectSigType h alg) digest chain)).drop 4) sigv = true)
    (hcd : ∃ cd, C.content = some cd ∧ cd h = digest)
    (hchain : ∀ c ∈ chain, (C.certSpki c).isSome) (hleaf : ∃ c ∈ chain, C.certSpki c = some spki)
    (hsd : unmarshalSignedData (encSignedData (signSignedData (selectSigType h alg) digest chain))
      = .ok (signSignedData (selectSigType h alg) digest chain)) :
    SignerOK C (signSigner (selectSigType h alg) digest chain spki sigv) := by
  have hst := apk_sigTypeByID_select h alg kind halg
  obtain ⟨cd, hc1, hc2⟩ := hcd
  refine ⟨by simp [signSigner], ⟨kind, hkey, ?_⟩, _, hsd, by simp [signSignedData], ⟨cd, hc1, ?_⟩, hchain, hleaf⟩
  · intro sig hm
    simp only [signSigner, List.mem_singleton] at hm
    subst hm
    exact ⟨_, hst, halg, hsig⟩
  · intro d hm
    simp only [signSignedData, List.mem_singleton] at hm
    subst hm
    exact ⟨_, hst, hc2.symm⟩

/-- all lengths that go into a uint32 prefix fit -/
def ApkSizesOK (digest : Bytes) (chain : List Bytes) (spki sigv : Bytes) : Prop :=
  (encSigners [signSigner 0 digest chain spki sigv]).length < 2 ^ 32

theorem apk_sign_then_verify (C : Crypto) (h : HashAlg) (alg : PkAlg) (kind : KeyKind) (digest : Bytes) (chain : List Bytes)
    (spki sigv : Bytes) (v1 : V1)
    (halg : kindOfAlg alg = some kind) (hkey : C.parseKey spki = some kind)
    (hsig : C.sigValid spki (selectSigType h alg) ((encSignedData (signSignedData (selectSigType h alg) digest chain)).drop 4) sigv = true)
    (hcd : ∃ cd, C.content = some cd ∧ cd h = digest)
    (hchain : ∀ c ∈ chain, (C.certSpki c).isSome) (hleaf : ∃ c ∈ chain, C.certSpki c = some spki)
    (hv1 : v1 ≠ V1.err)
    (hsize : ApkSizesOK digest chain spki sigv) :
    ∃ v, verify C (signBlock (selectSigType h alg) digest chain spki sigv) v1 = .ok v ∧ v.v2.length = 1 := by
  have hid : selectSigType h alg < 2 ^ 32 := by cases h <;> cases alg <;> decide
  have hsz : (encSigners [signSigner (selectSigType h alg) digest chain spki sigv]).length < 2 ^ 32 := by
    have : (encSigners [signSigner (selectSigType h alg) digest chain spki sigv]).length
        = (encSigners [signSigner 0 digest chain spki sigv]).length := by
      simp [encSigners, encSigner, signSigner, encSignedData, signSignedData, encAttrs, encAttr, encCerts, lp]
    rw [this]; exact hsize
  have hsd := unmarshalSignedData_enc_sign (selectSigType h alg) digest chain hid (by
    have := hsz
    simp only [encSigners, encSigner, signSigner, lp, List.flatMap_cons, List.flatMap_nil, List.length_append,
      leBytes_length, List.append_nil] at this
    omega)
  have hok := apk_signed_signer_ok C h alg kind digest chain spki sigv halg hkey hsig hcd hchain hleaf hsd
  have hgs : gapSigners (signBlock (selectSigType h alg) digest chain spki sigv)
      = .ok [signSigner (selectSigType h alg) digest chain spki sigv] :=
    gapSigners_signBlock _ digest chain spki sigv hid hsz
  have hacc : ApkAccepts C (signBlock (selectSigType h alg) digest chain spki sigv) v1 :=
    ⟨_, hgs, by intro s hm; simp only [List.mem_singleton] at hm; subst hm; exact hok, hv1, by intro e; cases e⟩
  obtain ⟨v, hv⟩ := (apk_accept_iff ..).mpr hacc
  obtain ⟨ss, a, _, len, _⟩ := apk_accept_implies _ _ _ _ hv
  rw [hgs] at a; cases a
  exact ⟨v, hv, len⟩

/-- non-vacuity: the toy table of C02 accepts the toy signer's block, with and without a v1 signature -/
example : ∃ v, verify apkToyC (signBlock (selectSigType .sha256 .rsa) [0xaa] [[1, 9], [4]] [1] [7]) (.sigs [[0x32]]) = .ok v ∧
    v.v2.length = 1 :=
  apk_sign_then_verify apkToyC .sha256 .rsa .rsa [0xaa] [[1, 9], [4]] [1] [7] (.sigs [[0x32]]) rfl rfl rfl ⟨_, rfl, rfl⟩
    (by decide) (by decide) (by decide) (by unfold ApkSizesOK; decide)

/-- the choice of `Digest.Sign` for a DSA key (id 0x0301) would be refused by the verifier ("unsupported public key
    algorithm"); Go's DSA keys are no `crypto.Signer`, so the signer cannot get there -/
theorem apk_dsa_signed_rejected (C : Crypto) (kind : KeyKind) (pub data v : Bytes) :
    verifySignature C pub kind data ⟨selectSigType .sha256 .dsa, v⟩ = .err "pubalg" := by
  simp [verifySignature, selectSigType, sigTypeByID, kindOfAlg]

end Relic.Props.C01
