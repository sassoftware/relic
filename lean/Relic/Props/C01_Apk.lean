/-
  C01 fragment — APK Signing Block: what `makeSigBlock` writes, `getSigBlock` and the id-value loop of `verify` read back.
  Model: Relic.Model.ApkSign (tied to signers/apk by the APK ops: real signing rounds, stored digest = specification digest).
-/
import Relic.Model.ApkSign
import Relic.Proofs.Codec
namespace Relic.Props.C01
open Relic.ApkSign

/-- **apk_block_framing.** The block `makeSigBlock` writes is the blob plus 44 bytes of framing, ends with the magic
    the reader looks for, and starts with the size field `getSigBlock` compares with `len - 8`. -/
theorem apk_block_framing (sblob : Bytes) :
    (makeSigBlock sblob).length = sblob.length + 44 ∧
    magic.isSuffixOf (makeSigBlock sblob) = true ∧
    (makeSigBlock sblob).take 8 = leBytes 8 ((makeSigBlock sblob).length - 8) := by
  have hlen : (makeSigBlock sblob).length = sblob.length + 44 := by
    simp [makeSigBlock, magic]; omega
  refine ⟨hlen, ?_, ?_⟩
  · rw [List.isSuffixOf_iff_suffix]
    exact ⟨leBytes 8 (8 + 4 + sblob.length + 8 + 16) ++ leBytes 8 (4 + sblob.length) ++ leBytes 4 sigApkV2 ++ sblob ++
      leBytes 8 (8 + 4 + sblob.length + 8 + 16), by simp [makeSigBlock]⟩
  · rw [hlen]
    have : sblob.length + 44 - 8 = 8 + 4 + sblob.length + 8 + 16 := by omega
    rw [this]
    simp [makeSigBlock]

/-- full strength, stated only, for this copy of the reader (`Relic.ApkSign.getSigBlock`, the unrepaired code, with `pairs`): for
    every blob below 2^32 bytes the reader returns the id-value area and the loop of `verify` yields exactly `[(0x7109871a, sblob)]`.
    No obstacle is known: for the repaired reader of `Relic.Model.ApkVerify` the same statement is proved
    (`ApkVerify.getSigBlock_make` with `v2Signers_encPair`, `Relic.Proofs.ApkCodec`), by steps that do not touch what the repair
    changed (blocks shorter than 32 bytes); no lemma relates the two copies of the framing. -/
def apk_sign_then_locate_full : Prop :=
  ∀ sblob : Bytes, sblob.length < 2 ^ 32 →
    ∃ area, getSigBlock (makeSigBlock sblob) = .ok area ∧ pairs area.length area = .ok [(sigApkV2, sblob)]

/-- instances of the full statement -/
example : ∃ area, getSigBlock (makeSigBlock [1, 2, 3]) = .ok area ∧ pairs area.length area = .ok [(sigApkV2, [1, 2, 3])] :=
  ⟨leBytes 8 7 ++ leBytes 4 sigApkV2 ++ [1, 2, 3], by decide +kernel, by decide +kernel⟩

/-- the reader's unchecked slices: a 16-byte "block" consisting of the magic alone, and a 24-byte one with consistent
    size fields, make `getSigBlock` panic (replayed by the `sigblock` ops) -/
example : getSigBlock magic = .panic "getSigBlock:blob[len-24:]" := by decide +kernel
example : getSigBlock (leBytes 8 16 ++ magic) = .panic "getSigBlock:blob[8:len-24]" := by decide +kernel

end Relic.Props.C01
