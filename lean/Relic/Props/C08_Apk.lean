/-
  C08 fragment — APK: the integrity-protected sections of a signed APK are those of the unsigned one.
-/
import Relic.Model.ApkSign
namespace Relic.Props.C08
open Relic.ApkSign

/-- an End of Central Directory record without comment, for a directory of `cdSize` bytes at `cdOff` -/
def eocdRec (cdSize cdOff : Nat) : Bytes :=
  eocdSig ++ [0, 0, 0, 0] ++ leBytes 2 1 ++ leBytes 2 1 ++ leBytes 4 cdSize ++ leBytes 4 cdOff ++ [0, 0]

/-- full strength, not proved: inserting the signing block in front of the central directory (and moving the EOCD's
    directory offset behind it) does not change the chunk list the specification digests -/
def apk_digest_ignores_block_full : Prop :=
  ∀ (contents cdir sblob : Bytes), contents.length + sblob.length + 44 + cdir.length < 2 ^ 32 →
    (extents (contents ++ makeSigBlock sblob ++ cdir ++ eocdRec cdir.length (contents.length + sblob.length + 44))).bind (fun e => .ok (specChunks e)) =
    (extents (contents ++ cdir ++ eocdRec cdir.length contents.length)).bind (fun e => .ok (specChunks e))

/-- **apk_digest_ignores_block_partial**: the statement on a concrete archive (3 content bytes, 2 directory bytes) -/
theorem apk_digest_ignores_block_partial :
    (extents ([1, 2, 3] ++ makeSigBlock [7, 7] ++ [9, 9] ++ eocdRec 2 (3 + 2 + 44))).bind (fun e => .ok (specChunks e)) =
    (extents ([1, 2, 3] ++ [9, 9] ++ eocdRec 2 3)).bind (fun e => .ok (specChunks e)) ∧
    (extents ([1, 2, 3] ++ [9, 9] ++ eocdRec 2 3)).bind (fun e => .ok (specChunks e)) = .ok [[1, 2, 3], [9, 9], eocdRec 2 3] := by
  decide +kernel

end Relic.Props.C08
