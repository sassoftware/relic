/-
  C01 fragment — JAR: what the signing pipeline writes is what the verifier looks for.
-/
import Relic.Proofs.Jar
namespace Relic.Props.C01
open Relic.Jar

/-- **jar_sign_layout.** When the modelled pipeline (`updateManifest` → `DigestManifest` → `insertSignature`) succeeds,
    the archive it lays out starts with `META-INF/`, the manifest that was digested, the signature file that is
    exactly `DigestManifest` of *that* manifest, and the PKCS#7 blob over exactly that signature file. -/
theorem jar_sign_layout (hash : Bytes → Bytes) (sign : Bytes → Bytes) (hn cb : Bytes) (so apk : Bool)
    (kk : Nat) (alias : Bytes) (ms out : List Member) (h : signJar hash sign hn cb so apk kk alias ms = .ok out) :
    ∃ mf sf ch, updateManifest hash hn ms = .ok (mf, ch) ∧ digestManifest hash hn cb so apk mf = .ok sf ∧
      out = signedMembers ms mf sf (sign sf) kk alias :=
  signJar_eq_ok.mp h

/-- **jar_signed_names_located.** For the alias `RELIC` the names `insertSignature` gives the signature file and the
    block are classified by `Verify` as signature file and block *with the same base*, and the manifest as the
    manifest: the verifier pairs exactly what the signer wrote (RSA and ECDSA keys). -/
theorem jar_signed_names_located :
    classify manifestName = (1, []) ∧
    (∀ kk, kk = 0 ∨ kk = 1 →
      classify (metaInf ++ (sigNames kk (asc "RELIC")).1) = (2, asc "RELIC") ∧
      (classify (metaInf ++ (sigNames kk (asc "RELIC")).2)) = (3, asc "RELIC")) := by
  refine ⟨by decide +kernel, fun kk h => ?_⟩
  rcases h with rfl | rfl <;> decide +kernel

set_option maxRecDepth 20000 in
/-- non-vacuity: a two-member archive signs in the model -/
example : (signJar (fun _ => asc "H") (fun _ => asc "S") (asc "SHA-256") (asc "x") false false 0 (asc "relic")
    [⟨manifestName, asc "Manifest-Version: 1.0\r\n\r\n"⟩, ⟨asc "a.txt", [1]⟩]).isOk = true := by decide +kernel

end Relic.Props.C01
