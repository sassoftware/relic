/-
  C11 (fragment): file-type detection reads a bounded prefix of arbitrary bytes — it never panics, never looks past
  its 65540-byte `bufio` buffer, and its verdict is a function of that prefix alone.

  Model: Relic.Model.Magic (`detectR` carries every Go slice expression of `lib/magic/magic.go` explicitly).
-/
import Relic.Proofs.MagicDeep
import Relic.Proofs.MagicExpected
import Relic.Generated.Magic
namespace Relic.Props.C11
open Relic.Magic

/-- For ALL byte strings: `Detect` returns a verdict; none of `d[n:]`, `blob[0x3c:0x3e]`, `blob[reloc:reloc+4]` leaves
    its range (the explicit-slice model equals the plain one). -/
theorem detect_total_no_panic (bs : Bytes) : detectR bs = .ok (detect bs) := detectWithR_eq rules bs

example : detectR [77, 90] = .ok .unknown := by decide

/-- never more than the buffer: at most `bufSize` = 65540 bytes can influence the verdict, at most that many are taken from the reader -/
theorem detect_inspects_at_most_buffer (bs : Bytes) : inspected bs ≤ bufSize ∧ consumed bs ≤ bufSize := by
  constructor
  · unfold inspected
    split
    · exact Nat.min_le_left _ _
    · decide
  · exact Nat.min_le_right _ _

/-- sharper: `e_lfanew` is read as a 16-bit value, so never more than 65535 + 4 bytes matter -/
theorem detect_inspects_at_most_65539 (bs : Bytes) : inspected bs ≤ 65539 := by
  unfold inspected
  split
  · have h : leVal ((bs.take 0x3e).drop 0x3c) < 256 ^ 2 := by rw [List.drop_take]; exact leVal_take_lt _ _
    simp only [bufSize]
    omega
  · decide

/-- 262 = 257 + 5: `ustar` at offset 257 is the farthest test of the table -/
theorem rules_bound : ∀ r ∈ rules, ∀ t ∈ r.tests, t.bound ≤ 262 := by decide

theorem rules_mzpe : ∀ r ∈ rules, r.act = .mzpe → r.tests = [.at 0 pMZ] := by decide

theorem rules_no_orig : ∀ r ∈ rules, r.act ≠ .mzpeOrig := by decide

theorem mzProbe_short (bs : Bytes) (h : (peekAny bs 0x3e).length ≠ 0x3e) : mzProbe bs = false := by
  unfold mzProbe
  simp [h]

theorem peekAny_3e (bs : Bytes) : peekAny bs 0x3e = bs.take 0x3e := peekAny_of_le bs (by decide)

/-- The verdict depends only on the first `inspected bs` bytes: 262, or up to `e_lfanew + 4` (at most `bufSize`) for a file that
    starts with `MZ`.  Any stream that agrees with `bs` there gets the same verdict. -/
theorem detect_agree_on_inspected (bs bs' : Bytes) (h : bs.take (inspected bs) = bs'.take (inspected bs)) :
    detect bs' = detect bs := by
  have hN : 262 ≤ inspected bs := by
    unfold inspected
    split
    · simp only [bufSize]; omega
    · exact Nat.le_refl _
  symm
  apply detectWith_congr
  intro r hr
  refine ⟨Rule.fires_congr h r (fun t ht => Nat.le_trans (rules_bound r hr t ht) hN), ?_⟩
  intro hf
  cases ha : r.act with
  | ret t => rfl
  | tar => rfl
  | mzpeOrig => exact absurd ha (rules_no_orig r hr)
  | mzpe =>
    simp only [runAction]
    have hts := rules_mzpe r hr ha
    have hmz : atPos bs pMZ 0 = true := by
      simpa [Rule.fires, hts, Test.eval] using hf
    have h3e : 0x3e ≤ inspected bs := by omega
    by_cases hl : 0x3e ≤ bs.length
    · have hi : inspected bs = min bufSize (max 262 (reloc bs + 4)) := by
        rw [inspected_eq, if_pos ⟨hmz, hl⟩]
      rw [mzProbe_congr h h3e (by rw [hi]; simp only [bufSize]; omega)]
    · have hs : (peekAny bs 0x3e).length ≠ 0x3e := by
        rw [peekAny_3e]; simp [List.length_take]; omega
      have hs' : (peekAny bs' 0x3e).length ≠ 0x3e := by
        rw [← peekAny_congr h (Nat.le_trans (Nat.min_le_left _ _) h3e)]; exact hs
      rw [mzProbe_short bs hs, mzProbe_short bs' hs']

/-- `Detect` is a function of the first `bufSize` bytes: what lies behind them is never read -/
theorem detect_prefix_determined (bs : Bytes) : detect (bs.take bufSize) = detect bs := by
  apply detect_agree_on_inspected
  have hle := (detect_inspects_at_most_buffer bs).1
  simp [List.take_take, Nat.min_eq_left hle]

theorem detect_agree_on_buffer (bs bs' : Bytes) (h : bs.take bufSize = bs'.take bufSize) : detect bs = detect bs' := by
  rw [← detect_prefix_determined bs, ← detect_prefix_determined bs', h]

/-- a PE image whose header starts at 65535, the largest 16-bit `e_lfanew` (`MZ`, zeros, `e_lfanew = 0xFFFF`, zeros up to
    65535, `PE\0` and a last byte): the last byte `Detect` can see is byte 65538 -/
def deepPE (last : UInt8) : Bytes := deepFile 65473 [80, 69, 0, last]

/-- 65539 is tight: two files that differ only in byte 65538 get different verdicts (computed structurally: the files are
    too long to evaluate); and files without the `MZ` prefix are decided by 262 bytes, also tight (`detect_262_tight`) -/
theorem detect_buffer_bound_tight :
    (deepPE 0).take 65538 = (deepPE 1).take 65538 ∧ detect (deepPE 0) = .pecoff ∧ detect (deepPE 1) = .unknown ∧
    inspected (deepPE 0) = 65539 := by
  refine ⟨deepFile_take_init 65473 rfl [80, 69, 0] 0 1 rfl, ?_, ?_, deepFile_inspected 65473 rfl _⟩
  · rw [deepPE, deepFile_detect 65473 rfl _ rfl]; decide
  · rw [deepPE, deepFile_detect 65473 rfl _ rfl]; decide

def tarLike (last : UInt8) : Bytes := [0x89] ++ List.replicate 256 0 ++ [117, 115, 116, 97, last]

theorem detect_262_tight :
    (tarLike 114).take 261 = (tarLike 0).take 261 ∧ detect (tarLike 114) = .unknown ∧ detect (tarLike 0) = .pgp ∧
    inspected (tarLike 0) = 262 := by decide +kernel

/-- gzip / xz (finding FM7): `DetectCompressed` used to open the decoder and look for a tar header in the output.  Whatever
    the decoder delivered (or whether it failed) never entered the verdict — `detectTar` returns Unknown — so the code
    without the decoder (`detectCompressed`, the code as it is now) returns the same pair for EVERY input, member list and
    decoder behaviour.  This is the justification for having removed the decoding (and with it the allocation of a
    dictionary sized by the stream header). -/
theorem detectCompressed_codec_irrelevant (bs : Bytes) (zn : Option (List Bytes)) (inner : Option Bytes) :
    detectCompressedOrigP bs zn inner = detectCompressed bs zn := by
  have hi : innerType inner = .unknown := by
    unfold innerType
    cases inner with
    | none => rfl
    | some d => simp
  simp [detectCompressedOrigP, detectCompressed, hi]

theorem detectCompressed_prefix_determined (bs : Bytes) (zn : Option (List Bytes)) :
    detectCompressed (bs.take bufSize) zn = detectCompressed bs zn := by
  have ht : (bs.take bufSize).take bufSize = bs.take bufSize := by simp [List.take_take]
  have h1 : ∀ pat : Bytes, pat.length ≤ bufSize → atPos (bs.take bufSize) pat 0 = atPos bs pat 0 := fun pat hp =>
    atPos_congr (N := bufSize) ht pat 0 (by omega)
  unfold detectCompressed
  rw [h1 pGzip (by decide), h1 pXz (by decide), h1 pZip (by decide), detect_prefix_determined]

example : detectCompressed [0x1f, 0x8b, 8] none = (.unknown, .gzip) := by decide

/-- the decision list and the helper functions in the source now are the ones these theorems are about (regenerated from
    lib/magic/magic.go by tools/extractmagic on every run).  The C11 copy of four conjuncts of `C01.generated_rules_eq` /
    `C01.generated_sources_eq`, so that the C11 check does not depend on the C01 files. -/
theorem detect_table_is_current :
    Generated.Magic.rules = rules ∧ Generated.Magic.unknown = [] ∧ Generated.Magic.mzBody = Expected.mzBody ∧
    Generated.Magic.helpers = Expected.helpers :=
  ⟨rfl, rfl, rfl, rfl⟩

end Relic.Props.C11
