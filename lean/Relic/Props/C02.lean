/-
  C02 — Any change to signed content or to the signature makes verification fail.
  PE/COFF part: the hashed stream determines every protected byte (injectivity of the digest input), so under
  collision-freeness of the hash on the two streams in question a change to a protected byte changes the
  imprint.  Other formats add their theorems in `Relic/Props/C02_*.lean`.
-/
import Relic.Props.C08
namespace Relic.Props.C02
open Relic Relic.PE

theorem seg_seg_prefix (f : Bytes) (n a b : Nat) (hb : b ≤ n) : seg (seg f 0 n) a b = seg f a b := by
  simpa using Relic.PE.seg_seg f 0 n a b (by omega)

theorem seg_append_left (x y : Bytes) (a b : Nat) (hb : b ≤ x.length) : seg (x ++ y) a b = seg x a b :=
  Relic.PE.seg_append_left x y a b hb

theorem hashed_prefix (f : Bytes) (d : Digest) (H : DigestOk f d) (x y : Nat) (hy : y ≤ d.m.peStart + 88) :
    seg d.hashed x y = seg f x y := by
  have := H.dd
  have := H.ddLe
  have := H.origLe
  have l : (seg f 0 (d.m.peStart + 88)).length = d.m.peStart + 88 := by
    rw [seg_length f _ _ (by rcases H.dd4 with h | h <;> omega)]
    omega
  rw [H.hashed, List.append_assoc, List.append_assoc, seg_append_left _ _ _ _ (by omega), seg_seg_prefix _ _ _ _ hy]

/-- **pe_hashed_injective.** Two files whose digests succeed with the same hashed stream agree on every protected
    byte: everything before the checksum, everything between the checksum and the certificate-table directory
    entry, and everything from there to the end of image (up to the ≤ 7 zero bytes of alignment padding, which
    the format itself cannot distinguish from trailing zero data).  The positions of the carve-outs are
    themselves read from the stream, so they agree too. -/
theorem pe_hashed_injective (a b : Bytes) (da db : Digest) (ha : 64 ≤ u32 a 0x3c) (hb : 64 ≤ u32 b 0x3c)
    (ea : DigestPE a = .ok da) (eb : DigestPE b = .ok db) (hs : da.hashed = db.hashed) :
    da.m.peStart = db.m.peStart ∧ da.m.posDDCert = db.m.posDDCert ∧
    seg a 0 (da.m.peStart + 88) = seg b 0 (da.m.peStart + 88) ∧
    seg a (da.m.peStart + 92) da.m.posDDCert = seg b (da.m.peStart + 92) da.m.posDDCert ∧
    seg a (da.m.posDDCert + 8) da.origSize ++ List.replicate (da.certStart - da.origSize) 0
      = seg b (db.m.posDDCert + 8) db.origSize ++ List.replicate (db.certStart - db.origSize) 0 := by
  have A := DigestPE_spec a da ha ea
  have B := DigestPE_spec b db hb eb
  -- the positions of the carve-outs are read from the head of the stream
  have e32 : u32 a 0x3c = u32 b 0x3c := by
    unfold u32; rw [← hashed_prefix a da A _ _ (by omega), hs, hashed_prefix b db B _ _ (by omega)]
  have hP : da.m.peStart = db.m.peStart := by rw [A.pe, B.pe, e32]
  have e16 : u16 a (db.m.peStart + 24) = u16 b (db.m.peStart + 24) := by
    unfold u16; rw [← hashed_prefix a da A _ _ (by omega), hs, hashed_prefix b db B _ _ (by omega)]
  obtain ⟨_, hDD⟩ := B.posDD_eq A e32 e16
  refine ⟨hP, hDD, ?_⟩
  -- split the two streams at equal positions
  have := A.ddGe
  have := A.ddLe
  have := A.origLe
  have := B.ddLe
  have := B.origLe
  have e := hs
  rw [A.hashed, B.hashed, ← hP, ← hDD] at e
  simp only [List.append_assoc] at e
  obtain ⟨e1, e'⟩ := List.append_inj e (by rw [seg_length a _ _ (by omega), seg_length b _ _ (by omega)])
  obtain ⟨e2, e3⟩ := List.append_inj e' (by rw [seg_length a _ _ (by omega), seg_length b _ _ (by omega)])
  exact ⟨e1, e2, by rw [← hDD]; exact e3⟩

/-- consequence under collision-freeness of the hash *on these two streams*: equal imprints ⇒ equal protected bytes -/
theorem pe_tamper_evident (H : Bytes → Bytes) (a b : Bytes) (da db : Digest) (ha : 64 ≤ u32 a 0x3c) (hb : 64 ≤ u32 b 0x3c)
    (ea : DigestPE a = .ok da) (eb : DigestPE b = .ok db)
    (collisionFree : H da.hashed = H db.hashed → da.hashed = db.hashed) (himp : H da.hashed = H db.hashed) :
    seg a 0 (da.m.peStart + 88) = seg b 0 (da.m.peStart + 88) ∧
    seg a (da.m.peStart + 92) da.m.posDDCert = seg b (da.m.peStart + 92) da.m.posDDCert :=
  let r := pe_hashed_injective a b da db ha hb ea eb (collisionFree himp)
  ⟨r.2.2.1, r.2.2.2.1⟩

/-- **pe_no_trailing.** A file that carries a certificate table and digests successfully ends exactly where the
    table ends: appended payloads are refused ("trailing garbage after existing certificate"). -/
theorem pe_no_trailing (f : Bytes) (d : Digest) (hp : 64 ≤ u32 f 0x3c) (e : DigestPE f = .ok d) (hs : d.m.certSize ≠ 0) :
    f.length = d.m.certStart + d.m.certSize :=
  ((DigestPE_spec f d hp e).signed hs).2

set_option maxRecDepth 100000 in
example : 64 ≤ u32 C08.minimalPE 0x3c ∧ C08.minimalPE_ok = true := ⟨C08.minimalPE_facts.1, C08.minimalPE_facts.2.1⟩

end Relic.Props.C02
