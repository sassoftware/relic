/-
  Property C04 — a key is used only for callers entitled to it.

  Theorems about `Relic.Model.Authz` / `Relic.Model.RealIP` (certificate mode).  `handleWith fixed`
  returns one outcome for *every* client the map iteration in `Authenticate` could stop at, so a
  statement `∀ o ∈ handleWith …` holds for every such choice.
  `fixed = true` (`handle`) is /repo's `config.GetKey` (a dangling alias is an error: finding F2 repaired); `fixed = false`
  the tree as found.  Also the route table of `Server.Handler()` (`routes_guarded`) and which entry the token layer ends up
  using (F50, `tokenUses`).
-/
import Relic.Proofs.Authz
import Relic.Proofs.AuthzPolicy
import Relic.Generated.Routes
namespace Relic.Props.C04
open Relic.Authz Relic.RealIP Relic.Proofs.Authz

theorem handleWith_cases (fixed : Bool) (cfg : Config) (req : Req) (o : Outcome) (ho : o ∈ handleWith fixed cfg req) :
    (o.events = [] ∧ o.isPanic = false ∧ (o.is2xx = true → req.ep.isPublic = true)) ∨
    ∃ ch c, (transportView cfg req).2 = .ok (some ch) ∧ c ∈ candidates cfg ch ∧
      o = view fixed cfg c (userName c ch) (transportView cfg req).1 req.ep := by
  rcases handleWith_mem ho with ⟨e, rfl⟩ | ⟨hp, ip, rfl⟩ | ⟨p, rfl⟩ | ⟨rfl, _⟩ | h
  · exact .inl ⟨rfl, rfl, nofun⟩
  · exact .inl ⟨rfl, rfl, fun _ => hp⟩
  · exact .inl ⟨rfl, rfl, nofun⟩
  · exact .inl ⟨rfl, rfl, nofun⟩
  · exact .inr h

/-- **C04, main statement.**  If `/sign` or `/keys/{k}` answers 2xx or makes any call into the token layer, then
    the caller presented a certificate that the configuration recognises as a client sharing a role with the key
    the name resolves to, and every token call went to that key's token.  For every choice among matching CA clients
    (`o` ranges over all of them), for the tree as found and the fixed tree alike. -/
theorem sign_only_if_entitled (fixed : Bool) (cfg : Config) (req : Req) (n : String) (o : Outcome)
    (ho : o ∈ handleWith fixed cfg req) (hn : req.ep.keyName = some n)
    (hs : o.is2xx = true ∨ o.events ≠ []) : EntitledFor cfg req n o := by
  have hpub := keyName_not_public hn
  rcases handleWith_cases fixed cfg req o ho with ⟨hev, _, h2⟩ | ⟨ch, c, hpc, hc, rfl⟩
  · rcases hs with hs | hs
    · rw [h2 hs] at hpub
      cases hpub
    · exact absurd hev hs
  · obtain ⟨t, hr, ha, hev⟩ := Relic.Proofs.AuthzPolicy.view_entitled hn hs
    obtain ⟨hcm, hrec⟩ := candidates_mem hc
    exact ⟨ch, c, t, by simp [presented, hpc], hcm, hrec, hr, (allowed_iff c t).1 ha, hev⟩

/-- **Contrapositive, with the response codes** (fixed tree): a caller who is not entitled is refused with
    401/403 (400 for a missing parameter, 500 for an undecodable proxy header), no token event, no panic. -/
theorem not_entitled_refused (cfg : Config) (req : Req) (n : String) (o : Outcome)
    (ho : o ∈ handle cfg req) (hn : req.ep.keyName = some n) (hne : ¬ Entitled cfg req n) :
    Refused req o := by
  apply handle_refused cfg req n o ho hn
  intro ch c hp hc kc hg
  obtain ⟨hcm, hrec⟩ := candidates_mem hc
  cases ha : allowed c kc with
  | false => rfl
  | true =>
    exact absurd ⟨ch, c, kc, hp, hcm, hrec, (getKeyWith_ok hg).1, (allowed_iff c kc).1 ha⟩ hne

/-- **Malformed entries** (fixed tree): for a name whose entry is a dangling alias, an alias of an entry without a
    token (in particular alias-of-alias), or a key without a token, `GetKey` returns an error and every request for
    that name is refused — never a panic, never a token event — or server construction already refused the
    configuration.  No hypothesis on the configuration. -/
theorem malformed_config_is_error (cfg : Config) (req : Req) (n : String) (o : Outcome)
    (hm : malformed cfg n = true) (hn : req.ep.keyName = some n) (ho : o ∈ handle cfg req) :
    (∃ e, getKey cfg n = .err e) ∧ Refused req o := by
  obtain ⟨e, he⟩ := malformed_getKey_err hm
  refine ⟨⟨e, he⟩, handle_refused cfg req n o ho hn ?_⟩
  intro ch c _ _ kc hg
  rw [he] at hg
  cases hg

/-- **F2 (tree as found).**  A dangling alias makes `config.GetKey` dereference nil: the handler panics
    (RecoveryMiddleware answers 500) instead of refusing with 403.  Witness: key `a` is an alias of the
    undefined `nokey`; a recognised client asks for `/keys/a`. -/
def f2Cfg : Config :=
  { clients := [{ key := "L0", valid64 := true, nick := "n0", roles := ["r0"], ca := none }],
    keys := [{ name := "a", token := "", alias := "nokey", roles := [], hide := false }],
    tokens := ["t0"], proxiesOK := true, inNets := fun _ => false }

def f2Req : Req :=
  { remoteAddr := "1.2.3.4:5", tls := some { fp := "L0", anchors := [] }, xff := [], sslCert := .absent,
    ep := .getKey "a" }

theorem malformed_config_panics_unfixed :
    malformed f2Cfg "a" = true ∧
    handleWith false f2Cfg f2Req = [.panic "config.GetKey:nil-alias" "1.2.3.4"] ∧
    handleWith true f2Cfg f2Req = [forbidden "1.2.3.4" "n0"] := by
  refine ⟨by decide +kernel, by decide +kernel, by decide +kernel⟩

/-- the fixed tree never panics, on any endpoint -/
theorem no_panic (cfg : Config) (req : Req) (o : Outcome) (ho : o ∈ handle cfg req) : o.isPanic = false := by
  rcases handleWith_cases true cfg req o ho with ⟨_, h, _⟩ | ⟨ch, c, _, _, rfl⟩
  · exact h
  · exact Relic.Proofs.AuthzPolicy.view_no_panic ..

/-- **Key listing.**  When the server started (every entry with roles names a configured token), no token is
    named "", and `Keys` is a map (an entry is found under its own name): the listing is exactly the sorted list of
    non-hidden names for which `/sign` would pass authorisation for this client. -/
theorem list_exact (cfg : Config) (c : Client) (hst : startCheck cfg = none) (hnt : "" ∉ cfg.tokens)
    (hd : ∀ k ∈ cfg.keys, lookupKey cfg k.name = some k) :
    listKeys cfg c = specList cfg c ∧ (listKeys cfg c).Pairwise (· ≤ ·) ∧
    ∀ n, n ∈ listKeys cfg c ↔
      ∃ k ∈ cfg.keys, k.name = n ∧ hidden cfg k = false ∧ signAuthorised cfg c n = true :=
  Relic.Proofs.AuthzPolicy.listWith_exact (allowed c) cfg (fun _ ht ha => allowed_has_token hst hnt ht ha) hd

/-- why the hypothesis on token names is needed: with a token named "" an entry without `token:` passes start-up,
    is listed, but cannot be signed with -/
theorem list_exact_needs_named_tokens :
    let cfg : Config := { clients := [], keys := [{ name := "k", token := "", alias := "", roles := ["r"], hide := false }],
                          tokens := [""], proxiesOK := true, inNets := fun _ => false }
    let c : Client := { key := "L0", valid64 := true, nick := "n", roles := ["r"], ca := none }
    startCheck cfg = none ∧ listKeys cfg c = ["k"] ∧ signAuthorised cfg c "k" = false := by
  refine ⟨by decide +kernel, by decide +kernel, by decide +kernel⟩

/-- **Untrusted headers.**  If the direct peer is not a trusted proxy, the address the server derives and the peer
    certificates it authenticates are those of the connection itself, whatever `X-Forwarded-For` and
    `Ssl-Client-Cert` say; hence the whole response is independent of both headers.
    (`stripPort` twice, as in the Go code: the realip middleware stores `StripPort(RemoteAddr)` back into `RemoteAddr`, and
    the views and the access log apply `StripPort` to that.  It is not idempotent: "[a:1]" ↦ "a:1" ↦ "a".) -/
theorem untrusted_headers_ignored (fixed : Bool) (cfg : Config) (req : Req) (xff' : List String) (ssl' : HdrCert)
    (hu : hopTrusted cfg.inNets (stripPort req.remoteAddr) = false) :
    transportView cfg { req with xff := xff', sslCert := ssl' } = (stripPort (stripPort req.remoteAddr), .ok req.tls) ∧
    handleWith fixed cfg { req with xff := xff', sslCert := ssl' } = handleWith fixed cfg req := by
  have tv := transportView_untrusted cfg { req with xff := xff', sslCert := ssl' } hu
  refine ⟨tv, ?_⟩
  unfold handleWith
  rw [transportView_untrusted cfg req hu, show transportView cfg { req with xff := xff', sslCert := ssl' } = _ from tv]

/-- `Ssl-Client-Cert` is consulted only for proxied requests -/
theorem ssl_header_only_if_proxied (req : Req) : peerCerts false req = .ok req.tls := by
  simp [peerCerts]

/-- **Derived address.**  `trustedClient` computes exactly the specified address (`specAddr`): the peer itself unless it
    is a trusted proxy; then the right-most hop that is not a trusted proxy, else the left-most hop, else the peer. -/
theorem derived_addr_spec (inNets : String → Bool) (remote : String) (hops : List String) :
    (trustedClientHops inNets remote hops).1 = specAddr inNets remote hops := by
  unfold trustedClientHops specAddr
  by_cases ht : hopTrusted inNets (stripPort remote) = true
  · simp only [ht, Bool.not_true, Bool.false_eq_true, ↓reduceIte]
    rw [← List.getLast?_filter]
    cases (hops.filter fun h => !hopTrusted inNets h).getLast? with
    | some h => rfl
    | none => cases hops <;> rfl
  · simp [ht]

/-- trusted peer: the address is the right-most hop that is not itself a trusted proxy -/
theorem trusted_uses_rightmost_untrusted (inNets : String → Bool) (remote : String) (pre suf : List String) (h : String)
    (ht : hopTrusted inNets (stripPort remote) = true) (hh : hopTrusted inNets h = false)
    (hs : ∀ x ∈ suf, hopTrusted inNets x = true) :
    trustedClientHops inNets remote (pre ++ h :: suf) = (h, true) := by
  unfold trustedClientHops
  simp only [ht, Bool.not_true, Bool.false_eq_true, ↓reduceIte]
  have : (pre ++ h :: suf).reverse.find? (fun h => !hopTrusted inNets h) = some h := by
    rw [List.reverse_append, List.reverse_cons, List.append_assoc, List.find?_append]
    have : suf.reverse.find? (fun h => !hopTrusted inNets h) = none := by
      rw [List.find?_eq_none]
      intro x hx
      simp [hs x (List.mem_reverse.1 hx)]
    simp [this, hh]
  rw [this]

/-- trusted peer, every hop trusted: the left-most hop; no hop at all: the peer itself, and the request is not proxied -/
theorem trusted_all_hops_trusted (inNets : String → Bool) (remote : String) (hops : List String)
    (ht : hopTrusted inNets (stripPort remote) = true) (hs : ∀ x ∈ hops, hopTrusted inNets x = true) :
    trustedClientHops inNets remote hops = ((hops.head?.getD (stripPort remote)), !hops.isEmpty) := by
  unfold trustedClientHops
  simp only [ht, Bool.not_true, Bool.false_eq_true, ↓reduceIte]
  have : hops.reverse.find? (fun h => !hopTrusted inNets h) = none := by
    rw [List.find?_eq_none]
    intro x hx
    simp [hs x (List.mem_reverse.1 hx)]
  rw [this]
  cases hops <;> rfl

def endpointRoute : Endpoint → String × String
  | .health => ("GET", "/health")
  | .directory => ("GET", "/directory")
  | .home => ("GET", "/")
  | .listKeys => ("GET", "/list_keys")
  | .getKey _ => ("GET", "/keys/{key}")
  | .sign _ _ _ => ("POST", "/sign")

def modelRoutes : List (String × String × Bool) :=
  [Endpoint.health, .directory, .home, .listKeys, .getKey "", .sign "" true true].map fun e =>
    ((endpointRoute e).1, (endpointRoute e).2, !e.isPublic)

open Relic.Generated.Routes in
/-- **Routes.**  In `Server.Handler()` (server/server.go, extracted into `Relic.Generated.Routes`): every statement was understood by the extractor, the
    root router is what is returned, `realIP` is the outermost middleware and the recovery middleware is installed,
    every route other than GET /health and GET /directory is registered on the router wrapped by
    `authmodel.Middleware`, and the route table is exactly the model's. -/
theorem routes_guarded :
    unknown = [] ∧ returnsRoot = true ∧ uses.head? = some "s.realIP" ∧ "zhttp.RecoveryMiddleware" ∈ uses ∧
    (∀ r ∈ routes, r.viaAuthRouter = true ∨ (r.method = "GET" ∧ (r.path = "/health" ∨ r.path = "/directory"))) ∧
    routes.map (fun r => (r.method, r.path, r.viaAuthRouter)) = modelRoutes := by
  decide +kernel

/-- two CA clients (`ca1`: anchor 0, role r0; `ca2`: anchors 0 and 1, role r9), a fingerprint client, keys with an alias,
    a hidden key, a dangling alias, an alias of an alias; 10.0.0.0/8 trusted -/
def exCfg : Config :=
  { clients := [{ key := "ca1", valid64 := false, nick := "n1", roles := ["r0"], ca := some [0] },
                { key := "ca2", valid64 := false, nick := "n2", roles := ["r9"], ca := some [0, 1] },
                { key := "L1", valid64 := true, nick := "", roles := ["r1"], ca := none }],
    keys := [{ name := "k1", token := "t0", alias := "", roles := ["r0", "r1"], hide := false },
             { name := "a", token := "", alias := "k1", roles := [], hide := false },
             { name := "h", token := "t0", alias := "", roles := ["r0"], hide := true },
             { name := "d", token := "", alias := "nokey", roles := [], hide := false },
             { name := "aa", token := "", alias := "a", roles := [], hide := false },
             { name := "K0", token := "t1", alias := "", roles := ["r0"], hide := false }],
    tokens := ["t0", "t1"], proxiesOK := true,
    inNets := fun a => a == "10.0.0.1" }

def exReq (ep : Endpoint) : Req :=
  { remoteAddr := "1.2.3.4:999", tls := some { fp := "L0", anchors := [0] }, xff := ["6.6.6.6"],
    sslCert := .certs (some { fp := "L1", anchors := [] }), ep }

/-- the premise of `sign_only_if_entitled` is met, and map iteration order matters: the same request is answered 200
    (client n1 chosen) or 403 (client n2 chosen) -/
example : handle exCfg (exReq (.sign "a" true true)) =
    [.resp { status := 200, ip := "1.2.3.4", user := "n1",
             events := [⟨"getkey", "t0", "k1"⟩, ⟨"sign", "t0", "k1"⟩] },
     forbidden "1.2.3.4" "n2"] := by decide +kernel

example : handle exCfg (exReq (.getKey "a")) =
    [.resp { status := 200, ip := "1.2.3.4", user := "n1", events := [⟨"getkey", "t0", "k1"⟩] },
     forbidden "1.2.3.4" "n2"] := by decide +kernel

/-- what the token layer resolves a name it is handed to.  F50, the key a token uses is the key that was authorised:
    every token (file, PKCS#11, cloud, worker) resolves the name it is handed through `config.GetKey` once more.
    Events therefore carry the name of the entry the TOKEN ends up using.  `serveSign` hands the token the requested
    name (same resolution, same entry: `EntitledFor`'s last conjunct).  `serveGetKey` handed it the name of the
    RESOLVED entry (`keyConf.Name()`), i.e. a second alias hop: with `build -> mid -> prod`, where `mid` carries its own
    token and roles, a caller entitled to `mid` only was shown `prod`'s certificate.  Repaired in /repo (bc89e5c: the
    requested name is passed); the witness below is the configuration on which the old code disclosed the wrong key. -/
def tokenUses (cfg : Config) (passed : String) : Option Key :=
  match getKey cfg passed with
  | .ok k => some k
  | _ => none

/-- handing the token the REQUESTED name makes it use exactly the authorised entry (the code as repaired) -/
theorem token_uses_authorised_key (cfg : Config) (n : String) (kc : Key) (h : getKey cfg n = .ok kc) :
    tokenUses cfg n = some kc := by
  simp [tokenUses, h]

def f50Cfg : Config :=
  { clients := [{ key := "L0", valid64 := true, nick := "dev", roles := ["dev"], ca := none }],
    keys := [{ name := "build", token := "", alias := "mid", roles := [], hide := false },
             { name := "mid", token := "t0", alias := "prod", roles := ["dev"], hide := false },
             { name := "prod", token := "t0", alias := "", roles := ["release"], hide := false }],
    tokens := ["t0"], proxiesOK := true, inNets := fun _ => false }

/-- Handing the token the RESOLVED entry's name (the old `serveGetKey`) makes it use an
    entry the caller shares no role with: `build` resolves to `mid` (roles: dev, caller entitled), the token resolves
    `mid` to `prod` (roles: release). -/
theorem getkey_double_hop_orig :
    ∃ mid prod c, getKey f50Cfg "build" = .ok mid ∧ c ∈ f50Cfg.clients ∧ allowed c mid = true ∧
      tokenUses f50Cfg mid.name = some prod ∧ allowed c prod = false ∧ prod.name ≠ mid.name := by
  refine ⟨⟨"mid", "t0", "prod", ["dev"], false⟩, ⟨"prod", "t0", "", ["release"], false⟩,
    ⟨"L0", true, "dev", ["dev"], none⟩, by decide +kernel, by decide +kernel, by decide +kernel,
    by decide +kernel, by decide +kernel, by decide +kernel⟩

/-- premises of `not_entitled_refused` / `malformed_config_is_error`: dangling alias and alias of alias -/
example : malformed exCfg "d" = true ∧ malformed exCfg "aa" = true ∧
    handle exCfg (exReq (.sign "d" true true)) = [forbidden "1.2.3.4" "n1", forbidden "1.2.3.4" "n2"] ∧
    handle exCfg (exReq (.getKey "aa")) = [forbidden "1.2.3.4" "n1", forbidden "1.2.3.4" "n2"] := by
  refine ⟨by decide +kernel, by decide +kernel, by decide +kernel, by decide +kernel⟩

/-- premises of `list_exact`, with a hidden key, aliases of all shapes and a name order that differs from map order -/
example : startCheck exCfg = none ∧ "" ∉ exCfg.tokens ∧ (∀ k ∈ exCfg.keys, lookupKey exCfg k.name = some k) ∧
    listKeys exCfg { key := "ca1", valid64 := false, nick := "n1", roles := ["r0"], ca := some [0] } = ["K0", "a", "k1"] := by
  refine ⟨by decide +kernel, by decide +kernel, by decide +kernel, by decide +kernel⟩

/-- premise of `untrusted_headers_ignored`, and its contrast: the same headers from a trusted proxy do change the
    identity (L1, a fingerprint client) and the address -/
example : hopTrusted exCfg.inNets (stripPort (exReq .home).remoteAddr) = false ∧
    handle exCfg (exReq .home) = [.resp { status := 200, ip := "1.2.3.4", user := "n1" },
                                  .resp { status := 200, ip := "1.2.3.4", user := "n2" }] ∧
    handle exCfg { exReq .home with remoteAddr := "10.0.0.1:7" } =
      [.resp { status := 200, ip := "6.6.6.6", user := "~L1" }] := by
  refine ⟨by decide +kernel, by decide +kernel, by decide +kernel⟩

/-- `trusted_uses_rightmost_untrusted` at work: a trusted peer, two forwarded hops, the right-most is a trusted proxy -/
example : trustedClient exCfg.inNets "10.0.0.1:7" ["6.6.6.6, 7.7.7.7", "10.0.0.1"] = ("7.7.7.7", true) := by decide +kernel

end Relic.Props.C04
