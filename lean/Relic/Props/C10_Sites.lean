/-
  Property C10, fragment "attach sites": at every place where relic embeds a timestamp token, which value is
  time-stamped, whether the token is compared with it before the artefact leaves, and what the verifier accepts.

  Theorems about `Relic.Model.TsaPool` sections 4 and 5.  Tied to the real code by the TSX `site` ops: every signer
  module signs a fixture with a harness-owned key and the fake authority, the produced file goes through relic's
  verifier and `VerifyChain`; modes direct / cache miss / foreign cache entry / off / all authorities failing.
-/
import Relic.Props.C10
import Relic.Props.C10_Rate
namespace Relic.Props.C10
open Relic.Tsa Relic.TsaX

/-- **site_countersig_binds** — at every site (token attributes of a CMS signer info, `as:Timestamp` of a manifest,
`EncodedTime` of a VSIX signature, cosign's annotation) the verifier reports a countersignature only when the
embedded token covers the signature value of the enclosing signature and is correctly signed -/
theorem site_countersig_binds (H : Nat → Nat) (g : Bool) (a : ArtX) (cs : CounterSig)
    (h : verifyX H g a = .ok (some cs)) : ∃ t, a.token = some t ∧ Covers H t a.sigValue ∧ cs.cert = t.tsa := by
  obtain ⟨t, ht, hv | ⟨_, _, hv⟩⟩ := verifyX_some h
  · exact ⟨t, ht, (verifyRfc_covers hv).1, (verifyRfc_covers hv).2.1⟩
  · exact ⟨t, ht, verifyMs_covers hv⟩

/-- a token present is never ignored: the verifier answers with a countersignature or not at all -/
theorem site_token_never_ignored (H : Nat → Nat) (g : Bool) (a : ArtX) (t : Token) (ht : a.token = some t) :
    verifyX H g a ≠ .ok none := by
  unfold verifyX
  rw [ht]
  cases a.site <;> exact liftCs_ne_none _

/-- **site_judged_at_attested_time** — once a countersignature is reported, the chains are judged at the time it
attests (`validity_time`), and that time is the token's own: genTime of the TSTInfo for RFC 3161 tokens -/
theorem site_judged_at_attested_time (H : Nat → Nat) (g : Bool) (a : ArtX) (cs : CounterSig)
    (chainOK : Nat → Usage → Int → Bool) (now : Int) (h : verifyX H g a = .ok (some cs)) :
    (verifyChain chainOK now a.leaf (some cs) = .ok () ↔
      chainOK cs.cert .timestamping (cs.time.getD now) = true ∧ chainOK a.leaf .requested (cs.time.getD now) = true) ∧
    (∀ t i, a.token = some t → t.content = .tst i → cs.time = i.time) := by
  refine ⟨by simpa using validity_time chainOK now a.leaf (some cs), ?_⟩
  intro t i ht hc
  obtain ⟨t', ht', hv | ⟨_, _, hv⟩⟩ := verifyX_some h
  all_goals
    rw [ht] at ht'
    cases ht'
  · obtain ⟨_, _, _, i', hc', hti⟩ := verifyRfc_covers hv
    rw [hc] at hc'
    cases hc'
    exact hti
  · -- a legacy token accepted by VerifyMicrosoftToken has data content, not a TSTInfo
    rw [((verifyMsToken_eq_ok _ _ _).mp hv).2.1] at hc
    cases hc

/-- **attach_site_genuine** — every attach site (CMS with either attribute OID, ClickOnce manifest, VSIX since fix
a163120, cosign): whatever the time-stamper is (the client, the limiter, the cache with any content, a chain of
them), a signature that comes out carries exactly the token the time-stamper returned for the request made with THIS
signature value, and that token covers this value and is correctly signed. -/
theorem attach_site_genuine (H : Nat → Nat) (g : Bool) (site : Site) (ed leaf : Nat) (o : Outcome) (a : ArtX)
    (hs : site ≠ .unsupported) (h : (signSite H g site ed leaf (some o)).1 = .ok a) :
    ∃ s t, o.res = .ok (s, t) ∧ a = ⟨site, ed, leaf, some t⟩ ∧ Covers H t ed := by
  obtain ⟨s, t, cs, hres, rfl, hv⟩ := signSite_ok hs h
  refine ⟨s, t, hres, rfl, ?_⟩
  cases cs with
  | none => exact absurd hv (site_token_never_ignored H g _ t rfl)
  | some c =>
    obtain ⟨t', ht', hcov, _⟩ := site_countersig_binds H g _ c hv
    cases ht'
    exact hcov

/-- pe-coff, msi, cab, ps, xap, appx (both signatures), cat, jar, dmg, macho, xar: `pkcs9.TimestampAndMarshal`.  The
time-stamped value is the EncryptedDigest of the signer info; the token goes under the Authenticode or the RFC 3161
attribute OID; `Verify` + `VerifyOptionalTimestamp` run before the blob is marshalled. -/
theorem attach_site_cms_genuine (H : Nat → Nat) (g : Bool) (auth : Bool) (ed leaf : Nat) (o : Outcome) (a : ArtX)
    (h : (signSite H g (if auth then .cmsAuth else .cmsPlain) ed leaf (some o)).1 = .ok a) :
    ∃ s t, o.res = .ok (s, t) ∧ a = ⟨if auth then .cmsAuth else .cmsPlain, ed, leaf, some t⟩ ∧ Covers H t ed := by
  cases auth
  · exact attach_site_genuine H g .cmsPlain ed leaf o a (by simp) h
  · exact attach_site_genuine H g .cmsAuth ed leaf o a (by simp) h

/-- ClickOnce manifests: `SignedManifest.AddTimestamp` → `VerifyTimestamp` (RFC 3161 or legacy, by content type) on the
raw SignatureValue of the authenticode signature, before the document is replaced -/
theorem attach_site_manifest_genuine (H : Nat → Nat) (g : Bool) (ed leaf : Nat) (o : Outcome) (a : ArtX)
    (h : (signSite H g .manifest ed leaf (some o)).1 = .ok a) :
    ∃ s t, o.res = .ok (s, t) ∧ a = ⟨.manifest, ed, leaf, some t⟩ ∧ Covers H t ed :=
  attach_site_genuine H g .manifest ed leaf o a (by simp) h

/-- cosign: `pkcs9.Verify(timestamp, rawSignature)` before the annotation is written -/
theorem attach_site_cosign_genuine (H : Nat → Nat) (g : Bool) (ed leaf : Nat) (o : Outcome) (a : ArtX)
    (h : (signSite H g .cosign ed leaf (some o)).1 = .ok a) :
    ∃ s t, o.res = .ok (s, t) ∧ a = ⟨.cosign, ed, leaf, some t⟩ ∧ Covers H t ed :=
  attach_site_genuine H g .cosign ed leaf o a (by simp) h

/-- **cached_token_still_checked_sites** — cache, limiter and attach site composed: whatever the memcache holds under the request's
key (a token for another signature, another authority's token, anything that parses), whatever the limiter does, no
attach site lets a signature out unless the token it got covers this signature value -/
theorem cached_token_still_checked_sites (D : Nat → List Char) (H : Nat → Nat) (c : Cfg) (conf : TsConf) (name : Name)
    (memcache up : Bool) (sh : Shared) (now : Nat) (ctx : Ctx) (world : Url → Wire) (site : Site) (rfcFlag : Bool)
    (hash nonce ed leaf : Nat) (a : ArtX) (hs : site ≠ .unsupported)
    (h : (signSite H c.guards site ed leaf
      (some (stamperCall D H c conf name memcache up sh now ctx world (site.legacy rfcFlag) hash nonce ed).1.outcome)).1 = .ok a) :
    ∃ t, a.token = some t ∧ a.sigValue = ed ∧ Covers H t ed := by
  obtain ⟨s, t, _, ha, hcov⟩ := attach_site_genuine H c.guards site ed leaf _ a hs h
  exact ⟨t, by rw [ha], by rw [ha], hcov⟩

/-- **attach_site_vsix_genuine** — signers/vsix `makeSignature` (current code, fix a163120: `pkcs9.Verify(tst,
SignatureValue)` before the token is embedded): what `attach_site_vsix_genuine_full_orig` below asks of the unrepaired signer,
for the current one -/
theorem attach_site_vsix_genuine (H : Nat → Nat) (g : Bool) (ed leaf : Nat) (o : Outcome) (a : ArtX)
    (h : (signSite H g .vsix ed leaf (some o)).1 = .ok a) :
    ∃ s t, o.res = .ok (s, t) ∧ a = ⟨.vsix, ed, leaf, some t⟩ ∧ Covers H t ed :=
  attach_site_genuine H g .vsix ed leaf o a (by simp) h

/-- a genuine token of the trusted authority, issued for signature value 777 (imprint 1777 = `H 777` for the `H := (· + 1000)` of
    the witnesses below) -/
def foreignTok : Token := ⟨88, true, 1, true, .tst ⟨some 99, 1777, true, some 0⟩, none, 1, true⟩

/-- regression witness of F52 on the current code: a planted entry under the request's memcache key is refused at
signing time by the VSIX site like by every other one; no authority is asked (the cache answered) -/
theorem vsix_foreign_cache_entry_refused :
    let D : Nat → List Char := fun n => List.replicate 61 'x' ++ Nat.toDigits 10 (n % 1000)
    let key := cacheKey D ⟨false, [], 5, 100⟩
    let good : Token := ⟨1, true, 1, true, .tst ⟨some 7, 1100, true, some 0⟩, none, 1, true⟩
    let out := signOp D (· + 1000) Cfg.fixed (some ⟨[0], [], []⟩) ⟨true, []⟩ "" true true ⟨[(key, .tok foreignTok)], none⟩ 0
      Ctx.background (fun _ => .http 200 (.der 0 good false)) .vsix true 5 7 100 10
    out.1 = .err "selfcheck:imprint" ∧ out.2.contacted = [] := by
  decide +kernel

example :
    let D : Nat → List Char := fun n => List.replicate 61 'x' ++ Nat.toDigits 10 (n % 1000)
    let key := cacheKey D ⟨false, [], 5, 100⟩
    (signOp D (· + 1000) Cfg.fixed (some ⟨[0], [], []⟩) ⟨true, []⟩ "" true true ⟨[(key, .tok foreignTok)], none⟩ 0
      Ctx.background (fun _ => .reset) .cmsAuth true 5 7 100 10).1 = .err "selfcheck:imprint" := by
  decide +kernel

/-- the unrepaired signer modules differ from the current ones at the VSIX site only -/
theorem signSiteOrig_eq (H : Nat → Nat) (g : Bool) (site : Site) (ed leaf : Nat) (ts : Option Outcome) (hs : site ≠ .vsix) :
    signSiteOrig H g site ed leaf ts = signSite H g site ed leaf ts := by
  cases site <;> first | exact absurd rfl hs | skip
  all_goals
    cases ts with
    | none => rfl
    | some o => simp only [signSiteOrig, signSite, attachXOrig, Site.selfChecksOrig, if_true]

/-- the full-strength statement for the VSIX signer as it was before the repair -/
def attach_site_vsix_genuine_full_orig : Prop :=
  ∀ (H : Nat → Nat) (g : Bool) (ed leaf : Nat) (o : Outcome) (a : ArtX),
    (signSiteOrig H g .vsix ed leaf (some o)).1 = .ok a →
    ∃ s t, o.res = .ok (s, t) ∧ a = ⟨.vsix, ed, leaf, some t⟩ ∧ Covers H t ed

/-- **attach_site_vsix_unchecked_orig** (finding F52, fixed by a163120) — it was false: `makeSignature` embedded whatever
`Timestamp` returned.  Witness: the cache answers the request for signature value 100 with a token issued for 777;
signing succeeds and the package carries that token. -/
theorem attach_site_vsix_unchecked_orig : ¬ attach_site_vsix_genuine_full_orig := by
  intro h
  obtain ⟨s, t, hres, _, hcov⟩ := h (· + 1000) true 100 10 ⟨.ok (.cache, foreignTok), [], []⟩
    ⟨.vsix, 100, 10, some foreignTok⟩ (by decide)
  have : t = foreignTok := by
    have : (Src.cache, foreignTok) = (s, t) := by simpa using hres
    exact (Prod.mk.inj this).2.symm
  subst this
  rcases hcov.2.2 with ⟨i, hc, hi, _⟩ | hd
  · have : i = ⟨some 99, 1777, true, some 0⟩ := by simpa [foreignTok] using hc.symm
    subst this
    simp at hi
  · simp [foreignTok] at hd

/-- the same through the whole pipeline of the unrepaired tree: a planted entry under the request's memcache key
reached the package although every authority would have answered correctly (none was asked), and the package did
not verify -/
theorem vsix_unchecked_through_cache_orig :
    let D : Nat → List Char := fun n => List.replicate 61 'x' ++ Nat.toDigits 10 (n % 1000)
    let conf : TsConf := ⟨[0], [], []⟩
    let key := cacheKey D ⟨false, [], 5, 100⟩
    let good : Token := ⟨1, true, 1, true, .tst ⟨some 7, 1100, true, some 0⟩, none, 1, true⟩
    let out := signOpOrig D (· + 1000) Cfg.fixed (some conf) ⟨true, []⟩ "" true true ⟨[(key, .tok foreignTok)], none⟩ 0
      Ctx.background (fun _ => .http 200 (.der 0 good false)) .vsix true 5 7 100 10
    out.1 = .ok ⟨.vsix, 100, 10, some foreignTok⟩ ∧ out.2.contacted = [] ∧
    verifyX (· + 1000) true ⟨.vsix, 100, 10, some foreignTok⟩ = .err "imprint" := by
  decide +kernel

/-- **vsix_foreign_token_rejected_by_verifier** — such a package never verifies: relic's `checkTimestamp` (and any
verifier that compares the imprint) refuses a token that does not cover the SignatureValue; it is not ignored either -/
theorem vsix_foreign_token_rejected_by_verifier (H : Nat → Nat) (g : Bool) (ed leaf : Nat) (t : Token)
    (hn : ¬ Covers H t ed) : ∀ r, verifyX H g ⟨.vsix, ed, leaf, some t⟩ ≠ .ok r := by
  intro r h
  cases r with
  | none => exact site_token_never_ignored H g _ t rfl h
  | some cs =>
    obtain ⟨t', ht', hcov, _⟩ := site_countersig_binds H g _ cs h
    have : t = t' := by simpa using ht'
    subst this
    exact hn hcov

/-- a success of the client comes from an authority of the selected list whose reply the client accepted -/
theorem clientTs_ok_accepted (c : Cfg) (conf : TsConf) (name : Name) (r : Req) (pre : Bool) (world : Url → Wire)
    (s : Src) (t : Token) (h : (clientTs c conf name r pre world).res = .ok (s, t)) :
    ∃ u, doOne c r (world u) = .ok t := by
  unfold clientTs at h
  cases hsel : selectPool conf name r.legacy with
  | ok us =>
    rw [hsel] at h
    obtain ⟨s', hs'⟩ := globalise_ok h
    obtain ⟨k, w, _, hk, hok, _⟩ := timestamp_ok hs'
    rw [List.getElem?_map] at hk
    cases hu : us[k]? with
    | none => simp [hu] at hk
    | some u => exact ⟨u, by rw [show world u = w by simpa [hu] using hk]; exact hok⟩
  | err e => rw [hsel] at h; cases h
  | panic p => rw [hsel] at h; cases h
  | diverge => rw [hsel] at h; cases h

/-- **attach_site_vsix_genuine_partial_orig** — what did hold for the unrepaired VSIX signer: when the time-stamper is the
client itself, with or without the rate limiter but WITHOUT a memcache, the embedded token is one an authority of the
selected pool sent in a reply the client accepted for this very request (`accept_iff`), hence it covers this
SignatureValue.  What was missing for the full statement, a check of the token at the site, is what a163120 added. -/
theorem attach_site_vsix_genuine_partial_orig (D : Nat → List Char) (H : Nat → Nat) (c : Cfg) (conf : TsConf) (name : Name)
    (up : Bool) (sh : Shared) (now : Nat) (ctx : Ctx) (world : Url → Wire) (hash nonce ed leaf : Nat) (a : ArtX)
    (halg : c.algChecked = true)
    (h : (signSiteOrig H c.guards .vsix ed leaf
      (some (stamperCall D H c conf name false up sh now ctx world false hash nonce ed).1.outcome)).1 = .ok a) :
    ∃ t u, a = ⟨.vsix, ed, leaf, some t⟩ ∧ Genuine c ⟨false, nonce, H ed⟩ (world u) t ∧ Covers H t ed := by
  obtain ⟨s, t, hres, ha⟩ : ∃ s t,
      (stamperCall D H c conf name false up sh now ctx world false hash nonce ed).1.outcome.res = .ok (s, t) ∧
      a = ⟨.vsix, ed, leaf, some t⟩ := by
    simp only [signSiteOrig, attachXOrig, Site.selfChecksOrig] at h
    cases ho : (stamperCall D H c conf name false up sh now ctx world false hash nonce ed).1.outcome.res with
    | ok p => obtain ⟨s, t⟩ := p; simp only [ho] at h; exact ⟨s, t, rfl, by simpa using h.symm⟩
    | err e => simp [ho] at h
    | panic p => simp [ho] at h
    | diverge => simp [ho] at h
  -- the outcome is the client's, possibly delayed
  have hcl : ∃ pre, (clientTs c conf name ⟨false, nonce, H ed⟩ pre world).res = .ok (s, t) := by
    rw [stamperCall_nocache] at hres
    cases hl : sh.lim with
    | none =>
      simp only [hl, limitedOpt] at hres
      exact ⟨_, hres⟩
    | some l =>
      simp only [hl, limitedOpt] at hres
      obtain ⟨t1, _, heq⟩ := rate_limit_never_skips l now ctx _ (s, t) hres
      rw [heq] at hres
      exact ⟨_, hres⟩
  obtain ⟨pre, hcl⟩ := hcl
  obtain ⟨u, hok⟩ := clientTs_ok_accepted c conf name _ pre world s t hcl
  have hgen := (accept_iff c ⟨false, nonce, H ed⟩ (world u) t rfl).1 hok
  refine ⟨t, u, ha, hgen, ?_⟩
  obtain ⟨st, i, _, _, hcont, _, hmd, hsig, _, himp, hal⟩ := hgen
  exact ⟨hsig, hmd, Or.inl ⟨i, hcont, himp, hal halg⟩⟩

/-- non-vacuity (current code): VSIX, no memcache, limiter present (bucket empty: the call waits one period), first authority down,
second one genuine: the package carries the second one's token and verifies -/
example :
    let good : Token := ⟨2, true, 1, true, .tst ⟨some 7, 1100, true, some (-20)⟩, none, 1, true⟩
    let call := stamperCall (fun _ => []) (· + 1000) Cfg.fixed ⟨[0, 1], [], []⟩ [] false false ⟨[], some ⟨some 100, 1, 0, 0⟩⟩ 0
      Ctx.background (fun u => if u = 1 then .http 200 (.der 0 good false) else .reset) false 5 7 100
    (signSite (· + 1000) true .vsix 100 10 (some call.1.outcome)).1 = .ok ⟨.vsix, 100, 10, some good⟩ ∧
    call.1.time = 100 ∧ call.1.outcome.contacted = [0, 1] ∧
    verifyX (· + 1000) true ⟨.vsix, 100, 10, some good⟩ = .ok (some ⟨some (-20), 1, 2⟩) := by decide +kernel

/-- non-vacuity of `site_judged_at_attested_time`: leaf valid from day -30 to day -10, token attests day -20: accepted
now (day 0); the same artefact without the token is not -/
example :
    let good : Token := ⟨2, true, 1, true, .tst ⟨some 7, 1100, true, some (-20)⟩, none, 1, true⟩
    let chain : Nat → Usage → Int → Bool := fun cert u t => match u with
      | .timestamping => cert = 1
      | .requested => cert = 10 && decide (-30 ≤ t ∧ t ≤ -10)
    verifyChain chain 0 10 (some ⟨some (-20), 1, 2⟩) = .ok () ∧ verifyChain chain 0 10 none = .err "chain" ∧
    verifyX (· + 1000) true ⟨.cmsAuth, 100, 10, some good⟩ = .ok (some ⟨some (-20), 1, 2⟩) := by decide +kernel

/-- only the ClickOnce manifest signer ever makes a legacy (Microsoft) request, and only with `rfc3161-timestamp=false` -/
theorem site_request_style (s : Site) (rfcFlag : Bool) : s.legacy rfcFlag = true ↔ s = .manifest ∧ rfcFlag = false := by
  cases s <;> cases rfcFlag <;> simp [Site.legacy]

/-- the CMS sites are the flows `p7` / `p7ac` of `Relic.Model.Tsa`: same check, same verdict -/
theorem cms_site_agrees_with_flow (H : Nat → Nat) (g : Bool) (ed leaf : Nat) (t : Token) :
    (attachX H g .cmsPlain ed leaf t = .ok ⟨.cmsPlain, ed, leaf, some t⟩ ↔
      attachAndCheck H g .p7 ed leaf t = .ok ⟨ed, leaf, .tsToken t⟩) ∧
    (attachX H g .cmsAuth ed leaf t = .ok ⟨.cmsAuth, ed, leaf, some t⟩ ↔
      attachAndCheck H g .p7ac ed leaf t = .ok ⟨ed, leaf, .spcToken t⟩) := by
  constructor <;>
  · simp only [attachX, verifyX, attachAndCheck, verifyAttach, mkAttach]
    cases verifyRfcToken H g t ed <;> simp [liftCs]

/-- **site_attribute_oid** — which attribute carries the token: the Authenticode formats (pe-coff, msi, cab, ps, xap,
appx, cat) use Microsoft's RFC 3161 OID, the other CMS formats (jar, dmg, macho, xar) id-aa-timeStampToken; the
verifier (`VerifyPkcs7`) looks under both -/
theorem site_attribute_oid (typ : String) (s : Site) (n : Nat) (h : siteOfType typ = some (s, n)) :
    s.oid = if typ ∈ ["pe-coff", "msi", "cab", "ps", "xap", "appx", "cat"] then some "spc"
            else if typ ∈ ["jar", "dmg", "macho", "xar"] then some "tst" else none := by
  unfold siteOfType at h
  split at h <;> simp at h <;> (obtain ⟨hs, _⟩ := h; subst hs; simp [Site.oid])

example : siteOfType "appx" = some (.cmsAuth, 2) := by decide +kernel
example : siteOfType "apk" = some (.unsupported, 0) := by decide +kernel

end Relic.Props.C10
