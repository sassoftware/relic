/-
  C02 — Any change to signed content makes verification fail.   Apple code signatures: the DECISION LOGIC of relic's
  verifier (`csblob.Verify`, `checkCDHashes`, `checkPlistHashes`, `bestDir`, `VerifyPages`, `machos.Verify`,
  `verifyFat`), over the executable model `Relic.CsVerify`.  All theorems quantify over the hash family `H`, the
  parsed signature, the CMS table and the parameters.

  Acceptance is ONE equivalence (`csblob_accept_iff` / `macho_accept_iff`: the exact condition as a conjunction, from
  `CsVerify.verifyPlan_ok`); every "… change rejected" theorem is an instance of it.
  The model carries the two repairs as switches (`Fixes`): `tree` = ⟨true, true⟩ = the code as it stands (what the
  correspondence runs against), `Fixes.orig` = the code before the fix commits.  Theorems about the code as it stands come at full
  strength (`csblob_every_directory_vouched`, `ipa_bundle_files_bound`); the defects of the original code are theorems about
  `Fixes.orig` named `…_orig` (F-CSV-1, repaired by 994e09d; F-CSV-2, repaired by 91159af; replayed as regression ops from
  corpus/C02/csverify_findings.ops, expected: rejection); what the current code still does not bind is stated as theorems with
  witnesses, marked "stated gap" (replayed on the real code as `prot=0` ops).
-/
import Relic.Proofs.CsVerify
namespace Relic.Props.C02
open Relic.CodeDir Relic.CsVerify

/-- `csblob.Verify(blob, params)` succeeds on a parsed signature `s` **iff**
    * for EVERY code directory `c` of the superblob (`DirOk`): each special slot the directory carries (non-zero) equals
      the digest, under the directory's own hash, of the blob present — −7 DER entitlements, −5 entitlements,
      −2 requirements (an absent blob hashes as the empty string), −6 the rep-specific parameter, and, only when the
      caller supplies them, −1 Info.plist and −3 CodeResources;
    * there is at least one code directory and a CMS (not ad-hoc);
    * (`CmsOk`) the CMS's embedded content, if any, equals the FIRST directory; there is a signer info; every signer info
      has a known digest algorithm, (with attributes) a messageDigest attribute equal to the digest of the first
      directory, and passes the rest of the PKCS#7 layer;
    * (`AttrsOk`, on the LAST signer info) the CDHashes2 attribute, if present, decodes and every listed (algorithm,
      digest) names a known hash for which a directory exists, and equals the digest of the last directory of that hash
      (`CdhOk`); the cdhashes plist attribute, if present, decodes and lists EXACTLY one truncated digest per directory,
      in order (`PlistOk`: count and positional equality); the timestamp check passes. -/
theorem csblob_accept_iff (H : Nat → Bytes → Bytes) (fx : Fixes) (P : CsVerify.Params) (s : Sig) :
    (verifyPlan fx P s).run H = .ok () ↔
      (∀ c ∈ s.dirs, DirOk H P s c) ∧
      ∃ d0 rest, s.dirs = d0 :: rest ∧ ∃ c, s.cms = some c ∧ CmsOk H d0.raw c ∧ AttrsOk H fx s.dirs c :=
  verifyPlan_ok H fx P s

/-- `machos.Verify` = `csblob.Verify` and then (unless digests are skipped) `VerifyPages` of the
    best directory over `file[0 : CodeSize())`. -/
theorem macho_accept_iff (H : Nat → Bytes → Bytes) (fx : Fixes) (P : CsVerify.Params) (s : Sig) (file : Bytes) (skip : Bool) :
    (machoPlan fx P s file skip).run H = .ok () ↔
      Accepts H fx P s ∧ (skip = true ∨ ∃ b, bestDir s.dirs = some b ∧ (pagesPlan b (codeReader b file)).run H = .ok ()) := by
  unfold machoPlan
  rw [run_seq, verifyPlan_ok]
  cases skip with
  | true => simp [run_pass]
  | false =>
    cases hb : bestDir s.dirs with
    | none => simp [run_fail]
    | some b => simp

/-- which directory decides the pages: a member of the superblob of maximal hash type -/
theorem bestDir_is_member_of_max_type (dirs : List CD) (b : CD) (h : bestDir dirs = some b) :
    b ∈ dirs ∧ ∀ y ∈ dirs, y.d.hdr.hashType ≤ b.d.hdr.hashType := by
  rcases bestDir_mem_max dirs with ⟨_, h0⟩ | ⟨x, hx, hm, hall⟩
  · rw [h0] at h; cases h
  · rw [hx] at h; cases h; exact ⟨hm, hall⟩

/-- For a regular paged directory (what relic's signer writes: one non-zero slot per page, code
    limit = length of the reader's content): `VerifyPages` accepts iff slot `i` is the digest of page `i`, for all `i`. -/
theorem pages_accept_iff (H : Nat → Bytes → Bytes) (b : CD) (r : Bytes)
    (hk : 0 < b.d.hdr.pageShift ∧ b.d.hdr.pageShift ≤ 24) (hlim : codeSize b.d.hdr = (r.length : Int))
    (hn : b.d.code.length = (pages (2 ^ b.d.hdr.pageShift) r).length) (hz : ∀ e ∈ b.d.code, allZero e = false) :
    (pagesPlan b r).run H = .ok () ↔ b.d.code = (pages (2 ^ b.d.hdr.pageShift) r).map (H b.alg) := by
  rw [pagesPlan_paged b r hk, hlim]
  exact pageLoop_ok H b.alg _ (Nat.two_pow_pos _) b.d.code r hn hz

/-- the plist attribute enforces the COUNT: as many listed hashes as code directories.  (The seeded relaxation of
    `checkPlistHashes` to "every listed hash is found" drops exactly this.) -/
theorem plist_count_enforced (H : Nat → Bytes → Bytes) (fx : Fixes) (P : CsVerify.Params) (s : Sig) (c : CmsV) (si : SignerV) (L : List Bytes)
    (hc : s.cms = some c) (hsi : c.signers.getLast? = some si) (hp : si.plist = .val L)
    (hacc : (verifyPlan fx P s).run H = .ok ()) : L.length = s.dirs.length := by
  have hpl := (accepts_last_signer H fx P s c si hc hsi hacc).2.1
  rw [hp] at hpl
  have : L = s.dirs.map (computedAt H s.dirs) := hpl
  rw [this, List.length_map]

/-- A superblob with more (or fewer) code directories than the signed plist lists is
    rejected — whatever the extra directory contains, whatever its slot or hash type. -/
theorem extra_codedir_rejected (H : Nat → Bytes → Bytes) (fx : Fixes) (P : CsVerify.Params) (s : Sig) (c : CmsV) (si : SignerV) (L : List Bytes)
    (hc : s.cms = some c) (hsi : c.signers.getLast? = some si) (hp : si.plist = .val L)
    (hne : s.dirs.length ≠ L.length) : (verifyPlan fx P s).run H ≠ .ok () := by
  intro hacc
  exact hne (plist_count_enforced H fx P s c si L hc hsi hp hacc).symm

/-- stripping a vouched alternate (a downgrade to the weaker directory) is the same statement -/
theorem strip_codedir_rejected (H : Nat → Bytes → Bytes) (fx : Fixes) (P : CsVerify.Params) (s : Sig) (c : CmsV) (si : SignerV) (L : List Bytes)
    (hc : s.cms = some c) (hsi : c.signers.getLast? = some si) (hp : si.plist = .val L)
    (hlt : s.dirs.length < L.length) : (verifyPlan fx P s).run H ≠ .ok () :=
  extra_codedir_rejected H fx P s c si L hc hsi hp (by omega)

theorem filter_alg_singleton : ∀ (dirs : List CD), dirs.Pairwise (fun a b => a.alg ≠ b.alg) → ∀ c ∈ dirs,
    dirs.filter (fun x => x.alg == c.alg) = [c] := by
  intro dirs
  induction dirs with
  | nil => intro _ c hc; cases hc
  | cons d ds ih =>
    intro hp c hc
    rw [List.pairwise_cons] at hp
    rcases List.mem_cons.mp hc with rfl | hc
    · have : ds.filter (fun x => x.alg == c.alg) = [] := by
        rw [List.filter_eq_nil_iff]
        intro x hx
        have := hp.1 x hx
        simp only [beq_iff_eq]
        exact fun h => this h.symm
      simp [this]
    · have hne : d.alg ≠ c.alg := hp.1 c hc
      have : (d.alg == c.alg) = false := by simpa using hne
      rw [List.filter_cons, this]
      exact ih hp.2 c hc

/-- a signed plist without repetition, when it is the list of the directories' truncated digests, holds the digest of
    every directory at its position: distinct entries ⇒ distinct hash functions ⇒ every directory is the last of its
    hash function -/
theorem plist_vouches (H : Nat → Bytes → Bytes) (dirs : List CD) (L : List Bytes) (hL : L = dirs.map (computedAt H dirs))
    (hnd : L.Nodup) (x : CD) (hx : x ∈ dirs) : (H x.alg x.raw).take 20 ∈ L := by
  have hpw : dirs.Pairwise (fun a b => a.alg ≠ b.alg) := by
    rw [hL] at hnd
    refine List.Pairwise.of_map (computedAt H dirs) ?_ hnd
    intro a b hab heq
    apply hab
    simp only [computedAt, heq]
  have hlast : lastRaw dirs x.alg = x.raw := by
    simp [lastRaw, lastWithAlg, filter_alg_singleton dirs hpw x hx]
  rw [hL, List.mem_map]
  exact ⟨x, hx, by simp only [computedAt, hlast]⟩

/-- When the signer info carries the cdhashes plist with pairwise distinct entries
    (a signer lists the hashes of its distinct directories), acceptance implies that EVERY code directory of the
    superblob is one the signer vouched for: its own truncated digest is in the signed list, at its position.  So a
    superblob carrying a directory whose hash is not in the list is rejected. -/
theorem alt_codedir_unvouched_rejected (H : Nat → Bytes → Bytes) (fx : Fixes) (P : CsVerify.Params) (s : Sig) (c : CmsV) (si : SignerV) (L : List Bytes)
    (hc : s.cms = some c) (hsi : c.signers.getLast? = some si) (hp : si.plist = .val L) (hnd : L.Nodup)
    (x : CD) (hx : x ∈ s.dirs) (hun : (H x.alg x.raw).take 20 ∉ L) : (verifyPlan fx P s).run H ≠ .ok () := by
  intro hacc
  have hpl := (accepts_last_signer H fx P s c si hc hsi hacc).2.1
  rw [hp] at hpl
  exact hun (plist_vouches H s.dirs L hpl hnd x hx)

/-- With the plist attribute present, the signed list must be, entry by entry, the
    list of truncated directory digests: any other list (an entry changed, added, dropped, reordered) is rejected. -/
theorem cdhash_list_change_rejected (H : Nat → Bytes → Bytes) (fx : Fixes) (P : CsVerify.Params) (s : Sig) (c : CmsV) (si : SignerV) (L : List Bytes)
    (hc : s.cms = some c) (hsi : c.signers.getLast? = some si) (hp : si.plist = .val L)
    (hne : L ≠ s.dirs.map (computedAt H s.dirs)) : (verifyPlan fx P s).run H ≠ .ok () := by
  intro hacc
  have hpl := (accepts_last_signer H fx P s c si hc hsi hacc).2.1
  rw [hp] at hpl
  exact hne hpl

/-- the CDHashes2 attribute: every listed entry must name a hash some directory uses and carry that directory's digest -/
theorem cdhashes2_entry_change_rejected (H : Nat → Bytes → Bytes) (fx : Fixes) (P : CsVerify.Params) (s : Sig) (c : CmsV) (si : SignerV)
    (l : List (Option Nat × Bytes)) (hc : s.cms = some c) (hsi : c.signers.getLast? = some si) (hp : si.cdhashes = .val l)
    (a : Nat) (dg : Bytes) (hmem : (some a, dg) ∈ l) (hbad : ∀ x, lastWithAlg s.dirs a = some x → H a x.raw ≠ dg) :
    (verifyPlan fx P s).run H ≠ .ok () := by
  intro hacc
  have hcd := (accepts_last_signer H fx P s c si hc hsi hacc).1
  rw [hp] at hcd
  obtain ⟨a', x, ha, hx, hd⟩ := (hcd : CdhOk H s.dirs l) _ hmem
  cases ha
  exact hbad x hx hd

/-- Acceptance implies that every signer info (with attributes) carries the digest of
    the FIRST directory as messageDigest: a first directory with another digest is rejected. -/
theorem cms_binds_first_directory (H : Nat → Bytes → Bytes) (fx : Fixes) (P : CsVerify.Params) (s : Sig) (d0 : CD) (rest : List CD) (c : CmsV)
    (hd : s.dirs = d0 :: rest) (hc : s.cms = some c) (sv : SignerV) (hsv : sv ∈ c.signers) (hat : sv.hasAttrs = true)
    (a : Nat) (ha : sv.digestAlg = some a) (md : Bytes) (hmd : sv.md = some md) (hne : H a d0.raw ≠ md) :
    (verifyPlan fx P s).run H ≠ .ok () := by
  intro hacc
  obtain ⟨_, d0', rest', hd', c', hc', hcms, _⟩ := (csblob_accept_iff H fx P s).mp hacc
  rw [hd] at hd'; cases hd'
  rw [hc] at hc'; cases hc'
  obtain ⟨a', ha', hmd', _⟩ := hcms.2.2 sv hsv
  rw [ha] at ha'; cases ha'
  obtain ⟨md', e1, e2⟩ := hmd' hat
  rw [hmd] at e1; cases e1
  exact hne e2

/-- Every hashed item is bound by every directory that has its slot: if an accepted
    signature's entitlements / DER entitlements / requirements item is replaced by one whose digest (under the hash of
    some directory carrying the slot) differs, the result is rejected. -/
theorem special_slot_change_rejected (H : Nat → Bytes → Bytes) (fx : Fixes) (P : CsVerify.Params) (s s' : Sig) (hacc : (verifyPlan fx P s).run H = .ok ())
    (hdirs : s'.dirs = s.dirs) (x : CD) (hx : x ∈ s.dirs) :
    ((∃ v, x.slot 5 = some v) → H x.alg (s'.ent.getD []) ≠ H x.alg (s.ent.getD []) → (verifyPlan fx P s').run H ≠ .ok ()) ∧
    ((∃ v, x.slot 7 = some v) → H x.alg (s'.entDER.getD []) ≠ H x.alg (s.entDER.getD []) → (verifyPlan fx P s').run H ≠ .ok ()) ∧
    ((∃ v, x.slot 2 = some v) → H x.alg (s'.req.getD []) ≠ H x.alg (s.req.getD []) → (verifyPlan fx P s').run H ≠ .ok ()) := by
  have h1 := ((csblob_accept_iff H fx P s).mp hacc).1 x hx
  refine ⟨?_, ?_, ?_⟩
  · rintro ⟨v, hv⟩ hne h'
    have h2 := ((csblob_accept_iff H fx P s').mp h').1 x (hdirs ▸ hx)
    exact hne ((h2.2.1 v hv).trans (h1.2.1 v hv).symm)
  · rintro ⟨v, hv⟩ hne h'
    have h2 := ((csblob_accept_iff H fx P s').mp h').1 x (hdirs ▸ hx)
    exact hne ((h2.1 v hv).trans (h1.1 v hv).symm)
  · rintro ⟨v, hv⟩ hne h'
    have h2 := ((csblob_accept_iff H fx P s').mp h').1 x (hdirs ▸ hx)
    exact hne ((h2.2.2.1 v hv).trans (h1.2.2.1 v hv).symm)

/-- The same for the parameters the caller supplies: Info.plist (slot −1),
    CodeResources (slot −3), the rep-specific header (slot −6).  Note the guard in the code: Info.plist and CodeResources
    are compared only when supplied (`none` = not checked). -/
theorem bundle_param_change_rejected (H : Nat → Bytes → Bytes) (fx : Fixes) (P P' : CsVerify.Params) (s : Sig) (hacc : (verifyPlan fx P s).run H = .ok ())
    (x : CD) (hx : x ∈ s.dirs) :
    (∀ i i', P.info = some i → P'.info = some i' → (∃ v, x.slot 1 = some v) → H x.alg i' ≠ H x.alg i → (verifyPlan fx P' s).run H ≠ .ok ()) ∧
    (∀ r r', P.res = some r → P'.res = some r' → (∃ v, x.slot 3 = some v) → H x.alg r' ≠ H x.alg r → (verifyPlan fx P' s).run H ≠ .ok ()) ∧
    ((∃ v, x.slot 6 = some v) → H x.alg (P'.rep.getD []) ≠ H x.alg (P.rep.getD []) → (verifyPlan fx P' s).run H ≠ .ok ()) := by
  have h1 := ((csblob_accept_iff H fx P s).mp hacc).1 x hx
  refine ⟨?_, ?_, ?_⟩
  · rintro i i' hi hi' ⟨v, hv⟩ hne h'
    have h2 := ((csblob_accept_iff H fx P' s).mp h').1 x hx
    exact hne ((h2.2.2.2.2.1 i' hi' v hv).trans (h1.2.2.2.2.1 i hi v hv).symm)
  · rintro r r' hr hr' ⟨v, hv⟩ hne h'
    have h2 := ((csblob_accept_iff H fx P' s).mp h').1 x hx
    exact hne ((h2.2.2.2.2.2 r' hr' v hv).trans (h1.2.2.2.2.2 r hr v hv).symm)
  · rintro ⟨v, hv⟩ hne h'
    have h2 := ((csblob_accept_iff H fx P' s).mp h').1 x hx
    exact hne ((h2.2.2.2.1 v hv).trans (h1.2.2.2.1 v hv).symm)

/-- Same signature, regular best directory `b` (one non-zero slot per page of
    `file[0:limit]`), two images of at least `limit` bytes that differ at a position `p < limit`: if the first one passes
    `VerifyPages`, the second one is rejected — unless the hash collides on the two page streams number `p / ps`. -/
theorem code_change_rejected (H : Nat → Bytes → Bytes) (b : CD) (f f' : Bytes) (limit p : Nat)
    (hk : 0 < b.d.hdr.pageShift ∧ b.d.hdr.pageShift ≤ 24) (hlim : codeSize b.d.hdr = (limit : Int))
    (hf : limit ≤ f.length) (hf' : limit ≤ f'.length)
    (hn : b.d.code.length = (pages (2 ^ b.d.hdr.pageShift) (f.take limit)).length) (hz : ∀ e ∈ b.d.code, allZero e = false)
    (hacc : (pagesPlan b (codeReader b f)).run H = .ok ()) (hp : p < limit) (hdiff : f[p]? ≠ f'[p]?)
    (hnc : ∀ x y, (pages (2 ^ b.d.hdr.pageShift) (f.take limit))[p / 2 ^ b.d.hdr.pageShift]? = some x →
                  (pages (2 ^ b.d.hdr.pageShift) (f'.take limit))[p / 2 ^ b.d.hdr.pageShift]? = some y → x ≠ y → H b.alg x ≠ H b.alg y) :
    (pagesPlan b (codeReader b f')).run H ≠ .ok () := by
  intro hacc'
  have hps : 0 < 2 ^ b.d.hdr.pageShift := Nat.two_pow_pos _
  have hta : (f.take limit).length = limit := by simp [List.length_take]; omega
  have htb : (f'.take limit).length = limit := by simp [List.length_take]; omega
  have hcr : codeReader b f = f.take limit := by simp [codeReader, hlim]
  have hcr' : codeReader b f' = f'.take limit := by simp [codeReader, hlim]
  have hlen : (pages (2 ^ b.d.hdr.pageShift) (f.take limit)).length = (pages (2 ^ b.d.hdr.pageShift) (f'.take limit)).length := by
    rw [pages_length _ hps, pages_length _ hps, hta, htb]
  rw [hcr] at hacc
  rw [hcr'] at hacc'
  have e1 := (pages_accept_iff H b (f.take limit) hk (by rw [hlim, hta]) hn hz).mp hacc
  have e2 := (pages_accept_iff H b (f'.take limit) hk (by rw [hlim, htb]) (hn.trans hlen) hz).mp hacc'
  have hd : (f.take limit)[p]? ≠ (f'.take limit)[p]? := by
    rw [List.getElem?_take_of_lt hp, List.getElem?_take_of_lt hp]; exact hdiff
  obtain ⟨x, y, hx, hy, hxy⟩ := pages_differ_within _ hps (f.take limit) (f'.take limit) (hta.trans htb.symm) p (by omega) hd
  -- both digests equal the same slot
  have := congrArg (fun l => l[p / 2 ^ b.d.hdr.pageShift]?) (e1.symm.trans e2)
  simp only [List.getElem?_map, hx, hy, Option.map_some, Option.some.injEq] at this
  exact hnc x y hx hy hxy this

/-- Stated gap.  An entitlements item in a superblob whose directories have no (or an all-zero)
    entitlements slot is bound by nothing: adding or changing it does not affect the verdict. -/
theorem special_blob_unbound_accepted (H : Nat → Bytes → Bytes) (fx : Fixes) (P : CsVerify.Params) (s : Sig) (e : Option Bytes)
    (hno : ∀ c ∈ s.dirs, c.slot 5 = none) :
    (verifyPlan fx P { s with ent := e }).run H = .ok () ↔ (verifyPlan fx P s).run H = .ok () := by
  rw [csblob_accept_iff, csblob_accept_iff]
  have : ∀ c ∈ s.dirs, (DirOk H P { s with ent := e } c ↔ DirOk H P s c) := by
    intro c hc
    simp [DirOk, SlotOk, hno c hc]
  constructor
  · rintro ⟨h1, h2⟩; exact ⟨fun c hc => (this c hc).mp (h1 c hc), h2⟩
  · rintro ⟨h1, h2⟩; exact ⟨fun c hc => (this c hc).mpr (h1 c hc), h2⟩

/-- Stated gap.  A (signed) directory with no code slots binds no code: `VerifyPages` returns
    success without reading a byte.  (The slot count is under the CMS signature: the signer's statement.) -/
theorem zero_code_slots_accept_any_code (H : Nat → Bytes → Bytes) (b : CD) (r : Bytes) (hc : b.d.code = [])
    (hk : 0 < b.d.hdr.pageShift ∧ b.d.hdr.pageShift ≤ 24) : (pagesPlan b r).run H = .ok () := by
  rw [pagesPlan_paged b r hk, hc]; rfl

/-- Stated gap.  The cdhash attributes of every signer info but the last are never read. -/
theorem last_signer_attrs_only (H : Nat → Bytes → Bytes) (fx : Fixes) (dirs : List CD) (c c' : CmsV)
    (hl : c.signers.getLast? = c'.signers.getLast?) (ht : c.tsOk = c'.tsOk) :
    (attrsPlan fx dirs c).run H = .ok () ↔ (attrsPlan fx dirs c').run H = .ok () := by
  simp [attrsPlan_ok, AttrsOk, hl, ht]

def csToyH : Nat → Bytes → Bytes := fun a s => [UInt8.ofNat (a + 1), UInt8.ofNat ((s.map (·.toNat)).sum + s.length + 1)]

def csToyHdr (ht shift nCode limit : Nat) : Header :=
  { magic := 0xfade0c02, length := 0, version := 0x20400, flags := 0, hashOffset := 0, identOffset := 0, nSpecial := 0,
    nCode := nCode, codeLimit := limit, hashSize := 2, hashType := ht, pageShift := shift, scatterOffset := 0, teamOffset := 0,
    codeLimit64 := 0, execBase := 0, execLimit := 0, execFlags := 0 }

def csToyCD (itype ht : Nat) (raw : Bytes) (special code : List Bytes) (shift limit : Nat) : CD :=
  ⟨itype, raw, ⟨csToyHdr ht shift code.length limit, [], [], 2, code, special⟩⟩

/-- a signer info as relic's `csblob.Sign` writes it: SHA-256, messageDigest, both attributes -/
def csToySigner (md : Bytes) (cdh : AttrV (List (Option Nat × Bytes))) (pl : AttrV (List Bytes)) : SignerV :=
  ⟨some 5, true, some md, true, cdh, pl⟩

def csToyFile : Bytes := [1, 2, 3, 4, 5, 6]
def csToyAlt : Bytes := [1, 2, 9, 4, 5, 6]
def csToyReq : Bytes := [0xfa, 0xde, 0x0c, 0x01, 0, 0, 0, 8]

/-- SHA-256 directory over `csToyFile` (pages of 4 bytes), requirements slot bound -/
def dirA : CD := csToyCD 0 2 [0xA] [[], csToyH 5 csToyReq] [csToyH 5 [1, 2, 3, 4], csToyH 5 [5, 6]] 2 6
/-- the attacker's SHA-384 directory over `csToyAlt` -/
def dirX : CD := csToyCD 0x1000 4 [0xB] [[], csToyH 6 csToyReq] [csToyH 6 [1, 2, 9, 4], csToyH 6 [5, 6]] 2 6

def sigA (cdh : AttrV (List (Option Nat × Bytes))) (pl : AttrV (List Bytes)) (dirs : List CD) : Sig :=
  ⟨none, none, some csToyReq, dirs, some ⟨none, [csToySigner (csToyH 5 dirA.raw) cdh pl], true⟩⟩

def stdCdh : AttrV (List (Option Nat × Bytes)) := .val [(some 5, csToyH 5 dirA.raw)]
def stdPl : AttrV (List Bytes) := .val [(csToyH 5 dirA.raw).take 20]

/-- non-vacuity of `csblob_accept_iff` / `macho_accept_iff`: a signature as relic writes it is accepted … -/
example : (machoPlan Fixes.orig ⟨none, none, none⟩ (sigA stdCdh stdPl [dirA]) csToyFile false).run csToyH = .ok () := by decide +kernel
example : Accepts csToyH Fixes.orig ⟨none, none, none⟩ (sigA stdCdh stdPl [dirA]) :=
  (verifyPlan_ok csToyH _ _ _).mp (by decide)
/-- … altered code is rejected at the page comparison, altered requirements at the slot comparison … -/
example : (machoPlan Fixes.orig ⟨none, none, none⟩ (sigA stdCdh stdPl [dirA]) csToyAlt false).run csToyH = .err "page" := by decide +kernel
example : (verifyPlan Fixes.orig ⟨none, none, none⟩ { sigA stdCdh stdPl [dirA] with req := some [1] }).run csToyH = .err "requirements" := by decide +kernel
/-- … and the appended alternate directory over the altered code is rejected by the COUNT of the plist
    (`extra_codedir_rejected`; this is the input the seeded relaxation of `checkPlistHashes` accepts) -/
example : (machoPlan Fixes.orig ⟨none, none, none⟩ (sigA stdCdh stdPl [dirA, dirX]) csToyAlt false).run csToyH = .err "plist-count" := by decide +kernel
example : [(csToyH 5 dirA.raw).take 20].Nodup ∧ (csToyH dirX.alg dirX.raw).take 20 ∉ [(csToyH 5 dirA.raw).take 20] := by decide +kernel
/-- non-vacuity of `pages_accept_iff` / `code_change_rejected` -/
example : dirA.d.code.length = (pages (2 ^ dirA.d.hdr.pageShift) csToyFile).length ∧ codeSize dirA.d.hdr = (csToyFile.length : Int) ∧
    (∀ e ∈ dirA.d.code, allZero e = false) := by decide +kernel

/-- FINDING F-CSV-1 (repaired by 994e09d).  On the ORIGINAL code, without
    the cdhashes plist attribute (signatures of older tools; CDHashes2 alone only speaks about the hash types it lists;
    with neither attribute nothing is said at all) an appended alternate directory of a STRONGER hash type is covered by
    nothing — yet it is `bestDir`, so the altered image passes `machos.Verify`.  Both variants: -/
theorem csblob_unvouched_alternate_accepted_orig :
    (machoPlan Fixes.orig ⟨none, none, none⟩ (sigA stdCdh .absent [dirA, dirX]) csToyAlt false).run csToyH = .ok () ∧
    (machoPlan Fixes.orig ⟨none, none, none⟩ (sigA .absent .absent [dirA, dirX]) csToyAlt false).run csToyH = .ok () ∧
    bestDir [dirA, dirX] = some dirX ∧
    -- while the signed image itself no longer passes (the pages are judged by the attacker's directory)
    (machoPlan Fixes.orig ⟨none, none, none⟩ (sigA stdCdh .absent [dirA, dirX]) csToyFile false).run csToyH = .err "page" := by decide +kernel

/-- with the repair (`fx.vouch`, the current code) both witnesses are refused … -/
theorem fixed_unvouched_alternate_rejected (fx : Fixes) (hfx : fx.vouch = true) :
    (machoPlan fx ⟨none, none, none⟩ (sigA stdCdh .absent [dirA, dirX]) csToyAlt false).run csToyH = .err "unvouched" ∧
    (machoPlan fx ⟨none, none, none⟩ (sigA .absent .absent [dirA, dirX]) csToyAlt false).run csToyH = .err "unvouched" ∧
    -- … a signature with one directory and no plist attribute is still accepted
    (machoPlan fx ⟨none, none, none⟩ (sigA stdCdh .absent [dirA]) csToyFile false).run csToyH = .ok () := by
  obtain ⟨v, f⟩ := fx
  simp only at hfx
  subst hfx
  cases f <;> decide +kernel

/-- … and in general: with the repair, an accepted superblob with more than one code directory carries the signed
    plist, which lists exactly the directories' truncated digests, in order -/
theorem fixed_alternates_need_plist (H : Nat → Bytes → Bytes) (fx : Fixes) (hfx : fx.vouch = true) (P : CsVerify.Params) (s : Sig)
    (hacc : (verifyPlan fx P s).run H = .ok ()) (hn : 1 < s.dirs.length) :
    ∃ c si L, s.cms = some c ∧ c.signers.getLast? = some si ∧ si.plist = .val L ∧ L = s.dirs.map (computedAt H s.dirs) := by
  obtain ⟨_, d0, rest, _, c, hc, _, si, hsi, _, hpl, hv, _⟩ := (csblob_accept_iff H fx P s).mp hacc
  have hne := hv hfx hn
  cases hp : si.plist with
  | absent => exact absurd hp hne
  | bad => rw [hp] at hpl; exact absurd hpl (by simp [PlistAttrOk])
  | val L => rw [hp] at hpl; exact ⟨c, si, L, hc, hsi, hp, hpl⟩

/-- "`x` is vouched for by the CMS": it is the first directory (messageDigest) or its digest is listed in one of the
    two signed attributes of the signer info that is read -/
def Vouched (H : Nat → Bytes → Bytes) (s : Sig) (x : CD) : Prop :=
  (∃ rest, s.dirs = x :: rest) ∨
    ∃ c si, s.cms = some c ∧ c.signers.getLast? = some si ∧
      ((∃ L, si.plist = .val L ∧ (H x.alg x.raw).take 20 ∈ L) ∨ (∃ l, si.cdhashes = .val l ∧ (some x.alg, H x.alg x.raw) ∈ l))

/-- the statement without any hypothesis on the signed list: every code directory of an accepted superblob is vouched for -/
def csblob_every_directory_vouched_full (fx : Fixes) : Prop :=
  ∀ (H : Nat → Bytes → Bytes) (P : CsVerify.Params) (s : Sig), (verifyPlan fx P s).run H = .ok () → ∀ x ∈ s.dirs, Vouched H s x

/-- The CURRENT code (`fx.vouch`): every code directory of an accepted superblob is
    the first one or its truncated digest stands in the signed cdhashes plist — provided the signed list, when present,
    has pairwise distinct entries (a signer lists the hashes of its distinct directories).  With the repair a second
    directory needs the plist, and the plist binds count and position. -/
theorem csblob_every_directory_vouched (H : Nat → Bytes → Bytes) (fx : Fixes) (hfx : fx.vouch = true) (P : CsVerify.Params) (s : Sig)
    (hacc : (verifyPlan fx P s).run H = .ok ())
    (hnd : ∀ c si L, s.cms = some c → c.signers.getLast? = some si → si.plist = .val L → L.Nodup) :
    ∀ x ∈ s.dirs, Vouched H s x := by
  intro x hx
  obtain ⟨_, d0, rest, hd, c, hc, _, si, hsi, _, _, _, _⟩ := (csblob_accept_iff H fx P s).mp hacc
  by_cases h1 : 1 < s.dirs.length
  · obtain ⟨c', si', L, hc', hsi', hp, hL⟩ := fixed_alternates_need_plist H fx hfx P s hacc h1
    have hN := hnd c' si' L hc' hsi' hp
    exact Or.inr ⟨c', si', hc', hsi', Or.inl ⟨L, hp, plist_vouches H s.dirs L hL hN x hx⟩⟩
  · left
    rw [hd] at hx h1
    have : rest = [] := by
      cases rest with
      | nil => rfl
      | cons y ys => simp at h1
    subst this
    rcases List.mem_singleton.mp hx with rfl
    exact ⟨[], hd⟩

theorem vouched_single_signer (H : Nat → Bytes → Bytes) (s : Sig) (x : CD) (e : Option Bytes) (sv : SignerV) (ts : Bool)
    (hc : s.cms = some ⟨e, [sv], ts⟩) (h : Vouched H s x) :
    (∃ rest, s.dirs = x :: rest) ∨ (∃ L, sv.plist = .val L ∧ (H x.alg x.raw).take 20 ∈ L) ∨
      (∃ l, sv.cdhashes = .val l ∧ (some x.alg, H x.alg x.raw) ∈ l) := by
  rcases h with h | ⟨c, si, hc', hsi, hh⟩
  · exact Or.inl h
  · rw [hc] at hc'
    cases hc'
    have : si = sv := by
      have : ([sv] : List SignerV).getLast? = some sv := rfl
      rw [this] at hsi
      exact (Option.some.inj hsi).symm
    subst this
    exact Or.inr hh

/-- on the ORIGINAL code the statement is false even for signed lists
    without repetition — indeed without any list (witness: F-CSV-1) -/
theorem csblob_every_directory_vouched_full_orig_false : ¬ csblob_every_directory_vouched_full Fixes.orig := by
  intro h
  have hv := h csToyH ⟨none, none, none⟩ (sigA stdCdh .absent [dirA, dirX]) (by decide) dirX (by decide)
  rcases vouched_single_signer csToyH _ dirX none _ true rfl hv with ⟨rest, hr⟩ | ⟨L, hL, _⟩ | ⟨l, hl, hm⟩
  · have h0 : (sigA stdCdh .absent [dirA, dirX]).dirs = [dirA, dirX] := rfl
    rw [h0] at hr
    have : dirA = dirX := (List.cons.inj hr).1
    revert this; decide
  · cases hL
  · have : l = [(some 5, csToyH 5 dirA.raw)] := by
      have : stdCdh = AttrV.val l := hl
      cases this; rfl
    subst this
    revert hm; decide

/-- the witness of `same_alg_unvouched_directory_accepted`: a SHA-1 directory in slot 0, the attacker's SHA-256 directory over
    altered code in slot 0x1000 (`dirXs`), the signer's SHA-256 directory in slot 0x1001 (`dirC`), and a signer that listed its
    SHA-256 digest twice (`svS`) -/
def dirS : CD := csToyCD 0 1 [0xA] [[], csToyH 3 csToyReq] [csToyH 3 [1, 2, 3, 4], csToyH 3 [5, 6]] 2 6
def dirXs : CD := csToyCD 0x1000 2 [0xB] [[], csToyH 5 csToyReq] [csToyH 5 [1, 2, 9, 4], csToyH 5 [5, 6]] 2 6
def dirC : CD := csToyCD 0x1001 2 [0xC] [[], csToyH 5 csToyReq] [csToyH 5 [1, 2, 3, 4], csToyH 5 [5, 6]] 2 6
def svS : SignerV :=
  ⟨some 5, true, some (csToyH 5 dirS.raw), true, .val [(some 3, csToyH 3 dirS.raw), (some 5, csToyH 5 dirC.raw)],
   .val [(csToyH 3 dirS.raw).take 20, (csToyH 5 dirC.raw).take 20, (csToyH 5 dirC.raw).take 20]⟩
def sigS : Sig := ⟨none, none, some csToyReq, [dirS, dirXs, dirC], some ⟨none, [svS], true⟩⟩

/-- Stated gap, every tree: `computed` is a map keyed by hash function, so a signed
    list with a REPEATED entry vouches for the last directory of a hash type at every position of that type.  In the witness the
    middle directory is vouched for by nothing, is `bestDir` (first of the strongest type) and lets the altered image pass -/
theorem same_alg_unvouched_directory_accepted (fx : Fixes) :
    (machoPlan fx ⟨none, none, none⟩ sigS csToyAlt false).run csToyH = .ok () ∧ bestDir sigS.dirs = some dirXs := by
  obtain ⟨v, f⟩ := fx
  cases v <;> cases f <;> decide +kernel

/-- without the hypothesis on the signed list the statement fails on the
    current code too (and on every tree) — exactly for the witness above: the list must repeat an entry, which no signer
    of distinct directories produces.  The repair that would close it: compare position `i` of the plist with
    `dirs[i].CDHash[:20]` instead of `computed[dirs[i].HashFunc][:20]`. -/
theorem csblob_every_directory_vouched_full_false (fx : Fixes) : ¬ csblob_every_directory_vouched_full fx := by
  intro h
  have hv := h csToyH ⟨none, none, none⟩ sigS
    (by have := (macho_accept_iff csToyH fx ⟨none, none, none⟩ sigS csToyAlt false).mp (same_alg_unvouched_directory_accepted fx).1
        exact (verifyPlan_ok csToyH fx _ _).mpr this.1) dirXs (by decide)
  rcases vouched_single_signer csToyH sigS dirXs none svS true rfl hv with ⟨rest, hr⟩ | ⟨L, hL, hm⟩ | ⟨l, hl, hm⟩
  · have h0 : sigS.dirs = [dirS, dirXs, dirC] := rfl
    rw [h0] at hr
    have : dirS = dirXs := (List.cons.inj hr).1
    revert this; decide
  · have : L = [(csToyH 3 dirS.raw).take 20, (csToyH 5 dirC.raw).take 20, (csToyH 5 dirC.raw).take 20] := by
      have : svS.plist = AttrV.val L := hL
      cases this; rfl
    subst this
    revert hm; decide
  · have : l = [(some 3, csToyH 3 dirS.raw), (some 5, csToyH 5 dirC.raw)] := by
      have : svS.cdhashes = AttrV.val l := hl
      cases this; rfl
    subst this
    revert hm; decide

/-- Stated gap: the slot number of a directory is bound by nothing — the signed directory in
    slot 0x1000 instead of 0 is accepted just the same -/
theorem dir_slot_unbound :
    (machoPlan Fixes.orig ⟨none, none, none⟩ (sigA stdCdh stdPl [{ dirA with itype := 0x1000 }]) csToyFile false).run csToyH = .ok () := by decide +kernel

/-- a second SHA-256 directory, in slot 0x1000 -/
def dirA2 : CD := csToyCD 0x1000 2 [0xC, 0xC] [[], csToyH 5 csToyReq] [csToyH 5 [1, 2, 3, 4], csToyH 5 [5, 6]] 2 6
/-- Stated gap: `computed` is a map keyed by hash function.  With two directories of ONE hash
    type the plist is compared against (last, last): a signer that lists the two digests it computed is rejected, and the
    list that IS accepted vouches for the first directory at no position (the CMS messageDigest still binds it). -/
theorem plist_same_alg_gap :
    (verifyPlan Fixes.orig ⟨none, none, none⟩ (sigA (.val [(some 5, csToyH 5 dirA2.raw)])
        (.val [(csToyH 5 dirA.raw).take 20, (csToyH 5 dirA2.raw).take 20]) [dirA, dirA2])).run csToyH = .err "plist" ∧
    (verifyPlan Fixes.orig ⟨none, none, none⟩ (sigA (.val [(some 5, csToyH 5 dirA2.raw)])
        (.val [(csToyH 5 dirA2.raw).take 20, (csToyH 5 dirA2.raw).take 20]) [dirA, dirA2])).run csToyH = .ok () := by decide +kernel

/-- a slice verified with the bundle's Info.plist and CodeResources: every directory carrying slot −1 / −3 holds their
    digests -/
theorem bundle_files_bound (H : Nat → Bytes → Bytes) (fx : Fixes) (info res : Bytes) (s : Sig) (file : Bytes)
    (hacc : (machoPlan fx ⟨some info, some res, none⟩ s file false).run H = .ok ()) (x : CD) (hx : x ∈ s.dirs) :
    (∀ v, x.slot 1 = some v → H x.alg info = v) ∧ (∀ v, x.slot 3 = some v → H x.alg res = v) := by
  have h := ((macho_accept_iff H fx _ s file false).mp hacc).1.1 x hx
  exact ⟨h.2.2.2.2.1 info rfl, h.2.2.2.2.2 res rfl⟩

/-- For a thin executable `verifyFat` passes the bundle's Info.plist and CodeResources on:
    acceptance implies that every directory carrying slot −1 / −3 holds their digests. -/
theorem thin_bundle_files_bound (H : Nat → Bytes → Bytes) (fx : Fixes) (info res : Bytes) (s : Sig) (file : Bytes)
    (hacc : (machoPlan fx (wrapParams fx false (some info) (some res) none) s file false).run H = .ok ()) (x : CD) (hx : x ∈ s.dirs) :
    (∀ v, x.slot 1 = some v → H x.alg info = v) ∧ (∀ v, x.slot 3 = some v → H x.alg res = v) :=
  bundle_files_bound H fx info res s file hacc x hx

/-- with patches/F-CSV-2.patch the same holds for every slice of a fat executable -/
theorem fixed_fat_bundle_files_bound (H : Nat → Bytes → Bytes) (fx : Fixes) (hfx : fx.fatParams = true) (fat : Bool)
    (info res : Bytes) (s : Sig) (file : Bytes)
    (hacc : (machoPlan fx (wrapParams fx fat (some info) (some res) none) s file false).run H = .ok ()) (x : CD) (hx : x ∈ s.dirs) :
    (∀ v, x.slot 1 = some v → H x.alg info = v) ∧ (∀ v, x.slot 3 = some v → H x.alg res = v) := by
  have hw : wrapParams fx fat (some info) (some res) none = ⟨some info, some res, none⟩ := by
    cases fat <;> simp [wrapParams, hfx, effInfo]
  rw [hw] at hacc
  exact bundle_files_bound H fx info res s file hacc x hx

/-- FINDING F-CSV-2.  For a fat executable `verifyFat` calls
    `verifyMacho(r, nil, nil, opts)` for every slice: the verdict does not depend on the bundle's Info.plist and
    CodeResources at all, although the slices' directories bind them in slots −1 and −3. -/
theorem fat_drops_bundle_params (fx : Fixes) (hfx : fx.fatParams = false) (info res info' res' : Option Bytes)
    (slices : List (Sig × Bytes × Option Bytes)) :
    fatPlans fx true info res slices = fatPlans fx true info' res' slices := by
  simp [fatPlans, wrapParams, hfx]

/-- a changed Info.plist / CodeResources of a bundle makes `verifyIPA` fail, thin AND fat: every directory of every
    slice that carries slot −1 / −3 holds the digest of the bundle's file -/
def ipa_bundle_files_bound_full (fx : Fixes) : Prop :=
  ∀ (H : Nat → Bytes → Bytes) (fat : Bool) (info res : Bytes) (slices : List (Sig × Bytes × Option Bytes)),
    (∀ p ∈ fatPlans fx fat (some info) (some res) slices, p.run H = .ok ()) →
    ∀ sl ∈ slices, ∀ x ∈ sl.1.dirs, (∀ v, x.slot 1 = some v → H x.alg info = v) ∧ (∀ v, x.slot 3 = some v → H x.alg res = v)

/-- The CURRENT code, full strength: holds for thin and fat executables, any number of
    slices, with or without an embedded plist section -/
theorem ipa_bundle_files_bound (fx : Fixes) (hfx : fx.fatParams = true) : ipa_bundle_files_bound_full fx := by
  intro H fat info res slices hall sl hsl x hx
  have hp := hall (machoPlan fx (wrapParams fx fat (some info) (some res) sl.2.2) sl.1 sl.2.1 false)
    (by simp only [fatPlans, List.mem_map]; exact ⟨sl, hsl, rfl⟩)
  have hw : wrapParams fx fat (some info) (some res) sl.2.2 = ⟨some info, some res, none⟩ := by
    cases fat <;> simp [wrapParams, hfx, effInfo]
  rw [hw] at hp
  exact bundle_files_bound H fx info res sl.1 sl.2.1 hp x hx

theorem ipa_bundle_files_bound_current : ipa_bundle_files_bound_full tree := ipa_bundle_files_bound tree rfl

/-- a directory that binds an Info.plist in slot −1 -/
def dirI : CD := csToyCD 0 2 [0xA] [csToyH 5 [0x49]] [csToyH 5 [1, 2, 3, 4], csToyH 5 [5, 6]] 2 6
def sigI : Sig := ⟨none, none, none, [dirI], some ⟨none, [csToySigner (csToyH 5 dirI.raw) (.val [(some 5, csToyH 5 dirI.raw)]) (.val [(csToyH 5 dirI.raw).take 20])], true⟩⟩

/-- FINDING F-CSV-2 (repaired by 91159af): FALSE for fat executables on the
    ORIGINAL code: an altered Info.plist is accepted (thin: rejected) -/
theorem ipa_bundle_files_bound_full_orig_false : ¬ ipa_bundle_files_bound_full Fixes.orig := by
  intro h
  have := (h csToyH true [0x4a] [] [(sigI, csToyFile, none)] (by decide) (sigI, csToyFile, none) (by simp) dirI (by decide)).1
  revert this
  decide

example : ∀ p ∈ fatPlans Fixes.orig false (some [0x49]) none [(sigI, csToyFile, none)], p.run csToyH = .ok () := by decide +kernel
example : ∃ p ∈ fatPlans Fixes.orig false (some [0x4a]) none [(sigI, csToyFile, none)], p.run csToyH = .err "info_plist" := by decide +kernel
example : ∀ p ∈ fatPlans Fixes.orig true (some [0x4a]) none [(sigI, csToyFile, none)], p.run csToyH = .ok () := by decide +kernel
/-- the current code: the fat slice is judged against the bundle's Info.plist -/
example : ∃ p ∈ fatPlans tree true (some [0x4a]) none [(sigI, csToyFile, none)], p.run csToyH = .err "info_plist" := by decide +kernel
example : ∀ p ∈ fatPlans tree true (some [0x49]) none [(sigI, csToyFile, none)], p.run csToyH = .ok () := by decide +kernel

end Relic.Props.C02
