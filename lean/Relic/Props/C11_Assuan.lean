/-
  C11 — a hostile or broken scdaemon.  relic's server talks to scdaemon over a unix socket (lib/assuan) in-process; the daemon's
  output is treated as untrusted here.  All statements are about Relic.Model.Assuan / Relic.Model.ScdToken (the Go code line by
  line, every slice / index expression an explicit partial operation) and quantify over EVERY daemon (any step function on
  received lines, any state), hence over every byte stream a daemon can produce.

  The reader has no deadline and ignores its context: it can block on a daemon that stays silent with the connection open
  (finding F-SCD-3).
-/
import Relic.Proofs.ScdToken
namespace Relic.Props.C11
open Relic.Assuan Relic.ScdToken

/-- **transact_escape_roundtrip**: `url.PathUnescape(url.PathEscape(b)) = b` for every byte string -/
theorem transact_escape_roundtrip (b : Bytes) : pathUnescape (pathEscape b) = some b := escape_roundtrip b

/-- what `Conn.data` puts on the wire: chunks of at most 512 bytes that re-assemble to the escaped data, none containing a
    newline (each is ONE D line); the receiver that concatenates the D payloads and unescapes gets the data back -/
theorem data_lines_reassemble (d : Bytes) :
    (chunks512 (pathEscape d).length (pathEscape d)).flatten = pathEscape d ∧
    (∀ ch ∈ chunks512 (pathEscape d).length (pathEscape d), ch.length ≤ 512 ∧ ch ≠ [] ∧ ∀ x ∈ ch, x ≠ 10) ∧
    pathUnescape (chunks512 (pathEscape d).length (pathEscape d)).flatten = some d := by
  have hj := chunks512_join (pathEscape d).length (pathEscape d) (Nat.le_refl _)
  refine ⟨hj, ?_, by rw [hj]; exact escape_roundtrip d⟩
  intro ch hch
  obtain ⟨h1, h2⟩ := chunks512_le _ _ ch hch
  refine ⟨h1, h2, ?_⟩
  intro x hx
  apply pathEscape_no_nl d x
  rw [← hj]
  exact List.mem_flatten.mpr ⟨ch, hch, hx⟩

example : pathEscape (ascii "12 3%\n") = ascii "12%203%25%0A" := by decide +kernel
/-- a per-line decoder would NOT be safe: the 512-byte cut can fall inside a `%XX` triple -/
example : ((chunks512 2000 (pathEscape (List.replicate 511 97 ++ [37, 37]))).map fun ch => pathUnescape ch) =
    [none, some (ascii "25%")] := by decide +kernel

/-- **assuan_read_no_panic**: the response loop and a whole transaction, against any daemon, from any connection state -/
theorem assuan_read_no_panic {σ} (dm : Daemon σ) (q : Inquire) (fuel : Nat) (c : Conn σ) (quoted : Bytes) (lines : List Bytes) (saved : Bool) :
    (readLoop dm q fuel c quoted lines saved).2.isPanic = false :=
  (readLoop_safe dm q fuel c quoted lines saved).1

theorem assuan_transact_no_panic {σ} (dm : Daemon σ) (c : Conn σ) (cmd : Bytes) (q : Inquire) :
    (transact dm c cmd q).2.isPanic = false := transact_no_panic dm c cmd q

/-- **csexp_parse_total**: a tree or InvalidCsExp, for every blob -/
theorem csexp_parse_total (blob : Bytes) : (∃ t, parseCsExp blob = .ok t) ∨ parseCsExp blob = .err "csexp" :=
  (parseCsExp_total blob).ok_or_err.imp id fun ⟨_, h, he⟩ => he ▸ h

def csIsInvalid : Res (List CsExp) → Bool
  | .err _ => true
  | _ => false

example : (parseCsExp (ascii "(3:rsa(1:n2:ab))")).isOk = true := by decide +kernel
/-- huge length prefixes, a length one past the end, unbalanced parentheses: InvalidCsExp -/
example : csIsInvalid (parseCsExp (ascii "(18446744073709551615:a)")) = true ∧ csIsInvalid (parseCsExp (ascii "99999999999999999999999:")) = true ∧
    csIsInvalid (parseCsExp (ascii "3:ab")) = true ∧ csIsInvalid (parseCsExp (ascii "(()")) = true ∧ csIsInvalid (parseCsExp (ascii "())")) = true := by
  decide +kernel

/-- `ScdKey.Public` after READKEY, on every blob: a key or an error -/
theorem scd_public_total (blob : Bytes) : (publicOfBlob blob).isPanic = false ∧ (publicOfBlob blob).isBlock = false :=
  publicOfBlob_clean blob

/-- **scd_client_no_panic** (the code as it is).  Against ANY daemon, from any token state: Open (Dial, Learn, CheckPin, the login
    loop), GetKey, Sign and ListKeys return a value, an error, or block on a silent daemon — never a panic. -/
theorem scd_client_no_panic {σ} (dm : Daemon σ) :
    (∀ s0 tc, (openToken dm s0 tc).2.isPanic = false) ∧
    (∀ (t : Token σ) name, (getKey dm t name).2.isPanic = false) ∧
    (∀ (t : Token σ) k d o, (keySign dm t k d o).2.isPanic = false) ∧
    (∀ (t : Token σ) id v, (listKeys dm t id v).2.isPanic = false) :=
  ⟨openToken_no_panic dm, getKey_no_panic dm, keySign_no_panic dm, listKeys_no_panic dm⟩

/-- **scd_client_panics_only_in_getkey_orig** (the code before e11c4f9): the one panic of the client was GetKey's, exactly when the
    configured id matched no key info learnt from the token -/
theorem scd_client_panics_only_in_getkey_orig {σ} (dm : Daemon σ) (t : Token σ) (name : String) :
    (getKeyOrig dm t name).2.isPanic = true ↔
        ∃ kc, t.conf.keys.find? (·.name = name) = some kc ∧ findKey t.keyInfos kc.id = none :=
  getKeyOrig_panic_iff dm t name

def scdPin6 : Bytes := ascii "123456"
def scdTcDemo : TokenConf :=
  { serial := [], pin := some scdPin6, getter := none, keys := [⟨"k1", ascii "OPENPGP.1"⟩, ⟨"k9", ascii "OPENPGP.9"⟩] }
def scdGreetOK : Bytes × Bool := (ascii "OK ready\n", false)
def scdLearnOK : Bytes × Bool := (ascii "S SERIALNO D276\nS KEYPAIRINFO G1 OPENPGP.1\nS KEY-FPR 1 F1\nOK\n", false)
def scdPinOK : Bytes × Bool := (ascii "INQUIRE NEEDPIN\nOK\n", false)
def scdKeyOK : Bytes × Bool := (ascii "D (10:public-key(3:rsa(1:n2:%C3%01)(1:e3:%01%00%01)))\nOK\n", false)

/-- the statement "no client entry point panics on any daemon output" for the code BEFORE e11c4f9 -/
def scd_client_no_panic_orig_full : Prop := ∀ (t : Token Script) (name : String), (getKeyOrig scripted t name).2.isPanic = false

def scdPanicSite {α} : Out α → Option String
  | .panic s => some s
  | _ => none

/-- refuted: a key configured with an id the token does not have (finding F-SCD-1, fixed) -/
theorem scd_getkey_nil_deref_c11_orig :
    (match openToken scripted ⟨[scdGreetOK, scdLearnOK, scdPinOK]⟩ scdTcDemo with
     | (_, .ok t) => scdPanicSite (getKeyOrig scripted t "k9").2
     | _ => none) = some "scdtoken.GetKey:key.KeyId (nil key)" := by decide +kernel

theorem scd_client_no_panic_orig_full_false : ¬ scd_client_no_panic_orig_full := by
  intro h
  have hw := scd_getkey_nil_deref_c11_orig
  split at hw
  · rename_i t _
    have := h t "k9"
    cases hg : (getKeyOrig scripted t "k9").2 <;> simp_all [scdPanicSite, Out.isPanic]
  · cases hw

/-- **assuan_read_returns_when_daemon_closed**: with enough fuel for the bytes buffered, a read on a connection whose daemon has
    ended its output does not block — whatever the daemon sent -/
theorem assuan_read_returns_when_daemon_closed {σ} (dm : Daemon σ) (q : Inquire) (c : Conn σ) (quoted : Bytes) (lines : List Bytes)
    (saved : Bool) (fuel : Nat) (hc : c.closed = true) (hf : c.inbuf.length < fuel) :
    (readLoop dm q fuel c quoted lines saved).2.isBlock = false :=
  (readLoop_safe dm q fuel c quoted lines saved).2 hc hf

/-- the full statement "a transaction always returns" -/
def assuan_transact_returns_full : Prop := ∀ (sc : Script) (tc : TokenConf), (openToken scripted sc tc).2.isBlock = false

/-- refuted (finding F-SCD-3): an answer without a terminal line and a daemon that stays connected: the client waits for ever -/
theorem assuan_read_blocks_on_silent_daemon :
    (openToken scripted ⟨[scdGreetOK, (ascii "S SERIALNO D276\n", false)]⟩ scdTcDemo).2.isBlock = true := by decide +kernel

theorem assuan_transact_returns_full_false : ¬ assuan_transact_returns_full := by
  intro h
  have := h ⟨[scdGreetOK, (ascii "S SERIALNO D276\n", false)]⟩ scdTcDemo
  rw [assuan_read_blocks_on_silent_daemon] at this
  cases this

/-- the same answer followed by the daemon ending its output: an error, not a hang -/
example : (openToken scripted ⟨[scdGreetOK, (ascii "S SERIALNO D276\n", true)]⟩ scdTcDemo).2.isBlock = false := by decide +kernel

/-- **assuan_escape_error_desynchronises.**  SETDATA is answered `S a%4 / OK`: `read` returns the EscapeError with `OK` still
    buffered.  The next Sign's SETDATA consumes that stale OK, its PKSIGN consumes the OK of the SETDATA: Sign returns SUCCESS with
    an empty signature, and the real signature stays buffered for whoever comes next. -/
theorem assuan_escape_error_desynchronises :
    (match openToken scripted ⟨[scdGreetOK, scdLearnOK, scdPinOK, scdKeyOK, (ascii "S a%4\nOK\n", false), (ascii "OK\n", false),
        (ascii "D realsig\nOK\n", false)]⟩ scdTcDemo with
     | (_, .ok t) =>
       match getKey scripted t "k1" with
       | (t, .ok k) =>
         match keySign scripted t k [1, 2] (.named (ascii "sha256")) with
         | (t, r1) =>
           match keySign scripted t k [3, 4] (.named (ascii "sha256")) with
           | (t, r2) => (match r1 with | .fail e => e.cls | _ => "?", match r2 with | .ok b => some b | _ => none, t.sock.conn.inbuf)
       | _ => ("?", none, [])
     | _ => ("?", none, [])) = ("escape", some [], ascii "D realsig\nOK\n") := by decide +kernel

end Relic.Props.C11
