/-
  C06 — generated obligations about the VALUES in the audit record (T-gen): tools/extractaudit
  re-emits, on every run, the def-use facts of lib/audit, signinit.Init/InitKey, serveSign, signCmd,
  AuditContext, SignOpts.SetBinPatch/SetPkcs7 and of every signer module as
  `Relic.Generated.AuditFields`; the checks of `Relic.AuditFields` are evaluated on them by the kernel (`decide +kernel`).
  They say that the audit attribute and the value used derive from the SAME source:
    kconf.Name() of the key the token returned  ↔ sig.keyname;   mod.Name ↔ sig.type;
    the `hash` handed to Init = opts.Hash (the only digest a signer mentions) ↔ sig.hash;
    cert.Leaf / cert.PgpKey of the certificate returned for signing ↔ sig.x509.* / sig.pgp.*;
    query "filename" ↔ client.filename;  request.RemoteAddr ↔ client.ip;  the authenticated caller ↔ client.name/dn;
  and that nothing else (no signer module, no setter) writes or deletes those attributes.
  These facts are what the model `Relic.AuditRec` (theorem `record_names_what_was_used`) assumes
  about the code's shape.
-/
import Relic.Model.AuditFields
import Relic.Generated.AuditFields
namespace Relic.Props.C06
open Relic.AuditFields Relic.Generated

/-- the check really discriminates: logging the requested name instead of kconf.Name(), a digest
    constant in a signer, swapped client fields are all rejected -/
example : checkInit { AuditFields.init with
    calls := AuditFields.init.calls.map fun c => if c.callee = "audit.New" then { c with args := ["keyName", "mod.Name", "hash"] } else c } = false := by decide +kernel
example : checkServeSign { AuditFields.serveSign with
    attrs := AuditFields.serveSign.attrs.map fun a => if a.key = "client.filename" then { a with value := "keyName" } else a } = false := by decide +kernel
example : checkSigners (AuditFields.signers.map fun s => { s with
    funcs := s.funcs.map fun f => { f with mentions := "crypto.SHA256" :: f.mentions } }) = false := by decide +kernel

theorem auditNew_generated : checkAuditNew AuditFields.auditNew = true := by decide +kernel
theorem setCerts_generated :
    checkSetX509Cert AuditFields.setX509Cert = true ∧ checkSetPgpCert AuditFields.setPgpCert = true := by decide +kernel

theorem init_generated : checkInitKey AuditFields.initKey = true ∧ checkInit AuditFields.init = true := by decide +kernel
theorem serveSign_fields_generated : checkServeSign AuditFields.serveSign = true := by decide +kernel
theorem signCmd_fields_generated : checkSignCmd AuditFields.signCmd = true := by decide +kernel
theorem setters_generated :
    checkOtherSetters AuditFields.setTimestamp AuditFields.setMimeType AuditFields.setCounterSignature = true ∧
    checkMarshal AuditFields.marshal = true ∧ checkAuditContext AuditFields.auditContext = true ∧
    checkOptsSetters AuditFields.setBinPatch AuditFields.setPkcs7 = true := by decide +kernel

theorem signers_generated : checkSigners AuditFields.signers = true := by decide +kernel

end Relic.Props.C06
