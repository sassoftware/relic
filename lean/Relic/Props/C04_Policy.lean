/-
  Property C04 in POLICY (Open Policy Agent / bearer token) mode — `server.policyurl` is set.

  Theorems about `Relic.Model.AuthzPolicy`.  The policy server is a parameter `opa : PolicyPost → OpaReply`; every theorem
  quantifies over all of them.  `handlePolicy cfg url opa req` is the whole server (start-up, real-ip, routing,
  `PolicyAuth.Authenticate`, view); `serve` adds `authmodel.New`'s choice between the two authenticators.
  The theorems about the outcome on an authenticated route rest on the case analysis `authenticated_case`
  (Relic.Proofs.AuthzPolicy.AuthCase), taken for the whole server by `handlePolicy_cases`.
-/
import Relic.Proofs.AuthzPolicy
namespace Relic.Props.C04
open Relic.Authz Relic.RealIP Relic.Policy Relic.Proofs.Authz Relic.Proofs.AuthzPolicy

/-- **C04 in policy mode, main statement.**  If `/sign` or `/keys/{k}` answers 2xx or makes any call into the token layer,
    then: the decision request for exactly this request (`mkPost`: its path, query, bearer token, presented certificates)
    was sent, the answer had a status below 300 and parsed, it says `allow`, and the key the requested name resolves to
    (one alias hop) is named in `allowed_keys` or has a role among `roles`; every token call went to that key's token. -/
theorem policy_sign_only_if_entitled (cfg : Config) (url : String) (opa : Opa) (req : PReq) (n : String)
    (hn : req.ep.keyName = some n)
    (hs : (handlePolicy cfg url opa req).out.is2xx = true ∨ (handlePolicy cfg url opa req).out.events ≠ []) :
    PolicyEntitledFor cfg url opa req n (handlePolicy cfg url opa req) := by
  rcases handlePolicy_cases cfg url opa req with ⟨o, ho, ⟨e, rfl⟩ | ⟨hp, -⟩⟩ | ⟨-, -, hc⟩
  · simp [ho, Outcome.is2xx, Outcome.events] at hs
  · rw [keyName_not_public hn] at hp; cases hp
  · generalize handlePolicy cfg url opa req = r at hc hs ⊢
    cases hc with
    | certErr _ _ => simp [unhandled, Outcome.is2xx, Outcome.events] at hs
    | noCred _ _ => simp [Outcome.is2xx, Outcome.events] at hs
    | fetchFail certs st _ _ _ h =>
      rcases h with rfl | rfl <;> simp [unhandled, Outcome.is2xx, Outcome.events] at hs
    | deny certs d _ _ _ _ =>
      rcases denyStatus_cases d.errors with ⟨h, _⟩ | ⟨h, _⟩ <;> simp [h, Outcome.is2xx, Outcome.events] at hs
    | allow certs d hpc _ hf ha =>
      obtain ⟨t, hr, hal, hev⟩ := viewWith_entitled hn hs
      exact ⟨certs, d, t, hpc, rfl, hf, ha, hr, (pallowed_iff d.user t).1 hal, hev⟩

/-- the converse, i.e. the **trust boundary**: relic adds no check of its own to the decision.  Whatever credential is
    presented (any non-empty bearer string, any certificate, recognised by the configuration or not), if the policy
    server answers 2xx with a parsable `allow: true` that names the resolved key (or one of its roles), a well-formed
    request reaches the token.  What a wrong or malicious policy answer can do is therefore everything the
    configuration's keys can do; this is outside the property. -/
theorem policy_decision_trusted (cfg : Config) (url : String) (opa : Opa) (req : PReq) (n : String) (kc : Key)
    (certs : List String) (d : Decision)
    (hst : startCheck cfg = none) (hn : req.ep.keyName = some n)
    (hw : ∀ m f s, req.ep = .sign m f s → m ≠ "" ∧ f = true ∧ s = true)
    (hg : getKey cfg n = .ok kc) (ht : tokenOpen cfg kc.token = true)
    (hpc : presentedCerts cfg req = .ok certs) (hcred : ¬ (bearerToken req.authz = "" ∧ certs = []))
    (hf : fetched opa (mkPost url req certs) = some d) (ha : d.allow = true)
    (hk : kc.name ∈ d.allowedKeys ∨ ∃ r, r ∈ kc.roles ∧ r ∈ d.roles) :
    (handlePolicy cfg url opa req).out.is2xx = true ∧ (handlePolicy cfg url opa req).out.events ≠ [] := by
  have hc := handlePolicy_case url opa hst (keyName_not_public hn)
  generalize handlePolicy cfg url opa req = r at hc ⊢
  cases hc with
  | certErr h _ => exact absurd hpc (h certs)
  | noCred h1 h2 => rw [hpc] at h1; cases h1; exact absurd ⟨h2, rfl⟩ hcred
  | fetchFail certs' st h1 _ h3 _ => rw [hpc] at h1; cases h1; rw [hf] at h3; cases h3
  | deny certs' d' h1 _ h3 h4 => rw [hpc] at h1; cases h1; rw [hf] at h3; cases h3; rw [ha] at h4; cases h4
  | allow certs' d' h1 _ h3 _ =>
    rw [hpc] at h1; cases h1; rw [hf] at h3; cases h3
    exact viewWith_granted hn hg ((pallowed_iff d.user kc).2 hk) ht hw

/-- the outcome depends on the policy server only through its answer to the one decision request of this request -/
theorem policy_decision_local (cfg : Config) (url : String) (opa opa' : Opa) (req : PReq)
    (h : ∀ certs, presentedCerts cfg req = .ok certs → opa (mkPost url req certs) = opa' (mkPost url req certs)) :
    handlePolicy cfg url opa req = handlePolicy cfg url opa' req := by
  unfold handlePolicy authenticated
  cases hpc : presentedCerts cfg req with
  | ok certs => simp only [h certs hpc]
  | err e => rfl
  | panic s => rfl
  | diverge => rfl

/-- what counts as a failed fetch: `cli.Do` fails (connection refused, reset, time-out), or the status is 300 or above, or
    the body does not unmarshal (bad JSON, empty body, wrongly typed members).  Members that are merely *missing* are zero
    values: `allow` is then false and `policy_deny_never_grants` applies. -/
theorem policy_fetch_failures (opa : Opa) (p : PolicyPost) :
    fetched opa p = none ↔
      (∃ dl, opa p = .transport dl) ∨ (∃ st b, opa p = .http st b ∧ (st ≥ 300 ∨ b = .bad)) := by
  unfold fetched
  cases hop : opa p with
  | transport dl => simp
  | http st b =>
    cases b with
    | bad => exact ⟨fun _ => Or.inr ⟨st, .bad, rfl, Or.inr rfl⟩, fun _ => rfl⟩
    | dec d =>
      by_cases h : st < 300
      · simp only [h, ↓reduceIte]
        constructor
        · intro h'; cases h'
        · rintro (⟨dl, h'⟩ | ⟨st', b, h', h''⟩)
          · cases h'
          · cases h'
            rcases h'' with h'' | h''
            · omega
            · cases h''
      · simp only [h, ↓reduceIte, true_iff]
        exact Or.inr ⟨st, _, rfl, Or.inl (by omega)⟩

/-- **Fail closed.**  On an authenticated route, if the decision could not be fetched (any of the failures above), the
    answer is an error — 500, or 504 when the request's deadline passed, or 401 when the request carried no credential
    in the first place — with no token event, nothing listed, no authenticated user; never access. -/
theorem policy_fail_closed (cfg : Config) (url : String) (opa : Opa) (req : PReq)
    (hst : startCheck cfg = none) (hp : req.ep.isPublic = false)
    (hf : ∀ certs, presentedCerts cfg req = .ok certs → fetched opa (mkPost url req certs) = none) :
    PRefused (handlePolicy cfg url opa req).out ∧
    ∃ r, (handlePolicy cfg url opa req).out = .resp r ∧ r.events = [] ∧ r.keys = [] ∧ r.user = "" ∧
      (r.status = 401 ∨ r.status = 500 ∨ r.status = 504) := by
  have hc := handlePolicy_case url opa hst hp
  generalize handlePolicy cfg url opa req = r at hc ⊢
  cases hc with
  | certErr _ _ => exact ⟨by simp [unhandled, PRefused], _, rfl, rfl, rfl, rfl, by simp⟩
  | noCred _ _ => exact ⟨by simp [PRefused], _, rfl, rfl, rfl, rfl, by simp⟩
  | fetchFail certs st _ _ _ h =>
    rcases h with rfl | rfl
    · exact ⟨by simp [unhandled, PRefused], _, rfl, rfl, rfl, rfl, by simp⟩
    · exact ⟨by simp [unhandled, PRefused], _, rfl, rfl, rfl, rfl, by simp⟩
  | deny certs d hpc _ hfd _ => rw [hf certs hpc] at hfd; cases hfd
  | allow certs d hpc _ hfd _ => rw [hf certs hpc] at hfd; cases hfd

/-- **No credentials.**  A request to an authenticated route without a bearer token (`Authorization` absent, not
    `Bearer …`, or `Bearer` followed by nothing) and without a certificate is answered 401 `token-required`, and the
    policy server is not even asked.  (500 if a trusted proxy's `Ssl-Client-Cert` does not decode.) -/
theorem policy_no_credentials_401 (cfg : Config) (url : String) (opa : Opa) (req : PReq)
    (hst : startCheck cfg = none) (hp : req.ep.isPublic = false) (hc : hasCredentials cfg req = false) :
    (handlePolicy cfg url opa req).post = none ∧
    ((handlePolicy cfg url opa req).out = .resp { status := 401, problem := "token-required", ip := (ptransport cfg req).1 } ∨
     ((handlePolicy cfg url opa req).out = unhandled 500 (ptransport cfg req).1 ∧ req.sslCert = .bad)) := by
  have hcase := handlePolicy_case url opa hst hp
  generalize handlePolicy cfg url opa req = r at hcase ⊢
  unfold hasCredentials at hc
  simp only [ne_eq, Bool.or_eq_false_iff, decide_eq_false_iff_not, Decidable.not_not] at hc
  obtain ⟨htok, hcs⟩ := hc
  have hnil : ∀ certs, presentedCerts cfg req = .ok certs → certs = [] := by
    intro certs h
    rw [h] at hcs
    cases certs with
    | nil => rfl
    | cons a as => simp at hcs
  cases hcase with
  | certErr _ hb => exact ⟨rfl, Or.inr ⟨rfl, hb⟩⟩
  | noCred _ _ => exact ⟨rfl, Or.inl rfl⟩
  | fetchFail certs st hpc hn _ _ => exact absurd ⟨htok, hnil certs hpc⟩ hn
  | deny certs d hpc hn _ _ => exact absurd ⟨htok, hnil certs hpc⟩ hn
  | allow certs d hpc hn _ _ => exact absurd ⟨htok, hnil certs hpc⟩ hn

/-- the policy server is asked only about requests that carry a credential -/
theorem policy_asked_only_with_credentials (cfg : Config) (url : String) (opa : Opa) (req : PReq)
    (h : (handlePolicy cfg url opa req).post ≠ none) : hasCredentials cfg req = true := by
  rcases handlePolicy_cases cfg url opa req with ⟨o, ho, -⟩ | ⟨hst, hp, -⟩
  · rw [ho] at h; exact absurd rfl h
  · cases hc : hasCredentials cfg req with
    | true => rfl
    | false => exact absurd (policy_no_credentials_401 cfg url opa req hst hp hc).1 h

/-- **A denial never grants anything.**  If the fetched decision has `allow: false` — whatever its `roles`,
    `allowed_keys`, `sub`, and whether `errors` is empty or not — the answer is 401 or 403 `token-authorization-failed`
    with exactly the decision's errors, no token event, nothing listed. -/
theorem policy_deny_never_grants (cfg : Config) (url : String) (opa : Opa) (req : PReq) (certs : List String) (d : Decision)
    (hst : startCheck cfg = none) (hp : req.ep.isPublic = false)
    (hpc : presentedCerts cfg req = .ok certs) (hcred : ¬ (bearerToken req.authz = "" ∧ certs = []))
    (hf : fetched opa (mkPost url req certs) = some d) (ha : d.allow = false) :
    handlePolicy cfg url opa req =
      { out := .resp { status := denyStatus d.errors, problem := "token-authorization-failed",
                       ip := (ptransport cfg req).1, user := d.sub },
        post := some (mkPost url req certs), errors := d.errors } ∧
    PRefused (handlePolicy cfg url opa req).out := by
  have hcase := handlePolicy_case url opa hst hp
  generalize handlePolicy cfg url opa req = r at hcase ⊢
  cases hcase with
  | certErr h _ => exact absurd hpc (h certs)
  | noCred h1 h2 => rw [hpc] at h1; cases h1; exact absurd ⟨h2, rfl⟩ hcred
  | fetchFail certs' st h1 _ h3 _ => rw [hpc] at h1; cases h1; rw [hf] at h3; cases h3
  | deny certs' d' h1 _ h3 _ =>
    rw [hpc] at h1; cases h1; rw [hf] at h3; cases h3
    refine ⟨rfl, ?_⟩
    rcases denyStatus_cases d.errors with ⟨h, _⟩ | ⟨h, _⟩ <;> simp [PRefused, h]
  | allow certs' d' h1 _ h3 h4 => rw [hpc] at h1; cases h1; rw [hf] at h3; cases h3; rw [ha] at h4; cases h4

/-- **Status of a denial**: 401 iff one of the decision's errors is in `should401`, otherwise 403 (in particular for an
    empty list) -/
theorem policy_deny_status (es : List String) :
    (denyStatus es = 401 ↔ ∃ e, e ∈ es ∧ e ∈ should401) ∧ (denyStatus es = 403 ↔ ∀ e ∈ es, e ∉ should401) ∧
    (denyStatus es = 401 ∨ denyStatus es = 403) := by
  rcases denyStatus_cases es with ⟨h, e, he, hs⟩ | ⟨h, hn⟩
  · refine ⟨⟨fun _ => ⟨e, he, hs⟩, fun _ => h⟩, ⟨fun h' => by omega, fun h' => absurd hs (h' e he)⟩, Or.inl h⟩
  · refine ⟨⟨fun h' => by omega, fun ⟨e, he, hs⟩ => absurd hs (hn e he)⟩, ⟨fun _ => hn, fun _ => h⟩, Or.inr h⟩

/-- **Key listing in policy mode.**  When the server started, no token is named "", `Keys` is a map, and every entry that
    `allowed_keys` names has a `token:`: the listing is exactly the sorted list of non-hidden names for which `/sign`
    would pass authorisation for this user. -/
theorem policy_list_exact (cfg : Config) (u : PUser) (hst : startCheck cfg = none) (hnt : "" ∉ cfg.tokens)
    (hak : namedHaveTokens cfg u = true) (hd : ∀ k ∈ cfg.keys, lookupKey cfg k.name = some k) :
    listKeysWith (pallowed u) cfg = specListWith (pallowed u) cfg ∧ (listKeysWith (pallowed u) cfg).Pairwise (· ≤ ·) ∧
    ∀ n, n ∈ listKeysWith (pallowed u) cfg ↔
      ∃ k ∈ cfg.keys, k.name = n ∧ hidden cfg k = false ∧ psignAuthorised (pallowed u) cfg n = true :=
  listWith_exact (pallowed u) cfg (fun _ ht ha => pallowed_has_token hst hnt hak ht ha) hd

/-- why the hypothesis on `allowed_keys` is needed: an entry without `token:` (and without roles, so start-up accepts it)
    that the decision names is listed, but `/sign` refuses it -/
theorem policy_list_needs_tokens :
    let cfg : Config := { clients := [], keys := [{ name := "k", token := "", alias := "", roles := [], hide := false }],
                          tokens := ["t0"], proxiesOK := true, inNets := fun _ => false }
    let u : PUser := { sub := "alice", roles := [], allowedKeys := ["k"] }
    startCheck cfg = none ∧ listKeysWith (pallowed u) cfg = ["k"] ∧ psignAuthorised (pallowed u) cfg "k" = false := by
  refine ⟨by decide, by decide, by decide⟩

/-- **Faithful input.**  Whenever a decision request is sent, it goes to the configured URL, is wrapped as
    `{"input": …}` exactly when the URL contains `/v1/data`, and carries this request's path, query and bearer token,
    and the certificates the real-ip layer attributes to the caller: those of the TLS connection unless the request is
    proxied (direct peer in the trusted networks *and* relaying a forwarded-for hop) — in particular always for a peer
    outside the trusted networks, whatever headers it sends — and otherwise those of `Ssl-Client-Cert`.  The fingerprint
    is that of the first (leaf) certificate and the chain is written leaf last. -/
theorem policy_input_faithful (cfg : Config) (url : String) (opa : Opa) (req : PReq) (p : PolicyPost)
    (h : (handlePolicy cfg url opa req).post = some p) :
    p.dest = url ∧ p.wrapped = !usesDefault url ∧ p.input.path = pathOf req.ep ∧ p.input.query = queryOf req.ep ∧
    p.input.token = bearerToken req.authz ∧
    ∃ certs, presentedCerts cfg req = .ok certs ∧ p.input.fingerprint = certs.head?.getD "" ∧
      p.input.clientCert = certs.reverse ∧
      (hopTrusted cfg.inNets (stripPort req.remoteAddr) = false → certs = req.tls.names) ∧
      ((ptransport cfg req).2 = false → certs = req.tls.names) ∧
      ((ptransport cfg req).2 = true → (req.sslCert = .absent ∧ certs = []) ∨ ∃ c, req.sslCert = .certs c ∧ certs = c.names) := by
  have key : ∃ certs, presentedCerts cfg req = .ok certs ∧ p = mkPost url req certs := by
    rcases handlePolicy_cases cfg url opa req with ⟨o, ho, -⟩ | ⟨-, -, hcase⟩
    · rw [ho] at h; cases h
    · generalize handlePolicy cfg url opa req = r at hcase h
      cases hcase with
      | certErr _ _ => simp at h
      | noCred _ _ => simp at h
      | fetchFail certs st hpc _ _ _ => simp only [Option.some.injEq] at h; exact ⟨certs, hpc, h.symm⟩
      | deny certs d hpc _ _ _ => simp only [Option.some.injEq] at h; exact ⟨certs, hpc, h.symm⟩
      | allow certs d hpc _ _ _ => simp only [Option.some.injEq] at h; exact ⟨certs, hpc, h.symm⟩
  obtain ⟨certs, hpc, rfl⟩ := key
  refine ⟨rfl, rfl, rfl, rfl, rfl, certs, hpc, rfl, rfl, ?_, ?_, ?_⟩
  · intro hu
    have := ptransport_untrusted cfg req hu
    simp [presentedCerts, this, ppeerCerts] at hpc
    exact hpc.symm
  · intro hprox
    simp [presentedCerts, hprox, ppeerCerts] at hpc
    exact hpc.symm
  · intro hprox
    simp only [presentedCerts, hprox, ppeerCerts, Bool.not_true, Bool.false_eq_true, ↓reduceIte] at hpc
    cases hs : req.sslCert with
    | absent => simp [hs] at hpc; exact Or.inl ⟨rfl, hpc⟩
    | bad => simp [hs] at hpc
    | certs c => simp [hs] at hpc; exact Or.inr ⟨c, rfl, hpc.symm⟩

/-- **Untrusted headers in policy mode.**  If the direct peer is not a trusted proxy, the whole result — response, decision
    request sent, address recorded — is independent of `X-Forwarded-For` and `Ssl-Client-Cert`. -/
theorem policy_untrusted_headers_ignored (cfg : Config) (url : String) (opa : Opa) (req : PReq) (xff' : List String)
    (ssl' : PHdr) (hu : hopTrusted cfg.inNets (stripPort req.remoteAddr) = false) :
    handlePolicy cfg url opa { req with xff := xff', sslCert := ssl' } = handlePolicy cfg url opa req := by
  have tv : ∀ x s, ptransport cfg { req with xff := x, sslCert := s } = (stripPort (stripPort req.remoteAddr), false) :=
    fun x s => ptransport_untrusted cfg { req with xff := x, sslCert := s } hu
  have tv0 : ptransport cfg req = (stripPort (stripPort req.remoteAddr), false) := ptransport_untrusted cfg req hu
  have pc : ∀ x s, presentedCerts cfg { req with xff := x, sslCert := s } = .ok req.tls.names := by
    intro x s; simp [presentedCerts, tv, ppeerCerts]
  have pc0 : presentedCerts cfg req = .ok req.tls.names := by simp [presentedCerts, tv0, ppeerCerts]
  have ha : ∀ ip, authenticated cfg url opa { req with xff := xff', sslCert := ssl' } ip =
      authenticated cfg url opa req ip := by
    intro ip
    unfold authenticated
    rw [pc xff' ssl', pc0]
    rfl
  unfold handlePolicy
  rw [tv xff' ssl', tv0]
  simp only [ha]

/-- `bearerToken`: a non-empty token `t` is extracted exactly when the header is seven bytes that read `bearer ` in any
    letter case, followed by `t` (no trimming, no other scheme) -/
theorem policy_bearer_spec (a t : List Char) (ht : t ≠ []) :
    bearerTokenL a = t ↔ ∃ pfx, a = pfx ++ t ∧ pfx.length = 7 ∧ pfx.map lowerAscii = bearerPrefix := by
  unfold bearerTokenL
  constructor
  · intro h
    by_cases h1 : a.length < 7
    · rw [if_pos h1] at h; exact absurd h.symm ht
    · rw [if_neg h1] at h
      by_cases h2 : (a.take 7).map lowerAscii = bearerPrefix
      · rw [if_pos h2] at h
        refine ⟨a.take 7, ?_, ?_, h2⟩
        · rw [← h, List.take_append_drop]
        · rw [List.length_take]; omega
      · rw [if_neg h2] at h; exact absurd h.symm ht
  · rintro ⟨pfx, rfl, hl, hp⟩
    have h1 : ¬ (pfx ++ t).length < 7 := by rw [List.length_append]; omega
    have h2 : (pfx ++ t).take 7 = pfx := by rw [← hl, List.take_left]
    have h3 : (pfx ++ t).drop 7 = t := by rw [← hl, List.drop_left]
    rw [if_neg h1, h2, if_pos hp, h3]

/-- **Policy mode is exclusive.**  With a policy URL configured the `clients:` section grants nothing and denies nothing:
    it is read only by the start-up validation of `Config.Normalize`; any two client sections that both pass it give
    the same server.  (And `serve` is `handlePolicy`: `CertificateAuth` is not consulted at all.) -/
theorem policy_mode_exclusive (cfg : Config) (url : String) (opa : Opa) (req : PReq) (clients' : List Client)
    (hu : url ≠ "") (h1 : startCheck cfg = none) (h2 : startCheck { cfg with clients := clients' } = none) :
    serve cfg url opa req = [handlePolicy cfg url opa req] ∧
    serve { cfg with clients := clients' } url opa req = serve cfg url opa req := by
  have e1 : ∀ c : Config, serve c url opa req = [handlePolicy c url opa req] := fun _ => if_pos hu
  refine ⟨e1 cfg, ?_⟩
  -- past the start-up check nothing reads `clients`
  have hv : ∀ al u ip ep, viewWith al { cfg with clients := clients' } u ip ep = viewWith al cfg u ip ep :=
    fun _ _ _ _ => rfl
  simp only [e1, handlePolicy, h1, h2, authenticated, presentedCerts, ptransport, hv]

/-- without a policy URL the certificate authenticator is used: bearer tokens and the policy server play no role -/
theorem cert_mode_ignores_bearer (cfg : Config) (opa opa' : Opa) (req : PReq) (authz' : String) :
    serve cfg "" opa' { req with authz := authz' } = serve cfg "" opa req ∧
    ∀ r ∈ serve cfg "" opa req, r.post = none := by
  refine ⟨by simp [serve, PReq.toReq], ?_⟩
  intro r hr
  simp only [serve, ne_eq, not_true_eq_false, ↓reduceIte, List.mem_map] at hr
  obtain ⟨o, _, rfl⟩ := hr
  rfl

/-- the shape of the decision request: the bare input for the default decision, `{"input": …}` for a `/v1/data` URL -/
theorem policy_request_shape (url : String) (req : PReq) (certs : List String) :
    (mkPost url req certs).wrapped = isInfix v1data url.toList ∧ (mkPost url req certs).dest = url := by
  simp [mkPost, usesDefault]

/-- certificate mode's views and listing are the instance `Allowed = role intersection` of the generic ones -/
theorem views_shared (cfg : Config) (c : Client) (user ip : String) (ep : Endpoint) :
    view true cfg c user ip ep = viewWith (allowed c) cfg user ip ep ∧ listKeys cfg c = listKeysWith (allowed c) cfg :=
  ⟨view_eq_viewWith cfg c user ip ep, rfl⟩

/-- policy mode never panics (tree with fix-F2) -/
theorem policy_no_panic (cfg : Config) (url : String) (opa : Opa) (req : PReq) :
    (handlePolicy cfg url opa req).out.isPanic = false := by
  rcases handlePolicy_cases cfg url opa req with ⟨o, ho, ⟨e, rfl⟩ | ⟨-, ip, rfl⟩⟩ | ⟨-, -, hcase⟩
  · rw [ho]; rfl
  · rw [ho]; rfl
  · generalize handlePolicy cfg url opa req = r at hcase ⊢
    cases hcase with
    | certErr _ _ => rfl
    | noCred _ _ => rfl
    | fetchFail _ _ _ _ _ _ => rfl
    | deny _ _ _ _ _ _ => rfl
    | allow _ d _ _ _ _ => exact viewWith_no_panic ..

/-- keys `k1` (roles r0, r1), alias `a` of `k1`, a hidden key `h` (role r0), `k2` (role r2, another token), a fingerprint
    client L1; 10.0.0.1 trusted -/
def pexCfg : Config :=
  { clients := [{ key := "L1", valid64 := true, nick := "n1", roles := ["r0"], ca := none }],
    keys := [{ name := "k1", token := "t0", alias := "", roles := ["r0", "r1"], hide := false },
             { name := "a", token := "", alias := "k1", roles := [], hide := false },
             { name := "h", token := "t0", alias := "", roles := ["r0"], hide := true },
             { name := "k2", token := "t1", alias := "", roles := ["r2"], hide := false }],
    tokens := ["t0", "t1"], proxiesOK := true, inNets := fun a => a == "10.0.0.1" }

def pexReq (authz : String) (ep : Endpoint) : PReq :=
  { remoteAddr := "1.2.3.4:999", tls := { names := [] }, xff := ["6.6.6.6"],
    sslCert := .certs { names := ["L1", "I0"] }, authz, ep }

def pexUrl : String := "http://opa/v1/data/relic/authz"

/-- a policy server that allows `alice` the key `k1` by name, for any request with token `tokA` -/
def pexOpa : Opa := fun p =>
  if p.input.token = "tokA" then .http 200 (.dec { allow := true, sub := "alice", allowedKeys := ["k1"] })
  else .http 200 (.dec { errors := ["token is expired"], roles := ["r0", "r1", "r2"], allowedKeys := ["k1", "k2"] })

/-- premises of `policy_sign_only_if_entitled` / `policy_decision_trusted`: the alias `a` resolves to `k1`, which the
    decision names; the request is wrapped for the `/v1/data` URL and carries the TLS-level view (no certificate: the
    peer is not a trusted proxy, so `Ssl-Client-Cert` is ignored) -/
example : handlePolicy pexCfg pexUrl pexOpa (pexReq "bEARER tokA" (.sign "a" true true)) =
    { out := .resp { status := 200, ip := "1.2.3.4", user := "alice",
                     events := [⟨"getkey", "t0", "k1"⟩, ⟨"sign", "t0", "k1"⟩] },
      post := some { dest := pexUrl, wrapped := true,
                     input := { path := "/sign", query := [("filename", "a.ps1"), ("key", "a"), ("ps-style", ".ps1"), ("sigtype", "ps")],
                                token := "tokA", fingerprint := "", clientCert := [] } } } := by decide +kernel

/-- premises of `policy_deny_never_grants`: `allow: false` with roles and keys filled in, an error in `should401` -/
example : handlePolicy pexCfg pexUrl pexOpa (pexReq "Bearer other" (.sign "k1" true true)) =
    { out := .resp { status := 401, problem := "token-authorization-failed", ip := "1.2.3.4" },
      post := some (mkPost pexUrl (pexReq "Bearer other" (.sign "k1" true true)) []),
      errors := ["token is expired"] } := by decide +kernel

/-- the same denial with an empty error list: 403 -/
example : (handlePolicy pexCfg pexUrl
      (fun _ => .http 200 (.dec { roles := ["r0"], allowedKeys := ["k1"] })) (pexReq "Bearer x" (.getKey "k1"))).out =
    .resp { status := 403, problem := "token-authorization-failed", ip := "1.2.3.4" } := by decide +kernel

/-- premises of `policy_fail_closed`: status 500 with a body that says allow; unparsable body; transport failure -/
example : (handlePolicy pexCfg pexUrl (fun _ => .http 500 (.dec { allow := true, allowedKeys := ["k1"] }))
      (pexReq "Bearer tokA" (.sign "k1" true true))).out = unhandled 500 "1.2.3.4" ∧
    (handlePolicy pexCfg pexUrl (fun _ => .http 200 .bad) (pexReq "Bearer tokA" (.sign "k1" true true))).out = unhandled 500 "1.2.3.4" ∧
    (handlePolicy pexCfg pexUrl (fun _ => .transport true) (pexReq "Bearer tokA" .listKeys)).out = unhandled 504 "1.2.3.4" := by
  decide +kernel

/-- premise of `policy_no_credentials_401`: `Bearer ` followed by nothing, no TLS certificate, header from an untrusted peer -/
example : hasCredentials pexCfg (pexReq "Bearer " .home) = false ∧
    handlePolicy pexCfg pexUrl pexOpa (pexReq "Bearer " .home) =
      { out := .resp { status := 401, problem := "token-required", ip := "1.2.3.4" } } := by
  decide +kernel

/-- `policy_input_faithful`, proxied case: from the trusted proxy 10.0.0.1 the forwarded certificate chain is what the
    policy sees (leaf last), with the leaf's fingerprint; no bearer token is needed then -/
example : (handlePolicy pexCfg "http://opa" pexOpa { pexReq "" .home with remoteAddr := "10.0.0.1:7" }).post =
    some { dest := "http://opa", wrapped := false,
           input := { path := "/", query := [], token := "", fingerprint := "L1", clientCert := ["I0", "L1"] } } := by decide +kernel

/-- premises of `policy_list_exact`: the alias is listed under its own name because the decision names its target -/
example : startCheck pexCfg = none ∧ "" ∉ pexCfg.tokens ∧
    namedHaveTokens pexCfg { sub := "alice", roles := ["r2"], allowedKeys := ["k1", "h"] } = true ∧
    (∀ k ∈ pexCfg.keys, lookupKey pexCfg k.name = some k) ∧
    listKeysWith (pallowed { sub := "alice", roles := ["r2"], allowedKeys := ["k1", "h"] }) pexCfg = ["a", "k1", "k2"] := by
  decide +kernel

/-- `policy_mode_exclusive`: the recognised client certificate L1 (role r0, which `k1` carries) gets nothing in policy
    mode when the policy denies, and everything in certificate mode -/
example : (serve pexCfg pexUrl (fun _ => .http 200 (.dec {}))
      { pexReq "" (.getKey "k1") with tls := { names := ["L1"] } }).map (·.out) =
      [.resp { status := 403, problem := "token-authorization-failed", ip := "1.2.3.4" }] ∧
    (serve pexCfg "" (fun _ => .http 200 (.dec {}))
      { pexReq "" (.getKey "k1") with tls := { names := ["L1"] } }).map (·.out) =
      [.resp { status := 200, ip := "1.2.3.4", user := "n1", events := [⟨"getkey", "t0", "k1"⟩] }] := by
  decide +kernel

/-- bearer extraction is case-insensitive, needs the space and does not trim; `/v1/data` is matched case-sensitively as an
    infix -/
example : bearerToken "BeArEr  x y" = " x y" ∧ bearerToken "Bearer" = "" ∧ bearerToken "Basic abc" = "" ∧
    bearerToken "Bearertok" = "" ∧ usesDefault "http://opa/" = true ∧ usesDefault "http://opa/v1/datax" = false ∧
    usesDefault "http://opa/V1/DATA" = true := by
  decide +kernel

end Relic.Props.C04
