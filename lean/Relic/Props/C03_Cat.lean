/-
  C03 — Signing never corrupts or alters the payload.   Security catalogs: the payload of a catalog is its certificate trust list.
-/
import Relic.Props.C16_Cat
namespace Relic.Props.C03
open Relic.CatSign

/-- **cat_payload_preserved.**  The ContentInfo holding the certificate trust list appears in the output with exactly the
    bytes it had in the input (see `Relic.Props.C16.cat_content_reemitted_verbatim`); everything else of the old file – old
    signer infos, certificates, CRLs, digest algorithms – is signature metadata and is dropped. -/
theorem cat_payload_preserved (H : Bytes → Bytes) (k : Signer) (blob : Bytes) (s : Signed) (h : sign H k blob = .ok s) :
    s.ci <:+: blob ∧ s.ci <:+: s.out ∧ s.content <:+: s.ci :=
  let t := C16.cat_content_reemitted_verbatim H k blob s h
  ⟨t.1, t.2.1, t.2.2.2.2.1⟩

/-- **cat_refusal_is_clean**: `sign` answers ok or a plain error – no partial output exists in the model (the signer returns
    a fresh blob; the input file is replaced only on success) -/
theorem cat_refusal_is_clean (H : Bytes → Bytes) (k : Signer) (blob : Bytes) : Total (sign H k blob) := sign_total H k blob

end Relic.Props.C03
