/-
  C01 (APPX): sign-then-verify.  The unchanged code does NOT have the property for packages without `.exe`/`.dll`
  members (F19): `Sign` writes no catalog, `verifyCatalog` demands one.
-/
import Relic.Props.C05_Appx
namespace Relic.Props.C01
open Relic.Appx

/-- **appx_catalog_iff_pe.** `Sign` records AXCI (and writes the catalog part) exactly when a payload member is a PE file. -/
theorem appx_catalog_iff_pe (c : Codec) (z : Bytes) (ps : Parts) (r : Signed) (h : sign c z ps = .ok r) :
    ∃ g, digest c z = .ok g ∧ (r.streams.axci.isSome = g.p.hasPE) := by
  obtain ⟨g, _, hg, _, _, _, _, _, _, _, _, h10⟩ := C05.appx_digest_eq_spec c z ps r h
  refine ⟨g, hg, ?_⟩
  rw [h10]; cases g.p.hasPE <;> rfl

/-- the statement without the hypotheses: the model's verifier accepts what the model's signer wrote, under the streams that
    were signed, for SOME codec.  It is FALSE as stated (`C01.not_appx_sign_then_verify_full` in C01_AppxFull.lean: empty
    manifest part / F7a; also incoherent parts, `*.appx` members / F41); the statement with the missing
    hypotheses made explicit, for the SAME codec and without the PE condition (fix-F19), is proved there as
    `C01.appx_sign_then_verify_zip`, on top of the round trip `Read ∘ WriteDirectory` (`C17.read_write_directory_own_output`).
    Both sides are also executed on every generated op (`v=` of stage 2 vs `signappx.Verify`). -/
def appx_sign_then_verify_full : Prop :=
  ∀ (c : Codec) (z : Bytes) (ps : Parts) (r : Signed), sign c z ps = .ok r → (∃ g, digest c z = .ok g ∧ g.p.hasPE = true) →
    ∃ c' : Codec, verify c' r.out r.streams (some r.bm) = .ok ()

end Relic.Props.C01
