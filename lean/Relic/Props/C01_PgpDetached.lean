/-
  C01 — detached OpenPGP signatures (signers/pgp without --inline / --clearsign; `relic verify --content`):
  the verifier hashes the stream the signer hashed, for both signature types (binary, and text = --textmode),
  however either side received the document.  Before fix b49f687 (F49) VerifyDetached ignored the signature type:
  `pgp_detached_text_orig_rejects` states exactly which text-mode signatures relic then rejected itself.
-/
import Relic.Proofs.PgpDetached
namespace Relic.Props.C01
open Relic.PgpDetached

/-- **pgp_detached_sign_then_verify.** For every document, every way of delivering it to the signer and to the
    verifier, with or without --textmode: the verifier's hash input equals the signer's.  (The signature value then
    verifies by the SigScheme parameter; key lookup and the trailer are the library's.) -/
theorem pgp_detached_sign_then_verify (textmode : Bool) (chunksS chunksV : List Bytes)
    (h : chunksS.flatten = chunksV.flatten) :
    verifyHashed (sigTypeOf textmode) chunksV = signHashed (sigTypeOf textmode) chunksS := by
  cases textmode <;> simp [sigTypeOf, verifyHashed, signHashed, canonWrites_eq, h]

/-- **pgp_detached_text_orig_rejects.** The verifier as it was before the repair hashed another stream than the signer
    for EVERY text-mode signature of a document holding a line feed that does not follow an (unconsumed) carriage
    return: the streams differ in length, so under any hash the digests are those of different messages. -/
theorem pgp_detached_text_orig_rejects (pre post : Bytes) (hpre : (canonStep false pre).2 = false) :
    verifyHashedOrig .text [pre ++ 10 :: post] ≠ signHashed .text [pre ++ 10 :: post] := by
  intro h
  have hl := congrArg List.length h
  have := canonStep_bare_lf_longer pre post hpre
  simp [verifyHashedOrig, signHashed, canonWrites] at hl
  simp at this
  omega

/-- … and it agreed with the signer exactly on binary signatures and on documents without line feeds. -/
theorem pgp_detached_orig_agrees_partial (t : SigType) (doc : Bytes) (h : t = .binary ∨ ∀ b ∈ doc, b ≠ 10) :
    verifyHashedOrig t [doc] = signHashed t [doc] := by
  cases t with
  | binary => simp [verifyHashedOrig, signHashed]
  | text =>
    rcases h with h | h
    · cases h
    · simp [verifyHashedOrig, signHashed, canonWrites, canonStep_no_lf false doc h]

/-- non-vacuity / witness: "a\n" is hashed as "a\r\n" by the text signer, as "a\n" by the old verifier -/
example : signHashed .text [[97, 10]] = [97, 13, 10] ∧ verifyHashedOrig .text [[97, 10]] = [97, 10] ∧
    verifyHashed .text [[97], [10]] = [97, 13, 10] := by decide +kernel

/-- the library's quirk is kept: CR CR LF gets a CR inserted (state 1 is left by any byte) -/
example : canonText [13, 13, 10] = [13, 13, 13, 10] ∧ canonText [13, 10] = [13, 10] := by decide +kernel

end Relic.Props.C01
