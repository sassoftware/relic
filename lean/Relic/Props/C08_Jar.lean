/-
  C08 fragment — JAR: re-signing replaces the old signature; the manifest is not rewritten again.
-/
import Relic.Proofs.Jar
namespace Relic.Props.C08
open Relic.Jar

/-- **jar_resign_removes_old_signature.** Whatever the input archive carried, the signed archive holds the four
    members signing writes and otherwise only members `keepFile` keeps: no `META-INF/*.SF`, `*.RSA`, `*.DSA`, `*.EC`,
    `*.SIG`, `SIG-*` (upper-case spelling, see finding F33) or old manifest survives a signing round. -/
theorem jar_resign_removes_old_signature (ms : List Member) (mf sf sig : Bytes) (kk : Nat) (alias : Bytes) :
    ∀ m ∈ (signedMembers ms mf sf sig kk alias).drop 4, keepFile m.name = true ∧ m ∈ ms := by
  intro m hm
  simp [signedMembers] at hm
  exact ⟨hm.2, hm.1⟩

/-- every digested member is listed in the files map with a non-empty digest equal to the computed one, and carries
    no `Magic` attribute -/
def AllListedMatching (key : Bytes) (digests : List (Bytes × Bytes)) (fm : FilesMap) : Prop :=
  ∀ nd ∈ digests, ∃ attrs, fm.files.lookup nd.1 = some attrs ∧ (hget attrs kMagic).isEmpty = true ∧
    hget attrs key = nd.2 ∧ nd.2 ≠ []

/-- **jar_update_idempotent_partial.** Decision level of `updateManifest`: when every digested member is already listed
    with the matching digest (the state a previous signing leaves behind), the loop changes nothing and does not
    set `changed`, so the manifest bytes are kept as they are (unless the manifest is `malformed`, which a manifest
    written by `Dump` is not – that last step is part of the unproved full statement). -/
theorem jar_update_idempotent_partial (key : Bytes) : ∀ (digests : List (Bytes × Bytes)) (fm : FilesMap) (ch : Bool),
    AllListedMatching key digests fm → updateLoop key digests fm ch = .ok (fm, ch)
  | [], fm, ch, _ => rfl
  | (name, dg) :: rest, fm, ch, h => by
    obtain ⟨attrs, hl, hm, hk, hne⟩ := h (name, dg) (by simp)
    unfold updateLoop
    simp only [hl]
    simp only at hk hne
    subst hk
    simp [hm, hne]
    exact jar_update_idempotent_partial key rest fm ch (fun nd hnd => h nd (by simp [hnd]))

example : AllListedMatching (asc "SHA-256-Digest") [(asc "a", asc "D")]
    { main := [], order := [asc "a"], files := [(asc "a", [(asc "Name", asc "a"), (asc "Sha-256-Digest", asc "D")])] } := by
  intro nd hnd
  simp at hnd
  subst hnd
  exact ⟨_, rfl, by decide, by decide, by decide⟩

/-- full strength, not proved: running `updateManifest` on the archive it produced returns the same manifest bytes with
    `changed = false` (needs: `parseManifest (dump fm)` is not malformed and lists every section of `fm` with the
    digests `updateLoop` wrote; the section-level round trip is `C05.jar_fold_unfold_section`).  Exercised on the
    real code by the `resign` ops (`resign=same`) and on the model by the `again=` tag. -/
def jar_update_idempotent_full : Prop :=
  ∀ (hash : Bytes → Bytes) (sign : Bytes → Bytes) (hn cb : Bytes) (so apk : Bool) (kk : Nat) (alias : Bytes)
    (ms out : List Member) (mf : Bytes),
    signJar hash sign hn cb so apk kk alias ms = .ok out → findManifest out = some mf →
    updateManifest hash hn out = .ok (mf, false)

end Relic.Props.C08
