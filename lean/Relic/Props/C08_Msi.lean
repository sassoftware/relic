/-
  C08 fragment — MSI: re-signing replaces the signature; the digest ignores existing signatures.
  (`msi_digest_ignores_signature` is `Relic.Props.C18.msi_digest_ignores_signature`; here: the flow.)
-/
import Relic.Props.C01_Msi
namespace Relic.Props.C08
open Relic.MsiDigest Relic.MsiSign

/-- the invariant of signing histories: the class of documents of `msi_sign_then_verify` -/
def MsiInv (d : Node) : Prop := DocOk d ∧ tarRootOkB d.kids = true

/-- **msi_resign_replaces.** Signing a document of the class – whatever signature streams it already carries: none, a
    signature, a signature and an extended signature, a stale extended signature alone, several of one name – and
    re-reading the result: exactly one signature stream, holding the new blob; exactly one extended-signature stream if
    an extended signature was asked for and none otherwise; the payload entries and the root entry are what they were;
    the result is again of the class. -/
theorem msi_resign_replaces (H : Nat → Bytes → Bytes) (mk : Nat → Bytes → Bytes) (hH : ∀ a x, (H a x).length > 0)
    (d : Node) (hd : MsiInv d) (alg : Nat) (noExt : Bool) (s₁ s₂ : Nat) :
    ∃ d₁, signMSI H mk alg noExt d s₁ s₂ = .ok d₁ ∧ ∀ d', Reread d₁ d' →
      sigCount d'.kids = 1 ∧ exCount d'.kids = (if noExt then 0 else 1) ∧
      locate d'.kids [] none = .ok (mk alg (imprintOf H alg noExt d), if noExt then none else some (exValue H alg noExt d)) ∧
      PayloadSame d d' ∧ MsiInv d' := by
  refine ⟨_, sign_eq H mk d hd.1 hd.2 alg noExt s₁ s₂, ?_⟩
  intro d' h
  obtain ⟨c1, c2⟩ := counts_inserted d.kids (mk alg (imprintOf H alg noExt d)) (exValue H alg noExt d) s₁ s₂
  have hlen : (exValue H alg noExt d).length > 0 ↔ noExt = false := by
    unfold exValue
    cases noExt with
    | true => simp
    | false => simp [hH]
  have hloc := locate_reread_inserted d.meta d.content d.kids (mk alg (imprintOf H alg noExt d)) (exValue H alg noExt d)
    s₁ s₂ hd.1.streams hd.1.noAlias d' h
  refine ⟨by rw [sigCount_reread h]; exact c1, ?_, ?_, ?_, ?_⟩
  · rw [exCount_reread h]
    simp only [Node.kids] at c2 ⊢
    rw [c2]
    cases noExt with
    | true => simp [exValue]
    | false => simp [hlen.mpr rfl]
  · rw [hloc]
    cases noExt with
    | true => simp [exValue]
    | false => simp [hlen.mpr rfl]
  · exact (payloadSame_inserted d _ _ s₁ s₂).trans (payloadSame_reread h)
  · exact ⟨(hd.1.afterInsert _ _ s₁ s₂).reread h, tarRootOk_reread h (tarRootOk_inserted d.kids _ _ s₁ s₂ hd.2)⟩

/-- a history of signings: each round with its own flag, digest algorithm and sector choices, each followed by `Close`
    and a later `ReadFile` -/
inductive MsiHist (H : Nat → Bytes → Bytes) (mk : Nat → Bytes → Bytes) : Node → List Bool → Node → Prop
  | nil (d : Node) : MsiHist H mk d [] d
  | step {d d₁ d' dn : Node} {flags : List Bool} (alg : Nat) (noExt : Bool) (s₁ s₂ : Nat) :
      signMSI H mk alg noExt d s₁ s₂ = .ok d₁ → Reread d₁ d' → MsiHist H mk d' flags dn →
      MsiHist H mk d (noExt :: flags) dn

/-- **msi_history.** After any sequence of signings of a document of the class, with either flag value in every round:
    the payload entries and the root entry are those of the original document; if there was at least one round there
    is exactly one signature stream, and the extended-signature stream is present exactly if the *last* signing was
    extended; the result is of the class (so the next round, and `msi_sign_then_verify` for it, apply). -/
theorem msi_history (H : Nat → Bytes → Bytes) (mk : Nat → Bytes → Bytes) (hH : ∀ a x, (H a x).length > 0) :
    ∀ (flags : List Bool) (d dn : Node), MsiHist H mk d flags dn → MsiInv d →
      MsiInv dn ∧ PayloadSame d dn ∧
      ∀ last, flags.getLast? = some last → sigCount dn.kids = 1 ∧ exCount dn.kids = (if last then 0 else 1) := by
  intro flags d dn hh
  induction hh with
  | nil d => intro hd; exact ⟨hd, PayloadSame.refl d, fun _ h => by simp at h⟩
  | @step d d₁ d' dn flags alg noExt s₁ s₂ hs hr hrest ih =>
    intro hd
    obtain ⟨x, hx, hall⟩ := msi_resign_replaces H mk hH d hd alg noExt s₁ s₂
    rw [hs] at hx
    injection hx with hx
    subst hx
    obtain ⟨c1, c2, _, ps, inv⟩ := hall d' hr
    obtain ⟨i1, i2, i3⟩ := ih inv
    refine ⟨i1, ps.trans i2, ?_⟩
    intro last hl
    cases hrest with
    | nil _ =>
      simp only [List.getLast?_singleton, Option.some.injEq] at hl
      subst hl
      exact ⟨c1, c2⟩
    | step alg' noExt' s₁' s₂' hs' hr' hrest' =>
      apply i3
      rw [List.getLast?_cons_cons] at hl
      exact hl

/-- **msi_stale_ex_removed.** A document carrying an extended-signature stream (from an earlier extended signing, or
    stale) that is signed with `--no-extended-sig`: the stream is gone from the result. -/
theorem msi_stale_ex_removed (H : Nat → Bytes → Bytes) (mk : Nat → Bytes → Bytes) (d : Node) (hd : MsiInv d)
    (alg : Nat) (s₁ s₂ : Nat) :
    ∃ d₁, signMSI H mk alg true d s₁ s₂ = .ok d₁ ∧ exCount d₁.kids = 0 ∧ ∀ d', Reread d₁ d' → exCount d'.kids = 0 := by
  refine ⟨_, sign_eq H mk d hd.1 hd.2 alg true s₁ s₂, ?_⟩
  have c := (counts_inserted d.kids (mk alg (imprintOf H alg true d)) (exValue H alg true d) s₁ s₂).2
  have : exCount (inserted d.kids (mk alg (imprintOf H alg true d)) (exValue H alg true d) s₁ s₂) = 0 := by
    rw [c]; simp [exValue]
  exact ⟨this, fun d' h => by rw [exCount_reread h]; exact this⟩

/-- the counterfactual `InsertMSISignature` without its `DeleteFile(msiDigitalSignatureEx)` branch -/
def insertKeepingEx (root : Node) (pkcs : Bytes) (s₂ : Nat) : Res Node := do
  let k2 ← addFile sigName pkcs s₂ root.kids
  pure (.mk root.meta root.content k2)

/-- the sample signed extended (toy hash family of C01) -/
def signedEx : Node :=
  match signMSI C01.toyH C01.toyMk 5 false C05.sampleRoot 0 0 with
  | .ok d => d
  | _ => C05.sampleRoot

/-- **msi_stale_ex_would_break.** What the deletion is for: signing the extended-signed sample without extended signature
    and *keeping* the old stream (counterfactual) gives a file whose stale stream still equals the pre-hash (the payload
    did not change), so `VerifyMSI` goes on to hash pre-hash ++ content and rejects the imprint, which was computed
    without it.  With the deletion the same round verifies. -/
theorem msi_stale_ex_would_break :
    exCount signedEx.kids = 1 ∧
    (∃ d, insertKeepingEx signedEx (C01.toyMk 5 (imprintOf C01.toyH 5 true signedEx)) 0 = .ok d ∧
      exCount d.kids = 1 ∧ verifyMSI C01.toyH C01.toyCms d false = .err "mismatch") ∧
    (∃ d, signMSI C01.toyH C01.toyMk 5 true signedEx 0 0 = .ok d ∧ exCount d.kids = 0 ∧
      (verifyMSI C01.toyH C01.toyCms d false).isOk = true) := by
  -- the sample is of the class, so both rounds of the repaired signer go by `toy_signed_ok`; the counterfactual is evaluated
  obtain ⟨d₁, h1, _, ok1, safe1, _, x1⟩ := C01.toy_signed_ok C05.sampleRoot C01.sampleRoot_ok.1 C01.sampleRoot_ok.2 false
  have e : signedEx = d₁ := by unfold signedEx; rw [h1]
  obtain ⟨d₂, h2, v2, _, _, _, x2⟩ := C01.toy_signed_ok d₁ ok1 safe1 true
  rw [e]
  refine ⟨x1, ?_, ⟨d₂, h2, x2, v2⟩⟩
  rw [← e]
  exact ⟨_, Res.eq_ok_of_isOk signedEx _ (by decide +kernel), by decide +kernel⟩

/-- an installer embedding a signed package: the sub-storage "S" holds streams named like the two signature streams -/
def embeddedRoot : Node :=
  .mk (C05.mkMeta [82] 4 5) []
    [C05.dir [83] [C05.leaf sigName [9, 9], C05.leaf sigExName [8], C05.leaf [120] [3]], C05.leaf [80] [1]]

/-- **msi_embedded_package.** FINDING Fmsi-tar (repaired).  The embedded package is of the class (`MsiInv`): by
    `msi_resign_replaces` / `msi_history` signing leaves the sub-storage with its two nested streams untouched and
    `VerifyMSI` accepts.  The ORIGINAL code signed it (imprint from the tar form, which hashes the nested streams) into a
    file its own `VerifyMSI` (direct walk, skipping them) rejected. -/
theorem msi_embedded_package :
    MsiInv embeddedRoot ∧
    (∃ d, signMSI C01.toyH C01.toyMk 5 false embeddedRoot 0 0 = .ok d ∧ payload d.kids = embeddedRoot.kids ∧
      (verifyMSI C01.toyH C01.toyCms d false).isOk = true) ∧
    (∃ d, signMSIOrig C01.toyH C01.toyMk 5 false embeddedRoot 0 0 = .ok d ∧
      verifyMSIOrig C01.toyH C01.toyCms d = .err "mismatch") := by
  have hinv : MsiInv embeddedRoot :=
    ⟨DocOk.of_checks (by decide +kernel), by decide +kernel⟩
  -- the repaired signer: by the general theorems; the original code has none and is evaluated
  refine ⟨hinv, ⟨_, sign_eq C01.toyH C01.toyMk embeddedRoot hinv.1 hinv.2 5 false 0 0,
    (payload_inserted _ _ _ 0 0).trans (by rfl), ?_⟩,
    ⟨_, Res.eq_ok_of_isOk embeddedRoot _ (by decide +kernel), by decide +kernel⟩⟩
  rw [(verify_signed C01.toyH C01.toyMk C01.toyCms 5 C01.toyCms_toyMk C01.toyMk_ne _ hinv.1 false 0 0 _ (Reread.refl _)).2.2.1]
  rfl

/-- **msi_is_signed_iff.** What makes a document "signed" for `VerifyMSI`: with at most one entry of the signature name
    in the root storage (and such entries being streams), the scan succeeds, the located signature is non-empty exactly
    if some entry of the root storage is named "\005DigitalSignature" and has content, `VerifyMSI` is `verdictOf` on what
    was located, and it answers "not signed" whenever nothing or an empty stream was located – the extended-signature
    stream alone does not make a document signed. -/
theorem msi_is_signed_iff (d : Node) (hs : sigsAreStreamsB d.kids = true) (hu : sigCount d.kids ≤ 1) :
    ∃ sig ex, locate d.kids [] none = .ok (sig, ex) ∧
      (sig ≠ [] ↔ ∃ n ∈ d.kids, goName n.meta = sigName ∧ n.content ≠ []) ∧
      (∀ H cms skip, verifyMSI H cms d skip = verdictOf H cms d skip sig ex) ∧
      (sig = [] → ∀ H cms skip, verifyMSI H cms d skip = .err "notsigned") := by
  have hall : ∀ n ∈ d.kids, isSig n.meta = true → n.meta.typ = typStream :=
    fun n hn h => stream_of_sigsAreStreams hs n hn h
  have hloc := locate_eq d.kids [] none hall
  refine ⟨_, _, hloc, ?_, ?_, ?_⟩
  · have hmem : (∃ n ∈ d.kids, goName n.meta = sigName ∧ n.content ≠ []) ↔
        ∃ n ∈ d.kids.filter (fun n => goName n.meta == sigName), n.content ≠ [] := by
      simp only [List.mem_filter, beq_iff_eq, and_assoc]
    rw [hmem]
    unfold sigCount at hu
    cases hf : d.kids.filter (fun n => goName n.meta == sigName) with
    | nil =>
      rw [lastNamed_nil _ _ _ _ hf]
      simp
    | cons x r =>
      rw [hf] at hu
      have hr : r = [] := List.eq_nil_of_length_eq_zero (by simpa using hu)
      subst hr
      rw [lastNamed_single _ _ _ _ x hf]
      simp
  · intro H cms skip
    unfold verifyMSI
    rw [hloc]; rfl
  · intro h H cms skip
    unfold verifyMSI
    rw [hloc]
    simp only [Res.bind_ok']
    unfold verdictOf
    simp [h]

/-- non-vacuity: the unsigned sample carries one (garbage) signature stream; an extended-signature stream alone -/
example : sigsAreStreamsB C05.sampleRoot.kids = true ∧ sigCount C05.sampleRoot.kids ≤ 1 := by decide +kernel
example : MsiInv C05.sampleRoot :=
  C01.sampleRoot_ok
example : verifyMSI C01.toyH C01.toyCms (.mk (C05.mkMeta [82] 4 5) [] [C05.leaf sigExName [1, 2], C05.leaf [97] [3]]) false =
    .err "notsigned" := by decide +kernel

set_option maxRecDepth 100000 in
/-- a history exists: two rounds on the sample, extended then not -/
example : ∃ d1 d2, MsiHist C01.toyH C01.toyMk C05.sampleRoot [false, true] d2 ∧
    signMSI C01.toyH C01.toyMk 5 false C05.sampleRoot 0 0 = .ok d1 ∧ exCount d1.kids = 1 ∧ exCount d2.kids = 0 := by
  obtain ⟨d₁, h1, _, ok1, safe1, _, x1⟩ := C01.toy_signed_ok C05.sampleRoot C01.sampleRoot_ok.1 C01.sampleRoot_ok.2 false
  obtain ⟨d₂, h2, _, _, _, _, x2⟩ := C01.toy_signed_ok d₁ ok1 safe1 true
  exact ⟨d₁, d₂, .step 5 false 0 0 h1 (Reread.refl _) (.step 5 true 0 0 h2 (Reread.refl _) (.nil _)), h1, x1, x2⟩

end Relic.Props.C08
