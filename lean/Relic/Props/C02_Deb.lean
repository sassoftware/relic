/-
  C02 — Any change to signed content makes verification fail.   DEB part (model `Relic.Model.Deb`).
  What `Verify` compares with the signed text is the table name → "md5 sha1" it builds from the members that are not `_gpg*`.
-/
import Relic.Props.C03_Deb
namespace Relic.Props.C02
open Relic.Deb

/-- **deb_listed_member_protected.** Exchanging a digested member for one with another name, or with another body (hash
    outputs of equal length, no collision between the two bodies), changes the table `Verify` checks the signed lines against —
    at the position of that member. -/
theorem deb_listed_member_protected (H1 H2 : Bytes → Bytes) (es1 es2 : List Entry) (x y : Entry)
    (hx : isGpgName x.name = false) (hy : isGpgName y.name = false)
    (hlen : (H1 x.body).length = (H1 y.body).length)
    (hcoll : H1 x.body = H1 y.body → H2 x.body = H2 y.body → x.body = y.body)
    (hne : x.name ≠ y.name ∨ x.body ≠ y.body) :
    digestsOf H1 H2 (es1 ++ x :: es2) ≠ digestsOf H1 H2 (es1 ++ y :: es2) := by
  intro h
  simp only [digestsOf, List.filter_append, List.filter_cons, hx, hy, Bool.not_false, if_true, List.map_append,
    List.map_cons] at h
  have h2 := List.append_cancel_left h
  simp only [List.cons.injEq, Prod.mk.injEq] at h2
  obtain ⟨⟨hn, hd⟩, _⟩ := h2
  rcases hne with c | c
  · exact c hn
  · apply c
    unfold digestOf at hd
    rw [List.append_assoc, List.append_assoc] at hd
    have h1 := List.append_inj_left hd hlen
    have h3 := List.append_inj_right hd hlen
    simp only [List.cons_append, List.nil_append, List.cons.injEq, true_and] at h3
    exact hcoll h1 h3

example : isGpgName [100, 97, 116, 97] = false := by decide +kernel

/-- the full tamper-evidence statement for the archive layer (not proved): two archives that both pass `checkSig` for the same
    signed text have the same table up to order (repetition is excluded by `deb_duplicate_member_rejected`) -/
def deb_hashed_injective_full : Prop :=
  ∀ (text : Bytes) (d d' : List (Bytes × Bytes)), checkSig text d = .ok () → checkSig text d' = .ok () →
    ∀ k, lookup k d = lookup k d'

-- `h1`, `h2`, `pgpId` live in the shared namespace `Relic.Props.C02`: stand-ins for MD5, SHA-1 and the PGP layer of the DEB witnesses
-- (each witness is replayed on the real `Verify`: corpus/C02/deb-gaps.ops)
def h1 : Bytes → Bytes := fun b => List.replicate 32 (48 + UInt8.ofNat (b.length % 10))
def h2 : Bytes → Bytes := fun b => List.replicate 40 (97 + UInt8.ofNat (b.sum.toNat % 7))
def pgpId : Bytes → Option Bytes := fun s => some (canonText s)

/-- the sample signed for "builder" with transparent stand-ins for the hashes and for PGP -/
def signedSample : Bytes :=
  match sign h1 h2 (fun m => m) (fun _ _ => true) [49] [65] [64] [98, 117, 105, 108, 100, 101, 114] C03.sampleUnsigned with
  | .ok o => C03.signedBytes C03.sampleUnsigned o
  | _ => []

/-- a member "control.tar" with another body (`xyz`) -/
def evilMember : Bytes :=
  [99, 111, 110, 116, 114, 111, 108, 46, 116, 97, 114, 32, 32, 32, 32, 32, 49, 32, 32, 32, 32, 32, 32, 32, 32, 32, 32, 32, 48, 32, 32, 32, 32, 32,
   48, 32, 32, 32, 32, 32, 49, 48, 48, 54, 52, 52, 32, 32, 51, 32, 32, 32, 32, 32, 32, 32, 32, 32, 96, 10, 120, 121, 122, 10]

/-- **deb_duplicate_member_rejected** (fix for F40). An archive in which two digested members (names not starting with `_gpg`)
    share a name is never accepted by `Verify`, whatever the signatures, the hashes and the PGP layer say: the map
    name → digest that `checkSig` works on holds one entry per name, so a second member of a name would escape the comparison. -/
theorem deb_duplicate_member_rejected (H1 H2 : Bytes → Bytes) (pgp : Bytes → Option Bytes) (f : Bytes)
    (hd : distinctNames (entries f).1 = false) : ∀ rs, verify H1 H2 pgp f ≠ .ok rs := by
  intro rs h
  have := ((verify_ok_iff ..).mp h).2.2.1
  rw [hd] at this
  cases this

/-- acceptance gives the hypothesis `distinctNames` of the sign-then-verify and tamper-evidence statements -/
theorem deb_accept_implies_distinct (H1 H2 : Bytes → Bytes) (pgp : Bytes → Option Bytes) (f : Bytes)
    (rs : List (Bytes × Res Unit)) (h : verify H1 H2 pgp f = .ok rs) : distinctNames (entries f).1 = true := by
  cases hd : distinctNames (entries f).1 with
  | true => rfl
  | false => exact absurd h (deb_duplicate_member_rejected H1 H2 pgp f hd rs)

/-- `Verify` as it was before the fix: no duplicate-name test -/
def verifyOkPre (H1 H2 : Bytes → Bytes) (pgp : Bytes → Option Bytes) (f : Bytes) : Bool :=
  let p := entries f
  !verifyFail p.1 && p.2 == .eof &&
    (rolesOf (sigsOf p.1)).all fun r => checkRole pgp (digestsOf H1 H2 p.1) (sigsOf p.1) r == .ok ()

set_option maxRecDepth 1000000 in
/-- the F40 witness: a member inserted *in front of* a signed member of the same name was accepted by the pre-fix walk
    (the map kept the last digest per name) and is refused now -/
example :
    verifyOk h1 h2 pgpId signedSample = true ∧
    verifyOkPre h1 h2 pgpId (signedSample.take 72 ++ evilMember ++ signedSample.drop 72) = true ∧
    verifyOk h1 h2 pgpId (signedSample.take 72 ++ evilMember ++ signedSample.drop 72) = false ∧
    distinctNames (entries (signedSample.take 72 ++ evilMember ++ signedSample.drop 72)).1 = false ∧
    (entries (signedSample.take 72 ++ evilMember ++ signedSample.drop 72)).1.length = (entries signedSample).1.length + 1 := by
  decide +kernel

/-- the same member placed *behind* the signed one was always detected (digest mismatch, now the duplicate-name refusal) -/
theorem deb_shadow_after_rejected :
    verifyOk h1 h2 pgpId (signedSample.take 136 ++ evilMember ++ signedSample.drop 136) = false := by
  decide +kernel

/-- **deb_unprotected_bytes.** Accepted single-byte edits of a signed archive: the global header (never compared with
    `!<arch>\n`), the mtime / uid / gid / mode fields and the two magic bytes of any member header, and the padding byte after an
    odd-sized member. -/
theorem deb_unprotected_bytes :
    verifyOk h1 h2 pgpId (signedSample.set 0 0) = true ∧          -- global header
    verifyOk h1 h2 pgpId (signedSample.set (8 + 17) 57) = true ∧   -- mtime of the first member
    verifyOk h1 h2 pgpId (signedSample.set (8 + 44) 55) = true ∧   -- mode of the first member
    verifyOk h1 h2 pgpId (signedSample.set (8 + 58) 0) = true ∧    -- header magic of the first member
    verifyOk h1 h2 pgpId (signedSample.set 135 65) = true ∧        -- padding byte of control.tar (3 bytes)
    verifyOk h1 h2 pgpId (signedSample.set 132 65) = false ∧       -- … whereas its first data byte is protected
    verifyOk h1 h2 pgpId (signedSample.set 72 65) = false := by    -- … and so is its name
  decide +kernel

/-- **deb_member_order_unprotected.** The two digested members exchanged: still verifies (the table is a map). -/
theorem deb_member_order_unprotected :
    verifyOk h1 h2 pgpId (signedSample.take 8 ++ (signedSample.drop 72).take 64 ++ (signedSample.drop 8).take 64 ++ signedSample.drop 136) = true := by
  decide +kernel

end Relic.Props.C02
