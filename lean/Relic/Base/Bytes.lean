/-
  Relic.Base.Bytes — byte strings, hex codec for the line protocol, big/little-endian
  integer codecs, the explicit result type used by every modelled function.
  Core Lean only (no Mathlib): this file is linked into the native driver.
-/
namespace Relic

abbrev Bytes := List UInt8

/-- The outcome of a modelled function: a value, an error (its class is a name that the Go harness maps real errors onto),
    a panic at a named site, or non-termination. -/
inductive Res (α : Type) where
  | ok (a : α)
  | err (e : String)
  | panic (site : String)
  | diverge
  deriving Repr, DecidableEq

namespace Res
def bind {α β} (r : Res α) (f : α → Res β) : Res β :=
  match r with
  | ok a => f a
  | err e => err e
  | panic s => panic s
  | diverge => diverge
instance : Monad Res where
  pure := ok
  bind := bind
def isOk {α} : Res α → Bool
  | ok _ => true
  | _ => false
end Res

/-! ### hex -/

def hexDigit (n : Nat) : Char :=
  if n < 10 then Char.ofNat (48 + n) else Char.ofNat (87 + n)

def hexOfByte (b : UInt8) : List Char :=
  [hexDigit (b.toNat / 16), hexDigit (b.toNat % 16)]

def toHex (b : Bytes) : String :=
  if b.isEmpty then "-" else String.ofList (b.flatMap hexOfByte)

def hexVal (c : Char) : Option Nat :=
  if '0' ≤ c ∧ c ≤ '9' then some (c.toNat - 48)
  else if 'a' ≤ c ∧ c ≤ 'f' then some (c.toNat - 87)
  else if 'A' ≤ c ∧ c ≤ 'F' then some (c.toNat - 55)
  else none

def fromHexChars : List Char → Option Bytes
  | [] => some []
  | [_] => none
  | a :: b :: rest => do
    let x ← hexVal a
    let y ← hexVal b
    let r ← fromHexChars rest
    pure (UInt8.ofNat (x * 16 + y) :: r)

def fromHex (s : String) : Option Bytes :=
  if s = "-" then some [] else fromHexChars s.toList

/-! ### integer codecs -/

/-- big-endian encoding of `n` on `w` bytes (truncating, as Go's conversions do) -/
def beBytes : Nat → Nat → Bytes
  | 0, _ => []
  | w + 1, n => UInt8.ofNat (n / 256 ^ w % 256) :: beBytes w n

def beVal : Bytes → Nat
  | [] => 0
  | b :: bs => b.toNat * 256 ^ bs.length + beVal bs

/-- little-endian encoding of `n` on `w` bytes -/
def leBytes : Nat → Nat → Bytes
  | 0, _ => []
  | w + 1, n => UInt8.ofNat (n % 256) :: leBytes w (n / 256)

def leVal : Bytes → Nat
  | [] => 0
  | b :: bs => b.toNat + 256 * leVal bs

/-- `b[lo:hi]` as Go would evaluate it on a slice of length `b.length`: `none` = panic. -/
def slice? (b : Bytes) (lo hi : Nat) : Option Bytes :=
  if lo ≤ hi ∧ hi ≤ b.length then some ((b.drop lo).take (hi - lo)) else none

def u16le? (b : Bytes) (off : Nat) : Option Nat := (slice? b off (off + 2)).map leVal
def u32le? (b : Bytes) (off : Nat) : Option Nat := (slice? b off (off + 4)).map leVal
def u64le? (b : Bytes) (off : Nat) : Option Nat := (slice? b off (off + 8)).map leVal
def u16be? (b : Bytes) (off : Nat) : Option Nat := (slice? b off (off + 2)).map beVal
def u32be? (b : Bytes) (off : Nat) : Option Nat := (slice? b off (off + 4)).map beVal
def u64be? (b : Bytes) (off : Nat) : Option Nat := (slice? b off (off + 8)).map beVal

/-- the reference notion of "replace `old` bytes at `off` by `blob`" -/
def splice (f : Bytes) (off old : Nat) (blob : Bytes) : Bytes :=
  f.take off ++ blob ++ f.drop (off + old)

/-! ### line protocol helpers -/

def words (s : String) : List String :=
  (s.trimAscii.toString.splitOn " ").filter (· ≠ "")

end Relic
