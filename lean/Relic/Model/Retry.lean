/-
  Relic.Model.Retry — executable model of
    /repo/token/worker/retry.go      (doRetry, doOnce, tokenError)
    /repo/internal/httperror/{temporary,response}.go (Temporary, statusIsTemporary)
    /repo/cmdline/workercmd/handler.go (ServeHTTP: cookie gate and the error `switch`)
  Core Lean only.  No real time: an attempt either happens or does not, the back-off waits are
  data (nanoseconds, computed with an explicit float32 rounding as the Go code does).
-/
namespace Relic.Retry

/-! ### what a caller's context reports when it is done -/
inductive CtxErr where
  | canceled | deadline
  deriving DecidableEq, Repr

/-! ### errors of one attempt (`doOnce`), by the features retry.go / httperror.Temporary inspect -/
inductive AErr where
  /-- `httperror.ResponseError` / `httperror.Problem` carrying this status -/
  | http (status : Nat)
  /-- an `*os.SyscallError` is in the chain (connection refused, connection reset) -/
  | syscall
  /-- the worker closed the connection without a reply: `*url.Error{io.EOF}` -/
  | eof
  /-- the per-attempt timeout fired: wraps `context.DeadlineExceeded` -/
  | timeout
  /-- body shorter than announced: `io.ErrUnexpectedEOF` -/
  | unexpectedEOF
  /-- body is not a JSON `workerrpc.Response` -/
  | malformed
  /-- `tokenError{Retryable}` -/
  | token (retryable : Bool)
  /-- `token.KeyUsageError` -/
  | usage
  /-- the caller's context ended while the attempt was in flight (wrapped in `*url.Error`) -/
  | ctx (c : CtxErr)
  deriving DecidableEq, Repr

/-- `statusIsTemporary` of internal/httperror/response.go -/
def statusIsTemporary (code : Nat) : Bool :=
  code == 504 || code == 502 || code == 503 || code == 507 || code == 500

/-- `httperror.Temporary` on the errors `doOnce` can return. -/
def temporary : AErr → Bool
  | .http s => statusIsTemporary s          -- ResponseError.Temporary / Problem.Temporary
  | .syscall => true                        -- errors.As(*os.SyscallError)
  | .eof => false                           -- io.EOF is not io.ErrUnexpectedEOF; url.Error.Temporary() = false
  | .timeout => true                        -- errors.Is(context.DeadlineExceeded)
  | .unexpectedEOF => true
  | .malformed => false
  | .token r => r                           -- tokenError.Temporary
  | .usage => false
  | .ctx _ => true                          -- errors.Is(context.Canceled / DeadlineExceeded)

/-! ### what the fake worker / the network does on one attempt -/
structure Reply where
  value : Nat
  errSet : Bool        -- `Err != ""`
  retryable : Bool
  usage : Bool
  deriving DecidableEq, Repr

inductive Outcome where
  | reply (r : Reply)                         -- 200 with a JSON `workerrpc.Response`
  | status (code : Nat) (problem : Option Nat) -- non-200; `problem = some s`: problem+json body with "status": s
  | refused | reset | closed | hang | truncated | malformed
  deriving DecidableEq, Repr

/-- `doOnce`: decode one outcome (cancellation is handled by `attemptResult`). -/
def doOnce : Outcome → Except AErr Nat
  | .reply r =>
    if !r.errSet then .ok r.value
    else if r.usage then .error .usage
    else .error (.token r.retryable)
  | .status code none => .error (.http code)
  | .status code (some s) => .error (.http (if s = 0 then code else s))
  | .refused => .error .syscall
  | .reset => .error .syscall
  | .closed => .error .eof
  | .hang => .error .timeout
  | .truncated => .error .unexpectedEOF
  | .malformed => .error .malformed

/-! ### caller cancellation -/
inductive CancelAt where
  | never
  /-- done before attempt `i` is started: before the call (`i = 0`) or during the back-off wait
      that precedes attempt `i` -/
  | before (i : Nat)
  /-- done while attempt `i` is in flight -/
  | during (i : Nat)
  deriving DecidableEq, Repr

structure Cancel where
  at_ : CancelAt
  kind : CtxErr
  deriving DecidableEq, Repr

/-- the caller's context is already done when attempt `i` is about to start -/
def doneAtStart (c : Cancel) (i : Nat) : Bool :=
  match c.at_ with
  | .never => false
  | .before j => decide (j ≤ i)
  | .during j => decide (j < i)

/-- the context ends no later than during attempt `i` -/
def cancelledBy (c : Cancel) (i : Nat) : Bool :=
  doneAtStart c i || (c.at_ == .during i)

def outcomeAt (outs : List Outcome) (i : Nat) : Outcome := outs.getD i .closed

/-- what `doOnce` returns for attempt `i` -/
def attemptResult (c : Cancel) (outs : List Outcome) (i : Nat) : Except AErr Nat :=
  if cancelledBy c i then .error (.ctx c.kind) else doOnce (outcomeAt outs i)

/-- does attempt `i` reach the worker (if it is made at all)? -/
def arrives (c : Cancel) (outs : List Outcome) (i : Nat) : Bool :=
  !doneAtStart c i && outcomeAt outs i != .refused

/-! ### float32 arithmetic of the back-off (`delay := float32(initialDelay); delay *= scaleFactor`) -/

/-- round `num / 2^sh` to the nearest integer, ties to even -/
def roundShift (num sh : Nat) : Nat :=
  let q := num / 2 ^ sh
  let r := num % 2 ^ sh
  if 2 * r < 2 ^ sh then q
  else if 2 * r > 2 ^ sh then q + 1
  else if q % 2 = 0 then q else q + 1

/-- nearest float32 to the natural number `n` (as an exact integer; `n ≥ 2^23`) -/
def f32OfNat (n : Nat) : Nat :=
  let sh := Nat.log2 n - 23
  roundShift n sh * 2 ^ sh

/-- mantissa of float32(2.718): 2 ≤ 2.718 < 4, so the value is `m · 2^-22` -/
def scaleMant : Nat :=
  let num := 2718 * 2 ^ 22
  let q := num / 1000
  let r := num % 1000
  if 2 * r < 1000 then q else if 2 * r > 1000 then q + 1 else if q % 2 = 0 then q else q + 1

/-- float32 product `d · float32(2.718)` for an integral float32 `d ≥ 2^23`: exact product
    `d · scaleMant / 2^22`, rounded to 24 significant bits -/
def f32MulScale (d : Nat) : Nat :=
  let p := d * scaleMant
  let sh := Nat.log2 p - 23
  roundShift p sh * 2 ^ sh / 2 ^ 22

def initialDelay : Nat := 1000000000
def maxDelay : Nat := 30000000000

def nextDelay (d : Nat) : Nat :=
  let d' := f32MulScale d
  if d' > f32OfNat maxDelay then f32OfNat maxDelay else d'

/-- `delaySeq k` = the wait before attempt `k+1` (value of `delay` in iteration `i = k+1`) -/
def delaySeq : Nat → Nat
  | 0 => f32OfNat initialDelay
  | k + 1 => nextDelay (delaySeq k)

/-! ### the loop -/
inductive Result where
  | ok (v : Nat)
  | errAttempt (e : AErr)     -- the error of an attempt, unchanged
  | errCtx (c : CtxErr)       -- `baseCtx.Err()`, returned from the back-off
  | nilnil                    -- `(nil, nil)`: no response and no error
  deriving DecidableEq, Repr

inductive Event where
  | wait (ns : Nat)           -- a back-off wait that ran to its end
  | cut                       -- a back-off wait ended by the caller's context
  | attempt (i : Nat)         -- `doOnce` called
  deriving DecidableEq, Repr

def lastResult : Option AErr → Result
  | none => .nilnil
  | some e => .errAttempt e

/-- iterations `i, i+1, …` of `for i := 0; i < retries; i++` with `fuel = retries - i` left -/
def go (c : Cancel) (outs : List Outcome) : Nat → Nat → Option AErr → Result × List Event
  | 0, _, last => (lastResult last, [])
  | fuel + 1, i, _last =>
    if i ≠ 0 ∧ doneAtStart c i = true then (.errCtx c.kind, [.cut])
    else
      let pre := if i = 0 then [] else [Event.wait (delaySeq (i - 1))]
      match attemptResult c outs i with
      | .ok v => (.ok v, pre ++ [.attempt i])
      | .error e =>
        if temporary e then
          let r := go c outs fuel (i + 1) (some e)
          (r.1, pre ++ .attempt i :: r.2)
        else (.errAttempt e, pre ++ [.attempt i])

/-- the loop for an effective attempt bound `n` -/
def doRetry (n : Nat) (outs : List Outcome) (c : Cancel) : Result × List Event :=
  go c outs n 0 none

def defaultRetries : Nat := 5

/-- `retries := t.tconf.Retries; if retries == 0 { retries = defaultRetries }` – as found in the
    pinned tree: a negative value stays negative and the loop body never runs. -/
def effRetriesOrig (r : Int) : Nat := if r = 0 then defaultRetries else r.toNat

/-- the repaired reading (`<= 0` ⇒ default), relic commit c06bd26 -/
def effRetries (r : Int) : Nat := if r ≤ 0 then defaultRetries else r.toNat

def doRetryCfg (r : Int) (outs : List Outcome) (c : Cancel) := doRetry (effRetries r) outs c
def doRetryCfgOrig (r : Int) (outs : List Outcome) (c : Cancel) := doRetry (effRetriesOrig r) outs c

def attemptsOf : List Event → List Nat
  | [] => []
  | .attempt i :: es => i :: attemptsOf es
  | _ :: es => attemptsOf es

def waitsOf : List Event → List Nat
  | [] => []
  | .wait d :: es => d :: waitsOf es
  | _ :: es => waitsOf es

/-! ### worker side: `handler.ServeHTTP` -/

/-- errors `handle` can return, by what the type switch distinguishes -/
inductive WErr where
  | pkcs11 (code : Nat) (msgEmpty : Bool)      -- `pkcs11Error`; its text is empty in builds without cgo
  | notImplemented
  | keyUsage (innerEmpty : Bool)               -- `token.KeyUsageError{Key, Err}`; `innerEmpty`: `Err.Error() == ""`
  | wrappedKeyUsage                            -- `fmt.Errorf("…%w", KeyUsageError{…})`: not matched by a type switch
  | other
  deriving DecidableEq, Repr

structure Resp where
  errSet : Bool
  retryable : Bool
  usage : Bool
  keySet : Bool
  shutdown : Bool          -- `go h.shutdown()`
  deriving DecidableEq, Repr

/-- `fatalErrors` of handler.go (PKCS#11 CKR_* codes) -/
def fatalCodes : List Nat := [2, 5, 50, 176, 179, 224, 225, 257, 400, 439]

def isFatal (code : Nat) : Bool := fatalCodes.contains code

/-- the `if err != nil { … switch … }` block -/
def classify : WErr → Resp
  | .pkcs11 code me =>
    if isFatal code then ⟨!me, true, false, false, true⟩ else ⟨!me, false, false, false, false⟩
  | .notImplemented => ⟨true, false, false, false, false⟩
  | .keyUsage ie => ⟨!ie, false, true, true, false⟩
  | .wrappedKeyUsage => ⟨true, true, false, false, false⟩
  | .other => ⟨true, true, false, false, false⟩

def okResp : Resp := ⟨false, false, false, false, false⟩

inductive HttpOut where
  | forbidden                              -- 403, `handle` not called
  | served (r : Resp)                      -- 200 + JSON
  deriving DecidableEq, Repr

/-- `ServeHTTP`: cookie gate (`hmac.Equal` = equality of the byte strings; a missing header is the
    empty string), then `handle`, whose result is the parameter `h`. -/
def serve (secret cookie : List Nat) (h : Except WErr Unit) : HttpOut :=
  if cookie ≠ secret then .forbidden
  else match h with
    | .ok _ => .served okResp
    | .error e => .served (classify e)

/-- the JSON the client's `doOnce` sees for a failed worker call (no `Value`) -/
def replyOf (r : Resp) : Reply := ⟨0, r.errSet, r.retryable, r.usage⟩

def defaultTimeoutSec : Nat := 60

end Relic.Retry
