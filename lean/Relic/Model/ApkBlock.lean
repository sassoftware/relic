/-
  Relic.Model.ApkBlock — executable model of /repo/signers/apk: `getSigBlock` (verify.go), the part loop of
  `verify`, and `unmarshalR` (serializer.go) specialised to the type it is called with (`[]apkSigner`).
  Every Go slice expression is rendered as a possibly-panicking step.  The flag `fx` selects the code with
  the two repair guards that /repo carries (`len(blob) < 32` in `getSigBlock`, `len(blob)-4 < size` in `unmarshalR`);
  `fx = false`: the code before these two repairs.
  Values are not modelled, only the control flow: which error, which panic, how many signers.
-/
import Relic.Base.Bytes
namespace Relic.ApkBlock
open Relic

/-- "APK Sig Block 42" -/
def magic : Bytes := [65, 80, 75, 32, 83, 105, 103, 32, 66, 108, 111, 99, 107, 32, 52, 50]

/-- 0x7109871a -/
def sigApkV2 : Nat := 1896449818

/-- `binary.LittleEndian.Uint32(blob)` (callers check the length) -/
def u32 (b : Bytes) : Nat := leVal (b.take 4)
def u64 (b : Bytes) : Nat := leVal (b.take 8)

/-- the uint32 length prefix of `unmarshalR`:
    ```
    if len(blob) < 4 { return ErrUnexpectedEOF }
    size := int(binary.LittleEndian.Uint32(blob))
    if 4+len(blob) < size { return ErrUnexpectedEOF }      // before the repair (`fx = false`): the test is the wrong way round; /repo has `len(blob)-4 < size`
    remainder := blob[4+size:]                               // panics when len(blob) < 4+size
    ```
    returns (inner, remainder) -/
def readPrefix (fx : Bool) (blob : Bytes) : Res (Bytes × Bytes) :=
  if blob.length < 4 then .err "eof" else
  let size := u32 blob
  if (if fx then blob.length < 4 + size else 4 + blob.length < size) then .err "eof" else
  if blob.length < 4 + size then .panic "apk.unmarshalR:slice" else
  .ok ((blob.drop 4).take size, blob.drop (4 + size))

/-- `struct { ID uint32; Value []byte }` (apkSignature): returns the remainder after the element -/
def parseAttr (fx : Bool) (blob : Bytes) : Res Bytes :=
  (readPrefix fx blob).bind fun (inner, rem) =>
    if inner.length < 4 then .err "eof" else
    (readPrefix fx (inner.drop 4)).bind fun (_, rest) =>
      if rest.isEmpty then .ok rem else .err "trailing"

/-- `for len(blob) > 0 { append; blob, err = unmarshalR(blob, elem) }`; fuel: every element consumes ≥ 4 bytes -/
def loopAttrs (fx : Bool) : Nat → Bytes → Res Unit
  | 0, blob => if blob.isEmpty then .ok () else .diverge
  | fuel + 1, blob =>
    if blob.isEmpty then .ok () else
    (parseAttr fx blob).bind fun rest => loopAttrs fx fuel rest

/-- `struct { SignedData apkRaw; Signatures []apkSignature; PublicKey []byte }` -/
def parseSigner (fx : Bool) (blob : Bytes) : Res Bytes :=
  (readPrefix fx blob).bind fun (inner, rem) =>
    (readPrefix fx inner).bind fun (_, r1) =>
      (readPrefix fx r1).bind fun (sigs, r2) =>
        (loopAttrs fx sigs.length sigs).bind fun _ =>
          (readPrefix fx r2).bind fun (_, r3) =>
            if r3.isEmpty then .ok rem else .err "trailing"

/-- the element loop of `[]apkSigner`; returns the number of signers -/
def loopSigners (fx : Bool) : Nat → Bytes → Res Nat
  | 0, blob => if blob.isEmpty then .ok 0 else .diverge
  | fuel + 1, blob =>
    if blob.isEmpty then .ok 0 else
    (parseSigner fx blob).bind fun rest =>
      (loopSigners fx fuel rest).bind fun n => .ok (n + 1)

/-- `unmarshal(partBlob, &signerList)` -/
def unmarshalSigners (fx : Bool) (blob : Bytes) : Res Nat :=
  (readPrefix fx blob).bind fun (inner, rem) =>
    (loopSigners fx inner.length inner).bind fun n =>
      if rem.isEmpty then .ok n else .err "trailing"

/-- the part loop of `verify`.  A v2 part whose signer list parses with at least one signer hands over to
    `apkSigner.Verify` (cryptography, outside the model): class "post". -/
def loopParts (fx : Bool) : Nat → Bytes → Res Unit
  | 0, block => if block.isEmpty then .ok () else .diverge
  | fuel + 1, block =>
    if block.isEmpty then .ok () else
    if block.length < 12 then .err "truncated" else
    let partSize := u64 block
    let b1 := block.drop 8
    if partSize < 4 ∨ b1.length < partSize then .err "truncated" else
    let partType := u32 b1
    let partBlob := (b1.take partSize).drop 4
    let rest := b1.drop partSize
    if partType ≠ sigApkV2 then loopParts fx fuel rest else
    (unmarshalSigners fx partBlob).bind fun n =>
      if n = 0 then .err "empty" else .err "post"

/-- does `blob` end in the magic? -/
def hasMagic (blob : Bytes) : Bool := blob.drop (blob.length - 16) == magic ∧ 16 ≤ blob.length

/-- `getSigBlock` on the bytes between the last member and the central directory (non-empty) -/
def getSigBlock (fx : Bool) (blob : Bytes) : Res Bytes :=
  if fx ∧ blob.length < 32 then .err "malformed" else
  if ¬ hasMagic blob then .err "malformed" else
  -- size2 := binary.LittleEndian.Uint64(blob[len(blob)-24:])
  if blob.length < 24 then .panic "apk.getSigBlock:slice" else
  let size1 := u64 blob
  let size2 := u64 (blob.drop (blob.length - 24))
  if size1 ≠ blob.length - 8 ∨ size2 ≠ blob.length - 8 then .err "malformed" else
  -- return blob[8 : len(blob)-24]
  if blob.length - 24 < 8 then .panic "apk.getSigBlock:slice" else
  .ok ((blob.drop 8).take (blob.length - 24 - 8))

/-- `verify` on dummy.apk (unsigned JAR-wise) with `gap` in front of its central directory -/
def verifyGap (fx : Bool) (gap : Bytes) : Res Unit :=
  if gap.isEmpty then .err "notsigned" else
  (getSigBlock fx gap).bind fun block =>
    (loopParts fx block.length block).bind fun _ => .err "notsigned"

end Relic.ApkBlock
