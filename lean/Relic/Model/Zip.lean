/-
  Relic.Model.Zip — executable model of /repo/lib/zipslicer
  (structs.go, directory.go, file.go, the part of mangle.go that decides offsets).

  What is modelled: `FindDirectory`, `Read`, `ReadWithDirectory`, `readLocalHeader`,
  `readDataDesc`, `GetTotalSize`, `GetLocalHeader`, `GetDataDescriptor`, `Dump`,
  `GetDirectoryHeader`, `WriteDirectory`, `GetOriginalDirectory`, `AddFile`, `NewFile`
  (given the compressed bytes and the CRC), `NextFileOffset`, and the two readers the code
  is used with (`bytes.Reader` random access; `streamReaderAt` single pass).
  Not modelled: inflate/deflate and CRC computation (the model deals in extents and field
  values), `time.Time` to DOS conversion (the DOS fields are inputs), `Truncate`.
  Integers: Go's fixed widths are explicit (`% 2^n`); offsets ≥ 2^63 (negative `int64`) are
  refused with the error class the readers produce.
  Core Lean only.
-/
import Relic.Base.Bytes
namespace Relic.Zip
open Relic

def sigFile : Nat := 0x04034b50
def sigDir : Nat := 0x02014b50
def sigEnd : Nat := 0x06054b50
def sigLoc64 : Nat := 0x07064b50
def sigEnd64 : Nat := 0x06064b50
def sigDesc : Nat := 0x08074b50
def u32Max : Nat := 0xffffffff
def u16Max : Nat := 0xffff

/-- little-endian field of width `w` at offset `off` of a buffer known to be long enough
    (short buffers read as if zero-extended; callers check lengths first) -/
def fld (b : Bytes) (off w : Nat) : Nat := leVal ((b.drop off).take w)

/-! ### the two `io.ReaderAt`s -/

/-- reader state: `stream = false` is `bytes.Reader` (random access); `stream = true` is
    `streamReaderAt` over a stream of the same bytes, `pos` = bytes consumed so far. -/
structure Rd where
  z : Bytes
  stream : Bool
  pos : Nat
  deriving Repr

/-- `r.ReadAt(buf[:n], off)` succeeding completely, or the error class `io`.
    `bytes.Reader.ReadAt`: negative offset, `off ≥ len` (even for `n = 0`) or short → error.
    `streamReaderAt.ReadAt`: backwards → error; skips forward; `io.ReadFull`. -/
def Rd.readAt (r : Rd) (off n : Nat) : Res (Bytes × Rd) :=
  if off ≥ 2 ^ 63 then .err "io" else
  if r.stream then
    if off < r.pos then .err "io"
    else if off + n ≤ r.z.length then .ok ((r.z.drop off).take n, { r with pos := off + n })
    else .err "io"
  else
    if off ≥ r.z.length then .err "io"
    else if off + n ≤ r.z.length then .ok ((r.z.drop off).take n, r)
    else .err "io"

/-- `io.ReadFull(io.NewSectionReader(r, base, _), buf[:n])` at section offset `rel`, with `off = base + rel`
    the offset in the file: no call reaches the reader when `n = 0`. -/
def Rd.readFullAt (r : Rd) (off n : Nat) : Res (Bytes × Rd) :=
  if n = 0 then .ok ([], r) else r.readAt off n

/-! ### structures -/

/-- `zipLocalHeader` plus the variable part -/
structure Lfh where
  reader : Nat
  flags : Nat
  method : Nat
  mtime : Nat
  mdate : Nat
  crc : Nat
  csize : Nat
  usize : Nat
  nameLen : Nat
  extraLen : Nat
  name : Bytes
  extra : Bytes
  deriving Repr, DecidableEq

structure File where
  creator : Nat
  reader : Nat
  flags : Nat
  method : Nat
  mtime : Nat
  mdate : Nat
  crc : Nat
  csize : Nat
  usize : Nat
  name : Bytes
  extra : Bytes
  comment : Bytes
  iattrs : Nat
  eattrs : Nat
  offset : Nat
  /-- `f.raw` (empty = nil) -/
  raw : Bytes
  /-- `f.lfh` once read (`Signature != 0`) or as built by `NewFile` -/
  lfh : Option Lfh := none
  /-- `f.ddb` -/
  ddb : Bytes := []
  /-- `f.compd` (only `NewFile`) -/
  compd : Option Bytes := none
  deriving Repr, DecidableEq

/-- `zipEndRecord`, `zip64End`, `zip64Loc` as parsed (all zero when absent) -/
structure EndRec where
  sig : Nat := 0
  disk : Nat := 0
  diskCD : Nat := 0
  diskCount : Nat := 0
  total : Nat := 0
  cdSize : Nat := 0
  cdOff : Nat := 0
  commentLen : Nat := 0
  deriving Repr, DecidableEq

structure End64 where
  sig : Nat := 0
  recSize : Nat := 0
  creator : Nat := 0
  reader : Nat := 0
  disk : Nat := 0
  firstDisk : Nat := 0
  diskCount : Nat := 0
  total : Nat := 0
  cdSize : Nat := 0
  cdOff : Nat := 0
  deriving Repr, DecidableEq

structure Loc64 where
  sig : Nat := 0
  disk : Nat := 0
  off : Nat := 0
  diskCount : Nat := 0
  deriving Repr, DecidableEq

structure Directory where
  files : List File
  size : Nat
  /-- `DirLoc` (an `int64`; negative values do not arise from `Read`) -/
  dirLoc : Nat
  end64 : End64 := {}
  loc64 : Loc64 := {}
  endr : EndRec := {}
  deriving Repr, DecidableEq

def parseEnd (b : Bytes) : EndRec :=
  { sig := fld b 0 4, disk := fld b 4 2, diskCD := fld b 6 2, diskCount := fld b 8 2, total := fld b 10 2,
    cdSize := fld b 12 4, cdOff := fld b 16 4, commentLen := fld b 20 2 }

def parseEnd64 (b : Bytes) : End64 :=
  { sig := fld b 0 4, recSize := fld b 4 8, creator := fld b 12 2, reader := fld b 14 2, disk := fld b 16 4,
    firstDisk := fld b 20 4, diskCount := fld b 24 8, total := fld b 32 8, cdSize := fld b 40 8, cdOff := fld b 48 8 }

def parseLoc64 (b : Bytes) : Loc64 :=
  { sig := fld b 0 4, disk := fld b 4 4, off := fld b 8 8, diskCount := fld b 16 4 }

def encEnd (e : EndRec) : Bytes :=
  leBytes 4 e.sig ++ leBytes 2 e.disk ++ leBytes 2 e.diskCD ++ leBytes 2 e.diskCount ++ leBytes 2 e.total ++
  leBytes 4 e.cdSize ++ leBytes 4 e.cdOff ++ leBytes 2 e.commentLen

def encEnd64 (e : End64) : Bytes :=
  leBytes 4 e.sig ++ leBytes 8 e.recSize ++ leBytes 2 e.creator ++ leBytes 2 e.reader ++ leBytes 4 e.disk ++
  leBytes 4 e.firstDisk ++ leBytes 8 e.diskCount ++ leBytes 8 e.total ++ leBytes 8 e.cdSize ++ leBytes 8 e.cdOff

def encLoc64 (l : Loc64) : Bytes :=
  leBytes 4 l.sig ++ leBytes 4 l.disk ++ leBytes 8 l.off ++ leBytes 4 l.diskCount

/-! ### `FindDirectory` -/

/-- offset of the central directory. The tail window is the last 42 bytes: a 20-byte ZIP64
    locator slot followed by the 22-byte end record; nothing else is searched. -/
def findDirectory (r : Rd) : Res Nat :=
  let size := r.z.length
  if size < 42 then .err "io" else   -- negative offset passed to ReadAt
  match r.readAt (size - 42) 42 with
  | .ok (endb, _) =>
    let loc := parseLoc64 (endb.take 20)
    let e := parseEnd (endb.drop 20)
    if e.sig ≠ sigEnd then .err "notfound"
    else if e.total = u16Max ∨ e.cdSize = u32Max ∨ e.cdOff = u32Max then
      if loc.sig ≠ sigLoc64 then .err "nolocator"
      else match r.readAt loc.off 56 with
        | .ok (b, _) =>
          let e64 := parseEnd64 b
          if e64.sig ≠ sigEnd64 then .err "notfound" else .ok e64.cdOff
        | .err x => .err x
        | .panic s => .panic s
        | .diverge => .diverge
    else .ok e.cdOff
  | .err x => .err x
  | .panic s => .panic s
  | .diverge => .diverge

/-! ### `ReadWithDirectory` -/

/-- the ZIP64 extra scan of `ReadWithDirectory`. State: the three sizes and the two flags that
    can be cleared (`needUSize` is never cleared by the code).  The loop is bounded by the
    length of the extra block (each iteration consumes ≥ 4 bytes): `fuel` = that length. -/
structure Z64State where
  usize : Nat
  csize : Nat
  offset : Nat
  needC : Bool
  needO : Bool
  deriving Repr, DecidableEq

def scanExtra (needU : Bool) (st : Z64State) : Nat → Bytes → Z64State
  | 0, _ => st
  | fuel + 1, extra =>
    if extra.length < 4 then st else
    let tag := fld extra 0 2
    let size := fld extra 2 2
    if size > extra.length - 4 then st
    else if tag = 1 then
      let e := (extra.drop 4).take size
      let st := if needU ∧ size ≥ 8 then { st with usize := fld e 0 8 } else st
      let st := if st.needC ∧ size ≥ 16 then { st with csize := fld e 8 8, needC := false } else st
      let st := if st.needO ∧ size ≥ 24 then { st with offset := fld e 16 8, needO := false } else st
      st
    else scanExtra needU st fuel (extra.drop (4 + size))

/-- one central header at the front of `cd` (signature already checked, `cd.length ≥ 4`):
    the entry and the rest.  Panics where the Go slice expressions do. -/
def readEntry (cd : Bytes) : Res (File × Bytes) :=
  -- binary.Read fails on a short buffer, its error is ignored, hdr stays zero; then cd[46:] panics
  if cd.length < 46 then .panic "bounds" else
  let n := fld cd 28 2
  let e := fld cd 30 2
  let c := fld cd 32 2
  let rest := cd.drop 46
  if rest.length < n then .panic "bounds" else
  let name := rest.take n
  let rest := rest.drop n
  if rest.length < e then .panic "bounds" else
  let extra := rest.take e
  let rest := rest.drop e
  if rest.length < c then .panic "bounds" else
  let comment := rest.take c
  let rest := rest.drop c
  let cs := fld cd 20 4
  let us := fld cd 24 4
  let off := fld cd 42 4
  let st := scanExtra (us = u32Max) ⟨us, cs, off, cs = u32Max, off = u32Max⟩ extra.length extra
  if st.needC ∨ st.needO then .err "missingzip64" else
  .ok ({ creator := fld cd 4 2, reader := fld cd 6 2, flags := fld cd 8 2, method := fld cd 10 2,
         mtime := fld cd 12 2, mdate := fld cd 14 2, crc := fld cd 16 4, csize := st.csize, usize := st.usize,
         name := name, extra := extra, comment := comment, iattrs := fld cd 36 2, eattrs := fld cd 38 4,
         offset := st.offset, raw := cd.take (46 + n + e + c) }, rest)

/-- the `for` loop over central headers; `fuel` bounds the iterations by the blob length
    (every iteration consumes ≥ 46 bytes) -/
def readEntries : Nat → Bytes → Res (List File × Bytes)
  | 0, _ => .diverge
  | fuel + 1, cd =>
    if cd.length < 4 then .panic "bounds"   -- binary.LittleEndian.Uint32(cd)
    else if fld cd 0 4 ≠ sigDir then .ok ([], cd)
    else match readEntry cd with
      | .ok (f, rest) =>
        match readEntries fuel rest with
        | .ok (fs, r) => .ok (f :: fs, r)
        | .err x => .err x
        | .panic s => .panic s
        | .diverge => .diverge
      | .err x => .err x
      | .panic s => .panic s
      | .diverge => .diverge

/-- `binary.Read(rd, …)` of an `n`-byte struct from a `bytes.Reader`, error ignored:
    a short reader yields the zero struct and is left empty. -/
def takeStruct (rd : Bytes) (n : Nat) : Option Bytes × Bytes :=
  if rd.length ≥ n then (some (rd.take n), rd.drop n) else (none, [])

def readWithDirectory (size : Nat) (cd : Bytes) : Res Directory :=
  match readEntries (cd.length + 1) cd with
  | .ok (files, tail) =>
    let s := fld tail 0 4
    if s = sigEnd64 then
      let (b1, r1) := takeStruct tail 56
      let (b2, r2) := takeStruct r1 20
      let (b3, _) := takeStruct r2 22
      .ok { files := files, size := size, dirLoc := size - cd.length,
            end64 := (b1.map parseEnd64).getD {}, loc64 := (b2.map parseLoc64).getD {},
            endr := (b3.map parseEnd).getD {} }
    else if s = sigEnd then
      let (b3, _) := takeStruct tail 22
      .ok { files := files, size := size, dirLoc := size - cd.length, endr := (b3.map parseEnd).getD {} }
    else .err "noend"
  | .err x => .err x
  | .panic s => .panic s
  | .diverge => .diverge

/-- `Read` -/
def read (r : Rd) : Res Directory :=
  match findDirectory r with
  | .ok loc =>
    let size := r.z.length
    if loc ≥ 2 ^ 63 then
      -- negative int64: make([]byte, size+|loc|) then ReadAt at a negative offset; a huge request panics
      -- (requests between 4 GiB and the allocator limit would exhaust memory: never generated)
      if size + (2 ^ 64 - loc) ≤ 2 ^ 32 then .err "io" else .panic "makeslice"
    else if loc > size then .panic "makeslice"   -- make([]byte, negative)
    else match r.readAt loc (size - loc) with
      | .ok (cd, _) => readWithDirectory size cd
      | .err x => .err x
      | .panic s => .panic s
      | .diverge => .diverge
  | .err x => .err x
  | .panic s => .panic s
  | .diverge => .diverge

/-! ### local header, data descriptor -/

def encLfh (l : Lfh) : Bytes :=
  leBytes 4 sigFile ++ leBytes 2 l.reader ++ leBytes 2 l.flags ++ leBytes 2 l.method ++ leBytes 2 l.mtime ++
  leBytes 2 l.mdate ++ leBytes 4 l.crc ++ leBytes 4 l.csize ++ leBytes 4 l.usize ++ leBytes 2 l.nameLen ++
  leBytes 2 l.extraLen

/-- `readLocalHeader` (first call on this `File`) -/
def readLocalHeader (r : Rd) (f : File) : Res (Lfh × Rd) :=
  match f.lfh with
  | some l => .ok (l, r)
  | none =>
    match r.readFullAt f.offset 30 with
    | .ok (b, r) =>
      if fld b 0 4 ≠ sigFile then .err "nolfh" else
      let n := fld b 26 2
      let e := fld b 28 2
      match r.readFullAt (f.offset + 30) n with
      | .ok (name, r) =>
        match r.readFullAt (f.offset + 30 + n) e with
        | .ok (extra, r) =>
          .ok ({ reader := fld b 4 2, flags := fld b 6 2, method := fld b 8 2, mtime := fld b 10 2,
                 mdate := fld b 12 2, crc := fld b 14 4, csize := fld b 18 4, usize := fld b 22 4,
                 nameLen := n, extraLen := e, name := name, extra := extra }, r)
        | .err x => .err x
        | .panic s => .panic s
        | .diverge => .diverge
      | .err x => .err x
      | .panic s => .panic s
      | .diverge => .diverge
    | .err x => .err x
    | .panic s => .panic s
    | .diverge => .diverge

/-- the width decision of `readDataDesc`, on the first 16 bytes at the descriptor position:
    `true` = "64-bit" (24 bytes). -/
def inferWide (fcsize fusize : Nat) (d16 : Bytes) : Bool :=
  decide (fusize ≥ u32Max) || decide (fld d16 12 4 ≠ fusize % 2 ^ 32) || decide (fld d16 8 4 ≠ fcsize % 2 ^ 32)

/-- `readDataDesc` after the local header is known: the descriptor bytes kept in `f.ddb` and
    the CRC the file ends up with. -/
def readDataDesc (r : Rd) (f : File) (l : Lfh) : Res (Bytes × Nat × Rd) :=
  if l.flags % 16 / 8 = 0 then .ok ([], f.crc, r)
  else if f.ddb ≠ [] then .ok (f.ddb, f.crc, r)
  else
    let pos := f.offset + (30 + l.name.length + l.extra.length) + f.csize
    match r.readAt pos 16 with
    | .ok (d16, r) =>
      if fld d16 0 4 ≠ sigDesc then .err "nosig"
      else if inferWide f.csize f.usize d16 then
        match r.readAt (pos + 16) 8 with
        | .ok (d8, r) =>
          let d := d16 ++ d8
          if fld d 8 8 ≠ f.csize ∨ fld d 16 8 ≠ f.usize then .err "baddesc"
          else .ok (d, fld d 4 4, r)
        | .err x => .err x
        | .panic s => .panic s
        | .diverge => .diverge
      else .ok (d16, fld d16 4 4, r)
    | .err x => .err x
    | .panic s => .panic s
    | .diverge => .diverge

/-- what a member looks like after `GetTotalSize` succeeded -/
structure Member where
  file : File          -- with `crc`, `lfh`, `ddb` updated
  lfh : Lfh
  dataOff : Nat
  total : Nat
  deriving Repr

/-- `GetTotalSize` on a freshly read `File` -/
def getTotalSize (r : Rd) (f : File) : Res (Member × Rd) :=
  match readLocalHeader r f with
  | .ok (l, r) =>
    match readDataDesc r f l with
    | .ok (ddb, crc, r) =>
      .ok ({ file := { f with crc := crc, lfh := some l, ddb := ddb }, lfh := l,
             dataOff := f.offset + 30 + l.nameLen + l.extraLen,
             total := 30 + (l.name.length + l.extra.length + ddb.length) + f.csize }, r)
    | .err x => .err x
    | .panic s => .panic s
    | .diverge => .diverge
  | .err x => .err x
  | .panic s => .panic s
  | .diverge => .diverge

/-- `Dump`: local header, the compressed bytes actually available, descriptor; returns the
    bytes written and the reported size.  Random access: `io.Copy` from a section of a
    `bytes.Reader` ends silently at the end of the file.  Stream: a short section is an error. -/
def dump (r : Rd) (f : File) : Res (Bytes × Nat × File × Rd) :=
  match readLocalHeader r f with
  | .ok (l, r) =>
    let doff := f.offset + 30 + l.nameLen + l.extraLen
    let dataRes : Res (Bytes × Rd) :=
      match f.compd with
      | some c => .ok (c, r)
      | none =>
        if f.csize = 0 ∨ f.csize ≥ 2 ^ 63 then .ok ([], r)
        else if r.stream then r.readAt doff f.csize
        else if doff ≥ 2 ^ 63 then .err "io"
        else .ok ((r.z.drop doff).take f.csize, r)
    match dataRes with
    | .ok (data, r) =>
      match readDataDesc r f l with
      | .ok (ddb, crc, r) =>
        .ok (encLfh l ++ l.name ++ l.extra ++ data ++ ddb,
             30 + (l.name.length + l.extra.length + ddb.length) + f.csize,
             { f with crc := crc, lfh := some l, ddb := ddb }, r)
      | .err x => .err x
      | .panic s => .panic s
      | .diverge => .diverge
    | .err x => .err x
    | .panic s => .panic s
    | .diverge => .diverge
  | .err x => .err x
  | .panic s => .panic s
  | .diverge => .diverge

/-! ### writing -/

/-- `GetDirectoryHeader`: raw re-emission when `raw` is present, otherwise synthesis.  The ZIP64 field is synthesised
    into a copy of the extra block: the `File` is returned UNCHANGED (fix 7d5f1c2, F-APPX-ZIP64; the second component is
    kept so that `headersOf` / `writeDirectory` keep their shape — it is always `f`).  The code before that fix stored
    the synthesised extra back into `f.Extra`: `getDirectoryHeaderOrig` below. -/
def getDirectoryHeader (f : File) : Bytes × File :=
  if f.raw ≠ [] then (f.raw, f) else
  let big := f.csize ≥ u32Max ∨ f.usize ≥ u32Max ∨ f.offset ≥ u32Max
  let extra := if big then
      leBytes 2 1 ++ leBytes 2 24 ++ leBytes 8 f.usize ++ leBytes 8 f.csize ++ leBytes 8 f.offset ++ f.extra
    else f.extra
  let hdr :=
    leBytes 4 sigDir ++ leBytes 2 f.creator ++ leBytes 2 (if big then 45 else f.reader) ++ leBytes 2 f.flags ++
    leBytes 2 f.method ++ leBytes 2 f.mtime ++ leBytes 2 f.mdate ++ leBytes 4 f.crc ++
    leBytes 4 (if big then u32Max else f.csize) ++ leBytes 4 (if big then u32Max else f.usize) ++
    leBytes 2 f.name.length ++ leBytes 2 extra.length ++ leBytes 2 f.comment.length ++ leBytes 2 0 ++
    leBytes 2 f.iattrs ++ leBytes 4 f.eattrs ++ leBytes 4 (if big then u32Max else f.offset)
  (hdr ++ f.name ++ extra ++ f.comment, f)

def headersOf : List File → Bytes × List File
  | [] => ([], [])
  | f :: fs =>
    let (b, f') := getDirectoryHeader f
    let (bs, fs') := headersOf fs
    (b ++ bs, f' :: fs')

def maxReader (fs : List File) : Nat := fs.foldl (fun m f => if f.reader > m then f.reader else m) 20

/-- the decision `minVersion == zip45` of `WriteDirectory` -/
def needZip64 (count size cdoff : Nat) (force : Bool) (minV : Nat) : Bool :=
  decide (count ≥ u16Max) || decide (size ≥ u32Max) || decide (cdoff ≥ u32Max) || force || decide (minV = 45)

def endRecords (count size cdoff : Nat) (force : Bool) (minV : Nat) : Bytes :=
  if needZip64 count size cdoff force minV then
    encEnd64 { sig := sigEnd64, recSize := 44, creator := 45, reader := 45, diskCount := count, total := count,
               cdSize := size, cdOff := cdoff } ++
    encLoc64 { sig := sigLoc64, off := cdoff + size, diskCount := 1 } ++
    encEnd { sig := sigEnd, diskCount := u16Max, total := u16Max, cdSize := u32Max, cdOff := u32Max }
  else
    encEnd { sig := sigEnd, diskCount := count, total := count, cdSize := size, cdOff := cdoff }

/-- `WriteDirectory(wcd, weod, force)` with two distinct non-nil writers (or the same one:
    concatenate): central entries, end-of-directory bytes, and the directory with mutated files. -/
def writeDirectory (d : Directory) (force : Bool) : Bytes × Bytes × Directory :=
  let (cd, fs) := headersOf d.files
  (cd, endRecords d.files.length cd.length d.dirLoc force (maxReader d.files), { d with files := fs })

/-! ### the code before fix 7d5f1c2 (F-APPX-ZIP64): `GetDirectoryHeader` mutated `f.Extra`

  Synthesis of a ZIP64 entry stored the extra block WITH the prepended ZIP64 field back into the `File`, so that every
  further call prepended the field again (`Props.C17.write_directory_twice_prepends_twice_orig`). -/

def getDirectoryHeaderOrig (f : File) : Bytes × File :=
  if f.raw ≠ [] then (f.raw, f) else
  let big := f.csize ≥ u32Max ∨ f.usize ≥ u32Max ∨ f.offset ≥ u32Max
  let extra := if big then
      leBytes 2 1 ++ leBytes 2 24 ++ leBytes 8 f.usize ++ leBytes 8 f.csize ++ leBytes 8 f.offset ++ f.extra
    else f.extra
  ((getDirectoryHeader f).1, { f with extra := extra })

def headersOfOrig : List File → Bytes × List File
  | [] => ([], [])
  | f :: fs =>
    let (b, f') := getDirectoryHeaderOrig f
    let (bs, fs') := headersOfOrig fs
    (b ++ bs, f' :: fs')

def writeDirectoryOrig (d : Directory) (force : Bool) : Bytes × Bytes × Directory :=
  let (cd, fs) := headersOfOrig d.files
  (cd, endRecords d.files.length cd.length d.dirLoc force (maxReader d.files), { d with files := fs })

/-! ### fix-F7g: `GetDirectoryHeader` refuses a ZIP64 entry whose extra block has no room for the ZIP64 field

  `getDirectoryHeader` / `headersOf` / `writeDirectory` above are the record SYNTHESIS (total; this is also the code before
  fix-F7g, which truncated the 16-bit length silently: `Props.C17.extraRoom_necessary_orig`).  The code as it stands checks
  `len(f.Extra)+zip64ExtraLen+4 > uint16Max` first and returns an error; `WriteDirectory` passes the error on (whatever it
  had buffered is discarded by its callers: `MakePatch` and `insertSignature` return the error, no patch is made). -/

/-- the guard: raw re-emission needs nothing; a synthesised ZIP64 record needs `len(Extra) + 28 ≤ 65535` -/
def dirHeaderOK (f : File) : Bool :=
  !(f.raw == []) || !(decide (f.csize ≥ u32Max ∨ f.usize ≥ u32Max ∨ f.offset ≥ u32Max)) || decide (f.extra.length + 28 ≤ 65535)

def headersOK (fs : List File) : Bool := fs.all dirHeaderOK

/-- `GetDirectoryHeader` as it stands -/
def getDirectoryHeaderFx (f : File) : Res (Bytes × File) :=
  if dirHeaderOK f then .ok (getDirectoryHeader f) else .err "extratoolong"

/-- `WriteDirectory` as it stands: the first entry without room makes it fail -/
def writeDirectoryFx (d : Directory) (force : Bool) : Res (Bytes × Bytes × Directory) :=
  if headersOK d.files then .ok (writeDirectory d force) else .err "extratoolong"

/-- `GetOriginalDirectory(trim)` as the code stands: `WriteDirectory(&wcd, nil, false)` resets
    its `bufio.Writer` to a nil writer, buffers the end record and flushes → nil dereference. -/
def getOriginalDirectory (d : Directory) : Res (Bytes × Bytes) :=
  if d.endr.sig = 0 then .err "newzip" else .panic "nil-writer"

/-- what `GetOriginalDirectory(false)` is documented to return: the central entries, and the
    end-of-directory records that were present. -/
def originalDirectorySpec (d : Directory) : Res (Bytes × Bytes) :=
  if d.endr.sig = 0 then .err "newzip" else
  .ok ((headersOf d.files).1,
       (if d.end64.sig ≠ 0 then encEnd64 d.end64 else []) ++ (if d.loc64.sig ≠ 0 then encLoc64 d.loc64 else []) ++
       encEnd d.endr)

/-- `NextFileOffset` for a directory whose last member is described by `m` -/
def nextFileOffset (last : Option Member) : Nat :=
  match last with
  | none => 0
  | some m => m.file.offset + m.total

/-- `AddFile`, given the total size `GetTotalSize` reported for `f` -/
def addFile (d : Directory) (f : File) (total : Nat) : Directory :=
  let f' := { f with raw := if f.offset ≠ d.dirLoc then [] else f.raw, offset := d.dirLoc }
  { d with dirLoc := d.dirLoc + total, files := d.files ++ [f'] }

/-- `NewFile` with the compressed bytes and CRC supplied: the bytes written to `w` and the new
    directory. `deflate` selects method 8. -/
def newFile (d : Directory) (name extra compd : Bytes) (usize crc mtime mdate : Nat) (deflate useDesc : Bool) :
    Bytes × Directory :=
  let rv := if useDesc then 45 else 20
  let flags := if useDesc then 8 else 0
  let method := if deflate then 8 else 0
  let l : Lfh := { reader := rv, flags := flags, method := method, mtime := mtime, mdate := mdate,
                   crc := if useDesc then 0 else crc, csize := if useDesc then 0 else compd.length % 2 ^ 32,
                   usize := if useDesc then 0 else usize % 2 ^ 32, nameLen := name.length % 2 ^ 16,
                   extraLen := extra.length % 2 ^ 16, name := name, extra := extra }
  let ddb := if useDesc then leBytes 4 sigDesc ++ leBytes 4 crc ++ leBytes 8 compd.length ++ leBytes 8 usize else []
  let f : File := { creator := 45, reader := rv, flags := flags, method := method, mtime := mtime, mdate := mdate,
                    crc := crc, csize := compd.length, usize := usize, name := name, extra := extra, comment := [],
                    iattrs := 0, eattrs := 0, offset := 0, raw := [], lfh := some l, ddb := ddb, compd := some compd }
  let total := 30 + (name.length + extra.length + ddb.length) + compd.length
  (encLfh l ++ name ++ extra ++ compd ++ ddb, addFile d f total)

/-! ### `Mangle` / `MakePatch`: which bytes stay, which offsets the new directory gets -/

/-- walk the members as `Mangle` does: deleted ones give a byte range to drop, kept ones are added -/
def mangle (r : Rd) : List File → List Bool → Directory → List (Nat × Nat) → Res (Directory × List (Nat × Nat))
  | [], _, nd, dels => .ok (nd, dels)
  | f :: fs, mask, nd, dels =>
    match getTotalSize r f with
    | .ok (m, _) =>
      -- sizes/offsets that are negative as int64 are outside the modelled range (harness refuses them too)
      if m.total % 2 ^ 64 ≥ 2 ^ 63 ∨ f.offset ≥ 2 ^ 63 then .err "overflow" else
      if mask.headD false then mangle r fs (mask.drop 1) nd (dels ++ [(f.offset, m.total)])
      else mangle r fs (mask.drop 1) (addFile nd m.file m.total) dels
    | .err x => .err x
    | .panic s => .panic s
    | .diverge => .diverge

def dropRanges (z : Bytes) (upto : Nat) (dels : List (Nat × Nat)) : Bytes :=
  ((z.take upto).zipIdx.filter fun (_, i) => !dels.any fun (o, n) => o ≤ i && i < o + n).map (·.1)

/-- the archive after `Mangle` (delete mask) and `MakePatch`, no file added: the kept bytes up to
    the old directory, then the new directory -/
def rewriteKeep (z : Bytes) (mask : List Bool) (force : Bool) : Res Bytes :=
  let r : Rd := ⟨z, false, 0⟩
  match read r with
  | .ok d =>
    match mangle r d.files mask { files := [], size := 0, dirLoc := 0 } [] with
    | .ok (nd, dels) =>
      if !headersOK nd.files then .err "extratoolong" else   -- fix-F7g
      let (cd, eod, _) := writeDirectory nd force
      .ok (dropRanges z d.dirLoc dels ++ cd ++ eod)
    | .err x => .err x
    | .panic s => .panic s
    | .diverge => .diverge
  | .err x => .err x
  | .panic s => .panic s
  | .diverge => .diverge

end Relic.Zip
