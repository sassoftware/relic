/-
  Relic.Model.CodeDir — executable model of the Apple code-directory layer of relic:
    /repo/lib/fruit/csblob/pagehash.go   (`hashPages`, `hashFunc`, `hashType`)
    /repo/lib/fruit/csblob/codedir.go    (`newCodeDirectory`, `parseCodeDirectory`, `cstring`)
    /repo/lib/fruit/csblob/superblob.go  (`newSuperItem`, `marshalSuperBlob`, `parseSuper` with the `offset < 0` guard)
    /repo/lib/fruit/csblob/verify.go     (`CodeSize`, `VerifyPages`)
    /repo/lib/fruit/csblob/sign.go       (the deterministic part of `Sign`: special slots, items, order)
  Hash functions are parameters: whatever is hashed is kept as a `Seg.hash stream`; `render H` substitutes a hash
  function.  The driver prints the segments, the check hashes them (python), the theorems quantify over `H`.
-/
import Relic.Base.Bytes
namespace Relic.CodeDir
open Relic

/-! ### byte strings with holes for hash values -/

inductive Seg where
  | lit (b : Bytes)        -- literal bytes
  | hash (stream : Bytes)  -- `h.Reset(); h.Write(stream); h.Sum(..)`
  | zero                   -- `hashSize` zero bytes (an absent special slot)
  deriving Repr, DecidableEq

def Seg.render (H : Bytes → Bytes) (hs : Nat) : Seg → Bytes
  | .lit b => b
  | .hash s => H s
  | .zero => List.replicate hs 0

def render (H : Bytes → Bytes) (hs : Nat) (segs : List Seg) : Bytes := segs.flatMap (Seg.render H hs)

/-- rendered length when every hash value is `hs` bytes long -/
def Seg.len (hs : Nat) : Seg → Nat
  | .lit b => b.length
  | _ => hs

def segsLen (hs : Nat) (segs : List Seg) : Nat := (segs.map (Seg.len hs)).sum

/-! ### `hashPages` -/

/-- the read loop of `hashPages` (`io.ReadFull(pages, buf)` with `len(buf) = ps`): consecutive pages of `ps` bytes,
    the last one short.  `fuel` bounds the number of iterations (the stream length suffices). -/
def pagesF (ps : Nat) : Nat → Bytes → List Bytes
  | 0, _ => []
  | fuel + 1, b => if b.isEmpty then [] else b.take ps :: pagesF ps fuel (b.drop ps)

def pages (ps : Nat) (b : Bytes) : List Bytes := pagesF ps b.length b

structure PageHashes where
  slots : List Seg     -- `slots[0]`: the concatenated hash values
  count : Nat          -- slotCount
  limit : Nat          -- codeLimit
  deriving Repr, DecidableEq

/-- `hashPages(hashFuncs, pages, singlePage)` for one hash function on the stream `b` -/
def hashPages (b : Bytes) (single : Bool) : PageHashes :=
  if single then ⟨[.hash b], 1, b.length⟩
  else ⟨(pages 4096 b).map .hash, (pages 4096 b).length, b.length⟩

/-! ### hash identifiers -/

/-- `crypto.Hash` values the callers may pass (Go numbering): 3 SHA1, 5 SHA256, 6 SHA384, 7 SHA512 -/
def hashSizeOf (h : Nat) : Nat :=
  if h = 3 then 20 else if h = 5 then 32 else if h = 6 then 48 else if h = 7 then 64 else 0

/-- `hashType(h)` -/
def hashTypeOf (h : Nat) : Option Nat :=
  if h = 3 then some 1 else if h = 5 then some 2 else if h = 6 then some 4 else none

/-- `hashFunc(hashType, hashLen)`: the hash size on success -/
def hashFuncOf (ht hl : Nat) : Option Nat :=
  let sz := if ht = 1 then 20 else if ht = 2 then 32 else if ht = 4 then 48 else 0
  if sz = 0 then none else if sz ≠ hl then none else some sz

/-! ### `newCodeDirectory` -/

structure Params where
  flags : Nat                      -- SignatureFlags (uint32)
  ident : Bytes                    -- SigningIdentity
  team : Bytes                     -- TeamIdentifier ("" = absent)
  execBase : Nat                   -- int64 fields as their two's-complement uint64
  execLimit : Nat
  execFlags : Nat
  specials : List (Option Bytes)   -- nil or content, in the order of the slice (slot −len … −1)
  codeSlots : List Seg
  codeSlotCount : Nat
  hash : Nat                       -- crypto.Hash
  codeLimit : Nat                  -- int64, non-negative
  single : Bool
  deriving Repr, DecidableEq

/-- the 88 bytes `binary.Write(b, binary.BigEndian, hdr)` produces, field by field -/
structure Header where
  magic : Nat
  length : Nat
  version : Nat
  flags : Nat
  hashOffset : Nat
  identOffset : Nat
  nSpecial : Nat
  nCode : Nat
  codeLimit : Nat
  hashSize : Nat
  hashType : Nat
  pageShift : Nat
  scatterOffset : Nat
  teamOffset : Nat
  codeLimit64 : Nat
  execBase : Nat
  execLimit : Nat
  execFlags : Nat
  deriving Repr, DecidableEq

/-- `(width, value)` of every field `binary.Write` emits, in order (blank `_` fields are written as zero) -/
def Header.fields (h : Header) : List (Nat × Nat) :=
  [(4, h.magic), (4, h.length), (4, h.version), (4, h.flags), (4, h.hashOffset), (4, h.identOffset), (4, h.nSpecial),
   (4, h.nCode), (4, h.codeLimit), (1, h.hashSize), (1, h.hashType), (1, 0), (1, h.pageShift), (4, 0),
   (4, h.scatterOffset), (4, h.teamOffset), (4, 0), (8, h.codeLimit64), (8, h.execBase), (8, h.execLimit), (8, h.execFlags)]

def encFields (fs : List (Nat × Nat)) : Bytes := fs.flatMap (fun p => beBytes p.1 p.2)

def Header.enc (h : Header) : Bytes := encFields h.fields

def specialSeg : Option Bytes → Seg
  | some s => .hash s
  | none => .zero

/-- the header `newCodeDirectory` fills in -/
def mkHeader (p : Params) (ht : Nat) : Header :=
  let hs := hashSizeOf p.hash % 256
  let nsp := p.specials.length
  let identOff := 88
  let afterIdent := identOff + p.ident.length + 1
  let teamOff := if p.team.isEmpty then 0 else afterIdent
  let afterTeam := if p.team.isEmpty then afterIdent else afterIdent + p.team.length + 1
  let exec := p.execBase ≠ 0 ∨ p.execLimit ≠ 0 ∨ p.execFlags ≠ 0
  { magic := 0xfade0c02
    length := afterTeam + hashSizeOf p.hash * nsp + segsLen (hashSizeOf p.hash) p.codeSlots
    version := if exec then 0x20400 else 0x20300
    flags := p.flags
    -- `uint32(offset) + hdr.SpecialSlotCount*uint32(hdr.HashSize)`
    hashOffset := afterTeam + (nsp % 2 ^ 32) * hs
    identOffset := identOff
    nSpecial := nsp
    nCode := p.codeSlotCount
    codeLimit := if p.codeLimit > 2 ^ 31 - 2 then 0 else p.codeLimit
    hashSize := hs
    hashType := ht
    pageShift := if p.single then 0 else 12
    scatterOffset := 0
    teamOffset := teamOff
    codeLimit64 := if p.codeLimit > 2 ^ 31 - 2 then p.codeLimit else 0
    execBase := p.execBase, execLimit := p.execLimit, execFlags := p.execFlags }

/-- `newCodeDirectory(params)`: the marshalled directory with the hash values still symbolic -/
def newCodeDirectory (p : Params) : Res (List Seg) :=
  match hashTypeOf p.hash with
  | none => .err "hashtype"
  | some ht =>
    .ok ([.lit ((mkHeader p ht).enc ++ p.ident ++ [0] ++ (if p.team.isEmpty then [] else p.team ++ [0]))] ++
         p.specials.map specialSeg ++ p.codeSlots)

/-! ### superblobs -/

structure Item where
  magic : Nat
  itype : Nat
  data : List Seg
  deriving Repr, DecidableEq

def csItype (magic : Nat) : Nat :=
  if magic = 0xfade0c01 then 2 else if magic = 0xfade7171 then 5 else if magic = 0xfade7172 then 7
  else if magic = 0xfade0b01 then 0x10000 else 0

/-- `newSuperItem(magic, payload)` -/
def newSuperItem (magic : Nat) (payload : Bytes) : Item :=
  ⟨magic, csItype magic, [.lit (beBytes 4 magic ++ beBytes 4 (payload.length + 8) ++ payload)]⟩

/-- the index of `marshalSuperBlob`: `(itype, offset)` pairs, offsets accumulate from `12 + 8·count` -/
def superIndex (hs : Nat) : Nat → List Item → Bytes
  | _, [] => []
  | off, i :: is => beBytes 4 i.itype ++ beBytes 4 off ++ superIndex hs (off + segsLen hs i.data) is

/-- `marshalSuperBlob(magic, items)` -/
def marshalSuperBlob (hs : Nat) (magic : Nat) (items : List Item) : List Seg :=
  let start := 12 + 8 * items.length
  let total := start + (items.map (fun i => segsLen hs i.data)).sum
  [.lit (beBytes 4 magic ++ beBytes 4 total ++ beBytes 4 items.length ++ superIndex hs start items)] ++
    items.flatMap (·.data)

def be32 (b : Bytes) (off : Nat) : Nat := beVal ((b.drop off).take 4)

structure RawItem where
  magic : Nat
  itype : Nat
  off : Nat      -- position of the item inside the blob
  len : Nat
  deriving Repr, DecidableEq

/-- the entry loop of `parseSuper` (with the `offset < 0` guard of the fixed tree) -/
def superEntries (blob : Bytes) (dataOffset : Nat) : Nat → Nat → Res (List RawItem)
  | 0, _ => .ok []
  | n + 1, idx =>
    let itype := be32 blob idx
    let offRaw := be32 blob (idx + 4)
    let dataLen := blob.length - dataOffset
    if offRaw < dataOffset ∨ dataLen < 8 ∨ offRaw - dataOffset > dataLen - 8 then .err "short" else
    let length := be32 blob (offRaw + 4)
    if offRaw - dataOffset + length > dataLen then .err "short" else
    match superEntries blob dataOffset n (idx + 8) with
    | .ok rest => .ok (⟨be32 blob offRaw, itype, offRaw, length⟩ :: rest)
    | e => e

/-- `parseSuper(blob)`: magic and the located items -/
def parseSuper (blob : Bytes) : Res (Nat × List RawItem) :=
  if blob.length < 12 then .err "short" else
  let length := be32 blob 4
  let count := be32 blob 8
  if length < 8 ∨ blob.length < length then .err "length" else
  if blob.length - 12 < 8 * count then .err "short" else
  match superEntries blob (12 + 8 * count) count 12 with
  | .ok items => .ok (be32 blob 0, items)
  | .err e => .err e
  | .panic p => .panic p
  | .diverge => .diverge

/-! ### `parseCodeDirectory` -/

structure Dir where
  hdr : Header
  ident : Bytes
  team : Bytes
  hashSize : Nat
  code : List Bytes       -- the code slots as stored (an all-zero slot is `nil` in Go: it never compares equal)
  special : List Bytes    -- slots −1, −2, …
  deriving Repr, DecidableEq

def be8 (b : Bytes) (off : Nat) : Nat := beVal ((b.drop off).take 1)
def be64 (b : Bytes) (off : Nat) : Nat := beVal ((b.drop off).take 8)

/-- `cstring(blob, i)` -/
def cstring (blob : Bytes) (i : Nat) : Option Bytes :=
  if i ≥ blob.length then none else
  let t := blob.drop i
  if t.contains 0 then some (t.takeWhile (· ≠ 0)) else none

/-- `binary.Read` of the 88-byte header followed by the version switch -/
def readHeader (blob : Bytes) : Header :=
  let version := be32 blob 8
  { magic := be32 blob 0, length := be32 blob 4, version, flags := be32 blob 12, hashOffset := be32 blob 16,
    identOffset := be32 blob 20, nSpecial := be32 blob 24, nCode := be32 blob 28, codeLimit := be32 blob 32,
    hashSize := be8 blob 36, hashType := be8 blob 37, pageShift := be8 blob 39,
    scatterOffset := if version < 0x20100 then 0 else be32 blob 44,
    teamOffset := if version < 0x20200 then 0 else be32 blob 48,
    codeLimit64 := if version < 0x20300 then 0 else be64 blob 56,
    execBase := if version < 0x20400 then 0 else be64 blob 64,
    execLimit := if version < 0x20400 then 0 else be64 blob 72,
    execFlags := if version < 0x20400 then 0 else be64 blob 80 }

def slotAt (buf : Bytes) (base hs : Nat) (i : Nat) : Bytes := (buf.drop (base + i * hs)).take hs

/-- `parseCodeDirectory(blob, itype)`; `extra` are the bytes that follow `blob` inside the capacity of the Go slice
    (slicing `blob[a:b]` is checked against the capacity, not the length). -/
def parseCodeDirectory (blob extra : Bytes) : Res Dir :=
  if blob.length < 88 then .err "eof" else
  let h := readHeader blob
  match (if h.identOffset ≠ 0 then cstring blob h.identOffset else some []) with
  | none => .err "short"
  | some ident =>
  match (if h.teamOffset ≠ 0 then cstring blob h.teamOffset else some []) with
  | none => .err "short"
  | some team =>
  if h.scatterOffset ≠ 0 then .err "scatter" else
  match hashFuncOf h.hashType h.hashSize with
  | none => .err "hash"
  | some hs =>
    let cap := blob.length + extra.length
    -- code slots first: `blob[hashBase+i*hashLen : hashBase+(i+1)*hashLen]`
    if h.nCode ≠ 0 ∧ h.hashOffset + h.nCode * hs > cap then .panic "csblob.parseCodeDirectory:slice" else
    -- then the special slots −1 … −n
    if h.nSpecial ≠ 0 ∧ (h.hashOffset > cap ∨ h.hashOffset < h.nSpecial * hs) then .panic "csblob.parseCodeDirectory:slice" else
    let buf := blob ++ extra
    .ok { hdr := h, ident, team, hashSize := hs,
          code := (List.range h.nCode).map (slotAt buf h.hashOffset hs),
          special := (List.range h.nSpecial).map (fun i => slotAt buf (h.hashOffset - (i + 1) * hs) hs 0) }

/-! ### `VerifyPages` -/

def toI64 (n : Nat) : Int := if n % 2 ^ 64 < 2 ^ 63 then (n % 2 ^ 64 : Nat) else (n % 2 ^ 64 : Nat) - 2 ^ 64

/-- `SigBlob.CodeSize()` for the chosen directory -/
def codeSize (h : Header) : Int := if h.codeLimit64 ≠ 0 then toI64 h.codeLimit64 else h.codeLimit

/-- one comparison the verifier makes: the bytes it hashes and the slot it expects -/
structure Check where
  stream : Bytes
  expected : Bytes
  deriving Repr, DecidableEq

structure VerifyPlan where
  checks : List Check
  final : Res Unit       -- the outcome when every comparison succeeds
  deriving Repr, DecidableEq

/-- an all-zero slot is `nil` in the parsed directory: `hmac.Equal(computed, nil)` is false.  The model keeps the
    stored bytes; the check (python) applies this rule (a hash value is never all zero in practice). -/
def verifyLoop (ps : Nat) : List Bytes → Bytes → Int → Nat → List Check × Res Unit
  | [], _, _, _ => ([], .ok ())
  | e :: es, r, remaining, pageLen =>
    if remaining ≤ 0 then ([], .err "fewslots") else
    let pageLen := if remaining < pageLen then remaining.toNat else pageLen
    if r.length < pageLen then ([], .err "eof") else
    let (cs, fin) := verifyLoop ps es (r.drop pageLen) (remaining - pageLen) pageLen
    (⟨r.take pageLen, e⟩ :: cs, fin)

/-- `SigBlob.VerifyPages(io.NewSectionReader(r, 0, CodeSize()))` for a blob whose best directory is `d`;
    `file` is the whole image.  page sizes above 2^24 are refused. -/
def verifyPages (d : Dir) (file : Bytes) : VerifyPlan :=
  let remaining := codeSize d.hdr
  let r := file.take remaining.toNat       -- the section reader
  if d.hdr.pageShift = 0 then
    if d.code.length ≠ 1 then ⟨[], .err "slots1"⟩ else
    if (r.length : Int) ≠ remaining then ⟨[], .err "size"⟩ else
    ⟨[⟨r, d.code.headD []⟩], .ok ()⟩
  else if d.hdr.pageShift > 24 then ⟨[], .err "pagesize"⟩   -- refused since the fix (63: `make` panicked; 31..62: huge allocation)
  else
    let ps := 2 ^ d.hdr.pageShift
    let (cs, fin) := verifyLoop ps d.code r remaining ps
    ⟨cs, fin⟩

/-! ### the deterministic part of `csblob.Sign` -/

structure SignParams where
  hash : Nat
  flags : Nat
  ident : Bytes
  team : Bytes
  execBase : Nat
  execLimit : Nat
  execFlags : Nat
  requirements : Option Bytes
  entitlement : Option Bytes
  entitlementDER : Option Bytes
  infoPlist : Option Bytes
  resources : Option Bytes
  repSpecific : Option Bytes
  deriving Repr, DecidableEq

/-- the requirements item: a requirement set is re-wrapped, a single requirement becomes the designated one -/
def reqItem (v : Bytes) : Res Item :=
  if v.length < 8 then .err "requirements" else
  let magic := be32 v 0
  if magic = 0xfade0c01 then .ok (newSuperItem 0xfade0c01 (v.drop 8))
  else if magic = 0xfade0c00 then
    let j : Item := { newSuperItem 0xfade0c00 (v.drop 8) with itype := 3 }
    let set := render (fun _ => []) 0 (marshalSuperBlob 0 0xfade0c01 [j])
    .ok (newSuperItem 0xfade0c01 (set.drop 8))
  else .err "requirements"

def litOf (i : Item) : Bytes := render (fun _ => []) 0 i.data

/-- `for specials[0] == nil && len(specials) > 5 { specials = specials[1:] }` -/
def trimSpecials : List (Option Bytes) → List (Option Bytes)
  | none :: rest => if rest.length + 1 > 5 then trimSpecials rest else none :: rest
  | l => l

structure Signed where
  pages : PageHashes
  cd : List Seg            -- the code directory
  hashed : List Item       -- requirements / entitlements items
  deriving Repr, DecidableEq

/-- `csblob.Sign` up to the CMS step, on the page stream `stream` (old-signature defaults already applied) -/
def signBlob (p : SignParams) (stream : Bytes) : Res Signed :=
  let ph := hashPages stream p.repSpecific.isSome
  match (match p.requirements with | some v => (reqItem v).bind (fun i => .ok (some i)) | none => .ok none) with
  | .err e => .err e
  | .panic s => .panic s
  | .diverge => .diverge
  | .ok req =>
    let ent := p.entitlement.map (newSuperItem 0xfade7171)
    let entDER := p.entitlementDER.map (newSuperItem 0xfade7172)
    let specials := trimSpecials [entDER.map litOf, p.repSpecific, ent.map litOf, none, p.resources, req.map litOf, p.infoPlist]
    let cdp : Params := { flags := p.flags, ident := p.ident, team := p.team, execBase := p.execBase, execLimit := p.execLimit,
                          execFlags := p.execFlags, specials, codeSlots := ph.slots, codeSlotCount := ph.count,
                          hash := p.hash, codeLimit := ph.limit, single := p.repSpecific.isSome }
    match newCodeDirectory cdp with
    | .ok cd => .ok ⟨ph, cd, req.toList ++ ent.toList ++ entDER.toList⟩
    | .err e => .err e
    | .panic s => .panic s
    | .diverge => .diverge

/-- the embedded signature: `[code directory] ++ hashed items ++ [CMS wrapper]` -/
def superblob (hs : Nat) (s : Signed) (cms : Bytes) : List Seg :=
  marshalSuperBlob hs 0xfade0cc0 ([⟨0xfade0c02, 0, s.cd⟩] ++ s.hashed ++ [newSuperItem 0xfade0b01 cms])

end Relic.CodeDir
