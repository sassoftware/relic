/-
  Relic.Model.CatSign — signers/cat/signer.go (re-signing a Windows security catalog) and signers/pkcs/timestamp.go
  (`pkcs.Verify`, the verifier of the `cat` and `pkcs7` signer types), on top of Relic.Model.Der / Relic.Model.Cms.

    cat.sign    pkcs7.Unmarshal(blob); eContentType must be 1.3.6.1.4.1.311.10.1 (szOID_CTL);
                SignatureBuilder.SetContentInfo(old ContentInfo)  – digest over ContentInfo.Bytes();
                Sign() with NO authenticated attributes (the signature is over the content digest itself);
                pkcs9.TimestampAndMarshal: self-check `SignedData.Verify(nil, false)`, then asn1.Marshal.
    ContentInfo.Bytes   asn1.Unmarshal(ci.Raw, &{OID, RawValue}); asn1.Unmarshal(value.Bytes, &RawValue); any asn1.SyntaxError
                        (value absent, truncated, indefinite length) is answered (nil, nil) = "detached"
    ContentInfo as emitted: first field `Raw asn1.RawContent` ⇒ header rewritten (identifier 0x30, minimal length),
                        content octets verbatim
    pkcs.Verify         the content file is read only when digests are checked and `--content` is given;
                        then SignedData.Verify (Relic.Cms) and the optional timestamp

  Parameters: hash `H`, the signature primitive, what the certificate contributes (issuer, serial, encodings of the
  algorithm identifiers, chain).  `unmarshalCI` (written after `Der.sdWalk`) stands for `pkcs7.Unmarshal` on the navigation to the ContentInfo; fields the
  walk does not look into (certificates, CRLs, signer infos, integers) are validated by encoding/asn1 only.
  Core Lean only.
-/
import Relic.Model.Der
import Relic.Model.Cms
namespace Relic.CatSign
open Relic Relic.Der

/-- 1.3.6.1.4.1.311.10.1, `authenticode.OidCertTrustList` -/
def oidCTL : Bytes := [0x2b, 0x06, 0x01, 0x04, 0x01, 0x82, 0x37, 0x0a, 0x01]
/-- 1.2.840.113549.1.7.2 -/
def oidSignedData : Bytes := [0x2a, 0x86, 0x48, 0x86, 0xf7, 0x0d, 0x01, 0x07, 0x02]

/-- one strict element read where an `asn1.SyntaxError` means "no value": `none` -/
def untlvSyn (bs : Bytes) : Res (Option (UInt8 × Bytes × Bytes)) :=
  match untlv bs with
  | .ok r => .ok (some r)
  | .err e => if e = "syntax" then .ok none else .err e
  | .panic s => .panic s
  | .diverge => .diverge

/-- `ContentInfo.Bytes()` on `Raw`: content octets of the element inside the second element; `none` = (nil, nil).
    `raw` is the encoding of a ContentInfo that asn1.Unmarshal accepted (SEQUENCE starting with a valid OID). -/
def ciBytes (raw : Bytes) : Res (Option Bytes) :=
  match untlvSyn raw with
  | .ok (some (t, c, _)) =>
    if t ≠ 0x30 then .err "structural"
    else
      match untlvSyn c with
      | .ok (some (t1, _, r1)) =>
        if t1 ≠ 0x06 then .err "structural"
        else
          match untlvSyn r1 with            -- field `Value asn1.RawValue`: any tag; "sequence truncated" when nothing is left
          | .ok (some (_, v, _)) =>
            match untlvSyn v with           -- asn1.Unmarshal(ci2.Value.Bytes, &value): one element, trailing bytes ignored
            | .ok (some (_, inner, _)) => .ok (some inner)
            | .ok none => .ok none
            | .err e => .err e
            | .panic s => .panic s
            | .diverge => .diverge
          | .ok none => .ok none
          | .err e => .err e
          | .panic s => .panic s
          | .diverge => .diverge
      | .ok none => .ok none
      | .err e => .err e
      | .panic s => .panic s
      | .diverge => .diverge
  | .ok none => .ok none
  | .err e => .err e
  | .panic s => .panic s
  | .diverge => .diverge

/-- what `asn1.Marshal` writes for a `ContentInfo` whose `Raw` is set -/
def emitCI (raw : Bytes) : Bytes := tlv 0x30 (stripTagAndLength raw)

/-- `len(bytes.TrimRight(rest, "\x00")) == 0` -/
def allZero (bs : Bytes) : Bool := bs.all (· = 0)

/-- an optional `[n] IMPLICIT` list field: skipped when present; `none` when its content does not split into elements -/
def skipOpt (tag : UInt8) : List RawVal → Option (List RawVal)
  | r :: rest =>
    if r.tag = tag then
      match splitTLVs r.bytes with
      | .ok _ => some rest
      | _ => none
    else some (r :: rest)
  | [] => some []

/-- after the ContentInfo: [certificates], [crls], then the SET of signer infos (further elements are ignored) -/
def tailOK (more : List RawVal) : Bool :=
  match skipOpt 0xA0 more with
  | some m1 =>
    let m2 := match m1 with
      | r :: rest => if r.tag = 0xA1 then rest else m1
      | [] => m1
    match m2 with
    | s :: _ => s.tag = 0x31 && (splitTLVs s.bytes).isOk
    | [] => false
  | none => false

/-- the SignedData inside `[0] EXPLICIT`: version, digestAlgorithms, contentInfo, … -/
def walkSD (c2 : Bytes) : Res Bytes :=
  match splitTLVs c2 with
  | .ok (v :: da :: ci :: more) =>
    if v.tag ≠ 0x02 || da.tag ≠ 0x31 || ci.tag ≠ 0x30 then .err "parse"
    else if tailOK more then .ok ci.full else .err "parse"
  | .ok _ => .err "parse"
  | .err _ => .err "parse"
  | .panic s => .panic s
  | .diverge => .diverge

/-- `asn1.Unmarshal(blob, &ContentInfoSignedData{})` as far as `cat.sign` looks: the navigation to
    `Content.ContentInfo` (meant to accept what `Der.sdWalk` accepts, which C16 ties to pkcs7.Unmarshal; no theorem relates the two; written out with explicit
    matches so that it can be inverted and evaluated in proofs) -/
def walkOuter (c : Bytes) : Res Bytes :=
  match splitTLVs c with
  | .ok (_ :: e1 :: _) =>
    if e1.tag ≠ 0xA0 then .err "parse"
    else
      match untlv e1.bytes with
      | .ok (t2, c2, _) => if t2 ≠ 0x30 then .err "parse" else walkSD c2
      | .err _ => .err "parse"
      | .panic s => .panic s
      | .diverge => .diverge
  | .ok _ => .err "parse"
  | .err _ => .err "parse"
  | .panic s => .panic s
  | .diverge => .diverge

/-- `pkcs7.Unmarshal` as far as `cat.sign` looks: the ContentInfo element of the SignedData; then the trailing-bytes rule -/
def unmarshalCI (blob : Bytes) : Res Bytes :=
  match untlv blob with
  | .ok (t, c, rest) =>
    if t ≠ 0x30 then .err "parse"
    else
      match walkOuter c with
      | .ok ci => if allZero rest then .ok ci else .err "trailing"
      | r => r
  | .err _ => .err "parse"
  | .panic s => .panic s
  | .diverge => .diverge

/-- what the configured key and certificate chain contribute to a signature -/
structure Signer where
  issuer : Bytes          -- `certs[0].RawIssuer` (an element)
  serial : Bytes          -- content octets of the serial number
  chain : List Bytes      -- `cert.Chain()`, DER of every certificate, leaf first
  digestAlg : Bytes       -- AlgorithmIdentifier element for the digest (`x509tools.PkixAlgorithms`)
  keyAlg : Bytes          -- AlgorithmIdentifier element for the public key
  sign : Bytes → Bytes    -- `privateKey.Sign(rand, digest, opts)`

/-- the SignerInfo `SignatureBuilder.Sign` builds when no authenticated attribute was added -/
def emitSI (k : Signer) (sig : Bytes) : Bytes :=
  tlv 0x30 (tlv 0x02 [1] ++ tlv 0x30 (k.issuer ++ tlv 0x02 k.serial) ++ k.digestAlg ++ k.keyAlg ++ tlv 0x04 sig)

/-- `asn1.Marshal(ContentInfoSignedData{…})` for the builder's value with the old ContentInfo -/
def emitSD (k : Signer) (ci sig : Bytes) : Bytes :=
  tlv 0x30 (tlv 0x06 oidSignedData ++
    tlv 0xA0 (tlv 0x30 (tlv 0x02 [1] ++ tlv 0x31 k.digestAlg ++ emitCI ci ++ tlv 0xA0 k.chain.flatten ++ tlv 0x31 (emitSI k sig))))

structure Signed where
  out : Bytes           -- the new catalog
  ci : Bytes            -- the old ContentInfo element
  content : Bytes       -- ContentInfo.Bytes(): what was digested
  sig : Bytes
  deriving DecidableEq, Repr

/-- `cat.sign` -/
def sign (H : Bytes → Bytes) (k : Signer) (blob : Bytes) : Res Signed :=
  match unmarshalCI blob with
  | .ok ci =>
    if ciOid ci ≠ some oidCTL then .err "not-catalog"
    else
      match ciBytes ci with
      | .ok (some c) =>
        let sig := k.sign (H c)
        .ok ⟨emitSD k ci sig, ci, c, sig⟩
      | .ok none => .err "self-check"       -- digest of nothing is signed, then `Verify(nil, false)`: "pkcs7: missing content"
      | .err _ => .err "content"            -- SetContentInfo fails (StructuralError inside the ContentInfo)
      | .panic s => .panic s
      | .diverge => .diverge
  | .err e => .err e
  | .panic s => .panic s
  | .diverge => .diverge

/-- signing history: each round re-signs the previous output with that round's key -/
def history (H : Bytes → Bytes) : List Signer → Bytes → Res Bytes
  | [], b => .ok b
  | k :: ks, b =>
    match sign H k b with
    | .ok s => history H ks s.out
    | .err e => .err e
    | .panic s => .panic s
    | .diverge => .diverge

/-! ### `pkcs.Verify`: which external content reaches `SignedData.Verify` -/

/-- `cblob`: read only `if !opts.NoDigests && opts.Content != ""`; `file` = contents of the named file -/
def externalContent (noDigests : Bool) (contentArg : Option Bytes) : Option Bytes :=
  if noDigests then none else contentArg

/-- `pkcs.Verify` after a successful `pkcs7.Unmarshal` (timestamp check not included) -/
def pkcsVerify {C : Cms.Crypto} (H : Cms.Alg → Bytes → Bytes) (sd : Cms.SignedData C) (noDigests : Bool)
    (contentArg : Option Bytes) : Res (Cms.Cert C × Cms.SignerInfo C) :=
  Cms.verifySignedData H sd (externalContent noDigests contentArg) noDigests

end Relic.CatSign
