/-
  Relic.Model.EcdsaPack — model of /repo/lib/x509tools/ecdsa_curves.go
  `EcdsaSignature.Pack` / `UnpackEcdsaSignature` (IEEE 1363 `r ‖ s`).

  `packUnfixed` is the code at 046e39f: the width is derived from the *values*
  (`max (bitlen r) (bitlen s)`), not from the curve (defect F17).
  `packW w` is the repaired code (`PackCurve`): both numbers are written on `w` bytes, `w` being the byte
  length of the curve order; `big.Int.FillBytes` panics when a number does not fit.
  Core Lean only.
-/
import Relic.Base.Bytes
namespace Relic.EcdsaPack
open Relic

/-- `big.Int.BitLen` of a non-negative number (number of binary digits; fuel `n` always suffices) -/
def bitLenAux : Nat → Nat → Nat
  | 0, _ => 0
  | f + 1, n => if n = 0 then 0 else 1 + bitLenAux f (n / 2)

def bitLen (n : Nat) : Nat := bitLenAux n n

/-- `EcdsaSignature.Pack` as coded on the unchanged tree -/
def packUnfixed (r s : Nat) : Bytes :=
  let nbits := if bitLen s > bitLen r then bitLen s else bitLen r
  let nbytes := (nbits + 7) / 8
  beBytes nbytes r ++ beBytes nbytes s

/-- repaired packing: `w` = byte length of the curve; `FillBytes` panics if the value needs more than `w` bytes -/
def packW (w r s : Nat) : Res Bytes :=
  if r < 256 ^ w ∧ s < 256 ^ w then .ok (beBytes w r ++ beBytes w s)
  else .panic "big.Int.FillBytes: buffer too small"

/-- `UnpackEcdsaSignature` -/
def unpack (p : Bytes) : Res (Nat × Nat) :=
  let byteLen := p.length / 2
  if p.length ≠ byteLen * 2 then .err "size"
  else .ok (beVal (p.take byteLen), beVal (p.drop byteLen))

/-- byte length of a curve of `bits` bits: `(BitSize + 7) / 8` -/
def curveBytes (bits : Nat) : Nat := (bits + 7) / 8

end Relic.EcdsaPack
