/-
  Relic.Model.Binpatch — executable model of /repo/lib/binpatch/binpatch.go
  (Add, Dump, Load, Apply, applyRewrite, the in-place strategy) and of the
  reference semantics of a patch set.
-/
import Relic.Base.Bytes
namespace Relic.Binpatch
open Relic

structure Patch where
  off : Nat
  old : Nat
  blob : Bytes
  deriving Repr, DecidableEq

/-- The reference: "the original bytes with each listed range replaced by its blob".
    Ranges are replaced from the last to the first, so earlier offsets stay valid. -/
def sem (f : Bytes) (ps : List Patch) : Bytes :=
  ps.foldr (fun p acc => splice acc p.off p.old p.blob) f

/-! ### constructible call sequences -/

/-- ascending, non-overlapping, inside a file of length `n`, starting at or after `pos` -/
def wfFrom (n pos : Nat) : List Patch → Bool
  | [] => true
  | p :: ps => decide (pos ≤ p.off) && decide (p.off + p.old ≤ n) && wfFrom n (p.off + p.old) ps

/-- read position after the last patch -/
def endPos (pos : Nat) : List Patch → Nat
  | [] => pos
  | p :: ps => endPos (p.off + p.old) ps

/-! ### `PatchSet.Add` -/

/-- the tail of `Add`: the `for oldSize > uint32Max` splitting loop plus the final append.
    `M` is the constant `uint32Max` (a parameter so the thresholds can be exercised). -/
def addSplit (M off old : Nat) (blob : Bytes) : List Patch :=
  if _h : 0 < M ∧ M < old then ⟨off, M, []⟩ :: addSplit M (off + M) (old - M) blob
  else [⟨off, old, blob⟩]
termination_by old
decreasing_by omega

/-- `p.Add(offset, oldSize, blob)` on the patch list in call order. -/
def add (M : Nat) (ps : List Patch) (c : Patch) : List Patch :=
  match ps.getLast? with
  | some l =>
    if c.off = l.off + l.old ∧ l.old + c.old ≤ M ∧ l.blob.length + c.blob.length ≤ M then
      ps.dropLast ++ [⟨l.off, l.old + c.old, l.blob ++ c.blob⟩]
    else ps ++ addSplit M c.off c.old c.blob
  | none => ps ++ addSplit M c.off c.old c.blob

def build (M : Nat) (cs : List Patch) : List Patch := cs.foldl (add M) []

/-! ### `Dump` / `Load` -/

/-- insertion into a list sorted by offset (before equal offsets: `foldr` then gives a stable sort) -/
def insertByOff (p : Patch) : List Patch → List Patch
  | [] => [p]
  | q :: qs => if p.off ≤ q.off then p :: q :: qs else q :: insertByOff p qs

/-- `sort.Sort(sorter{p})` – modelled by a stable sort; see `C12.sort_instability_irrelevant`
    for why instability cannot matter on builder output. -/
def sortByOff (ps : List Patch) : List Patch := ps.foldr insertByOff []

def dumpHeader (p : Patch) : Bytes :=
  beBytes 8 p.off ++ beBytes 4 p.old ++ beBytes 4 p.blob.length

/-- `Dump` of an already sorted list -/
def dumpSorted (ps : List Patch) : Bytes :=
  beBytes 4 1 ++ beBytes 4 ps.length ++ (ps.flatMap dumpHeader) ++ (ps.flatMap (·.blob))

def dump (ps : List Patch) : Bytes := dumpSorted (sortByOff ps)

/-- read `n` 16-byte patch headers -/
def loadHeaders : Nat → Bytes → Option (List (Nat × Nat × Nat) × Bytes)
  | 0, b => some ([], b)
  | n + 1, b =>
    if b.length < 16 then none else
    match loadHeaders n (b.drop 16) with
    | none => none
    | some (hs, rest) =>
      some ((beVal (b.take 8), beVal ((b.drop 8).take 4), beVal ((b.drop 12).take 4)) :: hs, rest)

def loadBlobs : List (Nat × Nat × Nat) → Bytes → Option (List Patch)
  | [], _ => some []
  | (off, old, new) :: hs, b =>
    if b.length < new then none else
    match loadBlobs hs (b.drop new) with
    | none => none
    | some ps => some (⟨off, old, b.take new⟩ :: ps)

/-- `binpatch.Load`. Trailing bytes after the last blob are ignored, as in Go. -/
def load (b : Bytes) : Res (List Patch) :=
  if b.length < 8 then .err "short" else
  if beVal (b.take 4) ≠ 1 then .err "version" else
  match loadHeaders (beVal ((b.drop 4).take 4)) (b.drop 8) with
  | none => .err "short"
  | some (hs, rest) =>
    match loadBlobs hs rest with
    | none => .err "short"
    | some ps => .ok ps

/-! ### `applyRewrite` -/

/-- the copy–skip–write loop; `pos` is the read position in the input file -/
def rewriteLoop (f : Bytes) (pos : Nat) : List Patch → Res Bytes
  | [] => .ok (f.drop pos)
  | p :: ps =>
    if p.off < pos then .err "outoforder"
    else if pos < p.off ∧ f.length < p.off then .err "shortcopy"
    else
      match rewriteLoop f (p.off + p.old) ps with
      | .ok rest => .ok ((f.drop pos).take (p.off - pos) ++ p.blob ++ rest)
      | e => e

def applyRewrite (f : Bytes) (ps : List Patch) : Res Bytes := rewriteLoop f 0 ps

/-! ### the in-place strategy -/

/-- `File.WriteAt(blob, off)`: an empty write does nothing; beyond EOF zero-fills -/
def writeAt (f : Bytes) (off : Nat) (blob : Bytes) : Bytes :=
  if blob.isEmpty then f
  else f.take off ++ List.replicate (off - f.length) 0 ++ blob ++ f.drop (off + blob.length)

/-- `File.Truncate(n)` -/
def truncate (f : Bytes) (n : Nat) : Bytes :=
  f.take n ++ List.replicate (n - f.length) 0

/-- the loop in `Apply` deciding whether an in-place overwrite is possible; returns the
    final size when it is -/
def inPlaceSize (flen : Nat) : List Patch → Nat → Option Nat
  | [], size => some size
  | p :: ps, size =>
    if p.old = p.blob.length then inPlaceSize flen ps size
    else if !ps.isEmpty then none
    else if p.off + p.old ≠ flen then none
    else inPlaceSize flen ps (p.off + p.blob.length)

def applyInPlace (f : Bytes) (ps : List Patch) (size : Nat) : Bytes :=
  truncate (ps.foldl (fun g p => writeAt g p.off p.blob) f) size

/-- `PatchSet.Apply(infile, outpath)`; `canOverwrite` = regular ∧ same inode ∧ nlink = 1.
    Returns the content found at the output path and which strategy ran. -/
def apply (f : Bytes) (ps : List Patch) (canOverwrite : Bool) : Res (Bytes × Bool) :=
  match (if canOverwrite then inPlaceSize f.length ps f.length else none) with
  | some size => .ok (applyInPlace f ps size, true)
  | none =>
    match applyRewrite f ps with
    | .ok g => .ok (g, false)
    | .err e => .err e
    | .panic s => .panic s
    | .diverge => .diverge

end Relic.Binpatch
