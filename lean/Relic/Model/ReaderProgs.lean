/-
  Relic.Model.ReaderProgs — relic's streaming digesters as programs of the reader calculus (Relic.Model.Reader), one
  primitive per call the Go source makes on its `io.Reader` (the call inventory is re-extracted from the source on
  every run: tools/extractreaders → Relic/Generated/Readers.lean, compared with `Rd.Calls.expected` of Relic.Model.ReaderCalls).

    * `digestPE pg`   lib/authenticode/pedigest.go   DigestPE, readDosHeader, readCoffHeader, readOptHeader, readSections,
                      imageHasher.section (page by page with io.ReadFull when page hashes are wanted), readTrailer
    * `digestCab`     lib/cabfile/cabfile.go         Digest (binary.Read ×3 + per folder, io.ReadFull ×2, io.CopyN, and the final
                      io.Copy(io.Discard, r) that looks for trailing garbage; `digestCabOrig` = the code before fix F-rd-cab-tail,
                      which probed with a one-byte `r.Read`)
    * `digestPS`      lib/authenticode/powershell.go DigestPowershell, detectUtf16 (Peek), readLine (ReadString / ReadByte
                      pairs), io.Copy(io.Discard, br)

  Pure computations reuse the definitions of the whole-buffer models (Relic.Model.PE / Cab / PS), applied to the bytes
  just read.  Sink 1 is the image / content hash; sink 2 is `patched` of cabfile.Digest.
  Programs are written in continuation-passing style (no `bind`), so that `run`/`runFlat` unfold call by call.
-/
import Relic.Model.Reader
import Relic.Model.PE
import Relic.Model.Cab
import Relic.Model.PS
namespace Relic.Rd
open Relic
open Relic.PE (seg u16 u32 Markers Section rawSections fixSections gapOf)

def hashSink : Nat := 1
def patchedSink : Nat := 2

/-- error class of a read that came up short: `io.EOF` and `io.ErrUnexpectedEOF` are both "eof" in the format models -/
def shortErr : Term → Fail
  | .eof => .err "eof"
  | .fail e => .err ("read:" ++ e)

/-- `io.ReadFull(r, make([]byte, n))` / `binary.Read(r, order, &fixedSizeStruct)` with the error returned -/
def readFullE {α} (n : Nat) (k : Bytes → Prog α) : Prog α :=
  .readFull n fun r =>
    match r with
    | .ok b => k b
    | .short _ t => .fail (shortErr t)

/-- authenticode's `readAndHash(r, d, n)`: `n == 0` returns without reading -/
def readAndHash {α} (n : Nat) (k : Bytes → Prog α) : Prog α :=
  if n = 0 then k [] else readFullE n k

/-- `io.CopyN(dst, r, n)` with `n : int64`: a count ≤ 0 copies nothing and reports no error; a short copy reports
    `io.EOF` (or the reader's error).  The bytes copied go to the continuation. -/
def copyN {α} (n : Int) (sched : Sched) (k : Bytes → Prog α) : Prog α :=
  if n ≤ 0 then k [] else
    .copy (some n.toNat) sched fun b e =>
      match e with
      | .limit => k b
      | .src t => .fail (shortErr t)

/-- `io.CopyN(sink, r, n)`: what was copied before a failure has been written to the sink; `onShort` is what the
    caller makes of a short copy -/
def copyNToE {α} (sink : Nat) (n : Int) (sched : Sched) (onShort : Term → Fail) (k : Bytes → Prog α) : Prog α :=
  if n ≤ 0 then k [] else
    .copy (some n.toNat) sched fun b e =>
      .emit sink b
        (match e with
         | .limit => k b
         | .src t => .fail (onShort t))

/-- `if _, err := io.CopyN(sink, r, n); err != nil { return err }` -/
def copyNTo {α} (sink : Nat) (n : Int) (sched : Sched) (k : Bytes → Prog α) : Prog α :=
  copyNToE sink n sched shortErr k

def failE {α} (e : String) : Prog α := .fail (.err e)

/-! ## PE: `authenticode.DigestPE` -/

structure PEHdr where
  m : Markers
  sections : List Section
  /-- `buf.Bytes()`: the header bytes that go to the image hash -/
  hashed : Bytes
  deriving Repr, DecidableEq

/-- `readDosHeader`, `io.CopyN(buf, r, peStart-64)`, `readCoffHeader`, `readOptHeader`, `readSections` -/
def peHeaders {α} (k : PEHdr → Prog α) : Prog α :=
  readAndHash 64 fun dos =>
  if seg dos 0 2 ≠ [0x4d, 0x5a] then failE "notpe" else
  let peStart := u32 dos 0x3c
  copyN ((peStart : Int) - 64) schedReadAll fun pad =>
  readAndHash 4 fun magic =>
  if magic ≠ [0x50, 0x45, 0, 0] then failE "notpe" else
  readAndHash 20 fun fh =>
  let machine := u16 fh 0
  let nsec := u16 fh 2
  let soh := u16 fh 16
  let pageSize := if machine = 0x200 ∨ machine = 0x184 ∨ machine = 0x284 then 8192 else 4096
  readFullE soh fun opt =>
  -- `if len(buf) < 2 { return nil, io.ErrUnexpectedEOF }` (fix a618e41; the model of the original code panics here)
  if soh < 2 then failE "eof" else
  let optMagic := u16 opt 0
  let variant : Option (Nat × Nat × Nat) :=
    if optMagic = 0x10b then some (224, 92, 128) else if optMagic = 0x20b then some (240, 108, 144) else none
  match variant with
  | none => failE "optmagic"
  | some (need, nrvaOff, dd4Start) =>
    if soh < need then failE "eof" else
    if u32 opt nrvaOff < 5 then failE "noroom" else
    let certStart := u32 opt dd4Start
    let certSize := u32 opt (dd4Start + 4)
    let sizeOfHdr0 := u32 opt 60
    let fileAlign := u32 opt 36
    let secTblStart := peStart + 24 + soh
    let secTblEnd := secTblStart + nsec * 40
    if sizeOfHdr0 < secTblEnd then failE "secoverlap" else
    readAndHash (nsec * 40) fun tbl =>
    match fixSections secTblEnd fileAlign (rawSections tbl 0 nsec) sizeOfHdr0 with
    | .err e => failE e
    -- `if hvals.fileAlign == 0 { return errors.New("PE file alignment is zero") }` (fix 7a9b915)
    | .panic _ => failE "filealign-zero"
    | .diverge => .fail .diverge
    | .ok (sections, sizeOfHdr) =>
      copyN ((sizeOfHdr : Int) - secTblEnd) schedReadAll fun padding =>
      k { m := { peStart, hdrOff := if 64 ≤ peStart then peStart else 64, soh, dd4Start,
                 posDDCert := peStart + 24 + dd4Start, secTblStart, sizeOfHdr, pageSize, fileAlign, certStart,
                 certSize, nsec },
          sections,
          hashed := dos ++ pad ++ magic ++ fh ++ (opt.take 64 ++ seg opt 68 dd4Start ++ opt.drop (dd4Start + 8)) ++
                    tbl ++ padding }

/-- the page loop of `imageHasher.section`: `io.ReadFull(r, h.pageBuf[:n])`, `imageDigest.Write(buf)`,
    `addPageHash(position, buf, 0)`; `position` is a `uint32`.  fuel = `remaining`. -/
def pageLoop {α} (pageSize : Nat) :
    Nat → (pos remaining : Nat) → List (Nat × Bytes) → Nat → (List (Nat × Bytes) → Nat → Prog α) → Prog α
  | 0, _, _, acc, last, k => k acc last
  | fuel + 1, pos, remaining, acc, last, k =>
    if 0 < pageSize ∧ 0 < remaining then
      let n := if remaining > pageSize then pageSize else remaining
      readFullE n fun buf =>
        .emit hashSink buf
          (pageLoop pageSize fuel (pos + n) (remaining - n)
            (acc ++ [(pos % 2 ^ 32, buf ++ List.replicate (pageSize - n) 0)]) ((pos + n) % 2 ^ 32) k)
    else k acc last

/-- the section loop of `DigestPE` with `imageHasher.section` -/
def peSections {α} (pg : Bool) (pageSize : Nat) :
    List Section → (next : Nat) → List (Nat × Bytes) → Nat → (Nat → List (Nat × Bytes) → Nat → Prog α) → Prog α
  | [], next, acc, last, k => k next acc last
  | s :: rest, next, acc, last, k =>
    if s.size = 0 then peSections pg pageSize rest next acc last k
    else if s.ptr ≠ next then failE "secorder"
    else if pg then
      pageLoop pageSize s.size s.ptr s.size acc last fun acc' last' =>
        peSections pg pageSize rest (next + s.size) acc' last' k
    else
      copyNTo hashSink (s.size : Int) schedCopy fun _ => peSections pg pageSize rest (next + s.size) acc last k

/-- `readTrailer` -/
def peTrailer {α} (next certStart certSize : Nat) (k : Nat → Prog α) : Prog α :=
  if certSize = 0 then
    .copy none schedCopy fun b e =>
      .emit hashSink b
        (match e with
         | .src .eof => k (next + b.length)
         | .src (.fail x) => failE ("read:" ++ x)
         | .limit => failE "unreachable")
  else if certStart < next then failE "sigoverlap"
  else
    copyNTo hashSink ((certStart : Int) - next) schedCopy fun _ =>
    copyN (certSize : Int) schedDiscard fun _ =>
    -- `if n, _ := io.Copy(ioutil.Discard, r); n > 0`: the error is not looked at
    .copy none schedDiscard fun b _ =>
      if 0 < b.length then failE "trailing" else k certStart

structure PEOut where
  origSize : Nat
  certStart : Nat
  m : Markers
  hdrLen : Nat
  /-- the page-hash table as (offset, bytes hashed), the last entry with no bytes -/
  pages : Option (List (Nat × Bytes))
  deriving Repr, DecidableEq

/-- `DigestPE` after the headers: `setupDigester`, gap, sections, `readTrailer`, padding, `finish` -/
def peBody (pg : Bool) (h : PEHdr) : Prog PEOut :=
  -- fix af1f153: no table when the headers do not fit into the first page
  if pg ∧ h.m.pageSize < h.m.sizeOfHdr then failE "pagehash-headers" else
  -- setupDigester: imageDigest.Write(header); addPageHash(0, header, removed)
  .emit hashSink h.hashed <|
  let pages0 := if pg then [(0, h.hashed ++ List.replicate (h.m.pageSize - h.m.sizeOfHdr) 0)] else []
  let gap : Nat := gapOf h.sections h.m.sizeOfHdr
  -- `fmt.Errorf("failed to read data between header and first PE section")` whatever the cause
  copyNToE hashSink (gap : Int) schedCopy (fun _ => .err "eof") fun _ =>
  peSections pg h.m.pageSize h.sections (h.m.sizeOfHdr + gap) pages0 0 fun next2 pages last =>
  peTrailer next2 h.m.certStart h.m.certSize fun origSize =>
  let pad := if origSize % 8 = 0 then 0 else 8 - origSize % 8
  .emit hashSink (List.replicate pad 0) <|
  .ret { origSize, certStart := origSize + pad, m := h.m, hdrLen := h.hashed.length,
         pages := if pg then some (pages ++ [(last, [])]) else none }

def digestPE (pg : Bool) : Prog PEOut := peHeaders (peBody pg)

/-! ## CAB: `cabfile.Digest` -/

open Relic.Cab (u8 rebase Reserve noReserve outHdr) in
/-- the `Flags & FlagReservePresent != 0` branch: `binary.Read(&cab.ReserveHeader)`, `binary.Read(cab.SignatureHeader)`,
    `io.ReadFull(r, pbuf)` -/
def cabReserve {α} (total : Nat) (k : Reserve → Prog α) : Prog α :=
  readFullE 4 fun rh =>
  let hs := u16 rh 0
  if hs < 20 ∨ u8 rh 2 ≠ 0 ∨ u8 rh 3 ≠ 0 then failE "reserved" else
  readFullE 20 fun sh =>
  let cabSize := u32 sh 4
  let padding := hs - 20
  if 0 < padding then
    if cabSize ≠ 0 then failE "reservesize" else
    readFullE padding fun pbuf =>
    if pbuf.any (· ≠ 0) then failE "padding" else
    k ⟨60 + padding, 2 ^ 32 - padding, false, 0, leBytes 4 0x100000, leBytes 4 0, leBytes 4 0⟩
  else if total ≠ cabSize then failE "sizemismatch"
  else k ⟨60, 0, true, u32 sh 8, seg sh 0 4, seg sh 12 16, seg sh 16 20⟩

open Relic.Cab (rebase) in
/-- the folder loop: `binary.Read(r, &fh)`, `add32`, `binary.Write(io.MultiWriter(dw, patched), fh)` -/
def cabFolders {α} (delta : Nat) : Nat → Bytes → (Bytes → Prog α) → Prog α
  | 0, acc, k => k acc
  | n + 1, acc, k =>
    readFullE 8 fun fh =>
    let out := leBytes 4 (rebase delta (u32 fh 0)) ++ seg fh 4 8
    .emit hashSink out (.emit patchedSink out (cabFolders delta n (acc ++ out) k))

open Relic.Cab (rebase Reserve noReserve outHdr) in
/-- `cabfile.Digest` after the reserve area: flag checks, the new header, folder loop, data, old signature -/
def cabRest {α} (h : Bytes) (rv : Reserve) (k : Cab.Digest → Prog α) : Prog α :=
  let total := u32 h 8
  let offFiles := u32 h 16
  let nFolders := u16 h 26
  let flags := u16 h 30
  if flags % 4 ≠ 0 then failE "multipart" else
  if 8 ≤ flags then failE "flags" else
  let outFlags := if flags / 4 % 2 = 1 then flags else flags + 4
  let hdr := outHdr h (rebase rv.delta total) (rebase rv.delta offFiles) outFlags rv.u1 rv.u2 rv.u3
  .emit hashSink hdr.sigBlob <|
  .emit patchedSink hdr.enc <|
  cabFolders rv.delta nFolders [] fun folders =>
  -- `io.CopyN(dw, r, int64(cab.Header.TotalSize-cab.Header.OffsetFiles))`: the subtraction is in uint32
  let n : Nat := (total + 2 ^ 32 - offFiles) % 2 ^ 32
  copyNTo hashSink (n : Int) schedCopy fun data =>
  (if rv.hasSig then readFullE rv.sigSize else fun k => k []) fun sig =>
  k { hdr, folders, data, total, offFiles, nFolders, delta := rv.delta, hasSig := rv.hasSig,
      oldSigSize := if rv.hasSig then rv.sigSize else 0, signature := sig,
      foldersStart := rv.cur, dataEnd := rv.cur + 8 * nFolders + n }

open Relic.Cab (noReserve) in
/-- everything up to the old signature -/
def cabBody {α} (k : Cab.Digest → Prog α) : Prog α :=
  readFullE 36 fun h =>
  if u32 h 0 ≠ 0x4643534d then failE "notcab" else
  if u16 h 30 / 4 % 2 = 1 then cabReserve (u32 h 8) fun rv => cabRest h rv k
  else cabRest h noReserve k

/-- the end of `cabfile.Digest` BEFORE fix F-rd-cab-tail:
    `if _, err := r.Read(make([]byte, 1)); err == nil { trailing garbage } else if err != io.EOF { return err }` -/
def cabTailOrig (d : Cab.Digest) : Prog Cab.Digest :=
  .probe fun e =>
    match e with
    | none => failE "trailing"
    | some .eof => .ret d
    | some (.fail x) => failE ("read:" ++ x)

def digestCabOrig : Prog Cab.Digest := cabBody cabTailOrig

/-- the end of `cabfile.Digest` (fix F-rd-cab-tail):
    `if n, err := io.Copy(io.Discard, r); err != nil { return err } else if n > 0 { trailing garbage }` -/
def cabTail (d : Cab.Digest) : Prog Cab.Digest :=
  .copy none schedDiscard fun b e =>
    match e with
    | .src (.fail x) => failE ("read:" ++ x)
    | _ => if 0 < b.length then failE "trailing" else .ret d

def digestCab : Prog Cab.Digest := cabBody cabTail

/-! ## PowerShell: `authenticode.DigestPowershell` -/

/-- `readLine` for UTF-16LE text: pairs of `br.ReadByte()` until the code unit 0A 00; an error ends the line with
    what was read.  fuel bounds the number of code units. -/
def readLine16 {α} : Nat → Bytes → (Bytes → Option BErr → Prog α) → Prog α
  | 0, _, _ => .fail .diverge
  | fuel + 1, line, k =>
    .readByte fun r =>
      match r with
      | .error e => k line (some e)
      | .ok lo =>
        .readByte fun r2 =>
          match r2 with
          | .error e => k (line ++ [lo]) (some e)
          | .ok hi => if lo = 10 ∧ hi = 0 then k (line ++ [lo, hi]) none else readLine16 fuel (line ++ [lo, hi]) k

/-- `readLine(br, isUtf16)` -/
def readLine {α} (u16 : Bool) (lfuel : Nat) (k : Bytes → Option BErr → Prog α) : Prog α :=
  if u16 then readLine16 lfuel [] k else .readString 10 k

structure PSOut where
  textSize : Nat
  sigSize : Nat
  utf16 : Bool
  deriving Repr, DecidableEq

/-- the marker line was read (`line == first`): the `eol` bytes in front of it must be the CRLF that ends the marker line
    itself (`saved[len(saved)-eol:] != first[len(first)-eol:]`, fix F-ps-eol); strip them, drain the rest
    (`io.Copy(io.Discard, br)`) -/
def psMarker (u16 : Bool) (eol : Nat) (saved : Bytes) (ts : Nat) (line : Bytes) : Prog PSOut :=
  if saved.length < eol then failE "badsig" else
  if saved.drop (saved.length - eol) ≠ line.drop (line.length - eol) then failE "badsig" else
  let saved' := saved.take (saved.length - eol)
  .bufDrain schedDiscard fun b en =>
    match en with
    | .src .eof =>
      .emit hashSink (PS.conv u16 saved') (.ret ⟨ts + saved'.length, eol + line.length + b.length, u16⟩)
    | .src (.fail x) => failE ("read:" ++ x)
    | .limit => failE "unreachable"

/-- one turn of the `for` loop after `readLine` returned `(line, e)` -/
def psStep (u16 : Bool) (first saved : Bytes) (ts : Nat) (line : Bytes) (e : Option BErr)
    (again : Bytes → Nat → Prog PSOut) : Prog PSOut :=
  match e with
  | some (.term (.fail x)) => failE ("read:" ++ x)
  | some .noProgress => failE "noprogress"
  | some .bufferFull => failE "bufferfull"
  | _ =>
    if line = first then psMarker u16 (if u16 then 4 else 2) saved ts line
    else
      .emit hashSink (PS.conv u16 saved) <|
      if e = some (.term .eof) then
        .emit hashSink (PS.conv u16 line) (.ret ⟨ts + saved.length + line.length, 0, u16⟩)
      else again line (ts + saved.length)

/-- the `for` loop of `DigestPowershell`; fuel bounds the number of lines -/
def psLoop (u16 : Bool) (first : Bytes) (lfuel : Nat) : Nat → Bytes → Nat → Prog PSOut
  | 0, _, _ => .fail .diverge
  | fuel + 1, saved, ts =>
    readLine u16 lfuel fun line e => psStep u16 first saved ts line e (psLoop u16 first lfuel fuel)

/-- `DigestPowershell(r, style, hash)`; `fuel` bounds lines and code units (any value above the input length) -/
def digestPS (style : Nat) (fuel : Nat) : Prog PSOut :=
  match PS.styleOf style with
  | none => failE "style"
  | some (st, en) =>
    .wrapBufio 4096 <|
    -- detectUtf16: `if bom, err := br.Peek(2); err == nil && bom[0] == 0xff && bom[1] == 0xfe`
    .peek 2 fun bom e =>
      let u16 := e.isNone && PS.isUtf16 bom
      psLoop u16 (PS.firstLine st en u16) fuel fuel [] 0

/-! ## ZIP through a stream: `zipslicer.streamReaderAt` (JAR, APK, APPX, VSIX, XAP bodies)

  `zipslicer.ReadStream` hands the stream to the ZIP reader as an `io.ReaderAt` whose `ReadAt(d, p)` is
  `io.CopyN(ioutil.Discard, r.r, p-r.pos)` followed by `io.ReadFull(r.r, d)` (and an error when `p < r.pos`).  Everything
  above it — `io.SectionReader`, `io.TeeReader`, `flate.NewReader`'s own `bufio.Reader`, the CRC check, `signjar`'s and
  `signappx`'s consumers — sees the stream only through these calls.  `RAClient` is any such consumer: a strategy that
  asks for `ReadAt(len, off)` and continues as an arbitrary function of the answer. -/

/-- the answer of `streamReaderAt.ReadAt` -/
inductive RAAns where
  | ok (b : Bytes)
  /-- `p < r.pos`: "attempted to seek backwards" -/
  | backwards
  /-- the skip (`io.CopyN` to `ioutil.Discard`) came up short: `0, err` -/
  | skipShort (t : Term)
  /-- `io.ReadFull` came up short: the bytes read and the error -/
  | short (got : Bytes) (t : Term)
  deriving Repr, DecidableEq

inductive RAClient (α : Type) where
  | done (a : α)
  | fail (e : String)
  | readAt (len off : Nat) (k : RAAns → RAClient α)

/-- a client run against the stream; `pos` = `streamReaderAt.pos` -/
def raProg {α} : RAClient α → Nat → Prog α
  | .done a, _ => .ret a
  | .fail e, _ => failE e
  | .readAt len off k, pos =>
    if off < pos then raProg (k .backwards) pos
    else
      .copy (some (off - pos)) schedDiscard fun skipped e =>
        match e with
        | .src t => raProg (k (.skipShort t)) (pos + skipped.length)
        | .limit =>
          .readFull len fun r =>
            match r with
            | .ok b => raProg (k (.ok b)) (off + len)
            | .short got t => raProg (k (.short got t)) (off + got.length)

/-! ## tar-framed uploads: `signxap.DigestXapTar`, `authenticode.DigestMsiTar`

  `archive/tar`'s Reader as these digesters use it, for archives of regular members with plain (ustar/v7) headers —
  what `zipslicer.ZipToTar` and `authenticode.MsiToTar` write for names below 100 bytes.  PAX / GNU extension records,
  sparse members, base-256 sizes and the header checksum are NOT modelled (`tarParse` trusts the block).
    `tr.Next()`  = `discard(tr.r, remaining)` (`io.CopyN(io.Discard, …)` for a reader without Seek) + `tryReadFull(pad)` +
                   `io.ReadFull(512)`; an all-zero block is followed by a second `io.ReadFull(512)`
    `tr.Read(b)` = the source's `Read` limited to the rest of the member (`regFileReader`), `io.ErrUnexpectedEOF` when
                   the source ends inside the member -/

structure TarHdr where
  name : Bytes
  size : Nat
  deriving Repr, DecidableEq

/-- value of an octal field: digits up to the first NUL or space (leading spaces skipped) -/
def octalVal : Bytes → Nat → Nat
  | [], acc => acc
  | c :: r, acc =>
    if 48 ≤ c.toNat ∧ c.toNat ≤ 55 then octalVal r (acc * 8 + (c.toNat - 48))
    else if c = 32 ∧ acc = 0 then octalVal r acc
    else acc

/-- a plain header block: name = bytes up to the first NUL of [0,100), size = octal at [124,136) -/
def tarParse (blk : Bytes) : TarHdr :=
  { name := (blk.take 100).takeWhile (· ≠ 0), size := octalVal ((blk.drop 124).take 12) 0 }

/-- `tr.curr` / `tr.pad`: bytes of the current member not yet read, padding behind it -/
structure TarSt where
  nb : Nat
  pad : Nat
  deriving Repr, DecidableEq

inductive TarNext where
  | hdr (h : TarHdr) (st : TarSt)
  /-- `io.EOF`: clean end of archive -/
  | eof
  deriving Repr, DecidableEq

/-- error class of the tar layer: a source that ends early is `io.ErrUnexpectedEOF` -/
def tarShort : Term → Fail
  | .eof => .err "tar:unexpected-eof"
  | .fail x => .err ("read:" ++ x)

inductive TarNextE where
  | hdr (h : TarHdr) (st : TarSt)
  /-- `io.EOF`: clean end of archive -/
  | eof
  /-- any other error of `tr.Next()`, by class -/
  | err (e : String)
  deriving Repr, DecidableEq

/-- class of a short read inside the tar layer -/
def tarShortS : Term → String
  | .eof => "tar:unexpected-eof"
  | .fail x => "read:" ++ x

/-- `tr.Next()` with its error as a value (`zipTarReader.Read` looks at it) -/
def tarNextE {α} (st : TarSt) (k : TarNextE → Prog α) : Prog α :=
  -- discard the rest of the member; `io.CopyN` reports io.EOF on a short skip, `discard` turns it into ErrUnexpectedEOF
  -- (a count of 0 reads nothing: `LimitedReader.N = 0`)
  .copy (some st.nb) schedDiscard fun _ e0 =>
  match e0 with
  | .src t => k (.err (tarShortS t))
  | .limit =>
  -- tryReadFull(tr.blk[:tr.pad]): io.EOF when the padding is cut short
  .readFull st.pad fun rp =>
    match rp with
    | .short _ .eof => k .eof
    | .short _ (.fail x) => k (.err ("read:" ++ x))
    | .ok _ =>
      .readFull 512 fun rb =>
        match rb with
        | .short [] .eof => k .eof
        | .short _ t => k (.err (tarShortS t))
        | .ok blk =>
          if blk.all (· = 0) then
            .readFull 512 fun rb2 =>
              match rb2 with
              | .short [] .eof => k .eof
              | .short _ t => k (.err (tarShortS t))
              | .ok blk2 => if blk2.all (· = 0) then k .eof else k (.err "tar:header")
          else
            let h := tarParse blk
            k (.hdr h ⟨h.size, (512 - h.size % 512) % 512⟩)

/-- `tr.Next()` where every error ends the digester -/
def tarNext {α} (st : TarSt) (k : TarNext → Prog α) : Prog α :=
  tarNextE st fun r =>
    match r with
    | .hdr h st' => k (.hdr h st')
    | .eof => k .eof
    | .err e => failE e

/-- `io.Copy(w, tr)` / `ioutil.ReadAll(tr)` / `io.CopyN(w, tr, n)` on the member reader: at most `lim` bytes (none =
    the whole rest of the member); returns the bytes and the state -/
def tarCopy {α} (st : TarSt) (lim : Option Nat) (sched : Sched) (k : Bytes → Bool → TarSt → Prog α) : Prog α :=
  let want := match lim with
    | some n => min n st.nb
    | none => st.nb
  .copy (some want) sched fun b e =>
    match e with
    | .limit => k b (match lim with | some n => decide (st.nb < n) | none => false) ⟨st.nb - b.length, st.pad⟩
    | .src .eof => .fail (.err "tar:unexpected-eof")
    | .src (.fail x) => failE ("read:" ++ x)

structure XapOut where
  patchStart : Int
  patchLen : Int
  deriving Repr, DecidableEq

def zipdirName : Bytes := "zipdir.bin".toUTF8.toList
def contentsName : Bytes := "contents.zip".toUTF8.toList

/-- `signxap.DigestXapTar`: fuel bounds the number of members looked at -/
def xapLoop (removeSig : Bytes → Bytes) : Nat → TarSt → Bytes → Prog XapOut
  | 0, _, _ => .fail .diverge
  | fuel + 1, st, cd =>
    tarNext st fun nx =>
      match nx with
      | .eof => failE "invalid-tarzip"
      | .hdr h st1 =>
        if h.name = zipdirName then
          -- cd, err = ioutil.ReadAll(tr)
          tarCopy st1 none schedReadAll fun b _ st2 => xapLoop removeSig fuel st2 b
        else if h.name = contentsName then
          let totalSize : Int := h.size
          let bodySize : Int := totalSize - cd.length
          -- io.CopyN(d, tr, bodySize): a count ≤ 0 copies nothing
          tarCopy st1 (some bodySize.toNat) schedCopy fun body short _ =>
          .emit hashSink body <|
          if short then failE "eof" else
          let cd' := removeSig cd
          .emit hashSink cd' <|
          .ret ⟨bodySize + cd'.length, totalSize - (bodySize + cd'.length)⟩
        else xapLoop removeSig fuel st1 cd

def digestXapTar (removeSig : Bytes → Bytes) (fuel : Nat) : Prog XapOut := xapLoop removeSig fuel ⟨0, 0⟩ []

/-- sink of the inner hash of `DigestMsiTar` (`d2`): what is written here is hashed and the digest goes to `d` at
    that point of the stream -/
def preSink : Nat := 3

/-- `authenticode.DigestMsiTar(r, hash, extended)`; `isSig` = the two signature stream names, `exmeta` = "__exmeta".
    The log keeps the order of the writes to `d` (sink 1) and of the pre-hashed blob (sink 3). -/
def msiLoop (extended : Bool) (isSig : Bytes → Bool) (exmeta : Bytes) : Nat → TarSt → Prog Unit
  | 0, _ => .fail .diverge
  | fuel + 1, st =>
    tarNext st fun nx =>
      match nx with
      | .eof => .ret ()
      | .hdr h st1 =>
        if h.name = exmeta then
          if !extended then msiLoop extended isSig exmeta fuel st1
          else
            tarCopy st1 none schedReadAll fun b _ st2 =>
            .emit preSink b <|
            -- `io.Copy(d, tr)` on the exhausted member: nothing
            msiLoop extended isSig exmeta fuel st2
        else if isSig h.name then msiLoop extended isSig exmeta fuel st1
        else
          tarCopy st1 none schedCopy fun b _ st2 =>
          .emit hashSink b <| msiLoop extended isSig exmeta fuel st2

def msiExmeta : Bytes := "__exmeta".toUTF8.toList
def msiIsSig (n : Bytes) : Bool :=
  n == 5 :: "DigitalSignature".toUTF8.toList || n == 5 :: "MsiDigitalSignatureEx".toUTF8.toList

def digestMsiTar (extended : Bool) (fuel : Nat) : Prog Unit :=
  msiLoop extended msiIsSig msiExmeta fuel ⟨0, 0⟩

/-! ## ZIP inside the tar framing: `zipslicer.ReadZipTar` = tar + `zipTarReader` + `streamReaderAt`  (JAR, APK, APPX, VSIX)

  `ReadZipTar` reads the member `zipdir.bin` (`ioutil.ReadAll(tr)`), advances to `contents.zip`, and hands
  `&streamReaderAt{r: &zipTarReader{tr}}` to the ZIP reader.  `zipTarReader.Read` is `tr.Read` (the source's `Read` limited
  to the member; io.EOF comes WITH the member's last byte) and, on that io.EOF, one `tr.Next()` to make sure nothing follows
  ("invalid tarzip").  `streamReaderAt.ReadAt(d, p)` is `io.CopyN(Discard, …, p-pos)` (pos is not advanced when the skip
  fails) then `io.ReadFull`.  `ZClient` is any consumer that sees the stream through these `ReadAt`s only; `ZAns` is what a
  `ReadAt` returns. -/

inductive ZAns where
  | ok (b : Bytes)
  /-- `p < r.pos` -/
  | backwards
  /-- the skip failed: `0, err` -/
  | skipErr (e : String)
  /-- `io.ReadFull` came up short: the bytes read and the error class -/
  | short (got : Bytes) (e : String)
  deriving Repr, DecidableEq

inductive ZClient (α : Type) where
  | done (a : α)
  | fail (e : String)
  | readAt (len off : Nat) (k : ZAns → ZClient α)

/-- `tr.curr.nb`, `tr.pad`, `z.tr == nil`, `streamReaderAt.pos` -/
structure ZSt where
  nb : Nat
  pad : Nat
  done : Bool
  pos : Nat
  deriving Repr, DecidableEq

/-- `zipTarReader.Read` saw io.EOF from the member: `tr.Next()` must report io.EOF -/
def zEnd {α} (st : ZSt) (k : String → Prog α) : Prog α :=
  tarNextE ⟨0, st.pad⟩ fun r =>
    match r with
    | .eof => k "eof"
    | .hdr _ _ => k "invalid-tarzip"
    | .err e => k e

/-- `io.CopyN(ioutil.Discard, r.r, n)` over `zipTarReader`; `none` = success -/
def zSkip {α} (n : Nat) (st : ZSt) (k : Option String → ZSt → Prog α) : Prog α :=
  if n = 0 then k none st
  else if st.done then k (some "eof") st
  else if st.nb = 0 then zEnd st fun e => k (some e) { st with done := true }
  else
    .copy (some (min n st.nb)) schedDiscard fun b e =>
      match e with
      | .src t => k (some (tarShortS t)) { st with nb := st.nb - b.length }
      | .limit =>
        if b.length < st.nb then k none { st with nb := st.nb - b.length, pos := st.pos + n }
        else
          -- the member's last byte came with io.EOF: `tr.Next()` runs now; `io.CopyN` drops the error when it has its count
          zEnd st fun e =>
            if n ≤ st.nb then k none { st with nb := 0, done := true, pos := st.pos + n }
            else k (some e) { st with nb := 0, done := true }

/-- `io.ReadFull(r.r, d)` over `zipTarReader`, `len(d) = len` -/
def zRead {α} (len : Nat) (st : ZSt) (k : ZAns → ZSt → Prog α) : Prog α :=
  if len = 0 then k (.ok []) st
  else if st.done then k (.short [] "eof") st
  else if st.nb = 0 then zEnd st fun e => k (.short [] e) { st with done := true }
  else
    .readFull (min len st.nb) fun r =>
      match r with
      | .short got t => k (.short got (tarShortS t)) { st with nb := st.nb - got.length, pos := st.pos + got.length }
      | .ok b =>
        if b.length < st.nb then k (.ok b) { st with nb := st.nb - b.length, pos := st.pos + b.length }
        else
          zEnd st fun e =>
            if len ≤ st.nb then k (.ok b) { st with nb := 0, done := true, pos := st.pos + b.length }
            else k (.short b (if e = "eof" then "tar:unexpected-eof" else e)) { st with nb := 0, done := true, pos := st.pos + b.length }

/-- a ZIP consumer run against the tar-framed stream -/
def zipTarClient {α} : ZClient α → ZSt → Prog α
  | .done a, _ => .ret a
  | .fail e, _ => failE e
  | .readAt len off k, st =>
    if off < st.pos then zipTarClient (k .backwards) st
    else
      zSkip (off - st.pos) st fun se st1 =>
        match se with
        | some e => zipTarClient (k (.skipErr e)) st1
        | none => zRead len st1 fun ans st2 => zipTarClient (k ans) st2

/-- `zipslicer.ReadZipTar(r)` followed by a consumer that gets the directory blob and the size of the zip -/
def readZipTar {α} (mk : Bytes → Nat → ZClient α) : Prog α :=
  tarNextE ⟨0, 0⟩ fun r1 =>
    match r1 with
    | .eof => failE "eof"
    | .err e => failE e
    | .hdr h1 st1 =>
      if h1.name ≠ zipdirName then failE "invalid-tarzip" else
      tarCopy st1 none schedReadAll fun cd _ st2 =>
      tarNextE st2 fun r2 =>
        match r2 with
        | .eof => failE "eof"
        | .err e => failE e
        | .hdr h2 st3 =>
          if h2.name ≠ contentsName then failE "invalid-tarzip" else
          zipTarClient (mk cd h2.size) ⟨st3.nb, st3.pad, false, 0⟩

/-! ## Mach-O / DMG code pages: `csblob.hashPages` (4096-byte pages with `io.ReadFull`, a short last page) -/

/-- the page loop of `hashPages(hashFuncs, pages, false)`: `n, err = io.ReadFull(pages, buf)`; `n <= 0` ends it (an error
    other than io.EOF is returned); a short page is hashed and the loop goes on.  Returns the pages and `codeLimit`. -/
def hashPagesLoop (pageSize : Nat) : Nat → List Bytes → Nat → Prog (List Bytes × Nat)
  | 0, _, _ => .fail .diverge
  | fuel + 1, acc, limit =>
    .readFull pageSize fun r =>
      match r with
      | .ok b => hashPagesLoop pageSize fuel (acc ++ [b]) (limit + b.length)
      | .short [] .eof => .ret (acc, limit)
      | .short [] (.fail x) => failE ("read:" ++ x)
      | .short got _ => hashPagesLoop pageSize fuel (acc ++ [got]) (limit + got.length)

def hashPages (pageSize fuel : Nat) : Prog (List Bytes × Nat) := hashPagesLoop pageSize fuel [] 0

/-! ## Debian packages: `signdeb.Sign` over `blakesmith/ar` and `readercounter` -/

structure DebOut where
  /-- per hashed member: (name field, size, content) -/
  files : List (Bytes × Nat × Bytes)
  patchOffset : Int
  patchLength : Nat
  /-- `counter.N` at the end -/
  consumed : Nat
  deriving Repr, DecidableEq

/-- `ar.Reader`: `rd.nb`, `rd.pad`; `n` = `counter.N` -/
structure ArSt where
  nb : Nat
  pad : Nat
  n : Nat
  deriving Repr, DecidableEq

/-- `numeric`: decimal digits of a space-padded field (`strconv.ParseInt`, 0 on failure) -/
def decVal : Bytes → Option Nat → Nat
  | [], acc => acc.getD 0
  | c :: r, acc =>
    if 48 ≤ c.toNat ∧ c.toNat ≤ 57 then decVal r (some (acc.getD 0 * 10 + (c.toNat - 48)))
    else if c = 32 ∧ r.all (· = 32) then acc.getD 0
    else 0

/-- `rd.string(b)`: trailing spaces removed (the first byte is always kept) -/
def arName (b : Bytes) : Bytes :=
  match b with
  | [] => []
  | c :: r => c :: (r.reverse.dropWhile (· = 32)).reverse

/-- the end of the loop: `if patchOffset == 0 { patchOffset = counter.N }` -/
def debDone (out : DebOut) (n : Nat) : DebOut :=
  { out with consumed := n, patchOffset := if out.patchOffset = 0 then (n : Int) else out.patchOffset }

/-- the member loop of `signdeb.Sign`; `clean` = `path.Clean`, `role` = "_gpg" ++ role.  fuel bounds the members. -/
def debLoop (clean : Bytes → Bytes) (role : Bytes) : Nat → ArSt → DebOut → Prog DebOut
  | 0, _, _ => .fail .diverge
  | fuel + 1, st, out =>
    -- reader.Next(): skipUnread = io.CopyN(ioutil.Discard, rd.r, nb+pad), then io.ReadFull(60)
    .copy (some (st.nb + st.pad)) schedDiscard fun sk e =>
      match e with
      | .src .eof => .ret (debDone out (st.n + sk.length))        -- `err == io.EOF { break }`
      | .src (.fail x) => failE ("read:" ++ x)
      | .limit =>
        .readFull 60 fun rh =>
          match rh with
          | .short [] .eof => .ret (debDone out (st.n + sk.length))
          | .short _ .eof => failE "eof"
          | .short _ (.fail x) => failE ("read:" ++ x)
          | .ok hb =>
            let nameField := arName (hb.take 16)
            let size := decVal ((hb.drop 48).take 10) none
            let pos := st.n + sk.length + 60
            let st1 : ArSt := ⟨size, size % 2, pos⟩
            let name := clean nameField
            let out1 := if name = role then
                { out with patchOffset := (pos : Int) - 60, patchLength := 60 + ((size + 1) / 2) * 2 } else out
            if name.take 4 = "_gpg".toUTF8.toList then debLoop clean role fuel st1 out1
            else
              -- io.Copy(io.MultiWriter(md5, sha1, save), reader): ar's Read is the source's Read limited to rd.nb;
              -- a source that ends inside the member ends the copy without error
              .copy (some size) schedCopy fun b e2 =>
                match e2 with
                | .src (.fail x) => failE ("read:" ++ x)
                | _ =>
                  .emit hashSink b <|
                  debLoop clean role fuel ⟨size - b.length, size % 2, pos + b.length⟩
                    { out1 with files := out1.files ++ [(nameField, size, b)] }

/-- `ar.NewReader` discards the 8-byte global header, ignoring a short read -/
def digestDeb (clean : Bytes → Bytes) (role : Bytes) (fuel : Nat) : Prog DebOut :=
  .copy (some 8) schedDiscard fun g _ => debLoop clean role fuel ⟨0, 0, g.length⟩ ⟨[], 0, 0, 0⟩

end Relic.Rd
