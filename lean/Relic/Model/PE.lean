/-
  Relic.Model.PE — executable model of /repo/lib/authenticode/pedigest.go (DigestPE and its
  readers), pesign.go (MakePatch) and the certificate-table walk of peverify.go.
  The image hash is modelled by the *byte stream fed to it* (DESIGN.md section 2).
  The panic sites (`readOptHeader`'s `buf[:2]`, `align32`'s division) are those of the code before their repair in /repo
  (Props/C11_PE.lean says which inputs reach them).
-/
import Relic.Base.Bytes
import Relic.Model.Binpatch
namespace Relic.PE
open Relic

/-- `f[a:b]` clipped to the file (callers check bounds first) -/
def seg (f : Bytes) (a b : Nat) : Bytes := (f.drop a).take (b - a)

def u16 (f : Bytes) (off : Nat) : Nat := leVal (seg f off (off + 2))
def u32 (f : Bytes) (off : Nat) : Nat := leVal (seg f off (off + 4))

structure Markers where
  peStart : Nat      -- value found at 0x3c
  hdrOff : Nat       -- file offset at which the COFF header was actually read (= peStart when peStart ≥ 64)
  soh : Nat          -- SizeOfOptionalHeader
  dd4Start : Nat     -- 128 (PE32) or 144 (PE32+)
  posDDCert : Nat    -- peStart + 24 + dd4Start : where MakePatch writes the data directory
  secTblStart : Nat
  sizeOfHdr : Nat    -- after the fix-ups of readSections
  pageSize : Nat
  fileAlign : Nat
  certStart : Nat
  certSize : Nat
  nsec : Nat
  deriving Repr, DecidableEq

structure Section where
  ptr : Nat
  size : Nat         -- SizeOfRawData after the alignment fix-up
  deriving Repr, DecidableEq

/-- `align32` on uint32 (wraps), `none` = integer divide by zero -/
def align32 (addr align : Nat) : Option Nat :=
  if align = 0 then none
  else if addr % align = 0 then some addr
  else some ((addr + (align - addr % align)) % 2 ^ 32)

/-- raw section table entries (SizeOfRawData, PointerToRawData) read at `tbl` -/
def rawSections (f : Bytes) (tbl : Nat) : Nat → List Section
  | 0 => []
  | n + 1 => ⟨u32 f (tbl + 20), u32 f (tbl + 16)⟩ :: rawSections f (tbl + 40) n

/-- the loop of `readSections`: overlap check, SizeOfHeaders fix-up, alignment of all but the last -/
def fixSections (secTblEnd fileAlign : Nat) : List Section → Nat → Res (List Section × Nat)
  | [], soh => .ok ([], soh)
  | s :: rest, soh =>
    if s.size = 0 then
      match fixSections secTblEnd fileAlign rest soh with
      | .ok (ss, soh') => .ok (s :: ss, soh')
      | .err e => .err e
      | .panic p => .panic p
      | .diverge => .diverge
    else if s.ptr < secTblEnd then .err "secoverlap"
    else
      let soh1 := if s.ptr < soh then s.ptr else soh
      if rest.isEmpty then .ok ([s], soh1)
      else
        match align32 s.size fileAlign with
        | none => .panic "align32:divide-by-zero"
        | some sz =>
          match fixSections secTblEnd fileAlign rest soh1 with
          | .ok (ss, soh') => .ok (⟨s.ptr, sz⟩ :: ss, soh')
          | .err e => .err e
          | .panic p => .panic p
          | .diverge => .diverge

structure Headers where
  m : Markers
  sections : List Section
  /-- the bytes handed to the digester while reading the headers -/
  hashed : Bytes
  /-- physical read position after the headers -/
  cur : Nat
  deriving Repr, DecidableEq

/-- `readDosHeader` … `readSections` -/
def readHeaders (f : Bytes) : Res Headers :=
  if f.length < 64 then .err "eof" else
  if seg f 0 2 ≠ [0x4d, 0x5a] then .err "notpe" else
  let peStart := u32 f 0x3c
  -- io.CopyN(buf, r, peStart-64): a negative count copies nothing and reports no error
  let c0 := if 64 ≤ peStart then peStart else 64
  if f.length < c0 then .err "eof" else
  if f.length < c0 + 4 then .err "eof" else
  if seg f c0 (c0 + 4) ≠ [0x50, 0x45, 0, 0] then .err "notpe" else
  if f.length < c0 + 24 then .err "eof" else
  let machine := u16 f (c0 + 4)
  let nsec := u16 f (c0 + 6)
  let soh := u16 f (c0 + 20)
  let pageSize := if machine = 0x200 ∨ machine = 0x184 ∨ machine = 0x284 then 8192 else 4096
  let c1 := c0 + 24
  if f.length < c1 + soh then .err "eof" else
  if soh < 2 then .panic "readOptHeader:buf[:2]" else
  let magic := u16 f c1
  let variant : Option (Nat × Nat × Nat) :=   -- (struct size, offset of NumberOfRvaAndSizes, dd4Start)
    if magic = 0x10b then some (224, 92, 128) else if magic = 0x20b then some (240, 108, 144) else none
  match variant with
  | none => .err "optmagic"
  | some (need, nrvaOff, dd4Start) =>
    if soh < need then .err "eof" else
    if u32 f (c1 + nrvaOff) < 5 then .err "noroom" else
    let certStart := u32 f (c1 + dd4Start)
    let certSize := u32 f (c1 + dd4Start + 4)
    let sizeOfHdr0 := u32 f (c1 + 60)
    let fileAlign := u32 f (c1 + 36)
    let secTblStart := peStart + 24 + soh
    let c2 := c1 + soh
    let secTblEnd := secTblStart + nsec * 40
    if sizeOfHdr0 < secTblEnd then .err "secoverlap" else
    if f.length < c2 + nsec * 40 then .err "eof" else
    match fixSections secTblEnd fileAlign (rawSections f c2 nsec) sizeOfHdr0 with
    | .err e => .err e
    | .panic p => .panic p
    | .diverge => .diverge
    | .ok (sections, sizeOfHdr) =>
      let c3 := c2 + nsec * 40
      let c4 := c3 + (sizeOfHdr - secTblEnd)
      if f.length < c4 then .err "eof" else
      .ok { m := { peStart, hdrOff := c0, soh, dd4Start, posDDCert := peStart + 24 + dd4Start, secTblStart,
                   sizeOfHdr, pageSize, fileAlign, certStart, certSize, nsec },
            sections,
            hashed := seg f 0 (c1 + 64) ++ seg f (c1 + 68) (c1 + dd4Start) ++ seg f (c1 + dd4Start + 8) c4,
            cur := c4 }

/-- the section loop of `DigestPE`: `next` is the logical offset the code tracks, `cur` the physical
    read position.  Returns the physical end, the logical end and the section extents read. -/
def readSectionData (flen : Nat) : List Section → Nat → Nat → Nat → Res (Nat × Nat × List (Nat × Nat × Nat))
  | [], _, cur, next => .ok (cur, next, [])
  | s :: rest, i, cur, next =>
    if s.size = 0 then readSectionData flen rest (i + 1) cur next
    else if s.ptr ≠ next then .err "secorder"
    else if flen < cur + s.size then .err "eof"
    else
      match readSectionData flen rest (i + 1) (cur + s.size) (next + s.size) with
      | .ok (c, n, ex) => .ok (c, n, (s.ptr, cur, s.size) :: ex)
      | e => e

structure Digest where
  hashed : Bytes       -- stream fed to the image hash, including the final zero padding
  origSize : Nat
  certStart : Nat      -- origSize rounded up to 8
  m : Markers
  /-- (logical pointer, physical offset, size) of each section hashed: input of the page hashes -/
  extents : List (Nat × Nat × Nat)
  hdrLen : Nat         -- length of the buffered (hashed) header
  deriving Repr, DecidableEq

/-- bytes between the headers and the first section, hashed only when the *first* section header
    points past `SizeOfHeaders` -/
def gapOf (sections : List Section) (sizeOfHdr : Nat) : Nat :=
  match sections with
  | s :: _ => if sizeOfHdr < s.ptr then s.ptr - sizeOfHdr else 0
  | [] => 0

def DigestPE (f : Bytes) : Res Digest :=
  match readHeaders f with
  | .err e => .err e
  | .panic p => .panic p
  | .diverge => .diverge
  | .ok h =>
    -- gap between header and first section
    let gap := gapOf h.sections h.m.sizeOfHdr
    if f.length < h.cur + gap then .err "eof" else
    let cur1 := h.cur + gap
    let next1 := if gap = 0 then h.m.sizeOfHdr else h.m.sizeOfHdr + gap
    match readSectionData f.length h.sections 0 cur1 next1 with
    | .err e => .err e
    | .panic p => .panic p
    | .diverge => .diverge
    | .ok (cur2, next2, extents) =>
      -- readTrailer
      let finish (origSize cur3 : Nat) : Res Digest :=
        let pad := if origSize % 8 = 0 then 0 else 8 - origSize % 8
        .ok { hashed := h.hashed ++ seg f h.cur cur3 ++ List.replicate pad 0,
              origSize, certStart := origSize + pad, m := h.m, extents, hdrLen := h.hashed.length }
      if h.m.certSize = 0 then
        finish (next2 + (f.length - cur2)) f.length
      else if h.m.certStart < next2 then .err "sigoverlap"
      else if f.length < cur2 + (h.m.certStart - next2) then .err "eof"
      else
        let cur3 := cur2 + (h.m.certStart - next2)
        if f.length < cur3 + h.m.certSize then .err "eof"
        else if cur3 + h.m.certSize < f.length then .err "trailing"
        else finish h.m.certStart cur3

/-! ### page hashes (`imageHasher`) -/

/-- split a section extent into page-sized chunks: (offset label, physical offset, length) -/
def pageChunks (pageSize : Nat) (pos phys remaining : Nat) : List (Nat × Nat × Nat) :=
  if _h : 0 < pageSize ∧ 0 < remaining then
    let n := if remaining > pageSize then pageSize else remaining
    (pos % 2 ^ 32, phys, n) :: pageChunks pageSize (pos + n) (phys + n) (remaining - n)
  else []
termination_by remaining
decreasing_by
  have h1 := _h.1
  have h2 := _h.2
  split <;> omega

/-- the page-hash table as a list of (offset, bytes hashed); the last entry has no bytes
    (null digest).  `none` = the slice `zeroPage[:needzero]` panics (header larger than a page). -/
def pageHashInputs (f : Bytes) (d : Digest) : Option (List (Nat × Bytes)) :=
  let removed : Int := (d.m.sizeOfHdr : Int) - d.hdrLen
  let needzero : Int := (d.m.pageSize : Int) - d.hdrLen - removed
  if needzero < 0 ∨ (d.m.pageSize : Int) < needzero then none else
  let hdr := (0, d.hashed.take d.hdrLen ++ List.replicate needzero.toNat 0)
  let chunks := d.extents.flatMap fun (ptr, phys, size) => pageChunks d.m.pageSize ptr phys size
  let pages := chunks.map fun (pos, phys, n) => (pos, seg f phys (phys + n) ++ List.replicate (d.m.pageSize - n) 0)
  let last := match chunks.getLast? with
    | some (pos, _, n) => (pos + n) % 2 ^ 32
    | none => 0
  some (hdr :: pages ++ [(last, [])])

/-! ### `PEDigest.MakePatch` -/

def ceil8 (n : Nat) : Nat := (n + 7) / 8 * 8

/-- the new certificate table blob (without the leading alignment padding) -/
def certTable (sig : Bytes) : Bytes :=
  leBytes 4 (8 + ceil8 sig.length) ++ leBytes 2 0x0200 ++ leBytes 2 0x0002 ++ sig ++
    List.replicate (ceil8 sig.length - sig.length) 0

def makePatch (d : Digest) (sig : Bytes) : Res (List Binpatch.Patch) :=
  if 2 ^ 32 ≤ d.certStart then .err "toobig" else
  let pad2 := d.certStart - d.origSize
  let tbl := List.replicate pad2 0 ++ certTable sig
  let dd := leBytes 4 d.certStart ++ leBytes 4 ((tbl.length - pad2) % 2 ^ 32)
  .ok [⟨d.m.posDDCert, 8, dd⟩, ⟨d.origSize, d.m.certSize, tbl⟩]

/-! ### the verifier's locator: `findSignatures` + the certificate table walk of `checkSignatures` -/

/-- `findSignatures`: unlike `DigestPE` it *seeks* to peStart -/
def findSignatures (f : Bytes) : Res (Nat × Nat) :=
  if f.length < 64 then .err "eof" else
  if seg f 0 2 ≠ [0x4d, 0x5a] then .err "notpe" else
  let c0 := u32 f 0x3c
  if f.length < c0 + 4 then .err "eof" else
  if seg f c0 (c0 + 4) ≠ [0x50, 0x45, 0, 0] then .err "notpe" else
  if f.length < c0 + 24 then .err "eof" else
  let soh := u16 f (c0 + 20)
  let c1 := c0 + 24
  if f.length < c1 + soh then .err "eof" else
  if soh < 2 then .panic "readOptHeader:buf[:2]" else
  let magic := u16 f c1
  let variant : Option (Nat × Nat × Nat) :=
    if magic = 0x10b then some (224, 92, 128) else if magic = 0x20b then some (240, 108, 144) else none
  match variant with
  | none => .err "optmagic"
  | some (need, nrvaOff, dd4Start) =>
    if soh < need then .err "eof" else
    if u32 f (c1 + nrvaOff) < 5 then .err "noroom" else
    .ok (u32 f (c1 + dd4Start), u32 f (c1 + dd4Start + 4))

/-- walk the WIN_CERTIFICATE entries of the table blob; fuel = blob length (each step consumes ≥ 8) -/
def walkCerts : Nat → Bytes → Res (List Bytes)
  | 0, blob => if blob.isEmpty then .ok [] else .err "certtable"
  | fuel + 1, blob =>
    if blob.isEmpty then .ok [] else
    if blob.length < 4 then .err "certtable" else
    let wLen := leVal (blob.take 4)
    let stop := ceil8 wLen
    if blob.length < stop ∨ wLen < 8 then .err "certtable" else
    match walkCerts fuel (blob.drop stop) with
    | .ok cs => .ok ((blob.drop 8).take (wLen - 8) :: cs)
    | e => e

/-- `VerifyPE` up to the PKCS#7 layer: the signature blobs found, or "notsigned" -/
def locate (f : Bytes) : Res (List Bytes) :=
  match findSignatures f with
  | .err e => .err e
  | .panic p => .panic p
  | .diverge => .diverge
  | .ok (certStart, certSize) =>
    if certSize = 0 then .err "notsigned" else
    if f.length < certStart + certSize then .err "eof" else
    walkCerts certSize (seg f certStart (certStart + certSize))

end Relic.PE
