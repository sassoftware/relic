/-
  Relic.Model.XmlSig — model of /repo/lib/xmldsig/sign.go (`Sign`, `buildSignedInfo`, `finishSignature`, `RemoveElements`,
  `hashAlgs`) and /repo/lib/xmldsig/verify.go (`Verify`, `parseAlgs`, the part of `encoding/xml.Unmarshal` that fills the
  `signature` struct of structs.go), on the element trees of `Relic.Model.Xml`.

  Cryptography is a parameter (`Scheme`): the model produces the canonical byte *streams* that are hashed and asks the
  scheme for the texts that end up in the document (`dtext` = base64 of the digest, `sigtext` = base64 of the signature)
  and for the verifier's decisions (`digestOk`, `sigOk`).  The native driver instantiates the scheme symbolically
  (Dolev–Yao style: the "digest" of a stream is the stream itself between markers), the harness masks the real values
  the same way, so model and implementation print comparable lines without any hash being run in Lean.

  `xml.Unmarshal` fills struct fields from *every* matching element: a string field keeps the last occurrence, a slice
  accumulates, a struct field keeps the last attribute value seen (`decodeSig` below), whereas `Verify` hashes the
  one `SignedInfo` child (`SelectElements`; any other number is refused).  The model follows the code.

  Core Lean only (linked into the native driver).
-/
import Relic.Model.Xml
namespace Relic.XmlSig
open Relic Relic.Xml

/-- "Signature" -/
def sSignature : Bytes := [0x53, 0x69, 0x67, 0x6e, 0x61, 0x74, 0x75, 0x72, 0x65]
/-- "SignedInfo" -/
def sSignedInfo : Bytes := [0x53, 0x69, 0x67, 0x6e, 0x65, 0x64, 0x49, 0x6e, 0x66, 0x6f]
/-- "CanonicalizationMethod" -/
def sCanonMethod : Bytes := [0x43, 0x61, 0x6e, 0x6f, 0x6e, 0x69, 0x63, 0x61, 0x6c, 0x69, 0x7a, 0x61, 0x74, 0x69, 0x6f, 0x6e, 0x4d, 0x65, 0x74, 0x68, 0x6f, 0x64]
/-- "SignatureMethod" -/
def sSignatureMethod : Bytes := [0x53, 0x69, 0x67, 0x6e, 0x61, 0x74, 0x75, 0x72, 0x65, 0x4d, 0x65, 0x74, 0x68, 0x6f, 0x64]
/-- "Reference" -/
def sReference : Bytes := [0x52, 0x65, 0x66, 0x65, 0x72, 0x65, 0x6e, 0x63, 0x65]
/-- "Transforms" -/
def sTransforms : Bytes := [0x54, 0x72, 0x61, 0x6e, 0x73, 0x66, 0x6f, 0x72, 0x6d, 0x73]
/-- "Transform" -/
def sTransform : Bytes := [0x54, 0x72, 0x61, 0x6e, 0x73, 0x66, 0x6f, 0x72, 0x6d]
/-- "DigestMethod" -/
def sDigestMethod : Bytes := [0x44, 0x69, 0x67, 0x65, 0x73, 0x74, 0x4d, 0x65, 0x74, 0x68, 0x6f, 0x64]
/-- "DigestValue" -/
def sDigestValue : Bytes := [0x44, 0x69, 0x67, 0x65, 0x73, 0x74, 0x56, 0x61, 0x6c, 0x75, 0x65]
/-- "SignatureValue" -/
def sSignatureValue : Bytes := [0x53, 0x69, 0x67, 0x6e, 0x61, 0x74, 0x75, 0x72, 0x65, 0x56, 0x61, 0x6c, 0x75, 0x65]
/-- "KeyInfo" -/
def sKeyInfo : Bytes := [0x4b, 0x65, 0x79, 0x49, 0x6e, 0x66, 0x6f]
/-- "KeyValue" -/
def sKeyValue : Bytes := [0x4b, 0x65, 0x79, 0x56, 0x61, 0x6c, 0x75, 0x65]
/-- "RSAKeyValue" -/
def sRSAKeyValue : Bytes := [0x52, 0x53, 0x41, 0x4b, 0x65, 0x79, 0x56, 0x61, 0x6c, 0x75, 0x65]
/-- "Modulus" -/
def sModulus : Bytes := [0x4d, 0x6f, 0x64, 0x75, 0x6c, 0x75, 0x73]
/-- "Exponent" -/
def sExponent : Bytes := [0x45, 0x78, 0x70, 0x6f, 0x6e, 0x65, 0x6e, 0x74]
/-- "X509Data" -/
def sX509Data : Bytes := [0x58, 0x35, 0x30, 0x39, 0x44, 0x61, 0x74, 0x61]
/-- "X509Certificate" -/
def sX509Certificate : Bytes := [0x58, 0x35, 0x30, 0x39, 0x43, 0x65, 0x72, 0x74, 0x69, 0x66, 0x69, 0x63, 0x61, 0x74, 0x65]
/-- "ECDSAKeyValue" -/
def sECDSAKeyValue : Bytes := [0x45, 0x43, 0x44, 0x53, 0x41, 0x4b, 0x65, 0x79, 0x56, 0x61, 0x6c, 0x75, 0x65]
/-- "DomainParameters" -/
def sDomainParameters : Bytes := [0x44, 0x6f, 0x6d, 0x61, 0x69, 0x6e, 0x50, 0x61, 0x72, 0x61, 0x6d, 0x65, 0x74, 0x65, 0x72, 0x73]
/-- "NamedCurve" -/
def sNamedCurve : Bytes := [0x4e, 0x61, 0x6d, 0x65, 0x64, 0x43, 0x75, 0x72, 0x76, 0x65]
/-- "PublicKey" -/
def sPublicKey : Bytes := [0x50, 0x75, 0x62, 0x6c, 0x69, 0x63, 0x4b, 0x65, 0x79]
/-- "X" -/
def sX : Bytes := [0x58]
/-- "Y" -/
def sY : Bytes := [0x59]
/-- "Value" -/
def sValue : Bytes := [0x56, 0x61, 0x6c, 0x75, 0x65]
/-- "URN" -/
def sURN : Bytes := [0x55, 0x52, 0x4e]
/-- "Algorithm" -/
def sAlgorithm : Bytes := [0x41, 0x6c, 0x67, 0x6f, 0x72, 0x69, 0x74, 0x68, 0x6d]
/-- "URI" -/
def sURI : Bytes := [0x55, 0x52, 0x49]
/-- "Type" -/
def sType : Bytes := [0x54, 0x79, 0x70, 0x65]
/-- "Id" -/
def sId : Bytes := [0x49, 0x64]
/-- "xsi" -/
def sXsi : Bytes := [0x78, 0x73, 0x69]
/-- "type" -/
def sTypeLc : Bytes := [0x74, 0x79, 0x70, 0x65]
/-- "PrimeFieldElemType" -/
def sPrimeField : Bytes := [0x50, 0x72, 0x69, 0x6d, 0x65, 0x46, 0x69, 0x65, 0x6c, 0x64, 0x45, 0x6c, 0x65, 0x6d, 0x54, 0x79, 0x70, 0x65]
/-- "http://www.w3.org/2000/09/xmldsig#" -/
def nsXMLDsig : Bytes := [0x68, 0x74, 0x74, 0x70, 0x3a, 0x2f, 0x2f, 0x77, 0x77, 0x77, 0x2e, 0x77, 0x33, 0x2e, 0x6f, 0x72, 0x67, 0x2f, 0x32, 0x30, 0x30, 0x30, 0x2f, 0x30, 0x39, 0x2f, 0x78, 0x6d, 0x6c, 0x64, 0x73, 0x69, 0x67, 0x23]
/-- "http://www.w3.org/2001/04/xmldsig-more#" -/
def nsXMLDsigMore : Bytes := [0x68, 0x74, 0x74, 0x70, 0x3a, 0x2f, 0x2f, 0x77, 0x77, 0x77, 0x2e, 0x77, 0x33, 0x2e, 0x6f, 0x72, 0x67, 0x2f, 0x32, 0x30, 0x30, 0x31, 0x2f, 0x30, 0x34, 0x2f, 0x78, 0x6d, 0x6c, 0x64, 0x73, 0x69, 0x67, 0x2d, 0x6d, 0x6f, 0x72, 0x65, 0x23]
/-- "http://www.w3.org/2001/04/xmlenc#" -/
def nsXMLEnc : Bytes := [0x68, 0x74, 0x74, 0x70, 0x3a, 0x2f, 0x2f, 0x77, 0x77, 0x77, 0x2e, 0x77, 0x33, 0x2e, 0x6f, 0x72, 0x67, 0x2f, 0x32, 0x30, 0x30, 0x31, 0x2f, 0x30, 0x34, 0x2f, 0x78, 0x6d, 0x6c, 0x65, 0x6e, 0x63, 0x23]
/-- "http://www.w3.org/2001/XMLSchema-instance" -/
def nsXsi : Bytes := [0x68, 0x74, 0x74, 0x70, 0x3a, 0x2f, 0x2f, 0x77, 0x77, 0x77, 0x2e, 0x77, 0x33, 0x2e, 0x6f, 0x72, 0x67, 0x2f, 0x32, 0x30, 0x30, 0x31, 0x2f, 0x58, 0x4d, 0x4c, 0x53, 0x63, 0x68, 0x65, 0x6d, 0x61, 0x2d, 0x69, 0x6e, 0x73, 0x74, 0x61, 0x6e, 0x63, 0x65]
/-- "http://www.w3.org/2001/10/xml-exc-c14n#" -/
def algExcC14n : Bytes := [0x68, 0x74, 0x74, 0x70, 0x3a, 0x2f, 0x2f, 0x77, 0x77, 0x77, 0x2e, 0x77, 0x33, 0x2e, 0x6f, 0x72, 0x67, 0x2f, 0x32, 0x30, 0x30, 0x31, 0x2f, 0x31, 0x30, 0x2f, 0x78, 0x6d, 0x6c, 0x2d, 0x65, 0x78, 0x63, 0x2d, 0x63, 0x31, 0x34, 0x6e, 0x23]
/-- "http://www.w3.org/TR/2001/REC-xml-c14n-20010315" -/
def algExcC14nRec : Bytes := [0x68, 0x74, 0x74, 0x70, 0x3a, 0x2f, 0x2f, 0x77, 0x77, 0x77, 0x2e, 0x77, 0x33, 0x2e, 0x6f, 0x72, 0x67, 0x2f, 0x54, 0x52, 0x2f, 0x32, 0x30, 0x30, 0x31, 0x2f, 0x52, 0x45, 0x43, 0x2d, 0x78, 0x6d, 0x6c, 0x2d, 0x63, 0x31, 0x34, 0x6e, 0x2d, 0x32, 0x30, 0x30, 0x31, 0x30, 0x33, 0x31, 0x35]
/-- "http://www.w3.org/2000/09/xmldsig#enveloped-signature" -/
def algEnveloped : Bytes := [0x68, 0x74, 0x74, 0x70, 0x3a, 0x2f, 0x2f, 0x77, 0x77, 0x77, 0x2e, 0x77, 0x33, 0x2e, 0x6f, 0x72, 0x67, 0x2f, 0x32, 0x30, 0x30, 0x30, 0x2f, 0x30, 0x39, 0x2f, 0x78, 0x6d, 0x6c, 0x64, 0x73, 0x69, 0x67, 0x23, 0x65, 0x6e, 0x76, 0x65, 0x6c, 0x6f, 0x70, 0x65, 0x64, 0x2d, 0x73, 0x69, 0x67, 0x6e, 0x61, 0x74, 0x75, 0x72, 0x65]
/-- "sha1" -/
def sSha1 : Bytes := [0x73, 0x68, 0x61, 0x31]
/-- "sha224" -/
def sSha224 : Bytes := [0x73, 0x68, 0x61, 0x32, 0x32, 0x34]
/-- "sha256" -/
def sSha256 : Bytes := [0x73, 0x68, 0x61, 0x32, 0x35, 0x36]
/-- "sha384" -/
def sSha384 : Bytes := [0x73, 0x68, 0x61, 0x33, 0x38, 0x34]
/-- "sha512" -/
def sSha512 : Bytes := [0x73, 0x68, 0x61, 0x35, 0x31, 0x32]
/-- "rsa" -/
def sRsa : Bytes := [0x72, 0x73, 0x61]
/-- "ecdsa" -/
def sEcdsa : Bytes := [0x65, 0x63, 0x64, 0x73, 0x61]
/-- "Object" -/
def sObject : Bytes := [0x4f, 0x62, 0x6a, 0x65, 0x63, 0x74]
/-- "assemblyIdentity" -/
def sAssemblyIdentity : Bytes := [0x61, 0x73, 0x73, 0x65, 0x6d, 0x62, 0x6c, 0x79, 0x49, 0x64, 0x65, 0x6e, 0x74, 0x69, 0x74, 0x79]
/-- "publisherIdentity" -/
def sPublisherIdentity : Bytes := [0x70, 0x75, 0x62, 0x6c, 0x69, 0x73, 0x68, 0x65, 0x72, 0x49, 0x64, 0x65, 0x6e, 0x74, 0x69, 0x74, 0x79]
/-- "publicKeyToken" -/
def sPublicKeyToken : Bytes := [0x70, 0x75, 0x62, 0x6c, 0x69, 0x63, 0x4b, 0x65, 0x79, 0x54, 0x6f, 0x6b, 0x65, 0x6e]
/-- "name" -/
def sName : Bytes := [0x6e, 0x61, 0x6d, 0x65]
/-- "issuerKeyHash" -/
def sIssuerKeyHash : Bytes := [0x69, 0x73, 0x73, 0x75, 0x65, 0x72, 0x4b, 0x65, 0x79, 0x48, 0x61, 0x73, 0x68]
/-- "license" -/
def sLicense : Bytes := [0x6c, 0x69, 0x63, 0x65, 0x6e, 0x73, 0x65]
/-- "r" -/
def sR : Bytes := [0x72]
/-- "as" -/
def sAs : Bytes := [0x61, 0x73]
/-- "msrel" -/
def sMsrel : Bytes := [0x6d, 0x73, 0x72, 0x65, 0x6c]
/-- "grant" -/
def sGrant : Bytes := [0x67, 0x72, 0x61, 0x6e, 0x74]
/-- "ManifestInformation" -/
def sManifestInformation : Bytes := [0x4d, 0x61, 0x6e, 0x69, 0x66, 0x65, 0x73, 0x74, 0x49, 0x6e, 0x66, 0x6f, 0x72, 0x6d, 0x61, 0x74, 0x69, 0x6f, 0x6e]
/-- "Hash" -/
def sHash : Bytes := [0x48, 0x61, 0x73, 0x68]
/-- "Description" -/
def sDescription : Bytes := [0x44, 0x65, 0x73, 0x63, 0x72, 0x69, 0x70, 0x74, 0x69, 0x6f, 0x6e]
/-- "Url" -/
def sUrl : Bytes := [0x55, 0x72, 0x6c]
/-- "SignedBy" -/
def sSignedBy : Bytes := [0x53, 0x69, 0x67, 0x6e, 0x65, 0x64, 0x42, 0x79]
/-- "AuthenticodePublisher" -/
def sAuthenticodePublisher : Bytes := [0x41, 0x75, 0x74, 0x68, 0x65, 0x6e, 0x74, 0x69, 0x63, 0x6f, 0x64, 0x65, 0x50, 0x75, 0x62, 0x6c, 0x69, 0x73, 0x68, 0x65, 0x72]
/-- "X509SubjectName" -/
def sX509SubjectName : Bytes := [0x58, 0x35, 0x30, 0x39, 0x53, 0x75, 0x62, 0x6a, 0x65, 0x63, 0x74, 0x4e, 0x61, 0x6d, 0x65]
/-- "issuer" -/
def sIssuer : Bytes := [0x69, 0x73, 0x73, 0x75, 0x65, 0x72]
/-- "RelData" -/
def sRelData : Bytes := [0x52, 0x65, 0x6c, 0x44, 0x61, 0x74, 0x61]
/-- "StrongNameSignature" -/
def sStrongNameSignature : Bytes := [0x53, 0x74, 0x72, 0x6f, 0x6e, 0x67, 0x4e, 0x61, 0x6d, 0x65, 0x53, 0x69, 0x67, 0x6e, 0x61, 0x74, 0x75, 0x72, 0x65]
/-- "StrongNameKeyInfo" -/
def sStrongNameKeyInfo : Bytes := [0x53, 0x74, 0x72, 0x6f, 0x6e, 0x67, 0x4e, 0x61, 0x6d, 0x65, 0x4b, 0x65, 0x79, 0x49, 0x6e, 0x66, 0x6f]
/-- "AuthenticodeSignature" -/
def sAuthenticodeSignature : Bytes := [0x41, 0x75, 0x74, 0x68, 0x65, 0x6e, 0x74, 0x69, 0x63, 0x6f, 0x64, 0x65, 0x53, 0x69, 0x67, 0x6e, 0x61, 0x74, 0x75, 0x72, 0x65]
/-- "http://schemas.microsoft.com/windows/rel/2005/reldata" -/
def nsMsRel : Bytes := [0x68, 0x74, 0x74, 0x70, 0x3a, 0x2f, 0x2f, 0x73, 0x63, 0x68, 0x65, 0x6d, 0x61, 0x73, 0x2e, 0x6d, 0x69, 0x63, 0x72, 0x6f, 0x73, 0x6f, 0x66, 0x74, 0x2e, 0x63, 0x6f, 0x6d, 0x2f, 0x77, 0x69, 0x6e, 0x64, 0x6f, 0x77, 0x73, 0x2f, 0x72, 0x65, 0x6c, 0x2f, 0x32, 0x30, 0x30, 0x35, 0x2f, 0x72, 0x65, 0x6c, 0x64, 0x61, 0x74, 0x61]
/-- "urn:mpeg:mpeg21:2003:01-REL-R-NS" -/
def nsMpeg21 : Bytes := [0x75, 0x72, 0x6e, 0x3a, 0x6d, 0x70, 0x65, 0x67, 0x3a, 0x6d, 0x70, 0x65, 0x67, 0x32, 0x31, 0x3a, 0x32, 0x30, 0x30, 0x33, 0x3a, 0x30, 0x31, 0x2d, 0x52, 0x45, 0x4c, 0x2d, 0x52, 0x2d, 0x4e, 0x53]
/-- "http://schemas.microsoft.com/windows/pki/2005/Authenticode" -/
def nsAuthenticode : Bytes := [0x68, 0x74, 0x74, 0x70, 0x3a, 0x2f, 0x2f, 0x73, 0x63, 0x68, 0x65, 0x6d, 0x61, 0x73, 0x2e, 0x6d, 0x69, 0x63, 0x72, 0x6f, 0x73, 0x6f, 0x66, 0x74, 0x2e, 0x63, 0x6f, 0x6d, 0x2f, 0x77, 0x69, 0x6e, 0x64, 0x6f, 0x77, 0x73, 0x2f, 0x70, 0x6b, 0x69, 0x2f, 0x32, 0x30, 0x30, 0x35, 0x2f, 0x41, 0x75, 0x74, 0x68, 0x65, 0x6e, 0x74, 0x69, 0x63, 0x6f, 0x64, 0x65]

/-! ### algorithms -/

inductive HashId where
  | sha1 | sha224 | sha256 | sha384 | sha512
  deriving DecidableEq, Repr

inductive KeyType where
  | rsa | ecdsa
  deriving DecidableEq, Repr

/-- `hashNames` -/
def hashName : HashId → Bytes
  | .sha1 => sSha1 | .sha224 => sSha224 | .sha256 => sSha256 | .sha384 => sSha384 | .sha512 => sSha512

/-- `HashUris` -/
def hashUri : HashId → Bytes
  | .sha1 => nsXMLDsig ++ sSha1
  | .sha224 => nsXMLDsigMore ++ sSha224
  | .sha256 => nsXMLEnc ++ sSha256
  | .sha384 => nsXMLDsigMore ++ sSha384
  | .sha512 => nsXMLEnc ++ sSha512

def keyName : KeyType → Bytes
  | .rsa => sRsa | .ecdsa => sEcdsa

structure SignOptions where
  msCompat : Bool
  useRec : Bool
  includeX509 : Bool
  includeKeyValue : Bool
  deriving Repr, DecidableEq

def c14nNs (o : SignOptions) : Bytes := if o.useRec then algExcC14nRec else algExcC14n

def dash : Bytes := [0x2d]

/-- `hashAlgs` (the two refusals — unsupported hash, unsupported key type — are outside `HashId`/`KeyType`) -/
def hashAlgs (h : HashId) (kt : KeyType) (o : SignOptions) : Bytes × Bytes :=
  let hashAlg := if o.msCompat then nsXMLDsig ++ hashName h else hashUri h
  let sigAlg :=
    if kt = .rsa ∧ (h = .sha1 ∨ o.msCompat = true) then nsXMLDsig ++ keyName kt ++ dash ++ hashName h
    else nsXMLDsigMore ++ keyName kt ++ dash ++ hashName h
  (hashAlg, sigAlg)

/-- the loop over `nsPrefixes`: strip the first prefix that matches -/
def stripNs (s : Bytes) : Bytes :=
  if nsXMLDsig.isPrefixOf s then s.drop nsXMLDsig.length
  else if nsXMLDsigMore.isPrefixOf s then s.drop nsXMLDsigMore.length
  else if nsXMLEnc.isPrefixOf s then s.drop nsXMLEnc.length
  else s

def hashOfName (n : Bytes) : Option HashId :=
  if n = sSha1 then some .sha1 else if n = sSha224 then some .sha224 else if n = sSha256 then some .sha256
  else if n = sSha384 then some .sha384 else if n = sSha512 then some .sha512 else none

/-- `parseAlgs` -/
def parseAlgs (hashAlg sigAlg : Bytes) : Res (HashId × KeyType) :=
  let hn := stripNs hashAlg
  match hashOfName hn with
  | none => .err "unsupported-digest"
  | some h =>
    let sa := stripNs sigAlg
    let suf := dash ++ hn
    if suf.length ≤ sa.length ∧ sa.drop (sa.length - suf.length) = suf then
      let kn := sa.take (sa.length - suf.length)
      if kn = sRsa then .ok (h, .rsa) else if kn = sEcdsa then .ok (h, .ecdsa) else .err "unsupported-sigalg"
    else .err "unsupported-sigalg"

/-! ### the cryptographic parameters -/

/-- the string fields of `keyValue` (structs.go) -/
structure KV where
  modulus : Bytes := []
  exponent : Bytes := []
  urn : Bytes := []
  x : Bytes := []
  y : Bytes := []
  deriving Repr, DecidableEq

structure Scheme where
  /-- base64 of the digest of a stream -/
  dtext : HashId → Bytes → Bytes
  /-- hex of the byte-reversed digest of a stream (`makeManifestHash`) -/
  rtext : HashId → Bytes → Bytes
  /-- base64 of the signature the signer returns for the digest of a stream (ECDSA: repacked r‖s) -/
  sigtext : HashId → Bytes → Bytes
  /-- children of `<KeyInfo>` created by `addKeyInfo` / `addCerts` for the signer's key and chain -/
  keyInfo : SignOptions → List Node
  /-- `base64.StdEncoding.DecodeString` succeeds -/
  b64ok : Bytes → Bool
  /-- the decoded DigestValue has the length of the hash -/
  digestLen : HashId → Bytes → Bool
  /-- the decoded DigestValue equals the digest of the stream -/
  digestOk : HashId → Bytes → Bytes → Bool
  /-- `parseKey`: `none` = "invalid public key" / unsupported curve -/
  parseKey : KeyType → KV → Option Bytes
  /-- base64 + `x509.ParseCertificate`: the certificate's public key -/
  parseCert : Bytes → Option Bytes
  /-- ECDSA unpack + `x509tools.Verify` on the digest of the stream and the decoded SignatureValue -/
  sigOk : Bytes → KeyType → HashId → Bytes → Bytes → Bool

/-! ### tree helpers -/

def isElemTag (tag : Bytes) : Node → Bool
  | .elem _ t _ _ => t = tag
  | _ => false

def kidsOf : Node → List Node
  | .elem _ _ _ ks => ks
  | _ => []

def attrsOf : Node → List Attr
  | .elem _ _ as _ => as
  | _ => []

/-- `RemoveElements(root, tag)` on the child list -/
def removeElements (tag : Bytes) (kids : List Node) : List Node := kids.filter fun n => !isElemTag tag n

/-- apply `f` to the child list of the element reached by the index path (indices into `Child`) -/
def mapKidsAt : List Nat → (List Node → List Node) → Node → Node
  | [], f, .elem sp tag as ks => .elem sp tag as (f ks)
  | i :: p, f, .elem sp tag as ks => .elem sp tag as (ks.modify i (mapKidsAt p f))
  | _, _, n => n

def getAt : List Nat → Node → Option Node
  | [], n => some n
  | i :: p, .elem _ _ _ ks => match ks[i]? with
    | some k => getAt p k
    | none => none
  | _ :: _, _ => none

/-- attribute lists of the elements on the path, the addressed element included, nearest first -/
def attrsAlong : List Nat → Node → List (List Attr)
  | [], n => [attrsOf n]
  | i :: p, .elem _ _ as ks => match ks[i]? with
    | some k => attrsAlong p k ++ [as]
    | none => [as]
  | _ :: _, _ => []

/-- attribute lists of the proper ancestors of the addressed node, nearest first -/
def ancestorsAttrs (p : List Nat) (root : Node) : List (List Attr) := (attrsAlong p root).drop 1

/-- `elem.Text()`-like: what `xml.Unmarshal` stores into a string field: the character data directly inside -/
def textOf (kids : List Node) : Bytes := kids.flatMap fun n => match n with
  | .text d _ => d
  | _ => []

def txt (d : Bytes) : Node := .text d false
def el (tag : Bytes) (attrs : List Attr) (kids : List Node) : Node := .elem [] tag attrs kids
def at_ (key value : Bytes) : Attr := ⟨[], key, value⟩

/-! ### sign.go -/

/-- `buildSignedInfo` for `refId == ""` (enveloped) or an enveloping reference `#refId` -/
def signedInfo (o : SignOptions) (refId hashAlg sigAlg digestText : Bytes) : Node :=
  el sSignedInfo [] [
    el sCanonMethod [at_ sAlgorithm (c14nNs o)] [],
    el sSignatureMethod [at_ sAlgorithm sigAlg] [],
    el sReference (if refId = [] then [at_ sURI []] else [at_ sURI (0x23 :: refId), at_ sType (nsXMLDsig ++ sObject)]) [
      el sTransforms [] ((if refId = [] then [el sTransform [at_ sAlgorithm algEnveloped] []] else []) ++
        [el sTransform [at_ sAlgorithm (c14nNs o)] []]),
      el sDigestMethod [at_ sAlgorithm hashAlg] [],
      el sDigestValue [] [txt digestText]]]

def xmlnsAttr : Attr := ⟨[], sXmlns, nsXMLDsig⟩

/-- the `<Signature>` element as `finishSignature` leaves it -/
def signatureNode (S : Scheme) (o : SignOptions) (si : Node) (sigText : Bytes) : Node :=
  el sSignature [xmlnsAttr] ([si, el sSignatureValue [] [txt sigText]] ++
    (if (S.keyInfo o).isEmpty then [] else [el sKeyInfo [] (S.keyInfo o)]))

structure Signed where
  refStream : Bytes
  siStream : Bytes
  out : Node
  deriving Repr

/-- `Sign(root, parent, …)`: `path` leads from `root` to `parent`; `ctx0` = attribute lists of `root`'s ancestors.
    (a `path` that does not address an element leaves the tree unchanged; no such call exists) -/
def sign (S : Scheme) (ctx0 : List (List Attr)) (root : Node) (path : List Nat) (h : HashId) (kt : KeyType) (o : SignOptions) :
    Signed :=
  let root1 := mapKidsAt path (removeElements sSignature) root
  let refStream := canon ctx0 root1
  let algs := hashAlgs h kt o
  let si := signedInfo o [] algs.1 algs.2 (S.dtext h refStream)
  let siStream := canon ([xmlnsAttr] :: (attrsAlong path root1 ++ ctx0)) si
  let sigNode := signatureNode S o si (S.sigtext h siStream)
  { refStream := refStream, siStream := siStream, out := mapKidsAt path (· ++ [sigNode]) root1 }

/-! ### verify.go -/

/-- one path segment over a child list: `i` = index of the first listed child -/
def findIn (tag : Bytes) (f : Node → List (List Nat)) : Nat → List Node → List (List Nat)
  | _, [] => []
  | i, k :: ks => (if isElemTag tag k then (f k).map (i :: ·) else []) ++ findIn tag f (i + 1) ks

/-- `root.FindElements("t1/t2/…")` for a relative path of plain tag names: index paths in document order
    (a path segment without prefix matches every prefix) -/
def findElems : List Bytes → Node → List (List Nat)
  | [], _ => [[]]
  | tag :: rest, n => findIn tag (findElems rest) 0 (kidsOf n)

/-- last attribute named `key` (any prefix) wins; no such attribute: the field keeps its value -/
def attrVal (key : Bytes) (attrs : List Attr) (old : Bytes) : Bytes :=
  attrs.foldl (fun acc a => if a.key = key then a.value else acc) old

structure RefInfo where
  uri : Bytes := []
  transforms : List Bytes := []
  digestAlg : Bytes := []
  digestValue : Bytes := []
  deriving Repr, DecidableEq

structure SigInfo where
  c14nAlg : Bytes := []
  sigAlg : Bytes := []
  ref : RefInfo := {}
  sigValue : Bytes := []
  keyValue : Option KV := none
  certs : List Bytes := []
  deriving Repr, DecidableEq

/-- `Transforms>Transform` under one `<Transforms>` -/
def decTransforms (acc : List Bytes) : List Node → List Bytes
  | [] => acc
  | .elem _ tag as _ :: rest =>
    if tag = sTransform then decTransforms (acc ++ [attrVal sAlgorithm as []]) rest else decTransforms acc rest
  | _ :: rest => decTransforms acc rest

/-- children of one `<Reference>` -/
def decRefKids (r : RefInfo) : List Node → RefInfo
  | [] => r
  | .elem _ tag as ks :: rest =>
    if tag = sTransforms then decRefKids { r with transforms := decTransforms r.transforms ks } rest
    else if tag = sDigestMethod then decRefKids { r with digestAlg := attrVal sAlgorithm as r.digestAlg } rest
    else if tag = sDigestValue then decRefKids { r with digestValue := textOf ks } rest
    else decRefKids r rest
  | _ :: rest => decRefKids r rest

/-- children of one `<SignedInfo>` -/
def decSignedInfoKids (s : SigInfo) : List Node → SigInfo
  | [] => s
  | .elem _ tag as ks :: rest =>
    if tag = sCanonMethod then decSignedInfoKids { s with c14nAlg := attrVal sAlgorithm as s.c14nAlg } rest
    else if tag = sSignatureMethod then decSignedInfoKids { s with sigAlg := attrVal sAlgorithm as s.sigAlg } rest
    else if tag = sReference then
      decSignedInfoKids { s with ref := decRefKids { s.ref with uri := attrVal sURI as s.ref.uri } ks } rest
    else decSignedInfoKids s rest
  | _ :: rest => decSignedInfoKids s rest

/-- `first>second` two-level path into a string / attribute: fold over the children named `tag` -/
def foldTag {α} (tag : Bytes) (f : α → List Attr → List Node → α) (acc : α) : List Node → α
  | [] => acc
  | .elem _ t as ks :: rest => if t = tag then foldTag tag f (f acc as ks) rest else foldTag tag f acc rest
  | _ :: rest => foldTag tag f acc rest

/-- children of one `<KeyValue>` -/
def decKeyValue (kv : KV) (kids : List Node) : KV :=
  let kv := foldTag sRSAKeyValue (fun kv _ ks =>
    let kv := foldTag sModulus (fun (kv : KV) _ ks => { kv with modulus := textOf ks }) kv ks
    foldTag sExponent (fun (kv : KV) _ ks => { kv with exponent := textOf ks }) kv ks) kv kids
  foldTag sECDSAKeyValue (fun kv _ ks =>
    let kv := foldTag sDomainParameters (fun kv _ ks =>
      foldTag sNamedCurve (fun (kv : KV) as _ => { kv with urn := attrVal sURN as kv.urn }) kv ks) kv ks
    foldTag sPublicKey (fun kv _ ks =>
      let kv := foldTag sX (fun (kv : KV) as _ => { kv with x := attrVal sValue as kv.x }) kv ks
      foldTag sY (fun (kv : KV) as _ => { kv with y := attrVal sValue as kv.y }) kv ks) kv ks) kv kids

/-- children of one `<KeyInfo>` -/
def decKeyInfoKids (s : SigInfo) : List Node → SigInfo
  | [] => s
  | .elem _ tag _ ks :: rest =>
    if tag = sKeyValue then decKeyInfoKids { s with keyValue := some (decKeyValue (s.keyValue.getD {}) ks) } rest
    else if tag = sX509Data then
      decKeyInfoKids { s with certs := foldTag sX509Certificate (fun acc _ ks => acc ++ [textOf ks]) s.certs ks } rest
    else decKeyInfoKids s rest
  | _ :: rest => decKeyInfoKids s rest

/-- children of `<Signature>` -/
def decSigKids (s : SigInfo) : List Node → SigInfo
  | [] => s
  | .elem _ tag _ ks :: rest =>
    if tag = sSignedInfo then decSigKids (decSignedInfoKids s ks) rest
    else if tag = sSignatureValue then decSigKids { s with sigValue := textOf ks } rest
    else if tag = sKeyInfo then decSigKids (decKeyInfoKids s ks) rest
    else decSigKids s rest
  | _ :: rest => decSigKids s rest

/-- namespace name the decoder gives the element: own declaration of its prefix, an unknown prefix stays as it is -/
def elemNs (sp : Bytes) (attrs : List Attr) : Bytes :=
  if sp = [] then (attrs.find? fun a => a.space = [] ∧ a.key = sXmlns).elim [] (·.value)
  else (attrs.find? fun a => a.space = sXmlns ∧ a.key = sp).elim sp (·.value)

/-- `xml.Unmarshal(SerializeCanonical(sigEl), &sig)` on the canonical tree: `none` = the XMLName check fails -/
def decodeSig : Node → Option SigInfo
  | .elem sp tag attrs kids =>
    if tag = sSignature ∧ elemNs sp attrs = nsXMLDsig then some (decSigKids {} kids) else none
  | _ => none

/-- `SerializeCanonical` up to the writer: the tree whose serialisation is the canonical form -/
def canonTree (ctx : List (List Attr)) (n : Node) : Node := walk (pullDown ctx n)

def isC14n (a : Bytes) : Bool := a = algExcC14n ∨ a = algExcC14nRec

/-- remove the child addressed by the index path (`sigEl.Parent().RemoveChild(sigEl)`) -/
def removeAt : List Nat → Node → Node
  | [], n => n
  | [i], .elem sp tag as ks => .elem sp tag as (ks.eraseIdx i)
  | i :: p, .elem sp tag as ks => .elem sp tag as (ks.modify i (removeAt p))
  | _, n => n

def parseCerts (S : Scheme) : List Bytes → Option (List Bytes)
  | [] => some []
  | c :: cs => match S.parseCert c, parseCerts S cs with
    | some k, some ks => some (k :: ks)
    | _, _ => none

structure Verified where
  hash : HashId
  keyType : KeyType
  key : Bytes
  siStream : Bytes
  refStream : Bytes
  deriving Repr, DecidableEq

/-- `Verify(root, sigpath, extraCerts = nil)`; `root.Copy()` cuts the element off its ancestors, so the reference is
    canonicalised without ancestor context -/
def verify (S : Scheme) (root : Node) (sigpath : List Bytes) : Res Verified :=
  match findElems sigpath root with
  | [] => .err "notsigned"
  | _ :: _ :: _ => .err "multiple"
  | [p] =>
    match getAt p root with
    | none => .panic "findElems"
    | some sigEl =>
      match decodeSig (canonTree (ancestorsAttrs p root) sigEl) with
      | none => .err "xml"
      | some sig =>
        if !isC14n sig.c14nAlg then .err "unsupported-c14n" else
        match parseAlgs sig.ref.digestAlg sig.sigAlg with
        | .err e => .err e
        | .panic s => .panic s
        | .diverge => .diverge
        | .ok (h, kt) =>
          let key? : Res (Option Bytes) := match sig.keyValue with
            | none => .ok none
            | some kv => match S.parseKey kt kv with
              | none => .err "badkey"
              | some k => .ok (some k)
          match key? with
          | .err e => .err e
          | .panic s => .panic s
          | .diverge => .diverge
          | .ok key =>
            match parseCerts S sig.certs with
            | none => .err "badcert"
            | some certs =>
              match (kidsOf sigEl).filter (isElemTag sSignedInfo) with
              | [] => .err "invalid"
              | _ :: _ :: _ => .err "invalid"
              | [signedinfo] =>
                let siStream := canon (attrsOf sigEl :: ancestorsAttrs p root) signedinfo
                if !S.b64ok sig.sigValue then .err "invalid" else
                let who : Res Bytes := match key with
                  | some k => if S.sigOk k kt h siStream sig.sigValue then .ok k else .err "badsig"
                  | none => match certs with
                    | [] => .err "nokey"
                    | _ => match certs.find? (fun k => S.sigOk k kt h siStream sig.sigValue) with
                      | some k => .ok k
                      | none => .err "badsig"
                match who with
                | .err e => .err e
                | .panic s => .panic s
                | .diverge => .diverge
                | .ok k =>
                  if sig.ref.uri = [] then
                    if sig.ref.transforms.length ≠ 2 ∨ sig.ref.transforms[0]? ≠ some algEnveloped ∨
                        !((sig.ref.transforms[1]?).elim false isC14n) then .err "unsupported-transform" else
                    if p = [] then .err "no-enclosing-document" else   -- (was a nil dereference before the c11b repair)
                    let refStream := canon [] (removeAt p root)
                    if !S.b64ok sig.ref.digestValue ∨ !S.digestLen h sig.ref.digestValue then .err "invalid" else
                    if !S.digestOk h refStream sig.ref.digestValue then .err "digest" else
                    .ok { hash := h, keyType := kt, key := k, siStream := siStream, refStream := refStream }
                  else
                    if sig.ref.transforms.length ≠ 1 ∨ !((sig.ref.transforms[0]?).elim false isC14n) then
                      .err "unsupported-transform" else
                    if sig.ref.uri.head? ≠ some 0x23 then .err "unsupported-uri" else
                    .err "enveloping-not-modelled"

end Relic.XmlSig
