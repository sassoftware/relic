/-
  Relic.Model.FS — an abstract POSIX file-system state and the system calls relic's output phase
  issues (lib/atomicfile, lib/binpatch.applyRewrite, signers.fileProducer.Apply, signers/msi,
  signers/pgp).  Used by property C13.

  * A state is a finite map path → inode number, inode → (content, mode), and a table of open
    descriptors (inode, offset).  Inode numbers `< next` are allocated; a new file takes `next`.
  * An `Op` is one *successful* system call as strace prints it (its arguments and its result:
    the descriptor returned by `openat`, the byte count returned by `read`/`copy_file_range`,
    the offset returned by `lseek`).  A call that fails in the kernel changes nothing; the model
    is total and treats an op whose precondition does not hold as such a no-op.
  * A *program* is a `List Op`; a crash (SIGKILL) at a system-call boundary = run a prefix
    (`tr.take k`).  A `write` cut short by the kill is a `write` of a prefix of its buffer,
    i.e. a prefix of another chunking of the same program – theorems quantify over all chunkings.
  * `rename` replaces the target atomically (POSIX; trusted).  No durability/fsync modelling:
    the property is about killing the process, not the machine.
  Core Lean only.
-/
import Relic.Base.Bytes
import Relic.Model.Binpatch
namespace Relic.FS
open Relic

structure FdEnt where
  ino : Nat
  off : Nat
  deriving Repr, DecidableEq

structure State where
  names : String → Option Nat
  data : Nat → Bytes
  mode : Nat → Nat
  fds : Nat → Option FdEnt
  next : Nat

inductive Op where
  /-- `openat(p, flags) = fd`; `creat`/`excl`/`trunc` = O_CREAT / O_EXCL / O_TRUNC present -/
  | openF (p : String) (fd : Nat) (creat excl trunc : Bool)
  /-- `write(fd, b) = |b|` at the descriptor's offset -/
  | write (fd : Nat) (b : Bytes)
  /-- `pwrite64(fd, b, off) = |b|` -/
  | pwrite (fd off : Nat) (b : Bytes)
  /-- `copy_file_range(in, NULL, out, NULL, _) = n` / `sendfile(out, in, NULL, _) = n` -/
  | copy (fdIn fdOut n : Nat)
  | ftruncate (fd n : Nat)
  | fchmod (fd m : Nat)
  /-- `read(fd, _) = n` (only the offset matters) -/
  | read (fd n : Nat)
  /-- `lseek(fd, _, _) = res` -/
  | lseek (fd res : Nat)
  | close (fd : Nat)
  | unlink (p : String)
  | rename (a b : String)
  deriving Repr, DecidableEq

def upd {α β} [DecidableEq α] (f : α → β) (a : α) (b : β) : α → β :=
  fun x => if x = a then b else f x

@[simp] theorem upd_same {α β} [DecidableEq α] (f : α → β) (a : α) (b : β) : upd f a b a = b := by
  simp [upd]

theorem upd_other {α β} [DecidableEq α] (f : α → β) (a x : α) (b : β) (h : x ≠ a) : upd f a b x = f x := by
  simp [upd, h]

/-- bytes `n` bytes long starting at `off` (short at EOF) -/
def readAt (c : Bytes) (off n : Nat) : Bytes := (c.drop off).take n

/-- write `b` into the inode `ino` at offset `off` -/
def putAt (s : State) (ino off : Nat) (b : Bytes) : State :=
  { s with data := upd s.data ino (Binpatch.writeAt (s.data ino) off b) }

def setOff (s : State) (fd : Nat) (e : FdEnt) (off : Nat) : State :=
  { s with fds := upd s.fds fd (some { e with off := off }) }

def step (s : State) : Op → State
  | .openF p fd creat excl trunc =>
    match s.names p with
    | some i =>
      if creat && excl then s   -- EEXIST
      else
        { s with fds := upd s.fds fd (some ⟨i, 0⟩),
                 data := if trunc then upd s.data i [] else s.data }
    | none =>
      if creat then
        { s with names := upd s.names p (some s.next),
                 data := upd s.data s.next [],
                 mode := upd s.mode s.next 384,
                 fds := upd s.fds fd (some ⟨s.next, 0⟩),
                 next := s.next + 1 }
      else s   -- ENOENT
  | .write fd b =>
    match s.fds fd with
    | some e => setOff (putAt s e.ino e.off b) fd e (e.off + b.length)
    | none => s
  | .pwrite fd off b =>
    match s.fds fd with
    | some e => putAt s e.ino off b
    | none => s
  | .copy fin fout n =>
    match s.fds fin, s.fds fout with
    | some ei, some eo =>
      let b := readAt (s.data ei.ino) ei.off n
      let s1 := setOff (putAt s eo.ino eo.off b) fout eo (eo.off + b.length)
      if fin = fout then s1 else setOff s1 fin ei (ei.off + b.length)
    | _, _ => s
  | .ftruncate fd n =>
    match s.fds fd with
    | some e => { s with data := upd s.data e.ino (Binpatch.truncate (s.data e.ino) n) }
    | none => s
  | .fchmod fd m =>
    match s.fds fd with
    | some e => { s with mode := upd s.mode e.ino m }
    | none => s
  | .read fd n =>
    match s.fds fd with
    | some e => setOff s fd e (e.off + n)
    | none => s
  | .lseek fd res =>
    match s.fds fd with
    | some e => setOff s fd e res
    | none => s
  | .close fd => { s with fds := upd s.fds fd none }
  | .unlink p => { s with names := upd s.names p none }
  | .rename a b =>
    match s.names a with
    | some i => if a = b then s else { s with names := upd (upd s.names b (some i)) a none }
    | none => s

def run : List Op → State → State
  | [], s => s
  | op :: rest, s => run rest (step s op)

theorem run_append (xs ys : List Op) (s : State) : run (xs ++ ys) s = run ys (run xs s) := by
  induction xs generalizing s with
  | nil => rfl
  | cons x xs ih => simp [run, ih]

/-- content found at a path (`none` = no such file) -/
def lookup (s : State) (p : String) : Option Bytes := (s.names p).map s.data

/-- initial states: nothing open, every named inode allocated -/
structure Init (s : State) : Prop where
  nofd : ∀ fd, s.fds fd = none
  wf : ∀ p i, s.names p = some i → i < s.next

/-- initial state from a listing: the i-th listed path is inode i -/
def mkState (init : List (String × Bytes)) : State :=
  { names := fun p => init.findIdx? (fun e => e.1 = p),
    data := fun i => match init[i]? with | some e => e.2 | none => [],
    mode := fun _ => 420,
    fds := fun _ => none,
    next := init.length }

/-! ### The property, as a decidable predicate on (initial, current, final) states -/

/-- the crash-state invariant of C13: `dest` holds its complete previous or its complete new content,
    it has not disappeared if it existed, and `input` is untouched -/
def Inv (dest input : String) (s0 s sfin : State) : Prop :=
  (lookup s dest = lookup s0 dest ∨ lookup s dest = lookup sfin dest) ∧
  (lookup s0 dest ≠ none → lookup s dest ≠ none) ∧
  lookup s input = lookup s0 input

instance (dest input : String) (s0 s sfin : State) : Decidable (Inv dest input s0 s sfin) := by
  unfold Inv; exact inferInstance

/-- first prefix length at which the invariant fails, scanning every prefix of `tr` (executable) -/
def firstBad (dest input : String) (s0 sfin : State) : List Op → State → Nat → Option Nat
  | [], s, k => if Inv dest input s0 s sfin then none else some k
  | op :: rest, s, k =>
    if Inv dest input s0 s sfin then firstBad dest input s0 sfin rest (step s op) (k + 1) else some k

/-! ### The shape of an atomic output trace

  Phase A (before the commit): the trace may create files with `O_CREAT|O_EXCL` at paths other than
  `dest`/`input` and write only through descriptors it obtained that way; it may open existing
  files without `O_CREAT`/`O_TRUNC`; it may unlink/rename paths other than `dest`/`input`.
  The commit is one `rename a dest`.  Phase B (after it): no call that changes file content or the
  names `dest`/`input`.  A trace without a commit (an aborted output) is fine too. -/

structure Sh where
  opened : List Nat   -- descriptors currently open (as far as the trace tells)
  owned : List Nat    -- those returned by an O_CREAT|O_EXCL open of this trace
  deriving Repr

def quiet (dest input : String) : Op → Bool
  | .openF _ _ creat _ trunc => !creat && !trunc
  | .read _ _ => true
  | .lseek _ _ => true
  | .close _ => true
  | .unlink p => p ≠ dest && p ≠ input
  | .rename a b => a ≠ dest && a ≠ input && b ≠ dest && b ≠ input
  | _ => false

def isCommit (dest input : String) : Op → Bool
  | .rename a b => b = dest && a ≠ dest && a ≠ input
  | _ => false

def stepA (dest input : String) (sh : Sh) : Op → Option Sh
  | .openF p fd creat excl trunc =>
    if sh.opened.contains fd then none
    else if creat && excl then
      if p ≠ dest && p ≠ input then some ⟨fd :: sh.opened, fd :: sh.owned⟩ else none
    else if !creat && !trunc then some ⟨fd :: sh.opened, sh.owned.filter (· ≠ fd)⟩
    else none
  | .write fd _ => if sh.owned.contains fd then some sh else none
  | .pwrite fd _ _ => if sh.owned.contains fd then some sh else none
  | .copy _ fout _ => if sh.owned.contains fout then some sh else none
  | .ftruncate fd _ => if sh.owned.contains fd then some sh else none
  | .fchmod fd _ => if sh.owned.contains fd then some sh else none
  | .read _ _ => some sh
  | .lseek _ _ => some sh
  | .close fd => some ⟨sh.opened.filter (· ≠ fd), sh.owned.filter (· ≠ fd)⟩
  | .unlink p => if p ≠ dest && p ≠ input then some sh else none
  | .rename a b => if a ≠ dest && a ≠ input && b ≠ dest && b ≠ input then some sh else none

def shapeFrom (dest input : String) : Sh → List Op → Bool
  | _, [] => true
  | sh, op :: rest =>
    if isCommit dest input op then rest.all (quiet dest input)
    else match stepA dest input sh op with
      | none => false
      | some sh' => shapeFrom dest input sh' rest

/-- the decidable trace predicate evaluated on every recorded real trace -/
def atomicShape (dest input : String) (tr : List Op) : Bool :=
  dest ≠ input && shapeFrom dest input ⟨[], []⟩ tr

/-! ### Programs derived from the code -/

/-- `atomicfile.New` … `Write`* … `Commit` as it should be (and is after the F3 fix):
    `openat(tmp, O_RDWR|O_CREAT|O_EXCL) ; write* ; fchmod 0644 ; close ; rename tmp dest` -/
def commitProg (tmp dest : String) (fd : Nat) (chunks : List Bytes) : List Op :=
  .openF tmp fd true true false :: (chunks.map (.write fd) ++ [.fchmod fd 420, .close fd, .rename tmp dest])

/-- what `atomicfile.Commit` runs on the unchanged tree: `os.Remove(dest)` before `os.Rename` -/
def commitProgUnlinkFirst (tmp dest : String) (fd : Nat) (chunks : List Bytes) : List Op :=
  .openF tmp fd true true false :: (chunks.map (.write fd) ++ [.fchmod fd 420, .close fd, .unlink dest, .rename tmp dest])

/-- a handled error after some writes: the deferred `atomicFile.Close` = `close ; unlink tmp` -/
def abortProg (tmp : String) (fd : Nat) (chunks : List Bytes) : List Op :=
  .openF tmp fd true true false :: (chunks.map (.write fd) ++ [.close fd, .unlink tmp])

/-- an error return that skips `Close` (signers.fileProducer.Apply when `io.Copy` fails; WriteInPlace
    when its copy fails): nothing after the writes -/
def leakProg (tmp : String) (fd : Nat) (chunks : List Bytes) : List Op :=
  .openF tmp fd true true false :: chunks.map (.write fd)

end Relic.FS
