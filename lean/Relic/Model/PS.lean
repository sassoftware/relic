/-
  Relic.Model.PS — executable model of /repo/lib/authenticode/powershell.go: `DigestPowershell` (the byte stream fed
  to the hash, `TextSize`, `SigSize`), `PsDigest.MakePatch` and the line scan of `VerifyPowershell` (the locator).

  The model follows the code *after* the three F8 fixes and the F-ps-eol fix:
    F8a  `readLine` reads UTF-16 text by code units (a line ends at the code unit U+000A), so a code unit whose low
         or high byte is 0x0A (U+4E0A, U+010A, U+0A41 …) no longer ends a line or raises "malformed utf16";
    F8b  a marker line that is not preceded by a line long enough to hold the end-of-line it is about to strip is an
         error ("malformed powershell signature") instead of a slice panic.
    F8c  `VerifyPowershell` tests `i > j` before it slices `lstr[i:j]` (`locateLoop`'s `guard`), so a signature line that is only
         the overlapping comment delimiters is an error instead of a slice panic;
    F-ps-eol  the bytes cut off in front of a begin-marker line are compared with the CRLF that ends the marker line itself
         (`saved[len(saved)-eol:] != first[len(first)-eol:]`); when they differ the script is refused ("malformed
         powershell signature") instead of losing its last character.
  The code as it was before the F8 fixes is kept as `linesOrig16` / `DigestPSOrig`, with the witnesses that refute
  the properties for it (Props/C01_PS.lean: `ps_orig_refuses_bmp`, `ps_orig_marker_first_panics`; for F8c `locateOrig`,
  `ps_orig_verify_overlap_panics`); the code after F8 and
  before F-ps-eol is `DigestPSEolOrig` (Props/C03_PSEol.lean: `ps_mixed_eol_loses_text_orig`).

  Styles: 1 = "# …" (ps1, psd1, psm1), 2 = "<!-- … -->" (ps1xml, psc1, cdxml), 3 = "/* … */" (mof).
-/
import Relic.Base.Bytes
import Relic.Model.Binpatch
namespace Relic.PS
open Relic

def ascii (s : String) : Bytes := s.toList.map fun c => UInt8.ofNat c.toNat

/-- `psStyles[style]`: (start, end) -/
def styleOf : Nat → Option (Bytes × Bytes)
  | 1 => some (ascii "# ", [])
  | 2 => some (ascii "<!-- ", ascii " -->")
  | 3 => some (ascii "/* ", ascii " */")
  | _ => none

def psBegin : Bytes := ascii "SIG # Begin signature block"
def psEnd : Bytes := ascii "SIG # End signature block"
def crlf : Bytes := [13, 10]

/-- `toUtf16` on ASCII text: every byte followed by a zero byte -/
def widen (b : Bytes) : Bytes := b.flatMap fun x => [x, 0]

/-- `detectUtf16`: `br.Peek(2)` succeeded and returned FF FE -/
def isUtf16 : Bytes → Bool
  | 0xff :: 0xfe :: _ => true
  | _ => false

def firstLine (st en : Bytes) (u16 : Bool) : Bytes :=
  let l := st ++ psBegin ++ en ++ crlf
  if u16 then widen l else l

def lastLine (st en : Bytes) (u16 : Bool) : Bytes :=
  let l := st ++ psEnd ++ en ++ crlf
  if u16 then widen l else l

/-! ### `readLine` -/

/-- what successive `readLine` calls return -/
inductive Item where
  /-- a line; `phys` = bytes consumed from the file -/
  | line (b : Bytes) (phys : Nat)
  /-- `errors.New("malformed utf16")` -/
  | bad
  deriving Repr, DecidableEq

/-- UTF-8 (and any non-UTF-16) text: `br.ReadString('\n')`.  The last item is the one returned together with `io.EOF`. -/
def lines8 : Bytes → Bytes → List Item
  | cur, [] => [.line cur cur.length]
  | cur, b :: bs => if b = 10 then .line (cur ++ [10]) (cur.length + 1) :: lines8 [] bs else lines8 (cur ++ [b]) bs

/-- UTF-16LE text after fix F8a: code units are read two bytes at a time; a line ends with the unit 0A 00.  A trailing
    odd byte belongs to the last line (returned with `io.EOF`). -/
def lines16 : Bytes → Bytes → List Item
  | cur, [] => [.line cur cur.length]
  | cur, [b] => [.line (cur ++ [b]) (cur.length + 1)]
  | cur, a :: b :: bs =>
    if a = 10 ∧ b = 0 then .line (cur ++ [10, 0]) (cur.length + 2) :: lines16 [] bs else lines16 (cur ++ [a, b]) bs

/-- UTF-16LE text in the original code: `ReadString('\n')` stops at the first 0x0A *byte*, then one more byte is read and
    must be zero; at end of input a zero is appended anyway. -/
def linesOrig16 : Bytes → Bytes → List Item
  | cur, [] => [.line cur cur.length]
  | cur, [b] => if b = 10 then [.line (cur ++ [10, 0]) (cur.length + 1)] else [.line (cur ++ [b]) (cur.length + 1)]
  | cur, a :: b :: bs =>
    if a = 10 then
      if b ≠ 0 then [.bad] else .line (cur ++ [10, 0]) (cur.length + 2) :: linesOrig16 [] bs
    else linesOrig16 (cur ++ [a]) (b :: bs)

/-! ### `writeUtf16` for UTF-8 input: `utf16.Encode([]rune(x))`, little-endian -/

/-- Go's `utf8.DecodeRuneInString` on `x :: rest`: (rune, size); invalid ⇒ (U+FFFD, 1) -/
def decodeRune (x : UInt8) (rest : Bytes) : Nat × Nat :=
  let x0 := x.toNat
  let cont (b : Nat) : Bool := 0x80 ≤ b ∧ b ≤ 0xBF
  if x0 < 0x80 then (x0, 1) else
  -- (size, lo, hi) of the accept range for the second byte
  let cls : Option (Nat × Nat × Nat) :=
    if x0 < 0xC2 then none
    else if x0 < 0xE0 then some (2, 0x80, 0xBF)
    else if x0 = 0xE0 then some (3, 0xA0, 0xBF)
    else if x0 = 0xED then some (3, 0x80, 0x9F)
    else if x0 < 0xF0 then some (3, 0x80, 0xBF)
    else if x0 = 0xF0 then some (4, 0x90, 0xBF)
    else if x0 < 0xF4 then some (4, 0x80, 0xBF)
    else if x0 = 0xF4 then some (4, 0x80, 0x8F)
    else none
  match cls with
  | none => (0xFFFD, 1)
  | some (size, lo, hi) =>
    if rest.length + 1 < size then (0xFFFD, 1) else
    match rest with
    | b1 :: r1 =>
      if b1.toNat < lo ∨ hi < b1.toNat then (0xFFFD, 1) else
      if size = 2 then ((x0 % 32) * 64 + b1.toNat % 64, 2) else
      match r1 with
      | b2 :: r2 =>
        if !cont b2.toNat then (0xFFFD, 1) else
        if size = 3 then ((x0 % 16) * 4096 + (b1.toNat % 64) * 64 + b2.toNat % 64, 3) else
        match r2 with
        | b3 :: _ =>
          if !cont b3.toNat then (0xFFFD, 1) else
          ((x0 % 8) * 262144 + (b1.toNat % 64) * 4096 + (b2.toNat % 64) * 64 + b3.toNat % 64, 4)
        | [] => (0xFFFD, 1)
      | [] => (0xFFFD, 1)
    | [] => (0xFFFD, 1)

/-- `utf16.Encode` of one rune, little-endian bytes -/
def encUnit (r : Nat) : Bytes :=
  if r < 0x10000 then leBytes 2 r
  else leBytes 2 (0xd800 + (r - 0x10000) / 1024) ++ leBytes 2 (0xdc00 + (r - 0x10000) % 1024)

/-- `skip` = bytes of the current rune still to be passed over -/
def toUtf16 : Nat → Bytes → Bytes
  | _, [] => []
  | skip + 1, _ :: rest => toUtf16 skip rest
  | 0, x :: rest =>
    let (r, size) := decodeRune x rest
    encUnit r ++ toUtf16 (size - 1) rest

/-- what `writeUtf16(d, x, isUtf16)` feeds to the hash -/
def conv (u16 : Bool) (x : Bytes) : Bytes := if u16 then x else toUtf16 0 x

/-! ### `DigestPowershell` -/

structure Digest where
  hashed : Bytes
  textSize : Nat
  sigSize : Nat
  utf16 : Bool
  style : Nat
  deriving Repr, DecidableEq

/-- the `for` loop.  `k` = size of the end-of-line stripped before the marker (2 or 4), `pos` = bytes consumed so far,
    `guard` = fix F8b present, `chk` = fix F-ps-eol present (the `k` bytes to be cut off must be the last `k` bytes of the
    marker line, i.e. its CRLF). -/
def digestLoop (guard chk : Bool) (first : Bytes) (u16 : Bool) (k flen : Nat) :
    List Item → (saved hashed : Bytes) → (textSize pos : Nat) → Res (Bytes × Nat × Nat)
  | [], saved, h, ts, _ => .ok (h ++ conv u16 saved, ts + saved.length, 0)
  | .bad :: _, _, _, _, _ => .err "malformed"
  | .line l phys :: rest, saved, h, ts, pos =>
    if l = first then
      if saved.length < k then (if guard then .err "badsig" else .panic "DigestPowershell:saved[:len-eol]") else
      if chk ∧ saved.drop (saved.length - k) ≠ first.drop (first.length - k) then .err "badsig" else
      let saved' := saved.take (saved.length - k)
      .ok (h ++ conv u16 saved', ts + saved'.length, k + l.length + (flen - (pos + phys)))
    else digestLoop guard chk first u16 k flen rest l (h ++ conv u16 saved) (ts + saved.length) (pos + phys)

def digestWith (guard chk : Bool) (split16 : Bytes → Bytes → List Item) (f : Bytes) (style : Nat) : Res Digest :=
  match styleOf style with
  | none => .err "style"
  | some (st, en) =>
    let u16 := isUtf16 f
    let items := if u16 then split16 [] f else lines8 [] f
    match digestLoop guard chk (firstLine st en u16) u16 (if u16 then 4 else 2) f.length items [] [] 0 0 with
    | .ok (h, ts, ss) => .ok ⟨h, ts, ss, u16, style⟩
    | .err e => .err e
    | .panic p => .panic p
    | .diverge => .diverge

/-- `DigestPowershell` (with fixes F8a, F8b, F-ps-eol) -/
def DigestPS (f : Bytes) (style : Nat) : Res Digest := digestWith true true lines16 f style

/-- `DigestPowershell` after the F8 fixes and before fix F-ps-eol: the end-of-line in front of the marker is cut off
    without being looked at -/
def DigestPSEolOrig (f : Bytes) (style : Nat) : Res Digest := digestWith true false lines16 f style

/-- `DigestPowershell` as it was before all fixes -/
def DigestPSOrig (f : Bytes) (style : Nat) : Res Digest := digestWith false false linesOrig16 f style

/-! ### `PsDigest.MakePatch` -/

def b64char (n : Nat) : UInt8 :=
  if n < 26 then UInt8.ofNat (65 + n) else if n < 52 then UInt8.ofNat (71 + n)
  else if n < 62 then UInt8.ofNat (n - 4) else if n = 62 then 43 else 47

/-- `base64.StdEncoding.EncodeToString` -/
def base64 : Bytes → Bytes
  | a :: b :: c :: rest =>
    let n := a.toNat * 65536 + b.toNat * 256 + c.toNat
    [b64char (n / 262144), b64char (n / 4096 % 64), b64char (n / 64 % 64), b64char (n % 64)] ++ base64 rest
  | [a, b] =>
    let n := a.toNat * 65536 + b.toNat * 256
    [b64char (n / 262144), b64char (n / 4096 % 64), b64char (n / 64 % 64), 61]
  | [a] =>
    let n := a.toNat * 65536
    [b64char (n / 262144), b64char (n / 4096 % 64), 61, 61]
  | [] => []

/-- the `for i := 0; i < len(b64); i += 64` loop: one comment line per 64 characters (fuel = number of characters) -/
def sigLines (st en : Bytes) : Nat → Bytes → Bytes
  | 0, _ => []
  | fuel + 1, b => if b.isEmpty then [] else st ++ b.take 64 ++ en ++ crlf ++ sigLines st en fuel (b.drop 64)

/-- the text block written after the script -/
def block (st en : Bytes) (u16 : Bool) (sig : Bytes) : Bytes :=
  let b64 := base64 sig
  let txt := crlf ++ st ++ psBegin ++ en ++ crlf ++ sigLines st en b64.length b64 ++ st ++ psEnd ++ en ++ crlf
  if u16 then widen txt else txt

def makePatch (d : Digest) (sig : Bytes) : Res (List Binpatch.Patch) :=
  match styleOf d.style with
  | none => .err "style"
  | some (st, en) => .ok [⟨d.textSize, d.sigSize, block st en d.utf16 sig⟩]

/-! ### the verifier's locator: the line scan of `VerifyPowershell` -/

/-- `utf16.Decode` + `string(runes)`: UTF-16LE bytes to UTF-8 (`fromUtf16`; an odd trailing byte is dropped) -/
def encUtf8 (r : Nat) : Bytes :=
  if r < 0x80 then [UInt8.ofNat r]
  else if r < 0x800 then [UInt8.ofNat (0xC0 + r / 64), UInt8.ofNat (0x80 + r % 64)]
  else if r < 0x10000 then [UInt8.ofNat (0xE0 + r / 4096), UInt8.ofNat (0x80 + r / 64 % 64), UInt8.ofNat (0x80 + r % 64)]
  else [UInt8.ofNat (0xF0 + r / 262144), UInt8.ofNat (0x80 + r / 4096 % 64), UInt8.ofNat (0x80 + r / 64 % 64),
        UInt8.ofNat (0x80 + r % 64)]

def fromUtf16 : Bytes → Bytes
  | a :: b :: c :: d :: rest =>
    let u := a.toNat + 256 * b.toNat
    let v := c.toNat + 256 * d.toNat
    if 0xd800 ≤ u ∧ u < 0xdc00 ∧ 0xdc00 ≤ v ∧ v < 0xe000 then
      encUtf8 (0x10000 + (u - 0xd800) * 1024 + (v - 0xdc00)) ++ fromUtf16 rest
    else if 0xd800 ≤ u ∧ u < 0xe000 then encUtf8 0xFFFD ++ fromUtf16 (c :: d :: rest)
    else encUtf8 u ++ fromUtf16 (c :: d :: rest)
  | [a, b] =>
    let u := a.toNat + 256 * b.toNat
    if 0xd800 ≤ u ∧ u < 0xe000 then encUtf8 0xFFFD else encUtf8 u
  | [a, b, _] =>
    let u := a.toNat + 256 * b.toNat
    if 0xd800 ≤ u ∧ u < 0xe000 then encUtf8 0xFFFD else encUtf8 u
  | _ => []

def hasPrefix (s p : Bytes) : Bool := s.take p.length == p
def hasSuffix (s p : Bytes) : Bool := p.length ≤ s.length && s.drop (s.length - p.length) == p

def isB64 (c : UInt8) : Bool :=
  (65 ≤ c && c ≤ 90) || (97 ≤ c && c ≤ 122) || (48 ≤ c && c ≤ 57) || c == 43 || c == 47

/-- does `base64.StdEncoding.DecodeString` accept the text (CR and LF already removed: the decoder skips them)?
    Quanta of four alphabet characters, the last one possibly `xx==` or `xxx=`, nothing after the padding. -/
def b64okF : Bytes → Bool
  | [] => true
  | a :: b :: c :: d :: rest =>
    if rest.isEmpty then isB64 a && isB64 b && ((c == 61 && d == 61) || (isB64 c && (d == 61 || isB64 d)))
    else isB64 a && isB64 b && isB64 c && isB64 d && b64okF rest
  | _ => false

def b64ok (t : Bytes) : Bool := b64okF (t.filter fun c => c != 10 && c != 13)

/-- the scan; returns the base64 text of each signature line (decoding them is `encoding/base64`'s; the model only
    decides *whether* a line decodes, because a line that does not aborts the scan).
    `guard` = the `i > j` test added with the fixes. -/
def locateLoop (guard : Bool) (st en first last : Bytes) (u16 : Bool) : List Item → Bool → List Bytes → Res (List Bytes)
  | [], _, _ => .err "unreachable"
  | .bad :: _, _, _ => .err "malformed"
  | .line l _ :: rest, found, acc =>
    -- the last item is the line returned together with io.EOF
    if rest.isEmpty then (if found then .err "eof" else .err "notsigned") else
    if found ∧ l = last then .ok acc.reverse
    else if found then
      let lstr := if u16 then fromUtf16 l else l
      if !(hasPrefix lstr st) || !(hasSuffix lstr (en ++ crlf)) then .err "badsig" else
      let i := st.length
      let j := lstr.length - en.length - 2
      if j < i then (if guard then .err "badsig" else .panic "VerifyPowershell:lstr[i:j]") else
      let payload := (lstr.drop i).take (j - i)
      if !(b64ok payload) then .err "base64" else
      locateLoop guard st en first last u16 rest true (payload :: acc)
    else if l = first then locateLoop guard st en first last u16 rest true acc
    else locateLoop guard st en first last u16 rest false acc

def locateWith (guard : Bool) (split16 : Bytes → Bytes → List Item) (f : Bytes) (style : Nat) : Res (List Bytes) :=
  match styleOf style with
  | none => .err "style"
  | some (st, en) =>
    let u16 := isUtf16 f
    let items := if u16 then split16 [] f else lines8 [] f
    locateLoop guard st en (firstLine st en u16) (lastLine st en u16) u16 items false []

def locate (f : Bytes) (style : Nat) : Res (List Bytes) := locateWith true lines16 f style
def locateOrig (f : Bytes) (style : Nat) : Res (List Bytes) := locateWith false linesOrig16 f style

/-- the 64-character pieces `MakePatch` writes for a blob -/
def chunks64 : Nat → Bytes → List Bytes
  | 0, _ => []
  | fuel + 1, b => if b.isEmpty then [] else b.take 64 :: chunks64 fuel (b.drop 64)

end Relic.PS
