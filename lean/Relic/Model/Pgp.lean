/-
  Relic.Model.Pgp — executable model of relic's own OpenPGP byte-level code, lib/pgptools:
    inline.go     serializeHeader, serializeLiteral, writeOnePass, MergeSignature (the known-size branch)
    clearsign.go  ClearSign (framing written around clearsign.Encode's dash escaper, which is ported byte for byte),
                  tailClearSign / DetachClearSign, headClearSign / MergeClearSign (bufio.Scanner with ScanLines)
  The signature packet / armored signature block produced by the third-party library is an opaque byte string.
  Core Lean only.
-/
import Relic.Base.Bytes
namespace Relic.Pgp
open Relic

/-! ### inline.go -/

/-- `maxLiteralSize = (1 << 31) - 512` -/
def maxLiteralSize : Nat := 2 ^ 31 - 512

/-- the length octets `serializeHeader` writes behind the tag octet (`length` is a Go int; the callers pass 13 and
    `int(psize)` with `6 ≤ psize ≤ 2^32-1`; `byte(x)` truncates) -/
def serializeLength (n : Nat) : Bytes :=
  if n < 192 then [UInt8.ofNat n]
  else if n < 8384 then [UInt8.ofNat (192 + (n - 192) / 256), UInt8.ofNat (n - 192)]
  else [255, UInt8.ofNat (n / 2 ^ 24), UInt8.ofNat (n / 2 ^ 16), UInt8.ofNat (n / 2 ^ 8), UInt8.ofNat n]

/-- `serializeHeader(w, ptype, length)`: `buf[0] = 0x80 | 0x40 | byte(ptype)` then the length -/
def serializeHeader (ptype n : Nat) : Bytes :=
  ((0xC0 : UInt8) ||| UInt8.ofNat ptype) :: serializeLength n

/-- what `serializeLiteral` puts between the packet header and the data: 'b', the file name (cut to 255 bytes) with its
    length octet, a zero timestamp -/
def literalMeta (filename : Bytes) : Bytes :=
  let fn := filename.take 255
  [0x62, UInt8.ofNat fn.length] ++ fn ++ [0, 0, 0, 0]

/-- `serializeLiteral(w, r, size, filename)` with `size = len(body)` -/
def serializeLiteral (body filename : Bytes) : Res Bytes :=
  let m := literalMeta filename
  let psize := body.length + m.length
  if psize > 2 ^ 32 - 1 then .err "toobig"
  else .ok (serializeHeader 11 psize ++ m ++ body)

/-- the fields `writeOnePass` copies out of the detached signature (parsed by the third-party library) -/
structure SigInfo where
  sigType : UInt8
  hashId : UInt8
  pkAlgo : UInt8
  keyId : Nat
  deriving DecidableEq, Repr

/-- `writeOnePass`: `packet.OnePassSignature{…, IsLast: true}.Serialize` = header(4, 13) ‖ 3 ‖ type ‖ hash ‖ algo ‖ key id ‖ 1 -/
def onePass (i : SigInfo) : Bytes :=
  serializeHeader 4 13 ++ [3, i.sigType, i.hashId, i.pkAlgo] ++ beBytes 8 i.keyId ++ [1]

/-- `MergeSignature(w, sig, message, false, filename)` for a seekable message: one-pass header, literal data, signature.
    Messages above `maxLiteralSize` take the library's partial-length writer (`getSize` = -1): outside the model. -/
def mergeSignature (i : SigInfo) (sig body filename : Bytes) : Res Bytes :=
  if body.length > maxLiteralSize then .err "streamed"
  else match serializeLiteral body filename with
    | .ok lit => .ok (onePass i ++ lit ++ sig)
    | .err e => .err e
    | .panic p => .panic p
    | .diverge => .diverge

/-! ### clearsign.go: the dash escaper that `ClearSign` drives (clearsign.Encode → dashEscaper.Write / Close) -/

def beginSigned : Bytes := ([45, 45, 45, 45, 45, 66, 69, 71, 73, 78, 32, 80, 71, 80, 32, 83, 73, 71, 78, 69, 68, 32, 77, 69, 83, 83, 65, 71, 69, 45, 45, 45, 45, 45] : Bytes)  /- -----BEGIN PGP SIGNED MESSAGE----- -/
def sigHeader : Bytes := ([45, 45, 45, 45, 45, 66, 69, 71, 73, 78, 32, 80, 71, 80, 32, 83, 73, 71, 78, 65, 84, 85, 82, 69, 45, 45, 45, 45, 45] : Bytes)  /- -----BEGIN PGP SIGNATURE----- -/
def crlf : Bytes := [13, 10]

/-- `b == ' ' || b == '\t' || b == '\r'` -/
def isWs (b : UInt8) : Bool := b = 32 || b = 9 || b = 13

structure EscSt where
  bol : Bool            -- atBeginningOfLine
  first : Bool          -- isFirstLine
  ws : Bytes            -- whitespace held back
  deriving DecidableEq, Repr

def EscSt.init : EscSt := ⟨true, true, []⟩

/-- `dashEscaper.Write` byte by byte, then `Close` (the part in front of the armored signature): the pair
    (bytes written to the output, bytes written to the hash) -/
def esc (s : EscSt) : Bytes → Bytes × Bytes
  | [] => (if s.bol then [] else [10], [])
  | b :: bs =>
    -- "The final CRLF isn't included in the hash so we have to wait until this point"
    let pre : Bytes := if s.bol && !s.first then crlf else []
    let first := if s.bol then false else s.first
    if isWs b then
      let (o, h) := esc ⟨false, first, s.ws ++ [b]⟩ bs
      (o, pre ++ h)
    else if s.bol then
      if b = 45 then
        let (o, h) := esc ⟨false, first, s.ws⟩ bs
        (45 :: 32 :: 45 :: o, pre ++ 45 :: h)
      else if b = 10 then
        let (o, h) := esc ⟨true, first, s.ws⟩ bs
        (10 :: o, pre ++ h)
      else
        let (o, h) := esc ⟨false, first, s.ws⟩ bs
        (b :: o, pre ++ b :: h)
    else
      if b = 10 then
        let (o, h) := esc ⟨true, first, []⟩ bs
        (10 :: o, h)
      else
        let (o, h) := esc ⟨false, first, []⟩ bs
        (s.ws ++ b :: o, s.ws ++ b :: h)

/-- the dash-escaped text `ClearSign` emits for `text` -/
def escaped (text : Bytes) : Bytes := (esc .init text).1
/-- the octets `ClearSign` feeds to the hash for `text` -/
def hashed (text : Bytes) : Bytes := (esc .init text).2

def hashLine (hashName : Bytes) : Bytes := ([72, 97, 115, 104, 58, 32] : Bytes)  /- Hash:  -/ ++ hashName

/-- everything `ClearSign` writes in front of the armored signature -/
def clearSignHead (hashName text : Bytes) : Bytes :=
  beginSigned ++ [10] ++ hashLine hashName ++ [10, 10] ++ escaped text

/-- `ClearSign(w, signer, message, config)`: `armor` is what armor.Encode + Signature.Serialize wrote
    ("-----BEGIN PGP SIGNATURE-----\n…\n-----END PGP SIGNATURE-----", no line end); relic appends CR LF -/
def clearSign (hashName text armor : Bytes) : Bytes :=
  clearSignHead hashName text ++ armor ++ crlf

/-! ### bufio.Scanner with ScanLines, as used by headClearSign / tailClearSign -/

/-- bufio.MaxScanTokenSize: a line whose bytes in front of the LF (or of the end of input) number this many or more makes
    the scanner stop with ErrTooLong -/
def maxTok : Nat := 65536

/-- the tokens ScanLines cuts (before the CR is dropped): pieces between line feeds; a final piece without line feed is a
    token when it is not empty -/
def rawTokens : Bytes → List Bytes
  | [] => []
  | b :: bs =>
    if b = 10 then [] :: rawTokens bs
    else match rawTokens bs with
      | [] => [[b]]
      | l :: ls => (b :: l) :: ls

/-- bufio's `dropCR` -/
def dropCR (l : Bytes) : Bytes := if l.getLast? = some 13 then l.dropLast else l

/-- `headClearSign` on the token list: copy lines (with CR LF) up to the signature header line -/
def headToks : List Bytes → Res Bytes
  | [] => .err "nosig"
  | t :: ts =>
    if t.length ≥ maxTok then .err "toolong"
    else if dropCR t = sigHeader then .ok []
    else match headToks ts with
      | .ok o => .ok (dropCR t ++ crlf ++ o)
      | e => e

def headClearSign (bs : Bytes) : Res Bytes := headToks (rawTokens bs)

/-- `tailClearSign` on the token list: the lines from the first signature header line on (with CR LF) -/
def tailToks (copying : Bool) : List Bytes → Res Bytes
  | [] => .ok []
  | t :: ts =>
    if t.length ≥ maxTok then .err "toolong"
    else if copying || dropCR t = sigHeader then
      match tailToks true ts with
      | .ok o => .ok (dropCR t ++ crlf ++ o)
      | e => e
    else tailToks false ts

def tailClearSign (bs : Bytes) : Res Bytes := tailToks false (rawTokens bs)

/-- `DetachClearSign`: ClearSign into a pipe, tailClearSign reads it.  Before e51bb1f (F43), when the scanner stopped early the
    reading goroutine waited on `done` and the writer on the pipe: neither returned. -/
def detachClearSign (hashName text armor : Bytes) : Res Bytes :=
  -- as repaired (e51bb1f) the reader closes the pipe with its error: the scanner's error is returned
  tailClearSign (clearSign hashName text armor)

/-- the block the fake signer of `MergeClearSign` yields (`headClearSign` stops at its first line) -/
def fakeArmor : Bytes := sigHeader ++ [10, 10] ++ ([61, 102, 97, 107, 101] : Bytes)  /- =fake -/ ++ [10] ++ ([45, 45, 45, 45, 45, 69, 78, 68, 32, 80, 71, 80, 32, 83, 73, 71, 78, 65, 84, 85, 82, 69, 45, 45, 45, 45, 45] : Bytes)  /- -----END PGP SIGNATURE----- -/

/-- `MergeClearSign(w, sig, message)`: run ClearSign with a fake signer (hash name taken from `sig` by the library), keep
    what comes before the signature header line, append `sig` -/
def mergeClearSign (hashName text sig : Bytes) : Res Bytes :=
  match headClearSign (clearSign hashName text fakeArmor) with
  | .ok h => .ok (h ++ sig)
  | e => e

end Relic.Pgp
