/-
  Relic.Model.ApkSign — the APK Signing Block as relic writes and reads it (signers/apk/digest.go `makeSigBlock`,
  verify.go `getSigBlock` and the id-value loop of `verify`, serializer.go's uint32-length-prefixed framing as far as
  needed to reach the digests of the first v2 signer), and the *specification's* view of a signed APK: where the
  block is (immediately before the central directory, found through the magic and the size field in front of it)
  and which byte strings are the integrity-protected sections 1, 3, 4 (contents of ZIP entries, central directory,
  end of central directory with the directory offset pointing at the signing block).
  The chunked digest itself is `Relic.Spec.ApkV2.digest`; hashes never run in Lean.
  Core Lean only.
-/
import Relic.Base.Bytes
import Relic.Spec.ApkV2
namespace Relic.ApkSign
open Relic

/-- "APK Sig Block 42" -/
def magic : Bytes := [65, 80, 75, 32, 83, 105, 103, 32, 66, 108, 111, 99, 107, 32, 52, 50]
def sigApkV2 : Nat := 0x7109871a

/-- `makeSigBlock`: size ‖ (size ‖ id ‖ value) ‖ size ‖ magic, one pair (the v2 signer list) -/
def makeSigBlock (sblob : Bytes) : Bytes :=
  leBytes 8 (8 + 4 + sblob.length + 8 + 16) ++ leBytes 8 (4 + sblob.length) ++ leBytes 4 sigApkV2 ++ sblob ++
  leBytes 8 (8 + 4 + sblob.length + 8 + 16) ++ magic

/-- the checks of `getSigBlock` on `blob = f[sigLoc:DirLoc]` (non-empty): the id-value area.
    `blob[len-24:]` and `blob[8:len-24]` are evaluated without a length check: a blob of 16..31 bytes that ends with
    the magic (and, from 24 bytes on, carries consistent size fields) makes the Go code panic. -/
def getSigBlock (blob : Bytes) : Res Bytes :=
  if !magic.isSuffixOf blob then .err "malformed"
  else if blob.length < 24 then .panic "getSigBlock:blob[len-24:]"
  else
    let expected := blob.length - 8
    let size1 := leVal (blob.take 8)
    let size2 := leVal ((blob.drop (blob.length - 24)).take 8)
    if size1 ≠ expected ∨ size2 ≠ expected then .err "malformed"
    else if blob.length < 32 then .panic "getSigBlock:blob[8:len-24]"
    else .ok ((blob.drop 8).take (blob.length - 32))

/-- the loop of `verify` over the id-value pairs -/
def pairs : Nat → Bytes → Res (List (Nat × Bytes))
  | 0, _ => .ok []
  | fuel + 1, block =>
    if block.isEmpty then .ok []
    else if block.length < 12 then .err "truncated"
    else
      let partSize := leVal (block.take 8)
      let rest := block.drop 8
      if partSize < 4 ∨ partSize > rest.length then .err "truncated"
      else
        match pairs fuel (rest.drop partSize) with
        | .ok ps => .ok ((leVal (rest.take 4), (rest.take partSize).drop 4) :: ps)
        | e => e

/-- one uint32-length-prefixed item: (content, remainder) -/
def lp (b : Bytes) : Option (Bytes × Bytes) :=
  if b.length < 4 then none
  else
    let n := leVal (b.take 4)
    if b.length < 4 + n then none else some ((b.drop 4).take n, b.drop (4 + n))

def digestList : Nat → Bytes → Option (List (Nat × Bytes))
  | 0, _ => some []
  | fuel + 1, b =>
    if b.isEmpty then some [] else do
      let (d, rest) ← lp b
      if d.length < 4 then none
      let (v, _) ← lp (d.drop 4)
      let more ← digestList fuel rest
      pure ((leVal (d.take 4), v) :: more)

/-- digests (algorithm id, value) in the signed data of the first signer of a v2 block value -/
def v2Digests (part : Bytes) : Option (List (Nat × Bytes)) := do
  let (signers, _) ← lp part
  let (signer0, _) ← lp signers
  let (sd, _) ← lp signer0
  let (digs, _) ← lp sd
  digestList digs.length digs

/-! ### the specification's view -/

def eocdSig : Bytes := [0x50, 0x4b, 0x05, 0x06]

/-- End of Central Directory: the last position `p` with the signature whose comment length reaches the end of file -/
def findEocd (f : Bytes) : Nat → Nat → Option Nat
  | 0, _ => none
  | fuel + 1, k =>
    if f.length < 22 + k then none
    else
      let p := f.length - 22 - k
      if (f.drop p).take 4 == eocdSig ∧ leVal ((f.drop (p + 20)).take 2) == k then some p
      else findEocd f fuel (k + 1)

structure Extents where
  /-- section 1: contents of ZIP entries = everything before the signing block -/
  contents : Bytes
  /-- section 2: the signing block (empty when the file is not v2-signed) -/
  block : Bytes
  /-- section 3 -/
  cdir : Bytes
  /-- section 4 as it is digested: the directory offset field holds the start of the signing block -/
  eocd : Bytes
  cdOff : Nat
  deriving Repr, DecidableEq

def extents (f : Bytes) : Res Extents :=
  match findEocd f 65536 0 with
  | none => .err "noeocd"
  | some p =>
    let cdSize := leVal ((f.drop (p + 12)).take 4)
    let cdOff := leVal ((f.drop (p + 16)).take 4)
    if cdOff + cdSize > p then .err "baddir"
    else
      let eocd := f.drop p
      let rebased (start : Nat) : Bytes := eocd.take 16 ++ leBytes 4 start ++ eocd.drop 20
      if cdOff ≥ 32 ∧ (f.drop (cdOff - 16)).take 16 == magic then
        let size2 := leVal ((f.drop (cdOff - 24)).take 8)
        if size2 + 8 > cdOff ∨ size2 < 24 then .err "badblock"
        else
          let start := cdOff - (size2 + 8)
          if leVal ((f.drop start).take 8) ≠ size2 then .err "badblock"
          else .ok { contents := f.take start, block := (f.drop start).take (size2 + 8), cdir := (f.drop cdOff).take cdSize,
                     eocd := rebased start, cdOff := cdOff }
      else .ok { contents := f.take cdOff, block := [], cdir := (f.drop cdOff).take cdSize, eocd := rebased cdOff, cdOff := cdOff }

def merkleBlock : Nat := 1048576

/-- the chunks whose digests make up the v2 content digest of `f` according to the specification -/
def specChunks (e : Extents) : List Bytes := Spec.ApkV2.chunkList merkleBlock e.contents e.cdir e.eocd

end Relic.ApkSign
