/-
  Relic.Model.Authz — executable model of relic's server-side authentication and
  key authorisation in certificate mode:

    config/config.go         GetKey, ListServedTokens, Normalize (client key check)
    config/client.go         ClientConfig.Match  (x509 path validation is the abstract `chainsTo`)
    internal/authmodel       Middleware, CertificateAuth.Authenticate, CertificateInfo.Allowed
    internal/realip          (Relic.Model.RealIP)
    server/server.go         New/openTokens (start-up), Handler (routes)
    server/view_sign.go      serveSign up to and including the token calls
    server/view_getkey.go    serveGetKey
    server/view_listkeys.go  serveListKeys
    internal/httperror       status codes / problem types

  The token layer is an event log (`getkey:<token>:<name>`, `sign:<token>:<name>`), so
  "before any token or key is touched" is a statement about that log.
  Go maps are modelled as association lists; where the code iterates over a map and stops
  at the first hit (`Authenticate` over CA clients) the model returns *every* possible
  outcome (`handle : … → List Outcome`, one per client the iteration could stop at).
  Policy (OPA) mode: Relic.Model.AuthzPolicy.  Core Lean only.
-/
import Relic.Base.Bytes
import Relic.Model.RealIP
namespace Relic.Authz
open Relic Relic.RealIP

/-- a client entry of `clients:`.  `key` is the map key (lower-cased by Normalize): the hex
    SHA-256 of the SPKI for fingerprint clients, anything for CA clients.
    `ca = some anchors`: `certificate:` is set and holds these trust anchors. -/
structure Client where
  key : String
  valid64 : Bool          -- len(key) == 64 (only checked by Normalize when no certificate is set)
  nick : String
  roles : List String
  ca : Option (List Nat)
  deriving Repr, DecidableEq

structure Key where
  name : String
  token : String
  alias : String
  roles : List String
  hide : Bool
  deriving Repr, DecidableEq

/-- the certificate chain a peer presented: fingerprint of the leaf SPKI and the set of trust
    anchors to which `x509.Verify(leaf, intermediates, ClientAuth)` finds a valid path
    (`anchors` is the abstract `chainsTo` relation, given as data) -/
structure Chain where
  fp : String
  anchors : List Nat
  deriving Repr, DecidableEq

structure Config where
  clients : List Client
  keys : List Key
  tokens : List String
  proxiesOK : Bool            -- every trusted_proxies entry parses
  inNets : String → Bool      -- ParseIP(addr) ≠ nil ∧ some trusted net contains it

/-- decoded `Ssl-Client-Cert` header -/
inductive HdrCert where
  | absent                       -- header missing or empty
  | bad                          -- URL-unescape or x509.ParseCertificate fails
  | certs (c : Option Chain)     -- PEM decodes; `none`: no CERTIFICATE block
  deriving Repr, DecidableEq

inductive Endpoint where
  | health | directory | home | listKeys
  | getKey (name : String)
  | sign (key : String) (hasFilename : Bool) (sigTypeKnown : Bool)
  deriving Repr, DecidableEq

structure Req where
  remoteAddr : String
  tls : Option Chain             -- req.TLS.PeerCertificates (none: no TLS or empty list)
  xff : List String              -- X-Forwarded-For header values
  sslCert : HdrCert
  ep : Endpoint
  deriving Repr, DecidableEq

/-- one call into the token layer -/
structure Event where
  op : String                    -- "getkey" | "sign"
  token : String
  key : String
  deriving Repr, DecidableEq

structure Resp where
  status : Nat
  problem : String := ""
  ip : String := ""              -- StripPort(req.RemoteAddr) after the realip middleware
  user : String := ""            -- name of the authenticated client ("" before authentication)
  keys : List String := []
  events : List Event := []      -- token event log
  deriving Repr, DecidableEq

inductive Outcome where
  | resp (r : Resp)
  | panic (site : String) (ip : String)   -- handler panics (RecoveryMiddleware turns it into a 500)
  | startErr (cls : String)               -- server construction refuses the configuration
  deriving Repr, DecidableEq

def Outcome.events : Outcome → List Event
  | .resp r => r.events
  | _ => []
def Outcome.is2xx : Outcome → Bool
  | .resp r => decide (200 ≤ r.status) && decide (r.status < 300)
  | _ => false
def Outcome.isPanic : Outcome → Bool
  | .panic _ _ => true
  | _ => false

/-! ### config.GetKey -/

def lookupKey (cfg : Config) (n : String) : Option Key := cfg.keys.find? (·.name == n)

/-- `config.GetKey`.  `fixed = false` is the code as found (046e39f): when the alias names no key the error message
    dereferences the nil result of the lookup.  `fixed = true` is the code as it is in /repo (the alias lookup is checked). -/
def getKeyWith (fixed : Bool) (cfg : Config) (n : String) : Res Key :=
  match lookupKey cfg n with
  | none => .err "key-not-found"
  | some k =>
    if k.alias ≠ "" then
      match lookupKey cfg k.alias with
      | none => if fixed then .err "alias-undefined" else .panic "config.GetKey:nil-alias"
      | some t => if t.token = "" then .err "no-token" else .ok t
    else if k.token = "" then .err "no-token" else .ok k

def getKey := getKeyWith true

/-! ### start-up: Normalize, realip.Middleware, openTokens -/

/-- `ListServedTokens` (as a list with possible repetitions) -/
def servedTokens (cfg : Config) : List String :=
  (cfg.keys.filter (fun k => !k.roles.isEmpty)).map (·.token)

def startCheck (cfg : Config) : Option String :=
  if cfg.clients.any (fun c => c.ca.isNone && !c.valid64) then some "clients"
  else if !cfg.proxiesOK then some "proxies"
  else if (servedTokens cfg).any (fun t => !cfg.tokens.contains t) then some "tokens"
  else none

/-- `s.tokens[name] != nil` -/
def tokenOpen (cfg : Config) (t : String) : Bool := (servedTokens cfg).contains t && cfg.tokens.contains t

/-! ### authentication (certificate mode) -/

/-- `ClientConfig.Match` -/
def chainsTo (ch : Chain) (c : Client) : Bool :=
  match c.ca with
  | none => false
  | some as => as.any (fun a => ch.anchors.contains a)

/-- every client `Authenticate` can end up with: the fingerprint entry if there is one,
    otherwise whichever CA client the map iteration reaches first -/
def candidates (cfg : Config) (ch : Chain) : List Client :=
  match cfg.clients.find? (·.key == ch.fp) with
  | some c => [c]
  | none => cfg.clients.filter (chainsTo ch)

/-- `realip.PeerCertificates` -/
def peerCerts (proxied : Bool) (req : Req) : Res (Option Chain) :=
  if !proxied then .ok req.tls
  else match req.sslCert with
    | .absent => .ok none
    | .bad => .err "ssl-client-cert"
    | .certs c => .ok c

/-- `CertificateInfo.Allowed` -/
def allowed (c : Client) (k : Key) : Bool := k.roles.any (fun r => c.roles.contains r)

/-- `user.Name`: the nickname, else the first 12 hex digits of the *presented* fingerprint (printed as `~fp`) -/
def userName (c : Client) (ch : Chain) : String := if c.nick = "" then "~" ++ ch.fp else c.nick

/-! ### views -/

def insertSorted (a : String) : List String → List String
  | [] => [a]
  | b :: bs => if a ≤ b then a :: b :: bs else b :: insertSorted a bs

/-- `sort.Strings` -/
def sortStrings : List String → List String
  | [] => []
  | a :: as => insertSorted a (sortStrings as)

/-- the loop body of serveListKeys -/
def listed (cfg : Config) (c : Client) (k : Key) : Bool :=
  if k.hide then false
  else if k.alias ≠ "" then
    match lookupKey cfg k.alias with
    | none => false
    | some t => !t.hide && allowed c t
  else !k.hide && allowed c k

def listKeys (cfg : Config) (c : Client) : List String :=
  sortStrings ((cfg.keys.filter (listed cfg c)).map (·.name))

def forbidden (ip user : String) : Outcome := .resp { status := 403, problem := "forbidden", ip, user }

def view (fixed : Bool) (cfg : Config) (c : Client) (user : String) (ip : String) : Endpoint → Outcome
  | .health | .directory | .home => .resp { status := 200, ip, user }
  | .listKeys => .resp { status := 200, ip, user, keys := listKeys cfg c }
  | .getKey n =>
    match getKeyWith fixed cfg n with
    | .ok kc =>
      if allowed c kc then
        if tokenOpen cfg kc.token then
          .resp { status := 200, ip, user, events := [⟨"getkey", kc.token, kc.name⟩] }
        else .resp { status := 500, problem := "missing-token", ip, user }
      else forbidden ip user
    | .panic s => .panic s ip
    | _ => forbidden ip user
  | .sign n hasFile sigOK =>
    if n = "" then .resp { status := 400, problem := "missing-parameter", ip, user }
    else if !hasFile then .resp { status := 400, problem := "missing-parameter", ip, user }
    else match getKeyWith fixed cfg n with
      | .ok kc =>
        if allowed c kc then
          if !sigOK then .resp { status := 400, problem := "unknown-signature-type", ip, user }
          else if tokenOpen cfg kc.token then
            .resp { status := 200, ip, user,
                    events := [⟨"getkey", kc.token, kc.name⟩, ⟨"sign", kc.token, kc.name⟩] }
          else .resp { status := 500, problem := "missing-token", ip, user }
        else forbidden ip user
      | .panic s => .panic s ip
      | _ => forbidden ip user

def Endpoint.isPublic : Endpoint → Bool
  | .health | .directory => true
  | _ => false

/-- what the rest of the server sees of the transport: derived address, and the certificates
    `PeerCertificates` would return -/
def transportView (cfg : Config) (req : Req) : String × Res (Option Chain) :=
  let (addr, proxied) := trustedClient cfg.inNets req.remoteAddr req.xff
  (stripPort addr, peerCerts proxied req)

/-- the whole server: start-up, realip, routing, authentication middleware, view.
    One outcome per client the map iteration in `Authenticate` could select. -/
def handleWith (fixed : Bool) (cfg : Config) (req : Req) : List Outcome :=
  match startCheck cfg with
  | some e => [.startErr e]
  | none =>
    let (ip, pc) := transportView cfg req
    if req.ep.isPublic then
      -- /health marks itself DontLog: no address is recorded at all
      [.resp { status := 200, ip := if req.ep = .health then "" else ip }]
    else match pc with
      | .ok none => [.resp { status := 401, problem := "certificate-required", ip }]
      | .ok (some ch) =>
        match candidates cfg ch with
        | [] => [.resp { status := 401, problem := "certificate-not-recognized", ip }]
        | cs => cs.map fun c => view fixed cfg c (userName c ch) ip req.ep
      | _ => [.resp { status := 500, problem := "unhandled", ip }]

def handle := handleWith true

/-! ### specification-side notions (used by the theorems and by the driver's ground-truth tag) -/

/-- the key a name stands for: one alias hop -/
def resolve (cfg : Config) (n : String) : Option Key :=
  match lookupKey cfg n with
  | none => none
  | some k => if k.alias = "" then some k else lookupKey cfg k.alias

/-- the configuration recognises the presenter of `ch` as client `c` -/
def recognises (c : Client) (ch : Chain) : Bool := c.key == ch.fp || chainsTo ch c

def sharesRole (c : Client) (k : Key) : Bool := c.roles.any (fun r => k.roles.contains r)

/-- the certificates that count as presented by the caller: the TLS peer chain, unless the direct peer is
    a trusted proxy that relays a forwarded-for hop, in which case the proxy's `Ssl-Client-Cert` -/
def presented (cfg : Config) (req : Req) : Option Chain :=
  match (transportView cfg req).2 with
  | .ok c => c
  | _ => none

def Endpoint.keyName : Endpoint → Option String
  | .getKey n => some n
  | .sign n _ _ => some n
  | _ => none

/-- ground truth of the property for client `c`: may `c` use the key that `n` resolves to? -/
def entitled (cfg : Config) (c : Client) (n : String) : Bool :=
  match resolve cfg n with
  | some t => sharesRole c t
  | none => false

/-- a name is hidden if its own entry or the entry it is an alias of says so -/
def hidden (cfg : Config) (k : Key) : Bool :=
  k.hide || (if k.alias = "" then false else match lookupKey cfg k.alias with | some t => t.hide | none => false)

/-- would `/sign?key=n` pass authorisation (reach the token) for client `c` -/
def signAuthorised (cfg : Config) (c : Client) (n : String) : Bool :=
  match getKey cfg n with
  | .ok kc => allowed c kc
  | _ => false

/-- specification of the listing: sorted non-hidden names for which /sign would pass authorisation -/
def specList (cfg : Config) (c : Client) : List String :=
  sortStrings ((cfg.keys.filter fun k => !hidden cfg k && signAuthorised cfg c k.name).map (·.name))

/-- the malformed entries of the property text -/
def malformed (cfg : Config) (n : String) : Bool :=
  match lookupKey cfg n with
  | none => false
  | some k =>
    if k.alias ≠ "" then
      match lookupKey cfg k.alias with
      | none => true                       -- dangling alias
      | some t => t.token == ""            -- alias of an alias (or of any entry) that has no token
    else k.token == ""                     -- key without token

/-! ### the property as predicates (statement level; not executed) -/

/-- the caller presented a certificate the configuration recognises as some client that shares a role with
    the key the requested name resolves to (one alias hop) -/
def Entitled (cfg : Config) (req : Req) (n : String) : Prop :=
  ∃ ch c t, presented cfg req = some ch ∧ c ∈ cfg.clients ∧ recognises c ch = true ∧
    resolve cfg n = some t ∧ (∃ r, r ∈ c.roles ∧ r ∈ t.roles)

/-- the same with the witnesses exposed, plus: the token calls go to the resolved key's token -/
def EntitledFor (cfg : Config) (req : Req) (n : String) (o : Outcome) : Prop :=
  ∃ ch c t, presented cfg req = some ch ∧ c ∈ cfg.clients ∧ recognises c ch = true ∧
    resolve cfg n = some t ∧ (∃ r, r ∈ c.roles ∧ r ∈ t.roles) ∧ ∀ e ∈ o.events, e.token = t.token ∧ e.key = t.name

/-- a request is refused: nothing was signed or disclosed, no token was touched, and the answer is one of
    the refusal codes.  400 only for a missing `key`/`filename` parameter (checked before authorisation);
    500 only when a trusted proxy's `Ssl-Client-Cert` header does not decode. -/
def Refused (req : Req) : Outcome → Prop
  | .startErr _ => True
  | .panic _ _ => False
  | .resp r => r.events = [] ∧ r.keys = [] ∧
      (r.status = 401 ∨ r.status = 403 ∨ (r.status = 400 ∧ r.problem = "missing-parameter") ∨
       (r.status = 500 ∧ r.problem = "unhandled" ∧ req.sslCert = .bad))

end Relic.Authz
