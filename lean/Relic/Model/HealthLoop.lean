/-
  Relic.Model.HealthLoop — a tiny language for the control skeleton of `healthCheckLoop`
  (/repo/server/view_health.go) and its semantics.

  Shape covered (everything else is emitted by the extractor as `.unsupported`, which makes `exitsOnClose`
  false wherever it inspects a statement: before the `select`, in a case receiving from the closed channel,
  in the rest of the function behind a labelled `break`; there the obligation fails rather than silently
  passing.  In the other case bodies, in `post` and as a guard it is not inspected):

      [label:] for {            -- no condition
          pre…                  -- simple statements
          [selLabel:] select { case <guard>: body… }
          post…
      }
      after…                    -- rest of the function

  Simple statements: a call statement (`call name`), any other statement without control flow
  (`other`: assignments, declarations, …; assumed to terminate), `break [L]`, `continue [L]`, `return`.

  Go semantics respected here (spec, "Break statements"): an unlabeled `break` terminates the innermost
  `for`, `switch` **or `select`**; inside a `select` case it therefore leaves only the `select`.

  Executions are driven by a *schedule*: the index of the `select` case the runtime picks in each
  iteration.  A receive from a closed channel is always ready, so once `s.Closed` is closed its case
  is enabled in every iteration; if several cases are ready Go picks one at random, which is why the
  schedule is universally quantified in the theorems.  Recursion is structural on the schedule.
  Core Lean only: linked into the native driver.
-/
namespace Relic.HealthLoop

inductive Stmt where
  | call (name : String)
  | other
  | break_ (label : Option String)
  | continue_ (label : Option String)
  | return_
  | unsupported (what : String)
  deriving DecidableEq, Repr

inductive Guard where
  | recv (chan : String)
  | send (chan : String)
  | default_
  | unsupported
  deriving DecidableEq, Repr

structure Case where
  guard : Guard
  body : List Stmt
  deriving DecidableEq, Repr

structure Loop where
  label : Option String
  pre : List Stmt
  selLabel : Option String
  cases : List Case
  post : List Stmt
  after : List Stmt
  deriving DecidableEq, Repr

/-! ### semantics -/

/-- how a statement list ends -/
inductive Flow where
  | fall
  | brk (l : Option String)
  | cont (l : Option String)
  | ret
  | unk
  deriving DecidableEq, Repr

/-- run a list of simple statements: the calls performed, and how it ended -/
def exec : List Stmt → List String × Flow
  | [] => ([], .fall)
  | .call n :: r => let p := exec r; (n :: p.1, p.2)
  | .other :: r => exec r
  | .break_ l :: _ => ([], .brk l)
  | .continue_ l :: _ => ([], .cont l)
  | .return_ :: _ => ([], .ret)
  | .unsupported _ :: _ => ([], .unk)

/-- what a `Flow` means at the place where it surfaces -/
inductive Step where
  | fall    -- go on with the following statements
  | next    -- next iteration of the loop
  | leave   -- the loop is left; the function continues after it
  | ret     -- the function returns
  | stuck   -- not modelled (would not compile, or unsupported)
  deriving DecidableEq, Repr

/-- directly in the body of the `for` with label `ll` -/
def atLoop (ll : Option String) : Flow → Step
  | .fall => .fall
  | .brk none => .leave
  | .brk (some l) => if ll = some l then .leave else .stuck
  | .cont none => .next
  | .cont (some l) => if ll = some l then .next else .stuck
  | .ret => .ret
  | .unk => .stuck

/-- inside a case of the `select` labelled `sl` inside the `for` labelled `ll` -/
def inSelect (ll sl : Option String) : Flow → Step
  | .fall => .fall
  | .brk none => .fall     -- Go: leaves only the select
  | .brk (some l) => if sl = some l then .fall else if ll = some l then .leave else .stuck
  | .cont none => .next
  | .cont (some l) => if ll = some l then .next else .stuck
  | .ret => .ret
  | .unk => .stuck

inductive Out where
  | running   -- the goroutine is still in the loop
  | exited    -- the function has returned
  | stuck
  deriving DecidableEq, Repr

/-- the loop was left by `break`: run the rest of the function -/
def finish (t : Loop) (calls : List String) : Out × List String :=
  let a := exec t.after
  match a.2 with
  | .fall => (.exited, calls ++ a.1)
  | .ret => (.exited, calls ++ a.1)
  | _ => (.stuck, calls ++ a.1)

/-- one iteration in which the runtime picks case number `choice` -/
def iter (t : Loop) (choice : Nat) : Out × List String :=
  let p := exec t.pre
  match atLoop t.label p.2 with
  | .next => (.running, p.1)
  | .leave => finish t p.1
  | .ret => (.exited, p.1)
  | .stuck => (.stuck, p.1)
  | .fall =>
    match t.cases[choice]? with
    | none => (.stuck, p.1)
    | some c =>
      let b := exec c.body
      match inSelect t.label t.selLabel b.2 with
      | .next => (.running, p.1 ++ b.1)
      | .leave => finish t (p.1 ++ b.1)
      | .ret => (.exited, p.1 ++ b.1)
      | .stuck => (.stuck, p.1 ++ b.1)
      | .fall =>
        let q := exec t.post
        match atLoop t.label q.2 with
        | .fall => (.running, p.1 ++ b.1 ++ q.1)
        | .next => (.running, p.1 ++ b.1 ++ q.1)
        | .leave => finish t (p.1 ++ b.1 ++ q.1)
        | .ret => (.exited, p.1 ++ b.1 ++ q.1)
        | .stuck => (.stuck, p.1 ++ b.1 ++ q.1)

/-- iterations following a schedule; stops at the first iteration that does not continue -/
def run (t : Loop) : List Nat → Out × List String
  | [] => (.running, [])
  | c :: cs =>
    match iter t c with
    | (.running, calls) => let r := run t cs; (r.1, calls ++ r.2)
    | r => r

/-! ### syntactic predicates (decidable; evaluated on the generated term) -/

/-- no control flow and not a call of `hc` -/
def Stmt.quiet (hc : String) : Stmt → Bool
  | .other => true
  | .call n => n != hc
  | _ => false

/-- no control flow at all (may call anything) -/
def Stmt.passive : Stmt → Bool
  | .other => true
  | .call _ => true
  | _ => false

/-- the rest of the function performs no `hc` and reaches its end or a `return` -/
def quietEnd (hc : String) : List Stmt → Bool
  | [] => true
  | .return_ :: _ => true
  | s :: r => s.quiet hc && quietEnd hc r

/-- the case body reaches, without calling `hc`, a `return` or a `break` labelled with the loop's label -/
def endsInExit (hc : String) (ll sl : Option String) (afterOk : Bool) : List Stmt → Bool
  | [] => false
  | .return_ :: _ => true
  | .break_ (some l) :: _ => ll == some l && sl != some l && afterOk
  | s :: r => s.quiet hc && endsInExit hc ll sl afterOk r

def isClosedCase (ch : String) (c : Case) : Bool := c.guard == .recv ch

/-- **exitsOnClose**: there is a case receiving from `ch`; every such case ends the function without
    calling `hc`; nothing before the `select` calls `hc` or diverts control. -/
def exitsOnClose (hc ch : String) (t : Loop) : Bool :=
  t.pre.all (Stmt.quiet hc) &&
  t.cases.any (isClosedCase ch) &&
  t.cases.all (fun c => !isClosedCase ch c ||
    endsInExit hc t.label t.selLabel (quietEnd hc t.after) c.body)

/-- **spinsOnClose** (defect F1's shape): a case receiving from `ch` whose body is a bare `break`,
    around it only statements without control flow. -/
def spinsOnClose (ch : String) (t : Loop) : Bool :=
  t.pre.all Stmt.passive && t.post.all Stmt.passive &&
  t.cases.any (fun c => isClosedCase ch c && c.body == [.break_ none])

/-- no statement anywhere in the loop can end it -/
def noExit (t : Loop) : Bool :=
  t.pre.all Stmt.passive && t.post.all Stmt.passive &&
  t.cases.all (fun c => c.body.all (fun s => s.passive || s == .break_ none || s == .continue_ none))

/-- index of the first case receiving from `ch` -/
def closedIdx (ch : String) (t : Loop) : Option Nat :=
  let i := t.cases.findIdx (isClosedCase ch)
  if i < t.cases.length then some i else none

/-- the names used by relic -/
def hcName : String := "s.healthCheck"
def closedChan : String := "s.Closed"

/-- shape of `Healthy`'s two comparisons, regenerated from source (T-gen): operators as Go tokens -/
structure HealthyShape where
  staleOp : String
  staleFactor : Int
  statusOp : String
  statusRhs : Int
  disabledFirst : Bool
  deriving DecidableEq, Repr

/-- the shape `Relic.Health.healthy` models -/
def modelledHealthyShape : HealthyShape := ⟨">", 3, ">", 0, true⟩

end Relic.HealthLoop
