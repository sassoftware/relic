/-
  Relic.Model.ScdToken — token/scdtoken/scdtoken.go.

  Part 1 (`Relic.ScdToken`): the token methods against a daemon (Open/login, GetKey, ListKeys, Close, scdKey.Sign), built on
  the client of Relic.Model.Assuan; every pointer dereference / index that Go would check at run time is explicit.

  Part 2 (`Relic.ScdToken.Sched`): a small-step model of CONCURRENT calls on one token.  A call is a little program of
  events: acquire / release of the token mutex and transactions on the one shared connection (each `Conn.Transact` is atomic:
  it runs under `c.mu`).  The daemon side is what the protocol defines: the connection state is the last SETDATA value, PKSIGN
  signs whatever was stored last with the key named.  A schedule is ANY list of thread indices; a step is enabled unless it
  is an `acq` while the mutex is held.  Two lock disciplines: `locked` (the code as it is: mutex held from before SETDATA
  until after PKSIGN returns) and `unlocked` (mutex released before the card operation).
-/
import Relic.Model.Assuan
import Relic.Model.LockSpan
namespace Relic.ScdToken
open Relic Relic.Assuan

/-! ## Part 1: the token methods -/

structure KeyConf where
  name : String
  id : Bytes              -- keyConf.ID ("" = take the first key)
  deriving Repr, DecidableEq

structure TokenConf where
  serial : Bytes                    -- tconf.Serial ("" = any)
  pin : Option Bytes                -- tconf.Pin (nil = ask)
  getter : Option (List Bytes)      -- the PasswordGetter: `none` = nil getter; the list = its successive answers, then ""
  keys : List KeyConf
  deriving Repr

structure Token (σ : Type) where
  sock : ScdConn σ
  sockNil : Bool            -- `tok.sock == nil` (after Close); the keys keep their own pointer to the ScdConn
  serial : Bytes
  pin : Bytes
  keyInfos : List ScdKey
  conf : TokenConf

/-- `scdKey` -/
structure Key where
  key : ScdKey
  pub : RsaPub
  deriving Repr, DecidableEq

/-- `passprompt.Login` with keyring off, then the error mapping of `token.Login`.  One CHECKPIN per password supplied; the
    Nat counts the login attempts (calls of `loginFunc`). -/
def promptLoop {σ} (dm : Daemon σ) : ScdConn σ → List Bytes → ScdConn σ × Nat × Out Bytes
  | s, [] => (s, 0, .fail (.msg "aborted"))                    -- getter returned "": io.EOF → "Aborted"
  | s, p :: rest =>
    if p.isEmpty then (s, 0, .fail (.msg "aborted")) else
    match checkPin dm s p with
    | (s, .ok ()) => (s, 1, .ok p)
    | (s, .fail e) =>
      if e = .msg "badpin" then
        match promptLoop dm s rest with                        -- loginFunc: (false, nil) → ask again
        | (s', n, o) => (s', n + 1, o)
      else (s, 1, .fail e)
    | (s, .panic x) => (s, 1, .panic x)
    | (s, .block) => (s, 1, .block)

/-- `token.Login` as used by scdToken.login: the number of login attempts and the PIN that unlocked the token -/
def tokenLogin {σ} (dm : Daemon σ) (s : ScdConn σ) (tc : TokenConf) : ScdConn σ × Nat × Out Bytes :=
  match tc.pin with
  | some p =>
    match checkPin dm s p with          -- exactly one attempt with a configured PIN
    | (s, .ok ()) => (s, 1, .ok p)
    | (s, .fail e) => (s, 1, .fail e)
    | (s, .panic x) => (s, 1, .panic x)
    | (s, .block) => (s, 1, .block)
  | none =>
    match tc.getter with
    | none => (s, 0, .fail (.msg "nopin"))
    | some answers => promptLoop dm s answers

/-- `scdtoken.Open` (Dial + login).  On a login error the socket is closed. -/
def openToken {σ} (dm : Daemon σ) (s0 : σ) (tc : TokenConf) : ScdConn σ × Out (Token σ) :=
  match dial dm s0 with
  | (c, .fail e) => (⟨c, []⟩, .fail e)
  | (c, .panic x) => (⟨c, []⟩, .panic x)
  | (c, .block) => (⟨c, []⟩, .block)
  | (c, .ok ()) =>
    let s : ScdConn σ := ⟨c, []⟩
    match learn dm s with
    | (s, .fail e) => ({ s with conn := close s.conn }, .fail e)
    | (s, .panic x) => (s, .panic x)
    | (s, .block) => (s, .block)
    | (s, .ok infos) =>
      match idx infos 0 "scdtoken.login:keyInfos[0]" with
      | .panic x => (s, .panic x)
      | .fail e => (s, .fail e)
      | .block => (s, .block)
      | .ok k0 =>
        if !tc.serial.isEmpty && tc.serial ≠ k0.serial then ({ s with conn := close s.conn }, .fail (.msg "serial")) else
        match tokenLogin dm s tc with
        | (s, _, .ok pin) => (s, .ok { sock := s, sockNil := false, serial := k0.serial, pin := pin, keyInfos := infos, conf := tc })
        | (s, _, .fail e) => ({ s with conn := close s.conn }, .fail e)
        | (s, _, .panic x) => (s, .panic x)
        | (s, _, .block) => (s, .block)

/-- the loop of GetKey: the FIRST key info when `id` is empty, else the first whose KeyId equals `id`; `none` = `key` stays nil -/
def findKey (infos : List ScdKey) (id : Bytes) : Option ScdKey :=
  infos.find? fun kc => id.isEmpty || id = kc.keyId

/-- `scdToken.GetKey`, parametrised by what happens when no key info matches (`key` stays nil) -/
def getKeyWith {σ} (onNil : Out Key) (dm : Daemon σ) (t : Token σ) (name : String) : Token σ × Out Key :=
  match t.conf.keys.find? (·.name = name) with
  | none => (t, .fail (.msg "nokeyconf"))
  | some kc =>
    match findKey t.keyInfos kc.id with
    | none => (t, onNil)
    | some k =>
      if k.keyId.isEmpty then (t, .fail (.msg "notfound")) else
      match scdPublic dm t.sock.conn k with
      | (c, .ok p) => ({ t with sock := { t.sock with conn := c } }, .ok { key := k, pub := p })
      | (c, .fail e) => ({ t with sock := { t.sock with conn := c } }, .fail e)
      | (c, .panic x) => ({ t with sock := { t.sock with conn := c } }, .panic x)
      | (c, .block) => ({ t with sock := { t.sock with conn := c } }, .block)

/-- `scdToken.GetKey` as it is (commit e11c4f9): `if key == nil || key.KeyId == ""` → "key … not found in token …" -/
def getKey {σ} (dm : Daemon σ) (t : Token σ) (name : String) : Token σ × Out Key :=
  getKeyWith (.fail (.msg "notfound")) dm t name

/-- `scdToken.GetKey` BEFORE e11c4f9: `if key.KeyId == ""` with `key == nil` — a nil dereference (finding F-SCD-1) -/
def getKeyOrig {σ} (dm : Daemon σ) (t : Token σ) (name : String) : Token σ × Out Key :=
  getKeyWith (.panic "scdtoken.GetKey:key.KeyId (nil key)") dm t name

/-- `scdKey.Sign` (under the token mutex): `key.key.Sign(digest, opts, key.token.pin)` -/
def keySign {σ} (dm : Daemon σ) (t : Token σ) (k : Key) (digest : Bytes) (opts : SignOpts) : Token σ × Out Bytes :=
  match scdSign dm t.sock.conn k.key digest opts t.pin with
  | (c, o) => ({ t with sock := { t.sock with conn := c } }, o)

/-- `scdToken.Close` -/
def closeToken {σ} (t : Token σ) : Token σ :=
  if t.sockNil then t else { t with sock := { t.sock with conn := close t.sock.conn }, sockNil := true }

/-- one `Write` call made by ListKeys on its output -/
inductive Chunk where
  | serial (s : Bytes)                                  -- "serial: %#v\n"
  | header (i : Nat) (id fpr grip : Bytes)              -- "key %d:\n id: … fingerprint: … keygrip: …\n"
  | readErr (e : Err)                                   -- " error reading key: …\n"
  | rsa (p : RsaPub)                                    -- " n: 0x%x\n e: %d\n"
  deriving Repr

def listLoop {σ} (dm : Daemon σ) (id : Bytes) (values : Bool) : Conn σ → Nat → List ScdKey → List Chunk → Conn σ × Out (List Chunk)
  | c, _, [], acc => (c, .ok acc)
  | c, i, k :: rest, acc =>
    if !id.isEmpty && id ≠ k.keyId then listLoop dm id values c (i + 1) rest acc else
    let acc := acc ++ [Chunk.header (i + 1) k.keyId k.fingerprint k.keyGrip]
    if values then
      match scdPublic dm c k with
      | (c, .ok p) => listLoop dm id values c (i + 1) rest (acc ++ [.rsa p])
      | (c, .fail e) => listLoop dm id values c (i + 1) rest (acc ++ [.readErr e])
      | (c, .panic x) => (c, .panic x)
      | (c, .block) => (c, .block)
    else listLoop dm id values c (i + 1) rest acc

/-- `scdToken.ListKeys` -/
def listKeys {σ} (dm : Daemon σ) (t : Token σ) (id : Bytes) (values : Bool) : Token σ × Out (List Chunk) :=
  match listLoop dm id values t.sock.conn 0 t.keyInfos [Chunk.serial t.serial] with
  | (c, o) => ({ t with sock := { t.sock with conn := c } }, o)

/-! ## Part 2: concurrent calls on one token -/
namespace Sched

abbrev KeyId := Nat
abbrev Digest := Bytes

/-- an abstract signature: "made by key `key` over `digest`" -/
structure Sig where
  key : KeyId
  digest : Digest
  deriving Repr, DecidableEq

/-- a transaction on the connection (one `Conn.Transact`, atomic under `c.mu`) -/
inductive Txn where
  | setdata (d : Digest)
  | pksign (k : KeyId)
  | other                         -- READKEY / LEARN / CHECKPIN: does not touch the stored data
  deriving Repr, DecidableEq

/-- scdaemon, per connection: SETDATA stores, PKSIGN signs what is stored with the key named -/
def daemonStep (data : Option Digest) : Txn → Option Digest × Option (Option Sig)
  | .setdata d => (some d, none)
  | .pksign k => (data, some (data.map fun d => ⟨k, d⟩))
  | .other => (data, none)

inductive Call where
  | sign (k : KeyId) (d : Digest)
  | getKey                        -- one READKEY
  | ping
  | listKeys (n : Nat)            -- n READKEYs (opts.Values)
  | idle                          -- no call
  deriving Repr, DecidableEq

inductive Ev where
  | acq
  | rel
  | txn (t : Txn)
  deriving Repr, DecidableEq

/-- the transactions a call performs -/
def body : Call → List Txn
  | .sign k d => [.setdata d, .pksign k]
  | .getKey => [.other]
  | .ping => []
  | .listKeys n => List.replicate n .other
  | .idle => []

inductive Discipline where
  | locked      -- token mutex held across the whole body (scdtoken.go as it is)
  | unlocked    -- token mutex taken and released BEFORE the body (the lock only guards the read of `tok.pin`)
  deriving Repr, DecidableEq

def prog (D : Discipline) (c : Call) : List Ev :=
  match c with
  | .idle => []
  | _ =>
    match D with
    | .locked => .acq :: (body c).map .txn ++ [.rel]
    | .unlocked => .acq :: .rel :: (body c).map .txn

structure State where
  pc : Nat → Nat                       -- next event of each thread
  holder : Option Nat                  -- who holds the token mutex
  data : Option Digest                 -- the daemon's stored data (ONE connection)
  res : Nat → Option (Option Sig)      -- result of the thread's PKSIGN, once it has run (`some none` = "No data" error)

def init : State := { pc := fun _ => 0, holder := none, data := none, res := fun _ => none }

def bump (f : Nat → Nat) (i : Nat) : Nat → Nat := fun j => if j = i then f j + 1 else f j

/-- thread `i` performs its next event; `none` = not enabled (mutex busy) or the thread has finished -/
def step (D : Discipline) (calls : Nat → Call) (s : State) (i : Nat) : Option State :=
  match (prog D (calls i))[s.pc i]? with
  | none => none
  | some .acq => if s.holder = none then some { s with holder := some i, pc := bump s.pc i } else none
  | some .rel => some { s with holder := none, pc := bump s.pc i }
  | some (.txn t) =>
    let (d', r) := daemonStep s.data t
    some { s with data := d', pc := bump s.pc i,
                  res := match r with
                    | some x => fun j => if j = i then some x else s.res j
                    | none => s.res }

def run (D : Discipline) (calls : Nat → Call) : State → List Nat → Option State
  | s, [] => some s
  | s, i :: rest => match step D calls s i with
    | some s' => run D calls s' rest
    | none => none

/-- thread `i` has completed its call -/
def done (D : Discipline) (calls : Nat → Call) (s : State) (i : Nat) : Prop := s.pc i = (prog D (calls i)).length

/-- calls given as a list (threads beyond it are idle) -/
def ofList (l : List Call) : Nat → Call := fun i => l.getD i .idle

end Sched

/-! ## Part 3: what tools/extractscd re-extracts from the source (Relic.Generated.ScdLocks) -/
namespace Extract

structure Method where
  span : LockSpan.Func         -- top-level statement shape + every lock operation in the body
  calls : List String          -- callee text of every other call in the body, in source order
  spawns : Nat                 -- `go` statements and function literals in the body
  deriving Repr

/-- the body is one critical section of its mutex, and nothing in it runs outside the calling goroutine -/
def atomicBody (m : Method) : Bool := LockSpan.heldThroughout m.span && m.spawns == 0

/-- the mutex the body holds -/
def mutexOf (m : Method) : String :=
  match m.span.top with
  | .lock x :: _ => x
  | _ => ""

/-- the discipline of `scdKey.Sign` as read off the source: `locked` iff the card operation `key.key.Sign` is called inside a
    body that holds the token mutex throughout -/
def signDiscipline (m : Method) : Sched.Discipline :=
  if atomicBody m && m.calls.contains "key.key.Sign" && mutexOf m == "key.token.mu" then .locked else .unlocked

end Extract
end Relic.ScdToken
