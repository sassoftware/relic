/-
  Relic.Model.AppxPkg — the part-level logic of relic's APPX / MSIX / bundle signer and verifier, on top of the byte-level
  ZIP model (`Relic.Model.Zip`, `Relic.Model.Appx`):

  * `/repo/lib/signappx/contenttypes.go` — `ContentTypes.Parse` / `Add` / `Find` / `Marshal` (§1; the maps and `Find` are those
    of `Relic.Model.Vsix`, which uses the same Go type), *including* the bytes `encoding/xml` writes (`EscapeString`);
  * `/repo/lib/signappx/manifest.go`, `bundle.go` (`SetPublisher`, `checkManifest`, the `Identity` field of `verifyBundle`) —
    which attribute etree's `FindElement("Package/Identity").CreateAttr("Publisher", …)` writes and which attribute
    `encoding/xml` reads back into `appxIdentity.Publisher` (§2);
  * `/repo/lib/signappx/verify.go` `readSignature` — the tagged digest list inside the SpcIndirectData (§3);
  * `/repo/lib/signappx/verify.go` `Verify`, `verifyFile`, `verifyCatalog`; `blockmap.go` `verifyBlockMap`; `zipmeta.go`
    `verifyMeta`; `manifest.go` `checkManifest`; `bundle.go` `verifyBundle` — the order of the checks, what each one compares
    and which error it gives (§4), as a *list of steps* (`Step`): a hash comparison or a terminal verdict.  `run H steps`
    is the verdict under a hash family `H`; the native driver prints the steps and the check hashes the streams (no
    hash runs in Lean);
  * `/repo/lib/signappx/tarappx.go` `DigestAppxTar` and `sign.go` `AppxDigest.Sign` at the level of parts (§5): which members
    are payload, which are parsed, what the block map lists, which content types are written, which parts are added in which
    order, the digest blob.

  Parameters (`Env`): PKCS#7 (`openSig`, `openCat`, `p7`, `catalog`), `encoding/xml` / etree on the block map and the manifests
  (`parseBM`, `parseManifest`, `parseBundle`, `marshal*`), `x509tools.FormatPkixName` (`fmtName`; the driver instantiates it
  with `Relic.Ident.formatPkixName .msosco`), `authenticode.DigestPE`'s verdict, and the ZIP layer: a package is seen through
  `View` = what `archive/zip` lists (`Entry`) plus the two streams `verifyMeta` recomputes with `zipslicer`
  (`Relic.Appx.verifyMeta`).

  `fx : Fx` says which of the repairs proposed with this model the code carries (each one is a separate patch):
  F41 (`blockMap.AddFile` leaves `*.appx` members out of the block map only in bundles), the index panic of
  `verifyBundle` on two members whose names differ only in `/` vs `\`, and the Publisher the verifier reads
  (`readPublisher`: the attribute `SetPublisher` writes instead of `encoding/xml`'s last-one-wins).

  Core Lean only (linked into the native driver).
-/
import Relic.Model.Appx
import Relic.Model.Vsix
import Relic.Model.Ident
namespace Relic.AppxPkg
open Relic Relic.Appx

abbrev SMap := Vsix.SMap
abbrev CT := Vsix.CT

/-- which of the repairs proposed with this model the code carries (`patches/appx2-*.patch`): `f41` — `blockMap.AddFile` leaves
    `*.appx` members out of the block map only in bundles; `dup` — `verifyBundle` refuses a second member with the same DOS name
    instead of indexing `Packages[-1]`; `pub` — the verifier compares the attribute `SetPublisher` writes -/
structure Fx where
  f41 : Bool
  dup : Bool
  pub : Bool
  deriving Repr, DecidableEq

def Fx.orig : Fx := ⟨false, false, false⟩
def Fx.all : Fx := ⟨true, true, true⟩

/-- 'Publisher' -/
def sPublisher : Bytes := [80, 117, 98, 108, 105, 115, 104, 101, 114]
/-- 'xml' -/
def sXml : Bytes := [120, 109, 108]
/-- 'APPX' -/
def tAPPX : Bytes := [65, 80, 80, 88]
/-- 'AXPC' -/
def tAXPC : Bytes := [65, 88, 80, 67]
/-- 'AXCD' -/
def tAXCD : Bytes := [65, 88, 67, 68]
/-- 'AXCT' -/
def tAXCT : Bytes := [65, 88, 67, 84]
/-- 'AXBM' -/
def tAXBM : Bytes := [65, 88, 66, 77]
/-- 'AXCI' -/
def tAXCI : Bytes := [65, 88, 67, 73]
/-- 'PKCX' -/
def tPKCX : Bytes := [80, 75, 67, 88]
/-- 'application/octet-stream' -/
def octetStreamType : Bytes := [97, 112, 112, 108, 105, 99, 97, 116, 105, 111, 110, 47, 111, 99, 116, 101, 116, 45, 115, 116, 114, 101, 97, 109]
/-- 'application/vnd.ms-appx.bundlemanifest+xml' -/
def bundleManifestType : Bytes := [97, 112, 112, 108, 105, 99, 97, 116, 105, 111, 110, 47, 118, 110, 100, 46, 109, 115, 45, 97, 112, 112, 120, 46, 98, 117, 110, 100, 108, 101, 109, 97, 110, 105, 102, 101, 115, 116, 43, 120, 109, 108]
/-- 'application/x-msdownload' -/
def ctMsDownload : Bytes := [97, 112, 112, 108, 105, 99, 97, 116, 105, 111, 110, 47, 120, 45, 109, 115, 100, 111, 119, 110, 108, 111, 97, 100]
/-- 'image/png' -/
def ctPng : Bytes := [105, 109, 97, 103, 101, 47, 112, 110, 103]
/-- 'application/vnd.ms-appx.manifest+xml' -/
def ctManifestXml : Bytes := [97, 112, 112, 108, 105, 99, 97, 116, 105, 111, 110, 47, 118, 110, 100, 46, 109, 115, 45, 97, 112, 112, 120, 46, 109, 97, 110, 105, 102, 101, 115, 116, 43, 120, 109, 108]
/-- 'application/vnd.ms-appx' -/
def ctAppx : Bytes := [97, 112, 112, 108, 105, 99, 97, 116, 105, 111, 110, 47, 118, 110, 100, 46, 109, 115, 45, 97, 112, 112, 120]
/-- 'application/vnd.ms-appx.blockmap+xml' -/
def ctBlockMap : Bytes := [97, 112, 112, 108, 105, 99, 97, 116, 105, 111, 110, 47, 118, 110, 100, 46, 109, 115, 45, 97, 112, 112, 120, 46, 98, 108, 111, 99, 107, 109, 97, 112, 43, 120, 109, 108]
/-- 'application/vnd.ms-appx.signature' -/
def ctSignature : Bytes := [97, 112, 112, 108, 105, 99, 97, 116, 105, 111, 110, 47, 118, 110, 100, 46, 109, 115, 45, 97, 112, 112, 120, 46, 115, 105, 103, 110, 97, 116, 117, 114, 101]
/-- 'application/vnd.ms-pkiseccat' -/
def ctCatalog : Bytes := [97, 112, 112, 108, 105, 99, 97, 116, 105, 111, 110, 47, 118, 110, 100, 46, 109, 115, 45, 112, 107, 105, 115, 101, 99, 99, 97, 116]
/-- 'dll' -/
def xDll : Bytes := [100, 108, 108]
/-- 'exe' -/
def xExe : Bytes := [101, 120, 101]
/-- 'png' -/
def xPng : Bytes := [112, 110, 103]
/-- 'appx' -/
def xAppx : Bytes := [97, 112, 112, 120]
/-- '/AppxBlockMap.xml' -/
def oBlockMap : Bytes := [47, 65, 112, 112, 120, 66, 108, 111, 99, 107, 77, 97, 112, 46, 120, 109, 108]
/-- '/AppxSignature.p7x' -/
def oSignature : Bytes := [47, 65, 112, 112, 120, 83, 105, 103, 110, 97, 116, 117, 114, 101, 46, 112, 55, 120]
/-- '/AppxMetadata/CodeIntegrity.cat' -/
def oCatalog : Bytes := [47, 65, 112, 112, 120, 77, 101, 116, 97, 100, 97, 116, 97, 47, 67, 111, 100, 101, 73, 110, 116, 101, 103, 114, 105, 116, 121, 46, 99, 97, 116]
/-- '<?xml version="1.0" encoding="UTF-8" standalone="yes"?>\r\n' -/
def ctHeader : Bytes := [60, 63, 120, 109, 108, 32, 118, 101, 114, 115, 105, 111, 110, 61, 34, 49, 46, 48, 34, 32, 101, 110, 99, 111, 100, 105, 110, 103, 61, 34, 85, 84, 70, 45, 56, 34, 32, 115, 116, 97, 110, 100, 97, 108, 111, 110, 101, 61, 34, 121, 101, 115, 34, 63, 62, 13, 10]
/-- '<Types xmlns="http://schemas.openxmlformats.org/package/2006/content-types">' -/
def ctOpen : Bytes := [60, 84, 121, 112, 101, 115, 32, 120, 109, 108, 110, 115, 61, 34, 104, 116, 116, 112, 58, 47, 47, 115, 99, 104, 101, 109, 97, 115, 46, 111, 112, 101, 110, 120, 109, 108, 102, 111, 114, 109, 97, 116, 115, 46, 111, 114, 103, 47, 112, 97, 99, 107, 97, 103, 101, 47, 50, 48, 48, 54, 47, 99, 111, 110, 116, 101, 110, 116, 45, 116, 121, 112, 101, 115, 34, 62]
/-- '</Types>' -/
def ctClose : Bytes := [60, 47, 84, 121, 112, 101, 115, 62]
/-- '<Default Extension="' -/
def dfOpen : Bytes := [60, 68, 101, 102, 97, 117, 108, 116, 32, 69, 120, 116, 101, 110, 115, 105, 111, 110, 61, 34]
/-- '" ContentType="' -/
def dfMid : Bytes := [34, 32, 67, 111, 110, 116, 101, 110, 116, 84, 121, 112, 101, 61, 34]
/-- '"></Default>' -/
def dfClose : Bytes := [34, 62, 60, 47, 68, 101, 102, 97, 117, 108, 116, 62]
/-- '<Override PartName="' -/
def ovOpen : Bytes := [60, 79, 118, 101, 114, 114, 105, 100, 101, 32, 80, 97, 114, 116, 78, 97, 109, 101, 61, 34]
/-- '"></Override>' -/
def ovClose : Bytes := [34, 62, 60, 47, 79, 118, 101, 114, 114, 105, 100, 101, 62]
/-- '&#34;' -/
def eQuot : Bytes := [38, 35, 51, 52, 59]
/-- '&#39;' -/
def eApos : Bytes := [38, 35, 51, 57, 59]
/-- '&amp;' -/
def eAmp : Bytes := [38, 97, 109, 112, 59]
/-- '&lt;' -/
def eLt : Bytes := [38, 108, 116, 59]
/-- '&gt;' -/
def eGt : Bytes := [38, 103, 116, 59]
/-- '&#x9;' -/
def eTab : Bytes := [38, 35, 120, 57, 59]
/-- '&#xA;' -/
def eNl : Bytes := [38, 35, 120, 65, 59]
/-- '&#xD;' -/
def eCr : Bytes := [38, 35, 120, 68, 59]
/-- U+FFFD in UTF-8 -/
def eFFFD : Bytes := [239, 191, 189]

/-! ## 1. content types (contenttypes.go) -/

/-- `defaultExtensions[ext]` ("" = not in the table) -/
def defaultExtension (ext : Bytes) : Bytes :=
  if ext = xDll then ctMsDownload else if ext = xExe then ctMsDownload else if ext = xPng then ctPng
  else if ext = sXml then ctManifestXml else if ext = xAppx then ctAppx else []

/-- `defaultOverrides[oname]` -/
def defaultOverride (oname : Bytes) : Bytes :=
  if oname = oBlockMap then ctBlockMap else if oname = oSignature then ctSignature
  else if oname = oCatalog then ctCatalog else []

/-- `ContentTypes.Add(name)` -/
def ctAdd (c : CT) (name : Bytes) : CT :=
  if name = sBundle then { c with byExt := Vsix.mset c.byExt sXml bundleManifestType }
  else
    let oname := 47 :: name
    if defaultOverride oname ≠ [] then { c with byOvr := Vsix.mset c.byOvr oname (defaultOverride oname) }
    else if Vsix.mget c.byOvr oname ≠ [] then c
    else
      let ext := Jar.pathExt (Jar.pathBase name)
      if ext ≠ [] ∧ ext.head? = some 46 then
        let e := ext.drop 1
        if defaultExtension e ≠ [] then { c with byExt := Vsix.mset c.byExt e (defaultExtension e) }
        else if Vsix.mget c.byExt e ≠ [] then c
        else { c with byExt := Vsix.mset c.byExt e octetStreamType }
      else { c with byOvr := Vsix.mset c.byOvr oname octetStreamType }

def ctAddAll (c : CT) (names : List Bytes) : CT := names.foldl ctAdd c

/-- `utf8.DecodeRune` on the front of a string: (rune, width); an invalid or truncated sequence gives (U+FFFD, 1) -/
def decodeRune : Bytes → Nat × Nat
  | [] => (0xFFFD, 0)
  | b0 :: r =>
    let x := b0.toNat
    let cont := fun (b : UInt8) => decide (0x80 ≤ b.toNat) && decide (b.toNat ≤ 0xBF)
    if x < 0x80 then (x, 1)
    else if x < 0xC2 then (0xFFFD, 1)
    else if x < 0xE0 then
      match r with
      | b1 :: _ => if cont b1 then ((x - 0xC0) * 64 + (b1.toNat - 0x80), 2) else (0xFFFD, 1)
      | [] => (0xFFFD, 1)
    else if x < 0xF0 then
      match r with
      | b1 :: b2 :: _ =>
        let lo := if x = 0xE0 then 0xA0 else 0x80
        let hi := if x = 0xED then 0x9F else 0xBF
        if lo ≤ b1.toNat ∧ b1.toNat ≤ hi ∧ cont b2 = true then
          (((x - 0xE0) * 64 + (b1.toNat - 0x80)) * 64 + (b2.toNat - 0x80), 3)
        else (0xFFFD, 1)
      | _ => (0xFFFD, 1)
    else if x < 0xF5 then
      match r with
      | b1 :: b2 :: b3 :: _ =>
        let lo := if x = 0xF0 then 0x90 else 0x80
        let hi := if x = 0xF4 then 0x8F else 0xBF
        if lo ≤ b1.toNat ∧ b1.toNat ≤ hi ∧ cont b2 = true ∧ cont b3 = true then
          ((((x - 0xF0) * 64 + (b1.toNat - 0x80)) * 64 + (b2.toNat - 0x80)) * 64 + (b3.toNat - 0x80), 4)
        else (0xFFFD, 1)
      | _ => (0xFFFD, 1)
    else (0xFFFD, 1)

/-- `isInCharacterRange` of encoding/xml -/
def inCharRange (r : Nat) : Bool :=
  r = 0x09 || r = 0x0A || r = 0x0D || (0x20 ≤ r && r ≤ 0xD7FF) || (0xE000 ≤ r && r ≤ 0xFFFD) || (0x10000 ≤ r && r ≤ 0x10FFFF)

/-- the replacement `(*printer).EscapeString` makes for one ASCII byte (`none` = copied as it is) -/
def escByte (b : UInt8) : Option Bytes :=
  if b = 34 then some eQuot else if b = 39 then some eApos else if b = 38 then some eAmp else if b = 60 then some eLt
  else if b = 62 then some eGt else if b = 9 then some eTab else if b = 10 then some eNl else if b = 13 then some eCr
  else none

/-- `(*printer).EscapeString`: what `xml.Marshal` writes for an attribute value; `fuel ≥ s.length` -/
def escAttrF : Nat → Bytes → Bytes
  | 0, _ => []
  | _, [] => []
  | fuel + 1, b :: r =>
    match escByte b with
    | some e => e ++ escAttrF fuel r
    | none =>
      let (rune, w) := decodeRune (b :: r)
      if !inCharRange rune || (rune = 0xFFFD && w = 1) then eFFFD ++ escAttrF fuel (r.drop (w - 1))
      else (b :: r).take w ++ escAttrF fuel (r.drop (w - 1))

def escAttr (s : Bytes) : Bytes := escAttrF s.length s

/-- reading the written form back: the eight character references `EscapeString` produces, everything else verbatim -/
def unescAttr : Bytes → Bytes
  | [] => []
  | b :: r =>
    if b = 38 then
      if r.take 4 = eQuot.drop 1 then 34 :: unescAttr (r.drop 4)
      else if r.take 4 = eApos.drop 1 then 39 :: unescAttr (r.drop 4)
      else if r.take 4 = eAmp.drop 1 then 38 :: unescAttr (r.drop 4)
      else if r.take 3 = eLt.drop 1 then 60 :: unescAttr (r.drop 3)
      else if r.take 3 = eGt.drop 1 then 62 :: unescAttr (r.drop 3)
      else if r.take 4 = eTab.drop 1 then 9 :: unescAttr (r.drop 4)
      else if r.take 4 = eNl.drop 1 then 10 :: unescAttr (r.drop 4)
      else if r.take 4 = eCr.drop 1 then 13 :: unescAttr (r.drop 4)
      else b :: unescAttr r
    else b :: unescAttr r
termination_by s => s.length
decreasing_by all_goals (simp only [List.length_cons, List.length_drop]; omega)

/-- the `Default` and `Override` elements `Marshal` writes: keys in `sort.Strings` order -/
def ctLists (c : CT) : SMap × SMap := (Vsix.sortMap c.byExt, Vsix.sortMap c.byOvr)

def ctElem (open_ close : Bytes) (e : Bytes × Bytes) : Bytes :=
  open_ ++ escAttr e.1 ++ dfMid ++ escAttr e.2 ++ close

/-- `ContentTypes.Marshal`: the bytes of `[Content_Types].xml` -/
def ctSerialize (c : CT) : Bytes :=
  ctHeader ++ ctOpen ++ ((ctLists c).1.flatMap (ctElem dfOpen dfClose) ++ (ctLists c).2.flatMap (ctElem ovOpen ovClose)) ++ ctClose

/-! ## 2. the `Publisher` attribute (manifest.go, bundle.go) -/

/-- what matters of a manifest: is the document element called as the etree path says (`Package` resp. `Bundle`, any
    prefix), and the attribute lists of its child elements with local name `Identity` (any prefix), in document order -/
structure MDoc where
  rootNamed : Bool
  ids : List (List Xml.Attr)
  deriving Repr, DecidableEq

/-- `encoding/xml` filling a `string` field tagged `xml:",attr"` of the struct field `Identity`: every child element called
    `Identity` is unmarshalled into the same struct, and in each every attribute whose *local* name is the field name
    assigns the field (whatever its prefix, `xmlns:Publisher` included): the last one wins -/
def readAttr (key : Bytes) (ids : List (List Xml.Attr)) : Bytes :=
  ids.foldl (fun acc attrs => attrs.foldl (fun a x => if x.key = key then x.value else a) acc) []

/-- `SetPublisher`: `FindElement("Package/Identity")` = the first `Identity` child of a document element called `Package`;
    `CreateAttr("Publisher", subj)` replaces the unprefixed attribute of that name or appends one -/
def setPublisher (subj : Bytes) (d : MDoc) : MDoc :=
  if d.rootNamed then
    match d.ids with
    | [] => d
    | a :: r => { d with ids := Xml.createAttr ([], sPublisher) subj a :: r }
  else d

/-- the Publisher a namespace-aware reader sees: the unprefixed attribute of the first `Identity` element -/
def visiblePublisher (d : MDoc) : Option Bytes :=
  match d.ids with
  | [] => none
  | a :: _ => (a.find? fun x => x.space = [] ∧ x.key = sPublisher).map (·.value)

/-- the Publisher the verifier compares with the certificate.  Original code: `encoding/xml`'s last-one-wins over every
    `Identity` element and every attribute called `Publisher` whatever its prefix.  Repaired code: the attribute `SetPublisher`
    writes (etree: document element named as the path says, first `Identity` child, unprefixed `Publisher`); "" if there is none. -/
def readPublisher (fx : Bool) (d : MDoc) : Bytes :=
  if fx then (if d.rootNamed then (visiblePublisher d).getD [] else [])
  else readAttr sPublisher d.ids

/-- end-of-line handling of an XML parser on a literal attribute value: CR LF and a lone CR become LF.  etree writes CR
    literally, so this is what a value becomes when a written manifest is read again. -/
def eolNorm : Bytes → Bytes
  | [] => []
  | 13 :: 10 :: r => 10 :: eolNorm r
  | 13 :: r => 10 :: eolNorm r
  | b :: r => b :: eolNorm r

/-- a manifest written by etree and parsed again -/
def reread (d : MDoc) : MDoc := { d with ids := d.ids.map fun a => a.map fun x => { x with value := eolNorm x.value } }

/-! ## 3. the digest list of the signature (`readSignature`, `writeSignature`) -/

/-- `digest.WriteString(tag); digest.Write(sum)` per entry after "APPX" -/
def encDigests (ds : List (Bytes × Bytes)) : Bytes := tAPPX ++ ds.flatMap fun d => d.1 ++ d.2

/-- the loop `for len(digests) > 0` of `readSignature` (`hs` = `hash.Size()`); a Go map: the last entry of a tag wins -/
def parseDigestsF (hs : Nat) : Nat → Bytes → SMap → Option SMap
  | 0, _, m => some m
  | fuel + 1, d, m =>
    if d = [] then some m
    else if d.length < 4 + hs then none
    else parseDigestsF hs fuel (d.drop (4 + hs)) (Vsix.mset m (d.take 4) ((d.drop 4).take hs))

def parseDigests (hs : Nat) (d : Bytes) : Option SMap :=
  if d.take 4 ≠ tAPPX then none else parseDigestsF hs d.length (d.drop 4) []

/-- `sig.HashValues[tag]` (`none` = nil) -/
def tagValue (m : SMap) (tag : Bytes) : Option Bytes := (m.find? fun e => e.1 = tag).map (·.2)

/-! ## 4. `Verify` -/

/-- a member as `archive/zip` presents it -/
structure Entry where
  name : Bytes
  /-- `Method == zip.Store` -/
  stored : Bool
  /-- `UncompressedSize64` -/
  usize : Nat
  /-- `DataOffset()` -/
  dataOff : Nat
  /-- `Open()` + read to the end + `Close()` -/
  content : Res Bytes
  /-- the bytes at `[DataOffset, DataOffset + UncompressedSize64)` of the file (what `verifyBundle` hands to the nested `Verify`) -/
  region : Bytes
  deriving Repr

structure View where
  entries : List Entry
  /-- `verifyMeta`: the streams hashed for AXPC and AXCD (`Relic.Appx.verifyMeta`) -/
  zmeta : Res (Bytes × Bytes)
  deriving Repr

structure CertId where
  /-- `Certificate.Raw` -/
  raw : Bytes
  /-- `Certificate.RawSubject` -/
  subject : Bytes
  deriving Repr, DecidableEq

/-- what `readSignature` extracts with PKCS#7 / Authenticode: signer certificate, digest algorithm (an index into the
    hash family), its size, the `MessageDigest.Digest` bytes -/
structure SigBlob where
  cert : CertId
  alg : Nat
  hsize : Nat
  digest : Bytes
  deriving Repr, DecidableEq

structure BmFile where
  name : Bytes
  size : Nat
  /-- the base64-decoded `Hash` attributes (`none` = `DecodeString` fails) -/
  blocks : List (Option Bytes)
  deriving Repr, DecidableEq

structure BmDoc where
  /-- the hash named by `HashMethod` (`none` = not one of the three URIs) -/
  alg : Option Nat
  files : List BmFile
  deriving Repr, DecidableEq

structure BPkg where
  fileName : Bytes
  offset : Int
  size : Nat
  deriving Repr, DecidableEq

structure BDoc where
  ids : List (List Xml.Attr)
  packages : List BPkg
  deriving Repr, DecidableEq

structure Env where
  /-- `pkcs7.Unmarshal` … `PkixDigestToHashE` of `readSignature` on the bytes after "PKCX" -/
  openSig : Bytes → Res SigBlob
  /-- `xml.Unmarshal` into `blockMap` -/
  parseBM : Bytes → Option BmDoc
  /-- `verifyCatalog` up to the certificate comparison: the catalog's signer certificate -/
  openCat : Bytes → Res CertId
  /-- `xml.Unmarshal` into `appxPackage` -/
  parseManifest : Bytes → Option MDoc
  /-- `xml.Unmarshal` into `bundleManifest` (document element `Bundle` in the 2013 bundle namespace) -/
  parseBundle : Bytes → Option BDoc
  /-- `x509tools.FormatPkixName(RawSubject, NameStyleMsOsco)` -/
  fmtName : Bytes → Bytes
  /-- `zip.NewReader` on a nested package and the view of it -/
  unzip : Bytes → Option View
  /-- the order in which Go ranges over the map `files` in `verifyBundle` (some permutation; the driver tries the directory
      order and its reverse) -/
  mapOrder : List Entry → List Entry

inductive Step where
  /-- `hmac.Equal(H(stream), expected)`, else `err cls` -/
  | cmp (cls : String) (alg : Nat) (stream expected : Bytes)
  /-- a check that does not depend on a hash fails here -/
  | stop (r : Res Unit)
  deriving Repr

/-- the verdict under the hash family `H`: the first failing step decides (a `stop` carrying `ok` is no failure) -/
def run (H : Nat → Bytes → Bytes) : List Step → Res Unit
  | [] => .ok ()
  | .cmp cls alg s e :: rest => if H alg s = e then run H rest else .err cls
  | .stop (.ok _) :: rest => run H rest
  | .stop r :: _ => r

/-- the four names `noHashFiles` -/
def noHash (n : Bytes) : Bool := n == sSignature || n == sCatalog || n == sCTypes || n == sBlockMap

def isAppxName (n : Bytes) : Bool := Zip.endsWith n sAppx

/-- members `verifyBlockMap` expects in the block map -/
def covered (isBundle : Bool) (n : Bytes) : Bool := !(noHash n || (isBundle && isAppxName n))

/-- `files[name]`: the last member of that name -/
def View.find (v : View) (name : Bytes) : Option Entry := (v.entries.filter fun e => e.name == name).getLast?

def View.isBundle (v : View) : Bool := (v.find sBundle).isSome

structure Sig where
  cert : CertId
  alg : Nat
  values : SMap
  deriving Repr, DecidableEq

/-- `readSignature(files[appxSignature])` -/
def readSig (E : Env) (v : View) : Res Sig :=
  match v.find sSignature with
  | none => .err "notsigned"
  | some m =>
    match m.content with
    | .ok blob =>
      if blob.take 4 ≠ tPKCX then .err "badsig" else
      match E.openSig (blob.drop 4) with
      | .ok sb =>
        match parseDigests sb.hsize sb.digest with
        | some vals => .ok ⟨sb.cert, sb.alg, vals⟩
        | none => .err "badsig"
      | .err e => .err e
      | .panic s => .panic s
      | .diverge => .diverge
    | .err e => .err e
    | .panic s => .panic s
    | .diverge => .diverge

/-- a failed read (`Open`, `io.Copy`, `Close`) as a step -/
def stopOf {α} : Res α → Step
  | .ok _ => .stop (.ok ())
  | .err e => .stop (.err e)
  | .panic s => .stop (.panic s)
  | .diverge => .stop .diverge

/-- `verifyFile(files, sig, tag, name)` -/
def fileSteps (v : View) (s : Sig) (tag name : Bytes) (cls : String) : List Step :=
  match v.find name, tagValue s.values tag with
  | none, none => []
  | none, some _ => [.stop (.err ("missing-" ++ cls))]
  | some _, none => [.stop (.err ("unsigned-" ++ cls))]
  | some m, some e =>
    match m.content with
    | .ok p => [.cmp ("mismatch-" ++ cls) s.alg p e]
    | r => [stopOf r]

/-- the block loop of `verifyBlockMap` for one member: `io.CopyN(d, r, count)` then the comparison -/
def blockSteps (alg : Nat) : Bytes → Nat → List (Option Bytes) → List Step
  | _, _, [] => []
  | s, remaining, b :: bs =>
    let count := min remaining blockSize
    if s.length < count then [.stop (.err "io")]
    else
      match b with
      | none => [.stop (.err "bm-base64")]
      | some e => .cmp "bm-digest" alg (s.take count) e :: blockSteps alg (s.drop count) (remaining - count) bs

/-- the member loop of `verifyBlockMap`.  NB: `File` elements left over when the members are exhausted are not an error. -/
def bmLoop (alg : Nat) (isBundle : Bool) : List Entry → List BmFile → List Step
  | [], _ => []
  | f :: fs, bms =>
    if !covered isBundle f.name then bmLoop alg isBundle fs bms
    else
      match bms with
      | [] => [.stop (.err "bm-unhashed")]
      | b :: bt =>
        if b.name ≠ zipToDos f.name ∨ b.size ≠ f.usize then [.stop (.err "bm-mismatch")]
        else if b.blocks.length ≠ (f.usize + blockSize - 1) / blockSize then [.stop (.err "bm-mismatch")]
        else
          match f.content with
          | .ok p => blockSteps alg p f.usize b.blocks ++ bmLoop alg isBundle fs bt
          | r => [stopOf r]

/-- `verifyBlockMap(inz, files, false)` -/
def bmSteps (E : Env) (v : View) : List Step :=
  match v.find sBlockMap with
  | none => [.stop (.err "bm-missing")]
  | some m =>
    match m.content with
    | .ok blob =>
      match E.parseBM blob with
      | none => [.stop (.err "xml")]
      | some bm =>
        match bm.alg with
        | none => [.stop (.err "bm-hash")]
        | some alg => bmLoop alg v.isBundle v.entries bm.files
    | r => [stopOf r]

/-- `verifyCatalog(files[appxCodeIntegrity], sig)`.  NB: what the catalog lists is not compared with anything. -/
def catSteps (E : Env) (v : View) (s : Sig) : List Step :=
  match v.find sCatalog with
  | none => []
  | some m =>
    match m.content with
    | .ok blob =>
      match E.openCat blob with
      | .ok c => if c.raw ≠ s.cert.raw then [.stop (.err "catalog-cert")] else []
      | r => [stopOf r]
    | r => [stopOf r]

/-- `verifyMeta` -/
def metaSteps (v : View) (s : Sig) : List Step :=
  match v.zmeta with
  | .ok (pc, cd) =>
    [.cmp "mismatch-axpc" s.alg pc ((tagValue s.values tAXPC).getD []), .cmp "mismatch-axcd" s.alg cd ((tagValue s.values tAXCD).getD [])]
  | r => [stopOf r]

/-- `checkManifest` -/
def manifestSteps (fx : Fx) (E : Env) (v : View) (s : Sig) : List Step :=
  match v.find Appx.sManifest with
  | none => [.stop (.err "manifest")]
  | some m =>
    match m.content with
    | .ok blob =>
      match E.parseManifest blob with
      | none => [.stop (.err "manifest")]
      | some d => if readPublisher fx.pub d ≠ E.fmtName s.cert.subject then [.stop (.err "publisher")] else []
    | _ => [.stop (.err "manifest")]

/-- errors of a nested `Verify` are wrapped: "bundled file %s: %w" -/
def wrapStep : Step → Step
  | .cmp cls alg s e => .cmp ("nested:" ++ cls) alg s e
  | .stop (.err e) => .stop (.err ("nested:" ++ e))
  | s => s

/-- Go map from DOS names to package indices; -1 = seen -/
abbrev Seen := List (Bytes × Int)

def seenGet (m : Seen) (k : Bytes) : Option Int := (m.find? fun e => e.1 = k).map (·.2)
def seenSet (m : Seen) (k : Bytes) (v : Int) : Seen := m.filter (fun e => e.1 ≠ k) ++ [(k, v)]

/-- `packages[pkg.FileName] = i` -/
def seenInit : List BPkg → Nat → Seen → Seen
  | [], _, m => m
  | p :: ps, i, m => seenInit ps (i + 1) (seenSet m p.fileName i)

/-- the entries of the map `files`: one per name (the last), in directory order -/
def uniqLast : List Entry → List Entry
  | [] => []
  | e :: es => if es.any (fun x => x.name == e.name) then uniqLast es else e :: uniqLast es

/-- the loop over `files` of `verifyBundle`, then the loop over `packages`; `nested` = `Verify` on a bundled package -/
def bundleLoop (fx : Fx) (E : Env) (nested : View → List Step) (s : Sig) (pk : List BPkg) : List Entry → Seen → List Step
  | [], seen => if seen.any (fun e => e.2 ≥ 0) then [.stop (.err "bundle-missing")] else []
  | f :: fs, seen =>
    if !isAppxName f.name then bundleLoop fx E nested s pk fs seen
    else if !f.stored then [.stop (.err "bundle-compressed")]
    else
      let dn := zipToDos f.name
      match seenGet seen dn with
      | none => [.stop (.err "bundle-notlisted")]
      | some idx =>
        if idx < 0 then
          -- a second member with the same DOS name: `bundle.Packages[-1]`
          if fx.dup then [.stop (.err "bundle-duplicate")] else [.stop (.panic "verifyBundle:Packages[-1]")]
        else
          match pk[idx.toNat]? with
          | none => [.stop (.panic "verifyBundle:Packages[i]")]     -- unreachable: indices come from `seenInit`
          | some p =>
            if p.offset ≠ (f.dataOff : Int) then [.stop (.err "bundle-offset")]
            else if p.size ≠ f.usize then [.stop (.err "bundle-size")]
            else
              match E.unzip f.region with
              | none => [.stop (.err "nested:zip")]
              | some nv =>
                (nested nv).map wrapStep ++
                  (match readSig E nv with
                   | .ok ns => if ns.cert.raw ≠ s.cert.raw then [.stop (.err "bundle-cert")] else []
                   | _ => []) ++
                  bundleLoop fx E nested s pk fs (seenSet seen dn (-1))

/-- `verifyBundle` -/
def bundleSteps (fx : Fx) (E : Env) (nested : View → List Step) (v : View) (s : Sig) : List Step :=
  match v.find sBundle with
  | none => [.stop (.err "bundle-manifest")]
  | some m =>
    match m.content with
    | .ok blob =>
      match E.parseBundle blob with
      | none => [.stop (.err "bundle-manifest")]
      | some d =>
        if readPublisher fx.pub ⟨true, d.ids⟩ ≠ E.fmtName s.cert.subject then [.stop (.err "bundle-publisher")]
        else bundleLoop fx E nested s d.packages (E.mapOrder (uniqLast v.entries)) (seenInit d.packages 0 [])
    | _ => [.stop (.err "bundle-manifest")]

/-- `Verify`, given what to do for a bundle -/
def verifyCore (fx : Fx) (E : Env) (bundle : View → Sig → List Step) (v : View) : List Step :=
  match readSig E v with
  | .ok s =>
    fileSteps v s tAXBM sBlockMap "axbm" ++ fileSteps v s tAXCI sCatalog "axci" ++ fileSteps v s tAXCT sCTypes "axct" ++
      bmSteps E v ++ catSteps E v s ++ metaSteps v s ++
      (if v.isBundle then bundle v s else manifestSteps fx E v s)
  | r => [stopOf r]

/-- `Verify`; the first argument bounds the nesting depth of bundles (a bundle needs depth ≥ 1) -/
def verifySteps (fx : Fx) (E : Env) : Nat → View → List Step
  | 0, v => verifyCore fx E (fun _ _ => [.stop .diverge]) v
  | n + 1, v => verifyCore fx E (bundleSteps fx E (fun nv => verifySteps fx E n nv)) v

/-- nesting depth the driver allows (a bundle of bundles of packages is 2) -/
def depthBound : Nat := 4

def verify (fx : Fx) (E : Env) (H : Nat → Bytes → Bytes) (v : View) : Res Unit := run H (verifySteps fx E depthBound v)

/-! ## 5. `DigestAppxTar` + `Sign` on parts -/

/-- a member of the input as the signer reads it (contents readable; unreadable members are the byte-level model's business) -/
structure InMember where
  name : Bytes
  stored : Bool
  content : Bytes
  deriving Repr, DecidableEq

structure SignEnv where
  /-- `authenticode.DigestPE` succeeds -/
  peOk : Bytes → Bool
  /-- `parseManifest` / `parseBundle` (both `xml.Unmarshal` and etree must succeed) -/
  parseManifest : Bytes → Option MDoc
  parseBundle : Bytes → Option BDoc
  /-- the old block map as `CopySizes` reads it: name and block sizes per `File` -/
  oldBM : Bytes → Option (List (Bytes × List Nat))
  /-- `ContentTypes.Parse`: the `Default` and `Override` elements in document order -/
  parseCT : Bytes → Option (List (Bytes × Bytes) × List (Bytes × Bytes))
  /-- etree `WriteToBytes` (+ LF → CRLF for the package manifest) -/
  marshalManifest : MDoc → Bytes
  marshalBundle : BDoc → Bytes
  /-- `blockMap.Marshal` -/
  marshalBM : List Appx.BmFile → Bytes
  /-- the signed catalog over the PE members -/
  catalog : List Bytes → Bytes
  /-- `authenticode.SignSip(digest, …).Raw` -/
  p7 : Bytes → Bytes
  fmtName : Bytes → Bytes

/-- `blockMap.AddFile` decides whether a member gets a `File` element.  Repaired: `*.appx` members are left out only when
    the package is a bundle (as `verifyBlockMap` expects); original: always. -/
def skipBMfx (fx isBundle : Bool) (n : Bytes) : Bool := noHash n || ((!fx || isBundle) && isAppxName n)

def bmEntry (name content : Bytes) : Appx.BmFile :=
  { name := zipToDos name, size := content.length, lfh := 30 + name.length, blocks := blocksOf content }

structure Parsed where
  manifest : Option MDoc := none
  bundle : Option BDoc := none
  bm : List Appx.BmFile
  unverified : Bool
  ct : CT := {}

/-- the second loop of `DigestAppxTar` -/
def tailParse (S : SignEnv) : List InMember → Parsed → Res Parsed
  | [], t => .ok t
  | f :: fs, t =>
    if f.name == Appx.sManifest then
      match S.parseManifest f.content with
      | some d => tailParse S fs { t with manifest := some d }
      | none => .err "xml"
    else if f.name == sBundle then
      match S.parseBundle f.content with
      | some d => tailParse S fs { t with bundle := some d }
      | none => .err "xml"
    else if f.name == sBlockMap then
      match S.oldBM f.content with
      | none => .err "xml"
      | some old =>
        match copySizes 0 t.bm old with
        | .ok bm => tailParse S fs { t with bm := bm, unverified := false }
        | .err x => .err x
        | .panic s => .panic s
        | .diverge => .diverge
    else if f.name == sCTypes then
      match S.parseCT f.content with
      | some (ds, os) => tailParse S fs { t with ct := Vsix.ctParse t.ct ds os }
      | none => .err "xml"
    else if f.name == sCatalog || f.name == sSignature then tailParse S fs t
    else .err "outoforder"

structure OutMember where
  name : Bytes
  stored : Bool
  content : Bytes
  deriving Repr, DecidableEq

structure SignedPkg where
  /-- the members of the output in order: payload, then the regenerated parts -/
  members : List OutMember
  /-- the data `blockMap.Marshal` serialises -/
  bm : List Appx.BmFile
  ct : CT
  /-- the manifest as written (`none`: the package is a bundle) -/
  manifest : Option MDoc
  bundle : Option BDoc
  hasPE : Bool
  /-- the streams hashed for AXCT, AXBM, AXCI -/
  axct : Bytes
  axbm : Bytes
  axci : Option Bytes
  deriving Repr

/-- the digest blob `writeSignature` signs, given the hash family, the algorithm and the two ZIP-level streams -/
def digestBlob (H : Nat → Bytes → Bytes) (alg : Nat) (axpc axcd : Bytes) (r : SignedPkg) : Bytes :=
  encDigests ([(tAXPC, H alg axpc), (tAXCD, H alg axcd), (tAXCT, H alg r.axct), (tAXBM, H alg r.axbm)] ++
    match r.axci with
    | some c => [(tAXCI, H alg c)]
    | none => [])

/-- `Sign` up to (not including) `writeSignature`, once the manifest (`mname`, `mbytes`) is written -/
def finishParts (S : SignEnv) (payload : List InMember) (t : Parsed) (mname mbytes : Bytes) (md : Option MDoc) (bd : Option BDoc) :
    Res SignedPkg :=
  let hasPE := payload.any fun m => isPE m.name
  let bm1 := t.bm ++ [bmEntry mname mbytes]
  if t.unverified then .err "unverified" else
  let bmBytes := S.marshalBM bm1
  let ct1 := ctAddAll t.ct (payload.map (·.name) ++ [mname, sBlockMap])
  let ct2 := if hasPE then ctAdd ct1 sCatalog else ct1
  let ct3 := ctAdd ct2 sSignature
  let ctBytes := ctSerialize ct3
  let cat := S.catalog ((payload.filter fun m => isPE m.name).map (·.content))
  .ok { members := payload.map (fun m => ⟨m.name, m.stored, m.content⟩) ++
          [⟨mname, true, mbytes⟩, ⟨sBlockMap, false, bmBytes⟩, ⟨sCTypes, false, ctBytes⟩] ++
          (if hasPE then [⟨sCatalog, false, cat⟩] else []),
        bm := bm1, ct := ct3, manifest := md, bundle := bd, hasPE := hasPE,
        axct := ctBytes, axbm := bmBytes, axci := if hasPE then some cat else none }

/-- the payload of an input: the members before the first part relic regenerates -/
def payloadOf (ms : List InMember) : List InMember := ms.takeWhile fun m => !special m.name
def tailOf (ms : List InMember) : List InMember := ms.dropWhile fun m => !special m.name

/-- the block map entries after the payload loop -/
def payloadBM (fx : Fx) (ms : List InMember) : List Appx.BmFile :=
  ((payloadOf ms).filter fun m => !skipBMfx fx.f41 (ms.any fun m => m.name == sBundle) m.name).map fun m => bmEntry m.name m.content

/-- `DigestAppxTar` + `Sign` up to (not including) `writeSignature` -/
def signParts (fx : Fx) (S : SignEnv) (ms : List InMember) (subject : Bytes) : Res SignedPkg :=
  let payload := payloadOf ms
  let isBundleIn := ms.any fun m => m.name == sBundle
  if payload.any (fun m => isPE m.name && !S.peOk m.content) then .err "pe" else
  let unv0 := payload.any fun m => !skipBMfx fx.f41 isBundleIn m.name && !m.stored
  match tailParse S (tailOf ms) { bm := payloadBM fx ms, unverified := unv0 } with
  | .ok t =>
    let pub := S.fmtName subject
    match t.manifest, t.bundle with
    | some d, _ =>
      let d' := setPublisher pub d
      finishParts S payload t Appx.sManifest (S.marshalManifest d') (some d') none
    | none, some b =>
      let b' : BDoc := { b with ids := (setPublisher pub ⟨true, b.ids⟩).ids }
      finishParts S payload t sBundle (S.marshalBundle b') none (some b')
    | none, none => .err "nomanifest"
  | .err x => .err x
  | .panic s => .panic s
  | .diverge => .diverge

/-- the signature part -/
def sigMemberOf (S : SignEnv) (blob : Bytes) : OutMember := ⟨sSignature, false, tPKCX ++ S.p7 blob⟩

end Relic.AppxPkg
