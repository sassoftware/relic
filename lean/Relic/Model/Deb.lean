/-
  Relic.Model.Deb — executable model of /repo/lib/signdeb/debsign.go (`Sign`), lib/signdeb/verify.go (`Verify`,
  `checkSig`) and of the `ar` reader/writer (github.com/blakesmith/ar) as that code uses it.

  What the `ar` reader does (and does not do):
    * `NewReader` discards 8 bytes; the global header `!<arch>\n` is never compared with anything.
    * `readHeader` reads 60 bytes: 0 bytes left = clean end, 1..59 = `io.ErrUnexpectedEOF`.
      Name(16) ModTime(12) Uid(6) Gid(6) Mode(8) Size(10) magic(2); the magic is not looked at.
    * `string`/`numeric`: trailing spaces stripped but the first byte always stays; `strconv.ParseInt` errors are
      ignored (value 0), a sign is accepted, so the size may be negative.
    * `octal` slices `b[3:i+1]`: a mode field with fewer than three significant bytes **panics**.
    * `Read` slices `b[0:rd.nb]`: reading a member whose size is negative **panics**.
    * `skipUnread` + a short archive: `io.CopyN` reports `io.EOF`, which both callers take for the clean end of the
      archive; a truncated last member (or a missing padding byte) is therefore accepted silently.
  PGP is a parameter: `cs` maps the message to the clear-signed document, `pgp` maps a signature member's body to
  the canonical signed text (`clearsign.Block.Bytes`) when the signature verifies.  MD5 / SHA-1 are the parameters
  `H1`, `H2` (hex output); the driver prints the streams fed to them.  `ctl ext body` says whether `parseControl`
  accepts a control member (gzip/xz/tar parsing is outside the model).
-/
import Relic.Base.Bytes
import Relic.Model.Binpatch
namespace Relic.Deb
open Relic

/-! ### byte-string helpers -/

def dropTrail (p : UInt8 → Bool) (b : Bytes) : Bytes := (b.reverse.dropWhile p).reverse

/-- `i := len(b)-1; for i > 0 && b[i] == 32 { i-- }; b[0:i+1]` -/
def rtrim : Bytes → Bytes
  | [] => []
  | x :: xs => x :: dropTrail (· == 32) xs

def isDigit (c : UInt8) : Bool := 48 ≤ c && c ≤ 57
def allDigits (b : Bytes) : Bool := !b.isEmpty && b.all isDigit
def decVal (b : Bytes) : Nat := b.foldl (fun a c => a * 10 + (c.toNat - 48)) 0

/-- `n, _ := strconv.ParseInt(s, 10, 64)` for `s` of at most 12 bytes (no range error possible) -/
def parseInt (s : Bytes) : Int :=
  match s with
  | [] => 0
  | c :: t =>
    if c = 43 then (if allDigits t then (decVal t : Int) else 0)
    else if c = 45 then (if allDigits t then -(decVal t : Int) else 0)
    else if allDigits s then (decVal s : Int) else 0

def decNat (n : Nat) : Bytes := (Nat.toDigits 10 n).map fun c => UInt8.ofNat c.toNat
/-- `%d` -/
def decInt (i : Int) : Bytes := if i < 0 then 45 :: decNat (-i).toNat else decNat i.toNat

def splitOn (sep : UInt8) : Bytes → List Bytes
  | [] => [[]]
  | c :: cs =>
    if c = sep then [] :: splitOn sep cs
    else match splitOn sep cs with
      | [] => [[c]]
      | h :: t => (c :: h) :: t

def isPrefix : Bytes → Bytes → Bool
  | [], _ => true
  | _ :: _, [] => false
  | a :: as, b :: bs => a == b && isPrefix as bs

/-! ### `path.Clean` -/

def cleanStep (rooted : Bool) (stack : List Bytes) (comp : Bytes) : List Bytes :=
  if comp = [] ∨ comp = [46] then stack
  else if comp = [46, 46] then
    match stack with
    | [] => if rooted then [] else [comp]
    | top :: tl => if top = [46, 46] then comp :: stack else tl
  else comp :: stack

def pathClean (p : Bytes) : Bytes :=
  if p = [] then [46] else
  let rooted := p.head? = some 47
  let st := (splitOn 47 p).foldl (cleanStep rooted) []
  let body := List.intercalate [47] st.reverse
  let out := if rooted then 47 :: body else body
  if out = [] then [46] else out

/-! ### the `ar` reader -/

def gpg : Bytes := [95, 103, 112, 103]                                   -- "_gpg"
def ctlPrefix : Bytes := [99, 111, 110, 116, 114, 111, 108, 46, 116, 97, 114]  -- "control.tar"

structure Entry where
  hdr : Bytes      -- the header as found
  name : Bytes     -- `hdr.Name`
  size : Int       -- `hdr.Size`
  body : Bytes     -- what `Read` delivers: `size` bytes, fewer when the archive ends early
  deriving Repr, DecidableEq

inductive Stop where
  | eof | short | octal | fuel
  deriving Repr, DecidableEq

def fld (h : Bytes) (lo n : Nat) : Bytes := (h.drop lo).take n

/-- bytes from one header to the next: header, data, padding byte for odd sizes; a negative size skips nothing
    (`io.CopyN` with a negative count copies nothing and reports no error) -/
def adv (size : Int) : Nat := if 0 ≤ size then 60 + size.toNat + size.toNat % 2 else 60

def hdrName (h : Bytes) : Bytes := rtrim (fld h 0 16)
def hdrSize (h : Bytes) : Int := parseInt (rtrim (fld h 48 10))
/-- `rd.octal(s.next(8))` panics -/
def octalPanics (h : Bytes) : Bool := (rtrim (fld h 40 8)).length < 3

/-- the sequence of headers `Next` returns when every member is either read to its end or skipped.
    The header of an entry lies at offset 8 + the sum of `adv` over the entries before it (`counter.N - 60`). -/
def parse : Nat → Bytes → List Entry × Stop
  | 0, _ => ([], .fuel)
  | n + 1, rest =>
    if rest.length = 0 then ([], .eof)
    else if rest.length < 60 then ([], .short)
    else if octalPanics rest then ([], .octal)
    else
      let size := hdrSize rest
      let r := parse n (rest.drop (adv size))
      (⟨rest.take 60, hdrName rest, size, (rest.drop 60).take size.toNat⟩ :: r.1, r.2)

def entries (f : Bytes) : List Entry × Stop := parse (f.length + 1) (f.drop 8)

/-! ### the `ar` writer, as `Sign` uses it -/

/-- `aw.string` / `aw.numeric`: pad with spaces to the field width, `copy` truncates -/
def padTo (w : Nat) (s : Bytes) : Bytes := (s ++ List.replicate (w - s.length) 32).take w

/-- `WriteHeader(&ar.Header{Name, Size, ModTime, Mode: 0100644})`; `mt` = decimal Unix time.
    The mode field is "100" ++ octal(0100644) = "100100644" cut to 8 bytes. -/
def arHeader (name mt : Bytes) (size : Nat) : Bytes :=
  padTo 16 name ++ padTo 12 mt ++ padTo 6 [48] ++ padTo 6 [48] ++ [49, 48, 48, 49, 48, 48, 54, 52] ++
    padTo 10 (decNat size) ++ [96, 10]

def padByte (n : Nat) : Bytes := if n % 2 = 1 then [10] else []

def member (name mt body : Bytes) : Bytes := arHeader name mt body.length ++ body ++ padByte body.length

/-! ### `Sign` -/

def isGpgName (n : Bytes) : Bool := isPrefix gpg n
def isCtlName (n : Bytes) : Bool := isPrefix ctlPrefix n

structure Line where
  name : Bytes
  size : Int
  body : Bytes
  deriving Repr, DecidableEq

/-- pieces of the message: literal bytes, or the hex digest of a stream -/
inductive Seg where
  | lit (b : Bytes)
  | md5 (b : Bytes)
  | sha1 (b : Bytes)
  deriving Repr, DecidableEq

def render (H1 H2 : Bytes → Bytes) : List Seg → Bytes
  | [] => []
  | .lit b :: r => b ++ render H1 H2 r
  | .md5 b :: r => H1 b ++ render H1 H2 r
  | .sha1 b :: r => H2 b ++ render H1 H2 r

/-- `fmt.Fprintf(msg, "\t%x %x %d %s\n", md5, sha1, hdr.Size, hdr.Name)` -/
def lineSegs (l : Line) : List Seg :=
  [.lit [9], .md5 l.body, .lit [32], .sha1 l.body, .lit ([32] ++ decInt l.size ++ [32] ++ l.name ++ [10])]

def msgHead (signer date role : Bytes) : Bytes :=
  [86, 101, 114, 115, 105, 111, 110, 58, 32, 52, 10] ++            -- "Version: 4\n"
  [83, 105, 103, 110, 101, 114, 58, 32] ++ signer ++ [10] ++      -- "Signer: "
  [68, 97, 116, 101, 58, 32] ++ date ++ [10] ++                   -- "Date: "
  [82, 111, 108, 101, 58, 32] ++ role ++ [10] ++                  -- "Role: "
  [70, 105, 108, 101, 115, 58, 32, 10]                            -- "Files: \n"

def msgSegs (signer date role : Bytes) (ls : List Line) : List Seg :=
  .lit (msgHead signer date role) :: ls.flatMap lineSegs ++ [.lit [10]]

def message (H1 H2 : Bytes → Bytes) (signer date role : Bytes) (ls : List Line) : Bytes :=
  render H1 H2 (msgSegs signer date role ls)

/-- the members that are digested: every one whose cleaned name does not start with `_gpg` -/
def linesOf (es : List Entry) : List Line :=
  (es.filter fun e => !isGpgName (pathClean e.name)).map fun e => ⟨e.name, e.size, e.body⟩

/-- `patchLength = int64(60 + ((hdr.Size+1)/2)*2)` (Go division truncates towards zero) -/
def slotLen (size : Int) : Int := 60 + Int.tdiv (size + 1) 2 * 2

/-- the last member whose cleaned name is `_gpg<role>`: (patchOffset, patchLength); `pos` = offset of the first header -/
def sigSlot (role : Bytes) : Nat → List Entry → Option (Nat × Int)
  | _, [] => none
  | pos, e :: es =>
    match sigSlot role (pos + adv e.size) es with
    | some s => some s
    | none => if pathClean e.name = gpg ++ role then some (pos, slotLen e.size) else none

inductive SFail where
  | read      -- `Read` of a member with a negative size panics
  | control   -- `parseControl` refuses a control member
  deriving Repr, DecidableEq

/-- first member on which the loop body fails -/
def signFail (ctl : Bytes → Bytes → Bool) : List Entry → Option SFail
  | [] => none
  | e :: es =>
    let cn := pathClean e.name
    if isGpgName cn then signFail ctl es
    else if e.size < 0 then some .read
    else if isCtlName cn ∧ ctl (cn.drop 11) e.body = false then some .control
    else signFail ctl es

def hasCtl (es : List Entry) : Bool :=
  es.any fun e => !isGpgName (pathClean e.name) && isCtlName (pathClean e.name)

structure SignOut where
  off : Nat          -- patchOffset
  old : Nat          -- patchLength (as a `uint32` when negative)
  msg : List Seg     -- the message handed to the clear-signer
  blob : Bytes       -- the new member
  deriving Repr, DecidableEq

def signOf (H1 H2 : Bytes → Bytes) (cs : Bytes → Bytes) (mt signer date : Bytes) (role : Bytes) (flen : Nat)
    (es : List Entry) : SignOut :=
  let segs := msgSegs signer date role (linesOf es)
  let S := cs (render H1 H2 segs)
  let slot := match sigSlot role 8 es with
    | some (o, l) => (if o = 0 then flen else o, l)      -- `if patchOffset == 0 { patchOffset = counter.N }`
    | none => (flen, 0)
  -- `binpatch.Add(patchOffset, patchLength, …)`: a negative length ends up in a `uint32`
  ⟨slot.1, if 0 ≤ slot.2 then slot.2.toNat else (slot.2 % 4294967296).toNat, segs, member (gpg ++ role) mt S⟩

/-- `signdeb.Sign` -/
def sign (H1 H2 : Bytes → Bytes) (cs : Bytes → Bytes) (ctl : Bytes → Bytes → Bool) (mt signer date role : Bytes) (f : Bytes) :
    Res SignOut :=
  let p := entries f
  match signFail ctl p.1 with
  | some .read => .panic "ar.Read"
  | some .control => .err "control"
  | none =>
    match p.2 with
    | .short => .err "unexpectedeof"
    | .octal => .panic "ar.octal"
    | .fuel => .diverge
    | .eof =>
      if hasCtl p.1 then .ok (signOf H1 H2 cs mt signer date role f.length p.1)
      else .err "nocontrol"

/-- patch application (`binpatch.Apply` through the C12 model) -/
def applyPatch (f : Bytes) (o : SignOut) : Res Bytes :=
  Binpatch.applyRewrite f (Binpatch.build 4294967295 [⟨o.off, o.old, o.blob⟩])

/-! ### `Verify` -/

/-- Go map update: later entries for the same key win -/
def lookup (k : Bytes) : List (Bytes × Bytes) → Option Bytes
  | [] => none
  | (k', v) :: r => match lookup k r with
    | some v' => some v'
    | none => if k' = k then some v else none

def digestOf (H1 H2 : Bytes → Bytes) (b : Bytes) : Bytes := H1 b ++ [32] ++ H2 b

/-- `digests[hdr.Name]`, in archive order -/
def digestsOf (H1 H2 : Bytes → Bytes) (es : List Entry) : List (Bytes × Bytes) :=
  (es.filter fun e => !isGpgName e.name).map fun e => (e.name, digestOf H1 H2 e.body)

/-- `sigs[hdr.Name[4:]]`, in archive order -/
def sigsOf (es : List Entry) : List (Bytes × Bytes) :=
  (es.filter fun e => isGpgName e.name).map fun e => (e.name.drop 4, e.body)

def dropCR (l : Bytes) : Bytes := if l.getLast? = some 13 then l.dropLast else l

/-- `bufio.Scanner` with `ScanLines` -/
def scanLines (t : Bytes) : List Bytes :=
  let parts := splitOn 10 t
  (if parts.getLast? = some [] then parts.dropLast else parts).map dropCR

/-- `strings.SplitN(s, " ", n)` for `n ≥ 1` -/
def splitN : Nat → Bytes → List Bytes
  | 0, _ => []
  | 1, s => [s]
  | n + 2, s =>
    match s.span (· != 32) with
    | (a, []) => [a]
    | (a, _ :: rest) => a :: splitN (n + 1) rest

def filesLit : Bytes := [70, 105, 108, 101, 115, 58]  -- "Files:"

/-- the digest loop of `checkSig`; returns the names checked -/
def checkLines (digests : List (Bytes × Bytes)) : List Bytes → List Bytes → Res (List Bytes)
  | [], checked => .ok checked
  | line :: rest, checked =>
    if line = [] then .ok checked
    else if line.head? ≠ some 9 ∨ line.length < 76 then .err "malformed"
    else
      match splitN 4 (line.drop 1) with
      | [p0, p1, _, name] =>
        match lookup name digests with
        | none => .err "unknownfile"
        | some cal =>
          if cal = [] then .err "unknownfile"
          else if cal ≠ p0 ++ [32] ++ p1 then .err "mismatch"
          else checkLines digests rest (name :: checked)
      | _ => .panic "checkSig.parts"

/-- `checkSig(role, body, digests)` -/
def checkSig (text : Bytes) (digests : List (Bytes × Bytes)) : Res Unit :=
  let lines := scanLines text
  match lines.dropWhile (· ≠ filesLit) with
  | [] => .err "malformed"
  | _ :: rest =>
    match checkLines digests rest [] with
    | .ok checked =>
      if digests.all fun d => checked.contains d.1 then .ok () else .err "notcovered"
    | .err e => .err e
    | .panic s => .panic s
    | .diverge => .diverge

/-- first member whose `Read` panics (every member is read) -/
def verifyFail : List Entry → Bool
  | [] => false
  | e :: es => e.size < 0 || verifyFail es

/-- roles in first-appearance order, without repetition -/
def rolesOf (sigs : List (Bytes × Bytes)) : List Bytes := (sigs.map (·.1)).eraseDups

/-- outcome for one role: the signature member that the map holds for it is the last one -/
def checkRole (pgp : Bytes → Option Bytes) (digests sigs : List (Bytes × Bytes)) (role : Bytes) : Res Unit :=
  match lookup role sigs with
  | none => .err "internal"
  | some body =>
    match pgp body with
    | none => .err "pgp"
    | some text => checkSig text digests

/-- no two digested members share a name (f849197, F40: checked after the walk) -/
def distinctNames (es : List Entry) : Bool :=
  let ns := (es.filter fun e => !isGpgName e.name).map (·.name)
  ns.eraseDups.length == ns.length

/-- `signdeb.Verify(r, keyring, false)`: per role outcomes, in first-appearance order of the roles.
    Go iterates the `sigs` map in random order and returns at the first failure. -/
def verify (H1 H2 : Bytes → Bytes) (pgp : Bytes → Option Bytes) (f : Bytes) : Res (List (Bytes × Res Unit)) :=
  let p := entries f
  -- a negative size panics in `Read` before the walk gets any further; the stop reasons come after all entries
  if verifyFail p.1 then .panic "ar.Read"
  else match p.2 with
    | .short => .err "unexpectedeof"
    | .octal => .panic "ar.octal"
    | .fuel => .diverge
    | .eof =>
      if !distinctNames p.1 then .err "duplicate" else
      let digests := digestsOf H1 H2 p.1
      let sigs := sigsOf p.1
      .ok ((rolesOf sigs).map fun r => (r, checkRole pgp digests sigs r))

/-- all roles verified -/
def verifyOk (H1 H2 : Bytes → Bytes) (pgp : Bytes → Option Bytes) (f : Bytes) : Bool :=
  match verify H1 H2 pgp f with
  | .ok rs => rs.all fun r => r.2 == .ok ()
  | _ => false

/-! ### the clear-sign round trip (`clearsign.Encode` then `clearsign.Decode`, `Block.Bytes`) -/

def crlf : Bytes := [13, 10]

/-- the encoder drops every run of space, tab and `\r` that ends a line (from the text it writes out as well as from
    the hash); `Decode` then finds nothing more to trim.  Dash escaping is undone by `Decode`. -/
def canonLine (l : Bytes) : Bytes := dropTrail (fun c => c == 32 || c == 9 || c == 13) l

/-- for a message ending in `\n` -/
def canonText (m : Bytes) : Bytes :=
  List.intercalate crlf ((splitOn 10 m).dropLast.map canonLine)

/-! ### the inputs for which sign-then-verify is claimed -/

def advSum : List Entry → Nat
  | [] => 0
  | e :: es => adv e.size + advSum es

/-- every member is complete, padding byte included, and the walk ends exactly at the end of the file -/
def tightB (f : Bytes) : Bool :=
  let p := entries f
  p.2 == .eof && p.1.all (fun e => decide (0 ≤ e.size)) && 8 + advSum p.1 == f.length

/-- the name written for the role is read back unchanged by the reader and by `path.Clean` -/
def roleRegular (role : Bytes) : Bool :=
  rtrim (padTo 16 (gpg ++ role)) == gpg ++ role && pathClean (gpg ++ role) == gpg ++ role &&
    !(role.any fun c => c == 10 || c == 13)

/-- a member name that survives the message's text form: no line break inside, no white space at its end, and
    `Sign` (cleaned name) and `Verify` (raw name) agree on whether it is a signature member -/
def plainName (n : Bytes) : Bool :=
  !(n.any fun c => c == 10 || c == 13) && n.getLast? != some 32 && n.getLast? != some 9 &&
    isGpgName n == isGpgName (pathClean n)


end Relic.Deb
