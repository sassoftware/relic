/-
  Relic.Model.CfbBytesInv — the executable form `invB` of the invariant of the byte-level comdoc writer model
  (`Relic.CfbB.Inv`: live chains valid and pairwise disjoint, FAT/DIFAT sectors marked and listed once,
  mini sectors of live short streams inside the container, all sectors of the sector size).  Run by the driver on the
  state `openFile` builds from every generated input; `Relic.CfbB.invB_sound` proves `invB b = true → Inv b`.
  Core Lean only: linked into the native driver.
-/
import Relic.Model.CfbBytes
namespace Relic.CfbB
open Relic Relic.CfbW Relic.Cfb

/-- a stream of at least `cutoff` bytes owns a FAT chain; an empty stream owns nothing -/
def bigHeadOf (cutoff : Nat) (sl : Slot) : Option Int :=
  if sl.typ = 2 ∧ sl.size ≠ 0 ∧ cutoff ≤ sl.size then some sl.start else none
/-- a non-empty stream below `cutoff` owns a mini-FAT chain -/
def miniHeadOf (cutoff : Nat) (sl : Slot) : Option Int :=
  if sl.typ = 2 ∧ sl.size ≠ 0 ∧ sl.size < cutoff then some sl.start else none

/-- every listed head starts a valid chain and no sector is met twice (`used` = sectors met so far) -/
def checkFam (tbl : List Int) : List (Option Int) → List Nat → Bool
  | [], _ => true
  | none :: rest, used => checkFam tbl rest used
  | some h :: rest, used =>
    match chain tbl h with
    | none => false
    | some l => !(l.any fun x => used.contains x) && checkFam tbl rest (used ++ l)

/-- the chain heads of the FAT in the order container, directory, mini-FAT, slot 0, slot 1, … -/
def satHeadList (st : St) : List (Option Int) :=
  [if 0 ≤ st.a.rootStart then some st.a.rootStart else none, some st.dirStart, some st.ssatStart] ++
  st.files.map (bigHeadOf st.cutoff)

def miniHeadList (st : St) : List (Option Int) := st.files.map (miniHeadOf st.cutoff)

/-- the chain of the mini-stream container (`[]` when the root entry has none) -/
def contChain (a : Alloc) : Option (List Nat) := if a.rootStart < 0 then some [] else chain a.sat a.rootStart

def invB (b : BSt) : Bool :=
  let st := b.st
  checkFam st.a.sat (satHeadList st) [] &&
  checkFam st.a.ssat (miniHeadList st) [] &&
  (st.msat ++ st.msatList).all (fun s => decide (0 ≤ s) && (match st.a.sat[s.toNat]? with | some v => decide (v ≤ -3) | none => false)) &&
  decide (st.msat ++ st.msatList).Nodup &&
  (match contChain st.a with
   | none => false
   | some C =>
     st.files.all fun sl =>
       match miniHeadOf st.cutoff sl with
       | none => true
       | some h =>
         match chain st.a.ssat h with
         | none => true
         | some l => l.all fun m => decide ((m + 1) * st.a.sss ≤ C.length * st.a.ss)) &&
  decide (0 < b.file.ss) && decide (b.file.pre.length = b.file.ss) && b.file.secs.all (fun s => decide (s.length = b.file.ss)) &&
  decide (b.file.ss = st.a.ss) && decide (0 < st.a.sss) && decide (st.a.ss % st.a.sss = 0) &&
  decide (b.ents.length = st.files.length) && decide (512 ≤ st.a.ss)

end Relic.CfbB
