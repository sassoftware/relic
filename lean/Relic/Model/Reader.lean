/-
  Relic.Model.Reader — a small *reader calculus*: what relic's streaming digesters can observe of an `io.Reader`.

  Layer 0  `Stream`: what a Go reader will deliver — a list of chunks (any sizes, empty ones = `Read` returning
           `0, nil`) followed by a terminal condition (`io.EOF` or an error), optionally delivering the terminal error
           *together with* the last data (`n > 0, io.EOF`, as `net/http` bodies and `iotest.DataErrReader` do).
           `Stream.read s k` is one call `Read(p)` with `len(p) = k`.
  Layer 1  the functions of Go's `io` and `bufio` packages that relic's digesters call, transcribed as the loops they
           are, over `Stream.read`:  `io.ReadFull`/`io.ReadAtLeast`/`binary.Read` (`readFull`), `io.Copy`/`io.CopyN`/
           `io.ReadAll`/`bytes.Buffer.ReadFrom`/`io.Discard.ReadFrom`/`LimitedReader` (`copy`, with the sequence of
           buffer sizes as a parameter), `bufio.Reader` (`fill` with its 100 empty reads, `Peek`, `ReadByte`,
           `ReadString` = `ReadSlice` + `collectFragments`, `WriteTo`), and the raw `r.Read(buf)`.
  Layer 2  `Prog α`: programs over these primitives (a free monad: every continuation is an arbitrary Lean function of
           what was observed) + `emit sink bytes` (writes to hashes / buffers: `io.MultiWriter`, `io.TeeReader` are
           `emit`s of what was read).  `run` executes a program on a stream; `runFlat` is the same program on the
           *whole buffer* (the specification: no chunks).

  Loops recurse on a fuel that the entry point computes from the stream (`wt` = bytes + chunks), so that everything
  here reduces by `decide`/`rfl`; Relic/Proofs/Reader.lean and ReaderBufio.lean show the fuel is never exhausted.
  Core Lean only (linked into the native driver).
-/
import Relic.Base.Bytes
namespace Relic.Rd
open Relic

/-! ## Layer 0: streams -/

/-- how a stream ends: `io.EOF` or some other error -/
inductive Term where
  | eof
  | fail (e : String)
  deriving Repr, DecidableEq

structure Stream where
  chunks : List Bytes
  term : Term
  /-- the terminal error accompanies the delivery that exhausts the chunks -/
  eager : Bool
  deriving Repr, DecidableEq

namespace Stream

/-- the logical content -/
def data (s : Stream) : Bytes := s.chunks.flatten

/-- one `Read(p)`, `len(p) = k`: the bytes delivered, the error returned with them, the reader afterwards.
    A chunk longer than `k` is delivered in pieces. After the chunks: `0, term`, for ever. -/
def read (s : Stream) (k : Nat) : Bytes × Option Term × Stream :=
  match s.chunks with
  | [] => ([], some s.term, s)
  | c :: rest =>
    if c.length ≤ k then
      (c, (if rest.isEmpty && s.eager then some s.term else none), { s with chunks := rest })
    else (c.take k, none, { s with chunks := c.drop k :: rest })

/-- termination measure of every loop over `read` -/
def wt : List Bytes → Nat
  | [] => 0
  | c :: r => c.length + 1 + wt r

/-- number of leading empty chunks = consecutive `0, nil` reads ahead -/
def lead : List Bytes → Nat
  | [] => 0
  | c :: r => if c.isEmpty then lead r + 1 else 0

/-- longest run of empty chunks anywhere -/
def maxRun : List Bytes → Nat
  | [] => 0
  | c :: r => max (lead (c :: r)) (maxRun r)

/-- `bufio.Reader` gives up (`io.ErrNoProgress`) after 100 consecutive empty reads -/
def NoStall (s : Stream) : Prop := maxRun s.chunks < 100

instance (s : Stream) : Decidable s.NoStall := by unfold NoStall; infer_instance

/-- no empty reads, and the terminal error comes on its own: the streams on which a one-byte probe `r.Read(buf[:1])`
    tells whether data is left -/
def Plain (s : Stream) : Prop := (∀ c ∈ s.chunks, c ≠ []) ∧ s.eager = false

instance (s : Stream) : Decidable s.Plain := by unfold Plain; infer_instance

/-- the stream that delivers `d` in one piece -/
def whole (d : Bytes) (t : Term) : Stream := ⟨[d], t, false⟩

end Stream

/-! ## Layer 1: `io` -/

/-- result of `io.ReadFull(r, buf)` with `len(buf) = n` (also `io.ReadAtLeast(r, buf, n)`, `binary.Read` of a fixed-size
    value).  `short got t`: fewer than `n` bytes could be read; Go's error is `io.EOF` when `got = []` and `t = eof`,
    `io.ErrUnexpectedEOF` when `got ≠ []` and `t = eof`, the reader's error otherwise. -/
inductive RF where
  | ok (b : Bytes)
  | short (got : Bytes) (t : Term)
  deriving Repr, DecidableEq

/-- `for n < min && err == nil { nn, err = r.Read(buf[n:]); n += nn }` then `if n >= min { err = nil }` -/
def readFullLoop : Nat → Nat → Bytes → Stream → RF × Stream
  | 0, _, acc, s => (.short acc s.term, s)
  | fuel + 1, n, acc, s =>
    if n ≤ acc.length then (.ok acc, s) else
    match s.read (n - acc.length) with
    | (out, some t, s') =>
      if n ≤ (acc ++ out).length then (.ok (acc ++ out), s') else (.short (acc ++ out) t, s')
    | (out, none, s') => readFullLoop fuel n (acc ++ out) s'

def readFull (n : Nat) (s : Stream) : RF × Stream := readFullLoop (Stream.wt s.chunks + 1) n [] s

/-- how a copy ended: the limit was reached (`LimitedReader.N = 0`), or the source returned an error first -/
inductive End where
  | limit
  | src (t : Term)
  deriving Repr, DecidableEq

/-- sequence of buffer sizes a copy loop offers to `Read`, as a function of the sizes of the reads so far (32 KiB
    for `io.Copy`, 8 KiB for `io.Discard.ReadFrom`, spare capacity for `io.ReadAll` and `bytes.Buffer.ReadFrom`).
    A value of 0 is taken as 1: none of these loops ever calls `Read` with an empty buffer. -/
abbrev Sched := List Nat → Nat

/-- `io.Copy(dst, src)`, `io.Copy(dst, io.LimitReader(src, n))` (= the body of `io.CopyN`), `io.ReadAll`,
    `bytes.Buffer.ReadFrom`, `io.Discard.ReadFrom`:  `rem` = `LimitedReader.N` (none = no limit).
    A `LimitedReader` whose `N` is 0 returns `io.EOF` without touching the source; otherwise it shortens the buffer
    to `N`.  The loop ends with the first error; an error that arrives with the bytes that complete the limit is
    dropped by `io.CopyN` (`if written == n { return n, nil }`). -/
def copyLoop (sched : Sched) : Nat → Option Nat → List Nat → Bytes → Stream → Bytes × End × Stream
  | 0, _, _, acc, s => (acc, .src s.term, s)
  | fuel + 1, rem, hist, acc, s =>
    if rem = some 0 then (acc, .limit, s) else
    let want := max 1 (sched hist)
    let k := match rem with
      | some r => min want r
      | none => want
    match s.read k with
    | (out, e, s') =>
      let rem' := rem.map (· - out.length)
      if rem' = some 0 then (acc ++ out, .limit, s')
      else match e with
        | some t => (acc ++ out, .src t, s')
        | none => copyLoop sched fuel rem' (out.length :: hist) (acc ++ out) s'

def copy (lim : Option Nat) (sched : Sched) (s : Stream) : Bytes × End × Stream :=
  copyLoop sched (Stream.wt s.chunks + 1) lim [] [] s

/-! ## Layer 1: `bufio.Reader` -/

/-- errors a `bufio.Reader` method can return -/
inductive BErr where
  | term (t : Term)
  | noProgress
  | bufferFull
  deriving Repr, DecidableEq

structure Buf where
  /-- `len(b.buf)` (at least 16: `NewReaderSize`) -/
  size : Nat
  /-- `b.buf[b.r:b.w]` -/
  data : Bytes
  /-- `b.err` -/
  err : Option BErr
  deriving Repr, DecidableEq

/-- `fill`: the buffer is not full.  Up to `maxConsecutiveEmptyReads` reads. -/
def fillLoop : Nat → Buf → Stream → Buf × Stream
  | 0, b, s => ({ b with err := some .noProgress }, s)
  | i + 1, b, s =>
    match s.read (b.size - b.data.length) with
    | (out, some t, s') => ({ b with data := b.data ++ out, err := some (.term t) }, s')
    | (out, none, s') =>
      if 0 < out.length then ({ b with data := b.data ++ out }, s') else fillLoop i { b with data := b.data ++ out } s'

def fill (b : Buf) (s : Stream) : Buf × Stream := fillLoop 100 b s

/-- `Peek(n)`: `for b.w-b.r < n && b.w-b.r < len(b.buf) && b.err == nil { b.fill() }` … -/
def peekLoop : Nat → Nat → Buf → Stream → Buf × Stream
  | 0, _, b, s => (b, s)
  | fuel + 1, n, b, s =>
    if b.data.length < n ∧ b.data.length < b.size ∧ b.err = none then
      let (b', s') := fill b s
      peekLoop fuel n b' s'
    else (b, s)

def peek (n : Nat) (b : Buf) (s : Stream) : (Bytes × Option BErr) × Buf × Stream :=
  let (b1, s1) := peekLoop (b.size + 1) n b s
  if b1.size < n then ((b1.data, some .bufferFull), b1, s1)
  else if b1.data.length < n then
    -- `err = b.readErr(); if err == nil { err = ErrBufferFull }`
    match b1.err with
    | some e => ((b1.data, some e), { b1 with err := none }, s1)
    | none => ((b1.data, some .bufferFull), b1, s1)
  else ((b1.data.take n, none), b1, s1)

/-- `ReadByte`: `for b.r == b.w { if b.err != nil { return 0, b.readErr() }; b.fill() }` -/
def readByte (b : Buf) (s : Stream) : Except BErr UInt8 × Buf × Stream :=
  match b.data with
  | x :: r => (.ok x, { b with data := r }, s)
  | [] =>
    match b.err with
    | some e => (.error e, { b with err := none }, s)
    | none =>
      let (b1, s1) := fill b s
      match b1.data with
      | x :: r => (.ok x, { b1 with data := r }, s1)
      | [] =>
        match b1.err with
        | some e => (.error e, { b1 with err := none }, s1)
        | none => (.error .noProgress, b1, s1)   -- not reachable: `fill` makes progress or sets `b.err`

/-- the prefix of `l` up to and including the first `d`, and what follows it -/
def cutAt (d : UInt8) : Bytes → Option (Bytes × Bytes)
  | [] => none
  | x :: r => if x = d then some ([x], r) else (cutAt d r).map fun p => (x :: p.1, p.2)

/-- `ReadString(delim)` = `collectFragments`, a loop over `ReadSlice`: search the buffer; a pending error ends the
    line with what is buffered; a full buffer without delimiter is set aside (`ErrBufferFull` inside
    `collectFragments`) and the search goes on; otherwise `fill`. -/
def readStringLoop (d : UInt8) : Nat → Bytes → Buf → Stream → (Bytes × Option BErr) × Buf × Stream
  | 0, acc, b, s => ((acc, some .noProgress), b, s)
  | fuel + 1, acc, b, s =>
    match cutAt d b.data with
    | some (line, rest) => ((acc ++ line, none), { b with data := rest }, s)
    | none =>
      match b.err with
      | some e => ((acc ++ b.data, some e), { b with data := [], err := none }, s)
      | none =>
        if b.size ≤ b.data.length then readStringLoop d fuel (acc ++ b.data) { b with data := [] } s
        else
          let (b', s') := fill b s
          readStringLoop d fuel acc b' s'

/-- measure of `readStringLoop`: a set-aside buffer shrinks `data`, a `fill` moves bytes from the stream into `data`
    or records an error -/
def rsFuel (b : Buf) (s : Stream) : Nat := 2 * Stream.wt s.chunks + b.data.length + 3

def readString (d : UInt8) (b : Buf) (s : Stream) : (Bytes × Option BErr) × Buf × Stream :=
  readStringLoop d (rsFuel b s) [] b s

/-- `io.Copy(w, br)` = `br.WriteTo(w)`: the buffered bytes, then (for a writer with `ReadFrom`, like `io.Discard`; or
    by the `fill`/`writeBuf` loop, which moves the same bytes) everything the underlying reader still delivers.
    `b.err` is not consulted. Returns the bytes written and how the source ended. -/
def bufDrain (sched : Sched) (b : Buf) (s : Stream) : (Bytes × End) × Buf × Stream :=
  match copy none sched s with
  | (out, e, s') => ((b.data ++ out, e), { b with data := [] }, s')

/-! ## Layer 2: programs -/

/-- reader state of a running digester: the stream and, once `bufio.NewReader(r)` has been called, its buffer -/
structure M where
  s : Stream
  b : Option Buf
  deriving Repr, DecidableEq

def M.raw (s : Stream) : M := ⟨s, none⟩

inductive Fail where
  | err (e : String)
  | panic (site : String)
  | diverge
  deriving Repr, DecidableEq

def Fail.toRes {α} : Fail → Res α
  | .err e => .err e
  | .panic p => .panic p
  | .diverge => .diverge

/-- programs over the reader primitives.  Every continuation is an arbitrary function of the observation. -/
inductive Prog (α : Type) where
  | ret (a : α)
  | fail (f : Fail)
  /-- `w.Write(data)` on sink number `sink` (a hash, a buffer) -/
  | emit (sink : Nat) (data : Bytes) (k : Prog α)
  | readFull (n : Nat) (k : RF → Prog α)
  | copy (lim : Option Nat) (sched : Sched) (k : Bytes → End → Prog α)
  /-- `n, err := r.Read(make([]byte, k))` with the program acting on `n` / `err`: NOT split independent -/
  | rawRead (n : Nat) (k : Bytes → Option Term → Prog α)
  /-- `_, err := r.Read(make([]byte, 1))` with the program acting on `err` only ("is anything left?"): split
      independent only over `Stream.Plain` streams -/
  | probe (k : Option Term → Prog α)
  /-- `br := bufio.NewReaderSize(r, size)`; from here on the program uses `br` only -/
  | wrapBufio (size : Nat) (k : Prog α)
  | peek (n : Nat) (k : Bytes → Option BErr → Prog α)
  | readByte (k : Except BErr UInt8 → Prog α)
  | readString (delim : UInt8) (k : Bytes → Option BErr → Prog α)
  | bufDrain (sched : Sched) (k : Bytes → End → Prog α)

namespace Prog

def bind {α β} : Prog α → (α → Prog β) → Prog β
  | .ret a, f => f a
  | .fail e, _ => .fail e
  | .emit i d k, f => .emit i d (bind k f)
  | .readFull n k, f => .readFull n fun r => bind (k r) f
  | .copy l sc k, f => .copy l sc fun b e => bind (k b e) f
  | .rawRead n k, f => .rawRead n fun b e => bind (k b e) f
  | .probe k, f => .probe fun e => bind (k e) f
  | .wrapBufio n k, f => .wrapBufio n (bind k f)
  | .peek n k, f => .peek n fun b e => bind (k b e) f
  | .readByte k, f => .readByte fun r => bind (k r) f
  | .readString d k, f => .readString d fun b e => bind (k b e) f
  | .bufDrain sc k, f => .bufDrain sc fun b e => bind (k b e) f

instance : Monad Prog where
  pure := .ret
  bind := bind

/-- no raw `Read` whose outcome the program can see -/
def rawFree {α} : Prog α → Prop
  | .ret _ => True
  | .fail _ => True
  | .emit _ _ k => k.rawFree
  | .readFull _ k => ∀ r, (k r).rawFree
  | .copy _ _ k => ∀ b e, (k b e).rawFree
  | .rawRead _ _ => False
  | .probe k => ∀ e, (k e).rawFree
  | .wrapBufio _ k => k.rawFree
  | .peek _ k => ∀ b e, (k b e).rawFree
  | .readByte k => ∀ r, (k r).rawFree
  | .readString _ k => ∀ b e, (k b e).rawFree
  | .bufDrain _ k => ∀ b e, (k b e).rawFree

/-- no one-byte probe either -/
def probeFree {α} : Prog α → Prop
  | .ret _ => True
  | .fail _ => True
  | .emit _ _ k => k.probeFree
  | .readFull _ k => ∀ r, (k r).probeFree
  | .copy _ _ k => ∀ b e, (k b e).probeFree
  | .rawRead _ k => ∀ b e, (k b e).probeFree
  | .probe _ => False
  | .wrapBufio _ k => k.probeFree
  | .peek _ k => ∀ b e, (k b e).probeFree
  | .readByte k => ∀ r, (k r).probeFree
  | .readString _ k => ∀ b e, (k b e).probeFree
  | .bufDrain _ k => ∀ b e, (k b e).probeFree

/-- no `bufio.Reader` -/
def bufFree {α} : Prog α → Prop
  | .ret _ => True
  | .fail _ => True
  | .emit _ _ k => k.bufFree
  | .readFull _ k => ∀ r, (k r).bufFree
  | .copy _ _ k => ∀ b e, (k b e).bufFree
  | .rawRead _ k => ∀ b e, (k b e).bufFree
  | .probe k => ∀ e, (k e).bufFree
  | .wrapBufio _ _ => False
  | .peek _ _ => False
  | .readByte _ => False
  | .readString _ _ => False
  | .bufDrain _ _ => False

end Prog

/-- sink writes in order -/
abbrev Log := List (Nat × Bytes)

/-- everything written to sink `i` -/
def sinkBytes (l : Log) (i : Nat) : Bytes := (l.filter (·.1 == i)).flatMap (·.2)

def misuse {α σ} (what : String) (m : σ) : Res α × Log × σ := (.panic ("reader-calculus:" ++ what), [], m)

/-- run a program on a reader.  Primitives of `io` act on the raw reader, those of `bufio` on the wrapped one; using
    the raw reader after `bufio.NewReader` took it over (its read-ahead is lost) is flagged as misuse. -/
def run {α} : Prog α → M → Res α × Log × M
  | .ret a, m => (.ok a, [], m)
  | .fail f, m => (f.toRes, [], m)
  | .emit i d k, m =>
    match run k m with
    | (r, l, m') => (r, (i, d) :: l, m')
  | .readFull n k, m =>
    match m.b with
    | some _ => misuse "ReadFull on the raw reader after bufio.NewReader" m
    | none => match readFull n m.s with
      | (r, s') => run (k r) { m with s := s' }
  | .copy lim sc k, m =>
    match m.b with
    | some _ => misuse "Copy on the raw reader after bufio.NewReader" m
    | none => match copy lim sc m.s with
      | (b, e, s') => run (k b e) { m with s := s' }
  | .rawRead n k, m =>
    match m.b with
    | some _ => misuse "Read on the raw reader after bufio.NewReader" m
    | none => match m.s.read n with
      | (b, e, s') => run (k b e) { m with s := s' }
  | .probe k, m =>
    match m.b with
    | some _ => misuse "Read on the raw reader after bufio.NewReader" m
    | none => match m.s.read 1 with
      | (_, e, s') => run (k e) { m with s := s' }
  | .wrapBufio size k, m =>
    match m.b with
    | some _ => misuse "bufio.NewReader twice" m
    | none => run k { m with b := some ⟨max size 16, [], none⟩ }
  | .peek n k, m =>
    match m.b with
    | none => misuse "Peek without bufio.NewReader" m
    | some b => match peek n b m.s with
      | ((d, e), b', s') => run (k d e) ⟨s', some b'⟩
  | .readByte k, m =>
    match m.b with
    | none => misuse "ReadByte without bufio.NewReader" m
    | some b => match readByte b m.s with
      | (r, b', s') => run (k r) ⟨s', some b'⟩
  | .readString d k, m =>
    match m.b with
    | none => misuse "ReadString without bufio.NewReader" m
    | some b => match readString d b m.s with
      | ((l, e), b', s') => run (k l e) ⟨s', some b'⟩
  | .bufDrain sc k, m =>
    match m.b with
    | none => misuse "WriteTo without bufio.NewReader" m
    | some b => match bufDrain sc b m.s with
      | ((d, e), b', s') => run (k d e) ⟨s', some b'⟩

/-! ### the same programs on the whole buffer (specification) -/

/-- the logical reader: what is still to come, how it ends, and the size of the `bufio.Reader` if there is one -/
structure Flat where
  data : Bytes
  term : Term
  buf : Option Nat
  deriving Repr, DecidableEq

def M.abs (m : M) : Flat :=
  { data := (match m.b with | some b => b.data | none => []) ++ m.s.data, term := m.s.term,
    buf := m.b.map (·.size) }

def Flat.raw (d : Bytes) (t : Term) : Flat := ⟨d, t, none⟩

def flatReadFull (n : Nat) (f : Flat) : RF × Flat :=
  if n ≤ f.data.length then (.ok (f.data.take n), { f with data := f.data.drop n })
  else (.short f.data f.term, { f with data := [] })

def flatCopy (lim : Option Nat) (f : Flat) : Bytes × End × Flat :=
  match lim with
  | some n => if n ≤ f.data.length then (f.data.take n, .limit, { f with data := f.data.drop n })
              else (f.data, .src f.term, { f with data := [] })
  | none => (f.data, .src f.term, { f with data := [] })

def flatPeek (n size : Nat) (f : Flat) : Bytes × Option BErr :=
  if size < n then (f.data.take size, some .bufferFull)
  else if f.data.length < n then (f.data, some (.term f.term))
  else (f.data.take n, none)

def flatReadString (d : UInt8) (f : Flat) : (Bytes × Option BErr) × Flat :=
  match cutAt d f.data with
  | some (line, rest) => ((line, none), { f with data := rest })
  | none => ((f.data, some (.term f.term)), { f with data := [] })

def runFlat {α} : Prog α → Flat → Res α × Log × Flat
  | .ret a, f => (.ok a, [], f)
  | .fail e, f => (e.toRes, [], f)
  | .emit i d k, f =>
    match runFlat k f with
    | (r, l, f') => (r, (i, d) :: l, f')
  | .readFull n k, f =>
    match f.buf with
    | some _ => misuse "ReadFull on the raw reader after bufio.NewReader" f
    | none => match flatReadFull n f with
      | (r, f') => runFlat (k r) f'
  | .copy lim _ k, f =>
    match f.buf with
    | some _ => misuse "Copy on the raw reader after bufio.NewReader" f
    | none => match flatCopy lim f with
      | (b, e, f') => runFlat (k b e) f'
  | .rawRead n k, f =>
    -- no specification: shown as the reader that delivers everything in one piece
    match f.buf with
    | some _ => misuse "Read on the raw reader after bufio.NewReader" f
    | none =>
      if f.data.isEmpty then runFlat (k [] (some f.term)) f
      else runFlat (k (f.data.take n) none) { f with data := f.data.drop n }
  | .probe k, f =>
    -- the intended meaning: an error exactly when nothing is left
    match f.buf with
    | some _ => misuse "Read on the raw reader after bufio.NewReader" f
    | none =>
      if f.data.isEmpty then runFlat (k (some f.term)) f
      else runFlat (k none) { f with data := f.data.drop 1 }
  | .wrapBufio size k, f =>
    match f.buf with
    | some _ => misuse "bufio.NewReader twice" f
    | none => runFlat k { f with buf := some (max size 16) }
  | .peek n k, f =>
    match f.buf with
    | none => misuse "Peek without bufio.NewReader" f
    | some size => match flatPeek n size f with
      | (d, e) => runFlat (k d e) f
  | .readByte k, f =>
    match f.buf with
    | none => misuse "ReadByte without bufio.NewReader" f
    | some _ => match f.data with
      | x :: r => runFlat (k (.ok x)) { f with data := r }
      | [] => runFlat (k (.error (.term f.term))) f
  | .readString d k, f =>
    match f.buf with
    | none => misuse "ReadString without bufio.NewReader" f
    | some _ => match flatReadString d f with
      | ((l, e), f') => runFlat (k l e) f'
  | .bufDrain _ k, f =>
    match f.buf with
    | none => misuse "WriteTo without bufio.NewReader" f
    | some _ => runFlat (k f.data (.src f.term)) { f with data := [] }

/-! ### schedules of the Go library (only their positivity matters) -/

/-- `io.Copy`: one 32 KiB buffer -/
def schedCopy : Sched := fun _ => 32768
/-- `io.Discard.ReadFrom`: 8 KiB buffers from a pool -/
def schedDiscard : Sched := fun _ => 8192
/-- `io.ReadAll` / `bytes.Buffer.ReadFrom`: spare capacity, at least 512 -/
def schedReadAll : Sched := fun h => 512 + h.foldl (· + ·) 0 / 4

end Relic.Rd
