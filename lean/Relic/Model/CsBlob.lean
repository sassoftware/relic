/-
  Relic.Model.CsBlob — executable model of `parseSuper` (/repo/lib/fruit/csblob/superblob.go) and of
  `removeSignature` (/repo/lib/signxap/sign.go).  `fx = false`: the unchanged tree; `fx = true`: with the guard that the
  fix of `parseSuper` resp. of `removeSignature` added.
-/
import Relic.Base.Bytes
namespace Relic.CsBlob
open Relic

def be32 (b : Bytes) (off : Nat) : Nat := beVal ((b.drop off).take 4)

/-- one index entry: `offset` is the raw uint32 from the index, `dataOffset = 12 + 8*count`, `data` the bytes after
    the index.  Go:
    ```
    offset -= dataOffset
    if offset > len(blob)-8 { return errShort }
    length := int(binary.BigEndian.Uint32(blob[offset+4:]))     // panics when offset+4 < 0
    if offset+length > len(blob) { return errShort }
    ... blob[offset:] ...                                        // panics when offset < 0
    ``` -/
def entry (fx : Bool) (data : Bytes) (dataOffset offsetRaw : Nat) : Res Unit :=
  let offset : Int := (offsetRaw : Int) - dataOffset
  if fx ∧ offset < 0 then .err "short" else
  if offset > (data.length : Int) - 8 then .err "short" else
  if offset + 4 < 0 then .panic "csblob.parseSuper:slice" else
  let length : Int := be32 data (offset + 4).toNat
  if offset + length > data.length then .err "short" else
  if offset < 0 then .panic "csblob.parseSuper:slice" else
  .ok ()

/-- the loop over the `count` index entries (8 bytes each: type, offset) -/
def entries (fx : Bool) (data : Bytes) (dataOffset : Nat) : Nat → Bytes → Res Unit
  | 0, _ => .ok ()
  | n + 1, idx =>
    (entry fx data dataOffset (be32 idx 4)).bind fun _ => entries fx data dataOffset n (idx.drop 8)

/-- `parseSuper`: returns the magic -/
def parseSuper (fx : Bool) (blob : Bytes) : Res Nat :=
  if blob.length < 12 then .err "short" else
  let length := be32 blob 4
  let count := be32 blob 8
  if length < 8 ∨ blob.length < length then .err "length" else
  let b := blob.drop 12
  if b.length < 8 * count then .err "short" else
  (entries fx (b.drop (8 * count)) (12 + 8 * count) count (b.take (8 * count))).bind fun _ => .ok (be32 blob 0)

/-- `parseSignature` up to the magic test; what follows (code directories, CMS) is outside the model: class "post" -/
def verifyBlob (fx : Bool) (blob : Bytes) : Res Unit :=
  (parseSuper fx blob).bind fun magic =>
    if magic ≠ 4208856256 ∧ magic ≠ 4208856257 then .err "magic" else .err "post"

/-- `removeSignature(cd)` of signxap: `cd[size-10:size]` then, when the trailer magic "XapS" matches,
    `cd[:size - (TrailerSize + 10)]` -/
def removeSignature (fx : Bool) (cd : Bytes) : Res Bytes :=
  if cd.length < 10 then (if fx then .ok cd else .panic "signxap.removeSignature:slice") else
  let tr := cd.drop (cd.length - 10)
  if leVal (tr.take 4) = 1399873880 then
    let ts := leVal ((tr.drop 6).take 4)
    if cd.length < ts + 10 then (if fx then .ok cd else .panic "signxap.removeSignature:slice")
    else .ok (cd.take (cd.length - (ts + 10)))
  else .ok cd

end Relic.CsBlob
