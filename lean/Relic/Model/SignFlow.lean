/-
  Relic.Model.SignFlow — a small sequential language for the control flow of relic's signing
  entry points (server.(*Server).serveSign, cmdline/token.signCmd, signinit.PublishAudit,
  audit.(*Info).AppendTo), its semantics under a *fault oracle*, and a decidable
  all-paths checker (`wp`).  Terms of this language are re-emitted from the Go source on every
  run by tools/extractflow into Relic/Generated/SignFlow.lean.

  Core Lean only.
-/
namespace Relic.SignFlow

/-- audit sinks relic knows: the AMQP exchange and the audit log file -/
inductive Sink | amqp | file
  deriving DecidableEq, Repr

/-- callees that matter, everything else is `other` -/
inductive Prim
  | init                              -- signinit.Init (creates the audit record)
  | sign                              -- mod.Sign
  | publishAudit                      -- signinit.PublishAudit (interpreted by running its extracted body)
  | publishAmqp                       -- (*audit.Info).Publish
  | appendTo                          -- (*audit.Info).AppendTo
  | openFile (flags : List String)    -- os.OpenFile
  | marshal                           -- (*audit.Info).Marshal
  | write (arg : String)              -- (*os.File).Write of a symbolic value
  | responseWrite                     -- any use of the http.ResponseWriter other than rw.Header()
  | apply                             -- transform.Apply (standalone: writes the signed output)
  | other (name : String)
  deriving DecidableEq, Repr

inductive Cond
  | err                               -- `err != nil` on the most recently assigned error
  | notErr                            -- `err == nil`
  | configured (s : Sink)             -- the configuration test guarding a sink
  | opaque (what : String)            -- anything else: both branches possible
  deriving DecidableEq, Repr

/-- what a `return` statement returns as its error result -/
inductive RetK | nil | err | lastErr | unknown
  deriving DecidableEq, Repr

inductive Stmt
  | skip
  | call (p : Prim) (assignsErr : Bool)   -- call; `assignsErr` when its error result is stored in `err`
  | ret (k : RetK)
  | seq (a b : Stmt)
  | ite (c : Cond) (t e : Stmt)
  | block (b : Stmt)                     -- block that declares its own `err` (restored on exit)
  | loop (b : Stmt)
  deriving Repr

/-- right-nested sequencing of a statement list (what the extractor emits for a Go block) -/
def Stmt.seqs : List Stmt → Stmt
  | [] => .skip
  | [a] => a
  | a :: rest => .seq a (Stmt.seqs rest)

/-- which expressions carry the audit record (extracted next to the control flow) -/
structure DataFlow where
  initOpts : String      -- variable receiving the `*signers.SignOpts` returned by signinit.Init
  signArg : String       -- last argument of mod.Sign
  auditArg : String      -- argument of signinit.PublishAudit
  reassigned : Bool      -- `initOpts` assigned again after Init
  deriving Repr, DecidableEq

/-- the record published is the one `Init` created and `Sign` amended -/
def DataFlow.sameRecord (d : DataFlow) : Bool :=
  d.initOpts != "" && d.signArg == "*" ++ d.initOpts && d.auditArg == d.initOpts ++ ".Audit" && !d.reassigned

/-- shorthands for frequent statement forms (the examples of Props/C06 use `ifErrReturn` and `writeRw`) -/
abbrev Stmt.returnNil : Stmt := .ret .nil
abbrev Stmt.returnErr : Stmt := .ret .err
abbrev Stmt.ifErrReturn : Stmt := .ite .err (.ret .lastErr) .skip
abbrev Stmt.writeRw : Stmt := .call .responseWrite true

/-- observable events -/
inductive Ev
  | signed
  | delivered (s : Sink)
  | sinkFailed (s : Sink)
  | response
  | applied
  | opened (flags : List String)
  | wrote (arg : String) (ok : Bool)
  deriving DecidableEq, Repr

inductive Out | norm | retNil | retErr
  deriving DecidableEq, Repr

structure Cfg where
  amqp : Bool
  file : Bool
  deriving DecidableEq, Repr

def Cfg.has (c : Cfg) : Sink → Bool
  | .amqp => c.amqp
  | .file => c.file

def allCfgs : List Cfg := [⟨false, false⟩, ⟨false, true⟩, ⟨true, false⟩, ⟨true, true⟩]

theorem mem_allCfgs (c : Cfg) : c ∈ allCfgs := by
  cases c with | mk a f => cases a <;> cases f <;> simp [allCfgs]

structure St where
  trace : List Ev
  lastErr : Bool
  deriving DecidableEq, Repr

/-- The fault oracle: one number per fallible primitive / opaque decision, `0` = "no fault" /
    "condition false" (the default once the script is exhausted), for `loop` the iteration count. -/
abbrev Script := List Nat

def next : Script → Nat × Script
  | [] => (0, [])
  | n :: r => (n, r)

/-- events of a primitive that succeeded / failed -/
def evOk : Prim → List Ev
  | .sign => [.signed]
  | .publishAmqp => [.delivered .amqp]
  | .appendTo => [.delivered .file]
  | .openFile fl => [.opened fl]
  | .write a => [.wrote a true]
  | .responseWrite => [.response]
  | .apply => [.applied]
  | _ => []

def evFail : Prim → List Ev
  | .publishAmqp => [.sinkFailed .amqp]
  | .appendTo => [.sinkFailed .file]
  | .write a => [.wrote a false]
  | .responseWrite => [.response]      -- a failed body write may have emitted part of the body
  | _ => []

/-- calls that cannot be observed at all are no-ops (and consume no oracle entry) -/
def inert (p : Prim) (assigns : Bool) : Bool :=
  match p, assigns with
  | .other _, false => true
  | _, _ => false

def stepPrim (p : Prim) (assigns failed : Bool) (s : St) : St :=
  { trace := s.trace ++ (if failed then evFail p else evOk p),
    lastErr := if assigns then failed else s.lastErr }

def condVal (cfg : Cfg) (s : St) : Cond → Option Bool
  | .err => some s.lastErr
  | .notErr => some (!s.lastErr)
  | .configured k => some (cfg.has k)
  | .opaque _ => none

/-- interpretation of the `publishAudit` primitive: trace in, oracle ↦ trace out, failed? -/
abbrev PA := List Ev → Script → List Ev × Bool × Script

def iter (f : St → Script → St × Out × Script) : Nat → St → Script → St × Out × Script
  | 0, s, sc => (s, .norm, sc)
  | n + 1, s, sc =>
    match f s sc with
    | (s', .norm, sc') => iter f n s' sc'
    | r => r

/-- big-step semantics under a fault script -/
def exec (pa : PA) (cfg : Cfg) : Stmt → St → Script → St × Out × Script
  | .skip, s, sc => (s, .norm, sc)
  | .call p assigns, s, sc =>
    if inert p assigns then (s, .norm, sc)
    else if p = .publishAudit then
      match pa s.trace sc with
      | (tr, failed, sc') => ({ trace := tr, lastErr := if assigns then failed else s.lastErr }, .norm, sc')
    else
      match next sc with
      | (n, sc') => (stepPrim p assigns (n != 0) s, .norm, sc')
  | .ret .nil, s, sc => (s, .retNil, sc)
  | .ret .err, s, sc => (s, .retErr, sc)
  | .ret .lastErr, s, sc => (s, if s.lastErr then .retErr else .retNil, sc)
  | .ret .unknown, s, sc =>
    match next sc with
    | (n, sc') => (s, if n != 0 then .retErr else .retNil, sc')
  | .seq a b, s, sc =>
    match exec pa cfg a s sc with
    | (s', .norm, sc') => exec pa cfg b s' sc'
    | r => r
  | .ite c t e, s, sc =>
    match condVal cfg s c with
    | some true => exec pa cfg t s sc
    | some false => exec pa cfg e s sc
    | none =>
      match next sc with
      | (n, sc') => if n != 0 then exec pa cfg t s sc' else exec pa cfg e s sc'
  | .block b, s, sc =>
    match exec pa cfg b s sc with
    | (s', o, sc') => ({ s' with lastErr := s.lastErr }, o, sc')
  | .loop b, s, sc =>
    match next sc with
    | (n, sc') => iter (exec pa cfg b) n s sc'

/-- continuation-style all-paths checker: `wp paw cfg p k s = true` means that `k` holds of the
    outcome of *every* execution of `p` from `s` (every fault script).  `paw` is the checker of the
    `publishAudit` interpretation.  Loops are rejected (none of the four functions has one). -/
abbrev PAW := List Ev → (List Ev → Bool → Bool) → Bool

def wp (paw : PAW) (cfg : Cfg) : Stmt → (Out → St → Bool) → St → Bool
  | .skip, k, s => k .norm s
  | .call p assigns, k, s =>
    if inert p assigns then k .norm s
    else if p = .publishAudit then
      paw s.trace (fun tr failed => k .norm { trace := tr, lastErr := if assigns then failed else s.lastErr })
    else
      k .norm (stepPrim p assigns false s) && k .norm (stepPrim p assigns true s)
  | .ret .nil, k, s => k .retNil s
  | .ret .err, k, s => k .retErr s
  | .ret .lastErr, k, s => k (if s.lastErr then .retErr else .retNil) s
  | .ret .unknown, k, s => k .retNil s && k .retErr s
  | .seq a b, k, s => wp paw cfg a (fun o s' => if o = .norm then wp paw cfg b k s' else k o s') s
  | .ite c t e, k, s =>
    match condVal cfg s c with
    | some true => wp paw cfg t k s
    | some false => wp paw cfg e k s
    | none => wp paw cfg t k s && wp paw cfg e k s
  | .block b, k, s => wp paw cfg b (fun o s' => k o { s' with lastErr := s.lastErr }) s
  | .loop _, _, _ => false

/-- `paw` is a sound checker for `pa` -/
def PASound (pa : PA) (paw : PAW) : Prop :=
  ∀ tr k, paw tr k = true → ∀ sc, k (pa tr sc).1 (pa tr sc).2.1 = true

theorem wp_sound (pa : PA) (paw : PAW) (hpa : PASound pa paw) (cfg : Cfg) (p : Stmt) :
    ∀ (k : Out → St → Bool) (s : St), wp paw cfg p k s = true →
      ∀ sc, k (exec pa cfg p s sc).2.1 (exec pa cfg p s sc).1 = true := by
  induction p with
  | skip => intro k s h sc; simpa [wp, exec] using h
  | call p assigns =>
    intro k s h sc
    simp only [wp] at h
    simp only [exec]
    by_cases hi : inert p assigns = true
    · simpa [hi] using h
    · simp only [hi] at h ⊢
      by_cases hp : p = .publishAudit
      · simp only [hp, if_true] at h ⊢
        have := hpa _ _ h sc
        simpa using this
      · simp only [hp, if_false, Bool.false_eq_true, Bool.and_eq_true] at h ⊢
        cases hn : (next sc).1 != 0
        · simpa [hn] using h.1
        · simpa [hn] using h.2
  | ret r =>
    intro k s h sc
    cases r with
    | nil => simpa [wp, exec] using h
    | err => simpa [wp, exec] using h
    | lastErr => simpa [wp, exec] using h
    | unknown =>
      simp only [wp, Bool.and_eq_true] at h
      simp only [exec]
      cases hn : (next sc).1 != 0
      · simpa [hn] using h.1
      · simpa [hn] using h.2
  | seq a b iha ihb =>
    intro k s h sc
    simp only [wp] at h
    have ha := iha _ _ h sc
    simp only [exec]
    generalize exec pa cfg a s sc = r at ha
    obtain ⟨s', o, sc'⟩ := r
    cases o with
    | norm => simp only [if_true] at ha; exact ihb _ _ ha sc'
    | retNil => simpa using ha
    | retErr => simpa using ha
  | ite c t e iht ihe =>
    intro k s h sc
    simp only [wp] at h
    simp only [exec]
    cases hc : condVal cfg s c with
    | some b =>
      cases b with
      | true => simp only [hc] at h ⊢; exact iht _ _ h sc
      | false => simp only [hc] at h ⊢; exact ihe _ _ h sc
    | none =>
      simp only [hc, Bool.and_eq_true] at h ⊢
      generalize next sc = r
      obtain ⟨n, sc'⟩ := r
      by_cases hn : (n != 0) = true
      · simp only [hn, if_true]; exact iht _ _ h.1 _
      · simp only [hn]; exact ihe _ _ h.2 _
  | block b ih =>
    intro k s h sc
    simp only [wp] at h
    have := ih _ _ h sc
    simpa [exec] using this
  | loop b _ => intro k s h; simp [wp] at h

/-! ### the two interpretations of `publishAudit` -/

/-- inside the callee itself (or when nothing is known): an opaque fallible call -/
def paLeaf : PA := fun tr sc => (tr, (next sc).1 != 0, (next sc).2)
def pawLeaf : PAW := fun tr k => k tr false && k tr true

theorem paLeaf_sound : PASound paLeaf pawLeaf := by
  intro tr k h sc
  simp only [pawLeaf, Bool.and_eq_true] at h
  simp only [paLeaf]
  cases hn : (next sc).1 != 0
  · exact h.1
  · exact h.2

/-- in a caller: run the extracted body `q` of PublishAudit (own `err`, shared trace and oracle) -/
def paBody (cfg : Cfg) (q : Stmt) : PA := fun tr sc =>
  match exec paLeaf cfg q ⟨tr, false⟩ sc with
  | (s', o, sc') => (s'.trace, o == .retErr, sc')

def pawBody (cfg : Cfg) (q : Stmt) : PAW := fun tr k =>
  wp pawLeaf cfg q (fun o s' => o != .norm && k s'.trace (o == .retErr)) ⟨tr, false⟩

theorem paBody_sound (cfg : Cfg) (q : Stmt) : PASound (paBody cfg q) (pawBody cfg q) := by
  intro tr k h sc
  have := wp_sound paLeaf pawLeaf paLeaf_sound cfg q _ _ h sc
  simp only [Bool.and_eq_true] at this
  simpa [paBody] using this.2

structure Result where
  trace : List Ev
  out : Out
  deriving Repr

def s0 : St := ⟨[], false⟩

/-- run entry point `p` with `PublishAudit` bound to `q`, sink configuration `cfg`, fault script `sc` -/
def runTop (cfg : Cfg) (q p : Stmt) (sc : Script) : Result :=
  match exec (paBody cfg q) cfg p s0 sc with
  | (s, o, _) => ⟨s.trace, o⟩

/-- run a leaf function (AppendTo) on its own -/
def runLeaf (r : Stmt) (sc : Script) : Result :=
  match exec paLeaf ⟨false, false⟩ r s0 sc with
  | (s, o, _) => ⟨s.trace, o⟩

/-! ### the property on traces (decidable) -/

def sinks : List Sink := [.amqp, .file]

/-- events before the first response write -/
def beforeResponse (tr : List Ev) : List Ev := tr.takeWhile (fun e => e != .response)

def deliveredOnce (cfg : Cfg) (tr : List Ev) : Bool :=
  sinks.all fun s => tr.count (.delivered s) == (if cfg.has s then 1 else 0)

def noSinkFailed (tr : List Ev) : Bool := sinks.all fun s => !tr.contains (.sinkFailed s)

def okSign (cfg : Cfg) (o : Out) (tr : List Ev) : Bool :=
  o != .norm
  && (!tr.contains .response || (deliveredOnce cfg (beforeResponse tr) && deliveredOnce cfg tr && noSinkFailed tr))
  && (!(o == .retNil && tr.contains .signed) || (deliveredOnce cfg tr && noSinkFailed tr))
  && (noSinkFailed tr || (!tr.contains .response && o == .retErr))

/-- **the generated obligation**: on every path through `p` (with PublishAudit = `q`), for every
    sink configuration, the final trace satisfies `okSign`. -/
def auditGuardsResponse (q p : Stmt) : Bool :=
  allCfgs.all fun cfg => wp (pawBody cfg q) cfg p (fun o s => okSign cfg o s.trace) s0

theorem auditGuardsResponse_sound (q p : Stmt) (h : auditGuardsResponse q p = true) (cfg : Cfg) (sc : Script) :
    okSign cfg (runTop cfg q p sc).out (runTop cfg q p sc).trace = true := by
  have hc := List.all_eq_true.mp h cfg (mem_allCfgs cfg)
  have := wp_sound (paBody cfg q) (pawBody cfg q) (paBody_sound cfg q) cfg p _ _ hc sc
  simpa [runTop] using this

/-! ### AppendTo: open with O_APPEND, exactly one Write of marshal ++ "\n" -/

def isFileEv : Ev → Bool
  | .opened _ => true
  | .wrote _ _ => true
  | _ => false

def isWrote : Ev → Bool
  | .wrote _ _ => true
  | _ => false

def lineArg : String := "marshal+nl"

def appendFlagsOk (fl : List String) : Bool :=
  fl.contains "O_APPEND" && (fl.contains "O_WRONLY" || fl.contains "O_RDWR") && !fl.contains "O_TRUNC"

def okAppend (o : Out) (tr : List Ev) : Bool :=
  let fe := tr.filter isFileEv
  o != .norm
  && (match fe with
      | [] => o == .retErr
      | [.opened fl] => appendFlagsOk fl && o == .retErr
      | [.opened fl, .wrote a ok] => appendFlagsOk fl && a == lineArg && (o == .retNil) == ok
      | _ => false)

def appendShape (r : Stmt) : Bool :=
  wp pawLeaf ⟨false, false⟩ r (fun o s => okAppend o s.trace) s0

theorem appendShape_sound (r : Stmt) (h : appendShape r = true) (sc : Script) :
    okAppend (runLeaf r sc).out (runLeaf r sc).trace = true := by
  have := wp_sound paLeaf pawLeaf paLeaf_sound ⟨false, false⟩ r _ _ h sc
  simpa [runLeaf] using this

end Relic.SignFlow
