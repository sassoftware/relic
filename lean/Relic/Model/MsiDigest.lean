/-
  Relic.Model.MsiDigest — executable model of relic's MSI digest code
  (lib/authenticode/msiverify.go: `sortMsiFiles`, `hashMsiDir`, `prehashMsiDir`, `prehashMsiDirent`,
  `DigestMSI`; lib/authenticode/msitar.go: `MsiToTar`, `msiToTarDir`, `DigestMsiTar`;
  lib/authenticode/msinames.go: `msiDecodeName`; lib/comdoc/structs.go: `RawDirEnt.Name`).

  The model works on an abstract directory tree: what `comdoc.ListDir` / `ReadStream` deliver.
  A node carries every exported field of `comdoc.RawDirEnt` (the raw 32-slot name array and the
  `NameLength` field are kept apart, because the code uses them inconsistently), the stream
  content and the children in `ListDir` order.  The hash is a parameter: every function returns
  the *byte stream fed to the hash*.  Where Go would panic the model returns `.panic`.
  Core Lean only: linked into the native driver.
-/
import Relic.Base.Bytes
import Relic.Model.RedBlack
namespace Relic.MsiDigest
open Relic

/-! ### the abstract directory tree (data only; shared with `Relic.Spec.MsiDigest`) -/

/-- the fields of one `comdoc.RawDirEnt` -/
structure Meta where
  slots : List Nat      -- NameRunes [32]uint16
  nameLen : Nat         -- NameLength uint16: a BYTE count including the terminator
  typ : Nat             -- Type: 0 empty, 1 storage, 2 stream, 5 root
  color : Nat           -- Color
  left : Nat            -- LeftChild   (int32 seen as uint32)
  right : Nat           -- RightChild
  child : Nat           -- StorageRoot
  clsid : Bytes         -- UID [16]byte
  state : Nat           -- UserFlags uint32
  ctime : Nat           -- CreateTime uint64
  mtime : Nat           -- ModifyTime uint64
  start : Nat           -- NextSector
  size : Nat            -- StreamSize uint32
  deriving Repr, DecidableEq, Inhabited

/-- a directory entry with what hangs below it: the bytes `ReadStream` yields (streams) and the
    children in the order `ListDir` returns them (storages) -/
inductive Node where
  | mk (m : Meta) (content : Bytes) (kids : List Node)
  deriving Repr, Inhabited

def Node.meta : Node → Meta
  | .mk m _ _ => m
def Node.content : Node → Bytes
  | .mk _ c _ => c
def Node.kids : Node → List Node
  | .mk _ _ k => k

def typStorage : Nat := 1
def typStream : Nat := 2
def typRoot : Nat := 5

/-! ### names -/

/-- "\x05DigitalSignature" -/
def sigName : List Nat := [5, 68, 105, 103, 105, 116, 97, 108, 83, 105, 103, 110, 97, 116, 117, 114, 101]
/-- "\x05MsiDigitalSignatureEx" -/
def sigExName : List Nat :=
  [5, 77, 115, 105, 68, 105, 103, 105, 116, 97, 108, 83, 105, 103, 110, 97, 116, 117, 114, 101, 69, 120]
/-- "__exmeta" -/
def exmetaName : List Nat := [95, 95, 101, 120, 109, 101, 116, 97]
/-- "__storage_uid" -/
def storageUidName : List Nat := [95, 95, 115, 116, 111, 114, 97, 103, 101, 95, 117, 105, 100]

/-- the code units `RawDirEnt.Name()` decodes: `used := NameLength/2 - 1` in uint16 arithmetic;
    `""` for an empty entry or `used > 32` -/
def nameUnits (m : Meta) : List Nat :=
  let used := (m.nameLen / 2 + 65535) % 65536
  if m.typ = 0 ∨ used > 32 then [] else m.slots.take used

/-- `item.Name()` as the sequence of code points of the Go string (`utf16.Decode`) -/
def goName (m : Meta) : List Nat := RedBlack.utf16Decode (nameUnits m)

/-- `name == msiDigitalSignature || name == msiDigitalSignatureEx` -/
def isSig (m : Meta) : Bool := goName m = sigName || goName m = sigExName

/-- `msiDecodeRune` -/
def decodeRune (x : Nat) : Nat :=
  if x < 10 then x + 48 else if x < 36 then x - 10 + 65 else if x < 62 then x - 36 + 97
  else if x = 62 then 46 else 95

/-- `msiDecodeName` over the code points of the string -/
def msiDecodeName : List Nat → List Nat
  | [] => []
  | x :: r =>
    (if 0x3800 ≤ x ∧ x < 0x4800 then [decodeRune ((x - 0x3800) % 64), decodeRune ((x - 0x3800) / 64)]
     else if 0x4800 ≤ x ∧ x < 0x4840 then [decodeRune (x - 0x4800)]
     else if x = 0x4840 then [84, 97, 98, 108, 101, 46]
     else [x]) ++ msiDecodeName r

/-! ### `sortMsiFiles` -/

/-- the comparison loop of the `less` closure: `k` runs over `0 … n-1`, indexing both 32-slot arrays.
    The lists are consumed in step with `k`; running off their end with `k < n` is Go's
    `index out of range [32] with length 32`. -/
def lessGo : List Nat → List Nat → Nat → Bool → Res Bool
  | _, _, 0, tie => .ok tie
  | x :: xs, y :: ys, n + 1, tie =>
    if x % 256 ≠ y % 256 then .ok (x % 256 < y % 256)
    else if x / 256 ≠ y / 256 then .ok (x / 256 < y / 256)
    else lessGo xs ys n tie
  | _, _, _ + 1, _ => .panic "sortMsiFiles"

/-- `less(i, j)` of `sortMsiFiles`: `n := min(a.NameLength, b.NameLength)` – a byte count – bounds
    a loop over code units; the tie is `a.NameLength > b.NameLength` -/
def less (a b : Meta) : Res Bool :=
  lessGo a.slots b.slots (min a.nameLen b.nameLen) (decide (a.nameLen > b.nameLen))

/-- one pass of Go's `insertionSort_func` (package `sort`) inner loop: `x` sits to the right of the already
    sorted prefix, held here right-to-left, and is swapped leftwards while `less(x, left)` -/
def insR {α : Type} (lt : α → α → Res Bool) (x : α) : List α → Res (List α)
  | [] => .ok [x]
  | y :: rest => do
    let b ← lt x y
    if b then
      let r ← insR lt x rest
      pure (y :: r)
    else pure (x :: y :: rest)

def sortFold {α : Type} (lt : α → α → Res Bool) : List α → List α → Res (List α)
  | acc, [] => .ok acc
  | acc, x :: rest => do
    let acc' ← insR lt x acc
    sortFold lt acc' rest

/-- `sort.Slice(files, less)`.  Go's pdqsort is exactly this insertion sort for up to 12 elements.
    For longer lists it makes other comparisons; the results coincide whenever the comparator is a
    strict total order on the siblings (`Relic.Props.C18.sort_unique`). -/
def sortRes {α : Type} (lt : α → α → Res Bool) (l : List α) : Res (List α) := do
  let r ← sortFold lt [] l
  pure r.reverse

/-- an entry together with what it contributes once its turn comes -/
abbrev Item (β : Type) := Meta × Res β

def sortItems {β : Type} (l : List (Item β)) : Res (List (Item β)) :=
  sortRes (fun a b => less a.1 b.1) l

/-- run the contributions in order and concatenate (first failure wins, as in the Go loop) -/
def catRes {γ : Type} : List (Res (List γ)) → Res (List γ)
  | [] => .ok []
  | r :: rest => do
    let a ← r
    let b ← catRes rest
    pure (a ++ b)

/-! ### `hashMsiDir` -/

/-- body of `hashMsiDir` once the children's contributions are known: sort, skip the two signature
    names *in the root storage only* (`isRoot := parent.Type == comdoc.DirRoot`), streams and
    storages in sorted order, then the storage's own CLSID -/
def hashDirOf (isRoot : Bool) (clsid : Bytes) (items : List (Item Bytes)) : Res Bytes := do
  let s ← sortItems items
  let body ← catRes ((s.filter (fun it => !(isRoot && isSig it.1))).map (·.2))
  pure (body ++ clsid)

mutual
def hashItem : Node → Item Bytes
  | .mk m content kids =>
    (m, if m.typ = typStream then .ok content
        else if m.typ = typStorage then hashDirOf false m.clsid (hashItems kids)
        else .ok [])
def hashItems : List Node → List (Item Bytes)
  | [] => []
  | n :: r => hashItem n :: hashItems r
end

/-- `hashMsiDir(cdf, cdf.RootStorage(), d)`: the bytes written to `d` -/
def hashMsiDir (root : Node) : Res Bytes := hashDirOf true root.meta.clsid (hashItems root.kids)

/-! ### `prehashMsiDir` -/

def le16s : List Nat → Bytes
  | [] => []
  | u :: r => UInt8.ofNat (u % 256) :: UInt8.ofNat (u / 256) :: le16s r

/-- `binary.Write(buf, LittleEndian, item.RawDirEnt)`: 128 bytes (the blank field is written as zeros) -/
def enc (m : Meta) : Bytes :=
  le16s m.slots ++ leBytes 2 m.nameLen ++ [UInt8.ofNat m.typ, UInt8.ofNat m.color] ++
  leBytes 4 m.left ++ leBytes 4 m.right ++ leBytes 4 m.child ++ m.clsid ++ leBytes 4 m.state ++
  leBytes 8 m.ctime ++ leBytes 8 m.mtime ++ leBytes 4 m.start ++ leBytes 4 m.size ++ [0, 0, 0, 0]

/-- `prehashMsiDirent`: name bytes `enc[:NameLength-2]` (uint16 subtraction; slicing beyond the
    capacity 128 panics) unless root; CLSID for root/storage; `enc[120:124]` (size) for streams;
    `enc[96:100]` (state bits); `enc[100:116]` (creation, modification time) unless root -/
def prehashDirent (m : Meta) : Res Bytes :=
  let e := enc m
  let n := (m.nameLen + 65534) % 65536
  if m.typ ≠ typRoot ∧ n > 128 then .panic "prehashMsiDirent"
  else .ok (
    (if m.typ ≠ typRoot then e.take n else []) ++
    (if m.typ = typRoot ∨ m.typ = typStorage then m.clsid else []) ++
    (if m.typ = typStream then leBytes 4 m.size else []) ++
    leBytes 4 m.state ++
    (if m.typ ≠ typRoot then leBytes 8 m.ctime ++ leBytes 8 m.mtime else []))

def prehashDirOf (isRoot : Bool) (m : Meta) (items : List (Item Bytes)) : Res Bytes := do
  let s ← sortItems items
  let self ← prehashDirent m
  let body ← catRes ((s.filter (fun it => !(isRoot && isSig it.1))).map (·.2))
  pure (self ++ body)

mutual
def prehashItem : Node → Item Bytes
  | .mk m _ kids =>
    (m, if m.typ = typStream then prehashDirent m
        else if m.typ = typStorage then prehashDirOf false m (prehashItems kids)
        else .ok [])
def prehashItems : List Node → List (Item Bytes)
  | [] => []
  | n :: r => prehashItem n :: prehashItems r
end

/-- `prehashMsiDir(cdf, cdf.RootStorage(), d2)`: the bytes whose hash is the MsiDigitalSignatureEx blob -/
def prehashMsiDir (root : Node) : Res Bytes := prehashDirOf true root.meta (prehashItems root.kids)

/-- `DigestMSI`: the byte stream fed to `d` (the imprint is its hash).  `H` is the hash function. -/
def digestMSI (H : Bytes → Bytes) (root : Node) (extended : Bool) : Res Bytes := do
  let pre ← if extended then (do let p ← prehashMsiDir root; pure (H p)) else pure []
  let main ← hashMsiDir root
  pure (pre ++ main)

/-! ### the tar path -/

/-- a tar member: header name (code points) and content -/
abbrev Member := List Nat × Bytes

/-- body of `msiToTarDir` once the children's members are known: sort, every child (no name is
    skipped here), then `path + "__storage_uid"` holding the CLSID -/
def tarDirOf (path : List Nat) (clsid : Bytes) (items : List (Item (List Member))) : Res (List Member) := do
  let s ← sortItems items
  let body ← catRes (s.map (·.2))
  pure (body ++ [(path ++ storageUidName, clsid)])

mutual
def tarItem (path : List Nat) : Node → Item (List Member)
  | .mk m content kids =>
    (m, if m.typ = typStream then .ok [(path ++ msiDecodeName (goName m), content)]
        else if m.typ = typStorage then
          tarDirOf (path ++ msiDecodeName (goName m) ++ [47]) m.clsid
            (tarItems (path ++ msiDecodeName (goName m) ++ [47]) kids)
        else .ok [])
def tarItems (path : List Nat) : List Node → List (Item (List Member))
  | [] => []
  | n :: r => tarItem path n :: tarItems path r
end

/-- `checkMsiTarNames`: no entry of the root storage that the tar form cannot tell apart – a stream whose tar name
    (MSI-decoded) is "__exmeta" or, without being its stored name, a signature name; a storage whose stored name is a
    signature name -/
def tarRootOkB (kids : List Node) : Bool :=
  kids.all (fun n =>
    if n.meta.typ = typStream then
      !(decide (msiDecodeName (goName n.meta) = exmetaName) ||
        (decide (msiDecodeName (goName n.meta) = sigName ∨ msiDecodeName (goName n.meta) = sigExName) &&
          decide (msiDecodeName (goName n.meta) ≠ goName n.meta)))
    else if n.meta.typ = typStorage then !isSig n.meta
    else true)

/-- `MsiToTar`: refusal of documents with reserved tar names in the root storage, then the member list
    (archive/tar is taken to carry names and contents unchanged) -/
def msiToTar (root : Node) : Res (List Member) :=
  if !tarRootOkB root.kids then .err "tar-name"
  else do
    let pre ← prehashMsiDir root
    let body ← tarDirOf [] root.meta.clsid (tarItems [] root.kids)
    pure ((exmetaName, pre) :: body)

/-- what `DigestMsiTar` writes to `d` for one member -/
def tarContribution (H : Bytes → Bytes) (extended : Bool) (mb : Member) : Bytes :=
  if mb.1 = exmetaName then (if extended then H mb.2 else [])
  else if mb.1 = sigName ∨ mb.1 = sigExName then []
  else mb.2

/-- `DigestMsiTar`: the byte stream fed to `d` -/
def digestMsiTar (H : Bytes → Bytes) (extended : Bool) (ms : List Member) : Bytes :=
  ms.flatMap (tarContribution H extended)


/-! ### the code before the repair of Fmsi-tar (signature names were skipped in *every* storage by the direct walk,
    `MsiToTar` refused nothing): kept so that the witness theorems remain statements about the original code -/

def hashDirOfOrig (clsid : Bytes) (items : List (Item Bytes)) : Res Bytes := do
  let s ← sortItems items
  let body ← catRes ((s.filter (fun it => !isSig it.1)).map (·.2))
  pure (body ++ clsid)

mutual
def hashItemOrig : Node → Item Bytes
  | .mk m content kids =>
    (m, if m.typ = typStream then .ok content
        else if m.typ = typStorage then hashDirOfOrig m.clsid (hashItemsOrig kids)
        else .ok [])
def hashItemsOrig : List Node → List (Item Bytes)
  | [] => []
  | n :: r => hashItemOrig n :: hashItemsOrig r
end

def hashMsiDirOrig (root : Node) : Res Bytes := hashDirOfOrig root.meta.clsid (hashItemsOrig root.kids)

def prehashDirOfOrig (m : Meta) (items : List (Item Bytes)) : Res Bytes := do
  let s ← sortItems items
  let self ← prehashDirent m
  let body ← catRes ((s.filter (fun it => !isSig it.1)).map (·.2))
  pure (self ++ body)

mutual
def prehashItemOrig : Node → Item Bytes
  | .mk m _ kids =>
    (m, if m.typ = typStream then prehashDirent m
        else if m.typ = typStorage then prehashDirOfOrig m (prehashItemsOrig kids)
        else .ok [])
def prehashItemsOrig : List Node → List (Item Bytes)
  | [] => []
  | n :: r => prehashItemOrig n :: prehashItemsOrig r
end

def prehashMsiDirOrig (root : Node) : Res Bytes := prehashDirOfOrig root.meta (prehashItemsOrig root.kids)

def digestMSIOrig (H : Bytes → Bytes) (root : Node) (extended : Bool) : Res Bytes := do
  let pre ← if extended then (do let p ← prehashMsiDirOrig root; pure (H p)) else pure []
  let main ← hashMsiDirOrig root
  pure (pre ++ main)

def msiToTarOrig (root : Node) : Res (List Member) := do
  let pre ← prehashMsiDirOrig root
  let body ← tarDirOf [] root.meta.clsid (tarItems [] root.kids)
  pure ((exmetaName, pre) :: body)

mutual
/-- the hypothesis under which the *original* tar path agreed with the original direct walk, executable: `DigestMsiTar` recognises the signature streams and the
    metadata member by their *tar* names (path + MSI-decoded name), `hashMsiDir` by the stored name at every level.
    The two agree when every stream's tar name is a signature name exactly if its stored name is one and never
    "__exmeta", and no storage carries a signature name. -/
def tarSafeNode (path : List Nat) : Node → Bool
  | .mk m _ kids =>
    if m.typ = typStream then
      decide (path ++ msiDecodeName (goName m) ≠ exmetaName) &&
      (decide (path ++ msiDecodeName (goName m) = sigName ∨ path ++ msiDecodeName (goName m) = sigExName) == isSig m)
    else if m.typ = typStorage then !isSig m && tarSafeB (path ++ msiDecodeName (goName m) ++ [47]) kids
    else true
def tarSafeB (path : List Nat) : List Node → Bool
  | [] => true
  | n :: r => tarSafeNode path n && tarSafeB path r
end

/-- the same stream as a list of segments, `true` = "the hash of these bytes", `false` = the bytes themselves
    (what the driver prints; `Relic.Props.C18.digestMsiTar_segments`) -/
def tarSegments (extended : Bool) : List Member → List (Bool × Bytes)
  | [] => []
  | mb :: r =>
    (if mb.1 = exmetaName then (if extended then [(true, mb.2)] else [])
     else if mb.1 = sigName ∨ mb.1 = sigExName then []
     else [(false, mb.2)]) ++ tarSegments extended r

end Relic.MsiDigest
