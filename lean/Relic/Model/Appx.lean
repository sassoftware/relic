/-
  Relic.Model.Appx — executable model of relic's APPX/MSIX signing and verification layout:

  * `signers/zipbased` + `lib/zipslicer/tarzip.go` (`ZipToTar`, `ReadZipTar`): directory located and copied first,
    then one forward pass over the archive (reuses `Relic.Model.Zip`);
  * `lib/signappx/tarappx.go` `DigestAppxTar` / `digestFile` and `blockmap.go` `blockMap.AddFile`, `CopySizes`:
    payload members (everything before the first part relic regenerates) are hashed record by record into AXPC,
    cut into 64 KiB blocks of *uncompressed* data for the block map, checked for contiguity (`zipslicer.Contiguous`)
    and re-emitted with `Directory.AddFile`; the regenerated parts that follow are read and parsed;
  * `lib/signappx/sign.go` `AppxDigest.Sign`: manifest (stored, descriptor), block map (deflated, descriptor),
    content types (deflated, no descriptor), code-integrity catalog (only when a `.exe`/`.dll` member exists),
    AXCD = the ZIP64-forced directory *before* the signature part is added, `AppxSignature.p7x`, final directory,
    binary patch `[patchStart, size) := patchBuf`;
  * `lib/signappx/verify.go` / `zipmeta.go` / `blockmap.go` `Verify`, `verifyFile`, `verifyMeta`
    (`zipslicer.Directory.Truncate`), `verifyCatalog`, `verifyBlockMap`.

  Parameters (never computed in Lean): inflate, the XML parsers/marshalers (parts are handled as parsed data or opaque
  bytes), `authenticode.DigestPE`'s verdict, PKCS#7, hashes (the model outputs the byte STREAM fed to each hash).
  Not modelled: CRC-32 checks (generated members carry correct or zero CRCs), bundles (`AppxBundleManifest.xml` is
  refused by the model with its own class), `time.Time` <-> DOS time (the DOS stamp of the new parts is an input),
  the content of `[Content_Types].xml`.
  Core Lean only.
-/
import Relic.Model.ZipRewrite
namespace Relic.Appx
open Relic Relic.Zip

def sSignature : Bytes := [65, 112, 112, 120, 83, 105, 103, 110, 97, 116, 117, 114, 101, 46, 112, 55, 120]  -- AppxSignature.p7x
def sCatalog : Bytes := [65, 112, 112, 120, 77, 101, 116, 97, 100, 97, 116, 97, 47, 67, 111, 100, 101, 73, 110, 116, 101, 103, 114, 105, 116, 121, 46, 99, 97, 116]  -- AppxMetadata/CodeIntegrity.cat
def sBlockMap : Bytes := [65, 112, 112, 120, 66, 108, 111, 99, 107, 77, 97, 112, 46, 120, 109, 108]  -- AppxBlockMap.xml
def sManifest : Bytes := [65, 112, 112, 120, 77, 97, 110, 105, 102, 101, 115, 116, 46, 120, 109, 108]  -- AppxManifest.xml
def sBundle : Bytes := [65, 112, 112, 120, 77, 101, 116, 97, 100, 97, 116, 97, 47, 65, 112, 112, 120, 66, 117, 110, 100, 108, 101, 77, 97, 110, 105, 102, 101, 115, 116, 46, 120, 109, 108]  -- AppxMetadata/AppxBundleManifest.xml
def sCTypes : Bytes := sContentTypes  -- [Content_Types].xml
def sExe : Bytes := [46, 101, 120, 101]
def sDll : Bytes := [46, 100, 108, 108]
def sAppx : Bytes := [46, 97, 112, 112, 120]

/-- the names that end the payload loop of `DigestAppxTar` -/
def special (n : Bytes) : Bool :=
  n == sManifest || n == sBlockMap || n == sCTypes || n == sCatalog || n == sSignature || n == sBundle

/-- `noHashFiles[name] || strings.HasSuffix(name, ".appx")` (`blockMap.AddFile`), the code before the repair of F41 -/
def skipBMOrig (n : Bytes) : Bool :=
  n == sSignature || n == sCatalog || n == sCTypes || n == sBlockMap || endsWith n sAppx

/-- `blockMap.AddFile`: is the member left out of the block map?  `fixed` = the source carries the repair of F41
    (`noHashFiles[f.Name] || (b.isBundle && strings.HasSuffix(f.Name, ".appx"))`); this model refuses bundles, so with the repair
    only the four unhashed parts are left out.  Without it every member named `*.appx` is (`skipBMOrig`). -/
def skipBM (fixed : Bool) (n : Bytes) : Bool :=
  n == sSignature || n == sCatalog || n == sCTypes || n == sBlockMap || (!fixed && endsWith n sAppx)

theorem skipBM_orig (n : Bytes) : skipBM false n = skipBMOrig n := by simp [skipBM, skipBMOrig]

/-- `digestFile`: members that are fed to `authenticode.DigestPE` -/
def isPE (n : Bytes) : Bool := endsWith n sExe || endsWith n sDll

def zipToDos (n : Bytes) : Bytes := n.map fun b => if b = 0x2f then 0x5c else b
def dosToZip (n : Bytes) : Bytes := n.map fun b => if b = 0x5c then 0x2f else b

/-- what the model does not compute -/
structure Codec where
  /-- raw deflate stream filling a data extent ↦ contents (`none`: `compress/flate` reports an error) -/
  inflate : Bytes → Option Bytes
  /-- `authenticode.DigestPE` succeeds on these contents -/
  peOk : Bytes → Bool
  /-- `parseManifest` succeeds -/
  manifestOk : Bytes → Bool
  /-- `xml.Unmarshal` of a block map: per `File` element the `Name` attribute and the `Size` attributes of its blocks -/
  blockMap : Bytes → Option (List (Bytes × List Nat))
  /-- `ContentTypes.Parse` succeeds -/
  ctypesOk : Bytes → Bool
  /-- the source carries the repair of F41 (not a computation left out: which of the two versions of `blockMap.AddFile` is modelled) -/
  f41 : Bool := false

/-- one `File` element of the block map; a block is the byte stream that is hashed plus the `Size` attribute -/
structure BmFile where
  name : Bytes
  size : Nat
  lfh : Nat
  blocks : List (Bytes × Nat)
  deriving Repr, DecidableEq

def blockSize : Nat := 65536

/-- the `io.CopyN(w, rc, 64 KiB)` loop: consecutive 64 KiB pieces, the last one shorter, none empty -/
def chunks : Nat → Bytes → List Bytes
  | 0, _ => []
  | fuel + 1, b =>
    match b with
    | [] => []
    | _ :: _ => b.take blockSize :: chunks fuel (b.drop blockSize)

def blocksOf (plain : Bytes) : List (Bytes × Nat) := (chunks plain.length plain).map fun c => (c, 0)

/-- `f.Open()` + reading to the end, for the two methods `OpenAndTeeRaw` knows -/
def contentOf (c : Codec) (method : Nat) (data : Bytes) : Res Bytes :=
  if method = 0 then .ok data
  else match c.inflate data with
    | some p => .ok p
    | none => .err "io"

structure Hashed where
  m : Member
  /-- what `blockMap.AddFile` writes to `raw` (AXPC): local header re-encoded, data extent, descriptor -/
  raw : Bytes
  plain : Bytes
  deriving Repr

/-- `blockMap.AddFile(f, axpc, sink)` / `readSlicerFile(f)` on a member of the input, in the forward pass -/
def hashMember (c : Codec) (r : Rd) (f : File) : Res (Hashed × Rd) :=
  match readLocalHeader r f with
  | .ok (l, r1) =>
    if f.method ≠ 0 ∧ f.method ≠ 8 then .err "method" else
    let doff := f.offset + 30 + l.nameLen + l.extraLen
    match (if f.csize = 0 then Res.ok (([] : Bytes), r1) else r1.readAt doff f.csize) with
    | .ok (data, r2) =>
      match contentOf c f.method data with
      | .ok plain =>
        if plain.length ≠ f.usize then .err "io" else
        match readDataDesc r2 f l with
        | .ok (ddb, crc, r3) =>
          .ok (⟨{ file := { f with crc := crc, lfh := some l, ddb := ddb }, lfh := l, dataOff := doff,
                  total := 30 + (l.name.length + l.extra.length + ddb.length) + f.csize },
                encLfh l ++ l.name ++ l.extra ++ data ++ ddb, plain⟩, r3)
        | .err x => .err x
        | .panic s => .panic s
        | .diverge => .diverge
      | .err x => .err x
      | .panic s => .panic s
      | .diverge => .diverge
    | .err x => .err x
    | .panic s => .panic s
    | .diverge => .diverge
  | .err x => .err x
  | .panic s => .panic s
  | .diverge => .diverge

def bmOf (f : File) (h : Hashed) : BmFile :=
  { name := zipToDos f.name, size := h.plain.length, lfh := 30 + h.m.lfh.name.length + h.m.lfh.extra.length,
    blocks := blocksOf h.plain }

/-- state of `DigestAppxTar`'s first loop -/
structure PState where
  outz : Directory := { files := [], size := 0, dirLoc := 0 }
  /-- `Contiguous.pos` -/
  pos : Nat := 0
  axpc : Bytes := []
  bm : List BmFile := []
  unverified : Bool := false
  hasPE : Bool := false
  members : List Member := []
  deriving Repr

def PState.step (s : PState) (c : Codec) (f : File) (h : Hashed) : PState :=
  { outz := addFile s.outz h.m.file h.m.total, pos := s.pos + h.m.total, axpc := s.axpc ++ h.raw,
    bm := if skipBM c.f41 f.name then s.bm else s.bm ++ [bmOf f h],
    unverified := s.unverified || (!skipBM c.f41 f.name && decide (f.method ≠ 0)),
    hasPE := s.hasPE || isPE f.name, members := s.members ++ [h.m] }

/-- the payload loop: `digestFile`, `layout.Next`, `outz.AddFile` per member -/
def payloadPass (c : Codec) : Rd → List File → PState → Res (PState × Rd)
  | r, [], s => .ok (s, r)
  | r, f :: fs, s =>
    match hashMember c r f with
    | .ok (h, r') =>
      if isPE f.name && !c.peOk h.plain then .err "pe"
      else if f.offset ≠ s.pos then .err "notcontig"
      else payloadPass c r' fs (s.step c f h)
    | .err x => .err x
    | .panic s => .panic s
    | .diverge => .diverge

/-- `newf.Block[j].Size = oldblock.Size` for every old block: `none` = index out of range -/
def setSizes : List (Bytes × Nat) → List Nat → Option (List (Bytes × Nat))
  | bs, [] => some bs
  | [], _ :: _ => none
  | (s, _) :: bs, n :: ns => (setSizes bs ns).map fun t => (s, n) :: t

/-- `blockMap.CopySizes` after the XML is parsed; `i` is the index of the old `File` element (it advances over a
    skipped manifest entry as well) -/
def copySizes : Nat → List BmFile → List (Bytes × List Nat) → Res (List BmFile)
  | _, bm, [] => .ok bm
  | i, bm, (name, sizes) :: rest =>
    let zn := dosToZip name
    if zn == sManifest || zn == sBundle then copySizes (i + 1) bm rest
    else match bm[i]? with
      | none => .err "bmtoomany"
      | some nf =>
        if nf.name ≠ name then .err "bmmismatch" else
        match setSizes nf.blocks sizes with
        | none => .err "bmmismatch"     -- fix-F42: bounds check
        | some bs => copySizes (i + 1) (bm.set i { nf with blocks := bs }) rest

structure TState where
  manifest : Bool := false
  bm : List BmFile
  unverified : Bool
  deriving Repr

/-- the second loop of `DigestAppxTar`: the regenerated parts are read and parsed, anything else is "out of order" -/
def tailPass (c : Codec) : Rd → List File → TState → Res TState
  | _, [], t => .ok t
  | r, f :: fs, t =>
    match hashMember c r f with
    | .ok (h, r') =>
      if f.name == sManifest then
        if c.manifestOk h.plain then tailPass c r' fs { t with manifest := true } else .err "xml"
      else if f.name == sBundle then .err "bundle"
      else if f.name == sBlockMap then
        match c.blockMap h.plain with
        | none => .err "xml"
        | some old =>
          match copySizes 0 t.bm old with
          | .ok bm => tailPass c r' fs { t with bm := bm, unverified := false }
          | .err x => .err x
          | .panic s => .panic s
          | .diverge => .diverge
      else if f.name == sCTypes then
        if c.ctypesOk h.plain then tailPass c r' fs t else .err "xml"
      else if f.name == sCatalog || f.name == sSignature then tailPass c r' fs t
      else .err "outoforder"
    | .err x => .err x
    | .panic s => .panic s
    | .diverge => .diverge

/-- what `DigestAppxTar` returns (the fields `Sign` uses) -/
structure Digested where
  p : PState
  patchStart : Nat
  bm : List BmFile
  unverified : Bool
  deriving Repr

def payloadOf (fs : List File) : List File := fs.takeWhile fun f => !special f.name
def tailOf (fs : List File) : List File := fs.dropWhile fun f => !special f.name

/-- `DigestAppxTar` given the directory `ReadZipTar` produced -/
def digestDir (c : Codec) (z : Bytes) (d : Directory) : Res Digested :=
  match payloadPass c ⟨z, true, 0⟩ (payloadOf d.files) {} with
  | .ok (p, r) =>
    match tailOf d.files with
    | [] => .err "nomanifest"          -- no regenerated part at all: both loops end, `info.manifest == nil`
    | f0 :: tl =>
      if f0.offset ≠ p.pos then .err "notcontig" else
      match tailPass c r (f0 :: tl) { bm := p.bm, unverified := p.unverified } with
      | .ok t => if !t.manifest then .err "nomanifest" else .ok ⟨p, f0.offset, t.bm, t.unverified⟩
      | .err x => .err x
      | .panic s => .panic s
      | .diverge => .diverge
  | .err x => .err x
  | .panic s => .panic s
  | .diverge => .diverge

/-- `ZipToTar` + `ReadZipTar` + `DigestAppxTar` -/
def digest (c : Codec) (z : Bytes) : Res Digested :=
  match findDirectory ⟨z, false, 0⟩ with
  | .ok loc =>
    if loc > z.length then .err "tar" else
    match readWithDirectory z.length (z.drop loc) with
    | .ok d => digestDir c z d
    | .err x => .err x
    | .panic s => .panic s
    | .diverge => .diverge
  | .err x => .err x
  | .panic s => .panic s
  | .diverge => .diverge

/-! ### `AppxDigest.Sign` -/

/-- a regenerated part: contents, their compressed form as written (equal to the contents when stored), CRC-32 -/
structure Blob where
  plain : Bytes
  compd : Bytes
  crc : Nat
  deriving Repr, DecidableEq

structure Parts where
  manifest : Blob
  blockmap : Blob
  ctypes : Blob
  /-- used only when the package has a `.exe`/`.dll` member -/
  catalog : Blob
  signature : Blob
  mt : Nat
  md : Nat
  deriving Repr, DecidableEq

/-- the byte streams fed to the five hashes -/
structure Streams where
  axpc : Bytes
  axcd : Bytes
  axct : Bytes
  axbm : Bytes
  axci : Option Bytes
  deriving Repr, DecidableEq

structure Signed where
  out : Bytes
  streams : Streams
  /-- the block map data `blockMap.Marshal` serialises (manifest entry appended) -/
  bm : List BmFile
  /-- offset of the signature part's local header -/
  sigOff : Nat
  /-- offset of the central directory -/
  cdOff : Nat
  deriving Repr

/-- `addZipEntry` of a deflated part -/
def addDeflated (d : Directory) (name : Bytes) (b : Blob) (mt md : Nat) (useDesc : Bool) : Bytes × Directory :=
  newFile d name [] b.compd b.plain.length b.crc mt md true useDesc

/-- `Sign`, then the binary patch applied to the input -/
def assemble (z : Bytes) (g : Digested) (ps : Parts) : Res Signed :=
  -- writeManifest: stored, with descriptor; the block map gains the manifest's entry (blocks of the new contents)
  let (b1, d1) := newFile g.p.outz sManifest [] ps.manifest.plain ps.manifest.plain.length ps.manifest.crc ps.mt ps.md false true
  let bm := g.bm ++ [{ name := zipToDos sManifest, size := ps.manifest.plain.length, lfh := 30 + sManifest.length,
                       blocks := blocksOf ps.manifest.plain : BmFile }]
  -- writeBlockMap: `Marshal` refuses when a compressed member had no entry in an old block map
  if g.unverified then .err "unverified" else
  let (b2, d2) := addDeflated d1 sBlockMap ps.blockmap ps.mt ps.md true
  let (b3, d3) := addDeflated d2 sCTypes ps.ctypes ps.mt ps.md false
  let (b4, d4) := if g.p.hasPE then addDeflated d3 sCatalog ps.catalog ps.mt ps.md false else ([], d3)
  let axpc := g.p.axpc ++ b1 ++ b2 ++ b3 ++ b4
  -- writeSignature: AXCD is the directory as it stands now, ZIP64 end records forced
  let (cdA, eodA, d4') := writeDirectory d4 true
  let (b5, d5) := addDeflated d4' sSignature ps.signature ps.mt ps.md false
  let (cd, eod, _) := writeDirectory d5 true
  .ok { out := z.take g.patchStart ++ (b1 ++ b2 ++ b3 ++ b4 ++ b5 ++ (cd ++ eod)),
        streams := ⟨axpc, cdA ++ eodA, ps.ctypes.plain, ps.blockmap.plain,
                    if g.p.hasPE then some ps.catalog.plain else none⟩,
        bm := bm, sigOff := d4.dirLoc, cdOff := d5.dirLoc }

def sign (c : Codec) (z : Bytes) (ps : Parts) : Res Signed :=
  match digest c z with
  | .ok g => assemble z g ps
  | .err x => .err x
  | .panic s => .panic s
  | .diverge => .diverge

/-! ### `Verify` -/

/-- `Directory.Truncate(n, body, dir)` on a directory obtained from `zipslicer.Read` (random access): the bytes written
    to `body` and to `dir`.  `n` is a valid index (the caller's `sigIdx`). -/
def truncBody (r : Rd) : List File → Res Bytes
  | [] => .ok []
  | f :: fs =>
    match getTotalSize r f with
    | .ok (m, _) =>
      match truncBody r fs with
      | .ok rest => .ok ((r.z.drop f.offset).take m.total ++ rest)   -- io.Copy of a section: silently short at EOF
      | .err x => .err x
      | .panic s => .panic s
      | .diverge => .diverge
    | .err x => .err x
    | .panic s => .panic s
    | .diverge => .diverge

def truncDir (d : Directory) (n : Nat) (cdOffset : Nat) : Res Bytes :=
  let cd := (headersOf (d.files.take n)).1
  let size := cd.length
  if d.end64.sig ≠ 0 then
    .ok (cd ++ encEnd64 { d.end64 with diskCount := n, total := n, cdSize := size, cdOff := cdOffset } ++
         encLoc64 { d.loc64 with off := cdOffset + size } ++ encEnd d.endr)
  else if cdOffset ≥ u32Max ∨ n ≥ u16Max then .err "toobig"
  else .ok (cd ++ encEnd { d.endr with diskCount := n, total := n, cdSize := size, cdOff := cdOffset })

/-- `sigIdx` of `verifyMeta`: index of the signature part, which must come last (`none` = "out of order") -/
def sigIndex : List File → Nat → Option Nat → Option (Option Nat)
  | [], _, acc => some acc
  | f :: fs, i, acc =>
    if f.name == sSignature then sigIndex fs (i + 1) (some i)
    else if acc.isSome then none
    else sigIndex fs (i + 1) acc

/-- `verifyMeta`: the recomputed AXPC and AXCD streams -/
def verifyMeta (out : Bytes) : Res (Bytes × Bytes) :=
  let r : Rd := ⟨out, false, 0⟩
  match read r with
  | .ok d =>
    match sigIndex d.files 0 none with
    | none => .err "outoforder"
    | some none => .panic "Truncate:index"      -- d.File[-1]
    | some (some n) =>
      match truncBody r (d.files.take n) with
      | .ok body =>
        match truncDir d n ((d.files.drop n).head?.map (·.offset)).get! with
        | .ok dir => .ok (body, dir)
        | .err x => .err x
        | .panic s => .panic s
        | .diverge => .diverge
      | .err x => .err x
      | .panic s => .panic s
      | .diverge => .diverge
  | .err x => .err x
  | .panic s => .panic s
  | .diverge => .diverge

/-- contents of the part `name` as `archive/zip` delivers them (`files[name]`: the last entry of that name) -/
def partContent (c : Codec) (out : Bytes) (fs : List File) (name : Bytes) : Option (Res Bytes) :=
  match (fs.filter fun f => f.name == name).getLast? with
  | none => none
  | some f =>
    some <|
      match readLocalHeader ⟨out, false, 0⟩ f with
      | .ok (l, _) =>
        if f.method ≠ 0 ∧ f.method ≠ 8 then .err "method" else
        match contentOf c f.method ((out.drop (f.offset + 30 + l.nameLen + l.extraLen)).take f.csize) with
        | .ok p => if p.length ≠ f.usize then .err "io" else .ok p
        | .err x => .err x
        | .panic s => .panic s
        | .diverge => .diverge
      | .err x => .err x
      | .panic s => .panic s
      | .diverge => .diverge

/-- `verifyFile(files, sig, tag, name)` -/
def verifyFile (c : Codec) (out : Bytes) (fs : List File) (name : Bytes) (expected : Option Bytes) (cls : String) : Res Unit :=
  match partContent c out fs name, expected with
  | none, none => .ok ()
  | none, some _ => .err ("missing-" ++ cls)
  | some _, none => .err ("unsigned-" ++ cls)
  | some (.ok p), some e => if p = e then .ok () else .err ("mismatch-" ++ cls)
  | some (.err x), some _ => .err x
  | some (.panic s), some _ => .panic s
  | some .diverge, some _ => .diverge

/-- `verifyBlockMap` on the parsed block map (`skipDigests = false`), for a package that is not a bundle: the members
    `archive/zip` lists, except the four unhashed parts, against the `File` elements in order.  A block is given by the
    stream that must hash to its `Hash` attribute: the model compares streams. -/
def verifyBlocks (c : Codec) (out : Bytes) : List File → List BmFile → Res Unit
  | [], _ => .ok ()
  | f :: fs, bms =>
    if f.name == sSignature || f.name == sCatalog || f.name == sCTypes || f.name == sBlockMap then verifyBlocks c out fs bms
    else match bms with
      | [] => .err "bm-unhashed"
      | b :: bt =>
        if b.name ≠ zipToDos f.name ∨ b.size ≠ f.usize then .err "bm-mismatch"
        else if b.blocks.length ≠ (f.usize + blockSize - 1) / blockSize then .err "bm-mismatch"
        else match partContent c out [f] f.name with
          | some (.ok p) => if (b.blocks.map (·.1)) = chunks p.length p then verifyBlocks c out fs bt else .err "bm-digest"
          | some (.err x) => .err x
          | some (.panic s) => .panic s
          | some .diverge => .diverge
          | none => .err "io"

/-- `signappx.Verify` after `readSignature`: `signed` are the streams whose hashes the signature carries, `bm` the
    parsed block map of the package (`none`: XML error or unsupported hash method) -/
def verify (c : Codec) (out : Bytes) (signed : Streams) (bm : Option (List BmFile)) : Res Unit :=
  match read ⟨out, false, 0⟩ with
  | .ok d =>
    -- readSignature(files[appxSignature])
    if !(d.files.any fun f => f.name == sSignature) then .err "notsigned" else
    match verifyFile c out d.files sBlockMap (some signed.axbm) "axbm" with
    | .ok () =>
      match verifyFile c out d.files sCatalog signed.axci "axci" with
      | .ok () =>
        match verifyFile c out d.files sCTypes (some signed.axct) "axct" with
        | .ok () =>
          match bm with
          | none => .err "xml"
          | some bmf =>
            match verifyBlocks c out d.files bmf with
            | .ok () =>
              -- verifyCatalog (fix-F19): a missing catalog is accepted (verifyFile has matched AXCI and the part)
              match verifyMeta out with
              | .ok (pc, cd) =>
                if pc ≠ signed.axpc then .err "mismatch-axpc"
                else if cd ≠ signed.axcd then .err "mismatch-axcd"
                else .ok ()
              | .err x => .err x
              | .panic s => .panic s
              | .diverge => .diverge
            | .err x => .err x
            | .panic s => .panic s
            | .diverge => .diverge
        | .err x => .err x
        | .panic s => .panic s
        | .diverge => .diverge
      | .err x => .err x
      | .panic s => .panic s
      | .diverge => .diverge
    | .err x => .err x
    | .panic s => .panic s
    | .diverge => .diverge
  | .err x => .err x
  | .panic s => .panic s
  | .diverge => .diverge

/-- the block map a package must carry for `verifyBlocks` to accept it: one `File` element per hashed part, in order -/
def blockMapOf (c : Codec) (out : Bytes) : List File → List BmFile
  | [] => []
  | f :: fs =>
    if f.name == sSignature || f.name == sCatalog || f.name == sCTypes || f.name == sBlockMap then blockMapOf c out fs
    else
      let p := match partContent c out [f] f.name with
        | some (.ok p) => p
        | _ => []
      { name := zipToDos f.name, size := f.usize, lfh := 0, blocks := blocksOf p } :: blockMapOf c out fs

/-- the streams a verifier recomputes from a package (what its signature must carry for `verify` to accept) -/
def streamsOf (c : Codec) (out : Bytes) : Res (Streams × List BmFile × Directory) :=
  match read ⟨out, false, 0⟩ with
  | .ok d =>
    match verifyMeta out with
    | .ok (pc, cd) =>
      let get := fun n => match partContent c out d.files n with
        | some (.ok p) => some p
        | _ => none
      .ok (⟨pc, cd, (get sCTypes).getD [], (get sBlockMap).getD [], get sCatalog⟩, blockMapOf c out d.files, d)
    | .err x => .err x
    | .panic s => .panic s
    | .diverge => .diverge
  | .err x => .err x
  | .panic s => .panic s
  | .diverge => .diverge

end Relic.Appx
