/-
  Relic.Model.Ident — the identity fields relic derives from the signing certificate.

  * `/repo/lib/appmanifest/publictoken.go`: `PublicKeyToSnk` (the CAPI / strong-name public key blob of an RSA key, and
    the author's "best guess" blob for ECDSA keys), `PublicKeyToken` (which bytes of the SHA-1 digest make the token),
    `PublisherIdentity` (publisher name + issuerKeyHash);
  * `/repo/lib/x509tools/names.go`: `FormatPkixName` in its three styles (`attName`, `attValue`), *including* what Go's
    `encoding/asn1` (go1.23) does to the DER of an RDNSequence on the way in (which tags become strings, which values
    make the whole name `<invalid>`, which values print as `<invalid>`);
  * `/repo/lib/x509tools/util.go` `SubjectKeyID` (the byte string that is hashed: contents of the BIT STRING of the
    SubjectPublicKeyInfo);
  * `/repo/lib/appmanifest/signmanifest.go` `setAssemblyIdentity` / `setPublisherIdentity` and the comparison made by
    `/repo/lib/appmanifest/verify.go` `Verify` – on an abstraction of the manifest that keeps exactly the identity fields.

  Hashing stays outside Lean: the model produces the byte string fed to SHA-1 and the selection of digest bytes.
  Core Lean only (linked into the driver).
-/
import Relic.Base.Bytes
import Relic.Model.Der
namespace Relic.Ident
open Relic

def ascii (s : String) : Bytes := s.toList.map fun c => UInt8.ofNat c.toNat

/-! ## 1. publicKeyToken -/

/-- base-256 digits of `n`, least significant first, none for 0 -/
def natLE (n : Nat) : Bytes :=
  if h : n = 0 then [] else UInt8.ofNat (n % 256) :: natLE (n / 256)
termination_by n
decreasing_by omega

/-- `(*big.Int).Bytes()`: minimal big-endian magnitude (empty for 0) -/
def natBE (n : Nat) : Bytes := (natLE n).reverse

/-- `bigIntToLE`: `x.Bytes()` with the swap loop applied -/
def bigIntToLE (n : Nat) : Bytes := (natBE n).reverse

/-- `binary.Write(LittleEndian, snkHeader{…})`: no padding, `uintN(v)` conversions truncate -/
def snkHeader (pubAlg hashAlg blobSize keyType version reserved pubAlg2 : Nat) : Bytes :=
  leBytes 4 pubAlg ++ leBytes 4 hashAlg ++ leBytes 4 blobSize ++ leBytes 1 keyType ++ leBytes 1 version
    ++ leBytes 2 reserved ++ leBytes 4 pubAlg2

def calgRsaSign : Nat := 0x2400
def calgSha1 : Nat := 0x8004
def calgEcdsa : Nat := 0x2203
def bcryptRsaPubMagic : Nat := 0x31415352
def snkRsaPub : Nat := 0x06
def snkRsaVersion : Nat := 0x02

/-- the `*rsa.PublicKey` case of `PublicKeyToSnk` (`e` = `k.E`, assumed non-negative) -/
def snkRsa (n e : Nat) : Bytes :=
  let modulus := bigIntToLE n
  snkHeader calgRsaSign calgSha1 (20 + modulus.length) snkRsaPub snkRsaVersion 0 calgRsaSign
    ++ leBytes 4 bcryptRsaPubMagic ++ leBytes 4 (8 * modulus.length) ++ leBytes 4 e ++ modulus

/-- the `*ecdsa.PublicKey` case: `x := k.X.Bytes()`, `y := k.Y.Bytes()` (minimal, *not* padded to the curve size) -/
def snkEcdsa (magic x y : Nat) : Bytes :=
  let xb := natBE x
  let yb := natBE y
  snkHeader calgEcdsa calgSha1 (12 + 2 * xb.length) snkRsaPub snkRsaVersion 0 calgEcdsa
    ++ leBytes 4 magic ++ leBytes 4 xb.length ++ xb ++ yb

inductive PubKey where
  | rsa (n e : Nat)
  | ec (bits : Nat) (x y : Nat)      -- bits: 256 / 384 / 521, anything else = another curve
  | other                            -- ed25519, DSA, …
  deriving Repr, DecidableEq

def ecMagic (bits : Nat) : Option Nat :=
  if bits = 256 then some 0x31534345 else if bits = 384 then some 0x33534345
  else if bits = 521 then some 0x35534345 else none

def publicKeyToSnk : PubKey → Res Bytes
  | .rsa n e => .ok (snkRsa n e)
  | .ec bits x y =>
    match ecMagic bits with
    | some m => .ok (snkEcdsa m x y)
    | none => .err "unsupported-curve"
  | .other => .err "unsupported-key"

/-- the loop `for i := 0; i < 8; i++ { token[i] = sum[19-i] }` on whatever the digest is -/
def tokenSel (sum : Bytes) : Res Bytes :=
  match (List.range 8).mapM (fun i => sum[19 - i]?) with
  | some t => .ok t
  | none => .panic "publictoken.go:PublicKeyToken:sum[19-i]"

/-! ## 2. SubjectKeyID stream (issuerKeyHash) -/

/-- contents of a DER INTEGER for a non-negative value -/
def derUInt (n : Nat) : Bytes :=
  let b := natBE n
  match b with
  | [] => [0]
  | h :: _ => if h.toNat ≥ 128 then 0 :: b else b

/-- what `SubjectKeyID` hashes: the right-aligned BIT STRING of the SubjectPublicKeyInfo –
    PKCS#1 `RSAPublicKey` for RSA, the uncompressed point for the NIST curves -/
def skidStream : PubKey → Res Bytes
  | .rsa n e => .ok (Der.tlv 0x30 (Der.tlv 0x02 (derUInt n) ++ Der.tlv 0x02 (derUInt e)))
  | .ec bits x y =>
    match ecMagic bits with
    | some _ => let w := (bits + 7) / 8; .ok (4 :: (beBytes w x ++ beBytes w y))
    | none => .err "unsupported-curve"
  | .other => .err "unsupported-key"

/-! ## 3. distinguished names -/

inductive NameStyle where
  | openssl | ldap | msosco
  deriving Repr, DecidableEq

/-- an attribute value as `encoding/asn1` hands it over in an `interface{}` -/
inductive AVal where
  | str (s : Bytes)          -- `string` (bytes of the Go string; T61String may carry non-UTF-8)
  | oid (arcs : List Nat)    -- `asn1.ObjectIdentifier`: a `fmt.Stringer`
  | int (i : Int)            -- `int64`
  | other                    -- nil, []byte, BitString, …: printed as `<invalid>`
  deriving Repr, DecidableEq

structure ATV where
  oid : List Nat
  val : AVal
  deriving Repr, DecidableEq

abbrev RDN := List ATV
abbrev Name := List RDN

def decDigits (n : Nat) : Bytes :=
  if n < 10 then [UInt8.ofNat (48 + n)] else decDigits (n / 10) ++ [UInt8.ofNat (48 + n % 10)]
termination_by n
decreasing_by omega

/-- `ObjectIdentifier.String()` -/
def dotted : List Nat → Bytes
  | [] => []
  | [a] => decDigits a
  | a :: b :: r => decDigits a ++ 46 :: dotted (b :: r)

/-- `fmt.Sprint(int64)` -/
def intDec (i : Int) : Bytes :=
  if i < 0 then 45 :: decDigits i.natAbs else decDigits i.toNat

def uid : List Nat := [0, 9, 2342, 19200300, 100, 1, 1]
def dcOid : List Nat := [0, 9, 2342, 19200300, 100, 1, 25]
def emailOid : List Nat := [1, 2, 840, 113549, 1, 9, 1]

def nameStyleLdap : List (List Nat × Bytes) := [
  ([2, 5, 4, 3], ascii "CN"), ([2, 5, 4, 4], ascii "surname"), ([2, 5, 4, 5], ascii "serialNumber"),
  ([2, 5, 4, 6], ascii "C"), ([2, 5, 4, 7], ascii "L"), ([2, 5, 4, 8], ascii "ST"), ([2, 5, 4, 9], ascii "street"),
  ([2, 5, 4, 10], ascii "O"), ([2, 5, 4, 11], ascii "OU"), ([2, 5, 4, 12], ascii "title"),
  ([2, 5, 4, 13], ascii "description"), ([2, 5, 4, 17], ascii "postalCode"), ([2, 5, 4, 18], ascii "postOfficeBox"),
  ([2, 5, 4, 20], ascii "telephoneNumber"), ([2, 5, 4, 42], ascii "givenName"), ([2, 5, 4, 43], ascii "initials"),
  (uid, ascii "UID"), (dcOid, ascii "dc"), (emailOid, ascii "emailAddress")]

def nameStyleMsOsco : List (List Nat × Bytes) := [
  ([2, 5, 4, 3], ascii "CN"), ([2, 5, 4, 7], ascii "L"), ([2, 5, 4, 10], ascii "O"), ([2, 5, 4, 11], ascii "OU"),
  (emailOid, ascii "E"), ([2, 5, 4, 6], ascii "C"), ([2, 5, 4, 8], ascii "S"), ([2, 5, 4, 9], ascii "STREET"),
  ([2, 5, 4, 12], ascii "T"), ([2, 5, 4, 42], ascii "G"), ([2, 5, 4, 43], ascii "I"), ([2, 5, 4, 4], ascii "SN"),
  ([2, 5, 4, 5], ascii "SERIALNUMBER"), (uid, ascii "UID"), (dcOid, ascii "DC"), ([2, 5, 4, 13], ascii "Description"),
  ([2, 5, 4, 17], ascii "PostalCode"), ([2, 5, 4, 18], ascii "POBox"), ([2, 5, 4, 20], ascii "Phone")]

def lookupName : List (List Nat × Bytes) → List Nat → Option Bytes
  | [], _ => none
  | (t, n) :: rest, oid => if t = oid then some n else lookupName rest oid

def styleTable : NameStyle → List (List Nat × Bytes)
  | .msosco => nameStyleMsOsco
  | _ => nameStyleLdap

def stylePrefix : NameStyle → Bytes
  | .msosco => ascii "OID."
  | _ => []

/-- `attName`: first table entry whose OID is equal, else `defaultPrefix + t.String()` -/
def attName (style : NameStyle) (oid : List Nat) : Bytes :=
  match lookupName (styleTable style) oid with
  | some n => n
  | none => stylePrefix style ++ dotted oid

def invalidName : Bytes := ascii "<invalid>"

/-- `strings.ReplaceAll(s, string(b), string(by'))` for a one-byte pattern -/
def replaceByte (b : UInt8) (by' : Bytes) (s : Bytes) : Bytes :=
  s.flatMap fun c => if c = b then by' else [c]

/-- the cut-set of `strings.IndexAny(value, ",+=\n<>#;'\"")` -/
def quoteSet : Bytes := [44, 43, 61, 10, 60, 62, 35, 59, 39, 34]

def needsQuote (v : Bytes) : Bool :=
  v.isEmpty || v.head? == some 32 || v.getLast? == some 32 || v.any (fun c => quoteSet.contains c)

/-- the `NameStyleLdap, NameStyleMsOsco` arm of `attValue` -/
def quoteValue (v : Bytes) : Bytes :=
  let v' := replaceByte 34 [34, 34] v
  if needsQuote v then 34 :: (v' ++ [34]) else v'

def styleValue (style : NameStyle) (v : Bytes) : Bytes :=
  match style with
  | .openssl => replaceByte 47 [92, 47] v
  | _ => quoteValue v

def attValue (style : NameStyle) : AVal → Bytes
  | .str s => styleValue style s
  | .oid a => styleValue style (dotted a)
  | .int i => styleValue style (intDec i)
  | .other => invalidName

def fmtATV (style : NameStyle) (a : ATV) : Bytes :=
  attName style a.oid ++ 61 :: attValue style a.val

/-- items written one after the other, `sep` before every item but the first (`if j > 0 { WriteString(sep) }`) -/
def joinSep (sep : Bytes) : List Bytes → Bytes
  | [] => []
  | [x] => x
  | x :: y :: r => x ++ sep ++ joinSep sep (y :: r)

def sepATV : Bytes := [32, 43, 32]    -- " + "
def sepRDN : Bytes := [44, 32]        -- ", "

def fmtRDN (style : NameStyle) (r : RDN) : Bytes := joinSep sepATV (r.map (fmtATV style))

/-- `FormatPkixName` after a successful `asn1.Unmarshal` -/
def formatParsed (style : NameStyle) (seq : Name) : Bytes :=
  match style with
  | .openssl => seq.flatMap fun rdn => rdn.flatMap fun a => 47 :: fmtATV style a
  | _ => joinSep sepRDN (seq.reverse.map (fmtRDN style))     -- "Per RFC 2253 2.1, reverse the order"

/-! ### what `asn1.Unmarshal(der, &pkix.RDNSequence)` makes of the DER -/

/-- `parseObjectIdentifier` + `parseBase128Int`, one pass: (`shifted`, accumulator, arcs so far reversed) -/
def oidLoop : Bytes → Nat → Nat → List Nat → Option (List Nat)
  | [], sh, _, arcs => if sh = 0 then some arcs.reverse else none                 -- truncated base 128 integer
  | b :: bs, sh, acc, arcs =>
    if sh = 5 then none                                                           -- base 128 integer too large
    else if sh = 0 ∧ b = 0x80 then none                                           -- not minimally encoded
    else
      let acc' := acc * 128 + b.toNat % 128
      if b.toNat < 128 then
        if acc' > 2147483647 then none else oidLoop bs 0 0 (acc' :: arcs)
      else oidLoop bs (sh + 1) acc' arcs

def parseOID (c : Bytes) : Option (List Nat) :=
  if c.isEmpty then none                                                          -- zero length OBJECT IDENTIFIER
  else
    match oidLoop c 0 0 [] with
    | some (v :: rest) => if v < 80 then some (v / 40 :: v % 40 :: rest) else some (2 :: (v - 80) :: rest)
    | _ => none

/-- `checkInteger` + `parseInt64` -/
def parseInt64 (c : Bytes) : Option Int :=
  match c with
  | [] => none
  | [b] => some (if b.toNat ≥ 128 then (b.toNat : Int) - 256 else b.toNat)
  | b0 :: b1 :: _ =>
    if (b0 = 0 ∧ b1.toNat < 128) ∨ (b0 = 0xff ∧ b1.toNat ≥ 128) then none
    else if c.length > 8 then none
    else some (if b0.toNat ≥ 128 then (beVal c : Int) - (256 ^ c.length : Nat) else beVal c)

/-- `isPrintable(b, allowAsterisk, allowAmpersand)` -/
def isPrintable (b : UInt8) : Bool :=
  let n := b.toNat
  (97 ≤ n && n ≤ 122) || (65 ≤ n && n ≤ 90) || (48 ≤ n && n ≤ 57) || (39 ≤ n && n ≤ 41) || (43 ≤ n && n ≤ 47)
    || n = 32 || n = 58 || n = 61 || n = 63 || n = 42 || n = 38

def isCont (b : UInt8) : Bool := 0x80 ≤ b.toNat && b.toNat ≤ 0xBF

/-- `utf8.Valid` -/
def utf8Valid : Bytes → Bool
  | [] => true
  | b :: rest =>
    let n := b.toNat
    if n < 0x80 then utf8Valid rest
    else if 0xC2 ≤ n ∧ n ≤ 0xDF then
      match rest with
      | c1 :: r => isCont c1 && utf8Valid r
      | _ => false
    else if 0xE0 ≤ n ∧ n ≤ 0xEF then
      match rest with
      | c1 :: c2 :: r =>
        let lo := if n = 0xE0 then 0xA0 else 0x80
        let hi := if n = 0xED then 0x9F else 0xBF
        (lo ≤ c1.toNat && c1.toNat ≤ hi) && isCont c2 && utf8Valid r
      | _ => false
    else if 0xF0 ≤ n ∧ n ≤ 0xF4 then
      match rest with
      | c1 :: c2 :: c3 :: r =>
        let lo := if n = 0xF0 then 0x90 else 0x80
        let hi := if n = 0xF4 then 0x8F else 0xBF
        (lo ≤ c1.toNat && c1.toNat ≤ hi) && isCont c2 && isCont c3 && utf8Valid r
      | _ => false
    else false

/-- `utf8.AppendRune` for a scalar value (`utf16.Decode` never hands over a surrogate) -/
def encRune (r : Nat) : Bytes :=
  if r < 0x80 then [UInt8.ofNat r]
  else if r < 0x800 then [UInt8.ofNat (0xC0 + r / 64), UInt8.ofNat (0x80 + r % 64)]
  else if r < 0x10000 then [UInt8.ofNat (0xE0 + r / 4096), UInt8.ofNat (0x80 + r / 64 % 64), UInt8.ofNat (0x80 + r % 64)]
  else [UInt8.ofNat (0xF0 + r / 262144), UInt8.ofNat (0x80 + r / 4096 % 64), UInt8.ofNat (0x80 + r / 64 % 64),
        UInt8.ofNat (0x80 + r % 64)]

/-- `string(utf16.Decode(units))` -/
def utf16ToUtf8 : List Nat → Bytes
  | [] => []
  | [u] => if 0xD800 ≤ u ∧ u < 0xE000 then encRune 0xFFFD else encRune u
  | u :: v :: rest =>
    if 0xD800 ≤ u ∧ u < 0xDC00 ∧ 0xDC00 ≤ v ∧ v < 0xE000 then
      encRune (0x10000 + (u - 0xD800) * 1024 + (v - 0xDC00)) ++ utf16ToUtf8 rest
    else if 0xD800 ≤ u ∧ u < 0xE000 then encRune 0xFFFD ++ utf16ToUtf8 (v :: rest)
    else encRune u ++ utf16ToUtf8 (v :: rest)

def pairs : Bytes → List Nat
  | a :: b :: rest => (a.toNat * 256 + b.toNat) :: pairs rest
  | _ => []

/-- `parseBMPString`: odd length is an error, one trailing NUL unit is stripped -/
def parseBMP (c : Bytes) : Option Bytes :=
  if c.length % 2 ≠ 0 then none
  else
    let c' := if c.length ≥ 2 ∧ c.getLast? = some 0 ∧ c.dropLast.getLast? = some 0 then c.dropLast.dropLast else c
    some (utf16ToUtf8 (pairs c'))

/-- `parseBitString`: only whether it is accepted matters (a `BitString` value prints as `<invalid>`) -/
def bitStringOk (c : Bytes) : Bool :=
  match c with
  | [] => false
  | p :: rest =>
    if p.toNat > 7 then false
    else if rest.isEmpty then p.toNat = 0
    else
      match rest.getLast? with
      | some l => l.toNat % 2 ^ p.toNat = 0
      | none => false

/-- the `interface{}` arm of `parseField`: identifier octet + content → the Go value.
    `err "invalid"` = `asn1.Unmarshal` fails; `err "unmodelled-time"` = UTCTime / GeneralizedTime (a `time.Time` is a
    Stringer whose text is outside this model). -/
def decodeVal (t : UInt8) (c : Bytes) : Res AVal :=
  if t.toNat ≥ 64 ∨ t.toNat / 32 % 2 = 1 then .ok .other           -- not universal, or constructed: left nil
  else
    let inv : Res AVal := .err "invalid"
    match t.toNat % 32 with
    | 19 => if c.all isPrintable then .ok (.str c) else inv
    | 18 => if c.all (fun b => (48 ≤ b.toNat && b.toNat ≤ 57) || b.toNat = 32) then .ok (.str c) else inv
    | 22 => if c.all (fun b => b.toNat < 128) then .ok (.str c) else inv
    | 20 => .ok (.str c)
    | 12 => if utf8Valid c then .ok (.str c) else inv
    | 30 => match parseBMP c with
            | some s => .ok (.str s)
            | none => inv
    | 2 => match parseInt64 c with
           | some i => .ok (.int i)
           | none => inv
    | 3 => if bitStringOk c then .ok .other else inv
    | 6 => match parseOID c with
           | some a => .ok (.oid a)
           | none => inv
    | 23 => .err "unmodelled-time"
    | 24 => .err "unmodelled-time"
    | _ => .ok .other                                              -- OCTET STRING ([]byte), and every tag left nil

/-- errors of the TLV layer: everything makes `Unmarshal` fail, except that a multi-byte tag in the *value* position
    is outside the model -/
def liftTLV {α} (valuePos : Bool) : Res α → Res α
  | .err e => if e = "hightag" ∧ valuePos then .err "unmodelled-hightag" else .err "invalid"
  | r => r

/-- one `AttributeTypeAndValue`: OBJECT IDENTIFIER, then ANY; further bytes of the SEQUENCE are ignored by Go -/
def parseATV (c : Bytes) : Res ATV :=
  match liftTLV false (Der.untlv c) with
  | .ok (t1, oc, r1) =>
    if t1 ≠ 0x06 then .err "invalid"
    else
      match parseOID oc with
      | none => .err "invalid"
      | some arcs =>
        match liftTLV true (Der.untlv r1) with
        | .ok (t2, vc, _) =>
          match decodeVal t2 vc with
          | .ok v => .ok ⟨arcs, v⟩
          | .err e => .err e
          | .panic s => .panic s
          | .diverge => .diverge
        | .err e => .err e
        | .panic s => .panic s
        | .diverge => .diverge
  | .err e => .err e
  | .panic s => .panic s
  | .diverge => .diverge

/-- `mapM` over the elements, every identifier octet must be `tag` -/
def parseEach {α} (tag : UInt8) (f : Bytes → Res α) : List Der.RawVal → Res (List α)
  | [] => .ok []
  | rv :: rest =>
    if rv.tag ≠ tag then .err "invalid"
    else
      match f rv.bytes with
      | .ok a =>
        match parseEach tag f rest with
        | .ok l => .ok (a :: l)
        | .err e => .err e
        | .panic s => .panic s
        | .diverge => .diverge
      | .err e => .err e
      | .panic s => .panic s
      | .diverge => .diverge

/-- all elements of a SEQUENCE OF / SET OF whose identifier octet must be `tag` (`parseSequenceOf`) -/
def parseElems {α} (tag : UInt8) (f : Bytes → Res α) (c : Bytes) : Res (List α) :=
  match liftTLV false (Der.splitTLVs c) with
  | .ok raws => parseEach tag f raws
  | .err e => .err e
  | .panic s => .panic s
  | .diverge => .diverge

/-- `asn1.Unmarshal(der, &seq)` for `seq pkix.RDNSequence`; trailing bytes after the SEQUENCE are ignored by the caller -/
def parseName (der : Bytes) : Res Name :=
  match liftTLV false (Der.untlv der) with
  | .ok (t, c, _) =>
    if t ≠ 0x30 then .err "invalid"
    else parseElems 0x31 (parseElems 0x30 parseATV) c
  | .err e => .err e
  | .panic s => .panic s
  | .diverge => .diverge

/-- `FormatPkixName(der, style)` -/
def formatPkixName (style : NameStyle) (der : Bytes) : Res Bytes :=
  match parseName der with
  | .ok seq => .ok (formatParsed style seq)
  | .err "invalid" => .ok invalidName
  | .err e => .err e
  | .panic s => .panic s
  | .diverge => .diverge

/-! ## 4. the identity fields of a signed manifest -/

/-- what `appmanifest.Sign` needs to know about the signing certificate -/
structure Cert where
  key : PubKey                 -- cert.Leaf.PublicKey
  subject : Bytes              -- cert.Leaf.RawSubject
  issuer : Bytes               -- cert.Leaf.RawIssuer
  deriving Repr, DecidableEq

/-- one of the certificates a `certloader.Certificate` was loaded with / one of the certificates carried by a signature -/
structure LCert where
  subject : Bytes              -- RawSubject
  issuer : Bytes               -- RawIssuer
  key : PubKey
  isLeaf : Bool                -- `cert == s.Leaf` (pointer equality in `Chain()`); irrelevant once carried
  deriving Repr, DecidableEq

/-- `certloader.Certificate`: leaf + the certificates it was loaded with, in order -/
structure Loaded where
  leaf : Cert
  chain : List LCert
  deriving Repr, DecidableEq

/-- `(*Certificate).Issuer()`: first certificate whose RawSubject equals the leaf's RawIssuer -/
def issuerCert (c : Loaded) : Option LCert :=
  c.chain.find? (fun e => e.subject = c.leaf.issuer)

def issuerOf (c : Loaded) : Option PubKey := (issuerCert c).map (·.key)

/-- the loop of `(*Certificate).Chain()`: self-signed certificates after the first position and the leaf itself are left out -/
def chainRest : Nat → List LCert → List LCert
  | _, [] => []
  | i, x :: rest =>
    if (i > 0 ∧ x.issuer = x.subject) ∨ x.isLeaf then chainRest (i + 1) rest else x :: chainRest (i + 1) rest

/-- `(*Certificate).Chain()`: the leaf first -/
def chainOf (c : Loaded) : List LCert :=
  ⟨c.leaf.subject, c.leaf.issuer, c.leaf.key, true⟩ :: chainRest 0 c.chain

/-- an etree attribute: namespace prefix (`Space`), local key, value -/
structure XAttr where
  space : String
  key : String
  value : String
  deriving Repr, DecidableEq

/-- the identity-relevant part of a manifest: attributes of the first top-level `assemblyIdentity`
    (`none` = there is no such element), the top-level `publisherIdentity` elements (unprefixed `name` and `issuerKeyHash`
    attributes) in order, the text of `as:X509SubjectName` in the licence (`none` = no such element);
    `others` stands for everything else under the root. -/
structure Manifest (α : Type) where
  asi : Option (List XAttr)
  publishers : List (String × String)
  licSubject : Option String
  others : α

/-- `Element.CreateAttr(k, v)` for an unprefixed `k`: replace the value of the first attribute with an empty prefix and
    that key, else append -/
def createAttr (k v : String) : List XAttr → List XAttr
  | [] => [⟨"", k, v⟩]
  | a :: rest => if a.space = "" ∧ a.key = k then ⟨"", k, v⟩ :: rest else a :: createAttr k v rest

/-- identity strings of a certificate, given SHA-1 as a function (hex is `hexStr`) -/
structure Ident where
  token : String
  name : String
  issuerKeyHash : String
  deriving Repr, DecidableEq

def hexStr (b : Bytes) : String := String.ofList (b.flatMap hexOfByte)

def bytesToString (b : Bytes) : String := String.ofList (b.map fun c => Char.ofNat c.toNat)

/-- `PublicKeyToken` with the hash as a parameter -/
def publicKeyToken (sha1 : Bytes → Bytes) (k : PubKey) : Res String :=
  match publicKeyToSnk k with
  | .ok snk =>
    match tokenSel (sha1 snk) with
    | .ok t => .ok (hexStr t)
    | .err e => .err e
    | .panic s => .panic s
    | .diverge => .diverge
  | .err e => .err e
  | .panic s => .panic s
  | .diverge => .diverge

/-- `PublisherIdentity` -/
def publisherIdentity (sha1 : Bytes → Bytes) (c : Loaded) : Res (String × String) :=
  match issuerOf c with
  | none => .err "no-issuer"
  | some ik =>
    match skidStream ik with
    | .ok s =>
      match formatPkixName .msosco c.leaf.subject with
      | .ok n => .ok (bytesToString n, hexStr (sha1 s))
      | .err e => .err e
      | .panic p => .panic p
      | .diverge => .diverge
    | .err e => .err e
    | .panic p => .panic p
    | .diverge => .diverge

/-- the identity part of `appmanifest.Sign`: `setAssemblyIdentity` then `setPublisherIdentity` -/
def signIdent {α} (sha1 : Bytes → Bytes) (m : Manifest α) (c : Loaded) : Res (Manifest α) :=
  match publicKeyToken sha1 c.leaf.key with
  | .ok token =>
    match m.asi with
    | none => .err "no-assemblyIdentity"
    | some attrs =>
      match publisherIdentity sha1 c with
      | .ok (name, ikh) =>
        .ok { asi := some (createAttr "publicKeyToken" token attrs),
              publishers := [(name, ikh)],          -- RemoveElements(root, "publisherIdentity"); CreateElement
              licSubject := some name,              -- makeLicense: as:X509SubjectName (the old Signature is removed)
              others := m.others }
      | .err e => .err e
      | .panic p => .panic p
      | .diverge => .diverge
  | .err e => .err e
  | .panic p => .panic p
  | .diverge => .diverge

/-- `Element.SelectAttrValue(k, "")` for an unprefixed `k`: the first attribute with that local key, *whatever its
    prefix* (etree's `spaceMatch("", _)` is always true).  What `Sign` / `Verify` used before the repair. -/
def attrValueOrig (k : String) : List XAttr → String
  | [] => ""
  | a :: rest => if a.key = k then a.value else attrValueOrig k rest

/-- `unprefixedAttr` (repaired code): the attribute `CreateAttr(k)` writes – empty prefix and that key -/
def attrValue (k : String) : List XAttr → String
  | [] => ""
  | a :: rest => if a.space = "" ∧ a.key = k then a.value else attrValue k rest

/-- the identity comparison of the original `appmanifest.Verify` once both XML signatures have checked out under key
    `k`: only the token is compared, and it is looked up by local name -/
def verifyIdentOrig {α} (sha1 : Bytes → Bytes) (m : Manifest α) (k : PubKey) : Res Unit :=
  match m.asi with
  | none => .err "missing-assemblyIdentity"
  | some attrs =>
    match publicKeyToken sha1 k with
    | .ok token => if attrValueOrig "publicKeyToken" attrs ≠ token then .err "publicKeyToken-mismatch" else .ok ()
    | .err e => .err e
    | .panic p => .panic p
    | .diverge => .diverge

/-- does one of the carried certificates named like the leaf's issuer have this key hash? -/
def issuerHashMatches (sha1 : Bytes → Bytes) (ikh : String) (c : LCert) : Bool :=
  match skidStream c.key with
  | .ok s => hexStr (sha1 s) = ikh
  | _ => false

/-- `checkPublisher` (repaired `Verify`) for the leaf found among the carried certificates -/
def checkPublisher {α} (sha1 : Bytes → Bytes) (m : Manifest α) (leaf : LCert) (carried : List LCert) : Res Unit :=
  match m.publishers with
  | [] => .err "publisher-missing"
  | _ :: _ :: _ => .err "publisher-multiple"
  | [(name, ikh)] =>
    match formatPkixName .msosco leaf.subject with
    | .ok n =>
      if name ≠ bytesToString n then .err "publisher-name-mismatch"
      else
        match m.licSubject with
        | none => .err "license-subject-missing"
        | some s =>
          if s ≠ bytesToString n then .err "license-subject-mismatch"
          else
            let cands := carried.filter (fun c => c.subject = leaf.issuer)
            if cands.isEmpty then .ok ()                 -- no certificate named like the issuer: the field cannot be judged
            else if cands.any (issuerHashMatches sha1 ikh) then .ok ()
            else .err "publisher-ikh-mismatch"
    | .err e => .err e
    | .panic p => .panic p
    | .diverge => .diverge

/-- the identity comparisons of the repaired `appmanifest.Verify` once both XML signatures have checked out under key
    `k`; `carried` = the certificates of the licence signature's X509Data (`Sign` puts `Chain()` there), the leaf is the first with key `k`
    (`Signature.Leaf`) -/
def verifyIdent {α} (sha1 : Bytes → Bytes) (m : Manifest α) (k : PubKey) (carried : List LCert) : Res Unit :=
  match m.asi with
  | none => .err "missing-assemblyIdentity"
  | some attrs =>
    match publicKeyToken sha1 k with
    | .ok token =>
      if attrValue "publicKeyToken" attrs ≠ token then .err "publicKeyToken-mismatch"
      else
        match carried.find? (fun c => c.key = k) with
        | none => .err "no-leaf"
        | some leaf => checkPublisher sha1 m leaf carried
    | .err e => .err e
    | .panic p => .panic p
    | .diverge => .diverge

/-- `xmldsig.parseKey` (lib/xmldsig/verify.go) before the repair: the `Exponent` of an `RSAKeyValue` was refused
    when `ebig.BitLen() > 30`, while `Sign` writes any exponent (both XML signatures of a manifest carry a KeyValue) -/
def xmlKeyValueOkOrig : PubKey → Bool
  | .rsa _ e => e < 2 ^ 30
  | _ => true

/-- repaired: `ebig.BitLen() > 31` is refused, i.e. exactly the exponents crypto/rsa refuses too -/
def xmlKeyValueOk : PubKey → Bool
  | .rsa _ e => e < 2 ^ 31
  | _ => true

/-- crypto/rsa `checkPub`: public exponents from 2 to 2^31-1 -/
def rsaUsable : PubKey → Bool
  | .rsa _ e => 2 ≤ e ∧ e < 2 ^ 31
  | _ => true

end Relic.Ident
