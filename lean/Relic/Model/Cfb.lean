/-
  Relic.Model.Cfb — byte-level reader for compound files ([MS-CFB]; relic: lib/comdoc/structs.go,
  reader.go, msat.go, sectors.go, dirent.go).  Decodes the header, sector tables and directory
  entries from raw bytes with explicit bounds (every access is an `Option`/`Except`; nothing is
  totalised).  `Relic.Spec.Cfb` builds the validity predicate on top of it.
  Core Lean only: linked into the native driver.
-/
import Relic.Base.Bytes
namespace Relic.Cfb

abbrev Buf := Array UInt8

def FREESECT : Nat := 0xFFFFFFFF
def ENDOFCHAIN : Nat := 0xFFFFFFFE
def FATSECT : Nat := 0xFFFFFFFD
def DIFSECT : Nat := 0xFFFFFFFC
def MAXREGSECT : Nat := 0xFFFFFFFA
def NOSTREAM : Nat := 0xFFFFFFFF

def u8? (b : Buf) (o : Nat) : Option Nat := (b[o]?).map (·.toNat)
def u16? (b : Buf) (o : Nat) : Option Nat := do
  let x ← u8? b o
  let y ← u8? b (o + 1)
  pure (x + 256 * y)
def u32? (b : Buf) (o : Nat) : Option Nat := do
  let x ← u16? b o
  let y ← u16? b (o + 2)
  pure (x + 65536 * y)
def u64? (b : Buf) (o : Nat) : Option Nat := do
  let x ← u32? b o
  let y ← u32? b (o + 4)
  pure (x + 4294967296 * y)

/-- `b[o : o+n]`, `none` when out of range -/
def bytes? (b : Buf) (o n : Nat) : Option (List UInt8) :=
  if o + n ≤ b.size then some ((b.extract o (o + n)).toList) else none

/-- `n` consecutive little-endian uint32 starting at `o` -/
def u32s? (b : Buf) (o : Nat) : Nat → Option (List Nat)
  | 0 => some []
  | n + 1 => do
    let x ← u32? b o
    let r ← u32s? b (o + 4) n
    pure (x :: r)

def u16s? (b : Buf) (o : Nat) : Nat → Option (List Nat)
  | 0 => some []
  | n + 1 => do
    let x ← u16? b o
    let r ← u16s? b (o + 2) n
    pure (x :: r)

/-- the 512-byte header (`comdoc.Header`) -/
structure Header where
  minor : Nat
  major : Nat
  byteOrder : Nat
  sectorShift : Nat
  miniShift : Nat
  numDirSectors : Nat
  numFatSectors : Nat
  firstDir : Nat
  miniCutoff : Nat
  firstMiniFat : Nat
  numMiniFat : Nat
  firstDifat : Nat
  numDifat : Nat
  difat : List Nat
  deriving Repr

def magic : List UInt8 := [0xd0, 0xcf, 0x11, 0xe0, 0xa1, 0xb1, 0x1a, 0xe1]

def readHeader (b : Buf) : Except String Header := do
  let some m := bytes? b 0 8 | throw "hdr-short"
  if m ≠ magic then throw "hdr-magic"
  let some h := (do
    let minor ← u16? b 24
    let major ← u16? b 26
    let bo ← u16? b 28
    let ss ← u16? b 30
    let ms ← u16? b 32
    let nd ← u32? b 40
    let nf ← u32? b 44
    let fd ← u32? b 48
    let cut ← u32? b 56
    let fm ← u32? b 60
    let nm ← u32? b 64
    let fdi ← u32? b 68
    let ndi ← u32? b 72
    let di ← u32s? b 76 109
    pure (Header.mk minor major bo ss ms nd nf fd cut fm nm fdi ndi di)) | throw "hdr-short"
  pure h

/-- one 128-byte directory entry (`comdoc.RawDirEnt`) -/
structure DirEntry where
  units : List Nat      -- the 32 UTF-16 code units of the name field
  nameLen : Nat
  typ : Nat
  color : Nat           -- 0 = red, 1 = black
  left : Nat
  right : Nat
  child : Nat
  clsid : List UInt8
  state : Nat
  ctime : Nat
  mtime : Nat
  start : Nat
  size : Nat            -- low 32 bits, as relic reads it
  sizeHi : Nat
  deriving Repr

def readDirEntry (b : Buf) (o : Nat) : Option DirEntry := do
  let units ← u16s? b o 32
  let nameLen ← u16? b (o + 64)
  let typ ← u8? b (o + 66)
  let color ← u8? b (o + 67)
  let left ← u32? b (o + 68)
  let right ← u32? b (o + 72)
  let child ← u32? b (o + 76)
  let clsid ← bytes? b (o + 80) 16
  let state ← u32? b (o + 96)
  let ctime ← u64? b (o + 100)
  let mtime ← u64? b (o + 108)
  let start ← u32? b (o + 116)
  let size ← u32? b (o + 120)
  let sizeHi ← u32? b (o + 124)
  pure { units, nameLen, typ, color, left, right, child, clsid, state, ctime, mtime, start, size, sizeHi }

/-- the name without its terminator; `none` when the length field or terminator is malformed -/
def DirEntry.name? (e : DirEntry) : Option (List Nat) :=
  if e.nameLen % 2 = 0 ∧ 2 ≤ e.nameLen ∧ e.nameLen ≤ 64 then
    let n := e.nameLen / 2 - 1
    let nm := e.units.take n
    if e.units[n]? = some 0 ∧ nm.all (· ≠ 0) then some nm else none
  else none

/-- byte offset of sector `s` for sector size `ss` (`sectorToOffset` with `FirstSector = ss`, i.e. for `ss ≥ 512`) -/
def sectorOffset (ss s : Nat) : Nat := (s + 1) * ss

end Relic.Cfb
